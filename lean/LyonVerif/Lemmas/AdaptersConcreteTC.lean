/-
  C16 with the concrete flatteners — the parameters `t.end` the callback flattener of a CUBIC
  reports: strictly increasing, above 0, ending with exactly 1 (ordered fields; same laws as for
  the quadratic, `Lemmas/AdaptersConcreteT.lean`).

  The cubic is cut into `N` quadratic approximations over the ranges
  `[0, step], [step, 2·step], …, [(N−1)·step, 1]` (`step = 1/num_quadratics`); the inner
  `t ∈ (0, 1]` of the quadratic over `[r0, r1]` is reported as `t·(r1 − r0) + r0`, and the very
  last one as the literal `1`.
-/
import LyonVerif.Lemmas.AdaptersConcreteT

set_option linter.unusedSectionVars false

namespace Lyon.Adapt
open Lyon Lyon.Path Scalar Lyon.Flat

section field
variable {K : Type} [Field K] [LinearOrder K] [IsStrictOrderedRing K] [Transc K] [FlatConst K]

/-! ### `rerange` in a field: an affine map of the inner parameters -/

theorem rerange_t1 (r0 len : K) (lq : Bool) (hlq : lq = true → len + r0 = 1)
    (l : List (FlatSeg K)) (tFrom : K) :
    (Cubic.rerange r0 len lq l tFrom).1.map (·.t1) = (l.map (·.t1)).map fun x => x * len + r0 := by
  induction l generalizing tFrom with
  | nil => rfl
  | cons s r ih =>
    simp only [Cubic.rerange, List.map_cons, ih]
    congr 1
    split
    · rename_i hc
      simp only [Bool.and_eq_true] at hc
      have h1 : s.t1 = 1 := by
        have := (sc_beq _ _).mp hc.2
        rwa [sc_one_eq] at this
      rw [h1, one_mul, hlq hc.1, sc_one_eq]
    · rfl

/-- the ranges abut, each has positive length, the last one ends at 1 -/
def RangesOK : K → List (Quad K × K × K) → Prop
  | _, [] => True
  | t, (_, r0, r1) :: rest => r0 = t ∧ r0 < r1 ∧ (rest = [] → r1 = 1) ∧ RangesOK r1 rest

theorem quadsLoop_ranges (c : Cubic K) (step : K) (hstep : 0 < step) (n : ℕ) (t0 : K)
    (h : t0 + (n : K) * step < 1) : RangesOK t0 (c.quadsLoop step n t0) := by
  induction n generalizing t0 with
  | zero =>
    simp only [Cubic.quadsLoop, RangesOK, and_true, true_and, sc_one_eq,
      implies_true]
    simpa using h
  | succ n ih =>
    simp only [Cubic.quadsLoop, RangesOK, true_and]
    refine ⟨by linarith, ?_, ?_⟩
    · intro hnil
      cases n <;> simp [Cubic.quadsLoop] at hnil
    · apply ih
      push_cast at h
      linarith

theorem flatQuadsT_t_incr (S : SqrtLaws K) (L : CeilLaws K) (tol : K)
    (qs : List (Quad K × K × K)) (t tFrom : K) (hr : RangesOK t qs) (l : List (FlatSeg K))
    (h : Cubic.flatQuadsT tol qs tFrom = some l) :
    IncrFrom t (l.map (·.t1)) ∧ (qs ≠ [] → (l.map (·.t1)).getLastD t = 1) := by
  induction qs generalizing t tFrom l with
  | nil =>
    simp only [Cubic.flatQuadsT, Option.some.injEq] at h
    subst h
    exact ⟨trivial, fun hh => absurd rfl hh⟩
  | cons x rest ih =>
    obtain ⟨q, r0, r1⟩ := x
    obtain ⟨h0, hlt, hlast, hrest⟩ := hr
    subst h0
    obtain ⟨lq, lr, hf, hrr, rfl⟩ := flatQuadsT_cons tol q r0 r1 rest tFrom l h
    obtain ⟨hi, hl1⟩ := quad_flat_t_increasing S L q tol lq hf
    have hmap := rerange_t1 r0 (r1 - r0) (r1 == one)
      (fun hb => by rw [(sc_beq _ _).mp hb, sc_one_eq]; ring) lq tFrom
    obtain ⟨a1, a2⟩ := incrFrom_map_affine 0 (r1 - r0) r0 (sub_pos.2 hlt) _ hi
    rw [zero_mul, zero_add] at a1 a2
    rw [hl1, one_mul, sub_add_cancel] at a2
    obtain ⟨b1, b2⟩ := ih r1 _ hrest lr hrr
    obtain ⟨c1, c2⟩ := incrFrom_append r0 r1 _ _ a1 a2 b1
    rw [List.map_append, hmap]
    refine ⟨c1, fun _ => ?_⟩
    rw [c2]
    by_cases hre : rest = []
    · subst hre
      simp only [Cubic.flatQuadsT, Option.some.injEq] at hrr
      subst hrr
      simpa using hlast rfl
    · exact b2 hre


/-- the `t.end`s of the callbacks of a cubic's
`for_each_flattened_with_t` are strictly increasing, the first above 0, the last exactly 1 -/
theorem cubic_flat_t_increasing (S : SqrtLaws K) (L : CeilLaws K) (c : Cubic K) (tol : K)
    (l : List (FlatSeg K)) (h : c.forEachFlattenedWithT tol = some l) :
    IncrFrom 0 (l.map (·.t1)) ∧ (l.map (·.t1)).getLastD 0 = 1 := by
  simp only [Cubic.forEachFlattenedWithT, Cubic.forEachQuadraticWithT] at h
  set nq := c.numQuadraticsImpl (tol * FlatConst.value 4 1) with hnq
  obtain ⟨hint, hge⟩ := numQuadraticsImpl_int L.ceil_int c (tol * FlatConst.value 4 1)
  rw [← hnq] at hint hge
  have hpos : (0 : K) < nq := lt_of_lt_of_le one_pos hge
  have hstep : (0 : K) < one / nq := by
    rw [sc_one_eq]; exact one_div_pos.mpr hpos
  have hr : RangesOK (zero : K) (c.quadsLoop (one / nq) ((toU32 nq).getD 1 - 1) zero) := by
    apply quadsLoop_ranges c _ hstep
    rw [sc_zero_eq, zero_add, sc_one_eq]
    cases hu : toU32 nq with
    | none => simp
    | some N =>
      have hN := count_eq_of_toU32 L.toNat_natCast nq hint N hu
      simp only [Option.getD_some]
      have hN1 : 1 ≤ N := by
        have : (1 : K) ≤ (N : K) := by rw [← hN]; exact hge
        exact_mod_cast this
      rw [hN, mul_one_div, div_lt_one (by rw [← hN]; exact hpos)]
      have : N - 1 < N := by omega
      exact_mod_cast this
  have hne : c.quadsLoop (one / nq) ((toU32 nq).getD 1 - 1) zero ≠ [] := by
    have := (cubic_quads_structure c (one / nq) ((toU32 nq).getD 1 - 1) zero).2.2
    intro hh; rw [hh] at this; simp at this
  obtain ⟨r1, r2⟩ := flatQuadsT_t_incr S L _ _ zero zero hr l h
  have r3 := r2 hne
  rw [sc_zero_eq] at r1 r3
  exact ⟨r1, r3⟩

end field

end Lyon.Adapt
