/-
  NO-PANIC: the pending edges (`sort_edges_below`, `merge_coincident_edges`,
  `handle_coincident_edges_below`).

  The indices into `edges_below` used by `handle_coincident_edges_below` / `merge_coincident_edges`
  are always in range (the list shrinks by at most one per merge while the index goes down by one):
  `mBelowIdx` is unreachable, for every scalar type.  The sort and the merge of coincident edges only
  touch the pending edges, the queue and coverage bits: they keep every predicate that reads spans,
  active list, rule and tolerance (`FrameP`).
-/
import LyonVerif.Lemmas.SweepSafeSpans

set_option linter.unusedSectionVars false
set_option mvcgen.warning false

namespace Lyon.SweepSafe
open Lyon Lyon.Scalar Lyon.Mono Lyon.Sweep Lyon.EQ
open Std.Do

variable {α : Type} [Scalar α] [Wide α]
variable {tol : α} {n : Nat} {A : List String}

theorem size_erase_ge {γ : Type} (a : Array γ) (i : Nat) : a.size - 1 ≤ (a.eraseIdxIfInBounds i).size := by
  unfold Array.eraseIdxIfInBounds
  split
  · simp [Array.size_eraseIdx]
  · omega

def FrameP (P : St α → Prop) : Prop :=
  ∀ s s' : St α, s'.spans = s.spans → s'.active = s.active → s'.rule = s.rule → s'.tolerance = s.tolerance →
    P s → P s'

theorem FrameP.apply {P : St α → Prop} (hP : FrameP P) {s : St α} (h : P s) (s' : St α)
    (h1 : s'.spans = s.spans) (h2 : s'.active = s.active) (h3 : s'.rule = s.rule)
    (h4 : s'.tolerance = s.tolerance) : P s' := hP s s' h1 h2 h3 h4 h

theorem sortEdgesBelow_fr {P : St α → Prop} (hP : FrameP P) :
    ⦃fun s => ⌜P s⌝⦄ (sortEdgesBelow : SM α Unit) ⦃safePost A fun _ s => P s⦄ := by
  unfold sortEdgesBelow
  mvcgen
  all_goals first
    | exact allowed_unmodelled _
    | (apply hP.apply (by assumption) <;> rfl)

theorem mergeCoincidentEdges_fr {P : St α → Prop} (hP : FrameP P) (a b : Nat) (hab : a < b) :
    ⦃fun s => ⌜P s ∧ b + 1 ≤ s.below.size⌝⦄ (mergeCoincidentEdges a b : SM α Unit)
    ⦃safePost A fun _ s => P s ∧ b ≤ s.below.size⦄ := by
  unfold mergeCoincidentEdges
  mvcgen
  case vc3 =>
    rename_i s h x4 x3 hx hb ha
    exfalso
    have hb' : b < s.below.size := h.2
    have ha' : a < s.below.size := by omega
    exact hx s.below[a] s.below[b] (by rw [← ha]; simp [ha']) (by rw [← hb]; simp [hb'])
  all_goals
    have h := ‹P _ ∧ b + 1 ≤ _›
    refine ⟨hP.apply h.1 _ rfl rfl rfl rfl, ?_⟩
    refine Nat.le_trans ?_ (size_erase_ge _ _)
    have := h.2
    show b ≤ (Array.setIfInBounds _ _ _).size - 1
    rw [Array.size_setIfInBounds]
    omega

theorem handleCoincidentEdgesBelow_fr {P : St α → Prop} (hP : FrameP P) :
    ⦃fun s => ⌜P s⌝⦄ (handleCoincidentEdgesBelow : SM α Unit) ⦃safePost A fun _ s => P s⦄ := by
  unfold handleCoincidentEdgesBelow
  have h1 := fun (a b : Nat) (hab : a < b) => mergeCoincidentEdges_fr (α := α) (A := A) hP a b hab
  mvcgen [h1] invariants
  · post⟨fun r s => ⌜P s ∧ r.1.suffix.length + 1 ≤ s.below.size⌝, fun f _ => ⌜Allowed A f⌝⟩
  with skip
  -- `merge_coincident_edges(idx, idx + 1)`: its two indices are in order,
  case vc2 => omega
  -- both are edges below (`idx = n - 2 - k`, and at least `n - k` edges are left),
  case vc3 =>
    rename_i s0 _ m hm pref cur suff hr _ idx s h a b _ _ _ _ _ _ _ _ _ _ _ _ _
    have := range_split hr
    refine ⟨h.1, ?_⟩
    have := h.2
    simp only [List.length_cons] at this
    show m - 2 - cur + 1 + 1 ≤ _
    omega
  -- and the merge removes one edge: one fewer than before are needed in the next round
  case vc4 =>
    rename_i s0 _ m hm pref cur suff hr _ idx s1 _ a b _ _ _ _ _ _ _ _ _ _ _ _ _ _ s h
    have := range_split hr
    refine ⟨h.1, ?_⟩
    have h2 : m - 2 - cur + 1 ≤ s.below.size := h.2
    omega
  -- the pair is not merged: nothing changes
  case vc6 =>
    have h := ‹P _ ∧ _ ≤ _›
    refine ⟨h.1, ?_⟩
    have := h.2
    simp only [List.length_cons] at this
    omega
  -- `self.edges_below[idx]`, `[idx + 1]`: in range by the loop invariant
  case vc7 =>
    rename_i s0 _ m hm pref cur suff hr _ idx s h x4 x3 hx hb ha
    exfalso
    have hr' := range_split hr
    have hsz := h.2
    simp only [List.length_cons] at hsz
    have e : idx = m - 2 - cur := rfl
    have hb' : idx + 1 < s.below.size := by omega
    have ha' : idx < s.below.size := by omega
    exact hx s.below[idx] s.below[idx + 1] (by rw [← ha]; simp [ha']) (by rw [← hb]; simp [hb'])
  -- loop entry (`n ≥ 2`) and exit
  case vc8 =>
    rename_i s h m hm
    refine ⟨h, ?_⟩
    rw [range_length]
    show m - 1 + 1 ≤ m
    omega
  case vc9 => exact (‹P _ ∧ _ ≤ _›).1
  all_goals first | (intro _ h; exact h) | assumption

end Lyon.SweepSafe
