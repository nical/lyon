/-
  C08 on the sweep model: the remaining steps of one event (`update_active_edges` with the
  intersection handling, error recovery, `initialize_events`, `process_events`).
-/
import LyonVerif.Lemmas.ResetSweepOps

set_option linter.unusedSimpArgs false

namespace Lyon.C08
open Lyon Lyon.Mono Lyon.Sweep Lyon.EQ

variable {α : Type} [Scalar α] [Wide α]

instance processIntersection_sim (ta tb : Wide.W α) (aei : Nat) (eb0 : PendingEdge α) (bs : Seg (Wide.W α)) :
    Sim (processIntersection ta tb aei eb0 bs) := by
  rw [processIntersection_eq]
  sim_auto

instance handleIntersectionsStep_sim (a b : Nat) : Sim (handleIntersectionsStep (α := α) a b) := by
  rw [handleIntersectionsStep_eq]
  refine sim_get_bind fun s0 sp pl c hsp => ?_
  refine sim_bind (sim_forIn_range _ _ fun bi _ => sim_get_bind fun s sp pl c hsp => ?_) fun _ => sim_pure _
  -- the search reads the active edges and the current position only
  rw [show hiScan (with3 s sp pl c) = hiScan s from rfl]
  dsimp only [with3]
  sim_auto

instance updateActiveEdges_sim (scan : Scan) : Sim (updateActiveEdges (α := α) scan) := by
  unfold updateActiveEdges
  simp only [ExceptT.bind_throw]
  sim_auto

instance sortActiveEdges_sim : Sim (sortActiveEdges (α := α)) := by
  unfold sortActiveEdges
  -- what follows a guard `if c then throw e` is walked once
  simp only [ExceptT.bind_throw]
  sim_auto

instance recoverFromError_sim : Sim (recoverFromError (α := α)) := by
  unfold recoverFromError
  -- `if .. then mark 24` as one step: what follows it is walked once
  simp only [ite_mark_bind]
  sim_auto
  exact sim_onlyCov (OnlyCov.markIf _ 24)

instance initializeEvents_sim : Sim (initializeEvents (α := α)) := by
  unfold initializeEvents
  simp only [ExceptT.bind_throw]
  sim_auto

/-- `initialize_events` against a geometry builder that refuses a vertex -/
@[instance] theorem initializeEventsB_sim (limit : Option Nat) : Sim (initializeEventsB (α := α) limit) := by
  unfold initializeEventsB
  simp only [ExceptT.bind_throw]
  sim_auto

instance processEvents_sim : Sim (processEvents (α := α)) := by
  rw [processEvents_split]
  refine sim_get_bind ?_
  intro s sp pl c hsp
  rw [scan_congr s sp pl c hsp.size]
  split
  · exact sim_pure _
  · refine sim_bind (sim_onlyCov (evMarks_onlyCov s _)) fun _ => ?_
    unfold evBody
    sim_auto
end Lyon.C08
