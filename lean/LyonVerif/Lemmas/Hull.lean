/-
  Convex combinations over an ordered field; imported by the bounding-box, clipping, slab, circle, arc and
  flattening proofs. Facts about `lerp`: in one coordinate it stays between any bounds of its ends
  (`lerp_mem`, the two-weight case of `bary_mem`) and is inverted by `(v − a)/(b − a)` (`lerp_solve`,
  `param_unit_iff`); in the plane it is
  affine (`lerp_sub_lerp`) and `|·|²` is convex along it (`sqLen_lerp_le`, `comb3_sq_le`). So an interval
  and a disc are closed under it (that is what `lerp_mem` and `sqLen_lerp_le` say, as inequalities), and so is a
  rectangle, stated with the predicate `LerpClosed` (`rect_lerpClosed`). And what follows for Bézier points: by
  de Casteljau a `lerp`-closed set that holds the control points holds the curve (`quad_mem`, `cubic_mem`). A few order facts the same proofs
  share stand beside them (`mem_hull3/4`, `chord_factor`, `unit_parts`, `unit_dot_le`), and at the head of the file
  extensionality of curves in their control points (`Quad.ext'`, `Cubic.ext'`, as `P.ext'` for points).
-/
import LyonVerif.Model.Geom.Basic
import LyonVerif.Lemmas.Field

set_option linter.unusedSectionVars false

namespace Lyon

variable {K : Type} [Field K] [LinearOrder K] [IsStrictOrderedRing K]

theorem Quad.ext' {p q : Quad K} (ha : p.a = q.a) (hc : p.c = q.c) (hb : p.b = q.b) : p = q := by
  cases p; cases q; simp_all

theorem Cubic.ext' {p q : Cubic K} (ha : p.a = q.a) (h1 : p.c1 = q.c1) (h2 : p.c2 = q.c2) (hb : p.b = q.b) :
    p = q := by
  cases p; cases q; simp_all

theorem Hull.bary_mem {a b c m M u v w : K} (hu : 0 ≤ u) (hv : 0 ≤ v) (hw : 0 ≤ w) (hs : u + v + w = 1)
    (h : (m ≤ a ∧ a ≤ M) ∧ (m ≤ b ∧ b ≤ M) ∧ (m ≤ c ∧ c ≤ M)) :
    m ≤ u * a + v * b + w * c ∧ u * a + v * b + w * c ≤ M := by
  obtain ⟨ha, hb, hc⟩ := h
  have e : ∀ k : K, u * k + v * k + w * k = k := fun k => by rw [← add_mul, ← add_mul, hs, one_mul]
  exact ⟨(e m).symm.trans_le (add_le_add (add_le_add (mul_le_mul_of_nonneg_left ha.1 hu)
      (mul_le_mul_of_nonneg_left hb.1 hv)) (mul_le_mul_of_nonneg_left hc.1 hw)),
    (add_le_add (add_le_add (mul_le_mul_of_nonneg_left ha.2 hu) (mul_le_mul_of_nonneg_left hb.2 hv))
      (mul_le_mul_of_nonneg_left hc.2 hw)).trans_eq (e M)⟩

theorem Hull.lerp_mem {a b m M t : K} (h0 : 0 ≤ t) (h1 : t ≤ 1) (ha : m ≤ a ∧ a ≤ M) (hb : m ≤ b ∧ b ≤ M) :
    m ≤ (1 - t) * a + t * b ∧ (1 - t) * a + t * b ≤ M := by
  simpa using Hull.bary_mem (sub_nonneg.2 h1) h0 le_rfl (by ring) ⟨ha, hb, ha⟩

theorem Hull.lerp_solve {a b : K} (h : b - a ≠ 0) (v t : K) :
    a * (1 - (v - a) / (b - a)) + b * ((v - a) / (b - a)) = v ∧ (a * (1 - t) + b * t - a) / (b - a) = t := by
  constructor <;> field_simp <;> ring

/-- whichever way the segment runs -/
theorem Hull.param_unit_iff {a b : K} (h : a ≠ b) (v : K) :
    (0 ≤ (v - a) / (b - a) ∧ (v - a) / (b - a) ≤ 1) ↔ min a b ≤ v ∧ v ≤ max a b := by
  rcases lt_or_gt_of_ne h with hab | hab
  · have hpos : 0 < b - a := sub_pos.mpr hab
    rw [min_eq_left hab.le, max_eq_right hab.le, le_div_iff₀ hpos, zero_mul, div_le_one hpos, sub_nonneg,
      sub_le_sub_iff_right]
  · have hneg : b - a < 0 := sub_neg.mpr hab
    rw [min_eq_right hab.le, max_eq_left hab.le, le_div_iff_of_neg hneg, zero_mul, div_le_one_of_neg hneg, sub_nonpos,
      sub_le_sub_iff_right, and_comm]

theorem Hull.mem_hull3 (a b c : K) :
    (min (min a b) c ≤ a ∧ a ≤ max (max a b) c) ∧ (min (min a b) c ≤ b ∧ b ≤ max (max a b) c) ∧
    (min (min a b) c ≤ c ∧ c ≤ max (max a b) c) :=
  ⟨⟨(min_le_left _ _).trans (min_le_left _ _), (le_max_left _ _).trans (le_max_left _ _)⟩,
   ⟨(min_le_left _ _).trans (min_le_right _ _), (le_max_right _ _).trans (le_max_left _ _)⟩,
   ⟨min_le_right _ _, le_max_right _ _⟩⟩

theorem Hull.mem_hull4 (a b c d : K) :
    (min (min (min a b) c) d ≤ a ∧ a ≤ max (max (max a b) c) d) ∧
    (min (min (min a b) c) d ≤ b ∧ b ≤ max (max (max a b) c) d) ∧
    (min (min (min a b) c) d ≤ c ∧ c ≤ max (max (max a b) c) d) ∧
    (min (min (min a b) c) d ≤ d ∧ d ≤ max (max (max a b) c) d) :=
  have h := Hull.mem_hull3 (min a b) c d
  have h' := Hull.mem_hull3 (max a b) c d
  ⟨⟨h.1.1.trans (min_le_left _ _), (le_max_left _ _).trans h'.1.2⟩,
   ⟨h.1.1.trans (min_le_right _ _), (le_max_right _ _).trans h'.1.2⟩, ⟨h.2.1.1, h'.2.1.2⟩, ⟨h.2.2.1, h'.2.2.2⟩⟩

theorem Hull.chord_factor (s : K) : s * (1 - s) ≤ 1 / 4 := by
  linear_combination sq_nonneg (s - 1 / 2)

/-- `[0, n]` is covered by the unit intervals `[j, j+1]`, `j < n`: the part `j` of `s ∈ [0,1]` cut in `n`, and
where `s` lies in it -/
theorem Hull.unit_parts (n : Nat) (hn : 0 < n) {s : K} (h0 : 0 ≤ s) (h1 : s ≤ 1) :
    ∃ j : Nat, j < n ∧ 0 ≤ s * n - j ∧ s * n - j ≤ 1 := by
  have cover : ∀ n : Nat, 0 < n → ∀ x : K, 0 ≤ x → x ≤ n → ∃ j : Nat, j < n ∧ (j : K) ≤ x ∧ x ≤ (j : K) + 1 := by
    intro n
    induction n with
    | zero => exact fun hn => absurd hn (lt_irrefl 0)
    | succ k ih =>
      intro _ x hx0 hx1
      rcases Nat.eq_zero_or_pos k with hk | hk
      · subst hk
        exact ⟨0, Nat.lt_one_iff.mpr rfl, by simpa using hx0, by simpa using hx1⟩
      · rcases le_or_gt x (k : K) with hle | hgt
        · obtain ⟨j, hj, h1, h2⟩ := ih hk x hx0 hle
          exact ⟨j, Nat.lt_succ_of_lt hj, h1, h2⟩
        · refine ⟨k, Nat.lt_succ_self k, le_of_lt hgt, ?_⟩
          push_cast at hx1
          exact hx1
  have hK : (0 : K) ≤ n := Nat.cast_nonneg n
  obtain ⟨j, hj, a, b⟩ := cover n hn (s * n) (mul_nonneg h0 hK) (mul_le_of_le_one_left hK h1)
  exact ⟨j, hj, sub_nonneg.2 a, sub_le_iff_le_add'.2 b⟩

namespace Hull
open Scalar

/-- a disc around the origin is closed under `lerp`:
`|(1−s)u + sv|² = (1−s)|u|² + s|v|² − s(1−s)|u − v|²` -/
theorem sqLen_lerp_le (u v : P K) (e s : K) (h0 : 0 ≤ s) (h1 : s ≤ 1) (hu : u.sqLen ≤ e) (hv : v.sqLen ≤ e) :
    (u.lerp v s).sqLen ≤ e := by
  have i : (u.lerp v s).sqLen = (1 - s) * u.sqLen + s * v.sqLen - s * (1 - s) * (u - v).sqLen := by
    simp only [geom, Nat.cast_one]; ring
  rw [i]
  linear_combination mul_nonneg (mul_nonneg h0 (sub_nonneg.mpr h1)) (P.sqLen_nonneg (u - v))
    + mul_le_mul_of_nonneg_left hu (sub_nonneg.mpr h1) + mul_le_mul_of_nonneg_left hv h0

/-- Jensen for `|·|²` with three weights of one sign -/
theorem comb3_sq_le (a b d x1 y1 x2 y2 x3 y3 : K) (hab : 0 ≤ a * b) (had : 0 ≤ a * d) (hbd : 0 ≤ b * d) :
    (a * x1 + b * x2 + d * x3) * (a * x1 + b * x2 + d * x3) + (a * y1 + b * y2 + d * y3) * (a * y1 + b * y2 + d * y3)
      ≤ (a + b + d) * (a * (x1 * x1 + y1 * y1) + b * (x2 * x2 + y2 * y2) + d * (x3 * x3 + y3 * y3)) := by
  have t1 := mul_nonneg hab (add_nonneg (mul_self_nonneg (x1 - x2)) (mul_self_nonneg (y1 - y2)))
  have t2 := mul_nonneg had (add_nonneg (mul_self_nonneg (x1 - x3)) (mul_self_nonneg (y1 - y3)))
  have t3 := mul_nonneg hbd (add_nonneg (mul_self_nonneg (x2 - x3)) (mul_self_nonneg (y2 - y3)))
  linear_combination t1 + t2 + t3

/-- Cauchy–Schwarz against a unit vector: the component of `q` along `(C, S)` is at most `|q|` -/
theorem unit_dot_le {C S qx qy ρ : K} (h1 : C * C + S * S = 1) (hρ : 0 ≤ ρ) (hq : qx * qx + qy * qy ≤ ρ * ρ) :
    C * qx + S * qy ≤ ρ :=
  (le_abs_self _).trans <| abs_le_of_sq_le_sq
    (by linear_combination hq + mul_self_nonneg (C * qy - S * qx) + (qx * qx + qy * qy) * h1) hρ

theorem lerp_sub_lerp (A B A2 B2 : P K) (s : K) : A.lerp B s - A2.lerp B2 s = (A - A2).lerp (B - B2) s := by
  apply P.ext' <;> simp only [geom, Nat.cast_one] <;> ring

def LerpClosed (S : P K → Prop) : Prop := ∀ p q u, 0 ≤ u → u ≤ 1 → S p → S q → S (p.lerp q u)

theorem rect_lerpClosed (lo hi : P K) :
    LerpClosed fun p : P K => lo.x ≤ p.x ∧ p.x ≤ hi.x ∧ lo.y ≤ p.y ∧ p.y ≤ hi.y := fun p q u h0 h1 hp hq => by
  have hx := Hull.lerp_mem h0 h1 ⟨hp.1, hp.2.1⟩ ⟨hq.1, hq.2.1⟩
  have hy := Hull.lerp_mem h0 h1 ⟨hp.2.2.1, hp.2.2.2⟩ ⟨hq.2.2.1, hq.2.2.2⟩
  simp only [P.lerp, Scalar.one, sc_one]
  exact ⟨hx.1, hx.2, hy.1, hy.2⟩

theorem quad_casteljau (q : Quad K) (u : K) :
    q.sample u = (q.a.lerp q.c u).lerp (q.c.lerp q.b u) u := by
  apply P.ext' <;> simp only [Quad.sample, geom, Nat.cast_one, Nat.cast_ofNat] <;> ring

theorem cubic_casteljau (c : Cubic K) (u : K) :
    c.sample u = ((c.a.lerp c.c1 u).lerp (c.c1.lerp c.c2 u) u).lerp
      ((c.c1.lerp c.c2 u).lerp (c.c2.lerp c.b u) u) u := by
  apply P.ext' <;> simp only [Cubic.sample, geom, Nat.cast_one, Nat.cast_ofNat] <;> ring

theorem quad_mem {S : P K → Prop} (hS : LerpClosed S) (q : Quad K) {u : K} (h0 : 0 ≤ u) (h1 : u ≤ 1)
    (ha : S q.a) (hc : S q.c) (hb : S q.b) : S (q.sample u) :=
  quad_casteljau q u ▸ hS _ _ u h0 h1 (hS _ _ u h0 h1 ha hc) (hS _ _ u h0 h1 hc hb)

theorem cubic_mem {S : P K → Prop} (hS : LerpClosed S) (c : Cubic K) {u : K} (h0 : 0 ≤ u) (h1 : u ≤ 1)
    (ha : S c.a) (hc1 : S c.c1) (hc2 : S c.c2) (hb : S c.b) : S (c.sample u) :=
  have q0 := hS _ _ u h0 h1 ha hc1
  have q1 := hS _ _ u h0 h1 hc1 hc2
  have q2 := hS _ _ u h0 h1 hc2 hb
  cubic_casteljau c u ▸ hS _ _ u h0 h1 (hS _ _ u h0 h1 q0 q1) (hS _ _ u h0 h1 q1 q2)

theorem quad_flip_sample (q : Quad K) (u : K) : q.flip.sample u = q.sample (1 - u) := by
  apply P.ext' <;> simp only [Quad.sample, Quad.flip, geom, Nat.cast_one, Nat.cast_ofNat] <;> ring

end Hull

end Lyon
