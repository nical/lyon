/-
  C13 — over ℝ: the affine map `ellMap` to the ellipse, and the quadratic Bézier piece of a circular arc, exactly.

  Every emitted piece is the image of a fixed frame curve under the rotation by its start angle and `ellMap`.  For
  the quadratic the frame curve is `quadFrame δ` with control points `(1, 0)`, `(1, tan(δ/2))`, `(cos δ, sin δ)` in the
  orthonormal frame (radius, tangent) at the start point of a unit-circle piece of angle `δ`
  (`quadAt_sample_real`), and with `s = sin(δ/2)`, `c = cos(δ/2)`, `τ = tan(δ/2)`

      |Q(t)|² − 1 = (2·s·τ·t(1−t))²                                         (`quad_unit_dev`)

  A frame point at a radius within `k` of 1 is mapped to within `k·max(rx, ry)` of the ellipse (`ellMap_near_unit`).
  `ellMap arc` is the frame map of the flattening certificates (`ellMap_eq_frame`), whose contraction lemma
  `frame_map_contract` (`Lemmas/FlattenFrame.lean`, C09) is used here instead of a second proof.
-/
import LyonVerif.Lemmas.SvgArcReal
import LyonVerif.Lemmas.FlattenFrame


namespace Lyon.C13
open Lyon Scalar ArcConv

theorem rotate_cross (a : ℝ) (p q : P ℝ) : (Arc.rotate a p).cross (Arc.rotate a q) = p.cross q := by
  simp only [Arc.rotate, geom, transc_cos_real, transc_sin_real]
  linear_combination (p.x * q.y - p.y * q.x) * Real.cos_sq_add_sin_sq a

theorem ellMap_unitArc (arc : Arc ℝ) (p : P ℝ) : ellMap (unitArc arc) p = p := by
  apply P.ext' <;>
    simp [ellMap, unitArc, Arc.rotate, geom, transc_cos_real, transc_sin_real]

/-- `ellMap arc` is the frame map of `Model/Geom/FlattenCertArc.lean` for the frame of the arc -/
theorem ellMap_eq_frame (arc : Arc ℝ) (p : P ℝ) : ellMap arc p = (Flat.arcFrame arc).map p := by
  apply P.ext' <;> simp only [ellMap, Flat.arcFrame, ArcChk.Frame.map, Arc.rotate, geom] <;> ring

theorem ellMap_sqDist_le (arc : Arc ℝ) (p u : P ℝ) (m : ℝ) (hmx : |arc.radii.x| ≤ m)
    (hmy : |arc.radii.y| ≤ m) : sqDist (ellMap arc p) (ellMap arc u) ≤ m * m * sqDist p u := by
  rw [ellMap_eq_frame, ellMap_eq_frame]
  exact ArcChk.frame_map_contract (Flat.arcFrame arc) m (exactTrig_real.cos_sq_add_sin_sq _)
    (abs_le_iff_mul_self_le.1 (hmx.trans (le_abs_self m))) (abs_le_iff_mul_self_le.1 (hmy.trans (le_abs_self m))) p u

theorem ellMap_sqDist_center_ge (arc : Arc ℝ) (u : P ℝ) (m : ℝ) (hu : u.x * u.x + u.y * u.y = 1)
    (hm : 0 ≤ m) (hmx : m ≤ |arc.radii.x|) (hmy : m ≤ |arc.radii.y|) :
    m * m ≤ sqDist (ellMap arc u) arc.center := by
  rw [← abs_of_nonneg hm] at hmx hmy
  rw [ellMap_sqDist_center arc u (exactTrig_real.cos_sq_add_sin_sq _), ← mul_one (m * m), ← hu, mul_add]
  exact add_le_add (mul_le_mul_of_nonneg_right (abs_le_iff_mul_self_le.1 hmx) (mul_self_nonneg _))
    (mul_le_mul_of_nonneg_right (abs_le_iff_mul_self_le.1 hmy) (mul_self_nonneg _))

theorem sqDist_comm (p q : P ℝ) : sqDist p q = sqDist q p := by
  simp only [sqDist]; ring

theorem ellMap_radial_sqDist (arc : Arc ℝ) (u : P ℝ) (l k : ℝ) (hu : u.x * u.x + u.y * u.y = 1)
    (hk : |1 - l| ≤ k) :
    sqDist (ellMap arc u) (ellMap arc ⟨l * u.x, l * u.y⟩)
      ≤ (Max.max |arc.radii.x| |arc.radii.y| * k) * (Max.max |arc.radii.x| |arc.radii.y| * k) := by
  have hd : sqDist u ⟨l * u.x, l * u.y⟩ = (1 - l) * (1 - l) := by
    simp only [sqDist]; linear_combination ((1 - l) * (1 - l)) * hu
  have h2 : (1 - l) * (1 - l) ≤ k * k := abs_le_iff_mul_self_le.1 (hk.trans (le_abs_self k))
  have hm := ellMap_sqDist_le arc u ⟨l * u.x, l * u.y⟩ _ (le_max_left |arc.radii.x| |arc.radii.y|)
    (le_max_right _ _)
  rw [hd] at hm
  rw [mul_mul_mul_comm]
  exact hm.trans (mul_le_mul_of_nonneg_left h2 (mul_self_nonneg _))

theorem ellMap_near_unit (arc : Arc ℝ) (q : P ℝ) (k : ℝ) (h0 : 0 < Real.sqrt (q.x * q.x + q.y * q.y))
    (hk : |1 - Real.sqrt (q.x * q.x + q.y * q.y)| ≤ k) :
    ∃ u : P ℝ, u.x * u.x + u.y * u.y = 1
      ∧ sqDist (ellMap arc q) (ellMap arc u)
          ≤ (Max.max |arc.radii.x| |arc.radii.y| * k) * (Max.max |arc.radii.x| |arc.radii.y| * k) := by
  have hρ2 := Real.mul_self_sqrt (add_nonneg (mul_self_nonneg q.x) (mul_self_nonneg q.y))
  generalize Real.sqrt (q.x * q.x + q.y * q.y) = ρ at h0 hk hρ2
  have hu : q.x / ρ * (q.x / ρ) + q.y / ρ * (q.y / ρ) = 1 := by
    rw [div_mul_div_comm, div_mul_div_comm, ← add_div, ← hρ2, div_self (mul_self_ne_zero.2 h0.ne')]
  have h := ellMap_radial_sqDist arc ⟨q.x / ρ, q.y / ρ⟩ ρ k hu hk
  rw [mul_div_cancel₀ _ h0.ne', mul_div_cancel₀ _ h0.ne', sqDist_comm] at h
  exact ⟨_, hu, h⟩

theorem cos_half_pos_real (d : ℝ) (hd : |d| ≤ Real.pi / 2) : 0 < Real.cos (d / 2) := by
  obtain ⟨hl, hu⟩ := abs_le.mp hd
  have hpi := Real.pi_pos
  exact Real.cos_pos_of_mem_Ioo ⟨by linarith, by linarith⟩

theorem sqrt_two_gt : (14142 / 10000 : ℝ) < Real.sqrt 2 := by
  rw [Real.lt_sqrt (by norm_num)]; norm_num

theorem half_angle_real (d : ℝ) (hd : |d| ≤ Real.pi / 4) :
    Real.cos (d / 2) * Real.cos (d / 2) + Real.sin (d / 2) * Real.sin (d / 2) = 1
    ∧ Real.cos d = 1 - 2 * (Real.sin (d / 2) * Real.sin (d / 2))
    ∧ Real.sin d = 2 * (Real.sin (d / 2) * Real.cos (d / 2))
    ∧ Real.tan (d * Scalar.half) * Real.cos (d / 2) = Real.sin (d / 2)
    ∧ 0 < Real.cos (d / 2)
    ∧ (7071 / 10000 : ℝ) ≤ Real.cos d := by
  have hpi := Real.pi_pos
  obtain ⟨hu, hcos, hsin⟩ := half_angle_identities_real d
  have hcp := cos_half_pos_real d (by linarith)
  refine ⟨hu, hcos, hsin, tan_half_real d hcp.ne', hcp, ?_⟩
  have hc4 := Real.cos_le_cos_of_nonneg_of_le_pi (abs_nonneg d) (by linarith) hd
  rw [Real.cos_abs, Real.cos_pi_div_four] at hc4
  linarith [sqrt_two_gt]

/-- the quadratic piece of the unit circle in the orthonormal frame (radius, tangent) at its start point -/
noncomputable def quadFrame (d : ℝ) : Quad ℝ :=
  ⟨⟨1, 0⟩, ⟨1, Real.tan (d * Scalar.half)⟩, ⟨Real.cos d, Real.sin d⟩⟩

theorem quadAt_sample_real (arc : Arc ℝ) (a1 d t : ℝ) :
    (quadAt arc a1 d).sample t = ellMap arc (Arc.rotate a1 ((quadFrame d).sample t)) := by
  apply P.ext' <;>
  · simp only [quadAt, quadCtrl, quadFrame, ellMap, Quad.sample, pointAt, tangentAtAngle,
      Arc.sampleEllipse, Arc.rotate, geom, transc_cos_real, transc_sin_real, transc_tan_real, Real.cos_add,
      Real.sin_add, Nat.cast_ofNat, Nat.cast_one]
    ring

theorem quadFrame_sample (d t : ℝ) :
    (quadFrame d).sample t = ⟨1 - 2 * t * t * (Real.sin (d / 2) * Real.sin (d / 2)),
      2 * t * (1 - t) * Real.tan (d * Scalar.half) + 2 * t * t * (Real.sin (d / 2) * Real.cos (d / 2))⟩ := by
  obtain ⟨_, hcos, hsin⟩ := half_angle_identities_real d
  apply P.ext' <;>
  · simp only [quadFrame, Quad.sample, geom, hcos, hsin, Nat.cast_ofNat, Nat.cast_one]
    ring

/-- `c = cos(δ/2)`, `sn = sin(δ/2)`, `τ = tan(δ/2)`; the left side is `|quadFrame δ (t)|² − 1` (`quadFrame_sample`) -/
theorem quad_unit_dev (c sn τ t : ℝ) (hu : c * c + sn * sn = 1) (hτ : τ * c = sn) :
    (1 - 2 * t * t * (sn * sn)) * (1 - 2 * t * t * (sn * sn))
      + (2 * t * (1 - t) * τ + 2 * t * t * (sn * c)) * (2 * t * (1 - t) * τ + 2 * t * t * (sn * c)) - 1
    = (2 * sn * τ * (t * (1 - t))) * (2 * sn * τ * (t * (1 - t))) := by
  subst hτ
  linear_combination (4 * t ^ 4 * τ ^ 2 * (c * c) - 4 * t ^ 2 * (1 - t) ^ 2 * τ ^ 2) * hu

/-- C13b for one quadratic piece of a circular arc, exactly: the piece never enters the circle, touches it at both
ends and is farthest at `t = 1/2` -/
theorem quad_arc_deviation_circle_eq (arc : Arc ℝ) (r a1 d t : ℝ) (hr : arc.radii = ⟨r, r⟩)
    (hc : Real.cos (d / 2) ≠ 0) :
    sqDist ((quadAt arc a1 d).sample t) arc.center - r * r
      = r * r * ((2 * Real.sin (d / 2) * Real.tan (d * Scalar.half) * (t * (1 - t)))
          * (2 * Real.sin (d / 2) * Real.tan (d * Scalar.half) * (t * (1 - t)))) := by
  rw [quadAt_sample_real, sqDist_frame_center arc r a1 _ hr (exactTrig_real.cos_sq_add_sin_sq _)
    (exactTrig_real.cos_sq_add_sin_sq _), quadFrame_sample]
  linear_combination (r * r) * quad_unit_dev _ _ _ t (half_angle_identities_real d).1 (tan_half_real d hc)

end Lyon.C13
