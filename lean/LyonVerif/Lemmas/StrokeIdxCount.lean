/-
  What the counting, advancement and coverage theorems about a fixed-width polyline start from:
  * the vertices of one join and of the caps (`joinVertsFw`: fold → 4 | kept miter → 2 | else → 3; 2 + 2 for non-round caps),
    and the join of a fresh endpoint in normal form (`fwJoin_fresh_nf`: the ordinary path, the decisions of the three positions);
  * the event loop on a polyline sub-path, stated once from any idle state of a run (`Idle`, `runFrom`): `runFrom_subpath` -
    `begin` pushes the first point, every `line_to` is one `fixed_width_step_impl`, then `end(close)`.
  Suffixes: `_g` = `run_begin` (from any idle state, any width) read at fixed width, `hwFw` for `hwOf`; `_x` = at the
  start of a tessellation, with the state after the second point exposed as an existential witness.
-/
import LyonVerif.Lemmas.StrokeIdxRun

set_option linter.unusedSectionVars false

namespace Lyon.C05c
open Lyon Scalar Lyon.Stroke Lyon.Stroke.Full Lyon.C05 Lyon.C05b

section
variable {α : Type} [Scalar α] [Transc α]

/-- an endpoint as `begin` / `line_to` create it (fixed width), possibly with its advancement filled in -/
structure Fresh (e : Env α) (y : EP α) : Prop where
  ps : y.pos.single = none
  ns : y.neg.single = none
  flat : y.isFlat = false
  lj : y.lineJoin = e.o.join
  hw : y.halfWidth = e.hwFw

theorem fresh_mk' (e : Env α) (p : P α) (adv : α) (src : Src α) :
    Fresh e (EP.mk' p e.hwFw adv e.o.join src false) := ⟨rfl, rfl, rfl, rfl, rfl⟩

/-- the decisions of `compute_join_side_positions_fixed_width` depend on the three positions and
the join kind only -/
theorem fwGeo_congr {prev join next prev' join' next' : EP α} (ml vhw : α)
    (h1 : prev.position = prev'.position) (h2 : join.position = join'.position)
    (h3 : join.lineJoin = join'.lineJoin) (h4 : next.position = next'.position) :
    fwGeo prev join next ml vhw = fwGeo prev' join' next' ml vhw := by
  unfold fwGeo; simp only [h1, h2, h3, h4]

/-- vertices of one fixed-width join between the points `p, j, n`: 4 if it folds, 2 if the miter is
kept (one vertex per side), else 3 (inner vertex + the two outer ones) -/
def joinVertsFw (e : Env α) (p j n : P α) : Nat :=
  if (fwGeo (EP.mk' p e.hwFw nan e.o.join (.endpoint 0) false) (EP.mk' j e.hwFw nan e.o.join (.endpoint 0) false)
      (EP.mk' n e.hwFw nan e.o.join (.endpoint 0) false) e.o.miterLimit e.hwFw).fold then 4
  else if (fwGeo (EP.mk' p e.hwFw nan e.o.join (.endpoint 0) false) (EP.mk' j e.hwFw nan e.o.join (.endpoint 0) false)
      (EP.mk' n e.hwFw nan e.o.join (.endpoint 0) false) e.o.miterLimit e.hwFw).unclipped then 2
  else 3

def joinCostFw (e : Env α) : List (P α) → Nat
  | a :: b :: c :: rest => joinVertsFw e a b c + joinCostFw e (b :: c :: rest)
  | _ => 0

theorem joinVertsFw_range (e : Env α) (p j n : P α) : 2 ≤ joinVertsFw e p j n ∧ joinVertsFw e p j n ≤ 4 := by
  unfold joinVertsFw; split_ifs <;> omega

theorem edgeAndJoin_verts (tol : α) (count : Nat) (prev j : EP α) (d : VData α) (o : Out α)
    (hr : (j.lineJoin == Lyon.StrokeQuad.Join.round) = false) :
    (edgeAndJoin tol count prev j d o).verts = o.verts := by
  rw [edgeAndJoin_eq _ _ _ _ _ _ hr]; exact List.append_nil _

theorem baseVertices_verts (j : EP α) (d : VData α) (o : Out α) :
    (baseVertices j d o).2.verts.length = o.verts.length
      + (if j.neg.single.isSome then 1 else 2) + (if j.pos.single.isSome then 1 else 2)
    ∧ (baseVertices j d o).1.position = j.position ∧ (baseVertices j d o).1.lineJoin = j.lineJoin := by
  rw [baseVertices_eq]
  exact ⟨by simp [Out.grow, baseVerts, sideVerts_length, Nat.add_assoc]; rfl, rfl, rfl⟩

theorem joinSidesFw_singles (ix : Lyon.StrokeQuad.Ix α) (prev join next : EP α) (ml vhw : α)
    (hp : join.pos.single = none) (hn : join.neg.single = none) :
    (if (joinSidesFw ix prev join next ml vhw).neg.single.isSome then 1 else 2)
      + (if (joinSidesFw ix prev join next ml vhw).pos.single.isSome then 1 else 2)
    = (if (fwGeo prev join next ml vhw).fold then 4 else if (fwGeo prev join next ml vhw).unclipped then 2 else 3)
    ∧ (joinSidesFw ix prev join next ml vhw).position = join.position
    ∧ (joinSidesFw ix prev join next ml vhw).lineJoin = join.lineJoin := by
  refine ⟨?_, by rw [joinSidesFw_eq], by rw [joinSidesFw_eq]⟩
  unfold joinSidesFw
  simp only []
  cases (fwGeo prev join next ml vhw).fold <;> cases (fwGeo prev join next ml vhw).frontNeg <;>
    cases (fwGeo prev join next ml vhw).unclipped <;> simp [frontFix_single, hp, hn]

theorem fastPath_fresh {e : Env α} {prev join next : EP α} (hf : Fresh e join) : fastPath prev join next = false := by
  unfold fastPath; rw [hf.flat]; rfl

theorem joinSidesFw_nofold (ix : Lyon.StrokeQuad.Ix α) (prev join next : EP α) (ml vhw : α)
    (h : (fwGeo prev join next ml vhw).fold = false) :
    (joinSidesFw ix prev join next ml vhw).foldPos = join.foldPos
    ∧ (joinSidesFw ix prev join next ml vhw).foldNeg = join.foldNeg := by
  rw [joinSidesFw_eq]; simp [h]

/-- the join between `p, j, n` does not fold -/
def noFoldAt (e : Env α) (p j n : P α) : Prop :=
  (fwGeo (EP.mk' p e.hwFw nan e.o.join (.endpoint 0) false) (EP.mk' j e.hwFw nan e.o.join (.endpoint 0) false)
    (EP.mk' n e.hwFw nan e.o.join (.endpoint 0) false) e.o.miterLimit e.hwFw).fold = false

/-- **a fixed-width join of a fresh endpoint in normal form**: the ordinary path is taken, on the record `j1` of
`compute_join_side_positions_fixed_width`, whose decisions are those of the three positions -/
theorem fwJoin_fresh_nf {e : Env α} (st : St α) (prev join next : EP α) (hf : Fresh e join) :
    ∃ j1, j1 = joinSidesFw e.ix prev join next e.o.miterLimit join.halfWidth ∧
      fwJoin e st prev join next = (commitSt st prev (ordJoin e st prev j1 (fwJoinData join j1)).1
        (ordJoin e st prev j1 (fwJoinData join j1)).2, next) ∧
      (if j1.neg.single.isSome then 1 else 2) + (if j1.pos.single.isSome then 1 else 2)
        = joinVertsFw e prev.position join.position next.position ∧
      j1.position = join.position ∧ j1.lineJoin = e.o.join ∧
      (noFoldAt e prev.position join.position next.position → j1.foldPos = join.foldPos ∧ j1.foldNeg = join.foldNeg) := by
  have hgeo : fwGeo prev join next e.o.miterLimit join.halfWidth
      = fwGeo (EP.mk' prev.position e.hwFw nan e.o.join (.endpoint 0) false)
          (EP.mk' join.position e.hwFw nan e.o.join (.endpoint 0) false)
          (EP.mk' next.position e.hwFw nan e.o.join (.endpoint 0) false) e.o.miterLimit e.hwFw := by
    rw [hf.hw]; exact fwGeo_congr _ _ rfl rfl hf.lj rfl
  obtain ⟨s1, s2, s3⟩ := joinSidesFw_singles e.ix prev join next e.o.miterLimit join.halfWidth hf.ps hf.ns
  refine ⟨_, rfl, fwJoin_ordinary st (fastPath_fresh hf), by rw [s1, hgeo]; rfl, s2, s3.trans hf.lj, fun hnf => ?_⟩
  exact joinSidesFw_nofold e.ix prev join next e.o.miterLimit join.halfWidth (by rw [hgeo]; exact hnf)

/-- the endpoint `line_to_fw` creates -/
def linePt (e : Env α) (q : Nat × P α) : EP α := EP.mk' q.2 e.hwFw nan e.o.join (.endpoint q.1) false

theorem endWithCaps_verts (e : Env α) (hs : e.o.startCap ≠ .round) (he : e.o.endCap ≠ .round) {st : St α}
    {p0 p1 : EP α} (h2 : st.buf.lastTwo = some (p0, p1)) :
    (endWithCaps e st).out.verts.length = st.out.verts.length + 4 := by
  rw [endWithCaps_eq_two h2]
  show (firstEdge e _ _ _).verts.length = _
  rw [firstEdge_eq, capsOut, lastEdge_eq]
  simp [firstCap, lastCap, cap_not_round hs, cap_not_round he, Out.grow, firstVerts, lastVerts]

end

section Loop
variable {α : Type} [Scalar α] [Transc α] [Asin α] [FlatConst α]

theorem step_fixed {e : Env α} (hfw : e.o.varWidth = false) : e.step = fwStep e := by
  unfold Env.step; simp [hfw]

theorem hwOf_fw {e : Env α} (hfw : e.o.varWidth = false) (store : Nat → List α) (id : Nat) :
    e.hwOf store id = e.hwFw := by
  unfold Env.hwOf; simp [hfw]

/-- the `line_to` events of a list of `(endpoint id, position)` pairs -/
def lineEvs (pts : List (Nat × P α)) : List (IdEv α) := pts.map (fun q => IdEv.line q.1 q.2)

/-- a run between two sub-paths: nothing in the window -/
structure Idle (r : Run α) : Prop where
  np : r.panicked = false
  wf : WF r.st.buf
  c0 : r.st.buf.count = 0

/-- continue a run with more events -/
def runFrom (e : Env α) (store : Nat → List α) (r : Run α) (evs : List (IdEv α)) : Run α :=
  evs.foldl (fun r ev => if r.panicked then r else runEvent e store r ev) r

theorem runFrom_append (e : Env α) (store : Nat → List α) (r : Run α) (a b : List (IdEv α)) :
    runFrom e store r (a ++ b) = runFrom e store (runFrom e store r a) b := by
  unfold runFrom; rw [List.foldl_append]

theorem runEvents_eq_runFrom (e : Env α) (store : Nat → List α) (evs : List (IdEv α)) :
    runEvents e store evs = runFrom e store ⟨St.new, unset, nanP, false⟩ evs := rfl

theorem idle_new : Idle (⟨St.new, unset, nanP, false⟩ : Run α) := ⟨rfl, WF.new _, rfl⟩

theorem runFrom_line {e : Env α} (hfw : e.o.varWidth = false) (store : Nat → List α) (r : Run α)
    (h : r.panicked = false) (i : Nat) (p : P α) :
    runFrom e store r [IdEv.line i p]
      = { r with st := (fwStep e r.st (linePt e (i, p))).1, curId := i, curPos := p } := by
  unfold runFrom
  simp only [List.foldl_cons, List.foldl_nil]
  rw [if_neg (by simp [h])]
  show ({ r with st := (e.step r.st _).1, curId := i, curPos := p } : Run α) = _
  rw [step_fixed hfw, hwOf_fw hfw]; rfl

theorem runFrom_end {e : Env α} (hfw : e.o.varWidth = false) (store : Nat → List α) (r : Run α)
    (h : r.panicked = false) (cl : Bool) :
    runFrom e store r [IdEv.end_ cl] = { r with st := endSub e (fwStep e) r.st cl } := by
  unfold runFrom
  simp only [List.foldl_cons, List.foldl_nil]
  rw [if_neg (by simp [h])]
  show ({ r with st := endSub e e.step r.st cl } : Run α) = _
  rw [step_fixed hfw]

theorem runFrom_lines {e : Env α} (hfw : e.o.varWidth = false) (store : Nat → List α) (rest : List (Nat × P α))
    (r : Run α) (h : r.panicked = false) :
    (runFrom e store r (lineEvs rest)).st = rest.foldl (fun s q => (fwStep e s (linePt e q)).1) r.st
    ∧ (runFrom e store r (lineEvs rest)).panicked = false := by
  induction rest generalizing r with
  | nil => exact ⟨rfl, h⟩
  | cons q rest ih =>
    have hq : runFrom e store r (lineEvs (q :: rest))
        = runFrom e store (runFrom e store r [IdEv.line q.1 q.2]) (lineEvs rest) := rfl
    rw [hq, runFrom_line hfw store r h]
    exact ih _ h

theorem runLines {e : Env α} (hfw : e.o.varWidth = false) (store : Nat → List α) (rest : List (Nat × P α)) :
    ∀ r : Run α, r.panicked = false →
      ((lineEvs rest).foldl (fun r ev => if r.panicked then r else runEvent e store r ev) r).st
          = rest.foldl (fun s q => (fwStep e s (linePt e q)).1) r.st
      ∧ ((lineEvs rest).foldl (fun r ev => if r.panicked then r else runEvent e store r ev) r).panicked = false :=
  runFrom_lines hfw store rest

theorem run_begin (e : Env α) (store : Nat → List α) (r0 : Run α) (h0 : Idle r0) (i : Nat) (p : P α) :
    ∃ st1 : St α, runFrom e store r0 [IdEv.begin i p] = ⟨st1, i, p, false⟩
      ∧ WF st1.buf ∧ st1.buf.count = 1
      ∧ st1.buf.last = some (EP.mk' p (e.hwOf store i) r0.st.subPathStartAdvancement e.o.join (.endpoint i) false)
      ∧ st1.subPathStartAdvancement = r0.st.subPathStartAdvancement ∧ st1.out = r0.st.out
      ∧ st1.mayNeedEmptyCap = false := by
  obtain ⟨hp, hwf, hc0⟩ := h0
  obtain ⟨bb, hbb, hwfb, hcb, hlb, _⟩ :=
    hwf.push (EP.mk' p (e.hwOf store i) r0.st.subPathStartAdvancement e.o.join (.endpoint i) false)
  refine ⟨{ r0.st with mayNeedEmptyCap := false, buf := bb }, ?_, hwfb, by rw [hcb, hc0]; rfl, hlb, rfl, rfl, rfl⟩
  unfold runFrom
  simp only [List.foldl_cons, List.foldl_nil]
  rw [if_neg (by simp [hp])]
  show ({ r0 with st := (e.step { r0.st with mayNeedEmptyCap := false } _).1, curId := i, curPos := p } : Run α) = _
  rw [step_first e { r0.st with mayNeedEmptyCap := false } _ hc0, hp]
  show (⟨{ r0.st with mayNeedEmptyCap := false, buf := (r0.st.buf.push _).getD r0.st.buf }, i, p, false⟩ : Run α) = _
  rw [hbb]; rfl

theorem run_begin_g (e : Env α) (store : Nat → List α) (hfw : e.o.varWidth = false)
    (r0 : Run α) (h0 : Idle r0) (i0 : Nat) (p0 : P α) :
    ∃ st1 : St α, runFrom e store r0 [IdEv.begin i0 p0] = ⟨st1, i0, p0, false⟩
      ∧ WF st1.buf ∧ st1.buf.count = 1
      ∧ st1.buf.last = some (EP.mk' p0 e.hwFw r0.st.subPathStartAdvancement e.o.join (.endpoint i0) false)
      ∧ st1.subPathStartAdvancement = r0.st.subPathStartAdvancement ∧ st1.out = r0.st.out := by
  obtain ⟨st1, e1, hwf1, hc1, hl1, hs1, hout1, _⟩ := run_begin e store r0 h0 i0 p0
  rw [hwOf_fw hfw] at hl1
  exact ⟨st1, e1, hwf1, hc1, hl1, hs1, hout1⟩

/-- **the run of one polyline sub-path** (open or closed, any points) from any idle state, fixed width:
`begin` pushes the first point, every `line_to` is one `fixed_width_step_impl`, then `end(close)` -/
theorem runFrom_subpath (e : Env α) (store : Nat → List α) (hfw : e.o.varWidth = false)
    (r0 : Run α) (h0 : Idle r0) (i0 : Nat) (p0 : P α) (pts : List (Nat × P α)) (closed : Bool) :
    ∃ st1 : St α, WF st1.buf ∧ st1.buf.count = 1
      ∧ st1.buf.last = some (EP.mk' p0 e.hwFw r0.st.subPathStartAdvancement e.o.join (.endpoint i0) false)
      ∧ st1.subPathStartAdvancement = r0.st.subPathStartAdvancement ∧ st1.out = r0.st.out
      ∧ (runFrom e store r0 (IdEv.begin i0 p0 :: (lineEvs pts ++ [IdEv.end_ closed]))).st
          = endSub e (fwStep e) (pts.foldl (fun s q => (fwStep e s (linePt e q)).1) st1) closed
      ∧ Idle (runFrom e store r0 (IdEv.begin i0 p0 :: (lineEvs pts ++ [IdEv.end_ closed]))) := by
  obtain ⟨st1, e1, hwf1, hc1, hl1, hs1, hout1⟩ := run_begin_g e store hfw r0 h0 i0 p0
  obtain ⟨r1, r2⟩ := runFrom_lines hfw store pts ⟨st1, i0, p0, false⟩ rfl
  have hR : runFrom e store r0 (IdEv.begin i0 p0 :: (lineEvs pts ++ [IdEv.end_ closed]))
      = { runFrom e store ⟨st1, i0, p0, false⟩ (lineEvs pts) with
          st := endSub e (fwStep e) (runFrom e store ⟨st1, i0, p0, false⟩ (lineEvs pts)).st closed } := by
    show runFrom e store r0 ([IdEv.begin i0 p0] ++ (lineEvs pts ++ [IdEv.end_ closed])) = _
    rw [runFrom_append, e1, runFrom_append, runFrom_end hfw store _ r2]
  rw [hR]
  exact ⟨st1, hwf1, hc1, hl1, hs1, hout1, by rw [← r1], r2, wf_clear _, rfl⟩

/-- the first point as `begin` creates it at the start of a tessellation (advancement 0) and the
second point, after `fixed_width_step_impl` saw the second point -/
def firstPt (e : Env α) (i0 i1 : Nat) (p0 p1 : P α) : EP α :=
  (firstEdgeSetup (EP.mk' p0 e.hwFw zero e.o.join (.endpoint i0) false) (linePt e (i1, p1))).1
def secondPt (e : Env α) (i0 i1 : Nat) (p0 p1 : P α) : EP α :=
  (firstEdgeSetup (EP.mk' p0 e.hwFw zero e.o.join (.endpoint i0) false) (linePt e (i1, p1))).2

/-- the run up to the second point of the sub-path: nothing emitted yet, the window holds the first
point (side points of the first edge set) and the fresh second point -/
theorem run_two_points_x (e : Env α) (store : Nat → List α) (hfw : e.o.varWidth = false)
    (i0 i1 : Nat) (p0 p1 : P α) (hfar : pointsAreTooClose e.thr p0 p1 = false) :
    ∃ st2 : St α,
      [IdEv.begin i0 p0, IdEv.line i1 p1].foldl (fun r ev => if r.panicked then r else runEvent e store r ev)
          (⟨St.new, unset, nanP, false⟩ : Run α) = ⟨st2, i1, p1, false⟩
      ∧ WF st2.buf ∧ st2.buf.lastTwo = some (firstPt e i0 i1 p0 p1, secondPt e i0 i1 p0 p1)
      ∧ st2.buf.count = 2 ∧ st2.out = Out.empty 0 := by
  obtain ⟨st1, e1, hwf1, hc1, hl1, _, hout1⟩ := run_begin_g e store hfw _ idle_new i0 p0
  obtain ⟨b2, e2, hwf2, hc2, hlt2⟩ := fwStep_second (e := e) hwf1 hc1 hl1 (linePt e (i1, p1)) hfar
  refine ⟨{ st1 with buf := b2 }, ?_, hwf2, hlt2, hc2, hout1⟩
  show runFrom e store _ ([IdEv.begin i0 p0] ++ [IdEv.line i1 p1]) = _
  rw [runFrom_append, e1, runFrom_line hfw store _ rfl, e2]

/-- the run of a whole open sub-path at the start of a tessellation, split at the second point and at
`end` -/
theorem run_open_subpath_x (e : Env α) (store : Nat → List α) (hfw : e.o.varWidth = false)
    (i0 i1 : Nat) (p0 p1 : P α) (rest : List (Nat × P α)) (hfar : pointsAreTooClose e.thr p0 p1 = false) :
    ∃ st2 : St α, WF st2.buf ∧ st2.buf.lastTwo = some (firstPt e i0 i1 p0 p1, secondPt e i0 i1 p0 p1)
      ∧ st2.buf.count = 2 ∧ st2.out = Out.empty 0
      ∧ (runEvents e store (IdEv.begin i0 p0 :: IdEv.line i1 p1 :: (lineEvs rest ++ [IdEv.end_ false]))).st.out
        = (endWithCaps e { (rest.foldl (fun s q => (fwStep e s (linePt e q)).1) st2) with
            mayNeedEmptyCap := (rest.foldl (fun s q => (fwStep e s (linePt e q)).1) st2).mayNeedEmptyCap
              || (false && (rest.foldl (fun s q => (fwStep e s (linePt e q)).1) st2).buf.count == 1) }).out := by
  obtain ⟨st1, hwf1, hc1, hl1, _, hout1, hrun, _⟩ :=
    runFrom_subpath e store hfw _ idle_new i0 p0 ((i1, p1) :: rest) false
  obtain ⟨b2, e2, hwf2, hc2, hlt2⟩ := fwStep_second (e := e) hwf1 hc1 hl1 (linePt e (i1, p1)) hfar
  refine ⟨{ st1 with buf := b2 }, hwf2, hlt2, hc2, hout1, ?_⟩
  rw [runEvents_eq_runFrom]
  show (runFrom e store _ (IdEv.begin i0 p0 :: (lineEvs ((i1, p1) :: rest) ++ [IdEv.end_ false]))).st.out = _
  rw [hrun, List.foldl_cons, e2]
  simp [endSub_open]

/-- `run_open_subpath_x` with the two window entries described by what the `line_to` loop needs of them -/
theorem run_open_subpath (e : Env α) (store : Nat → List α) (hfw : e.o.varWidth = false)
    (i0 i1 : Nat) (p0 p1 : P α) (rest : List (Nat × P α)) (hfar : pointsAreTooClose e.thr p0 p1 = false) :
    ∃ (st2 : St α) (a b : EP α),
      WF st2.buf ∧ st2.buf.lastTwo = some (a, b) ∧ Fresh e b
      ∧ b.foldPos = false ∧ b.foldNeg = false ∧ a.foldPos = false ∧ a.foldNeg = false
      ∧ a.position = p0 ∧ b.position = p1 ∧ st2.buf.count = 2 ∧ st2.out = Out.empty 0
      ∧ (runEvents e store (IdEv.begin i0 p0 :: IdEv.line i1 p1 :: (lineEvs rest ++ [IdEv.end_ false]))).st.out
          = (endWithCaps e { (rest.foldl (fun s q => (fwStep e s (linePt e q)).1) st2) with
              mayNeedEmptyCap := (rest.foldl (fun s q => (fwStep e s (linePt e q)).1) st2).mayNeedEmptyCap
                || (false && (rest.foldl (fun s q => (fwStep e s (linePt e q)).1) st2).buf.count == 1) }).out := by
  obtain ⟨st2, hwf2, hab, hc2, hout, hrun⟩ := run_open_subpath_x e store hfw i0 i1 p0 p1 rest hfar
  exact ⟨st2, _, _, hwf2, hab, ⟨rfl, rfl, rfl, rfl, rfl⟩, rfl, rfl, rfl, rfl, rfl, rfl, hc2, hout, hrun⟩

end Loop

end Lyon.C05c
