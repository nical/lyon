/-
  A flattening is a chain of segments in points and in parameters: every segment starts where the previous one
  ended, the first at `(from, 0)`, the last ends at `(to, 1)` (`Chain`, `lastPt`, `lastT`), and its vertices are
  the curve's points at its parameters (`InteriorOn`, `EndsOn`). Each loop of Model/Geom/Flatten.lean
  (quadratic, cubic through its quadratics and `rerange`, arc) is walked once for that; a chain from `t` to `e`
  covers `[t, e]` (`chain_cover`), which is how every tolerance and checker theorem of C09 reaches all parameters.
  Also here, used by the C09 files: `le_of_listMax_le` (a bound on a running maximum bounds every element),
  `mul_strict_mono_of_sq_mono`, and the toy instances `toyTransc`, `toyConst`.
-/
import LyonVerif.Model.Geom.Flatten
import LyonVerif.Lemmas.Field
import LyonVerif.Props.C10

set_option linter.unusedSectionVars false

geom_all Lyon.Seg
geom_all Lyon.Quad
geom_all Lyon.Cubic
geom_all Lyon.Arc

namespace Lyon.Flat
open Lyon Scalar

section defs
variable {α : Type}

/-- the segments form a chain starting at point `p` and parameter `t`: every `from` is the
previous `to` (the first one is `p`), every range starts where the previous one ended
(the first one at `t`). -/
def Chain (p : P α) (t : α) : List (FlatSeg α) → Prop
  | [] => True
  | s :: r => s.a = p ∧ s.t0 = t ∧ Chain s.b s.t1 r

/-- end point of the last segment (`p` for the empty list) -/
def lastPt (p : P α) : List (FlatSeg α) → P α
  | [] => p
  | s :: r => lastPt s.b r

/-- end parameter of the last segment (`t` for the empty list) -/
def lastT (t : α) : List (FlatSeg α) → α
  | [] => t
  | s :: r => lastT s.t1 r

/-- every segment but the last ends at `f` of its end parameter -/
def InteriorOn (f : α → P α) : List (FlatSeg α) → Prop
  | [] => True
  | [_] => True
  | s :: r => s.b = f s.t1 ∧ InteriorOn f r

def EndsOn (f : α → P α) (l : List (FlatSeg α)) : Prop := ∀ s ∈ l, s.a = f s.t0 ∧ s.b = f s.t1

theorem interiorOn_of_ends (f : α → P α) (l : List (FlatSeg α)) (h : ∀ sg ∈ l, sg.b = f sg.t1) :
    InteriorOn f l := by
  induction l with
  | nil => trivial
  | cons s r ih =>
    cases r with
    | nil => trivial
    | cons y r2 => exact ⟨h s List.mem_cons_self, ih fun sg hsg => h sg (List.mem_cons_of_mem _ hsg)⟩

theorem chain_append {p : P α} {t : α} {l r : List (FlatSeg α)} (hl : Chain p t l)
    (hr : Chain (lastPt p l) (lastT t l) r) : Chain p t (l ++ r) := by
  induction l generalizing p t with
  | nil => simpa [lastPt, lastT] using hr
  | cons s l ih => exact ⟨hl.1, hl.2.1, ih hl.2.2 hr⟩

theorem lastPt_append (p : P α) (l r : List (FlatSeg α)) : lastPt p (l ++ r) = lastPt (lastPt p l) r := by
  induction l generalizing p with
  | nil => rfl
  | cons s l ih => exact ih s.b

theorem lastT_append (t : α) (l r : List (FlatSeg α)) : lastT t (l ++ r) = lastT (lastT t l) r := by
  induction l generalizing t with
  | nil => rfl
  | cons s l ih => exact ih s.t1
end defs
section quad_any
variable {α : Type} [Scalar α] [Transc α] [FlatConst α]

theorem quad_loop_structure (q : Quad α) (p : FlatParams α) (n : Nat) (i : α) (frm : P α) (tFrom : α) :
    Chain frm tFrom (q.flatLoop p n i frm tFrom)
    ∧ lastPt frm (q.flatLoop p n i frm tFrom) = q.b
    ∧ lastT tFrom (q.flatLoop p n i frm tFrom) = one
    ∧ InteriorOn q.sample (q.flatLoop p n i frm tFrom)
    ∧ (q.flatLoop p n i frm tFrom).length = n + 1 := by
  induction n generalizing i frm tFrom with
  | zero => simp [Quad.flatLoop, Chain, lastPt, lastT, InteriorOn]
  | succ n ih =>
    obtain ⟨h1, h2, h3, h4, h5⟩ := ih (i + one) (q.sample (p.tAt i)) (p.tAt i)
    refine ⟨⟨rfl, rfl, h1⟩, h2, h3, ?_, by simp [Quad.flatLoop, h5]⟩
    cases hl : q.flatLoop p n (i + one) (q.sample (p.tAt i)) (p.tAt i) with
    | nil => simp [hl] at h5
    | cons s r =>
      simp only [Quad.flatLoop, hl]
      exact ⟨rfl, by simpa [hl] using h4⟩

theorem quad_flat_structure (q : Quad α) (tol : α) (l : List (FlatSeg α))
    (h : q.forEachFlattenedWithT tol = some l) :
    l ≠ [] ∧ Chain q.a zero l ∧ lastPt q.a l = q.b ∧ lastT zero l = one ∧ InteriorOn q.sample l := by
  simp only [Quad.forEachFlattenedWithT, Option.map_eq_some_iff] at h
  obtain ⟨c, _, rfl⟩ := h
  obtain ⟨h1, h2, h3, h4, h5⟩ := quad_loop_structure q (FlatParams.new q tol) (c - 1) one q.a zero
  refine ⟨?_, h1, h2, h3, h4⟩
  intro hn
  rw [Quad.flatWith] at hn
  rw [hn] at h5
  simp at h5

/-- (`hone`: the scalar's `==` accepts `1 == 1`, as in every ordered field and in floats) -/
theorem rerange_structure (hone : ((one : α) == one) = true) (r0 len : α) (lastQuad : Bool)
    (l : List (FlatSeg α)) (p : P α) (t tFrom : α) (hc : Chain p t l) :
    Chain p tFrom (Cubic.rerange r0 len lastQuad l tFrom).1
    ∧ lastPt p (Cubic.rerange r0 len lastQuad l tFrom).1 = lastPt p l
    ∧ lastT tFrom (Cubic.rerange r0 len lastQuad l tFrom).1 = (Cubic.rerange r0 len lastQuad l tFrom).2
    ∧ ((Cubic.rerange r0 len lastQuad l tFrom).1 = [] ↔ l = [])
    ∧ (lastQuad = true → l ≠ [] → lastT t l = one → (Cubic.rerange r0 len lastQuad l tFrom).2 = one) := by
  induction l generalizing p t tFrom with
  | nil => simp [Cubic.rerange, Chain, lastPt, lastT]
  | cons s l ih =>
    obtain ⟨ha, ht, hrest⟩ := hc
    obtain ⟨h1, h2, h3, h4, h5⟩ := ih s.b s.t1
      (if (lastQuad && (s.t1 == one)) = true then one else s.t1 * len + r0) hrest
    refine ⟨⟨ha, rfl, h1⟩, h2, h3, by simp [Cubic.rerange], ?_⟩
    intro hq _ hlast
    cases l with
    | nil =>
      simp only [lastT] at hlast
      simp [Cubic.rerange, hq, hlast, hone]
    | cons s' l' =>
      exact h5 hq (by simp) hlast

theorem flatQuadsT_cons (tol : α) (q : Quad α) (r0 r1 : α) (rest : List (Quad α × α × α)) (tFrom : α)
    (l : List (FlatSeg α)) (h : Cubic.flatQuadsT tol ((q, r0, r1) :: rest) tFrom = some l) :
    ∃ lq lr, q.forEachFlattenedWithT tol = some lq
      ∧ Cubic.flatQuadsT tol rest (Cubic.rerange r0 (r1 - r0) (r1 == one) lq tFrom).2 = some lr
      ∧ l = (Cubic.rerange r0 (r1 - r0) (r1 == one) lq tFrom).1 ++ lr := by
  unfold Cubic.flatQuadsT at h
  split at h
  · cases h
  · rename_i lq hq
    cases hr : Cubic.flatQuadsT tol rest (Cubic.rerange r0 (r1 - r0) (r1 == one) lq tFrom).2 with
    | none => simp only [hr] at h; cases h
    | some lr =>
      simp only [hr, Option.some.injEq] at h
      exact ⟨lq, lr, hq, hr, h.symm⟩

theorem quadsLoop_last (c : Cubic α) (step : α) (n : Nat) (t0 : α) :
    ∃ init t', c.quadsLoop step n t0 = init ++ [((c.splitRange t' one).toQuadratic, t', one)] := by
  induction n generalizing t0 with
  | zero => exact ⟨[], t0, rfl⟩
  | succ n ih =>
    obtain ⟨init, t', h⟩ := ih (t0 + step)
    exact ⟨((c.splitRange t0 (t0 + step)).toQuadratic, t0, t0 + step) :: init, t',
      by simp only [Cubic.quadsLoop, h, List.cons_append]⟩

theorem lastPt_of_ne_nil (p p' : P α) (l : List (FlatSeg α)) (h : l ≠ []) : lastPt p l = lastPt p' l := by
  cases l with
  | nil => exact absurd rfl h
  | cons s r => rfl

theorem lastT_of_ne_nil {t t' : α} {l : List (FlatSeg α)} (h : l ≠ []) : lastT t l = lastT t' l := by
  cases l with
  | nil => exact absurd rfl h
  | cons s r => rfl

/-- whatever the quadratics are, the callbacks end where the LAST quadratic ends, at `t = 1` when its range
ends at 1 — for every scalar type -/
theorem flatQuadsT_last (hone : ((one : α) == one) = true) (tol : α) (qs : List (Quad α × α × α))
    (q : Quad α) (r0 : α) (p : P α) (tFrom : α) (l : List (FlatSeg α))
    (h : Cubic.flatQuadsT tol (qs ++ [(q, r0, one)]) tFrom = some l) :
    l ≠ [] ∧ lastPt p l = q.b ∧ lastT tFrom l = one := by
  induction qs generalizing p tFrom l with
  | nil =>
    obtain ⟨lq, lr, hf, hr, rfl⟩ := flatQuadsT_cons tol q r0 (one : α) [] tFrom l h
    cases Option.some.inj hr
    obtain ⟨lne, lch, llast, lt, _⟩ := quad_flat_structure q tol lq hf
    obtain ⟨_, g2, g3, g4, g5⟩ :=
      rerange_structure hone r0 (one - r0) ((one : α) == one) lq q.a zero tFrom lch
    have gne := fun hh => lne (g4.mp hh)
    rw [List.append_nil]
    exact ⟨gne, by rw [lastPt_of_ne_nil p q.a _ gne, g2, llast], by rw [g3]; exact g5 hone lne lt⟩
  | cons x rest ih =>
    obtain ⟨q', a0, a1⟩ := x
    obtain ⟨lq', lr, _, hr, rfl⟩ := flatQuadsT_cons tol q' a0 a1 _ tFrom l h
    obtain ⟨m1, m2, m3⟩ := ih (lastPt p (Cubic.rerange a0 (a1 - a0) (a1 == one) lq' tFrom).1) _ lr hr
    exact ⟨fun hh => m1 (List.append_eq_nil_iff.mp hh).2, by rw [lastPt_append, m2],
      by rw [lastT_append, lastT_of_ne_nil m1, m3]⟩

end quad_any

section arc_any
variable {α : Type} [Scalar α] [Transc α] [FlatConst α]

theorem arc_loop_structure (a : Arc α) (tol : α) (f : Nat) (iter : Arc α) (t0 : α) (frm : P α) :
    Chain frm t0 (a.flatLoop tol f iter t0 frm)
    ∧ lastPt frm (a.flatLoop tol f iter t0 frm) = a.toPt
    ∧ lastT t0 (a.flatLoop tol f iter t0 frm) = one
    ∧ a.flatLoop tol f iter t0 frm ≠ [] := by
  fun_induction Arc.flatLoop a tol f iter t0 frm with
  | case1 => simp [Chain, lastPt, lastT]
  | case2 => simp [Chain, lastPt, lastT]
  | case3 f iter t0 frm step hs iter' t1 pt ih =>
    obtain ⟨h1, h2, h3, _⟩ := ih
    exact ⟨⟨rfl, rfl, h1⟩, h2, h3, by simp⟩

/-- the state of the arc iterator (`arc::Flattened`, model `ArcIter`) after `n` calls of `next` -/
def arcIterRun : Nat → ArcIter α → ArcIter α
  | 0, s => s
  | n+1, s => arcIterRun n s.next.2

theorem arc_iter_next_to (s : ArcIter α) : s.next.2.to = s.to := by
  unfold ArcIter.next ArcIter.step
  by_cases hd : s.done = true
  · simp [hd]
  · by_cases he : one ≤ s.arc.flatteningStep s.tolerance <;> simp [hd, he]

theorem arc_iter_run_to (n : Nat) (s : ArcIter α) : (arcIterRun n s).to = s.to := by
  induction n generalizing s with
  | zero => rfl
  | succ n ih => rw [arcIterRun, ih, arc_iter_next_to]

end arc_any

variable {K : Type} [Field K] [LinearOrder K] [IsStrictOrderedRing K]

theorem le_of_listMax_le {β : Type} (f : β → K) (g : List β → K)
    (hcons : ∀ x r, g (x :: r) = Max.max (f x) (g r)) (l : List β) (b : K) (h : g l ≤ b) :
    ∀ x ∈ l, f x ≤ b := by
  induction l with
  | nil => intro x hx; cases hx
  | cons y r ih =>
    rw [hcons, max_le_iff] at h
    intro x hx
    rcases List.mem_cons.mp hx with rfl | hx
    · exact h.1
    · exact ih h.2 x hx

/-- the ranges need not be monotone -/
theorem chain_cover (p : P K) (t e : K) (l : List (FlatSeg K)) (hc : Chain p t l) (hne : l ≠ [])
    (hl : lastT t l = e) (x : K) (hx0 : t ≤ x) (hx1 : x ≤ e) :
    ∃ sg ∈ l, ∃ s : K, 0 ≤ s ∧ s ≤ 1 ∧ x = sg.t0 + s * (sg.t1 - sg.t0) := by
  induction l generalizing p t with
  | nil => exact absurd rfl hne
  | cons sg r ih =>
    obtain ⟨_, ht0, hrest⟩ := hc
    rcases le_or_gt x sg.t1 with hle | hgt
    · refine ⟨sg, List.mem_cons_self, ?_⟩
      rcases eq_or_lt_of_le hx0 with heq | hlt
      · exact ⟨0, le_refl _, zero_le_one, by rw [ht0, ← heq]; ring⟩
      · have hd : 0 < sg.t1 - sg.t0 := by rw [ht0]; exact sub_pos.mpr (hlt.trans_le hle)
        refine ⟨(x - sg.t0) / (sg.t1 - sg.t0), div_nonneg (by rw [ht0]; exact sub_nonneg.mpr hx0) hd.le, ?_, ?_⟩
        · rw [div_le_one hd]; exact sub_le_sub_right hle _
        · rw [div_mul_cancel₀ _ (ne_of_gt hd)]; ring
    · cases r with
      | nil => simp only [lastT] at hl; rw [hl] at hgt; exact absurd hx1 (not_le.mpr hgt)
      | cons y r2 =>
        obtain ⟨sg2, h2, h3⟩ := ih sg.b sg.t1 hrest (by simp) hl (le_of_lt hgt)
        exact ⟨sg2, List.mem_cons_of_mem _ h2, h3⟩

/-- `x ↦ x·g x` is strictly increasing when `g` is positive, even and non-decreasing in `|x|`
(`g u ≤ g v` whenever `u² ≤ v²`): compare through `x·g y` resp. `y·g x`, or through `0` -/
theorem mul_strict_mono_of_sq_mono (g : K → K) (hpos : ∀ z, 0 < g z)
    (hmono : ∀ u v, u * u ≤ v * v → g u ≤ g v) {x y : K} (hxy : x < y) : x * g x < y * g y := by
  rcases le_or_gt 0 x with hx | hx
  · exact (mul_le_mul_of_nonneg_left (hmono x y (mul_self_le_mul_self hx hxy.le)) hx).trans_lt
      (mul_lt_mul_of_pos_right hxy (hpos y))
  · rcases le_or_gt y 0 with hy | hy
    · have h1 := hmono y x (by linear_combination mul_self_le_mul_self (neg_nonneg.mpr hy) (neg_le_neg hxy.le))
      exact (mul_lt_mul_of_pos_right hxy (hpos x)).trans_le (mul_le_mul_of_nonpos_left h1 hy)
    · exact (mul_neg_of_neg_of_pos hx (hpos x)).trans (mul_pos hy (hpos y))

section cubic
variable [Transc K] [FlatConst K]

theorem one_beq_one : ((one : K) == one) = true := (sc_beq _ _).mpr rfl

/-- each quadratic of `for_each_quadratic_bezier_with_t` goes from `sample t0` to `sample t1`;
consecutive ones share parameter and point; the last one ends at parameter 1 -/
def QuadChain (c : Cubic K) : K → List (Quad K × K × K) → Prop
  | _, [] => True
  | t, (q, t0, t1) :: r => t0 = t ∧ q.a = c.sample t0 ∧ q.b = c.sample t1 ∧ QuadChain c t1 r

def lastR1 : K → List (Quad K × K × K) → K
  | t, [] => t
  | _, (_, _, t1) :: r => lastR1 t1 r

theorem cubic_quads_structure (c : Cubic K) (step : K) (n : Nat) (t0 : K) :
    QuadChain c t0 (c.quadsLoop step n t0) ∧ lastR1 t0 (c.quadsLoop step n t0) = one
    ∧ (c.quadsLoop step n t0).length = n + 1 := by
  induction n generalizing t0 with
  | zero =>
    refine ⟨⟨rfl, ?_, ?_, trivial⟩, rfl, rfl⟩ <;> simp [Cubic.splitRange, Cubic.toQuadratic]
  | succ n ih =>
    obtain ⟨h1, h2, h3⟩ := ih (t0 + step)
    refine ⟨⟨rfl, ?_, ?_, h1⟩, h2, by simp [Cubic.quadsLoop, h3]⟩ <;>
      simp [Cubic.splitRange, Cubic.toQuadratic]

/-- a piece as the chord over its range -/
def pieceSeg (p : Quad K × K × K) : FlatSeg K := ⟨p.1.a, p.1.b, p.2.1, p.2.2⟩

theorem quadChain_chain (c : Cubic K) (t : K) (qs : List (Quad K × K × K)) (h : QuadChain c t qs) :
    Chain (c.sample t) t (qs.map pieceSeg) ∧ lastT t (qs.map pieceSeg) = lastR1 t qs := by
  induction qs generalizing t with
  | nil => exact ⟨trivial, rfl⟩
  | cons x r ih =>
    obtain ⟨q, t0, t1⟩ := x
    obtain ⟨h0, ha, hb, hr⟩ := h
    obtain ⟨i1, i2⟩ := ih t1 hr
    exact ⟨⟨h0 ▸ ha, h0, (show (pieceSeg (q, t0, t1)).b = c.sample t1 from hb) ▸ i1⟩, i2⟩

/-- the chain alone: no hypothesis on where the pieces end, no split on the last piece -/
theorem cubic_flat_chain (c : Cubic K) (tol : K) (qs : List (Quad K × K × K)) (t tFrom : K)
    (hq : QuadChain c t qs) (l : List (FlatSeg K)) (h : Cubic.flatQuadsT tol qs tFrom = some l) :
    Chain (c.sample t) tFrom l := by
  induction qs generalizing t tFrom l with
  | nil => cases Option.some.inj h; trivial
  | cons x rest ih =>
    obtain ⟨q, r0, r1⟩ := x
    obtain ⟨h0, hqa, hqb, hrest⟩ := hq
    subst h0
    obtain ⟨lq, lr, hf, hr, rfl⟩ := flatQuadsT_cons tol q r0 r1 rest tFrom l h
    obtain ⟨_, lch, llast, _, _⟩ := quad_flat_structure q tol lq hf
    obtain ⟨g1, g2, g3, _, _⟩ := rerange_structure one_beq_one r0 (r1 - r0) (r1 == one) lq q.a zero tFrom lch
    rw [llast, hqb] at g2
    rw [hqa] at g1 g2
    exact chain_append g1 (by rw [g2, g3]; exact ih r1 _ hrest lr hr)

theorem cubic_flat_tiles (c : Cubic K) (tol : K) (l : List (FlatSeg K))
    (h : c.forEachFlattenedWithT tol = some l) :
    l ≠ [] ∧ Chain c.a 0 l ∧ lastPt c.a l = c.b ∧ lastT 0 l = 1 := by
  simp only [Cubic.forEachFlattenedWithT, Cubic.forEachQuadraticWithT] at h
  have g1 := cubic_flat_chain c _ _ zero zero (cubic_quads_structure c _ _ zero).1 l h
  obtain ⟨init, t', hq⟩ := quadsLoop_last c (one / c.numQuadraticsImpl (tol * FlatConst.value 4 1))
    ((toU32 (c.numQuadraticsImpl (tol * FlatConst.value 4 1))).getD 1 - 1) zero
  rw [hq] at h
  obtain ⟨hne, hb, ht⟩ := flatQuadsT_last one_beq_one _ _ _ _ c.a _ l h
  rw [sc_zero_eq, C10.cubic_sample_zero] at g1
  refine ⟨hne, g1, hb.trans ?_, sc_zero_eq (K := K) ▸ ht.trans sc_one_eq⟩
  simp only [Cubic.splitRange, Cubic.toQuadratic, sc_one_eq, C10.cubic_sample_one]

theorem quad_flat_tiles (q : Quad K) (tol : K) (l : List (FlatSeg K))
    (h : q.forEachFlattenedWithT tol = some l) :
    l ≠ [] ∧ Chain q.a 0 l ∧ lastPt q.a l = q.b ∧ lastT 0 l = 1 := by
  obtain ⟨h1, h2, h3, h4, _⟩ := quad_flat_structure q tol l h
  rw [sc_zero_eq] at h2 h4
  exact ⟨h1, h2, h3, (sc_one_eq (K := K)) ▸ h4⟩

theorem quad_loop_ends_on (q : Quad K) (p : FlatParams K) (n : Nat) (i : K) (frm : P K) (tFrom : K)
    (hf : frm = q.sample tFrom) : EndsOn q.sample (q.flatLoop p n i frm tFrom) := by
  induction n generalizing i frm tFrom with
  | zero =>
    intro s hs
    simp only [Quad.flatLoop, List.mem_singleton] at hs
    subst hs
    exact ⟨hf, by rw [sc_one_eq, (C10.quad_sample_ends q).2]⟩
  | succ n ih =>
    intro s hs
    simp only [Quad.flatLoop, List.mem_cons] at hs
    rcases hs with rfl | hs
    · exact ⟨hf, rfl⟩
    · exact ih _ _ _ rfl s hs

theorem quad_flat_ends_on (q : Quad K) (tol : K) (l : List (FlatSeg K))
    (h : q.forEachFlattenedWithT tol = some l) : EndsOn q.sample l := by
  simp only [Quad.forEachFlattenedWithT, Option.map_eq_some_iff] at h
  obtain ⟨c, _, rfl⟩ := h
  exact quad_loop_ends_on q _ _ _ _ _ (by rw [sc_zero_eq, (C10.quad_sample_ends q).1])

end cubic

section arc
variable [Transc K] [FlatConst K]

/-- invariant of the arc loop: the remaining arc is the original one from parameter `t0` on -/
def ArcInv (a iter : Arc K) (t0 : K) : Prop :=
  iter.center = a.center ∧ iter.radii = a.radii ∧ iter.xrot = a.xrot
  ∧ iter.start = a.start + a.sweep * t0 ∧ iter.sweep = a.sweep * (1 - t0)

theorem arc_inv_step (a iter : Arc K) (t0 step : K) (h : ArcInv a iter t0) :
    ArcInv a (iter.afterSplit step) (t0 + step * (one - t0))
    ∧ (iter.afterSplit step).fromPt = a.sample (t0 + step * (one - t0)) := by
  obtain ⟨h1, h2, h3, h4, h5⟩ := h
  refine ⟨⟨h1, h2, h3, ?_, ?_⟩, ?_⟩
  · simp only [Arc.afterSplit, h4, h5, sc_one_eq]; ring
  · simp only [Arc.afterSplit, h4, h5, sc_one_eq]; ring
  · simp only [Arc.fromPt, Arc.sample, Arc.afterSplit, Arc.getAngle, h1, h2, h3, h4, h5, sc_one_eq, sc_zero_eq]
    congr 2; ring

theorem arc_inv_init (a : Arc K) : ArcInv a a 0 := by
  refine ⟨rfl, rfl, rfl, ?_, ?_⟩ <;> ring

/-- whatever the fuel and the tolerance, every segment of the arc loop runs from `sample t0` to `sample t1`
(the last one ends at `to() = sample 1`) -/
theorem arc_loop_ends_on (a : Arc K) (tol : K) (f : Nat) (iter : Arc K) (t0 : K) (frm : P K)
    (h : ArcInv a iter t0) (hfrm : frm = a.sample t0) : EndsOn a.sample (a.flatLoop tol f iter t0 frm) := by
  fun_induction Arc.flatLoop a tol f iter t0 frm with
  | case1 => intro sg hsg; rw [List.mem_singleton.mp hsg]; exact ⟨hfrm, rfl⟩
  | case2 => intro sg hsg; rw [List.mem_singleton.mp hsg]; exact ⟨hfrm, rfl⟩
  | case3 f iter t0 frm step hs iter' t1 pt ih =>
    obtain ⟨hi, hp⟩ := arc_inv_step a iter t0 step h
    intro sg hsg
    rcases List.mem_cons.mp hsg with rfl | hsg
    · exact ⟨hfrm, hp⟩
    · exact ih hi hp sg hsg

theorem arc_flat_tiles (a : Arc K) (tol : K) (fuel : Nat) :
    a.forEachFlattenedWithT tol fuel ≠ [] ∧ Chain a.fromPt 0 (a.forEachFlattenedWithT tol fuel)
    ∧ lastPt a.fromPt (a.forEachFlattenedWithT tol fuel) = a.toPt
    ∧ lastT 0 (a.forEachFlattenedWithT tol fuel) = 1 := by
  obtain ⟨h1, h2, h3, h4⟩ := arc_loop_structure a tol fuel a zero a.fromPt
  rw [← Arc.forEachFlattenedWithT] at h1 h2 h3 h4
  generalize a.forEachFlattenedWithT tol fuel = l at h1 h2 h3 h4 ⊢
  rw [sc_zero_eq] at h1 h3
  exact ⟨h4, h1, h2, h3.trans sc_one⟩

theorem arc_flat_ends_on (a : Arc K) (tol : K) (fuel : Nat) :
    EndsOn a.sample (a.forEachFlattenedWithT tol fuel) := by
  rw [Arc.forEachFlattenedWithT, sc_zero_eq]
  exact arc_loop_ends_on a tol fuel a 0 a.fromPt (arc_inv_init a) (by rw [Arc.fromPt, sc_zero_eq])

end arc

/-- a toy instance of the non-field functions, used only to show that the hypothesis
`… = some l` of the structural theorems is satisfiable on a concrete curve -/
@[instance_reducible] def toyTransc : Transc ℚ :=
  { sqrt := fun x => Max.max x 0, cbrt := id, sin := id, cos := id, tan := id, acos := id,
    atan2 := fun a _ => a, pow := fun a _ => a, log2 := id, ln := id, floor := id, ceil := id,
    toNat := fun _ => 0, fmod := fun a _ => a, eps := 0, pi := 3, isNaN := fun _ => false,
    isFinite := fun _ => true }
@[instance_reducible] def toyConst : FlatConst ℚ := ⟨1 / 10000, fun m e => (m : ℚ) / 10 ^ e, (67 / 100) ^ 4⟩

end Lyon.Flat
