/-
  Index validity for the complete stroker model: the arithmetic facts `LinkReg`
  (`Lemmas/StrokeIdxClipRun.lean`) over a linearly ordered field, `LineJoin::MiterClip` included.

  * `SLink thr p a b q` (strong link): `a + b − 2p = −s·(q − p)` with `s ≥ 0` and `|q − p|² ≥ thr`:
    the two `next` side points of an endpoint at `p` are symmetric about `p` up to a shift BACKWARDS
    along the edge towards the following point `q`.  `WLink` (`Lemmas/StrokeIdxField.lean`):
    `(q − p)·(a + b − 2p) ≤ 0`, which is what `noskip_field` needs.
  * `linkLaw_field`: `SLink → WLink`, and `SLink` towards `q` gives `WLink` towards every `q'` within
    merge distance of `q` (used by the position fix-up of `close`).
  * `joinFw_field`: `compute_join_side_positions_fixed_width` establishes `SLink` — trivially
    (`s = 0`) except for the clipped front side of a `MiterClip` join, which lies BEHIND the join along
    the next edge (`clip_front`, `Lemmas/StrokeIdxClipGeo.lean`).
    Hypotheses (`ClipHyp`): `sqrt x ≥ 0`, `sqrt x · sqrt x = x` for `x ≥ 0`; the intersection routine
    is `Line::intersection` with determinant guard `eps ≥ 0` (exact, no f64 round trip);
    `line_width ≥ 0` (for a negative width the picture is point-reflected and the clipped point lies
    ahead); `miter_limit ≥ 1` (for a smaller limit the clip line cuts the side line AHEAD of the join
    and `flattened_step` does skip: observed on the real tessellator); merge threshold `> 0`.
    (With the fall-back lyon had before /repo fix ede203df, see `clip_fallback`, the theorem needs `line_width > 2·eps`.)
-/
import LyonVerif.Lemmas.StrokeIdxClipRun
import LyonVerif.Lemmas.StrokeIdxField
import LyonVerif.Lemmas.StrokeIdxClipGeo

set_option linter.unusedSectionVars false

namespace Lyon.C05c
open Lyon Scalar Lyon.Stroke Lyon.Stroke.Full Lyon.C05 Lyon.C05b
open Lyon.StrokeQuad (Ix clipIntersections lineIntersection lineIxPoint)

section Field
variable {K : Type} [Field K] [LinearOrder K] [IsStrictOrderedRing K]

/-- `a + b − 2p = −s·(q − p)` with `s ≥ 0`, and `|q − p|² ≥ thr` -/
def SLink (thr : K) (p a b q : P K) : Prop :=
  ∃ s : K, 0 ≤ s ∧ a.x + b.x - p.x - p.x = -(s * (q.x - p.x)) ∧ a.y + b.y - p.y - p.y = -(s * (q.y - p.y))
    ∧ thr ≤ (q.x - p.x) * (q.x - p.x) + (q.y - p.y) * (q.y - p.y)

theorem linkLaw_field (thr : K) : LinkLaw thr (SLink thr) WLink where
  weaken := by
    intro p a b q ⟨s, hs, hx, hy, _⟩
    unfold WLink
    rw [hx, hy]
    have := mul_nonneg hs (add_nonneg (mul_self_nonneg (q.x - p.x)) (mul_self_nonneg (q.y - p.y)))
    linarith
  fix := by
    intro p a b q q' ⟨s, hs, hx, hy, hfar⟩ hclose
    rw [tooClose_true_iff] at hclose
    unfold WLink
    rw [hx, hy]
    -- polarisation: 2 (q'−p)·(q−p) = |q−p|² + |q'−p|² − |q−q'|² ≥ |q−p|² − |q−q'|² > 0
    have key : 0 ≤ (q'.x - p.x) * (q.x - p.x) + (q'.y - p.y) * (q.y - p.y) := by
      linarith [mul_self_nonneg (q'.x - p.x), mul_self_nonneg (q'.y - p.y)]
    have := mul_nonneg hs key
    linarith

/-- `a + b − 2p = lam·t` with `lam ≤ 0` and `t` the unit vector towards `q` gives `SLink`; `slink_of_sym` and the two clipped
branches of `joinFw_field` end here -/
theorem slink_of_behind (thr : K) (p a b q t : P K) (lam l : K) (hlam : lam ≤ 0) (hl : 0 < l)
    (ht : t = (q - p).sdiv l)
    (hx : a.x + b.x - p.x - p.x = lam * t.x) (hy : a.y + b.y - p.y - p.y = lam * t.y)
    (hfar : pointsAreTooClose thr p q = false) : SLink thr p a b q := by
  rw [tooClose_false_iff] at hfar
  subst ht
  simp only [geom] at hx hy
  exact ⟨-lam / l, div_nonneg (neg_nonneg.mpr hlam) hl.le, by rw [hx]; ring, by rw [hy]; ring, by linarith⟩

theorem slink_of_sym (thr : K) (p a b q : P K) (h : Sym p a b)
    (hfar : pointsAreTooClose thr p q = false) : SLink thr p a b q :=
  slink_of_behind thr p a b q _ 0 1 le_rfl one_pos rfl (by linear_combination h.1) (by linear_combination h.2) hfar

variable [Transc K]

theorem first_field (thr : K) (first next : EP K)
    (hfar : pointsAreTooClose thr first.position next.position = false) :
    LK (SLink thr) (firstEdgeSetup first next).1 next.position :=
  slink_of_sym _ _ _ _ _ (first_sym first next) hfar

theorem flat_field (thr : K) (prev join next : EP K) (d : VData K) (o : Out K)
    (hfar : pointsAreTooClose thr join.position next.position = false) :
    LK (SLink thr) (flattenedStep prev join next d o).join next.position := by
  obtain ⟨N, ⟨h1, _, _⟩, _⟩ := flattenedStep_geo prev join next d o
  exact slink_of_sym _ _ _ _ _ (flat_sym prev join next d o) (by rw [h1]; exact hfar)

/-- the hypotheses under which (R1) of `Props/C05c.lean` holds with `LineJoin::MiterClip` and a fixed width: the laws of
`sqrt`, the exact line intersection with lyon's determinant guard `eps`, a non-negative line width,
`miter_limit ≥ 1`, a positive merge threshold -/
structure ClipHyp (e : Env K) (eps : K) : Prop where
  sqrt_nonneg : ∀ x : K, 0 ≤ x → 0 ≤ Transc.sqrt x
  sqrt_sq : ∀ x : K, 0 ≤ x → Transc.sqrt x * Transc.sqrt x = x
  ix_eq : e.ix = lineIntersection eps
  eps_nonneg : 0 ≤ eps
  width : 0 ≤ e.o.lineWidth
  limit : 1 ≤ e.o.miterLimit
  thr_pos : 0 < e.thr

/-- `clip_front` for the tangents the model computes: the clipped front side of a `MiterClip` join whose miter limit is
exceeded, in terms of the numbers `g = fwGeo …` derives (`sg = ∓1`: the front side is the negative / positive one): the clipped point
`c.2` and the opposite unclipped offset add up to `lam·nt`, `lam ≤ 0` -/
theorem clipped_front {e : Env K} {eps : K} (h : ClipHyp e eps) (hw : K) (hhw : 0 ≤ hw) (p0 j q a fn : P K)
    (hfar : 0 < (q - j).sqLen) (sg : K) (hsg : sg * sg = 1)
    (hturn : sg * ((j - p0).sdiv (len (j - p0))).cross ((q - j).sdiv (len (q - j))) ≤ 0)
    (hfn : fn = (computeNormal ((j - p0).sdiv (len (j - p0))) ((q - j).sdiv (len (q - j)))).smul sg)
    (hex : miterLimitIsExceeded fn e.o.miterLimit = true) :
    ∃ lam : K, lam ≤ 0 ∧
      (clipIntersections e.ix a ((perp ((q - j).sdiv (len (q - j)))).smul (sg * hw)) fn (e.o.miterLimit * hw)).2
        = (perp ((q - j).sdiv (len (q - j)))).smul (sg * hw) + ((q - j).sdiv (len (q - j))).smul lam := by
  obtain ⟨_, hnt⟩ := sdiv_unit h.sqrt_nonneg h.sqrt_sq _ hfar
  generalize (q - j).sdiv (len (q - j)) = nt at hturn hfn hnt ⊢
  have hexc : (computeNormal ((j - p0).sdiv (len (j - p0))) nt).sqLen > e.o.miterLimit * e.o.miterLimit * 4 := by
    have := (C05.miter_limit_iff _ _).mp hex
    rw [hfn, sqLen_smul_sign _ hsg] at this
    linarith
  -- the previous edge is not degenerate (else the normal is 0 and no limit is exceeded)
  have hE0 : 0 < (j - p0).sqLen := by
    refine lt_of_le_of_ne (P.sqLen_nonneg _) fun hz => ?_
    obtain ⟨hx, hy⟩ := mul_self_add_mul_self_eq_zero.mp hz.symm
    have : (j - p0).sdiv (len (j - p0)) = ⟨0, 0⟩ := by
      apply P.ext' <;> simp only [geom] at hx hy ⊢ <;> simp only [hx, hy, zero_div]
    rw [this, computeNormal_zero_left] at hexc
    linarith [one_le_mul_of_one_le_of_one_le h.limit h.limit]
  obtain ⟨_, hpt⟩ := sdiv_unit h.sqrt_nonneg h.sqrt_sq _ hE0
  rw [h.ix_eq, hfn]
  exact clip_front h.sqrt_nonneg h.sqrt_sq eps hw e.o.miterLimit h.eps_nonneg hhw h.limit _ nt hpt hnt a sg hsg hturn hexc

theorem joinFw_field {e : Env K} {eps : K} (h : ClipHyp e eps) (prev join next : EP K)
    (hw0 : 0 ≤ join.halfWidth)
    (hfar : pointsAreTooClose e.thr join.position next.position = false) :
    LK (SLink e.thr) (joinSidesFw e.ix prev join next e.o.miterLimit join.halfWidth) next.position := by
  obtain ⟨hp, hn⟩ := joinSidesFw_nexts e.ix prev join next e.o.miterLimit join.halfWidth
  obtain ⟨ept, ent, enrm, eneg, efn, eun⟩ := fwGeo_fields prev join next e.o.miterLimit join.halfWidth
  unfold LK
  rw [(joinSidesFw_upd e.ix prev join next e.o.miterLimit join.halfWidth).pos, hp, hn]
  generalize fwGeo prev join next e.o.miterLimit join.halfWidth = g at ept ent enrm eneg efn eun
  by_cases hc : g.fold = false ∧ g.unclipped = false ∧ join.lineJoin = .miterClip
  swap
  · rw [if_neg fun h => hc h.1, if_neg fun h => hc h.1]
    exact slink_of_sym _ _ _ _ _ (sym_add_sub _ _) hfar
  -- the clipped front side
  have hE : 0 < (next.position - join.position).sqLen :=
    (apart_ne h.thr_pos ((tooClose_false_iff _ _ _).mp hfar)).2
  have hlen := (sdiv_unit h.sqrt_nonneg h.sqrt_sq _ hE).1
  have hex : miterLimitIsExceeded g.frontNormal e.o.miterLimit = true := by
    rw [eun, hc.2.2] at hc
    simpa using hc.2.1
  rw [enrm, ept, ent] at efn
  rw [ept, ent] at eneg
  cases hf : g.frontNeg
  · -- right turn: the front side is the positive one
    rw [hf] at efn eneg
    obtain ⟨lam, hl0, hcl⟩ := clipped_front h join.halfWidth hw0 prev.position join.position next.position
      ((join.position + (perp g.pt).smul join.halfWidth) - join.position) g.frontNormal hE 1 (one_mul 1)
      (by rw [one_mul]; exact le_of_lt (by simpa only [geom, Nat.cast_zero, not_le] using of_decide_eq_false eneg.symm))
      (by rw [efn]; apply P.ext' <;> simp only [geom] <;> simp) hex
    have eb : (join.position + (perp g.nt).smul join.halfWidth) - join.position
        = (perp ((next.position - join.position).sdiv (len (next.position - join.position)))).smul
            (1 * join.halfWidth) := by
      rw [ent]; apply P.ext' <;> simp only [geom] <;> ring
    rw [if_pos ⟨hc, rfl⟩, if_neg (fun h => Bool.noConfusion h.2), eb, hcl]
    refine slink_of_behind _ _ _ _ _ _ lam _ hl0 hlen rfl ?_ ?_ hfar <;>
      (rw [ent]; simp only [perp, geom]; ring)
  · -- left turn: the front side is the negative one
    rw [hf] at efn eneg
    obtain ⟨lam, hl0, hcl⟩ := clipped_front h join.halfWidth hw0 prev.position join.position next.position
      ((join.position - (perp g.pt).smul join.halfWidth) - join.position) g.frontNormal hE (-1) (by ring)
      (by have := of_decide_eq_true eneg.symm; simp only [geom, Nat.cast_zero] at this ⊢; linarith)
      (by rw [efn]; apply P.ext' <;> simp only [geom] <;> simp) hex
    have eb : (join.position - (perp g.nt).smul join.halfWidth) - join.position
        = (perp ((next.position - join.position).sdiv (len (next.position - join.position)))).smul
            (-1 * join.halfWidth) := by
      rw [ent]; apply P.ext' <;> simp only [geom] <;> ring
    rw [if_neg (fun h => Bool.noConfusion h.2), if_pos ⟨hc, rfl⟩, eb, hcl]
    refine slink_of_behind _ _ _ _ _ _ lam _ hl0 hlen rfl ?_ ?_ hfar <;>
      (rw [ent]; simp only [perp, geom]; ring)

variable [Asin K] [FlatConst K]

/-- **(R1) of `Props/C05c.lean` with `LineJoin::MiterClip`** (and every other join), fixed width, over an ordered field
under `ClipHyp`: the arithmetic facts of the linked window invariant -/
theorem linkReg_field {e : Env K} {eps : K} (h : ClipHyp e eps) (store : Nat → List K) (ids : List Nat)
    (hfw : e.o.varWidth = false) :
    LinkReg e (stdCls e store ids (fun _ _ => True) (fun _ _ h => h)) (SLink e.thr) WLink where
  law := linkLaw_field e.thr
  first := first_field e.thr
  joinFw := fun prev join next hF hfar => joinFw_field h prev join next
    (by rw [hF.1.2.1 hfw, show (half : K) = 1 / 2 from sc_half]; linarith [h.width]) hfar
  flat := flat_field e.thr
  noskip := fun prev join next d o hW _ => noskip_field prev join next d o hW

end Field

end Lyon.C05c
