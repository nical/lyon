/-
  Behind C08 (reset discipline).  A field that a reset leaves stale is harmless if it is read only under a guard
  that opens after the field has been written: two states that agree except on such a field (`AdvSim` for the
  `prev` of the pooled monotone tessellator's sides, `QBSim` for `prev` / `second` of the event-queue builder) stay
  so related through every operation and give the same output.  The recycled attribute buffer is read through its
  length only (`interp_fresh`).  `Discipline` is the general shape: a prologue after which any two states agree on
  whatever the rest of the call reads; then the output of a call does not depend on the history (`Stateless`).
  `feed` is `Lyon.Reset.feed` (the caller gives the ids); `C02.feed` and `C02c.afeed` count the ids themselves and no
  lemma relates them to it, so the C02 results do not speak of the pooled tessellator of this file.
-/
import LyonVerif.Model.Tess.Reset
import LyonVerif.Lemmas.MonotoneAdvWalk

set_option linter.unusedSectionVars false
set_option linter.unusedSimpArgs false

namespace Lyon.C08
open Lyon Lyon.Mono Lyon.Reset Scalar Lyon.C02c

/-- A small integer scalar, used only to evaluate the models in `decide`d witnesses (`x / y` is
integer division; decimal literals are truncated). -/
structure Int' where
  v : Int
deriving DecidableEq, Repr

instance : Scalar Int' where
  add a b := ⟨a.v + b.v⟩
  sub a b := ⟨a.v - b.v⟩
  mul a b := ⟨a.v * b.v⟩
  div a b := ⟨a.v / b.v⟩
  neg a := ⟨-a.v⟩
  lt a b := a.v < b.v
  le a b := a.v ≤ b.v
  beq a b := a.v == b.v
  ofNat n := ⟨n⟩
  ofSci m e := ⟨m / 10 ^ e⟩
  dlt := fun a b => inferInstanceAs (Decidable (a.v < b.v))
  dle := fun a b => inferInstanceAs (Decidable (a.v ≤ b.v))
  abs a := ⟨a.v.natAbs⟩
  min a b := if a.v ≤ b.v then a else b
  max a b := if a.v ≤ b.v then b else a

variable {α : Type} [Scalar α]

/-! ## The monotone tessellator

`SideEvents::prev` is the one field `begin` leaves stale (`push` copies the OLD `last.pos` into it).
It is read in one place, `vertex`'s outward-turn test, under `len >= 2`. -/

/-- two side states agree on everything except a `prev` that cannot be read yet -/
def SideSim (a b : SideEv α) : Prop :=
  a.refPt = b.refPt ∧ a.consRefX = b.consRefX ∧ a.events = b.events ∧ a.last = b.last ∧
    (2 ≤ a.events.length → a.prev = b.prev)

def AdvSim (s t : Adv α) : Prop := s.tess = t.tess ∧ SideSim s.left t.left ∧ SideSim s.right t.right

theorem SideSim.refl (a : SideEv α) : SideSim a a := ⟨rfl, rfl, rfl, rfl, fun _ => rfl⟩
theorem AdvSim.refl (s : Adv α) : AdvSim s s := ⟨rfl, SideSim.refl _, SideSim.refl _⟩

theorem flushSide_sim (a b : SideEv α) (r : Bool) (h : SideSim a b) :
    (flushSide a r).2 = (flushSide b r).2 ∧ SideSim (flushSide a r).1 (flushSide b r).1 := by
  obtain ⟨h1, h2, h3, h4, h5⟩ := h
  unfold flushSide
  simp only [h3, h4]
  by_cases hl : b.events.length < 2
  · simp only [hl, if_true]
    exact ⟨trivial, h1, h2, h3, h4, fun h => absurd h (by rw [h3]; omega)⟩
  · simp only [hl, if_false]
    exact ⟨trivial, rfl, h2, rfl, rfl, fun _ => rfl⟩

theorem push_sim (a b : SideEv α) (v : MV α) (h : SideSim a b) : SideSim (a.push v) (b.push v) := by
  obtain ⟨h1, h2, h3, h4, h5⟩ := h
  exact ⟨h1, h2, by simp [SideEv.push, h3], rfl, fun _ => by simp [SideEv.push, h4]⟩

/-! The simulation goes through `Adv.vertex` piece by piece (`vertex'`, `stepSides`, `flushOpp`, `flushOwn`, `reRef` of
`Lemmas/MonotoneAdvWalk.lean`); on the unfolded function `flushSide` occurs a dozen times under tuple matches. -/

theorem reRef_sim (a b : SideEv α) (p : P α) (l : Bool) (h : SideSim a b) : SideSim (reRef a p l) (reRef b p l) := by
  obtain ⟨h1, h2, h3, h4, h5⟩ := h
  exact ⟨by simp [reRef, h1], h2, h3, h4, h5⟩

def TripSim (x y : Trip α) : Prop := x.1 = y.1 ∧ SideSim x.2.1 y.2.1 ∧ SideSim x.2.2 y.2.2

theorem outwardTurn_sim (a b : SideEv α) (p : P α) (l close : Bool) (h : SideSim a b) :
    outwardTurn a p l close = outwardTurn b p l close := by
  obtain ⟨h1, h2, h3, h4, h5⟩ := h
  unfold outwardTurn
  by_cases hl : 2 ≤ a.events.length
  · rw [h5 hl, h4, h3]
  · have hl' : ¬ 2 ≤ b.events.length := by rw [← h3]; exact hl
    simp [hl, hl']

theorem flushOpp_sim (tess : Basic α) (a b c d : SideEv α) (l : Bool) (h1 : SideSim a b) (h2 : SideSim c d) :
    TripSim (flushOpp tess a c l) (flushOpp tess b d l) := by
  obtain ⟨e, hs⟩ := flushSide_sim c d l h2
  unfold flushOpp
  rw [e]
  cases (flushSide d l).2.2 with
  | none => exact ⟨rfl, h1, h2⟩
  | some mv =>
    obtain ⟨g1, g2, g3, g4, g5⟩ := h1
    exact ⟨rfl, ⟨g1, by simp [g1], g3, g4, g5⟩, hs⟩

theorem flushOwn_sim (tess : Basic α) (a b c d : SideEv α) (p : P α) (l : Bool) (h1 : SideSim a b) (h2 : SideSim c d) :
    TripSim (flushOwn tess a c p l) (flushOwn tess b d p l) := by
  obtain ⟨e, hs⟩ := flushSide_sim a b (!l) h1
  unfold flushOwn
  rw [e]
  cases (flushSide b (!l)).2.2 with
  | none => exact ⟨rfl, h1, h2⟩
  | some mv =>
    obtain ⟨g1, g2, g3, g4, g5⟩ := h2
    exact ⟨rfl, reRef_sim _ _ p l hs, ⟨g1, by simp [g1], g3, g4, g5⟩⟩

theorem stepSides_sim (tess : Basic α) (a b c d : SideEv α) (dx : α) (p : P α) (id : Nat) (l : Bool)
    (h1 : SideSim a b) (h2 : SideSim c d) :
    TripSim (stepSides tess a c dx p id l) (stepSides tess b d dx p id l) := by
  unfold stepSides
  simp only [h1.1, h1.2.2.2.1, h2.2.2.2.1, fun close => outwardTurn_sim a b p l close h1]
  have hr1 : TripSim (if isAfter b.last.pos d.last.pos then flushOpp tess a c l else (tess, a, c))
      (if isAfter b.last.pos d.last.pos then flushOpp tess b d l else (tess, b, d)) := by
    split
    · exact flushOpp_sim tess a b c d l h1 h2
    · exact ⟨rfl, h1, h2⟩
  generalize (if isAfter b.last.pos d.last.pos then flushOpp tess a c l else (tess, a, c)) = x at hr1
  generalize (if isAfter b.last.pos d.last.pos then flushOpp tess b d l else (tess, b, d)) = y at hr1
  obtain ⟨e1, e2, e3⟩ := hr1
  split
  · have := flushOwn_sim y.1 x.2.1 y.2.1 x.2.2 y.2.2 p l e2 e3
    rw [e1]
    exact ⟨this.1, push_sim _ _ _ this.2.1, this.2.2⟩
  · exact ⟨rfl, push_sim _ _ _ h1, h2⟩

theorem updRef_sim (s t : Adv α) (p : P α) (l : Bool) (h : AdvSim s t) : AdvSim (updRef s p l) (updRef t p l) := by
  obtain ⟨ht, ⟨a1, a2, a3, a4, a5⟩, ⟨b1, b2, b3, b4, b5⟩⟩ := h
  cases l
  · exact ⟨ht, ⟨a1, a2, a3, a4, a5⟩, ⟨by simp [updRef, b1], by simp [updRef, b1, b2], b3, b4, b5⟩⟩
  · exact ⟨ht, ⟨by simp [updRef, a1], by simp [updRef, a1, a2], a3, a4, a5⟩, ⟨b1, b2, b3, b4, b5⟩⟩

theorem vertex_sim (s t : Adv α) (p : P α) (id : Nat) (l : Bool) (h : AdvSim s t) :
    AdvSim (s.vertex p id l) (t.vertex p id l) := by
  obtain ⟨u1, u2, u3⟩ := updRef_sim s t p l h
  rw [vertex_eq, vertex_eq]
  simp only [vertex']
  rw [u1, u2.2.1, u3.2.1]
  cases l
  · exact And.imp_right And.symm (stepSides_sim _ _ _ _ _ _ p id false u3 u2)
  · exact stepSides_sim _ _ _ _ _ _ p id true u2 u3

theorem feed_sim (vs : List (VArg α)) : ∀ (s t : Adv α), AdvSim s t → AdvSim (feed s vs) (feed t vs) := by
  induction vs with
  | nil => intro s t h; exact h
  | cons v r ih => intro s t h; exact ih _ _ (vertex_sim s t v.1 v.2.1 v.2.2 h)

-- `Adv.end_` reads the two sides only through `flushSide … .2` (`end_eq`)
theorem end_sim (s t : Adv α) (pos : P α) (id : Nat) (h : AdvSim s t) : s.end_ pos id = t.end_ pos id := by
  obtain ⟨ht, hl, hr⟩ := h
  rw [end_eq, end_eq, ht, (flushSide_sim _ _ false hl).1, (flushSide_sim _ _ true hr).1]

theorem begin_sim (old old' : Adv α) (p : P α) (id : Nat) : AdvSim (Adv.begin old p id) (Adv.begin old' p id) :=
  ⟨rfl, ⟨rfl, rfl, rfl, rfl, fun h => absurd h (by simp [Adv.begin])⟩,
        ⟨rfl, rfl, rfl, rfl, fun h => absurd h (by simp [Adv.begin])⟩⟩

/-! ## The event-queue builder

`EventQueueBuilder::reset` clears the queue and `nth` only; `begin` writes `nth, current,
prev_endpoint_id`.  `prev` and `second` stay stale; they are read under `nth > 0` only (`line_segment`,
`end` after its early return, the curve segments' `else` of `is_first_edge`), and `nth` leaves 0 only
through `add_edge`, next to which both are assigned. -/

/-- agree on every field except `prev` / `second` while `nth = 0` (they cannot be read yet) -/
def QBSim (a b : QB α) : Prop :=
  a.current = b.current ∧ a.nth = b.nth ∧ a.queue = b.queue ∧ a.tolerance = b.tolerance ∧
  a.prevEndpointId = b.prevEndpointId ∧ (0 < a.nth → a.prev = b.prev ∧ a.second = b.second)

theorem QBSim.refl (a : QB α) : QBSim a a := ⟨rfl, rfl, rfl, rfl, rfl, fun _ => ⟨rfl, rfl⟩⟩

theorem QBSim.split {a b : QB α} (h : QBSim a b) :
    a = b ∨ (a.nth = 0 ∧ b = { a with prev := b.prev, second := b.second }) := by
  obtain ⟨h1, h2, h3, h4, h5, h6⟩ := h
  cases a; cases b
  simp only at h1 h2 h3 h4 h5 h6
  subst h1 h2 h3 h4 h5
  rename_i n _ _ _ _ _
  rcases Nat.eq_zero_or_pos n with hn | hn
  · right; exact ⟨hn, rfl⟩
  · left; obtain ⟨rfl, rfl⟩ := h6 hn; rfl

theorem lineSegment_stale (a : QB α) (p s to : P α) (id : Nat) (t0 t1 : α) (h : a.nth = 0) :
    QBSim (a.lineSegment to id t0 t1) (QB.lineSegment { a with prev := p, second := s } to id t0 t1) := by
  cases a with
  | mk cur pv sc n q tol pid =>
  simp only at h
  subst h
  unfold QB.lineSegment
  by_cases hc : (cur == to) = true
  · simp only [hc, if_true]
    exact ⟨rfl, rfl, rfl, rfl, rfl, fun h => absurd h (by simp)⟩
  · simp only [hc, if_false]
    simp only [QB.addEdge, QB.pushEvent, QB.vertexEvent, hc, if_false, Nat.lt_irrefl, gt_iff_lt, decide_false,
      Bool.and_false, Bool.false_and, Bool.false_eq_true, BEq.rfl, if_true]
    split <;> exact ⟨rfl, rfl, rfl, rfl, rfl, fun _ => ⟨rfl, rfl⟩⟩

theorem lineSegment_sim (a b : QB α) (to : P α) (id : Nat) (t0 t1 : α) (h : QBSim a b) :
    QBSim (a.lineSegment to id t0 t1) (b.lineSegment to id t0 t1) := by
  rcases h.split with rfl | ⟨hn, hb⟩
  · exact QBSim.refl _
  · rw [hb]; exact lineSegment_stale a _ _ to id t0 t1 hn

theorem qb_begin_sim (a b : QB α) (p : P α) (id : Nat) (hq : a.queue = b.queue) (ht : a.tolerance = b.tolerance) :
    QBSim (a.begin p id) (b.begin p id) :=
  ⟨rfl, rfl, hq, ht, rfl, fun h => absurd h (by simp [QB.begin])⟩

theorem qb_end_sim (a b : QB α) (f : P α) (id : Nat) (h : QBSim a b) : QBSim (a.end_ f id) (b.end_ f id) := by
  rcases h.split with rfl | ⟨hn, hb⟩
  · exact QBSim.refl _
  · have hn' : b.nth = 0 := by rw [hb]; exact hn
    unfold QB.end_
    simp only [hn, hn', BEq.rfl, if_true]
    exact h

theorem addEdge_stale (b : QB α) (p s f t : P α) (w : Int) (i j : Nat) (t0 t1 : α) :
    QB.addEdge { b with prev := p, second := s } f t w i j t0 t1 =
      { (b.addEdge f t w i j t0 t1) with prev := p, second := s } := by
  unfold QB.addEdge
  by_cases h1 : (f == t) = true
  · simp only [h1, if_true]
  · by_cases h2 : isAfter f t = true
    · simp only [h1, h2, if_true, if_false]; rfl
    · simp only [h1, h2, if_false]; rfl

theorem vertexEventOnCurve_stale (b : QB α) (p s at_ : P α) (t : α) (i j : Nat) :
    QB.vertexEventOnCurve { b with prev := p, second := s } at_ t i j =
      { (b.vertexEventOnCurve at_ t i j) with prev := p, second := s } := rfl

/-- the closure of the curve segments neither reads nor writes `prev` / `second` of the builder -/
theorem curvePiece_stale (w : Int) (id : Nat) (b : QB α) (p s : P α) (lp : P α) (f : Option (P α)) (pc : QB.Piece α) :
    QB.curvePiece w id ⟨{ b with prev := p, second := s }, lp, f⟩ pc =
      ⟨{ (QB.curvePiece w id ⟨b, lp, f⟩ pc).b with prev := p, second := s },
       (QB.curvePiece w id ⟨b, lp, f⟩ pc).prev, (QB.curvePiece w id ⟨b, lp, f⟩ pc).first⟩ := by
  unfold QB.curvePiece
  cases hc : (pc.1 == pc.2.1)
  · simp only [Bool.false_eq_true, if_false]
    cases f with
    | none => rw [addEdge_stale]
    | some f0 =>
      cases h2 : (isAfter pc.1 pc.2.1 && isAfter pc.1 lp)
      · simp only [Bool.false_eq_true, if_false]
        rw [addEdge_stale]
      · simp only [if_true]
        rw [vertexEventOnCurve_stale, addEdge_stale]
  · simp only [if_true]

theorem curveFold_stale (w : Int) (id : Nat) (p s : P α) (pcs : List (QB.Piece α)) :
    ∀ (b : QB α) (lp : P α) (f : Option (P α)),
    pcs.foldl (QB.curvePiece w id) ⟨{ b with prev := p, second := s }, lp, f⟩ =
      ⟨{ (pcs.foldl (QB.curvePiece w id) ⟨b, lp, f⟩).b with prev := p, second := s },
       (pcs.foldl (QB.curvePiece w id) ⟨b, lp, f⟩).prev, (pcs.foldl (QB.curvePiece w id) ⟨b, lp, f⟩).first⟩ := by
  induction pcs with
  | nil => intro b lp f; rfl
  | cons pc r ih =>
    intro b lp f
    simp only [List.foldl_cons]
    rw [curvePiece_stale]
    exact ih _ _ _

/-- as long as the closure has not seen a non-degenerate piece the builder is untouched -/
theorem curveFold_none (w : Int) (id : Nat) (pcs : List (QB.Piece α)) :
    ∀ (st : QB.CurveSt α), (pcs.foldl (QB.curvePiece w id) st).first = none →
      (pcs.foldl (QB.curvePiece w id) st).b = st.b ∧ st.first = none := by
  induction pcs with
  | nil => intro st h; exact ⟨rfl, h⟩
  | cons pc r ih =>
    intro st h
    simp only [List.foldl_cons] at h ⊢
    obtain ⟨e1, e2⟩ := ih _ h
    unfold QB.curvePiece at e1 e2 ⊢
    by_cases hc : (pc.1 == pc.2.1) = true
    · simp only [hc, if_true] at e1 e2 ⊢; exact ⟨e1, e2⟩
    · simp only [hc, if_false] at e2
      cases hf : st.first <;> simp [hf] at e2

theorem curveSegment_stale (a : QB α) (p s : P α) (pcs : List (QB.Piece α)) (swap : Bool) (segFrom origTo : P α)
    (id : Nat) (h : a.nth = 0) :
    QBSim (a.curveSegment pcs swap segFrom origTo id)
      (QB.curveSegment { a with prev := p, second := s } pcs swap segFrom origTo id) := by
  unfold QB.curveSegment
  rw [curveFold_stale (if swap = true then -1 else 1) id p s pcs a segFrom none]
  have hn := curveFold_none (if swap = true then -1 else 1) id pcs ⟨a, segFrom, none⟩
  generalize pcs.foldl (QB.curvePiece (if swap = true then -1 else 1) id) ⟨a, segFrom, none⟩ = r at hn
  have h0 : (a.nth == 0) = true := by rw [h]; rfl
  simp only [h0, if_true]
  cases hf : r.first with
  | none =>
    obtain ⟨e, _⟩ := hn hf
    simp only at e
    exact ⟨rfl, rfl, rfl, rfl, rfl, fun hh => absurd hh (by rw [e, h]; exact Nat.lt_irrefl 0)⟩
  | some f0 => exact ⟨rfl, rfl, rfl, rfl, rfl, fun _ => ⟨rfl, rfl⟩⟩

theorem curveSegment_sim (a b : QB α) (pcs : List (QB.Piece α)) (swap : Bool) (segFrom origTo : P α) (id : Nat)
    (h : QBSim a b) : QBSim (a.curveSegment pcs swap segFrom origTo id) (b.curveSegment pcs swap segFrom origTo id) := by
  rcases h.split with rfl | ⟨hn, hb⟩
  · exact QBSim.refl _
  · rw [hb]; exact curveSegment_stale a _ _ pcs swap segFrom origTo id hn

theorem event_sim (F : Flat α) (hz : Bool) (a b : QB α) (e : PEv α) (h : QBSim a b) :
    QBSim (QB.event F hz a e) (QB.event F hz b e) := by
  have hc := h.1
  have ht := h.2.2.2.1
  cases e with
  | begin p id => exact qb_begin_sim a b _ id h.2.2.1 ht
  | line p id => exact lineSegment_sim a b _ id _ _ h
  | quad c p id =>
    simp only [QB.event, QB.quadSegment, hc, ht]
    exact curveSegment_sim a b _ _ _ _ id h
  | cubic c1 c2 p id =>
    simp only [QB.event, QB.cubicSegment, hc, ht]
    exact curveSegment_sim a b _ _ _ _ id h
  | end_ p id => exact qb_end_sim a b _ id h

theorem events_sim (F : Flat α) (hz : Bool) (evs : List (PEv α)) :
    ∀ (a b : QB α), QBSim a b → QBSim (QB.events F hz a evs) (QB.events F hz b evs) := by
  induction evs with
  | nil => intro a b h; exact h
  | cons e r ih => intro a b h; exact ih _ _ (event_sim F hz a b e h)

theorem queue_reset_eq (q : Queue α) : q.reset = Queue.new := rfl

theorem resizeAttrib_length (buf : List α) (a : Option Nat) : (resizeAttrib buf a).length = a.getD 0 := by
  cases a with
  | none => rfl
  | some n => simp only [resizeAttrib, List.length_append, List.length_take, List.length_replicate, Option.getD_some]; omega

theorem interpMain_fresh (st : Nat → List α) (n : Nat) (first : Src α) (rest : List (Src α)) (buf buf' : List α)
    (h : buf.length = buf'.length) :
    (interpMain st n first rest buf).1 = (interpMain st n first rest buf').1 ∧
    (interpMain st n first rest buf).2.length = (interpMain st n first rest buf').2.length := by
  unfold interpMain
  rw [← h]
  cases hc : (!(first.lenOk st n && buf.length == n))
  · simp only [Bool.false_eq_true, if_false]
    have hl : buf.length = n := by
      simp only [Bool.not_eq_false', Bool.and_eq_true, beq_iff_eq] at hc
      exact hc.2
    have d1 : buf.drop n = [] := by rw [← hl]; exact List.drop_length
    have d2 : buf'.drop n = [] := by rw [← hl, h]; exact List.drop_length
    rw [d1, d2]
    exact ⟨rfl, rfl⟩
  · simp only [if_true]; exact ⟨trivial, h⟩

theorem interp_fresh (store : Option (Nat → List α)) (n : Nat) (srcs : List (Src α)) (buf buf' : List α)
    (h : buf.length = buf'.length) :
    (interp store n srcs buf).1 = (interp store n srcs buf').1 ∧
    (interp store n srcs buf).2.length = (interp store n srcs buf').2.length := by
  cases store with
  | none => exact ⟨rfl, h⟩
  | some st =>
    match srcs with
    | [] => exact ⟨rfl, h⟩
    | [.endpoint id] => exact ⟨rfl, h⟩
    | [.edge a b t] => exact interpMain_fresh st n _ _ buf buf' h
    | .endpoint id :: s2 :: r => exact interpMain_fresh st n _ _ buf buf' h
    | .edge a b t :: s2 :: r => exact interpMain_fresh st n _ _ buf buf' h

theorem interpAll_fresh (store : Option (Nat → List α)) (n : Nat) (vs : List (List (Src α))) :
    ∀ (buf buf' : List α), buf.length = buf'.length → interpAll store n vs buf = interpAll store n vs buf' := by
  induction vs with
  | nil => intro _ _ _; rfl
  | cons v r ih =>
    intro buf buf' h
    obtain ⟨e1, e2⟩ := interp_fresh store n v buf buf' h
    simp only [interpAll, e1, ih _ _ e2]

/-- A reset discipline for a machine: every call is `rest ∘ prologue`; the prologue (the writes at
the start of the call) makes ANY two states agree — in the sense of `R`, which may depend on the
input — on whatever the rest of the call reads before it writes; the output of the rest of the
call respects `R`.  Nothing is asked of the state the call leaves behind. -/
structure Discipline {σ ι ο : Type} (m : Machine σ ι ο) where
  R : ι → σ → σ → Prop
  prologue : σ → ι → σ
  rest : σ → ι → σ × ο
  call_eq : ∀ s i, m.call s i = rest (prologue s i) i
  establishes : ∀ s s' i, R i (prologue s i) (prologue s' i)
  respects : ∀ s s' i, R i s s' → (rest s i).2 = (rest s' i).2

/-- the output of a call does not depend on the state it is made in -/
def Stateless {σ ι ο : Type} (m : Machine σ ι ο) : Prop := ∀ s s' i, (m.call s i).2 = (m.call s' i).2

theorem Discipline.stateless {σ ι ο : Type} {m : Machine σ ι ο} (d : Discipline m) : Stateless m := by
  intro s s' i
  rw [d.call_eq, d.call_eq]
  exact d.respects _ _ i (d.establishes s s' i)

theorem Stateless.of_fresh {σ ι ο : Type} {m : Machine σ ι ο} {fresh : σ}
    (h : ∀ s i, (m.call s i).2 = (m.call fresh i).2) : Stateless m :=
  fun s s' i => (h s i).trans (h s' i).symm

theorem Stateless.outputs {σ ι ο : Type} {m : Machine σ ι ο} (h : Stateless m) (fresh : σ) (hist : List ι) :
    ∀ s0, m.outputs s0 hist = hist.map (fun i => (m.call fresh i).2) := by
  induction hist with
  | nil => intro _; rfl
  | cons i r ih => intro s0; simp only [Machine.outputs, List.map_cons, ih, h s0 fresh i]

end Lyon.C08
