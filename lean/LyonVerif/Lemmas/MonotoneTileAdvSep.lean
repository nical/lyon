/-
  C02 (`Props/C02f.lean` - `C02h.lean`): WHY the buffered chains of the advanced monotone tessellator are
  chord-clear — what `sides_are_close`, `reference_point` and `conservative_reference_x` guarantee in
  exact arithmetic.

  `Z3 seq l k a b` (`3`: a statement about the two chains of the triple, chain `a` on side `l`, `b` on the other side;
  `ZA`: the same for a whole `Adv` state, left chain first; `⊑` = `leS` = "not further inside than", i.e. `≤` for the
  left side's x coordinates, `≥` for the right side's):
  * every buffered vertex of a chain has `x ⊑ refPt.x ⊑ consRefX` (`inRefA/B`, `refInConsA/B`); `refPt.y` is the
    head's `y` (`refYA/B`);
  * every vertex of the OTHER side fed after a chain's head has `x` beyond (`⊒`) that other side's `consRefX`
    (`sinceA/B`) — the resets `consRefX := refPt.x` keep this because they happen exactly when the opposite chain
    restarts and every later vertex of this side is still buffered (`afterLastA/B`);
  * hence a vertex that is buffered WITHOUT a flush on a chain of ≥ 2 ids (sides not close:
    `left.consRefX ≤ right.consRefX`) leaves the chain chord-clear (`ha`, `hb`): a vertical line separates the
    chain from every opposite vertex fed since the chain's head (`chord_clear_of_sep`).

  Carried through `stepSides`, `Adv.vertex` and the whole feed: on a valid sweep sequence every
  buffered chain of every reached state is chord-clear (`adv_chord_clear`).  With `adv_run_area_le`:
  the advanced monotone tessellator's area sum equals the polygon's area (`adv_run_area_eq`).
-/
import LyonVerif.Lemmas.MonotoneTileAdvRun

set_option linter.unusedSectionVars false

namespace Lyon.C02f
open Lyon Lyon.Mono Lyon.C02 Lyon.C02c

section Geometry
variable {K : Type} [Field K] [LinearOrder K] [IsStrictOrderedRing K]

/-- `u` is not further inside than `v` for a chain on side `l` (left: `u ≤ v`, right: `v ≤ u`) -/
def leS (l : Bool) (u v : K) : Prop := if l then u ≤ v else v ≤ u

def mxS (l : Bool) (u v : K) : K := if l then max u v else min u v

theorem leS_refl (l : Bool) (u : K) : leS l u u := by cases l <;> simp [leS]
theorem leS_trans {l : Bool} {u v w : K} (h1 : leS l u v) (h2 : leS l v w) : leS l u w := by
  cases l <;> simp only [leS, if_true, Bool.false_eq_true, if_false] at * <;> linarith
theorem leS_not {l : Bool} {u v : K} : leS (!l) u v ↔ leS l v u := by cases l <;> simp [leS]
theorem leS_mx_left (l : Bool) (u v : K) : leS l u (mxS l u v) := by
  cases l <;> simp [leS, mxS]
theorem leS_mx_right (l : Bool) (u v : K) : leS l v (mxS l u v) := by
  cases l <;> simp [leS, mxS]
theorem mx_leS {l : Bool} {u v w : K} (h1 : leS l u w) (h2 : leS l v w) : leS l (mxS l u v) w := by
  cases l <;> simp only [leS, mxS, if_true, Bool.false_eq_true, if_false] at *
  · exact le_min h1 h2
  · exact max_le h1 h2

theorem leS_sg {l : Bool} {u v : K} (h : leS l u v) : 0 ≤ sg (!l) * (u - v) := by
  cases l <;> simp only [leS, sg, Bool.false_eq_true, if_false, if_true, Bool.not_false, Bool.not_true] at * <;> linarith

/-- a vertical line `x = M` between the two chain ends `h`, `v` and an opposite vertex `y` that
lies between them in sweep order: `y` is weakly on its own side of the chord `h → v` -/
theorem chord_clear_of_sep (l : Bool) {h y v : P K} {M : K} (hy1 : After y h) (hy2 : After v y)
    (hh : leS l h.x M) (hv : leS l v.x M) (hy : leS l M y.x) : 0 ≤ sg (!l) * wind h y v := by
  have e : sg (!l) * wind h y v =
      sg (!l) * (h.x - y.x) * (v.y - y.y) + (y.y - h.y) * (sg (!l) * (v.x - y.x)) := by
    simp only [wind]; geom_ring
  have h1 : h.y ≤ y.y := by rcases hy1 with g | ⟨g, _⟩; exact g.le; exact g.ge
  have h2 : y.y ≤ v.y := by rcases hy2 with g | ⟨g, _⟩; exact g.le; exact g.ge
  rw [e]
  exact add_nonneg (mul_nonneg (leS_sg (leS_trans hh hy)) (by linarith))
    (mul_nonneg (by linarith) (leS_sg (leS_trans hv hy)))

variable (seq : List (P K × Bool))

structure Z3 (l : Bool) (k : Nat) (a b : SideEv K) : Prop where
  ca : SideChain seq l k a
  cb : SideChain seq (!l) k b
  inRefA : ∀ x ∈ a.events, leS l (posOf seq x).x a.refPt.x
  refInConsA : leS l a.refPt.x a.consRefX
  inRefB : ∀ x ∈ b.events, leS (!l) (posOf seq x).x b.refPt.x
  refInConsB : leS (!l) b.refPt.x b.consRefX
  sinceA : ∀ j, headId a < j → j < k → sideAt seq j = !l → leS (!l) (posOf seq j).x b.consRefX
  sinceB : ∀ j, headId b < j → j < k → sideAt seq j = l → leS l (posOf seq j).x a.consRefX
  refYA : a.refPt.y = (posOf seq (headId a)).y
  refYB : b.refPt.y = (posOf seq (headId b)).y
  afterLastA : 2 ≤ a.events.length → ∀ j, a.last.id < j → j < k → sideAt seq j = !l → j ∈ b.events
  afterLastB : 2 ≤ b.events.length → ∀ j, b.last.id < j → j < k → sideAt seq j = l → j ∈ a.events
  ha : ChordClear seq l a
  hb : ChordClear seq (!l) b

theorem Z3.symm {l : Bool} {k : Nat} {a b : SideEv K} (h : Z3 seq l k a b) : Z3 seq (!l) k b a :=
  { ca := h.cb, cb := by rw [Bool.not_not]; exact h.ca, inRefA := h.inRefB, refInConsA := h.refInConsB,
    inRefB := by rw [Bool.not_not]; exact h.inRefA, refInConsB := by rw [Bool.not_not]; exact h.refInConsA,
    sinceA := by rw [Bool.not_not]; exact h.sinceB, sinceB := h.sinceA, refYA := h.refYB, refYB := h.refYA,
    afterLastA := by rw [Bool.not_not]; exact h.afterLastB, afterLastB := h.afterLastA, ha := h.hb, hb := by rw [Bool.not_not]; exact h.ha }

theorem flushOpp_z {a b : SideEv K} {l : Bool} {k : Nat} (h : Z3 seq l k a b) (hl : 2 ≤ b.events.length)
    (hlt : 2 ≤ a.events.length → b.last.id < a.last.id) :
    Z3 seq l k { a with consRefX := a.refPt.x } (flushSide b l).1 := by
  obtain ⟨e1, e2⟩ := flushSide_restart b l hl
  have hfs := flushSide_some b l hl
  have hhb : headId (flushSide b l).1 = b.last.id := by simp [headId, e1]
  have hbg : b.last.pos = posOf seq b.last.id := h.cb.good
  exact
    { ca := h.ca.congr seq rfl rfl
      cb := h.cb.restart seq hl e1 e2
      inRefA := h.inRefA
      refInConsA := leS_refl _ _
      inRefB := by
        intro x hx
        rw [e1, List.mem_singleton] at hx
        rw [hx, hfs, ← hbg]
        exact leS_refl _ _
      refInConsB := by
        rw [hfs]
        show leS (!l) b.last.pos.x b.consRefX
        rw [hbg]
        exact leS_trans (h.inRefB _ (h.cb.last_mem seq)) h.refInConsB
      sinceA := by
        rw [hfs]
        exact h.sinceA
      sinceB := by
        intro j hj1 hj2 hjs
        rw [hhb] at hj1
        exact h.inRefA j (h.afterLastB hl j hj1 hj2 hjs)
      refYA := h.refYA
      refYB := by
        rw [hhb, hfs, ← hbg]
      afterLastA := by
        intro h2 j hj1 hj2 hjs
        exfalso
        have := h.cb.le_last seq j (h.afterLastA h2 j hj1 hj2 hjs)
        have := hlt h2
        have hj1' : a.last.id < j := hj1
        omega
      afterLastB := by
        intro h2
        rw [e1] at h2
        simp at h2
      ha := h.ha.congr seq rfl rfl
      hb := ChordClear.short seq (by rw [e1]; simp) }

theorem upd_z {l : Bool} {k : Nat} {a b a' : SideEv K} (h : Z3 seq l k a b) (p : P K)
    (he : a'.events = a.events) (hl : a'.last = a.last) (hrx : a'.refPt.x = mxS l a.refPt.x p.x)
    (hry : a'.refPt.y = a.refPt.y) (hc1 : leS l a'.refPt.x a'.consRefX) (hc2 : leS l a.consRefX a'.consRefX) :
    Z3 seq l k a' b ∧ leS l p.x a'.refPt.x :=
  ⟨{ ca := h.ca.congr seq he hl
     cb := h.cb
     inRefA := by rw [he, hrx]; exact fun x hx => leS_trans (h.inRefA x hx) (leS_mx_left _ _ _)
     refInConsA := hc1
     inRefB := h.inRefB
     refInConsB := h.refInConsB
     sinceA := by simp only [headId, he]; exact h.sinceA
     sinceB := fun j h1 h2 h3 => leS_trans (h.sinceB j h1 h2 h3) hc2
     refYA := by rw [hry]; simp only [headId, he]; exact h.refYA
     refYB := h.refYB
     afterLastA := by rw [he, hl]; exact h.afterLastA
     afterLastB := by rw [he]; exact h.afterLastB
     ha := h.ha.congr seq he hl
     hb := h.hb }, by rw [hrx]; exact leS_mx_right _ _ _⟩

/-- the flush of `a` is the flush of the other chain seen from side `!l`; then the restarted chain's reference takes in `p` -/
theorem flushOwn_z {a b : SideEv K} (p : P K) {l : Bool} {k : Nat} (h : Z3 seq l k a b) (hl : 2 ≤ a.events.length)
    (hpx : leS l p.x a.refPt.x) (hord : 2 ≤ b.events.length → a.last.id < b.last.id) :
    Z3 seq l k (reRef (flushSide a (!l)).1 p l) { b with consRefX := b.refPt.x } ∧
      leS l p.x (reRef (flushSide a (!l)).1 p l).refPt.x := by
  have hz := Z3.symm seq (flushOpp_z seq (Z3.symm seq h) hl hord)
  rw [Bool.not_not] at hz
  have hrx : (reRef (flushSide a !l).1 p l).refPt.x = mxS l (flushSide a !l).1.refPt.x p.x := by
    cases l <;> simp [reRef, mxS, geom]
  refine upd_z seq hz p rfl rfl hrx rfl ?_ (leS_refl _ _)
  rw [hrx]
  refine mx_leS hz.refInConsA ?_
  show leS l p.x (flushSide a !l).1.consRefX
  rw [flushSide_some a (!l) hl]
  exact leS_trans hpx h.refInConsA

theorem push_z (a b : SideEv K) (p : P K) (l : Bool) (k : Nat) (h : Z3 seq l k a b) (hp : posOf seq k = p)
    (hs : sideAt seq k = l) (hpx : leS l p.x a.refPt.x) (hch : ChordClear seq l (a.push ⟨p, k, l⟩)) :
    Z3 seq l (k + 1) (a.push ⟨p, k, l⟩) b := by
  have hnl : sideAt seq k ≠ !l := by rw [hs]; cases l <;> simp
  have hhead := headId_push a ⟨p, k, l⟩ h.ca.ne
  exact
    { ca := h.ca.push seq p hp hs
      cb := h.cb.mono seq hnl
      inRefA := by
        intro x hx
        simp only [SideEv.push, List.mem_append, List.mem_singleton] at hx
        rcases hx with g | g
        · exact h.inRefA x g
        · rw [g, hp]; exact hpx
      refInConsA := h.refInConsA
      inRefB := h.inRefB
      refInConsB := h.refInConsB
      sinceA := by
        intro j hj1 hj2 hjs
        rw [hhead] at hj1
        have : j ≠ k := fun e => hnl (e ▸ hjs)
        exact h.sinceA j hj1 (by omega) hjs
      sinceB := by
        intro j hj1 hj2 hjs
        by_cases e : j = k
        · rw [e, hp]; exact leS_trans hpx h.refInConsA
        · exact h.sinceB j hj1 (by omega) hjs
      refYA := by rw [hhead]; exact h.refYA
      refYB := h.refYB
      afterLastA := by
        intro _ j hj1 hj2 _
        have hj1' : k < j := hj1
        omega
      afterLastB := by
        intro h2 j hj1 hj2 hjs
        simp only [SideEv.push, List.mem_append, List.mem_singleton]
        by_cases e : j = k
        · exact Or.inr e
        · exact Or.inl (h.afterLastB h2 j hj1 (by omega) hjs)
      ha := hch
      hb := h.hb }

/-- one `vertex` call on the pair of chains (`p` already folded into `a.refPt`, `a.consRefX`); `dx` is lyon's
`right.conservative_reference_x − left.conservative_reference_x` (`vertex_z`), `Scalar.ofSci 1 1` the `0.1` of
`sides_are_close`: `dx < dy * 0.1` -/
theorem stepSides_z (hval : SweepValid seq) (tess : Basic K) (a b : SideEv K) (dx : K) (p : P K) (l : Bool) (k : Nat)
    (hk : k + 1 < seq.length) (h : Z3 seq l k a b) (hp : posOf seq k = p) (hs : sideAt seq k = l)
    (hpx : leS l p.x a.refPt.x) (hdx : 0 ≤ dx → leS l a.consRefX b.consRefX) :
    Z3 seq l (k + 1) (stepSides tess a b dx p k l).2.1 (stepSides tess a b dx p k l).2.2 := by
  refine stepSides_ind (J := fun _ a' b' => Z3 seq l k a' b' ∧ leS l p.x a'.refPt.x)
    (J' := fun _ a' b' => Z3 seq l (k + 1) a' b') tess a b dx p k l ⟨h, hpx⟩ ?_ ?_ ?_
  · rintro t a b ⟨hz, hx⟩ hb hia
    exact ⟨flushOpp_z seq hz hb (fun _ => hz.ca.last_lt_of_after seq hval hz.cb (by omega) hia), hx⟩
  · rintro t a b ⟨hz, hx⟩ ha ho
    exact flushOwn_z seq p hz ha hx (hz.ca.ord_of_isAfter seq hval hz.cb (by omega) ho)
  · rintro t' a' b' ⟨hz, hx⟩ hc
    refine push_z seq a' b' p l k hz hp hs hx ?_
    rcases hc with hc | ⟨rfl, rfl, rfl, hcl, _⟩
    · exact ChordClear.short seq (by
        simp only [SideEv.push, List.length_append, List.length_cons, List.length_nil]; omega)
    -- sides are not close: the conservative references are ordered, a vertical line separates
    intro h3 j hj1 hj2 hjs
    rw [headId_push a' _ hz.ca.ne] at hj1 ⊢
    have hj2' : j < k := hj2
    show 0 ≤ sg (!l) * wind (posOf seq (headId a')) (posOf seq j) p
    have hhk : headId a' < k := hz.ca.lt _ (by rw [hz.ca.head_mem seq]; simp)
    have hhm : headId a' ∈ a'.events := by rw [hz.ca.head_mem seq]; simp
    have hph : After p (posOf seq (headId a')) := by rw [← hp]; exact valid_after hval hhk (by omega)
    have hnc : ¬ (dx < (p.y - a'.refPt.y) * Scalar.ofSci 1 1) := by simpa using hcl
    have hdy : 0 ≤ p.y - a'.refPt.y := by
      rw [hz.refYA]
      rcases hph with g | ⟨g, _⟩
      · linarith
      · rw [g]; linarith
    have hdx0 : 0 ≤ dx := by
      have e : (Scalar.ofSci 1 1 : K) = 1 / 10 := by simp [geom]
      rw [e] at hnc
      have : 0 ≤ (p.y - a'.refPt.y) * (1 / 10 : K) := by positivity
      linarith [not_lt.mp hnc]
    refine chord_clear_of_sep l (M := a'.consRefX) (valid_after hval hj1 (by omega)) ?_ ?_ ?_ ?_
    · rw [← hp]; exact valid_after hval hj2' (by omega)
    · exact leS_trans (hz.inRefA _ hhm) hz.refInConsA
    · exact leS_trans hx hz.refInConsA
    · exact leS_trans (hdx hdx0) (leS_not.mp (hz.sinceA j hj1 hj2' hjs))

def ZA (k : Nat) (st : Adv K) : Prop := Z3 seq true k st.left st.right

theorem begin_z (p0 : P K) (h0 : posOf seq 0 = p0) : ZA seq 1 (Adv.begin Adv.new p0 0) := by
  exact
    { ca := SideChain.apex seq rfl rfl h0.symm, cb := SideChain.apex seq rfl rfl h0.symm
      inRefA := by intro x hx; simp only [Adv.begin, List.mem_singleton] at hx; rw [hx, h0]; exact leS_refl _ _
      refInConsA := leS_refl _ _
      inRefB := by intro x hx; simp only [Adv.begin, List.mem_singleton] at hx; rw [hx, h0]; exact leS_refl _ _
      refInConsB := leS_refl _ _
      sinceA := fun j h1 h2 _ => by simp only [headId, Adv.begin, List.headD_cons] at h1; omega
      sinceB := fun j h1 h2 _ => by simp only [headId, Adv.begin, List.headD_cons] at h1; omega
      refYA := by simp [Adv.begin, headId, h0]
      refYB := by simp [Adv.begin, headId, h0]
      afterLastA := fun h2 => by simp [Adv.begin] at h2
      afterLastB := fun h2 => by simp [Adv.begin] at h2
      ha := ChordClear.short seq (by simp [Adv.begin])
      hb := ChordClear.short seq (by simp [Adv.begin]) }

theorem vertex_z (hval : SweepValid seq) (st : Adv K) (p : P K) (k : Nat) (l : Bool) (hk : k + 1 < seq.length)
    (h : ZA seq k st) (hp : posOf seq k = p) (hs : sideAt seq k = l) : ZA seq (k + 1) (st.vertex p k l) := by
  refine vertex_walk (I := fun l _ a b => Z3 seq l k a b) (I' := fun l _ a b => Z3 seq l (k + 1) a b)
    (Z3.symm seq) (Z3.symm seq) st p k l (fun t a b hz dx hd => ?_) h
  obtain ⟨hu, hpx⟩ := upd_z seq hz p (a' := updSide a p l) (by cases l <;> rfl) (by cases l <;> rfl)
    (by cases l <;> simp [updSide, mxS, geom]) (by cases l <;> rfl) (by cases l <;> simp [updSide, leS, geom])
    (by cases l <;> simp [updSide, leS, geom])
  refine stepSides_z seq hval t _ b dx p l k hk hu hp hs hpx ?_
  subst hd
  cases l <;> simp only [leS, Bool.false_eq_true, if_false, if_true] <;> intro g <;> linarith

/-- **every state the advanced tessellator reaches on a valid sweep sequence is chord-clear** -/
theorem adv_chord_clear (hval : SweepValid seq) : ChordClearRun seq := by
  intro i
  by_cases hn : seq.length ≤ 1
  · have : (midsOf seq).take i = [] := by
      apply List.eq_nil_of_length_eq_zero
      simp only [midsOf, List.length_take, List.length_tail]
      omega
    rw [this]
    simp only [afeed]
    exact ⟨ChordClear.short _ (by simp [Adv.begin]), ChordClear.short _ (by simp [Adv.begin])⟩
  have hv0 : seq[0]? = some seq[0] := List.getElem?_eq_getElem (by omega)
  have hz := adv_prefix_ind seq (by omega) (ZA seq) (fun v hv => begin_z seq _ (posOf_of_getElem? hv))
    (fun k s v h _ hk hv => vertex_z seq hval s _ _ _ hk h (posOf_of_getElem? hv) (by simp [sideAt, hv])) _ hv0 i
  rw [← posOf_of_getElem? hv0] at hz
  exact ⟨hz.ha, hz.hb⟩

/-- **area, advanced tessellator, valid sweep sequence**: the `wind`s of the triangles of
`Adv.run` add up EXACTLY to the polygon's shoelace area -/
theorem adv_run_area_eq (h2 : 2 ≤ seq.length) (hval : SweepValid seq) :
    sumW (posOf seq) (Adv.run seq) = shoelaceW (polygonOf seq) :=
  le_antisymm (adv_run_area_le seq h2 hval (adv_chord_clear seq hval)) (adv_run_area seq h2)

end Geometry

end Lyon.C02f
