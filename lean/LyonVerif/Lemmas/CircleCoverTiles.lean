/-
  A list of triangles and a list of chords TILE the cap over an arc `[a0, a1]` of the circle (`Tiles`): vertices
  on the arc, no degenerate triangle, no overlap, every triangle on the inner side of every chord.  The one geometric fact
  is that a chord `α → β` separates the arc `[α, β]` from the complementary arc `[β, α + 2π]` (`disj_of_arcs`, `arc_inner`).
  The join law (`Tiles.join'`): tilings of `[a0, m]` and `[m, a1]` and the triangle over `(a0, m, a1)` tile `[a0, a1]`, for
  ANY split point `m`.  Hence one `fill_border_radius` call tiles its own cap (`cap_tiles`), for any arc shorter than a turn.
  That the triangles COVER the cap is not part of `Tiles`: `cap_covers`, `circleTris_cover` (Lemmas/CircleCoverMesh.lean).
-/
import LyonVerif.Lemmas.CircleCoverDisjoint

set_option linter.unusedSectionVars false

namespace Lyon.C03c
open Lyon Lyon.Shapes Lyon.C03

variable {K : Type} [Field K] [LinearOrder K] [IsStrictOrderedRing K] [Transc K]

noncomputable section

/-- `e` is a chord `α → β` with `lo ≤ α < β ≤ hi` -/
def ArcEdge (c : P K) (r lo hi : K) (e : P K × P K) : Prop :=
  ∃ α β : K, lo ≤ α ∧ α < β ∧ β ≤ hi ∧ e = (pos c r α, pos c r β)

theorem ArcEdge.mono {c : P K} {r lo hi lo' hi' : K} {e : P K × P K} (h : ArcEdge c r lo hi e) (h1 : lo' ≤ lo)
    (h2 : hi ≤ hi') : ArcEdge c r lo' hi' e := by
  obtain ⟨α, β, a, b, d, he⟩ := h
  exact ⟨α, β, h1.trans a, b, d.trans h2, he⟩

theorem ArcEdge.shift (L : CircTrig K) {c : P K} {r lo hi : K} {e : P K × P K} (h : ArcEdge c r lo hi e) :
    ArcEdge c r (lo + 2 * Transc.pi) (hi + 2 * Transc.pi) e := by
  obtain ⟨α, β, a, b, d, he⟩ := h
  exact ⟨α + 2 * Transc.pi, β + 2 * Transc.pi, by linarith, by linarith, by linarith,
    by rw [pos_periodic L, pos_periodic L]; exact he⟩

def InnerTri (e : P K × P K) (T : Tri3 K) : Prop := Inner e T.1 ∧ Inner e T.2.1 ∧ Inner e T.2.2

/-- **a chord inside the arc `[lo, hi]` has the complementary arc `[hi, lo + 2π]` on its inner side** -/
theorem arc_inner (L : CircTrig K) (c : P K) (r lo hi : K) (h1 : hi < lo + 2 * Transc.pi) {e : P K × P K} {T : Tri3 K}
    (he : ArcEdge c r lo hi e) (hT : ArcTri c r hi (lo + 2 * Transc.pi) T) : InnerTri e T := by
  obtain ⟨α, β, a, b, d, rfl⟩ := he
  have pt : ∀ X, OnArc c r hi (lo + 2 * Transc.pi) X → Inner (pos c r α, pos c r β) X := by
    rintro X ⟨θ, x, y, rfl⟩
    exact side_nonneg L c r α β θ b (by linarith) (by linarith) (by linarith)
  exact ⟨pt _ hT.1, pt _ hT.2.1, pt _ hT.2.2⟩

/-- the triangles `S` and the chords `E` tile (part of) the cap over the arc `[a0, a1]`: vertices on the arc, no degenerate
triangle, no overlap, every triangle on the inner side of every chord (cover is not a field: `cap_covers`) -/
structure Tiles (c : P K) (r a0 a1 : K) (S : List (Tri3 K)) (E : List (P K × P K)) : Prop where
  arcT : ∀ T ∈ S, ArcTri c r a0 a1 T
  arcE : ∀ e ∈ E, ArcEdge c r a0 a1 e
  area : ∀ T ∈ S, (T.2.1 - T.1).cross (T.2.2 - T.1) ≠ 0
  disj : S.Pairwise Disj
  inner : ∀ T ∈ S, ∀ e ∈ E, InnerTri e T

theorem Tiles.leaf (c : P K) (r : K) {a0 a1 : K} (h : a0 < a1) : Tiles c r a0 a1 [] [(pos c r a0, pos c r a1)] where
  arcT := by simp
  arcE := fun e he => ⟨a0, a1, le_rfl, h, le_rfl, List.mem_singleton.1 he⟩
  area := by simp
  disj := List.Pairwise.nil
  inner := by simp

theorem Tiles.shift (L : CircTrig K) {c : P K} {r a0 a1 : K} {S : List (Tri3 K)} {E : List (P K × P K)}
    (t : Tiles c r a0 a1 S E) : Tiles c r (a0 + 2 * Transc.pi) (a1 + 2 * Transc.pi) S E :=
  ⟨fun T h => (t.arcT T h).shift L, fun e h => (t.arcE e h).shift L, t.area, t.disj, t.inner⟩

/-- **the join law**: tilings of the two halves and the step triangle `X`, which is `(a1, m, a0)` in some order of its
corners (`hX`, stated through `ArcTri`, which does not depend on the order: the halves of the square are emitted in
another corner order than the step triangles of `fill_border_radius`).  Seen from the left half everything else lies on the complementary arc `[m, a0 + 2π]`, seen from the
right half on `[a1, m + 2π]`; the chords `a0 → m`, `m → a1` separate. -/
theorem Tiles.join' (L : CircTrig K) {c : P K} {r : K} (hr : r ≠ 0) {a0 m a1 : K} (h0 : a0 < m) (h1 : m < a1)
    (h2 : a1 < a0 + 2 * Transc.pi) {S1 S2 : List (Tri3 K)} {E1 E2 : List (P K × P K)}
    (t1 : Tiles c r a0 m S1 E1) (t2 : Tiles c r m a1 S2 E2) {X : Tri3 K}
    (hX : ∀ lo hi, ArcTri c r lo hi (pos c r a1, pos c r m, pos c r a0) → ArcTri c r lo hi X)
    (ha : (X.2.1 - X.1).cross (X.2.2 - X.1) ≠ 0) :
    Tiles c r a0 a1 (X :: (S1 ++ S2)) (E1 ++ E2) := by
  have e1 : m < a0 + 2 * Transc.pi := h1.trans h2
  have e2 : a1 < m + 2 * Transc.pi := by linarith
  have sL : ArcTri c r m (a0 + 2 * Transc.pi) X := hX _ _
    ⟨⟨a1, h1.le, h2.le, rfl⟩, ⟨m, le_rfl, e1.le, rfl⟩, ⟨a0 + 2 * Transc.pi, e1.le, le_rfl, (pos_periodic L c r a0).symm⟩⟩
  have sR : ArcTri c r a1 (m + 2 * Transc.pi) X := hX _ _
    ⟨⟨a1, le_rfl, e2.le, rfl⟩, ⟨m + 2 * Transc.pi, e2.le, le_rfl, (pos_periodic L c r m).symm⟩,
      ⟨a0 + 2 * Transc.pi, h2.le, by linarith, (pos_periodic L c r a0).symm⟩⟩
  have rL : ∀ T ∈ S2, ArcTri c r m (a0 + 2 * Transc.pi) T := fun T hT => (t2.arcT T hT).mono le_rfl h2.le
  have lR : ∀ T ∈ S1, ArcTri c r a1 (m + 2 * Transc.pi) T := fun T hT => ((t1.arcT T hT).shift L).mono h2.le le_rfl
  have d1 := disj_of_arcs L c r a0 m hr h0 e1
  have d2 := disj_of_arcs L c r m a1 hr h1 e2
  refine ⟨?_, ?_, ?_, ?_, ?_⟩
  · intro T hT
    rcases List.mem_cons.1 hT with rfl | hT
    · exact hX _ _ ⟨⟨a1, (h0.trans h1).le, le_rfl, rfl⟩, ⟨m, h0.le, h1.le, rfl⟩, ⟨a0, le_rfl, (h0.trans h1).le, rfl⟩⟩
    · exact (List.mem_append.1 hT).elim (fun h => (t1.arcT T h).mono le_rfl h1.le) fun h => (t2.arcT T h).mono h0.le le_rfl
  · exact fun e he => (List.mem_append.1 he).elim (fun h => (t1.arcE e h).mono le_rfl h1.le)
      fun h => (t2.arcE e h).mono h0.le le_rfl
  · intro T hT
    rcases List.mem_cons.1 hT with rfl | hT
    · exact ha
    · exact (List.mem_append.1 hT).elim (t1.area T) (t2.area T)
  · rw [List.pairwise_cons, List.pairwise_append]
    refine ⟨fun T hT => ?_, t1.disj, t2.disj, fun T1 h1 T2 h2 => d1 T1 T2 (t1.arcT T1 h1) (rL T2 h2)⟩
    exact (List.mem_append.1 hT).elim (fun h => (d1 T _ (t1.arcT T h) sL).symm) fun h => (d2 T _ (t2.arcT T h) sR).symm
  · intro T hT e he
    rcases List.mem_append.1 he with he | he
    · have k := fun T => arc_inner L c r a0 m e1 (T := T) (t1.arcE e he)
      rcases List.mem_cons.1 hT with rfl | hT
      · exact k _ sL
      · exact (List.mem_append.1 hT).elim (fun h => t1.inner T h e he) fun h => k T (rL T h)
    · have k := fun T => arc_inner L c r m a1 e2 (T := T) (t2.arcE e he)
      rcases List.mem_cons.1 hT with rfl | hT
      · exact k _ sR
      · exact (List.mem_append.1 hT).elim (fun h => k T (lR T h)) fun h => t2.inner T h e he

/-- **one border call tiles its cap**: the four facts in one induction -/
theorem cap_tiles (L : CircTrig K) (c : P K) (r : K) (hr : r ≠ 0) (n : Nat) (a0 a1 : K) (h0 : a0 < a1)
    (h1 : a1 < a0 + 2 * Transc.pi) :
    Tiles c r a0 a1 (capTris c r n a0 a1 (pos c r a0) (pos c r a1)) (leafEdges c r n a0 a1 (pos c r a0) (pos c r a1)) := by
  induction n generalizing a0 a1 with
  | zero => exact Tiles.leaf c r h0
  | succ n ih =>
    obtain ⟨m0, m1⟩ := mid_mem h0
    exact Tiles.join' L hr m0 m1 h1 (ih a0 _ m0 (m1.trans h1)) (ih _ a1 m1 (by linear_combination h1 + m0))
      (fun _ _ h => h) (arc_area_ne L c hr m0 m1 h1)

theorem Tiles.good (T : TrigAdd K) {c : P K} {r a0 a1 : K} {S : List (Tri3 K)} {E : List (P K × P K)}
    (t : Tiles c r a0 a1 S E) : ∀ X ∈ S, GoodTri c r X := fun X hX => by
  have o : ∀ {Y}, OnArc c r a0 a1 Y → OnCircle c r Y := fun ⟨θ, _, _, e⟩ => e ▸ pos_on_circle T c r θ
  exact ⟨o (t.arcT X hX).1, o (t.arcT X hX).2.1, o (t.arcT X hX).2.2, t.area X hX⟩

end

end Lyon.C03c
