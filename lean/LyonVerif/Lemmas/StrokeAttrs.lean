/-
  The cached attribute buffer of the stroker (`Model/Tess/StrokeAttrs.lean`): every emission site resets the cache,
  so every vertex reads the attributes of its own source.  Over the model alone, so that both the stroker's
  results (`Props/C05c.lean`) and the reset discipline (`Lemmas/ResetStrokeAttrs.lean`) can cite it.
-/
import LyonVerif.Model.Tess.StrokeAttrs

namespace Lyon.C05c
open Lyon Lyon.Stroke Lyon.Stroke.Full

variable {α : Type} [Scalar α]

/-- a vertex whose emission site reset `buffer_is_valid` reports the attributes of its source,
whatever the cache held -/
theorem attrCache_read_reset (c : AttrCache α) (store : Nat → List α) (s : Src α) :
    (c.read store true s).1 = interpolatedAttributes store s := by
  unfold AttrCache.read
  cases s <;> simp [interpolatedAttributes]

theorem attrsSeq_eq_map (store : Nat → List α) :
    ∀ (verts : List (VData α)) (c : AttrCache α),
      attrsSeq store verts c = verts.map (fun d => interpolatedAttributes store d.src) := by
  intro verts
  induction verts with
  | nil => intro c; rfl
  | cons v vs ih =>
    intro c
    simp only [attrsSeq, List.map_cons, ih]
    rw [attrCache_read_reset]

end Lyon.C05c
