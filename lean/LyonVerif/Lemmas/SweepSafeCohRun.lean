/-
  SPAN / WINDING COHERENCE: the loop and the executable certificate
  (`Model/Tess/SweepCert.lean`: `allOkB`, `cleanRunB`, `cleanB`).

  Theorem (`loop_coh`, `tessellateImpl_clean`, `tessellate_clean`): a run whose certificate is `true`
  fails only in the ways `A` allows, under `NextUpOk α ∨ mAssert ∈ A` and `NoNaN α ∨ mNaN ∈ A` - for
  EVERY scalar type: the agreement of the scan's two on-edge tests is not a hypothesis but part of the
  certificate (`scanAgreeB`, checked on every scan result); the coherence of the state that
  `recover_from_error` leaves is proved (`recoverFromError_coh`), not checked.
-/
import LyonVerif.Lemmas.SweepSafeLoop

set_option linter.unusedSectionVars false
set_option mvcgen.warning false

namespace Lyon.SweepCoh
open Lyon Lyon.Scalar Lyon.Mono Lyon.Sweep Lyon.EQ Lyon.SweepSafe
open Std.Do

variable {α : Type} [Scalar α] [Wide α]
variable {A : List String}

/-- one `process_events` call from `s1` to `s2`: the scan succeeded and the winding is conserved -/
def StepOk (s1 s2 : St α) : Prop :=
  match scanActiveEdges s1 with
  | .error _ => False
  | .ok scan => ∀ W, NewSt s1 scan (Zf s1 scan W) W s2 → EventOkW s1 scan W

theorem Wof_eq {s1 s2 : St α} {scan : Scan} {Z : Nat} {W : List Int} (hok : ScanOk s1 scan)
    (hN : NewSt s1 scan Z W s2) : Wof s1 scan s2 = W := by
  have hab := hok.start_le
  have hlen := sigs_length s1
  have h1 : ((sigs s1).take scan.aboveStart ++ (if scan.mergeEvent then [(true, (0 : Int))] else [])).length =
      scan.aboveStart + bi scan.mergeEvent := by
    rw [List.length_append, List.length_take, Nat.min_eq_left (by have := hok.end_le; omega)]
    cases scan.mergeEvent <;> simp [bi]
  have h2 : ((sigs s1).drop scan.aboveEnd).length = s1.active.size - scan.aboveEnd := by rw [List.length_drop, hlen]
  -- `Wof` drops the left part `L` and takes all but the right part `R` of `L ++ (W' ++ R)`
  unfold Wof
  rw [hN.sg, newSigs, ← h1, ← h2, List.append_assoc _ (W.map _)]
  generalize (sigs s1).take scan.aboveStart ++ _ = L
  generalize (sigs s1).drop scan.aboveEnd = R
  rw [List.drop_left, List.length_append, Nat.add_sub_cancel_left, List.length_append, Nat.add_sub_cancel,
    List.take_left, List.map_map]
  exact List.map_id W

theorem eventOk_of_B {s1 : St α} {scan : Scan} {W : List Int} (h : eventOkB s1 scan W = true) :
    EventOkW s1 scan W := by
  unfold eventOkB at h
  simp only [Bool.and_eq_true, Bool.or_eq_true, decide_eq_true_eq, Bool.not_eq_true'] at h
  obtain ⟨⟨h1, h2⟩, h3⟩ := h
  refine ⟨h1, ?_, ?_⟩
  · intro hW
    rcases h2 with ((h2 | h2) | h2) | h2
    · rw [hW] at h2; simp at h2
    · exact Or.inl h2
    · exact Or.inr (Or.inl ⟨h2.1.1, h2.1.2, h2.2⟩)
    · exact Or.inr (Or.inr ⟨h2.1, h2.2⟩)
  · intro hm
    rcases h3 with h3 | h3
    · rw [hm] at h3; cases h3
    · cases W <;> simp_all

theorem stepOk_of_B {s1 s2 : St α} (h : stepOkB s1 s2 = true) : StepOk s1 s2 := by
  unfold stepOkB at h
  unfold StepOk
  cases hsc : scanActiveEdges s1 with
  | error e => rw [hsc] at h; cases h
  | ok scan =>
    rw [hsc] at h
    intro W hN
    dsimp only at h
    rw [Wof_eq (of_scan_both hsc).1 hN] at h
    exact eventOk_of_B h

theorem coh_of_B {s : St α} (h : cohB s = true) : Coh s := by
  unfold cohB at h
  simp only [Bool.and_eq_true, decide_eq_true_eq, Bool.not_eq_true'] at h
  obtain ⟨⟨⟨h1, h2⟩, h3⟩, h4⟩ := h
  have h5 : ∀ k e, s.active[k]? = some e → e.isMerge = true → (Wat s k).isIn = true ∧ e.winding = 0 := by
    intro k e hk hm
    have hlt : k < s.active.size := by
      rcases Array.getElem?_eq_some_iff.mp hk with ⟨hh, _⟩; exact hh
    have := (List.all_eq_true.mp h4) k (by simpa using hlt)
    rw [hk] at this
    simp only [hm, Bool.not_true, Bool.false_or, Bool.and_eq_true, beq_iff_eq] at this
    exact this
  refine ⟨?_, h2, h3, fun k e hk hm => (h5 k e hk hm).1, ?_⟩
  · intro k hk hn
    exfalso
    have := (Array.all_eq_true.mp h1) k hk
    rw [hn] at this
    cases this
  · intro x hx hm
    unfold sigs at hx
    rcases List.mem_map.mp hx with ⟨e, he, hex⟩
    rcases Array.mem_iff_getElem?.mp (Array.mem_toList_iff.mp he) with ⟨k, hk⟩
    rw [← hex] at hm ⊢
    exact (h5 k e hk hm).2

theorem Coh.next {s : St α} (h : Coh s) : Coh (nextSt s) := h.frame rfl rfl rfl

theorem Coh.safe {tol : α} {s : St α} (h : Coh s) (ht : s.tolerance = tol) : Safe tol s :=
  safe_iff.mpr ⟨h.live, ht⟩

variable {tol : α}

/-- where `ScanAgree` comes from: checked on the scan result (`g`), or a theorem (`HorizAgree`: ordered fields) -/
def GOk (g : Bool) (tol : α) : Prop := g = true ∨ HorizAgree tol

theorem GOk.agree {g : Bool} {tol : α} (hg : GOk g tol) {s1 : St α} (ht : s1.tolerance = tol) {scan : Scan}
    (hsc : scanActiveEdges s1 = .ok scan) (h : (!g || scanAgreeB s1 scan) = true) : ScanAgree s1 scan := by
  rcases hg with hg | hg
  · subst hg
    exact scanAgree_of_B (by simpa using h)
  · exact scanAgree_of_horiz (of_scan_both hsc).1 (of_scan_both hsc).2 (ht ▸ hg)

/-- `process_events` ran from a coherent state `s1` to `(r, s2)`: a scan error is handed back and nothing
the invariants read has changed; after a scan that passes the checks, with the winding conserved
(`procTailB`), the state is coherent again and the rest of the certificate holds -/
theorem proc_run {rec : St α → Bool} {s1 s2 : St α} {r : Option IErr} (hc : Coh s1) (ht : s1.tolerance = tol)
    (hP : EvPost s1 r s2) :
    (∀ e, scanActiveEdges s1 = .error e → r = some e ∧ Coh s2 ∧ s2.tolerance = tol) ∧
    (∀ scan, scanActiveEdges s1 = .ok scan → ScanAgree s1 scan →
      (stepOkB s1 s2 && rec (nextSt s2)) = true →
      r = none ∧ Coh s2 ∧ s2.tolerance = tol ∧ rec (nextSt s2) = true) := by
  unfold EvPost at hP
  refine ⟨fun e hsc => ?_, fun scan hsc hG hT => ?_⟩
  · rw [hsc] at hP
    exact ⟨hP.1, hc.frame hP.2.1 hP.2.2.1 hP.2.2.2.1, hP.2.2.2.2.trans ht⟩
  · simp only [Bool.and_eq_true] at hT
    have hstep := stepOk_of_B hT.1
    unfold StepOk at hstep
    rw [hsc] at hP hstep
    obtain ⟨hr, W, hN⟩ := hP
    have hb := of_scan_both hsc
    exact ⟨hr, coh_after hb.1 hb.2 hc hG (hstep W hN) hN, hN.tol.trans ht, hT.2⟩

theorem proc_spec (hUp : NextUpOk α ∨ mAssert ∈ A) {g : Bool} (hg : GOk g tol) {s1 : St α} (hc : Coh s1)
    (ht : s1.tolerance = tol)
    (hG : ∀ scan, scanActiveEdges s1 = .ok scan → (!g || scanAgreeB s1 scan) = true) :
    ⦃fun s => ⌜s = s1⌝⦄ (processEvents : SM α (Option IErr)) ⦃safePost A fun r s' => EvPost s1 r s'⦄ :=
  processEvents_coh_at s1 hc (fun scan hsc => hg.agree ht hsc (hG scan hsc)) hUp

theorem init_spec (g : Bool) (rec : St α → Bool) :
    ⦃fun s => ⌜Coh s ∧ s.tolerance = tol ∧ initTailGB g rec s = true⌝⦄ (initializeEvents : SM α Unit)
    ⦃safePost A fun _ s1 => Coh s1 ∧ s1.tolerance = tol ∧ firstGB g rec s1 = true⦄ :=
  safe_conseq fun s h => ⟨(· = s), _, rfl, initializeEvents_frame s, fun _ s1 hr hf =>
    ⟨h.1.frame hf.1 hf.2.1 hf.2.2.1, hf.2.2.2.trans h.2.1, by
      have hI := h.2.2
      unfold initTailGB at hI
      rw [hr] at hI
      exact hI⟩⟩

theorem proc1_spec (hUp : NextUpOk α ∨ mAssert ∈ A) (g : Bool) (hg : GOk g tol) (rec : St α → Bool) :
    ⦃fun s1 => ⌜Coh s1 ∧ s1.tolerance = tol ∧ firstGB g rec s1 = true⌝⦄ (processEvents : SM α (Option IErr))
    ⦃safePost A fun r s2 => (r = none ∧ Coh s2 ∧ s2.tolerance = tol ∧ rec (nextSt s2) = true) ∨
      (r ≠ none ∧ Coh s2 ∧ s2.tolerance = tol ∧ recTailGB g rec s2 = true)⦄ :=
  safe_conseq fun s1 h => by
    have hF := h.2.2
    unfold firstGB at hF
    cases hsc : scanActiveEdges s1 with
    | ok scan =>
      rw [hsc] at hF
      simp only [Bool.and_eq_true] at hF
      refine ⟨(· = s1), _, rfl, proc_spec hUp hg h.1 h.2.1 (fun sc e => by rw [hsc] at e; cases e; exact hF.1),
        fun r s2 hr hP => Or.inl ?_⟩
      have hT := hF.2
      unfold procTailB at hT
      rw [hr] at hT
      exact (proc_run h.1 h.2.1 hP).2 scan hsc (hg.agree h.2.1 hsc hF.1) hT
    | error e =>
      rw [hsc] at hF
      refine ⟨(· = s1), _, rfl, proc_spec hUp hg h.1 h.2.1 (fun sc e' => by rw [hsc] at e'; cases e'),
        fun r s2 hr hP => Or.inr ?_⟩
      rw [hr] at hF
      have h' := (proc_run (rec := rec) h.1 h.2.1 hP).1 e hsc
      exact ⟨by rw [h'.1]; simp, h'.2.1, h'.2.2, hF⟩

theorem rec_spec (hNaN : NoNaN α ∨ mNaN ∈ A) (g : Bool) (rec : St α → Bool) :
    ⦃fun s => ⌜Coh s ∧ s.tolerance = tol ∧ recTailGB g rec s = true⌝⦄ (recoverFromError : SM α Unit)
    ⦃safePost A fun _ s3 => Coh s3 ∧ s3.tolerance = tol ∧ secondGB g rec s3 = true⦄ :=
  safe_conseq fun s h => ⟨_, _, ⟨h.1, h.2.1⟩, recoverFromError_coh hNaN tol, fun _ s3 hr hf => ⟨hf.1, hf.2, by
    have hR := h.2.2
    unfold recTailGB at hR
    rw [hr] at hR
    exact hR⟩⟩

/-- the second `process_events` of an event (after the recovery), as a constant of its own so that the
two calls get different specifications -/
def processEventsAgain : SM α (Option IErr) := processEvents

theorem proc2_spec (hUp : NextUpOk α ∨ mAssert ∈ A) (g : Bool) (hg : GOk g tol) (rec : St α → Bool) :
    ⦃fun s3 => ⌜Coh s3 ∧ s3.tolerance = tol ∧ secondGB g rec s3 = true⌝⦄ (processEventsAgain : SM α (Option IErr))
    ⦃safePost A fun r s4 => r = none → Coh s4 ∧ s4.tolerance = tol ∧ rec (nextSt s4) = true⦄ := by
  unfold processEventsAgain
  refine safe_conseq fun s3 h => ?_
  have hF := h.2.2
  unfold secondGB at hF
  cases hsc : scanActiveEdges s3 with
  | ok scan =>
    rw [hsc] at hF
    simp only [Bool.and_eq_true] at hF
    refine ⟨(· = s3), _, rfl, proc_spec hUp hg h.1 h.2.1 (fun sc e => by rw [hsc] at e; cases e; exact hF.1),
      fun r s4 hr hP _ => ?_⟩
    have hT := hF.2
    unfold procTailB at hT
    rw [show (processEvents : SM α (Option IErr)).run.run s3 = (.ok r, s4) from hr] at hT
    exact ((proc_run h.1 h.2.1 hP).2 scan hsc (hg.agree h.2.1 hsc hF.1) hT).2
  | error e =>
    refine ⟨(· = s3), _, rfl, proc_spec hUp hg h.1 h.2.1 (fun sc e' => by rw [hsc] at e'; cases e'),
      fun r s4 _ hP hr => ?_⟩
    rw [((proc_run (rec := rec) h.1 h.2.1 hP).1 e hsc).1] at hr
    cases hr

theorem evRecover_eq : (evRecover : SM α Unit) = (do
    match ← processEvents with
    | none => pure ()
    | some _ =>
      recoverFromError
      match ← processEventsAgain with
      | none => pure ()
      | some e =>
        mark 1
        throw (.err s!"Internal({e.toString})")) := rfl

/-- one event with its retry: the certificate of the event passes to the next one -/
theorem evRecover_coh (hUp : NextUpOk α ∨ mAssert ∈ A) (hNaN : NoNaN α ∨ mNaN ∈ A) (g : Bool) (hg : GOk g tol)
    (rec : St α → Bool) :
    ⦃fun s => ⌜Coh s ∧ s.tolerance = tol ∧ firstGB g rec s = true⌝⦄ (evRecover : SM α Unit)
    ⦃safePost A fun _ s => Coh s ∧ s.tolerance = tol ∧ rec (nextSt s) = true⦄ := by
  have h2 := proc1_spec (α := α) (A := A) (tol := tol) hUp g hg rec
  have h3 := rec_spec (α := α) (A := A) (tol := tol) hNaN g rec
  have h4 := proc2_spec (α := α) (A := A) (tol := tol) hUp g hg rec
  rw [evRecover_eq]
  mvcgen [mark, h2, h3, h4]
  case vc2 h => exact h.elim (·.2) fun h => absurd rfl h.1
  case vc3 h => exact h.elim (fun h => nomatch h.1) (·.2)
  case vc5 => assumption
  case vc6 => exact allowed_err _

/-- **the loop**: from a coherent state, a run with a `true` certificate fails only in the ways `A`
allows.  The certificate is consumed event by event: `allOkGB g (f+1)` at the head of the loop, `firstGB g
(allOkGB g f)` after `initialize_events`, `allOkGB g f` of the next state after the event -/
theorem loop_coh (hUp : NextUpOk α ∨ mAssert ∈ A) (hNaN : NoNaN α ∨ mNaN ∈ A) (g : Bool) (hg : GOk g tol) :
    ∀ f : Nat,
    ⦃fun s => ⌜Coh s ∧ s.tolerance = tol ∧ allOkGB g f s = true⌝⦄ (tessellatorLoop f : SM α Unit)
    ⦃safePost A fun _ _ => True⦄ :=
  tessellatorLoop_phases (I := fun f s => Coh s ∧ s.tolerance = tol ∧ allOkGB g f s = true)
    (J := fun f s => Coh s ∧ s.tolerance = tol ∧ firstGB g (allOkGB g f) s = true)
    (J' := fun f s => Coh s ∧ s.tolerance = tol ∧ allOkGB g f (nextSt s) = true)
    (fun _ _ => allowed_fuel) (fun _ _ _ => allowed_fuel) (fun _ _ _ _ => trivial)
    (fun f s hs => init_spec g (allOkGB g f) s ⟨hs.1.1, hs.1.2.1, by
      have hA := hs.1.2.2
      unfold allOkGB at hA
      simp only [Bool.or_eq_true] at hA
      exact hA.resolve_left hs.2⟩)
    (fun f => evRecover_coh hUp hNaN g hg (allOkGB g f)) fun _ _ h => ⟨h.1.next, h.2.1, h.2.2⟩

theorem coh_init (q : Queue α) (rule : Slab.Rule) (horizontal : Bool) (tol : α) (handleIx : Bool) :
    Coh (initSt q rule horizontal tol handleIx) := by
  refine ⟨by intro k hk; simp [initSt] at hk, ?_, ?_, ?_, ?_⟩
  · simp [Wtot, Wat, wfold, initSt, WindingState.new]
  · simp [Wtot, Wat, wfold, initSt, WindingState.new]
  · intro k e hk; simp [initSt] at hk
  · intro x hx; simp [sigs, initSt] at hx

theorem tessellateImpl_clean (q : Queue α) (rule : Slab.Rule) (horizontal : Bool) (tol : α) (handleIx : Bool)
    (hUp : NextUpOk α ∨ mAssert ∈ A) (hNaN : NoNaN α ∨ mNaN ∈ A) (g : Bool) (hg : GOk g (tol * half))
    (hB : cleanRunGB g q rule horizontal tol handleIx = true) (f : Fail)
    (hf : (tessellateImpl q rule horizontal tol handleIx).1 = some f) : Allowed A f := by
  rcases tessellateImpl_fail hf with ⟨k, rfl⟩ | h
  · exact allowed_err k
  · exact allowed_of_run (loop_coh hUp hNaN g hg _) ⟨coh_init q rule horizontal tol handleIx, rfl, hB⟩ h

theorem tessellate_clean (entry : Entry) (rule : Slab.Rule) (horizontal : Bool) (tol : α) (handleIx : Bool)
    (subs : List (SubPath α)) (hUp : NextUpOk α ∨ mAssert ∈ A) (hNaN : NoNaN α ∨ mNaN ∈ A)
    (g : Bool) (hg : GOk g (tol * half))
    (hB : cleanGB g entry rule horizontal tol handleIx subs = true) (f : Fail)
    (hf : (tessellate entry rule horizontal tol handleIx subs).1 = some f) : Allowed A f := by
  rcases tessellate_fail hf with ⟨k, rfl⟩ | h
  · exact allowed_unmodelled k
  · exact tessellateImpl_clean _ _ _ _ _ hUp hNaN g hg hB f h

end Lyon.SweepCoh
