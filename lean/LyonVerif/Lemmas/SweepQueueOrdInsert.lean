/-
  `insert_into_sorted_list` keeps the `next_event` list sorted (pointer level, ordered fields): the walk of
  `Queue.insertLoop` from a node `prev` whose position is before `p` links the fresh event `idx` (position `p`)
  into the list - as a new node between two nodes, at the end, or as a sibling of a node at `p` - and the list
  from `prev` stays `SortedFrom`, contains `p`, and keeps all its positions.
-/
import LyonVerif.Lemmas.SweepQueueOrd

set_option linter.unusedSectionVars false

namespace Lyon.SweepSpan
open Lyon Lyon.Scalar Lyon.Sweep Lyon.EQ Lyon.SweepPos

section field
variable {K : Type} [Field K] [LinearOrder K] [IsStrictOrderedRing K]

theorem getD_modify (evs : Array (Event K)) (i j : Nat) (f : Event K → Event K) (d : Event K) :
    (evs.modify i f).getD j d = if i = j ∧ j < evs.size then f (evs.getD j d) else evs.getD j d := by
  simp only [Array.getD_eq_getD_getElem?, Array.getElem?_modify]
  by_cases h : i = j
  · subst h
    by_cases h2 : i < evs.size
    · simp [h2]
    · simp [h2]
  · simp [h]

theorem epos_setNextEvent (evs : Array (Event K)) (id nx j : Nat) :
    epos (Queue.setNextEvent evs id nx) j = epos evs j := by
  unfold epos Queue.setNextEvent
  rw [getD_modify]
  split <;> rfl

theorem enext_setNextEvent (evs : Array (Event K)) (id nx j : Nat) :
    enext (Queue.setNextEvent evs id nx) j = if id = j ∧ j < evs.size then nx else enext evs j := by
  unfold enext Queue.setNextEvent
  rw [getD_modify]
  split <;> rfl

theorem epos_setNextSibling (evs : Array (Event K)) (id nx j : Nat) :
    epos (Queue.setNextSibling evs id nx) j = epos evs j := by
  unfold epos Queue.setNextSibling
  rw [getD_modify]
  split <;> rfl

theorem enext_setNextSibling (evs : Array (Event K)) (id nx j : Nat) :
    enext (Queue.setNextSibling evs id nx) j = enext evs j := by
  unfold enext Queue.setNextSibling
  rw [getD_modify]
  split <;> rfl

theorem push_frame (evs : Array (Event K)) (e : Event K) {j : Nat} (hj : j < evs.size) :
    enext (evs.push e) j = enext evs j ∧ epos (evs.push e) j = epos evs j := by
  unfold enext epos
  simp [Array.getD_eq_getD_getElem?, Array.getElem?_push, Nat.ne_of_lt hj, hj]

/-- `j` is a node of the `next_event` list from `i` -/
inductive NodeIn (evs : Array (Event K)) : Nat → Nat → Prop
  | here (i : Nat) (hi : i ≠ INVALID) : NodeIn evs i i
  | next (i j : Nat) (hi : i ≠ INVALID) (h : NodeIn evs (enext evs i) j) : NodeIn evs i j

theorem NodeIn.valid {evs : Array (Event K)} {i j : Nat} (h : NodeIn evs i j) : i ≠ INVALID := by
  cases h <;> assumption

theorem node_lt {evs : Array (Event K)} {i j : Nat} {p : P K} (hn : NodeIn evs i j) (hs : SortedFrom evs i)
    (hp : LexLt p (epos evs i)) : LexLt p (epos evs j) := by
  induction hn with
  | here i hi => exact hp
  | next i j hi h ih => exact ih (hs.tail hi) (hp.trans (hs.head_lt hi h.valid))

theorem not_node_tail {evs : Array (Event K)} {i : Nat} (hs : SortedFrom evs i) (hi : i ≠ INVALID) :
    ¬ NodeIn evs (enext evs i) i :=
  fun hn => LexLt.irrefl _ (node_lt hn (hs.tail hi) (hs.head_lt hi hn.valid))

/-- a list depends only on the positions and the `next_event` links of its own nodes -/
theorem sorted_frame {evs evs' : Array (Event K)} {i : Nat} (hs : SortedFrom evs i)
    (hn : ∀ j, NodeIn evs i j → enext evs' j = enext evs j ∧ epos evs' j = epos evs j) : SortedFrom evs' i := by
  induction hs with
  | nil => exact .nil
  | cons i hi hs' hlt ih =>
    have e := hn i (.here i hi)
    refine .cons i hi ?_ ?_
    · rw [e.1]; exact ih (fun j hj => hn j (.next i j hi hj))
    · intro hv
      rw [e.1] at hv ⊢
      rw [e.2, (hn _ (.next i _ hi (.here _ hv))).2]
      exact hlt hv

theorem InChain.at {evs : Array (Event K)} {i : Nat} {p : P K} (hi : i ≠ INVALID) (h : epos evs i = p) :
    InChain evs i p := h ▸ .here i hi

theorem inchain_frame {evs evs' : Array (Event K)} {i : Nat} {p : P K} (hc : InChain evs i p)
    (hn : ∀ j, NodeIn evs i j → enext evs' j = enext evs j ∧ epos evs' j = epos evs j) : InChain evs' i p := by
  induction hc with
  | here i hi => exact .at hi (hn i (.here i hi)).2
  | next i p hi h ih =>
    refine .next i p hi ?_
    rw [(hn i (.here i hi)).1]; exact ih (fun j hj => hn j (.next i j hi hj))

theorem frame_both {evs evs' : Array (Event K)} {i : Nat} (hs : SortedFrom evs i)
    (hn : ∀ j, NodeIn evs i j → enext evs' j = enext evs j ∧ epos evs' j = epos evs j) :
    SortedFrom evs' i ∧ ∀ r, InChain evs i r → InChain evs' i r :=
  ⟨sorted_frame hs hn, fun _ hr => inchain_frame hr hn⟩

theorem nodeIn_of_frame {evs evs' : Array (Event K)} {i : Nat} (hs : SortedFrom evs i)
    (hn : ∀ j, NodeIn evs i j → enext evs' j = enext evs j) : ∀ k, NodeIn evs' i k → NodeIn evs i k := by
  induction hs with
  | nil => intro k hk; exact absurd rfl hk.valid
  | cons i hi hs' hlt ih =>
    intro k hk
    cases hk with
    | here _ _ => exact .here i hi
    | next _ _ _ h =>
      rw [hn i (.here i hi)] at h
      exact .next i k hi (ih (fun j hj => hn j (.next i j hi hj)) k h)

theorem lt_of_not_beq_not_after {a b : P K} (h1 : ¬ (a == b) = true) (h2 : ¬ Sources.isAfter a b = true) :
    comparePositions a b = .lt := by
  refine (lexCmp_lt_iff a b).mpr ?_
  rcases LexLt.total a b with h | h | h
  · exact h
  · exact absurd ((P.beq_iff_eq a b).mpr h) h1
  · exact absurd ((Sources.isAfter_lexLt a b).mpr h) h2

/-- what the walk guarantees about the list from `prev` -/
structure InsRes (evs evs' : Array (Event K)) (prev idx : Nat) (p : P K) : Prop where
  sorted : SortedFrom evs' prev
  has : InChain evs' prev p
  keep : ∀ q, InChain evs prev q → InChain evs' prev q
  pos : ∀ j, epos evs' j = epos evs j
  frame : ∀ j, j ≠ idx → ¬ NodeIn evs prev j → enext evs' j = enext evs j

/-- linking the fresh node `idx` at `p` between `prev` and its successor (`evs'`: the array after the link updates) -/
theorem splice {evs evs' : Array (Event K)} {prev idx : Nat} {p : P K} (hs : SortedFrom evs prev)
    (hprev : prev ≠ INVALID) (hidx : idx ≠ INVALID) (hpl : comparePositions (epos evs prev) p = .lt)
    (hip : epos evs idx = p)
    (hlt : enext evs prev ≠ INVALID → comparePositions p (epos evs (enext evs prev)) = .lt)
    (hnodes : ∀ j, NodeIn evs prev j → j ≠ idx) (hpos : ∀ j, epos evs' j = epos evs j)
    (e1 : enext evs' prev = idx) (e2 : enext evs' idx = enext evs prev)
    (hnx : ∀ j, j ≠ idx → j ≠ prev → enext evs' j = enext evs j) : InsRes evs evs' prev idx p := by
  have hframe : ∀ j, NodeIn evs (enext evs prev) j → enext evs' j = enext evs j ∧ epos evs' j = epos evs j :=
    fun j hj => ⟨hnx j (hnodes j (.next prev j hprev hj)) (fun h => not_node_tail hs hprev (h ▸ hj)), hpos j⟩
  have hpi : epos evs' idx = p := (hpos idx).trans hip
  refine ⟨.cons prev hprev ?_ ?_, .next prev p hprev ?_, ?_, hpos,
    fun j hj hnj => hnx j hj fun h => hnj (by rw [h]; exact .here prev hprev)⟩
  · rw [e1]
    refine .cons idx hidx ?_ ?_
    · rw [e2]; exact sorted_frame (hs.tail hprev) hframe
    · rw [e2, hpi]; intro hv; rw [hpos]; exact hlt hv
  · intro _; rw [e1, hpi, hpos]; exact hpl
  · rw [e1]; exact .at hidx hpi
  · intro q hq
    cases hq with
    | here _ _ => exact .at hprev (hpos prev)
    | next _ _ _ h =>
      refine .next prev q hprev ?_
      rw [e1]
      refine .next idx q hidx ?_
      rw [e2]
      exact inchain_frame h hframe

theorem sibling2_frame (evs : Array (Event K)) (a b c d j : Nat) :
    enext (Queue.setNextSibling (Queue.setNextSibling evs a b) c d) j = enext evs j ∧
    epos (Queue.setNextSibling (Queue.setNextSibling evs a b) c d) j = epos evs j :=
  ⟨by rw [enext_setNextSibling, enext_setNextSibling], by rw [epos_setNextSibling, epos_setNextSibling]⟩

/-- the walk of `insert_into_sorted_list` from `prev` (`current` its successor) with the new event `idx`, unlinked,
at position `p` after that of `prev`, and no node of the list from `prev`: a successful walk links `idx` in (`InsRes`) -/
theorem insertLoop_sorted (idx : Nat) (p : P K) (hidx : idx ≠ INVALID) (f : Nat) (evs : Array (Event K))
    (prev current : Nat) (evs' : Array (Event K)) :
    Queue.insertLoop idx p f evs prev current = some evs' →
    current = enext evs prev → SortedFrom evs prev → prev ≠ INVALID →
    comparePositions (epos evs prev) p = .lt → epos evs idx = p → enext evs idx = INVALID → idx < evs.size →
    (∀ j, NodeIn evs prev j → j ≠ idx ∧ j < evs.size) → InsRes evs evs' prev idx p := by
  fun_induction Queue.insertLoop idx p f evs prev current
  all_goals
    intro e hcur hs hprev hpl hip hin his hnodes
    have hpn := hnodes _ (.here _ hprev)
  case case1 => cases e
  case case2 f evs prev current hc0 =>
    -- end of the list: `prev → idx`
    cases e
    have hci : enext evs prev = INVALID := by rw [← hcur]; simpa using hc0
    refine splice hs hprev hidx hpl hip (fun h => absurd hci h) (fun j hj => (hnodes j hj).1)
      (fun j => epos_setNextEvent _ _ _ _) ?_ ?_ ?_
    · rw [enext_setNextEvent, if_pos ⟨rfl, hpn.2⟩]
    · rw [enext_setNextEvent, if_neg (fun h => hpn.1 h.1), hin, hci]
    · intro j _ hj; rw [enext_setNextEvent, if_neg (fun h => hj h.1.symm)]
  case case3 f evs prev current hc0 pos hp =>
    -- an event at `p` exists: `idx` becomes its sibling; no `next_event` link changes
    cases e
    have hc : InChain evs prev p :=
      .next prev p hprev (hcur ▸ .at (by simpa using hc0) ((P.beq_iff_eq _ _).mp hp))
    exact ⟨sorted_frame hs fun j _ => sibling2_frame .., inchain_frame hc fun j _ => sibling2_frame ..,
      fun q hq => inchain_frame hq fun j _ => sibling2_frame .., fun j => (sibling2_frame ..).2,
      fun j _ _ => (sibling2_frame ..).1⟩
  case case4 f evs prev current hc0 pos hp ha =>
    -- `prev → idx → current`
    cases e
    have hsz : (Queue.setNextEvent evs prev idx).size = evs.size := by simp [Queue.setNextEvent]
    refine splice hs hprev hidx hpl hip (fun _ => by rw [← hcur]; exact (lexCmp_lt_iff _ _).mpr ((Sources.isAfter_lexLt _ _).mp ha))
      (fun j hj => (hnodes j hj).1) (fun j => by rw [epos_setNextEvent, epos_setNextEvent]) ?_ ?_ ?_
    · rw [enext_setNextEvent, if_neg (fun h => hpn.1 h.1.symm), enext_setNextEvent, if_pos ⟨rfl, hpn.2⟩]
    · rw [enext_setNextEvent, if_pos ⟨rfl, by rw [hsz]; exact his⟩, hcur]
    · intro j h1 h2
      rw [enext_setNextEvent, if_neg (fun h => h1 h.1.symm), enext_setNextEvent, if_neg (fun h => h2 h.1.symm)]
  case case5 f evs prev current hc0 pos hp ha ih =>
    -- walk on
    have hcv : current ≠ INVALID := by simpa using hc0
    have hsub : ∀ j, NodeIn evs current j → NodeIn evs prev j := fun j hj => .next prev j hprev (hcur ▸ hj)
    have hprev_not : ¬ NodeIn evs current prev := hcur ▸ not_node_tail hs hprev
    have ih := ih e rfl (hcur ▸ hs.tail hprev) hcv
      (lt_of_not_beq_not_after hp ha) hip hin his (fun j hj => hnodes j (hsub j hj))
    have e1 : enext evs' prev = current := by
      rw [ih.frame prev hpn.1 hprev_not, ← hcur]
    refine ⟨?_, ?_, ?_, ih.pos, ?_⟩
    · refine .cons prev hprev (by rw [e1]; exact ih.sorted) ?_
      intro _
      rw [e1, ih.pos, ih.pos, hcur]
      exact (lexCmp_lt_iff _ _).mpr (hs.head_lt hprev (hcur ▸ hcv))
    · exact .next prev p hprev (by rw [e1]; exact ih.has)
    · intro q hq
      cases hq with
      | here _ _ => exact .at hprev (ih.pos prev)
      | next _ _ _ h => exact .next prev q hprev (by rw [e1]; exact ih.keep q (hcur ▸ h))
    · intro j hj hnj
      exact ih.frame j hj (fun h => hnj (hsub j h))

/-- the first step of the walk: it starts AT `after` (`prev = current = after`), a node before `p` -/
theorem insertLoop_start (idx : Nat) (p : P K) (hidx : idx ≠ INVALID) (f : Nat) (evs : Array (Event K))
    (after : Nat) (evs' : Array (Event K)) (e : Queue.insertLoop idx p (f + 1) evs after after = some evs')
    (hs : SortedFrom evs after) (hav : after ≠ INVALID) (hpl : comparePositions (epos evs after) p = .lt)
    (hip : epos evs idx = p) (hin : enext evs idx = INVALID) (his : idx < evs.size)
    (hnodes : ∀ j, NodeIn evs after j → j ≠ idx ∧ j < evs.size) : InsRes evs evs' after idx p := by
  simp only [Queue.insertLoop] at e
  rw [if_neg (by simpa using hav)] at e
  have h1 : ¬ ((evs.getD after Event.dflt).pos == p) = true := by
    intro h
    have : epos evs after = p := (P.beq_iff_eq _ _).mp h
    rw [this] at hpl
    exact LexLt.irrefl _ ((lexCmp_lt_iff _ _).mp hpl)
  have h2 : ¬ Sources.isAfter (evs.getD after Event.dflt).pos p = true := by
    intro h
    exact LexLt.irrefl _ (((lexCmp_lt_iff _ _).mp hpl).trans ((Sources.isAfter_lexLt _ _).mp h))
  rw [if_neg h1, if_neg h2] at e
  exact insertLoop_sorted idx p hidx f evs after _ evs' e rfl hs hav hpl hip hin his hnodes

/-- advancing to the next event: the list from the successor is sorted, and the vertex just left is before it -/
theorem sorted_advance {evs : Array (Event K)} {i : Nat} (hs : SortedFrom evs i) (hi : i ≠ INVALID) :
    SortedFrom evs (enext evs i) ∧
    (enext evs i ≠ INVALID → (epos evs i).y ≤ (epos evs (enext evs i)).y) :=
  ⟨hs.tail hi, fun h => (hs.head_lt hi h).le_y⟩

end field

end Lyon.SweepSpan
