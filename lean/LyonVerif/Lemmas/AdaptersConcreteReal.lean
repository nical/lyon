/-
  C16 with the concrete flatteners — the laws assumed of the non-field functions
  (`SqrtScales`, `SqrtLaws`, `CeilLaws`/`CountLaws`) all hold TOGETHER of the real numbers with
  the genuine `sqrt`, `ceil`, `floor` and the saturating cast: non-vacuity of the hypotheses of
  `Props/C16c.lean`, and the reading "in exact real arithmetic" of its theorems
  (`real_sqrtScales`, `real_sqrtLaws`, `real_ceilLaws`, `real_countLaws`, `real_cubicLaws`).
  Then instances for the examples of `Props/C16b.lean` … `C16g`: a similarity and a mirror image
  (`exSim`, `exSimNeg`), and the degenerate cubic `(0,0) (0,0) (0,0) (0,0)` on which neither
  adapter panics (`exCbOkCubic`, `exItOkCubic`, `exProgC`).
-/
import LyonVerif.Lemmas.AdaptersConcreteT
import LyonVerif.Lemmas.AdaptersConcreteSim
import LyonVerif.Lemmas.AdaptersConcreteEx
import Mathlib.Analysis.SpecialFunctions.Sqrt
import Mathlib.Analysis.SpecialFunctions.Pow.Real


namespace Lyon.Adapt
open Lyon Lyon.Path Scalar Lyon.Flat

/-- ℝ with Mathlib's `sqrt`, `powf` (real power), `ceil`, `floor`, `⌊·⌋₊` (fields the flattening code does not use are
placeholders) -/
@[instance_reducible] noncomputable def exRealTransc : Transc ℝ :=
  { sqrt := Real.sqrt, cbrt := id, sin := id, cos := id, tan := id, acos := id,
    atan2 := fun a _ => a, pow := fun a b => a ^ b, log2 := id, ln := id,
    floor := fun x => ((⌊x⌋ : ℤ) : ℝ), ceil := fun x => ((⌈x⌉ : ℤ) : ℝ),
    toNat := fun x => ⌊x⌋₊, fmod := fun a _ => a, eps := 0, pi := 3, isNaN := fun _ => false,
    isFinite := fun _ => true }

/-- lyon's constants for an exact scalar: `EPSILON = 1e-4`, `value(m·10^-e)` exact -/
@[instance_reducible] noncomputable def exRealConst : FlatConst ℝ :=
  ⟨1 / 10000, fun m e => (m : ℝ) / 10 ^ e, (67 / 100) ^ 4⟩

theorem real_sqrtScales : @SqrtScales ℝ _ _ _ exRealTransc := by
  intro s x hs hx
  show Real.sqrt (s * s * x) = s * Real.sqrt x
  rw [Real.sqrt_mul (mul_self_nonneg s), Real.sqrt_mul_self hs]

theorem real_sqrtLaws : @SqrtLaws ℝ _ _ _ exRealTransc exRealConst :=
  @SqrtLaws.mk ℝ _ _ _ exRealTransc exRealConst (fun x => Real.sqrt_nonneg x)
    (fun x y _ h => Real.sqrt_le_sqrt h) (by show ((39 : ℕ) : ℝ) / 10 ^ 2 < 1; norm_num)

theorem real_countLaws : @CountLaws ℝ _ _ _ exRealTransc exRealConst :=
  @CountLaws.mk ℝ _ _ _ exRealTransc exRealConst (fun n => Nat.floor_natCast n)
    (fun x => ⟨⌈x⌉, rfl⟩) (by show (0 : ℝ) ≤ 1 / 10000; norm_num)
    (by show (1 / 10000 : ℝ) < 1; norm_num)

theorem real_ceilLaws : @CeilLaws ℝ _ _ _ exRealTransc exRealConst :=
  @CeilLaws.mk ℝ _ _ _ exRealTransc exRealConst real_countLaws (fun x => Int.ceil_lt_add_one x)

/-- a similarity of scale 5: rotation-scaling `(3, 4)`, translation `(1, 2)` -/
theorem exSim : IsSim (⟨3, 4, -4, 3, 1, 2⟩ : Xf ℝ) 5 :=
  ⟨rfl, rfl, by norm_num, by norm_num⟩

/-- the laws C09b's cubic tolerance theorems need (`x ≤ ceil x`, the sixth root) hold of ℝ -/
theorem real_cubicLaws : @CubicLaws ℝ _ _ _ exRealTransc exRealConst :=
  @CubicLaws.mk ℝ _ _ _ exRealTransc exRealConst real_countLaws (fun x => Int.le_ceil x)
    (fun y hy => ⟨Real.rpow_nonneg hy _, by
      show y ≤ (y ^ ((1 : ℝ) / 6)) ^ 6
      have := Real.rpow_inv_natCast_pow hy (by norm_num : (6 : ℕ) ≠ 0)
      rw [one_div]
      exact le_of_eq this.symm⟩)

/-- an orientation-reversing similarity of scale 5: the reflection-rotation `(3, 4)` -/
theorem exSimNeg : IsSimNeg (⟨3, 4, 4, -3, 1, 2⟩ : Xf ℝ) 5 :=
  ⟨rfl, rfl, by norm_num, by norm_num⟩

/-! ### a degenerate cubic (all four control points equal): flattened by both entry points -/

section Cubic
attribute [local instance 2000] fieldScalar

/-- its `num_quadratics` at `0.4·(1/10)` is 1 -/
theorem exNumQuadratics :
    @Cubic.numQuadraticsImpl ℝ _ exRealTransc (⟨⟨0, 0⟩, ⟨0, 0⟩, ⟨0, 0⟩, ⟨0, 0⟩⟩ : Cubic ℝ)
      ((1 / 10 : ℝ) * @FlatConst.value ℝ exRealConst 4 1) = 1 := by
  let _ := exRealTransc; let _ := exRealConst
  simp [Cubic.numQuadraticsImpl, geom]
  show ((⌈((0 : ℝ) ^ ((6 : ℝ)⁻¹))⌉ : ℤ) : ℝ) ≤ 1
  rw [Real.zero_rpow (by norm_num)]
  simp

theorem exCubicQuads (t0 t1 : ℝ) :
    ((⟨⟨0, 0⟩, ⟨0, 0⟩, ⟨0, 0⟩, ⟨0, 0⟩⟩ : Cubic ℝ).splitRange t0 t1).toQuadratic
      = ⟨⟨0, 0⟩, ⟨0, 0⟩, ⟨0, 0⟩⟩ := by
  simp [Cubic.splitRange, Cubic.toQuadratic, Cubic.sample, Quad.sample, geom]

theorem exPointLinear (tol : ℝ) (ht : 0 ≤ tol) :
    (⟨⟨0, 0⟩, ⟨0, 0⟩, ⟨0, 0⟩⟩ : Quad ℝ).isLinear tol = true := by
  simp [Quad.isLinear, segSqDist, segClosestPoint, geom]
  positivity

/-- the callback form does not panic on it: `num_quadratics = ceil 0 ⊔ 1 = 1`, and its one
quadratic is accepted by `is_linear` -/
theorem exCbOkCubic : @cbOkCubic ℝ _ exRealTransc exRealConst (1 / 10) ⟨0, 0⟩ ⟨0, 0⟩ ⟨0, 0⟩ ⟨0, 0⟩ = true := by
  let _ := exRealTransc; let _ := exRealConst
  have hu : toU32 (1 : ℝ) = some 1 := by
    simp [toU32, show (one : ℝ) = 1 from sc_one, ofNat_eq]
    show ⌊(1 : ℝ)⌋₊ = 1
    simp
  have hok := @cbOkQuad_of_isLinear ℝ _ _ _ exRealTransc exRealConst
    ((1 / 10 : ℝ) * FlatConst.value 6 1) ⟨0, 0⟩ ⟨0, 0⟩ ⟨0, 0⟩
    (exPointLinear _ (by show (0 : ℝ) ≤ 1 / 10 * (((6 : ℕ) : ℝ) / 10 ^ 1); norm_num))
  simp only [cbOkQuad, Option.isSome_iff_exists] at hok
  obtain ⟨l, hl⟩ := hok
  unfold cbOkCubic Cubic.forEachFlattenedWithT Cubic.forEachQuadraticWithT
  simp only [exNumQuadratics, hu, Option.getD_some, Nat.sub_self, Cubic.quadsLoop, exCubicQuads,
    Cubic.flatQuadsT, hl]
  rfl

theorem exItOkCubic :
    @itOkCubic ℝ _ exRealTransc exRealConst 3 (1 / 10) ⟨0, 0⟩ ⟨0, 0⟩ ⟨0, 0⟩ ⟨0, 0⟩ = true := by
  let _ := exRealTransc; let _ := exRealConst
  have hlin := exPointLinear ((1 / 10 : ℝ) * FlatConst.value 6 1)
    (by show (0 : ℝ) ≤ 1 / 10 * (((6 : ℕ) : ℝ) / 10 ^ 1); norm_num)
  have hi : toI32 (1 : ℝ) = some 1 := by
    simp [toI32, ofNat_eq]
    show ⌊(1 : ℝ)⌋₊ = 1
    simp
  have hnew : CubicIter.new (⟨⟨0, 0⟩, ⟨0, 0⟩, ⟨0, 0⟩, ⟨0, 0⟩⟩ : Cubic ℝ) (1 / 10)
      = some ⟨⟨⟨0, 0⟩, ⟨0, 0⟩, ⟨0, 0⟩, ⟨0, 0⟩⟩, ⟨FlatParams.linear, one, false⟩, 0,
          (1 / 10 : ℝ) * FlatConst.value 6 1, one / 1, zero⟩ := by
    simp only [CubicIter.new, exNumQuadratics, hi, exCubicQuads, QuadTIter.new, FlatParams.new, hlin, if_true,
      Option.map_some, Nat.sub_self]
  have hat : (⟨FlatParams.linear, 1, false⟩ : QuadTIter ℝ).atEnd = true := by
    simp only [QuadTIter.atEnd, FlatParams.linear, decide_eq_true_eq,
      show (zero : ℝ) = 0 from sc_zero]
    show (0 : ℝ) - 1 / 10000 ≤ 1
    norm_num
  unfold itOkCubic
  rw [hnew]
  simp [CubicIter.collectDone, CubicIter.next, QuadTIter.next, hat, CubicIter.lastOr]

/-- a program with that cubic and two attributes -/
noncomputable def exProgC : List (Call (P ℝ) (List ℝ)) :=
  [.begin ⟨0, 0⟩ [1, 2], .cubic ⟨0, 0⟩ ⟨0, 0⟩ ⟨0, 0⟩ [3, 4], .end_ false]

theorem exBuilderOkC :
    ∃ out, @flatBuilderC ℝ _ exRealTransc exRealConst (1 / 10) ⟨0, 0⟩ 2 exProgC = some out := by
  refine ⟨_, if_pos ?_⟩
  simp only [exProgC, cbOkRun, Bool.and_eq_true, and_true]
  exact exCbOkCubic

theorem exIterOkC :
    ∃ out, @flatIterC ℝ _ exRealTransc exRealConst 3 (1 / 10) (specEvents exProgC) = some out := by
  refine ⟨_, if_pos ?_⟩
  simp only [exProgC, specEvents, specFrom, itOkEvents, Bool.and_eq_true, and_true]
  exact exItOkCubic

end Cubic

end Lyon.Adapt
