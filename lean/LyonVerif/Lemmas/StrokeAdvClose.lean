/-
  Advancement bookkeeping of `close()` in the complete stroker model.  `end(true)` with fewer than three kept points is
  `end_with_caps` (`endSub_closed_two` in `Lemmas/StrokeIdxRun.lean`; a single kept point always gets the empty cap).  With three or more, `close()`
  feeds the first point again (advancement reset to NaN) and then the second endpoint, and re-creates two vertices at
  the first point:
    * the join at the last kept point `l` carries `A_l = A_prev + |edge|` (the table's last entry);
    * the join at the first point carries `A_l + |p0 − p_l|` (start + perimeter);
    * the two re-created vertices (`closeVertices`) carry the START value `s0`;
    * if the first point is within merge distance of `l`, `l` is MOVED onto it (it keeps its own
      endpoint id): its join then sits on `p0` and carries `A_prev + |p0 − p_prev|`, the first point gets
      no join of its own, and the two re-created vertices (start value) name `l`'s endpoint.
  `close()` does not touch `sub_path_start_advancement`.
-/
import LyonVerif.Lemmas.StrokeAdvEmits

set_option linter.unusedSectionVars false

namespace Lyon.C05c
open Lyon Scalar Lyon.Stroke Lyon.Stroke.Full Lyon.C05 Lyon.C05b
open Lyon.C05f (flatJoinAdv)

section
variable {α : Type} [Scalar α] [Transc α] [Asin α] [FlatConst α]

theorem closeTail_emits (st3 : St α) (q0 q1 : EP α) (adv : α) (h : st3.buf.lastTwo = some (q0, q1)) :
    Emits (SiteOK q0.src q0.position adv) st3.out (closeTail st3 adv).out := by
  unfold closeTail
  rw [h]
  show Emits _ _ ((closeVertices q0 adv st3.out).2.addTris _)
  rw [closeVertices_eq]
  exact (Emits.grow _ fun v hv => by
    simp only [List.mem_cons, List.mem_nil_iff, or_false] at hv
    rcases hv with rfl | rfl <;> exact ⟨rfl, rfl, rfl⟩).tris _

theorem closeTail_rest (st3 : St α) (adv : α) :
    (closeTail st3 adv).buf = st3.buf ∧ (closeTail st3 adv).subPathStartAdvancement = st3.subPathStartAdvancement := by
  unfold closeTail
  cases st3.buf.lastTwo with
  | none => exact ⟨rfl, rfl⟩
  | some q => exact ⟨rfl, rfl⟩

/-- the common tail of both branches of `close_advs`: feed `f1` on the window `(x, y)`, then re-create the two vertices -/
theorem close_finish {e : Env α} {st : St α} {x y : EP α} (hwf : WF st.buf) (hxy : st.buf.lastTwo = some (x, y))
    (hy : Fresh e y) (f1 : EP α) (hfar : pointsAreTooClose e.thr y.position f1.position = false) (adv : α) :
    Emits (fun v => SiteOK y.src y.position (flatJoinAdv x y) v ∨ SiteOK y.src y.position adv v) st.out
      (closeTail (fwStep e st f1).1 adv).out
    ∧ WF (closeTail (fwStep e st f1).1 adv).buf
    ∧ (closeTail (fwStep e st f1).1 adv).subPathStartAdvancement = st.subPathStartAdvancement := by
  obtain ⟨q0, h1, h2, h3, h4, _, h6, _, _⟩ := fwStep_join_advs hwf hxy hy f1 hfar
  obtain ⟨r1, r2⟩ := closeTail_rest (fwStep e st f1).1 adv
  have t := closeTail_emits (fwStep e st f1).1 q0 f1 adv h1
  rw [h4, h3] at t
  exact ⟨(Emits.mono (fun v hv => Or.inl hv) h6).trans (Emits.mono (fun v hv => Or.inr hv) t), by rw [r1]; exact h2,
    by rw [r2, fwStep_sps]⟩

/-- **`close()`**, window full: which vertex carries which advancement (see the header) -/
theorem close_advs {e : Env α} (hnan : Transc.isNaN (nan : α) = true) {st : St α} {a' b' F f1 : EP α}
    (hwf : WF st.buf) (hab : st.buf.lastTwo = some (a', b')) (hc3 : st.buf.count = 3)
    (hfs : st.firsts = [F, f1]) (hFf : Fresh e F)
    (hb : Fresh e b') (hbadv : b'.advancement = nan)
    (hP : pointsAreTooClose e.thr F.position f1.position = false) :
    (pointsAreTooClose e.thr b'.position F.position = false →
      Emits (fun v => SiteOK b'.src b'.position (a'.advancement + len (b'.position - a'.position)) v
          ∨ SiteOK F.src F.position (a'.advancement + len (b'.position - a'.position) + len (F.position - b'.position)) v
          ∨ SiteOK F.src F.position F.advancement v) st.out (close (fwStep e) st).out)
    ∧ (pointsAreTooClose e.thr b'.position F.position = true →
      Emits (fun v => SiteOK b'.src F.position (a'.advancement + len (F.position - a'.position)) v
          ∨ SiteOK b'.src F.position F.advancement v) st.out (close (fwStep e) st).out)
    ∧ WF (close (fwStep e) st).buf
    ∧ (close (fwStep e) st).subPathStartAdvancement = st.subPathStartAdvancement := by
  have hlast := hwf.lastTwo_last _ _ hab
  rw [close_eq (fwStep e) hfs]
  by_cases hclose : pointsAreTooClose e.thr b'.position F.position = true
  · -- the first point merges into the last kept one: that point is moved onto it
    have hc : st.tooClose e.thr ({ F with advancement := nan } : EP α).position = true := by
      rw [tooClose_eq hlast]; exact hclose
    rw [fwStep_merged hc]
    have hl1 : ({ st with mayNeedEmptyCap := st.mayNeedEmptyCap || st.buf.count == 1 } : St α).buf.last = some b' := hlast
    obtain ⟨bb, hbb, hwfb, hcb, hlb, hltb⟩ := hwf.replaceLast (by omega) ({ b' with position := F.position } : EP α)
    have hfix : closeFix ({ st with mayNeedEmptyCap := st.mayNeedEmptyCap || st.buf.count == 1 } : St α) false F.position
        = { st with mayNeedEmptyCap := st.mayNeedEmptyCap || st.buf.count == 1, buf := bb } := by
      simp [closeFix, hl1, St.setLast, hbb]
    simp only [hfix]
    obtain ⟨k1, k2, k3⟩ := close_finish (e := e)
      (st := { st with mayNeedEmptyCap := st.mayNeedEmptyCap || st.buf.count == 1, buf := bb }) hwfb (hltb _ _ hab)
      (y := ({ b' with position := F.position } : EP α)) ⟨hb.ps, hb.ns, hb.flat, hb.lj, hb.hw⟩ f1 hP F.advancement
    rw [joinAdv_eq (a := a') (b := ({ b' with position := F.position } : EP α)) hnan (.nan hbadv)] at k1
    exact ⟨fun h => by rw [hclose] at h; exact absurd h (by simp), fun _ => k1, k2, k3⟩
  · -- the first point is fed again
    have hfar1 : pointsAreTooClose e.thr b'.position ({ F with advancement := nan } : EP α).position = false := by
      simpa using hclose
    have hcl1 : st.tooClose e.thr ({ F with advancement := nan } : EP α).position = false := by
      rw [tooClose_eq hlast]; exact hfar1
    obtain ⟨b1, h1, h2, h3, h4, h5, h6, _, _⟩ := fwStep_join_advs hwf hab hb ({ F with advancement := nan } : EP α) hfar1
    have hfix : closeFix (fwStep e st { F with advancement := nan }).1 (fwStep e st { F with advancement := nan }).2 F.position
        = (fwStep e st { F with advancement := nan }).1 := by rw [fwStep_added hcl1 hab]; simp [closeFix]
    simp only [hfix]
    rw [joinAdv_eq hnan (.nan hbadv)] at h5 h6
    obtain ⟨k1, k2, k3⟩ := close_finish h2 h1 (y := ({ F with advancement := nan } : EP α))
      ⟨hFf.ps, hFf.ns, hFf.flat, hFf.lj, hFf.hw⟩ f1 hP F.advancement
    rw [joinAdv_eq (a := b1) (b := ({ F with advancement := nan } : EP α)) hnan (.nan rfl), h5, h3] at k1
    exact ⟨fun _ => (Emits.mono (fun v hv => Or.inl hv) h6).trans (Emits.mono (fun v hv => Or.inr hv) k1),
      fun h => absurd h hclose, k2, by rw [k3, fwStep_sps]⟩

end
end Lyon.C05c
