/-
  The index-validity invariant on the sweep state `Sweep.St`, and its frame rules.

  `Inv n s`   : `s.nverts = n`; `s.out` is a valid emission sequence with `n` vertices
                (`OutOk`); every active edge's `fromId` is `< n`; every live span's monotone
                tessellator holds only ids `< n` (`AdvOk`).  Pooled tessellators and the queue are
                unconstrained (`begin` overwrites every id; the queue's endpoint ids never reach
                the output).
  `Inv1 n s`  : `Inv n s ∧ s.curVertex < n` (holds from `initialize_events` on).

  Failure states matter: `SM = ExceptT Fail (StateM St)` keeps the state reached when an error is
  thrown (the geometry builder saw that output), so the triples of `Lemmas/SweepIdxSteps.lean` claim the
  invariant of the state after a failure too (`Sweep.both`).  `Inv1.frame…`: a state that differs from one
  satisfying the invariant in fields it does not read satisfies it; `inv_frame` applies that.
-/
import LyonVerif.Lemmas.SweepIdxOut
import LyonVerif.Lemmas.SweepStep

set_option linter.unusedSectionVars false

namespace Lyon.SweepIdx
open Lyon Lyon.Scalar Lyon.Mono Lyon.Sweep Lyon.EQ
open Std.Do

variable {α : Type} [Scalar α] [Wide α]

structure Inv (n : Nat) (s : St α) : Prop where
  nv : s.nverts = n
  out : OutOk s.out n
  active : ∀ e ∈ s.active, e.fromId < n
  spans : ∀ t, some t ∈ s.spans → AdvOk n t

def Inv1 (n : Nat) (s : St α) : Prop := Inv n s ∧ s.curVertex < n

theorem Inv1.frame {n : Nat} {s s' : St α} (h : Inv1 n s) (h1 : s'.nverts = s.nverts) (h2 : s'.out = s.out)
    (h3 : s'.spans = s.spans) (h4 : s'.curVertex = s.curVertex) (h5 : ∀ e ∈ s'.active, e.fromId < n) :
    Inv1 n s' :=
  ⟨⟨h1 ▸ h.1.nv, h2 ▸ h.1.out, h5, h3 ▸ h.1.spans⟩, h4 ▸ h.2⟩

theorem Inv1.frameEq {n : Nat} {s s' : St α} (h : Inv1 n s) (h1 : s'.nverts = s.nverts) (h2 : s'.out = s.out)
    (h3 : s'.spans = s.spans) (h4 : s'.curVertex = s.curVertex) (h5 : s'.active = s.active) : Inv1 n s' :=
  h.frame h1 h2 h3 h4 (h5 ▸ h.1.active)

theorem Inv1.setCov {n : Nat} {s : St α} (h : Inv1 n s) (c : Nat) : Inv1 n (s.setCov c) :=
  h.frameEq rfl rfl rfl rfl rfl

theorem Inv1.withSpans {n : Nat} {s s' : St α} (h : Inv1 n s) (h1 : s'.nverts = s.nverts) (h2 : s'.out = s.out)
    (h3 : ∀ t, some t ∈ s'.spans → AdvOk n t) (h4 : s'.curVertex = s.curVertex) (h5 : s'.active = s.active) :
    Inv1 n s' :=
  ⟨⟨h1 ▸ h.1.nv, h2 ▸ h.1.out, h5 ▸ h.1.active, h3⟩, h4 ▸ h.2⟩

/-- closes `Inv1 n s'` when `s'` differs from a state known to satisfy `Inv1 n` only in fields the
invariant does not read -/
macro "inv_frame" : tactic =>
  `(tactic| first
    | assumption
    | (apply Inv1.frameEq <;> first | assumption | rfl))

theorem Inv1.active_get? {n : Nat} {s : St α} {i : Nat} {e : ActiveEdge α} (h : Inv1 n s)
    (he : s.active[i]? = some e) : e.fromId < n := h.1.active e (Array.mem_of_getElem? he)

theorem Inv1.frame_set {n : Nat} {s s' : St α} {i : Nat} {ae0 v : ActiveEdge α} (h : Inv1 n s)
    (hget : s.active[i]? = some ae0) (h1 : s'.nverts = s.nverts) (h2 : s'.out = s.out)
    (h3 : s'.spans = s.spans) (h4 : s'.curVertex = s.curVertex)
    (h5 : s'.active = s.active.setIfInBounds i v) (h6 : v.fromId = ae0.fromId) : Inv1 n s' := by
  refine h.frame h1 h2 h3 h4 ?_
  rw [h5]
  exact all_set h.1.active _ _ (h6 ▸ h.active_get? hget)

end Lyon.SweepIdx
