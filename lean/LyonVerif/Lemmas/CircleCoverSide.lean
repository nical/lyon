/-
  Which side of a chord a point of the circle is on.  The side function of the chord `a → b` at the point of angle
  `θ` is `4r²·sin((b−a)/2)·sin((θ−a)/2)·sin((θ−b)/2)` (`side_eq`): the arc `[a, b]` is on the outer side of the chord
  (`side_nonpos`), the complementary arc `[b, a + 2π]` on the inner side (`side_nonneg`).  Both the disjointness and the
  inside-the-polygon theorems of the circle mesh rest on this separation.
-/
import LyonVerif.Lemmas.CircleCoverDepth


namespace Lyon.C03c
open Lyon Lyon.Shapes Lyon.C03

variable {K : Type} [Field K] [LinearOrder K] [IsStrictOrderedRing K] [Transc K]

namespace CircTrig
variable (L : CircTrig K)
include L

theorem sin_nonneg (x : K) (h0 : 0 ≤ x) (h1 : x ≤ Transc.pi) : 0 ≤ Transc.sin x := by
  rcases eq_or_lt_of_le h0 with h | h
  · rw [← h, L.sin_zero]
  · rcases eq_or_lt_of_le h1 with h' | h'
    · rw [h', L.sin_pi]
    · exact le_of_lt (L.sin_pos x h h')

theorem sin_neg (x : K) : Transc.sin (-x) = -Transc.sin x := by
  have := L.toTrigAdd.sin_sub 0 x
  rw [zero_sub, L.cos_zero, L.sin_zero] at this
  rw [this]; ring

theorem cos_add_two_pi (x : K) : Transc.cos (x + 2 * Transc.pi) = Transc.cos x := by
  rw [L.cos_add, L.cos_two_pi, L.sin_two_pi]; ring

theorem sin_add_two_pi (x : K) : Transc.sin (x + 2 * Transc.pi) = Transc.sin x := by
  rw [L.sin_add, L.cos_two_pi, L.sin_two_pi]; ring

theorem sin_half_nonneg {x : K} (h0 : 0 ≤ x) (h1 : x ≤ 2 * Transc.pi) : 0 ≤ Transc.sin (x / 2) :=
  L.sin_nonneg _ (div_nonneg h0 zero_le_two) (by linear_combination (1 / 2) * h1)

theorem sin_half_nonpos {x : K} (h0 : x ≤ 0) (h1 : -(2 * Transc.pi) ≤ x) : Transc.sin (x / 2) ≤ 0 := by
  have := L.sin_half_nonneg (x := -x) (neg_nonneg.2 h0) (by linear_combination h1)
  rw [neg_div, L.sin_neg] at this
  exact neg_nonneg.1 this

end CircTrig

noncomputable section

theorem pos_periodic (L : CircTrig K) (c : P K) (r θ : K) : pos c r (θ + 2 * Transc.pi) = pos c r θ := by
  apply P.ext'
  · rw [pos_x, pos_x, L.cos_add_two_pi]
  · rw [pos_y, pos_y, L.sin_add_two_pi]

theorem side_eq (L : CircTrig K) (c : P K) (r a b θ : K) :
    (pos c r b - pos c r a).cross (pos c r θ - pos c r a)
      = 4 * (r * r) * Transc.sin ((b - a) / 2) * (Transc.sin ((θ - a) / 2) * Transc.sin ((θ - b) / 2)) := by
  have h := chord_cross L.toTrigAdd c r ((a + b) / 2) ((b - a) / 2) (pos c r θ)
  rw [show (a + b) / 2 + (b - a) / 2 = b by ring, show (a + b) / 2 - (b - a) / 2 = a by ring] at h
  -- `cos((b − a)/2) − cos(θ − (a + b)/2) = 2·sin((θ − a)/2)·sin((θ − b)/2)`
  have h1 := L.toTrigAdd.cos_sub ((θ - a) / 2) ((θ - b) / 2)
  have h2 := L.cos_add ((θ - a) / 2) ((θ - b) / 2)
  have h3 := L.toTrigAdd.cos_sub θ ((a + b) / 2)
  rw [show (θ - a) / 2 - (θ - b) / 2 = (b - a) / 2 by ring] at h1
  rw [show (θ - a) / 2 + (θ - b) / 2 = θ - (a + b) / 2 by ring] at h2
  rw [h, pos_x, pos_y]
  linear_combination (2 * (r * r) * Transc.sin ((b - a) / 2)) * (h1 - h2 + h3)

/-- angle in `[a, b]` ⟹ outer side (closed) of the chord `a → b` -/
theorem side_nonpos (L : CircTrig K) (c : P K) (r a b θ : K) (h0 : a < b) (h1 : b < a + 2 * Transc.pi)
    (ha : a ≤ θ) (hb : θ ≤ b) :
    (pos c r b - pos c r a).cross (pos c r θ - pos c r a) ≤ 0 := by
  rw [side_eq L]
  exact mul_nonpos_of_nonneg_of_nonpos
    (mul_nonneg (mul_nonneg zero_le_four (mul_self_nonneg r)) (L.sin_half_nonneg (sub_nonneg.2 h0.le) (by linear_combination h1)))
    (mul_nonpos_of_nonneg_of_nonpos (L.sin_half_nonneg (sub_nonneg.2 ha) (by linear_combination hb + h1))
      (L.sin_half_nonpos (sub_nonpos.2 hb) (by linear_combination ha + h1)))

/-- angle in `[b, a + 2π]` ⟹ inner side (closed) of the chord `a → b` -/
theorem side_nonneg (L : CircTrig K) (c : P K) (r a b θ : K) (h0 : a < b) (h1 : b < a + 2 * Transc.pi)
    (hb : b ≤ θ) (ha : θ ≤ a + 2 * Transc.pi) :
    0 ≤ (pos c r b - pos c r a).cross (pos c r θ - pos c r a) := by
  rw [side_eq L]
  exact mul_nonneg (mul_nonneg (mul_nonneg zero_le_four (mul_self_nonneg r)) (L.sin_half_nonneg (sub_nonneg.2 h0.le) (by linear_combination h1)))
    (mul_nonneg (L.sin_half_nonneg (by linear_combination hb + h0) (by linear_combination ha))
      (L.sin_half_nonneg (sub_nonneg.2 hb) (by linear_combination ha + h0)))

/-- three points of the circle at angles `a0 < m < a1 < a0 + 2π` are not collinear (`r ≠ 0`): the three sines of
`side_eq` are at half-angles strictly between `−π` and `0` -/
theorem arc_area_ne (L : CircTrig K) (c : P K) {r a0 m a1 : K} (hr : r ≠ 0) (h0 : a0 < m) (h1 : m < a1)
    (h2 : a1 < a0 + 2 * Transc.pi) : (pos c r m - pos c r a1).cross (pos c r a0 - pos c r a1) ≠ 0 := by
  have hs : ∀ {x : K}, x < 0 → -(2 * Transc.pi) < x → Transc.sin (x / 2) ≠ 0 := fun {x} hx hx' => by
    have := L.sin_pos (-(x / 2)) (by linear_combination (1 / 2) * hx) (by linear_combination (1 / 2) * hx')
    rw [L.sin_neg] at this
    exact (neg_pos.1 this).ne
  rw [side_eq L]
  exact mul_ne_zero (mul_ne_zero (mul_ne_zero four_ne_zero (mul_self_ne_zero.2 hr))
      (hs (sub_neg.2 h1) (by linear_combination h0 + h2)))
    (mul_ne_zero (hs (sub_neg.2 (h0.trans h1)) (by linear_combination h2)) (hs (sub_neg.2 h0) (by linear_combination h1 + h2)))

end

end Lyon.C03c
