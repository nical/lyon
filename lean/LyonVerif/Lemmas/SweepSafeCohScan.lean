/-
  SPAN / WINDING COHERENCE: what a successful `scan_active_edges` computes, in terms of the
  winding fold over the active list.

  `wstep` / `wfold rule w l` : `WindingState` after the edges `l` (a merge vertex counts one span, an
  edge updates the winding).  `ScanSem s scan`: the scan's `winding_before` is the fold over the
  edges before `above_start`, every span index it hands to `process_edges_above` is the index of an
  `in` gap of the fold, etc.
-/
import LyonVerif.Lemmas.SweepSafeScan
import LyonVerif.Model.Tess.SweepCert

set_option linter.unusedSectionVars false
set_option linter.unusedSimpArgs false
set_option mvcgen.warning false

namespace Lyon.SweepCoh
open Lyon Lyon.Scalar Lyon.Mono Lyon.Sweep Lyon.EQ Lyon.SweepSafe
open Std.Do

variable {α : Type} [Scalar α] [Wide α]

theorem Wat_succ (s : St α) (k : Nat) (e : ActiveEdge α) (h : s.active[k]? = some e) :
    Wat s (k + 1) = wstep s.rule (Wat s k) e := by
  unfold Wat
  have hk : k < s.active.toList.length := by
    rcases Array.getElem?_eq_some_iff.mp h with ⟨hh, _⟩; simpa using hh
  have he : s.active.toList[k] = e := by
    rcases Array.getElem?_eq_some_iff.mp h with ⟨hh, e'⟩; simpa using e'
  rw [List.take_succ_eq_append_getElem hk, wfold_snoc, he]

theorem Wat_zero (s : St α) : Wat s 0 = WindingState.new := by simp [Wat, wfold]

/-- number of `in` gaps strictly between positions `a` and `i` of the active list -/
def cntIn (s : St α) (a i : Nat) : Nat :=
  ((List.range i).filter (fun k => decide (a < k) && (Wat s k).isIn)).length

theorem cntIn_succ (s : St α) (a i : Nat) :
    cntIn s a (i + 1) = cntIn s a i + (if a < i ∧ (Wat s i).isIn = true then 1 else 0) := by
  unfold cntIn
  rw [List.range_succ, List.filter_append, List.length_append]
  congr 1
  by_cases h : a < i ∧ (Wat s i).isIn = true
  · simp [h]
  · simp only [h, if_false]
    have : (decide (a < i) && (Wat s i).isIn) = false := by
      rcases Classical.not_and_iff_not_or_not.mp h with h' | h'
      · simp [h']
      · simp [h']
    simp [List.filter, this]

theorem cntIn_self (s : St α) (a : Nat) : cntIn s a (a + 1) = 0 := by
  unfold cntIn
  rw [List.length_eq_zero_iff, List.filter_eq_nil_iff]
  intro k hk
  have : k < a + 1 := by simpa using hk
  have : ¬ a < k := by omega
  simp [this]

theorem cntIn_le (s : St α) (a i : Nat) (h : i ≤ a + 1) : cntIn s a i = 0 := by
  unfold cntIn
  rw [List.length_eq_zero_iff, List.filter_eq_nil_iff]
  intro k hk
  have : k < i := by simpa using hk
  have : ¬ a < k := by omega
  simp [this]

/-- what a successful scan computes, in terms of the winding fold `Wat s` -/
structure ScanSem (s : St α) (scan : Scan) : Prop where
  wb : scan.windingBefore = Wat s scan.aboveStart
  ve : ∀ x ∈ scan.vertexEvents,
    (x.1 = (Wat s scan.aboveStart).spanIndex ∧ (Wat s scan.aboveStart).isIn = true) ∨
    (x.1 = (Wat s scan.aboveEnd).spanIndex ∧ (Wat s scan.aboveEnd).isIn = true) ∨
    (scan.mergeSplitEvent = true ∧
      (x.1 = (Wat s scan.aboveEnd).spanIndex - 1 ∨ x.1 = (Wat s scan.aboveEnd).spanIndex))
  se : ∀ x ∈ scan.spansToEnd, ∃ k, scan.aboveStart < k ∧ k < scan.aboveEnd ∧
    x = (Wat s k).spanIndex ∧ (Wat s k).isIn = true
  se_count : scan.spansToEnd.size = cntIn s scan.aboveStart scan.aboveEnd
  split : scan.splitEvent = true →
    scan.aboveStart = scan.aboveEnd ∧ (Wat s scan.aboveStart).isIn = true ∧ scan.mergeSplitEvent = false
  /-- a vertex inside the filled region that connects to no edge is a split event -/
  split_of_in : HorizAgree s.tolerance → scan.aboveStart = scan.aboveEnd →
    (Wat s scan.aboveStart).isIn = true → scan.splitEvent = true
  ms : scan.mergeSplitEvent = true → scan.aboveEnd = scan.aboveStart + 1 ∧
    ∃ e, s.active[scan.aboveStart]? = some e ∧ e.isMerge = true
  merge : scan.mergeEvent = true → (Wat s scan.aboveStart).isIn = true ∧ (Wat s scan.aboveEnd).isIn = true ∧
    s.below.isEmpty = true ∧ scan.edgesToSplit.isEmpty = true
  mid_merge : ∀ k e, scan.aboveStart < k → k < scan.aboveEnd → s.active[k]? = some e → e.isMerge = true →
    (Wat s k).isIn = true
  /-- an event that connects to no edge: nothing is split, no merge event -/
  empty : HorizAgree s.tolerance → scan.aboveStart = scan.aboveEnd →
    scan.edgesToSplit = #[] ∧ scan.mergeEvent = false
  /-- every edge to split lies in the `above` range (that none is a merge vertex is `SplitNM`) -/
  splits : ∀ ei ∈ scan.edgesToSplit, scan.aboveStart ≤ ei ∧ ei < scan.aboveEnd

theorem isEdgeConnecting_snd {cur : P α} {t : α} {e : ActiveEdge α} :
    ∀ {c}, isEdgeConnecting cur t e = .ok c → c.2 = true → c.1 = true := by
  unfold isEdgeConnecting
  repeat' apply of_ite (P := fun x : Except IErr (Bool × Bool) => ∀ {c}, x = .ok c → c.2 = true → c.1 = true)
  all_goals intro c h; cases h <;> decide

variable {s : St α} {pref suff : List (ActiveEdge α)} {cur : ActiveEdge α}

/-- winding part of the loop invariant of the first pass -/
structure J1 (s : St α) (pref suff : List (ActiveEdge α)) (b : Bool × Nat × WindingState × Bool) : Prop where
  /-- `w` is the winding state before the edge at `idx` -/
  w : b.2.2.1 = Wat s b.2.1
  /-- while edges remain `idx` is the cursor and no edge has touched the current point -/
  cursor : suff ≠ [] → b.2.1 = pref.length ∧ b.1 = false
  /-- `prev_was_merge`: the edge before `idx` is a merge vertex -/
  merge : b.2.2.2 = true → 1 ≤ b.2.1 ∧ ∃ e, s.active[b.2.1 - 1]? = some e ∧ e.isMerge = true
  /-- the edge the pass stopped at is no merge vertex (also in `I1.conn`) -/
  conn : b.1 = true → ∃ e0, s.active[b.2.1]? = some e0 ∧ e0.isMerge = false

/-- `above_start` as a function of the first pass's result -/
def a0of (r : Bool × Nat × WindingState × Bool) : Nat := if r.2.2.2 then r.2.1 - 1 else r.2.1

/-- winding part of the loop invariant of the second pass; `r` = result of the first pass, loop state
`b = (idx, w, scan, firstConnecting)` -/
structure J2 (s : St α) (r : Bool × Nat × WindingState × Bool) (pref suff : List (ActiveEdge α))
    (b : Nat × WindingState × Scan × Bool) : Prop where
  /-- `w` is the winding state before the edge at `idx` (for `ScanSem.ve`) -/
  w : b.2.1 = Wat s b.1
  /-- the pass starts where the first one stopped … -/
  ge : r.2.1 ≤ b.1
  /-- … and while edges remain (no `break` yet) `idx` is the cursor -/
  cursor : suff ≠ [] → b.1 = r.2.1 + pref.length
  /-- `winding_before` is the winding state at `above_start` (`wb`) -/
  wb : b.2.2.1.windingBefore = Wat s (a0of r)
  /-- the fields the pass leaves as `scanMid` set them: vertex events are pushed only after the loop -/
  noVe : b.2.2.1.vertexEvents = #[]
  noMs : b.2.2.1.mergeSplitEvent = false
  start : b.2.2.1.aboveStart = a0of r
  noMerge : b.2.2.1.mergeEvent = false
  noSplit : b.2.2.1.splitEvent = false
  /-- the flag is still set exactly at the first edge the pass looks at -/
  first : b.2.2.2 = true ↔ b.1 = a0of r
  /-- every span ended lies strictly between the first and the current edge, inside the shape (`ScanSem.se`) -/
  ends : ∀ x ∈ b.2.2.1.spansToEnd, ∃ k, a0of r < k ∧ k < b.1 ∧ x = (Wat s k).spanIndex ∧ (Wat s k).isIn = true
  /-- and all of those positions are there (`ScanSem.se_count`) -/
  endsCount : b.2.2.1.spansToEnd.size = cntIn s (a0of r) b.1
  /-- a merge vertex strictly inside the range has the shape on its left (`mid_merge`) -/
  midMerge : ∀ k e, a0of r < k → k < b.1 → s.active[k]? = some e → e.isMerge = true → (Wat s k).isIn = true
  /-- the edges to split lie in the range (`splits`) -/
  splits : ∀ ei ∈ b.2.2.1.edgesToSplit, a0of r ≤ ei ∧ ei < b.1
  /-- when the two on-edge tests agree the pass gets past the first connecting edge (for `ScanOk.merge_room`,
  `ScanSem.split_of_in`, `ScanSem.empty`) -/
  moved : HorizAgree s.tolerance → pref ≠ [] → r.2.1 < b.1

def invJ2 (s : St α) (r : Bool × Nat × WindingState × Bool) :
    Invariant (s.active.extract r.2.1).toList (Nat × WindingState × Scan × Bool) (.except IErr .pure) :=
  post⟨fun c => ⌜J2 s r c.1.prefix c.1.suffix c.2⌝, fun _ => ⌜True⌝⟩

theorem a0of_le (r : Bool × Nat × WindingState × Bool) : a0of r ≤ r.2.1 := by
  unfold a0of; split <;> omega

theorem ws_ext {a b : WindingState} (h1 : a.spanIndex = b.spanIndex) (h2 : a.number = b.number)
    (h3 : a.isIn = b.isIn) : a = b := by
  cases a; cases b; simp_all

/-- the winding state at `above_start` is the `winding_before` that `scanMid` computes: the first pass's state,
stepped back over the merge vertex when the pass ended right of one -/
theorem Wat_a0 {r : Bool × Nat × WindingState × Bool} (hJ : J1 s s.active.toList [] r) :
    Wat s (a0of r) = (scanMid r).windingBefore := by
  obtain ⟨h1, h2, h3, h4⟩ := hJ
  unfold a0of scanMid
  by_cases hp : r.2.2.2 = true
  · obtain ⟨hge, e, he, hme⟩ := h3 hp
    have := Wat_succ s (r.2.1 - 1) e he
    rw [Nat.sub_add_cancel hge, ← h1] at this
    simp only [hp, if_true, this, wstep, hme]
    exact ws_ext (by simp) rfl rfl
  · simp only [hp]
    exact h1.symm

theorem a0of_cases (r : Bool × Nat × WindingState × Bool) (hJ : J1 s s.active.toList [] r) :
    (r.2.2.2 = true ∧ a0of r + 1 = r.2.1) ∨ (r.2.2.2 = false ∧ a0of r = r.2.1) := by
  unfold a0of
  by_cases hp : r.2.2.2 = true
  · left
    have := (hJ.merge hp).1
    simp only [hp, if_true]
    exact ⟨trivial, by omega⟩
  · right
    simp only [hp]
    simp [hp]

theorem J2_cur {r : Bool × Nat × WindingState × Bool} {b : Nat × WindingState × Scan × Bool}
    (h : (s.active.extract r.2.1).toList = pref ++ cur :: suff) (hJ : J2 s r pref (cur :: suff) b) :
    s.active[b.1]? = some cur ∧ b.1 < s.active.size := by
  have hx := extract_split h
  rw [hJ.cursor (by simp)]
  exact ⟨hx.2, hx.1⟩

/-- a merge vertex met by the second pass is not the edge the first pass stopped at: it is not the
first connecting edge -/
theorem J2_merge_not_first {r : Bool × Nat × WindingState × Bool} {b : Nat × WindingState × Scan × Bool}
    (hJ1 : J1 s s.active.toList [] r) (hconn : r.1 = true)
    (h : (s.active.extract r.2.1).toList = pref ++ cur :: suff) (hm : cur.isMerge = true)
    (hJ : J2 s r pref (cur :: suff) b) : b.2.2.2 = false := by
  have hcur := J2_cur h hJ
  have j2 := hJ.ge
  cases hfc : b.2.2.2
  · rfl
  · exfalso
    have hb := hJ.first.mp hfc
    rcases a0of_cases r hJ1 with ⟨_, h'⟩ | ⟨_, h'⟩
    · omega
    · obtain ⟨e0, he0, hne⟩ := hJ1.conn hconn
      rw [hb, h', he0] at hcur
      rw [Option.some.inj hcur.1, hm] at hne
      cases hne

theorem not_and2' {a b : Bool} (h : ¬(!a && b) = true) : a = true ∨ b = false := by
  cases a <;> cases b <;> simp at h ⊢

/-- one more edge or merge vertex of the second pass: `es`, `ss` are the new `edges_to_split`,
`spans_to_end`; a span is ended exactly when the winding before the edge is `in` and the edge is not
the first connecting one -/
theorem J2_yield {r : Bool × Nat × WindingState × Bool} {b : Nat × WindingState × Scan × Bool}
    {w' : WindingState} {es : Array Nat} {ss : Array Int}
    (h : (s.active.extract r.2.1).toList = pref ++ cur :: suff) (hJ : J2 s r pref (cur :: suff) b)
    (hw : w' = wstep s.rule b.2.1 cur) (hmid : cur.isMerge = true → b.2.1.isIn = true)
    (e7 : es = b.2.2.1.edgesToSplit ∨ es = b.2.2.1.edgesToSplit.push b.1)
    (e8 : (ss = b.2.2.1.spansToEnd ∧ ¬(!b.2.2.2 && b.2.1.isIn) = true) ∨
          (ss = b.2.2.1.spansToEnd.push b.2.1.spanIndex ∧ (!b.2.2.2 && b.2.1.isIn) = true)) :
    J2 s r (pref ++ [cur]) suff (b.1 + 1, w', { b.2.2.1 with edgesToSplit := es, spansToEnd := ss }, false) := by
  have hcur := J2_cur h hJ
  have j2 := hJ.ge
  have j3' := hJ.cursor (by simp)
  have ha := a0of_le r
  -- the push condition in terms of positions
  have hpush : (!b.2.2.2 && b.2.1.isIn) = true ↔ a0of r < b.1 ∧ (Wat s b.1).isIn = true := by
    rw [← hJ.w]
    cases hfc : b.2.2.2
    · have : b.1 ≠ a0of r := fun e => by have := hJ.first.mpr e; rw [hfc] at this; cases this
      simp; intro _; omega
    · have := hJ.first.mp hfc
      simp; intro h'; omega
  refine { hJ with
    w := by rw [hw, Wat_succ s _ cur hcur.1, ← hJ.w], ge := by dsimp only; omega, cursor := fun _ => by simp; omega,
    first := ⟨fun h' => (nomatch h'), fun h' => by have : b.1 + 1 = a0of r := h'; omega⟩,
    ends := ?_, endsCount := ?_, midMerge := ?_, splits := ?_, moved := fun _ _ => by dsimp only; omega }
  · have old : ∀ x ∈ b.2.2.1.spansToEnd, ∃ k, a0of r < k ∧ k < b.1 + 1 ∧ x = (Wat s k).spanIndex ∧
        (Wat s k).isIn = true := fun x hx => by
      obtain ⟨k, hk1, hk2, hk3⟩ := hJ.ends x hx
      exact ⟨k, hk1, by omega, hk3⟩
    rcases e8 with ⟨rfl, _⟩ | ⟨rfl, hp⟩
    · exact old
    · exact all_push old _ ⟨b.1, (hpush.mp hp).1, by omega, by rw [hJ.w], (hpush.mp hp).2⟩
  · show ss.size = cntIn s (a0of r) (b.1 + 1)
    rw [cntIn_succ]
    rcases e8 with ⟨rfl, hn⟩ | ⟨rfl, hp⟩
    · rw [hJ.endsCount, if_neg (fun h' => hn (hpush.mpr h'))]; rfl
    · rw [Array.size_push, hJ.endsCount, if_pos (hpush.mp hp)]
  · intro k e hk1 hk2 hke hkm
    by_cases hkb : k = b.1
    · rw [hkb, hcur.1] at hke
      rw [hkb, ← hJ.w]
      exact hmid (Option.some.inj hke ▸ hkm)
    · exact hJ.midMerge k e hk1 (by dsimp only at hk2; omega) hke hkm
  · have old : ∀ ei ∈ b.2.2.1.edgesToSplit, a0of r ≤ ei ∧ ei < b.1 + 1 := fun ei he =>
      ⟨(hJ.splits ei he).1, by have := (hJ.splits ei he).2; omega⟩
    rcases e7 with rfl | rfl
    · exact old
    · exact all_push old _ ⟨by omega, by omega⟩

theorem conn_done_absurd {Q : Prop} {cp : P α} {t : α} {e : ActiveEdge α} {c : Bool × Bool}
    (hc : isEdgeConnecting cp t e = .ok c) (h2 : c.2 = true) (h1 : (!c.1) = true) : Q := by
  have := isEdgeConnecting_snd hc h2
  simp [this] at h1

def L1 (s : St α) (pref suff : List (ActiveEdge α)) (b : Bool × Nat × WindingState × Bool) : Prop :=
  I1 s pref b ∧ J1 s pref suff b

def L2 (s : St α) (r : Bool × Nat × WindingState × Bool) (pref suff : List (ActiveEdge α))
    (b : Nat × WindingState × Scan × Bool) : Prop :=
  I2 s r.2.1 pref b ∧ J2 s r pref suff b

end Lyon.SweepCoh
