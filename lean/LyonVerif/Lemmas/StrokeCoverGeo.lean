/-
  C06b: the plane geometry of a stroke join, free of the model.

  Around a join `j` between a unit tangent `t0` (incoming) and `t1` (outgoing) everything the cover
  argument needs is AFFINE in a frame `(e1, e2)` at `j` (`e1` along the edge the query point belongs
  to, pointing towards the join; `e2` towards the INNER side of the turn, both of length `w/2`), so the
  corner lemmas below (`corner_clip`, its case `corner_bevel`, `corner_miter`) are stated for arbitrary vectors `e1 e2` and the numbers
  `c = cos θ`, `σ = |sin θ|`, `τ = tan(θ/2)`:

      σ = τ·(1 + c),   c² + σ² = 1,   1 + c > 0,   σ ≥ 0.

  In that frame the inner miter point is `(−τ, 1)`, the outer end of the edge `(0, −1)`, the outer
  start of the next edge `(σ, −c)`, the frame of the next edge is `f1 = c·e1 + σ·e2`,
  `f2 = c·e2 − σ·e1`.
  * `corner_bevel`: a point of the edge's rectangle beyond the trapezoid's end line (from the inner
    miter point to the outer end) lies in the join triangle or in the near part of the next
    trapezoid.
  * `corner_miter`: with a kept miter (end line from the inner to the outer miter point) it lies in
    the near part of the next trapezoid.
  * `corner_clip`: the same with the outer corners shifted by `lam ∈ [0, τ)` beyond the join (clipped `MiterClip`;
    `lam = 0` is `corner_bevel`).  The point lies in the join triangle iff the oriented area it spans with the side
    opposite the outer end is nonnegative (`inTri_aff_of_areas`, `clip_areas`); that area is, in the next edge's
    frame, the distance to the start line of its trapezoid.
-/
import LyonVerif.Props.C06

set_option linter.unusedSectionVars false

namespace Lyon.C06b
open Lyon Scalar Lyon.StrokeQuad Lyon.Stroke Lyon.C06

variable {K : Type} [Field K] [LinearOrder K] [IsStrictOrderedRing K]

/-- the point `j + x·e1 + y·e2` -/
noncomputable def aff (j e1 e2 : P K) (x y : K) : P K := j + e1.smul x + e2.smul y

/-! ## band points

Every point of the cover argument is a band point `bp X t x y` of some edge: `x` along the unit tangent `t` from `X`, `y`
across.  The corner of a quad, a point of a frame `aff`, the same point seen from the other edge of a join (`bp_rot`), from
the reversed edge (`bp_neg`) or from the other end of the edge (`bp_shift`) are band points again; what is left to check is
an equation between the two coordinates (`bp_congr`). -/

noncomputable def bp (X t : P K) (x y : K) : P K := X + t.smul x + (perp t).smul y

theorem bp_congr (X t : P K) {x x' y y' : K} (hx : x = x') (hy : y = y') : bp X t x y = bp X t x' y' := by rw [hx, hy]

theorem bp_pp (X t : P K) (w s : K) : X + (perp t).smul w + t.smul s = bp X t s w := by unfold bp; geom_ring
theorem bp_mp (X t : P K) (w s : K) : X - (perp t).smul w + t.smul s = bp X t s (-w) := by unfold bp; geom_ring
theorem bp_pm (X t : P K) (w s : K) : X + (perp t).smul w - t.smul s = bp X t (-s) w := by unfold bp; geom_ring
theorem bp_mm (X t : P K) (w s : K) : X - (perp t).smul w - t.smul s = bp X t (-s) (-w) := by unfold bp; geom_ring

theorem aff_bp (j t : P K) (a b x y : K) : aff j (t.smul a) ((perp t).smul b) x y = bp j t (a * x) (b * y) := by
  unfold aff bp; geom_ring

theorem bp_shift (X t : P K) (L x y : K) : bp (X + t.smul L) t x y = bp X t (L + x) y := by unfold bp; geom_ring

theorem bp_sub_sqLen (X t : P K) (x y : K) (ht : t.sqLen = 1) : (bp X t x y - X).sqLen = x * x + y * y := by
  simp only [bp, perp, geom] at ht ⊢; linear_combination (x * x + y * y) * ht

theorem bp_neg (X t : P K) (x y : K) : bp X (-t) x y = bp X t (-x) (-y) := by
  unfold bp; apply P.ext' <;> simp only [perp, geom] <;> ring

theorem bp_rot (X t0 t1 : P K) (c s x y : K) (hcs : c * c + s * s = 1) (hrot : t1 = t0.smul c + (perp t0).smul s) :
    bp X t0 x y = bp X t1 (c * x + s * y) (c * y - s * x) := by
  rw [hrot]; unfold bp; apply P.ext' <;> simp only [perp, geom]
  · linear_combination (-(t0.x * x) + t0.y * y) * hcs
  · linear_combination (-(t0.y * x) - t0.x * y) * hcs

theorem inTri_rot {q a b c : P K} (h : InTri q (a, b, c)) : InTri q (b, c, a) := by
  obtain ⟨l, m, n, hl, hm, hn, hs, hx, hy⟩ := h
  exact ⟨m, n, l, hm, hn, hl, by linarith, by simp only [] at hx ⊢; linarith, by simp only [] at hy ⊢; linarith⟩

theorem inTri_swap12 {q a b c : P K} (h : InTri q (a, b, c)) : InTri q (b, a, c) := by
  obtain ⟨l, m, n, hl, hm, hn, hs, hx, hy⟩ := h
  exact ⟨m, l, n, hm, hl, hn, by linarith, by simp only [] at hx ⊢; linarith, by simp only [] at hy ⊢; linarith⟩

theorem inTri_swap {q a b c : P K} (h : InTri q (a, b, c)) : InTri q (c, b, a) :=
  inTri_swap12 (inTri_rot h)

theorem turn_facts (c σ τ : K) (hτ : σ = τ * (1 + c)) (hcs : c * c + σ * σ = 1) (hc : 0 < 1 + c) (hσ : 0 ≤ σ) :
    c ≤ 1 ∧ 0 ≤ τ ∧ σ * τ = 1 - c ∧ σ ≤ 1 := by
  have hsq1 : ∀ a b : K, a * a + b * b = 1 → a ≤ 1 := by
    intro a b hab
    by_contra h
    have h1 : 1 < a := lt_of_not_ge h
    have : 1 * 1 < a * a := mul_lt_mul'' h1 h1 zero_le_one zero_le_one
    linarith [mul_self_nonneg b]
  have hc1 : c ≤ 1 := hsq1 c σ hcs
  have hτ0 : 0 ≤ τ := by
    by_contra h
    have : τ * (1 + c) < 0 := mul_neg_of_neg_of_pos (lt_of_not_ge h) hc
    linarith
  have hst : σ * τ = 1 - c := by
    have h1 : (1 + c) * (σ * τ) = (1 + c) * (1 - c) := by
      have : σ * σ = (1 + c) * (1 - c) := by linear_combination hcs
      calc (1 + c) * (σ * τ) = σ * (τ * (1 + c)) := by ring
        _ = σ * σ := by rw [← hτ]
        _ = (1 + c) * (1 - c) := this
    exact mul_left_cancel₀ (ne_of_gt hc) h1
  have hs1 : σ ≤ 1 := hsq1 σ c (by rw [add_comm]; exact hcs)
  exact ⟨hc1, hτ0, hst, hs1⟩

/-- the three bounds shared by the corner lemmas: in the next edge's frame the point stays inside the
band and not farther than `1 + τ` half widths along the edge -/
theorem corner_band (c σ τ x y : K) (hτ : σ = τ * (1 + c)) (hcs : c * c + σ * σ = 1) (hc : 0 < 1 + c) (hσ : 0 ≤ σ)
    (hy : -1 ≤ y) (hy1 : y ≤ 1) (hx : -τ * (1 + y) / 2 ≤ x) (hx0 : x ≤ 0) :
    -1 ≤ c * y - σ * x ∧ c * y - σ * x ≤ 1 ∧ c * x + σ * y ≤ 1 + τ := by
  obtain ⟨hc1, hτ0, hst, hs1⟩ := turn_facts c σ τ hτ hcs hc hσ
  refine ⟨?_, ?_, ?_⟩
  · -- `1 + cy = ((1+c)(1+y) + (1−c)(1−y))/2`
    linarith [mul_nonneg hσ (neg_nonneg.mpr hx0), mul_nonneg (le_of_lt hc) (by linarith : (0 : K) ≤ 1 + y),
      mul_nonneg (by linarith : (0 : K) ≤ 1 - c) (by linarith : (0 : K) ≤ 1 - y)]
  · -- `σ·(x + τ(1+y)/2) = σx + (1−c)(1+y)/2`
    have h1 : 0 ≤ σ * x + (1 - c) * (1 + y) / 2 := by
      have := mul_nonneg hσ (by linarith : (0 : K) ≤ x + τ * (1 + y) / 2)
      linear_combination this + ((1 + y) / 2) * hst
    linarith [mul_nonneg (le_of_lt hc) (by linarith : (0 : K) ≤ 1 - y)]
  · linarith [mul_nonneg (le_of_lt hc) (neg_nonneg.mpr hx0), mul_nonneg hσ (by linarith : (0 : K) ≤ 1 - y),
      mul_nonneg hτ0 (by linarith : (0 : K) ≤ 1 - y)]

/-- a point is a convex combination of three points in counterclockwise order (`0 <` their oriented area) if the
oriented areas it spans with each pair of them are nonnegative; in an affine frame `(j; e1, e2)` -/
theorem inTri_aff_of_areas (j e1 e2 : P K) (x1 y1 x2 y2 x3 y3 x y : K)
    (hW : 0 < (x2 - x1) * (y3 - y1) - (y2 - y1) * (x3 - x1))
    (h1 : 0 ≤ (x2 - x) * (y3 - y) - (y2 - y) * (x3 - x))
    (h2 : 0 ≤ (x3 - x) * (y1 - y) - (y3 - y) * (x1 - x))
    (h3 : 0 ≤ (x1 - x) * (y2 - y) - (y1 - y) * (x2 - x)) :
    InTri (aff j e1 e2 x y) (aff j e1 e2 x1 y1, aff j e1 e2 x2 y2, aff j e1 e2 x3 y3) := by
  have hne := ne_of_gt hW
  -- with the three areas as weights every affine function `α + β·x + γ·y` of the frame coordinates is reproduced
  -- (times the area of the triangle): take `1`, then the two coordinates of `aff j e1 e2`
  have b : ∀ α β γ : K, ((x2 - x1) * (y3 - y1) - (y2 - y1) * (x3 - x1)) * (α + β * x + γ * y)
      = ((x2 - x) * (y3 - y) - (y2 - y) * (x3 - x)) * (α + β * x1 + γ * y1)
        + ((x3 - x) * (y1 - y) - (y3 - y) * (x1 - x)) * (α + β * x2 + γ * y2)
        + ((x1 - x) * (y2 - y) - (y1 - y) * (x2 - x)) * (α + β * x3 + γ * y3) := by
    intro α β γ; ring
  refine ⟨_, _, _, div_nonneg h1 (le_of_lt hW), div_nonneg h2 (le_of_lt hW), div_nonneg h3 (le_of_lt hW), ?_, ?_, ?_⟩
  · field_simp
    linear_combination b 1 0 0
  · simp only [aff, geom]
    field_simp
    linear_combination b j.x e1.x e2.x
  · simp only [aff, geom]
    field_simp
    linear_combination b j.y e1.y e2.y

/-- the oriented area of the join triangle `(σ − lam·c, −c − lam·σ)`, `(−τ, 1)`, `(lam, −1)` (outer start, inner miter
point, outer end) and the areas a point `(x, y)` spans with the two sides at the outer end resp. with the side
opposite to it, as products (polynomial identities modulo `σ = τ(1+c)`, `στ = 1 − c`) -/
theorem clip_areas (c σ τ lam x y : K) (hτ : σ = τ * (1 + c)) (hst : σ * τ = 1 - c) :
    (-τ - (σ - lam * c)) * (-1 - (-c - lam * σ)) - (1 - (-c - lam * σ)) * (lam - (σ - lam * c))
      = (τ - lam) * (1 + c) * (2 + τ * τ + lam * τ)
    ∧ (lam - x) * ((-c - lam * σ) - y) - (-1 - y) * ((σ - lam * c) - x) = (τ - lam) * (1 + c) * (y + 1 + lam * τ - τ * x)
    ∧ ((σ - lam * c) - x) * (1 - y) - ((-c - lam * σ) - y) * (-τ - x)
      = τ * (1 + (c * y - σ * x)) - lam * (1 - (c * y - σ * x)) - 2 * (c * x + σ * y) := by
  refine ⟨?_, ?_, ?_⟩
  · linear_combination (2 + τ * τ - lam * lam) * hτ - (lam + τ) * hst
  · linear_combination (y + 1 + lam * τ - τ * x - lam * lam + lam * x) * hτ + (x - lam) * hst
  · linear_combination (y + 1) * hτ + (x - lam) * hst

/-- **clipped `MiterClip` join** (and, for `lam = 0`, the bevel-shaped join): the outer corners of the two
trapezoids are shifted by `lam ∈ [0, τ)` half widths beyond the join (`(lam, −1)` on the incoming edge,
`(σ − lam·c, −c − lam·σ)` on the outgoing one).  A point of the rectangle beyond the trapezoid's end line
(from the inner miter point `(−τ, 1)` to `(lam, −1)`) lies in the join triangle or beyond the start line of the
next trapezoid, inside its band. -/
theorem corner_clip (j e1 e2 : P K) (c σ τ lam x y : K)
    (hτ : σ = τ * (1 + c)) (hcs : c * c + σ * σ = 1) (hc : 0 < 1 + c) (hσ : 0 ≤ σ)
    (hl0 : 0 ≤ lam) (hl1 : lam < τ)
    (hy : -1 ≤ y) (hy1 : y ≤ 1) (hx : -((τ * (1 + y) - lam * (1 - y)) / 2) ≤ x) (hx0 : x ≤ 0) :
    InTri (aff j e1 e2 x y) (aff j e1 e2 lam (-1), aff j e1 e2 (-τ) 1, aff j e1 e2 (σ - lam * c) (-c - lam * σ))
    ∨ (-1 ≤ c * y - σ * x ∧ c * y - σ * x ≤ 1
        ∧ (τ * (1 + (c * y - σ * x)) - lam * (1 - (c * y - σ * x))) / 2 ≤ c * x + σ * y
        ∧ c * x + σ * y ≤ 1 + τ) := by
  obtain ⟨_, _, hst, _⟩ := turn_facts c σ τ hτ hcs hc hσ
  have hτ0 : 0 < τ := lt_of_le_of_lt hl0 hl1
  have hx2 : -τ * (1 + y) / 2 ≤ x := by
    have : 0 ≤ lam * (1 - y) := mul_nonneg hl0 (by linarith)
    linarith
  obtain ⟨b1, b2, b3⟩ := corner_band c σ τ x y hτ hcs hc hσ hy hy1 hx2 hx0
  obtain ⟨aW, aB, aA⟩ := clip_areas c σ τ lam x y hτ hst
  -- the area opposite the outer end is, in the next edge's frame, the distance to its trapezoid's start line
  by_cases hA : 0 ≤ τ * (1 + (c * y - σ * x)) - lam * (1 - (c * y - σ * x)) - 2 * (c * x + σ * y)
  · left
    apply inTri_swap
    have : 0 ≤ lam * τ := mul_nonneg hl0 (le_of_lt hτ0)
    refine inTri_aff_of_areas j e1 e2 _ _ _ _ _ _ x y ?_ ?_ ?_ ?_
    · rw [aW]
      exact mul_pos (mul_pos (by linarith) hc) (by linarith [mul_self_nonneg τ])
    · linarith
    · rw [aB]
      have : 0 ≤ τ * (-x) := mul_nonneg (le_of_lt hτ0) (by linarith)
      exact mul_nonneg (mul_nonneg (by linarith) (le_of_lt hc)) (by linarith)
    · rw [aA]; exact hA
  · right
    exact ⟨b1, b2, by linarith, b3⟩

/-- **bevel-shaped join** (bevel join, or a miter beyond the limit).  A point `(x, y)` of the edge's
rectangle (`x ≤ 0`, `|y| ≤ 1`) beyond the end line of the edge's trapezoid (`x ≥ −τ(1+y)/2`) lies in
the join triangle (outer end, inner miter point, outer start of the next edge) or, in the next
edge's frame `(x', y') = (cx + σy, cy − σx)`, beyond that trapezoid's start line inside the band. -/
theorem corner_bevel (j e1 e2 : P K) (c σ τ x y : K)
    (hτ : σ = τ * (1 + c)) (hcs : c * c + σ * σ = 1) (hc : 0 < 1 + c) (hσ : 0 ≤ σ)
    (hy : -1 ≤ y) (hy1 : y ≤ 1) (hx : -τ * (1 + y) / 2 ≤ x) (hx0 : x ≤ 0) :
    InTri (aff j e1 e2 x y) (aff j e1 e2 0 (-1), aff j e1 e2 (-τ) 1, aff j e1 e2 σ (-c))
    ∨ (-1 ≤ c * y - σ * x ∧ c * y - σ * x ≤ 1 ∧ (1 + (c * y - σ * x)) * τ / 2 ≤ c * x + σ * y
        ∧ c * x + σ * y ≤ 1 + τ) := by
  obtain ⟨_, hτ0, _, _⟩ := turn_facts c σ τ hτ hcs hc hσ
  rcases eq_or_lt_of_le hτ0 with hz | hpos
  · -- no turn: `τ = σ = 0`, the region is the end segment itself
    right
    obtain ⟨b1, b2, b3⟩ := corner_band c σ τ x y hτ hcs hc hσ hy hy1 hx hx0
    have hσz : σ = 0 := by rw [hτ, ← hz, zero_mul]
    rw [← hz] at hx b3 ⊢
    have hx' : x = 0 := le_antisymm hx0 (by simpa using hx)
    refine ⟨b1, b2, ?_, b3⟩
    rw [hσz, hx']; simp
  · -- the clipped join with no shift
    have h := corner_clip j e1 e2 c σ τ 0 x y hτ hcs hc hσ (le_refl 0) hpos hy hy1 (by linarith) hx0
    simp only [zero_mul, sub_zero] at h
    rcases h with h | ⟨b1, b2, b3, b4⟩
    · exact Or.inl h
    · exact Or.inr ⟨b1, b2, by linarith, b4⟩

/-- **kept miter.**  The trapezoid's end line runs from the inner to the outer miter point
(`x = −τ·y`); a point of the rectangle beyond it lies beyond the next trapezoid's start line
(`x' ≥ τ·y'`), inside its band.  This is the degenerate case `lam = τ` of `corner_clip` (join triangle of zero area),
which is why `corner_clip` asks `lam < τ` and `end_corner` splits on `lam = τ`. -/
theorem corner_miter (c σ τ x y : K)
    (hτ : σ = τ * (1 + c)) (hcs : c * c + σ * σ = 1) (hc : 0 < 1 + c) (hσ : 0 ≤ σ)
    (hy : -1 ≤ y) (hy1 : y ≤ 1) (hx : -τ * y ≤ x) (hx0 : x ≤ 0) :
    -1 ≤ c * y - σ * x ∧ c * y - σ * x ≤ 1 ∧ (c * y - σ * x) * τ ≤ c * x + σ * y
      ∧ c * x + σ * y ≤ 1 + τ := by
  obtain ⟨hc1, hτ0, hst, hs1⟩ := turn_facts c σ τ hτ hcs hc hσ
  have hx2 : -τ * (1 + y) / 2 ≤ x := by
    have : 0 ≤ τ * (1 - y) := mul_nonneg hτ0 (by linarith)
    linarith
  obtain ⟨b1, b2, b3⟩ := corner_band c σ τ x y hτ hcs hc hσ hy hy1 hx2 hx0
  refine ⟨b1, b2, ?_, b3⟩
  have key : c * x + σ * y - (c * y - σ * x) * τ = x + τ * y := by
    linear_combination (y) * hτ + x * hst
  linarith

end Lyon.C06b
