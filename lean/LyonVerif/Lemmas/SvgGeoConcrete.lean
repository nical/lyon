/-
  C15b, generic part (any scalar type; core Lean only): what the calls of `WithSvg` mean geometrically once the
  arc geometry keeps the START point of every piece (`GeoQ`; `GeoQ.erase` is the `Geo` of `Model/Path/Svg.lean`,
  `concreteGeo conv = (concreteGeoQ conv).erase` by `rfl`).

  `froms` is, for every command, the point at which the ADAPTER means each edge it emits to start; `edgeStarts` the
  builder's current point in front of every edge call.  For EVERY geometry (no law) every command keeps `Synced`:
  inside a sub-path the adapter's `current_position` is the builder's point (lyon as of commit 250152af, the repair of
  C15-arc-zero-sweep-stale-position).  Under the law `StepOk` of the geometry — the pieces form a `Run` from the
  arc's start point, and inside a sub-path, when no connecting line is drawn, that start point is the current
  position — for EVERY command sequence every edge starts, in the built path, exactly where the adapter means it to
  start (`run_connected`).  The definitions `lastPoint`, `edgeStarts`, `Run`, `froms`, `Synced`, `StepOk`, `RunOk` are
  part of the statements of `Props/C15b.lean`, not proof helpers.
-/
import LyonVerif.Model.Path.SvgConcrete
import LyonVerif.Lemmas.Svg

namespace Lyon.Svg
open Lyon Lyon.Path

variable {α ρ : Type}

/-- the wrapped builder's current point after the calls (`none`: no sub-path open) -/
def lastPoint : Option (Pt α) → Calls α → Option (Pt α)
  | p, [] => p
  | _, .begin q _ :: r => lastPoint (some q) r
  | _, .line q _ :: r => lastPoint (some q) r
  | _, .quad _ q _ :: r => lastPoint (some q) r
  | _, .cubic _ _ q _ :: r => lastPoint (some q) r
  | _, .end_ _ :: r => lastPoint none r

/-- the builder's current point in front of every edge call: where that edge starts in the path -/
def edgeStarts : Option (Pt α) → Calls α → List (Option (Pt α))
  | _, [] => []
  | _, .begin q _ :: r => edgeStarts (some q) r
  | p, .line q _ :: r => p :: edgeStarts (some q) r
  | p, .quad _ q _ :: r => p :: edgeStarts (some q) r
  | p, .cubic _ _ q _ :: r => p :: edgeStarts (some q) r
  | _, .end_ _ :: r => edgeStarts none r

theorem lastPoint_append (p : Option (Pt α)) (a b : Calls α) :
    lastPoint p (a ++ b) = lastPoint (lastPoint p a) b := by
  induction a generalizing p with
  | nil => rfl
  | cons c r ih => cases c <;> simp [lastPoint, ih]

theorem edgeStarts_append (p : Option (Pt α)) (a b : Calls α) :
    edgeStarts p (a ++ b) = edgeStarts p a ++ edgeStarts (lastPoint p a) b := by
  induction a generalizing p with
  | nil => rfl
  | cons c r ih => cases c <;> simp [edgeStarts, lastPoint, ih]

theorem lastPoint_endIfNeeded_begin (p : Option (Pt α)) (s : St α) (q : Pt α) :
    lastPoint p (endIfNeeded s ++ [.begin q ()]) = some q := by
  unfold endIfNeeded; split <;> simp [lastPoint]

theorem edgeStarts_endIfNeeded_begin (p : Option (Pt α)) (s : St α) (q : Pt α) :
    edgeStarts p (endIfNeeded s ++ [.begin q ()]) = [] := by
  unfold endIfNeeded; split <;> simp [edgeStarts]

/-- a connected run of quadratic pieces: the first starts at `p`, each starts where the previous
one ended, the last ends at `e` (`p = e` for no piece) -/
def Run (p : P α) : List (Quad α) → P α → Prop
  | [], e => p = e
  | q :: r, e => q.a = p ∧ Run q.b r e

def runEnd (p : P α) : List (Quad α) → P α
  | [] => p
  | q :: r => runEnd q.b r

theorem Run.end_eq {p e : P α} {qs : List (Quad α)} (h : Run p qs e) : runEnd p qs = e := by
  induction qs generalizing p with
  | nil => exact h
  | cons q r ih => exact ih h.2

theorem toP_ofP (p : P α) : toP (ofP p) = p := rfl

theorem lastTo_pieces (d : Pt α) (qs : List (Quad α)) :
    lastTo d (qs.map pieceCall) = ofP (runEnd (toP d) qs) := by
  induction qs generalizing d with
  | nil => rfl
  | cons q r ih => simp only [List.map_cons, pieceCall, lastTo, runEnd]; exact ih (ofP q.b)

theorem lastPoint_quadCalls (p : Pt α) (qs : List (Pt α × Pt α)) :
    lastPoint (some p) (quadCalls qs) = some (lastTo p qs) := by
  induction qs generalizing p with
  | nil => rfl
  | cons q r ih => obtain ⟨c, t⟩ := q; simpa [quadCalls, lastPoint, lastTo] using ih t

theorem edgeStarts_pieces {p : Pt α} {e : P α} {qs : List (Quad α)} (h : Run (toP p) qs e) :
    edgeStarts (some p) (quadCalls (qs.map pieceCall)) =
      (qs.map (fun q => ofP q.a)).map some := by
  induction qs generalizing p with
  | nil => rfl
  | cons q r ih =>
    obtain ⟨h1, h2⟩ := h
    simp only [List.map_cons, quadCalls, pieceCall, edgeStarts, h1]
    exact congrArg _ (ih (p := ofP q.b) h2)

/-- arc geometry whose pieces keep their start point -/
structure GeoQ (α ρ : Type) where
  center : ρ → (cur : Pt α) → ArcOutQ α
  endpoint : ρ → (cur to : Pt α) → SvgArcOutQ α

/-- forget the start points: the `Geo` the model of `WithSvg` is run with -/
def GeoQ.erase (g : GeoQ α ρ) : Geo α ρ where
  center r cur := (g.center r cur).erase
  endpoint r cur to := (g.endpoint r cur to).erase

/-- the concrete geometry, pieces with start points -/
def concreteGeoQ [Scalar α] [Transc α] [ArcConv.Eps α] (conv : Arc α → List (Quad α)) :
    GeoQ α (ArcArgs α) where
  center r cur := centerOutQ conv r cur
  endpoint r cur to := svgArcOutQ conv r cur to

theorem concreteGeo_eq_erase [Scalar α] [Transc α] [ArcConv.Eps α] (conv : Arc α → List (Quad α)) :
    concreteGeo conv = (concreteGeoQ conv).erase := rfl

theorem endIfNeeded_lastCtrl (s : St α) (c : Pt α) :
    endIfNeeded { s with lastCtrl := c } = endIfNeeded s := rfl

/-- a drawing command with target `to` (`line_to`, `quadratic_bezier_to`, `cubic_bezier_to` and
all their relative / smooth / H / V forms): the edge — if one is emitted — is meant to start at
the adapter's `current_position` after the implicit move-to -/
def drawFroms (s : St α) (to : Pt α) : List (Pt α) :=
  if (beginIfNeeded s to).2.2 then [] else [(beginIfNeeded s to).1.cur]

/-- `arc`: the connecting `line_to(arc_start)` starts at the current position, every piece at its
own start point -/
def arcFroms (s : St α) : ArcOutQ α → List (Pt α)
  | .skip => []
  | .curve _ near pieces =>
    (if s.needMoveTo then [] else if near then [s.cur] else []) ++ pieces.map (fun q => ofP q.a)

def arcToFroms (s : St α) (to : Pt α) : SvgArcOutQ α → List (Pt α)
  | .straight => drawFroms s to
  | .arc o => arcFroms s o

section
variable [Add α] [Sub α]

/-- for every command: the intended start point of each edge call it emits, in order -/
def froms (g : GeoQ α ρ) (s : St α) : Cmd α ρ → List (Pt α)
  | .moveTo _ => []
  | .close => []
  | .lineTo to => drawFroms s to
  | .quadTo _ to => drawFroms s to
  | .cubicTo _ _ to => drawFroms s to
  | .relMoveTo _ => []
  | .relLineTo v => drawFroms s (relToAbs s v)
  | .relQuadTo _ v => drawFroms s (relToAbs s v)
  | .relCubicTo _ _ v => drawFroms s (relToAbs s v)
  | .smoothCubicTo _ to => drawFroms s to
  | .smoothRelCubicTo _ v => drawFroms s (relToAbs s v)
  | .smoothQuadTo to => drawFroms s to
  | .smoothRelQuadTo v => drawFroms s (relToAbs s v)
  | .hLineTo x => drawFroms s ⟨x, s.cur.y⟩
  | .relHLineTo dx => drawFroms s ⟨s.cur.x + dx, s.cur.y⟩
  | .vLineTo y => drawFroms s ⟨s.cur.x, y⟩
  | .relVLineTo dy => drawFroms s ⟨s.cur.x, s.cur.y + dy⟩
  | .arcTo r to => arcToFroms s to (g.endpoint r s.cur to)
  | .relArcTo r v => arcToFroms s (relToAbs s v) (g.endpoint r s.cur (relToAbs s v))
  | .arc r => arcFroms s (g.center r s.cur)

/-- … along a command sequence -/
def runFroms (g : GeoQ α ρ) (s : St α) : List (Cmd α ρ) → List (Pt α)
  | [] => []
  | c :: r => froms g s c ++ runFroms g (step g.erase s c).1 r

end

/-- inside a sub-path, the adapter's `current_position` is the wrapped builder's current point -/
def Synced (s : St α) (p : Option (Pt α)) : Prop := s.needMoveTo = false → p = some s.cur

/-- what one arc output must satisfy at a state with current position `cur`: the pieces form a
connected run from the arc's start point; inside a sub-path (`inSub`), when no connecting line is
drawn (`near = false`) and there is a piece, the start point is the current position -/
def OutOk (inSub : Bool) (cur : Pt α) : ArcOutQ α → Prop
  | .skip => True
  | .curve start near pieces =>
    (inSub = true → near = false → pieces ≠ [] → start = cur) ∧ ∃ e, Run (toP start) pieces e

def SvgOutOk (inSub : Bool) (cur : Pt α) : SvgArcOutQ α → Prop
  | .straight => True
  | .arc o => OutOk inSub cur o

section
variable [Add α] [Sub α]

/-- the law used at one command (trivially true for the 17 non-arc commands) -/
def StepOk (g : GeoQ α ρ) (s : St α) : Cmd α ρ → Prop
  | .arcTo r to => SvgOutOk (!s.needMoveTo) s.cur (g.endpoint r s.cur to)
  | .relArcTo r v => SvgOutOk (!s.needMoveTo) s.cur (g.endpoint r s.cur (relToAbs s v))
  | .arc r => OutOk (!s.needMoveTo) s.cur (g.center r s.cur)
  | _ => True

/-- … at every command of a sequence, each at the state in which it is issued -/
def RunOk (g : GeoQ α ρ) (s : St α) : List (Cmd α ρ) → Prop
  | [] => True
  | c :: r => StepOk g s c ∧ RunOk g (step g.erase s c).1 r

end

theorem synced_init (zero : α) : Synced (St.init zero) none := by simp [Synced, St.init]

theorem moveTo_connected (s : St α) (to : Pt α) (p : Option (Pt α)) :
    edgeStarts p (moveTo s to).2 = [] ∧ Synced (moveTo s to).1 (lastPoint p (moveTo s to).2) := by
  refine ⟨edgeStarts_endIfNeeded_begin p s to, fun _ => ?_⟩
  simpa [moveTo] using lastPoint_endIfNeeded_begin p s to

theorem close_connected (s : St α) (p : Option (Pt α)) :
    edgeStarts p (close s).2 = [] ∧ Synced (close s).1 (lastPoint p (close s).2) := by
  cases hn : s.needMoveTo
  · simp [close, hn, edgeStarts, Synced]
  · simp [close, hn, edgeStarts, Synced]

theorem IsEdge.starts {to : Pt α} {v : Verb} {e : Call (Pt α) Unit} (h : IsEdge to v e)
    (q : Option (Pt α)) : edgeStarts q [e] = [q] ∧ lastPoint q [e] = some to := by
  cases h <;> exact ⟨rfl, rfl⟩

theorem drawFroms_eq (s : St α) (to : Pt α) :
    drawFroms s to = if s.needMoveTo then if s.isEmpty then [] else [s.first] else [s.cur] := by
  cases hn : s.needMoveTo <;> cases he : s.isEmpty <;> simp [drawFroms, beginIfNeeded, moveTo, hn, he]

theorem draw_connected (s : St α) {to : Pt α} (k : Pt α) {v : Verb} {e : Call (Pt α) Unit}
    (p : Option (Pt α)) (h : Synced s p) (he : IsEdge to v e) :
    edgeStarts p (drawOut s to k v e).2 = (drawFroms s to).map some
      ∧ Synced (drawOut s to k v e).1 (lastPoint p (drawOut s to k v e).2) := by
  rw [drawFroms_eq]
  unfold drawOut
  split
  · split
    · exact moveTo_connected s to p
    · have hm := moveTo_connected s s.first p
      rw [edgeStarts_append, lastPoint_append, hm.1, hm.2 rfl]
      exact ⟨(he.starts _).1, fun _ => (he.starts _).2⟩
  · rename_i hn
    rw [h (Bool.eq_false_iff.2 hn)]
    exact ⟨(he.starts _).1, fun _ => (he.starts _).2⟩

theorem arc_connected (s : St α) (o : ArcOutQ α) (p : Option (Pt α)) (h : Synced s p)
    (ho : OutOk (!s.needMoveTo) s.cur o) :
    edgeStarts p (arc s o.erase).2 = (arcFroms s o).map some := by
  cases o with
  | skip => rfl
  | curve start near pieces =>
    obtain ⟨hs, e, hr⟩ := ho
    simp only [ArcOutQ.erase, arc_curve_eq, arcFroms]
    cases hn : s.needMoveTo
    · have hp := h hn
      subst hp
      simp only [Bool.false_eq_true, if_false, edgeStarts_append]
      cases near
      · simp only [Bool.false_eq_true, if_false, edgeStarts, List.nil_append]
        cases hq : pieces with
        | nil => rfl
        | cons q rest =>
          have hst : start = s.cur := hs (by simp [hn]) rfl (by simp [hq])
          rw [hst, hq] at hr
          exact edgeStarts_pieces hr
      · simp only [if_true, edgeStarts, lastPoint, List.map_append, List.map_cons, List.map_nil]
        simpa using edgeStarts_pieces hr
    · simp only [if_true]
      rw [edgeStarts_append p (endIfNeeded s ++ ([Call.begin start ()] : Calls α)),
        edgeStarts_endIfNeeded_begin, lastPoint_endIfNeeded_begin, List.nil_append]
      exact edgeStarts_pieces hr

/-- `current_position` stays the builder's current point through `arc`, for EVERY arc output (no
law of the geometry is needed: as of lyon commit 250152af `arc` moves `current_position` with the
connecting line) -/
theorem arc_synced (s : St α) (o : ArcOut α) (p : Option (Pt α)) (h : Synced s p) :
    Synced (arc s o).1 (lastPoint p (arc s o).2) := by
  cases o with
  | skip => exact fun hn => h hn
  | curve start near quads =>
    simp only [arc_curve_eq]
    cases hn : s.needMoveTo
    · have hp := h hn
      subst hp
      cases near
      · simp only [Bool.false_eq_true, if_false, List.nil_append]
        exact fun _ => lastPoint_quadCalls _ _
      · simp only [Bool.false_eq_true, if_false, if_true, lastPoint_append, lastPoint]
        exact fun _ => lastPoint_quadCalls _ _
    · simp only [if_true]
      rw [lastPoint_append p (endIfNeeded s ++ ([Call.begin start ()] : Calls α)),
        lastPoint_endIfNeeded_begin]
      exact fun _ => lastPoint_quadCalls _ _

section
variable [Add α] [Sub α]

theorem step_synced (g : Geo α ρ) (s : St α) (c : Cmd α ρ) (p : Option (Pt α)) (h : Synced s p) :
    Synced (step g s c).1 (lastPoint p (step g s c).2) :=
  step_shapes g s c (M := fun r => Synced r.1 (lastPoint p r.2))
    (fun _ => (moveTo_connected s _ p).2) (close_connected s p).2
    (fun _ k _ _ he => (draw_connected s k p h he).2) (fun _ => arc_synced s _ p h)

theorem run_synced (g : Geo α ρ) (cmds : List (Cmd α ρ)) (s : St α) (p : Option (Pt α))
    (h : Synced s p) : Synced (run g s cmds).1 (lastPoint p (run g s cmds).2) := by
  induction cmds generalizing s p with
  | nil => exact h
  | cons c r ih =>
    have s2 := ih _ _ (step_synced g s c p h)
    simpa only [run, lastPoint_append] using s2

theorem step_connected (g : GeoQ α ρ) (s : St α) (c : Cmd α ρ) (p : Option (Pt α))
    (h : Synced s p) (ho : StepOk g s c) :
    edgeStarts p (step g.erase s c).2 = (froms g s c).map some := by
  have hl : ∀ to, edgeStarts p (lineTo s to).2 = (drawFroms s to).map some :=
    fun to => lineTo_eq s to ▸ (draw_connected s _ p h .line).1
  have hq : ∀ k to, edgeStarts p (quadTo s k to).2 = (drawFroms s to).map some :=
    fun k to => quadTo_eq s k to ▸ (draw_connected s _ p h (.quad k)).1
  have hk : ∀ k1 k2 to, edgeStarts p (cubicTo s k1 k2 to).2 = (drawFroms s to).map some :=
    fun k1 k2 to => cubicTo_eq s k1 k2 to ▸ (draw_connected s _ p h (.cubic k1 k2)).1
  have ha : ∀ to o, SvgOutOk (!s.needMoveTo) s.cur o →
      edgeStarts p (arcTo s to o.erase).2 = (arcToFroms s to o).map some := fun to o ho => by
    cases o with
    | straight => exact hl to
    | arc o => exact arc_connected s o p h ho
  cases c with
  | moveTo to => exact (moveTo_connected s to p).1
  | relMoveTo v => exact (moveTo_connected s _ p).1
  | close => exact (close_connected s p).1
  | lineTo to => exact hl _
  | relLineTo v => exact hl _
  | hLineTo x => exact hl _
  | relHLineTo x => exact hl _
  | vLineTo x => exact hl _
  | relVLineTo x => exact hl _
  | quadTo c to => exact hq _ _
  | relQuadTo c v => exact hq _ _
  | smoothQuadTo to => exact hq _ _
  | smoothRelQuadTo v => exact hq _ _
  | cubicTo c1 c2 to => exact hk _ _ _
  | relCubicTo c1 c2 v => exact hk _ _ _
  | smoothCubicTo c2 to => exact hk _ _ _
  | smoothRelCubicTo c2 v => exact hk _ _ _
  | arcTo r to => exact ha _ _ ho
  | relArcTo r v => exact ha _ _ ho
  | arc r => exact arc_connected s _ p h ho

theorem run_connected (g : GeoQ α ρ) (cmds : List (Cmd α ρ)) (s : St α) (p : Option (Pt α))
    (h : Synced s p) (ho : RunOk g s cmds) :
    edgeStarts p (run g.erase s cmds).2 = (runFroms g s cmds).map some := by
  induction cmds generalizing s p with
  | nil => rfl
  | cons c r ih =>
    simp only [run, runFroms, edgeStarts_append, List.map_append, step_connected g s c p h ho.1,
      ih _ _ (step_synced g.erase s c p h) ho.2]

/-- sequences without the centre-form `arc` need the law for `arc_to` only -/
def NoCenterArc : List (Cmd α ρ) → Prop
  | [] => True
  | .arc _ :: _ => False
  | _ :: r => NoCenterArc r

theorem runOk_of_endpoint (g : GeoQ α ρ)
    (hend : ∀ r cur to b, SvgOutOk b cur (g.endpoint r cur to)) (cmds : List (Cmd α ρ)) (s : St α)
    (hc : NoCenterArc cmds) : RunOk g s cmds := by
  induction cmds generalizing s with
  | nil => trivial
  | cons c r ih =>
    cases c <;> first
      | exact hc.elim
      | exact ⟨hend _ _ _ _, ih _ hc⟩
      | exact ⟨trivial, ih _ hc⟩

end

end Lyon.Svg
