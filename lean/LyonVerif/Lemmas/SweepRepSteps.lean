/-
  C07b - the operations of the modelled sweep that create or rewrite records preserve the record invariant
  `SInv IdP U` (`Lemmas/SweepRepInv.lean`), on success AND on failure (Hoare triples in `Std.Do`); the span
  operations touch nothing it reads (`keeps_sinv`), and the composite step functions follow from the record
  (`Lemmas/SweepStepKeeps.lean`).

  Where records are created or rewritten:
  * `split_edge` (vertex on an active edge): a copy of the source record with a new `range.start`;
    the state becomes tainted (bit 5) - the id pair is copied, so `IdP` is kept unconditionally;
  * `merge_coincident_edges`: a new record from the longer pending edge (tainted, bit 7);
  * `process_intersection`: in `Lemmas/SweepRepActive.lean`.
-/
import LyonVerif.Lemmas.SweepRepInv

set_option linter.unusedSectionVars false
set_option mvcgen.warning false

namespace Lyon.SweepRep
open Lyon Lyon.Scalar Lyon.Mono Lyon.Sweep Lyon.EQ
open Std.Do

variable {α : Type} [Scalar α] [Wide α]
variable (IdP : Nat → Nat → Prop) (U : α → Prop)

theorem splitEdge_spec (ei : Nat) :
    ⦃fun s => ⌜SInv IdP U s⌝⦄ (splitEdge ei : SM α Unit) ⦃keepsR IdP U⦄ := by
  unfold splitEdge
  mvcgen
  rename_i s h hlt _ _ _ _ _ _ _
  have hT : Tnt (s.cov ||| 32) := tnt_bit5 s.cov
  have hsrc : s.active[ei].srcEdge < s.q.edgeData.size := (h.active _ (Array.getElem_mem hlt)).1
  have hD := h.data.ed hsrc
  have hle : ∀ d : EdgeData α, s.q.edgeData.size ≤ (s.q.edgeData.push d).size := by intro d; simp
  apply h.grow
  · exact qok_pushUnsorted h.qok _ _
  · exact hle _
  · rfl
  · cov_le
  · apply QData.push (h.data.mono (CovLe.or_right _ _)) rfl
    exact ⟨hD.1, Uc.tnt hT _, Uc.tnt hT _⟩
  · apply all_set
    · intro e he; exact (h.active e he).mono (fun _ _ => Uc.tnt hT _) (hle _)
    · exact ⟨Nat.lt_of_lt_of_le hsrc (hle _), Uc.tnt hT _⟩
  · apply all_push
    · intro e he; exact (h.below e he).mono (fun _ _ => Uc.tnt hT _) (hle _)
    · refine ⟨?_, Uc.tnt hT _⟩
      show s.q.events.size < (s.q.edgeData.push _).size
      rw [Array.size_push, h.qok.size]; exact Nat.lt_succ_self _
  · intro _ _ hm; exact hm

/-- what the record invariant has to survive: span bookkeeping touches nothing it reads (`SInv.rearr`), and
the ids handed to the monotone tessellators do not matter -/
theorem keeps_sinv (L : Array Nat) : Keeps (SInv (α := α) IdP U) (fun _ => SInv IdP U) (fun _ => True) L :=
  Keeps.ofSpanOp (fun _ _ h r => h.rearr r.1) (fun _ _ h => h) fun ei _ => splitEdge_spec IdP U ei

variable {IdP U} in
theorem SInv.mergeAt {s : St α} (h : SInv IdP U s) (i : Nat) (hi : i < s.active.size) : SInv IdP U (mergeAt s i hi) :=
  h.frame rfl rfl (.refl _) (all_set h.active _ _ (h.active s.active[i] (Array.getElem_mem hi))) h.below fun _ _ x => x

theorem sortEdgesBelow_spec :
    ⦃fun s => ⌜SInv IdP U s⌝⦄ (sortEdgesBelow : SM α Unit) ⦃keepsR IdP U⦄ := by
  unfold sortEdgesBelow
  mvcgen
  all_goals first
    | sinv0
    | (have hS := ‹SInv IdP U _›
       exact hS.frame rfl rfl (by cov_le) hS.active (all_insertionSort hS.below _) fun _ _ x => x)

variable {IdP U}

theorem bok_ite {V : α → Prop} {n : Nat} {x y : PendingEdge α} {c : Prop} [Decidable c] (hx : BOk V n x) (hy : BOk V n y) :
    BOk V n (if c then x else y) := by split <;> assumption

theorem merge_below_ok {V : α → Prop} {n : Nat} {below : Array (PendingEdge α)} (h : ∀ e ∈ below, BOk V n e)
    {upper : PendingEdge α} (hu : BOk V n upper) (i j : Nat) (w : Int) :
    ∀ e ∈ (below.setIfInBounds i { upper with winding := w }).eraseIdxIfInBounds j, BOk V n e :=
  merge_below_all h (show BOk V n { upper with winding := w } from hu) i j

theorem merge_split_final {s s' : St α} (h : SInv IdP U s) {lower : PendingEdge α}
    (hl : BOk (Uc U s.cov) s.q.edgeData.size lower) {below' : Array (PendingEdge α)}
    (hb : ∀ e ∈ below', BOk (Uc U s.cov) s.q.edgeData.size e) (sp to : P α) (t0 : α) (w : Int)
    (e1 : s'.q = (s.q.insertSorted sp ⟨to, t0, lower.rangeEnd, w, true, (s.q.ed lower.srcEdge).fromId,
      (s.q.ed lower.srcEdge).toId⟩ s.curEvent).1)
    (e2 : s'.active = s.active) (e3 : s'.below = below') (e4 : s'.out = s.out) (e5 : s'.cov = s.cov ||| 128)
    (e6 : s'.curEvent = s.curEvent) : SInv IdP U s' := by
  have hT : Tnt (s.cov ||| 128) := tnt_bit7 s.cov
  have hq := qok_insertSorted h.qok sp ⟨to, t0, lower.rangeEnd, w, true, (s.q.ed lower.srcEdge).fromId,
      (s.q.ed lower.srcEdge).toId⟩ s.curEvent h.cur
  have hle : s.q.edgeData.size ≤ s'.q.edgeData.size := by rw [e1, hq.2.2.1]; simp
  have hD := h.data.ed hl.1
  apply h.grow (e1 ▸ hq.1) hle e6 (e5 ▸ CovLe.or_right _ _)
  · rw [e1, e5]
    apply QData.push (h.data.mono (CovLe.or_right _ _)) hq.2.2.1
    exact ⟨hD.1, Uc.tnt hT _, Uc.tnt hT _⟩
  · rw [e2, e5]
    intro e he; exact (h.active e he).mono (fun _ _ => Uc.tnt hT _) hle
  · rw [e3, e5]
    intro e he; exact (hb e he).mono (fun _ _ => Uc.tnt hT _) hle
  · rw [e4]; exact fun _ _ x => x

variable (IdP U)

theorem mergeCoincidentEdges_spec (a b : Nat) :
    ⦃fun s => ⌜SInv IdP U s⌝⦄ (mergeCoincidentEdges a b : SM α Unit) ⦃keepsR IdP U⦄ := by
  unfold mergeCoincidentEdges
  mvcgen
  all_goals first | sinv0 | skip
  all_goals
    have hS := ‹SInv IdP U _›
    have ha := all_getElem? hS.below ‹_[a]? = some _›
    have hb := all_getElem? hS.below ‹_[b]? = some _›
  · refine SInv.frame hS rfl rfl (by cov_le) hS.active ?_ (fun _ _ x => x)
    exact merge_below_ok hS.below (bok_ite ha hb) _ _ _
  · refine merge_split_final hS (bok_ite ha hb) ?_ _ _ _ _ rfl rfl rfl rfl rfl rfl
    exact merge_below_ok hS.below (bok_ite ha hb) _ _ _

theorem handleCoincidentEdgesBelow_spec :
    ⦃fun s => ⌜SInv IdP U s⌝⦄ (handleCoincidentEdgesBelow : SM α Unit) ⦃keepsR IdP U⦄ := by
  unfold handleCoincidentEdgesBelow
  have h1 := mergeCoincidentEdges_spec (α := α) IdP U
  mvcgen [h1] invariants
  · keepsR IdP U
  with skip

end Lyon.SweepRep
