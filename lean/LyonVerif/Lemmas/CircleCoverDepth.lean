/-
  The recursion depth of `fill_circle` and the tolerance.

  `inner_radius_ge`: if the depth `n` satisfies `arc_len / step ≤ 2ⁿ` (what
  `(arc_len / step).ceil().log2().ceil()` is for; `arc_len = 0.5·π·r`,
  `step = circle_flattening_step(r, tolerance) = 2·√(2·t·r − t²)`, `t = min(tolerance, r)`), then the
  inscribed regular `4·2ⁿ`-gon has inner radius `r·cos(π/(4·2ⁿ)) ≥ r − t`: its sagitta is at most
  the tolerance.  Uses `sin x ≤ x`: the chord `2r·sin η` is shorter than the arc `2rη ≤ step`.
-/
import LyonVerif.Lemmas.CircleCoverTrig

set_option linter.unusedSectionVars false

namespace Lyon.C03c
open Lyon Lyon.Shapes Lyon.C03

variable {K : Type} [Field K] [LinearOrder K] [IsStrictOrderedRing K] [Transc K]

/-- half the angle of one side of the regular `4·2ⁿ`-gon -/
noncomputable def halfStep (K : Type) [Field K] [LinearOrder K] [IsStrictOrderedRing K] [Transc K] (n : Nat) : K :=
  (Transc.pi : K) / (4 * 2 ^ n)

theorem halfStep_pos (L : CircTrig K) (n : Nat) : 0 < halfStep K n := by
  have := L.pi_pos
  unfold halfStep; positivity

theorem halfStep_mul (n : Nat) : halfStep K n * (4 * 2 ^ n) = Transc.pi := by
  unfold halfStep; field_simp

/-- the half-angle of a leaf chord of a quadrant is `halfStep` -/
theorem quarter_halfStep (n i : Nat) : ((qt (i + 1) : K) - qt i) * Scalar.half ^ (n + 1) = halfStep K n := by
  rw [qt_succ, sc_half_eq, halfStep, pow_succ, one_div, inv_pow]
  field_simp
  ring

theorem halfStep_le (L : CircTrig K) (n : Nat) : halfStep K n ≤ (Transc.pi : K) / 4 :=
  div_le_div_of_nonneg_left L.pi_pos.le four_pos (le_mul_of_one_le_right zero_le_four (one_le_pow₀ one_le_two))

theorem halfStep_sin_pos (L : CircTrig K) (n : Nat) : 0 < Transc.sin (halfStep K n) :=
  L.sin_pos _ (halfStep_pos L n) ((halfStep_le L n).trans_lt (by linear_combination (3 / 4) * L.pi_pos))

theorem halfStep_cos_pos (L : CircTrig K) (n : Nat) : 0 < Transc.cos (halfStep K n) :=
  L.cos_pos _ ((neg_neg_of_pos (half_pos L.pi_pos)).trans (halfStep_pos L n))
    ((halfStep_le L n).trans_lt (by linear_combination (1 / 4) * L.pi_pos))

/-- the algebra of the sagitta: if the half chord `r·sin η` is at most `s = √(2tr − t²)`, the distance
`r·cos η` of the chord from the centre is at least `r − t` -/
theorem sagitta_le {r t s sn cs : K} (hpy : cs * cs + sn * sn = 1) (hs : s * s = 2 * t * r - t * t)
    (hcs : 0 ≤ r * cs) (hsn0 : 0 ≤ r * sn) (hsn : r * sn ≤ s) : r - t ≤ r * cs :=
  (le_abs_self _).trans <| abs_le_of_sq_le_sq
    (by linear_combination mul_self_le_mul_self hsn0 hsn - (r * r) * hpy + hs) hcs

theorem step_eq (r tol : K) :
    circleFlatteningStep r tol = 2 * Transc.sqrt (2 * min tol r * r - min tol r * min tol r) := by
  simp only [circleFlatteningStep, sc_min, sc_two]

theorem stepArg_pos {r tol : K} (hr : 0 < r) (ht : 0 < tol) : 0 < 2 * min tol r * r - min tol r * min tol r := by
  have ht0 : 0 < min tol r := lt_min ht hr
  linear_combination mul_pos ht0 hr + mul_nonneg ht0.le (sub_nonneg.2 (min_le_right tol r))

theorem inner_radius_ge (L : CircTrig K) (r tol : K) (n : Nat) (hr : 0 < r) (ht : 0 < tol)
    (hsq : ∀ x : K, 0 ≤ x → Transc.sqrt x * Transc.sqrt x = x) (hsq0 : ∀ x : K, 0 ≤ Transc.sqrt x)
    (hdepth : Scalar.half * Transc.pi * r / circleFlatteningStep r tol ≤ 2 ^ n) :
    r - min tol r ≤ r * Transc.cos (halfStep K n) := by
  have hXpos := stepArg_pos hr ht
  have hss := hsq _ hXpos.le
  have hs0 := sqrt_pos_of_pos (fun x _ => hsq0 x) hsq hXpos
  rw [step_eq, sc_half_eq, div_le_iff₀ (by positivity)] at hdepth
  -- the arc `r·η` of half a side is at most `√X`, and the half chord `r·sin η` is shorter than the arc
  have hrη : r * halfStep K n ≤ Transc.sqrt (2 * min tol r * r - min tol r * min tol r) :=
    le_of_mul_le_mul_right (a := 2 * 2 ^ n)
      (by linear_combination hdepth + (r / 2) * halfStep_mul (K := K) n) (by positivity)
  have hsin := mul_le_mul_of_nonneg_left (L.sin_le _ (halfStep_pos L n).le) hr.le
  exact sagitta_le (L.cos_sq_add_sin_sq _) hss (mul_nonneg hr.le (halfStep_cos_pos L n).le)
    (mul_nonneg hr.le (halfStep_sin_pos L n).le) (hsin.trans hrη)

end Lyon.C03c
