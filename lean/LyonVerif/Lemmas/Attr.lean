/-
  `@[geom]`: simp set that unfolds model definitions down to scalar arithmetic, and
  `geom_all Ns`: tag every (non-auxiliary) definition whose name starts with `Ns`.
  Proof-side only (imports Lean's meta layer); model files never import this.
-/
import Lean

register_simp_attr geom

open Lean Elab Command in
elab "geom_all " ns:ident : command => do
  let env ← getEnv
  let pre := ns.getId
  let mut names : Array Name := #[]
  for (n, ci) in env.constants.toList do
    if pre.isPrefixOf n && !n.isInternalDetail then
      match ci with
      | .defnInfo _ =>
        -- skip instances (internal-detail names were skipped above)
        if (← liftCoreM <| Lean.Meta.isInstance n) then continue
        names := names.push n
      | _ => pure ()
  for n in names do
    try
      elabCommand (← `(attribute [geom] $(mkIdent n)))
    catch _ => pure ()
