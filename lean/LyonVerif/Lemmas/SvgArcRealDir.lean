/-
  C13 — over ℝ: the direction of travel of the Bézier pieces.

  For a cubic Bézier curve `B` with control points `P_i` (`cubic_cross_param`)

        B(t₁) × B(t₂) = (t₂ − t₁) · Σ_{i<j} w_ij(t₁,t₂) · (P_i × P_j)

  with polynomial weights `w_ij ≥ 0` on `[0,1]²` (total positivity of the Bernstein basis): if every `P_i × P_j`
  (i < j) has one sign, the polar angle of `B(t)` about the origin is monotone in `t`.  Both of lyon's pieces are
  tangent cubics `tanFrame δ α` in the frame at their start point: the cubic with `α = cubicAlpha δ` by definition,
  the quadratic with `α = ⅔·tan(δ/2)` by degree elevation (`quadFrame_sample_tan`).  The cross products of the
  control points of `tanFrame δ α` are
  `α, sin δ − α cos δ, sin δ, sin δ − 2α cos δ − α² sin δ, sin δ − α cos δ, α`; for a step of at most 90° in the
  direction `σ = ±1` they all have the sign `σ` as soon as `0 ≤ σα ≤ σ·tan(δ/2)`, i.e. the inner
  control points do not pass the intersection of the end tangents (`tan_cross_nonneg`, `tanFrame_dir`).  For the
  cubic this is `alpha_le_tan` (from `3α² + 4scα = 4s²`), for the quadratic `⅔ ≤ 1`.

  At the end, what `Lemmas/SvgArcFrame.lean` needs besides: `ellMap` scales cross products about the centre by `rx·ry`
  (`ellMap_cross`), the arc's points are `ellMap` images of the unit circle (`pointAt_eq_ellMap`), samples are continuous.
-/
import LyonVerif.Lemmas.SvgArcRealCubic

set_option linter.unusedSimpArgs false

namespace Lyon.C13
open Lyon Scalar ArcConv

/-- weights of the cubic: `B(t₁) × B(t₂) = (t₂ − t₁)·cubicW …` -/
noncomputable def cubicW (c01 c02 c03 c12 c13 c23 t1 t2 : ℝ) : ℝ :=
  3 * ((1 - t1) * (1 - t1)) * ((1 - t2) * (1 - t2)) * c01
  + 3 * (1 - t1) * (1 - t2) * ((1 - t1) * t2 + t1 * (1 - t2)) * c02
  + (((1 - t1) * t2) * ((1 - t1) * t2) + ((1 - t1) * t2) * (t1 * (1 - t2)) + (t1 * (1 - t2)) * (t1 * (1 - t2))) * c03
  + 9 * t1 * t2 * (1 - t1) * (1 - t2) * c12
  + 3 * t1 * t2 * ((1 - t1) * t2 + t1 * (1 - t2)) * c13
  + 3 * (t1 * t1) * (t2 * t2) * c23

theorem cubic_cross_param (q : Cubic ℝ) (t1 t2 : ℝ) :
    (q.sample t1).cross (q.sample t2)
      = (t2 - t1) * cubicW (q.a.cross q.c1) (q.a.cross q.c2) (q.a.cross q.b)
          (q.c1.cross q.c2) (q.c1.cross q.b) (q.c2.cross q.b) t1 t2 := by
  simp only [cubicW, Cubic.sample, geom, Nat.cast_ofNat, Nat.cast_one]
  ring

theorem cubicW_nonneg (c01 c02 c03 c12 c13 c23 t1 t2 : ℝ) (h01 : 0 ≤ c01) (h02 : 0 ≤ c02)
    (h03 : 0 ≤ c03) (h12 : 0 ≤ c12) (h13 : 0 ≤ c13) (h23 : 0 ≤ c23)
    (a1 : 0 ≤ t1) (b1 : t1 ≤ 1) (a2 : 0 ≤ t2) (b2 : t2 ≤ 1) :
    0 ≤ cubicW c01 c02 c03 c12 c13 c23 t1 t2 := by
  have u1 : 0 ≤ 1 - t1 := sub_nonneg.2 b1
  have u2 : 0 ≤ 1 - t2 := sub_nonneg.2 b2
  unfold cubicW
  generalize 1 - t1 = v1 at u1 ⊢
  generalize 1 - t2 = v2 at u2 ⊢
  positivity

theorem cubicW_smul (k c01 c02 c03 c12 c13 c23 t1 t2 : ℝ) :
    k * cubicW c01 c02 c03 c12 c13 c23 t1 t2
      = cubicW (k * c01) (k * c02) (k * c03) (k * c12) (k * c13) (k * c23) t1 t2 := by
  unfold cubicW; ring

/-- `α ≤ tan(δ/2)` (`s = sin(δ/2)`, `c = cos(δ/2)`): the inner control points of the cubic do not pass the
intersection of the end tangents -/
theorem alpha_le_tan (c s al : ℝ) (hs : 0 ≤ s)
    (hal : 3 * (al * al) + 4 * (s * c) * al = 4 * (s * s)) : al * c ≤ s := by
  by_contra hlt
  rw [not_le] at hlt
  -- with `y = α·c > s`: `c²·(3α² + 4scα) = 3y² + 4sc²·y > 3s² + 4s²c² ≥ c²·4s²`
  have h : c * c * (3 * (al * al) + 4 * (s * c) * al) = c * c * (4 * (s * s)) := by rw [hal]
  linarith [mul_self_lt_mul_self hs hlt, mul_self_nonneg s,
    mul_nonneg (mul_nonneg hs (mul_self_nonneg c)) (sub_nonneg.2 hlt.le)]

/-- `τ = tan(δ/2)`, `C = cos δ`, `S = sin δ`: the cross products of the control points of `tanFrame δ α` factor,
`S − αC = τ + (τ − α)·C` (`P₀ × P₂ = P₁ × P₃`) and `S − 2αC − α²S = (τ − α)·(2 − S·(τ − α))` (`P₁ × P₂`) -/
theorem tan_cross_nonneg (τ al C S : ℝ) (h1 : τ * S = 1 - C) (h2 : τ * (1 + C) = S) (h0 : 0 ≤ al)
    (hle : al ≤ τ) (hC : 0 ≤ C) : 0 ≤ S - al * C ∧ 0 ≤ S - 2 * al * C - al * al * S ∧ 0 ≤ S := by
  have hd := sub_nonneg.2 hle
  have hS : 0 ≤ S := h2 ▸ mul_nonneg (h0.trans hle) (by linarith only [hC])
  refine ⟨?_, ?_, hS⟩
  · rw [show S - al * C = τ + (τ - al) * C by linear_combination -h2]
    exact add_nonneg (h0.trans hle) (mul_nonneg hd hC)
  · rw [show S - 2 * al * C - al * al * S = (τ - al) * (2 - S * (τ - al)) by
      linear_combination (τ - 2 * al) * h1 - h2]
    have := mul_le_mul_of_nonneg_left (sub_le_self τ h0) hS
    exact mul_nonneg hd (by linarith only [this, h1, hC])

theorem step_sign_real (arc : Arc ℝ) :
    0 ≤ signum arc.sweep * stepQ arc ∧ 0 ≤ signum arc.sweep * stepC arc := by
  have he := effSweep_nonneg_real arc
  have hpi : (0 : ℝ) < Transc.pi := Real.pi_pos
  obtain ⟨l1, l2⟩ := ceil_law_real arc
  have hq := (div_nonneg he (by rw [fracPi4_eq]; positivity)).trans l1
  have hc := (div_nonneg he (by rw [fracPi2_eq]; positivity)).trans l2
  have e : ∀ ns : ℝ, signum arc.sweep * stepOf arc ns = effSweep arc / ns := fun ns => by
    rw [stepOf, mul_left_comm, signum_mul_self, mul_one]
  exact ⟨by rw [stepQ, e]; exact div_nonneg he hq, by rw [stepC, e]; exact div_nonneg he hc⟩

theorem sign_mul_sin (σ x : ℝ) (hσ : σ = 1 ∨ σ = -1) :
    σ * Real.sin x = Real.sin (σ * x) ∧ |σ * x| = |x| := by
  rcases hσ with rfl | rfl <;> simp

theorem sign_mul_sin_nonneg (σ x : ℝ) (hσ : σ = 1 ∨ σ = -1) (h0 : 0 ≤ σ * x) (hx : |x| ≤ Real.pi) :
    0 ≤ σ * Real.sin x := by
  obtain ⟨e, ea⟩ := sign_mul_sin σ x hσ
  rw [e]; exact Real.sin_nonneg_of_nonneg_of_le_pi h0 ((le_abs_self _).trans (ea ▸ hx))

theorem sign_mul_sin_pos (σ x : ℝ) (hσ : σ = 1 ∨ σ = -1) (h0 : 0 < σ * x) (hx : |x| < Real.pi) :
    0 < σ * Real.sin x := by
  obtain ⟨e, ea⟩ := sign_mul_sin σ x hσ
  rw [e]; exact Real.sin_pos_of_pos_of_lt_pi h0 ((le_abs_self _).trans_lt (ea ▸ hx))

/-- `α = sin δ·(√(4 + 3tan²(δ/2)) − 1)/3` and the root is at least 1 -/
theorem cubicAlpha_sign_real (σ d : ℝ) (h : 0 ≤ σ * Real.sin d) : 0 ≤ σ * cubicAlpha d := by
  have hA : (1 : ℝ) ≤ Transc.sqrt (4 + 3 * Transc.tan (d * Scalar.half) * Transc.tan (d * Scalar.half)) := by
    rw [transc_sqrt_real, Real.one_le_sqrt, mul_assoc]
    linarith [mul_self_nonneg (Transc.tan (d * Scalar.half) : ℝ)]
  have e : cubicAlpha d = Real.sin d
      * (Transc.sqrt (4 + 3 * Transc.tan (d * Scalar.half) * Transc.tan (d * Scalar.half)) - 1) / 3 := by
    simp only [cubicAlpha, geom, Nat.cast_ofNat, Nat.cast_one, transc_sin_real]
  rw [e, mul_div_assoc, ← mul_assoc]
  exact mul_nonneg h (div_nonneg (sub_nonneg.2 hA) (by norm_num))

theorem sign_mul_sin_half (σ d : ℝ) (hσ : σ = 1 ∨ σ = -1) (hd : |d| ≤ Real.pi / 2) (hσd : 0 ≤ σ * d) :
    0 ≤ σ * Real.sin (d / 2) := by
  have hpi := Real.pi_pos
  obtain ⟨l, u⟩ := abs_le.mp hd
  exact sign_mul_sin_nonneg σ (d / 2) hσ (by linarith only [hσd])
    (by rw [abs_le]; constructor <;> linarith only [l, u, hpi])

/-- degree elevation: lyon's quadratic piece is the tangent cubic with `α = ⅔·tan(δ/2)`, by
`tan(δ/2)·sin δ = 1 − cos δ` and `tan(δ/2)·(1 + cos δ) = sin δ` -/
theorem quadFrame_sample_tan (d t : ℝ) (hc : Real.cos (d / 2) ≠ 0) :
    (quadFrame d).sample t = (tanFrame d (2 / 3 * Real.tan (d * Scalar.half))).sample t := by
  obtain ⟨h1, h2⟩ := tan_half_full_real d hc
  apply P.ext'
  · simp only [quadFrame, tanFrame, Quad.sample, Cubic.sample, geom, Nat.cast_ofNat, Nat.cast_one,
      transc_cos_real, transc_sin_real, transc_tan_real]
    linear_combination (-(2 * (1 - t) * (t * t))) * h1
  · simp only [quadFrame, tanFrame, Quad.sample, Cubic.sample, geom, Nat.cast_ofNat, Nat.cast_one,
      transc_cos_real, transc_sin_real, transc_tan_real]
    linear_combination (2 * (1 - t) * (t * t)) * h2

/-- the deviation of the quadratic in the full angle, where its bound (`cos δ ≥ 0.7071`) and its witness
(`cos(π/4) = √2/2`) are read: `tanFrame_normSq` at `α = ⅔·tan(δ/2)`, where `Q(α) = 0` -/
theorem quadFrame_normSq (d t : ℝ) (hc : Real.cos (d / 2) ≠ 0) :
    (1 + Real.cos d) * (((quadFrame d).sample t).x * ((quadFrame d).sample t).x
        + ((quadFrame d).sample t).y * ((quadFrame d).sample t).y - 1)
      = 2 * ((t * (1 - t)) * (t * (1 - t))) * ((1 - Real.cos d) * (1 - Real.cos d)) := by
  obtain ⟨h1, h2⟩ := tan_half_full_real d hc
  have e := tanFrame_normSq d (2 / 3 * Real.tan (d * Scalar.half)) t (exactTrig_real.cos_sq_add_sin_sq d)
  rw [transc_cos_real, transc_sin_real] at e
  rw [quadFrame_sample_tan d t hc, e]
  linear_combination (t * (1 - t)) * (t * (1 - t))
    * ((8 + 4 * Real.cos d + 8 * (t * (1 - t)) * (1 + Real.cos d)) * h1
      + (4 - 8 * (t * (1 - t)) * (1 + Real.cos d)) * Real.tan (d * Scalar.half) * h2)

/-- the polar angle of `tanFrame δ α` moves in direction `σ`, because all six cross products of its control points
have the sign `σ` (`tan_cross_nonneg` at `σ·tan(δ/2)`, `σα`) -/
theorem tanFrame_dir (d σ al t1 t2 : ℝ) (hσ : σ = 1 ∨ σ = -1) (hd : |d| ≤ Real.pi / 2)
    (hal0 : 0 ≤ σ * al) (hal : σ * al ≤ σ * Real.tan (d * Scalar.half))
    (ht0 : 0 ≤ t1) (ht : t1 ≤ t2) (ht1 : t2 ≤ 1) :
    0 ≤ σ * ((tanFrame d al).sample t1).cross ((tanFrame d al).sample t2) := by
  have hσ2 : σ * σ = 1 := by rcases hσ with h | h <;> rw [h] <;> norm_num
  obtain ⟨h1, h2⟩ := tan_half_full_real d (cos_half_pos_real d hd).ne'
  obtain ⟨h02, h12, h03⟩ := tan_cross_nonneg (σ * Real.tan (d * Scalar.half)) (σ * al) (Real.cos d) (σ * Real.sin d)
    (by linear_combination h1 + (Real.tan (d * Scalar.half) * Real.sin d) * hσ2) (by linear_combination σ * h2)
    hal0 hal (Real.cos_nonneg_of_mem_Icc (abs_le.mp hd))
  have e : ((tanFrame d al).sample t1).cross ((tanFrame d al).sample t2)
      = (t2 - t1) * cubicW al (Real.sin d - al * Real.cos d) (Real.sin d)
          (Real.sin d - 2 * al * Real.cos d - al * al * Real.sin d)
          (Real.sin d - al * Real.cos d) al t1 t2 := by
    rw [cubic_cross_param]
    simp only [tanFrame, cubicW, geom, transc_cos_real, transc_sin_real]
    linear_combination (3 * al * (t1 * t1) * (t2 * t2) * (t2 - t1)) * Real.cos_sq_add_sin_sq d
  rw [e, mul_left_comm, cubicW_smul,
    show σ * (Real.sin d - al * Real.cos d) = σ * Real.sin d - σ * al * Real.cos d by ring,
    show σ * (Real.sin d - 2 * al * Real.cos d - al * al * Real.sin d)
        = σ * Real.sin d - 2 * (σ * al) * Real.cos d - σ * al * (σ * al) * (σ * Real.sin d) by
      linear_combination (σ * al * al * Real.sin d) * hσ2]
  exact mul_nonneg (sub_nonneg.2 ht) (cubicW_nonneg _ _ _ _ _ _ _ _ hal0 h02 h03 h12 h02 hal0
    ht0 (ht.trans ht1) (ht0.trans ht) ht1)

theorem quadFrame_dir_real (d σ t1 t2 : ℝ) (hσ : σ = 1 ∨ σ = -1) (hd : |d| ≤ Real.pi / 4)
    (hσd : 0 ≤ σ * d) (ht0 : 0 ≤ t1) (ht : t1 ≤ t2) (ht1 : t2 ≤ 1) :
    0 ≤ σ * ((quadFrame d).sample t1).cross ((quadFrame d).sample t2) := by
  have hd2 : |d| ≤ Real.pi / 2 := hd.trans (by linarith only [Real.pi_pos])
  have hcp := cos_half_pos_real d hd2
  have hτ : 0 ≤ σ * Real.tan (d * Scalar.half) := by
    refine nonneg_of_mul_nonneg_left ?_ hcp
    rw [mul_assoc, tan_half_real d hcp.ne']; exact sign_mul_sin_half σ d hσ hd2 hσd
  rw [quadFrame_sample_tan d t1 hcp.ne', quadFrame_sample_tan d t2 hcp.ne']
  exact tanFrame_dir d σ _ t1 t2 hσ hd2 (by linarith only [hτ]) (by linarith only [hτ]) ht0 ht ht1

theorem cubicFrame_dir_real (d σ t1 t2 : ℝ) (hσ : σ = 1 ∨ σ = -1) (hd : |d| ≤ Real.pi / 2)
    (hσd : 0 ≤ σ * d) (ht0 : 0 ≤ t1) (ht : t1 ≤ t2) (ht1 : t2 ≤ 1) :
    0 ≤ σ * ((cubicFrame d).sample t1).cross ((cubicFrame d).sample t2) := by
  have hpi := Real.pi_pos
  obtain ⟨l, u⟩ := abs_le.mp hd
  obtain ⟨_, _, _, hal, _⟩ := cubic_half_angle_real d hd
  have hcp := cos_half_pos_real d hd
  have hsd : 0 ≤ σ * Real.sin d :=
    sign_mul_sin_nonneg σ d hσ hσd (by rw [abs_le]; constructor <;> linarith only [l, u, hpi])
  have hle := alpha_le_tan (Real.cos (d / 2)) (σ * Real.sin (d / 2)) (σ * cubicAlpha d)
    (sign_mul_sin_half σ d hσ hd hσd) (by linear_combination (σ * σ) * hal)
  rw [← tan_half_real d hcp.ne', ← mul_assoc] at hle
  exact tanFrame_dir d σ _ t1 t2 hσ hd (cubicAlpha_sign_real σ d hsd) (le_of_mul_le_mul_right hle hcp) ht0 ht ht1

theorem ellMap_cross (arc : Arc ℝ) (p q : P ℝ) :
    (ellMap arc p - arc.center).cross (ellMap arc q - arc.center)
      = arc.radii.x * arc.radii.y * p.cross q := by
  simp only [ellMap, Arc.rotate, geom, transc_cos_real, transc_sin_real]
  linear_combination (arc.radii.x * arc.radii.y * (p.x * q.y - p.y * q.x)) * Real.cos_sq_add_sin_sq arc.xrot

theorem scaled_dir_nonneg (k σ c : ℝ) (h : 0 ≤ σ * c) : 0 ≤ k * σ * (k * c) := by
  rw [mul_mul_mul_comm]; exact mul_nonneg (mul_self_nonneg k) h

theorem pointAt_eq_ellMap (arc : Arc ℝ) (θ : ℝ) :
    pointAt arc θ = ellMap arc ⟨Real.cos θ, Real.sin θ⟩ := rfl

theorem quad_sample_continuous (q : Quad ℝ) :
    Continuous (fun t : ℝ => (q.sample t).x) ∧ Continuous (fun t : ℝ => (q.sample t).y) := by
  constructor <;>
  · simp only [Quad.sample, geom, Nat.cast_ofNat, Nat.cast_one]
    fun_prop

theorem cubic_sample_continuous (q : Cubic ℝ) :
    Continuous (fun t : ℝ => (q.sample t).x) ∧ Continuous (fun t : ℝ => (q.sample t).y) := by
  constructor <;>
  · simp only [Cubic.sample, geom, Nat.cast_ofNat, Nat.cast_one]
    fun_prop

end Lyon.C13
