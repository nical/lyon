/-
  C06b: the length condition of the regime implies the model's "no fold" answer.
  `compute_join_side_positions_fixed_width` folds a sharp join only if the front miter point lies beyond
  BOTH neighbouring edges (`min(d_next, d_prev) > 0`, `d_next = w/2·|tan(θ/2)| − |next edge|`) or the
  miter vector is (nearly) zero; with `w/2·|tan(θ/2)| ≤ |next edge|` and `|normal|² = 1 + tan² ≥ 1` neither
  happens.  So `Regime` follows from `RegimeCore` (the same conjunction without the fold test).
  The fold test also asks `next_tangent · prev_tangent < 0`, so a turn of at most 90° never folds whatever the lengths
  (`noFoldAt_of_dot_nonneg`).
-/
import LyonVerif.Lemmas.StrokeCoverAsm


namespace Lyon.C06b
open Lyon Scalar Lyon.Stroke Lyon.Stroke.Full Lyon.C05 Lyon.C05b Lyon.C05c Lyon.C06

section
variable {K : Type} [Field K] [LinearOrder K] [IsStrictOrderedRing K] [Transc K]

theorem noFoldAt_of_dot_nonneg (e : Env K) (p j n : P K)
    (h : ¬ ((n - j).sdiv (len (n - j))).dot ((j - p).sdiv (len (j - p))) < 0) : noFoldAt e p j n := by
  have h' : ¬ ((n - j).sdiv (len (n - j))).dot ((j - p).sdiv (len (j - p))) < Scalar.zero := by simpa [geom] using h
  unfold noFoldAt fwGeo
  simp [EP.mk']
  intro _ hlt
  exact absurd hlt h

theorem noFoldAt_of_len (e : Env K) (hs0 : ∀ x : K, 0 ≤ x → 0 ≤ Transc.sqrt x)
    (hs : ∀ x : K, 0 ≤ x → Transc.sqrt x * Transc.sqrt x = x) (p j n : P K)
    (hL0 : 0 < (j - p).sqLen) (hL1 : 0 < (n - j).sqLen)
    (hg : ¬ ((j - p).sdiv (len (j - p)) + (n - j).sdiv (len (n - j))).sqLen < normalEpsilon)
    (hlen : e.hwFw * |((j - p).sdiv (len (j - p))).cross ((n - j).sdiv (len (n - j)))
        / (1 + ((j - p).sdiv (len (j - p))).dot ((n - j).sdiv (len (n - j))))| ≤ len (n - j)) :
    noFoldAt e p j n := by
  have hu0 := (sdiv_unit hs0 hs _ hL0).2
  have hu1 := (sdiv_unit hs0 hs _ hL1).2
  obtain ⟨hc, hN0, hN1⟩ := normal_closed hs0 hs _ _ hu0 hu1 hg
  unfold noFoldAt fwGeo
  simp [EP.mk']
  intro _ _
  set t0 := (j - p).sdiv (len (j - p)) with ht0
  set t1 := (n - j).sdiv (len (n - j)) with ht1
  obtain ⟨τ, hτ'⟩ : ∃ τ, τ = t0.cross t1 / (1 + t0.dot t1) := ⟨_, rfl⟩
  have hτ := hτ'.symm
  rw [← hτ'] at hN0 hN1 hlen
  have hNt1 : (computeNormal t0 t1).dot t1 = τ := by
    rw [hN1]; simp only [perp, geom] at hu1 ⊢; linear_combination τ * hu1
  have hsq : (computeNormal t0 t1).sqLen = 1 + τ * τ := by
    rw [hN0]; simp only [perp, geom] at hu0 ⊢; linear_combination (1 + τ * τ) * hu0
  constructor
  · rw [sc_min]
    apply min_le_iff.mpr
    left
    by_cases hx : 0 ≤ t0.cross t1
    · rw [if_pos hx]
      have hτ0 : 0 ≤ τ := by rw [← hτ]; exact div_nonneg hx (le_of_lt hc)
      rw [abs_of_nonneg hτ0] at hlen
      have : ((-computeNormal t0 t1).smul e.hwFw).dot (-t1) = e.hwFw * τ := by
        rw [← hNt1]; simp only [geom]; ring
      rw [this]; linarith
    · rw [if_neg hx]
      have hτ0 : τ < 0 := by rw [← hτ]; exact div_neg_of_neg_of_pos (lt_of_not_ge hx) hc
      rw [abs_of_neg hτ0] at hlen
      have : ((computeNormal t0 t1).smul e.hwFw).dot (-t1) = e.hwFw * -τ := by
        rw [← hNt1]; simp only [geom]; ring
      rw [this]; linarith
  · refine decide_eq_false ?_
    show ¬ (computeNormal t0 t1).sqLen < ofSci 1 5
    rw [hsq]
    have : (ofSci 1 5 : K) = 1 / 100000 := by simp only [geom]; norm_num
    rw [this]
    linarith [mul_self_nonneg τ]

/-- the regime without the model's fold test -/
def RegimeCore (e : Env K) (eps : K) (pt : Nat → P K) (n : Nat) : Prop :=
  (∀ i, i < n → pointsAreTooClose e.thr (pt i) (pt (i + 1)) = false)
  ∧ (∀ i, i < n → eps < eL pt i)
  ∧ (∀ i, i < n - 1 → ¬ (eT pt i + eT pt (i + 1)).sqLen < normalEpsilon)
  ∧ (∀ i, i < n → e.hwFw * (tauAbs pt n i + tauAbs pt n (i + 1) + 1) ≤ eL pt i)

noncomputable instance (e : Env K) (eps : K) (pt : Nat → P K) (n : Nat) : Decidable (RegimeCore e eps pt n) := by
  unfold RegimeCore; infer_instance

theorem regime_of_core {e : Env K} {eps : K} (hs0 : ∀ x : K, 0 ≤ x → 0 ≤ Transc.sqrt x)
    (hs : ∀ x : K, 0 ≤ x → Transc.sqrt x * Transc.sqrt x = x) (heps : 0 ≤ eps) (hw : 0 < e.hwFw)
    {pt : Nat → P K} {n : Nat} (hr : RegimeCore e eps pt n) : Regime e eps pt n := by
  obtain ⟨r1, r2, r3, r4⟩ := hr
  refine ⟨r1, r2, r3, ?_, r4⟩
  intro i hi
  have hsq : ∀ k, k < n → 0 < (pt (k + 1) - pt k).sqLen := fun k hk => sqLen_pos_of_len hs heps pt k (r2 k hk)
  refine noFoldAt_of_len e hs0 hs _ _ _ (hsq i (by omega)) (hsq (i + 1) (by omega)) (r3 i hi) ?_
  have h4 := r4 (i + 1) (by omega)
  rw [tauAbs_mid pt n i (by omega)] at h4
  have t2 := tauAbs_nonneg pt n (i + 1 + 1)
  have : e.hwFw * |jtau pt i| ≤ eL pt (i + 1) := by linarith [mul_nonneg (le_of_lt hw) t2]
  exact this

end

end Lyon.C06b
