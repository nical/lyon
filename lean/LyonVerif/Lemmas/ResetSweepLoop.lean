/-
  C08 on the sweep model: the loop, the flush of the spans left over, and the call as a
  whole — `tessellateImplFrom` from ANY two objects hands the geometry builder the same thing.
-/
import LyonVerif.Lemmas.ResetSweepOps2

set_option linter.unusedSectionVars false
set_option linter.unusedSimpArgs false

namespace Lyon.C08
open Lyon Lyon.Mono Lyon.Sweep Lyon.EQ

variable {α : Type} [Scalar α] [Wide α]

theorem tessellatorLoopB_sim (limit : Option Nat) : ∀ f : Nat, Sim (tessellatorLoopB (α := α) limit f)
  | 0 => by
    rw [tessellatorLoopB]
    exact sim_throw _
  | f+1 => by
    have ih := tessellatorLoopB_sim limit f
    rw [tessellatorLoopB]
    simp only [ExceptT.bind_throw]
    sim_auto

/-! ### without a refusing builder the loop is `Sweep.tessellatorLoop` -/

theorem initializeEventsB_none : initializeEventsB (α := α) none = initializeEvents := by
  apply ExceptT.ext
  apply StateT.ext
  intro s
  rfl

theorem tessellatorLoopB_none : ∀ f : Nat, tessellatorLoopB (α := α) none f = tessellatorLoop f
  | 0 => by rw [tessellatorLoopB, tessellatorLoop]
  | f+1 => by
    rw [tessellatorLoopB, tessellatorLoop, initializeEventsB_none, tessellatorLoopB_none f]
    rfl

theorem flushLeftover_sim {a b : Array (Option (Adv α))} (h : SpansSim a b) (out : Array (Emit α)) :
    flushLeftover a out = flushLeftover b out := by
  unfold flushLeftover
  rw [← Array.foldl_toList, ← Array.foldl_toList]
  unfold SpansSim at h
  generalize a.toList = la at h
  generalize b.toList = lb at h
  induction h generalizing out with
  | nil => rfl
  | @cons x y xs ys hx _ ih =>
    simp only [List.foldl_cons]
    cases x <;> cases y <;> first | exact ih _ | exact hx.elim | skip
    rename_i t t'
    have e : t.tess = t'.tess := hx.1
    simp only [e]
    exact ih _

/-- after the prologue two objects differ in their pools only -/
theorem prologue_sim (old old' : St α) (q : Queue α) (rule : Slab.Rule) (hz : Bool) (tol : α) (hi : Bool) :
    StSim (old.prologue q rule hz tol hi) (old'.prologue q rule hz tol hi) :=
  ⟨#[], old'.pool, 0, rfl, SpansSim.refl _⟩

/-- **`tessellate_impl` on any two used objects** (same rebuilt queue, same options, same geometry
builder behaviour): the same outcome and the same emission sequence. -/
theorem tessellateImplFrom_sim (old old' : St α) (limit : Option Nat) (q : Queue α) (rule : Slab.Rule) (hz : Bool)
    (tol : α) (hi : Bool) :
    emission (tessellateImplFrom old limit q rule hz tol hi).1 = emission (tessellateImplFrom old' limit q rule hz tol hi).1 := by
  unfold tessellateImplFrom
  split
  · rfl
  · have h := (tessellatorLoopB_sim limit (4 * q.events.size * q.events.size + 1000)).out _ _
      (prologue_sim old old' q rule hz tol hi)
    unfold run at h
    obtain ⟨h1, sp, pl, c, h2, h3⟩ := h
    dsimp only
    rw [← h1, h2]
    split
    · rfl
    · simp only [emission, with3]
      rw [flushLeftover_sim h3]

end Lyon.C08
