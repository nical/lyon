/-
  Domain bookkeeping of the clipper model over an ordered field (helper lemmas; the theorems are
  in `Props/C12c.lean`):
  * `split_range` / `split` against `domain_value_at_t` (restriction composes);
  * `ArgsOK`/`StepOK`: every domain end and every reported pair stays in [0,1], through one step and
    then through the recursion (`addCurveIx_in01`);
  * `Consistent`: the sub-curves of a call are the restrictions of the ORIGINAL curves to the
    call's domains — preserved by every recursive call of `step`;
  * `CrossingAB`: a common point of the two original curves located inside the call's domains —
    every step hands it on to (one of) its recursive calls, unless the step is a leaf
    (`IsLeaf`: point-like sub-curve or converged domains); the two silent exits (bounding boxes
    apart, clip answers `None`) are impossible when a crossing is inside the domains.
-/
import LyonVerif.Lemmas.ClipFat
import LyonVerif.Lemmas.ClipRange
import LyonVerif.Props.C10

set_option linter.unusedSectionVars false

namespace Lyon.Clip
open Lyon Scalar
variable {K : Type} [Field K] [LinearOrder K] [IsStrictOrderedRing K]

theorem splitRange_sample (c : Cubic K) (d : K × K) (u : K) :
    (c.splitRange d.1 d.2).sample u = c.sample (domainValueAtT d u) :=
  C10.cubic_split_range_sample c d.1 d.2 u

theorem splitRange_splitRange (c : Cubic K) (a b s t : K) :
    (c.splitRange a b).splitRange s t
      = c.splitRange (domainValueAtT (a, b) s) (domainValueAtT (a, b) t) :=
  cubic_ext_of_sample fun u =>
    calc ((c.splitRange a b).splitRange s t).sample u
        = (c.splitRange a b).sample (domainValueAtT (s, t) u) := splitRange_sample _ (s, t) u
      _ = c.sample (domainValueAtT (a, b) (domainValueAtT (s, t) u)) := splitRange_sample c (a, b) _
      _ = c.sample (domainValueAtT (domainValueAtT (a, b) s, domainValueAtT (a, b) t) u) := by
        congr 1; simp only [domainValueAtT]; ring
      _ = _ := (splitRange_sample c (_, _) u).symm

theorem half_left_sample (o : Cubic K) (d : K × K) (u : K) :
    ((o.splitRange d.1 d.2).split half).1.sample u = o.sample (domainValueAtT (d.1, domMid d) u) := by
  rw [C10.cubic_split_left, splitRange_sample]
  congr 1
  simp only [domainValueAtT, domMid, sc_half_eq]; ring

theorem half_right_sample (o : Cubic K) (d : K × K) (u : K) :
    ((o.splitRange d.1 d.2).split half).2.sample u = o.sample (domainValueAtT (domMid d, d.2) u) := by
  rw [C10.cubic_split_right, splitRange_sample]
  congr 1
  simp only [domainValueAtT, domMid, sc_half_eq]; ring

variable [Transc K] [Eps K]

/-- the exit "bounding boxes apart" of `step` (closed test) is not taken at a common point; the
strict test on inflated boxes of the curve × segment query is
`CubicRoots.boxes_intersect_of_common_point`, by the same argument -/
theorem boxes_overlap_of_common (c1 c2 : Cubic K) (s u : K) (hs : In01 s) (hu : In01 u)
    (h : c1.sample s = c2.sample u) :
    rectanglesOverlap c1.ixFastBoundingBox c2.ixFastBoundingBox = true := by
  obtain ⟨a1, a2, a3, a4⟩ := cubic_in_fastBox c1 s hs.1 hs.2
  obtain ⟨b1, b2, b3, b4⟩ := cubic_in_fastBox c2 u hu.1 hu.2
  rw [h] at a1 a2 a3 a4
  unfold rectanglesOverlap
  simp only [Bool.and_eq_true, decide_eq_true_eq]
  exact ⟨⟨⟨a1.trans b2, b1.trans a2⟩, a3.trans b4⟩, b3.trans a4⟩

def ArgsOK (a : Args K) : Prop := In01 a.d1.1 ∧ In01 a.d1.2 ∧ In01 a.d2.1 ∧ In01 a.d2.2

def StepOK : Step K → Prop
  | .done s => PairsIn01 s.ixs
  | .one a => ArgsOK a
  | .two a b => ArgsOK a ∧ ArgsOK b

theorem newDomain1_in01 (a : Args K) (clip : K × K) (ha : ArgsOK a) (h1 : In01 clip.1)
    (h2 : In01 clip.2) : In01 (newDomain1 a clip).1 ∧ In01 (newDomain1 a clip).2 :=
  ⟨domainValueAtT_in01 ha.1 ha.2.1 h1, domainValueAtT_in01 ha.1 ha.2.1 h2⟩

theorem stepConverged_ok (a : Args K) (nd1 : K × K) (st : State K) (ha : ArgsOK a)
    (hn1 : In01 nd1.1) (hn2 : In01 nd1.2) (hs : PairsIn01 st.ixs) :
    PairsIn01 (stepConverged a nd1 st).ixs := by
  unfold stepConverged
  split_ifs
  · exact hs
  · exact addIntersection_in01 _ _ _ _ _ _ (domMid_in01 hn1 hn2) (domMid_in01 ha.2.2.1 ha.2.2.2) hs

theorem stepSubdivide_ok (a : Args K) (nd1 : K × K) (c1' : Cubic K) (ha : ArgsOK a)
    (hn1 : In01 nd1.1) (hn2 : In01 nd1.2) : StepOK (stepSubdivide a nd1 c1') := by
  unfold stepSubdivide
  have hm1 := domMid_in01 hn1 hn2
  have hm2 := domMid_in01 ha.2.2.1 ha.2.2.2
  split_ifs
  · exact ⟨⟨ha.2.2.1, ha.2.2.2, hn1, hm1⟩, ⟨ha.2.2.1, ha.2.2.2, hm1, hn2⟩⟩
  · exact ⟨⟨ha.2.2.1, hm2, hn1, hn2⟩, ⟨hm2, ha.2.2.2, hn1, hn2⟩⟩

theorem stepIterate_ok (a : Args K) (nd1 : K × K) (c1' : Cubic K) (ha : ArgsOK a)
    (hn1 : In01 nd1.1) (hn2 : In01 nd1.2) : StepOK (stepIterate a nd1 c1') := by
  unfold stepIterate
  split_ifs
  · exact ⟨ha.2.2.1, ha.2.2.2, hn1, hn2⟩
  · exact ⟨hn1, hn2, ha.2.2.1, ha.2.2.2⟩

theorem stepClipped_ok (a : Args K) (clip : K × K) (st : State K) (ha : ArgsOK a)
    (h1 : In01 clip.1) (h2 : In01 clip.2) (hs : PairsIn01 st.ixs) : StepOK (stepClipped a clip st) := by
  obtain ⟨hn1, hn2⟩ := newDomain1_in01 a clip ha h1 h2
  unfold stepClipped
  split_ifs
  · exact stepConverged_ok a _ st ha hn1 hn2 hs
  · exact addPointCurveIntersection_in01 _ _ _ _ _ _ _ hn1 hn2 ha.2.2.1 ha.2.2.2 hs
  · exact stepSubdivide_ok a _ _ ha hn1 hn2
  · exact stepIterate_ok a _ _ ha hn1 hn2

theorem step_ok (a : Args K) (st : State K) (ha : ArgsOK a) (hs : PairsIn01 st.ixs) :
    StepOK (step a st) := by
  unfold step
  have hm2 := domMid_in01 ha.2.2.1 ha.2.2.2
  split_ifs
  · exact addPointCurveIntersection_in01 _ _ _ _ _ _ _ ha.2.2.1 ha.2.2.2 ha.1 ha.2.1 hs
  · exact ⟨⟨ha.1, ha.2.1, ha.2.2.1, hm2⟩, ⟨ha.1, ha.2.1, hm2, ha.2.2.2⟩⟩
  · exact hs
  · split
    · exact hs
    · rename_i clip hc
      obtain ⟨h1, h2⟩ := restrict_in01 a.c1 a.c2 clip.1 clip.2 hc
      exact stepClipped_ok a clip st ha h1 h2 hs

theorem addCurveIx_in01 (fuel : Nat) (a : Args K) (st : State K) (ha : ArgsOK a)
    (hs : PairsIn01 st.ixs) : PairsIn01 (addCurveIx fuel a st).ixs := by
  fun_induction addCurveIx fuel a st with
  | case1 | case2 => exact hs
  | case3 _ _ _ _ s h => exact (h ▸ step_ok _ _ ha hs : StepOK (.done s))
  | case4 _ _ _ _ a1 h ih => exact ih (h ▸ step_ok _ _ ha hs : StepOK (.one a1)) hs
  | case5 _ _ _ _ a1 a2 h ih1 ih2 =>
    have hstep : StepOK (.two a1 a2) := h ▸ step_ok _ _ ha hs
    exact ih2 hstep.2 (ih1 hstep.1 hs)

/-- the sub-curves of a call are the restrictions of the original curves to the call's domains -/
def Consistent (a : Args K) : Prop :=
  (∀ u, a.c1.sample u = a.o1.sample (domainValueAtT a.d1 u))
  ∧ (∀ u, a.c2.sample u = a.o2.sample (domainValueAtT a.d2 u))

/-- `t` is a parameter of the domain `d` -/
def InDom (d : K × K) (t : K) : Prop := ∃ s, In01 s ∧ t = domainValueAtT d s

/-- a common point `o1(t1) = o2(t2)` of the call's original curves inside the call's domains -/
def Crossing (a : Args K) (t1 t2 : K) : Prop :=
  InDom a.d1 t1 ∧ InDom a.d2 t2 ∧ a.o1.sample t1 = a.o2.sample t2

/-- the same for the top-level curves `A`, `B`: `flip` tells which of them `o1` is -/
def CrossingAB (a : Args K) (tA tB : K) : Prop :=
  if a.flip = true then Crossing a tB tA else Crossing a tA tB

theorem inDom_halves (d : K × K) (t : K) (h : InDom d t) :
    InDom (d.1, domMid d) t ∨ InDom (domMid d, d.2) t := by
  obtain ⟨s, hs, rfl⟩ := h
  rcases le_total s (1 / 2) with h' | h'
  · left
    refine ⟨2 * s, ⟨mul_nonneg two_pos.le hs.1, by linear_combination 2 * h'⟩, ?_⟩
    simp only [domainValueAtT, domMid, sc_half_eq]; ring
  · right
    refine ⟨2 * s - 1, ⟨by linear_combination 2 * h', by linear_combination 2 * hs.2⟩, ?_⟩
    simp only [domainValueAtT, domMid, sc_half_eq]; ring

/-- the clip step refines the first domain without losing the crossing -/
theorem clip_refines (a : Args K) (hc : Consistent a) (t1 t2 : K) (hx : Crossing a t1 t2) :
    rectanglesOverlap a.c1.ixFastBoundingBox a.c2.ixFastBoundingBox = true
    ∧ ∃ clip, restrictCurveToFatLine a.c1 a.c2 = some clip ∧ In01 clip.1 ∧ In01 clip.2
        ∧ InDom (newDomain1 a clip) t1 := by
  obtain ⟨⟨s, hs, h1⟩, ⟨u, hu, h2⟩, hsame⟩ := hx
  have hcommon : a.c1.sample s = a.c2.sample u := by
    rw [hc.1 s, hc.2 u, ← h1, ← h2]; exact hsame
  refine ⟨boxes_overlap_of_common _ _ s u hs hu hcommon, ?_⟩
  have hf := fatLine_contains a.c2 u hu.1 hu.2
  rw [← hcommon, signedDistance_sample] at hf
  obtain ⟨lo, hi, hclip, hlo, hhi⟩ :=
    clipHull_sound (convexHull_ok _ _ _ _) _ _ s hs.1 hs.2 hf.1 hf.2
  have hclip' : restrictCurveToFatLine a.c1 a.c2 = some (lo, hi) := hclip
  obtain ⟨hl01, hh01⟩ := restrict_in01 _ _ _ _ hclip'
  refine ⟨(lo, hi), hclip', hl01, hh01, ?_⟩
  rcases eq_or_lt_of_le (le_trans hlo hhi) with heq | hlt
  · -- lo = hi = s
    have hs' : s = lo := le_antisymm (by rw [heq]; exact hhi) hlo
    refine ⟨0, ⟨le_refl _, zero_le_one⟩, ?_⟩
    rw [h1, hs']
    simp only [newDomain1, domainValueAtT]; ring
  · have hpos : 0 < hi - lo := by linarith
    refine ⟨(s - lo) / (hi - lo), ⟨div_nonneg (by linarith) hpos.le, ?_⟩, ?_⟩
    · rw [div_le_one hpos]; linarith
    · rw [h1]
      simp only [newDomain1, domainValueAtT]
      field_simp
      ring

/-- `(t1, t2)` are the parameters `(tA, tB)` of the original curves in the order of the call's
`curve1`, `curve2`: swapped when `flip` is set -/
def Roles (a : Args K) (tA tB t1 t2 : K) : Prop :=
  (a.flip = false ∧ t1 = tA ∧ t2 = tB) ∨ (a.flip = true ∧ t1 = tB ∧ t2 = tA)

theorem crossingAB_elim {a : Args K} {tA tB : K} (h : CrossingAB a tA tB) :
    ∃ t1 t2, Crossing a t1 t2 ∧ Roles a tA tB t1 t2 := by
  unfold CrossingAB at h
  split_ifs at h with hf
  · exact ⟨tB, tA, h, Or.inr ⟨hf, rfl, rfl⟩⟩
  · exact ⟨tA, tB, h, Or.inl ⟨by simpa using hf, rfl, rfl⟩⟩

/-- a child with the same roles -/
theorem crossingAB_same {a a1 : Args K} {tA tB t1 t2 : K} (hf : a1.flip = a.flip)
    (hr : Roles a tA tB t1 t2)
    (h : Crossing a1 t1 t2) : CrossingAB a1 tA tB := by
  unfold CrossingAB
  rcases hr with ⟨hfl, rfl, rfl⟩ | ⟨hfl, rfl, rfl⟩
  · rw [hf, hfl]; simpa using h
  · rw [hf, hfl]; simpa using h

/-- a child with the roles swapped -/
theorem crossingAB_swapped {a a1 : Args K} {tA tB t1 t2 : K} (hf : a1.flip = !a.flip)
    (hr : Roles a tA tB t1 t2)
    (h : Crossing a1 t2 t1) : CrossingAB a1 tA tB := by
  unfold CrossingAB
  rcases hr with ⟨hfl, rfl, rfl⟩ | ⟨hfl, rfl, rfl⟩
  · rw [hf, hfl]; simpa using h
  · rw [hf, hfl]; simpa using h

/-- the step is decided at a leaf: a point-like `curve2` / empty `domain2`, or — after a
successful clip — converged domains or a point-like clipped `curve1` -/
def IsLeaf (a : Args K) : Prop :=
  (a.d2.1 == a.d2.2 || isAPoint a.c2 zero) = true
  ∨ ∃ clip, restrictCurveToFatLine a.c1 a.c2 = some clip
      ∧ (Scalar.max (a.d2.2 - a.d2.1) ((newDomain1 a clip).2 - (newDomain1 a clip).1) < (convEps : K)
         ∨ ((newDomain1 a clip).1 == (newDomain1 a clip).2
            || isAPoint (a.o1.splitRange (newDomain1 a clip).1 (newDomain1 a clip).2) zero) = true)

/-- what a step does with a crossing located in its domains -/
def StepTracks (a : Args K) (tA tB : K) : Step K → Prop
  | .done _ => IsLeaf a
  | .one a1 => Consistent a1 ∧ CrossingAB a1 tA tB
  | .two a1 a2 => Consistent a1 ∧ Consistent a2 ∧ (CrossingAB a1 tA tB ∨ CrossingAB a2 tA tB)

/-- consistency alone (no crossing needed) is handed on to every recursive call -/
def StepConsistent : Step K → Prop
  | .done _ => True
  | .one a1 => Consistent a1
  | .two a1 a2 => Consistent a1 ∧ Consistent a2

theorem stepSubdivide_consistent (a : Args K) (hc : Consistent a) (nd1 : K × K) :
    StepConsistent (stepSubdivide a nd1 (a.o1.splitRange nd1.1 nd1.2)) := by
  unfold stepSubdivide
  split_ifs
  · exact ⟨⟨hc.2, fun u => half_left_sample a.o1 nd1 u⟩, ⟨hc.2, fun u => half_right_sample a.o1 nd1 u⟩⟩
  · exact ⟨⟨fun u => half_left_sample a.o2 a.d2 u, fun u => splitRange_sample a.o1 nd1 u⟩,
      ⟨fun u => half_right_sample a.o2 a.d2 u, fun u => splitRange_sample a.o1 nd1 u⟩⟩

theorem stepIterate_consistent (a : Args K) (hc : Consistent a) (nd1 : K × K) :
    StepConsistent (stepIterate a nd1 (a.o1.splitRange nd1.1 nd1.2)) := by
  unfold stepIterate
  split_ifs
  · exact ⟨hc.2, fun u => splitRange_sample a.o1 nd1 u⟩
  · exact ⟨fun u => splitRange_sample a.o1 nd1 u, hc.2⟩

theorem stepSubdivide_tracks (a : Args K) (hc : Consistent a) (tA tB t1 t2 : K)
    (hr : Roles a tA tB t1 t2)
    (hx : Crossing a t1 t2) (nd1 : K × K) (hnd : InDom nd1 t1) :
    StepTracks a tA tB (stepSubdivide a nd1 (a.o1.splitRange nd1.1 nd1.2)) := by
  obtain ⟨hd1, hd2, hsame⟩ := hx
  have hk := stepSubdivide_consistent a hc nd1
  unfold stepSubdivide at hk ⊢
  split_ifs at hk ⊢
  · refine ⟨hk.1, hk.2, ?_⟩
    rcases inDom_halves nd1 t1 hnd with h | h
    · exact Or.inl (crossingAB_swapped (a := a) rfl hr ⟨hd2, h, hsame.symm⟩)
    · exact Or.inr (crossingAB_swapped (a := a) rfl hr ⟨hd2, h, hsame.symm⟩)
  · refine ⟨hk.1, hk.2, ?_⟩
    rcases inDom_halves a.d2 t2 hd2 with h | h
    · exact Or.inl (crossingAB_swapped (a := a) rfl hr ⟨h, hnd, hsame.symm⟩)
    · exact Or.inr (crossingAB_swapped (a := a) rfl hr ⟨h, hnd, hsame.symm⟩)

theorem stepIterate_tracks (a : Args K) (hc : Consistent a) (tA tB t1 t2 : K)
    (hr : Roles a tA tB t1 t2)
    (hx : Crossing a t1 t2) (nd1 : K × K) (hnd : InDom nd1 t1) :
    StepTracks a tA tB (stepIterate a nd1 (a.o1.splitRange nd1.1 nd1.2)) := by
  obtain ⟨hd1, hd2, hsame⟩ := hx
  have hk := stepIterate_consistent a hc nd1
  unfold stepIterate at hk ⊢
  split_ifs at hk ⊢
  · exact ⟨hk, crossingAB_swapped (a := a) rfl hr ⟨hd2, hnd, hsame.symm⟩⟩
  · exact ⟨hk, crossingAB_same (a := a) rfl hr ⟨hnd, hd2, hsame⟩⟩

/-- **one step never drops a crossing**: a common point of the original curves lying inside the
domains of a (consistent) call lies inside the domains of its recursive call / of one of its two
recursive calls, which are consistent again; a step that ends the recursion there is a leaf.
In particular the exits "bounding boxes apart" and "clip = None" are not taken. -/
theorem step_tracks (a : Args K) (st : State K) (hc : Consistent a) (tA tB : K)
    (hx : CrossingAB a tA tB) : StepTracks a tA tB (step a st) := by
  obtain ⟨t1, t2, hx', hr⟩ := crossingAB_elim hx
  obtain ⟨hbox, clip, hclip, _, _, hnd⟩ := clip_refines a hc t1 t2 hx'
  unfold step
  split_ifs with h1 h2 h3
  · exact Or.inl h1
  · -- closed curve2: split it
    obtain ⟨hd1, hd2, hsame⟩ := hx'
    refine ⟨⟨hc.1, fun u => half_left_sample a.o2 a.d2 u⟩, ⟨hc.1, fun u => half_right_sample a.o2 a.d2 u⟩, ?_⟩
    rcases inDom_halves a.d2 t2 hd2 with h | h
    · exact Or.inl (crossingAB_same (a := a) rfl hr ⟨hd1, h, hsame⟩)
    · exact Or.inr (crossingAB_same (a := a) rfl hr ⟨hd1, h, hsame⟩)
  · rw [hbox] at h3; simp at h3
  · rw [hclip]
    show StepTracks a tA tB (stepClipped a clip st)
    unfold stepClipped
    split_ifs with h4 h5 h6
    · exact Or.inr ⟨clip, hclip, Or.inl h4⟩
    · exact Or.inr ⟨clip, hclip, Or.inr h5⟩
    · exact stepSubdivide_tracks a hc tA tB t1 t2 hr hx' _ hnd
    · exact stepIterate_tracks a hc tA tB t1 t2 hr hx' _ hnd

theorem step_consistent (a : Args K) (st : State K) (hc : Consistent a) :
    StepConsistent (step a st) := by
  unfold step
  split_ifs
  · trivial
  · exact ⟨⟨hc.1, fun u => half_left_sample a.o2 a.d2 u⟩, ⟨hc.1, fun u => half_right_sample a.o2 a.d2 u⟩⟩
  · trivial
  · split
    · trivial
    · rename_i clip _
      unfold stepClipped
      split_ifs
      · trivial
      · trivial
      · exact stepSubdivide_consistent a hc _
      · exact stepIterate_consistent a hc _

/-- the recursive calls carry the (already incremented) recursion count of the call -/
def StepRc (n : Nat) : Step K → Prop
  | .done _ => True
  | .one a1 => a1.rc = n
  | .two a1 a2 => a1.rc = n ∧ a2.rc = n

theorem step_rc (a : Args K) (st : State K) : StepRc a.rc (step a st) := by
  unfold step
  split_ifs
  · trivial
  · exact ⟨rfl, rfl⟩
  · trivial
  · split
    · trivial
    · unfold stepClipped
      split_ifs
      · trivial
      · trivial
      · unfold stepSubdivide; split_ifs <;> exact ⟨rfl, rfl⟩
      · unfold stepIterate; split_ifs <;> rfl

theorem addPointCurveIntersection_fuelOut (pc : Cubic K) (b : Bool) (c : Cubic K) (pd cd : K × K)
    (flip : Bool) (st : State K) :
    (addPointCurveIntersection pc b c pd cd flip st).fuelOut = st.fuelOut := by
  unfold addPointCurveIntersection; split <;> rfl

/-- a step that ends the recursion does not touch the model's `fuelOut` flag -/
def StepFuel (f : Bool) : Step K → Prop
  | .done s => s.fuelOut = f
  | _ => True

theorem step_fuelOut (a : Args K) (st : State K) : StepFuel st.fuelOut (step a st) := by
  unfold step
  split_ifs
  · exact addPointCurveIntersection_fuelOut _ _ _ _ _ _ _
  · trivial
  · rfl
  · split
    · rfl
    · unfold stepClipped
      split_ifs
      · show (stepConverged _ _ st).fuelOut = st.fuelOut
        unfold stepConverged; split_ifs <;> rfl
      · exact addPointCurveIntersection_fuelOut _ _ _ _ _ _ _
      · unfold stepSubdivide; split_ifs <;> trivial
      · unfold stepIterate; split_ifs <;> trivial

/-- **the fuel of the model is never the reason to stop**: with `fuel > 0` and
`fuel + recursion_count ≥ 60` the recursion is always ended by lyon's own budget test or by a
leaf; the model's `fuelOut` flag stays untouched -/
theorem addCurveIx_fuelOut (fuel : Nat) (a : Args K) (st : State K) (hf : 0 < fuel)
    (h : 60 ≤ fuel + a.rc) : (addCurveIx fuel a st).fuelOut = st.fuelOut := by
  fun_induction addCurveIx fuel a st with
  | case1 => exact absurd hf (Nat.lt_irrefl 0)
  | case2 => rfl
  | case3 _ _ _ _ s hh => exact (hh ▸ step_fuelOut _ _ : StepFuel _ (.done s))
  | case4 _ a _ hb a1 hh ih =>
    have h1 : a1.rc = a.rc + 1 := (hh ▸ step_rc _ _ : StepRc _ (.one a1))
    exact ih (by omega) (by omega)
  | case5 _ a _ hb a1 a2 hh ih1 ih2 =>
    have h1 : a1.rc = a.rc + 1 ∧ a2.rc = a.rc + 1 := (hh ▸ step_rc _ _ : StepRc _ (.two a1 a2))
    exact (ih2 (by omega) (by omega)).trans (ih1 (by omega) (by omega))

theorem consistent_top (c1 c2 : Cubic K) :
    Consistent ({ c1 := c1, c2 := c2, d1 := (zero, one), d2 := (zero, one), flip := false, rc := 0,
                  o1 := c1, o2 := c2 } : Args K) := by
  constructor <;> intro u <;> simp [domainValueAtT]

end Lyon.Clip
