/-
  What the C05 theorems and the lemma files of the stroker share about `Model/Tess/StrokeParts.lean`:
  proper triangles, `Out.grow` (an output with a block of vertices and triangles appended), `tessellate_arc` and
  `add_join_base_vertices` as such blocks (`arc_eq`, `addJoinBaseVertices_eq`), the relation `Ext` of `arc_fan`,
  `PointBuffer` against its list specification (`Rep`), the apart-invariant of the merge rule, the vertices of a join as
  lists (`sideVerts`, `baseVerts`), the interior triangles of a join (`join_interior_ok`) and `normalEpsilon_eq`.
-/
import LyonVerif.Model.Tess.StrokeParts
import LyonVerif.Lemmas.Field
import Mathlib.Tactic.SplitIfs
import Mathlib.Tactic.IntervalCases
import Mathlib.Tactic.NormNum
import Mathlib.Tactic.Positivity

set_option linter.unusedSectionVars false

namespace Lyon.C05
open Lyon Scalar Lyon.Stroke

def Tri.Distinct (t : Tri) : Prop := t.1 ≠ t.2.1 ∧ t.2.1 ≠ t.2.2 ∧ t.1 ≠ t.2.2
/-- all three ids are below `n` (ids handed out so far) -/
def Tri.Below (t : Tri) (n : Nat) : Prop := t.1 < n ∧ t.2.1 < n ∧ t.2.2 < n

instance (t : Tri) : Decidable (Tri.Distinct t) := by unfold Tri.Distinct; infer_instance

section Grow
variable {α : Type}

def _root_.Lyon.Stroke.Out.grow (o : Out α) (vs : List (VData α)) (ts : List Tri) : Out α :=
  ⟨o.nextId + vs.length, o.verts ++ vs, o.tris ++ ts⟩

theorem _root_.Lyon.Stroke.Out.grow_nil (o : Out α) : o.grow [] [] = o := by
  cases o; simp [Out.grow]

theorem _root_.Lyon.Stroke.Out.grow_grow (o : Out α) (a c : List (VData α)) (b d : List Tri) :
    (o.grow a b).grow c d = o.grow (a ++ c) (b ++ d) := by
  simp [Out.grow, Nat.add_assoc]

theorem _root_.Lyon.Stroke.Out.addVertex_eq (o : Out α) (d : VData α) : o.addVertex d = o.grow [d] [] := by
  simp [Out.addVertex, Out.grow]

theorem _root_.Lyon.Stroke.Out.addTris_eq (o : Out α) (t : List Tri) : o.addTris t = o.grow [] t := by
  simp [Out.addTris, Out.grow]

theorem _root_.Lyon.Stroke.Out.addTri_eq (o : Out α) (t : Tri) : o.addTri t = o.grow [] [t] := by
  simp [Out.addTri, Out.grow]

theorem Tri.Below.mono {t : Tri} {n m : Nat} (h : Tri.Below t n) (hnm : n ≤ m) : Tri.Below t m :=
  ⟨Nat.lt_of_lt_of_le h.1 hnm, Nat.lt_of_lt_of_le h.2.1 hnm, Nat.lt_of_lt_of_le h.2.2 hnm⟩

end Grow

section ArcBlock
variable {α : Type} [Scalar α] [Transc α]

/-- the mid angles `tessellate_arc` visits, in emission order -/
def arcAngles : α → α → Nat → List α
  | _, _, 0 => []
  | a0, a1, n + 1 => (a0 + a1) * half :: (arcAngles a0 ((a0 + a1) * half) n ++ arcAngles ((a0 + a1) * half) a1 n)

/-- the triangles of `tessellate_arc` between the ids `va`, `vb` at depth `n` when the first fresh id is `k`:
`(va, k, vb)`, then the left half between `va` and `k`, then the right half between `k` and `vb` -/
def arcTris : Nat → Nat → Nat → Nat → List Tri
  | _, _, 0, _ => []
  | va, vb, n + 1, k => (va, k, vb) :: (arcTris va k n (k + 1) ++ arcTris k vb n (k + 1 + (2 ^ n - 1)))

def arcVert (d : VData α) (m : α) : VData α := { d with normal := ⟨Transc.cos m, Transc.sin m⟩ }

theorem arcAngles_length (n : Nat) : ∀ a0 a1 : α, (arcAngles a0 a1 n).length = 2 ^ n - 1 := by
  induction n with
  | zero => intro _ _; rfl
  | succ n ih =>
    intro a0 a1
    have : 1 ≤ 2 ^ n := Nat.one_le_two_pow
    simp only [arcAngles, List.length_cons, List.length_append, ih, Nat.pow_succ]; omega

theorem arcTris_length (n : Nat) : ∀ va vb k : Nat, (arcTris va vb n k).length = 2 ^ n - 1 := by
  induction n with
  | zero => intro _ _ _; rfl
  | succ n ih =>
    intro va vb k
    have : 1 ≤ 2 ^ n := Nat.one_le_two_pow
    simp only [arcTris, List.length_cons, List.length_append, ih, Nat.pow_succ]; omega

theorem arc_eq (n : Nat) : ∀ (a0 a1 : α) (va vb : Nat) (d : VData α) (o : Out α),
    tessellateArc a0 a1 va vb n d o = o.grow ((arcAngles a0 a1 n).map (arcVert d)) (arcTris va vb n o.nextId) := by
  induction n with
  | zero => intro a0 a1 va vb d o; exact (Out.grow_nil o).symm
  | succ n ih =>
    intro a0 a1 va vb d o
    simp only [tessellateArc, ih, Out.addVertex_eq, Out.addTri_eq, Out.grow_grow, arcAngles, arcTris, List.map_cons,
      List.map_append]
    -- the second half starts after the `2 ^ n - 1` vertices of the first
    simp only [Out.grow, arcAngles_length, Nat.add_assoc, List.length_map, List.length_cons, List.length_append,
      List.length_nil, List.cons_append, List.nil_append, Nat.add_comm (2 ^ n - 1) 1]
    rfl

theorem arcTris_ok (n : Nat) : ∀ (va vb k : Nat), va ≠ vb → va < k → vb < k →
    ∀ t ∈ arcTris va vb n k, Tri.Distinct t ∧ Tri.Below t (k + (2 ^ n - 1)) := by
  induction n with
  | zero => intro _ _ _ _ _ _ t ht; cases ht
  | succ n ih =>
    intro va vb k hab ha hb t ht
    have hp : 1 ≤ 2 ^ n := Nat.one_le_two_pow
    have hq : 2 ^ (n + 1) = 2 * 2 ^ n := by rw [Nat.pow_succ]; omega
    simp only [arcTris, List.mem_cons, List.mem_append] at ht
    rcases ht with rfl | ht | ht
    · simp only [Tri.Distinct, Tri.Below]; omega
    · obtain ⟨h1, h2⟩ := ih va k (k + 1) (by omega) (by omega) (by omega) t ht
      exact ⟨h1, h2.mono (by omega)⟩
    · obtain ⟨h1, h2⟩ := ih k vb (k + 1 + (2 ^ n - 1)) (by omega) (by omega) (by omega) t ht
      exact ⟨h1, h2.mono (by omega)⟩

end ArcBlock

section Arc
variable {K : Type} [Field K] [LinearOrder K] [IsStrictOrderedRing K] [Transc K]

/-- `r` extends `o` by exactly `k` vertices with unit normals and `k` proper triangles over
ids handed out so far -/
structure Ext (o r : Out K) (k : Nat) : Prop where
  next : r.nextId = o.nextId + k
  verts : ∃ vs, r.verts = o.verts ++ vs ∧ vs.length = k ∧ ∀ v ∈ vs, v.normal.sqLen = 1
  tris : ∃ ts, r.tris = o.tris ++ ts ∧ ts.length = k ∧ ∀ t ∈ ts, Tri.Distinct t ∧ Tri.Below t r.nextId

theorem Ext.grow (o : Out K) {vs : List (VData K)} {ts : List Tri} {k : Nat} (hv : vs.length = k) (ht : ts.length = k)
    (hn : ∀ v ∈ vs, v.normal.sqLen = 1) (hok : ∀ t ∈ ts, Tri.Distinct t ∧ Tri.Below t (o.nextId + k)) :
    Ext o (o.grow vs ts) k :=
  ⟨by rw [← hv]; rfl, ⟨vs, rfl, hv, hn⟩, ⟨ts, rfl, ht, by rw [← hv] at hok; exact hok⟩⟩

end Arc

section Buffer
variable {β : Type}

/-- the specification: the list of points since the last `clear`; `replace_last` overwrites the
newest one and is an error on an empty list -/
def specApply (l : List β) : BufOp β → Option (List β)
  | .push p => some (l ++ [p])
  | .replaceLast p => if l = [] then none else some (l.dropLast ++ [p])
  | .clear => some []

def specRun (l : List β) : List (BufOp β) → Option (List β)
  | [] => some l
  | op :: ops => match specApply l op with
    | none => none
    | some l' => specRun l' ops

/-- the (at most) three newest points, oldest first -/
def window (l : List β) : List β := l.drop (l.length - 3)

/-- representation invariant: which slot holds which of the newest points -/
inductive Rep : PointBuffer β → List β → Prop
  | c0 (s0 s1 s2 : β) : Rep ⟨s0, s1, s2, 0, 0⟩ []
  | c1 (s0 s1 s2 : β) : Rep ⟨s0, s1, s2, 0, 1⟩ [s0]
  | c2 (s0 s1 s2 : β) : Rep ⟨s0, s1, s2, 0, 2⟩ [s0, s1]
  | r0 (s0 s1 s2 : β) (pre : List β) : Rep ⟨s0, s1, s2, 0, 3⟩ (pre ++ [s0, s1, s2])
  | r1 (s0 s1 s2 : β) (pre : List β) : Rep ⟨s0, s1, s2, 1, 3⟩ (pre ++ [s1, s2, s0])
  | r2 (s0 s1 s2 : β) (pre : List β) : Rep ⟨s0, s1, s2, 2, 3⟩ (pre ++ [s2, s0, s1])

theorem Rep.push {b : PointBuffer β} {l : List β} (h : Rep b l) (p : β) :
    ∃ b', b.push p = some b' ∧ Rep b' (l ++ [p]) := by
  cases h with
  | c0 s0 s1 s2 => exact ⟨_, rfl, Rep.c1 p s1 s2⟩
  | c1 s0 s1 s2 => exact ⟨_, rfl, Rep.c2 s0 p s2⟩
  | c2 s0 s1 s2 => exact ⟨_, rfl, by simpa [PointBuffer.bumpCount, PointBuffer.bumpStart] using Rep.r0 s0 s1 p []⟩
  | r0 s0 s1 s2 pre => exact ⟨_, rfl, by simpa [PointBuffer.bumpCount, PointBuffer.bumpStart] using Rep.r1 p s1 s2 (pre ++ [s0])⟩
  | r1 s0 s1 s2 pre => exact ⟨_, rfl, by simpa [PointBuffer.bumpCount, PointBuffer.bumpStart] using Rep.r2 s0 p s2 (pre ++ [s1])⟩
  | r2 s0 s1 s2 pre => exact ⟨_, rfl, by simpa [PointBuffer.bumpCount, PointBuffer.bumpStart] using Rep.r0 s0 s1 p (pre ++ [s2])⟩

theorem Rep.replaceLast {b : PointBuffer β} {l : List β} (h : Rep b l) (p : β) :
    (l = [] → b.replaceLast p = none) ∧
    (l ≠ [] → ∃ b', b.replaceLast p = some b' ∧ Rep b' (l.dropLast ++ [p])) := by
  cases h with
  | c0 s0 s1 s2 => exact ⟨fun _ => rfl, fun h => absurd rfl h⟩
  | c1 s0 s1 s2 => exact ⟨fun h => by simp at h, fun _ => ⟨_, rfl, Rep.c1 p s1 s2⟩⟩
  | c2 s0 s1 s2 => exact ⟨fun h => by simp at h, fun _ => ⟨_, rfl, Rep.c2 s0 p s2⟩⟩
  | r0 s0 s1 s2 pre =>
    refine ⟨fun h => by simp at h, fun _ => ⟨_, rfl, ?_⟩⟩
    have : (pre ++ [s0, s1, s2]).dropLast ++ [p] = pre ++ [s0, s1, p] := by
      simp [List.dropLast_append_of_ne_nil]
    rw [this]; exact Rep.r0 s0 s1 p pre
  | r1 s0 s1 s2 pre =>
    refine ⟨fun h => by simp at h, fun _ => ⟨_, rfl, ?_⟩⟩
    have : (pre ++ [s1, s2, s0]).dropLast ++ [p] = pre ++ [s1, s2, p] := by
      simp [List.dropLast_append_of_ne_nil]
    rw [this]; exact Rep.r1 p s1 s2 pre
  | r2 s0 s1 s2 pre =>
    refine ⟨fun h => by simp at h, fun _ => ⟨_, rfl, ?_⟩⟩
    have : (pre ++ [s2, s0, s1]).dropLast ++ [p] = pre ++ [s2, s0, p] := by
      simp [List.dropLast_append_of_ne_nil]
    rw [this]; exact Rep.r2 s0 p s2 pre

theorem Rep.clear {b : PointBuffer β} {l : List β} (h : Rep b l) : Rep b.clear [] := by
  cases h <;> exact Rep.c0 _ _ _

theorem window_append3 (pre : List β) (a b c : β) : window (pre ++ [a, b, c]) = [a, b, c] := by
  unfold window
  have : (pre ++ [a, b, c]).length - 3 = pre.length := by simp
  rw [this]; simp

theorem Rep.observe {b : PointBuffer β} {l : List β} (h : Rep b l) :
    b.count = min 3 l.length ∧ b.count = (window l).length
    ∧ (∀ i, i < b.count → b.get i = (window l)[i]?)
    ∧ b.last = l.getLast?
    ∧ (2 ≤ b.count → ∃ x y, b.lastTwo = some (x, y) ∧ b.get (b.count - 2) = some x ∧ b.last = some y) := by
  cases h with
  | c0 s0 s1 s2 => simp [window, PointBuffer.last]
  | c1 s0 s1 s2 =>
    refine ⟨by simp, by simp [window], ?_, by simp [PointBuffer.last, PointBuffer.get, PointBuffer.slot], by simp⟩
    intro i hi; interval_cases i; simp [window, PointBuffer.get, PointBuffer.slot]
  | c2 s0 s1 s2 =>
    refine ⟨by simp, by simp [window], ?_, by simp [PointBuffer.last, PointBuffer.get, PointBuffer.slot], ?_⟩
    · intro i hi; interval_cases i <;> simp [window, PointBuffer.get, PointBuffer.slot]
    · intro _; exact ⟨s0, s1, by simp [PointBuffer.lastTwo, PointBuffer.slot, PointBuffer.get, PointBuffer.last]⟩
  | r0 s0 s1 s2 pre =>
    refine ⟨by simp, by simp [window_append3], ?_, by simp [PointBuffer.last, PointBuffer.get, PointBuffer.slot], ?_⟩
    · intro i hi; rw [window_append3]; interval_cases i <;> simp [PointBuffer.get, PointBuffer.slot]
    · intro _; exact ⟨s1, s2, by simp [PointBuffer.lastTwo, PointBuffer.slot, PointBuffer.get, PointBuffer.last]⟩
  | r1 s0 s1 s2 pre =>
    refine ⟨by simp, by simp [window_append3], ?_, by simp [PointBuffer.last, PointBuffer.get, PointBuffer.slot], ?_⟩
    · intro i hi; rw [window_append3]; interval_cases i <;> simp [PointBuffer.get, PointBuffer.slot]
    · intro _; exact ⟨s2, s0, by simp [PointBuffer.lastTwo, PointBuffer.slot, PointBuffer.get, PointBuffer.last]⟩
  | r2 s0 s1 s2 pre =>
    refine ⟨by simp, by simp [window_append3], ?_, by simp [PointBuffer.last, PointBuffer.get, PointBuffer.slot], ?_⟩
    · intro i hi; rw [window_append3]; interval_cases i <;> simp [PointBuffer.get, PointBuffer.slot]
    · intro _; exact ⟨s0, s1, by simp [PointBuffer.lastTwo, PointBuffer.slot, PointBuffer.get, PointBuffer.last]⟩

theorem Rep.run {b : PointBuffer β} {l : List β} (h : Rep b l) (ops : List (BufOp β)) :
    match specRun l ops with
    | none => b.run ops = none
    | some l' => ∃ b', b.run ops = some b' ∧ Rep b' l' := by
  induction ops generalizing b l with
  | nil => exact ⟨b, rfl, h⟩
  | cons op ops ih =>
    cases op with
    | push p =>
      obtain ⟨b', hb, hr⟩ := h.push p
      have := ih hr
      simpa [specRun, specApply, PointBuffer.run, PointBuffer.apply, hb] using this
    | replaceLast p =>
      by_cases hl : l = []
      · have := (h.replaceLast p).1 hl
        simp [specRun, specApply, PointBuffer.run, PointBuffer.apply, hl, this]
      · obtain ⟨b', hb, hr⟩ := (h.replaceLast p).2 hl
        have := ih hr
        simpa [specRun, specApply, PointBuffer.run, PointBuffer.apply, hb, hl] using this
    | clear =>
      have := ih h.clear
      simpa [specRun, specApply, PointBuffer.run, PointBuffer.apply] using this

end Buffer

section Merge
variable {K : Type} [Field K] [LinearOrder K] [IsStrictOrderedRing K]

/-- feed a list of points (none of them a flattening step) through the step functions' window logic -/
noncomputable def feed (thr : K) (w : Window K) : List (P K) → Option (Window K)
  | [] => some w
  | p :: ps => match w.step thr p with
    | none => none
    | some w' => feed thr w' ps

def Apart (thr : K) (l : List (P K)) : Prop :=
  ∀ i p q, l[i]? = some p → l[i + 1]? = some q → thr ≤ (p - q).sqLen

theorem Apart.snoc {thr : K} {l : List (P K)} (h : Apart thr l) (p : P K)
    (hl : ∀ x, l.getLast? = some x → thr ≤ (x - p).sqLen) : Apart thr (l ++ [p]) := by
  intro i a b ha hb
  by_cases h1 : i + 1 < l.length
  · rw [List.getElem?_append_left (by omega)] at ha
    rw [List.getElem?_append_left h1] at hb
    exact h i a b ha hb
  · by_cases h2 : i + 1 = l.length
    · rw [List.getElem?_append_left (by omega)] at ha
      rw [List.getElem?_append_right (by omega)] at hb
      have hb' : b = p := by
        have : i + 1 - l.length = 0 := by omega
        rw [this] at hb; simpa using hb.symm
      subst hb'
      apply hl
      rw [List.getLast?_eq_getElem?]
      have : l.length - 1 = i := by omega
      rw [this]; exact ha
    · have : (l ++ [p])[i + 1]? = none := by
        rw [List.getElem?_eq_none_iff]; simp; omega
      rw [this] at hb; cases hb

theorem step_inv {thr : K} {w : Window K} {l : List (P K)} (hr : Rep w.buf l) (ha : Apart thr l) (p : P K) :
    ∃ w' l', w.step thr p = some w' ∧ Rep w'.buf l' ∧ Apart thr l' := by
  unfold Window.step
  by_cases hm : w.merges thr p = true
  · rw [if_pos hm]; exact ⟨_, l, rfl, hr, ha⟩
  · rw [if_neg hm]
    obtain ⟨b', hb, hr'⟩ := hr.push p
    refine ⟨{ w with buf := b' }, l ++ [p], by simp [hb], hr', ?_⟩
    apply ha.snoc
    intro x hx
    have hlast : w.buf.last = some x := by rw [hr.observe.2.2.2.1]; exact hx
    simp only [Window.merges, hlast, pointsAreTooClose, Bool.not_eq_true, decide_eq_false_iff_not] at hm
    exact not_lt.mp hm

theorem feed_inv (thr : K) (ps : List (P K)) : ∀ (w : Window K) (l : List (P K)), Rep w.buf l → Apart thr l →
    ∃ w' l', feed thr w ps = some w' ∧ Rep w'.buf l' ∧ Apart thr l' := by
  induction ps with
  | nil => intro w l hr ha; exact ⟨w, l, rfl, hr, ha⟩
  | cons p ps ih =>
    intro w l hr ha
    obtain ⟨w1, l1, hs, hr1, ha1⟩ := step_inv hr ha p
    obtain ⟨w2, l2, hf, hr2, ha2⟩ := ih w1 l1 hr1 ha1
    exact ⟨w2, l2, by simp [feed, hs, hf], hr2, ha2⟩

end Merge

section Joins
variable {α : Type} [Scalar α]

/-- the vertices `add_join_base_vertices` emits for one side: one at the single vertex, else one at `prev` and
one at `next` -/
def sideVerts (j : Join α) (s : SideGeom α) (d : VData α) : List (VData α) :=
  match s.single with
  | some p => [{ d with normal := joinNormal j p }]
  | none => [{ d with normal := joinNormal j s.prev }, { d with normal := joinNormal j s.next }]

theorem sideVerts_length (j : Join α) (s : SideGeom α) (d : VData α) :
    (sideVerts j s d).length = if s.single.isSome then 1 else 2 := by
  unfold sideVerts; cases s.single <;> rfl

theorem sideVerts_mem {j : Join α} {s : SideGeom α} {d v : VData α} (h : v ∈ sideVerts j s d) :
    ∃ n, v = { d with normal := n } := by
  unfold sideVerts at h
  cases hs : s.single <;> simp [hs] at h
  · rcases h with rfl | rfl <;> exact ⟨_, rfl⟩
  · exact ⟨_, h⟩

theorem baseVerticesSide_eq (j : Join α) (s : SideGeom α) (d : VData α) (o : Out α) :
    baseVerticesSide j s d o
      = ({ s with prevVertex := o.nextId, nextVertex := o.nextId + ((sideVerts j s d).length - 1) },
         o.grow (sideVerts j s d) []) := by
  unfold baseVerticesSide sideVerts
  cases s.single <;> simp [Out.grow, Out.addVertex]

def baseVerts (j : Join α) (d : VData α) : List (VData α) :=
  sideVerts j j.neg { d with side := .negative } ++ sideVerts j j.pos { d with side := .positive }

theorem baseVerts_mem {j : Join α} {d v : VData α} (h : v ∈ baseVerts j d) :
    ∃ n s, v = { d with normal := n, side := s } := by
  rcases List.mem_append.mp h with h | h <;> obtain ⟨n, rfl⟩ := sideVerts_mem h <;> exact ⟨_, _, rfl⟩

theorem addJoinBaseVertices_eq (j : Join α) (d : VData α) (o : Out α) :
    addJoinBaseVertices j d o
      = ({ j with
            neg := { j.neg with prevVertex := o.nextId,
                                nextVertex := o.nextId + ((sideVerts j j.neg { d with side := .negative }).length - 1) },
            pos := { j.pos with prevVertex := o.nextId + (sideVerts j j.neg { d with side := .negative }).length,
                                nextVertex := o.nextId + (sideVerts j j.neg { d with side := .negative }).length
                                  + ((sideVerts j j.pos { d with side := .positive }).length - 1) } },
         o.grow (baseVerts j d) []) := by
  unfold addJoinBaseVertices baseVerts
  simp only [baseVerticesSide_eq, Out.grow_grow]
  rfl

/-- `h` is the order in which `add_join_base_vertices` hands out the four ids (negative side first) -/
theorem join_interior_ok (i : JoinIds) (needPos needNeg : Bool) (n : Nat)
    (h : i.negPrev ≤ i.negNext ∧ i.negNext < i.posPrev ∧ i.posPrev ≤ i.posNext ∧ i.posNext < n)
    (hp : needPos = true → i.posPrev ≠ i.posNext) (hn : needNeg = true → i.negPrev ≠ i.negNext) :
    ∀ t ∈ joinInterior i needPos needNeg, Tri.Distinct t ∧ Tri.Below t n := by
  intro t ht
  unfold joinInterior at ht
  split_ifs at ht
  · cases needPos <;> cases needNeg <;> simp only [List.mem_cons, List.not_mem_nil, or_false] at ht
    · have := hn rfl; obtain rfl := ht; simp only [Tri.Distinct, Tri.Below]; omega
    · have := hp rfl; obtain rfl := ht; simp only [Tri.Distinct, Tri.Below]; omega
    · have := hp rfl; have := hn rfl
      obtain rfl | rfl := ht <;> simp only [Tri.Distinct, Tri.Below] <;> omega
  · cases ht

end Joins

section Normal
variable {K : Type} [Field K] [LinearOrder K] [IsStrictOrderedRing K] [Transc K]

theorem normalEpsilon_eq : (normalEpsilon : K) = 1 / 10000 := by
  simp only [normalEpsilon, geom]; norm_num

end Normal

end Lyon.C05
