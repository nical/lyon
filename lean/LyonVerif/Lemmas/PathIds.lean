/-
  Where the points of a stored path are, separately from what is there.

  * `ProgRes ep cp ids prog`: `prog` is the program `ids` (over indices) with every index looked up in
    the stores `ep` (endpoints) and `cp` (control points).  Looking up commutes with the
    specification (`ProgRes.spec`): the one statement behind `Path::id_iter` + `path[id]` and
    `Polygon::id_iter` + `points[i]`, and behind the last clause of `no_oob_commands`
    (`PathCommands::events` itself is `commands::Iter` with every id looked up, `Cmd.eventsGo_eq_iterGo`).
  * `idProg es pos prog`: a builder program with every point replaced by the index of its slot in the
    point array.  What `IdIter` yields (`idIterGo_emit`) and where the current endpoint sits
    (`idState_cur`) are index arithmetic; the storage is read in one place, `idProg_resolves`.
  Mathlib-free.
-/
import LyonVerif.Lemmas.PathViews

namespace Lyon.Path

set_option linter.unusedSectionVars false
set_option linter.unusedSimpArgs false

section resolve
variable {π A B : Type} (ep cp : Nat → Option π)

inductive ProgRes : List (Call Nat A) → List (Call π B) → Prop
  | nil : ProgRes [] []
  | begin {i p a b r r'} : ep i = some p → ProgRes r r' → ProgRes (.begin i a :: r) (.begin p b :: r')
  | line {i p a b r r'} : ep i = some p → ProgRes r r' → ProgRes (.line i a :: r) (.line p b :: r')
  | quad {k i c p a b r r'} : cp k = some c → ep i = some p → ProgRes r r' →
      ProgRes (.quad k i a :: r) (.quad c p b :: r')
  | cubic {k1 k2 i c1 c2 p a b r r'} : cp k1 = some c1 → cp k2 = some c2 → ep i = some p →
      ProgRes r r' → ProgRes (.cubic k1 k2 i a :: r) (.cubic c1 c2 p b :: r')
  | end_ {cl r r'} : ProgRes r r' → ProgRes (.end_ cl :: r) (.end_ cl :: r')

/-- the specification state over ids looked up -/
def StRes : Option (Nat × Nat) → Option (π × π) → Prop
  | none, none => True
  | some (f, c), some (f', c') => ep f = some f' ∧ ep c = some c'
  | _, _ => False

variable {ep cp}

theorem ProgRes.spec {ids : List (Call Nat A)} {prog : List (Call π B)} (h : ProgRes ep cp ids prog) :
    ∀ (st : Option (Nat × Nat)) (st' : Option (π × π)), StRes ep st st' →
      resolveAll ep cp (specFrom st ids) = some (specFrom st' prog) ∧
      StRes ep (stateAfter st ids) (stateAfter st' prog) := by
  induction h with
  | nil => intro st st' h; cases st <;> cases st' <;> simp_all [specFrom, resolveAll, stateAfter]
  | @begin i p _ _ _ _ hp _ ih =>
    intro st st' hst
    match st, st', hst with
    | none, none, _ =>
      have := ih (some (i, i)) (some (p, p)) ⟨hp, hp⟩
      exact ⟨by simp [specFrom, resolveAll, resolveEvent, hp, this.1], this.2⟩
    | some (f, c), some (f', c'), h => simpa [specFrom, stateAfter] using ih _ _ h
  | @line i p _ _ _ _ hp _ ih =>
    intro st st' hst
    match st, st', hst with
    | none, none, h => simpa [specFrom, stateAfter] using ih _ _ h
    | some (f, c), some (f', c'), ⟨hf, hc⟩ =>
      have := ih (some (f, i)) (some (f', p)) ⟨hf, hp⟩
      exact ⟨by simp [specFrom, resolveAll, resolveEvent, hp, hc, this.1], this.2⟩
  | @quad k i _ p _ _ _ _ hk hp _ ih =>
    intro st st' hst
    match st, st', hst with
    | none, none, h => simpa [specFrom, stateAfter] using ih _ _ h
    | some (f, c), some (f', c'), ⟨hf, hc⟩ =>
      have := ih (some (f, i)) (some (f', p)) ⟨hf, hp⟩
      exact ⟨by simp [specFrom, resolveAll, resolveEvent, hk, hp, hc, this.1], this.2⟩
  | @cubic k1 k2 i _ _ p _ _ _ _ hk1 hk2 hp _ ih =>
    intro st st' hst
    match st, st', hst with
    | none, none, h => simpa [specFrom, stateAfter] using ih _ _ h
    | some (f, c), some (f', c'), ⟨hf, hc⟩ =>
      have := ih (some (f, i)) (some (f', p)) ⟨hf, hp⟩
      exact ⟨by simp [specFrom, resolveAll, resolveEvent, hk1, hk2, hp, hc, this.1], this.2⟩
  | end_ _ ih =>
    intro st st' hst
    match st, st', hst with
    | none, none, h => simpa [specFrom, stateAfter] using ih _ _ h
    | some (f, c), some (f', c'), ⟨hf, hc⟩ =>
      have := ih none none trivial
      exact ⟨by simp [specFrom, resolveAll, resolveEvent, hf, hc, this.1], this.2⟩

theorem ProgRes.append_inv {a b : List (Call Nat A)} {a' b' : List (Call π B)}
    (hl : a.length = a'.length) (h : ProgRes ep cp (a ++ b) (a' ++ b')) :
    ProgRes ep cp a a' ∧ ProgRes ep cp b b' := by
  induction a generalizing a' with
  | nil =>
    cases a' with
    | nil => exact ⟨.nil, h⟩
    | cons _ _ => simp at hl
  | cons x a ih =>
    cases a' with
    | nil => simp at hl
    | cons x' a' =>
      have hl' : a.length = a'.length := by simpa using hl
      simp only [List.cons_append] at h
      cases h with
      | begin hp hr => exact ⟨.begin hp (ih hl' hr).1, (ih hl' hr).2⟩
      | line hp hr => exact ⟨.line hp (ih hl' hr).1, (ih hl' hr).2⟩
      | quad hk hp hr => exact ⟨.quad hk hp (ih hl' hr).1, (ih hl' hr).2⟩
      | cubic hk1 hk2 hp hr => exact ⟨.cubic hk1 hk2 hp (ih hl' hr).1, (ih hl' hr).2⟩
      | end_ hr => exact ⟨.end_ (ih hl' hr).1, (ih hl' hr).2⟩

def callEndpoints : List (Call π A) → List π
  | [] => []
  | .begin p _ :: r => p :: callEndpoints r
  | .line p _ :: r => p :: callEndpoints r
  | .quad _ p _ :: r => p :: callEndpoints r
  | .cubic _ _ p _ :: r => p :: callEndpoints r
  | .end_ _ :: r => callEndpoints r

theorem ProgRes.endpoints_resolve {ids : List (Call Nat A)} {prog : List (Call π B)}
    (h : ProgRes ep cp ids prog) : (callEndpoints ids).mapM ep = some (callEndpoints prog) := by
  induction h <;> simp_all [callEndpoints]

end resolve

variable {S : Type} [Inhabited S]

/-- the slots one call occupies (`es` per endpoint) -/
def callWidth (es : Nat) : Call (Pt S) (List S) → Nat
  | .begin _ _ => es
  | .line _ _ => es
  | .quad _ _ _ => 1 + es
  | .cubic _ _ _ _ => 2 + es
  | .end_ true => es
  | .end_ false => 0

def width (es : Nat) : Prog S → Nat
  | [] => 0
  | c :: r => callWidth es c + width es r

/-- a call with its points replaced by the indices of their slots, `pos` being the first -/
def idCall (pos : Nat) : Call (Pt S) (List S) → Call Nat (List S)
  | .begin _ a => .begin pos a
  | .line _ a => .line pos a
  | .quad _ _ a => .quad pos (pos + 1) a
  | .cubic _ _ _ a => .cubic pos (pos + 1) (pos + 2) a
  | .end_ cl => .end_ cl

/-- the program with every point replaced by the index of its slot in the point array;
`pos` = slots before the program, `es` = slots per endpoint -/
def idProg (es : Nat) : Nat → Prog S → List (Call Nat (List S))
  | _, [] => []
  | pos, c :: r => idCall pos c :: idProg es (pos + callWidth es c) r

theorem idProg_append (es : Nat) (p q : Prog S) (pos : Nat) :
    idProg es pos (p ++ q) = idProg es pos p ++ idProg es (pos + width es p) q ∧
    width es (p ++ q) = width es p + width es q := by
  induction p generalizing pos with
  | nil => simp [idProg, width]
  | cons c r ih => simp [idProg, width, (ih _).1, (ih 0).2, Nat.add_assoc]

theorem idProg_length (es : Nat) (p : Prog S) (pos : Nat) : (idProg es pos p).length = p.length := by
  induction p generalizing pos with
  | nil => rfl
  | cons c r ih => simp [idProg, ih]

theorem emitPts_length (n : Nat) (prog : Prog S) (f : Pt S) (fa : List S)
    (ha : attrsOk n prog = true) (hfa : fa.length = n) :
    (emitPts f fa prog).length = width (attribStride n + 1) prog := by
  induction prog generalizing f fa with
  | nil => rfl
  | cons c r ih =>
    cases c with
    | end_ cl =>
      simp only [attrsOk] at ha
      cases cl <;> simp [emitPts, width, callWidth, endpointPts_length, ih f fa ha hfa, hfa]
    | begin p a =>
      simp only [attrsOk, Bool.and_eq_true, beq_iff_eq] at ha
      simp [emitPts, width, callWidth, endpointPts_length, ih p a ha.2 ha.1, ha.1]
    | _ =>
      simp only [attrsOk, Bool.and_eq_true, beq_iff_eq] at ha
      simp [emitPts, width, callWidth, endpointPts_length, ih f fa ha.2 hfa, ha.1] <;> omega

/-- outside a sub-path `cur` is the next free slot; inside, the current endpoint's, one endpoint block
before it -/
theorem idIterGo_emit (es : Nat) (prog : Prog S) (st : Option (Nat × Nat))
    (hn : wellNestedFrom st.isSome prog = true) (pos cur first : Nat)
    (h0 : st = none → cur = pos) (hst : ∀ x ∈ st, x = (first, cur) ∧ cur + es = pos) :
    idIterGo es (emitVerbs prog) cur first = specFrom st (idProg es pos prog) := by
  induction prog generalizing st pos cur first with
  | nil => cases st <;> simp [emitVerbs, idIterGo, idProg, specFrom]
  | cons c r ih =>
    cases st with
    | none =>
      obtain rfl := h0 rfl
      cases c with
      | begin p a =>
        simp [emitVerbs, idIterGo, idProg, idCall, callWidth, specFrom,
          ih (some (cur, cur)) (by simpa [wellNestedFrom] using hn) (cur + es) cur cur (by simp) (by simp)]
      | _ => simp [wellNestedFrom] at hn
    | some fc =>
      obtain ⟨h, rfl⟩ := hst _ rfl
      cases h
      cases c with
      | begin p a => simp [wellNestedFrom] at hn
      | line p a =>
        simp [emitVerbs, idIterGo, idProg, idCall, callWidth, specFrom,
          ih (some (first, cur + es)) (by simpa [wellNestedFrom] using hn) (cur + es + es) (cur + es) first
            (by simp) (by simp)]
      | quad k p a =>
        simp [emitVerbs, idIterGo, idProg, idCall, callWidth, specFrom,
          ih (some (first, cur + es + 1)) (by simpa [wellNestedFrom] using hn) (cur + es + (1 + es))
            (cur + es + 1) first (by simp) (by simp; omega)]
      | cubic k1 k2 p a =>
        simp [emitVerbs, idIterGo, idProg, idCall, callWidth, specFrom,
          ih (some (first, cur + es + 2)) (by simpa [wellNestedFrom] using hn) (cur + es + (2 + es))
            (cur + es + 2) first (by simp) (by simp; omega)]
      | end_ cl =>
        cases cl
        · simp [emitVerbs, idIterGo, idProg, idCall, callWidth, specFrom,
            ih none (by simpa [wellNestedFrom] using hn) (cur + es) (cur + es) first (by simp) (by simp)]
        · simp [emitVerbs, idIterGo, idProg, idCall, callWidth, specFrom,
            ih none (by simpa [wellNestedFrom] using hn) (cur + es + es) (cur + es * 2) first
              (by intro _; omega) (by simp)]

theorem idState_cur (es : Nat) (prog : Prog S) (st : Option (Nat × Nat)) (pos : Nat) (b : Bool)
    (hn : nestState st.isSome prog = some b) (hst : ∀ x ∈ st, x.2 + es = pos) :
    ∀ x ∈ stateAfter st (idProg es pos prog), x.2 + es = pos + width es prog := by
  induction prog generalizing st pos with
  | nil => simpa [idProg, stateAfter, width] using hst
  | cons c r ih =>
    simp only [idProg, width, ← Nat.add_assoc]
    cases st with
    | none =>
      cases c with
      | begin p a => exact ih (some (pos, pos)) _ hn (fun _ h => by cases h; rfl)
      | _ => cases hn
    | some fc =>
      obtain ⟨f, c0⟩ := fc
      cases c with
      | begin p a => cases hn
      | line p a => exact ih (some (f, pos)) _ hn (fun _ h => by cases h; rfl)
      | quad k p a => exact ih (some (f, pos + 1)) _ hn (fun _ h => by cases h; simp only [callWidth]; omega)
      | cubic k1 k2 p a => exact ih (some (f, pos + 2)) _ hn (fun _ h => by cases h; simp only [callWidth]; omega)
      | end_ cl => exact ih none _ hn (fun _ h => by cases h)

theorem idProg_resolves (P : PathData S) (prog : Prog S) (f : Pt S) (fa : List S) (pre : List (Pt S))
    (hall : P.points = pre ++ emitPts f fa prog) (ha : attrsOk P.numAttributes prog = true)
    (hfa : fa.length = P.numAttributes) :
    ProgRes P.endpointA P.ctrlA
      (idProg (attribStride P.numAttributes + 1) pre.length prog) (prog.map aCall) := by
  induction prog generalizing f fa pre with
  | nil => exact .nil
  | cons c r ih =>
    cases c with
    | begin p a =>
      simp only [attrsOk, Bool.and_eq_true, beq_iff_eq] at ha
      simp only [emitPts] at hall
      have h := ih p a (pre ++ endpointPts p a) (by simpa using hall) ha.2 ha.1
      simp only [List.length_append, endpointPts_length, ha.1] at h
      exact .begin (endpointA_at P pre _ p a hall ha.1) h
    | line p a =>
      simp only [attrsOk, Bool.and_eq_true, beq_iff_eq] at ha
      simp only [emitPts] at hall
      have h := ih f fa (pre ++ endpointPts p a) (by simpa using hall) ha.2 hfa
      simp only [List.length_append, endpointPts_length, ha.1] at h
      exact .line (endpointA_at P pre _ p a hall ha.1) h
    | quad k p a =>
      simp only [attrsOk, Bool.and_eq_true, beq_iff_eq] at ha
      simp only [emitPts] at hall
      have h := ih f fa (pre ++ [k] ++ endpointPts p a) (by simpa using hall) ha.2 hfa
      have hA := endpointA_at P (pre ++ [k]) _ p a (by simpa using hall) ha.1
      simp only [List.length_append, List.length_singleton, endpointPts_length, ha.1,
        Nat.add_assoc] at h hA
      exact .quad (ctrlA_at P pre _ k hall) hA h
    | cubic k1 k2 p a =>
      simp only [attrsOk, Bool.and_eq_true, beq_iff_eq] at ha
      simp only [emitPts] at hall
      have h := ih f fa (pre ++ [k1, k2] ++ endpointPts p a) (by simpa using hall) ha.2 hfa
      have hA := endpointA_at P (pre ++ [k1, k2]) _ p a (by simpa using hall) ha.1
      have hK2 := ctrlA_at P (pre ++ [k1]) _ k2 (by simpa using hall)
      simp only [List.length_append, List.length_singleton, List.length_cons, List.length_nil,
        endpointPts_length, ha.1, Nat.add_assoc, Nat.zero_add] at h hA hK2
      rw [show 1 + (1 + (attribStride P.numAttributes + 1)) = 2 + (attribStride P.numAttributes + 1) by omega] at h
      exact .cubic (ctrlA_at P pre _ k1 hall) hK2 hA h
    | end_ cl =>
      simp only [attrsOk] at ha
      cases cl with
      | true =>
        simp only [emitPts] at hall
        have h := ih f fa (pre ++ endpointPts f fa) (by simpa using hall) ha hfa
        simp only [List.length_append, endpointPts_length, hfa] at h
        exact .end_ h
      | false => exact .end_ (ih f fa pre hall ha hfa)

/-- ids answered with a program's attribute-carrying points are answered, through the position
store alone, with its positions -/
theorem ProgRes.points {A : Type} {P : PathData S} {prog : Prog S} : ∀ {ids : List (Call Nat A)},
    ProgRes P.endpointA P.ctrlA ids (prog.map aCall) → ProgRes P.point P.point ids prog := by
  induction prog with
  | nil => intro ids h; cases h; exact .nil
  | cons c r ih =>
    intro ids h
    cases c with
    | begin p a => cases h with | begin hq hr => exact .begin (point_of_endpointA _ _ _ hq) (ih hr)
    | line p a => cases h with | line hq hr => exact .line (point_of_endpointA _ _ _ hq) (ih hr)
    | quad k p a =>
      cases h with
      | quad hk hq hr => exact .quad (point_of_ctrlA _ _ _ hk) (point_of_endpointA _ _ _ hq) (ih hr)
    | cubic k1 k2 p a =>
      cases h with
      | cubic hk1 hk2 hq hr =>
        exact .cubic (point_of_ctrlA _ _ _ hk1) (point_of_ctrlA _ _ _ hk2) (point_of_endpointA _ _ _ hq) (ih hr)
    | end_ cl => cases h with | end_ hr => exact .end_ (ih hr)

end Lyon.Path
