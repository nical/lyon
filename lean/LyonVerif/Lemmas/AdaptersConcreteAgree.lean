/-
  C16 with the concrete flatteners: the two lyon_geom entry points for a QUADRATIC — the callback
  form `for_each_flattened_with_t` (used by `builder::Flattened`) and the iterator `Flattened`
  (used by `iterator::Flattened`) — yield the same points, over ordered fields, given that the
  count `ceil(…)` is an integer that `to_u32` converts exactly and `0 ≤ EPSILON < 1`
  (`CountLaws`; the iterator's guard is `i >= count − EPSILON`, the callback's loop runs
  `for _ in 1..count`).

  For a CUBIC the two entry points do NOT yield the same points (the callback form flattens the
  quadratic approximations, the iterator samples the cubic itself at the corresponding
  parameters): `cubic_iter_vs_callback_point` is the exact difference.
-/
import LyonVerif.Model.Path.AdaptersConcrete
import LyonVerif.Lemmas.AdaptersConcreteIter
import LyonVerif.Lemmas.AdaptersConcreteLaws
import LyonVerif.Lemmas.Flatten
import LyonVerif.Lemmas.FlattenTolCubic
import Mathlib.Data.Rat.Floor


namespace Lyon.Adapt
open Lyon Lyon.Path Scalar Lyon.Flat

section field
variable {K : Type} [Field K] [LinearOrder K] [IsStrictOrderedRing K] [Transc K] [FlatConst K]

/-- the iterator, from iteration `k` on, yields the `line.to`s of the callback loop from
iteration `k` on -/
theorem quad_iter_loop (L : CountLaws K) (q : Quad K) (p : FlatParams K) (n : ℕ)
    (hc : p.count = (n : K)) (m : ℕ) (k : ℕ) (hk : 1 ≤ k) (hkm : k + m = max n 1) (f : ℕ)
    (frm : P K) (tFrom : K) (l : List (P K))
    (h : (⟨q, p, (k : K), false⟩ : QuadIter K).collectDone f = some l) :
    l = (q.flatLoop p m (k : K) frm tFrom).map (·.b) := by
  induction m generalizing k f frm tFrom l with
  | zero =>
    have hnk : (n : K) ≤ (k : K) := by
      have : n ≤ k := by omega
      exact_mod_cast this
    have he : (⟨q, p, (k : K), false⟩ : QuadIter K).atEnd = true := by
      simp only [QuadIter.atEnd, decide_eq_true_eq, hc]
      have := L.eps_nonneg
      linarith
    have := quadIter_collectDone f _ rfl l h
    rw [if_pos he] at this
    simp [this, Quad.flatLoop]
  | succ m ih =>
    have hn2 : k + 1 ≤ n := by omega
    have he : ¬ (⟨q, p, (k : K), false⟩ : QuadIter K).atEnd = true := by
      simp only [QuadIter.atEnd, decide_eq_true_eq, hc, not_le]
      have h1 : ((k : K) + 1) ≤ (n : K) := by exact_mod_cast hn2
      have := L.eps_lt_one
      linarith
    have := quadIter_collectDone f _ rfl l h
    rw [if_neg he] at this
    obtain ⟨f', l', rfl, hl', rfl⟩ := this
    have hi : (k : K) + one = ((k + 1 : ℕ) : K) := by
      rw [sc_one_eq]; push_cast; ring
    simp only [hi] at hl'
    have := ih (k + 1) (by omega) (by omega) f' (q.sample (p.tAt (k : K))) (p.tAt (k : K)) l' hl'
    simp only [Quad.flatLoop, List.map_cons, hi, this]

/-- **the two quadratic entry points agree**: `flattened(tol)` (once finished) yields exactly the
`line.to`s of `for_each_flattened_with_t(tol)` (when that does not panic) -/
theorem quad_iter_eq_callback (L : CountLaws K) (fuel : ℕ) (tol : K) (a c b : P K)
    (hcb : cbOkQuad tol a c b = true) (hit : itOkQuad fuel tol a c b = true) :
    (itModel fuel tol).quad a c b = ((cbModel tol).quad a c b).map (·.b) := by
  simp only [cbOkQuad, Option.isSome_iff_exists] at hcb
  obtain ⟨l0, hl0⟩ := hcb
  simp only [itOkQuad, Option.isSome_iff_exists] at hit
  obtain ⟨l, hl⟩ := hit
  have hcol := quad_collect_of_done _ _ _ hl
  simp only [itModel, cbModel, hl0, Option.getD_some, hcol, List.map_map]
  simp only [Quad.forEachFlattenedWithT, Option.map_eq_some_iff] at hl0
  obtain ⟨n, hn, rfl⟩ := hl0
  have hc := count_eq_of_toU32 L.toNat_natCast _ (flatParams_count_int L ⟨a, c, b⟩ tol) n hn
  have h1 : (QuadIter.new (⟨a, c, b⟩ : Quad K) tol)
      = ⟨⟨a, c, b⟩, FlatParams.new ⟨a, c, b⟩ tol, ((1 : ℕ) : K), false⟩ := by
    simp [QuadIter.new]
  rw [h1] at hl
  have := quad_iter_loop L ⟨a, c, b⟩ (FlatParams.new ⟨a, c, b⟩ tol) n hc (n - 1) 1 (le_refl 1)
    (by omega) fuel a zero l hl
  rw [this, Quad.flatWith]
  simp [Function.comp_def, segOf]

end field

section cubic
variable {K : Type} [Field K] [LinearOrder K] [IsStrictOrderedRing K]

/-- exact identity: for the sub-range `[t0, t1]` of a cubic
and an inner parameter `t`, the point the cubic ITERATOR yields — `curve.sample(t0 + t·(t1−t0))`,
on the cubic — minus the point the CALLBACK form emits —
`curve.split_range(t0..t1).to_quadratic().sample(t)`, on the quadratic approximation — is
`½·t(1−t)(1−2t)·(t1−t0)³·(P3 − 3P2 + 3P1 − P0)`: zero only at `t ∈ {0, ½, 1}`, for an empty
range, or for a cubic that is a quadratic.  So builder-side and iterator-side flattening of a
path with a cubic emit different inserted points (same endpoints). -/
theorem cubic_iter_vs_callback_point (c : Cubic K) (t0 t1 t : K) :
    c.sample (t0 + t * (t1 - t0)) - (c.splitRange t0 t1).toQuadratic.sample t
      = (((c.b - c.c2.smul 3) + c.c1.smul 3) - c.a).smul
          (1 / 2 * (t * (1 - t) * (1 - 2 * t)) * ((t1 - t0) * (t1 - t0) * (t1 - t0))) := by
  -- the sub-range is a cubic of its own, with third difference `(t1 − t0)³·(P3 − 3P2 + 3P1 − P0)`
  rw [← cubic_split_range_sample, cubic_toQuadratic_dev, cubic_split_range_third_diff, Flat.smul_smul,
    mul_comm]

/-- a concrete instance on the model: `from (0,0) ctrl1 (0,3) ctrl2 (3,3) to (3,0)` (third
difference `(−6, 0)`), whole range, `t = 1/4`: the iterator's point (on the cubic) minus the
callback's point (on the quadratic approximation) is `½·(3/32)·(−6, 0) = (−9/32, 0)` -/
theorem cubic_iter_vs_callback_witness :
    let c : Cubic ℚ := ⟨⟨0, 0⟩, ⟨0, 3⟩, ⟨3, 3⟩, ⟨3, 0⟩⟩
    c.sample (0 + 1 / 4 * (1 - 0)) - (c.splitRange 0 1).toQuadratic.sample (1 / 4)
      = ⟨-9 / 32, 0⟩ := by
  intro c
  rw [cubic_iter_vs_callback_point]
  apply P.ext' <;> simp only [geom, c] <;> norm_num

end cubic

/-- ℚ with genuine `ceil`, `floor`, saturating `to_u32`-style cast (the other functions are
placeholders: none of them occurs in `CountLaws`) -/
@[instance_reducible] noncomputable def ratCeilTransc : Transc ℚ :=
  { toyTransc with
    ceil := fun x => ((⌈x⌉ : ℤ) : ℚ)
    floor := fun x => ((⌊x⌋ : ℤ) : ℚ)
    toNat := fun x => ⌊x⌋₊ }

theorem ratCeil_countLaws : @CountLaws ℚ _ _ _ ratCeilTransc toyConst :=
  @CountLaws.mk ℚ _ _ _ ratCeilTransc toyConst (fun n => Nat.floor_natCast n) (fun x => ⟨⌈x⌉, rfl⟩)
    (by show (0 : ℚ) ≤ 1 / 10000; norm_num) (by show (1 / 10000 : ℚ) < 1; norm_num)

example : @CountLaws ℚ _ _ _ ratCeilTransc toyConst := ratCeil_countLaws

end Lyon.Adapt
