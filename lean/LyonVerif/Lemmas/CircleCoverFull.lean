/-
  The whole circle mesh by the join law of `Lemmas/CircleCoverTiles.lean`.  Each half of the square is the step
  triangle of a half turn over two quadrant caps: `(qt 2, qt 1, qt 3)` of `[qt 1, qt 3]` split at `qt 2`, `(qt 3, qt 1, qt 0)` of
  `[qt 3, qt 5]` split at `qt 4` (quadrant 0 one turn further).  Two tilings of complementary arcs close up (`Tiles.close`), and
  the emission order (square, quadrants 2, 3, 0, 1) is a permutation of that.  `circle_full`: every triangle non-degenerate
  with its vertices on the circle, no overlap, every triangle on the inner side of every boundary edge.
-/
import LyonVerif.Lemmas.CircleCoverTiles


namespace Lyon.C03c
open Lyon Lyon.Shapes Lyon.C03

variable {K : Type} [Field K] [LinearOrder K] [IsStrictOrderedRing K] [Transc K]

noncomputable section

/-! The four border calls in quarter turns (`qt k = k·π/2`, so that comparisons are between numerals). -/

theorem qt_add_four (k : Nat) : (qt k : K) + 2 * Transc.pi = qt (k + 4) := by
  simp only [qt]; push_cast; ring

theorem pos_qt_add_four (L : CircTrig K) (c : P K) (r : K) (k : Nat) : pos c r (qt (k + 4)) = pos c r (qt k) := by
  rw [← qt_add_four, pos_periodic L]

/-- the cap of quadrant `i`, with its end points at the angles -/
def qcap (c : P K) (r : K) (n i : Nat) : List (Tri3 K) :=
  capTris c r n (qt i) (qt (i + 1)) (pos c r (qt i)) (pos c r (qt (i + 1)))

theorem circleTris_eq (L : CircTrig K) (c : P K) (r : K) (n : Nat) :
    circleTris c r n =
      [(pos c r (qt 2), pos c r (qt 1), pos c r (qt 3)), (pos c r (qt 3), pos c r (qt 1), pos c r (qt 0))] ++
      qcap c r n 2 ++ qcap c r n 3 ++ qcap c r n 0 ++ qcap c r n 1 := by
  obtain ⟨v0, v1, v2, v2', v3⟩ := axisVerts_eq L c r
  obtain ⟨a2, a3, a4, a0, a1⟩ := ang_qt (K := K)
  simp only [circleTris, qcap]
  rw [v0, v1, v3]
  nth_rewrite 1 [v2']
  nth_rewrite 1 [v2]
  rw [v2', a3, a4, a0, a1, a2, pos_qt_add_four L c r 0]

/-- what the circle theorems need of the whole mesh -/
structure Full (c : P K) (r : K) (S : List (Tri3 K)) (E : List (P K × P K)) : Prop where
  good : ∀ T ∈ S, GoodTri c r T
  disj : S.Pairwise Disj
  inner : ∀ T ∈ S, ∀ e ∈ E, InnerTri e T

theorem Full.perm {c : P K} {r : K} {S S' : List (Tri3 K)} {E E' : List (P K × P K)} (f : Full c r S E)
    (hp : S.Perm S') (hE : ∀ e ∈ E', e ∈ E) : Full c r S' E' :=
  ⟨fun T h => f.good T (hp.mem_iff.2 h), (hp.pairwise_iff Disj.symm).1 f.disj,
    fun T h e he => f.inner T (hp.mem_iff.2 h) e (hE e he)⟩

/-- **two tilings of complementary arcs close up** -/
theorem Tiles.close (L : CircTrig K) {c : P K} {r : K} (hr : r ≠ 0) {a b : K} (h0 : a < b) (h1 : b < a + 2 * Transc.pi)
    {S1 S2 : List (Tri3 K)} {E1 E2 : List (P K × P K)} (t1 : Tiles c r a b S1 E1)
    (t2 : Tiles c r b (a + 2 * Transc.pi) S2 E2) : Full c r (S1 ++ S2) (E1 ++ E2) where
  good := fun T hT => (List.mem_append.1 hT).elim (t1.good L.toTrigAdd T) (t2.good L.toTrigAdd T)
  disj := List.pairwise_append.2 ⟨t1.disj, t2.disj, fun T1 h1' T2 h2' =>
    disj_of_arcs L c r a b hr h0 h1 T1 T2 (t1.arcT T1 h1') (t2.arcT T2 h2')⟩
  inner := fun T hT e he => by
    rcases List.mem_append.1 he with he | he
    · exact (List.mem_append.1 hT).elim (fun h => t1.inner T h e he)
        fun h => arc_inner L c r a b h1 (t1.arcE e he) (t2.arcT T h)
    · exact (List.mem_append.1 hT).elim
        (fun h => arc_inner L c r b (a + 2 * Transc.pi) (by linarith) (t2.arcE e he) ((t1.arcT T h).shift L))
        fun h => t2.inner T h e he

/-- **the circle mesh**: non-degenerate on the circle, no overlap, inside the polygon of its boundary edges -/
theorem circle_full (L : CircTrig K) (c : P K) (r : K) (hr : r ≠ 0) (n : Nat) :
    Full c r (circleTris c r n) (circleEdges c r n) := by
  -- the half turn `[qt 1, qt 3]` is quadrants 1 and 2 under one half of the square (`tA`, split at `qt 2`), `[qt 3, qt 5]`
  -- quadrants 3 and 0 under the other (`tB`, split at `qt 4`; quadrant 0 is taken one turn on, `t0`, so that the arcs abut)
  have t : ∀ i, Tiles c r (qt i) (qt (i + 1)) (qcap c r n i) (qedges c r n i) :=
    fun i => cap_tiles L c r hr n (qt i) (qt (i + 1)) (qt_arc L i).1 (qt_arc L i).2
  have lt := fun i => (qt_arc (K := K) L i).1
  have hpi := L.pi_pos
  have s := fun i => qt_succ (K := K) i
  have p5 : pos c r (qt 5) = pos c r (qt 1) := pos_qt_add_four L c r 1
  have p4 : pos c r (qt 4) = pos c r (qt 0) := pos_qt_add_four L c r 0
  have t0 : Tiles c r (qt 4) (qt 5) (qcap c r n 0) (qedges c r n 0) := by
    have := (t 0).shift L
    rwa [qt_add_four, qt_add_four] at this
  -- neither half of the square is degenerate: angles `qt 3 < qt 5 < qt 6` resp. `qt 0 < qt 1 < qt 3` within a turn
  have tA : Tiles c r (qt 1) (qt 3) ((pos c r (qt 2), pos c r (qt 1), pos c r (qt 3)) :: (qcap c r n 1 ++ qcap c r n 2)) _ :=
    Tiles.join' L hr (lt 1) (lt 2) (by linear_combination s 1 + s 2 + hpi) (t 1) (t 2)
      (fun _ _ h => ⟨h.2.1, h.2.2, h.1⟩) (by
        have := arc_area_ne L c hr ((lt 3).trans (lt 4)) (lt 5) (by linear_combination s 3 + s 4 + s 5 + (1 / 2) * hpi)
        rwa [p5, pos_qt_add_four L c r 2] at this)
  have tB : Tiles c r (qt 3) (qt 5) ((pos c r (qt 3), pos c r (qt 1), pos c r (qt 0)) :: (qcap c r n 3 ++ qcap c r n 0)) _ :=
    Tiles.join' L hr (lt 3) (lt 4) (by linear_combination s 3 + s 4 + hpi) (t 3) t0
      (fun _ _ h => ⟨h.2.2, p5 ▸ h.1, p4 ▸ h.2.1⟩)
      (arc_area_ne L c hr (lt 0) ((lt 1).trans (lt 2)) (by linear_combination s 0 + s 1 + s 2 + (1 / 2) * hpi))
  rw [← qt_add_four (K := K) 1] at tB
  refine (Tiles.close L hr ((lt 1).trans (lt 2)) (by linear_combination s 1 + s 2 + hpi) tA tB).perm ?_ fun e he => ?_
  · rw [circleTris_eq L]
    show (_ :: ((qcap c r n 1 ++ qcap c r n 2) ++ _ :: (qcap c r n 3 ++ qcap c r n 0))).Perm
      (_ :: _ :: (qcap c r n 2 ++ qcap c r n 3 ++ qcap c r n 0 ++ qcap c r n 1))
    refine List.Perm.cons _ (List.perm_middle.trans (List.Perm.cons _ ?_))
    simpa only [List.append_assoc] using
      List.perm_append_comm (l₁ := qcap c r n 1) (l₂ := qcap c r n 2 ++ (qcap c r n 3 ++ qcap c r n 0))
  · simp only [circleEdges_qt L, List.mem_append] at he ⊢
    rcases he with ((h | h) | h) | h
    exacts [Or.inl (Or.inr h), Or.inr (Or.inl h), Or.inr (Or.inr h), Or.inl (Or.inl h)]

theorem circle_good (L : CircTrig K) (c : P K) (r tol : K) (m : Mesh K) (h : fillCircle c r tol = some m) :
    Good c (Scalar.abs r) m := by
  obtain ⟨hr, rfl⟩ := fillCircle_eq h
  exact good_of_tris (d := c) (circleMesh_tris_ok c _ _) (circleMesh_meshTris c _ _ ▸ (circle_full L c _ hr _).good)

/-- a covered point is on the inner side of every side `V k → V (k+1)` of the inscribed regular polygon: its triangle is
non-degenerate and has its corners there -/
theorem circle_tris_inside_polygon (L : CircTrig K) (c : P K) (r tol : K) (m : Mesh K)
    (h : fillCircle c r tol = some m) (p : P K) (hc : Covered m p) (k : Nat)
    (hk : k < 4 * 2 ^ circleRecursions (Scalar.abs r) tol) :
    Inner (regVert c (Scalar.abs r) (circleRecursions (Scalar.abs r) tol) k,
           regVert c (Scalar.abs r) (circleRecursions (Scalar.abs r) tol) (k + 1)) p := by
  obtain ⟨hr, rfl⟩ := fillCircle_eq h
  have f := circle_full L c _ hr (circleRecursions (Scalar.abs r) tol)
  obtain ⟨⟨A, B, C⟩, hT, hin⟩ := (covered_iff (circleMesh_tris_ok c _ _) c p).1 hc
  rw [circleMesh_meshTris] at hT
  obtain ⟨iA, iB, iC⟩ := f.inner _ hT _ ((mem_circleEdges_iff L c _ _ _).2 ⟨k, hk, rfl⟩)
  exact inTri_halfplane _ _ _ p _ _ (f.good _ hT).2.2.2 hin iA iB iC

end

end Lyon.C03c
