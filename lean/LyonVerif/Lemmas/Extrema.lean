/-
  Helper lemmas and definitions for C11 (bounding boxes, extrema, monotone splits): the
  one-coordinate algebra of quadratic / cubic Béziers (`Quad1`, `Cubic1`), range lists, `Angle::positive`,
  box joins.  The property's theorems are in `Props/C11.lean`.

  The argument shared by quadratics, cubics and arcs: the derivative of a coordinate keeps its sign
  between consecutive reported critical parameters (`SignConst`), so the coordinate is monotone there
  (`MonoOn`) and lies between its values at the neighbouring critical parameters / ends
  (`bounded_of_mono_between`), which the reported range contains by construction.

  Also here: `foldl_pick_spec` (the scan behind the cubic `x/y_minimum_t`, `x/y_maximum_t`), the lattice of
  boxes (`Box.Inside`, `boxJoin`, `SidesTouched`), what one event contributes to the path folds of `aabb`
  (`tightBox`, `fastBox`, `WellFormed`), and `toyTransc`, a `Transc ℚ` in which the assumed laws hold
  (it is why `Mathlib.Data.Rat.Floor` is imported).
-/
import LyonVerif.Model.Geom.Extrema
import LyonVerif.Lemmas.Field
import LyonVerif.Lemmas.Hull
import LyonVerif.Lemmas.Quadratic
import Mathlib.Tactic.NormNum
import Mathlib.Data.Rat.Floor
import Mathlib.Data.List.Induction

set_option linter.unusedSectionVars false
set_option linter.unusedVariables false
set_option linter.unusedSimpArgs false
set_option linter.style.haveILetI false
set_option warn.classDefReducibility false

geom_all Lyon.Quad1
geom_all Lyon.Quad
geom_all Lyon.Cubic1
geom_all Lyon.Cubic
geom_all Lyon.Arc
geom_all Lyon.Xf

namespace Lyon.C11

open Lyon

variable {K : Type} [Field K] [LinearOrder K] [IsStrictOrderedRing K]

/-- `f` is monotone (non-decreasing or non-increasing) on `[lo, hi]` -/
def MonoOn (f : K → K) (lo hi : K) : Prop :=
  (∀ s u, lo ≤ s → s ≤ u → u ≤ hi → f s ≤ f u) ∨ (∀ s u, lo ≤ s → s ≤ u → u ≤ hi → f u ≤ f s)

/-- said of a derivative, it gives `MonoOn` of the function (`q1_mono_of_sign`, `monoOn_of_simpson`) -/
def SignConst (g : K → K) (lo hi : K) : Prop :=
  (∀ x, lo ≤ x → x ≤ hi → 0 ≤ g x) ∨ (∀ x, lo ≤ x → x ≤ hi → g x ≤ 0)

theorem MonoOn.mem {f : K → K} {lo hi t m M : K} (h : MonoOn f lo hi) (h0 : lo ≤ t) (h1 : t ≤ hi)
    (hl : m ≤ f lo ∧ f lo ≤ M) (hh : m ≤ f hi ∧ f hi ≤ M) : m ≤ f t ∧ f t ≤ M := by
  rcases h with h | h
  · exact ⟨hl.1.trans (h lo t le_rfl h0 h1), (h t hi h0 h1 le_rfl).trans hh.2⟩
  · exact ⟨hh.1.trans (h t hi h0 h1 le_rfl), (h lo t le_rfl h0 h1).trans hl.2⟩

theorem MonoOn.congr {f g : K → K} {lo hi : K} (h : MonoOn g lo hi) (e : ∀ s, f s = g s) : MonoOn f lo hi := by
  rw [show f = g from funext e]; exact h

theorem signConst_const (k lo hi : K) : SignConst (fun _ => k) lo hi :=
  (le_total 0 k).imp (fun h _ _ _ => h) (fun h _ _ _ => h)

theorem signConst_sub {R lo hi : K} (h : R ≤ lo ∨ hi ≤ R) : SignConst (fun x => x - R) lo hi :=
  h.imp (fun h _ a _ => sub_nonneg.2 (h.trans a)) (fun h _ _ b => sub_nonpos.2 (b.trans h))

theorem SignConst.mul {f g : K → K} {lo hi : K} (hf : SignConst f lo hi) (hg : SignConst g lo hi) :
    SignConst (fun x => f x * g x) lo hi := by
  rcases hf with hf | hf <;> rcases hg with hg | hg
  · exact Or.inl fun x a b => mul_nonneg (hf x a b) (hg x a b)
  · exact Or.inr fun x a b => mul_nonpos_of_nonneg_of_nonpos (hf x a b) (hg x a b)
  · exact Or.inr fun x a b => mul_nonpos_of_nonpos_of_nonneg (hf x a b) (hg x a b)
  · exact Or.inl fun x a b => mul_nonneg_of_nonpos_of_nonpos (hf x a b) (hg x a b)

theorem SignConst.congr {f g : K → K} {lo hi : K} (h : SignConst f lo hi) (e : ∀ x, g x = f x) :
    SignConst g lo hi := by
  rw [show g = f from funext e]; exact h

/-- a function that is monotone on every sub-range of `[lo,hi]` with no element of `L` in its interior
takes on `[lo,hi]` only values between (bounds of) its values at `lo`, at `hi` and at the elements of `L`
in between: each element of `L` inside the interval cuts it in two -/
theorem bounded_of_mono_between (f : K → K) {m M : K} (L : List K) : ∀ lo hi : K,
    (∀ a b, lo ≤ a → a ≤ b → b ≤ hi → (∀ r ∈ L, r ≤ a ∨ b ≤ r) → MonoOn f a b) →
    (m ≤ f lo ∧ f lo ≤ M) → (m ≤ f hi ∧ f hi ≤ M) → (∀ s ∈ L, lo ≤ s → s ≤ hi → m ≤ f s ∧ f s ≤ M) →
    ∀ t, lo ≤ t → t ≤ hi → m ≤ f t ∧ f t ≤ M := by
  induction L with
  | nil => exact fun lo hi hm h0 h1 _ t a b => (hm lo hi le_rfl (a.trans b) le_rfl (by simp)).mem a b h0 h1
  | cons x L ih =>
    intro lo hi hm h0 h1 hl t a b
    have hl' := fun s hs => hl s (List.mem_cons_of_mem x hs)
    by_cases hx : lo ≤ x ∧ x ≤ hi
    · have fx := hl x List.mem_cons_self hx.1 hx.2
      rcases le_total t x with k | k
      · exact ih lo x (fun a' b' p q r free => hm a' b' p q (r.trans hx.2)
          (List.forall_mem_cons.2 ⟨Or.inr r, free⟩)) h0 fx (fun s hs p q => hl' s hs p (q.trans hx.2)) t a k
      · exact ih x hi (fun a' b' p q r free => hm a' b' (hx.1.trans p) q r
          (List.forall_mem_cons.2 ⟨Or.inl p, free⟩)) fx h1 (fun s hs p q => hl' s hs (hx.1.trans p) q) t k b
    · refine ih lo hi (fun a' b' p q r free => hm a' b' p q r (List.forall_mem_cons.2 ⟨?_, free⟩)) h0 h1 hl' t a b
      rcases not_and_or.1 hx with k | k
      · exact Or.inl ((not_le.1 k).le.trans p)
      · exact Or.inr (r.trans (not_le.1 k).le)

theorem q1_ev (a c b t : K) : Quad1.ev a c b t = a*(1-t)^2 + 2*c*(1-t)*t + b*t^2 := by
  geom_ring

theorem q1_div (a c b : K) : Quad1.div a c b = a - 2*c + b := by geom_ring

theorem q1_ev0 (a c b : K) : Quad1.ev a c b 0 = a := by rw [q1_ev]; ring

theorem q1_ev1 (a c b : K) : Quad1.ev a c b 1 = b := by rw [q1_ev]; ring

theorem q1_ev_neg (a c b t : K) : Quad1.ev (-a) (-c) (-b) t = - Quad1.ev a c b t := by
  rw [q1_ev, q1_ev]; ring

/-- what `local_extremum_t` computes -/
theorem q1_localExt_some (a c b t : K) :
    Quad1.localExt a c b = some t ↔
      (a - 2*c + b ≠ 0 ∧ t = (a - c) / (a - 2*c + b) ∧ 0 < t ∧ t < 1) := by
  unfold Quad1.localExt
  rw [show Quad1.extT a c b = (a - c) / (a - 2*c + b) by simp [Quad1.extT, q1_div]]
  simp only [sc_beq, q1_div]
  simp only [Scalar.zero, Scalar.one, sc_zero, sc_one, gt_iff_lt]
  split_ifs with h0 h1
  · simp [h0]
  · constructor
    · intro h; cases h; exact ⟨h0, rfl, h1.1, h1.2⟩
    · rintro ⟨_, rfl, _, _⟩; rfl
  · constructor
    · intro h; cases h
    · rintro ⟨_, rfl, h2, h3⟩; exact absurd ⟨h2, h3⟩ h1

theorem q1_localExt_facts {a c b t : K} (h : Quad1.localExt a c b = some t) :
    a - 2*c + b ≠ 0 ∧ (a - 2*c + b) * t = a - c ∧ 0 < t ∧ t < 1 := by
  obtain ⟨hD, rfl, h0, h1⟩ := (q1_localExt_some a c b t).1 h
  exact ⟨hD, by field_simp, h0, h1⟩

theorem q1_localExt_neg (a c b : K) : Quad1.localExt (-a) (-c) (-b) = Quad1.localExt a c b := by
  apply Option.ext; intro t
  rw [q1_localExt_some, q1_localExt_some]
  have e1 : -a - 2 * -c + -b = -(a - 2*c + b) := by ring
  have e2 : -a - -c = -(a - c) := by ring
  rw [e1, e2, neg_div_neg_eq, neg_ne_zero]

/-- half of the derivative: `f'(t) / 2 = D t - (a - c)` -/
def qd (a c b t : K) : K := (a - 2*c + b) * t - (a - c)

/-- `f u - f s = (u - s) (f'(u) + f'(s)) / 2`: exact, because the derivative is linear -/
theorem q1_diff (a c b s u : K) :
    Quad1.ev a c b u - Quad1.ev a c b s = (u - s) * (qd a c b u + qd a c b s) := by
  rw [q1_ev, q1_ev]; unfold qd; ring

theorem q1_localExt_iff {a c b t : K} (hD : a - 2*c + b ≠ 0) :
    Quad1.localExt a c b = some t ↔ 0 < t ∧ t < 1 ∧ 2 * qd a c b t = 0 := by
  have e : 2 * qd a c b t = 0 ↔ t = (a - c) / (a - 2*c + b) := by
    unfold qd
    rw [mul_eq_zero, or_iff_right two_ne_zero, sub_eq_zero, eq_div_iff hD, mul_comm]
  rw [q1_localExt_some, e]
  exact ⟨fun ⟨_, h, p, q⟩ => ⟨p, q, h⟩, fun ⟨p, q, h⟩ => ⟨hD, h, p, q⟩⟩

/-- the derivative keeps its sign on a sub-range of `[0,1]` without a reported extremum inside: its
only root, if any, is reported when it lies in `(0,1)` -/
theorem q1_sign_const {a c b lo hi : K} (h0 : 0 ≤ lo) (h1 : hi ≤ 1)
    (h : ∀ t, Quad1.localExt a c b = some t → t ≤ lo ∨ hi ≤ t) : SignConst (qd a c b) lo hi := by
  by_cases hD : a - 2*c + b = 0
  · exact (signConst_const (-(a - c)) lo hi).congr fun x => by unfold qd; rw [hD]; ring
  · have hs : (a - c) / (a - 2*c + b) ≤ lo ∨ hi ≤ (a - c) / (a - 2*c + b) := by
      by_contra hc
      rw [not_or, not_le, not_le] at hc
      rcases h _ ((q1_localExt_some a c b _).2 ⟨hD, rfl, h0.trans_lt hc.1, hc.2.trans_le h1⟩) with k | k
      · exact absurd k (not_le.2 hc.1)
      · exact absurd k (not_le.2 hc.2)
    exact ((signConst_const (a - 2*c + b) lo hi).mul (signConst_sub hs)).congr fun x => by
      unfold qd; field_simp

theorem q1_mono_of_sign {a c b lo hi : K} (h : SignConst (qd a c b) lo hi) :
    MonoOn (Quad1.ev a c b) lo hi := by
  refine h.imp (fun h s u h0 h1 h2 => ?_) (fun h s u h0 h1 h2 => ?_)
  · have := mul_nonneg (sub_nonneg.2 h1) (add_nonneg (h u (h0.trans h1) h2) (h s h0 (h1.trans h2)))
    linarith [q1_diff a c b s u]
  · have := mul_nonpos_of_nonneg_of_nonpos (sub_nonneg.2 h1)
      (add_nonpos (h u (h0.trans h1) h2) (h s h0 (h1.trans h2)))
    linarith [q1_diff a c b s u]

theorem q1_mono {a c b lo hi : K} (h0 : 0 ≤ lo) (h1 : hi ≤ 1)
    (h : ∀ t, Quad1.localExt a c b = some t → t ≤ lo ∨ hi ≤ t) : MonoOn (Quad1.ev a c b) lo hi :=
  q1_mono_of_sign (q1_sign_const h0 h1 h)

theorem q1_endMax (a b : K) : Quad1.endMax a b = 0 ∧ b ≤ a ∨ Quad1.endMax a b = 1 ∧ a ≤ b := by
  unfold Quad1.endMax
  simp only [Scalar.zero, Scalar.one, sc_zero, sc_one, gt_iff_lt]
  split_ifs with h
  · left; exact ⟨rfl, le_of_lt h⟩
  · right; exact ⟨rfl, not_lt.1 h⟩

theorem q1_endMin (a b : K) : Quad1.endMin a b = 0 ∧ a ≤ b ∨ Quad1.endMin a b = 1 ∧ b ≤ a := by
  unfold Quad1.endMin
  simp only [Scalar.zero, Scalar.one, sc_zero, sc_one]
  split_ifs with h
  · left; exact ⟨rfl, le_of_lt h⟩
  · right; exact ⟨rfl, not_lt.1 h⟩

/-- `x_maximum_t` / `y_maximum_t` lies in `[0,1]`, and the value there is at least the two end values
and the value at the reported local extremum -/
theorem q1_maxT_spec (a c b : K) :
    (0 ≤ Quad1.maxT a c b ∧ Quad1.maxT a c b ≤ 1) ∧
    a ≤ Quad1.ev a c b (Quad1.maxT a c b) ∧ b ≤ Quad1.ev a c b (Quad1.maxT a c b) ∧
    ∀ s, Quad1.localExt a c b = some s → Quad1.ev a c b s ≤ Quad1.ev a c b (Quad1.maxT a c b) := by
  have hend : (0 ≤ Quad1.endMax a b ∧ Quad1.endMax a b ≤ 1) ∧
      a ≤ Quad1.ev a c b (Quad1.endMax a b) ∧ b ≤ Quad1.ev a c b (Quad1.endMax a b) := by
    rcases q1_endMax a b with ⟨h, h'⟩ | ⟨h, h'⟩ <;> rw [h]
    · rw [q1_ev0]; exact ⟨⟨le_rfl, zero_le_one⟩, le_rfl, h'⟩
    · rw [q1_ev1]; exact ⟨⟨zero_le_one, le_rfl⟩, h', le_rfl⟩
  unfold Quad1.maxT
  rcases hx : Quad1.localExt a c b with _ | s
  · exact ⟨hend.1, hend.2.1, hend.2.2, fun s hs => by cases hs⟩
  · obtain ⟨_, _, s0, s1⟩ := q1_localExt_facts hx
    dsimp only
    split_ifs with hc
    · exact ⟨⟨s0.le, s1.le⟩, hc.1.le, hc.2.le, fun s' hs => by cases hs; exact le_rfl⟩
    · refine ⟨hend.1, hend.2.1, hend.2.2, fun s' hs => ?_⟩
      cases hs
      rcases not_and_or.1 hc with k | k
      · exact (not_lt.1 k).trans hend.2.1
      · exact (not_lt.1 k).trans hend.2.2

theorem q1_minT_neg (a c b : K) : Quad1.minT a c b = Quad1.maxT (-a) (-c) (-b) := by
  unfold Quad1.minT Quad1.maxT
  rw [q1_localExt_neg]
  have e : Quad1.endMin a b = Quad1.endMax (-a) (-b) := by
    unfold Quad1.endMin Quad1.endMax; simp only [gt_iff_lt, neg_lt_neg_iff]
  rcases Quad1.localExt a c b with _ | s
  · exact e
  · dsimp only; rw [q1_ev_neg, e]; simp only [gt_iff_lt, neg_lt_neg_iff]

theorem q1_range_critical (a c b : K) :
    (0 ≤ Quad1.maxT a c b ∧ Quad1.maxT a c b ≤ 1) ∧ (0 ≤ Quad1.minT a c b ∧ Quad1.minT a c b ≤ 1) ∧
    ∀ t, (t = 0 ∨ t = 1 ∨ Quad1.localExt a c b = some t) →
      (Quad1.range a c b).1 ≤ Quad1.ev a c b t ∧ Quad1.ev a c b t ≤ (Quad1.range a c b).2 := by
  obtain ⟨u, ha, hb, hs⟩ := q1_maxT_spec a c b
  obtain ⟨u', ha', hb', hs'⟩ := q1_maxT_spec (-a) (-c) (-b)
  simp only [← q1_minT_neg, q1_ev_neg, q1_localExt_neg, neg_le_neg_iff] at u' ha' hb' hs'
  refine ⟨u, u', fun t ht => ?_⟩
  rcases ht with rfl | rfl | ht
  · rw [q1_ev0]; exact ⟨ha', ha⟩
  · rw [q1_ev1]; exact ⟨hb', hb⟩
  · exact ⟨hs' t ht, hs t ht⟩

theorem q1_range_ends (a c b : K) :
    ((Quad1.range a c b).1 ≤ a ∧ a ≤ (Quad1.range a c b).2) ∧ ((Quad1.range a c b).1 ≤ b ∧ b ≤ (Quad1.range a c b).2) := by
  have h0 := (q1_range_critical a c b).2.2 0 (Or.inl rfl)
  have h1 := (q1_range_critical a c b).2.2 1 (Or.inr (Or.inl rfl))
  rw [q1_ev0] at h0; rw [q1_ev1] at h1
  exact ⟨h0, h1⟩

theorem q1_range_contains (a c b t : K) (h0 : 0 ≤ t) (h1 : t ≤ 1) :
    (Quad1.range a c b).1 ≤ Quad1.ev a c b t ∧ Quad1.ev a c b t ≤ (Quad1.range a c b).2 :=
  have hb := (q1_range_critical a c b).2.2
  bounded_of_mono_between _ (Quad1.localExt a c b).toList 0 1
    (fun lo hi l0 _ h1 hr => q1_mono l0 h1 fun t ht => hr t (Option.mem_toList.2 ht))
    (hb 0 (Or.inl rfl)) (hb 1 (Or.inr (Or.inl rfl)))
    (fun s hs _ _ => hb s (Or.inr (Or.inr (Option.mem_toList.1 hs)))) t h0 h1

/-- `ctrl.max(min).min(max)` leaves a value between the two ends unchanged -/
theorem clampTo_between {c a b : K} (h1 : a ≤ c ∨ b ≤ c) (h2 : c ≤ a ∨ c ≤ b) :
    clampTo c (Scalar.min a b) (Scalar.max a b) = c := by
  simp only [clampTo, sc_min, sc_max]
  rw [max_eq_left (min_le_iff.2 h1), min_eq_left (le_max_iff.2 h2)]

/-- one coordinate of `split_range(lo..hi)`: `(f lo, f lo + qd lo · (hi - lo), f hi)`; on a range
where the derivative keeps its sign the control value lies between the end values, so lyon's clamp
leaves it unchanged -/
theorem q1_clamp_noop {a c b lo hi : K} (hlh : lo ≤ hi) (h : SignConst (qd a c b) lo hi) :
    clampTo (Quad1.ev a c b lo + qd a c b lo * (hi - lo))
      (Scalar.min (Quad1.ev a c b lo) (Quad1.ev a c b hi)) (Scalar.max (Quad1.ev a c b lo) (Quad1.ev a c b hi))
      = Quad1.ev a c b lo + qd a c b lo * (hi - lo) := by
  have e : Quad1.ev a c b hi - (Quad1.ev a c b lo + qd a c b lo * (hi - lo)) = qd a c b hi * (hi - lo) := by
    rw [q1_ev, q1_ev]; unfold qd; ring
  have hd : 0 ≤ hi - lo := sub_nonneg.2 hlh
  rcases h with h | h
  · have a1 := mul_nonneg (h lo le_rfl hlh) hd
    have a2 := mul_nonneg (h hi hlh le_rfl) hd
    exact clampTo_between (Or.inl (by linarith)) (Or.inr (by linarith))
  · have a1 := mul_nonpos_of_nonpos_of_nonneg (h lo le_rfl hlh) hd
    have a2 := mul_nonpos_of_nonpos_of_nonneg (h hi hlh le_rfl) hd
    exact clampTo_between (Or.inr (by linarith)) (Or.inl (by linarith))

/-- consecutive ranges `[(s, t₁), (t₁, t₂), …, (tₙ, e)]`, each of positive length -/
def Chain : K → List (K × K) → K → Prop
  | s, [], e => s = e
  | s, r :: rest, e => r.1 = s ∧ r.1 < r.2 ∧ Chain r.2 rest e

/-- the ranges `rangesSkip` makes of an increasing list below 1 abut from `t0` to 1; each lies in
`[t0,1]`, has positive length and no list element strictly inside -/
theorem rangesSkip_spec (l : List K) : ∀ t0 : K, (t0 :: l).Pairwise (· ≤ ·) → (∀ t ∈ t0 :: l, t < 1) →
    Chain t0 (Cubic.rangesSkip t0 l) 1 ∧
    ∀ r ∈ Cubic.rangesSkip t0 l, t0 ≤ r.1 ∧ r.1 < r.2 ∧ r.2 ≤ 1 ∧ ∀ x ∈ l, x ≤ r.1 ∨ r.2 ≤ x := by
  induction l with
  | nil =>
    intro t0 _ h1
    simp only [Cubic.rangesSkip, Chain, Scalar.one, sc_one, List.mem_singleton]
    refine ⟨⟨trivial, h1 t0 List.mem_cons_self, trivial⟩, ?_⟩
    rintro r rfl
    exact ⟨le_rfl, h1 t0 List.mem_cons_self, le_rfl, fun x hx => by cases hx⟩
  | cons t rest ih =>
    intro t0 hs h1
    rw [List.pairwise_cons] at hs
    have ht0t : t0 ≤ t := hs.1 t List.mem_cons_self
    simp only [Cubic.rangesSkip, bne_iff]
    split_ifs with hne
    · obtain ⟨c, g⟩ := ih t hs.2 fun x hx => h1 x (List.mem_cons_of_mem _ hx)
      have hlt : t0 < t := lt_of_le_of_ne ht0t (Ne.symm hne)
      refine ⟨⟨rfl, hlt, c⟩, fun r hr => ?_⟩
      rcases List.mem_cons.1 hr with rfl | hr
      · refine ⟨le_rfl, hlt, (h1 t (List.mem_cons_of_mem _ List.mem_cons_self)).le, fun x hx => Or.inr ?_⟩
        rcases List.mem_cons.1 hx with rfl | hx
        · exact le_rfl
        · exact (List.pairwise_cons.1 hs.2).1 x hx
      · obtain ⟨b1, b2, b3, b4⟩ := g r hr
        refine ⟨ht0t.trans b1, b2, b3, fun x hx => ?_⟩
        rcases List.mem_cons.1 hx with rfl | hx
        · exact Or.inl b1
        · exact b4 x hx
    · -- a repeated parameter is skipped
      obtain rfl : t = t0 := not_not.1 hne
      obtain ⟨c, g⟩ := ih t hs.2 fun x hx => h1 x (List.mem_cons_of_mem _ hx)
      refine ⟨c, fun r hr => ?_⟩
      obtain ⟨b1, b2, b3, b4⟩ := g r hr
      refine ⟨b1, b2, b3, fun x hx => ?_⟩
      rcases List.mem_cons.1 hx with rfl | hx
      · exact Or.inl b1
      · exact b4 x hx

theorem rangesSkip_zero_spec {l : List K} (hs : l.Pairwise (· ≤ ·)) (hi : ∀ x ∈ l, 0 < x ∧ x < 1) :
    Chain 0 (Cubic.rangesSkip 0 l) 1 ∧
    ∀ r ∈ Cubic.rangesSkip 0 l, 0 ≤ r.1 ∧ r.1 < r.2 ∧ r.2 ≤ 1 ∧ ∀ x ∈ l, x ≤ r.1 ∨ r.2 ≤ x :=
  rangesSkip_spec l 0 (List.pairwise_cons.2 ⟨fun x hx => (hi x hx).1.le, hs⟩) fun t ht => by
    rcases List.mem_cons.1 ht with rfl | ht
    · exact zero_lt_one
    · exact (hi t ht).2

/-- `rangesAll` (the variants for x alone or y alone, which do not test `!=`) and `rangesSkip` (`for_each_monotonic_range`)
differ only on a repeated parameter: this is where strictness of the list (`c1_extremaOf_strict`) is needed -/
theorem rangesAll_eq_skip (l : List K) : ∀ t0 : K, (t0 :: l).Pairwise (· < ·) →
    Cubic.rangesAll t0 l = Cubic.rangesSkip t0 l := by
  induction l with
  | nil => intro _ _; rfl
  | cons t r ih =>
    intro t0 hs
    rw [List.pairwise_cons] at hs
    simp only [Cubic.rangesAll, Cubic.rangesSkip, bne_iff, (hs.1 t List.mem_cons_self).ne', ne_eq,
      not_false_eq_true, if_true, ih t hs.2]

theorem rangesAll_zero_spec {l : List K} (hs : l.Pairwise (· < ·)) (hi : ∀ x ∈ l, 0 < x ∧ x < 1) :
    Chain 0 (Cubic.rangesAll 0 l) 1 ∧
    ∀ r ∈ Cubic.rangesAll 0 l, 0 ≤ r.1 ∧ r.1 < r.2 ∧ r.2 ≤ 1 ∧ ∀ x ∈ l, x ≤ r.1 ∨ r.2 ≤ x := by
  rw [rangesAll_eq_skip l 0 (List.pairwise_cons.2 ⟨fun x hx => (hi x hx).1, hs⟩)]
  exact rangesSkip_zero_spec (hs.imp le_of_lt) hi

/-- `rangesAt` is `rangesAll` on the list of the optional parameter -/
theorem rangesAt_spec (o : Option K) (h : ∀ s, o = some s → 0 < s ∧ s < 1) :
    Chain 0 (Quad.rangesAt o) 1 ∧
    ∀ r ∈ Quad.rangesAt o, 0 ≤ r.1 ∧ r.1 < r.2 ∧ r.2 ≤ 1 ∧ ∀ s, o = some s → s ≤ r.1 ∨ r.2 ≤ s := by
  have e : Quad.rangesAt o = Cubic.rangesAll 0 o.toList := by
    cases o <;> simp only [Quad.rangesAt, Cubic.rangesAll, Option.toList, Scalar.zero, sc_zero]
  rw [e]
  obtain ⟨c, g⟩ := rangesAll_zero_spec (l := o.toList) (by cases o <;> simp)
    fun x hx => h x (Option.mem_toList.1 hx)
  exact ⟨c, fun r hr => ⟨(g r hr).1, (g r hr).2.1, (g r hr).2.2.1,
    fun s hs => (g r hr).2.2.2 s (Option.mem_toList.2 hs)⟩⟩

/-- the tail of `for_each_monotonic_range` is `rangesSkip` on the list of the two optional
parameters (the first is never `0`, so the two codes skip the same repetitions) -/
theorem monoRangesOf_eq (t0 t1 : Option K) (h0 : ∀ s, t0 = some s → s ≠ 0) :
    Quad.monoRangesOf t0 t1 = Cubic.rangesSkip 0 (t0.toList ++ t1.toList) := by
  rcases t0 with _ | s <;> rcases t1 with _ | t <;>
    simp only [Quad.monoRangesOf, Cubic.rangesSkip, Option.toList, List.nil_append, List.cons_append,
      Scalar.zero, sc_zero]
  · simp only [bne_iff, h0 s rfl, ne_eq, not_false_eq_true, if_true]
  · simp only [bne_iff, h0 s rfl, ne_eq, not_false_eq_true, if_true]
    split_ifs <;> rfl

def Box.Contains (b : Box K) (p : P K) : Prop :=
  b.min.x ≤ p.x ∧ p.x ≤ b.max.x ∧ b.min.y ≤ p.y ∧ p.y ≤ b.max.y

def Box.Inside (a b : Box K) : Prop :=
  b.min.x ≤ a.min.x ∧ a.max.x ≤ b.max.x ∧ b.min.y ≤ a.min.y ∧ a.max.y ≤ b.max.y

theorem contains_of_coords {b : Box K} {p : P K} (hx : b.min.x ≤ p.x ∧ p.x ≤ b.max.x)
    (hy : b.min.y ≤ p.y ∧ p.y ≤ b.max.y) : Box.Contains b p :=
  ⟨hx.1, hx.2, hy.1, hy.2⟩

/-- a box is closed under `lerp`, so it holds every Bézier segment whose control points it holds
(`Hull.quad_mem`, `Hull.cubic_mem`) -/
theorem box_lerpClosed (X : Box K) : Hull.LerpClosed (Box.Contains X) := Hull.rect_lerpClosed X.min X.max

theorem quad_sample_x (q : Quad K) (t : K) : (q.sample t).x = Quad1.ev q.a.x q.c.x q.b.x t := by
  geom_ring

theorem quad_sample_y (q : Quad K) (t : K) : (q.sample t).y = Quad1.ev q.a.y q.c.y q.b.y t := by
  geom_ring

/-- `Quad1.ev` is the body of lyon's `x()` / `y()` -/
theorem quad_x_eq (q : Quad K) (t : K) : q.x t = Quad1.ev q.a.x q.c.x q.b.x t := rfl

theorem quad_y_eq (q : Quad K) (t : K) : q.y t = Quad1.ev q.a.y q.c.y q.b.y t := rfl

theorem quad_dx_eq (q : Quad K) (t : K) : q.dx t = 2 * qd q.a.x q.c.x q.b.x t := by
  unfold qd; geom_ring

theorem quad_dy_eq (q : Quad K) (t : K) : q.dy t = 2 * qd q.a.y q.c.y q.b.y t := by
  unfold qd; geom_ring

theorem quad_localExt_interior (q : Quad K) (s : K)
    (h : q.localXExtremumT = some s ∨ q.localYExtremumT = some s) : 0 < s ∧ s < 1 :=
  h.elim (fun h => (q1_localExt_facts h).2.2) (fun h => (q1_localExt_facts h).2.2)

/-- `for_each_monotonic_range` is `rangesSkip` on the increasing list of the reported extrema -/
theorem quad_ranges_eq (q : Quad K) : ∃ l : List K, q.monotonicRanges = Cubic.rangesSkip 0 l ∧
    l.Pairwise (· ≤ ·) ∧ ∀ s, s ∈ l ↔ (q.localXExtremumT = some s ∨ q.localYExtremumT = some s) := by
  have hi := quad_localExt_interior q
  unfold Quad.monotonicRanges
  rcases hx : q.localXExtremumT with _ | tx <;> rcases hy : q.localYExtremumT with _ | ty
  · exact ⟨[], monoRangesOf_eq none none (by simp), by simp, by simp⟩
  · exact ⟨[ty], monoRangesOf_eq none (some ty) (by simp), by simp, by simp [eq_comm]⟩
  · exact ⟨[tx], monoRangesOf_eq (some tx) none (fun s h => by cases h; exact (hi _ (Or.inl hx)).1.ne'),
      by simp, by simp [eq_comm]⟩
  · dsimp only
    split_ifs with hc
    · exact ⟨[ty, tx], monoRangesOf_eq (some ty) (some tx) (fun s h => by cases h; exact (hi _ (Or.inr hy)).1.ne'),
        by simpa using hc.le, by simp [eq_comm, or_comm]⟩
    · exact ⟨[tx, ty], monoRangesOf_eq (some tx) (some ty) (fun s h => by cases h; exact (hi _ (Or.inl hx)).1.ne'),
        by simpa using not_lt.1 hc, by simp [eq_comm]⟩

theorem quad_ranges_spec (q : Quad K) : Chain 0 q.monotonicRanges 1 ∧ ∀ r ∈ q.monotonicRanges,
    0 ≤ r.1 ∧ r.1 < r.2 ∧ r.2 ≤ 1 ∧
    (∀ s, q.localXExtremumT = some s → s ≤ r.1 ∨ r.2 ≤ s) ∧
    (∀ s, q.localYExtremumT = some s → s ≤ r.1 ∨ r.2 ≤ s) := by
  obtain ⟨l, e, hs, hm⟩ := quad_ranges_eq q
  rw [e]
  obtain ⟨c, g⟩ := rangesSkip_zero_spec hs fun x hx => quad_localExt_interior q x ((hm x).1 hx)
  exact ⟨c, fun r hr => ⟨(g r hr).1, (g r hr).2.1, (g r hr).2.2.1,
    fun s h => (g r hr).2.2.2 s ((hm s).2 (Or.inl h)), fun s h => (g r hr).2.2.2 s ((hm s).2 (Or.inr h))⟩⟩

/-- `split_range(lo..hi)` coordinate by coordinate: `(f lo, f lo + f'(lo)/2 · (hi − lo), f hi)` -/
theorem quad_splitRange_coords (q : Quad K) (lo hi : K) :
    ((q.splitRange lo hi).a.x = Quad1.ev q.a.x q.c.x q.b.x lo ∧
     (q.splitRange lo hi).b.x = Quad1.ev q.a.x q.c.x q.b.x hi ∧
     (q.splitRange lo hi).c.x = Quad1.ev q.a.x q.c.x q.b.x lo + qd q.a.x q.c.x q.b.x lo * (hi - lo)) ∧
    ((q.splitRange lo hi).a.y = Quad1.ev q.a.y q.c.y q.b.y lo ∧
     (q.splitRange lo hi).b.y = Quad1.ev q.a.y q.c.y q.b.y hi ∧
     (q.splitRange lo hi).c.y = Quad1.ev q.a.y q.c.y q.b.y lo + qd q.a.y q.c.y q.b.y lo * (hi - lo)) := by
  refine ⟨⟨quad_sample_x q lo, quad_sample_x q hi, ?_⟩, ⟨quad_sample_y q lo, quad_sample_y q hi, ?_⟩⟩ <;>
    (unfold qd; geom_ring)

/-- the control-point clamp of `for_each_monotonic` / `for_each_x_monotonic` leaves `split_range` of
a range on which the derivative keeps its sign unchanged -/
theorem quad_clamp_splitRange (q : Quad K) {lo hi : K} (hlh : lo ≤ hi) :
    (SignConst (qd q.a.x q.c.x q.b.x) lo hi →
      clampTo (q.splitRange lo hi).c.x (Scalar.min (q.splitRange lo hi).a.x (q.splitRange lo hi).b.x)
        (Scalar.max (q.splitRange lo hi).a.x (q.splitRange lo hi).b.x) = (q.splitRange lo hi).c.x) ∧
    (SignConst (qd q.a.y q.c.y q.b.y) lo hi →
      clampTo (q.splitRange lo hi).c.y (Scalar.min (q.splitRange lo hi).a.y (q.splitRange lo hi).b.y)
        (Scalar.max (q.splitRange lo hi).a.y (q.splitRange lo hi).b.y) = (q.splitRange lo hi).c.y) := by
  obtain ⟨⟨xa, xb, xc⟩, ⟨ya, yb, yc⟩⟩ := quad_splitRange_coords q lo hi
  rw [xa, xb, xc, ya, yb, yc]
  exact ⟨q1_clamp_noop hlh, q1_clamp_noop hlh⟩


theorem emin_eq (x y : K) : emin x y = min x y := by
  unfold emin; split_ifs with h
  · exact (min_eq_left h).symm
  · exact (min_eq_right (le_of_lt (not_le.1 h))).symm

theorem emax_eq (x y : K) : emax x y = max x y := by
  unfold emax; split_ifs with h
  · exact (max_eq_left h).symm
  · exact (max_eq_right (le_of_lt (not_le.1 h))).symm

section arc

variable [Transc K]

/-- `2π` as `Angle::positive` computes it -/
abbrev tau : K := Transc.pi + Transc.pi

/-- the laws of `Angle::positive` (i.e. of `fmod` by `2π`) that the arc theorems use -/
structure AngleLaws (K : Type) [Field K] [LinearOrder K] [IsStrictOrderedRing K] [Transc K] : Prop where
  pi_gt : (3 : K) < Transc.pi
  pi_lt : Transc.pi < (4 : K)
  range : ∀ x : K, 0 ≤ Arc.positive x ∧ Arc.positive x < tau
  cong : ∀ x : K, ∃ k : ℤ, Arc.positive x = x + k * tau

theorem positive_unique (L : AngleLaws K) (x y : K) (h0 : 0 ≤ y) (h1 : y < tau) (k : ℤ)
    (hy : y = x + k * tau) : Arc.positive x = y := by
  obtain ⟨k', hk'⟩ := L.cong x
  obtain ⟨r0, r1⟩ := L.range x
  have tpos : (0 : K) < tau := h0.trans_lt h1
  -- the two representatives differ by `(k - k') τ`, of absolute value below `τ`: so `|k - k'| < 1`
  have e : y - Arc.positive x = ((k - k' : ℤ) : K) * tau := by rw [hy, hk']; push_cast; ring
  have hz := abs_sub_lt_of_nonneg_of_lt h0 h1 r0 r1
  rw [e, abs_mul, abs_of_pos tpos, mul_lt_iff_lt_one_left tpos, ← Int.cast_abs, ← Int.cast_one (R := K), Int.cast_lt,
    Int.abs_lt_one_iff] at hz
  rw [hz, Int.cast_zero, zero_mul] at e
  exact (sub_eq_zero.1 e).symm

end arc

theorem c1_ev (p0 p1 p2 p3 t : K) :
    Cubic1.ev p0 p1 p2 p3 t = p0*(1-t)^3 + 3*p1*(1-t)^2*t + 3*p2*(1-t)*t^2 + p3*t^3 := by
  geom_ring

theorem c1_ca (p0 p1 p2 p3 : K) : Cubic1.ca p0 p1 p2 p3 = 3 * (p3 + 3 * (p1 - p2) - p0) := by geom_ring

theorem c1_cb (p0 p1 p2 : K) : Cubic1.cb p0 p1 p2 = 6 * (p2 - 2 * p1 + p0) := by geom_ring

theorem c1_cc (p0 p1 : K) : Cubic1.cc p0 p1 = 3 * (p1 - p0) := by geom_ring

theorem c1_ev0 (p0 p1 p2 p3 : K) : Cubic1.ev p0 p1 p2 p3 0 = p0 := by rw [c1_ev]; ring

theorem c1_ev1 (p0 p1 p2 p3 : K) : Cubic1.ev p0 p1 p2 p3 1 = p3 := by rw [c1_ev]; ring

/-- the derivative polynomial `a x² + b x + c` -/
def cg (a b c x : K) : K := a * x^2 + b * x + c

/-- the derivative of the coordinate, through the coefficients lyon computes -/
noncomputable def c1d (p0 p1 p2 p3 : K) : K → K := cg (Cubic1.ca p0 p1 p2 p3) (Cubic1.cb p0 p1 p2) (Cubic1.cc p0 p1)

/-- Simpson's identity for one coordinate of a cubic: exact, because the derivative is quadratic -/
theorem c1_simpson (p0 p1 p2 p3 x y : K) :
    Cubic1.ev p0 p1 p2 p3 y - Cubic1.ev p0 p1 p2 p3 x =
      (y - x) / 6 * (c1d p0 p1 p2 p3 x + 4 * c1d p0 p1 p2 p3 ((x + y) / 2) + c1d p0 p1 p2 p3 y) := by
  rw [c1_ev, c1_ev]; unfold c1d cg; rw [c1_ca, c1_cb, c1_cc]; ring

section roots

theorem mem_keep (t s : K) : s ∈ Cubic1.keep t ↔ s = t ∧ 0 < s ∧ s < 1 := by
  unfold Cubic1.keep
  simp only [Scalar.zero, Scalar.one, sc_zero, sc_one, gt_iff_lt]
  split_ifs with h
  · simp only [List.mem_singleton]; exact ⟨fun e => ⟨e, e ▸ h⟩, fun e => e.1⟩
  · simp only [List.not_mem_nil, false_iff]; rintro ⟨rfl, e⟩; exact h e

theorem pairwise_keep {R : K → K → Prop} {u v : K} (h : R u v) :
    (Cubic1.keep u).Pairwise R ∧ (Cubic1.keep u ++ Cubic1.keep v).Pairwise R := by
  unfold Cubic1.keep; constructor <;> split_ifs <;> simp [h]

theorem mem_twoRoots_raw (a b c s t : K) :
    t ∈ Cubic1.twoRoots a b c s ↔
      (t = Cubic1.rootQ b s / a ∨ t = c / Cubic1.rootQ b s) ∧ 0 < t ∧ t < 1 := by
  unfold Cubic1.twoRoots
  split_ifs <;> simp only [List.mem_append, mem_keep, ← or_and_right]
  rw [or_comm]

/-- over a field `signum` is `-1` on negatives and `1` elsewhere -/
theorem signum_field (b : K) : Cubic1.signum b = if b < 0 then -1 else 1 := by
  unfold Cubic1.signum
  simp only [Scalar.zero, Scalar.one, sc_zero, sc_one, sc_beq]
  split_ifs with h1 h2
  · rfl
  · exfalso; rw [h2.1, div_zero] at h2; exact lt_irrefl _ h2.2
  · rfl

/-- **The repaired root form gives the same two roots.**  With `s·s = b² − 4ac`, `s > 0`, `a ≠ 0`:
`q = −(b + sgn(b)·s)/2 ≠ 0` and `{q/a, c/q} = {(−b−s)/(2a), (−b+s)/(2a)}`. -/
theorem rootQ_roots (a b c s : K) (ha : a ≠ 0) (hs : s * s = b * b - 4 * a * c) (hpos : 0 < s) :
    Cubic1.rootQ b s ≠ 0 ∧
    ((Cubic1.rootQ b s / a = (-b - s) / (2 * a) ∧ c / Cubic1.rootQ b s = (-b + s) / (2 * a)) ∨
     (Cubic1.rootQ b s / a = (-b + s) / (2 * a) ∧ c / Cubic1.rootQ b s = (-b - s) / (2 * a))) := by
  unfold Cubic1.rootQ
  rw [signum_field]
  simp only [Scalar.two, sc_two]
  split_ifs with hb
  · -- b < 0: q = (-b + s)/2 > 0
    have hq : -(b + -1 * s) / 2 = (-b + s) / 2 := by ring
    have hq0 : (-b + s) / 2 ≠ 0 := (div_pos (by linarith) two_pos).ne'
    rw [hq]
    refine ⟨hq0, Or.inr ⟨div_div _ _ _, ?_⟩⟩
    rw [sub_eq_add_neg]
    exact quadratic_second_root ha (by rw [neg_mul_neg]; exact hs) hq0 (by ring)
  · -- 0 ≤ b: q = (-b - s)/2 < 0
    have hq : -(b + 1 * s) / 2 = (-b - s) / 2 := by ring
    have hq0 : (-b - s) / 2 ≠ 0 := (div_neg_of_neg_of_pos (by linarith [not_lt.1 hb]) two_pos).ne
    rw [hq]
    refine ⟨hq0, Or.inl ⟨div_div _ _ _, quadratic_second_root ha hs hq0 (by ring)⟩⟩

theorem mem_twoRoots (a b c s t : K) (ha : a ≠ 0) (hs : s * s = b * b - 4 * a * c) (hpos : 0 < s) :
    t ∈ Cubic1.twoRoots a b c s ↔ (t = (-b - s) / (2 * a) ∨ t = (-b + s) / (2 * a)) ∧ 0 < t ∧ t < 1 := by
  rw [mem_twoRoots_raw]
  obtain ⟨_, ⟨e1, e2⟩ | ⟨e1, e2⟩⟩ := rootQ_roots a b c s ha hs hpos <;> rw [e1, e2]
  rw [or_comm]

theorem cg_eq_zero_iff {a b c s x : K} (ha : a ≠ 0) (hs : s * s = b * b - 4 * a * c) :
    cg a b c x = 0 ↔ x = (-b - s) / (2 * a) ∨ x = (-b + s) / (2 * a) := by
  unfold cg; rw [pow_two, ← mul_assoc]; exact quadratic_roots_iff ha hs

theorem cg_pos_of_disc_neg {a b c : K} (hd : b * b - 4 * a * c < 0) (x : K) : 0 < 4 * a * cg a b c x := by
  rw [show 4 * a * cg a b c x = _ from quadratic_square a b c x]; linarith [sq_nonneg (2 * a * x + b)]

variable [Transc K]

/-- **The emitted parameters are exactly the roots of the derivative polynomial in `(0,1)`**, and a
derivative that is constant (`a = b = 0`) reports nothing, even when it is identically zero; under the law
`sqrt d · sqrt d = d` for `d ≥ 0`. -/
theorem c1_extremaOf_iff (hsq : ∀ d : K, 0 ≤ d → Transc.sqrt d * Transc.sqrt d = d)
    (hs0 : ∀ d : K, 0 ≤ d → 0 ≤ Transc.sqrt d) (a b c t : K) :
    t ∈ Cubic1.extremaOf a b c ↔ (a ≠ 0 ∨ b ≠ 0) ∧ 0 < t ∧ t < 1 ∧ cg a b c t = 0 := by
  unfold Cubic1.extremaOf
  simp only [sc_beq, bne_iff, Scalar.zero, Scalar.two, Scalar.four, sc_zero, sc_two, sc_four, Cubic1.disc]
  rw [show (0 < t ∧ t < 1 ∧ cg a b c t = 0) ↔ (cg a b c t = 0 ∧ 0 < t ∧ t < 1) from
    ⟨fun ⟨p, q, e⟩ => ⟨e, p, q⟩, fun ⟨e, p, q⟩ => ⟨p, q, e⟩⟩]
  by_cases ha : a = 0
  · by_cases hb : b = 0
    · rw [if_pos ha, if_neg (not_not.2 hb)]
      simp only [List.not_mem_nil, false_iff, not_and]
      exact fun h => absurd h (not_or.2 ⟨not_not.2 ha, not_not.2 hb⟩)
    · -- linear: the root is `-c / b`
      have e : cg a b c t = b * (t - -c / b) := by unfold cg; rw [ha]; field_simp; ring
      rw [if_pos ha, if_pos hb, mem_keep, e, mul_eq_zero, or_iff_right hb, sub_eq_zero, and_iff_right (Or.inr hb)]
  · rw [if_neg ha, and_iff_right (Or.inl ha)]
    by_cases hd : b * b - 4 * a * c < 0
    · rw [if_pos hd]
      simp only [List.not_mem_nil, false_iff]
      rintro ⟨e, _⟩
      have := cg_pos_of_disc_neg hd t
      rw [e, mul_zero] at this
      exact lt_irrefl _ this
    · rw [if_neg hd]
      by_cases hd0 : b * b - 4 * a * c = 0
      · -- double root `-b / (2a)`
        rw [if_pos hd0, mem_keep, cg_eq_zero_iff ha (s := 0) (by rw [hd0, mul_zero]), sub_zero, add_zero, or_self]
      · have hs := hsq _ (not_lt.1 hd)
        have hspos := sqrt_pos_of_pos hs0 hsq (lt_of_le_of_ne (not_lt.1 hd) (Ne.symm hd0))
        rw [if_neg hd0, mem_twoRoots a b c _ t ha hs hspos, cg_eq_zero_iff ha hs]

/-- `for_each_local_{x,y}_extremum_t` emits its parameters in increasing order -/
theorem c1_extremaOf_sorted (a b c : K) : (Cubic1.extremaOf a b c).Pairwise (· ≤ ·) := by
  unfold Cubic1.extremaOf
  split_ifs
  · exact (pairwise_keep (le_refl _)).1
  · exact List.Pairwise.nil
  · exact List.Pairwise.nil
  · exact (pairwise_keep (le_refl _)).1
  · unfold Cubic1.twoRoots
    split_ifs with h
    · exact (pairwise_keep h.le).2
    · exact (pairwise_keep (not_lt.1 h)).2

theorem c1_extremaOf_interior (a b c t : K) (h : t ∈ Cubic1.extremaOf a b c) : 0 < t ∧ t < 1 := by
  unfold Cubic1.extremaOf at h
  split_ifs at h
  · exact ((mem_keep _ _).1 h).2
  · simp at h
  · simp at h
  · exact ((mem_keep _ _).1 h).2
  · exact ((mem_twoRoots_raw _ _ _ _ _).1 h).2

/-- in the two-root branch the roots are distinct, so the emitted list is strictly increasing -/
theorem c1_extremaOf_strict (hsq : ∀ d : K, 0 ≤ d → Transc.sqrt d * Transc.sqrt d = d)
    (hs0 : ∀ d : K, 0 ≤ d → 0 ≤ Transc.sqrt d) (a b c : K) :
    (Cubic1.extremaOf a b c).Pairwise (· < ·) := by
  have hk : ∀ t : K, (Cubic1.keep t).Pairwise (· < ·) := by
    intro t; unfold Cubic1.keep; split_ifs <;> simp
  unfold Cubic1.extremaOf
  simp only [sc_beq, bne_iff, Scalar.zero, Scalar.two, Scalar.four, sc_zero, sc_two, sc_four, Cubic1.disc]
  split_ifs with ha hb hd hd0
  · exact hk _
  · exact List.Pairwise.nil
  · exact List.Pairwise.nil
  · exact hk _
  · have hs := hsq _ (not_lt.1 hd)
    have hspos := sqrt_pos_of_pos hs0 hsq (lt_of_le_of_ne (not_lt.1 hd) (Ne.symm hd0))
    have hne : Cubic1.rootQ b (Transc.sqrt (b * b - 4 * a * c)) / a ≠
        c / Cubic1.rootQ b (Transc.sqrt (b * b - 4 * a * c)) := by
      have hne' : (-b - Transc.sqrt (b * b - 4 * a * c)) / (2 * a) ≠ (-b + Transc.sqrt (b * b - 4 * a * c)) / (2 * a) :=
        fun h => by have := (div_left_inj' (mul_ne_zero two_ne_zero ha)).1 h; linarith
      obtain ⟨_, ⟨e1, e2⟩ | ⟨e1, e2⟩⟩ := rootQ_roots a b c _ ha hs hspos <;> rw [e1, e2]
      exacts [hne', hne'.symm]
    unfold Cubic1.twoRoots
    split_ifs with h
    · exact (pairwise_keep (R := (· < ·)) h).2
    · exact (pairwise_keep (lt_of_le_of_ne (not_lt.1 h) hne)).2

/-- between consecutive reported critical parameters the derivative keeps its sign: it is a
constant times linear factors whose roots, being reported when in `(0,1)`, lie outside the range -/
theorem cg_sign_const (hsq : ∀ d : K, 0 ≤ d → Transc.sqrt d * Transc.sqrt d = d)
    (hs0 : ∀ d : K, 0 ≤ d → 0 ≤ Transc.sqrt d)
    (a b c lo hi : K) (h0 : 0 ≤ lo) (h1 : hi ≤ 1)
    (h : ∀ t ∈ Cubic1.extremaOf a b c, t ≤ lo ∨ hi ≤ t) : SignConst (cg a b c) lo hi := by
  by_cases hnz : a ≠ 0 ∨ b ≠ 0
  · have out : ∀ R, cg a b c R = 0 → R ≤ lo ∨ hi ≤ R := by
      intro R e
      by_contra hc
      rw [not_or, not_le, not_le] at hc
      rcases h R ((c1_extremaOf_iff hsq hs0 a b c R).2 ⟨hnz, h0.trans_lt hc.1, hc.2.trans_le h1, e⟩) with k | k
      · exact absurd k (not_le.2 hc.1)
      · exact absurd k (not_le.2 hc.2)
    by_cases ha : a = 0
    · have hb : b ≠ 0 := hnz.resolve_left (not_not.2 ha)
      have e : ∀ x, cg a b c x = b * (x - -c / b) := fun x => by unfold cg; rw [ha]; field_simp; ring
      exact ((signConst_const b lo hi).mul (signConst_sub (out _ (by rw [e, sub_self, mul_zero])))).congr e
    · by_cases hd : b * b - 4 * a * c < 0
      · rcases lt_or_gt_of_ne ha with hn | hp
        · exact Or.inr fun x _ _ => ((neg_iff_neg_of_mul_pos (cg_pos_of_disc_neg hd x)).1 (by linarith)).le
        · exact Or.inl fun x _ _ => ((pos_iff_pos_of_mul_pos (cg_pos_of_disc_neg hd x)).1 (by linarith)).le
      · have hs := hsq _ (not_lt.1 hd)
        exact ((signConst_const a lo hi).mul
          ((signConst_sub (out _ ((cg_eq_zero_iff ha hs).2 (Or.inl rfl)))).mul
            (signConst_sub (out _ ((cg_eq_zero_iff ha hs).2 (Or.inr rfl)))))).congr (quadratic_factor ha hs)
  · rw [not_or, not_not, not_not] at hnz
    exact (signConst_const c lo hi).congr fun x => by unfold cg; rw [hnz.1, hnz.2]; ring

end roots

theorem mem_insertAsc (t x : K) (l : List K) : x ∈ Cubic.insertAsc t l ↔ x = t ∨ x ∈ l := by
  induction l with
  | nil => simp [Cubic.insertAsc]
  | cons h r ih =>
    simp only [Cubic.insertAsc]
    split_ifs
    · exact List.mem_cons
    · simp only [List.mem_cons, ih]; exact or_left_comm

theorem insertAsc_sorted (t : K) (l : List K) (hl : l.Pairwise (· ≤ ·)) :
    (Cubic.insertAsc t l).Pairwise (· ≤ ·) := by
  induction l with
  | nil => simp [Cubic.insertAsc]
  | cons h r ih =>
    rw [List.pairwise_cons] at hl
    simp only [Cubic.insertAsc]
    split_ifs with hlt
    · rw [List.pairwise_cons]
      refine ⟨?_, List.pairwise_cons.2 hl⟩
      intro x hx
      rcases List.mem_cons.1 hx with rfl | hx
      · exact le_of_lt hlt
      · exact le_trans (le_of_lt hlt) (hl.1 x hx)
    · rw [List.pairwise_cons]
      refine ⟨?_, ih hl.2⟩
      intro x hx
      rcases (mem_insertAsc t x r).1 hx with rfl | hx
      · exact not_lt.1 hlt
      · exact hl.1 x hx

theorem sortAsc_spec (l : List K) : (Cubic.sortAsc l).Pairwise (· ≤ ·) ∧ ∀ x, x ∈ Cubic.sortAsc l ↔ x ∈ l := by
  induction l with
  | nil => simp [Cubic.sortAsc]
  | cons h r ih =>
    have e : Cubic.sortAsc (h :: r) = Cubic.insertAsc h (Cubic.sortAsc r) := rfl
    rw [e]
    refine ⟨insertAsc_sorted h _ ih.1, fun x => ?_⟩
    rw [mem_insertAsc, ih.2, List.mem_cons]

/-- scanning a list for the best value of `f` (under the preorder `le` with strict part `lt`), starting
from the better of the two ends: the result is a parameter of `[0,1]` whose value is at least as good as
those at `0`, at `1` and at every list element.  `step` takes the new parameter if it is strictly better.
`le`/`lt` are abstract because the lemma is used twice: at `≤`, `<` for the maximum and at `≥`, `>` for the minimum. -/
theorem foldl_pick_spec (f : K → K) (le lt : K → K → Prop) [DecidableRel lt] (hrefl : ∀ a, le a a)
    (htrans : ∀ a b c, le a b → le b c → le a c) (hlt : ∀ a b, lt a b → le a b) (hnlt : ∀ a b, ¬ lt a b → le b a)
    (init : K × K) (hinit : init = if lt (f 0) (f 1) then (1, f 1) else (0, f 0))
    (step : K × K → K → K × K) (hstep : ∀ st t, step st t = if lt st.2 (f t) then (t, f t) else st)
    (l : List K) (hl : ∀ t ∈ l, 0 ≤ t ∧ t ≤ 1) :
    (l.foldl step init).2 = f (l.foldl step init).1 ∧
    (0 ≤ (l.foldl step init).1 ∧ (l.foldl step init).1 ≤ 1) ∧
    ∀ t, (t = 0 ∨ t = 1 ∨ t ∈ l) → le (f t) (l.foldl step init).2 := by
  induction l using List.reverseRecOn with
  | nil =>
    rw [List.foldl_nil, hinit]
    split_ifs with h
    · refine ⟨rfl, ⟨zero_le_one, le_rfl⟩, fun t ht => ?_⟩
      rcases ht with rfl | rfl | ht
      exacts [hlt _ _ h, hrefl _, absurd ht List.not_mem_nil]
    · refine ⟨rfl, ⟨le_rfl, zero_le_one⟩, fun t ht => ?_⟩
      rcases ht with rfl | rfl | ht
      exacts [hrefl _, hnlt _ _ h, absurd ht List.not_mem_nil]
  | append_singleton l t ih =>
    obtain ⟨i1, i2, i3⟩ := ih fun s hs => hl s (List.mem_append_left _ hs)
    have old : ∀ s, (s = 0 ∨ s = 1 ∨ s ∈ l ++ [t]) → (s = 0 ∨ s = 1 ∨ s ∈ l) ∨ s = t := by
      rintro s (h | h | h)
      · exact Or.inl (Or.inl h)
      · exact Or.inl (Or.inr (Or.inl h))
      · exact (List.mem_append.1 h).imp (fun h => Or.inr (Or.inr h)) List.mem_singleton.1
    rw [List.foldl_append, List.foldl_cons, List.foldl_nil, hstep]
    split_ifs with h
    · refine ⟨rfl, hl t (List.mem_append_right _ List.mem_cons_self), fun s hs => ?_⟩
      rcases old s hs with hs | rfl
      · exact htrans _ _ _ (i3 s hs) (hlt _ _ h)
      · exact hrefl _
    · refine ⟨i1, i2, fun s hs => ?_⟩
      rcases old s hs with hs | rfl
      · exact i3 s hs
      · exact hnlt _ _ h

/-- a function whose increments are given by Simpson's rule from `g` is monotone where `g` keeps
its sign -/
theorem monoOn_of_simpson {f g : K → K}
    (hS : ∀ x y, f y - f x = (y - x) / 6 * (g x + 4 * g ((x + y) / 2) + g y)) {lo hi : K}
    (h : SignConst g lo hi) : MonoOn f lo hi := by
  have hm : ∀ {s u : K}, s ≤ u → s ≤ (s + u) / 2 ∧ (s + u) / 2 ≤ u := fun h => ⟨by linarith, by linarith⟩
  have hw : ∀ {s u : K}, s ≤ u → 0 ≤ (u - s) / 6 := fun h => div_nonneg (sub_nonneg.2 h) (by norm_num)
  refine h.imp (fun h s u a1 a2 a3 => ?_) (fun h s u a1 a2 a3 => ?_)
  · have g1 := h s a1 (a2.trans a3)
    have g2 := h _ (a1.trans (hm a2).1) ((hm a2).2.trans a3)
    have g3 := h u (a1.trans a2) a3
    have := mul_nonneg (hw a2) (by linarith : 0 ≤ g s + 4 * g ((s + u) / 2) + g u)
    rwa [← hS, sub_nonneg] at this
  · have g1 := h s a1 (a2.trans a3)
    have g2 := h _ (a1.trans (hm a2).1) ((hm a2).2.trans a3)
    have g3 := h u (a1.trans a2) a3
    have := mul_nonpos_of_nonneg_of_nonpos (hw a2) (by linarith : g s + 4 * g ((s + u) / 2) + g u ≤ 0)
    rwa [← hS, sub_nonpos] at this

section cubicranges

variable [Transc K]

theorem c1_range_critical (p0 p1 p2 p3 : K) :
    (0 ≤ Cubic1.maxT p0 p1 p2 p3 ∧ Cubic1.maxT p0 p1 p2 p3 ≤ 1) ∧
    (0 ≤ Cubic1.minT p0 p1 p2 p3 ∧ Cubic1.minT p0 p1 p2 p3 ≤ 1) ∧
    (∀ t, (t = 0 ∨ t = 1 ∨ t ∈ Cubic1.localExtrema p0 p1 p2 p3) →
      (Cubic1.range p0 p1 p2 p3).1 ≤ Cubic1.ev p0 p1 p2 p3 t ∧
      Cubic1.ev p0 p1 p2 p3 t ≤ (Cubic1.range p0 p1 p2 p3).2) := by
  have hl : ∀ t ∈ Cubic1.localExtrema p0 p1 p2 p3, 0 ≤ t ∧ t ≤ 1 := fun t ht =>
    ⟨(c1_extremaOf_interior _ _ _ t ht).1.le, (c1_extremaOf_interior _ _ _ t ht).2.le⟩
  obtain ⟨a1, a2, a3⟩ := foldl_pick_spec (Cubic1.ev p0 p1 p2 p3) (· ≤ ·) (· < ·) le_refl (fun _ _ _ => le_trans)
    (fun _ _ => le_of_lt) (fun _ _ => not_lt.1) (Cubic1.maxInit p0 p3)
    (by simp only [Cubic1.maxInit, c1_ev0, c1_ev1, sc_zero_eq, sc_one_eq, gt_iff_lt])
    (Cubic1.maxStep p0 p1 p2 p3) (fun _ _ => rfl) _ hl
  obtain ⟨b1, b2, b3⟩ := foldl_pick_spec (Cubic1.ev p0 p1 p2 p3) (· ≥ ·) (· > ·) le_refl (fun _ _ _ h k => le_trans k h)
    (fun _ _ => le_of_lt) (fun _ _ => not_lt.1) (Cubic1.minInit p0 p3)
    (by simp only [Cubic1.minInit, c1_ev0, c1_ev1, sc_zero_eq, sc_one_eq, gt_iff_lt])
    (Cubic1.minStep p0 p1 p2 p3) (fun _ _ => rfl) _ hl
  refine ⟨a2, b2, fun t ht => ?_⟩
  unfold Cubic1.range Cubic1.maxT Cubic1.minT
  rw [← a1, ← b1]
  exact ⟨b3 t ht, a3 t ht⟩

theorem c1_range_ends (p0 p1 p2 p3 : K) :
    ((Cubic1.range p0 p1 p2 p3).1 ≤ p0 ∧ p0 ≤ (Cubic1.range p0 p1 p2 p3).2) ∧
    ((Cubic1.range p0 p1 p2 p3).1 ≤ p3 ∧ p3 ≤ (Cubic1.range p0 p1 p2 p3).2) := by
  have h0 := (c1_range_critical p0 p1 p2 p3).2.2 0 (Or.inl rfl)
  have h1 := (c1_range_critical p0 p1 p2 p3).2.2 1 (Or.inr (Or.inl rfl))
  rw [c1_ev0] at h0; rw [c1_ev1] at h1
  exact ⟨h0, h1⟩

theorem c1_sign_const (hsq : ∀ d : K, 0 ≤ d → Transc.sqrt d * Transc.sqrt d = d)
    (hs0 : ∀ d : K, 0 ≤ d → 0 ≤ Transc.sqrt d)
    (p0 p1 p2 p3 lo hi : K) (h0 : 0 ≤ lo) (h1 : hi ≤ 1)
    (h : ∀ t ∈ Cubic1.localExtrema p0 p1 p2 p3, t ≤ lo ∨ hi ≤ t) : SignConst (c1d p0 p1 p2 p3) lo hi :=
  cg_sign_const hsq hs0 _ _ _ lo hi h0 h1 h

theorem c1_mono (hsq : ∀ d : K, 0 ≤ d → Transc.sqrt d * Transc.sqrt d = d)
    (hs0 : ∀ d : K, 0 ≤ d → 0 ≤ Transc.sqrt d)
    (p0 p1 p2 p3 lo hi : K) (h0 : 0 ≤ lo) (h1 : hi ≤ 1)
    (h : ∀ t ∈ Cubic1.localExtrema p0 p1 p2 p3, t ≤ lo ∨ hi ≤ t) :
    MonoOn (Cubic1.ev p0 p1 p2 p3) lo hi :=
  monoOn_of_simpson (c1_simpson p0 p1 p2 p3) (c1_sign_const hsq hs0 p0 p1 p2 p3 lo hi h0 h1 h)

theorem c1_range_contains (hsq : ∀ d : K, 0 ≤ d → Transc.sqrt d * Transc.sqrt d = d)
    (hs0 : ∀ d : K, 0 ≤ d → 0 ≤ Transc.sqrt d)
    (p0 p1 p2 p3 t : K) (h0 : 0 ≤ t) (h1 : t ≤ 1) :
    (Cubic1.range p0 p1 p2 p3).1 ≤ Cubic1.ev p0 p1 p2 p3 t ∧
    Cubic1.ev p0 p1 p2 p3 t ≤ (Cubic1.range p0 p1 p2 p3).2 :=
  have hb := (c1_range_critical p0 p1 p2 p3).2.2
  bounded_of_mono_between _ (Cubic1.localExtrema p0 p1 p2 p3) 0 1
    (fun lo hi l0 _ h1 hr => c1_mono hsq hs0 p0 p1 p2 p3 lo hi l0 h1 hr)
    (hb 0 (Or.inl rfl)) (hb 1 (Or.inr (Or.inl rfl))) (fun s hs _ _ => hb s (Or.inr (Or.inr hs))) t h0 h1

/-- `for_each_monotonic_range` of a cubic runs `rangesSkip` on the sorted list of both coordinates' critical
parameters -/
theorem cubic_ranges_spec (c : Cubic K) : Chain 0 c.monotonicRanges 1 ∧ ∀ r ∈ c.monotonicRanges,
    0 ≤ r.1 ∧ r.1 < r.2 ∧ r.2 ≤ 1 ∧
    (∀ s ∈ c.localXExtremaT, s ≤ r.1 ∨ r.2 ≤ s) ∧ (∀ s ∈ c.localYExtremaT, s ≤ r.1 ∨ r.2 ≤ s) := by
  obtain ⟨hs, hm⟩ := sortAsc_spec (c.localXExtremaT ++ c.localYExtremaT)
  unfold Cubic.monotonicRanges
  simp only [Scalar.zero, sc_zero]
  obtain ⟨ch, g⟩ := rangesSkip_zero_spec hs fun x hx => by
    rw [hm, List.mem_append] at hx
    exact hx.elim (c1_extremaOf_interior _ _ _ x) (c1_extremaOf_interior _ _ _ x)
  refine ⟨ch, fun r hr => ?_⟩
  obtain ⟨b1, b2, b3, b4⟩ := g r hr
  exact ⟨b1, b2, b3, fun s hs => b4 s ((hm s).2 (List.mem_append_left _ hs)),
    fun s hs => b4 s ((hm s).2 (List.mem_append_right _ hs))⟩

theorem cubic_ranges1_spec (hsq : ∀ d : K, 0 ≤ d → Transc.sqrt d * Transc.sqrt d = d)
    (hs0 : ∀ d : K, 0 ≤ d → 0 ≤ Transc.sqrt d) (a b cc : K) :
    Chain 0 (Cubic.rangesAll Scalar.zero (Cubic1.extremaOf a b cc)) 1 ∧
    ∀ r ∈ Cubic.rangesAll Scalar.zero (Cubic1.extremaOf a b cc),
      0 ≤ r.1 ∧ r.1 < r.2 ∧ r.2 ≤ 1 ∧ ∀ x ∈ Cubic1.extremaOf a b cc, x ≤ r.1 ∨ r.2 ≤ x := by
  simp only [Scalar.zero, sc_zero]
  exact rangesAll_zero_spec (c1_extremaOf_strict hsq hs0 a b cc) (c1_extremaOf_interior a b cc)

theorem clampEnd1_eq_self {c a b : K} (h1 : a ≤ b → a ≤ c) (h2 : b < a → c ≤ a) :
    Cubic.clampEnd1 c a b = c := by
  unfold Cubic.clampEnd1; simp only [sc_min, sc_max, ge_iff_le]
  split_ifs with h
  exacts [max_eq_left (h1 h), min_eq_left (h2 (not_le.1 h))]

theorem clampEnd2_eq_self {c a b : K} (h1 : a ≤ b → c ≤ b) (h2 : b < a → b ≤ c) :
    Cubic.clampEnd2 c a b = c := by
  unfold Cubic.clampEnd2; simp only [sc_min, sc_max, ge_iff_le]
  split_ifs with h
  exacts [min_eq_left (h1 h), max_eq_left (h2 (not_le.1 h))]

/-- the end-tangent clamp is the identity on a range where the derivative `g` keeps its sign:
`ctrl1 = f(lo) + g(lo)(hi−lo)/3` lies on the side of `f(lo)` towards which `f` moves, `ctrl2`
likewise at `hi` (if `f(lo) = f(hi)` both tangents vanish, by Simpson's rule).  Stated for the three
Simpson terms `pl`, `pm`, `ph` = `g · (hi − lo)` at `lo`, the midpoint and `hi`. -/
theorem clampEnd_noop {fl fh pl pm ph : K} (e : fh - fl = (pl + 4 * pm + ph) / 6)
    (h : (0 ≤ pl ∧ 0 ≤ pm ∧ 0 ≤ ph) ∨ (pl ≤ 0 ∧ pm ≤ 0 ∧ ph ≤ 0)) :
    Cubic.clampEnd1 (fl + pl / 3) fl fh = fl + pl / 3 ∧ Cubic.clampEnd2 (fh - ph / 3) fl fh = fh - ph / 3 := by
  have three : (0 : K) ≤ 3 := by norm_num
  rcases h with ⟨h1, h2, h3⟩ | ⟨h1, h2, h3⟩
  · have up : fl ≤ fh := by linarith
    exact ⟨clampEnd1_eq_self (fun _ => le_add_of_nonneg_right (div_nonneg h1 three)) (fun k => absurd up (not_le.2 k)),
      clampEnd2_eq_self (fun _ => sub_le_self _ (div_nonneg h3 three)) (fun k => absurd up (not_le.2 k))⟩
  · -- if nevertheless `fl ≤ fh`, all three terms vanish
    exact ⟨clampEnd1_eq_self (fun _ => by linarith) (fun _ => add_le_of_nonpos_right (div_nonpos_of_nonpos_of_nonneg h1 three)),
      clampEnd2_eq_self (fun _ => by linarith)
        (fun _ => le_sub_self_iff _ |>.2 (div_nonpos_of_nonpos_of_nonneg h3 three))⟩

theorem clampEnd_noop_of_simpson {f g : K → K}
    (hS : ∀ x y, f y - f x = (y - x) / 6 * (g x + 4 * g ((x + y) / 2) + g y)) {lo hi : K} (hlh : lo ≤ hi)
    (h : SignConst g lo hi) :
    Cubic.clampEnd1 (f lo + g lo * (hi - lo) / 3) (f lo) (f hi) = f lo + g lo * (hi - lo) / 3 ∧
    Cubic.clampEnd2 (f hi - g hi * (hi - lo) / 3) (f lo) (f hi) = f hi - g hi * (hi - lo) / 3 := by
  have hd : 0 ≤ hi - lo := sub_nonneg.2 hlh
  have hm : lo ≤ (lo + hi) / 2 ∧ (lo + hi) / 2 ≤ hi := ⟨by linarith, by linarith⟩
  refine clampEnd_noop (pm := g ((lo + hi) / 2) * (hi - lo)) (by rw [hS]; ring) ?_
  exact h.imp
    (fun h => ⟨mul_nonneg (h lo le_rfl hlh) hd, mul_nonneg (h _ hm.1 hm.2) hd, mul_nonneg (h hi hlh le_rfl) hd⟩)
    (fun h => ⟨mul_nonpos_of_nonpos_of_nonneg (h lo le_rfl hlh) hd, mul_nonpos_of_nonpos_of_nonneg (h _ hm.1 hm.2) hd,
      mul_nonpos_of_nonpos_of_nonneg (h hi hlh le_rfl) hd⟩)

end cubicranges

/-- the coefficients lyon computes are those of the derivative: `x'(t) = a t² + b t + c` -/
theorem cubic_dx_eq (c : Cubic K) (t : K) : c.dx t = c1d c.a.x c.c1.x c.c2.x c.b.x t := by
  unfold c1d cg; rw [c1_ca, c1_cb, c1_cc]; geom_ring

theorem cubic_dy_eq (c : Cubic K) (t : K) : c.dy t = c1d c.a.y c.c1.y c.c2.y c.b.y t := by
  unfold c1d cg; rw [c1_ca, c1_cb, c1_cc]; geom_ring

theorem cubic_sample_x (c : Cubic K) (t : K) : (c.sample t).x = Cubic1.ev c.a.x c.c1.x c.c2.x c.b.x t := by
  geom_ring

theorem cubic_sample_y (c : Cubic K) (t : K) : (c.sample t).y = Cubic1.ev c.a.y c.c1.y c.c2.y c.b.y t := by
  geom_ring

theorem cubic_x_eq (c : Cubic K) (t : K) : c.x t = Cubic1.ev c.a.x c.c1.x c.c2.x c.b.x t := rfl

theorem cubic_y_eq (c : Cubic K) (t : K) : c.y t = Cubic1.ev c.a.y c.c1.y c.c2.y c.b.y t := rfl

section cubicclamp
variable [Transc K]

theorem cubic_ext {p q : Cubic K} (ha : p.a = q.a) (h1 : p.c1 = q.c1) (h2 : p.c2 = q.c2) (hb : p.b = q.b) :
    p = q :=
  Cubic.ext' ha h1 h2 hb

end cubicclamp

theorem minMax_eq (a b : K) : minMax a b = (min a b, max a b) := by
  unfold minMax
  split_ifs with h
  · rw [min_eq_left (le_of_lt h), max_eq_right (le_of_lt h)]
  · rw [min_eq_right (not_lt.1 h), max_eq_left (not_lt.1 h)]

section boxes

def boxJoin (a b : Box K) : Box K :=
  ⟨⟨min a.min.x b.min.x, min a.min.y b.min.y⟩, ⟨max a.max.x b.max.x, max a.max.y b.max.y⟩⟩

theorem inside_refl (b : Box K) : Box.Inside b b := ⟨le_refl _, le_refl _, le_refl _, le_refl _⟩

theorem inside_trans {a b c : Box K} (h1 : Box.Inside a b) (h2 : Box.Inside b c) : Box.Inside a c :=
  ⟨le_trans h2.1 h1.1, le_trans h1.2.1 h2.2.1, le_trans h2.2.2.1 h1.2.2.1, le_trans h1.2.2.2 h2.2.2.2⟩

theorem inside_antisymm {a b : Box K} (h1 : Box.Inside a b) (h2 : Box.Inside b a) : a = b := by
  obtain ⟨⟨ax, ay⟩, ⟨bx, by'⟩⟩ := a
  obtain ⟨⟨cx, cy⟩, ⟨dx, dy⟩⟩ := b
  simp only [Box.Inside] at h1 h2
  simp only [Box.mk.injEq, P.mk.injEq]
  exact ⟨⟨le_antisymm h2.1 h1.1, le_antisymm h2.2.2.1 h1.2.2.1⟩,
    ⟨le_antisymm h1.2.1 h2.2.1, le_antisymm h1.2.2.2 h2.2.2.2⟩⟩

/-- (`Box.Contains x p` is `Box.Inside ⟨p, p⟩ x`) -/
theorem contains_mono {x b : Box K} {p : P K} (h1 : Box.Inside x b) (h2 : Box.Contains x p) :
    Box.Contains b p :=
  inside_trans (a := ⟨p, p⟩) h2 h1

theorem join_inside_left (b x : Box K) : Box.Inside b (boxJoin b x) :=
  ⟨min_le_left _ _, le_max_left _ _, min_le_left _ _, le_max_left _ _⟩

theorem join_inside_right (b x : Box K) : Box.Inside x (boxJoin b x) :=
  ⟨min_le_right _ _, le_max_right _ _, min_le_right _ _, le_max_right _ _⟩

theorem join_le {a b X : Box K} (ha : Box.Inside a X) (hb : Box.Inside b X) : Box.Inside (boxJoin a b) X :=
  ⟨le_min ha.1 hb.1, max_le ha.2.1 hb.2.1, le_min ha.2.2.1 hb.2.2.1, max_le ha.2.2.2 hb.2.2.2⟩

theorem join_right_comm (b x y : Box K) : boxJoin (boxJoin b x) y = boxJoin (boxJoin b y) x := by
  simp only [boxJoin, Box.mk.injEq, P.mk.injEq]
  exact ⟨⟨min_right_comm _ _ _, min_right_comm _ _ _⟩, ⟨max_right_comm _ _ _, max_right_comm _ _ _⟩⟩

theorem foldl_join_inside (l : List (Box K)) : ∀ b0 : Box K,
    Box.Inside b0 (l.foldl boxJoin b0) ∧ ∀ x ∈ l, Box.Inside x (l.foldl boxJoin b0) := by
  induction l with
  | nil => intro b0; exact ⟨inside_refl _, fun x hx => by cases hx⟩
  | cons y r ih =>
    intro b0
    rw [List.foldl_cons]
    obtain ⟨i1, i2⟩ := ih (boxJoin b0 y)
    refine ⟨inside_trans (join_inside_left b0 y) i1, fun x hx => ?_⟩
    rcases List.mem_cons.1 hx with rfl | hx
    · exact inside_trans (join_inside_right b0 x) i1
    · exact i2 x hx

theorem foldl_join_least (X : Box K) (l : List (Box K)) : ∀ b0 : Box K,
    Box.Inside b0 X → (∀ x ∈ l, Box.Inside x X) → Box.Inside (l.foldl boxJoin b0) X := by
  induction l with
  | nil => intro b0 h0 _; exact h0
  | cons y r ih =>
    intro b0 h0 hl
    exact ih _ (join_le h0 (hl y List.mem_cons_self)) fun x hx => hl x (List.mem_cons_of_mem _ hx)

theorem join_assoc (a b c : Box K) : boxJoin (boxJoin a b) c = boxJoin a (boxJoin b c) := by
  simp only [boxJoin, min_assoc, max_assoc]

theorem join_absorb {X Y : Box K} (h : Box.Inside Y X) : boxJoin X Y = X ∧ boxJoin Y X = X :=
  ⟨inside_antisymm (join_le (inside_refl X) h) (join_inside_left X Y),
   inside_antisymm (join_le h (inside_refl X)) (join_inside_right Y X)⟩

/-- every side of a join is a side of one of the joined boxes (`φ` reads one side) -/
theorem foldl_join_attains (φ : Box K → K) (hφ : ∀ a b, φ (boxJoin a b) = φ a ∨ φ (boxJoin a b) = φ b)
    (l : List (Box K)) : ∀ b0 : Box K, ∃ x ∈ b0 :: l, φ (l.foldl boxJoin b0) = φ x := by
  induction l with
  | nil => intro b0; exact ⟨b0, List.mem_cons_self, rfl⟩
  | cons y r ih =>
    intro b0
    obtain ⟨x, m, e⟩ := ih (boxJoin b0 y)
    rcases List.mem_cons.1 m with rfl | m
    · rcases hφ b0 y with h | h
      · exact ⟨b0, List.mem_cons_self, e.trans h⟩
      · exact ⟨y, List.mem_cons_of_mem _ List.mem_cons_self, e.trans h⟩
    · exact ⟨x, List.mem_cons_of_mem _ (List.mem_cons_of_mem _ m), e⟩

/-- the curve `f` reaches each of the four sides of `y` at some parameter of `[0,1]`; together with containment
this pins the box down (`inside_of_touched`), which is how tightness, fast ⊇ exact and independence of
direction are all stated -/
def SidesTouched (y : Box K) (f : K → P K) : Prop :=
  (∃ t, 0 ≤ t ∧ t ≤ 1 ∧ (f t).x = y.min.x) ∧ (∃ t, 0 ≤ t ∧ t ≤ 1 ∧ (f t).x = y.max.x) ∧
  (∃ t, 0 ≤ t ∧ t ≤ 1 ∧ (f t).y = y.min.y) ∧ (∃ t, 0 ≤ t ∧ t ≤ 1 ∧ (f t).y = y.max.y)

theorem inside_of_touched {B1 B : Box K} {f : K → P K} (t1 : SidesTouched B1 f)
    (c : ∀ t, 0 ≤ t → t ≤ 1 → Box.Contains B (f t)) : Box.Inside B1 B := by
  obtain ⟨⟨a, a0, a1, ea⟩, ⟨b, b0, b1, eb⟩, ⟨g, g0, g1, eg⟩, ⟨d, d0, d1, ed⟩⟩ := t1
  exact ⟨ea ▸ (c a a0 a1).1, eb ▸ (c b b0 b1).2.1, eg ▸ (c g g0 g1).2.2.1, ed ▸ (c d d0 d1).2.2.2⟩

/-- one step of `Box2D::from_points` joins the point to the box -/
theorem grow_eq (b : Box K) (p : P K) : b.grow p = boxJoin b ⟨p, p⟩ := by
  unfold Box.grow boxJoin
  congr 1
  · congr 1 <;> (split_ifs with h <;> simp [min_def, le_of_lt, h, not_le.2, not_lt.1])
  · congr 1 <;> (split_ifs with h <;> simp [max_def, le_of_lt, h, not_le.2, not_lt.1])

/-- `Box2D::from_points`: the result contains every point -/
theorem fromPoints_contains (p0 : P K) (rest : List (P K)) :
    ∀ p ∈ p0 :: rest, Box.Contains (Box.fromPoints p0 rest) p := by
  have e : Box.fromPoints p0 rest = (rest.map fun p => (⟨p, p⟩ : Box K)).foldl boxJoin ⟨p0, p0⟩ := by
    rw [List.foldl_map]
    exact congrArg (fun f => rest.foldl f _) (funext₂ grow_eq)
  obtain ⟨j1, j2⟩ := foldl_join_inside (rest.map fun p => (⟨p, p⟩ : Box K)) ⟨p0, p0⟩
  rw [e]
  exact fun p hp => (List.mem_cons.1 hp).elim (fun h => h ▸ j1) fun h => j2 _ (List.mem_map_of_mem h)

/-- the fast boxes are the hulls of the control points (`fastBoundingBox` unfolds to the nested join of the
one-point boxes, which is what `join_le` is applied to) -/
theorem quad_fast_inside {q : Quad K} {X : Box K} (ha : Box.Contains X q.a) (hc : Box.Contains X q.c)
    (hb : Box.Contains X q.b) : Box.Inside q.fastBoundingBox X :=
  join_le (a := boxJoin ⟨q.a, q.a⟩ ⟨q.c, q.c⟩) (b := ⟨q.b, q.b⟩) (join_le ha hc) hb

theorem cubic_fast_inside {c : Cubic K} {X : Box K} (ha : Box.Contains X c.a) (h1 : Box.Contains X c.c1)
    (h2 : Box.Contains X c.c2) (hb : Box.Contains X c.b) : Box.Inside c.fastBoundingBox X :=
  join_le (a := boxJoin (boxJoin ⟨c.a, c.a⟩ ⟨c.c1, c.c1⟩) ⟨c.c2, c.c2⟩) (b := ⟨c.b, c.b⟩)
    (join_le (join_le ha h1) h2) hb

variable [Transc K]

theorem rotationXf_apply (θ : K) (p : P K) : (Arc.rotationXf θ).apply p = Arc.rotate θ p := by
  apply P.ext' <;> simp only [Arc.rotate, Arc.rotationXf, Xf.apply, Scalar.zero, sc_zero] <;> ring

/-- the box an event contributes to `aabb::bounding_box` -/
noncomputable def tightBox : PEv K → Option (Box K)
  | .begin p => some ⟨p, p⟩
  | .line _ p => some ⟨p, p⟩
  | .quad f c p => some (Quad.boundingBox ⟨f, c, p⟩)
  | .cubic f c1 c2 p => some (Cubic.boundingBox ⟨f, c1, c2, p⟩)
  | .end_ => none

theorem tightStep_eq (b : Box K) (e : PEv K) :
    Aabb.tightStep b e = match tightBox e with | none => b | some x => boxJoin b x := by
  cases e <;> simp only [Aabb.tightStep, tightBox, boxJoin, P.pmin, P.pmax, emin_eq, emax_eq]

/-- the box an event contributes to `aabb::fast_bounding_box`: the hull of the points it reads -/
def fastBox : PEv K → Option (Box K)
  | .begin p => some ⟨p, p⟩
  | .line _ p => some ⟨p, p⟩
  | .quad _ c p => some (boxJoin ⟨c, c⟩ ⟨p, p⟩)
  | .cubic _ c1 c2 p => some (boxJoin ⟨c1, c1⟩ (boxJoin ⟨c2, c2⟩ ⟨p, p⟩))
  | .end_ => none

theorem fastStep_eq (b : Box K) (e : PEv K) :
    Aabb.fastStep b e = match fastBox e with | none => b | some x => boxJoin b x := by
  cases e <;> simp only [Aabb.fastStep, fastBox, boxJoin, P.pmin, P.pmax, emin_eq, emax_eq]

/-- the event list as `Path::iter` yields it: inside a sub-path every segment starts at the
current point (`cur`), `begin` sets it.  (`WF` of `Props/C11b.lean` says the same of `FEv`, whose `End`
carries its two points, and also tracks the first point of the sub-path.) -/
def WellFormed : Option (P K) → List (PEv K) → Prop
  | _, [] => True
  | _, PEv.begin p :: r => WellFormed (some p) r
  | some q, PEv.line f p :: r => f = q ∧ WellFormed (some p) r
  | some q, PEv.quad f _ p :: r => f = q ∧ WellFormed (some p) r
  | some q, PEv.cubic f _ _ p :: r => f = q ∧ WellFormed (some p) r
  | cur, PEv.end_ :: r => WellFormed cur r
  | none, PEv.line _ _ :: _ => False
  | none, PEv.quad _ _ _ :: _ => False
  | none, PEv.cubic _ _ _ _ :: _ => False

end boxes

/-- a toy `Transc ℚ` (π := 22/7, `fmod x y := x − y⌊x/y⌋`, `sqrt 4 = 2`, `cos 0 = 1`, `floor`/`ceil`
the identity, everything else 0): enough to show that `AngleLaws` and the `sqrt` law are satisfiable -/
def toyTransc : Transc ℚ where
  sqrt := fun x => if x = 4 then 2 else 0
  cbrt := fun _ => 0
  sin := fun _ => 0
  cos := fun x => if x = 0 then 1 else 0
  tan := fun _ => 0
  acos := fun _ => 0
  atan2 := fun _ _ => 0
  pow := fun _ _ => 0
  log2 := fun _ => 0
  ln := fun _ => 0
  floor := fun x => x
  ceil := fun x => x
  toNat := fun _ => 0
  fmod := fun x y => x - y * (⌊x / y⌋ : ℚ)
  eps := 0
  pi := 22/7
  isNaN := fun _ => false
  isFinite := fun _ => true

end Lyon.C11

