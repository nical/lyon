/-
  The split parameter `Sources.splitT`, which `merge_coincident_edges` computes and `split_edge`
  (`process_edges_above`, `edges_to_split`) computed before lyon 96af7b62, over a linearly ordered field: what the tests of the code (`is_edge_connecting`,
  the sweep order of the two pending ends) DO and DO NOT confine.  On the x-branch (edge flatter than 45 degrees) a
  point accepted by `is_edge_connecting` (`min_x ≤ x ≤ max_x + threshold`, `y ≤ to.y`) gets a parameter in
  `[-thr/|dx|, 1 + thr/|dx|]` and nothing better holds (`splitT_bound`; before lyon 96af7b62 complete
  runs reached `32/25` and `1250375/1249749`, see `Props/C07c.lean`).  The REPAIR (lyon 96af7b62, mirrored in the
  model): `Sources.splitTAtVertex` falls back to the y-parameter when the x-parameter leaves `[0,1]`, and
  `handle_coincident_edges_below` merges only under the guard `endsWithin` (`endsWithin_iff_model`); the parameters of
  the repaired code are in `[0,1]` (`splitTAtVertex_unit`, `merge_guard_unit`).
-/
import LyonVerif.Props.C07b
import Mathlib.Tactic.Linarith
import Mathlib.Tactic.FieldSimp

set_option linter.unusedSectionVars false

namespace Lyon.SweepPos
open Lyon Lyon.Scalar Lyon.Sweep

section field
variable {K : Type} [Field K] [LinearOrder K] [IsStrictOrderedRing K]

theorem solveTForX_eq (a b : P K) (x : K) (hd : b.x - a.x ≠ 0) :
    Sources.solveTForX a b x = (x - a.x) / (b.x - a.x) := by
  unfold Sources.solveTForX
  exact C07.solveT_eq hd

theorem solveTForY_eq (a b : P K) (y : K) (hd : b.y - a.y ≠ 0) :
    Sources.solveTForY a b y = (y - a.y) / (b.y - a.y) := by
  unfold Sources.solveTForY
  exact C07.solveT_eq hd

/-- the y-parameter of a point that the edge spans in y is in `[0,1]` - level edges included -/
theorem solveTForY_unit (a b : P K) {y : K} (hya : a.y ≤ y) (hyb : y ≤ b.y) :
    0 ≤ Sources.solveTForY a b y ∧ Sources.solveTForY a b y ≤ 1 :=
  C07b.solveT_unit (Or.inl ⟨hya, hyb⟩)

theorem ne_zero_of_abs_lt {u v : K} (h : |u| < |v|) : v ≠ 0 :=
  fun h0 => by rw [h0, abs_zero] at h; exact not_lt.mpr (abs_nonneg _) h

theorem splitT_x (a b c : P K) (h : |b.y - a.y| < |b.x - a.x|) :
    Sources.splitT a b c = (c.x - a.x) / (b.x - a.x) := by
  unfold Sources.splitT
  rw [if_pos (show Scalar.abs (b.y - a.y) < Scalar.abs (b.x - a.x) from h)]
  exact solveTForX_eq a b c.x (ne_zero_of_abs_lt h)

theorem div_overshoot {a b x thr : K} (hne : b - a ≠ 0) (hmin : Min.min a b ≤ x) (hmax : x ≤ Max.max a b + thr)
    (hthr : 0 ≤ thr) : -(thr / |b - a|) ≤ (x - a) / (b - a) ∧ (x - a) / (b - a) ≤ 1 + thr / |b - a| := by
  rcases lt_or_gt_of_ne hne with hn | hp
  · have hab : b ≤ a := (sub_neg.mp hn).le
    rw [min_eq_right hab] at hmin
    rw [max_eq_left hab] at hmax
    rw [abs_of_neg hn, div_neg, neg_neg, ← sub_eq_add_neg, one_sub_div hne]
    exact ⟨div_le_div_of_nonpos_of_le hn.le (sub_le_iff_le_add'.mpr hmax),
      div_le_div_of_nonpos_of_le hn.le ((sub_le_self _ hthr).trans (sub_le_sub_right hmin a))⟩
  · have hab : a ≤ b := (sub_pos.mp hp).le
    rw [min_eq_left hab] at hmin
    rw [max_eq_right hab] at hmax
    rw [abs_of_pos hp, ← neg_div, one_add_div hne]
    exact ⟨div_le_div_of_nonneg_right ((neg_nonpos.mpr hthr).trans (sub_nonneg.mpr hmin)) hp.le,
      div_le_div_of_nonneg_right (by rw [sub_add_eq_add_sub]; exact sub_le_sub_right hmax a) hp.le⟩

theorem splitT_x_overshoot (a b c : P K) (thr : K) (h : |b.y - a.y| < |b.x - a.x|)
    (hmin : Min.min a.x b.x ≤ c.x) (hmax : c.x ≤ Max.max a.x b.x + thr) (hthr : 0 ≤ thr) :
    -(thr / |b.x - a.x|) ≤ Sources.splitT a b c ∧ Sources.splitT a b c ≤ 1 + thr / |b.x - a.x| := by
  rw [splitT_x a b c h]
  exact div_overshoot (ne_zero_of_abs_lt h) hmin hmax hthr

/-- the split parameter of a point that lies between the ends of the edge IN Y ONLY (`a.y ≤ c.y ≤ b.y`)
and within `thr` beyond the x-extent: in `[0,1]` on the y-branch, in `[-thr/|dx|, 1 + thr/|dx|]` on the x-branch -/
theorem splitT_bound (a b c : P K) (thr : K) (hya : a.y ≤ c.y) (hyb : c.y ≤ b.y)
    (hmin : Min.min a.x b.x ≤ c.x) (hmax : c.x ≤ Max.max a.x b.x + thr) (hthr : 0 ≤ thr) :
    (¬ |b.y - a.y| < |b.x - a.x| → 0 ≤ Sources.splitT a b c ∧ Sources.splitT a b c ≤ 1) ∧
    (|b.y - a.y| < |b.x - a.x| →
      -(thr / |b.x - a.x|) ≤ Sources.splitT a b c ∧ Sources.splitT a b c ≤ 1 + thr / |b.x - a.x|) := by
  refine ⟨fun h => ?_, fun h => splitT_x_overshoot a b c thr h hmin hmax hthr⟩
  exact C07b.splitT_unit_all a b c (fun h2 => absurd h2 h) (fun _ => Or.inl ⟨hya, hyb⟩)

variable [w : Wide K]

theorem maxX_eq (e : ActiveEdge K) : e.maxX = Max.max e.from_.x e.to.x := by
  unfold ActiveEdge.maxX fmax
  split
  · rename_i h; exact (max_eq_left (le_of_lt h)).symm
  · rename_i h; exact (max_eq_right (not_lt.mp h)).symm

/-- `is_edge_connecting` returning `Ok(true)` WITH the edge pushed to `edges_to_split`: the current vertex
satisfies `min_x ≤ x ≤ max_x + threshold` and `y ≤ to.y` - and nothing confines `x` to
`max_x` -/
theorem isEdgeConnecting_split_facts (cur : P K) (tol : K) (e : ActiveEdge K) (c : Bool)
    (h : isEdgeConnecting cur tol e = .ok (c, true)) :
    Min.min e.from_.x e.to.x ≤ cur.x ∧ cur.x ≤ Max.max e.from_.x e.to.x + onEdgeThreshold tol cur.x ∧ cur.y ≤ e.to.y := by
  unfold isEdgeConnecting at h
  -- the three early exits return `(_, false)` or an error
  by_cases h1 : (cur == e.to) = true
  · simp only [if_pos h1] at h; cases h
  simp only [if_neg h1] at h
  by_cases h2 : e.maxX + onEdgeThreshold tol cur.x < cur.x ∨ e.to.y < cur.y
  · simp only [if_pos h2] at h; cases h
  simp only [if_neg h2] at h
  by_cases h3 : e.minX > cur.x
  · simp only [if_pos h3] at h; cases h
  rw [maxX_eq] at h2
  push Not at h2
  exact ⟨not_lt.mp h3, h2.1, h2.2⟩

omit w

/-- `Sources.splitTAtVertex` over an ordered field, in Mathlib's vocabulary -/
theorem splitTAtVertex_def (a b c : P K) :
    Sources.splitTAtVertex a b c =
      if |b.y - a.y| < |b.x - a.x| then
        (if 0 ≤ Sources.solveTForX a b c.x ∧ Sources.solveTForX a b c.x ≤ 1 then Sources.solveTForX a b c.x
         else Min.min (Max.max (Sources.solveTForY a b c.y) 0) 1)
      else Sources.solveTForY a b c.y := by
  unfold Sources.splitTAtVertex
  rw [C07.zero_K, C07.one_K]
  rfl

theorem splitTAtVertex_unit_flat (a b c : P K) (hb : |b.y - a.y| < |b.x - a.x|) :
    0 ≤ Sources.splitTAtVertex a b c ∧ Sources.splitTAtVertex a b c ≤ 1 := by
  rw [splitTAtVertex_def, if_pos hb]
  split
  · rename_i h; exact h
  · exact ⟨le_min (le_max_right _ _) zero_le_one, min_le_right _ _⟩

/-- **the parameter of the repaired `split_edge` is in `[0,1]`** for every active edge that spans the current
vertex in y (`from.y ≤ y ≤ to.y`), whatever its x - degenerate edges included -/
theorem splitTAtVertex_unit (a b c : P K) (hya : a.y ≤ c.y) (hyb : c.y ≤ b.y) :
    0 ≤ Sources.splitTAtVertex a b c ∧ Sources.splitTAtVertex a b c ≤ 1 := by
  by_cases hb : |b.y - a.y| < |b.x - a.x|
  · exact splitTAtVertex_unit_flat a b c hb
  · rw [splitTAtVertex_def, if_neg hb]
    exact solveTForY_unit a b hya hyb

/-- the guard lyon 96af7b62 added to `handle_coincident_edges_below` (`v = long_to - from`, `s = short_to - from`) -/
def endsWithin (v s : P K) : Prop := |v.x| ≤ |v.y| ∨ (0 ≤ s.x * v.x ∧ |s.x| ≤ |v.x|)

/-- `endsWithin` IS the Boolean the model's `handleCoincidentEdgesBelow` computes (`let endsWithin : Bool := ..`) -/
theorem endsWithin_iff_model (v sv : P K) :
    (decide (Scalar.abs v.x ≤ Scalar.abs v.y) || (decide (sv.x * v.x ≥ (Scalar.zero : K)) && decide (Scalar.abs sv.x ≤ Scalar.abs v.x)))
      = true ↔ endsWithin v sv := by
  rw [C07.zero_K]
  simp only [Bool.or_eq_true, Bool.and_eq_true, decide_eq_true_eq, endsWithin, ge_iff_le]
  rfl

theorem between_of_mul_nonneg {u v : K} (h : 0 ≤ u * v) (ha : |u| ≤ |v|) (hv : v ≠ 0) :
    (0 ≤ u ∧ u ≤ v) ∨ (v ≤ u ∧ u ≤ 0) := by
  rcases lt_or_gt_of_ne hv with hn | hp
  · have hu := nonpos_of_mul_nonneg_left h hn
    rw [abs_of_nonpos hu, abs_of_neg hn, neg_le_neg_iff] at ha
    exact Or.inr ⟨ha, hu⟩
  · have hu := nonneg_of_mul_nonneg_left h hp
    rw [abs_of_nonneg hu, abs_of_pos hp] at ha
    exact Or.inl ⟨hu, ha⟩

/-- **under the guard the split parameter of `merge_coincident_edges` is in `[0,1]`**: `cur` the current
position, `long` the end of the edge that ends later in sweep order, `short` the other end (both below `cur`) -/
theorem merge_guard_unit (cur long short : P K) (hg : endsWithin (long - cur) (short - cur)) (hy0 : cur.y ≤ short.y)
    (hy1 : short.y ≤ long.y) : 0 ≤ Sources.splitT cur long short ∧ Sources.splitT cur long short ≤ 1 := by
  refine C07b.splitT_unit_all cur long short (fun hb => ?_) fun _ => Or.inl ⟨hy0, hy1⟩
  rcases hg with hg | ⟨hs, ha⟩
  · exact absurd hb (not_lt.mpr hg)
  · rcases between_of_mul_nonneg hs ha (ne_zero_of_abs_lt hb) with ⟨h1, h2⟩ | ⟨h1, h2⟩
    · exact Or.inl ⟨sub_nonneg.mp h1, (sub_le_sub_iff_right _).mp h2⟩
    · exact Or.inr ⟨(sub_le_sub_iff_right _).mp h1, sub_nonpos.mp h2⟩

end field

end Lyon.SweepPos
