/-
  Index validity, monotone stage (`Model/Tess/Monotone.lean`): every vertex id stored in a
  `Basic` / `SideEv` / `Adv` tessellator and every triangle it has recorded is below a bound `n`
  (the number of vertices the sweep has emitted so far).  Established by `begin` (whatever the
  pooled tessellator it overwrites held), preserved by `vertex`, `flush_side`, `end`, monotone in
  `n`.  `Adv.vertex` and `Adv.end_` are read through their schedule (`Lemmas/MonotoneAdvWalk.lean`: sequences of
  flush-and-forward and push), against which "all ids `< n`" is the simplest motive; the triangles of a flushed
  chain through the normal form of the doubling loop (`ChainTri`, `Lemmas/MonotoneAdv.lean`).
  Purely discrete: no arithmetic law of the scalar type is used.
-/
import LyonVerif.Lemmas.MonotoneAdv

set_option linter.unusedSectionVars false

namespace Lyon.SweepIdx
open Lyon Lyon.Scalar Lyon.Mono Lyon.C02c

variable {α : Type} [Scalar α]

/-- all three corner ids of a triangle are `< n` -/
def TriLt (n : Nat) (t : Tri) : Prop := t.1 < n ∧ t.2.1 < n ∧ t.2.2 < n

def TrisLt (n : Nat) (l : List Tri) : Prop := ∀ t ∈ l, TriLt n t

theorem TrisLt.nil (n : Nat) : TrisLt n [] := by intro t ht; cases ht

theorem TrisLt.append {n : Nat} {a b : List Tri} (ha : TrisLt n a) (hb : TrisLt n b) : TrisLt n (a ++ b) := by
  intro t ht
  rcases List.mem_append.mp ht with h | h
  · exact ha t h
  · exact hb t h

theorem TrisLt.cons {n : Nat} {t : Tri} {l : List Tri} (ht : TriLt n t) (hl : TrisLt n l) : TrisLt n (t :: l) := by
  intro u hu
  rcases List.mem_cons.mp hu with h | h
  · exact h ▸ ht
  · exact hl u h

theorem TrisLt.mono {n m : Nat} {l : List Tri} (h : TrisLt n l) (hnm : n ≤ m) : TrisLt m l := by
  intro t ht
  obtain ⟨a, b, c⟩ := h t ht
  exact ⟨by omega, by omega, by omega⟩

structure BasicOk (n : Nat) (b : Basic α) : Prop where
  stack : ∀ v ∈ b.stack, v.id < n
  prev : b.previous.id < n
  tris : TrisLt n b.tris

theorem BasicOk.mono {n m : Nat} {b : Basic α} (h : BasicOk n b) (hnm : n ≤ m) : BasicOk m b :=
  ⟨fun v hv => Nat.lt_of_lt_of_le (h.stack v hv) hnm, Nat.lt_of_lt_of_le h.prev hnm, h.tris.mono hnm⟩

theorem basic_begin_ok {n : Nat} (pos : P α) (id : Nat) (h : id < n) : BasicOk n (Basic.begin pos id) := by
  refine ⟨?_, h, TrisLt.nil n⟩
  intro v hv
  simp only [Basic.begin, List.mem_singleton] at hv
  subst hv; exact h

theorem fanTri_lt {n : Nat} (cur a b : MV α) (hc : cur.id < n) (ha : a.id < n) (hb : b.id < n) :
    TriLt n (fanTri cur a b) := by
  unfold fanTri
  split
  · exact ⟨ha, hb, hc⟩
  · exact ⟨hb, ha, hc⟩

theorem fanTris_lt {n : Nat} (cur : MV α) (hc : cur.id < n) :
    ∀ l : List (MV α), (∀ v ∈ l, v.id < n) → TrisLt n (fanTris cur l)
  | [], _ => TrisLt.nil n
  | [_], _ => TrisLt.nil n
  | a :: b :: r, h => by
    simp only [fanTris]
    refine TrisLt.cons (fanTri_lt cur a b hc (h a (by simp)) (h b (by simp))) ?_
    exact fanTris_lt cur hc (b :: r) (fun v hv => h v (List.mem_cons_of_mem _ hv))

theorem earTri_lt {n : Nat} (cur lp top : MV α) (hc : cur.id < n) (hl : lp.id < n) (ht : top.id < n) :
    TriLt n (earTri cur lp top) := by
  unfold earTri
  split
  · exact ⟨ht, hl, hc⟩
  · exact ⟨hl, ht, hc⟩

theorem popLoop_lt {n : Nat} (cur : MV α) (hc : cur.id < n) :
    ∀ (l : List (MV α)) (lp : MV α), lp.id < n → (∀ v ∈ l, v.id < n) →
      (∀ v ∈ (popLoop cur lp l).1, v.id < n) ∧ TrisLt n (popLoop cur lp l).2
  | [], lp, hl, _ => by
    simp only [popLoop]
    exact ⟨List.forall_mem_singleton.2 hl, TrisLt.nil n⟩
  | top :: rest, lp, hl, h => by
    obtain ⟨ht, hr⟩ := List.forall_mem_cons.1 h
    have ih := popLoop_lt cur hc rest top ht hr
    simp only [popLoop]
    split
    · exact ⟨ih.1, TrisLt.cons (earTri_lt cur lp top hc hl ht) ih.2⟩
    · exact ⟨List.forall_mem_cons.2 ⟨hl, h⟩, TrisLt.nil n⟩

theorem basic_vertex_ok {n : Nat} {b : Basic α} (h : BasicOk n b) (cur : MV α) (hc : cur.id < n) :
    BasicOk n (b.vertex cur) := by
  unfold Basic.vertex
  split
  · refine ⟨?_, hc, h.tris.append (fanTris_lt cur hc _ ?_)⟩
    · exact List.forall_mem_cons.2 ⟨hc, List.forall_mem_singleton.2 h.prev⟩
    · intro v hv
      exact h.stack v (List.mem_reverse.mp hv)
  · split
    · exact ⟨List.forall_mem_singleton.2 hc, hc, h.tris⟩
    · rename_i top rest hs
      obtain ⟨ht, hr⟩ := List.forall_mem_cons.1 (hs ▸ h.stack)
      have hp := popLoop_lt cur hc rest top ht hr
      exact ⟨List.forall_mem_cons.2 ⟨hc, hp.1⟩, hc, h.tris.append hp.2⟩

theorem basic_end_ok {n : Nat} {b : Basic α} (h : BasicOk n b) (pos : P α) (id : Nat) (hi : id < n) :
    BasicOk n (b.end_ pos id) := by
  have hv := basic_vertex_ok h ⟨pos, id, !b.previous.left⟩ hi
  unfold Basic.end_
  exact ⟨(by intro v hv; cases hv), hv.prev, hv.tris⟩

theorem basic_pushTris_ok {n : Nat} {b : Basic α} (h : BasicOk n b) {t : List Tri} (ht : TrisLt n t) :
    BasicOk n (b.pushTris t) :=
  ⟨h.stack, h.prev, h.tris.append ht⟩

theorem basic_fwd_ok {n : Nat} {b : Basic α} (h : BasicOk n b) (v : Option (MV α))
    (hv : ∀ x, v = some x → x.id < n) : BasicOk n (b.fwd v) := by
  cases v with
  | none => exact h
  | some x => exact basic_vertex_ok h x (hv x rfl)

structure SideOk (n : Nat) (s : SideEv α) : Prop where
  events : ∀ i ∈ s.events, i < n
  last : s.last.id < n

theorem SideOk.mono {n m : Nat} {s : SideEv α} (h : SideOk n s) (hnm : n ≤ m) : SideOk m s :=
  ⟨fun i hi => Nat.lt_of_lt_of_le (h.events i hi) hnm, Nat.lt_of_lt_of_le h.last hnm⟩

theorem side_push_ok {n : Nat} {s : SideEv α} (h : SideOk n s) (v : MV α) (hv : v.id < n) :
    SideOk n (s.push v) := by
  refine ⟨?_, hv⟩
  intro i hi
  simp only [SideEv.push, List.mem_append, List.mem_singleton] at hi
  rcases hi with e | e
  · exact h.events i e
  · exact e ▸ hv

/-- `ev[i]` with the model's default `0`: below `n` as soon as every event is and `0 < n` -/
theorem getD_lt {n : Nat} (ev : List Nat) (h : ∀ i ∈ ev, i < n) (hn : 0 < n) (k : Nat) :
    ev.toArray.getD k 0 < n := by
  by_cases hk : k < ev.length
  · have : ev.toArray.getD k 0 = ev[k] := by
      simp [Array.getD, hk]
    rw [this]
    exact h _ (List.getElem_mem hk)
  · have : ev.toArray.getD k 0 = 0 := by
      simp [Array.getD, hk]
    rw [this]; exact hn

/-- a triangle of the normal form of the doubling loop (`ChainTri`, `Lemmas/MonotoneAdv.lean`) has its corners among
the events -/
theorem chainTri_lt {n : Nat} {ev : Array Nat} {len : Nat} {right : Bool} {t : Tri} (g : ∀ k, ev.getD k 0 < n)
    (h : ChainTri ev len right t) : TriLt n t := by
  obtain ⟨a, b, c, _, _, _, h⟩ := h
  split at h
  · rcases h with rfl | rfl <;> exact ⟨g _, g _, g _⟩
  · exact h ▸ ⟨g _, g _, g _⟩

theorem flushLevels_lt {n : Nat} (ev : List Nat) (h : ∀ i ∈ ev, i < n) (hn : 0 < n) (len : Nat) (right : Bool)
    (fuel : Nat) : TrisLt n (flushLevels ev.toArray len right fuel 1) :=
  fun t ht => chainTri_lt (getD_lt ev h hn) (flushLevels_chainTri ev.toArray len right fuel 1 (Nat.le_refl 1) t ht)

theorem flushSide_ok {n : Nat} {s : SideEv α} (h : SideOk n s) (right : Bool) :
    SideOk n (flushSide s right).1 ∧ TrisLt n (flushSide s right).2.1 ∧
      ∀ v, (flushSide s right).2.2 = some v → v.id < n := by
  have hn : 0 < n := Nat.lt_of_le_of_lt (Nat.zero_le _) h.last
  by_cases hl : s.events.length < 2
  · simp only [flushSide, hl, if_true]
    exact ⟨h, TrisLt.nil n, by intro v hv; cases hv⟩
  · simp only [flushSide, hl, if_false]
    refine ⟨⟨?_, h.last⟩, flushLevels_lt s.events h.events hn _ right _, ?_⟩
    · intro i hi
      simp only [List.mem_singleton] at hi
      exact hi ▸ h.last
    · intro v hv
      simp only [Option.some.injEq] at hv
      exact hv ▸ h.last

structure AdvOk (n : Nat) (t : Adv α) : Prop where
  tess : BasicOk n t.tess
  left : SideOk n t.left
  right : SideOk n t.right

theorem AdvOk.mono {n m : Nat} {t : Adv α} (h : AdvOk n t) (hnm : n ≤ m) : AdvOk m t :=
  ⟨h.tess.mono hnm, h.left.mono hnm, h.right.mono hnm⟩

/-- `begin` overwrites every id of the pooled tessellator it reuses: no constraint on `old` -/
theorem adv_begin_ok {n : Nat} (old : Adv α) (pos : P α) (id : Nat) (h : id < n) :
    AdvOk n (Adv.begin old pos id) := by
  refine ⟨basic_begin_ok pos id h, ⟨?_, h⟩, ⟨?_, h⟩⟩ <;>
  · intro i hi
    simp only [Adv.begin, List.mem_singleton] at hi
    exact hi ▸ h

theorem SideOk.of_ids {n : Nat} {s s' : SideEv α} (h : SideOk n s) (he : s'.events = s.events)
    (hl : s'.last = s.last) : SideOk n s' :=
  ⟨he ▸ h.events, hl ▸ h.last⟩

theorem ffTess_ok {n : Nat} {t : Basic α} {a : SideEv α} (ht : BasicOk n t) (ha : SideOk n a) (r : Bool)
    (h2 : 2 ≤ a.events.length) : BasicOk n (ffTess t a r) ∧ SideOk n (flushSide a r).1 := by
  have h := flushSide_ok ha r
  rcases flushSide_cases a r with ⟨hl, _⟩ | ⟨_, _, _, e3, _⟩
  · omega
  · exact ⟨basic_vertex_ok (basic_pushTris_ok ht (e3 ▸ h.2.1)) _ ha.last, h.1⟩

theorem adv_vertex_ok {n : Nat} {st : Adv α} (h : AdvOk n st) (pos : P α) (id : Nat) (isLeft : Bool) (hi : id < n) :
    AdvOk n (st.vertex pos id isLeft) :=
  vertex_walk (I := fun _ t a b => AdvOk n ⟨t, a, b⟩) (I' := fun _ t a b => AdvOk n ⟨t, a, b⟩)
    (fun h => ⟨h.tess, h.right, h.left⟩) (fun h => ⟨h.tess, h.right, h.left⟩) st pos id isLeft
    (fun t a b hI dx _ => stepSides_ind (J := fun t a b => AdvOk n ⟨t, a, b⟩) (J' := fun t a b => AdvOk n ⟨t, a, b⟩)
      t (updSide a pos isLeft) b dx pos id isLeft
      ⟨hI.tess, hI.left.of_ids (s' := updSide a pos isLeft) (by cases isLeft <;> rfl) (by cases isLeft <;> rfl), hI.right⟩
      (fun t a b hJ hb _ => ⟨(ffTess_ok hJ.tess hJ.right _ hb).1, hJ.left.of_ids rfl rfl, (ffTess_ok hJ.tess hJ.right _ hb).2⟩)
      (fun t a b hJ ha _ => ⟨(ffTess_ok hJ.tess hJ.left _ ha).1, (ffTess_ok hJ.tess hJ.left _ ha).2.of_ids rfl rfl,
        hJ.right.of_ids rfl rfl⟩)
      (fun t' a' b' hJ _ => ⟨hJ.tess, side_push_ok hJ.left _ hi, hJ.right⟩))
    h

/-- the triangles of `Adv.end_` (what `Spans::end_span` emits): those of the schedule, up to order -/
theorem adv_end_tris {n : Nat} {st : Adv α} (h : AdvOk n st) (pos : P α) (id : Nat) (hi : id < n) :
    TrisLt n (st.end_ pos id).tris := by
  obtain ⟨t, a, b, hJ, _, _, hp⟩ := end_walk (J := fun t a b => AdvOk n ⟨t, a, b⟩) st pos id h
    (fun t a b hJ ha _ => ⟨(ffTess_ok hJ.tess hJ.left _ ha).1, (ffTess_ok hJ.tess hJ.left _ ha).2, hJ.right⟩)
    (fun t a b hJ hb _ => ⟨(ffTess_ok hJ.tess hJ.right _ hb).1, hJ.left, (ffTess_ok hJ.tess hJ.right _ hb).2⟩)
  exact fun x hx => (basic_end_ok hJ.tess pos id hi).tris x (hp.mem_iff.mp hx)

end Lyon.SweepIdx
