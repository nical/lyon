/-
  Range bookkeeping of the clipper model (`Model/Geom/Clip.lean`) over an ordered field: every
  parameter that any branch can report lies in [0,1] — roots are filtered to (0,1), extremal
  parameters are 0, 1 or filtered roots (`Clip.C1` is `Cubic1` of Model/Geom/Extrema.lean again, the
  facts about which are in Lemmas/Extrema.lean), sampled tenths and domain values are convex combinations of domain ends, clip values are interpolated
  between hull vertices with abscissae in [0,1].
-/
import LyonVerif.Lemmas.ClipHullCases
import LyonVerif.Props.C12
import LyonVerif.Lemmas.Extrema
import LyonVerif.Lemmas.ListFold

set_option linter.unusedSectionVars false

namespace Lyon.Clip
open Lyon Scalar
variable {K : Type} [Field K] [LinearOrder K] [IsStrictOrderedRing K]

/-- `0 ≤ x ≤ 1` -/
def In01 (x : K) : Prop := 0 ≤ x ∧ x ≤ 1
def PairsIn01 (l : List (K × K)) : Prop := ∀ p ∈ l, In01 p.1 ∧ In01 p.2

theorem in01_zero : In01 (Scalar.zero : K) := by simp [In01, Scalar.zero]
theorem in01_one : In01 (Scalar.one : K) := by simp [In01, Scalar.one]
theorem in01_of_open {t : K} (h : t > (Scalar.zero : K) ∧ t < Scalar.one) : In01 t := by
  rw [sc_zero_eq, sc_one_eq] at h
  exact ⟨h.1.le, h.2.le⟩
theorem pairsIn01_nil : PairsIn01 ([] : List (K × K)) := fun _ h => by cases h

theorem pairsIn01_append {l : List (K × K)} {a b : K} (hl : PairsIn01 l) (ha : In01 a) (hb : In01 b) :
    PairsIn01 (l ++ [(a, b)]) := by
  intro p hp
  rcases List.mem_append.mp hp with h | h
  · exact hl p h
  · rw [List.mem_singleton] at h; subst h; exact ⟨ha, hb⟩

theorem in01_lerp {p q lam : K} (hp : In01 p) (hq : In01 q) (hl : In01 lam) :
    In01 ((1 - lam) * p + lam * q) :=
  Hull.lerp_mem hl.1 hl.2 hp hq

theorem domainValueAtT_in01 {d : K × K} {t : K} (h1 : In01 d.1) (h2 : In01 d.2) (ht : In01 t) :
    In01 (domainValueAtT d t) := by
  have e : domainValueAtT d t = (1 - t) * d.1 + t * d.2 := by unfold domainValueAtT; ring
  rw [e]; exact in01_lerp h1 h2 ht

theorem domMid_in01 {d : K × K} (h1 : In01 d.1) (h2 : In01 d.2) : In01 (domMid d) := by
  unfold domMid In01 at *
  rw [sc_half_eq]
  constructor <;> linarith

variable [Transc K] [Eps K]

theorem dedup_mem (t1 t2 : K) (o1 o2 : Cubic K) : ∀ (ixs l : List (K × K)),
    dedup t1 t2 o1 o2 ixs = some l → ∀ p ∈ l, p ∈ ixs ∨ p = (t1, t2)
  | [], l, h => by simp [dedup] at h
  | old :: rest, l, h => by
    rw [dedup] at h
    split_ifs at h with hc hd
    · cases h
      intro p hp
      rcases List.mem_cons.mp hp with h | h
      · exact Or.inr h
      · exact Or.inl (List.mem_cons_of_mem _ h)
    · cases h
      intro p hp; exact Or.inl hp
    · cases hr : dedup t1 t2 o1 o2 rest with
      | none => rw [hr] at h; cases h
      | some l' =>
        rw [hr] at h
        cases h
        intro p hp
        rcases List.mem_cons.mp hp with h | h
        · exact Or.inl (by rw [h]; exact List.mem_cons_self)
        · rcases dedup_mem t1 t2 o1 o2 rest l' hr p h with h' | h'
          · exact Or.inl (List.mem_cons_of_mem _ h')
          · exact Or.inr h'

theorem addIntersectionCore_in01 (t1 t2 : K) (o1 o2 : Cubic K) (ixs : List (K × K))
    (h1 : In01 t1) (h2 : In01 t2) (hl : PairsIn01 ixs) :
    PairsIn01 (addIntersectionCore t1 t2 o1 o2 ixs) := by
  unfold addIntersectionCore
  by_cases hc : (isEndpointParam t1 && isEndpointParam t2) = true
  · rw [if_pos hc]; exact hl
  · rw [if_neg hc]
    cases hd : dedup t1 t2 o1 o2 ixs with
    | some l =>
      intro p hp
      rcases dedup_mem t1 t2 o1 o2 ixs l hd p hp with h | h
      · exact hl p h
      · rw [h]; exact ⟨h1, h2⟩
    | none =>
      show PairsIn01 (if ixs.length < 9 then ixs ++ [(t1, t2)] else ixs)
      split_ifs
      · exact pairsIn01_append hl h1 h2
      · exact hl

theorem addIntersection_in01 (t1 : K) (o1 : Cubic K) (t2 : K) (o2 : Cubic K) (flip : Bool)
    (ixs : List (K × K)) (h1 : In01 t1) (h2 : In01 t2) (hl : PairsIn01 ixs) :
    PairsIn01 (addIntersection t1 o1 t2 o2 flip ixs) := by
  unfold addIntersection
  split_ifs
  · exact addIntersectionCore_in01 _ _ _ _ _ h2 h1 hl
  · exact addIntersectionCore_in01 _ _ _ _ _ h1 h2 hl

theorem solveTFor_in01 (v p0 p1 p2 p3 : K) : ∀ t ∈ solveTFor v p0 p1 p2 p3, In01 t := by
  intro t ht
  unfold solveTFor at ht
  split_ifs at ht
  · cases ht
  · unfold parametersForXY at ht
    have := (List.mem_filter.mp ht).2
    simp only [Bool.and_eq_true, decide_eq_true_eq] at this
    exact in01_of_open this

theorem solveTForX_in01 (c : Cubic K) (x : K) : ∀ t ∈ solveTForX c x, In01 t := solveTFor_in01 _ _ _ _ _
theorem solveTForY_in01 (c : Cubic K) (y : K) : ∀ t ∈ solveTForY c y, In01 t := solveTFor_in01 _ _ _ _ _

theorem foldl_step_fst {β : Type} (step : K × β → K → K × β)
    (hstep : ∀ st t, (step st t).1 = t ∨ step st t = st) (l : List K) (init : K × β) :
    (l.foldl step init).1 = init.1 ∨ (l.foldl step init).1 ∈ l :=
  foldl_inv (fun st => st.1 = init.1 ∨ st.1 ∈ l) step l init (Or.inl rfl) fun st hst t ht => by
    rcases hstep st t with h | h
    · exact Or.inr (h.symm ▸ ht)
    · rwa [h]

/-! `Clip.C1` (Model/Geom/Clip.lean) is `Cubic1` (Model/Geom/Extrema.lean) again, with `Sgn.signum` where the latter
has its own `Cubic1.signum`; over a field the two agree, and the facts about `Cubic1` apply. -/

theorem rootQ_eq (b s : K) : C1.rootQ b s = Cubic1.rootQ b s := by
  unfold C1.rootQ Cubic1.rootQ
  rw [C11.signum_field]; rfl

theorem localExtrema_eq (p0 p1 p2 p3 : K) : C1.localExtrema p0 p1 p2 p3 = Cubic1.localExtrema p0 p1 p2 p3 := by
  unfold C1.localExtrema Cubic1.localExtrema C1.extremaOf Cubic1.extremaOf C1.twoRoots Cubic1.twoRoots
  simp only [rootQ_eq]
  rfl

theorem minT_eq (p0 p1 p2 p3 : K) : C1.minT p0 p1 p2 p3 = Cubic1.minT p0 p1 p2 p3 := by
  unfold C1.minT Cubic1.minT
  rw [localExtrema_eq]; rfl

theorem maxT_eq (p0 p1 p2 p3 : K) : C1.maxT p0 p1 p2 p3 = Cubic1.maxT p0 p1 p2 p3 := by
  unfold C1.maxT Cubic1.maxT
  rw [localExtrema_eq]; rfl

theorem minT_in01 (p0 p1 p2 p3 : K) : In01 (C1.minT p0 p1 p2 p3) :=
  minT_eq p0 p1 p2 p3 ▸ (C11.c1_range_critical p0 p1 p2 p3).2.1

theorem maxT_in01 (p0 p1 p2 p3 : K) : In01 (C1.maxT p0 p1 p2 p3) :=
  maxT_eq p0 p1 p2 p3 ▸ (C11.c1_range_critical p0 p1 p2 p3).1

theorem pciPush_mem (pt : P K) (c : Cubic K) (eps : K) (result : List K) (t : K) :
    ∀ u ∈ pciPush pt c eps result t, u ∈ result ∨ u = t := by
  intro u hu
  unfold pciPush at hu
  split_ifs at hu
  · exact Or.inl hu
  · exact Or.inl hu
  · rcases List.mem_append.mp hu with h | h
    · exact Or.inl h
    · exact Or.inr (List.mem_singleton.mp h)

theorem foldl_pciPush_mem (pt : P K) (c : Cubic K) (eps : K) (ts result : List K) :
    ∀ u ∈ ts.foldl (pciPush pt c eps) result, u ∈ result ∨ u ∈ ts :=
  foldl_inv (fun r => ∀ u ∈ r, u ∈ result ∨ u ∈ ts) _ ts result (fun _ h => Or.inl h)
    fun r hr t ht u hu => (pciPush_mem pt c eps r t u hu).elim (hr u) fun h => Or.inr (h ▸ ht)

theorem pointCurveIntersections_in01 (pt : P K) (c : Cubic K) (eps : K) :
    ∀ t ∈ pointCurveIntersections pt c eps, In01 t := by
  intro t ht
  unfold pointCurveIntersections at ht
  split_ifs at ht
  · rw [List.mem_singleton] at ht; rw [ht]; exact in01_zero
  · rw [List.mem_singleton] at ht; rw [ht]; exact in01_one
  · unfold pciSolved at ht
    rcases foldl_pciPush_mem pt c eps _ _ t ht with h | h
    · rcases foldl_pciPush_mem pt c eps _ _ t h with h' | h'
      · cases h'
      · exact solveTForX_in01 c _ t h'
    · exact solveTForY_in01 c _ t h
  · unfold pciExtremal at ht
    split_ifs at ht
    · rw [List.mem_singleton] at ht; rw [ht]; exact minT_in01 _ _ _ _
    · rw [List.mem_singleton] at ht; rw [ht]; exact maxT_in01 _ _ _ _
    · rw [List.mem_singleton] at ht; rw [ht]; exact minT_in01 _ _ _ _
    · rw [List.mem_singleton] at ht; rw [ht]; exact maxT_in01 _ _ _ _
    · exact absurd ht List.not_mem_nil

theorem lineIntersectionsT_in01 (c : Cubic K) (l : Line K) : ∀ t ∈ c.lineIntersectionsT l, In01 t :=
  C12.cubic_line_roots_in_range c l

theorem lineCurveIntersections_in01 (line curve : Cubic K) (flip : Bool) :
    PairsIn01 (lineCurveIntersections line curve flip) := by
  unfold lineCurveIntersections
  refine foldl_inv PairsIn01 _ _ _ pairsIn01_nil fun res hres ct hct => ?_
  refine foldl_inv PairsIn01 _ _ _ hres fun res' hres' lt hlt => ?_
  refine addIntersection_in01 _ _ _ _ _ _ ?_ (lineIntersectionsT_in01 _ _ ct hct) hres'
  unfold lineParamsAt at hlt
  split_ifs at hlt
  · exact solveTForY_in01 _ _ _ hlt
  · exact solveTForX_in01 _ _ _ hlt

theorem parametersForLinePoint_in01 (c : Cubic K) (pt : P K) : ∀ t ∈ parametersForLinePoint c pt, In01 t := by
  intro t ht
  unfold parametersForLinePoint at ht
  split_ifs at ht
  · exact solveTForY_in01 _ _ _ ht
  · exact solveTForX_in01 _ _ _ ht

theorem lineLinePairs_in01 (c1 c2 : Cubic K) (l1 l2 : List K) (h1 : ∀ t ∈ l1, In01 t)
    (h2 : ∀ t ∈ l2, In01 t) : PairsIn01 (lineLinePairs c1 c2 l1 l2) := by
  unfold lineLinePairs
  exact foldl_inv PairsIn01 _ _ _ pairsIn01_nil fun res hres t1 ht1 => foldl_inv PairsIn01 _ _ _ hres
    fun res' hres' t2 ht2 => addIntersection_in01 _ _ _ _ _ _ (h1 t1 ht1) (h2 t2 ht2) hres'

theorem lineLineIntersections_in01 (c1 c2 : Cubic K) : PairsIn01 (lineLineIntersections c1 c2) := by
  unfold lineLineIntersections
  split
  · exact pairsIn01_nil
  · split_ifs
    · exact pairsIn01_nil
    · exact pairsIn01_nil
    · exact lineLinePairs_in01 _ _ _ _ (parametersForLinePoint_in01 _ _) (parametersForLinePoint_in01 _ _)

theorem pointCases_in01 (c1 c2 : Cubic K) : PairsIn01 (pointCases c1 c2) := by
  unfold pointCases
  split_ifs
  · intro p hp
    obtain ⟨t, ht, rfl⟩ := List.mem_map.mp hp
    exact ⟨in01_zero, pointCurveIntersections_in01 _ _ _ t (List.mem_filter.mp ht).1⟩
  · intro p hp
    obtain ⟨t, ht, rfl⟩ := List.mem_map.mp hp
    exact ⟨pointCurveIntersections_in01 _ _ _ t (List.mem_filter.mp ht).1, in01_zero⟩
  · exact pairsIn01_nil

theorem tenths_in01 : ∀ t ∈ (tenths : List K), In01 t := by
  intro t ht
  simp only [tenths, lit, List.mem_cons, List.mem_nil_iff, or_false] at ht
  unfold In01
  rcases ht with h | h | h | h | h | h | h | h | h | h | h <;> (rw [h]; norm_num)

theorem sampleMin_fst_in01 (pt : P K) (c : Cubic K) (eps : K) : In01 (sampleMin pt c eps).1 := by
  unfold sampleMin
  rcases foldl_step_fst (sampleStep pt c)
    (fun st t => by unfold sampleStep; split_ifs <;> simp) tenths ((Scalar.zero : K), eps) with h | h
  · rw [h]; exact in01_zero
  · exact tenths_in01 _ h

theorem addPointCurveWith_in01 (eps : K) (ptCurve curve : Cubic K) (ptDomain curveDomain : K × K)
    (flip : Bool) (ixs : List (K × K)) (hp1 : In01 ptDomain.1) (hp2 : In01 ptDomain.2)
    (hc1 : In01 curveDomain.1) (hc2 : In01 curveDomain.2) (hl : PairsIn01 ixs) :
    PairsIn01 (addPointCurveWith eps ptCurve curve ptDomain curveDomain flip ixs) := by
  unfold addPointCurveWith
  have hm := domMid_in01 hp1 hp2
  split_ifs with h
  · apply addIntersection_in01 _ _ _ _ _ _ hm _ hl
    unfold sampledCurveT at h ⊢
    split_ifs at h ⊢ with h'
    · simp at h
    · exact domainValueAtT_in01 hc1 hc2 (sampleMin_fst_in01 _ _ _)
  · exact foldl_inv PairsIn01 _ _ _ hl fun res hres t ht => addIntersection_in01 _ _ _ _ _ _ hm
      (domainValueAtT_in01 hc1 hc2 (pointCurveIntersections_in01 _ _ _ t ht)) hres

theorem addPointCurveIntersection_in01 (ptCurve : Cubic K) (b : Bool) (curve : Cubic K)
    (ptDomain curveDomain : K × K) (flip : Bool) (st : State K) (hp1 : In01 ptDomain.1)
    (hp2 : In01 ptDomain.2) (hc1 : In01 curveDomain.1) (hc2 : In01 curveDomain.2)
    (hl : PairsIn01 st.ixs) :
    PairsIn01 (addPointCurveIntersection ptCurve b curve ptDomain curveDomain flip st).ixs := by
  unfold addPointCurveIntersection
  split
  · exact hl
  · exact addPointCurveWith_in01 _ _ _ _ _ _ _ hp1 hp2 hc1 hc2 hl

theorem walk_top_in01 {thr : K} : ∀ (p : P K) (l : List (P K)), p.y < thr →
    (∀ v ∈ p :: l, In01 v.x) → ∀ x, walkEdges true thr (p :: l) = some x → In01 x
  | p, [], _, _, x, hw => by simp at hw
  | p, q :: rest, hp, hv, x, hw => by
    have hpx := hv p List.mem_cons_self
    have hqx := hv q (List.mem_cons_of_mem _ List.mem_cons_self)
    rcases lt_trichotomy q.y thr with h | h | h
    · rw [walkEdges_top_skip _ _ _ _ h] at hw
      exact walk_top_in01 q rest h (fun v hv' => hv v (List.mem_cons_of_mem _ hv')) x hw
    · rw [walkEdges_top_eq _ _ _ _ h] at hw
      rw [← Option.some.inj hw]; exact hqx
    · rw [walkEdges_top_gt _ _ _ _ h] at hw
      rw [← Option.some.inj hw]
      have hdy : 0 < q.y - p.y := by linarith
      have e : p.x + (thr - p.y) * (q.x - p.x) / (q.y - p.y)
          = (1 - (thr - p.y) / (q.y - p.y)) * p.x + (thr - p.y) / (q.y - p.y) * q.x := by
        rw [mul_div_right_comm]; ring
      rw [e]
      exact in01_lerp hpx hqx ⟨div_nonneg (by linarith) hdy.le, (div_le_one hdy).mpr (by linarith)⟩

theorem walk_bot_in01 {thr : K} (p : P K) (l : List (P K)) (hp : thr < p.y)
    (hv : ∀ v ∈ p :: l, In01 v.x) (x : K) (hw : walkEdges false thr (p :: l) = some x) : In01 x := by
  rw [walkEdges_bot_eq, List.map_cons] at hw
  refine walk_top_in01 (thr := -thr) (negY p) (l.map negY) (by simp only [negY_y]; linarith) ?_ x hw
  intro v hv'
  rw [← List.map_cons] at hv'
  obtain ⟨w, hw', rfl⟩ := List.mem_map.mp hv'
  exact hv w hw'

theorem walkStart_in01 (top bottom : List (P K)) (dMin dMax : K)
    (ht : ∀ v ∈ top, In01 v.x) (hb : ∀ v ∈ bottom, In01 v.x)
    (hhead : top.head? = bottom.head?) (x : K)
    (hw : walkStart top bottom dMin dMax = some x) : In01 x := by
  cases top with
  | nil => simp [walkStart] at hw
  | cons s top' =>
    obtain ⟨b', hb'⟩ := List.head?_eq_some_iff.mp hhead.symm
    by_cases h1 : s.y < dMin
    · rw [walkStart_below _ _ _ _ _ h1] at hw
      exact walk_top_in01 s top' h1 ht x hw
    · by_cases h2 : s.y > dMax
      · rw [walkStart_above _ _ _ _ _ h1 h2, hb'] at hw
        exact walk_bot_in01 s b' h2 (by rw [← hb']; exact hb) x hw
      · rw [walkStart_inside _ _ _ _ _ h1 h2] at hw
        rw [← Option.some.inj hw]; exact ht s List.mem_cons_self

theorem clipHull_in01 {F : K → K} {top bottom : List (P K)} (h : HullOK F top bottom)
    (ht : ∀ v ∈ top, In01 v.x) (hb : ∀ v ∈ bottom, In01 v.x) (dMin dMax lo hi : K)
    (hc : clipHull top bottom dMin dMax = some (lo, hi)) : In01 lo ∧ In01 hi := by
  obtain ⟨s, e, mt, mb, htop, hbot, _⟩ := h.shape
  obtain ⟨h1, h2⟩ := (clipHull_eq ..).mp hc
  exact ⟨walkStart_in01 top bottom dMin dMax ht hb (by rw [htop, hbot]; rfl) lo h1,
    walkStart_in01 top.reverse bottom.reverse dMin dMax (fun v hv => ht v (List.mem_reverse.mp hv))
      (fun v hv => hb v (List.mem_reverse.mp hv)) (by rw [htop, hbot]; simp) hi h2⟩

theorem convexHull_xs (d0 d1 d2 d3 : K) :
    (∀ v ∈ (convexHull d0 d1 d2 d3).1, In01 v.x) ∧ (∀ v ∈ (convexHull d0 d1 d2 d3).2, In01 v.x) := by
  have key : (∀ v ∈ (hullUnflipped d0 d1 d2 d3).1, In01 v.x) ∧ (∀ v ∈ (hullUnflipped d0 d1 d2 d3).2, In01 v.x) := by
    rw [hullUnflipped_eq]
    unfold In01
    split_ifs <;> constructor <;>
      simp only [List.mem_cons, List.mem_nil_iff, or_false, forall_eq_or_imp, forall_eq] <;>
      norm_num
  unfold convexHull
  split_ifs
  · exact ⟨key.2, key.1⟩
  · exact key

theorem restrict_in01 (c1 c2 : Cubic K) (lo hi : K)
    (h : restrictCurveToFatLine c1 c2 = some (lo, hi)) : In01 lo ∧ In01 hi := by
  unfold restrictCurveToFatLine at h
  exact clipHull_in01 (convexHull_ok _ _ _ _) (convexHull_xs _ _ _ _).1 (convexHull_xs _ _ _ _).2 _ _ _ _ h

end Lyon.Clip
