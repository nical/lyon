/-
  C13 over ℝ, under `Props/C13Real.lean`.

  `Props/C13.lean` instantiates the model's `Transc` at `ℝ` with Mathlib's `Real.sqrt / sin / cos /
  tan`, C's `fmod` (`x − trunc(x/m)·m`), `⌈·⌉` and `atan2(y, x) = Complex.arg (x + iy)`
  (`exampleTransc`), and proves the law bundles `exactTrig_real`, `sinSign_real`, `fmod_real_lt`,
  `cast_faithful_real`.  Here: `Complex.arg (x + iy)` IS the `atan2` of C / IEEE-754 (the quadrant rules by
  `Real.arctan`, `atan2_real_quadrants`); the sweep angle computed by `Arc::from_svg_arc` over ℝ, for every
  non-degenerate input: `cos sweep = 1 − 2q`, `sin sweep = 2·coe·q` with `q = min(rf, 1)` the normalised squared
  half chord, hence `sweep ≠ 0`, `sweep = ±π` when the radii do not strictly span the chord, and the closed form
  `|sweep| = arccos(1 − 2·rf)` resp. `2π − arccos(1 − 2·rf)`; the step counts of the Bézier conversions; what
  `rf ≤ 1` means (`SpansChord`, `rfWith`); the ranges `j/n` of the quadratics (`tSeq_all_real`) and when two angles give
  the same point of the ellipse (`pointAt_eq_iff_real`).
-/
import LyonVerif.Props.C13


namespace Lyon.C13
open Lyon Scalar ArcConv

theorem transc_cos_real (x : ℝ) : (Transc.cos x : ℝ) = Real.cos x := rfl
theorem transc_sin_real (x : ℝ) : (Transc.sin x : ℝ) = Real.sin x := rfl
theorem transc_tan_real (x : ℝ) : (Transc.tan x : ℝ) = Real.tan x := rfl
theorem transc_sqrt_real (x : ℝ) : (Transc.sqrt x : ℝ) = Real.sqrt x := rfl
theorem transc_pi_real : (Transc.pi : ℝ) = Real.pi := rfl
theorem transc_atan2_real (y x : ℝ) : (Transc.atan2 y x : ℝ) = Complex.arg ⟨x, y⟩ := rfl
theorem transc_ceil_real (x : ℝ) : (Transc.ceil x : ℝ) = ((⌈x⌉ : ℤ) : ℝ) := rfl
theorem transc_toNat_real (x : ℝ) : (Transc.toNat x : Nat) = ⌊x⌋.toNat := rfl

/-- `atan2(y, x)` of C / IEEE-754 on the reals, by quadrants, with `Real.arctan` -/
noncomputable def atan2Quadrant (y x : ℝ) : ℝ :=
  if 0 < x then Real.arctan (y / x)
  else if x < 0 then (if 0 ≤ y then Real.arctan (y / x) + Real.pi else Real.arctan (y / x) - Real.pi)
  else if 0 < y then Real.pi / 2
  else if y < 0 then -(Real.pi / 2)
  else 0

/-- the `atan2` of the real instance follows the quadrant rules of libm's `atan2`:
`x > 0`: `arctan(y/x)`; `x < 0`: `arctan(y/x) ± π` (sign of `y`, `+π` for `y = 0`);
`x = 0`: `±π/2` (sign of `y`), and `atan2(0, 0) = 0`. -/
theorem atan2_real_quadrants (y x : ℝ) : (Transc.atan2 y x : ℝ) = atan2Quadrant y x := by
  rw [transc_atan2_real]
  unfold atan2Quadrant
  set z : ℂ := ⟨x, y⟩ with hz
  have hre : z.re = x := rfl
  have him : z.im = y := rfl
  have htan : Real.tan z.arg = y / x := by rw [Complex.tan_arg]
  by_cases hx : 0 < x
  · rw [if_pos hx]
    have h := Complex.abs_arg_lt_pi_div_two_iff.mpr (Or.inl (by rw [hre]; exact hx) : 0 < z.re ∨ z = 0)
    rw [abs_lt] at h
    rw [← htan, Real.arctan_tan h.1 h.2]
  · rw [if_neg hx]
    by_cases hx' : x < 0
    · rw [if_pos hx']
      by_cases hy : 0 ≤ y
      · rw [if_pos hy]
        have h1 : ¬ z.arg ≤ Real.pi / 2 := by
          rw [Complex.arg_le_pi_div_two_iff, hre, him]
          rw [not_or, not_le, not_lt]; exact ⟨hx', hy⟩
        have h2 := Complex.arg_le_pi z
        rw [← htan, ← Real.tan_sub_pi, Real.arctan_tan (by linarith) (by linarith)]
        ring
      · rw [if_neg hy]
        have h1 : ¬ -(Real.pi / 2) ≤ z.arg := by
          rw [Complex.neg_pi_div_two_le_arg_iff, hre, him]
          rw [not_or, not_le, not_le]; exact ⟨hx', not_le.mp hy⟩
        have h2 := Complex.neg_pi_lt_arg z
        rw [← htan, ← Real.tan_add_pi, Real.arctan_tan (by linarith) (by linarith)]
        ring
    · rw [if_neg hx']
      have hx0 : x = 0 := le_antisymm (not_lt.mp hx) (not_lt.mp hx')
      by_cases hy : 0 < y
      · rw [if_pos hy]
        exact Complex.arg_eq_pi_div_two_iff.mpr ⟨by rw [hre]; exact hx0, by rw [him]; exact hy⟩
      · rw [if_neg hy]
        by_cases hy' : y < 0
        · rw [if_pos hy']
          exact Complex.arg_eq_neg_pi_div_two_iff.mpr ⟨by rw [hre]; exact hx0, by rw [him]; exact hy'⟩
        · rw [if_neg hy']
          have hy0 : y = 0 := le_antisymm (not_lt.mp hy) (not_lt.mp hy')
          have : z = 0 := Complex.ext (by rw [hre, hx0]; rfl) (by rw [him, hy0]; rfl)
          rw [this, Complex.arg_zero]

theorem atan2_real_range (y x : ℝ) :
    -Real.pi < (Transc.atan2 y x : ℝ) ∧ (Transc.atan2 y x : ℝ) ≤ Real.pi :=
  ⟨Complex.neg_pi_lt_arg _, Complex.arg_le_pi _⟩

/-- the normalised squared half chord `(p.x/rx)² + (p.y/ry)²` with the (scaled) radii: `min(rf, 1)` -/
noncomputable def qOf (a : SvgArc ℝ) : ℝ :=
  (pt a).x / rx a * ((pt a).x / rx a) + (pt a).y / ry a * ((pt a).y / ry a)

section sweep
variable (a : SvgArc ℝ) (hrx : a.radii.x ≠ 0) (hry : a.radii.y ≠ 0) (hne : a.from_ ≠ a.to)
include hrx hry hne

theorem qOf_bounds : 0 < qOf a ∧ qOf a ≤ 1 ∧ (1 < rf a → qOf a = 1) ∧ (rf a ≤ 1 → qOf a = rf a) := by
  obtain ⟨h0, h1, h2⟩ := q_bounds exactTrig_real a hrx hry hne
  exact ⟨h0, h1, h2, fun h => q_eq_rf a (not_lt.mpr h)⟩

theorem qOf_eq_min : qOf a = Min.min (rf a) 1 := by
  obtain ⟨_, _, h2, h3⟩ := qOf_bounds a hrx hry hne
  rcases le_or_gt (rf a) 1 with h | h
  · rw [h3 h, min_eq_left h]
  · rw [h2 h, min_eq_right (le_of_lt h)]

omit hrx hry hne in
theorem sweep_shift_real :
    ∃ m : ℤ, (fromSvgArc a).sweep = (exactAngle (endV a) - exactAngle (startV a)) + (m : ℝ) * (2 * Real.pi) := by
  obtain ⟨m, hm⟩ := sweep_shift exactTrig_real a
  exact ⟨m, by rw [← twoPi_real]; exact hm⟩

/-- `cos(sweep) = start_v · end_v = 1 − 2q` -/
theorem cos_sweep_real : Real.cos (fromSvgArc a).sweep = 1 - 2 * qOf a := by
  have hk := coe_sq exactTrig_real a hrx hry hne
  obtain ⟨⟨hcS, hsS⟩, hcE, hsE⟩ := startV_endV_angles exactTrig_real a hrx hry hne
  rw [transc_cos_real] at hcS hcE
  rw [transc_sin_real] at hsS hsE
  obtain ⟨m, hm⟩ := sweep_shift_real a
  obtain ⟨sx, sy, ex, ey⟩ := startV_endV_eq exactTrig_real a hrx hry hne
  rw [hm, Real.cos_add_int_mul_two_pi, Real.cos_sub, hcS, hsS, hcE, hsE, sx, sy, ex, ey]
  rw [qK] at hk
  unfold qOf
  linear_combination hk

/-- `sin(sweep) = start_v × end_v = 2·coe·q` -/
theorem sin_sweep_real : Real.sin (fromSvgArc a).sweep = 2 * coe a * qOf a :=
  sin_sweep exactTrig_real a hrx hry hne sinSign_real

omit hrx hry hne in
theorem sweep_range_real :
    (a.sweep = true → 0 ≤ (fromSvgArc a).sweep ∧ (fromSvgArc a).sweep < 2 * Real.pi)
    ∧ (a.sweep = false → -(2 * Real.pi) < (fromSvgArc a).sweep ∧ (fromSvgArc a).sweep ≤ 0) := by
  obtain ⟨h1, h2, _⟩ := svg_arc_sweep_sign exactAngle a fmod_real_lt
  rw [twoPi_real] at h1 h2
  exact ⟨h1, h2⟩

/-- the two polar angles differ because `from ≠ to` -/
theorem sweep_ne_zero_real : (fromSvgArc a).sweep ≠ 0 := by
  intro h0
  have hc := cos_sweep_real a hrx hry hne
  rw [h0, Real.cos_zero] at hc
  have := (qOf_bounds a hrx hry hne).1
  linarith

theorem sweep_range_strict_real :
    (a.sweep = true → 0 < (fromSvgArc a).sweep ∧ (fromSvgArc a).sweep < 2 * Real.pi)
    ∧ (a.sweep = false → -(2 * Real.pi) < (fromSvgArc a).sweep ∧ (fromSvgArc a).sweep < 0) := by
  obtain ⟨h1, h2⟩ := sweep_range_real a
  have hne0 := sweep_ne_zero_real a hrx hry hne
  exact ⟨fun h => ⟨lt_of_le_of_ne (h1 h).1 (Ne.symm hne0), (h1 h).2⟩,
    fun h => ⟨(h2 h).1, lt_of_le_of_ne (h2 h).2 hne0⟩⟩

/-- **half turn when the radii do not strictly span the chord** (`rf ≥ 1`, incl. every case in which
the radii are scaled up): the sweep is exactly `π` with the sweep flag and `−π` without -/
theorem sweep_half_turn_real (h : 1 ≤ rf a) :
    (fromSvgArc a).sweep = if a.sweep = true then Real.pi else -Real.pi := by
  have hq : qOf a = 1 := by
    rw [qOf_eq_min a hrx hry hne]; exact min_eq_right h
  have hc := cos_sweep_real a hrx hry hne
  rw [hq] at hc
  obtain ⟨h1, h2⟩ := sweep_range_real a
  set s := (fromSvgArc a).sweep with hs
  cases hf : a.sweep
  · simp only [Bool.false_eq_true, if_false]
    obtain ⟨l, u⟩ := h2 hf
    -- cos (s + π) = 1 with s + π ∈ (-π, π]
    have hc' : Real.cos (s + Real.pi) = 1 := by rw [Real.cos_add_pi, hc]; norm_num
    have := (Real.cos_eq_one_iff_of_lt_of_lt (x := s + Real.pi) (by linarith) (by linarith)).mp hc'
    linarith
  · simp only [if_true]
    obtain ⟨l, u⟩ := h1 hf
    have hc' : Real.cos (s - Real.pi) = 1 := by rw [Real.cos_sub_pi, hc]; norm_num
    have := (Real.cos_eq_one_iff_of_lt_of_lt (x := s - Real.pi) (by linarith) (by linarith)).mp hc'
    linarith

omit hrx hry hne in
theorem abs_sweep_lt_real : |(fromSvgArc a).sweep| < 2 * Real.pi := by
  obtain ⟨h1, h2⟩ := sweep_range_real a
  cases hf : a.sweep
  · obtain ⟨l, u⟩ := h2 hf; rw [abs_of_nonpos u]; linarith
  · obtain ⟨l, u⟩ := h1 hf; rw [abs_of_nonneg l]; exact u

theorem abs_sweep_half_turn_real (h : 1 ≤ rf a) : |(fromSvgArc a).sweep| = Real.pi := by
  rw [sweep_half_turn_real a hrx hry hne h]
  split_ifs
  · exact abs_of_pos Real.pi_pos
  · rw [abs_neg, abs_of_pos Real.pi_pos]

theorem large_iff_real (hq : rf a < 1) : (Real.pi ≤ |(fromSvgArc a).sweep| ↔ a.large = true) := by
  have h := svg_arc_large_flag exactTrig_real a hrx hry hne sinSign_real fmod_real_lt hq
  have e : (toSvgArc (fromSvgArcWith exactAngle a)).large
      = decide (Real.pi ≤ |(fromSvgArc a).sweep|) := by
    show decide (Scalar.abs (fromSvgArc a).sweep ≥ Transc.pi) = _
    simp only [sc_abs, ge_iff_le, transc_pi_real]
  rw [e] at h
  rw [← h]
  simp

/-- `rf` is the squared half chord in the unit-circle frame of the ellipse: `arccos(1 − 2 sin²(θ/2)) = θ` -/
theorem abs_sweep_real (hq : rf a < 1) :
    |(fromSvgArc a).sweep| =
      if a.large = true then 2 * Real.pi - Real.arccos (1 - 2 * rf a) else Real.arccos (1 - 2 * rf a) := by
  have hc := cos_sweep_real a hrx hry hne
  rw [(qOf_bounds a hrx hry hne).2.2.2 (le_of_lt hq)] at hc
  have hl := large_iff_real a hrx hry hne hq
  obtain ⟨h1, h2⟩ := sweep_range_real a
  set s := (fromSvgArc a).sweep with hs
  have habs : 0 ≤ |s| ∧ |s| < 2 * Real.pi := ⟨abs_nonneg _, abs_sweep_lt_real a⟩
  rw [← Real.cos_abs] at hc
  cases hL : a.large
  · simp only [Bool.false_eq_true, if_false]
    have : ¬ Real.pi ≤ |s| := by rw [hl, hL]; simp
    rw [← hc, Real.arccos_cos habs.1 (by linarith)]
  · simp only [if_true]
    have : Real.pi ≤ |s| := hl.mpr hL
    rw [← hc, ← Real.cos_two_pi_sub, Real.arccos_cos (by linarith) (by linarith)]
    ring

end sweep

theorem effSweep_real (arc : Arc ℝ) : effSweep arc = Min.min |arc.sweep| (Real.pi * 2) := by
  simp only [effSweep, geom, Nat.cast_ofNat]; rfl

theorem nStepsQ_real (arc : Arc ℝ) : nStepsQ arc = ((⌈effSweep arc / (Real.pi / 4)⌉ : ℤ) : ℝ) := by
  simp only [nStepsQ, fracPi4, geom, Nat.cast_ofNat]; rfl

theorem nStepsC_real (arc : Arc ℝ) : nStepsC arc = ((⌈effSweep arc / (Real.pi / 2)⌉ : ℤ) : ℝ) := by
  simp only [nStepsC, fracPi2, geom, Nat.cast_ofNat]; rfl

theorem effSweep_nonneg_real (arc : Arc ℝ) : 0 ≤ effSweep arc :=
  effSweep_nonneg arc Real.pi_pos.le

theorem ceil_law_real (arc : Arc ℝ) :
    effSweep arc / fracPi4 ≤ nStepsQ arc ∧ effSweep arc / fracPi2 ≤ nStepsC arc := by
  constructor
  · show effSweep arc / fracPi4 ≤ ((⌈effSweep arc / fracPi4⌉ : ℤ) : ℝ)
    exact Int.le_ceil _
  · show effSweep arc / fracPi2 ≤ ((⌈effSweep arc / fracPi2⌉ : ℤ) : ℝ)
    exact Int.le_ceil _

theorem nSteps_zero_real (arc : Arc ℝ) (h : arc.sweep = 0) : nQ arc = 0 ∧ nC arc = 0 := by
  have he : effSweep arc = 0 := by
    rw [effSweep_real, h, abs_zero]; exact min_eq_left (by have := Real.pi_pos; positivity)
  obtain ⟨c1, c2⟩ := cast_faithful_real arc
  rw [nStepsQ_real, he, zero_div, Int.ceil_zero] at c1
  rw [nStepsC_real, he, zero_div, Int.ceil_zero] at c2
  exact ⟨by exact_mod_cast c1, by exact_mod_cast c2⟩

theorem nSteps_full_turn_real (arc : Arc ℝ) (h : Real.pi * 2 ≤ |arc.sweep|) :
    stepQ arc = Real.pi / 4 * signum arc.sweep ∧ stepC arc = Real.pi / 2 * signum arc.sweep
    ∧ dtQ arc = 1 / 8 ∧ nQ arc = 8 ∧ nC arc = 4 := by
  have he : effSweep arc = Real.pi * 2 := by rw [effSweep_real]; exact min_eq_right h
  have hq : nStepsQ arc = 8 := by
    rw [nStepsQ_real, he, show Real.pi * 2 / (Real.pi / 4) = ((8 : ℤ) : ℝ) by field_simp; norm_num,
      Int.ceil_intCast]
    norm_num
  have hc : nStepsC arc = 4 := by
    rw [nStepsC_real, he, show Real.pi * 2 / (Real.pi / 2) = ((4 : ℤ) : ℝ) by field_simp; norm_num,
      Int.ceil_intCast]
    norm_num
  obtain ⟨c1, c2⟩ := cast_faithful_real arc
  rw [hq] at c1
  rw [hc] at c2
  exact ⟨by simp only [stepQ, stepOf, he, hq]; ring, by simp only [stepC, stepOf, he, hc]; ring,
    by rw [dtQ_eq, hq], by exact_mod_cast c1, by exact_mod_cast c2⟩

theorem step_bounds_real (arc : Arc ℝ) :
    |stepQ arc| ≤ Real.pi / 4 ∧ |stepC arc| ≤ Real.pi / 2 := by
  have hpi : (0 : ℝ) < Transc.pi := Real.pi_pos
  have he := effSweep_nonneg_real arc
  obtain ⟨l1, l2⟩ := ceil_law_real arc
  have b1 := abs_stepOf_le arc _ _ he (by rw [fracPi4_eq]; positivity) l1
  have b2 := abs_stepOf_le arc _ _ he (by rw [fracPi2_eq]; positivity) l2
  rw [fracPi4_eq] at b1
  rw [fracPi2_eq] at b2
  exact ⟨b1, b2⟩

/-- an ellipse with radii `(r1, r2)` (non-zero), x-rotation `φ` and SOME centre passes through both
`p` and `q` -/
def SpansChord (r1 r2 φ : ℝ) (p q : P ℝ) : Prop :=
  ∃ (c : P ℝ) (θ1 θ2 : ℝ), p = c + Arc.sampleEllipse ⟨r1, r2⟩ φ θ1 ∧ q = c + Arc.sampleEllipse ⟨r1, r2⟩ φ θ2

/-- the quantity of F.6.6.2 for arbitrary radii: `(p.x/r1)² + (p.y/r2)²` with `p` the half chord in
the ellipse frame; `rf a = rfWith a |rx| |ry|` -/
noncomputable def rfWith (a : SvgArc ℝ) (r1 r2 : ℝ) : ℝ :=
  (pt a).x * (pt a).x / (r1 * r1) + (pt a).y * (pt a).y / (r2 * r2)

theorem rf_eq_rfWith (a : SvgArc ℝ) : rf a = rfWith a |a.radii.x| |a.radii.y| := by
  simp only [rf, rfWith, rx0, ry0, sc_abs]

/-- a half chord of the unit circle has length at most 1 -/
theorem rfWith_le_one_of_spans (a : SvgArc ℝ) (r1 r2 : ℝ) (h1 : r1 ≠ 0) (h2 : r2 ≠ 0)
    (h : SpansChord r1 r2 a.xrot a.from_ a.to) : rfWith a r1 r2 ≤ 1 := by
  obtain ⟨c, θ1, θ2, hp, hq⟩ := h
  obtain ⟨hc, hs⟩ := cos_sin_xrot exactTrig_real a
  rw [transc_cos_real] at hc
  rw [transc_sin_real] at hs
  have hφ := Real.cos_sq_add_sin_sq a.xrot
  have hpx := congrArg P.x hp
  have hpy := congrArg P.y hp
  have hqx := congrArg P.x hq
  have hqy := congrArg P.y hq
  simp only [Arc.sampleEllipse, Arc.rotate, P.add_def, transc_cos_real, transc_sin_real] at hpx hpy hqx hqy
  have hx : (pt a).x = r1 * (Real.cos θ1 - Real.cos θ2) / 2 := by
    simp only [pt, hd, ← hc, ← hs, hpx, hpy, hqx, hqy, geom, Nat.cast_ofNat]
    linear_combination (r1 * (Real.cos θ1 - Real.cos θ2) / 2) * hφ
  have hy : (pt a).y = r2 * (Real.sin θ1 - Real.sin θ2) / 2 := by
    simp only [pt, hd, ← hc, ← hs, hpx, hpy, hqx, hqy, geom, Nat.cast_ofNat]
    linear_combination (r2 * (Real.sin θ1 - Real.sin θ2) / 2) * hφ
  have e : rfWith a r1 r2 = ((Real.cos θ1 - Real.cos θ2) ^ 2 + (Real.sin θ1 - Real.sin θ2) ^ 2) / 4 := by
    simp only [rfWith, hx, hy]
    field_simp
    ring
  rw [e]
  -- `4 − |e₁ − e₂|² = |e₁ + e₂|²` for unit vectors
  linarith only [Real.cos_sq_add_sin_sq θ1, Real.cos_sq_add_sin_sq θ2,
    sq_nonneg (Real.cos θ1 + Real.cos θ2), sq_nonneg (Real.sin θ1 + Real.sin θ2)]

theorem tSeq_all_real (arc : Arc ℝ) (j : Nat) (hj : j ≤ nQ arc) (hn : 0 < nQ arc) :
    tSeq (nQ arc) (dtQ arc) j = (j : ℝ) / (nQ arc : ℝ) :=
  tSeq_all arc (cast_faithful_real arc).1 j hj hn

theorem pointAt_add_turn_real (arc : Arc ℝ) (θ : ℝ) (k : ℤ) :
    pointAt arc (θ + k * (2 * Real.pi)) = pointAt arc θ := by
  simp only [pointAt, Arc.sampleEllipse, transc_cos_real, transc_sin_real,
    Real.cos_add_int_mul_two_pi, Real.sin_add_int_mul_two_pi]

theorem pointAt_eq_iff_real (arc : Arc ℝ) (h1 : arc.radii.x ≠ 0) (h2 : arc.radii.y ≠ 0) (θ ψ : ℝ) :
    pointAt arc θ = pointAt arc ψ ↔ ∃ k : ℤ, θ - ψ = 2 * Real.pi * k := by
  constructor
  · intro h
    have hx := congrArg P.x h
    have hy := congrArg P.y h
    simp only [pointAt, Arc.sampleEllipse, Arc.rotate, geom, transc_cos_real, transc_sin_real] at hx hy
    have hφ := Real.cos_sq_add_sin_sq arc.xrot
    have ec : arc.radii.x * (Real.cos θ - Real.cos ψ) = 0 := by
      linear_combination (Real.cos arc.xrot) * hx + (Real.sin arc.xrot) * hy
        - (arc.radii.x * (Real.cos θ - Real.cos ψ)) * hφ
    have es : arc.radii.y * (Real.sin θ - Real.sin ψ) = 0 := by
      linear_combination (Real.cos arc.xrot) * hy - (Real.sin arc.xrot) * hx
        - (arc.radii.y * (Real.sin θ - Real.sin ψ)) * hφ
    have hc : Real.cos θ = Real.cos ψ := by
      rcases mul_eq_zero.mp ec with h | h
      · exact absurd h h1
      · linarith
    have hs : Real.sin θ = Real.sin ψ := by
      rcases mul_eq_zero.mp es with h | h
      · exact absurd h h2
      · linarith
    exact Real.Angle.angle_eq_iff_two_pi_dvd_sub.mp (Real.Angle.cos_sin_inj hc hs)
  · rintro ⟨k, hk⟩
    have : θ = ψ + k * (2 * Real.pi) := by linarith
    rw [this, pointAt_add_turn_real]

end Lyon.C13
