/-
  `math_utils::compute_normal` for two unit tangents, in closed form.  Past the first guard (`|v1 + v2|² ≥ 1e-4`) the
  second guard is never taken and the result is the miter vector `perp (v1 + v2) / (1 + v1·v2)`; it has
  `·perp v1 = ·perp v2 = 1` (extruding by it keeps both offset lines at distance 1) and squared length `2 / (1 + v1·v2)`.
  `sqrt` enters only through `sqrt x ≥ 0` and `sqrt x · sqrt x = x`.
-/
import LyonVerif.Lemmas.StrokeParts
import Mathlib.Tactic.Linarith
import Mathlib.Tactic.LinearCombination
import Mathlib.Tactic.FieldSimp


namespace Lyon.Stroke
open Lyon Scalar Lyon.C05

variable {K : Type} [Field K] [LinearOrder K] [IsStrictOrderedRing K]

theorem miter_dot_perp (v1 v2 : P K) (h1 : v1.sqLen = 1) (h2 : v2.sqLen = 1) (hc : 1 + v1.dot v2 ≠ 0) :
    ((perp (v1 + v2)).sdiv (1 + v1.dot v2)).dot (perp v1) = 1
    ∧ ((perp (v1 + v2)).sdiv (1 + v1.dot v2)).dot (perp v2) = 1 := by
  simp only [perp, geom] at h1 h2 hc ⊢
  constructor <;> field_simp
  · linear_combination h1
  · linear_combination h2

theorem miter_sqLen_mul (v1 v2 : P K) (h1 : v1.sqLen = 1) (h2 : v2.sqLen = 1) (hc : 1 + v1.dot v2 ≠ 0) :
    ((perp (v1 + v2)).sdiv (1 + v1.dot v2)).sqLen * (1 + v1.dot v2) = 2 := by
  simp only [perp, geom] at h1 h2 hc ⊢
  field_simp
  linear_combination h1 + h2

variable [Transc K]

theorem computeNormal_closed (v1 v2 : P K) (h1 : v1.sqLen = 1) (h2 : v2.sqLen = 1)
    (hg : ¬ (v1 + v2).sqLen < normalEpsilon)
    (hs0 : 0 ≤ Transc.sqrt (v1 + v2).sqLen)
    (hs : Transc.sqrt (v1 + v2).sqLen * Transc.sqrt (v1 + v2).sqLen = (v1 + v2).sqLen) :
    0 < 1 + v1.dot v2 ∧ computeNormal v1 v2 = (perp (v1 + v2)).sdiv (1 + v1.dot v2) := by
  have hge : (1 : K) / 10000 ≤ (v1 + v2).sqLen := by
    have := not_lt.mp hg; rw [normalEpsilon_eq] at this; exact this
  have hsum : (v1 + v2).sqLen = 2 * (1 + v1.dot v2) := by
    simp only [geom] at h1 h2 ⊢; linear_combination h1 + h2
  have hc : 0 < 1 + v1.dot v2 := by rw [hsum] at hge; linarith
  refine ⟨hc, ?_⟩
  generalize hr : Transc.sqrt (v1 + v2).sqLen = r at hs0 hs
  have hr100 : (1 : K) / 100 ≤ r :=
    nonneg_le_nonneg_of_sq_le_sq hs0 (by rw [show (1 / 100 : K) * (1 / 100) = 1 / 10000 by norm_num, hs]; exact hge)
  have hr0 : 0 < r := lt_of_lt_of_le (by norm_num) hr100
  have hrne : r ≠ 0 := ne_of_gt hr0
  rw [hsum] at hs
  -- the inverse length the second guard tests is `(1 + v1·v2)/r = r/2 ≥ 1/200`
  have hdot : (perp (normalize (v1 + v2))).dot (perp v1) = r / 2 := by
    unfold normalize; rw [hr]
    simp only [perp, geom] at h1 hs ⊢
    field_simp
    linear_combination 2 * h1 - hs
  have hg2 : ¬ Scalar.abs (r / 2) < normalEpsilon := by
    rw [normalEpsilon_eq]
    show ¬ |r / 2| < 1 / 10000
    rw [abs_of_pos (half_pos hr0)]
    intro h; linarith
  unfold computeNormal
  simp only [if_neg hg]
  unfold computeNormalTail
  simp only [hdot, if_neg hg2]
  unfold normalize; rw [hr]
  have hcne : 1 + v1.dot v2 ≠ 0 := ne_of_gt hc
  simp only [perp, geom] at hs hcne ⊢
  apply P.ext' <;> simp only [] <;> field_simp
  · linear_combination (v1.y + v2.y) * hs
  · linear_combination (-(v1.x + v2.x)) * hs
