/-
  The executable rational instance of `Scalar` (`Model/RatScalar.lean`) is the ordered-field instance at `ℚ`:
  what is proved over every ordered field is a statement about the functions the rational executables run.
-/
import LyonVerif.Model.RatScalar
import LyonVerif.Lemmas.Field

namespace Lyon

theorem instScalarRat_eq_fieldScalar : (instScalarRat : Scalar ℚ) = fieldScalar := by
  unfold instScalarRat fieldScalar
  congr
  funext a
  split_ifs with h
  · exact (abs_of_neg h).symm
  · exact (abs_of_nonneg (not_lt.mp h)).symm

end Lyon
