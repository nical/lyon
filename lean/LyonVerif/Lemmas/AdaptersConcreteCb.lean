/-
  C16 with the concrete flatteners, callback side (`Model/Path/AdaptersConcrete.lean`):
  `cbModel tol` = `for_each_flattened_with_t` of lyon_geom's quadratic / cubic segments
  (`Model/Geom/Flatten.lean`), as `builder::Flattened` and `for_each_flattened` use it.

  From C09's structure theorems: whenever lyon_geom does not panic the callbacks are a chain
  from `from` whose last one is `(to, t = 1)`
    * quadratic: for EVERY scalar type (`quad_flat_connected`, `quad_flat_ranges`);
    * cubic: the last callback is `(sample 1, t = 1)` for every scalar type
      (`cbModel_cubic_ends_any`; `sample 1 = to` is the per-curve hypothesis `cubicSampleOk`, a
      theorem over ordered fields); the chain over ordered fields (`cubic_flat_connected`).
  `cbModel_on_chained` says it of the curves an adapter meets, and that is what the `…_concrete`
  theorems use; `cbTot` makes the flattener total only to show that C16's hypotheses `EndsAtTo`,
  `ChainedToEnd`, which quantify over all curves, can be met by lyon_geom's flattener.
  `noCubic`: the programs on which the builder side and the iterator side agree (`Props/C16b.lean`).
-/
import LyonVerif.Model.Path.AdaptersConcrete
import LyonVerif.Lemmas.AdaptersConcretePath
import LyonVerif.Lemmas.AdaptersField
import LyonVerif.Lemmas.Flatten
import LyonVerif.Props.C09

set_option linter.unusedSectionVars false

namespace Lyon.Adapt
open Lyon Lyon.Path Scalar Lyon.Flat

section any
variable {α : Type} [Scalar α] [Transc α] [FlatConst α]

/-- from C09's way of saying "ends at" (`lastPt`, `lastT` of a non-empty list) to C16's
(`l ++ [x]`) -/
theorem snoc_of_ne_nil (p : P α) (t : α) (l : List (FlatSeg α)) (h : l ≠ []) :
    ∃ l' x, l = l' ++ [x] ∧ lastPt p l = x.b ∧ lastT t l = x.t1 := by
  induction l generalizing p t with
  | nil => exact absurd rfl h
  | cons s r ih =>
    cases r with
    | nil => exact ⟨[], s, rfl, rfl, rfl⟩
    | cons s' r' =>
      obtain ⟨l', x, h1, h2, h3⟩ := ih s.b s.t1 (by simp)
      exact ⟨s :: l', x, by rw [h1]; rfl, by simpa [lastPt] using h2, by simpa [lastT] using h3⟩

/-- the callbacks of a quadratic's `for_each_flattened_with_t` end with `(to, 1)` — every scalar
type, every tolerance, every count (C09 `quad_flat_connected` + `quad_flat_ranges`) -/
theorem cbModel_quad_ends (tol : α) (a c b : P α) (h : cbOkQuad tol a c b = true) :
    ∃ l x, (cbModel tol).quad a c b = l ++ [⟨x, b, one⟩] := by
  simp only [cbOkQuad, Option.isSome_iff_exists] at h
  obtain ⟨l0, hl0⟩ := h
  obtain ⟨hne, _, hlast⟩ := C09.quad_flat_connected ⟨a, c, b⟩ tol l0 hl0
  obtain ⟨_, ht⟩ := C09.quad_flat_ranges ⟨a, c, b⟩ tol l0 hl0
  obtain ⟨l', x, rfl, hx, hxt⟩ := snoc_of_ne_nil a zero l0 hne
  refine ⟨l'.map segOf, x.a, ?_⟩
  simp only [cbModel, hl0, Option.getD_some, List.map_append, List.map_cons, List.map_nil, segOf]
  rw [← hx, ← hxt, hlast, ht]

variable {π : Type}

/-- no `cubic_bezier_to` in the program -/
def noCubic {A : Type} : List (Call π A) → Bool
  | [] => true
  | .cubic .. :: _ => false
  | _ :: r => noCubic r

theorem noCubic_curves {A : Type} (cur : π) (prog : List (Call π A)) (h : noCubic prog = true) :
    ∀ k ∈ curvesMet cur prog, ∀ a c d b, k ≠ .cubic a c d b := by
  induction prog generalizing cur with
  | nil => simp [curvesMet]
  | cons c r ih =>
    cases c <;> simp only [noCubic, curvesMet, List.forall_mem_cons] at h ⊢
    · exact ih _ h
    · exact ih _ h
    · exact ⟨fun _ _ _ _ hh => (by cases hh), ih _ h⟩
    · cases h
    · exact ih _ h

/-- the callback flattener made total: `cbModel` where lyon_geom does not panic, the single
callback `(from → to, 1)` elsewhere -/
def cbTot (tol : α) : Flattener (P α) α where
  quad a c b := if cbOkQuad tol a c b then (cbModel tol).quad a c b else [⟨a, b, one⟩]
  cubic a c1 c2 b := if cbOkCubic tol a c1 c2 b then (cbModel tol).cubic a c1 c2 b else [⟨a, b, one⟩]

end any

/-! ## Every scalar type: the cubic callback flattener ends at `sample 1`

The callbacks of a CUBIC's
  `for_each_flattened_with_t` end with `(curve.sample(1), t = 1)` — the last quadratic is
  `split_range(t0..1).to_quadratic()`, whose `to` is `self.sample(1.0)`, its last callback has
  `t.end == 1.0`, and `t_range.end == 1.0` for it, so the literal `1.0` is reported.  Under the
  per-curve hypothesis `curve.sample(1) = curve.to` (a theorem in every field; true of finite
  floats: `from·0 + ctrl1·0 + ctrl2·0 + to·1`; false for NaN/inf coordinates) the builder-side
  adapter therefore keeps the end point of every cubic exactly, in the arithmetic it runs in.
-/

section any
variable {α : Type} [Scalar α] [Transc α] [FlatConst α]

theorem cbModel_cubic_ends_any (hone : ((one : α) == one) = true) (tol : α) (a c1 c2 b : P α)
    (hS : (⟨a, c1, c2, b⟩ : Cubic α).sample one = b) (h : cbOkCubic tol a c1 c2 b = true) :
    ∃ l x, (cbModel tol).cubic a c1 c2 b = l ++ [⟨x, b, one⟩] := by
  simp only [cbOkCubic, Option.isSome_iff_exists] at h
  obtain ⟨l0, hl0⟩ := h
  have hl := hl0
  simp only [Cubic.forEachFlattenedWithT, Cubic.forEachQuadraticWithT] at hl
  obtain ⟨init, t', hq⟩ := quadsLoop_last (⟨a, c1, c2, b⟩ : Cubic α)
    (one / (⟨a, c1, c2, b⟩ : Cubic α).numQuadraticsImpl (tol * FlatConst.value 4 1))
    ((toU32 ((⟨a, c1, c2, b⟩ : Cubic α).numQuadraticsImpl (tol * FlatConst.value 4 1))).getD 1 - 1) zero
  rw [hq] at hl
  obtain ⟨hne, hb, ht⟩ := flatQuadsT_last hone _ _ _ _ a _ l0 hl
  obtain ⟨l', x, rfl, hxb, hxt⟩ := snoc_of_ne_nil a zero l0 hne
  refine ⟨l'.map segOf, x.a, ?_⟩
  simp only [cbModel, hl0, Option.getD_some, List.map_append, List.map_cons, List.map_nil, segOf]
  rw [← hxb, ← hxt, hb, ht]
  exact congrArg (fun z => _ ++ [FSeg.mk x.a z one]) hS

/-- `cubic.sample(1) = cubic.to` in the scalar type at hand (nothing is asked of a quadratic) -/
def sampleOk : Curve (P α) → Prop
  | .quad .. => True
  | .cubic a c d b => (⟨a, c, d, b⟩ : Cubic α).sample one = b

/-- every cubic the builder-side adapter hands to lyon_geom (from its current position) has
`sample(1) = to` in the scalar type at hand -/
def cubicSampleOk {A : Type} : P α → List (Call (P α) A) → Prop
  | _, [] => True
  | _, .begin p _ :: r => cubicSampleOk p r
  | _, .line p _ :: r => cubicSampleOk p r
  | _, .quad _ p _ :: r => cubicSampleOk p r
  | cur, .cubic c1 c2 p _ :: r => (⟨cur, c1, c2, p⟩ : Cubic α).sample one = p ∧ cubicSampleOk p r
  | cur, .end_ _ :: r => cubicSampleOk cur r

theorem cubicSampleOk_iff {A : Type} (cur : P α) (prog : List (Call (P α) A)) :
    cubicSampleOk cur prog ↔ ∀ k ∈ curvesMet cur prog, sampleOk k := by
  induction prog generalizing cur with
  | nil => simp only [cubicSampleOk, curvesMet, List.not_mem_nil, false_imp_iff, implies_true]
  | cons c r ih =>
    cases c <;> simp only [cubicSampleOk, curvesMet, List.forall_mem_cons, sampleOk, true_and, ih]

end any

section field
variable {K : Type} [Field K] [LinearOrder K] [IsStrictOrderedRing K] [Transc K] [FlatConst K]


/-- over a field `sample 1 = to` holds (`C10.cubic_sample_one`) -/
theorem cbModel_cubic_ends (tol : K) (a c1 c2 b : P K) (h : cbOkCubic tol a c1 c2 b = true) :
    ∃ l x, (cbModel tol).cubic a c1 c2 b = l ++ [⟨x, b, 1⟩] := by
  rw [← sc_one_eq]
  exact cbModel_cubic_ends_any (by rw [sc_beq]) tol a c1 c2 b
    (by rw [sc_one_eq]; exact C10.cubic_sample_one _) h

theorem chained_of_chain (a : P K) (t : K) (l : List (FlatSeg K)) (h : Chain a t l) :
    Chained a (l.map segOf) := by
  induction l generalizing a t with
  | nil => trivial
  | cons s r ih => exact ⟨h.1, ih s.b s.t1 h.2.2⟩

/-- what C09 says of lyon_geom's callback flattener on a curve it does not panic on: the
callbacks are a chain from `from` whose last one is `(to, 1)` -/
theorem cbModel_on_chained (tol : K) (k : Curve (P K)) (h : cbOk tol k = true) :
    (∃ l x, (cbModel tol).on k = l ++ [⟨x, k.to, 1⟩]) ∧ Chained k.from ((cbModel tol).on k) := by
  cases k with
  | quad a c b =>
    constructor
    · obtain ⟨l, x, hl⟩ := cbModel_quad_ends tol a c b h
      exact ⟨l, x, by rw [← sc_one_eq]; exact hl⟩
    · simp only [cbOk, cbOkQuad, Option.isSome_iff_exists] at h
      obtain ⟨l0, hl0⟩ := h
      simp only [Flattener.on, cbModel, hl0, Option.getD_some]
      exact chained_of_chain a _ l0 (C09.quad_flat_connected ⟨a, c, b⟩ tol l0 hl0).2.1
  | cubic a c d b =>
    refine ⟨cbModel_cubic_ends tol a c d b h, ?_⟩
    simp only [cbOk, cbOkCubic, Option.isSome_iff_exists] at h
    obtain ⟨l0, hl0⟩ := h
    simp only [Flattener.on, cbModel, hl0, Option.getD_some]
    exact chained_of_chain a _ l0 (C09.cubic_flat_connected ⟨a, c, d, b⟩ tol l0 hl0).2.1

/-- `cbTot` has these properties on every curve: where lyon_geom panics it is the single callback
`(from → to, 1)` -/
theorem cbTot_on_chained (tol : K) (k : Curve (P K)) :
    (∃ l x, (cbTot tol).on k = l ++ [⟨x, k.to, 1⟩]) ∧ Chained k.from ((cbTot tol).on k) := by
  by_cases h : cbOk tol k = true
  · have e : (cbTot tol).on k = (cbModel tol).on k := by
      cases k <;> simp only [cbOk] at h <;> simp [Flattener.on, cbTot, h]
    rw [e]; exact cbModel_on_chained tol k h
  · have e : (cbTot tol).on k = [⟨k.from, k.to, 1⟩] := by
      cases k <;> simp only [cbOk] at h <;>
        simp [Flattener.on, cbTot, h, Curve.from, Curve.to]
    rw [e]; exact ⟨⟨[], _, rfl⟩, rfl, trivial⟩

/-- in a field the per-curve hypothesis always holds (`C10.cubic_sample_one`) -/
theorem cubicSampleOk_field {A : Type} (cur : P K) (prog : List (Call (P K) A)) :
    cubicSampleOk cur prog :=
  (cubicSampleOk_iff cur prog).2 fun k _ => by
    cases k with
    | quad a c b => trivial
    | cubic a c d b => rw [sampleOk, sc_one_eq]; exact C10.cubic_sample_one _

end field

end Lyon.Adapt
