/-
  C13 — the cubic Bézier piece of a circular arc, exactly: the frame representation and the deviation identity
  over any ordered field (what `cubic_arc_deviation_circle` of `Props/C13b.lean` rests on), then over ℝ the
  relation for lyon's `α` and the size of `β`.

  `arc_to_cubic_beziers` places the two inner control points on the end tangents at the distance
  `α·|tangent|` with `α = sin δ · (√(4 + 3 tan²(δ/2)) − 1) / 3` (L. Maisonobe's formula).  In the
  orthonormal frame (radius, tangent) at the start point of a unit-circle piece of angle `δ`, with
  `c = cos(δ/2)`, `s = sin(δ/2)`:

      P0 = (1, 0)   P1 = (1, α)   P2 = (cos δ + α sin δ, sin δ − α cos δ)   P3 = (cos δ, sin δ)

  (`cubicFrame δ = tanFrame δ α`; every emitted piece is its image under a rotation and `ellMap`:
  `cubicAt_sample_eq`)

  and `α` is the positive root of `3α² + 4·s·c·α = 4s²` (`cubicAlpha_rel`) — the value for which the
  cubic has the circle's curvature at both ends.  Then (`cubicFrame_normSq`, the case `R(α) = 0` of the identity
  `tanFrame_normSq` for every tangent cubic)

      |B(t)|² − 1 = −β²·(4t(1−t))³       β = s/2 − 3αc/4

  So the piece never leaves the disc, touches the circle to third order at both ends, and is farthest from it —
  by `r·(1 − √(1 − β²))` — at `t = 1/2`.

  At the end, for both conversions: every emitted piece is `quadAt` / `cubicAt` at its start angle, with a step of at
  most 45° / 90° (`emitted_pieces_real`).
-/
import LyonVerif.Lemmas.SvgArcRealQuad

set_option linter.unusedSectionVars false

namespace Lyon.C13
open Lyon Scalar ArcConv

section field
variable {K : Type} [Field K] [LinearOrder K] [IsStrictOrderedRing K] [Transc K] [ArcConv.Eps K]

/-- the `i`-th cubic piece as a function of its start angle and step
(`cubicPiece arc step i = cubicAt arc (angleAt arc step i) step`, `cubicPiece_eq_cubicAt`) -/
noncomputable def cubicAt (arc : Arc K) (a1 d : K) : Cubic K :=
  ⟨pointAt arc a1,
   pointAt arc a1 + (tangentAtAngle arc a1).smul (cubicAlpha d),
   pointAt arc (a1 + d) - (tangentAtAngle arc (a1 + d)).smul (cubicAlpha d),
   pointAt arc (a1 + d)⟩

theorem cubicPiece_eq_cubicAt (arc : Arc K) (step : K) (i : Nat) :
    cubicPiece arc step i = cubicAt arc (angleAt arc step i) step := by
  have e : angleAt arc step i + step - angleAt arc step i = step := by ring
  simp only [cubicPiece, cubicAt, angleAt_succ, e]

/-- the cubic of the (radius, tangent) frame at the start point of a unit-circle piece of angle `δ` whose
inner control points sit at distance `α` on the two end tangents.  lyon's cubic piece is the one with
`α = cubicAlpha δ` (`cubicFrame`), lyon's quadratic piece is, as a curve, the one with `α = ⅔·tan(δ/2)`
(`quadFrame_sample_tan`). -/
noncomputable def tanFrame (d al : K) : Cubic K :=
  ⟨⟨1, 0⟩, ⟨1, al⟩,
   ⟨Transc.cos d + al * Transc.sin d, Transc.sin d - al * Transc.cos d⟩,
   ⟨Transc.cos d, Transc.sin d⟩⟩

noncomputable def cubicFrame (d : K) : Cubic K := tanFrame d (cubicAlpha d)

theorem cubicAt_sample_eq (arc : Arc K) (a1 d t : K)
    (hc : Transc.cos (a1 + d) = Transc.cos a1 * Transc.cos d - Transc.sin a1 * Transc.sin d)
    (hs : Transc.sin (a1 + d) = Transc.sin a1 * Transc.cos d + Transc.cos a1 * Transc.sin d) :
    (cubicAt arc a1 d).sample t = ellMap arc (Arc.rotate a1 ((cubicFrame d).sample t)) := by
  simp only [cubicAt, cubicFrame, tanFrame]
  generalize cubicAlpha d = al
  apply P.ext' <;>
  · simp only [ellMap, Cubic.sample, pointAt, tangentAtAngle, Arc.sampleEllipse, Arc.rotate, geom,
      hc, hs, Nat.cast_ofNat, Nat.cast_one]
    ring

/-- the squared radius of EVERY tangent cubic, `w = t(1−t)`: `|tanFrame δ α (t)|² − 1 = w²·(3·R(α) − 2·Q(α)·w)` with
`R(α) = 3α² + 2α·sin δ − 2(1 − cos δ)`, `Q(α) = 4(1 − cos δ) − 12α·sin δ + 9α²(1 + cos δ)`.  The cofactor is the three
places where `|P₂|²`, `P₂·P₃`, `|P₃|²` use the law.  `R = 0` is lyon's relation for `α` (then `2Q = 64β²`); `Q = 0` is the
quadratic, `α = ⅔·tan(δ/2)` -/
theorem tanFrame_normSq (d al t : K)
    (hd : Transc.cos d * Transc.cos d + Transc.sin d * Transc.sin d = 1) :
    ((tanFrame d al).sample t).x * ((tanFrame d al).sample t).x
        + ((tanFrame d al).sample t).y * ((tanFrame d al).sample t).y - 1
      = (t * (1 - t)) * (t * (1 - t))
          * (3 * (3 * (al * al) + 2 * al * Transc.sin d - 2 * (1 - Transc.cos d))
            - 2 * (4 * (1 - Transc.cos d) - 12 * al * Transc.sin d + 9 * (al * al) * (1 + Transc.cos d))
              * (t * (1 - t))) := by
  simp only [tanFrame, Cubic.sample, geom, Nat.cast_ofNat, Nat.cast_one]
  linear_combination
    ((3 * (1 - t) * (t * t)) * (3 * (1 - t) * (t * t)) * (1 + al * al)
      + 2 * (3 * (1 - t) * (t * t)) * (t * t * t) + (t * t * t) * (t * t * t)) * hd

theorem cubicFrame_normSq (d t c sn : K) (hu : c * c + sn * sn = 1)
    (hcos : Transc.cos d = 1 - 2 * (sn * sn)) (hsin : Transc.sin d = 2 * (sn * c))
    (hal : 3 * (cubicAlpha d * cubicAlpha d) + 4 * (sn * c) * cubicAlpha d = 4 * (sn * sn)) :
    ((cubicFrame d).sample t).x * ((cubicFrame d).sample t).x
        + ((cubicFrame d).sample t).y * ((cubicFrame d).sample t).y - 1
      = -((sn / 2 - 3 * cubicAlpha d * c / 4) * (sn / 2 - 3 * cubicAlpha d * c / 4)) * (4 * t * (1 - t)) ^ 3 := by
  have e := tanFrame_normSq d (cubicAlpha d) t (by rw [hcos, hsin]; linear_combination (4 * (sn * sn)) * hu)
  rw [hcos, hsin] at e
  rw [cubicFrame, e]
  linear_combination (3 * ((t * (1 - t)) * (t * (1 - t)))) * hal
    + (36 * (cubicAlpha d * cubicAlpha d) * ((t * (1 - t)) * (t * (1 - t)) * (t * (1 - t)))) * hu

end field

section real
open Real

theorem tan_root_arg_nonneg (d : ℝ) :
    (0 : ℝ) ≤ 4 + 3 * Real.tan (d * Scalar.half) * Real.tan (d * Scalar.half) := by
  rw [mul_assoc]; exact add_nonneg (by norm_num) (mul_nonneg (by norm_num) (mul_self_nonneg _))

/-- from `√(4 + 3T²)² = 4 + 3T²`, `T·c = s` (`T = tan(δ/2)`), `sin δ = 2sc`, `c² + s² = 1` -/
theorem cubicAlpha_rel (d : ℝ) (hc : Real.cos (d / 2) ≠ 0) :
    cubicAlpha d = 2 * (Real.sin (d / 2) * Real.cos (d / 2))
        * (Real.sqrt (4 + 3 * Real.tan (d * Scalar.half) * Real.tan (d * Scalar.half)) - 1) / 3
    ∧ 3 * (cubicAlpha d * cubicAlpha d) + 4 * (Real.sin (d / 2) * Real.cos (d / 2)) * cubicAlpha d
        = 4 * (Real.sin (d / 2) * Real.sin (d / 2)) := by
  obtain ⟨hu, _, hsin⟩ := half_angle_identities_real d
  have htan := tan_half_real d hc
  have hA := Real.mul_self_sqrt (tan_root_arg_nonneg d)
  have e : cubicAlpha d = 2 * (Real.sin (d / 2) * Real.cos (d / 2))
      * (Real.sqrt (4 + 3 * Real.tan (d * Scalar.half) * Real.tan (d * Scalar.half)) - 1) / 3 := by
    simp only [cubicAlpha, geom, transc_sin_real, transc_tan_real, transc_sqrt_real, hsin, Nat.cast_ofNat,
      Nat.cast_one]
  refine ⟨e, ?_⟩
  rw [e]
  generalize Real.tan (d * Scalar.half) = T at htan hA ⊢
  generalize Real.sqrt (4 + 3 * T * T) = A at hA ⊢
  generalize Real.cos (d / 2) = c at hu htan ⊢
  generalize Real.sin (d / 2) = sn at hu htan ⊢
  linear_combination (4 * sn * sn * c * c / 3) * hA + (4 * sn * sn * (T * c + sn)) * htan
    + (4 * sn * sn) * hu

/-- with `c² ≥ 1/2` (a step of at most 90°), `T·c = s`,
`A = √(4 + 3T²) ≥ 0` and `α = 2sc(A − 1)/3`: `β = s/2 − 3αc/4 = s³ / (2(1 + c² + c²A))`, hence
`β² ≤ (1/2)³ / (4·2.8²) < 0.003996 = 1 − 0.998²`. -/
theorem cubic_beta_bound (s c A T : ℝ) (hu : c * c + s * s = 1) (htan : T * c = s)
    (hA : A * A = 4 + 3 * T * T) (hA0 : 0 ≤ A) (hX : 1 / 2 ≤ c * c) :
    (s / 2 - 3 * (2 * (s * c) * (A - 1) / 3) * c / 4) * (s / 2 - 3 * (2 * (s * c) * (A - 1) / 3) * c / 4)
      ≤ 3996 / 1000000 := by
  have hs2 : s * s = 1 - c * c := eq_sub_of_add_eq' hu
  have hm2 : (c * c * A) * (c * c * A) = (c * c) * (3 + c * c) := by
    have : (T * c) * (T * c) = 1 - c * c := by rw [htan]; exact hs2
    linear_combination (c * c * (c * c)) * hA + 3 * (c * c) * this
  have hm0 : 0 ≤ c * c * A := mul_nonneg (mul_self_nonneg c) hA0
  have eβ : s / 2 - 3 * (2 * (s * c) * (A - 1) / 3) * c / 4 = s / 2 * (1 + c * c - c * c * A) := by ring
  rw [eβ]
  generalize c * c = X at hX hm2 hm0 hs2 ⊢
  generalize X * A = m at hm2 hm0 ⊢
  generalize hB : s / 2 * (1 + X - m) = B
  -- `m² = X² + 3X ≥ 7/4`, so `m ≥ 1.3` and the denominator `1 + X + m` is at least 2.8
  have hm : 13 / 10 ≤ m := by
    refine le_of_not_gt fun hlt => ?_
    have := mul_self_lt_mul_self hm0 hlt
    linarith only [this, hm2, mul_nonneg (sub_nonneg.2 hX) (add_nonneg (le_trans (by norm_num) hX) (by norm_num) : (0 : ℝ) ≤ X + 7 / 2)]
  have hD2 : 28 / 10 * (28 / 10) ≤ (1 + X + m) * (1 + X + m) :=
    mul_self_le_mul_self (by norm_num)
      (le_trans (by norm_num) (add_le_add (add_le_add le_rfl hX) hm))
  -- `β·(1 + X + m) = s/2·(1 − X)`, squared: `β²·(1 + X + m)² = (1 − X)³/4 ≤ 1/32`
  have hBD : B * (1 + X + m) = s / 2 * (1 - X) := by
    rw [← hB]; linear_combination (-(s / 2)) * hm2
  have hsq : B * B * ((1 + X + m) * (1 + X + m)) = (1 - X) * (1 - X) * (1 - X) / 4 := by
    linear_combination (B * (1 + X + m) + s / 2 * (1 - X)) * hBD + ((1 - X) * (1 - X) / 4) * hs2
  have h0 : 0 ≤ 1 - X := by rw [← hs2]; exact mul_self_nonneg s
  have h1 : 1 - X ≤ 1 / 2 := sub_le_comm.1 (le_of_eq_of_le (by norm_num) hX)
  have hcube : (1 - X) * (1 - X) * (1 - X) ≤ 1 / 2 * (1 / 2) * (1 / 2) :=
    mul_le_mul (mul_self_le_mul_self h0 h1) h1 h0 (by norm_num)
  have := mul_le_mul_of_nonneg_left hD2 (mul_self_nonneg B)
  generalize (1 + X + m) * (1 + X + m) = D2 at hsq this
  linarith only [hsq, this, hcube]

theorem cubic_half_angle_real (d : ℝ) (hd : |d| ≤ Real.pi / 2) :
    Real.cos (d / 2) * Real.cos (d / 2) + Real.sin (d / 2) * Real.sin (d / 2) = 1
    ∧ Real.cos d = 1 - 2 * (Real.sin (d / 2) * Real.sin (d / 2))
    ∧ Real.sin d = 2 * (Real.sin (d / 2) * Real.cos (d / 2))
    ∧ 3 * (cubicAlpha d * cubicAlpha d) + 4 * (Real.sin (d / 2) * Real.cos (d / 2)) * cubicAlpha d
        = 4 * (Real.sin (d / 2) * Real.sin (d / 2))
    ∧ (Real.sin (d / 2) / 2 - 3 * cubicAlpha d * Real.cos (d / 2) / 4)
        * (Real.sin (d / 2) / 2 - 3 * cubicAlpha d * Real.cos (d / 2) / 4) ≤ 3996 / 1000000 := by
  obtain ⟨hl, hr⟩ := abs_le.mp hd
  obtain ⟨hu, hcos, hsin⟩ := half_angle_identities_real d
  have htan := tan_half_real d (cos_half_pos_real d hd).ne'
  have hT := tan_root_arg_nonneg d
  obtain ⟨eα, hrel⟩ := cubicAlpha_rel d (cos_half_pos_real d hd).ne'
  refine ⟨hu, hcos, hsin, hrel, ?_⟩
  rw [eα]
  -- `cos²(δ/2) = (1 + cos δ)/2 ≥ 1/2`
  have hcd : 0 ≤ Real.cos d := Real.cos_nonneg_of_mem_Icc ⟨hl, hr⟩
  exact cubic_beta_bound (Real.sin (d / 2)) (Real.cos (d / 2)) _ _ hu htan (Real.mul_self_sqrt hT)
    (Real.sqrt_nonneg _) (by linarith)

theorem cubicAt_sample_real (arc : Arc ℝ) (a1 d t : ℝ) :
    (cubicAt arc a1 d).sample t = ellMap arc (Arc.rotate a1 ((cubicFrame d).sample t)) :=
  cubicAt_sample_eq arc a1 d t (Real.cos_add a1 d) (Real.sin_add a1 d)

theorem emitted_pieces_real (arc : Arc ℝ) :
    (∀ x ∈ quadsWithT arc, ∃ a1, x.1 = quadAt arc a1 (stepQ arc))
    ∧ (∀ x ∈ cubics arc, ∃ a1, x = cubicAt arc a1 (stepC arc))
    ∧ |stepQ arc| ≤ Real.pi / 4 ∧ |stepC arc| ≤ Real.pi / 2 := by
  obtain ⟨b1, b2⟩ := step_bounds_real arc
  refine ⟨?_, ?_, b1, b2⟩
  · intro x hx
    rw [quads_closed_form, List.mem_map] at hx
    obtain ⟨j, _, rfl⟩ := hx
    exact ⟨_, quadPiece_eq_quadAt arc _ j⟩
  · intro x hx
    rw [cubics_closed_form, List.mem_map] at hx
    obtain ⟨j, _, rfl⟩ := hx
    exact ⟨_, cubicPiece_eq_cubicAt arc _ j⟩

end real

end Lyon.C13
