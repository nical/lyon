/-
  C06d / C06f: the clipped `MiterClip` join.  The two theorems of C06d stand in this Lemmas file because `clip_lam`
  (further down) uses them (`Props/C06d.lean` has what they claim, and the instance over `ℝ`): `C06d.miter_clip_side_points_partial` - the two front
  side points `get_clip_intersections` computes, in closed form; `C06d.miter_clip_between_partial` with `clip_regime`:
  lyon's test places them between the bevel corner and the miter tip.  `clip_lam`: both from the miter vector of
  `compute_normal` (`Props/C06e.lean` and the clipped case of `frontFix_form`, `Lemmas/StrokeCoverJoin.lean`, rest on it).
-/
import LyonVerif.Lemmas.StrokeIdxClipGeo
import LyonVerif.Model.Tess.StrokeFull

set_option linter.unusedSectionVars false

namespace Lyon.C06d
open Lyon Scalar Lyon.Stroke Lyon.Stroke.Full Lyon.C06b
open Lyon.StrokeQuad (Ix clipIntersections lineIntersection clipSide Side2)

section
variable {K : Type} [Field K] [LinearOrder K] [IsStrictOrderedRing K] [Transc K]

/-- **the clipped front side of a `MiterClip` join.**  `t0`, `t1` unit tangents, `F` the front (outer) miter
normal with `F·t0 = T > 0`, `F·t1 = −T`, `perp(t0)·F = perp(t1)·F = −ε` (`ε = ±1`: the front side is the side `−ε`),
`r = |F|`; `hw·T > eps` (the determinant guard of `Line::intersection`). -/
theorem miter_clip_side_points_partial (eps : K) (heps : 0 ≤ eps) (j t0 t1 F : P K) (hw ml ε T : K)
    (hε : ε * ε = 1) (hu0 : t0.sqLen = 1) (hu1 : t1.sqLen = 1) (hT : 0 < T) (hw0 : 0 < hw)
    (hF0 : F.dot t0 = T) (hF1 : F.dot t1 = -T) (hP0 : (perp t0).dot F = -ε) (hP1 : (perp t1).dot F = -ε)
    (hr0 : 0 < Transc.sqrt F.sqLen) (hrr : Transc.sqrt F.sqLen * Transc.sqrt F.sqLen = F.sqLen)
    (hdet : eps < hw * T) :
    ∃ lam : K, lam * T = hw * (ml * Transc.sqrt F.sqLen - 1)
      ∧ (clipSide (lineIntersection eps) ⟨j - (perp t0).smul (ε * hw), j - (perp t1).smul (ε * hw), none⟩ j F (ml * hw)).prev
          = j - (perp t0).smul (ε * hw) + t0.smul lam
      ∧ (clipSide (lineIntersection eps) ⟨j - (perp t0).smul (ε * hw), j - (perp t1).smul (ε * hw), none⟩ j F (ml * hw)).next
          = j - (perp t1).smul (ε * hw) - t1.smul lam
      ∧ (clipSide (lineIntersection eps) ⟨j - (perp t0).smul (ε * hw), j - (perp t1).smul (ε * hw), none⟩ j F (ml * hw)).single = none
      ∧ ((j - (perp t0).smul (ε * hw) + t0.smul lam) - j).dot F = ml * hw * Transc.sqrt F.sqLen
      ∧ ((j - (perp t1).smul (ε * hw) - t1.smul lam) - j).dot F = ml * hw * Transc.sqrt F.sqLen
      ∧ ((j - (perp t0).smul (ε * hw) + t0.smul lam) - j).sqLen = hw * hw + lam * lam
      ∧ ((j - (perp t1).smul (ε * hw) - t1.smul lam) - j).sqLen = hw * hw + lam * lam := by
  have hεabs : |ε| = 1 := by
    rcases mul_self_eq_one_iff.mp hε with h | h <;> rw [h] <;> simp
  have hm : -(ε * hw) ≠ 0 :=
    neg_ne_zero.mpr (mul_ne_zero (fun h => by rw [h, mul_zero] at hε; exact zero_ne_one hε) (ne_of_gt hw0))
  have hd0 : eps < |-(ε * hw) * F.dot t0| := by
    rw [hF0, show -(ε * hw) * T = -(ε * (hw * T)) by ring, abs_neg, abs_mul, hεabs, one_mul,
      abs_of_pos (mul_pos hw0 hT)]
    exact hdet
  have hd1 : eps < |-(ε * hw) * F.dot t1| := by
    rw [hF1, show -(ε * hw) * -T = ε * (hw * T) by ring, abs_mul, hεabs, one_mul, abs_of_pos (mul_pos hw0 hT)]
    exact hdet
  -- each clipped point is `clip_point` (the clip line cut with an offset line, `Lemmas/StrokeIdxClipGeo.lean`): it sits
  -- `lam0` along `t0` resp. `lam1` along `t1` from the bevel corner; the two equations for `lam0`, `lam1` differ in the
  -- sign of `F·t` only, so `lam1 = −lam0` - the clipped side is symmetric about the miter direction
  obtain ⟨lam0, a1, a2, a3, a4⟩ := clip_point eps heps ((perp t1).smul (-(ε * hw))) F t0 (-(ε * hw)) (ml * hw) hu0 hm hr0 hrr hd0
  obtain ⟨lam1, b1, b2, b3, b4⟩ := clip_point eps heps ((perp t0).smul (-(ε * hw))) F t1 (-(ε * hw)) (ml * hw) hu1 hm hr0 hrr hd1
  rw [hF0, hP0] at a2
  rw [hF1, hP1] at b2
  have hl0 : lam0 * T = hw * (ml * Transc.sqrt F.sqLen - 1) := by
    linear_combination a2 - hw * hε
  have hl1 : lam1 = -lam0 := by
    have : (lam0 + lam1) * T = 0 := by linear_combination a2 - b2
    exact eq_neg_of_add_eq_zero_right ((mul_eq_zero.mp this).resolve_right (ne_of_gt hT))
  subst hl1
  have e0 : (j - (perp t0).smul (ε * hw)) - j = (perp t0).smul (-(ε * hw)) := by
    geom_ring
  have e1 : (j - (perp t1).smul (ε * hw)) - j = (perp t1).smul (-(ε * hw)) := by
    geom_ring
  have c1 : (clipIntersections (lineIntersection eps) ((perp t0).smul (-(ε * hw))) ((perp t1).smul (-(ε * hw))) F (ml * hw)).1
      = (perp t0).smul (-(ε * hw)) + t0.smul lam0 := a1
  have c2 : (clipIntersections (lineIntersection eps) ((perp t0).smul (-(ε * hw))) ((perp t1).smul (-(ε * hw))) F (ml * hw)).2
      = (perp t1).smul (-(ε * hw)) + t1.smul (-lam0) := b1
  have f0 : (j - (perp t0).smul (ε * hw) + t0.smul lam0) - j = (perp t0).smul (-(ε * hw)) + t0.smul lam0 := by
    geom_ring
  have f1 : (j - (perp t1).smul (ε * hw) - t1.smul lam0) - j = (perp t1).smul (-(ε * hw)) + t1.smul (-lam0) := by
    geom_ring
  refine ⟨lam0, hl0, ?_, ?_, rfl, by rw [f0, a3], by rw [f1, b3], ?_, ?_⟩
  · show j + (clipIntersections (lineIntersection eps) ((j - (perp t0).smul (ε * hw)) - j) ((j - (perp t1).smul (ε * hw)) - j) F (ml * hw)).1 = _
    rw [e0, e1, c1]; geom_ring
  · show j + (clipIntersections (lineIntersection eps) ((j - (perp t0).smul (ε * hw)) - j) ((j - (perp t1).smul (ε * hw)) - j) F (ml * hw)).2 = _
    rw [e0, e1, c2]; geom_ring
  · rw [f0, a4]; linear_combination (hw * hw) * hε
  · rw [f1, b4]; linear_combination (hw * hw) * hε

/-- the clipped corner lies between the bevel corner (`lam = 0`) and the miter tip (`lam = hw·T`): its distance
from the join is between `w/2` and the miter length `w/2·√(1+T²)`.  `r = |F|`, `r² = 1 + T²`. -/
theorem miter_clip_between_partial (hw ml T r lam : K) (hw0 : 0 < hw) (hT : 0 < T) (hr0 : 0 ≤ r) (hr : r * r = 1 + T * T)
    (hlam : lam * T = hw * (ml * r - 1)) (h1 : 1 ≤ ml * r) (h2 : ml ≤ r) :
    0 ≤ lam ∧ lam ≤ hw * T ∧ hw * hw ≤ hw * hw + lam * lam ∧ hw * hw + lam * lam ≤ hw * hw * (1 + T * T) := by
  have hl0 : 0 ≤ lam := by
    refine le_of_mul_le_mul_right ?_ hT
    rw [zero_mul, hlam]; exact mul_nonneg (le_of_lt hw0) (sub_nonneg.mpr h1)
  have hle : lam ≤ hw * T := by
    refine le_of_mul_le_mul_right ?_ hT
    have : ml * r ≤ r * r := mul_le_mul_of_nonneg_right h2 hr0
    rw [hlam, mul_assoc]
    exact mul_le_mul_of_nonneg_left (by linarith) (le_of_lt hw0)
  have hsq : lam * lam ≤ hw * T * (hw * T) := mul_le_mul hle hle hl0 (le_of_lt (mul_pos hw0 hT))
  exact ⟨hl0, hle, le_add_of_nonneg_right (mul_self_nonneg lam), by linarith⟩

end

end Lyon.C06d

namespace Lyon.C06b
open Lyon Scalar Lyon.Stroke Lyon.Stroke.Full
open Lyon.StrokeQuad (Ix clipIntersections lineIntersection clipSide Side2)

section
variable {K : Type} [Field K] [LinearOrder K] [IsStrictOrderedRing K] [Transc K]

/-- lyon's test `|F|² > (2·miter_limit)²` with `miter_limit ≥ 1`, in terms of `T = tan(θ/2) ≥ 0` and `r = |F|`,
`r² = 1 + T²`: the turn is sharper than 90° (`T > 1`) and `1 ≤ miter_limit < r` -/
theorem clip_regime (ml T r : K) (hT0 : 0 ≤ T) (hr0 : 0 ≤ r) (hr : r * r = 1 + T * T)
    (hexc : ml * ml * 4 < 1 + T * T) (hml : 1 ≤ ml) : 1 < T ∧ 0 < r ∧ 1 ≤ ml * r ∧ ml ≤ r := by
  have hml2 : 1 ≤ ml * ml := one_le_mul_of_one_le_of_one_le hml hml
  have hT : 1 < T := lt_of_mul_self_lt_mul_self₀ hT0 (by linarith)
  have hmr : ml < r := lt_of_mul_self_lt_mul_self₀ hr0 (by linarith)
  exact ⟨hT, by linarith, one_le_mul_of_one_le_of_one_le hml (by linarith), le_of_lt hmr⟩

/-- **the clipped front side of a join with miter vector `N`** (`compute_normal`: `N = perp t0 − τ·t0 = perp t1 + τ·t1`,
`τ` the signed `tan(θ/2)`).  `ε = ±1` the inner side, `F = −ε·N` the front normal, `T = ε·τ ≥ 0`;
`|F|² > (2·miter_limit)²`, `miter_limit ≥ 1`, `eps < hw`: the two clipped points are `lam` beyond the join on the two outer
offset lines, `lam·T = hw·(miter_limit·|F| − 1)`, `0 ≤ lam ≤ hw·T` -/
theorem clip_lam (eps : K) (heps : 0 ≤ eps)
    (hs0 : ∀ x : K, 0 ≤ x → 0 ≤ Transc.sqrt x) (hs : ∀ x : K, 0 ≤ x → Transc.sqrt x * Transc.sqrt x = x)
    (j t0 t1 N F : P K) (hw ml ε τ : K)
    (hε : ε * ε = 1) (hu0 : t0.sqLen = 1) (hu1 : t1.sqLen = 1)
    (hN0 : N = perp t0 - t0.smul τ) (hN1 : N = perp t1 + t1.smul τ) (hF : F = N.smul (-ε)) (hT0 : 0 ≤ ε * τ)
    (hexc : F.sqLen > ml * ml * 4) (hml : 1 ≤ ml) (hhw : 0 < hw) (hepsw : eps < hw) :
    ∃ lam : K, lam * (ε * τ) = hw * (ml * Transc.sqrt F.sqLen - 1) ∧ 0 ≤ lam ∧ lam ≤ hw * (ε * τ)
      ∧ (clipSide (lineIntersection eps) ⟨j - (perp t0).smul (ε * hw), j - (perp t1).smul (ε * hw), none⟩ j F (ml * hw)).prev
          = j - (perp t0).smul (ε * hw) + t0.smul lam
      ∧ (clipSide (lineIntersection eps) ⟨j - (perp t0).smul (ε * hw), j - (perp t1).smul (ε * hw), none⟩ j F (ml * hw)).next
          = j - (perp t1).smul (ε * hw) - t1.smul lam := by
  -- `F` is the side `−ε` of the miter vector, seen from either tangent
  have e1 : F = (perp t1 + t1.smul τ).smul (-ε) := by rw [hF, hN1]
  have e0 : F = (perp t0 + t0.smul (-τ)).smul (-ε) := by rw [hF, hN0]; geom_ring
  have hε' : -ε * -ε = 1 := by linear_combination hε
  obtain ⟨hF1, hP1, hsq⟩ := miter_dots t1 τ (-ε) hu1 hε'
  obtain ⟨hF0, hP0, _⟩ := miter_dots t0 (-τ) (-ε) hu0 hε'
  rw [← e1] at hF1 hP1 hsq
  rw [← e0] at hF0 hP0
  replace hF0 : F.dot t0 = ε * τ := by rw [hF0]; ring
  replace hF1 : F.dot t1 = -(ε * τ) := by rw [hF1]; ring
  replace hsq : F.sqLen = 1 + ε * τ * (ε * τ) := by rw [hsq]; linear_combination (-(τ * τ)) * hε
  have hrr := hs _ (P.sqLen_nonneg F)
  obtain ⟨hT1, hr0, h1, h2⟩ := clip_regime ml (ε * τ) _ hT0 (hs0 _ (P.sqLen_nonneg F)) (hrr.trans hsq) (hsq ▸ hexc) hml
  have hT : 0 < ε * τ := by linarith
  obtain ⟨lam, c1, c2, c3, _⟩ := C06d.miter_clip_side_points_partial eps heps j t0 t1 F hw ml ε (ε * τ) hε hu0 hu1 hT hhw
    hF0 hF1 hP0 hP1 hr0 hrr (hepsw.trans (lt_mul_of_one_lt_right hhw hT1))
  obtain ⟨hb0, hb1, _⟩ := C06d.miter_clip_between_partial hw ml (ε * τ) _ lam hhw hT (le_of_lt hr0) (hrr.trans hsq) c1 h1 h2
  exact ⟨lam, c1, hb0, hb1, c2, c3⟩

end

end Lyon.C06b
