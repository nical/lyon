/-
  NO-PANIC: the hypotheses of the no-panic theorems over an ordered field.

  * `horizAgree_of_law`: for ANY scalar type the two on-edge tests of `scan_active_edges` agree
    (`HorizAgree`) as soon as they agree on level edges (`HorizLaw`: `¬ a < b → b ≤ a` on the two
    abscissa tests and `|x - x| ≤ threshold`); the other four cases are syntactic;
  * over a linearly ordered field `HorizLaw t` holds for every `t ≥ 0` (`horizLaw_field`), whatever the
    `Wide` instance.
-/
import LyonVerif.Lemmas.SweepSafeScan
import LyonVerif.Lemmas.Field

set_option linter.unusedSimpArgs false

namespace Lyon.SweepSafe
open Lyon Lyon.Scalar Lyon.Mono Lyon.Sweep Lyon.EQ

section generic
variable {α : Type} [Scalar α] [Wide α]

def HorizLaw (t : α) : Prop :=
  ∀ (cur : P α) (e : ActiveEdge α), ¬ e.maxX < cur.x → ¬ e.minX > cur.x →
    (e.maxX ≥ cur.x ∧ e.minX ≤ cur.x) ∧ abs (cur.x - cur.x) ≤ onEdgeThreshold t cur.x

theorem horizAgree_of_law {t : α} (h : HorizLaw t) : HorizAgree t := by
  intro cur e hb hc
  unfold edgeBefore at hb
  unfold isEdgeConnecting at hc
  by_cases h1 : (cur == e.to) = true
  · simp [h1] at hc
  · simp only [h1, if_false] at hb hc
    by_cases h2 : e.maxX < cur.x
    · simp [h2] at hb
    · simp only [h2, if_false] at hb
      by_cases h3 : e.minX > cur.x
      · simp [h3] at hb
      · simp only [h3, if_false] at hb
        by_cases h0 : e.maxX + onEdgeThreshold t cur.x < cur.x ∨ e.to.y < cur.y
        · simp [h0] at hc
        · simp only [h0, if_false, h3] at hc
          by_cases h4 : (e.from_.y == e.to.y) = true
          · have hl := h cur e h2 h3
            have hne : (e.from_.y != e.to.y) = false := by simp [bne, h4]
            simp only [hne, hl.1, and_self, if_true, Bool.false_eq_true, if_false] at hc
            rw [if_pos hl.2] at hc
            cases hc
          · simp only [h4, if_false] at hb
            have hne : (e.from_.y != e.to.y) = true := by simp [bne, h4]
            simp only [hne, if_true] at hc
            by_cases h5 : abs (e.solveXForY cur.y - cur.x) ≤ onEdgeThreshold t cur.x
            · simp [h5] at hc
            · simp only [h5, if_false] at hb
              revert hb
              simp only [Bool.false_eq_true, if_false]
              split <;> simp

end generic

section field
variable {K : Type} [Field K] [LinearOrder K] [IsStrictOrderedRing K]

theorem horizLaw_field [Wide K] (t : K) (ht : 0 ≤ t) : HorizLaw (α := K) t := by
  intro cur e h2 h3
  refine ⟨⟨le_of_not_gt h2, le_of_not_gt h3⟩, ?_⟩
  show |cur.x - cur.x| ≤ Max.max t _
  rw [sub_self, abs_zero]
  exact le_trans ht (le_max_left _ _)

theorem horizAgree_field [Wide K] (t : K) (ht : 0 ≤ t) : HorizAgree (α := K) t :=
  horizAgree_of_law (horizLaw_field t ht)

/-- the tolerance the sweep works with (`options.tolerance * 0.5`) -/
theorem horizAgree_half [Wide K] (tol : K) (htol : 0 ≤ tol) : HorizAgree (α := K) (tol * half) := by
  apply horizAgree_field
  show (0 : K) ≤ tol * (Scalar.ofSci 5 1)
  rw [sc_half]
  positivity

end field

end Lyon.SweepSafe
