/-
  Helper lemmas for C16d about storing helper programs (`Model/Path/AdaptersHelpers.lean` over
  the C14 storage model): attribute counts of an expansion as the storage sees them, the
  `P α` / `Pt α` conversions under a point map, and what `extend_from_paths` stores
  (`storePieces` = the storage of the whole program).  Core Lean only.
-/
import LyonVerif.Model.Path.AdaptersHelpers
import LyonVerif.Lemmas.PathStore
import LyonVerif.Lemmas.AdaptersStored


namespace Lyon.Adapt
open Lyon Lyon.Path

section Conv
variable {α : Type}

theorem attrsOk_toPt [Inhabited α] (n : Nat) (l : List (Call (P α) (List α))) :
    attrsOk n (l.map (mapCall toPt)) = attrsLen n l := by
  induction l with
  | nil => rfl
  | cons c r ih => cases c <;> simp [attrsOk, attrsLen, mapCall, ih]

theorem onPt_toPt (g : P α → P α) (p : P α) : onPt g (toPt p) = toPt (g p) := rfl

theorem xfBuilder_onPt {A : Type} (g : P α → P α) (l : List (Call (P α) A)) :
    xfBuilder (onPt g) (xfBuilder toPt l) = xfBuilder toPt (xfBuilder g l) := by
  induction l with
  | nil => rfl
  | cons c r ih =>
    simp only [xfBuilder, List.map_cons, List.cons.injEq] at ih ⊢
    exact ⟨by cases c <;> rfl, ih⟩

end Conv

section Store
variable {S : Type} [Inhabited S]

theorem attrsOk_flatten (n : Nat) (ps : List (Prog S)) (h : ∀ p ∈ ps, attrsOk n p = true) :
    attrsOk n ps.flatten = true := by
  induction ps with
  | nil => rfl
  | cons p r ih =>
    simp only [List.flatten_cons, attrsOk_append, Bool.and_eq_true]
    exact ⟨h p (by simp), ih fun q hq => h q (by simp [hq])⟩

/-- the path `Path::builder_with_attributes(n)` builds for a program -/
def built (n : Nat) (p : Prog S) : PathData S :=
  ⟨emitPts zeroPt (List.replicate n default) p, emitVerbs p, n⟩

theorem built_numAttributes (n : Nat) (p : Prog S) : (built n p).numAttributes = n := rfl

theorem extendFromPaths_built (n : Nat) (b : BuilderWithAttributes S) (hb : b.numAttributes = n)
    (pend : List (Prog S)) (hp : ∀ p ∈ pend, WellNested p) :
    extendFromPaths b (pend.map (built n)) = some
      { b with builder := { b.builder with
          points := b.builder.points ++ emitPts b.builder.first b.firstAttributes pend.flatten,
          verbs := b.builder.verbs ++ emitVerbs pend.flatten } } := by
  simp [extendFromPaths, hb, List.flatMap_map, built, flatMap_emitVerbs,
    flatMap_emitPts b.builder.first zeroPt b.firstAttributes (List.replicate n default) pend hp]

/-- `storePieces` (direct pieces driven into the final builder, the others built on their own
and appended with `extend_from_paths`) stores the whole program: from a builder state `b`, with
the paths of `pend` pending, the result is `b`'s storage followed by what
`pend ++ pieces`, concatenated, stores from `b`. -/
theorem storePieces_emit (n : Nat) (b : BuilderWithAttributes S) (hb : b.numAttributes = n)
    (hfa : b.firstAttributes.length = n) (pend : List (Prog S))
    (pieces : List (Prog S × Bool))
    (hp : ∀ p ∈ pend, WellNested p)
    (hq : ∀ p ∈ pieces, WellNested p.1) (hqa : ∀ p ∈ pieces, attrsOk n p.1 = true) :
    storePieces n b (pend.map (built n)) pieces = some
      ⟨b.builder.points ++ emitPts b.builder.first b.firstAttributes
          (pend.flatten ++ (pieces.map (·.1)).flatten),
       b.builder.verbs ++ emitVerbs (pend.flatten ++ (pieces.map (·.1)).flatten), n⟩ := by
  induction pieces generalizing b pend with
  | nil => simp [storePieces, extendFromPaths_built n b hb pend hp, BuilderWithAttributes.build, hb]
  | cons pc r ih =>
    obtain ⟨p, d⟩ := pc
    have hpw : WellNested p := hq (p, d) (by simp)
    have hpo : attrsOk n p = true := hqa (p, d) (by simp)
    have hrw : ∀ q ∈ r, WellNested q.1 := fun q hq' => hq q (by simp [hq'])
    have hro : ∀ q ∈ r, attrsOk n q.1 = true := fun q hq' => hqa q (by simp [hq'])
    cases d with
    | false =>
      have hbuild : buildWithAttributes n p = some (built n p) := buildWithAttributes_emit n p hpo
      have := ih b hb hfa (pend ++ [p])
        (by intro q hq'; simp only [List.mem_append, List.mem_singleton] at hq'
            rcases hq' with h | h
            · exact hp q h
            · exact h ▸ hpw)
        hrw hro
      simp only [storePieces, hbuild, Option.bind_some]
      simpa [List.map_append, List.flatten_append, List.append_assoc] using this
    | true =>
      have hrest : WellNested (r.map (·.1)).flatten :=
        WellNested.flatten (by
          intro q hq'
          obtain ⟨x, hx, rfl⟩ := List.mem_map.1 hq'
          exact hrw x hx)
      simp only [storePieces, extendFromPaths_built n b hb pend hp, Option.bind_some, run_eq, hb, hpo, hfa]
      refine (ih _ ?_ ?_ [] (by simp) hrw hro).trans ?_
      · rfl
      · exact firstAfter_length n _ _ p hpo hfa
      simp only [List.flatten_nil, List.nil_append, List.map_cons, List.flatten_cons,
        List.append_assoc, emitVerbs_append]
      rw [emitPts_append_indep _ b.builder.first _ b.firstAttributes pend.flatten _
          (wellNested_append hpw hrest),
        emitPts_append_indep _ (firstAfter b.builder.first b.firstAttributes p).1 _
          (firstAfter b.builder.first b.firstAttributes p).2 p _ hrest]

end Store

end Lyon.Adapt
