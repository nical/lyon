/-
  C06g: the LOWER half of the round clause for one fan of `tessellate_arc`.

  The pieces of `C06g.round_fan_covers_inner_sector` (`Props/C06g.lean`): the triangles `tessellate_arc a0 a1 va vb n`
  emits, together with the triangle (centre, start vertex, end vertex), cover the circular sector of radius `w/2 · cos((a1 − a0)/2^(n+1))`
  (= `w/2 −` sagitta of one of the `2^n` chords) around the centre between the directions `a0` and `a1`.
  Laws of `sin` / `cos` used (hypotheses): `cos² + sin² = 1`, the two addition formulas, positivity of `sin`,
  `cos` on `(0, (a1 − a0)/2]` (an arc of less than half a turn).

  `tessellate_arc` is the recursion of `fill_border_radius` (a vertex at the mid angle, one triangle, the two halves);
  `c + (uv a).smul hw` is `C03c.pos c hw a` and the chords of the finest level are `C03c.leafEdges c hw n a0 a1 A B`.
  The cover is by half-planes, as for the caps of `fill_circle` (`C03c.cap_covers`):
  * `arc_covers_sides` (no angle arithmetic; `hpy` only puts the new vertex on the circle): a point beyond the chord start → end and on the inner side of all leaf
    chords lies in an emitted triangle - beyond the chord to the mid vertex: the first half; beyond the chord from
    it: the second half; else the triangle of this level, by the signs of its three edge functions (`inTri_of_sides`);
  * a point within `hw·cos η` of the centre is on the inner side of every leaf chord, `η` their half-angle
    (`C03c.leafEdges_inner`);
  * a point not beyond the chord and between the two radii is in the triangle (centre, start, end): in the end result.
  All of this for `a0 < a1`, the counter-clockwise direction; the model's round joins call `tessellate_arc` with `a0 ≥ a1`
  (see the header of `Props/C06g.lean`).
  `quad_split`, `quad_split_right` stand beside this and are used by none of it: the triangle (centre, a, m) lies in
  (centre, a, b) ∪ (a, m, b) when `m` is the outward-scaled midpoint direction (a cover by splitting, where the proof
  above goes by half-planes).
-/
import LyonVerif.Lemmas.StrokeCoverShape
import LyonVerif.Lemmas.StrokeCoverEdge
import LyonVerif.Lemmas.CircleCoverTrig
import Mathlib.Tactic.Linarith
import Mathlib.Tactic.LinearCombination

set_option linter.unusedSectionVars false

namespace Lyon.C06b
open Lyon Scalar Lyon.Stroke Lyon.Stroke.Full Lyon.C05 Lyon.C05b Lyon.C05c Lyon.C06

section Geo
variable {K : Type} [Field K] [LinearOrder K] [IsStrictOrderedRing K]

theorem quad_split (c a b : P K) (g : K) (hg : 1 / 2 < g) (q : P K)
    (h : InTri q (c, c + a, c + (a + b).smul g)) :
    InTri q (c, c + a, c + b) ∨ InTri q (c + a, c + (a + b).smul g, c + b) := by
  obtain ⟨l, m, n, hl, hm, hn, hs, hx, hy⟩ := h
  simp only [geom] at hx hy
  obtain rfl : l = 1 - m - n := by linarith only [hs]
  have hg0 : 0 < g := by linarith only [hg]
  have hng : 0 ≤ n * g := mul_nonneg hn (le_of_lt hg0)
  by_cases hAB : m + 2 * n * g ≤ 1
  · left
    refine ⟨1 - m - 2 * n * g, m + n * g, n * g, by linarith only [hAB], by linarith only [hm, hng], hng, by ring, ?_, ?_⟩
    · simp only [geom]; rw [hx]; ring
    · simp only [geom]; rw [hy]; ring
  · right
    have hd : 0 < 2 * g - 1 := by linarith only [hg]
    obtain ⟨μ, hμ⟩ : ∃ μ, μ * (2 * g - 1) = m + 2 * n * g - 1 :=
      ⟨(m + 2 * n * g - 1) / (2 * g - 1), div_mul_cancel₀ _ (ne_of_gt hd)⟩
    have hμ0 : 0 ≤ μ := le_of_mul_le_mul_right (by rw [zero_mul, hμ]; linarith only [hAB]) hd
    have hν : 0 ≤ n * g - μ * g := by
      refine le_of_mul_le_mul_right ?_ hd
      have e : (n * g - μ * g) * (2 * g - 1) = g * (1 - m - n) := by linear_combination (-g) * hμ
      rw [zero_mul, e]; exact mul_nonneg (le_of_lt hg0) hl
    refine ⟨m + n * g - μ * g, μ, n * g - μ * g, by linarith only [hν, hm], hμ0, hν, by linear_combination (-1 : K) * hμ, ?_, ?_⟩
    · simp only [geom]; rw [hx]; linear_combination (c.x) * hμ
    · simp only [geom]; rw [hy]; linear_combination (c.y) * hμ

theorem quad_split_right (c a b : P K) (g : K) (hg : 1 / 2 < g) (q : P K)
    (h : InTri q (c, c + (a + b).smul g, c + b)) :
    InTri q (c, c + a, c + b) ∨ InTri q (c + a, c + (a + b).smul g, c + b) := by
  have e : a + b = b + a := by geom_ring
  -- exchange the second and third corner, apply `quad_split`, exchange back
  have h1 : InTri q (c, c + b, c + (b + a).smul g) := by
    rw [← e]; exact inTri_swap (inTri_rot h)
  rcases quad_split c b a g hg q h1 with h2 | h2
  · exact Or.inl (inTri_swap (inTri_rot h2))
  · right
    rw [← e] at h2
    exact inTri_swap h2

/-- a point whose three edge functions are `≥ 0` and not all `0` is a convex combination of the corners: the edge
functions are its weights, times their sum (twice the area) -/
theorem inTri_of_sides (A B C p : P K) (h1 : 0 ≤ (B - A).cross (p - A)) (h2 : 0 ≤ (C - B).cross (p - B))
    (h3 : 0 ≤ (A - C).cross (p - C))
    (hD : 0 < (B - A).cross (p - A) + (C - B).cross (p - B) + (A - C).cross (p - C)) : InTri p (A, B, C) := by
  refine ⟨_, _, _, div_nonneg h2 hD.le, div_nonneg h3 hD.le, div_nonneg h1 hD.le, ?_, ?_, ?_⟩
  · rw [← add_div, ← add_div, div_eq_one_iff_eq hD.ne']; ring
  · show p.x = _
    rw [div_mul_eq_mul_div, div_mul_eq_mul_div, div_mul_eq_mul_div, ← add_div, ← add_div, eq_div_iff hD.ne']
    simp only [P.cross, P.sub_def]; ring
  · show p.y = _
    rw [div_mul_eq_mul_div, div_mul_eq_mul_div, div_mul_eq_mul_div, ← add_div, ← add_div, eq_div_iff hD.ne']
    simp only [P.cross, P.sub_def]; ring

end Geo

section Arc
variable {K : Type} [Field K] [LinearOrder K] [IsStrictOrderedRing K] [Transc K]

/-- the unit vector of angle `x` -/
def uv (x : K) : P K := ⟨Transc.cos x, Transc.sin x⟩

/-- the emitted triangles of `o` cover `q` -/
def CoveredBy (o : Out K) (q : P K) : Prop :=
  ∃ t ∈ o.tris, ∃ p1 p2 p3, PosAt o t.1 p1 ∧ PosAt o t.2.1 p2 ∧ PosAt o t.2.2 p3 ∧ InTri q (p1, p2, p3)

/-- `CoveredBy o` is `Cov (EmTri o)`, the form in which `edge_cover_of` and the run theorems speak of covered points -/
theorem coveredBy_iff {o : Out K} {q : P K} : CoveredBy o q ↔ Cov (EmTri o) q :=
  ⟨fun ⟨t, ht, p1, p2, p3, a, b, c, d⟩ => ⟨(p1, p2, p3), ⟨t, ht, a, b, c⟩, d⟩,
   fun ⟨(p1, p2, p3), ⟨t, ht, a, b, c⟩, d⟩ => ⟨t, ht, p1, p2, p3, a, b, c, d⟩⟩

theorem CoveredBy.ext {o o' : Out K} (h : Ext o o') {q : P K} (hc : CoveredBy o q) : CoveredBy o' q := by
  obtain ⟨T, hT, hq⟩ := coveredBy_iff.1 hc
  exact coveredBy_iff.2 ⟨T, hT.ext h, hq⟩

theorem arc_covers_sides
    (hpy : ∀ x : K, Transc.cos x * Transc.cos x + Transc.sin x * Transc.sin x = 1)
    (c : P K) (hw : K) (n : Nat) :
    ∀ (a0 a1 : K) (va vb : Nat) (d : VData K) (o : Out K) (A B : P K),
      d.positionOnPath = c → d.halfWidth = hw → o.nextId = o.verts.length →
      PosAt o va A → (A - c).sqLen = hw * hw → PosAt o vb B → (B - c).sqLen = hw * hw →
      ∀ p : P K, (B - A).cross (p - A) < 0 → (∀ e ∈ C03c.leafEdges c hw n a0 a1 A B, C03c.Inner e p) →
        CoveredBy (tessellateArc a0 a1 va vb n d o) p := by
  induction n with
  | zero =>
    intro a0 a1 va vb d o A B _ _ _ _ _ _ _ p hout hin
    exact absurd hout (not_lt.2 (hin (A, B) (by simp [C03c.leafEdges])))
  | succ n ih =>
    intro a0 a1 va vb d o A B hc hhd hn hpa hA hpb hB p hout hin
    simp only [tessellateArc]
    set mid := (a0 + a1) * half with hmid
    set d1 : VData K := { d with normal := ⟨Transc.cos mid, Transc.sin mid⟩ } with hd1
    have hpm : d1.position = C03c.pos c hw mid := by
      show d.positionOnPath + (⟨Transc.cos mid, Transc.sin mid⟩ : P K).smul d.halfWidth = _
      rw [hc, hhd]; rfl
    have hM : (C03c.pos c hw mid - c).sqLen = hw * hw := by
      have := hpy mid; simp only [C03c.pos, geom]; linear_combination (hw * hw) * this
    set o1 := (o.addVertex d1).addTri (va, o.nextId, vb) with ho1
    obtain ⟨⟨hx1, hn1, _⟩, hpv⟩ := FanGrow.mid (S := []) hn d1 (hpm ▸ hM) hpa (Or.inr hA) hpb (Or.inr hB)
    rw [hpm] at hpv
    obtain ⟨x2, n2, _, _, _⟩ := arc_shape hpy [] c hw n a0 mid va o.nextId d1 o1 _ _ hc hhd hn1
      (hpa.ext hx1) (Or.inr hA) hpv (Or.inr hM)
    obtain ⟨x3, _, _, _, _⟩ := arc_shape hpy [] c hw n mid a1 o.nextId vb d1 (tessellateArc a0 mid va o.nextId n d1 o1) _ _
      hc hhd n2 (hpv.ext x2) (Or.inr hM) ((hpb.ext hx1).ext x2) (Or.inr hB)
    simp only [C03c.leafEdges, List.mem_append] at hin
    -- beyond `A → M`: the first half; beyond `M → B`: the second half; else the step triangle
    by_cases h1 : (C03c.pos c hw mid - A).cross (p - A) < 0
    · exact (ih a0 mid va o.nextId d1 o1 A _ hc hhd hn1 (hpa.ext hx1) hA hpv hM p h1
        fun e he => hin e (Or.inl he)).ext x3
    by_cases h2 : (B - C03c.pos c hw mid).cross (p - C03c.pos c hw mid) < 0
    · exact ih mid a1 o.nextId vb d1 _ _ B hc hhd n2 (hpv.ext x2) hM ((hpb.ext hx1).ext x2) hB p h2
        fun e he => hin e (Or.inr he)
    · have h3 : 0 < (A - B).cross (p - B) := by
        simp only [P.cross, P.sub_def] at hout ⊢; linear_combination hout
      have hc1 : CoveredBy o1 p :=
        ⟨(va, o.nextId, vb), by simp [ho1, Out.addVertex, Out.addTri], _, _, _, hpa.ext hx1, hpv, hpb.ext hx1,
          inTri_of_sides A _ B p (not_lt.1 h1) (not_lt.1 h2) h3.le
            (add_pos_of_nonneg_of_pos (add_nonneg (not_lt.1 h1) (not_lt.1 h2)) h3)⟩
      exact (hc1.ext x2).ext x3

end Arc

end Lyon.C06b
