/-
  C14 helper lemmas about `Model/Path/Commands.lean`: what a program appends to the command
  array and the iterators on exactly such an array.  Mathlib-free.
-/
import LyonVerif.Model.Path.Commands
import LyonVerif.Model.Path.Store
import LyonVerif.Lemmas.Trace


namespace Lyon.Path.Cmd
open Lyon.Path

/-- the command words a program appends; `pos` = current length of the array, `fi` =
`first_event_index` -/
def emitCmds {A : Type} : Nat → Nat → List (Call Nat A) → List Nat
  | _, _, [] => []
  | pos, _, .begin to _ :: r => BEGIN :: to :: emitCmds (pos + 2) pos r
  | pos, fi, .line to _ :: r => LINE :: to :: emitCmds (pos + 2) fi r
  | pos, fi, .quad c to _ :: r => QUADRATIC :: c :: to :: emitCmds (pos + 3) fi r
  | pos, fi, .cubic c1 c2 to _ :: r => CUBIC :: c1 :: c2 :: to :: emitCmds (pos + 4) fi r
  | pos, fi, .end_ cl :: r => (if cl then CLOSE else END) :: fi :: emitCmds (pos + 2) fi r

/-- the words one call appends; `fi` = `first_event_index`.  With `fiAfter`, `emitCmds_cons` is the
one equation of `emitCmds` (no split into the five calls): the form to prove new lemmas from -/
def words {A : Type} (fi : Nat) : Call Nat A → List Nat
  | .begin to _ => [BEGIN, to]
  | .line to _ => [LINE, to]
  | .quad c to _ => [QUADRATIC, c, to]
  | .cubic c1 c2 to _ => [CUBIC, c1, c2, to]
  | .end_ cl => [if cl then CLOSE else END, fi]

/-- `first_event_index` after a call appended at position `pos` -/
def fiAfter {A : Type} (pos fi : Nat) : Call Nat A → Nat
  | .begin _ _ => pos
  | _ => fi

theorem emitCmds_cons {A : Type} (pos fi : Nat) (c : Call Nat A) (r : List (Call Nat A)) :
    emitCmds pos fi (c :: r)
      = words fi c ++ emitCmds (pos + (words fi c).length) (fiAfter pos fi c) r := by
  cases c <;> rfl

theorem run_emit {A : Type} (b : Builder) (prog : List (Call Nat A)) :
    (b.run prog).1.cmds = b.cmds ++ emitCmds b.cmds.length b.firstEventIndex prog := by
  induction prog generalizing b with
  | nil => simp [Builder.run, emitCmds]
  | cons c r ih =>
    obtain ⟨cmds, fi⟩ := b
    cases c <;> simp [Builder.run, Builder.call, ih, emitCmds]

theorem iterGo_emit {A : Type} (prog : List (Call Nat A)) (st : Option (Nat × Nat)) (pos fi prev first : Nat)
    (hn : wellNestedFrom st.isSome prog = true) (hst : ∀ x ∈ st, x = (first, prev)) :
    iterGo (emitCmds pos fi prog) prev first = some (specFrom st prog) := by
  revert pos fi prev first
  refine wellNested_induction ?_ ?_ ?_ ?_ ?_ ?_ st prog hn
  · intro pos fi prev first _; simp [emitCmds, iterGo, specFrom]
  · intro p a r _ ih pos fi prev first _
    simp [emitCmds, iterGo, BEGIN, ih (pos + 2) pos p p (by simp), specFrom]
  · intro f c p a r _ ih pos fi prev first hst
    cases hst _ rfl
    simp [emitCmds, iterGo, BEGIN, LINE, ih (pos + 2) fi p f (by simp), specFrom]
  · intro f c k p a r _ ih pos fi prev first hst
    cases hst _ rfl
    simp [emitCmds, iterGo, BEGIN, LINE, QUADRATIC, ih (pos + 3) fi p f (by simp), specFrom]
  · intro f c k1 k2 p a r _ ih pos fi prev first hst
    cases hst _ rfl
    simp [emitCmds, iterGo, BEGIN, LINE, QUADRATIC, CUBIC, ih (pos + 4) fi p f (by simp), specFrom]
  · intro f c cl r _ ih pos fi prev first hst
    cases hst _ rfl
    cases cl <;>
      simp [emitCmds, iterGo, BEGIN, LINE, QUADRATIC, CUBIC, CLOSE, END, ih (pos + 2) fi f f (by simp), specFrom]

theorem resolveAll_cons_bind {π : Type} (ep cp : Nat → Option π) (e : Event Nat) (o : Option (List (Event Nat))) :
    (o.map fun t => e :: t).bind (resolveAll ep cp)
      = (resolveEvent ep cp e).bind fun e' => (o.bind (resolveAll ep cp)).map fun t => e' :: t := by
  cases o with
  | none => cases resolveEvent ep cp e <;> rfl
  | some t => rfl

/-- `commands::Events` is `commands::Iter` with every id looked up, on every command array -/
theorem eventsGo_eq_iterGo {π : Type} (eps cps : List π) (cmds : List Nat) (prev first : Nat) :
    eventsGo eps cps cmds prev first
      = (iterGo cmds prev first).bind (resolveAll (fun i => eps[i]?) (fun i => cps[i]?)) := by
  -- the branches of `iterGo`: 1 `[]`; 2/3 BEGIN, 4/5 LINE, 6/7 QUADRATIC, 8/9 CUBIC with / without
  -- their operands; 10/11 END or CLOSE with / without the back-pointer.  In 7 and 9 the operands are
  -- missing by the catch-all pattern `| _ => none`, which comes as the negated pattern `hr`: the
  -- shapes of `r` it leaves are listed by hand
  fun_induction iterGo cmds prev first with
  | case1 => rfl
  | case2 prev first to r' ih =>
    rw [resolveAll_cons_bind]
    simp only [eventsGo, if_true, ih, resolveEvent, Option.bind_map, Function.comp_def]
  | case4 prev first to r' h ih =>
    rw [resolveAll_cons_bind]
    simp only [eventsGo, h, if_true, if_false, ih, resolveEvent, Option.bind_map, Option.bind_assoc, Function.comp_def]
  | case6 prev first c to r' h1 h2 ih =>
    rw [resolveAll_cons_bind]
    simp only [eventsGo, h1, h2, if_true, if_false, ih, resolveEvent, Option.bind_map, Option.bind_assoc, Function.comp_def]
  | case8 prev first c1 c2 to r' h1 h2 h3 ih =>
    rw [resolveAll_cons_bind]
    simp only [eventsGo, h1, h2, h3, if_true, if_false, ih, resolveEvent, Option.bind_map, Option.bind_assoc, Function.comp_def]
  | case10 v prev first h1 h2 h3 h4 x r' ih =>
    rw [resolveAll_cons_bind]
    simp only [eventsGo, h1, h2, h3, h4, if_false, ih, resolveEvent, Option.bind_map, Option.bind_assoc, Function.comp_def]
  | case11 v prev first h1 h2 h3 h4 =>
    simp [eventsGo, h1, h2, h3, h4, resolveAll, resolveEvent, Option.map_eq_bind, Option.bind_assoc, Function.comp_def]
  | case7 r prev first hr h1 h2 =>
    match r, hr with
    | [], _ | [_], _ => simp [eventsGo, h1, h2]
    | c :: to :: r', hr => exact absurd rfl (hr c to r')
  | case9 r prev first hr h1 h2 h3 =>
    match r, hr with
    | [], _ | [_], _ | [_, _], _ => simp [eventsGo, h1, h2, h3]
    | c1 :: c2 :: to :: r', hr => exact absurd rfl (hr c1 c2 to r')
  | _ => simp_all [eventsGo]

/-- the event ids a program is handed back: the position of each command's verb word -/
def emitIds {A : Type} : Nat → List (Call Nat A) → List Nat
  | _, [] => []
  | pos, .begin _ _ :: r => pos :: emitIds (pos + 2) r
  | pos, .line _ _ :: r => pos :: emitIds (pos + 2) r
  | pos, .quad _ _ _ :: r => pos :: emitIds (pos + 3) r
  | pos, .cubic _ _ _ _ :: r => pos :: emitIds (pos + 4) r
  | pos, .end_ _ :: r => pos :: emitIds (pos + 2) r

theorem emitIds_cons {A : Type} (pos fi : Nat) (c : Call Nat A) (r : List (Call Nat A)) :
    emitIds pos (c :: r) = pos :: emitIds (pos + (words fi c).length) r := by
  cases c <;> rfl

theorem run_ids {A : Type} (b : Builder) (prog : List (Call Nat A)) :
    (b.run prog).2 = emitIds b.cmds.length prog := by
  induction prog generalizing b with
  | nil => simp [Builder.run, emitIds]
  | cons c r ih =>
    obtain ⟨cmds, fi⟩ := b
    cases c <;> simp [Builder.run, Builder.call, ih, emitIds]

theorem get_pre {α : Type} (pre rest : List α) (k : Nat) :
    (pre ++ rest)[pre.length + k]? = rest[k]? := by
  rw [List.getElem?_append_right (by omega)]; simp

theorem mapM_event_emit {A : Type} (all : List Nat) (prog : List (Call Nat A)) (st : Option (Nat × Nat))
    (pre : List Nat) (fi : Nat)
    (hall : all = pre ++ emitCmds pre.length fi prog)
    (hn : wellNestedFrom st.isSome prog = true)
    (hst : ∀ f0 c0, st = some (f0, c0) →
      1 ≤ pre.length ∧ all[pre.length - 1]? = some c0 ∧ all[fi + 1]? = some f0) :
    (emitIds pre.length prog).mapM (event all) = some (specFrom st prog) := by
  -- an event id is the position of its verb word: `event` reads the words after it (`gk`), the
  -- previous endpoint in the word just before it (`hst`: last word of the preceding block), and for
  -- `end` the first endpoint through the stored `first_event_index`
  have gk : ∀ (pre rest : List Nat) (k : Nat), all = pre ++ rest → all[pre.length + k]? = rest[k]? :=
    fun pre rest k h => by rw [h]; exact get_pre pre rest k
  revert pre fi
  refine wellNested_induction ?_ ?_ ?_ ?_ ?_ ?_ st prog hn
  · intro pre fi _ _; simp [emitIds, specFrom]
  · intro p a r _ ih pre fi hall _
    simp only [emitCmds] at hall
    have e0 := gk pre _ 0 hall
    have e1 := gk pre _ 1 hall
    have h := ih (pre ++ [BEGIN, p]) pre.length (by simpa using hall)
      (by intro f0 c0 h; cases h; exact ⟨by simp, by simpa using e1, by simpa using e1⟩)
    simp at e0 e1 h
    simp [emitIds, event, e0, e1, BEGIN, LINE, QUADRATIC, CUBIC, h, specFrom]
  · intro f c p a r _ ih pre fi hall hst
    obtain ⟨hpos, hprev, hfirst⟩ := hst f c rfl
    simp only [emitCmds] at hall
    have e0 := gk pre _ 0 hall
    have e1 := gk pre _ 1 hall
    simp at e0 e1
    have h := ih (pre ++ [LINE, p]) fi (by simpa using hall)
      (by intro f0' c0' h; cases h; exact ⟨by simp, by simpa using e1, hfirst⟩)
    simp at h
    simp [emitIds, event, event.csubC, e0, e1, hpos, hprev, BEGIN, LINE, QUADRATIC, CUBIC, h, specFrom]
  · intro f c k p a r _ ih pre fi hall hst
    obtain ⟨hpos, hprev, hfirst⟩ := hst f c rfl
    simp only [emitCmds] at hall
    have e0 := gk pre _ 0 hall
    have e1 := gk pre _ 1 hall
    have e2 := gk pre _ 2 hall
    simp at e0 e1 e2
    have h := ih (pre ++ [QUADRATIC, k, p]) fi (by simpa using hall)
      (by intro f0' c0' h; cases h; exact ⟨by simp, by simpa using e2, hfirst⟩)
    simp at h
    simp [emitIds, event, event.csubC, e0, e1, e2, hpos, hprev, BEGIN, LINE, QUADRATIC, CUBIC, h, specFrom]
  · intro f c k1 k2 p a r _ ih pre fi hall hst
    obtain ⟨hpos, hprev, hfirst⟩ := hst f c rfl
    simp only [emitCmds] at hall
    have e0 := gk pre _ 0 hall
    have e1 := gk pre _ 1 hall
    have e2 := gk pre _ 2 hall
    have e3 := gk pre _ 3 hall
    simp at e0 e1 e2 e3
    have h := ih (pre ++ [CUBIC, k1, k2, p]) fi (by simpa using hall)
      (by intro f0' c0' h; cases h; exact ⟨by simp, by simpa using e3, hfirst⟩)
    simp at h
    simp [emitIds, event, event.csubC, e0, e1, e2, e3, hpos, hprev, BEGIN, LINE, QUADRATIC, CUBIC, h, specFrom]
  · intro f c cl r _ ih pre fi hall hst
    obtain ⟨hpos, hprev, hfirst⟩ := hst f c rfl
    simp only [emitCmds] at hall
    have e0 := gk pre _ 0 hall
    have e1 := gk pre _ 1 hall
    simp at e0 e1
    have h := ih (pre ++ [if cl then CLOSE else END, fi]) fi (by simpa using hall)
      (by intro f0' c0' h; cases h)
    simp at h
    cases cl <;>
      simp [emitIds, event, event.csubC, e0, e1, hpos, hprev, hfirst, BEGIN, LINE, QUADRATIC, CUBIC,
        CLOSE, END, h, specFrom] at h ⊢ <;> exact h

theorem emitIds_head {A : Type} (pos : Nat) (r : List (Call Nat A)) :
    (emitIds pos r)[0]? = if r.isEmpty then none else some pos := by
  cases r with
  | nil => simp [emitIds]
  | cons c t => cases c <;> simp [emitIds]

theorem emitCmds_length_eq_zero {A : Type} (pos fi : Nat) (r : List (Call Nat A)) :
    (emitCmds pos fi r).length = 0 ↔ r = [] := by
  cases r with
  | nil => simp [emitCmds]
  | cons c t => cases c <;> simp [emitCmds]

/-- every block starts with its verb; the width `next_event_id_in_path` derives from the verb is the
block's length -/
theorem words_verb {A : Type} (fi : Nat) (c : Call Nat A) : ∃ v t, words fi c = v :: t ∧
    ∀ id : Nat, (if v = QUADRATIC then id + 3 else if v = CUBIC then id + 4 else id + 2)
      = id + (words fi c).length := by
  cases c with
  | end_ cl => cases cl <;> exact ⟨_, _, rfl, fun _ => rfl⟩
  | _ => exact ⟨_, _, rfl, fun _ => rfl⟩

theorem nextInPath_emit {A : Type} (all : List Nat) (prog : List (Call Nat A)) (pre : List Nat) (fi : Nat)
    (hall : all = pre ++ emitCmds pre.length fi prog) (j id : Nat)
    (hj : (emitIds pre.length prog)[j]? = some id) :
    nextEventIdInPath all id = some ((emitIds pre.length prog)[j + 1]?) := by
  induction prog generalizing pre fi j with
  | nil => simp [emitIds] at hj
  | cons c r ih =>
    rw [emitCmds_cons] at hall
    rw [emitIds_cons _ fi] at hj ⊢
    cases j with
    | succ j =>
      have := ih (pre ++ words fi c) (fiAfter pre.length fi c) (by simpa using hall) j (by simpa using hj)
      simpa using this
    | zero =>
      -- the id of this call: its verb sends us past its block, to the next id if there is one
      obtain ⟨v, t, hw, hwid⟩ := words_verb fi c
      simp only [List.getElem?_cons_zero, Option.some.injEq] at hj
      subst hj
      have e0 : all[pre.length]? = some v := by rw [hall, hw]; simp
      have hl : all.length = pre.length + (words fi c).length
          + (emitCmds (pre.length + (words fi c).length) (fiAfter pre.length fi c) r).length := by
        rw [hall]; simp [Nat.add_assoc]
      simp only [nextEventIdInPath, e0, Option.map_some, hwid, List.getElem?_cons_succ, emitIds_head, hl]
      by_cases hr : r = []
      · simp [hr, emitCmds]
      · have := Nat.pos_of_ne_zero (mt (emitCmds_length_eq_zero (pre.length + (words fi c).length)
          (fiAfter pre.length fi c) r).mp hr)
        simp [hr, this]

/-- following `next_event_id_in_path` from the `j`-th id visits the ids from `j` on: `k` ids are left,
and `fuel ≥ k` steps of the model's walk suffice -/
theorem walk_from (all ids : List Nat)
    (hnext : ∀ j id, ids[j]? = some id → nextEventIdInPath all id = some (ids[j + 1]?)) :
    ∀ k j id fuel, j + k = ids.length → 1 ≤ k → k ≤ fuel → ids[j]? = some id →
      walkIds all fuel id = some (ids.drop j) := by
  intro k
  induction k with
  | zero => intro j id fuel _ h; omega
  | succ k ih =>
    intro j id fuel hjk _ hf hid
    obtain ⟨f, rfl⟩ : ∃ f, fuel = f + 1 := ⟨fuel - 1, by omega⟩
    have hlt : j < ids.length := by omega
    have hdrop : ids.drop j = id :: ids.drop (j + 1) := by
      rw [List.drop_eq_getElem_cons hlt]
      have : ids[j]? = some ids[j] := List.getElem?_eq_getElem hlt
      rw [this] at hid; simp at hid; rw [hid]
    simp only [walkIds, hnext j id hid, Option.bind_some]
    by_cases hk : k = 0
    · subst hk
      have : ids[j + 1]? = none := by simp; omega
      have hd : ids.drop (j + 1) = [] := by simp; omega
      simp [this, hdrop, hd]
    · have hlt' : j + 1 < ids.length := by omega
      have hn : ids[j + 1]? = some ids[j + 1] := List.getElem?_eq_getElem hlt'
      have := ih (j + 1) ids[j + 1] f (by omega) (by omega) (by omega) hn
      simp [hn, this, hdrop]

theorem emitIds_length {A : Type} (pos : Nat) (prog : List (Call Nat A)) :
    (emitIds pos prog).length = prog.length := by
  induction prog generalizing pos with
  | nil => rfl
  | cons c r ih => cases c <;> simp [emitIds, ih]

theorem emitCmds_length_ge {A : Type} (pos fi : Nat) (prog : List (Call Nat A)) :
    prog.length ≤ (emitCmds pos fi prog).length := by
  induction prog generalizing pos fi with
  | nil => simp
  | cons c r ih =>
    obtain ⟨v, t, hw, _⟩ := words_verb fi c
    have hpos : 0 < (words fi c).length := by rw [hw]; exact Nat.succ_pos _
    have := ih (pos + (words fi c).length) (fiAfter pos fi c)
    rw [emitCmds_cons, List.length_append, List.length_cons]
    omega

/-- what `next_event_id_in_sub_path` must answer for each event id: the next id, and at an End
the id of the sub-path's Begin (`b`) — the ids of a sub-path form a cycle -/
def cycleSpec {A : Type} : List Nat → List (Call Nat A) → Nat → List Nat
  | id :: ids, .begin _ _ :: r, _ => (ids.head?.getD 0) :: cycleSpec ids r id
  | _ :: ids, .end_ _ :: r, b => b :: cycleSpec ids r b
  | _ :: ids, _ :: r, b => (ids.head?.getD 0) :: cycleSpec ids r b
  | _, _, _ => []

theorem cycleSpec_cons {A : Type} (id : Nat) (ids : List Nat) (c : Call Nat A) (r : List (Call Nat A))
    (b : Nat) :
    cycleSpec (id :: ids) (c :: r) b
      = (match c with | .end_ _ => b | _ => ids.head?.getD 0) :: cycleSpec ids r (fiAfter id b c) := by
  cases c <;> rfl

theorem nextInSubPath_words {A : Type} (pre rest : List Nat) (fi : Nat) (c : Call Nat A) :
    nextEventIdInSubPath (pre ++ (words fi c ++ rest)) pre.length
      = some (match c with | .end_ _ => fi | _ => pre.length + (words fi c).length) := by
  cases c with
  | end_ cl => cases cl <;> simp [nextEventIdInSubPath, words, BEGIN, LINE, QUADRATIC, CUBIC, CLOSE, END]
  | _ => simp [nextEventIdInSubPath, words, BEGIN, LINE, QUADRATIC, CUBIC]

theorem nextInSubPath_emit {A : Type} (all : List Nat) (prog : List (Call Nat A)) (inSub : Bool)
    (pre : List Nat) (fi : Nat)
    (hall : all = pre ++ emitCmds pre.length fi prog)
    (hn : wellNestedFrom inSub prog = true) :
    (emitIds pre.length prog).mapM (nextEventIdInSubPath all)
      = some (cycleSpec (emitIds pre.length prog) prog fi) := by
  induction prog generalizing inSub pre fi with
  | nil => simp [emitIds, cycleSpec]
  | cons c r ih =>
    rw [emitCmds_cons] at hall
    obtain ⟨s', hn', hr⟩ := wellNestedFrom_cons_next inSub c r hn
    have h := ih s' (pre ++ words fi c) (fiAfter pre.length fi c) (by simpa using hall) hn'
    rw [List.length_append] at h
    rw [emitIds_cons _ fi, cycleSpec_cons, List.mapM_cons, h]
    rw [hall, nextInSubPath_words]
    cases c with
    | end_ cl => rfl
    | _ => simp [List.head?_eq_getElem?, emitIds_head, hr (by simp)]

end Lyon.Path.Cmd
