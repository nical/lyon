/-
  Simulation between the OBJECT model of the Hatcher (`Model/Algo/HatchObj.lean`: every function
  reads `self`'s fields) and the one-call model (`Model/Algo/Hatch.lean`), for C20b.

  `ObjInv cfg h`: what the prologue of `Hatcher::hatch` establishes on ANY object and every later
  step of the call keeps: the object's `transform`, `uv_origin`, `compute_tangents` are the call's,
  and — when tangents are off, so that `hatch_line` never writes them — `segment.{a,b}.tangent`
  still hold the NaN vector the prologue stored.  `active_edges` and `segment.row` are not part of
  the invariant: they are *equated* with the one-call model's state through `OSt.toSt`, starting
  from the prologue's `clear()` / `row = 0`.

  No arithmetic law is used: the lemmas hold over every `[Scalar α] [Transc α]`, `Float32` included.
-/
import LyonVerif.Model.Algo.HatchObj

set_option linter.unusedSectionVars false

namespace Lyon.Hatch
open Lyon Scalar

variable {α : Type} [Scalar α] [Transc α] {σ : Type}

structure ObjInv (cfg : Cfg α) (h : Obj α) : Prop where
  ci : Transc.cos h.tr = cfg.ci
  si : Transc.sin h.tr = cfg.si
  uvo : h.uvo = cfg.uvo
  ct : h.ct = cfg.ct
  ta : cfg.ct = false → h.seg.ta = cfg.nan
  tb : cfg.ct = false → h.seg.tb = cfg.nan

theorem objTangent_eq (cfg : Cfg α) (e : Seg α) (t : P α) (h : cfg.ct = false → t = cfg.nan) :
    objTangent cfg.ci cfg.si cfg.ct e t = tangentOf cfg e := by
  unfold objTangent tangentOf
  cases hc : cfg.ct
  · simp [h hc]
  · simp

theorem tangentOf_off (cfg : Cfg α) (e : Seg α) (h : cfg.ct = false) : tangentOf cfg e = cfg.nan := by
  unfold tangentOf; simp [h]

theorem writeSeg_eq (cfg : Cfg α) (y px x : α) (pt t : P α) (sg : HSeg α)
    (hv : sg.v = y - cfg.uvo.y)
    (h : cfg.ct = false → pt = cfg.nan ∧ t = cfg.nan ∧ sg.ta = cfg.nan ∧ sg.tb = cfg.nan) :
    writeSeg cfg.ci cfg.si cfg.uvo cfg.ct y px x pt t sg = mkSeg cfg y sg.row px x pt t := by
  cases sg
  simp only [writeSeg, mkSeg] at *
  cases hc : cfg.ct
  · obtain ⟨h1, h2, h3, h4⟩ := h hc
    simp [h1, h2, h3, h4, hv]
  · simp [hv]

theorem writeSeg_row (ci si : α) (uvo : P α) (ct : Bool) (y px x : α) (pt t : P α) (sg : HSeg α) :
    (writeSeg ci si uvo ct y px x pt t sg).row = sg.row := rfl

theorem writeSeg_v (ci si : α) (uvo : P α) (ct : Bool) (y px x : α) (pt t : P α) (sg : HSeg α) :
    (writeSeg ci si uvo ct y px x pt t sg).v = sg.v := rfl

theorem objLineLoop_sim (cfg : Cfg α) (y : α) :
    ∀ (es : List (Seg α)) (inside : Bool) (px : α) (pt t : P α) (sg : HSeg α),
      sg.v = y - cfg.uvo.y →
      (cfg.ct = false → pt = cfg.nan ∧ t = cfg.nan ∧ sg.ta = cfg.nan ∧ sg.tb = cfg.nan) →
      (objLineLoop cfg.ci cfg.si cfg.uvo cfg.ct y es inside px pt t sg).1
          = lineLoop cfg y sg.row es inside px pt
      ∧ (objLineLoop cfg.ci cfg.si cfg.uvo cfg.ct y es inside px pt t sg).2.row = sg.row
      ∧ (cfg.ct = false →
          (objLineLoop cfg.ci cfg.si cfg.uvo cfg.ct y es inside px pt t sg).2.ta = cfg.nan
          ∧ (objLineLoop cfg.ci cfg.si cfg.uvo cfg.ct y es inside px pt t sg).2.tb = cfg.nan) := by
  intro es
  induction es with
  | nil =>
    intro inside px pt t sg hv h
    refine ⟨by simp [objLineLoop, lineLoop], by simp [objLineLoop], ?_⟩
    intro hc
    obtain ⟨_, _, h3, h4⟩ := h hc
    simp [objLineLoop, h3, h4]
  | cons e es ih =>
    intro inside px pt t sg hv h
    have ht : objTangent cfg.ci cfg.si cfg.ct e t = tangentOf cfg e :=
      objTangent_eq cfg e t (fun hc => (h hc).2.1)
    have hT : cfg.ct = false → tangentOf cfg e = cfg.nan := tangentOf_off cfg e
    unfold objLineLoop lineLoop
    by_cases hy : e.b.y ≤ y
    · simp only [hy, if_true]
      exact ih inside px pt t sg hv h
    · simp only [hy, if_false]
      cases inside
      · simp only [Bool.false_eq_true, if_false, ht]
        exact ih true (solveX e y) (tangentOf cfg e) (tangentOf cfg e) sg hv
          (fun hc => ⟨hT hc, hT hc, (h hc).2.2.1, (h hc).2.2.2⟩)
      · simp only [if_true, ht]
        have hw : writeSeg cfg.ci cfg.si cfg.uvo cfg.ct y px (solveX e y) pt (tangentOf cfg e) sg
            = mkSeg cfg y sg.row px (solveX e y) pt (tangentOf cfg e) :=
          writeSeg_eq cfg y px (solveX e y) pt (tangentOf cfg e) sg hv
            (fun hc => ⟨(h hc).1, hT hc, (h hc).2.2.1, (h hc).2.2.2⟩)
        have hrec := ih false (solveX e y) (tangentOf cfg e) (tangentOf cfg e)
          (writeSeg cfg.ci cfg.si cfg.uvo cfg.ct y px (solveX e y) pt (tangentOf cfg e) sg)
          (by rw [writeSeg_v]; exact hv)
          (fun hc => by
            refine ⟨hT hc, hT hc, ?_, ?_⟩
            · simp [writeSeg, hc, (h hc).2.2.1]
            · simp [writeSeg, hc, (h hc).2.2.2])
        rw [writeSeg_row] at hrec
        exact ⟨by rw [← hw, ← hrec.1]; rfl, hrec.2.1, hrec.2.2⟩

theorem objHatchLine_sim (cfg : Cfg α) (h : Obj α) (y : α) (hi : ObjInv cfg h) :
    (objHatchLine cfg.nan h y).1
        = lineLoop cfg y h.seg.row (sortActive y h.active) false cfg.nan.x cfg.nan
    ∧ (objHatchLine cfg.nan h y).2.active = sortActive y h.active
    ∧ (objHatchLine cfg.nan h y).2.seg.row = h.seg.row + 1
    ∧ ObjInv cfg (objHatchLine cfg.nan h y).2 := by
  -- the four fields the loop reads from the object are those of `cfg`
  obtain ⟨ci, si, uvo, ct, nan⟩ := cfg
  obtain ⟨rfl, rfl, rfl, rfl, ta, tb⟩ := hi
  have hs := objLineLoop_sim ⟨_, _, _, _, nan⟩ y (sortActive y h.active) false nan.x nan nan
    { h.seg with v := y - h.uvo.y } rfl (fun hc => ⟨rfl, rfl, ta hc, tb hc⟩)
  refine ⟨hs.1, rfl, ?_, ⟨rfl, rfl, rfl, rfl, fun hc => (hs.2.2 hc).1, fun hc => (hs.2.2 hc).2⟩⟩
  show (bumpRow _).row = _
  simp only [bumpRow]; rw [hs.2.1]

theorem objRowStep_sim (cfg : Cfg α) (B : Builder σ α) (st : OSt σ α) (hi : ObjInv cfg st.h) :
    (objRowStep cfg.nan B st).toSt = rowStep cfg B st.toSt
    ∧ ObjInv cfg (objRowStep cfg.nan B st).h := by
  obtain ⟨h1, h2, h3, h4⟩ := objHatchLine_sim cfg st.h st.y hi
  refine ⟨?_, h4⟩
  simp only [objRowStep, rowStep, OSt.toSt, h1, h2, h3]
  rfl

theorem objRowsWhile_sim (cfg : Cfg α) (B : Builder σ α) (f : Nat) (bound : α) (st : OSt σ α)
    (hi : ObjInv cfg st.h) :
    (objRowsWhile cfg.nan B f bound st).toSt = rowsWhile cfg B f bound st.toSt
    ∧ ObjInv cfg (objRowsWhile cfg.nan B f bound st).h := by
  -- the two loops test the same `y` and, by `objRowStep_sim`, the same `stop`
  fun_induction objRowsWhile cfg.nan B f bound st with
  | case1 bound st h => rw [rowsWhile, if_pos (show st.toSt.y < bound from h)]; exact ⟨rfl, hi⟩
  | case2 bound st h => rw [rowsWhile, if_neg (show ¬ st.toSt.y < bound from h)]; exact ⟨rfl, hi⟩
  | case3 f bound st h hstop =>
    obtain ⟨hs, hi'⟩ := objRowStep_sim cfg B st hi
    rw [rowsWhile, if_pos (show st.toSt.y < bound from h), ← hs,
      if_pos (show (objRowStep cfg.nan B st).toSt.stop = true from hstop)]
    exact ⟨rfl, hi'⟩
  | case4 f bound st h hstop ih =>
    obtain ⟨hs, hi'⟩ := objRowStep_sim cfg B st hi
    rw [rowsWhile, if_pos (show st.toSt.y < bound from h), ← hs,
      if_neg (show ¬ (objRowStep cfg.nan B st).toSt.stop = true from hstop)]
    exact ih hi'
  | case5 f bound st h => rw [rowsWhile, if_neg (show ¬ st.toSt.y < bound from h)]; exact ⟨rfl, hi⟩

theorem objSweep_sim (cfg : Cfg α) (st : OSt σ α) (e : Seg α) (hi : ObjInv cfg st.h) :
    (objSweep st e).toSt
        = { st.toSt with ymax := Scalar.max st.toSt.ymax e.b.y,
                         active := updateSweep st.toSt.active e }
    ∧ ObjInv cfg (objSweep st e).h :=
  ⟨rfl, ⟨hi.ci, hi.si, hi.uvo, hi.ct, hi.ta, hi.tb⟩⟩

theorem objHatchEdges_sim (cfg : Cfg α) (B : Builder σ α) (fuel : Nat) (es : List (Seg α))
    (st : OSt σ α) (hi : ObjInv cfg st.h) :
    (objHatchEdges cfg.nan B fuel es st).toSt = hatchEdges cfg B fuel es st.toSt
    ∧ ObjInv cfg (objHatchEdges cfg.nan B fuel es st).h := by
  fun_induction objHatchEdges cfg.nan B fuel es st with
  | case1 st => exact ⟨rfl, hi⟩
  | case2 e es st hstop =>
    obtain ⟨hs, hi'⟩ := objRowsWhile_sim cfg B fuel e.a.y st hi
    rw [hatchEdges, ← hs, if_pos (show ((objRowsWhile cfg.nan B fuel e.a.y st).toSt.stop
      || (objRowsWhile cfg.nan B fuel e.a.y st).toSt.fuelOut) = true from hstop)]
    exact ⟨rfl, hi'⟩
  | case3 e es st hstop ih =>
    obtain ⟨hs, hi'⟩ := objRowsWhile_sim cfg B fuel e.a.y st hi
    obtain ⟨hw, hiw⟩ := objSweep_sim cfg (objRowsWhile cfg.nan B fuel e.a.y st) e hi'
    rw [hatchEdges, ← hs, if_neg (show ¬ ((objRowsWhile cfg.nan B fuel e.a.y st).toSt.stop
      || (objRowsWhile cfg.nan B fuel e.a.y st).toSt.fuelOut) = true from hstop), ← hw]
    exact ih hiw

theorem objFinish_sim (cfg : Cfg α) (B : Builder σ α) (fuel : Nat) (st : OSt σ α)
    (hi : ObjInv cfg st.h) :
    (objFinish cfg.nan B fuel st).toSt = finish cfg B fuel st.toSt
    ∧ ObjInv cfg (objFinish cfg.nan B fuel st).h := by
  unfold objFinish finish
  have h1 : st.toSt.stop = st.stop := rfl
  have h2 : st.toSt.fuelOut = st.fuelOut := rfl
  have h3 : st.toSt.ymax = st.ymax := rfl
  rw [h1, h2, h3]
  cases hc : (st.stop || st.fuelOut)
  · rw [if_neg (by simp), if_neg (by simp)]
    exact objRowsWhile_sim cfg B fuel st.ymax st hi
  · rw [if_pos rfl, if_pos rfl]; exact ⟨rfl, hi⟩

theorem objPrologue_inv (h : Obj α) (o : Options α) (nan : P α) :
    ObjInv (mkCfg o nan) (objPrologue h o nan) :=
  ⟨rfl, rfl, rfl, rfl, fun _ => rfl, fun _ => rfl⟩

theorem objPrologue_active (h : Obj α) (o : Options α) (nan : P α) :
    (objPrologue h o nan).active = [] := rfl

theorem objPrologue_row (h : Obj α) (o : Options α) (nan : P α) :
    (objPrologue h o nan).seg.row = 0 := rfl

theorem objHatch_sim (h : Obj α) (o : Options α) (nan : P α) (B : Builder σ α) (fuel : Nat)
    (edges : List (Seg α)) (b0 : σ) :
    (objHatch h o nan B fuel edges b0).map OSt.toSt = hatch (mkCfg o nan) B fuel edges b0 := by
  unfold objHatch hatch
  cases edges with
  | nil => simp [objEmpty, emptySt, OSt.toSt, objPrologue_active, objPrologue_row]
  | cons e0 es =>
    simp only [List.isEmpty_cons, Bool.false_eq_true, if_false, List.head?_cons, Option.map_some]
    have hi : ObjInv (mkCfg o nan)
        (objInit (objPrologue h o nan) (B.nextOff b0 0).2 (e0.a.y + (B.nextOff b0 0).1)
          (B.nextOff b0 0).1).h := objPrologue_inv h o nan
    obtain ⟨h1, hi1⟩ := objHatchEdges_sim (mkCfg o nan) B fuel (e0 :: es) _ hi
    obtain ⟨h2, _⟩ := objFinish_sim (mkCfg o nan) B fuel _ hi1
    exact congrArg some (h2.trans (congrArg _ h1))

/-- `set_path` clears the vector it is handed before anything is pushed -/
theorem setPath_eq (old : List (Seg α)) (c s : α) (evs : List (PEv α)) :
    setPath old c s evs = buildEvents c s evs := rfl

end Lyon.Hatch
