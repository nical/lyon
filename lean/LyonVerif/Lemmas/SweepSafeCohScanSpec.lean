/-
  SPAN / WINDING COHERENCE: the specification of `scan_active_edges`:
  a successful scan satisfies `ScanOk` (index facts) AND `ScanSem` (winding-fold facts), and splits no
  merge vertex.  One loop invariant per pass (`L1`, `L2`: the conjunctions of the index invariants `I1`,
  `I2`, and the winding invariants `J1`, `J2`; one clause is in both, that the edge the first pass stopped
  at is no merge vertex: `I1.conn` and `J1.conn`); each step of a pass is one lemma;
  each pass is walked once (`scanActiveEdges_eq`); the consumer facts are read off the final record with
  the invariant's equations substituted (`ScanBoth_of_L1`, `ScanBoth_of_L2`).
-/
import LyonVerif.Lemmas.SweepSafeCohScan

set_option linter.unusedSimpArgs false
set_option mvcgen.warning false

namespace Lyon.SweepCoh
open Lyon Lyon.Scalar Lyon.Mono Lyon.Sweep Lyon.EQ Lyon.SweepSafe
open Std.Do

variable {α : Type} [Scalar α] [Wide α]
variable {s : St α} {pref suff : List (ActiveEdge α)} {cur : ActiveEdge α}

theorem L1_init : L1 s [] s.active.toList (false, 0, WindingState.new, false) :=
  ⟨⟨by simp, (fun h => nomatch h), fun h => by simp [WindingState.new] at h⟩,
    (Wat_zero s).symm, fun _ => ⟨rfl, rfl⟩, (by intro h; simp at h), (by intro h; simp at h)⟩

theorem L1_merge {b : Bool × Nat × WindingState × Bool} (h : s.active.toList = pref ++ cur :: suff)
    (hm : cur.isMerge = true) (hL : L1 s pref (cur :: suff) b) :
    L1 s (pref ++ [cur]) suff (b.1, b.2.1 + 1,
      { spanIndex := b.2.2.1.spanIndex + 1, number := b.2.2.1.number, isIn := b.2.2.1.isIn }, true) := by
  obtain ⟨⟨i1, i3, i4⟩, h1, h2, h3, h4⟩ := hL
  have h2' := h2 (by simp)
  have hc : s.active[b.2.1]? = some cur := by rw [h2'.1]; exact getElem?_of_split h
  refine ⟨⟨by simp; omega, fun hc => by simp [h2'.2] at hc, fun hin => by have := i4 hin; dsimp only; omega⟩,
    ?_, fun _ => ⟨by simp [h2'.1], h2'.2⟩, fun _ => ⟨by simp, cur, by simpa using hc, hm⟩,
    fun hcn => by simp [h2'.2] at hcn⟩
  rw [Wat_succ s _ cur hc, ← h1]
  simp [wstep, hm]

theorem L1_step {b : Bool × Nat × WindingState × Bool} (h : s.active.toList = pref ++ cur :: suff)
    (hm : ¬cur.isMerge = true) (hL : L1 s pref (cur :: suff) b) :
    L1 s (pref ++ [cur]) suff (b.1, b.2.1 + 1, b.2.2.1.update s.rule cur.winding, false) := by
  obtain ⟨⟨i1, i3, i4⟩, h1, h2, h3, h4⟩ := hL
  have h2' := h2 (by simp)
  have hc : s.active[b.2.1]? = some cur := by rw [h2'.1]; exact getElem?_of_split h
  refine ⟨⟨by simp; omega, fun hc => by simp [h2'.2] at hc,
      fun _ => by dsimp only; exact ⟨by omega, fun h => by cases h⟩⟩,
    ?_, fun _ => ⟨by simp [h2'.1], h2'.2⟩, (by intro h; simp at h), fun hcn => by simp [h2'.2] at hcn⟩
  rw [Wat_succ s _ cur hc, ← h1]
  simp [wstep, hm]

theorem L1_done {b : Bool × Nat × WindingState × Bool} (h : s.active.toList = pref ++ cur :: suff)
    (hL : L1 s pref (cur :: suff) b) : L1 s s.active.toList [] b := by
  obtain ⟨⟨i1, i3, i4⟩, h1, h2, h3, h4⟩ := hL
  have h2' := h2 (by simp)
  exact ⟨⟨by rw [h]; simp; omega, fun hc => by simp [h2'.2] at hc, i4⟩,
    h1, fun h => absurd rfl h, h3, fun hcn => by simp [h2'.2] at hcn⟩

theorem L1_done_conn {b : Bool × Nat × WindingState × Bool} (h : s.active.toList = pref ++ cur :: suff)
    (hm : ¬cur.isMerge = true) (hr : (edgeBefore s.curPos s.tolerance cur).2 = true)
    (hL : L1 s pref (cur :: suff) b) : L1 s s.active.toList [] (true, b.2.1, b.2.2.1, b.2.2.2) := by
  obtain ⟨⟨i1, i3, i4⟩, h1, h2, h3, h4⟩ := hL
  have h2' := h2 (by simp)
  have hc : s.active[b.2.1]? = some cur := by rw [h2'.1]; exact getElem?_of_split h
  exact ⟨⟨by rw [h]; simp; omega, fun _ => ⟨cur, hc, by simpa using hm, hr⟩, i4⟩,
    h1, fun h => absurd rfl h, h3, fun _ => ⟨cur, hc, by simpa using hm⟩⟩

variable {r : Bool × Nat × WindingState × Bool} {b : Nat × WindingState × Scan × Bool}

theorem L2_init (hL : L1 s s.active.toList [] r) (hconn : r.1 = true) :
    L2 s r [] (s.active.extract r.2.1).toList (r.2.1, r.2.2.1, scanMid r, !r.2.2.2) := by
  have hms : (scanMid r).mergeSplitEvent = false := by simp [scanMid, hconn]
  have hsp : (scanMid r).splitEvent = false := by simp [scanMid, hconn]
  have hve : (scanMid r).vertexEvents = #[] := by simp [scanMid, hconn]
  have hse : (scanMid r).spansToEnd = #[] := rfl
  have hc := a0of_cases r hL.2
  constructor
  · exact { le := by simp, splits := all_empty, endsInc := by simp [hse], endsLe := all_empty }
  · refine { w := hL.2.w, ge := Nat.le_refl _, cursor := fun _ => by simp, wb := (Wat_a0 hL.2).symm, noVe := hve, noMs := hms,
             start := rfl, noMerge := rfl, noSplit := hsp, first := ?_, ends := all_empty, endsCount := ?_,
             midMerge := ?_, splits := all_empty, moved := ?_ }
    · rcases hc with ⟨hp, h⟩ | ⟨hp, h⟩
      · simp only [hp]
        constructor
        · intro h'; cases h'
        · intro h'; have h'' : r.2.1 = a0of r := h'; omega
      · simp only [hp]
        constructor
        · intro _; exact h.symm
        · intro _; rfl
    · rw [hse]
      symm
      apply cntIn_le
      dsimp only
      rcases hc with ⟨_, h⟩ | ⟨_, h⟩ <;> omega
    · intro k e h1 h2
      dsimp only at h2
      rcases hc with ⟨_, h⟩ | ⟨_, h⟩ <;> omega
    · intro _ h; exact absurd rfl h

theorem L2_yield_merge (hL1 : L1 s s.active.toList [] r) (hconn : r.1 = true)
    (h : (s.active.extract r.2.1).toList = pref ++ cur :: suff) (hm : cur.isMerge = true)
    (hin : ¬(!b.2.1.isIn) = true) (hL : L2 s r pref (cur :: suff) b) :
    L2 s r (pref ++ [cur]) suff (b.1 + 1,
      { spanIndex := b.2.1.spanIndex + 1, number := b.2.1.number, isIn := b.2.1.isIn },
      { b.2.2.1 with spansToEnd := b.2.2.1.spansToEnd.push b.2.1.spanIndex }, false) := by
  have hi := of_not_not_true hin
  have hcur := J2_cur h hL.2
  exact ⟨I2_yield hL.1 (hL.2.cursor (by simp)) hcur.1 (Or.inl rfl) (Or.inl rfl) (Or.inr ⟨rfl, hi⟩),
    J2_yield h hL.2 (by simp [wstep, hm]) (fun _ => hi) (Or.inl rfl)
      (Or.inr ⟨rfl, by simp [J2_merge_not_first hL1.2 hconn h hm hL.2, hi]⟩)⟩

theorem L2_yield {es : Array Nat} {ss : Array Int} (h : (s.active.extract r.2.1).toList = pref ++ cur :: suff)
    (hm : ¬cur.isMerge = true) (hL : L2 s r pref (cur :: suff) b)
    (e7 : es = b.2.2.1.edgesToSplit ∨ es = b.2.2.1.edgesToSplit.push b.1)
    (e8 : (ss = b.2.2.1.spansToEnd ∧ ¬(!b.2.2.2 && b.2.1.isIn) = true) ∨
          (ss = b.2.2.1.spansToEnd.push b.2.1.spanIndex ∧ (!b.2.2.2 && b.2.1.isIn) = true)) :
    L2 s r (pref ++ [cur]) suff (b.1 + 1, b.2.1.update s.rule cur.winding,
      { b.2.2.1 with edgesToSplit := es, spansToEnd := ss }, false) :=
  ⟨I2_yield hL.1 (hL.2.cursor (by simp)) (J2_cur h hL.2).1 (e7.imp id fun e => ⟨e, by simpa using hm⟩)
      (update_spanIndex _ _ _)
      (e8.imp (·.1) fun e => ⟨e.1, and2_right e.2⟩),
    J2_yield h hL.2 (by simp [wstep, hm]) (fun h' => absurd h' hm) e7 e8⟩

/-- the first edge that does not connect: nothing was pushed, and it is not the edge the first pass
stopped at -/
theorem L2_done {c : Bool × Bool} (hL1 : L1 s s.active.toList [] r) (hconn : r.1 = true)
    (h : (s.active.extract r.2.1).toList = pref ++ cur :: suff) (hL : L2 s r pref (cur :: suff) b)
    (hc : isEdgeConnecting s.curPos s.tolerance cur = .ok c) (h1 : (!c.1) = true) (h2 : ¬c.2 = true) :
    L2 s r (s.active.extract r.2.1).toList [] b := by
  have hz := first_connecting_absurd hL1.1 hconn h hc h1 h2
  have hle := hL.1.le
  exact ⟨{ hL.1 with le := by rw [h]; simp; omega },
         { hL.2 with cursor := fun h => absurd rfl h,
                     moved := fun hH _ => hL.2.moved hH (hz hH) }⟩

theorem mem_pushIf {γ : Type} {v : Array γ} {c : Bool} {x y : γ} (h : x ∈ (if c then v.push y else v)) :
    x ∈ v ∨ (x = y ∧ c = true) := by
  split at h
  · exact (Array.mem_push.mp h).imp id fun e => ⟨e, ‹_›⟩
  · exact Or.inl h

/-- no edge to split is a merge vertex -/
abbrev SplitNM (s : St α) (scan : Scan) : Prop :=
  ∀ ei ∈ scan.edgesToSplit, ∀ e, s.active[ei]? = some e → e.isMerge = false

theorem ScanBoth_of_L1 (hL : L1 s s.active.toList [] r) (hconn : r.1 = false) :
    ScanOk s { scanMid r with aboveEnd := r.2.1 } ∧ ScanSem s { scanMid r with aboveEnd := r.2.1 } ∧
      SplitNM s { scanMid r with aboveEnd := r.2.1 } := by
  obtain ⟨c, i, w, p⟩ := r
  have hb := Wat_a0 hL.2
  obtain ⟨⟨ile, -, iinside⟩, j1, -, j3, -⟩ := hL
  dsimp only at hconn ile iinside j1 j3
  subst hconn
  simp only [Array.length_toList] at ile
  cases p
  · -- the event is not right of a merge vertex: `above_start = above_end = idx`, a split event iff inside
    simp only [scanMid, Bool.false_eq_true, if_false, Bool.not_false, Bool.and_true, Bool.false_and, Bool.true_and]
    refine ⟨⟨Nat.le_refl _, ile, by simp, by simp, by simp, fun h => (iinside h).1, by simp⟩,
      ⟨j1, by simp, by simp, (cntIn_le s i i (by omega)).symm, fun h => ⟨rfl, j1 ▸ h, rfl⟩,
        fun _ _ h => j1 ▸ h, (fun h => nomatch h), (fun h => nomatch h), fun k e h1 h2 => by dsimp only at h1 h2; omega,
        fun _ _ => ⟨rfl, rfl⟩, by simp⟩, by simp [SplitNM]⟩
  · -- right of a merge vertex: a merge-split event on `[idx - 1, idx)`
    obtain ⟨hge, e, he, hm⟩ := j3 rfl
    simp only [scanMid, if_true, Bool.not_false, Bool.and_true, Bool.true_and, Bool.not_true, Bool.and_false]
    refine ⟨⟨Nat.sub_le _ _, ile, by simp, by simp, by simp, (fun h => nomatch h), by simp⟩,
      ⟨hb.symm, fun x hx => Or.inr (Or.inr ⟨rfl, by rw [← j1]; simp at hx; rcases hx with h | h <;> simp [h]⟩), by simp,
        (cntIn_le s (i - 1) i (by omega)).symm, (fun h => nomatch h), fun _ h => by dsimp only at h; omega,
        fun _ => ⟨by dsimp only; omega, e, he, hm⟩, (fun h => nomatch h), fun k e h1 h2 => by dsimp only at h1 h2; omega,
        fun _ h => by dsimp only at h; omega, by simp⟩, by simp [SplitNM]⟩

/-- the second pass: the loop state is destructured and the invariant's equations substituted, so that the
final record has its fields in view (`above_start = a0of r`, `above_end = k`, …); what is left of
`scanFin` are the two pushes of `vertex_events` and the merge test -/
theorem ScanBoth_of_L2 (hL1 : L1 s s.active.toList [] r) (hconn : r.1 = true)
    (hL : L2 s r (s.active.extract r.2.1).toList [] b) :
    ScanOk s (scanFin s r.2.2.1.isIn b) ∧ ScanSem s (scanFin s r.2.2.1.isIn b) ∧
      SplitNM s (scanFin s r.2.2.1.isIn b) := by
  obtain ⟨k, w2, ⟨ve0, es, se0, me0, sp0, ms0, a0, ae0, wb0⟩, fc⟩ := b
  obtain ⟨⟨ile, isplits, iinc, -⟩,
    jw, jge, -, jwb, jve, jms, jstart, jme, jsp, -, jends, jcount, jmid, jsplits, jmoved⟩ := hL
  dsimp only at ile isplits iinc jw jge jwb jve jms jstart jme jsp jends jcount jmid jsplits jmoved
  subst jw jwb jve jms jstart jme jsp
  have hw : (Wat s (a0of r)).isIn = r.2.2.1.isIn := by rw [Wat_a0 hL1.2]; simp only [scanMid]; split <;> rfl
  have ha := a0of_le r
  obtain ⟨e0, he0, -⟩ := hL1.2.conn hconn
  have hlt : r.2.1 < s.active.size := (Array.getElem?_eq_some_iff.mp he0).1
  simp only [Array.length_toList, Array.size_extract, Nat.min_self] at ile
  -- over ordered fields the second pass passes at least one edge
  have room : HorizAgree s.tolerance → a0of r < k := fun hH =>
    Nat.lt_of_le_of_lt ha (jmoved hH fun h0 => by have := congrArg List.length h0; simp at this; omega)
  dsimp only [scanFin]
  refine ⟨⟨by dsimp only; omega, by dsimp only; omega,
      fun ei he => (Array.getElem?_eq_some_iff.mp (isplits ei he).choose_spec.1).1, fun _ => by dsimp only; omega,
      fun hH _ => room hH, (fun h => nomatch h), iinc⟩,
    ⟨rfl, fun x hx => ?_, jends, jcount, (fun h => nomatch h), fun hH h => absurd h (Nat.ne_of_lt (room hH)),
      (fun h => nomatch h), fun h => ?_, jmid, fun hH h => absurd h (Nat.ne_of_lt (room hH)), jsplits⟩,
    fun ei hei e he => ?_⟩
  · rcases mem_pushIf hx with h | ⟨h, hc⟩
    · rcases mem_pushIf h with h | ⟨h, hc'⟩
      · simp at h
      · exact Or.inl ⟨by rw [h], by rw [hw]; exact hc'⟩
    · exact Or.inr (Or.inl ⟨by rw [h], hc⟩)
  · dsimp only at h
    split at h
    · rename_i hc
      simp only [Bool.and_eq_true] at hc
      exact ⟨by rw [hw]; exact hc.1.1.1, hc.1.1.2, hc.1.2, hc.2⟩
    · cases h
  · obtain ⟨e', h1, h2⟩ := isplits ei hei
    rw [h1] at he
    cases he
    exact h2

theorem scanPass1_spec (s : St α) :
    ⦃⌜True⌝⦄ scanPass1 s ⦃post⟨fun r => ⌜L1 s s.active.toList [] r⌝, fun _ => ⌜True⌝⟩⦄ := by
  unfold scanPass1
  mvcgen invariants
  · post⟨fun r => ⌜L1 s r.1.prefix r.1.suffix r.2⌝, fun _ => ⌜True⌝⟩
  with skip
  -- a merge vertex: `continue`
  case vc1 => exact L1_merge (by assumption) (by assumption) (by assumption)
  -- `break` at the first edge not before the point: it connects (`vc2`) or not (`vc4`); an edge that
  -- both connects and lies before the point (`vc3`) is not there
  case vc2 => exact L1_done_conn (by assumption) (by assumption) (by assumption) (by assumption)
  case vc3 => exact edgeBefore_absurd (by assumption) (by assumption)
  case vc4 => exact L1_done (by assumption) (by assumption)
  -- an edge before the point: `w.update`, `idx += 1`
  case vc5 => exact L1_step (by assumption) (by assumption) (by assumption)
  -- loop entry
  case vc6 => exact L1_init

theorem scanPass2_spec (hL1 : L1 s s.active.toList [] r) (hconn : r.1 = true) :
    ⦃⌜True⌝⦄ scanPass2 s r.2.1 r.2.2.1 (scanMid r) (!r.2.2.2)
    ⦃post⟨fun b => ⌜L2 s r (s.active.extract r.2.1).toList [] b⌝, fun _ => ⌜True⌝⟩⦄ := by
  unfold scanPass2
  have h2 := fun (cur : P α) (t : α) (e : ActiveEdge α) => self_spec (isEdgeConnecting cur t e)
  mvcgen [h2] invariants
  · post⟨fun c => ⌜L2 s r c.1.prefix c.1.suffix c.2⌝, fun _ => ⌜True⌝⟩
  with skip
  fix_throw
  all_goals clear h2
  -- a merge vertex with the shape on its left: its span is ended, `continue`
  case vc6 =>
    exact L2_yield_merge hL1 hconn (by assumption) (by assumption) (by assumption) (by assumption)
  -- an edge to split that does not connect is not there
  case vc7 => exact conn_done_absurd (by assumption) (by assumption) (by assumption)
  -- a connecting edge: `edges_to_split.push` or not (first `Or`), `spans_to_end.push` or not (second)
  case vc13 =>
    exact L2_yield (by assumption) (by assumption) (by assumption) (Or.inr rfl)
      (Or.inr ⟨rfl, by assumption⟩)
  case vc19 =>
    exact L2_yield (by assumption) (by assumption) (by assumption) (Or.inr rfl)
      (Or.inl ⟨rfl, by assumption⟩)
  case vc26 =>
    exact L2_yield (by assumption) (by assumption) (by assumption) (Or.inl rfl)
      (Or.inr ⟨rfl, by assumption⟩)
  case vc32 =>
    exact L2_yield (by assumption) (by assumption) (by assumption) (Or.inl rfl)
      (Or.inl ⟨rfl, by assumption⟩)
  -- `break` at the first edge that does not connect
  case vc20 => exact L2_done hL1 hconn (by assumption) (by assumption) (by assumption) (by assumption) (by assumption)
  -- loop entry
  case vc34 => exact L2_init hL1 hconn

theorem of_scan_all {s : St α} {scan : Scan} (h : scanActiveEdges s = .ok scan) :
    ScanOk s scan ∧ ScanSem s scan ∧ SplitNM s scan := by
  rw [scanActiveEdges_eq] at h
  obtain ⟨r, h1, h⟩ := bind_ok h
  have hL1 := of_spec (scanPass1_spec s) h1
  split at h
  · rename_i hconn
    obtain ⟨b, h2, h⟩ := bind_ok h
    obtain ⟨_, _, h⟩ := bind_ok h
    cases h
    exact ScanBoth_of_L2 hL1 hconn (of_spec (scanPass2_spec hL1 hconn) h2)
  · rename_i hconn
    obtain ⟨_, _, h⟩ := bind_ok h
    cases h
    exact ScanBoth_of_L1 hL1 (by simpa using hconn)

theorem of_scan_both {s : St α} {scan : Scan} (h : scanActiveEdges s = .ok scan) :
    ScanOk s scan ∧ ScanSem s scan := ⟨(of_scan_all h).1, (of_scan_all h).2.1⟩

theorem of_scan_nm {s : St α} {scan : Scan} (h : scanActiveEdges s = .ok scan) : SplitNM s scan :=
  (of_scan_all h).2.2

end Lyon.SweepCoh
