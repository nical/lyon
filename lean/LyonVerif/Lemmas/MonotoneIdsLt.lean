/-
  C02 (`Props/C02c.lean`): every id of a triangle of `Basic.run seq` / `Adv.run seq` is `< seq.length`
  (`basic_run_ids_lt`, `run_ids_lt`).  The index-validity invariants `BasicOk` / `AdvOk` that the sweep's index chain
  carries through the two tessellators (`Lemmas/SweepIdxMono.lean`) say exactly this, so they are run through
  `basic_run_ind` / `adv_run_ind` here instead of being proved a second time; this is the one place where the
  monotone family reads the sweep's index lemmas.  With ids in range and distinct (`C02.run_ids_distinct`), general
  position turns `wind ≥ 0` into `wind > 0` (`run_strict`).
-/
import LyonVerif.Props.C02
import LyonVerif.Lemmas.MonotoneGeomValid
import LyonVerif.Lemmas.MonotoneAdv
import LyonVerif.Lemmas.SweepIdxMono

set_option linter.unusedSectionVars false

namespace Lyon.C02c
open Lyon Lyon.Mono Lyon.C02

section Discrete
variable {α : Type} [Scalar α]

open Lyon.SweepIdx in
theorem run_ids_lt (seq : List (P α × Bool)) : TrisLt seq.length (Adv.run seq) := by
  by_cases h2 : 2 ≤ seq.length
  · obtain ⟨s, v, hI, _, e⟩ := adv_run_ind seq h2 (fun _ s => AdvOk seq.length s)
      (fun v _ => adv_begin_ok _ v.1 0 (by omega)) (fun k s v h _ hk _ => adv_vertex_ok h v.1 k v.2 (by omega))
    rw [e]
    exact adv_end_tris hI _ _ (by omega)
  · rw [(run_short seq h2).2]; exact TrisLt.nil _

open Lyon.SweepIdx in
theorem basic_run_ids_lt (seq : List (P α × Bool)) : TrisLt seq.length (Basic.run seq) := by
  by_cases h2 : 2 ≤ seq.length
  · obtain ⟨s, v, hI, _, e⟩ := basic_run_ind seq h2 (fun _ s => BasicOk seq.length s)
      (fun v _ => basic_begin_ok v.1 0 (by omega)) (fun k s v h _ hk _ => basic_vertex_ok h ⟨v.1, k, v.2⟩ (by show k < _; omega))
    rw [e]
    exact (basic_end_ok hI _ _ (by omega)).tris
  · rw [(run_short seq h2).1]; exact TrisLt.nil _

end Discrete

section Geometry
variable {K : Type} [Field K] [LinearOrder K] [IsStrictOrderedRing K]

/-- with no three vertices on a line, `wind ≥ 0` and three distinct valid ids give `wind > 0` -/
theorem strict_of_noCollinear {seq : List (P K × Bool)} (hc : NoCollinear seq) {t : Tri}
    (h1 : 0 ≤ triW (posOf seq) t) (h2 : TriDistinct t) (h3 : SweepIdx.TriLt seq.length t) :
    0 < triW (posOf seq) t :=
  lt_of_le_of_ne h1 (Ne.symm (hc t.1 h3.1 t.2.1 h3.2.1 t.2.2 h3.2.2 h2.1 h2.2.1 h2.2.2))

theorem run_strict (seq : List (P K × Bool)) (hc : NoCollinear seq) :
    ∀ t ∈ Basic.run seq, 0 < triW (posOf seq) t := fun t ht =>
  strict_of_noCollinear hc (run_gInv seq t ht) (run_ids_distinct seq t ht) (basic_run_ids_lt seq t ht)

end Geometry

end Lyon.C02c
