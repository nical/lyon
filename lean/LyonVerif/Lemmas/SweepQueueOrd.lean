/-
  The queue-order invariant `QOrd` of the index-linked event queue (pointer level, ordered fields) at the head of the
  loop: the `next_event` list from the current event is sorted (`SortedFrom`: an inductive predicate, so the list is
  finite and acyclic), the active list is empty or the previous vertex is not below the current event, the far end of every active edge that is no
  merge vertex is the position of an event of that list, no pending edges are left over, the edge records of the
  sibling events of the current event point down the sweep.  It gives `AdvOK` at `initialize_events` (`C07e.qord_gives_advOK`).
  `sort` establishes `SortedFrom` (`Lemmas/SweepQueueOrdSort.lean`, relative to the model's specification check) and
  `insert_sorted` keeps it (`Lemmas/SweepQueueOrdInsert.lean`); that the steps of an event keep `QOrd` is NOT proved
  (interface: `SweepSpan.QOrdHyp`, `Lemmas/SweepQueueOrdLoop.lean`).
-/
import LyonVerif.Lemmas.SweepSpanLoop

set_option linter.unusedSectionVars false

namespace Lyon.SweepSpan
open Lyon Lyon.Scalar Lyon.Sweep Lyon.EQ Lyon.SweepPos

section field
variable {K : Type} [Field K] [LinearOrder K] [IsStrictOrderedRing K]

/-- position / next event of an index of the raw event array -/
noncomputable def epos (evs : Array (Event K)) (i : Nat) : P K := (evs.getD i Event.dflt).pos
noncomputable def enext (evs : Array (Event K)) (i : Nat) : Nat := (evs.getD i Event.dflt).nextEvent

/-- the `next_event` list from `i` is finite and strictly increasing in sweep order -/
inductive SortedFrom (evs : Array (Event K)) : Nat → Prop
  | nil : SortedFrom evs INVALID
  | cons (i : Nat) (hi : i ≠ INVALID) (hs : SortedFrom evs (enext evs i))
      (hlt : enext evs i ≠ INVALID → comparePositions (epos evs i) (epos evs (enext evs i)) = .lt) :
      SortedFrom evs i

/-- `p` is the position of an event of the `next_event` list from `i` -/
inductive InChain (evs : Array (Event K)) : Nat → P K → Prop
  | here (i : Nat) (hi : i ≠ INVALID) : InChain evs i (epos evs i)
  | next (i : Nat) (p : P K) (hi : i ≠ INVALID) (h : InChain evs (enext evs i) p) : InChain evs i p

theorem InChain.valid {evs : Array (Event K)} {i : Nat} {p : P K} (h : InChain evs i p) : i ≠ INVALID := by
  cases h <;> assumption

theorem SortedFrom.tail {evs : Array (Event K)} {i : Nat} (hs : SortedFrom evs i) (hi : i ≠ INVALID) :
    SortedFrom evs (enext evs i) := by
  cases hs with
  | nil => exact absurd rfl hi
  | cons _ _ hs' _ => exact hs'

theorem SortedFrom.head_lt {evs : Array (Event K)} {i : Nat} (hs : SortedFrom evs i) (hi : i ≠ INVALID)
    (hn : enext evs i ≠ INVALID) : LexLt (epos evs i) (epos evs (enext evs i)) := by
  cases hs with
  | nil => exact absurd rfl hi
  | cons _ _ _ hlt => exact (lexCmp_lt_iff _ _).mp (hlt hn)

variable [w : Wide K]

/-- the far end of every active edge that is no merge vertex is the position of an event still in the queue -/
def ToQueued (s : St K) : Prop :=
  ∀ e ∈ s.active, e.isMerge = false → InChain s.q.events s.curEvent e.to

/-- **the queue-order invariant at the head of the loop** -/
structure QOrd (s : St K) : Prop where
  sorted : SortedFrom s.q.events s.curEvent
  curLe : s.active.size = 0 ∨ s.curPos.y ≤ (s.q.position s.curEvent).y
  toQueued : ToQueued s
  noBelow : s.below = #[]
  down : ∀ i ∈ s.q.siblings s.q.fuel s.curEvent, (s.q.ed i).isEdge = true →
    (s.q.position s.curEvent).y ≤ (s.q.ed i).to.y

theorem position_eq (q : Queue K) (i : Nat) : q.position i = epos q.events i := rfl

end field

end Lyon.SweepSpan
