/-
  C13 — frame pieces.  Every emitted piece is the image `ellMap arc (rotate a₁ (F t))` of a fixed curve `F` in the
  orthonormal frame (radius, tangent) at the start point of a unit-circle piece of angle `δ`
  (`quadAt_sample_real`, `cubicAt_sample_real`).  `FramePiece F δ lo hi` is what the theorems of `Props/C13b.lean`
  and `Props/C13c.lean` need of `F`; what follows for the image is proved once and used for the quadratic
  (`|δ| ≤ π/4`, radius in `[1, 1.0032]`: `quadFrame_radius_real`) and the cubic (`|δ| ≤ π/2`, radius in `[0.998, 1]`:
  `cubicFrame_radius_real`).  Last, `arc_angle_in_piece`: every point of an arc of at most a full turn lies in the
  angular range of one of the `n` pieces (`Hull.unit_parts` of `Lemmas/Hull.lean`, the one reason for that import).
-/
import LyonVerif.Lemmas.SvgArcRealDir
import LyonVerif.Lemmas.Hull
import Mathlib.Topology.Order.IntermediateValue

set_option linter.unusedSimpArgs false

namespace Lyon.C13
open Lyon Scalar ArcConv

/-- `(1 + cos δ)·(|Q(t)|² − 1) = 2·w²·(1 − cos δ)²` (`quadFrame_normSq`) with `w = t(1−t) ≤ ¼` and `cos δ ≥ 0.7071` -/
theorem quadFrame_radius_real (d t : ℝ) (hd : |d| ≤ Real.pi / 4) (ht0 : 0 ≤ t) (ht1 : t ≤ 1) :
    1 ^ 2 ≤ ((quadFrame d).sample t).x * ((quadFrame d).sample t).x
        + ((quadFrame d).sample t).y * ((quadFrame d).sample t).y
    ∧ ((quadFrame d).sample t).x * ((quadFrame d).sample t).x
        + ((quadFrame d).sample t).y * ((quadFrame d).sample t).y ≤ (10032 / 10000 : ℝ) ^ 2 := by
  obtain ⟨_, _, _, _, hcp, hK⟩ := half_angle_real d hd
  have key := quadFrame_normSq d t hcp.ne'
  have hw0 : 0 ≤ t * (1 - t) := mul_nonneg ht0 (sub_nonneg.2 ht1)
  have hw1 : t * (1 - t) ≤ 1 / 4 := by linarith only [mul_self_nonneg (t - 1 / 2)]
  -- `2929/10000 = 1 − 0.7071`; below `641/100000 ≤ 1.0032² − 1`
  have hcc : (1 - Real.cos d) * (1 - Real.cos d) ≤ 2929 / 10000 * (2929 / 10000) :=
    mul_self_le_mul_self (by linarith only [Real.cos_le_one d]) (by linarith only [hK])
  have hub := mul_le_mul (mul_self_le_mul_self hw0 hw1) hcc (mul_self_nonneg _) (by norm_num)
  have hC : (0 : ℝ) < 1 + Real.cos d := by linarith only [hK]
  rw [one_pow]
  constructor
  · refine sub_nonneg.1 (nonneg_of_mul_nonneg_right ?_ hC)
    rw [key]; exact mul_nonneg (mul_nonneg zero_le_two (mul_self_nonneg _)) (mul_self_nonneg _)
  · have := le_of_mul_le_mul_left (a := 1 + Real.cos d) (c := 641 / 100000)
      (by rw [key]; linarith only [hub, hK]) hC
    norm_num at this ⊢
    linarith only [this]

/-- `|B(t)|² − 1 = −β²·(4t(1−t))³` (`cubicFrame_normSq`) with `β² ≤ 0.003996` (`cubic_beta_bound`) -/
theorem cubicFrame_radius_real (d t : ℝ) (hd : |d| ≤ Real.pi / 2) (ht0 : 0 ≤ t) (ht1 : t ≤ 1) :
    (998 / 1000 : ℝ) ^ 2 ≤ ((cubicFrame d).sample t).x * ((cubicFrame d).sample t).x
        + ((cubicFrame d).sample t).y * ((cubicFrame d).sample t).y
    ∧ ((cubicFrame d).sample t).x * ((cubicFrame d).sample t).x
        + ((cubicFrame d).sample t).y * ((cubicFrame d).sample t).y ≤ 1 ^ 2 := by
  obtain ⟨hu, hcos, hsin, hal, hβ⟩ := cubic_half_angle_real d hd
  have e := cubicFrame_normSq d t _ _ hu hcos hsin hal
  rw [one_pow]
  have hB := mul_self_nonneg (Real.sin (d / 2) / 2 - 3 * cubicAlpha d * Real.cos (d / 2) / 4)
  have hw0 : 0 ≤ 4 * t * (1 - t) := by
    rw [mul_assoc]; exact mul_nonneg (by norm_num) (mul_nonneg ht0 (sub_nonneg.2 ht1))
  have hw1 : 4 * t * (1 - t) ≤ 1 := by linarith only [mul_self_nonneg (2 * t - 1)]
  have h3 := mul_le_of_le_one_right hB (pow_le_one₀ hw0 hw1 (n := 3))
  have hc : (998 / 1000 : ℝ) ^ 2 ≤ 1 - 3996 / 1000000 := by norm_num
  rw [neg_mul] at e
  exact ⟨hc.trans (sub_le_iff_le_add.2 (neg_le_sub_iff_le_add.1 (e ▸ neg_le_neg (h3.trans hβ)))),
    sub_nonpos.1 (e ▸ neg_nonpos.2 (mul_nonneg hB (pow_nonneg hw0 3)))⟩

/-- a curve `F` of the start frame that stands for the arc of the unit circle from angle `0` to angle `d`;
`dir`: its polar angle is monotone in the direction of `d` -/
structure FramePiece (F : ℝ → P ℝ) (d lo hi : ℝ) : Prop where
  contx : Continuous fun t => (F t).x
  conty : Continuous fun t => (F t).y
  start : F 0 = ⟨1, 0⟩
  stop : F 1 = ⟨Real.cos d, Real.sin d⟩
  radius : ∀ t, 0 ≤ t → t ≤ 1 → lo ^ 2 ≤ (F t).x * (F t).x + (F t).y * (F t).y
    ∧ (F t).x * (F t).x + (F t).y * (F t).y ≤ hi ^ 2
  dir : ∀ σ, (σ = 1 ∨ σ = -1) → 0 ≤ σ * d → ∀ t1 t2, 0 ≤ t1 → t1 ≤ t2 → t2 ≤ 1 →
    0 ≤ σ * (F t1).cross (F t2)

theorem quadFrame_piece (d : ℝ) (hd : |d| ≤ Real.pi / 4) :
    FramePiece (quadFrame d).sample d 1 (10032 / 10000) where
  contx := (quad_sample_continuous _).1
  conty := (quad_sample_continuous _).2
  start := by apply P.ext' <;> simp [quadFrame, Quad.sample, geom]
  stop := by apply P.ext' <;> simp [quadFrame, Quad.sample, geom, transc_cos_real, transc_sin_real]
  radius := fun t => quadFrame_radius_real d t hd
  dir := fun σ hσ hσd t1 t2 => quadFrame_dir_real d σ t1 t2 hσ hd hσd

theorem cubicFrame_piece (d : ℝ) (hd : |d| ≤ Real.pi / 2) :
    FramePiece (cubicFrame d).sample d (998 / 1000) 1 where
  contx := (cubic_sample_continuous _).1
  conty := (cubic_sample_continuous _).2
  start := by apply P.ext' <;> simp [cubicFrame, tanFrame, Cubic.sample, geom]
  stop := by
    apply P.ext' <;> simp [cubicFrame, tanFrame, Cubic.sample, geom, transc_cos_real, transc_sin_real]
  radius := fun t => cubicFrame_radius_real d t hd
  dir := fun σ hσ hσd t1 t2 => cubicFrame_dir_real d σ t1 t2 hσ hd hσd

theorem rotate_polar (a l x : ℝ) :
    Arc.rotate a ⟨l * Real.cos x, l * Real.sin x⟩ = ⟨l * Real.cos (a + x), l * Real.sin (a + x)⟩ := by
  apply P.ext'
  · show l * Real.cos x * Real.cos a - l * Real.sin x * Real.sin a = _
    rw [Real.cos_add]; ring
  · show l * Real.sin x * Real.cos a + l * Real.cos x * Real.sin a = _
    rw [Real.sin_add]; ring

namespace FramePiece
variable {F : ℝ → P ℝ} {d lo hi : ℝ}

theorem near (h : FramePiece F d lo hi) (arc : Arc ℝ) (a1 k t : ℝ) (hlo : 0 < lo) (hhi : 0 ≤ hi)
    (hk1 : 1 - lo ≤ k) (hk2 : hi - 1 ≤ k) (ht0 : 0 ≤ t) (ht1 : t ≤ 1) :
    ∃ u : P ℝ, u.x * u.x + u.y * u.y = 1
      ∧ sqDist (ellMap arc (Arc.rotate a1 (F t))) (ellMap arc u)
          ≤ (Max.max |arc.radii.x| |arc.radii.y| * k) * (Max.max |arc.radii.x| |arc.radii.y| * k) := by
  obtain ⟨l, u⟩ := h.radius t ht0 ht1
  rw [← rotate_normSq a1 (F t) (exactTrig_real.cos_sq_add_sin_sq a1)] at l u
  have hl := (Real.le_sqrt' hlo).2 l
  have hu := (Real.sqrt_le_left hhi).2 u
  exact ellMap_near_unit arc _ k (hlo.trans_le hl)
    (by rw [abs_le]; constructor <;> linarith only [hl, hu, hk1, hk2])

theorem circle (h : FramePiece F d lo hi) (arc : Arc ℝ) (r a1 t : ℝ) (hr : arc.radii = ⟨r, r⟩)
    (hr0 : 0 ≤ r) (hlo : 0 ≤ lo) (hhi : 0 ≤ hi) (ht0 : 0 ≤ t) (ht1 : t ≤ 1) :
    r * lo ≤ Real.sqrt (sqDist (ellMap arc (Arc.rotate a1 (F t))) arc.center)
    ∧ Real.sqrt (sqDist (ellMap arc (Arc.rotate a1 (F t))) arc.center) ≤ r * hi := by
  obtain ⟨l, u⟩ := h.radius t ht0 ht1
  rw [sqDist_frame_center arc r a1 _ hr (exactTrig_real.cos_sq_add_sin_sq _)
    (exactTrig_real.cos_sq_add_sin_sq _)]
  constructor
  · rw [← Real.sqrt_mul_self (mul_nonneg hr0 hlo), mul_mul_mul_comm, ← sq lo]
    exact Real.sqrt_le_sqrt (mul_le_mul_of_nonneg_left l (mul_self_nonneg r))
  · rw [Real.sqrt_le_left (mul_nonneg hr0 hhi), mul_pow, sq r]
    exact mul_le_mul_of_nonneg_left u (mul_self_nonneg r)

theorem travels (h : FramePiece F d lo hi) (arc : Arc ℝ) (a1 σ t1 t2 : ℝ) (hσ : σ = 1 ∨ σ = -1)
    (hσd : 0 ≤ σ * d) (ht0 : 0 ≤ t1) (ht : t1 ≤ t2) (ht1 : t2 ≤ 1) :
    0 ≤ (arc.radii.x * arc.radii.y * σ)
      * (ellMap arc (Arc.rotate a1 (F t1)) - arc.center).cross
          (ellMap arc (Arc.rotate a1 (F t2)) - arc.center) := by
  rw [ellMap_cross,
    rotate_cross]
  exact scaled_dir_nonneg _ _ _ (h.dir σ hσ hσd t1 t2 ht0 ht ht1)

theorem radial_hit (h : FramePiece F d lo hi) (hd : |d| ≤ Real.pi / 2) (hlo : lo ≤ 1) (hhi : 1 ≤ hi)
    (u : ℝ) (hu0 : 0 ≤ u) (hu1 : u ≤ 1) :
    ∃ t l : ℝ, 0 ≤ t ∧ t ≤ 1 ∧ F t = ⟨l * Real.cos (u * d), l * Real.sin (u * d)⟩ ∧ lo ≤ l ∧ l ≤ hi := by
  have hpi := Real.pi_pos
  obtain ⟨σ, hσ, hσd⟩ : ∃ σ : ℝ, (σ = 1 ∨ σ = -1) ∧ 0 ≤ σ * d := by
    rcases le_total 0 d with h0 | h0
    · exact ⟨1, Or.inl rfl, by linarith only [h0]⟩
    · exact ⟨-1, Or.inr rfl, by linarith only [h0]⟩
  have hσne : σ ≠ 0 := by rcases hσ with h | h <;> rw [h] <;> norm_num
  have hx0 : 0 ≤ σ * (u * d) := by rw [mul_left_comm]; exact mul_nonneg hu0 hσd
  have hxle : |u * d| ≤ Real.pi / 2 := by
    rw [abs_mul, abs_of_nonneg hu0]; exact (mul_le_of_le_one_left (abs_nonneg d) hu1).trans hd
  have hy0 : 0 ≤ σ * ((1 - u) * d) := by
    rw [mul_left_comm]; exact mul_nonneg (sub_nonneg.2 hu1) hσd
  have hyle : |(1 - u) * d| ≤ Real.pi / 2 := by
    rw [abs_mul, abs_of_nonneg (sub_nonneg.2 hu1)]
    exact (mul_le_of_le_one_left (abs_nonneg d) (sub_le_self 1 hu0)).trans hd
  rcases hx0.eq_or_lt with hz | hxpos
  · have hx : u * d = 0 := (mul_eq_zero.mp hz.symm).resolve_left hσne
    exact ⟨0, 1, le_rfl, zero_le_one, by rw [h.start, hx, Real.cos_zero, Real.sin_zero, mul_one, mul_zero],
      hlo, hhi⟩
  have hs1 : 0 < σ * Real.sin (u * d) := sign_mul_sin_pos σ _ hσ hxpos (by linarith only [hxle, hpi])
  have hs2 : 0 ≤ σ * Real.sin ((1 - u) * d) := sign_mul_sin_nonneg σ _ hσ hy0
    (by linarith only [hyle, hpi])
  have hcs := exactTrig_real.cos_sq_add_sin_sq (u * d)
  rw [show (1 - u) * d = d - u * d by ring, Real.sin_sub] at hs2
  simp only [transc_cos_real, transc_sin_real] at hcs
  generalize Real.cos (u * d) = cθ at hcs hs2 ⊢
  generalize Real.sin (u * d) = sθ at hcs hs1 hs2 ⊢
  -- `σ·(e × F(t))`, `e = (cθ, sθ)` the unit vector at the angle `u·d`, changes sign on `[0,1]`
  obtain ⟨t0, ⟨ht0, ht1⟩, hgt⟩ := intermediate_value_Icc (f := fun t => σ * (cθ * (F t).y - sθ * (F t).x))
    zero_le_one (continuous_const.mul ((continuous_const.mul h.conty).sub (continuous_const.mul h.contx))).continuousOn
    ⟨by show σ * (cθ * (F 0).y - sθ * (F 0).x) ≤ 0
        rw [h.start]; linarith only [hs1],
     by show 0 ≤ σ * (cθ * (F 1).y - sθ * (F 1).x)
        rw [h.stop]; linarith only [hs2]⟩
  have hcross : cθ * (F t0).y - sθ * (F t0).x = 0 := (mul_eq_zero.mp hgt).resolve_left hσne
  -- where it vanishes `F(t₀) = l·e` with `l = e · F(t₀)`
  obtain ⟨l, hl⟩ : ∃ l : ℝ, l = cθ * (F t0).x + sθ * (F t0).y := ⟨_, rfl⟩
  have hfx : (F t0).x = l * cθ := by rw [hl]; linear_combination (-((F t0).x)) * hcs + (-sθ) * hcross
  have hfy : (F t0).y = l * sθ := by rw [hl]; linear_combination (-((F t0).y)) * hcs + cθ * hcross
  obtain ⟨r1, r2⟩ := h.radius t0 ht0 ht1
  rw [hfx, hfy, show l * cθ * (l * cθ) + l * sθ * (l * sθ) = l ^ 2 by linear_combination (l * l) * hcs] at r1 r2
  -- `l ≥ 0` because `F(t₀)` is on the far side of the start ray
  have hl0 : 0 ≤ l := by
    have := h.dir σ hσ hσd 0 t0 le_rfl ht0 ht1
    rw [h.start, show (⟨1, 0⟩ : P ℝ).cross (F t0) = (F t0).y by simp only [geom]; ring, hfy, mul_left_comm] at this
    exact nonneg_of_mul_nonneg_left this hs1
  exact ⟨t0, l, ht0, ht1, P.ext' hfx hfy, le_of_sq_le_sq r1 hl0, le_of_sq_le_sq r2 (by linarith only [hhi])⟩

theorem covers (h : FramePiece F d lo hi) (arc : Arc ℝ) (a1 k u : ℝ) (hd : |d| ≤ Real.pi / 2)
    (hlo : lo ≤ 1) (hhi : 1 ≤ hi) (hk1 : 1 - lo ≤ k) (hk2 : hi - 1 ≤ k) (hu0 : 0 ≤ u) (hu1 : u ≤ 1) :
    ∃ t : ℝ, 0 ≤ t ∧ t ≤ 1 ∧ sqDist (pointAt arc (a1 + u * d)) (ellMap arc (Arc.rotate a1 (F t)))
      ≤ (Max.max |arc.radii.x| |arc.radii.y| * k) * (Max.max |arc.radii.x| |arc.radii.y| * k) := by
  obtain ⟨t, l, t0, t1, e, l0, l1⟩ := h.radial_hit hd hlo hhi u hu0 hu1
  refine ⟨t, t0, t1, ?_⟩
  rw [e, rotate_polar, pointAt_eq_ellMap]
  exact ellMap_radial_sqDist arc ⟨_, _⟩ l _ (exactTrig_real.cos_sq_add_sin_sq _)
    (by rw [abs_le]; constructor <;> linarith only [l0, l1, hk1, hk2])

end FramePiece

theorem arc_angle_in_piece (arc : Arc ℝ) (ns : ℝ) (n : Nat) (hn : 0 < n) (hcast : (n : ℝ) = ns)
    (hsw : |arc.sweep| ≤ 2 * Real.pi) (s : ℝ) (hs0 : 0 ≤ s) (hs1 : s ≤ 1) :
    ∃ (j : Nat) (u : ℝ), j < n ∧ 0 ≤ u ∧ u ≤ 1
      ∧ arc.sample s = pointAt arc (angleAt arc (stepOf arc ns) j + u * stepOf arc ns) := by
  have hnpos : (0 : ℝ) < (n : ℝ) := by exact_mod_cast hn
  have he : effSweep arc = |arc.sweep| := by
    rw [effSweep_real]; exact min_eq_left (by linarith only [hsw])
  have hstep : stepOf arc ns * (n : ℝ) = arc.sweep := by
    simp only [stepOf, he, ← hcast]
    have := abs_mul_signum arc.sweep
    field_simp
    linarith
  obtain ⟨j, hj, hu0, hu1⟩ := Hull.unit_parts n hn hs0 hs1
  refine ⟨j, s * n - j, hj, hu0, hu1, ?_⟩
  rw [← pointAt_getAngle]
  congr 1
  simp only [Arc.getAngle, angleAt, ofNat_eq]
  rw [← hstep]; ring

end Lyon.C13
