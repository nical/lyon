/-
  The counts of the complete stroker model on an open fixed-width polyline without merged points, non-round joins and caps:
  `4 + Σ_joins joinVertsFw` vertices (round joins / caps would add `2^d - 1` fan vertices per arc, `Lyon.C05.arc_fan`), and, when
  no join folds, `2·(n - 1) + Σ_joins (joinVertsFw - 2)` triangles - two per edge, one per join whose miter is not kept -
  i.e. `V = T + 2`.  One walk over the `line_to` loop gives both (`feedFw_count`): the vertex count holds unconditionally, the
  no-fold hypotheses are premises of the half of the conclusion that needs them.
-/
import LyonVerif.Lemmas.StrokeIdxCount

set_option linter.unusedSectionVars false
set_option linter.unusedTactic false
set_option linter.unreachableTactic false
set_option linter.unnecessarySeqFocus false

namespace Lyon.C05c
open Lyon Scalar Lyon.Stroke Lyon.Stroke.Full Lyon.C05 Lyon.C05b

/-- a join that did not fold: fold flags `false`, four valid ids, the two sides use different vertices -/
def Sides2 (n : Nat) (i : JoinIds) : Prop :=
  i.foldPos = false ∧ i.foldNeg = false ∧ Good n i ∧ i.negNext ≠ i.posNext ∧ i.posPrev ≠ i.negPrev

theorem Sides2.mono {n m : Nat} {i : JoinIds} (h : Sides2 n i) (hnm : n ≤ m) : Sides2 m i :=
  ⟨h.1, h.2.1, h.2.2.1.mono hnm, h.2.2.2.1, h.2.2.2.2⟩

/-- both triangles of an edge are kept when neither join folded and no two of the ids it reads coincide (`fwJoin_count`:
from `Sides2` of both joins and `p1`'s ids being fresher than `p0`'s) -/
theorem edgeTris_len2 (p0 p1 : JoinIds) (hf0 : p0.foldPos = false) (hg0 : p0.foldNeg = false)
    (hf1 : p1.foldPos = false) (hg1 : p1.foldNeg = false)
    (h1 : p0.negNext ≠ p1.posPrev) (h2 : p0.negNext ≠ p0.posNext) (h3 : p0.posNext ≠ p1.posPrev)
    (h4 : p0.negNext ≠ p1.negPrev) (h5 : p1.posPrev ≠ p1.negPrev) :
    (addEdgeTriangles p0 p1).length = 2 := by
  simp [addEdgeTriangles, edgeP0Neg, edgeP0Pos, edgeP1Neg, edgeP1Pos, edgeTri1, edgeTri2, hf0, hg0, hf1, hg1,
    h1, h2, h3, h4, h5]

section
variable {α : Type} [Scalar α] [Transc α]

theorem edgeAndJoin_tris (tol : α) (count : Nat) (prev j : EP α) (d : VData α) (o : Out α)
    (hr : (j.lineJoin == Lyon.StrokeQuad.Join.round) = false) :
    (edgeAndJoin tol count prev j d o).tris
      = o.tris ++ (if count > 2 then addEdgeTriangles prev.ids j.ids else [])
          ++ joinInterior j.ids (needsJoinPos j.toJoin) (needsJoinNeg j.toJoin)
    ∧ (edgeAndJoin tol count prev j d o).nextId = o.nextId := by
  rw [edgeAndJoin_eq _ _ _ _ _ _ hr]
  exact ⟨(List.append_assoc _ _ _).symm, rfl⟩

theorem baseVertices_ids (j : EP α) (d : VData α) (o : Out α) (hfp : j.foldPos = false) (hfn : j.foldNeg = false) :
    Sides2 (baseVertices j d o).2.nextId (baseVertices j d o).1.ids
    ∧ o.nextId ≤ (baseVertices j d o).1.pos.prevVertex ∧ o.nextId ≤ (baseVertices j d o).1.neg.prevVertex
    ∧ (baseVertices j d o).2.tris = o.tris
    ∧ (baseVertices j d o).2.nextId = o.nextId
        + (if j.neg.single.isSome then 1 else 2) + (if j.pos.single.isSome then 1 else 2)
    ∧ (joinInterior (baseVertices j d o).1.ids (needsJoinPos (baseVertices j d o).1.toJoin)
        (needsJoinNeg (baseVertices j d o).1.toJoin)).length + 2
        = (if j.neg.single.isSome then 1 else 2) + (if j.pos.single.isSome then 1 else 2) := by
  rw [baseVertices_eq]
  simp only [Out.grow, baseVerts, List.length_append, sideVerts_length, Sides2, Good, EP.ids, EP.toJoin, needsJoinPos,
    needsJoinNeg, joinInterior, hfp, hfn, List.append_nil]
  cases j.neg.single <;> cases j.pos.single <;> simp <;> omega

def NoFoldFw (e : Env α) : List (P α) → Prop
  | a :: b :: c :: rest => noFoldAt e a b c ∧ NoFoldFw e (b :: c :: rest)
  | _ => True

theorem fwJoin_count {e : Env α} (hj : e.o.join ≠ .round) (st : St α) (prev join next : EP α) (hf : Fresh e join) :
    ∃ j2 o', fwJoin e st prev join next = (commitSt st prev j2 o', next)
      ∧ j2.position = join.position
      ∧ o'.verts.length = st.out.verts.length + joinVertsFw e prev.position join.position next.position
      ∧ (join.foldPos = false → join.foldNeg = false → noFoldAt e prev.position join.position next.position →
          (st.buf.count > 2 → Sides2 st.out.nextId prev.ids) →
          o'.tris.length + 2 = st.out.tris.length + (if st.buf.count > 2 then 2 else 0)
              + joinVertsFw e prev.position join.position next.position
            ∧ Sides2 o'.nextId j2.ids ∧ st.out.nextId ≤ o'.nextId) := by
  obtain ⟨j1, _, ej, hcost, hpos, hlj, hnof⟩ := fwJoin_fresh_nf st prev join next hf
  generalize fwJoinData join j1 = dd at ej
  obtain ⟨b1, b2, b3⟩ := baseVertices_verts j1 dd st.out
  have hr2 : ((baseVertices j1 dd st.out).1.lineJoin == Lyon.StrokeQuad.Join.round) = false := by
    rw [b3, hlj]; exact join_not_round hj
  refine ⟨_, _, ej, b2.trans hpos, ?_, ?_⟩
  · show (edgeAndJoin _ _ _ _ _ _).verts.length = _
    rw [edgeAndJoin_verts _ _ _ _ _ _ hr2, b1, Nat.add_assoc, hcost]
  -- the triangles, when the join does not fold
  intro hfp hfn hnf hprev
  obtain ⟨f1, f2⟩ := hnof hnf
  obtain ⟨i1, i2, i3, i4, i5, i6⟩ := baseVertices_ids j1 dd st.out (f1.trans hfp) (f2.trans hfn)
  obtain ⟨t1, t2⟩ := edgeAndJoin_tris e.o.tolerance st.buf.count prev (baseVertices j1 dd st.out).1 dd
    (baseVertices j1 dd st.out).2 hr2
  show (edgeAndJoin _ _ _ _ _ _).tris.length + 2 = _ ∧ Sides2 (edgeAndJoin _ _ _ _ _ _).nextId _
    ∧ _ ≤ (edgeAndJoin _ _ _ _ _ _).nextId
  refine ⟨?_, by rw [t2]; exact i1, by rw [t2, i5]; omega⟩
  rw [t1, i4]
  simp only [List.length_append]
  have hedge : (if st.buf.count > 2 then addEdgeTriangles prev.ids (baseVertices j1 dd st.out).1.ids else []).length
      = (if st.buf.count > 2 then 2 else 0) := by
    split_ifs with h3
    · obtain ⟨p1, p2, pg, p4, p5⟩ := hprev h3
      obtain ⟨q1, q2, qg, q4, q5⟩ := i1
      obtain ⟨g1, g2, g3, g4⟩ := pg
      have hi2 : st.out.nextId ≤ (baseVertices j1 dd st.out).1.ids.posPrev := i2
      have hi3 : st.out.nextId ≤ (baseVertices j1 dd st.out).1.ids.negPrev := i3
      exact edgeTris_len2 _ _ p1 p2 q1 q2 (by omega) p4 (by omega) (by omega) q5
    · rfl
  rw [hedge, ← hcost]
  omega

/-- (not the `TInv` of the monotone tessellator) what the counting induction carries: the newest point is fresh, the one before it has been a
join without fold (window full) or is the untouched first point; `V = T + 2` once the first join
has been emitted -/
structure TInv (e : Env α) (st : St α) (a b : EP α) : Prop where
  wf : WF st.buf
  two : st.buf.lastTwo = some (a, b)
  fresh : Fresh e b
  bfp : b.foldPos = false
  bfn : b.foldNeg = false
  first : st.buf.count = 2 → a.foldPos = false ∧ a.foldNeg = false
  full : st.buf.count > 2 → Sides2 st.out.nextId a.ids
    ∧ ∃ f0 f1, st.firsts = [f0, f1] ∧ f0.foldPos = false ∧ f0.foldNeg = false ∧ Sides2 st.out.nextId f1.ids
  euler : st.out.verts.length = st.out.tris.length + (if st.buf.count == 2 then 0 else 2)

theorem fwStep_join_count {e : Env α} (hj : e.o.join ≠ .round) {st : St α} {a b : EP α} (hwf : WF st.buf)
    (hab : st.buf.lastTwo = some (a, b)) (hb : Fresh e b) (next : EP α)
    (hfar : pointsAreTooClose e.thr b.position next.position = false) :
    ∃ b', WF (fwStep e st next).1.buf ∧ (fwStep e st next).1.buf.lastTwo = some (b', next) ∧ b'.position = b.position
      ∧ (fwStep e st next).1.out.verts.length
          = st.out.verts.length + joinVertsFw e a.position b.position next.position
      ∧ (TInv e st a b → Fresh e next → next.foldPos = false → next.foldNeg = false →
          noFoldAt e a.position b.position next.position → TInv e (fwStep e st next).1 b' next) := by
  obtain ⟨j2, o', ej, hp, hv, ht⟩ := fwJoin_count hj st a b next hb
  have hc2 := WF.lastTwo_count _ _ hab
  have hle3 := hwf.count_le
  obtain ⟨b2, e2, hwf2, hlt2, hc3⟩ := fwStep_of_join hwf hab hfar ej
  rw [e2]
  refine ⟨j2, hwf2, hlt2, hp, hv, fun hI hn hnp hnn hnf => ?_⟩
  obtain ⟨ht, hs2, hle⟩ := ht hI.bfp hI.bfn hnf (fun h => (hI.full h).1)
  refine ⟨hwf2, hlt2, hn, hnp, hnn, fun h => by simp only at h; omega, fun _ => ⟨hs2, ?_⟩, ?_⟩
  · by_cases h2 : st.buf.count = 2
    · obtain ⟨r1, r2⟩ := hI.first h2
      simp only [h2, beq_self_eq_true, if_true]
      exact ⟨a, j2, rfl, r1, r2, hs2⟩
    · have hne : (st.buf.count == 2) = false := by simpa using h2
      obtain ⟨_, f0, f1, ef, g1, g2, g3⟩ := hI.full (by omega)
      simp only [hne, Bool.false_eq_true, if_false]
      exact ⟨f0, f1, ef, g1, g2, g3.mono hle⟩
  · have he := hI.euler
    simp only [hc3]
    by_cases h2 : st.buf.count = 2
    · simp only [h2, beq_self_eq_true, if_true, Nat.lt_irrefl, if_false] at he ht
      simp; omega
    · have hne : (st.buf.count == 2) = false := by simpa using h2
      have h3 : st.buf.count > 2 := by omega
      simp only [hne, Bool.false_eq_true, if_false, h3, if_true] at he ht
      simp; omega

theorem linePt_folds (e : Env α) (q : Nat × P α) : (linePt e q).foldPos = false ∧ (linePt e q).foldNeg = false :=
  ⟨rfl, rfl⟩

theorem feedFw_count {e : Env α} (hj : e.o.join ≠ .round) (rest : List (Nat × P α)) :
    ∀ (st : St α) (a b : EP α), WF st.buf → st.buf.lastTwo = some (a, b) → Fresh e b →
      NoMerge e.thr (b.position :: rest.map (·.2)) →
      ∃ a' b', (rest.foldl (fun s q => (fwStep e s (linePt e q)).1) st).buf.lastTwo = some (a', b')
        ∧ WF (rest.foldl (fun s q => (fwStep e s (linePt e q)).1) st).buf
        ∧ (rest.foldl (fun s q => (fwStep e s (linePt e q)).1) st).out.verts.length
            = st.out.verts.length + joinCostFw e (a.position :: b.position :: rest.map (·.2))
        ∧ (TInv e st a b → NoFoldFw e (a.position :: b.position :: rest.map (·.2)) →
            TInv e (rest.foldl (fun s q => (fwStep e s (linePt e q)).1) st) a' b') := by
  induction rest with
  | nil => intro st a b hwf hab _ _; exact ⟨a, b, hab, hwf, rfl, fun h _ => h⟩
  | cons q rest ih =>
    intro st a b hwf hab hb hm
    obtain ⟨hfar, hm'⟩ := hm
    obtain ⟨b', h1, h2, h3, h4, h5⟩ := fwStep_join_count hj hwf hab hb (linePt e q) hfar
    obtain ⟨a'', b'', g1, g2, g3, g4⟩ := ih _ b' (linePt e q) h1 h2 (fresh_mk' e _ _ _) hm'
    refine ⟨a'', b'', g1, g2, ?_, fun hI hnf => g4 (h5 hI (fresh_mk' e _ _ _) rfl rfl hnf.1) (by rw [h3]; exact hnf.2)⟩
    rw [List.foldl_cons, g3, h4, h3]
    simp only [List.map_cons, joinCostFw, linePt, EP.mk']
    omega

theorem lastEdge_tris (e : Env α) (hc : e.o.endCap ≠ .round) (p0 p1 : EP α) (isFirst : Bool) (o : Out α) :
    (lastEdge e p0 p1 isFirst o).2.tris
      = o.tris ++ (if isFirst then [] else addEdgeTriangles p0.ids { p1.ids with posPrev := o.nextId, negPrev := o.nextId + 1 })
    ∧ (lastEdge e p0 p1 isFirst o).2.nextId = o.nextId + 2
    ∧ (lastEdge e p0 p1 isFirst o).1.ids = { p1.ids with posPrev := o.nextId, negPrev := o.nextId + 1 } := by
  rw [lastEdge_eq]; simp only [lastCap, cap_not_round hc]; exact ⟨rfl, rfl, rfl⟩

theorem endWithCaps_euler (e : Env α) (hs : e.o.startCap ≠ .round) (he : e.o.endCap ≠ .round) {st : St α}
    {a b : EP α} (hI : TInv e st a b) :
    (endWithCaps e st).out.verts.length = (endWithCaps e st).out.tris.length + 2 := by
  have hc2 := WF.lastTwo_count _ _ hI.two
  have hle3 := hI.wf.count_le
  have heu := hI.euler
  rw [endWithCaps_eq_two hI.two]
  show (firstEdge e _ _ _).verts.length = (firstEdge e _ _ _).tris.length + 2
  rw [firstEdge_eq, capsOut, lastEdge_eq]
  simp only [firstCap, lastCap, cap_not_round hs, cap_not_round he, Bool.false_eq_true, if_false, Out.grow,
    List.length_append, lastVerts, firstVerts, List.length_cons, List.length_nil]
  -- the last edge ends in `b`'s flags with the two fresh ids
  have hl : (lastP1 e a (if e.o.varWidth then b else lastSidesFw a b) st.out.nextId).ids
      = { b.ids with posPrev := st.out.nextId, negPrev := st.out.nextId + 1 } := by split_ifs <;> rfl
  rw [hl]
  by_cases h2 : st.buf.count = 2
  · obtain ⟨r1, r2⟩ := hI.first h2
    simp only [h2, beq_self_eq_true, if_true, Nat.lt_irrefl, if_false, List.length_nil] at heu ⊢
    rw [hl, edgeTris_len2 _ _ r1 r2 hI.bfp hI.bfn (by simp; omega) (by simp) (by simp) (by simp) (by simp)]
    omega
  · have h3 : st.buf.count > 2 := by omega
    obtain ⟨⟨a1, a2, ⟨_, _, _, _⟩, a4, a5⟩, f0, f1, ef, g1, g2, s1, s2, ⟨_, _, _, _⟩, s4, s5⟩ := hI.full h3
    simp only [show (st.buf.count == 2) = false by simpa using h2, Bool.false_eq_true, if_false, if_pos h3, ef,
      List.headD_cons, List.drop_succ_cons, List.drop_zero] at heu ⊢
    rw [edgeTris_len2 _ _ a1 a2 hI.bfp hI.bfn (by simp; omega) a4 (by simp; omega) (by simp; omega) (by simp),
      edgeTris_len2 _ _ g1 g2 s1 s2 (by simp; omega) (by simp) (by simp; omega) (by simp; omega) s5]
    omega

end

section Loop
variable {α : Type} [Scalar α] [Transc α] [Asin α] [FlatConst α]

/-- **vertex count.**  Fixed line width, a sub-path `begin p0, line_to p1, line_to …, end(false)` none
of whose points is merged (`NoMerge`: consecutive points not within the merge threshold), join kind
Miter / MiterClip / Bevel, butt or square caps: the stroker emits
`4 + Σ_joins (4 if the join folds, 2 if its miter is kept, else 3)` vertices. -/
theorem polyline_vertex_count (e : Env α) (store : Nat → List α) (hfw : e.o.varWidth = false)
    (hj : e.o.join ≠ .round) (hs : e.o.startCap ≠ .round) (he : e.o.endCap ≠ .round)
    (i0 i1 : Nat) (p0 p1 : P α) (rest : List (Nat × P α))
    (hm : NoMerge e.thr (p0 :: p1 :: rest.map (·.2))) :
    (runEvents e store (IdEv.begin i0 p0 :: IdEv.line i1 p1 :: (lineEvs rest ++ [IdEv.end_ false]))).st.out.verts.length
      = 4 + joinCostFw e (p0 :: p1 :: rest.map (·.2)) := by
  obtain ⟨hfar, hm'⟩ := hm
  obtain ⟨st2, hwf2, hab, _, hout, hrun⟩ := run_open_subpath_x e store hfw i0 i1 p0 p1 rest hfar
  rw [hrun]
  obtain ⟨a', b', g1, g2, g3, _⟩ := feedFw_count hj rest st2 _ _ hwf2 hab ⟨rfl, rfl, rfl, rfl, rfl⟩ hm'
  refine Eq.trans (endWithCaps_verts e hs he g1) ?_
  rw [g3, hout]
  show 0 + joinCostFw e (p0 :: p1 :: rest.map (·.2)) + 4 = _
  omega

/-- **`V = T + 2`.**  Fixed line width, an open sub-path of `n ≥ 2` unmerged points none of whose
joins folds, join kind Miter / MiterClip / Bevel, butt or square caps: the stroke is a triangle
strip — two triangles per edge, one more per join whose miter is not kept — so the number of
triangles is the number of vertices minus two. -/
theorem polyline_euler (e : Env α) (store : Nat → List α) (hfw : e.o.varWidth = false)
    (hj : e.o.join ≠ .round) (hs : e.o.startCap ≠ .round) (he : e.o.endCap ≠ .round)
    (i0 i1 : Nat) (p0 p1 : P α) (rest : List (Nat × P α))
    (hm : NoMerge e.thr (p0 :: p1 :: rest.map (·.2))) (hnf : NoFoldFw e (p0 :: p1 :: rest.map (·.2))) :
    (runEvents e store (IdEv.begin i0 p0 :: IdEv.line i1 p1 :: (lineEvs rest ++ [IdEv.end_ false]))).st.out.verts.length
      = (runEvents e store (IdEv.begin i0 p0 :: IdEv.line i1 p1 :: (lineEvs rest ++ [IdEv.end_ false]))).st.out.tris.length + 2 := by
  obtain ⟨hfar, hm'⟩ := hm
  obtain ⟨st2, hwf2, hab, hc2, hout, hrun⟩ := run_open_subpath_x e store hfw i0 i1 p0 p1 rest hfar
  rw [hrun]
  have hI2 : TInv e st2 (firstPt e i0 i1 p0 p1) (secondPt e i0 i1 p0 p1) :=
    ⟨hwf2, hab, ⟨rfl, rfl, rfl, rfl, rfl⟩, rfl, rfl, fun _ => ⟨rfl, rfl⟩, fun h => by omega, by rw [hout, hc2]; rfl⟩
  obtain ⟨a', b', _, _, _, g4⟩ := feedFw_count hj rest st2 _ _ hwf2 hab ⟨rfl, rfl, rfl, rfl, rfl⟩ hm'
  have g1 := g4 hI2 hnf
  exact endWithCaps_euler e hs he ⟨g1.wf, g1.two, g1.fresh, g1.bfp, g1.bfn, g1.first, g1.full, g1.euler⟩

end Loop

end Lyon.C05c
