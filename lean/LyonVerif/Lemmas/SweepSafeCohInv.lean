/-
  SPAN / WINDING COHERENCE: the invariant `Coh` and the fold lemmas.

  `Coh s`: every span is live; the number of spans is the number of span-index increments of the
  winding fold over the whole active list (`= number of 'in' gaps`); the total winding is `out`;
  every merge vertex lies in an `in` region and carries winding 0.  (`Good`: a well-formed winding state.)
-/
import LyonVerif.Lemmas.SweepSafeCohScanSpec
import LyonVerif.Lemmas.SweepSafeSpans

set_option linter.unusedSectionVars false
set_option mvcgen.warning false

namespace Lyon.SweepCoh
open Lyon Lyon.Scalar Lyon.Mono Lyon.Sweep Lyon.EQ Lyon.SweepSafe
open Std.Do

variable {α : Type} [Scalar α] [Wide α]

theorem wfold_eq_sfold (rule : Slab.Rule) (w : WindingState) (l : List (ActiveEdge α)) :
    wfold rule w l = sfold rule w (l.map sigOf) := by
  induction l generalizing w with
  | nil => rfl
  | cons e l ih =>
    simp only [wfold, sfold, List.foldl_cons, List.map_cons] at ih ⊢
    rw [ih]
    rfl

theorem sfold_append (rule : Slab.Rule) (w : WindingState) (l m : List (Bool × Int)) :
    sfold rule w (l ++ m) = sfold rule (sfold rule w l) m := by simp [sfold, List.foldl_append]

/-- well-formed winding state: `span_index ≥ -1`, `≥ 0` inside, `is_in` is the rule of the number -/
structure Good (rule : Slab.Rule) (w : WindingState) : Prop where
  ge : -1 ≤ w.spanIndex
  inn : w.isIn = true → 0 ≤ w.spanIndex
  canon : w.isIn = rule.isIn w.number

theorem isIn_zero (rule : Slab.Rule) : rule.isIn 0 = false := by
  cases rule <;> simp [Slab.Rule.isIn]

theorem good_new (rule : Slab.Rule) : Good rule WindingState.new :=
  ⟨by simp [WindingState.new], by simp [WindingState.new], by simp [WindingState.new, isIn_zero]⟩

theorem good_sstep {rule : Slab.Rule} {w : WindingState} (h : Good rule w) (x : Bool × Int) :
    Good rule (sstep rule w x) := by
  unfold sstep
  split
  · exact ⟨by dsimp only; have := h.ge; omega, fun _ => by dsimp only; have := h.ge; omega, h.canon⟩
  · unfold WindingState.update
    dsimp only
    refine ⟨?_, ?_, rfl⟩
    · have := h.ge; split <;> (dsimp only; omega)
    · intro hi; dsimp only at hi ⊢; rw [if_pos hi]; have := h.ge; omega

theorem good_sfold {rule : Slab.Rule} {w : WindingState} (h : Good rule w) (l : List (Bool × Int)) :
    Good rule (sfold rule w l) := by
  induction l generalizing w with
  | nil => exact h
  | cons x l ih => exact ih (good_sstep h x)

theorem sstep_si (rule : Slab.Rule) (w : WindingState) (x : Bool × Int) :
    (sstep rule w x).spanIndex = w.spanIndex + (if x.1 = true ∨ (sstep rule w x).isIn = true then 1 else 0) := by
  rcases x with ⟨m, k⟩
  cases m with
  | true => simp [sstep]
  | false =>
    simp only [sstep, Bool.false_eq_true, if_false, false_or, update_si, bi]
    split <;> rfl

theorem sfold_mono (rule : Slab.Rule) (w : WindingState) (l : List (Bool × Int)) :
    w.spanIndex ≤ (sfold rule w l).spanIndex := by
  induction l generalizing w with
  | nil => exact Int.le_refl _
  | cons x l ih =>
    have h1 := ih (sstep rule w x)
    have h2 := sstep_si rule w x
    simp only [sfold, List.foldl_cons] at h1 ⊢
    split at h2 <;> omega

theorem sfold_shift {rule : Slab.Rule} {w w' : WindingState} (hn : w.number = w'.number)
    (hi : w.isIn = w'.isIn) (l : List (Bool × Int)) :
    (sfold rule w l).number = (sfold rule w' l).number ∧ (sfold rule w l).isIn = (sfold rule w' l).isIn ∧
    (sfold rule w l).spanIndex - w.spanIndex = (sfold rule w' l).spanIndex - w'.spanIndex := by
  induction l generalizing w w' with
  | nil => exact ⟨hn, hi, by simp [sfold]⟩
  | cons x l ih =>
    have key : (sstep rule w x).number = (sstep rule w' x).number ∧
        (sstep rule w x).isIn = (sstep rule w' x).isIn := by
      unfold sstep WindingState.update
      split
      · exact ⟨hn, hi⟩
      · rw [hn]; exact ⟨rfl, rfl⟩
    have := ih key.1 key.2
    have k1 := sstep_si rule w x
    have k2 := sstep_si rule w' x
    rw [key.2] at k1
    simp only [sfold, List.foldl_cons] at this ⊢
    exact ⟨this.1, this.2.1, by omega⟩

/-- the signatures of an active list; `sigs s` is `sgA s.active` -/
def sgA (a : Array (ActiveEdge α)) : List (Bool × Int) := a.toList.map sigOf

theorem sgA_length (a : Array (ActiveEdge α)) : (sgA a).length = a.size := by simp [sgA]

theorem sgA_getElem? (a : Array (ActiveEdge α)) (k : Nat) : (sgA a)[k]? = (a[k]?).map sigOf := by
  simp [sgA]

theorem sigs_length (s : St α) : (sigs s).length = s.active.size := sgA_length s.active

theorem sigs_getElem? (s : St α) (k : Nat) : (sigs s)[k]? = (s.active[k]?).map sigOf := sgA_getElem? s.active k

theorem sigs_take_ge (s : St α) {k : Nat} (h : s.active.size ≤ k) : (sigs s).take k = sigs s :=
  List.take_of_length_le (by rw [sigs_length]; exact h)

theorem Wat_sfold (s : St α) (k : Nat) : Wat s k = sfold s.rule WindingState.new ((sigs s).take k) := by
  unfold Wat sigs
  rw [wfold_eq_sfold, List.map_take]

theorem Wat_good (s : St α) (k : Nat) : Good s.rule (Wat s k) := by
  rw [Wat_sfold]; exact good_sfold (good_new _) _

theorem Wat_split (s : St α) {k m : Nat} (h : k ≤ m) :
    Wat s m = sfold s.rule (Wat s k) (((sigs s).take m).drop k) := by
  rw [Wat_sfold, Wat_sfold, ← sfold_append]
  congr 1
  have : (sigs s).take k = ((sigs s).take m).take k := by
    rw [List.take_take, Nat.min_eq_left h]
  rw [this, List.take_append_drop]

theorem Wat_mono (s : St α) {k m : Nat} (h : k ≤ m) : (Wat s k).spanIndex ≤ (Wat s m).spanIndex := by
  rw [Wat_split s h]; exact sfold_mono _ _ _

theorem Wtot_sfold (s : St α) : Wtot s = sfold s.rule WindingState.new (sigs s) := by
  unfold Wtot
  rw [Wat_sfold, sigs_take_ge s (Nat.le_refl _)]

theorem Wat_ge_size (s : St α) {k : Nat} (h : s.active.size ≤ k) : Wat s k = Wtot s := by
  rw [Wtot_sfold, Wat_sfold, sigs_take_ge s h]

theorem Wat_le_tot (s : St α) (k : Nat) : (Wat s k).spanIndex ≤ (Wtot s).spanIndex := by
  by_cases h : k ≤ s.active.size
  · exact Wat_mono s h
  · rw [Wat_ge_size s (by omega)]; exact Int.le_refl _

/-- the coherence invariant -/
structure Coh (s : St α) : Prop where
  live : SomeExcept [] s.spans
  size : (s.spans.size : Int) = (Wtot s).spanIndex + 1
  out : (Wtot s).isIn = false
  merges : ∀ k e, s.active[k]? = some e → e.isMerge = true → (Wat s k).isIn = true
  /-- a merge vertex carries winding 0 -/
  mz : ∀ x ∈ sigs s, x.1 = true → x.2 = 0

theorem Wat_congr {s s' : St α} (h1 : s'.active = s.active) (h2 : s'.rule = s.rule) (k : Nat) :
    Wat s' k = Wat s k := by unfold Wat; rw [h1, h2]

theorem Coh.frame {s s' : St α} (h : Coh s) (h1 : s'.spans = s.spans) (h2 : s'.active = s.active)
    (h3 : s'.rule = s.rule) : Coh s' := by
  have hW : ∀ k, Wat s' k = Wat s k := Wat_congr h2 h3
  have hT : Wtot s' = Wtot s := by unfold Wtot; rw [hW, h2]
  exact ⟨h1 ▸ h.live, by rw [h1, hT]; exact h.size, by rw [hT]; exact h.out,
    fun k e hk hm => by rw [hW]; exact h.merges k e (h2 ▸ hk) hm,
    by unfold sigs; rw [h2]; exact h.mz⟩

theorem Coh.idx_ok {s : St α} (h : Coh s) {k : Nat} (hin : (Wat s k).isIn = true) :
    0 ≤ (Wat s k).spanIndex ∧ (Wat s k).spanIndex < (s.spans.size : Int) := by
  have h1 := (Wat_good s k).inn hin
  have h2 := Wat_le_tot s k
  have h3 := h.size
  omega

theorem spanIdx_some {i : Int} {m : Nat} (h0 : 0 ≤ i) (h1 : i < (m : Int)) : spanIdx i m = some i.toNat := by
  unfold spanIdx
  rw [if_pos ⟨h0, by omega⟩]

/-- increments of the span index over `[a, b)` = number of `in` gaps in `(a, b]`, when every merge
vertex lies in an `in` region (clause `merges` of `Coh`) -/
theorem incr_eq_cnt (s : St α) (hm : ∀ k e, s.active[k]? = some e → e.isMerge = true → (Wat s k).isIn = true)
    (a : Nat) : ∀ (d : Nat), a + d ≤ s.active.size →
    (Wat s (a + d)).spanIndex - (Wat s a).spanIndex = (cntIn s a (a + d + 1) : Int)
  | 0, _ => by simp [cntIn_self]
  | d+1, hle => by
    have ih := incr_eq_cnt s hm a d (by omega)
    have hlt : a + d < s.active.size := by omega
    have he : s.active[a + d]? = some s.active[a + d] := by simp [hlt]
    have hs := Wat_succ s (a + d) _ he
    have hc := cntIn_succ s a (a + d + 1)
    have e1 : a + (d + 1) = a + d + 1 := by omega
    rw [e1, hc, hs]
    have hstep : (wstep s.rule (Wat s (a + d)) s.active[a + d]).spanIndex = (Wat s (a + d)).spanIndex +
        (if (wstep s.rule (Wat s (a + d)) s.active[a + d]).isIn = true then 1 else 0) := by
      rw [show wstep s.rule (Wat s (a + d)) s.active[a + d] = sstep s.rule (Wat s (a + d)) (sigOf s.active[a + d])
        from rfl, sstep_si]
      by_cases hmg : s.active[a + d].isMerge = true
      · simp [sigOf, sstep, hmg, hm (a + d) _ he hmg]
      · simp [sigOf, hmg]
    rw [← hs] at hstep ⊢
    have : a < a + d + 1 := by omega
    simp only [this, true_and]
    rw [hstep]
    split <;> (push_cast; omega)

/-- the consequences of `HorizAgree` the coherence proofs use, as a property of the scan result -/
def ScanAgree (s : St α) (scan : Scan) : Prop :=
  (scan.mergeEvent = true → scan.aboveStart < scan.aboveEnd) ∧
  (scan.aboveStart = scan.aboveEnd → (Wat s scan.aboveStart).isIn = true → scan.splitEvent = true)

theorem scanAgree_of_horiz {s : St α} {scan : Scan} (hok : ScanOk s scan) (hsem : ScanSem s scan)
    (hH : HorizAgree s.tolerance) : ScanAgree s scan :=
  ⟨hok.merge_room hH, hsem.split_of_in hH⟩

theorem scanAgree_of_B {s : St α} {scan : Scan} (h : scanAgreeB s scan = true) : ScanAgree s scan := by
  unfold scanAgreeB at h
  simp only [Bool.and_eq_true, Bool.or_eq_true, Bool.not_eq_true', decide_eq_true_eq, Bool.and_eq_false_iff,
    decide_eq_false_iff_not] at h
  refine ⟨fun hm => ?_, fun hab hin => ?_⟩
  · rcases h.1 with h1 | h1
    · rw [hm] at h1; cases h1
    · exact h1
  · rcases h.2 with (h2 | h2) | h2
    · exact absurd hab h2
    · rw [hin] at h2; cases h2
    · exact h2

/-! ### the winding number as a sum over the signature list; merge vertices inside

`gW` is the summand of the winding number (`gsum` its sum); `MZl`: "merge vertices carry winding zero" on a
signature list (clause `mz` of `Coh`); `MIn rule n l`: every merge vertex of `l` lies in an `in` region, `n`
being the winding number left of `l` (clause `merges` of `Coh` is `MIn s.rule 0 (sigs s)`); `K4upto … m` is
the same by positions, for the positions before `m` (clause `merges` is the fourth of `Coh`). -/

/-- sum of `h` over a list -/
def lsum {γ : Type} (h : γ → Int) (l : List γ) : Int := (l.map h).sum

theorem lsum_nil {γ : Type} (h : γ → Int) : lsum h [] = 0 := rfl
theorem lsum_cons {γ : Type} (h : γ → Int) (x : γ) (l : List γ) : lsum h (x :: l) = h x + lsum h l := by
  simp [lsum]
theorem lsum_append {γ : Type} (h : γ → Int) (l m : List γ) : lsum h (l ++ m) = lsum h l + lsum h m := by
  simp [lsum, List.sum_append]

theorem lsum_perm {γ : Type} (h : γ → Int) {l m : List γ} (p : l.Perm m) : lsum h l = lsum h m := by
  induction p with
  | nil => rfl
  | cons x _ ih => rw [lsum_cons, lsum_cons, ih]
  | swap x y l => simp only [lsum_cons]; omega
  | trans _ _ ih1 ih2 => exact ih1.trans ih2

/-- what a signature adds to the winding number -/
def gW (x : Bool × Int) : Int := if x.1 then 0 else x.2

/-- sum of the windings of the edges (merge vertices count 0) -/
def gsum (l : List (Bool × Int)) : Int := lsum gW l

theorem sfold_number (rule : Slab.Rule) : ∀ (l : List (Bool × Int)) (w : WindingState),
    (sfold rule w l).number = w.number + gsum l
  | [], w => by simp [sfold, gsum, lsum_nil]
  | x :: l, w => by
    have ih := sfold_number rule l (sstep rule w x)
    simp only [sfold, List.foldl_cons] at ih ⊢
    rw [ih]
    unfold gsum
    rw [lsum_cons]
    rcases x with ⟨m, k⟩
    cases m <;> simp [sstep, gW, WindingState.update] <;> omega

/-- merge vertices carry winding 0 -/
def MZl (l : List (Bool × Int)) : Prop := ∀ x ∈ l, x.1 = true → x.2 = 0

/-- the merge vertices before position `m` lie in `in` regions -/
def K4upto (rule : Slab.Rule) (l : List (Bool × Int)) (m : Nat) : Prop :=
  ∀ p, p < m → ∀ x, l[p]? = some x → x.1 = true → rule.isIn (gsum (l.take p)) = true

theorem gsum_append (l m : List (Bool × Int)) : gsum (l ++ m) = gsum l + gsum m := lsum_append _ _ _
theorem gsum_cons (x : Bool × Int) (l : List (Bool × Int)) : gsum (x :: l) = gW x + gsum l := lsum_cons _ _ _
theorem gsum_nil : gsum [] = 0 := rfl

theorem gW_merge {x : Bool × Int} (h : x.1 = true) : gW x = 0 := by simp [gW, h]

/-- every merge vertex of `l` has an `in` winding to its left, `n` being the winding number left of `l` -/
def MIn (rule : Slab.Rule) : Int → List (Bool × Int) → Prop
  | _, [] => True
  | n, x :: l => (x.1 = true → rule.isIn n = true) ∧ MIn rule (n + gW x) l

theorem MIn_append {rule : Slab.Rule} : ∀ (l m : List (Bool × Int)) (n : Int),
    MIn rule n (l ++ m) ↔ MIn rule n l ∧ MIn rule (n + gsum l) m
  | [], m, n => by simp [MIn, gsum_nil]
  | x :: l, m, n => by
    simp only [List.cons_append, MIn, MIn_append l m, gsum_cons, and_assoc, Int.add_assoc]

theorem MIn_edges {rule : Slab.Rule} : ∀ (l : List (Bool × Int)) (n : Int), (∀ x ∈ l, x.1 = false) → MIn rule n l
  | [], _, _ => trivial
  | x :: l, n, h => ⟨fun hx => (by rw [h x (by simp)] at hx; cases hx),
      MIn_edges l _ fun y hy => h y (by simp [hy])⟩

/-- the reading by positions (what `K4upto` and `Coh.merges` say) -/
theorem MIn_iff_idx {rule : Slab.Rule} : ∀ (l : List (Bool × Int)) (n : Int),
    MIn rule n l ↔ ∀ p x, l[p]? = some x → x.1 = true → rule.isIn (n + gsum (l.take p)) = true
  | [], n => by simp [MIn]
  | y :: l, n => by
    rw [MIn, MIn_iff_idx l]
    constructor
    · rintro ⟨h0, h⟩ p x hx hm
      cases p with
      | zero =>
        simp only [List.getElem?_cons_zero, Option.some.injEq] at hx
        simpa [gsum_nil] using h0 (hx ▸ hm)
      | succ p =>
        have := h p x (by simpa using hx) hm
        simpa [gsum_cons, Int.add_assoc] using this
    · intro h
      refine ⟨fun hm => by simpa [gsum_nil] using h 0 y rfl hm, fun p x hx hm => ?_⟩
      have := h (p + 1) x (by simpa using hx) hm
      simpa [gsum_cons, Int.add_assoc] using this

theorem K4upto_iff {rule : Slab.Rule} (l : List (Bool × Int)) : K4upto rule l l.length ↔ MIn rule 0 l := by
  rw [MIn_iff_idx]
  simp only [Int.zero_add]
  exact ⟨fun h p x hx hm => h p (List.getElem?_eq_some_iff.mp hx).1 x hx hm, fun h p _ x hx hm => h p x hx hm⟩

theorem Wat_isIn (s : St α) (k : Nat) : (Wat s k).isIn = s.rule.isIn (gsum ((sigs s).take k)) := by
  rw [(Wat_good s k).canon, Wat_sfold, sfold_number]
  simp [WindingState.new]

theorem Wtot_isIn (s : St α) : (Wtot s).isIn = s.rule.isIn (gsum (sigs s)) := by
  unfold Wtot
  rw [Wat_isIn, sigs_take_ge s (Nat.le_refl _)]

theorem Coh.min {s : St α} (h : Coh s) : MIn s.rule 0 (sigs s) :=
  (MIn_iff_idx _ _).mpr fun p x hx hm => by
    rw [Int.zero_add, ← Wat_isIn]
    rw [sigs_getElem?] at hx
    obtain ⟨e, he, rfl⟩ := Option.map_eq_some_iff.mp hx
    exact h.merges p e he hm

theorem coh_of_min {s : St α} (hl : SomeExcept [] s.spans) (hs : (s.spans.size : Int) = (Wtot s).spanIndex + 1)
    (ho : (Wtot s).isIn = false) (hm : MIn s.rule 0 (sigs s)) (hz : MZl (sigs s)) : Coh s :=
  ⟨hl, hs, ho, fun k e hk hme => by
    rw [Wat_isIn]
    exact (K4upto_iff _).mpr hm k (by rw [sigs_length]; exact (Array.getElem?_eq_some_iff.mp hk).1) (sigOf e)
      (by rw [sigs_getElem?, hk]; rfl) hme, hz⟩

end Lyon.SweepCoh
