/-
  Lemmas about the parser model (`Model/Parser.lean`) for `Props/C17*.lean`.  Core Lean only.

  The parser is analysed through three case principles:
  sub-parsers through the combinators `Tracks` / `Eats` (where the source is left, that input is
  consumed) and the inversion `bind_ok_iff`; one loop iteration through `step_does` (the command
  letter is classified once, `cmdKind`; each branch comes with the outcome of its operand parser,
  every failing iteration is one case); the loop through `loop_rec`.  Totality, protocol safety
  and error positions are instances.  The closed forms for positions (`advN_new` with `nlCount`,
  `colOf`) come first in this file; the round trip of printed paths is in `Lemmas/ParserPrint.lean`.
-/
import LyonVerif.Model.Parser
import LyonVerif.Lemmas.Trace

namespace Lyon.Parser
open Lyon.Path

variable {ν : Type}

abbrev Src.len (s : Src) : Nat := s.inp.length

theorem adv_inp (s : Src) : s.adv.inp = s.inp.tail := by
  unfold Src.adv; cases h : s.inp <;> simp [h]

theorem adv_len_lt (s : Src) (h : s.inp ≠ []) : s.adv.len < s.len := by
  simp only [Src.len, adv_inp]; cases hs : s.inp with
  | nil => exact absurd hs h
  | cons a r => simp

theorem advWhileL_inp (p : Char → Bool) (l : List Char) (a b : Int) :
    (advWhileL p l a b).inp = l.dropWhile p := by
  induction l generalizing a b with
  | nil => simp [advWhileL]
  | cons c r ih =>
    unfold advWhileL
    by_cases hp : p c <;> simp [hp, ih]

theorem advWhile_inp (p : Char → Bool) (s : Src) : (s.advWhile p).inp = s.inp.dropWhile p := by
  simp [Src.advWhile, advWhileL_inp]

/-- `advance_one` applied `n` times -/
def advN : Nat → Src → Src
  | 0, s => s
  | n + 1, s => advN n s.adv

/-- `s` is `s0` advanced some number of times: the parser never moves back -/
def Reach (s0 s : Src) : Prop := ∃ n, s = advN n s0

theorem advN_add (a b : Nat) (s : Src) : advN (a + b) s = advN b (advN a s) := by
  induction a generalizing s with
  | zero => simp [advN]
  | succ a ih => rw [Nat.succ_add]; simp [advN, ih]

theorem advN_inp (n : Nat) (s : Src) : (advN n s).inp = s.inp.drop n := by
  induction n generalizing s with
  | zero => simp [advN]
  | succ n ih =>
    simp only [advN, ih, adv_inp, List.drop_tail]

theorem Reach.refl (s : Src) : Reach s s := ⟨0, rfl⟩
theorem Reach.trans {a b c : Src} (h1 : Reach a b) (h2 : Reach b c) : Reach a c := by
  obtain ⟨n, rfl⟩ := h1; obtain ⟨m, rfl⟩ := h2; exact ⟨n + m, (advN_add n m a).symm⟩
theorem Reach.adv (s : Src) : Reach s s.adv := ⟨1, rfl⟩

theorem Reach.len_le {s s' : Src} (h : Reach s s') : s'.len ≤ s.len := by
  obtain ⟨n, rfl⟩ := h
  simp only [Src.len, advN_inp, List.length_drop]; omega

/-! The position after `n` steps from `Source::new`: line and column are left folds over the
characters stepped onto. -/

def nlCount (l : List Char) : Int := (l.count '\n' : Nat)

/-- the column after stepping onto `d` from column `c` (`nextCol`, on the character) -/
def colStep (c : Int) (d : Char) : Int := if d == '\n' then -1 else c + 1

/-- the column of the last character of `l`, `l` being a prefix of the input -/
def colOf (l : List Char) : Int := l.foldl colStep (-1)

theorem nlCount_snoc (l : List Char) (d : Char) :
    nlCount (l ++ [d]) = nlCount l + if d == '\n' then 1 else 0 := by
  by_cases h : d = '\n' <;> simp [nlCount, List.count_append, h]

theorem colStep_plain (l : List Char) (h : ∀ c ∈ l, c ≠ '\n') (c0 : Int) :
    l.foldl colStep c0 = c0 + l.length := by
  induction l generalizing c0 with
  | nil => simp
  | cons d r ih =>
    rw [List.foldl_cons, ih (fun c hc => h c (List.mem_cons_of_mem _ hc))]
    simp [colStep, h d (List.mem_cons_self ..)]; omega

/-- after `n` steps the source stands on character `n`; line and column are folds over the
characters `0..n` -/
theorem advN_new (inp : List Char) (n : Nat) (hn : n < inp.length) :
    advN n (Src.new inp) = ⟨inp.drop n, nlCount (inp.take (n + 1)), colOf (inp.take (n + 1))⟩ := by
  induction n with
  | zero =>
    cases inp with
    | nil => simp at hn
    | cons c r => by_cases h : c = '\n' <;> simp [advN, Src.new, nextLine, startCol, nlCount, colOf, colStep, h]
  | succ n ih =>
    rw [advN_add n 1, ih (by omega)]
    have e1 : inp.drop n = inp[n] :: inp.drop (n + 1) := List.drop_eq_getElem_cons (by omega)
    have e2 : inp.drop (n + 1) = inp[n + 1] :: inp.drop (n + 2) := List.drop_eq_getElem_cons hn
    have e3 : inp.take (n + 2) = inp.take (n + 1) ++ [inp[n + 1]] := by
      rw [List.take_add_one, List.getElem?_eq_getElem hn]; rfl
    simp only [advN, Src.adv, e1, e2, e3, nextLine, nextCol, nlCount_snoc, colOf, List.foldl_append,
      List.foldl_cons, List.foldl_nil, colStep]
    by_cases h : inp[n + 1] = '\n' <;> simp [h]

theorem advWhileL_reach (p : Char → Bool) (l : List Char) (a b : Int) :
    Reach ⟨l, a, b⟩ (advWhileL p l a b) := by
  induction l generalizing a b with
  | nil => exact Reach.refl _
  | cons c r ih =>
    unfold advWhileL
    split
    · exact Reach.trans (Reach.adv ⟨c :: r, a, b⟩) (ih _ _)
    · exact Reach.refl _

theorem advWhile_reach (p : Char → Bool) (s : Src) : Reach s (s.advWhile p) :=
  advWhileL_reach p s.inp s.line s.col

theorem skipWs_reach (s : Src) : Reach s s.skipWs := advWhile_reach _ s

theorem skipWs_len_le (s : Src) : s.skipWs.len ≤ s.len := (skipWs_reach s).len_le

/-! the number lexer on the character list alone: (collected lexeme, remaining input) -/

def optL (p : Char → Bool) : List Char → List Char × List Char
  | [] => ([], [])
  | c :: r => if p c then ([c], r) else ([], c :: r)

def digitsL (l : List Char) : List Char × List Char := (l.takeWhile isNumeric, l.dropWhile isNumeric)

def lexMantL (l : List Char) : List Char × List Char :=
  ((optL (· == '-') l).1 ++ (digitsL (optL (· == '-') l).2).1, (digitsL (optL (· == '-') l).2).2)

def lexFracL : List Char → List Char × List Char
  | [] => ([], [])
  | c :: r => if c == '.' then ('.' :: (digitsL r).1, (digitsL r).2) else ([], c :: r)

def lexExpL : List Char → List Char × List Char
  | [] => ([], [])
  | c :: r => if c == 'e' || c == 'E' then (c :: (lexMantL r).1, (lexMantL r).2) else ([], c :: r)

/-- `lexNum` on the character list alone: (collected lexeme, remaining input) -/
def lexNumL (l : List Char) : List Char × List Char :=
  ((lexMantL l).1 ++ (lexFracL (lexMantL l).2).1 ++ (lexExpL (lexFracL (lexMantL l).2).2).1,
   (lexExpL (lexFracL (lexMantL l).2).2).2)

/-- `r` is what a piece of the number lexer returns on `s` and `rl` what its list version returns on
`s.inp`: same lexeme, same remaining input; the source has only advanced, by the lexeme's length -/
structure Lexed (s : Src) (r : List Char × Src) (rl : List Char × List Char) : Prop where
  tok : r.1 = rl.1
  inp : r.2.inp = rl.2
  reach : Reach s r.2
  len : r.1.length + r.2.len = s.len

theorem Lexed.nil (s : Src) : Lexed s ([], s) ([], s.inp) := ⟨rfl, rfl, Reach.refl _, by simp⟩

theorem Lexed.cons {s : Src} {c : Char} {rest : List Char} (hs : s.inp = c :: rest) (x : Char)
    {r : List Char × Src} {g : List Char → List Char × List Char} (h : Lexed s.adv r (g s.adv.inp)) :
    Lexed s (x :: r.1, r.2) (x :: (g rest).1, (g rest).2) := by
  have e : s.adv.inp = rest := by simp [adv_inp, hs]
  rw [e] at h
  exact ⟨by simp [h.tok], h.inp, (Reach.adv s).trans h.reach,
    by have := h.len; simp [Src.len, e, hs] at this ⊢; omega⟩

theorem Lexed.seq {s : Src} {r1 r2 : List Char × Src} {l1 : List Char × List Char}
    {g : List Char → List Char × List Char} (h1 : Lexed s r1 l1) (h2 : Lexed r1.2 r2 (g r1.2.inp)) :
    Lexed s (r1.1 ++ r2.1, r2.2) (l1.1 ++ (g l1.2).1, (g l1.2).2) := by
  rw [← h1.inp]
  exact ⟨by simp [h1.tok, h2.tok], h2.inp, h1.reach.trans h2.reach,
    by have := h1.len; have := h2.len; simp only [List.length_append]; omega⟩

theorem optChar_lexed (p : Char → Bool) (s : Src) : Lexed s (optChar p s) (optL p s.inp) := by
  unfold optChar
  cases h : s.inp with
  | nil => simpa [optL, h] using Lexed.nil s
  | cons c r =>
    by_cases hp : p c
    · simpa [optL, hp, Lexed.nil] using Lexed.cons (g := fun l => ([], l)) h c (Lexed.nil s.adv)
    · simpa [optL, hp, h] using Lexed.nil s

theorem digitsOf_lexed (s : Src) : Lexed s (digitsOf s) (digitsL s.inp) :=
  ⟨rfl, advWhile_inp _ s, advWhile_reach _ s,
    by simp [digitsOf, Src.len, advWhile_inp, ← List.length_append]⟩

theorem lexMant_lexed (s : Src) : Lexed s (lexMant s) (lexMantL s.inp) :=
  (optChar_lexed _ s).seq (digitsOf_lexed _)

theorem lexFrac_lexed (s : Src) : Lexed s (lexFrac s) (lexFracL s.inp) := by
  unfold lexFrac
  cases h : s.inp with
  | nil => simpa [lexFracL, h] using Lexed.nil s
  | cons c r =>
    by_cases hc : c = '.'
    · simpa [lexFracL, hc] using Lexed.cons h '.' (digitsOf_lexed s.adv)
    · simpa [lexFracL, hc, h] using Lexed.nil s

theorem lexExp_lexed (s : Src) : Lexed s (lexExp s) (lexExpL s.inp) := by
  unfold lexExp
  cases h : s.inp with
  | nil => simpa [lexExpL, h] using Lexed.nil s
  | cons c r =>
    by_cases hc : (c == 'e' || c == 'E') = true
    · -- `lexExpTail` has the body of `lexMant` (sign, digits), so the mantissa's lemma applies
      simpa [lexExpL, hc] using Lexed.cons h c
        (show Lexed s.adv (lexExpTail s.adv) (lexMantL s.adv.inp) from lexMant_lexed s.adv)
    · simpa [lexExpL, hc, h] using Lexed.nil s

theorem lexNum_lexed (s : Src) : Lexed s (lexNum s) (lexNumL s.inp) :=
  ((lexMant_lexed s).seq (lexFrac_lexed _)).seq (lexExp_lexed _)

theorem validF32_nil : validF32 [] = false := by decide

theorem validF32_ne_nil {l : List Char} (h : validF32 l = true) : 0 < l.length := by
  cases l with
  | nil => simp [validF32_nil] at h
  | cons a r => simp

/-- on success the source is not longer than before -/
def Mono {α} (m : PM α) : Prop := ∀ s a s', m s = .ok a s' → s'.len ≤ s.len
/-- on success the source is strictly shorter than before -/
def Strict {α} (m : PM α) : Prop := ∀ s a s', m s = .ok a s' → s'.len < s.len

/-- a successful `do` block, inverted in one step (`simp only [bind_ok_iff, pure_ok_iff]`) -/
theorem bind_ok_iff {α β} {m : PM α} {f : α → PM β} {s : Src} {b : β} {s' : Src} :
    (m >>= f) s = .ok b s' ↔ ∃ a s1, m s = .ok a s1 ∧ f a s1 = .ok b s' := by
  simp only [bind, PM.bind]
  cases hm : m s with
  | ok a s1 => exact ⟨fun h => ⟨a, s1, rfl, h⟩, fun ⟨_, _, h1, h2⟩ => by cases h1; exact h2⟩
  | err e s1 => exact ⟨nofun, fun ⟨_, _, h1, _⟩ => nomatch h1⟩

theorem pure_ok_iff {α} {a b : α} {s s' : Src} : (pure a : PM α) s = .ok b s' ↔ a = b ∧ s = s' := by
  simp only [pure, PM.pure, R.ok.injEq]

theorem bind_of_ok {α β} {m : PM α} {f : α → PM β} {s s1 : Src} {a : α} (h : m s = .ok a s1) :
    (m >>= f) s = f a s1 := by
  simp only [bind, PM.bind, h]

theorem bind_strict_right {α β} {m : PM α} {f : α → PM β} (hm : Mono m) (hf : ∀ a, Strict (f a)) :
    Strict (m >>= f) := by
  intro s b s' h
  obtain ⟨a, s1, h1, h2⟩ := bind_ok_iff.1 h
  exact Nat.lt_of_lt_of_le (hf a s1 b s' h2) (hm s a s1 h1)

/-- the line and column of the error are those of a source reached from `s` -/
def ErrAt (s : Src) (e : Err) : Prop := ∃ t, Reach s t ∧ e.line = t.line ∧ e.col = t.col

theorem ErrAt.mono {s0 s : Src} {e : Err} (h : Reach s0 s) (he : ErrAt s e) : ErrAt s0 e := by
  obtain ⟨t, ht, hl, hc⟩ := he; exact ⟨t, Reach.trans h ht, hl, hc⟩

/-- `m` only advances the source, and an error it returns points at a source it passed -/
structure Tracks {α} (m : PM α) : Prop where
  ok : ∀ s a s', m s = .ok a s' → Reach s s'
  err : ∀ s e s', m s = .err e s' → Reach s s' ∧ ErrAt s e

/-- `Tracks`, and a success consumes at least one character (this is what bounds the loop) -/
structure Eats {α} (m : PM α) : Prop extends Tracks m where
  strict : Strict m

theorem pure_tracks {α} (a : α) : Tracks (pure a : PM α) :=
  ⟨fun _ _ _ h => (pure_ok_iff.1 h).2 ▸ Reach.refl _, fun _ _ _ h => by cases h⟩

theorem bind_tracks {α β} {m : PM α} {f : α → PM β} (hm : Tracks m) (hf : ∀ a, Tracks (f a)) :
    Tracks (m >>= f) := by
  constructor
  · intro s b s' h
    obtain ⟨a, s1, h1, h2⟩ := bind_ok_iff.1 h
    exact Reach.trans (hm.ok _ _ _ h1) ((hf a).ok _ _ _ h2)
  · intro s e s' h
    simp only [bind, PM.bind] at h
    cases h1 : m s with
    | ok a s1 =>
      rw [h1] at h
      have r1 := hm.ok _ _ _ h1
      obtain ⟨r2, e2⟩ := (hf a).err _ _ _ h
      exact ⟨Reach.trans r1 r2, ErrAt.mono r1 e2⟩
    | err e1 s1 =>
      rw [h1] at h
      cases h
      exact hm.err _ _ _ h1

theorem bind_eats {α β} {m : PM α} {f : α → PM β} (hm : Eats m) (hf : ∀ a, Tracks (f a)) :
    Eats (m >>= f) where
  toTracks := bind_tracks hm.toTracks hf
  strict := fun s b s' h => by
    obtain ⟨a, s1, h1, h2⟩ := bind_ok_iff.1 h
    exact Nat.lt_of_le_of_lt ((hf a).ok _ _ _ h2).len_le (hm.strict s a s1 h1)

theorem parseNumber_eats (N : Num ν) : Eats (parseNumber N) where
  ok := fun s a s' h => by
    unfold parseNumber at h
    split at h
    · cases h; exact Reach.trans (skipWs_reach s) (lexNum_lexed _).reach
    · cases h
  err := fun s e s' h => by
    unfold parseNumber at h
    split at h
    · cases h
    · cases h
      exact ⟨Reach.trans (skipWs_reach s) (lexNum_lexed _).reach, s.skipWs, skipWs_reach s, rfl, rfl⟩
  strict := fun s a s' h => by
    unfold parseNumber at h
    split at h
    · rename_i hv
      cases h
      have h1 := (lexNum_lexed s.skipWs).len
      have h2 := validF32_ne_nil hv
      have h3 := skipWs_len_le s
      omega
    · cases h

theorem cur_eq_of_nil {s : Src} (h : s.inp = []) : s.cur = '~' := by simp [Src.cur, h]

theorem parseFlag_eats : Eats parseFlag := by
  -- a source whose current character is `0` or `1` is not finished
  have key : ∀ (s : Src) (c : Char), c ≠ '~' → (s.skipWs.cur == c) = true →
      s.skipWs.adv.len < s.len := fun s c hc he =>
    Nat.lt_of_lt_of_le
      (adv_len_lt _ fun hn => hc (by rw [← eq_of_beq he, cur_eq_of_nil hn])) (skipWs_len_le s)
  refine ⟨⟨fun s a s' h => ?_, fun s e s' h => ?_⟩, fun s a s' h => ?_⟩ <;> unfold parseFlag at h <;>
    split at h
  · cases h; exact Reach.trans (skipWs_reach s) (Reach.adv _)
  · split at h
    · cases h; exact Reach.trans (skipWs_reach s) (Reach.adv _)
    · cases h
  · cases h
  · split at h
    · cases h
    · cases h; exact ⟨skipWs_reach s, s.skipWs, skipWs_reach s, rfl, rfl⟩
  · cases h; exact key s '1' (by decide) ‹_›
  · split at h
    · cases h; exact key s '0' (by decide) ‹_›
    · cases h

theorem parsePoint_eats (N : Num ν) (rel : Bool) (cur : Pt ν) : Eats (parsePoint N rel cur) :=
  bind_eats (parseNumber_eats N) fun _ =>
    bind_tracks (parseNumber_eats N).toTracks fun _ => pure_tracks _

theorem parseAttrs_tracks (N : Num ν) (n : Nat) : Tracks (parseAttrs N n) := by
  induction n with
  | zero => exact pure_tracks _
  | succ n ih =>
    exact bind_tracks (parseNumber_eats N).toTracks fun _ => bind_tracks ih fun _ => pure_tracks _

theorem parseEndpoint_eats (N : Num ν) (na : Nat) (rel : Bool) (cur : Pt ν) :
    Eats (parseEndpoint N na rel cur) :=
  bind_eats (parsePoint_eats N rel cur) fun _ =>
    bind_tracks (parseAttrs_tracks N na) fun _ => pure_tracks _

theorem cmdAArgs_eats (N : Num ν) (na rel) (st : St ν) : Eats (cmdAArgs N na rel st) :=
  bind_eats (parseNumber_eats N) fun _ =>
    bind_tracks (parseNumber_eats N).toTracks fun _ =>
      bind_tracks (parseNumber_eats N).toTracks fun _ =>
        bind_tracks parseFlag_eats.toTracks fun _ =>
          bind_tracks parseFlag_eats.toTracks fun _ =>
            bind_tracks (parseEndpoint_eats N na rel st.cur).toTracks fun _ => pure_tracks _

/-! The command letter is classified once.
`edgeCmd`, `dispatchCmd` (and the readers of `Lemmas/ParserConcreteSvg.lean`) test the letter by the
same chain of `if`s; `edgeKind` / `cmdKind` name its outcome, `edgeCmd_eq` / `dispatchCmd_eq` say
the chains compute it, and what each kind guarantees is proved by `cases` on the kind. -/

inductive EdgeKind | L | H | V | Q | T | C | S

def EdgeKind.lower : EdgeKind → Char
  | .L => 'l' | .H => 'h' | .V => 'v' | .Q => 'q' | .T => 't' | .C => 'c' | .S => 's'
def EdgeKind.upper : EdgeKind → Char
  | .L => 'L' | .H => 'H' | .V => 'V' | .Q => 'Q' | .T => 'T' | .C => 'C' | .S => 'S'

inductive CmdKind
  | edge (k : EdgeKind) | arc | move | close | other

/-- the edge command a letter stands for (tests in the order of `edgeCmd`) -/
def edgeKind (cmd : Char) : Option EdgeKind :=
  [EdgeKind.L, .H, .V, .Q, .T, .C, .S].find? fun k => cmd == k.lower || cmd == k.upper

def cmdKind (cmd : Char) : CmdKind :=
  match edgeKind cmd with
  | some k => .edge k
  | none =>
    if cmd == 'a' || cmd == 'A' then .arc else if cmd == 'm' || cmd == 'M' then .move
    else if cmd == 'z' || cmd == 'Z' then .close else .other

def edgeOf (N : Num ν) (na : Nat) (rel : Bool) (st : St ν) : EdgeKind → PM (EdgeOut ν)
  | .L => cmdL N na rel st
  | .H => cmdH N na rel st
  | .V => cmdV N na rel st
  | .Q => cmdQ N na rel st
  | .T => cmdT N na rel st
  | .C => cmdC N na rel st
  | .S => cmdS N na rel st

theorem find?_cons_ite {α : Type} (p : α → Bool) (a : α) (l : List α) :
    (a :: l).find? p = if p a = true then some a else l.find? p := by
  cases h : p a <;> simp [List.find?, h]

theorem cmd_cases {cmd a b : Char} (h : (cmd == a || cmd == b) = true) : cmd = a ∨ cmd = b := by
  simpa using h

theorem edgeCmd_eq (N : Num ν) (na : Nat) (cmd : Char) (st : St ν) :
    edgeCmd N na cmd st = (edgeKind cmd).map (edgeOf N na cmd.isLower st) := by
  simp only [edgeCmd, edgeKind, find?_cons_ite, List.find?_nil, apply_ite (Option.map _),
    Option.map_some, Option.map_none, edgeOf, EdgeKind.lower, EdgeKind.upper]

theorem dispatchCmd_eq (N : Num ν) (na : Nat) (cmd : Char) (l0 c0 : Int) (st : St ν) (s : Src) :
    dispatchCmd N na cmd l0 c0 st s =
      match cmdKind cmd with
      | .edge k => runEdge (edgeOf N na cmd.isLower st k) cmd st s
      | .arc => runArc N na cmd st s
      | .move => runMove N na cmd st s
      | .close => runClose cmd st s
      | .other => .fail (.command cmd l0 c0) st.needEnd s [] := by
  unfold dispatchCmd cmdKind
  rw [edgeCmd_eq]
  cases edgeKind cmd with
  | some k => rfl
  | none =>
    simp only [Option.map_none]
    split
    · rfl
    split
    · rfl
    split <;> rfl

theorem cmdKind_spec (cmd : Char) :
    match cmdKind cmd with
    | .edge k => cmd = k.lower ∨ cmd = k.upper
    | .arc => cmd = 'a' ∨ cmd = 'A'
    | .move => cmd = 'm' ∨ cmd = 'M'
    | .close => cmd = 'z' ∨ cmd = 'Z'
    | .other => True := by
  unfold cmdKind
  cases he : edgeKind cmd with
  | some k => have := List.find?_some he; exact cmd_cases this
  | none =>
    dsimp only
    by_cases ha : (cmd == 'a' || cmd == 'A') = true
    · rw [if_pos ha]; exact cmd_cases ha
    rw [if_neg ha]
    by_cases hm : (cmd == 'm' || cmd == 'M') = true
    · rw [if_pos hm]; exact cmd_cases hm
    rw [if_neg hm]
    by_cases hz : (cmd == 'z' || cmd == 'Z') = true
    · rw [if_pos hz]; exact cmd_cases hz
    · rw [if_neg hz]; trivial

theorem cmdKind_edge {cmd : Char} {k : EdgeKind} (h : cmdKind cmd = .edge k) :
    cmd = k.lower ∨ cmd = k.upper := by
  have := cmdKind_spec cmd; rwa [h] at this

theorem cmdKind_arc {cmd : Char} (h : cmdKind cmd = .arc) : cmd = 'a' ∨ cmd = 'A' := by
  have := cmdKind_spec cmd; rwa [h] at this

theorem cmdKind_move {cmd : Char} (h : cmdKind cmd = .move) : cmd = 'm' ∨ cmd = 'M' := by
  have := cmdKind_spec cmd; rwa [h] at this

theorem cmdKind_close {cmd : Char} (h : cmdKind cmd = .close) : cmd = 'z' ∨ cmd = 'Z' := by
  have := cmdKind_spec cmd; rwa [h] at this

def EdgeKind.quad : EdgeKind → Bool
  | .Q | .T => true
  | _ => false
def EdgeKind.cubic : EdgeKind → Bool
  | .C | .S => true
  | _ => false

theorem edgeKind_letter {cmd : Char} {k : EdgeKind} (h : cmd = k.lower ∨ cmd = k.upper) :
    cmdKind cmd = .edge k ∧ isQuadCmd cmd = k.quad ∧ isCubicCmd cmd = k.cubic := by
  rcases h with rfl | rfl <;> cases k <;> exact ⟨rfl, rfl, rfl⟩

theorem cmdKind_drawing {cmd : Char} (h : match cmdKind cmd with
    | .edge _ | .arc | .close => True | _ => False) : isDrawingCmd cmd = true := by
  cases hk : cmdKind cmd with
  | edge k => rcases cmdKind_edge hk with rfl | rfl <;> cases k <;> rfl
  | arc => rcases cmdKind_arc hk with rfl | rfl <;> rfl
  | close => rcases cmdKind_close hk with rfl | rfl <;> rfl
  | move => rw [hk] at h; exact h.elim
  | other => rw [hk] at h; exact h.elim

theorem edgeCmd_not_close (N : Num ν) (na : Nat) (cmd : Char) (st : St ν) (m : PM (EdgeOut ν))
    (h : edgeCmd N na cmd st = some m) : cmd ≠ 'm' ∧ cmd ≠ 'M' := by
  unfold edgeCmd at h
  constructor <;> (intro hc; subst hc; simp at h)

theorem edgeCmd_drawing (N : Num ν) (na : Nat) (cmd : Char) (st : St ν) (m : PM (EdgeOut ν))
    (h : edgeCmd N na cmd st = some m) : isDrawingCmd cmd = true := by
  apply cmdKind_drawing
  rw [edgeCmd_eq] at h
  unfold cmdKind
  cases he : edgeKind cmd with
  | some k => trivial
  | none => rw [he] at h; cases h

def isEdge : PCall ν → Bool
  | .line _ _ => true
  | .quad _ _ _ => true
  | .cubic _ _ _ _ => true
  | _ => false

theorem parseAttrs_length {N : Num ν} {n : Nat} {s : Src} {a : List ν} {s' : Src}
    (h : parseAttrs N n s = .ok a s') : a.length = n := by
  induction n generalizing s a s' with
  | zero => rw [← (pure_ok_iff.1 h).1]; rfl
  | succ n ih =>
    simp only [parseAttrs, bind_ok_iff, pure_ok_iff] at h
    obtain ⟨v, s1, _, r, s2, h2, rfl, _⟩ := h
    simp [ih h2]

theorem parseEndpoint_length {N : Num ν} {na : Nat} {rel : Bool} {cur : Pt ν} {s : Src}
    {e : Pt ν × List ν} {s' : Src} (h : parseEndpoint N na rel cur s = .ok e s') :
    e.2.length = na := by
  simp only [parseEndpoint, bind_ok_iff, pure_ok_iff] at h
  obtain ⟨p, s1, _, a, s2, h2, rfl, _⟩ := h
  exact parseAttrs_length h2

structure EdgeSpec (na : Nat) (st : St ν) (o : EdgeOut ν) : Prop where
  needEnd : o.2.needEnd = st.needEnd
  needStart : o.2.needStart = st.needStart
  attrs : o.2.attrs.length = na
  edges : ∀ c ∈ o.1, isEdge c = true

theorem edgeOf_spec {N : Num ν} {na : Nat} {rel : Bool} {st : St ν} {k : EdgeKind} {s : Src}
    {o : EdgeOut ν} {s' : Src} (h : edgeOf N na rel st k s = .ok o s') : EdgeSpec na st o := by
  cases k <;>
    simp only [edgeOf, cmdL, cmdH, cmdV, cmdQ, cmdT, cmdC, cmdS, bind_ok_iff, pure_ok_iff] at h
  · obtain ⟨e, _, he, rfl, _⟩ := h
    exact ⟨rfl, rfl, parseEndpoint_length he, List.forall_mem_singleton.2 rfl⟩
  · obtain ⟨_, _, _, a, _, ha, rfl, _⟩ := h
    exact ⟨rfl, rfl, parseAttrs_length ha, List.forall_mem_singleton.2 rfl⟩
  · obtain ⟨_, _, _, a, _, ha, rfl, _⟩ := h
    exact ⟨rfl, rfl, parseAttrs_length ha, List.forall_mem_singleton.2 rfl⟩
  · obtain ⟨_, _, _, e, _, he, rfl, _⟩ := h
    exact ⟨rfl, rfl, parseEndpoint_length he, List.forall_mem_singleton.2 rfl⟩
  · obtain ⟨e, _, he, rfl, _⟩ := h
    exact ⟨rfl, rfl, parseEndpoint_length he, List.forall_mem_singleton.2 rfl⟩
  · obtain ⟨_, _, _, _, _, _, e, _, he, rfl, _⟩ := h
    exact ⟨rfl, rfl, parseEndpoint_length he, List.forall_mem_singleton.2 rfl⟩
  · obtain ⟨_, _, _, e, _, he, rfl, _⟩ := h
    exact ⟨rfl, rfl, parseEndpoint_length he, List.forall_mem_singleton.2 rfl⟩

theorem edgeOf_eats (N : Num ν) (na : Nat) (rel : Bool) (st : St ν) (k : EdgeKind) :
    Eats (edgeOf N na rel st k) := by
  have pe := parseEndpoint_eats N na rel st.cur
  have pp := parsePoint_eats N rel st.cur
  cases k
  · exact bind_eats pe fun _ => pure_tracks _
  · exact bind_eats (parseNumber_eats N) fun _ => bind_tracks (parseAttrs_tracks N na) fun _ => pure_tracks _
  · exact bind_eats (parseNumber_eats N) fun _ => bind_tracks (parseAttrs_tracks N na) fun _ => pure_tracks _
  · exact bind_eats pp fun _ => bind_tracks pe.toTracks fun _ => pure_tracks _
  · exact bind_eats pe fun _ => pure_tracks _
  · exact bind_eats pp fun _ => bind_tracks pp.toTracks fun _ =>
      bind_tracks pe.toTracks fun _ => pure_tracks _
  · exact bind_eats pp fun _ => bind_tracks pe.toTracks fun _ => pure_tracks _

theorem cmdAArgs_spec {N : Num ν} {na : Nat} {rel : Bool} {st : St ν} {s : Src} {a : ArcArgs ν}
    {s' : Src} (h : cmdAArgs N na rel st s = .ok a s') :
    a.prevAttrs = st.attrs ∧ a.attrs.length = na := by
  simp only [cmdAArgs, bind_ok_iff, pure_ok_iff] at h
  obtain ⟨_, _, _, _, _, _, _, _, _, _, _, _, _, _, _, e, _, he, rfl, _⟩ := h
  exact ⟨rfl, parseEndpoint_length he⟩

theorem nextImplicit_ne (cmd : Char) : nextImplicit cmd ≠ 'z' ∧ nextImplicit cmd ≠ 'Z' := by
  unfold nextImplicit
  split
  · decide
  split
  · decide
  split
  · decide
  split
  · decide
  rename_i h1 h2 h3 h4
  simp only [beq_iff_eq] at h3 h4
  exact ⟨h3, h4⟩

theorem emitAt_snd (s : Src) (l : List (PCall ν)) : (emitAt s l).map Prod.snd = l := by
  simp [emitAt, List.map_map, Function.comp_def]

theorem afterCmd_reach (s : Src) : Reach s (afterCmd s) := by
  unfold afterCmd; split
  · exact Reach.adv s
  · exact Reach.refl _

/-- the calls of an iteration that returns an error, and `need_end` at that moment -/
inductive FailCalls (st : St ν) : Bool → List (PCall ν) → Prop
  | plain : FailCalls st st.needEnd []
  | inMove : FailCalls st false (if st.needEnd then [.end_ false] else [])

theorem map_snd_closingIf (b : Bool) (s : Src) :
    (List.map Prod.snd (if b = true then emitAt s [Call.end_ false] else []) : List (PCall ν)) =
      if b then [.end_ false] else [] := by
  cases b <;> rfl

/-- a failing iteration sends, the clean-up `end(false)` included, what ends the open sub-path -/
theorem failCalls_eq {st : St ν} {ne : Bool} {tr : List (PCall ν)} (h : FailCalls st ne tr) :
    tr ++ (if ne then [.end_ false] else []) = if st.needEnd then [.end_ false] else [] := by
  cases h with
  | plain => rfl
  | inMove => cases st.needEnd <;> rfl

theorem arcEmit_cases {P : StepOut ν → Prop} (N : Num ν) (na : Nat) (a : ArcArgs ν) (cmd : Char)
    (st : St ν) (s' : Src)
    (cont : ∀ tr : List (PCall ν), (∀ c ∈ tr, isEdge c = true) →
      P (.cont ({ st with cur := a.to, attrs := a.attrs }.after cmd) s' (emitAt s' tr)))
    (panic : (∃ pos, N.arc pos a = none) ∨ a.prevAttrs.length < na → P (.panic s' [])) :
    P (arcEmit N na a cmd st s') := by
  unfold arcEmit
  split
  · exact cont _ (by simp [isEdge])
  · split
    · rename_i h; exact panic (.inl ⟨_, h⟩)
    · split
      · rename_i h
        simp only [Bool.and_eq_true, decide_eq_true_eq] at h
        exact panic (.inr h.2)
      · exact cont _ fun c hc => by obtain ⟨q, _, rfl⟩ := List.mem_map.1 hc; rfl

/-- what one loop iteration can do: fail (the `need_start` test, an unknown letter, or the operand
parser of its branch; in each case the source has only advanced, the error points at a source
passed, and the calls sent are those of `FailCalls`), or run the branch of its command with the
operands read (the test has passed, so a drawing command finds `need_start = false`) -/
theorem step_does {P : StepOut ν → Prop} (N : Num ν) (na : Nat) (st : St ν) (s : Src)
    (fail : ∀ e ne s' em, Reach s s' → ErrAt s e → FailCalls st ne (em.map Prod.snd) →
      P (.fail e ne s' em))
    (edge : ∀ k o s', cmdKind (cmdOf st s) = .edge k → st.needStart = false →
      edgeOf N na (cmdOf st s).isLower st k (afterCmd s) = .ok o s' →
      P (.cont (o.2.after (cmdOf st s)) s' (emitAt s' o.1)))
    (arc : ∀ a s', cmdKind (cmdOf st s) = .arc → st.needStart = false →
      cmdAArgs N na (cmdOf st s).isLower st (afterCmd s) = .ok a s' →
      P (arcEmit N na a (cmdOf st s) st s'))
    (move : ∀ e s', cmdKind (cmdOf st s) = .move →
      parseEndpoint N na (cmdOf st s).isLower st.cur (afterCmd s) = .ok e s' →
      P (.cont ({ st with cur := e.1, attrs := e.2, first := e.1, needEnd := true,
                          needStart := false }.after (cmdOf st s)) s'
          ((if st.needEnd then emitAt (afterCmd s) [.end_ false] else []) ++
            emitAt s' [.begin e.1 e.2])))
    (close : cmdKind (cmdOf st s) = .close → st.needStart = false →
      P (runClose (cmdOf st s) st (afterCmd s))) :
    P (step N na st s) := by
  have ha := afterCmd_reach s
  have rej : ∀ e : Err, e.line = s.line → e.col = s.col → P (.fail e st.needEnd (afterCmd s) []) :=
    fun e hl hc => fail _ _ _ _ ha ⟨s, .refl _, hl, hc⟩ .plain
  -- the operand parser of the branch fails: the iteration fails where it stopped
  have sub : ∀ {α} {m : PM α} (_ : Tracks m) {e : Err} {s' : Src} {ne : Bool} {em : List (Emit ν)},
      FailCalls st ne (em.map Prod.snd) → m (afterCmd s) = .err e s' → P (.fail e ne s' em) :=
    fun tr _ _ _ _ hf heq =>
      fail _ _ _ _ (ha.trans (tr.err _ _ _ heq).1) (ErrAt.mono ha (tr.err _ _ _ heq).2) hf
  unfold step
  split
  · exact rej _ rfl rfl
  rename_i hg
  have hns : ∀ {k}, cmdKind (cmdOf st s) = k →
      (match k with | .edge _ | .arc | .close => True | _ => False) → st.needStart = false :=
    fun hk hd => by
      cases h : st.needStart
      · rfl
      · exact absurd (by rw [h, cmdKind_drawing (hk ▸ hd)]; rfl) hg
  rw [dispatchCmd_eq]
  cases hk : cmdKind (cmdOf st s) with
  | edge k =>
    dsimp only [runEdge]
    split
    · exact edge k _ _ hk (hns hk trivial) ‹_›
    · exact sub (edgeOf_eats N na _ st k).toTracks .plain ‹_›
  | arc =>
    dsimp only [runArc]
    split
    · exact arc _ _ hk (hns hk trivial) ‹_›
    · exact sub (cmdAArgs_eats N na _ st).toTracks .plain ‹_›
  | move =>
    dsimp only [runMove]
    split
    · exact move _ _ hk ‹_›
    · exact sub (parseEndpoint_eats N na _ st.cur).toTracks (map_snd_closingIf _ _ ▸ .inMove) ‹_›
  | close => exact close hk (hns hk trivial)
  | other => exact rej _ rfl rfl

def StepPos (s0 : Src) : StepOut ν → Prop
  | .cont _ s' _ => Reach s0 s'
  | .fail e _ s' _ => Reach s0 s' ∧ ErrAt s0 e
  | .panic s' _ => Reach s0 s'

theorem step_pos (N : Num ν) (na : Nat) (st : St ν) (s : Src) : StepPos s (step N na st s) := by
  have ha := afterCmd_reach s
  refine step_does N na st s (fun _ _ _ _ r e _ => ⟨r, e⟩) ?_ ?_ ?_ fun _ _ => ha
  · exact fun k _ _ _ _ h => ha.trans ((edgeOf_eats N na _ st k).ok _ _ _ h)
  · intro a s' _ _ h
    have r := ha.trans ((cmdAArgs_eats N na _ st).ok _ _ _ h)
    exact arcEmit_cases N na a _ st s' (fun _ _ => r) fun _ => r
  · exact fun _ _ _ h => ha.trans ((parseEndpoint_eats N na _ st.cur).ok _ _ _ h)

theorem nestState_edges (l : List (PCall ν)) (h : ∀ c ∈ l, isEdge c = true) :
    nestState true l = some true := by
  induction l with
  | nil => rfl
  | cons c r ih =>
    have hc := h c (List.mem_cons_self ..)
    have hr := ih fun d hd => h d (List.mem_cons_of_mem _ hd)
    cases c <;> first | exact hr | cases hc

/-- a move-to is demanded exactly when no sub-path is open; true of `St.init` and kept by every
completed iteration (`step_ok`) -/
def Good (st : St ν) : Prop := st.needStart = !st.needEnd

theorem Good.needEnd {st : St ν} (hg : Good st) (hns : st.needStart = false) : st.needEnd = true := by
  unfold Good at hg; rw [hns] at hg; cases h : st.needEnd <;> simp [h] at hg ⊢

theorem closing_snd (b : Bool) (s : Src) :
    ((closing b s : List (Emit ν)).map Prod.snd) = if b then [.end_ false] else [] :=
  map_snd_closingIf b s

theorem loop_succ (N : Num ν) (na : Nat) (stop : Option Char) (fuel : Nat) (st : St ν) (s : Src) :
    loop N na stop (fuel + 1) st s =
      if s.fin then ⟨closing st.needEnd s, .ok, s⟩
      else if stop == some s.cur then ⟨closing st.needEnd s, .ok, s⟩
      else
        match step N na st s with
        | .cont st' s' em => (loop N na stop fuel st' s'.skipWs).cons em
        | .fail e ne s' em => ⟨em ++ closing ne s', .err e, s'⟩
        | .panic s' em => ⟨em, .panic, s'⟩ := rfl

/-- the case principle of the loop: out of fuel; finished or at the stop character; an iteration
that completes, fails, panics.  (`hf`, `hs`: the two tests that let the iteration run.) -/
theorem loop_rec {C : Nat → St ν → Src → Result ν → Prop} (N : Num ν) (na : Nat)
    (stop : Option Char)
    (stuck : ∀ st s, C 0 st s ⟨[], .stuck, s⟩)
    (done : ∀ fuel st s, s.fin = true ∨ (stop == some s.cur) = true →
      C (fuel + 1) st s ⟨closing st.needEnd s, .ok, s⟩)
    (cont : ∀ fuel st s st' s' em, s.fin = false → (stop == some s.cur) = false →
      step N na st s = .cont st' s' em →
      C fuel st' s'.skipWs (loop N na stop fuel st' s'.skipWs) →
      C (fuel + 1) st s ((loop N na stop fuel st' s'.skipWs).cons em))
    (fail : ∀ fuel st s e ne s' em, s.fin = false → (stop == some s.cur) = false →
      step N na st s = .fail e ne s' em → C (fuel + 1) st s ⟨em ++ closing ne s', .err e, s'⟩)
    (panic : ∀ fuel st s s' em, s.fin = false → (stop == some s.cur) = false →
      step N na st s = .panic s' em → C (fuel + 1) st s ⟨em, .panic, s'⟩) :
    ∀ fuel st s, C fuel st s (loop N na stop fuel st s) := by
  intro fuel st s
  fun_induction loop N na stop fuel st s with
  | case1 st s => exact stuck st s
  | case2 fuel st s hf => exact done fuel st s (.inl hf)
  | case3 fuel st s hf hs => exact done fuel st s (.inr hs)
  | case4 fuel st s hf hs st' s' em hstep ih =>
    exact cont fuel st s st' s' em (Bool.eq_false_iff.2 hf) (Bool.eq_false_iff.2 hs) hstep ih
  | case5 fuel st s hf hs e ne s' em hstep =>
    exact fail fuel st s e ne s' em (Bool.eq_false_iff.2 hf) (Bool.eq_false_iff.2 hs) hstep
  | case6 fuel st s hf hs s' em hstep =>
    exact panic fuel st s s' em (Bool.eq_false_iff.2 hf) (Bool.eq_false_iff.2 hs) hstep

/-- result is `Ok` or `Err` (neither panic nor out of fuel) -/
def Result.closed (r : Result ν) : Prop := r.outcome = .ok ∨ ∃ e, r.outcome = .err e

theorem trace_cons (em : List (Emit ν)) (r : Result ν) :
    (r.cons em).trace = em.map Prod.snd ++ r.trace := by
  simp [Result.cons, Result.trace]

/-- what holds of the parser state between two iterations -/
structure Inv (na : Nat) (st : St ν) : Prop where
  z : st.implicit ≠ 'z'
  Z : st.implicit ≠ 'Z'
  good : Good st
  /-- the attribute buffer has been filled once a sub-path was begun -/
  attrs : st.needStart = false → st.attrs.length = na

theorem inv_init (N : Num ν) (na : Nat) : Inv na (St.init N) :=
  ⟨by simp [St.init], by simp [St.init], rfl, nofun⟩

/-- what one iteration from a state with `Inv` guarantees (`bound` = length of the input before it):
a completed one keeps `Inv`, ends strictly below `bound` and sends calls that take the protocol from
`need_end` to the new `need_end`; a panic is the arc conversion's -/
def StepOK (N : Num ν) (na : Nat) (st : St ν) (bound : Nat) : StepOut ν → Prop
  | .cont st' s' em => Inv na st' ∧ s'.len < bound ∧
      nestState st.needEnd (em.map Prod.snd) = some st'.needEnd
  | .fail _ ne _ em => FailCalls st ne (em.map Prod.snd)
  | .panic _ em => em = [] ∧ ∃ pos a, N.arc pos a = none

-- by `unfold`, not `rfl`: the unifier would first try `o.after cmd =?= o`, which is slow to fail
theorem after_needEnd (o : St ν) (cmd : Char) : (o.after cmd).needEnd = o.needEnd := by
  unfold St.after; rfl

/-- `St.after` touches neither the flags nor the attribute buffer (stated so, because the unifier
is slow to find out that `o` and `o.after cmd` differ) -/
theorem inv_after {na : Nat} {o : St ν} (cmd : Char) (hg : o.needStart = !o.needEnd)
    (ha : o.needStart = false → o.attrs.length = na) : Inv na (o.after cmd) :=
  ⟨(nextImplicit_ne cmd).1, (nextImplicit_ne cmd).2, show (o.after cmd).needStart = _ from hg,
    show (o.after cmd).needStart = _ → (o.after cmd).attrs.length = _ from ha⟩

theorem step_ok {N : Num ν} {na : Nat} {st : St ν} (hi : Inv na st) (s : Src) :
    StepOK N na st s.len (step N na st s) := by
  have hle := (afterCmd_reach s).len_le
  -- inside a sub-path (`need_start = false`, so `need_end`) a run of edges stays inside
  have inside : st.needStart = false → ∀ tr : List (PCall ν), (∀ c ∈ tr, isEdge c = true) →
      nestState st.needEnd tr = some st.needEnd := fun hns tr htr => by
    rw [hi.good.needEnd hns]; exact nestState_edges tr htr
  refine step_does (P := StepOK N na st s.len) N na st s (fun _ _ _ _ _ _ h => h) ?_ ?_ ?_ ?_
  · intro k o s' _ hns heq
    have sp := edgeOf_spec heq
    have lt := (edgeOf_eats N na _ st k).strict _ _ _ heq
    refine ⟨inv_after _ (by rw [sp.needStart, sp.needEnd]; exact hi.good) fun _ => sp.attrs,
      by omega, ?_⟩
    rw [emitAt_snd, after_needEnd, sp.needEnd]; exact inside hns _ sp.edges
  · intro a s' _ hns heq
    have sp := cmdAArgs_spec heq
    have lt := (cmdAArgs_eats N na _ st).strict _ _ _ heq
    refine arcEmit_cases N na a _ st s' (fun tr htr => ?_) fun h => ⟨rfl, ?_⟩
    · exact ⟨inv_after _ hi.good fun _ => sp.2, by omega, by rw [emitAt_snd]; exact inside hns tr htr⟩
    · rcases h with ⟨p, hp⟩ | h
      · exact ⟨p, a, hp⟩
      · have := hi.attrs hns; rw [sp.1] at h; omega
  · intro e s' _ heq
    have lt := (parseEndpoint_eats N na _ st.cur).strict _ _ _ heq
    refine ⟨inv_after _ rfl fun _ => parseEndpoint_length heq, by omega, ?_⟩
    simp only [List.map_append, emitAt_snd, map_snd_closingIf]
    cases st.needEnd <;> rfl
  · intro hk hns
    -- `z` is never implicit, so the letter was there and has been consumed
    have halpha : s.cur.isAlpha = true := by
      cases h : s.cur.isAlpha
      · have := cmdKind_close hk
        simp only [cmdOf, h] at this
        exact (this.elim hi.z hi.Z).elim
      · rfl
    have : (afterCmd s).len < s.len := by
      simp only [afterCmd, halpha, if_true]
      refine adv_len_lt s fun hn => ?_
      rw [cur_eq_of_nil hn] at halpha
      cases halpha
    refine ⟨inv_after _ rfl nofun, this, ?_⟩
    simp only [emitAt_snd, hi.good.needEnd hns]; rfl

/-- the loop from a state with the invariant: the fuel `length + 1` suffices; the calls are
prefix-safe, and properly closed when the parser returns; it panics only if the arc conversion does -/
theorem loop_spec (N : Num ν) (na : Nat) (stop : Option Char) (fuel : Nat) :
    ∀ (st : St ν) (s : Src), Inv na st →
      (s.len < fuel → (loop N na stop fuel st s).outcome ≠ .stuck) ∧
      (∃ b, nestState st.needEnd (loop N na stop fuel st s).trace = some b ∧
        ((loop N na stop fuel st s).closed → b = false)) ∧
      ((∀ pos a, N.arc pos a ≠ none) → (loop N na stop fuel st s).outcome ≠ .panic) := by
  have notClosed : ∀ {r : Result ν}, r.outcome = .stuck ∨ r.outcome = .panic → ¬ r.closed := by
    rintro r (h | h) (h' | ⟨e, h'⟩) <;> rw [h] at h' <;> cases h'
  have self : ∀ b : Bool, nestState b ([] : List (PCall ν)) = some b := fun b => by cases b <;> rfl
  refine loop_rec (C := fun fuel st s r => Inv na st → (s.len < fuel → r.outcome ≠ .stuck) ∧
    (∃ b, nestState st.needEnd r.trace = some b ∧ (r.closed → b = false)) ∧
    ((∀ pos a, N.arc pos a ≠ none) → r.outcome ≠ .panic)) N na stop ?_ ?_ ?_ ?_ ?_ fuel
  · exact fun st s _ => ⟨fun h => by omega, ⟨_, self _, fun h => (notClosed (.inl rfl) h).elim⟩, nofun⟩
  · intro _ st s _ _
    refine ⟨nofun, ⟨false, ?_, fun _ => rfl⟩, nofun⟩
    simp only [Result.trace, closing_snd]
    cases st.needEnd <;> rfl
  · intro fuel st s st' s' em _ _ hstep ih hi
    have sp := step_ok (N := N) hi s
    rw [hstep] at sp
    obtain ⟨hi', hlt, hn⟩ := sp
    obtain ⟨h1, ⟨b, hb, hcl⟩, h3⟩ := ih hi'
    have := skipWs_len_le s'
    exact ⟨fun _ => h1 (by omega),
      ⟨b, by simp only [trace_cons, nestState_append, hn, Option.bind_some, hb], hcl⟩, h3⟩
  · intro _ st s e ne s' em _ _ hstep hi
    have sp := step_ok (N := N) hi s
    rw [hstep] at sp
    refine ⟨nofun, ⟨false, ?_, fun _ => rfl⟩, nofun⟩
    simp only [Result.trace, List.map_append, closing_snd, failCalls_eq sp]
    cases st.needEnd <;> rfl
  · intro _ st s s' em _ _ hstep hi
    have sp := step_ok (N := N) hi s
    rw [hstep] at sp
    obtain ⟨rfl, pos, a, h⟩ := sp
    exact ⟨nofun, ⟨st.needEnd, self _, fun h => (notClosed (.inr rfl) h).elim⟩, fun harc _ => harc pos a h⟩

theorem loop_pos (N : Num ν) (na : Nat) (stop : Option Char) (fuel : Nat) :
    ∀ (st : St ν) (s : Src),
      Reach s (loop N na stop fuel st s).final ∧
      ∀ e, (loop N na stop fuel st s).outcome = .err e → ErrAt s e := by
  refine loop_rec (C := fun _ _ s r => Reach s r.final ∧ ∀ e, r.outcome = .err e → ErrAt s e)
    N na stop ?_ ?_ ?_ ?_ ?_ fuel
  -- `fun _ h => nomatch h`, not `nofun`, which would also match on the four constructors of `e`
  · exact fun _ s => ⟨Reach.refl _, fun _ h => nomatch h⟩
  · exact fun _ _ s _ => ⟨Reach.refl _, fun _ h => nomatch h⟩
  · intro fuel st s st' s' em _ _ hstep ih
    have sp := step_pos N na st s
    rw [hstep] at sp
    have r := Reach.trans sp (skipWs_reach s')
    exact ⟨Reach.trans r ih.1, fun e h => ErrAt.mono r (ih.2 e h)⟩
  · intro _ st s e ne s' em _ _ hstep
    have sp := step_pos N na st s
    rw [hstep] at sp
    exact ⟨sp.1, fun e' h => by cases h; exact sp.2⟩
  · intro _ st s s' em _ _ hstep
    have sp := step_pos N na st s
    rw [hstep] at sp
    exact ⟨sp, fun _ h => nomatch h⟩

/-- the command automaton: after a completed iteration with command `cmd` the implicit command is
`nextImplicit cmd`, and a control point stays remembered only after a command of its degree -/
def StepKeeps (cmd : Char) : StepOut ν → Prop
  | .cont st' _ _ =>
      st'.implicit = nextImplicit cmd ∧ (isCubicCmd cmd = false → st'.prevCubic = none) ∧
      (isQuadCmd cmd = false → st'.prevQuad = none)
  | _ => True

theorem after_keeps (st : St ν) (cmd : Char) :
    (st.after cmd).implicit = nextImplicit cmd ∧
    (isCubicCmd cmd = false → (st.after cmd).prevCubic = none) ∧
    (isQuadCmd cmd = false → (st.after cmd).prevQuad = none) := by
  refine ⟨rfl, ?_, ?_⟩ <;> (intro h; simp [St.after, h])

theorem step_keeps (N : Num ν) (na : Nat) (st : St ν) (s : Src) :
    StepKeeps (cmdOf st s) (step N na st s) :=
  step_does N na st s (fun _ _ _ _ _ _ _ => trivial) (fun _ _ _ _ _ _ => after_keeps _ _)
    (fun a s' _ _ _ => arcEmit_cases N na a _ st s' (fun _ _ => after_keeps _ _) fun _ => trivial)
    (fun _ _ _ _ => after_keeps _ _) fun _ _ => after_keeps _ _

theorem step_edge_ok {N : Num ν} {na : Nat} {st st' : St ν} {s s' : Src} {em : List (Emit ν)}
    {k : EdgeKind} (hk : cmdKind (cmdOf st s) = .edge k) (h : step N na st s = .cont st' s' em) :
    ∃ o, edgeOf N na (cmdOf st s).isLower st k (afterCmd s) = .ok o s' ∧ em.map Prod.snd = o.1 ∧
      st' = o.2.after (cmdOf st s) := by
  unfold step at h
  split at h
  · cases h
  · rw [dispatchCmd_eq, hk] at h
    simp only [runEdge] at h
    split at h
    · rename_i o s1 heq
      cases h
      exact ⟨o, heq, emitAt_snd _ _, rfl⟩
    · cases h

end Lyon.Parser
