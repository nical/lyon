/-
  Helper lemmas for `Props/Sweep.lean`: the fold of `WindingState::update`, and the list-level merge
  (`EQ.Spec.mergeG` / `mergeSortG`) in the (y, x) order `LexLt`, whose comparison `lexCmp` is
  `compare_positions` (`EQ.comparePositions_eq`, `Lemmas/LexOrderTess.lean`).
-/
import LyonVerif.Lemmas.LexOrderTess
import LyonVerif.Model.Tess.Sweep
import Mathlib.Data.List.Perm.Basic
import Mathlib.Data.List.Range
import Mathlib.Tactic.Ring
import Mathlib.Tactic.Linarith

set_option linter.unusedSectionVars false

namespace Lyon.SweepProps
open Lyon Lyon.EQ Lyon.Sweep

variable {K : Type} [Field K] [LinearOrder K] [IsStrictOrderedRing K]

/-- the winding state after scanning edges with the given windings (step 1 of
`scan_active_edges` on non-merge edges) -/
def windingAfter (rule : Slab.Rule) (ws : List Int) : WindingState :=
  ws.foldl (fun w e => w.update rule e) WindingState.new

/-- how many non-empty prefixes of `ws`, shifted by `acc`, are `in` -/
def inPrefixes (rule : Slab.Rule) : Int → List Int → Int
  | _, [] => 0
  | acc, w :: ws => (if rule.isIn (acc + w) then 1 else 0) + inPrefixes rule (acc + w) ws

theorem foldl_update (rule : Slab.Rule) (ws : List Int) (w0 : WindingState) :
    let r := ws.foldl (fun w e => w.update rule e) w0
    r.number = w0.number + ws.sum ∧
    (ws ≠ [] → r.isIn = rule.isIn (w0.number + ws.sum)) ∧
    r.spanIndex = w0.spanIndex + inPrefixes rule w0.number ws := by
  induction ws generalizing w0 with
  | nil => simp [inPrefixes]
  | cons w ws ih =>
    have h := ih (w0.update rule w)
    simp only [List.foldl_cons, List.sum_cons, ne_eq, reduceCtorEq, not_false_eq_true, forall_const] at h ⊢
    obtain ⟨h1, h2, h3⟩ := h
    have hn : (w0.update rule w).number = w0.number + w := rfl
    have hi : (w0.update rule w).isIn = rule.isIn (w0.number + w) := rfl
    have hs : (w0.update rule w).spanIndex = w0.spanIndex + (if rule.isIn (w0.number + w) then 1 else 0) := by
      simp only [WindingState.update]; split <;> simp
    refine ⟨by rw [h1, hn]; ring, ?_, ?_⟩
    · by_cases hws : ws = []
      · subst hws; simp [hi]
      · rw [h2 hws, hn]; congr 1; ring
    · rw [h3, hn, hs]; simp only [inPrefixes]; ring

open EQ.Spec

/-- position of a sibling group = position of its first event -/
def key (pos : Nat → P K) (g : List Nat) : P K := pos (g.headD 0)

/-- a well-formed sibling group: non-empty, all its events at one position -/
def GroupOk (pos : Nat → P K) (g : List Nat) : Prop := g ≠ [] ∧ ∀ i ∈ g, pos i = key pos g

/-- sweep order: group positions strictly increase -/
def SortedG (pos : Nat → P K) (l : List (List Nat)) : Prop :=
  l.Pairwise (fun g h => LexLt (key pos g) (key pos h)) ∧ ∀ g ∈ l, GroupOk pos g

theorem key_append (pos : Nat → P K) {g h : List Nat} (hg : g ≠ []) : key pos (g ++ h) = key pos g := by
  cases g with
  | nil => exact absurd rfl hg
  | cons a t => rfl

theorem groupOk_append (pos : Nat → P K) {g h : List Nat} (hg : GroupOk pos g) (hh : GroupOk pos h)
    (e : key pos g = key pos h) : GroupOk pos (g ++ h) := by
  refine ⟨by simp [hg.1], ?_⟩
  intro i hi
  rw [key_append pos hg.1]
  rcases List.mem_append.mp hi with hi | hi
  · exact hg.2 i hi
  · rw [hh.2 i hi, e]

theorem perm_swap_mid (a b c : List Nat) : (b ++ (a ++ c)).Perm (a ++ (b ++ c)) := by
  rw [← List.append_assoc, ← List.append_assoc]
  exact List.Perm.append_right _ List.perm_append_comm

theorem mergeG_perm (pos : Nat → P K) (la lb : List (List Nat)) :
    (mergeG pos la lb).flatten.Perm (la.flatten ++ lb.flatten) := by
  induction la, lb using mergeG.induct (pos := pos) with
  | case1 lb => simp [mergeG]
  | case2 la hla => simp [mergeG]
  | case3 ga ra gb rb h ih =>
    rw [mergeG, h]; simp only [List.flatten_cons, List.append_assoc]
    exact (List.Perm.append_left ga (by simpa using ih))
  | case4 ga ra gb rb h ih =>
    rw [mergeG, h]; simp only [List.flatten_cons]
    exact (List.Perm.append_left gb ih).trans (perm_swap_mid _ _ _)
  | case5 ga ra gb rb h ih =>
    rw [mergeG, h]
    refine ih.trans ?_
    simp only [List.flatten_cons, List.append_assoc]
    exact List.Perm.append_left ga (perm_swap_mid _ _ _)

/-- what holds of the keys of both lists holds of the keys of the merged list -/
theorem mergeG_keys (pos : Nat → P K) (Q : P K → Prop) (la lb : List (List Nat)) (hla : ∀ g ∈ la, g ≠ [])
    (ha : ∀ g ∈ la, Q (key pos g)) (hb : ∀ g ∈ lb, Q (key pos g)) : ∀ g ∈ mergeG pos la lb, Q (key pos g) := by
  induction la, lb using mergeG.induct (pos := pos) with
  | case1 lb => rw [mergeG]; exact hb
  | case2 la hne =>
    have : mergeG pos la [] = la := by cases la <;> simp [mergeG]
    rw [this]; exact ha
  | case3 ga ra gb rb h ih =>
    rw [mergeG, h]
    rw [List.forall_mem_cons] at hla ha
    exact List.forall_mem_cons.2 ⟨ha.1, ih hla.2 ha.2 hb⟩
  | case4 ga ra gb rb h ih =>
    rw [mergeG, h]
    rw [List.forall_mem_cons] at hb
    exact List.forall_mem_cons.2 ⟨hb.1, ih hla ha hb.2⟩
  | case5 ga ra gb rb h ih =>
    rw [mergeG, h]
    rw [List.forall_mem_cons] at hla ha hb
    exact ih (List.forall_mem_cons.2 ⟨by simp [hla.1], hla.2⟩)
      (List.forall_mem_cons.2 ⟨by rw [key_append pos hla.1]; exact ha.1, ha.2⟩) hb.2

theorem SortedG.tail {pos : Nat → P K} {g : List Nat} {r : List (List Nat)} (h : SortedG pos (g :: r)) :
    SortedG pos r :=
  ⟨(List.pairwise_cons.mp h.1).2, fun x hx => h.2 x (List.mem_cons_of_mem _ hx)⟩

theorem SortedG.lt_all {pos : Nat → P K} {g : List Nat} {r : List (List Nat)} (h : SortedG pos (g :: r)) {k : P K}
    (hk : LexLt k (key pos g)) : ∀ y ∈ g :: r, LexLt k (key pos y) := by
  intro y hy
  rcases List.mem_cons.mp hy with rfl | hy
  · exact hk
  · exact LexLt.trans hk ((List.pairwise_cons.mp h.1).1 y hy)

theorem sortedG_cons {pos : Nat → P K} {g : List Nat} {r : List (List Nat)} (hg : GroupOk pos g) (hr : SortedG pos r)
    (hlt : ∀ x ∈ r, LexLt (key pos g) (key pos x)) : SortedG pos (g :: r) :=
  ⟨List.pairwise_cons.mpr ⟨hlt, hr.1⟩, fun x hx => (List.mem_cons.mp hx).elim (· ▸ hg) (hr.2 x)⟩

theorem mergeG_sorted (pos : Nat → P K) (la lb : List (List Nat))
    (ha : SortedG pos la) (hb : SortedG pos lb) : SortedG pos (mergeG pos la lb) := by
  induction la, lb using mergeG.induct (pos := pos) with
  | case1 lb => rw [mergeG]; exact hb
  | case2 la hne =>
    have : mergeG pos la [] = la := by cases la <;> simp [mergeG]
    rw [this]; exact ha
  | case3 ga ra gb rb h ih =>
    rw [mergeG, h]
    -- the smaller head stays in front: it is below every key of `ra` and of `gb :: rb`
    exact sortedG_cons (ha.2 ga List.mem_cons_self) (ih ha.tail hb)
      (mergeG_keys pos _ ra (gb :: rb) (fun g hg => (ha.tail.2 g hg).1) (List.pairwise_cons.mp ha.1).1
        (hb.lt_all ((lexCmp_lt_iff _ _).mp h)))
  | case4 ga ra gb rb h ih =>
    rw [mergeG, h]
    exact sortedG_cons (hb.2 gb List.mem_cons_self) (ih ha hb.tail)
      (mergeG_keys pos _ (ga :: ra) rb (fun g hg => (ha.2 g hg).1) (ha.lt_all ((lexCmp_gt_iff _ _).mp h))
        (List.pairwise_cons.mp hb.1).1)
  | case5 ga ra gb rb h ih =>
    rw [mergeG, h]
    have hga := ha.2 ga List.mem_cons_self
    refine ih (sortedG_cons (groupOk_append pos hga (hb.2 gb List.mem_cons_self) ((lexCmp_eq_iff _ _).mp h)) ha.tail
      fun x hx => ?_) hb.tail
    rw [key_append pos hga.1]
    exact (List.pairwise_cons.mp ha.1).1 x hx

theorem range_split (s m e : Nat) (h1 : s ≤ m) (h2 : m ≤ e) :
    List.range' s (m - s) ++ List.range' m (e - m) = List.range' s (e - s) := by
  rw [show e - s = (m - s) + (e - m) by omega, ← List.range'_append_1, Nat.add_sub_cancel' h1]

theorem mergeSortG_spec_aux (pos : Nat → P K) : ∀ (k s e : Nat), e - s ≤ k → s < e →
    (mergeSortG pos s e).flatten.Perm (List.range' s (e - s)) ∧ SortedG pos (mergeSortG pos s e) := by
  intro k
  induction k with
  | zero => intro s e hk hse; omega
  | succ k ih =>
    intro s e hk hse
    rw [mergeSortG]
    by_cases hsplit : (s + e) / 2 = s
    · simp only [hsplit, ↓reduceDIte]
      have h1 : e - s = 1 := by omega
      rw [h1]
      refine ⟨by simp [List.range'], by simp, ?_⟩
      intro g hg
      have hg' : g = [s] := by simpa using hg
      subst hg'
      exact ⟨by simp, by simp [key]⟩
    · have hle : ¬ e ≤ (s + e) / 2 := by omega
      simp only [hsplit, hle, ↓reduceDIte]
      obtain ⟨pa, sa⟩ := ih s ((s + e) / 2) (by omega) (by omega)
      obtain ⟨pb, sb⟩ := ih ((s + e) / 2) e (by omega) (by omega)
      refine ⟨?_, mergeG_sorted pos _ _ sa sb⟩
      refine (mergeG_perm pos _ _).trans ((pa.append pb).trans ?_)
      rw [range_split s ((s + e) / 2) e (by omega) (by omega)]

theorem mergeSortG_spec (pos : Nat → P K) (s e : Nat) (hse : s < e) :
    (mergeSortG pos s e).flatten.Perm (List.range' s (e - s)) ∧ SortedG pos (mergeSortG pos s e) :=
  mergeSortG_spec_aux pos (e - s) s e le_rfl hse

end Lyon.SweepProps
