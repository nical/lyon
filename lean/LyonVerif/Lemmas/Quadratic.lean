/-
  The quadratic `a x² + b x + c` over an ordered field: completing the square, the factorisation over the two
  roots given a square root `s` of the discriminant, and the second root in the form `c / q`,
  `q = −(b + s)/2`, that lyon's solvers use to avoid cancellation.
-/
import Mathlib.Algebra.Order.Field.Basic
import Mathlib.Tactic.Ring
import Mathlib.Tactic.FieldSimp
import Mathlib.Tactic.LinearCombination

namespace Lyon

theorem quadratic_square {R : Type} [CommRing R] (a b c x : R) :
    4 * a * (a * x ^ 2 + b * x + c) = (2 * a * x + b) ^ 2 - (b * b - 4 * a * c) := by ring

variable {K : Type} [Field K] [LinearOrder K] [IsStrictOrderedRing K]

theorem quadratic_factor {a b c s : K} (ha : a ≠ 0) (hs : s * s = b * b - 4 * a * c) (x : K) :
    a * x ^ 2 + b * x + c = a * ((x - (-b - s) / (2 * a)) * (x - (-b + s) / (2 * a))) := by
  field_simp; linear_combination hs

/-- with `q = −(b + s)/2 ≠ 0` the roots are `q / a = (−b − s)/(2a)` and `c / q`: the two multiply to `c / a` -/
theorem quadratic_second_root {a b c s q : K} (ha : a ≠ 0) (hs : s * s = b * b - 4 * a * c) (hq : q ≠ 0)
    (e : 2 * q = -(b + s)) : c / q = (-b + s) / (2 * a) := by
  rw [div_eq_div_iff hq (mul_ne_zero two_ne_zero ha)]
  linear_combination (1 / 2 : K) * hs + ((b - s) / 2) * e

/-- the quadratic formula, with any square root `r` of the discriminant -/
theorem quadratic_roots_iff {b c d r x : K} (hb : b ≠ 0) (hr : r * r = c * c - 4 * b * d) :
    b * x * x + c * x + d = 0 ↔ x = (-c - r) / (2 * b) ∨ x = (-c + r) / (2 * b) := by
  have e : b * x * x + c * x + d = b * ((x - (-c - r) / (2 * b)) * (x - (-c + r) / (2 * b))) := by
    rw [← quadratic_factor hb hr x]; ring
  rw [e, mul_eq_zero, or_iff_right hb, mul_eq_zero, sub_eq_zero, sub_eq_zero]

end Lyon
