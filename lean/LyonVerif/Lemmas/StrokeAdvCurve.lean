/-
  Advancement bookkeeping of the window for ARBITRARY endpoints (flattened curve points included),
  fixed width: whichever branch `fixed_width_step_impl` takes (`flattened_step` on the fast path of a
  flattened curve, `compute_join_side_positions_fixed_width` otherwise), the join gets
  `prev.advancement + |chord|` when its advancement is still NaN (`fwJoin_advs`, `Lemmas/StrokeAdvEmits.lean`).  Fed with endpoints that wait for
  their advancement (what `begin` / `line_to` / `quadratic_bezier_to` / `cubic_bezier_to` create) and
  are not merged, the window therefore accumulates the chord lengths: `chordSum`.
-/
import LyonVerif.Lemmas.StrokeAdvMerge


namespace Lyon.C05c
open Lyon Scalar Lyon.Stroke Lyon.Stroke.Full Lyon.C05 Lyon.C05b
open Lyon.C05f (flatJoinAdv)

section
variable {α : Type} [Scalar α] [Transc α]

/-- the advancement of the last point of the polyline `p, q₁, q₂, …` when `p` has advancement `a` -/
def chordSum (a : α) : P α → List (P α) → α
  | _, [] => a
  | p, q :: r => chordSum (a + len (q - p)) q r

/-- consecutive points are not within the merge threshold: `NoMerge thr (p :: l)` with the head split off -/
def ApartL (thr : α) : P α → List (P α) → Prop
  | _, [] => True
  | p, q :: r => pointsAreTooClose thr p q = false ∧ ApartL thr q r

theorem fwStep_adv_any {e : Env α} (hnan : Transc.isNaN (nan : α) = true) {st : St α} (hwf : WF st.buf) {a b : EP α}
    (hab : st.buf.lastTwo = some (a, b))
    (hadv : Pending a b)
    (next : EP α) (hn : next.advancement = nan)
    (hfar : pointsAreTooClose e.thr b.position next.position = false) :
    ∃ b' n', (fwStep e st next).1.buf.lastTwo = some (b', n') ∧ WF (fwStep e st next).1.buf
      ∧ b'.position = b.position ∧ n'.position = next.position
      ∧ b'.advancement = a.advancement + len (b.position - a.position)
      ∧ Pending b' n' := by
  obtain ⟨j', n', o', ej, h2, _, h1, h3, h4, _⟩ := fwJoin_advs e st a b next
  obtain ⟨b2, e2, hwf2, hlt2, _⟩ := fwStep_of_join hwf hab hfar ej
  rw [e2]
  have hA := joinAdv_eq hnan hadv
  refine ⟨j', n', hlt2, hwf2, h2, h3, by rw [h1, hA], ?_⟩
  rcases h4 with h4 | h4
  · exact .nan (by rw [h4.2, hn])
  · refine .done ?_
    rw [h4, hn, hnan, h1, h3, h2]; rfl

/-- **the window accumulates the chord lengths**: endpoints that wait for their advancement and are
not merged (in particular the points a flattened curve contributes) leave the window with
`a'.advancement + |b' − a'| = chordSum …`: the advancement the last point fed gets as soon as it is
the middle of a join or the end of the sub-path -/
theorem feed_adv_any {e : Env α} (hnan : Transc.isNaN (nan : α) = true) (l : List (EP α)) :
    ∀ (st : St α) (a b : EP α), WF st.buf → st.buf.lastTwo = some (a, b) →
      Pending a b →
      (∀ q ∈ l, q.advancement = nan) → ApartL e.thr b.position (l.map (·.position)) →
      ∃ a' b', (l.foldl (fun s q => (fwStep e s q).1) st).buf.lastTwo = some (a', b')
        ∧ WF (l.foldl (fun s q => (fwStep e s q).1) st).buf
        ∧ Pending a' b'
        ∧ b'.position = (b.position :: l.map (·.position)).getLast (by simp)
        ∧ a'.advancement + len (b'.position - a'.position)
            = chordSum (a.advancement + len (b.position - a.position)) b.position (l.map (·.position)) := by
  induction l with
  | nil => intro st a b hwf hab hadv _ _; exact ⟨a, b, hab, hwf, hadv, rfl, rfl⟩
  | cons q r ih =>
    intro st a b hwf hab hadv hq hap
    obtain ⟨hfar, hap'⟩ := hap
    obtain ⟨b1, n1, h1, h2, h3, h4, h5, h6⟩ := fwStep_adv_any hnan hwf hab hadv q (hq q (by simp)) hfar
    have hap'' : ApartL e.thr n1.position (r.map (·.position)) := by rw [h4]; exact hap'
    obtain ⟨a', b', g1, g2, g3, g4, g5⟩ := ih _ b1 n1 h2 h1 h6 (fun x hx => hq x (by simp [hx])) hap''
    refine ⟨a', b', g1, g2, g3, ?_, ?_⟩
    · rw [g4]; simp [h4]
    · rw [g5, h5, h4, h3]; rfl

end
end Lyon.C05c
