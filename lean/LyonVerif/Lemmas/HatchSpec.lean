/-
  The vocabulary of the C20 statements: the paired intervals and crossing counts of a row, what holds of a recorded
  row (`RowInv`) and of the row positions (`OffInv`), well-formed paths as event streams (`pathEvents`, `cpathEvents`),
  the laws of `fmod` the dot theorems assume.  Proofs are in `Lemmas/Hatch.lean`, the statements in `Props/C20.lean`.
-/
import LyonVerif.Model.Algo.Hatch
import LyonVerif.Model.Algo.HatchCurves
import LyonVerif.Lemmas.Field


namespace Lyon.Hatch
open Lyon Scalar

variable {K : Type} [Field K] [LinearOrder K] [IsStrictOrderedRing K]

/-- `x` lies strictly inside one of the intervals `(l₀,l₁), (l₂,l₃), …` -/
noncomputable def inPairs : List K → K → Prop
  | a :: b :: rest, x => (a < x ∧ x < b) ∨ inPairs rest x
  | _, _ => False

/-- number of elements of the list strictly left of `x` -/
noncomputable def countLt (l : List K) (x : K) : Nat := (l.filter (fun a => decide (a < x))).length

variable [Transc K]

/-- the predicate of the edges `hatch_line` does not skip (`active_edge.to.y <= y` → `continue`) -/
noncomputable def cnt (y : K) (e : Seg K) : Bool := !decide (e.b.y ≤ y)

/-- the half-open spanning rule -/
noncomputable def spansB (y : K) (e : Seg K) : Bool := decide (e.a.y ≤ y ∧ y < e.b.y)

/-- crossings of the counted edges, in list order -/
noncomputable def crossings (y : K) (l : List (Seg K)) : List K := (l.filter (cnt y)).map (fun e => solveX e y)

variable {σ : Type}

/-- what holds of every row that `hatch` records -/
structure RowInv (cfg : Cfg K) (edges : List (Seg K)) (r : Row K) : Prop where
  segs_eq : r.segs = lineLoop cfg r.y r.idx r.active false cfg.nan.x cfg.nan
  sorted : r.active.Pairwise (fun e f => solveX e r.y ≤ solveX f r.y)
  perm : (r.active.filter (cnt r.y)).Perm (edges.filter (spansB r.y))

/-- number of edges of the event list that span row `y` (half-open rule) and cross it left of `x`:
the crossing count of the even-odd rule at the point `(x, y)` of the rotated frame -/
noncomputable def crossingsLeft (edges : List (Seg K)) (x y : K) : Nat :=
  (edges.filter (fun e => decide (e.a.y ≤ y ∧ y < e.b.y) && decide (solveX e y < x))).length

/-- number of edges that span row `y` -/
noncomputable def spanCount (edges : List (Seg K)) (y : K) : Nat :=
  (edges.filter (fun e => decide (e.a.y ≤ y ∧ y < e.b.y))).length

/-- the `PathBuilder` calls of one closed sub-path `p₀ p₁ … pₙ` -/
def subpathEvents {α : Type} (sp : P α × List (P α)) : List (PEv α) :=
  .begin sp.1 :: (sp.2.map PEv.line ++ [.close])

/-- a well-formed path: a sequence of closed sub-paths -/
def pathEvents {α : Type} (sps : List (P α × List (P α))) : List (PEv α) :=
  sps.flatMap subpathEvents

/-- one edge command of a curved sub-path -/
inductive CSeg (α : Type) where
  | line (p : P α)
  | quad (c p : P α)
  | cubic (c1 c2 p : P α)

def CSeg.toEv {α : Type} : CSeg α → CEv α
  | .line p => .line p
  | .quad c p => .quad c p
  | .cubic c1 c2 p => .cubic c1 c2 p

/-- `begin p₀, (line_to | quadratic_bezier_to | cubic_bezier_to)*, end` -/
def csubpathEvents {α : Type} (sp : P α × List (CSeg α)) : List (CEv α) :=
  .begin sp.1 :: (sp.2.map CSeg.toEv ++ [.close])

def cpathEvents {α : Type} (sps : List (P α × List (CSeg α))) : List (CEv α) :=
  sps.flatMap csubpathEvents

/-- `y00` = `events.edges.first().from.y`; lists are newest first -/
structure OffInv (y00 : K) (st : St σ K) : Prop where
  len : st.offs.length = st.row + 1
  nrows : st.rows.length = st.row
  ysum : st.y = y00 + st.offs.sum
  rows : ∀ r ∈ st.rows, r.idx < st.row ∧ r.y = y00 + (st.offs.drop (st.row - r.idx)).sum
  /-- while the loop has not returned every offset but the very first is positive -/
  pos : st.stop = false → ∀ o ∈ st.offs.dropLast, 0 < o
  /-- after `return`: the newest offset is the first non-positive one -/
  stopped : st.stop = true →
    (∀ o ∈ st.offs.tail.dropLast, 0 < o) ∧ 1 < st.offs.length ∧ ∀ o ∈ st.offs.head?, o ≤ 0

/-- the laws of C `fmod` that `modulo` relies on -/
def FmodLaws (K : Type) [Field K] [LinearOrder K] [Transc K] : Prop :=
  ∀ a m : K, 0 < m →
    (0 ≤ a → 0 ≤ Transc.fmod a m ∧ Transc.fmod a m < m) ∧
    (a < 0 → -m < Transc.fmod a m ∧ Transc.fmod a m ≤ 0)

end Lyon.Hatch
