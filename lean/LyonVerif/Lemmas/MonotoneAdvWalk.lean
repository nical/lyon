/-
  `Adv.vertex` / `Adv.end_` of `Model/Tess/Monotone.lean` (any scalar type):
  * cut into named pieces that are definitionally the model's functions (`flushOpp`, `flushOwn`, `stepSides`,
    `vertex'`, `endCore`; `vertex_eq`, `end_eq`);
  * the schedule behind them: both are sequences of two moves on the triple (inner tessellator, chain `a`, chain
    `b`) — flush-and-forward of one chain (`ffTess`) and `push` — stated as case principles with motives
    (`stepSides_ind`, `vertex_walk`, `end_walk`).  `end` pushes both fans ahead of the forwards, so it equals its
    schedule up to the order of the triangle list (`TEq`).  An invariant of the advanced tessellator is checked
    against the two moves, not against the code.

  The invariants of the later files come in the same four layers: on lists and ids (`InvL`, `PInvL`; `CInv` on one chain), on a
  triple (`Inv3`, `P3`/`Phi3`, `N3`), on an `Adv` state (`AInv`, `PA`/`PhiA`, `NInv`), and the side-indexed form the
  walks take (`PS`, `NS`: a predicate `X l t a b` with `X.symm`, `X.ff` and a push lemma; `ff_opp` gives the flush of
  the other chain).
-/
import LyonVerif.Model.Tess.Monotone

set_option linter.unusedSectionVars false

namespace Lyon.C02c
open Lyon Lyon.Mono

variable {α : Type} [Scalar α]

/-- the `outwardTurn` test of `Adv.vertex`, `close` being its `sidesAreClose` -/
def outwardTurn (sideEv : SideEv α) (p : P α) (l close : Bool) : Bool :=
  if !close && decide (sideEv.events.length ≥ 2) then
    decide ((sideEv.prev - sideEv.last.pos).cross (p - sideEv.last.pos) * (if l then Scalar.one else -Scalar.one) < Scalar.zero)
  else false

abbrev Trip (α : Type) := Basic α × SideEv α × SideEv α

def flushOpp (tess : Basic α) (sideEv oppEv : SideEv α) (l : Bool) : Trip α :=
  match (flushSide oppEv l).2.2 with
  | some mv => (((tess.pushTris (flushSide oppEv l).2.1).vertex mv), { sideEv with consRefX := sideEv.refPt.x }, (flushSide oppEv l).1)
  | none => (tess, sideEv, oppEv)

/-- after its own flush the restarted chain's reference folds in the new vertex (the `rx` line of `Adv.vertex`) -/
def reRef (s : SideEv α) (p : P α) (l : Bool) : SideEv α :=
  { s with refPt := ⟨if l then Scalar.max s.refPt.x p.x else Scalar.min s.refPt.x p.x, s.refPt.y⟩ }

def flushOwn (tess : Basic α) (sideEv oppEv : SideEv α) (p : P α) (l : Bool) : Trip α :=
  match (flushSide sideEv (!l)).2.2 with
  | some mv => (((tess.pushTris (flushSide sideEv (!l)).2.1).vertex mv), reRef (flushSide sideEv (!l)).1 p l, { oppEv with consRefX := oppEv.refPt.x })
  | none => (tess, sideEv, oppEv)

/-- `Adv.vertex` after the reference update, on (inner tessellator, receiving chain, other chain): the two optional
flushes, then the push -/
def stepSides (tess : Basic α) (sideEv oppEv : SideEv α) (dx : α) (p : P α) (id : Nat) (l : Bool) : Trip α :=
  let close : Bool := decide (dx < (p.y - sideEv.refPt.y) * Scalar.ofSci 1 1)
  let r1 := if isAfter sideEv.last.pos oppEv.last.pos then flushOpp tess sideEv oppEv l else (tess, sideEv, oppEv)
  let r := if outwardTurn sideEv p l close || close then flushOwn r1.1 r1.2.1 r1.2.2 p l else (tess, sideEv, oppEv)
  (r.1, r.2.1.push ⟨p, id, l⟩, r.2.2)

/-- the reference update at the head of `Adv.vertex` -/
def updRef (st : Adv α) (pos : P α) (isLeft : Bool) : Adv α :=
    if isLeft then
      let rx := Scalar.max st.left.refPt.x pos.x
      { st with left := { st.left with refPt := ⟨rx, st.left.refPt.y⟩, consRefX := Scalar.max st.left.consRefX rx } }
    else
      let rx := Scalar.min st.right.refPt.x pos.x
      { st with right := { st.right with refPt := ⟨rx, st.right.refPt.y⟩, consRefX := Scalar.min st.right.consRefX rx } }

def vertex' (st : Adv α) (p : P α) (id : Nat) (l : Bool) : Adv α :=
  let st := updRef st p l
  let dx := st.right.consRefX - st.left.consRefX
  let r := stepSides st.tess (if l then st.left else st.right) (if l then st.right else st.left) dx p id l
  if l then ⟨r.1, r.2.1, r.2.2⟩ else ⟨r.1, r.2.2, r.2.1⟩

theorem vertex_eq (st : Adv α) (p : P α) (id : Nat) (l : Bool) : st.vertex p id l = vertex' st p id l := by
  unfold Adv.vertex vertex' updRef stepSides
  cases l <;> rfl

def endCore (tess : Basic α) (fa fb : List Tri × Option (MV α)) (pos : P α) (id : Nat) : Basic α :=
  let tess := (tess.pushTris (if fa.2.isSome then fa.1 else [])).pushTris (if fb.2.isSome then fb.1 else [])
  let tess := match fa.2, fb.2 with
    | some v, none => tess.vertex v
    | none, some v => tess.vertex v
    | some v1, some v2 =>
      if isAfter v1.pos v2.pos then (tess.vertex v2).vertex v1 else (tess.vertex v1).vertex v2
    | none, none => tess
  tess.end_ pos id

theorem end_eq (st : Adv α) (pos : P α) (id : Nat) :
    st.end_ pos id = endCore st.tess (flushSide st.left false).2 (flushSide st.right true).2 pos id := rfl

/-- the triangles `flush_side` emits for the buffered chain of `s`, called with the flag `right` -/
abbrev fanOf (s : SideEv α) (right : Bool) : List Tri :=
  flushLevels s.events.toArray s.events.length right (s.events.length + 1) 1

theorem flushSide_cases (s : SideEv α) (r : Bool) :
    (s.events.length < 2 ∧ flushSide s r = (s, [], none)) ∨
    (2 ≤ s.events.length ∧ (flushSide s r).1.events = [s.last.id] ∧ (flushSide s r).1.last = s.last ∧
      (flushSide s r).2.1 = fanOf s r ∧
      (flushSide s r).2.2 = some s.last) := by
  unfold flushSide
  by_cases h : s.events.length < 2
  · left; simp [h]
  · right; simp [h]; omega

/-- flush and forward: the fan of chain `a` is pushed, its end forwarded to the inner tessellator -/
def ffTess (t : Basic α) (a : SideEv α) (right : Bool) : Basic α := (t.pushTris (fanOf a right)).vertex a.last

theorem flushOwn_eq (t : Basic α) (a b : SideEv α) (p : P α) (l : Bool) :
    flushOwn t a b p l = if 2 ≤ a.events.length then
      (ffTess t a (!l), reRef (flushSide a (!l)).1 p l, { b with consRefX := b.refPt.x }) else (t, a, b) := by
  unfold flushOwn ffTess
  rcases flushSide_cases a (!l) with ⟨hl, e⟩ | ⟨hl, _, _, e3, e4⟩
  · rw [e, if_neg (by omega)]
  · rw [e4, if_pos hl, e3]

theorem flushOpp_eq (t : Basic α) (a b : SideEv α) (l : Bool) :
    flushOpp t a b l = if 2 ≤ b.events.length then
      (ffTess t b l, { a with consRefX := a.refPt.x }, (flushSide b l).1) else (t, a, b) := by
  unfold flushOpp ffTess
  rcases flushSide_cases b l with ⟨hl, e⟩ | ⟨hl, _, _, e3, e4⟩
  · rw [e, if_neg (by omega)]
  · rw [e4, if_pos hl, e3]

theorem flushSide_some (s : SideEv α) (r : Bool) (h : 2 ≤ s.events.length) :
    (flushSide s r).1 = { s with events := [s.last.id], prev := s.last.pos, refPt := s.last.pos } := by
  unfold flushSide
  have : ¬ s.events.length < 2 := by omega
  simp [this]

theorem flushSide_restart (s : SideEv α) (r : Bool) (h : 2 ≤ s.events.length) :
    (flushSide s r).1.events = [s.last.id] ∧ (flushSide s r).1.last = s.last := by
  rw [flushSide_some s r h]
  exact ⟨rfl, rfl⟩

/-- the flush of the OTHER chain from the flush of one's own, for a side-indexed invariant with `symm`:
swap the chains, flush, swap back -/
theorem ff_opp {X : Bool → Basic α → SideEv α → SideEv α → Prop}
    (symm : ∀ {l t a b}, X l t a b → X (!l) t b a) {l : Bool} {t : Basic α} {a b a' b' : SideEv α}
    (h : X l t a b) (ff : X (!l) t b a → X (!l) (ffTess t b (!!l)) b' a') : X l (ffTess t b l) a' b' := by
  have := symm (ff (symm h))
  rwa [Bool.not_not] at this

/-- **what one `vertex` call does to the triple**: an optional flush of the other chain (its end comes
before the end of `a`), an optional flush of `a` (then `a` does not end after a buffered `b`), the push —
onto a chain of one id, or onto the untouched triple when neither `sides_are_close` nor `outward_turn`. -/
theorem stepSides_ind {J J' : Basic α → SideEv α → SideEv α → Prop}
    (t : Basic α) (a b : SideEv α) (dx : α) (p : P α) (id : Nat) (l : Bool) (h0 : J t a b)
    (hopp : ∀ t a b, J t a b → 2 ≤ b.events.length → isAfter a.last.pos b.last.pos = true →
      J (ffTess t b l) { a with consRefX := a.refPt.x } (flushSide b l).1)
    (hown : ∀ t a b, J t a b → 2 ≤ a.events.length →
      (2 ≤ b.events.length → isAfter a.last.pos b.last.pos = false) →
      J (ffTess t a (!l)) (reRef (flushSide a (!l)).1 p l) { b with consRefX := b.refPt.x })
    (hpush : ∀ t' a' b', J t' a' b' →
      (a'.events.length < 2 ∨ (t' = t ∧ a' = a ∧ b' = b ∧
        decide (dx < (p.y - a.refPt.y) * Scalar.ofSci 1 1) = false ∧ outwardTurn a p l false = false)) →
      J' t' (a'.push ⟨p, id, l⟩) b') :
    J' (stepSides t a b dx p id l).1 (stepSides t a b dx p id l).2.1 (stepSides t a b dx p id l).2.2 := by
  dsimp only [stepSides]
  by_cases hcond : (outwardTurn a p l (decide (dx < (p.y - a.refPt.y) * Scalar.ofSci 1 1)) ||
        decide (dx < (p.y - a.refPt.y) * Scalar.ofSci 1 1)) = true
  · rw [if_pos hcond]
    -- after the optional flush of the other side
    obtain ⟨t1, a1, b1, e1, j1, ho⟩ : ∃ t1 a1 b1,
        (if isAfter a.last.pos b.last.pos then flushOpp t a b l else (t, a, b)) = (t1, a1, b1) ∧ J t1 a1 b1 ∧
        (2 ≤ b1.events.length → isAfter a1.last.pos b1.last.pos = false) := by
      by_cases hia : isAfter a.last.pos b.last.pos = true
      · rw [if_pos hia, flushOpp_eq]
        by_cases hb : 2 ≤ b.events.length
        · rw [if_pos hb]
          exact ⟨_, _, _, rfl, hopp t a b h0 hb hia, fun g => by rw [(flushSide_restart b l hb).1] at g; simp at g⟩
        · rw [if_neg hb]
          exact ⟨_, _, _, rfl, h0, fun g => absurd g hb⟩
      · rw [if_neg hia]
        exact ⟨_, _, _, rfl, h0, fun _ => by simpa using hia⟩
    rw [e1]
    show J' (flushOwn t1 a1 b1 p l).1 ((flushOwn t1 a1 b1 p l).2.1.push ⟨p, id, l⟩) (flushOwn t1 a1 b1 p l).2.2
    rw [flushOwn_eq]
    by_cases ha : 2 ≤ a1.events.length
    · rw [if_pos ha]
      refine hpush _ _ _ (hown t1 a1 b1 j1 ha ho) (Or.inl ?_)
      show (reRef (flushSide a1 !l).1 p l).events.length < 2
      show (flushSide a1 !l).1.events.length < 2
      rw [(flushSide_restart a1 (!l) ha).1]; simp
    · rw [if_neg ha]
      exact hpush _ _ _ j1 (Or.inl (Nat.lt_of_not_le ha))
  · rw [if_neg hcond]
    have hc : decide (dx < (p.y - a.refPt.y) * Scalar.ofSci 1 1) = false := by
      cases hd : decide (dx < (p.y - a.refPt.y) * Scalar.ofSci 1 1)
      · rfl
      · rw [hd] at hcond; simp at hcond
    rw [hc] at hcond
    exact hpush t a b h0 (Or.inr ⟨rfl, rfl, rfl, hc, by simpa using hcond⟩)

/-- the receiving side's references after `updRef` -/
def updSide (a : SideEv α) (p : P α) (l : Bool) : SideEv α :=
  if l then { a with refPt := ⟨Scalar.max a.refPt.x p.x, a.refPt.y⟩,
                     consRefX := Scalar.max a.consRefX (Scalar.max a.refPt.x p.x) }
  else { a with refPt := ⟨Scalar.min a.refPt.x p.x, a.refPt.y⟩,
                consRefX := Scalar.min a.consRefX (Scalar.min a.refPt.x p.x) }

/-- **`Adv.vertex` from the step on the triple**: if `stepSides` (with the receiving chain's references updated,
`dx` the gap of the conservative references) takes the side-symmetric `I` to the side-symmetric `I'`, so does `vertex` -/
theorem vertex_walk {I I' : Bool → Basic α → SideEv α → SideEv α → Prop}
    (symm : ∀ {l t a b}, I l t a b → I (!l) t b a) (symm' : ∀ {l t a b}, I' l t a b → I' (!l) t b a)
    (st : Adv α) (p : P α) (k : Nat) (l : Bool)
    (step : ∀ t a b, I l t a b → ∀ dx, dx = (if l then b.consRefX - (updSide a p l).consRefX
          else (updSide a p l).consRefX - b.consRefX) →
        I' l (stepSides t (updSide a p l) b dx p k l).1 (stepSides t (updSide a p l) b dx p k l).2.1
          (stepSides t (updSide a p l) b dx p k l).2.2)
    (h : I true st.tess st.left st.right) :
    I' true (st.vertex p k l).tess (st.vertex p k l).left (st.vertex p k l).right := by
  rw [vertex_eq]
  cases l
  · exact symm' (step st.tess st.right st.left (symm h) _ rfl)
  · exact step st.tess st.left st.right h _ rfl

theorem vertex_congr_tris (s s' : Basic α) (v : MV α) (h1 : s.stack = s'.stack) (h2 : s.previous = s'.previous) :
    (s.vertex v).stack = (s'.vertex v).stack ∧ (s.vertex v).previous = (s'.vertex v).previous ∧
      ∃ nt, (s.vertex v).tris = s.tris ++ nt ∧ (s'.vertex v).tris = s'.tris ++ nt := by
  unfold Basic.vertex
  rw [h1, h2]
  split
  · exact ⟨rfl, rfl, _, rfl, rfl⟩
  · cases s'.stack with
    | nil => exact ⟨rfl, rfl, [], by simp, by simp⟩
    | cons top rest => exact ⟨rfl, rfl, _, rfl, rfl⟩

theorem vertex_tris_mono (s : Basic α) (v : MV α) : ∀ x ∈ s.tris, x ∈ (s.vertex v).tris := by
  obtain ⟨_, _, nt, e, _⟩ := vertex_congr_tris s s v rfl rfl
  intro x hx
  rw [e]; exact List.mem_append_left _ hx

@[simp] theorem pushTris_nil (s : Basic α) : s.pushTris [] = s := by
  cases s; simp [Basic.pushTris]

def TEq (s s' : Basic α) : Prop := s.stack = s'.stack ∧ s.previous = s'.previous ∧ s.tris.Perm s'.tris

theorem TEq.vertex {s s' : Basic α} (h : TEq s s') (v : MV α) : TEq (s.vertex v) (s'.vertex v) := by
  obtain ⟨c1, c2, nt, e1, e2⟩ := vertex_congr_tris s s' v h.1 h.2.1
  exact ⟨c1, c2, by rw [e1, e2]; exact h.2.2.append_right nt⟩

theorem TEq.end_ {s s' : Basic α} (h : TEq s s') (p : P α) (id : Nat) :
    (s.end_ p id).tris.Perm (s'.end_ p id).tris := by
  have := h.vertex ⟨p, id, !s.previous.left⟩
  simp only [Basic.end_]
  rw [← h.2.1]
  exact this.2.2

theorem TEq.push_vertex (s : Basic α) (x : List Tri) (v : MV α) :
    TEq ((s.vertex v).pushTris x) ((s.pushTris x).vertex v) := by
  obtain ⟨c1, c2, nt, e1, e2⟩ := vertex_congr_tris (s.pushTris x) s v rfl rfl
  refine ⟨c1.symm, c2.symm, ?_⟩
  show ((s.vertex v).tris ++ x).Perm _
  rw [e1, e2]
  show (s.tris ++ nt ++ x).Perm (s.tris ++ x ++ nt)
  simp only [List.append_assoc]
  exact List.Perm.append_left _ List.perm_append_comm

theorem TEq.symm {s s' : Basic α} (h : TEq s s') : TEq s' s := ⟨h.1.symm, h.2.1.symm, h.2.2.symm⟩

theorem TEq.trans {s s' s'' : Basic α} (h : TEq s s') (h' : TEq s' s'') : TEq s s'' :=
  ⟨h.1.trans h'.1, h.2.1.trans h'.2.1, h.2.2.trans h'.2.2⟩

theorem TEq.push_push (s : Basic α) (x y : List Tri) : TEq ((s.pushTris x).pushTris y) ((s.pushTris y).pushTris x) := by
  refine ⟨rfl, rfl, ?_⟩
  show (s.tris ++ x ++ y).Perm (s.tris ++ y ++ x)
  simp only [List.append_assoc]
  exact List.Perm.append_left _ List.perm_append_comm

/-- **`Adv.end_`**: at most two flush-and-forwards, the chain that ends first going first, then the inner
`end`; the emitted list is that of this schedule up to order (`end` pushes both fans ahead) -/
theorem end_walk {J : Basic α → SideEv α → SideEv α → Prop} (st : Adv α) (pe : P α) (id : Nat)
    (h0 : J st.tess st.left st.right)
    (hL : ∀ t a b, J t a b → 2 ≤ a.events.length →
      (2 ≤ b.events.length → isAfter a.last.pos b.last.pos = false) → J (ffTess t a false) (flushSide a false).1 b)
    (hR : ∀ t a b, J t a b → 2 ≤ b.events.length →
      (2 ≤ a.events.length → isAfter a.last.pos b.last.pos = true) → J (ffTess t b true) a (flushSide b true).1) :
    ∃ t a b, J t a b ∧ a.events.length < 2 ∧ b.events.length < 2 ∧
      (st.end_ pe id).tris.Perm (t.end_ pe id).tris := by
  rw [end_eq]
  unfold endCore
  have short : ∀ (s : SideEv α) (r : Bool), 2 ≤ s.events.length → (flushSide s r).1.events.length < 2 := by
    intro s r h; rw [(flushSide_restart s r h).1]; simp
  rcases flushSide_cases st.left false with ⟨ha, ea⟩ | ⟨ha, a1, a2, a3, a4⟩ <;>
  rcases flushSide_cases st.right true with ⟨hb, eb⟩ | ⟨hb, b1, b2, b3, b4⟩
  · simp only [ea, eb, Option.isSome_none, Bool.false_eq_true, if_false, pushTris_nil]
    exact ⟨_, _, _, h0, ha, hb, List.Perm.refl _⟩
  · simp only [ea, b3, b4, Option.isSome_none, Option.isSome_some, Bool.false_eq_true, if_false, if_true, pushTris_nil]
    exact ⟨_, _, _, hR _ _ _ h0 hb (fun g => by omega), ha, short _ _ hb, List.Perm.refl _⟩
  · simp only [eb, a3, a4, Option.isSome_none, Option.isSome_some, Bool.false_eq_true, if_false, if_true, pushTris_nil]
    exact ⟨_, _, _, hL _ _ _ h0 ha (fun g => by omega), short _ _ ha, hb, List.Perm.refl _⟩
  · simp only [a3, a4, b3, b4, Option.isSome_some, if_true]
    split
    · rename_i hia
      have j1 := hR _ _ _ h0 hb (fun _ => hia)
      have j2 := hL _ _ _ j1 ha (fun g => by have := short st.right true hb; omega)
      refine ⟨_, _, _, j2, short _ _ ha, short _ _ hb, TEq.end_ ?_ pe id⟩
      refine TEq.vertex ?_ _
      exact ((TEq.push_push _ _ _).vertex _).trans (TEq.push_vertex _ _ _).symm
    · rename_i hia
      have j1 := hL _ _ _ h0 ha (fun _ => by simpa using hia)
      have j2 := hR _ _ _ j1 hb (fun g => by have := short st.left false ha; omega)
      refine ⟨_, _, _, j2, short _ _ ha, short _ _ hb, TEq.end_ ?_ pe id⟩
      refine TEq.vertex ?_ _
      exact (TEq.push_vertex _ _ _).symm

end Lyon.C02c
