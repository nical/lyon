/-
  C16 helper lemmas over ordered fields: the attribute interpolation of the builder-side
  `Flattened` (`emitAttr`, `interp`) and the simulation between the adapter as it is and the
  reference flattening (`run_eq_specRun`: `FlatB.run` = `FlatB.specRun`); for
  `for_each_flattened`: `Chained` (the segments of one curve form a chain from its start) and
  the lines of one chained curve read back as events (`specFrom_specLines_snoc`), hence the
  whole run (`specRun_attrEvents_on`).
-/
import LyonVerif.Lemmas.Adapters
import LyonVerif.Lemmas.Field

set_option linter.unusedSectionVars false

namespace Lyon.Adapt
open Lyon Lyon.Path

variable {π : Type} {K : Type} [Field K] [LinearOrder K] [IsStrictOrderedRing K]

theorem emitAttr_one (prev a : List K) : emitAttr prev a 1 = a :=
  sc_one_eq (K := K) ▸ emitAttr_one_any ((sc_beq _ _).mpr rfl) prev a

theorem interp_one (prev a : List K) (h : prev.length = a.length) : interp prev a 1 = a := by
  induction prev generalizing a with
  | nil => cases a <;> simp_all [interp]
  | cons x r ih =>
    cases a with
    | nil => simp at h
    | cons y s =>
      have h' : r.length = s.length := by simpa using h
      have := ih s h'
      simp only [interp] at this ⊢
      simp only [List.zipWith_cons_cons, this]
      congr 1
      show x * (((1 : ℕ) : K) - 1) + y * 1 = y
      push_cast; ring

theorem emitAttr_eq_interp (prev a : List K) (t : K) (h : prev.length = a.length) :
    emitAttr prev a t = interp prev a t := by
  by_cases ht : t = 1
  · subst ht; rw [emitAttr_one, interp_one prev a h]
  · unfold emitAttr
    rw [if_neg fun hh => ht (sc_one_eq (K := K) ▸ (sc_beq _ _).1 hh)]

theorem emitLines_eq_specLines (segs : List (FSeg π K)) (prev a : List K)
    (h : prev.length = a.length) : emitLines segs prev a = specLines segs prev a := by
  simp [emitLines, specLines, emitAttr_eq_interp prev a _ h]

theorem run_eq_specRun (F : Flattener π K) (n : Nat) (s : FlatB π K) (prog : List (Call π (List K)))
    (hlen : attrsLen n prog = true) (hl : s.prev.length = n) :
    FlatB.run F s prog = FlatB.specRun F s prog := by
  induction prog generalizing s with
  | nil => rfl
  | cons c r ih =>
    cases c with
    | begin p a =>
      simp only [attrsLen, Bool.and_eq_true, beq_iff_eq] at hlen
      simp only [FlatB.run, FlatB.specRun, FlatB.step, FlatB.specStep]
      rw [ih ⟨p, a⟩ hlen.2 hlen.1]
    | line p a =>
      simp only [attrsLen, Bool.and_eq_true, beq_iff_eq] at hlen
      simp only [FlatB.run, FlatB.specRun, FlatB.step, FlatB.specStep]
      rw [ih ⟨p, a⟩ hlen.2 hlen.1]
    | quad k p a =>
      simp only [attrsLen, Bool.and_eq_true, beq_iff_eq] at hlen
      simp only [FlatB.run, FlatB.specRun, FlatB.step, FlatB.specStep]
      rw [ih ⟨p, a⟩ hlen.2 hlen.1, emitLines_eq_specLines _ _ _ (by rw [hl, hlen.1])]
    | cubic k1 k2 p a =>
      simp only [attrsLen, Bool.and_eq_true, beq_iff_eq] at hlen
      simp only [FlatB.run, FlatB.specRun, FlatB.step, FlatB.specStep]
      rw [ih ⟨p, a⟩ hlen.2 hlen.1, emitLines_eq_specLines _ _ _ (by rw [hl, hlen.1])]
    | end_ cl =>
      simp only [attrsLen] at hlen
      simp only [FlatB.run, FlatB.specRun, FlatB.step, FlatB.specStep]
      rw [ih s hlen hl]

theorem interp_eq_interpI (fa ta : List K) (t : K) : interp fa ta t = interpI fa ta t := by
  simp only [interp, interpI]
  congr 1; funext f g
  show f * (((1 : ℕ) : K) - t) + g * t = (((1 : ℕ) : K) - t) * f + t * g
  ring

/-- the segments of one curve form a chain starting at `a`: each `line.from` is the previous
`line.to` (C09 `…/connected`: `Flat.Chain` of `Lemmas/Flatten.lean` without the `t`s,
`chained_of_chain`) -/
def Chained (a : π) : List (FSeg π K) → Prop
  | [] => True
  | s :: r => s.a = a ∧ Chained s.b r

/-- the lines of one curve, read back: the walk goes on from the last line's point and attributes -/
theorem specFrom_specLines_snoc (f : AP π K) (a0 : π) (ca fa ta : List K) (l : List (FSeg π K))
    (x : FSeg π K) (hch : Chained a0 (l ++ [x])) (rest : List (Call (AP π K) (List K))) :
    specFrom (some (f, (a0, ca))) ((specLines (l ++ [x]) fa ta).map aCall ++ rest)
      = linesA fa ta ca (l ++ [x]) ++ specFrom (some (f, (x.b, interp fa ta x.t))) rest := by
  induction l generalizing a0 ca with
  | nil =>
    simp only [List.nil_append, specLines, List.map_cons, List.map_nil, aCall, List.cons_append,
      specFrom, linesA, ← interp_eq_interpI, hch.1]
  | cons s r ih =>
    obtain ⟨h1, h2⟩ := hch
    have := ih s.b (interp fa ta s.t) h2
    simp only [specLines, List.map_cons, aCall, List.cons_append, specFrom, linesA,
      ← interp_eq_interpI] at this ⊢
    rw [this, h1]

/-- What `iter_with_attributes` shows of the reference flattening of a program = what
`for_each_flattened` makes of the program's own events, from any protocol state, when `F` on
every curve met is chained and ends at `(to, 1)`: the lines of one curve are read back as that
curve's `linesA`, and the walk goes on from `(to, a_to)` because the attributes interpolated at
`t = 1` are `a_to` (`interp_one`). -/
theorem specRun_attrEvents_on (F : Flattener π K) (n : Nat)
    (st : Option (AP π K × AP π K)) (s : FlatB π K) (prog : List (Call π (List K)))
    (hn : wellNestedFrom st.isSome prog = true) (hlen : attrsLen n prog = true)
    (hs : ∀ f c, st = some (f, c) → s.cur = c.1 ∧ s.prev = c.2 ∧ c.2.length = n)
    (hF : ∀ k ∈ curvesMet s.cur prog, (∃ l x, F.on k = l ++ [⟨x, k.to, 1⟩]) ∧ Chained k.from (F.on k)) :
    specFrom st ((FlatB.specRun F s prog).map Adapt.aCall) = flatAttrIter F (specFrom st (prog.map Adapt.aCall)) := by
  induction prog generalizing st s with
  | nil => cases st <;> simp [FlatB.specRun, specFrom, flatAttrIter]
  | cons c r ih =>
    cases st with
    | none =>
      cases c with
      | begin p a =>
        simp only [attrsLen, Bool.and_eq_true, beq_iff_eq] at hlen
        have := ih (some ((p, a), (p, a))) ⟨p, a⟩ (by simpa [wellNestedFrom] using hn) hlen.2
          (by intro f c h; cases h; exact ⟨rfl, rfl, hlen.1⟩) hF
        simpa [FlatB.specRun, FlatB.specStep, specFrom, flatAttrIter, Adapt.aCall] using this
      | _ => simp [wellNestedFrom] at hn
    | some fc =>
      obtain ⟨f, c0⟩ := fc
      obtain ⟨hcur, hprev, hl⟩ := hs f c0 rfl
      cases c with
      | begin p a => simp [wellNestedFrom] at hn
      | line p a =>
        simp only [attrsLen, Bool.and_eq_true, beq_iff_eq] at hlen
        have := ih (some (f, (p, a))) ⟨p, a⟩ (by simpa [wellNestedFrom] using hn) hlen.2
          (by intro f c h; cases h; exact ⟨rfl, rfl, hlen.1⟩) hF
        simpa [FlatB.specRun, FlatB.specStep, specFrom, flatAttrIter, Adapt.aCall] using this
      | quad k p a =>
        simp only [attrsLen, Bool.and_eq_true, beq_iff_eq] at hlen
        simp only [curvesMet, List.forall_mem_cons, Flattener.on, Curve.to, Curve.from, hcur] at hF
        obtain ⟨⟨⟨l, x, hlx⟩, hch⟩, hF2⟩ := hF
        have := ih (some (f, (p, a))) ⟨p, a⟩ (by simpa [wellNestedFrom] using hn) hlen.2
          (by intro f c h; cases h; exact ⟨rfl, rfl, hlen.1⟩) hF2
        simp only [FlatB.specRun, FlatB.specStep, List.map_append, hcur, hprev, List.map_cons, Adapt.aCall,
          specFrom, flatAttrIter]
        rw [hlx] at hch ⊢
        rw [show (c0 : AP π K) = (c0.1, c0.2) from rfl,
          specFrom_specLines_snoc f c0.1 c0.2 c0.2 a _ _ hch,
          interp_one c0.2 a (by rw [hl, hlen.1]), this]
      | cubic k1 k2 p a =>
        simp only [attrsLen, Bool.and_eq_true, beq_iff_eq] at hlen
        simp only [curvesMet, List.forall_mem_cons, Flattener.on, Curve.to, Curve.from, hcur] at hF
        obtain ⟨⟨⟨l, x, hlx⟩, hch⟩, hF2⟩ := hF
        have := ih (some (f, (p, a))) ⟨p, a⟩ (by simpa [wellNestedFrom] using hn) hlen.2
          (by intro f c h; cases h; exact ⟨rfl, rfl, hlen.1⟩) hF2
        simp only [FlatB.specRun, FlatB.specStep, List.map_append, hcur, hprev, List.map_cons, Adapt.aCall,
          specFrom, flatAttrIter]
        rw [hlx] at hch ⊢
        rw [show (c0 : AP π K) = (c0.1, c0.2) from rfl,
          specFrom_specLines_snoc f c0.1 c0.2 c0.2 a _ _ hch,
          interp_one c0.2 a (by rw [hl, hlen.1]), this]
      | end_ cl =>
        simp only [attrsLen] at hlen
        have := ih none s (by simpa [wellNestedFrom] using hn) hlen (by intro f c h; cases h) hF
        simpa [FlatB.specRun, FlatB.specStep, specFrom, flatAttrIter, Adapt.aCall] using this

end Lyon.Adapt
