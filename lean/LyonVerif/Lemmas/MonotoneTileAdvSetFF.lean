/-
  C02 (`Props/C02g.lean`, `Props/C02h.lean`): flush and forward, on EVERY valid sweep sequence.  `W3` (again on the
  triple) bundles what the tiling needs of a reached state: `Y3`, both chains chord-clear (`ChordClear`) and sorted,
  locally convex (`CInv`).

  A flush first cuts the chain polygon off the FINE remaining polygon `Rg3` (inner stack, then the buffered chain of
  that side, then the not yet fed vertices; the stack's bottom entry, the other buffered chain, the not yet fed vertices
  of that side), leaving the chord (`flush_cut`).  The other side's remaining boundary starts with the chord of the
  OTHER buffered chain, or with one polygon edge when that chain holds one id (`opp_edge`); both ends of the flushed
  chain's chord are weakly inside of that edge, so the chain polygon lies inside the remaining polygon
  (`C02f.edge_side` of `Lemmas/MonotoneTileAdvSetFan.lean`, not `SweepValid.edge_side`; `beyond_in_opp`, `chain_poly_rg`) - hence inside the polygon, by the tiling invariant `Cut` of
  `Lemmas/MonotoneTileAdvSetRun.lean`.  The forward of the chain's end to the inner tessellator then
  * pops ears: `ChordClear` of the other chain puts the inner stack and the forwarded vertex weakly on their side of
    its chord, convexity puts its buffered vertices on the far side, so the ears do not reach it (`ear_in_opp`,
    `ff_popW`; stack vertices and the forwarded vertex may lie ON the chord: a non-degenerate ear is still strictly on
    its side, `inTriS_side_weak`);
  * or fans over the inner stack, whose own chain may continue with buffered vertices that come BEFORE the forwarded
    vertex: they are on the stack's side of the diagonal (`beyond_in_opp`, `ff_fanW`).
-/
import LyonVerif.Lemmas.MonotoneTileAdvSetState

set_option linter.unusedSectionVars false
set_option linter.unusedSimpArgs false

namespace Lyon.C02f
open Lyon Lyon.Mono Lyon.C02 Lyon.C02c

section Geometry
variable {K : Type} [Field K] [LinearOrder K] [IsStrictOrderedRing K]

/-- `Tiles` without the covering clause -/
structure Tiles0 {T : Type} (R : P K → Prop) (I : T → P K → Prop) (ts : List T) (R' : P K → Prop) : Prop where
  inside : ∀ t ∈ ts, ∀ q, I t q → R q
  sub : ∀ q, R' q → R q
  apart : ∀ t ∈ ts, ∀ q, I t q → ¬ R' q
  disj : ts.Pairwise (fun t t' => ∀ q, ¬ (I t q ∧ I t' q))

theorem Tiles0.ofTiles {T : Type} {R R' : P K → Prop} {I Ic : T → P K → Prop} {ts : List T}
    (h : Tiles R I Ic ts R') : Tiles0 R I ts R' := ⟨h.inside, h.sub, h.apart, h.disj⟩

variable (seq : List (P K × Bool))

/-- **the chain polygon cut off a region**, possibly with zero-area fan triangles: `hfanC` tiles the
chain polygon closed on its chord side, `hopen`: the open tiles lie in the open chain polygon -/
theorem chain_fan_tilesW {T : Type} (c : Bool) (A M B : List (P K)) (h last : P K) (Op : P K → Prop)
    (I Ic : T → P K → Prop) (ts : List T)
    (hfanC : Tiles (fun x => ChainIn c (h :: M ++ [last]) x ∧ CSide c h last x) I Ic ts (fun _ => False))
    (hopen : ∀ t ∈ ts, ∀ q, I t q → InPoly c (h :: M ++ [last]) [h, last] q)
    (hA : SortedP (A ++ [h])) (hB : SortedP (last :: B)) (hE : SortedP (h :: M ++ [last]))
    (hlh : After last h) (hconv : ∀ v ∈ h :: M ++ [last], 0 ≤ sg c * wind h v last)
    (hCP : ∀ q, InPoly c (h :: M ++ [last]) [h, last] q → Op q) :
    Tiles (fun q => ChainIn c (A ++ h :: M ++ last :: B) q ∧ Op q) I Ic ts
      (fun q => ChainIn c (A ++ h :: last :: B) q ∧ Op q) := by
  refine ⟨?_, ?_, ?_, hfanC.disj, ?_⟩
  · intro t ht q hq
    have hcp := hopen t ht q hq
    exact ⟨(chainIn_three c A M B h last q).mpr (Or.inr (Or.inl hcp.1)), hCP q hcp⟩
  · rintro q ⟨h1, h2⟩
    refine ⟨?_, h2⟩
    rcases (chainIn_chord c A B h last q).mp h1 with g | ⟨⟨hqh, hlq⟩, hin⟩ | g
    · exact (chainIn_three c A M B h last q).mpr (Or.inl g)
    · refine (chainIn_three c A M B h last q).mpr (Or.inr (Or.inl ?_))
      exact chain_side c hlh hin (h :: M ++ [last]) h last hE rfl (List.getLast?_concat) hconv hqh hlq
    · exact (chainIn_three c A M B h last q).mpr (Or.inr (Or.inr g))
  · rintro t ht q hq ⟨h1, _⟩
    obtain ⟨⟨hqh, hlq⟩, hin⟩ := inPoly_chord (hopen t ht q hq)
    rcases (chainIn_chord c A B h last q).mp h1 with g | ⟨_, g⟩ | g
    · exact not_after_of_afterEq hqh (chainIn_upper c _ q h hA (by simp) g)
    · rw [sg_not] at hin; linarith
    · exact not_after_of_afterEq (chainIn_lower c last B q hB g) hlq
  · rintro q ⟨h1, h2⟩
    rcases (chainIn_three c A M B h last q).mp h1 with g | g | g
    · exact Or.inl ⟨(chainIn_chord c A B h last q).mpr (Or.inl g), h2⟩
    · have hqh := chainIn_lower c h (M ++ [last]) q hE g
      have hlq := chainIn_upper c (h :: M ++ [last]) q last hE List.getLast?_concat g
      by_cases t : 0 < sg c * wind h last q
      · exact Or.inl ⟨(chainIn_chord c A B h last q).mpr (Or.inr (Or.inl ⟨⟨hqh, hlq⟩, t⟩)), h2⟩
      · right
        rcases hfanC.cover q ⟨g, ⟨hqh, hlq⟩, by rw [sg_not]; linarith [not_lt.mp t]⟩ with e | e
        · exact absurd e id
        · exact e
    · exact Or.inl ⟨(chainIn_chord c A B h last q).mpr (Or.inr (Or.inr g)), h2⟩

structure W3 (l : Bool) (k : Nat) (tess : Basic K) (a b : SideEv K) : Prop where
  y : Y3 seq l k tess a b
  ha : ChordClear seq l a
  hb : ChordClear seq (!l) b
  na : CInv (posOf seq) l a
  nb : CInv (posOf seq) (!l) b

theorem W3.symm {l : Bool} {k : Nat} {tess : Basic K} {a b : SideEv K} (h : W3 seq l k tess a b) :
    W3 seq (!l) k tess b a :=
  ⟨Y3.symm seq h.y, h.hb, by rw [Bool.not_not]; exact h.ha, h.nb, by rw [Bool.not_not]; exact h.na⟩

theorem SideChain.split_last {l : Bool} {k : Nat} {s : SideEv K} (hc : SideChain seq l k s) (h2 : 2 ≤ s.events.length) :
    s.events = headId s :: s.events.tail.dropLast ++ [s.last.id] ∧ s.events.tail = s.events.tail.dropLast ++ [s.last.id] := by
  have hev := hc.head_mem seq
  have hl := hc.last
  have hlt : s.events.tail.getLast? = some s.last.id := by
    rw [hev] at hl
    rwa [List.getLast?_cons_of_ne_nil (List.ne_nil_of_mem (hc.last_tail seq h2).1)] at hl
  have e2 := (List.dropLast_append_getLast? s.last.id hlt).symm
  refine ⟨?_, e2⟩
  conv_lhs => rw [hev, e2]
  simp

/-- fine remaining polygon; `sc`: the chain on the side of the inner stack's top, `so`: the other chain.  The first list is
the boundary on the side of the stack's top (stack, `sc`, future), the second starts at the stack's bottom (`so`, future) -/
def RgC (tess : Basic K) (sc so : SideEv K) (k : Nat) : P K → Prop :=
  InPoly tess.previous.left
    ((tess.stack.map (·.pos)).reverse ++ (sc.events.tail.map (posOf seq) ++ fut seq tess.previous.left k))
    (C02c.botPos tess :: (so.events.tail.map (posOf seq) ++ fut seq (!tess.previous.left) k))

/-- the same with the roles given by the side `l` of chain `a` -/
def Rg3 (l : Bool) (tess : Basic K) (a b : SideEv K) (k : Nat) : P K → Prop :=
  if tess.previous.left = l then RgC seq tess a b k else RgC seq tess b a k

theorem Rg3_symm (l : Bool) (tess : Basic K) (a b : SideEv K) (k : Nat) :
    Rg3 seq (!l) tess b a k = Rg3 seq l tess a b k := by
  unfold Rg3
  by_cases h : tess.previous.left = l
  · have : ¬ tess.previous.left = !l := by rw [h]; cases l <;> simp
    rw [if_pos h, if_neg this]
  · have : tess.previous.left = !l := Bool.eq_not_of_ne h
    rw [if_neg h, if_pos this]

theorem chain_fut_sorted (hval : SweepValid seq) {τ : Bool} {k : Nat} {s : SideEv K} (hc : SideChain seq τ k s)
    (hk : k + 1 ≤ seq.length) : SortedP (s.events.map (posOf seq) ++ fut seq τ k) := by
  have := sortedP_ids seq hval (s.events ++ futIds seq τ k) (by
      rw [List.pairwise_append]
      refine ⟨hc.inc, futIds_pairwise seq τ (by omega), ?_⟩
      intro x hx y hy
      have h1 := hc.lt x hx
      rcases (futIds_mem seq τ (by omega) y).mp hy with g | g <;> omega) (by
      intro j hj
      rcases List.mem_append.mp hj with g | g
      · have := hc.lt j g; omega
      · rcases (futIds_mem seq τ (by omega) j).mp g with g' | g' <;> omega)
  simpa [fut] using this

/-- a buffered chain of one id on side `τ`: the polygon edge from it to the next vertex `f` of that side
has every vertex passed in between strictly on its inner side -/
theorem single_chain_edge (hval : SweepValid seq) {τ : Bool} {k : Nat} {b : SideEv K}
    (hcb : SideChain seq τ k b) (hb1 : b.events.length < 2) (hk : k + 1 ≤ seq.length) :
    ∃ f rest, futIds seq τ k = f :: rest ∧ k ≤ f ∧ f < seq.length ∧
      ∀ j, headId b < j → j < f → 0 < sg τ * wind (posOf seq (headId b)) (posOf seq f) (posOf seq j) := by
  obtain ⟨hbe, hbh⟩ := hcb.single_head seq hb1
  obtain ⟨f, rest, e, f1, f2, f3, f4, _, _⟩ := futIds_head seq τ (k := k) (by omega)
  refine ⟨f, rest, e, f1, f2, fun j h1 h2 => ?_⟩
  have := hval.edge_side_inner (τ := !τ) h1 h2 f2 (fun j hj1 hj2 => ?_) (by rw [Bool.not_not]; exact hcb.hside)
    (by rw [Bool.not_not]; exact f4)
  · rwa [Bool.not_not] at this
  · by_cases g : j < k
    · exact hcb.off_side seq hj1 g (by rw [hbe, List.mem_singleton]; omega)
    · exact f3 j (by omega) hj2

/-- **the flush cuts the chain polygon off**: a region whose side-`l` boundary runs `A`, the buffered chain `a`, the not
yet fed part, and whose other condition `Op` holds on the chain polygon, is cut down to the same region with the
chain replaced by its chord -/
theorem flush_cut (hval : SweepValid seq) {l : Bool} {k : Nat} {tess : Basic K} {a b : SideEv K}
    (w : W3 seq l k tess a b) (hk : k + 1 ≤ seq.length) (hl2 : 2 ≤ a.events.length) (A : List (P K)) (Op : P K → Prop)
    (hA : SortedP (A ++ [posOf seq (headId a)]))
    (hCP : ∀ q, InPoly l (a.events.map (posOf seq)) [posOf seq (headId a), a.last.pos] q → Op q) :
    Tiles (fun q => ChainIn l (A ++ posOf seq (headId a) :: a.events.tail.dropLast.map (posOf seq) ++
        a.last.pos :: fut seq l k) q ∧ Op q) (TriIn (posOf seq)) (TriInC (posOf seq)) (fanOf a (!l))
      (fun q => ChainIn l (A ++ posOf seq (headId a) :: a.last.pos :: fut seq l k) q ∧ Op q) := by
  have hy := w.y
  obtain ⟨hm, hhl⟩ := hy.ca.last_tail seq hl2
  obtain ⟨esp, _⟩ := hy.ca.split_last seq hl2
  have hlastpos : a.last.pos = posOf seq a.last.id := hy.ca.good
  have hlk : a.last.id < k := hy.ca.lt _ (hy.ca.last_mem seq)
  have eE : a.events.map (posOf seq) =
      posOf seq (headId a) :: a.events.tail.dropLast.map (posOf seq) ++ [a.last.pos] := by
    conv_lhs => rw [esp]
    simp [hlastpos]
  have hfanC := (flush_side_fan_tilesW seq w.na hy.ca).weakenIc (fun _ _ g => g.1)
  have hopen := (flush_side_fan_tilesO seq w.na hy.ca).inside
  rw [eE] at hfanC hopen hCP
  refine chain_fan_tilesW l A _ (fut seq l k) _ a.last.pos Op _ _ _ hfanC hopen hA ?_ ?_ ?_ ?_ hCP
  · rw [hlastpos]
    exact fut_sorted seq l hval a.last.id k hlk (by omega)
  · rw [← eE]
    exact (List.pairwise_append.mp (chain_fut_sorted seq hval hy.ca hk)).1
  · rw [hlastpos]; exact valid_after hval hhl (by omega)
  · rw [← eE]
    exact chain_convex_mem seq w.na

/-- **the first edge of the other side's boundary**: from the head `H` of the other chain `b` the boundary of side `!l`
runs to `E` — the end of `b` if it is buffered, else the next vertex of that side that will be fed —, beyond the end of a
chain `a` that does not end after a buffered `b`.  `H` and every vertex `u` of side `l` passed before `E` are weakly on side
`l` of `H → E` and not before `H`, and a point of the sweep range of `H → E` strictly on the inner side of it lies inside
the remaining boundary of side `!l`. -/
theorem opp_edge (hval : SweepValid seq) {l : Bool} {k : Nat} {tess : Basic K} {a b : SideEv K}
    (w : W3 seq l k tess a b) (hk : k + 1 ≤ seq.length) (hord : 2 ≤ b.events.length → a.last.id < b.last.id) :
    ∃ E, headId b < E ∧ E < seq.length ∧ a.last.id < E ∧
      (∀ iu, iu = headId b ∨ (headId b < iu ∧ sideAt seq iu = l) → iu < E →
        0 ≤ sg (!l) * wind (posOf seq (headId b)) (posOf seq E) (posOf seq iu) ∧
          ∀ q, AfterEq q (posOf seq iu) → AfterEq q (posOf seq (headId b))) ∧
      (∀ q, AfterEq q (posOf seq (headId b)) → After (posOf seq E) q →
        0 < sg (!l) * wind (posOf seq (headId b)) (posOf seq E) q →
        ChainIn (!l) (b.events.map (posOf seq) ++ fut seq (!l) k) q) := by
  have hy := w.y
  have hlk : a.last.id < k := hy.ca.lt _ (hy.ca.last_mem seq)
  -- `E` with the weak side condition for the vertices of side `l` strictly between `H` and `E`
  suffices h : ∃ E, headId b < E ∧ E < seq.length ∧ a.last.id < E ∧
      (∀ j, headId b < j → j < E → sideAt seq j = l →
        0 ≤ sg (!l) * wind (posOf seq (headId b)) (posOf seq E) (posOf seq j)) ∧
      (∀ q, AfterEq q (posOf seq (headId b)) → After (posOf seq E) q →
        0 < sg (!l) * wind (posOf seq (headId b)) (posOf seq E) q →
        ChainIn (!l) (b.events.map (posOf seq) ++ fut seq (!l) k) q) by
    obtain ⟨E, e1, e2, hlE, hside, hin'⟩ := h
    refine ⟨E, e1, e2, hlE, fun iu hu huE => ?_, hin'⟩
    rcases hu with e | ⟨h1, h2⟩
    · rw [e, wind_self_left]; exact ⟨by simp, fun q hq => hq⟩
    · exact ⟨hside iu h1 huE h2, fun q hq => Or.inr (afterEq_trans_after hq (valid_after hval h1 (by omega)))⟩
  by_cases hb2 : 2 ≤ b.events.length
  · have hhlb := (hy.cb.last_tail seq hb2).2
    have hblk : b.last.id < k := hy.cb.lt _ (hy.cb.last_mem seq)
    have hblpos : b.last.pos = posOf seq b.last.id := hy.cb.good
    have hchord := chord_of_chain seq hval hy.cb (by omega) hb2 w.hb
    rw [Bool.not_not] at hchord
    refine ⟨b.last.id, hhlb, by omega, hord hb2, fun j h1 h2 h3 => ?_, fun q hq1 hq2 hq3 => ?_⟩
    · have := hchord j h1 h2 h3
      rw [hblpos] at this
      rw [sg_not, wind_swap_bc]; linarith
    · have hbb : After (posOf seq b.last.id) (posOf seq (headId b)) := valid_after hval hhlb (by omega)
      apply chainIn_prefix
      refine chain_side (!l) hbb hq3 (b.events.map (posOf seq)) _ _
        (List.pairwise_append.mp (chain_fut_sorted seq hval hy.cb hk)).1
        (by conv_lhs => rw [hy.cb.head_mem seq]
            rfl)
        (by rw [List.getLast?_map, hy.cb.last]; rfl) (hblpos ▸ chain_convex_mem seq w.nb) hq1 hq2
  · have hb1 : b.events.length < 2 := by omega
    obtain ⟨hbe, hbh⟩ := hy.cb.single_head seq hb1
    obtain ⟨f, restO, eO, f1, f2, hside⟩ := single_chain_edge seq hval hy.cb hb1 hk
    have hbk : headId b < k := hy.cb.lt _ (by rw [hy.cb.head_mem seq]; simp)
    refine ⟨f, by omega, f2, by omega, fun j h1 h2 _ => (hside j h1 h2).le, fun q hq1 hq2 hq3 => ?_⟩
    rw [hbe]
    simp only [List.map_cons, List.map_nil, List.singleton_append, fut, eO, ← hbh]
    exact Or.inl ⟨⟨hq1, hq2⟩, hq3⟩

/-- a point of the sweep range of `u → end of a`, strictly on side `!l` of it, where `u` is the head `H` of the other chain
or a vertex of side `l` passed since, lies inside the remaining boundary of side `!l`: both `u` and the end of `a` are weakly
inside of the first edge `H → E` of that boundary (`opp_edge`, `C02f.edge_side`).  With `u = H`: the region the inner
tessellator's fan leaves behind -/
theorem beyond_in_opp (hval : SweepValid seq) {l : Bool} {k : Nat} {tess : Basic K} {a b : SideEv K}
    (w : W3 seq l k tess a b) (hk : k + 1 ≤ seq.length) (hl2 : 2 ≤ a.events.length)
    (hord : 2 ≤ b.events.length → a.last.id < b.last.id) (iu : Nat)
    (hu : iu = headId b ∨ (headId b < iu ∧ sideAt seq iu = l)) (hua : iu < a.last.id) (q : P K)
    (hsp : Span (posOf seq iu) a.last.pos q) (hin : 0 < sg (!l) * wind (posOf seq iu) a.last.pos q) :
    ChainIn (!l) (b.events.map (posOf seq) ++ fut seq (!l) k) q := by
  obtain ⟨E, e1, e2, hlE, hside, hin'⟩ := opp_edge seq hval w hk hord
  have hy := w.y
  have hlastpos : a.last.pos = posOf seq a.last.id := hy.ca.good
  obtain ⟨huw, hqH⟩ := hside iu hu (by omega)
  have hTs := (hside _ (Or.inr ⟨hy.oab hl2, hy.ca.side _ (hy.ca.last_tail seq hl2).1⟩) hlE).1
  rw [← hlastpos] at hTs
  have hEl : After (posOf seq E) a.last.pos := by rw [hlastpos]; exact valid_after hval hlE e2
  exact hin' q (hqH q hsp.1) (after_trans hEl hsp.2) (edge_side (!l) (valid_after hval e1 e2) hsp.1 hsp.2 huw hTs hin)

/-- **the chain polygon of a buffered chain `a` (≥ 2 ids, not ending after a buffered `b`) lies inside the fine
remaining polygon**: on its own side its chain is part of the boundary; on the other side the boundary is the inner
stack (fan position only: it lies on its own side of the chord, `chain_side`) and then starts with the edge of
`opp_edge`, of which both ends of the chord are weakly inside (`C02f.edge_side`) -/
theorem chain_poly_rg (hval : SweepValid seq) {l : Bool} {k : Nat} {tess : Basic K} {a b : SideEv K}
    (w : W3 seq l k tess a b) (hk : k + 1 ≤ seq.length) (hl2 : 2 ≤ a.events.length)
    (hord : 2 ≤ b.events.length → a.last.id < b.last.id) (q : P K)
    (hq : InPoly l (a.events.map (posOf seq)) [posOf seq (headId a), a.last.pos] q) :
    Rg3 seq l tess a b k q := by
  have hy := w.y
  have ht := hy.tinv
  obtain ⟨rest, bot, hst, hb0, hbmem, hprevmem, hbotpos⟩ := ht.bottom seq
  have hhl := (hy.ca.last_tail seq hl2).2
  have hlastpos : a.last.pos = posOf seq a.last.id := hy.ca.good
  have hlk : a.last.id < k := hy.ca.lt _ (hy.ca.last_mem seq)
  have hoab := hy.oab hl2
  have hle := ht.le_prev seq
  have hlo := pairwise_last tess.stack bot ht.dec hb0
  obtain ⟨hsp, hin⟩ := inPoly_chord hq
  have heam : a.events.map (posOf seq) = posOf seq (headId a) :: a.events.tail.map (posOf seq) := by
    conv_lhs => rw [hy.ca.head_mem seq]
    rfl
  have hebm : b.events.map (posOf seq) = posOf seq (headId b) :: b.events.tail.map (posOf seq) := by
    conv_lhs => rw [hy.cb.head_mem seq]
    rfl
  have hown : ChainIn l (posOf seq (headId a) :: (a.events.tail.map (posOf seq) ++ fut seq l k)) q := by
    have := chainIn_prefix l q _ (fut seq l k) hq.1
    rwa [heam] at this
  unfold Rg3 RgC InPoly
  rw [hbotpos]
  by_cases hcl : tess.previous.left = l
  · obtain ⟨hpid, hbid⟩ := (ht.heads bot hb0).1 hcl
    have hprevpos : tess.previous.pos = posOf seq (headId a) := by rw [ht.good _ hprevmem, hpid]
    have hbotp : bot.pos = posOf seq (headId b) := by rw [ht.good _ hbmem, hbid]
    rw [if_pos hcl, hcl, hst, hbotp]
    refine ⟨?_, ?_⟩
    · simp only [List.map_cons, List.reverse_cons, List.append_assoc, List.singleton_append, hprevpos]
      exact (chainIn_append l _ _ _ q).mpr (Or.inr hown)
    · have hba : headId b ≤ headId a := by rw [← hpid, ← hbid]; exact hle bot hbmem
      have := beyond_in_opp seq hval w hk hl2 hord (headId a) (by
        rcases Nat.lt_or_ge (headId b) (headId a) with g | g
        · exact Or.inr ⟨g, hy.ca.hside.resolve_left (by omega)⟩
        · exact Or.inl (by omega)) hhl q hsp hin
      rwa [hebm] at this
  · have hopp : tess.previous.left = !l := Bool.eq_not_of_ne hcl
    obtain ⟨hpid, hbid⟩ := (ht.heads bot hb0).2 hcl
    have hprevpos : tess.previous.pos = posOf seq (headId b) := by rw [ht.good _ hprevmem, hpid]
    have hbotp : bot.pos = posOf seq (headId a) := by rw [ht.good _ hbmem, hbid]
    rw [if_neg hcl, hopp, Bool.not_not, hbotp]
    refine ⟨?_, hown⟩
    have hssort := ht.stack_sorted seq hval
    have hlh : After a.last.pos (posOf seq (headId a)) := by
      rw [hlastpos]; exact valid_after hval hhl (by omega)
    have hchord := chord_of_chain seq hval hy.ca (by omega) hl2 w.ha
    -- a stack vertex is the bottom or weakly on the stack's side of the chord `bot → end of a`
    have hstack : ∀ v ∈ tess.stack, 0 ≤ sg (!l) * wind (posOf seq (headId a)) v.pos a.last.pos := by
      intro v hv
      rcases hlo v hv with e | e
      · rw [ht.good v hv, e, hbid, wind_self_mid]; simp
      · have hsv : sideAt seq v.id = !l := by rw [← hopp]; exact ht.sides bot hb0 v hv (by omega)
        rw [ht.good v hv]
        exact hchord v.id (by omega) (by have := hle v hv; omega) hsv
    by_cases g : After tess.previous.pos q
    · apply chainIn_prefix
      refine chain_side (!l) hlh hin _ (posOf seq (headId a)) tess.previous.pos (sortedP_reverse _ hssort)
        (by rw [List.head?_reverse, List.getLast?_map, hb0, ← hbotp]; rfl) (by rw [hst]; simp) ?_ hsp.1 g
      intro v hv
      rw [List.mem_reverse] at hv
      obtain ⟨x, hx, rfl⟩ := List.mem_map.mp hv
      exact hstack x hx
    · -- at or after the stack's top `H`: strictly inside of the diagonal `H → end of a` (`turn_to_zW`)
      have hqp : AfterEq q (posOf seq (headId b)) := by
        rw [← hprevpos]
        exact afterEq_of_not_after g
      have hlH : After a.last.pos (posOf seq (headId b)) := by
        rw [hlastpos]; exact valid_after hval hoab (by omega)
      have h1 := hstack _ hprevmem
      rw [hprevpos] at h1
      have := beyond_in_opp seq hval w hk hl2 hord (headId b) (Or.inl rfl) hoab q ⟨hqp, hsp.2⟩
        (turn_to_zW (!l) hlh hlH hsp.2 h1 hin)
      rw [hebm, ← hprevpos] at this
      rw [hst]
      simp only [List.map_cons, List.reverse_cons, List.append_assoc, List.singleton_append]
      exact (chainIn_append (!l) _ _ _ q).mpr (Or.inr this)

/-- an ear `(u, v, end of a)` whose corners `u`, `v` are vertices of side `l` passed since the head of the other chain
(or that head itself) does not leave the remaining boundary of side `!l` -/
theorem ear_in_opp (hval : SweepValid seq) {l : Bool} {k : Nat} {tess : Basic K} {a b : SideEv K}
    (w : W3 seq l k tess a b) (hk : k + 1 ≤ seq.length) (hl2 : 2 ≤ a.events.length)
    (hord : 2 ≤ b.events.length → a.last.id < b.last.id) (σ : Bool) (iu iv : Nat)
    (hu : iu = headId b ∨ (headId b < iu ∧ sideAt seq iu = l)) (hv : headId b < iv) (hvs : sideAt seq iv = l)
    (hua : iu < a.last.id) (hva : iv < a.last.id) (hvu : After (posOf seq iv) (posOf seq iu)) (q : P K)
    (hq : InTriS σ (posOf seq iu) (posOf seq iv) a.last.pos q) :
    ChainIn (!l) (b.events.map (posOf seq) ++ fut seq (!l) k) q := by
  obtain ⟨E, e1, e2, hlE, hside, hin'⟩ := opp_edge seq hval w hk hord
  have hy := w.y
  rw [hy.ca.good] at hq
  obtain ⟨hqu, hcq⟩ := inTriS_after hvu (valid_after hval hva (by omega)) hq
  obtain ⟨huw, hqH⟩ := hside iu hu (by omega)
  refine hin' q (hqH q (Or.inr hqu)) (after_trans (valid_after hval hlE e2) hcq) ?_
  exact inTriS_side_weak (valid_after hval e1 e2) hq huw (hside iv (Or.inr ⟨hv, hvs⟩) (by omega)).1
    (hside _ (Or.inr ⟨hy.oab hl2, hy.ca.side _ (hy.ca.last_tail seq hl2).1⟩) hlE).1

/-- **flush and forward, the chain is on the side of the inner stack's top** -/
theorem ff_popW (hval : SweepValid seq) {l : Bool} {k : Nat}
    {tess : Basic K} {a b : SideEv K} (w : W3 seq l k tess a b) (hk : k + 1 ≤ seq.length)
    (hl2 : 2 ≤ a.events.length) (hord : 2 ≤ b.events.length → a.last.id < b.last.id)
    (hcl : tess.previous.left = l) (a' : SideEv K) (he : a'.events = [a.last.id]) :
    ∃ nt, ((tess.pushTris (fanOf a (!l))).vertex a.last).tris =
        tess.tris ++ fanOf a (!l) ++ nt ∧
      Tiles (Rg3 seq l tess a b k) (TriIn (posOf seq)) (TriInC (posOf seq))
        (fanOf a (!l) ++ nt)
        (Rg3 seq l ((tess.pushTris (fanOf a (!l))).vertex a.last)
          a' b k) := by
  have hy := w.y
  have ht := hy.tinv
  obtain ⟨rest, bot, hst, hb0, hbmem, hprevmem, hbotpos⟩ := ht.bottom seq
  obtain ⟨hpid, hbid⟩ := (ht.heads bot hb0).1 hcl
  have hprevpos : tess.previous.pos = posOf seq (headId a) := by rw [ht.good _ hprevmem, hpid]
  have hbotp : bot.pos = posOf seq (headId b) := by rw [ht.good _ hbmem, hbid]
  have hhl := (hy.ca.last_tail seq hl2).2
  have etl := (hy.ca.split_last seq hl2).2
  have hlastpos : a.last.pos = posOf seq a.last.id := hy.ca.good
  have hlk : a.last.id < k := hy.ca.lt _ (hy.ca.last_mem seq)
  have hcurl : a.last.left = l := hy.p3.sidea
  have hle := ht.le_prev seq
  have hssort := ht.stack_sorted seq hval
  have hvx : (tess.pushTris (fanOf a (!l))).vertex a.last =
      ⟨a.last :: (popLoop a.last tess.previous rest).1, a.last,
        tess.tris ++ fanOf a (!l) ++ (popLoop a.last tess.previous rest).2⟩ :=
    vertex_same _ _ rest (hcurl.trans hcl.symm) hst
  refine ⟨(popLoop a.last tess.previous rest).2, by rw [hvx], ?_⟩
  -- the two regions as `chain ∧ Op`
  set Op : P K → Prop := ChainIn (!l) (bot.pos :: (b.events.tail.map (posOf seq) ++ fut seq (!l) k)) with hOp
  have eL : Rg3 seq l tess a b k = fun q => ChainIn l ((rest.map (·.pos)).reverse ++ posOf seq (headId a) ::
      a.events.tail.dropLast.map (posOf seq) ++ a.last.pos :: fut seq l k) q ∧ Op q := by
    funext q
    unfold Rg3 RgC InPoly
    rw [if_pos hcl, hbotpos, hcl, hst]
    conv_lhs => rw [etl]
    simp only [List.map_cons, List.reverse_cons, List.map_append, List.map_nil, List.append_assoc, List.singleton_append,
      List.cons_append, List.nil_append, hprevpos, hlastpos]
    rfl
  have hnn := popLoop_nonempty a.last tess.previous rest
  have hgl := popLoop_getLast a.last tess.previous rest
  have eR : Rg3 seq l ((tess.pushTris (fanOf a (!l))).vertex a.last) a' b k =
      fun q => ChainIn l (((popLoop a.last tess.previous rest).1.map (·.pos)).reverse ++ a.last.pos :: fut seq l k) q ∧ Op q := by
    funext q
    rw [hvx]
    unfold Rg3 RgC InPoly
    rw [if_pos hcurl]
    simp only [C02c.botPos]
    rw [List.getLast?_cons_of_ne_nil hnn, hgl, ← hst, hb0]
    simp only [he, List.tail_cons, List.map_nil, List.nil_append, hcurl, List.map_cons, List.reverse_cons,
      List.append_assoc, List.singleton_append]
    rfl
  rw [eL, eR]
  -- step 1: the chain polygon
  have hA : SortedP ((rest.map (·.pos)).reverse ++ [posOf seq (headId a)]) := by
    have := sortedP_reverse _ hssort
    rw [hst] at this
    simpa [hprevpos] using this
  have hB : SortedP (a.last.pos :: fut seq l k) := by
    rw [hlastpos]
    exact fut_sorted seq l hval a.last.id k hlk (by omega)
  have hebm : b.events.map (posOf seq) = bot.pos :: b.events.tail.map (posOf seq) := by
    conv_lhs => rw [hy.cb.head_mem seq]
    simp [hbotp]
  refine (flush_cut seq hval w hk hl2 ((rest.map (·.pos)).reverse) Op hA
    (fun q hq' => ((congrFun eL q).mp (chain_poly_rg seq hval w hk hl2 hord q hq')).2)).trans ?_
  -- step 2: the inner tessellator pops ears
  have hgoodst : ∀ v ∈ tess.previous :: rest, Good (posOf seq) v := by rw [← hst]; exact ht.good
  have hcs : ∀ v ∈ tess.previous :: rest, After a.last.pos v.pos := by
    rw [← hst]
    intro v hv
    rw [ht.good v hv, hlastpos]
    exact valid_after hval (by have := hle v hv; omega) (by omega)
  have hOall : ∀ u ∈ tess.previous :: rest, ∀ v ∈ tess.previous :: rest, After v.pos u.pos →
      ∀ q, InTriS a.last.left u.pos v.pos a.last.pos q → Op q := by
    rw [← hst, hcurl]
    intro u hu v hv hvu q hq
    have hlo := pairwise_last tess.stack bot ht.dec hb0
    rw [ht.good u hu, ht.good v hv] at hq hvu
    have huv := id_lt_of_after seq hval (ht.lt u hu) hvu
    have hub := hlo u hu
    -- the ear's corners are the other chain's head or vertices of side `l` passed since: `ear_in_opp`
    have := ear_in_opp seq hval w hk hl2 hord l u.id v.id
      (hub.imp (fun e => e.trans hbid) (fun e => ⟨hbid ▸ e, by rw [← hcl]; exact ht.sides bot hb0 u hu (by omega)⟩))
      (by omega) (by rw [← hcl]; exact ht.sides bot hb0 v hv (by omega))
      (by have := hle u hu; omega) (by have := hle v hv; omega) hvu q hq
    rw [hebm] at this
    simpa [hOp] using this
  have hcur : Good (posOf seq) a.last := hy.ca.good
  have t2 := pop_tilesW (posOf seq) a.last (fut seq l k) Op hcur hB rest tess.previous hgoodst
    (by rw [← hst]; exact hssort) hcs hOall
  have e3 : ((tess.previous :: rest).map (·.pos)).reverse ++ a.last.pos :: fut seq l k =
      (rest.map (·.pos)).reverse ++ posOf seq (headId a) :: a.last.pos :: fut seq l k := by
    simp [hprevpos]
  rw [hcurl, e3] at t2
  exact t2

/-- **flush and forward, the chain is on the side opposite to the inner stack's top** -/
theorem ff_fanW (hval : SweepValid seq) {l : Bool} {k : Nat}
    {tess : Basic K} {a b : SideEv K} (w : W3 seq l k tess a b) (hk : k + 1 ≤ seq.length)
    (hl2 : 2 ≤ a.events.length) (hord : 2 ≤ b.events.length → a.last.id < b.last.id)
    (hcn : tess.previous.left ≠ l) (a' : SideEv K) (he : a'.events = [a.last.id]) :
    ∃ nt, ((tess.pushTris (fanOf a (!l))).vertex a.last).tris =
        tess.tris ++ fanOf a (!l) ++ nt ∧
      Tiles (Rg3 seq l tess a b k) (TriIn (posOf seq)) (TriInC (posOf seq))
        (fanOf a (!l) ++ nt)
        (Rg3 seq l ((tess.pushTris (fanOf a (!l))).vertex a.last)
          a' b k) := by
  have hy := w.y
  have ht := hy.tinv
  have hopp : tess.previous.left = !l := Bool.eq_not_of_ne hcn
  obtain ⟨rest, bot, hst, hb0, hbmem, hprevmem, hbotpos⟩ := ht.bottom seq
  obtain ⟨hpid, hbid⟩ := (ht.heads bot hb0).2 hcn
  have hprevpos : tess.previous.pos = posOf seq (headId b) := by rw [ht.good _ hprevmem, hpid]
  have hbotp : bot.pos = posOf seq (headId a) := by rw [ht.good _ hbmem, hbid]
  obtain ⟨hm, hhl⟩ := hy.ca.last_tail seq hl2
  obtain ⟨esp, etl⟩ := hy.ca.split_last seq hl2
  have hlastpos : a.last.pos = posOf seq a.last.id := hy.ca.good
  have hlk : a.last.id < k := hy.ca.lt _ (hy.ca.last_mem seq)
  have hcurl : a.last.left = l := hy.p3.sidea
  have hle := ht.le_prev seq
  have hssort := ht.stack_sorted seq hval
  have hoab := hy.oab hl2
  have hvx : (tess.pushTris (fanOf a (!l))).vertex a.last =
      ⟨[a.last, tess.previous], a.last, tess.tris ++ fanOf a (!l) ++ fanTris a.last tess.stack.reverse⟩ :=
    vertex_other _ _ (by rw [hcurl]; exact fun e => hcn e.symm)
  refine ⟨fanTris a.last tess.stack.reverse, by rw [hvx], ?_⟩
  set Fc : List (P K) := b.events.tail.map (posOf seq) ++ fut seq (!l) k with hFcdef
  set OpC : P K → Prop := ChainIn (!l) ((tess.stack.map (·.pos)).reverse ++ Fc) with hOpC
  have hebm : b.events.map (posOf seq) = tess.previous.pos :: b.events.tail.map (posOf seq) := by
    conv_lhs => rw [hy.cb.head_mem seq]
    simp [hprevpos]
  have eL : Rg3 seq l tess a b k = fun q => ChainIn l ([] ++ bot.pos ::
      a.events.tail.dropLast.map (posOf seq) ++ a.last.pos :: fut seq l k) q ∧ OpC q := by
    funext q
    unfold Rg3 RgC InPoly
    rw [if_neg hcn, hbotpos, hopp, Bool.not_not]
    conv_lhs => rw [etl]
    apply propext
    simp only [List.map_append, List.map_cons, List.map_nil, List.append_assoc, List.singleton_append,
      List.cons_append, List.nil_append, hlastpos]
    exact and_comm
  have eR : Rg3 seq l ((tess.pushTris (fanOf a (!l))).vertex a.last) a' b k =
      fun q => InPoly (!l) (tess.previous.pos :: Fc) (tess.previous.pos :: a.last.pos :: fut seq l k) q := by
    funext q
    have e0 : C02c.botPos ((tess.pushTris (fanOf a (!l))).vertex a.last) = tess.previous.pos := by
      rw [hvx]; simp [C02c.botPos]
    unfold Rg3 RgC InPoly
    rw [e0, hvx, if_pos hcurl]
    apply propext
    simp only [he, List.tail_cons, List.map_nil, List.nil_append, hcurl, List.map_cons, List.reverse_cons,
      List.reverse_nil, List.append_assoc, List.singleton_append, List.cons_append, Bool.not_not]
    exact and_comm
  rw [eL, eR]
  -- step 1: the chain polygon is cut off the opposite chain
  have hB : SortedP (a.last.pos :: fut seq l k) := by
    rw [hlastpos]
    exact fut_sorted seq l hval a.last.id k hlk (by omega)
  have hchord := chord_of_chain seq hval hy.ca (by omega) hl2 w.ha
  -- a stack vertex above the bottom is weakly on the stack's side of the chord `bot → cur`
  have hstack : ∀ v ∈ tess.stack, bot.id < v.id → 0 ≤ sg (!l) * wind bot.pos v.pos a.last.pos := by
    intro v hv hlt
    have hsv : sideAt seq v.id = !l := by rw [← hopp]; exact ht.sides bot hb0 v hv (by omega)
    have hw := hchord v.id (by omega) (by have := hle v hv; omega) hsv
    rw [hbotp, ht.good v hv]
    exact hw
  have hFcs : SortedP (tess.previous.pos :: Fc) := by
    have := chain_fut_sorted seq hval hy.cb hk
    rw [hebm] at this
    simpa [hFcdef] using this
  have step1 := flush_cut seq hval w hk hl2 [] OpC (by simp [SortedP])
    (fun q hq' => ((congrFun eL q).mp (chain_poly_rg seq hval w hk hl2 hord q hq')).2)
  rw [← hbotp] at step1
  refine step1.trans ?_
  -- step 2: the inner tessellator fans over its stack
  have hgoodst : ∀ v ∈ tess.previous :: rest, Good (posOf seq) v := by rw [← hst]; exact ht.good
  have hcur : Good (posOf seq) a.last := hy.ca.good
  obtain ⟨hcs, hsideS, hfanP⟩ := ht.fanLe seq hval bot hb0 a.last hcur (by omega) (by omega) (by rw [hopp]; exact hstack)
  rw [hopp] at hsideS hfanP
  have hU : ∀ q, Span tess.previous.pos a.last.pos q → 0 < sg (!l) * wind tess.previous.pos a.last.pos q →
      ChainIn (!l) (tess.previous.pos :: Fc) q := by
    intro q hsp hin
    rw [hprevpos] at hsp hin
    have := beyond_in_opp seq hval w hk hl2 hord (headId b) (Or.inl rfl) hoab q hsp hin
    rw [hebm] at this
    simpa [hFcdef] using this
  rw [hst] at hfanP hsideS hcs hb0 hssort
  have t2 := fan_step_tilesW (posOf seq) (!l) a.last bot tess.previous rest Fc (fut seq l k) hgoodst hcur hb0
    hssort hcs hsideS hfanP hFcs hB hU
  rw [← hst] at t2
  have eqS : (fun q => ChainIn l ([] ++ bot.pos :: a.last.pos :: fut seq l k) q ∧ OpC q) =
      InPoly (!l) ((tess.stack.map (·.pos)).reverse ++ Fc) (bot.pos :: a.last.pos :: fut seq l k) := by
    funext q
    exact propext (inPoly_swap l _ _ q).symm
  rw [eqS]
  exact t2

theorem ff_tilesW (hval : SweepValid seq) {l : Bool} {k : Nat}
    {tess : Basic K} {a b : SideEv K} (w : W3 seq l k tess a b) (hk : k + 1 ≤ seq.length)
    (hl2 : 2 ≤ a.events.length) (hord : 2 ≤ b.events.length → a.last.id < b.last.id)
    (a' : SideEv K) (he : a'.events = [a.last.id]) :
    ∃ nt, ((tess.pushTris (fanOf a (!l))).vertex a.last).tris =
        tess.tris ++ fanOf a (!l) ++ nt ∧
      Tiles (Rg3 seq l tess a b k) (TriIn (posOf seq)) (TriInC (posOf seq))
        (fanOf a (!l) ++ nt)
        (Rg3 seq l ((tess.pushTris (fanOf a (!l))).vertex a.last)
          a' b k) := by
  by_cases hcl : tess.previous.left = l
  · exact ff_popW seq hval w hk hl2 hord hcl a' he
  · exact ff_fanW seq hval w hk hl2 hord hcl a' he

end Geometry

end Lyon.C02f
