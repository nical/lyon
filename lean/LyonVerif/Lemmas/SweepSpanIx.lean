/-
  `ActiveSpan` through `process_intersection` and `handle_intersections`.
-/
import LyonVerif.Lemmas.SweepSpan

set_option linter.unusedSectionVars false
set_option mvcgen.warning false

namespace Lyon.SweepSpan
open Lyon Lyon.Scalar Lyon.Sweep Lyon.EQ Lyon.SweepPos
open Std.Do

section field
variable {K : Type} [Field K] [LinearOrder K] [IsStrictOrderedRing K]
variable [w : Wide K]

theorem QU.modifyT0 {q : Queue K} (h : QU q) (i : Nat) {r : K} (hr : U r) :
    QU { q with edgeData := q.edgeData.modify i (fun d => { d with t0 := r }) } :=
  all_modify (f := fun d => { d with t0 := r }) h i fun _ hd => ⟨hr, hd.2⟩

theorem ip_y {cur a b c : P K} {p q : Prop} [Decidable p] [Decidable q] (ha : cur.y ≤ a.y) (hb : cur.y ≤ b.y)
    (hc : cur.y ≤ c.y) : cur.y ≤ (if p then a else if q then b else c).y := by
  split
  · exact ha
  · split
    · exact hb
    · exact hc

/-- the common end of the two successful branches of `process_intersection`: the queue `Q`, one active edge
replaced, the rest unchanged -/
theorem pi_fin {s s' : St K} (h : Inv s) {Q : Queue K} {aei : Nat} {AE : ActiveEdge K} {X : P K} {r : K}
    (hQ : QU Q) (hAE : SpanA s.curPos AE ∧ U AE.rangeEnd) (hEB : s.curPos.y ≤ X.y ∧ U r)
    (e1 : s'.q = Q) (e2 : s'.active = s.active.setIfInBounds aei AE) (e3 : s'.below = s.below)
    (e4 : s'.curPos = s.curPos) (e5 : s'.out = s.out) : Inv s' ∧ s'.curPos.y ≤ X.y ∧ U r := by
  obtain ⟨⟨ha, hb⟩, hq, hua, hub, ho⟩ := h
  refine ⟨⟨⟨?_, ?_⟩, ?_, ?_, ?_, by rw [e5]; exact ho⟩, by rw [e4]; exact hEB.1, hEB.2⟩
  · rw [e2, e4]; exact all_set ha _ _ hAE.1
  · rw [e3, e4]; exact hb
  · rw [e1]; exact hQ
  · rw [e2]; exact all_set hua _ _ hAE.2
  · rw [e3]; exact hub

theorem isAfter_neg_y {a b : P K} (h : ¬(!isAfter a b) = true) : b.y ≤ a.y :=
  have h' : isAfter a b = true := by simpa using h
  ((Sources.isAfter_lexLt a b).mp h').le_y

theorem _root_.Lyon.Sweep.PiIns.unit {q0 : Queue K} {ae0 : ActiveEdge K} {eb0 : PendingEdge K} {ta tb : w.W} {ip p : P K}
    {d : EdgeData K} (h : PiIns q0 ae0 eb0 ta tb ip p d) (hra : U (piRta q0 ae0 ta)) (hUA : U ae0.rangeEnd)
    (hrb : U (piRtb q0 eb0 tb)) (hUB : U eb0.rangeEnd) : U d.t0 ∧ U d.t1 := by
  cases h
  exacts [⟨hra, hUA⟩, ⟨hUA, hra⟩, ⟨hrb, hUB⟩, ⟨hUB, hrb⟩]

/-- **`process_intersection` keeps `ActiveSpan` and the parameter range**: the new ends are `eb.to`, `ae.to` (at or
below the vertex by the invariant) or the point asserted to be after the vertex; the cut parameters are remapped
from parameters in `[0,1]` -/
theorem processIntersection_inv (ta tb : w.W) (aei : Nat) (eb0 : PendingEdge K) (belowSeg : Seg w.W) :
    ⦃fun s => ⌜Inv s ∧ (s.curPos.y ≤ eb0.to.y ∧ U eb0.rangeEnd) ∧ U (Wide.narrow ta) ∧ U (Wide.narrow tb) ∧
      ∀ e, s.active[aei]? = some e → e.isMerge = false⌝⦄
    (processIntersection ta tb aei eb0 belowSeg : SM K (PendingEdge K))
    ⦃post⟨fun r s => ⌜Inv s ∧ s.curPos.y ≤ r.to.y ∧ U r.rangeEnd⌝, fun _ s => ⌜Inv s⌝⟩⦄ := by
  rw [processIntersection_eq]
  mvcgen
  all_goals
    obtain ⟨hI, ⟨hB, hUB⟩, hta, htb, hnm⟩ := ‹Inv _ ∧ _›
  case vc1 | vc3 => exact hI
  all_goals
    have hget := ‹_[aei]? = some _›
    have hmem := Array.mem_of_getElem? hget
    have hA := hI.1.1 _ hmem (hnm _ hget)
    have hUA := hI.2.2.1 _ hmem
    have hra := remap_U hta (ed_U hI.2.1 (‹ActiveEdge K›).srcEdge).1 hUA
  case vc2 =>
    have hc := congrArg P.y ((P.beq_iff_eq _ _).mp ‹(_ == _) = true›)
    refine pi_fin hI (QU.modifyT0 hI.2.1 _ hra) ?_ ⟨hB, hUB⟩ rfl rfl rfl rfl rfl
    exact ⟨fun _ => ⟨le_of_eq hc.symm, hA.2⟩, hUA⟩
  case vc4 =>
    have hrb := remap_U htb (ed_U hI.2.1 eb0.srcEdge).1 hUB
    have hc := isAfter_neg_y ‹¬(!isAfter _ _) = true›
    refine pi_fin hI ?_ ?_ ?_ rfl rfl rfl rfl rfl
    · exact piQ_all hI.2.1 (fun _ _ hd => hd.unit hra hUA hrb hUB) ⟨hrb, hrb⟩
    · rw [piAe_eq]
      split
      · exact ⟨fun _ => ⟨hA.1, ip_y hB hA.2 hc⟩, hra⟩
      · exact ⟨fun _ => hA, hUA⟩
    · rw [piEb_eq]
      split
      · exact ⟨ip_y hB hA.2 hc, hrb⟩
      · exact ⟨hB, hUB⟩

open Lyon.SweepRep in
/-- **`handle_intersections` keeps `ActiveSpan` and the parameter range**: every new end is the snapped / asserted
intersection point, at or below the current vertex -/
theorem handleIntersectionsStep_inv {M : w.W → Prop} (hw : WClosure (α := K) U M) (skipS skipE : Nat) :
    ⦃fun s => ⌜Inv s⌝⦄ (handleIntersectionsStep skipS skipE : SM K Unit) ⦃keeps⦄ :=
  handleIntersectionsStep_keeps skipS skipE fun bi eb x seg =>
    triple_conseq (processIntersection_inv x.1 x.2.1 x.2.2 eb seg)
      (fun s ⟨hI, hb, hx⟩ => by
        have hm := Array.mem_of_getElem? hb
        obtain ⟨⟨hlt, hnm⟩, hM, h0, h0', h1'⟩ := hiScan_cut hw.mOne hw.mLt _ _ _ _ hx
        exact ⟨hI, ⟨hI.1.2 _ hm, hI.2.2.2.1 _ hm⟩, hw.nar _ h0' (hw.mLe _ h1'), hw.nar _ h0 hM,
          fun e he => by rw [Array.getElem?_eq_getElem hlt] at he; cases he; exact hnm⟩)
      (fun r s ⟨⟨⟨ha, hb⟩, hq, hua, hub, ho⟩, h1, h2⟩ => ⟨⟨ha, all_set hb _ _ h1⟩, hq, hua, all_set hub _ _ h2, ho⟩)
      fun _ _ h => h

end field

end Lyon.SweepSpan
