/-
  The algebra of a point in a triangle (`C03.inTri`: the three edge functions have one sign), over an ordered field:
  the edge functions are the barycentric weights times twice the area (`bary_coords`, `bary_cross`, `inTri_weights`);
  hence a non-degenerate triangle lies in every half-plane (`inTri_halfplane`) and in every disc (`inTri_in_disc`)
  that holds its corners.
-/
import LyonVerif.Props.C03
import LyonVerif.Lemmas.Hull

set_option linter.unusedSectionVars false

namespace Lyon.C03c
open Lyon Lyon.C03

variable {K : Type} [Field K] [LinearOrder K] [IsStrictOrderedRing K]

/-- **barycentric coordinates**: with the edge functions `l₁ l₂ l₃` of `A B C` at `p` and twice the
area `D`: `l₁ + l₂ + l₃ = D` and `D·(p − U) = l₂·(A − U) + l₃·(B − U) + l₁·(C − U)` -/
theorem bary_coords (A B C p U : P K) :
    (B - A).cross (p - A) + (C - B).cross (p - B) + (A - C).cross (p - C) = (B - A).cross (C - A) ∧
    (B - A).cross (C - A) * (p.x - U.x) = (C - B).cross (p - B) * (A.x - U.x)
      + (A - C).cross (p - C) * (B.x - U.x) + (B - A).cross (p - A) * (C.x - U.x) ∧
    (B - A).cross (C - A) * (p.y - U.y) = (C - B).cross (p - B) * (A.y - U.y)
      + (A - C).cross (p - C) * (B.y - U.y) + (B - A).cross (p - A) * (C.y - U.y) := by
  simp only [P.cross, P.sub_def]
  refine ⟨?_, ?_, ?_⟩ <;> ring

theorem bary_cross (A B C p U E : P K) :
    (B - A).cross (C - A) * E.cross (p - U) = (C - B).cross (p - B) * E.cross (A - U)
      + (A - C).cross (p - C) * E.cross (B - U) + (B - A).cross (p - A) * E.cross (C - U) := by
  simp only [P.cross, P.sub_def]
  ring

theorem inTri_products {A B C p : P K} (h : inTri A B C p) :
    0 ≤ (C - B).cross (p - B) * (A - C).cross (p - C) ∧ 0 ≤ (C - B).cross (p - B) * (B - A).cross (p - A) ∧
    0 ≤ (A - C).cross (p - C) * (B - A).cross (p - A) := by
  rcases h with ⟨p1, p2, p3⟩ | ⟨p1, p2, p3⟩
  · exact ⟨mul_nonneg p2 p3, mul_nonneg p2 p1, mul_nonneg p3 p1⟩
  · exact ⟨mul_nonneg_of_nonpos_of_nonpos p2 p3, mul_nonneg_of_nonpos_of_nonpos p2 p1,
      mul_nonneg_of_nonpos_of_nonpos p3 p1⟩

theorem inTri_weights {A B C p : P K} (h : inTri A B C p) :
    0 ≤ (B - A).cross (C - A) * (C - B).cross (p - B) ∧ 0 ≤ (B - A).cross (C - A) * (A - C).cross (p - C) ∧
    0 ≤ (B - A).cross (C - A) * (B - A).cross (p - A) := by
  obtain ⟨q23, q21, q31⟩ := inTri_products h
  rw [← (bary_coords A B C p p).1]
  exact ⟨by linear_combination q21 + q23 + mul_self_nonneg ((C - B).cross (p - B)),
    by linear_combination q31 + q23 + mul_self_nonneg ((A - C).cross (p - C)),
    by linear_combination q21 + q31 + mul_self_nonneg ((B - A).cross (p - A))⟩

theorem inTri_halfplane (A B C p U E : P K) (hD : (B - A).cross (C - A) ≠ 0) (h : inTri A B C p)
    (hA : 0 ≤ E.cross (A - U)) (hB : 0 ≤ E.cross (B - U)) (hC : 0 ≤ E.cross (C - U)) :
    0 ≤ E.cross (p - U) := by
  obtain ⟨w2, w3, w1⟩ := inTri_weights h
  refine nonneg_of_mul_nonneg_right ?_ (mul_self_pos.2 hD)
  linear_combination mul_nonneg w2 hA + mul_nonneg w3 hB + mul_nonneg w1 hC
    - (B - A).cross (C - A) * bary_cross A B C p U E

/-- `D·(p − c)` is the combination of `A − c`, `B − c`, `C − c` with the edge functions as weights; Jensen for `|·|²` -/
theorem inTri_in_disc (c : P K) (r : K) (A B C p : P K) (hA : OnCircle c r A) (hB : OnCircle c r B)
    (hC : OnCircle c r C) (hD : (B - A).cross (C - A) ≠ 0) (h : inTri A B C p) :
    (p - c).sqLen ≤ r * r := by
  obtain ⟨hsum, hx, hy⟩ := bary_coords A B C p c
  obtain ⟨q1, q2, q3⟩ := inTri_products h
  have hJ := Hull.comb3_sq_le _ _ _ (A.x - c.x) (A.y - c.y) (B.x - c.x) (B.y - c.y) (C.x - c.x) (C.y - c.y) q1 q2 q3
  simp only [OnCircle] at hA hB hC
  rw [← hx, ← hy, hA, hB, hC] at hJ
  refine le_of_mul_le_mul_left ?_ (mul_self_pos.2 hD)
  show _ * ((p.x - c.x) * (p.x - c.x) + (p.y - c.y) * (p.y - c.y)) ≤ _
  linear_combination hJ + (((B - A).cross (p - A) + (C - B).cross (p - B) + (A - C).cross (p - C)
    + (B - A).cross (C - A)) * (r * r)) * hsum

end Lyon.C03c
