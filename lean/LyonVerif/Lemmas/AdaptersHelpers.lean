/-
  Helper lemmas for C16 about `Model/Path/AdaptersHelpers.lean`: the expansions of the PROVIDED
  methods of `PathBuilder` — protocol state (every `add_*` helper is empty or one complete
  sub-path: read off C03's `helpers_wellnested` family, `Props/C03b.lean`), attribute counts, the
  `NoAttributes` forwarding, point-parameter helpers under a map.
-/
import LyonVerif.Model.Path.AdaptersHelpers
import LyonVerif.Lemmas.Adapters
import LyonVerif.Lemmas.Trace
import LyonVerif.Props.C03b


namespace Lyon.Adapt
open Lyon Lyon.Path Lyon.Scalar

section Generic
variable {π π' A B : Type}

theorem nestState_withAttr (a : B) (s : Bool) (l : List (Call π A)) :
    nestState s (l.map (withAttr a)) = nestState s l :=
  nestState_map_step _ (fun b c => by cases b <;> cases c <;> rfl) s l

theorem withAttr_withAttr {C : Type} (a : B) (b : C) (c : Call π A) :
    withAttr b (withAttr a c) = withAttr b c := by cases c <;> rfl

theorem noAttrCall_withAttr {C : Type} (a : B) (c : Call π A) :
    noAttrCall (B := C) (withAttr a c) = withAttr ([] : List C) c := by cases c <;> rfl

theorem mapCall_withAttr (g : π → π') (a : B) (c : Call π A) :
    mapCall g (withAttr a c) = withAttr a (mapCall g c) := by cases c <;> rfl

theorem attrsLen_append (n : Nat) (l1 l2 : List (Call π (List A))) :
    attrsLen n (l1 ++ l2) = (attrsLen n l1 && attrsLen n l2) := by
  induction l1 with
  | nil => simp [attrsLen]
  | cons c r ih => cases c <;> simp [attrsLen, ih, Bool.and_assoc]

theorem attrsLen_withAttr (n : Nat) (a : List A) (h : a.length = n) (l : List (Call π B)) :
    attrsLen n (l.map (withAttr a)) = true := by
  induction l with
  | nil => rfl
  | cons c r ih => cases c <;> simp [attrsLen, withAttr, ih, h]

end Generic

section Cmds
variable {α : Type} [Scalar α] [Transc α]

/-- an `add_*` helper (and the concatenation mark) expands to nothing or to one complete
sub-path -/
theorem nestState_expand_shape (c : Cmd α) (h : c.role = .shape) :
    nestState false c.expand = some false := by
  have hw := fun (l : PathShapes.Calls α) (h : WellNested l) => (wellNestedFrom_iff_nestState false l).1 h
  cases c with
  | prim k => cases k <;> simp [Cmd.role, callRole] at h
  | close => simp [Cmd.role] at h
  | pathEvent e a => cases e <;> simp [Cmd.role, eventRole] at h
  | event e => cases e <;> simp [Cmd.role, eventRole] at h
  | polygon pts closed a =>
    simpa [Cmd.expand, nestState_withAttr] using hw _ (C03b.addPolygon_wellNested pts closed)
  | point p a => rfl
  | segment p q a => rfl
  | rectangle mn mx w a =>
    simpa [Cmd.expand, nestState_withAttr] using hw _ (C03b.addRectangle_single mn mx w).wellNested
  | roundedRectangle mn mx r w a =>
    simpa [Cmd.expand, nestState_withAttr] using
      hw _ (C03b.addRoundedRectangle_single mn mx r w).wellNested
  | circle c r w a =>
    simpa [Cmd.expand, nestState_withAttr] using hw _ (C03b.addCircle_single c r w).wellNested
  | ellipse c radii xrot w a =>
    simpa [Cmd.expand, nestState_withAttr] using hw _ (C03b.addEllipse_single c radii xrot w).wellNested
  | cut => rfl

/-- `close`, `path_event`, `event` and the primitives are ONE primitive call of the same role -/
theorem expand_single (c : Cmd α) (h : c.role ≠ .shape) :
    ∃ k, c.expand = [k] ∧ callRole k = c.role := by
  cases c with
  | prim k => exact ⟨k, rfl, rfl⟩
  | close => exact ⟨_, rfl, rfl⟩
  | pathEvent e a => cases e <;> exact ⟨_, rfl, rfl⟩
  | event e => cases e <;> exact ⟨_, rfl, rfl⟩
  | _ => simp [Cmd.role] at h

theorem nestState_expandProg (s : Bool) (cmds : List (Cmd α))
    (h : cmdsNestedFrom s cmds = true) : nestState s (expandProg cmds) = some false := by
  induction cmds generalizing s with
  | nil => cases s <;> simp_all [cmdsNestedFrom, expandProg, nestState]
  | cons c r ih =>
    simp only [expandProg, List.flatMap_cons] at ih ⊢
    unfold cmdsNestedFrom at h
    cases hr : c.role with
    | shape =>
      simp only [hr, Bool.and_eq_true, Bool.not_eq_true'] at h
      obtain ⟨hs, h⟩ := h
      subst hs
      exact nestState_append_of (nestState_expand_shape c hr) (ih false h)
    | _ =>
      -- one primitive call of that role
      simp only [hr, Bool.and_eq_true, Bool.not_eq_true'] at h
      obtain ⟨hs, h⟩ := h
      subst hs
      obtain ⟨k, hk, hkr⟩ := expand_single c (by simp [hr])
      rw [hk]
      cases k <;> simp_all [callRole, nestState]

theorem attrsLen_expand (n : Nat) (c : Cmd α) (h : c.attrsLen n = true) :
    attrsLen n c.expand = true := by
  cases c with
  | prim k => simpa [Cmd.attrsLen, Cmd.expand] using h
  | close => rfl
  | pathEvent e a =>
    cases e <;> simp_all [Cmd.attrsLen, Cmd.expand, pathEventCall, attrsLen, eventRole]
  | event e => simpa [Cmd.attrsLen, Cmd.expand] using h
  | point p a => simp_all [Cmd.attrsLen, Cmd.expand, attrsLen]
  | segment p q a => simp_all [Cmd.attrsLen, Cmd.expand, attrsLen]
  | cut => rfl
  | _ => exact attrsLen_withAttr n _ (by simpa [Cmd.attrsLen] using h) _

theorem attrsLen_expandProg (n : Nat) (cmds : List (Cmd α))
    (h : ∀ c ∈ cmds, c.attrsLen n = true) : attrsLen n (expandProg cmds) = true := by
  induction cmds with
  | nil => rfl
  | cons c r ih =>
    simp only [expandProg, List.flatMap_cons, attrsLen_append, Bool.and_eq_true] at ih ⊢
    exact ⟨attrsLen_expand n c (h c (by simp)), ih fun c hc => h c (by simp [hc])⟩

/-- `NoAttributes<B>`'s inherent `add_x(..)` (forwarding to `B::add_x(.., NO_ATTRIBUTES)`) sends
what `NoAttributes<B>`'s `PathBuilder` impl sends for the default body of `add_x` -/
theorem expand_noAttrCmd (c : Cmd α) :
    (noAttrCmd c).expand = noAttrBuilder (B := α) c.expand := by
  cases c with
  | pathEvent e a => cases e <;> rfl
  | event e => cases e <;> rfl
  | polygon pts closed a =>
    simp [noAttrCmd, Cmd.expand, noAttrBuilder, List.map_map, Function.comp_def, noAttrCall_withAttr]
  | rectangle mn mx w a =>
    simp [noAttrCmd, Cmd.expand, noAttrBuilder, List.map_map, Function.comp_def, noAttrCall_withAttr]
  | roundedRectangle mn mx r w a =>
    simp [noAttrCmd, Cmd.expand, noAttrBuilder, List.map_map, Function.comp_def, noAttrCall_withAttr]
  | circle c r w a =>
    simp [noAttrCmd, Cmd.expand, noAttrBuilder, List.map_map, Function.comp_def, noAttrCall_withAttr]
  | ellipse c radii xrot w a =>
    simp [noAttrCmd, Cmd.expand, noAttrBuilder, List.map_map, Function.comp_def, noAttrCall_withAttr]
  | _ => rfl

/-- the helpers whose parameters are all POINTS (those may be called with transformed
parameters: `C16.helpers_point_params_commute`) -/
def Cmd.pointParams : Cmd α → Bool
  | .rectangle .. => false
  | .roundedRectangle .. => false
  | .circle .. => false
  | .ellipse .. => false
  | _ => true

theorem expandProg_nil : expandProg ([] : List (Cmd α)) = [] := rfl

theorem expandProg_cons (c : Cmd α) (r : List (Cmd α)) :
    expandProg (c :: r) = c.expand ++ expandProg r := by
  simp [expandProg]

theorem expandProg_splitCuts (cmds : List (Cmd α)) :
    ((splitCuts cmds).map expandProg).flatten = expandProg cmds := by
  induction cmds with
  | nil => rfl
  | cons c r ih =>
    rw [expandProg_cons, ← ih]
    cases hs : splitCuts r with
    | nil => cases c <;> simp [splitCuts, hs, expandProg_cons, expandProg_nil, Cmd.expand]
    | cons h t => cases c <;> simp [splitCuts, hs, expandProg_cons, expandProg_nil, Cmd.expand]

theorem expandProg_markPieces (d : Bool) (chunks : List (List (Cmd α))) :
    ((markPieces d chunks).map fun p => expandProg p.1).flatten
      = (chunks.map expandProg).flatten := by
  induction chunks generalizing d with
  | nil => rfl
  | cons p r ih =>
    unfold markPieces
    split
    · rename_i hp
      have : p = [] := by simpa using hp
      subst this
      simp [ih, expandProg_nil]
    · simp [ih]

theorem expandProg_piecesOf (cmds : List (Cmd α)) :
    ((piecesOf cmds).map fun p => expandProg p.1).flatten = expandProg cmds := by
  rw [← expandProg_splitCuts cmds]
  unfold piecesOf
  cases splitCuts cmds with
  | nil => rfl
  | cons p0 r => simp [expandProg_markPieces]

end Cmds

end Lyon.Adapt
