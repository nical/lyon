/-
  C06b: the emission shape of the `line_to` loop of the complete stroker model on a fixed-width polyline
  `pt 0, pt 1, …` without merged points and without folding joins.

  `CInv e pt k st a b`: after `line_to (pt k)` the window holds the point `k-1` (a join, or the first
  point) and the point `k`; the output contains, with their positions, the edge quads between
  the joins `1 … k-1` and their join triangles; the vertices the NEXT edge quad will use are known.
-/
import LyonVerif.Lemmas.StrokeCoverShape


namespace Lyon.C06b
open Lyon Scalar Lyon.Stroke Lyon.Stroke.Full Lyon.C05 Lyon.C05b Lyon.C05c

section
variable {K : Type} [Field K] [LinearOrder K] [IsStrictOrderedRing K] [Transc K]

/-- the window part of the invariant (`TInv` of `Lemmas/StrokeIdxTris.lean` without the vertex / triangle count, which
does not hold with round joins); it says nothing about the newest point `b`: that `b` is fresh is a hypothesis of the
step, so that `close`'s step towards the already computed second point is a step like any other -/
structure TInvR (st : St K) (a b : EP K) : Prop where
  wf : WF st.buf
  two : st.buf.lastTwo = some (a, b)
  first : st.buf.count = 2 → a.foldPos = false ∧ a.foldNeg = false
  full : st.buf.count > 2 → Sides2 st.out.nextId a.ids
    ∧ ∃ f0 f1, st.firsts = [f0, f1] ∧ f0.foldPos = false ∧ f0.foldNeg = false ∧ Sides2 st.out.nextId f1.ids

/-- the loop invariant after `line_to (pt k)`, window `(a, b)` = the points `k-1`, `k`.  `cnt`: the window holds two
records after the second point and three from then on.  `first1`, `first2`: what `end` / `close` will read of the first two
points - the first point's record as `begin` made it, and from `k ≥ 2` the second point's committed record in `firsts`
with the positions of its `prev` vertices (the quad of the first edge is emitted last, from these).  `ageo`: the
vertices the NEXT edge quad starts from.  `quads`, `joins`, `only`: `Emitted` up to the join `k-1` -/
structure CInv (e : Env K) (pt : Nat → P K) (k : Nat) (st : St K) (a b : EP K) : Prop where
  t : TInvR st a b
  next : st.out.nextId = st.out.verts.length
  apos : a.position = pt (k - 1)
  bpos : b.position = pt k
  k1 : 1 ≤ k
  cnt : st.buf.count = if k = 1 then 2 else 3
  first1 : k = 1 → a = fPt e pt
  first2 : 2 ≤ k → ∃ f1, st.firsts = [fPt e pt, f1] ∧ EP.geo f1 = EP.geo (jEP e pt 1) ∧ f1.position = pt 1
    ∧ PosAt st.out f1.pos.prevVertex (sPrev (jEP e pt 1).pos) ∧ PosAt st.out f1.neg.prevVertex (sPrev (jEP e pt 1).neg)
  ageo : 2 ≤ k → EP.geo a = EP.geo (jEP e pt (k - 1))
    ∧ PosAt st.out a.neg.nextVertex (sNext (jEP e pt (k - 1)).neg)
    ∧ PosAt st.out a.pos.nextVertex (sNext (jEP e pt (k - 1)).pos)
  quads : ∀ i, 1 ≤ i → i + 1 < k → EmQuadJ st.out (jEP e pt i) (jEP e pt (i + 1))
  joins : ∀ i, 1 ≤ i → i < k → EmJoin st.out (jEP e pt i)
  only : ∀ t ∈ st.out.tris, (∃ i, 1 ≤ i ∧ i + 1 < k ∧ TriIn st.out (quadSet (jEP e pt i) (jEP e pt (i + 1))) t)
    ∨ (∃ i, 1 ≤ i ∧ i < k ∧ TriIn st.out (joinSet (jEP e pt i)) t)
    ∨ (∃ i, 1 ≤ i ∧ i < k ∧ TriFan st.out (joinSet (jEP e pt i)) (pt i) (e.hwFw * e.hwFw) t)

/-- one step keeps the invariant: the join point `b` is fresh, the next point only has to sit at `pt (k+1)` -/
theorem fwStep_cinv_gen {e : Env K} (hj : RoundOK e) (hw0 : e.hwFw ≠ 0) {pt : Nat → P K} {k : Nat}
    {st : St K} {a b : EP K} (hI : CInv e pt k st a b)
    (hbf : Fresh e b) (hbfp : b.foldPos = false) (hbfn : b.foldNeg = false)
    (next : EP K) (hnp : next.position = pt (k + 1))
    (hfar : pointsAreTooClose e.thr (pt k) (pt (k + 1)) = false)
    (hnf : noFoldAt e (pt (k - 1)) (pt k) (pt (k + 1))) :
    ∃ b', CInv e pt (k + 1) (fwStep e st next).1 b' next
      ∧ Ext st.out (fwStep e st next).1.out ∧ (fwStep e st next).2 = true ∧ b'.halfWidth = e.hwFw := by
  have hk1 := hI.k1
  have hfar' : pointsAreTooClose e.thr b.position next.position = false := by rw [hI.bpos, hnp]; exact hfar
  have hnf' : noFoldAt e a.position b.position next.position := by rw [hI.apos, hI.bpos, hnp]; exact hnf
  have hlast := hI.t.wf.lastTwo_last _ _ hI.t.two
  have hclose : st.tooClose e.thr next.position = false := by rw [tooClose_eq hlast]; exact hfar'
  -- the window is full exactly from the second join on
  have hk2 : st.buf.count > 2 ↔ 2 ≤ k := by
    rw [hI.cnt]; split_ifs <;> omega
  -- the shape of the join, in the names `CInv` uses
  have hgeo1 : EP.geo (joinSidesFw e.ix a b next e.o.miterLimit e.hwFw) = EP.geo (jEP e pt k) := by
    unfold jEP
    exact joinSidesFw_geo_congr e.ix _ _ (by rw [hI.apos]; rfl) (by rw [hI.bpos]; rfl) (by rw [hbf.lj]; rfl) (by rw [hnp]; rfl)
      (by rw [hbf.ps]; rfl) (by rw [hbf.ns]; rfl)
  obtain ⟨j2, o', ej, hS⟩ := fwJoin_shape hj st a b next hbf hbfp hbfn hnf' hw0 hI.next (jEP e pt (k - 1)) (jEP e pt k) hgeo1
    ((jEP_position e pt k).trans hI.bpos.symm) (jEP_hw e pt k)
    (fun h3 => ⟨(hI.t.full h3).1, (hI.ageo (hk2.mp h3)).2⟩)
  have hgeo2 : EP.geo j2 = EP.geo (jEP e pt k) := by
    simp only [EP.geo, sgeo, hS.gPos.1, hS.gPos.2.1, hS.gPos.2.2, hS.gNeg.1, hS.gNeg.2.1, hS.gNeg.2.2]
  -- the window after the step
  obtain ⟨bb2, hstate, hwf2, hlt2, hcnt2⟩ := fwStep_of_join hI.t.wf hI.t.two hfar' ej
  have hc2 := WF.lastTwo_count _ _ hI.t.two
  have hbuf : (fwStep e st next).1.buf = bb2 := by rw [hstate]
  have hout : (fwStep e st next).1.out = o' := by rw [hstate]
  have hfirsts : (fwStep e st next).1.firsts = if st.buf.count == 2 then [a, j2] else st.firsts := by rw [hstate]
  have hcnt : (fwStep e st next).1.buf.count = 3 := by rw [hbuf]; exact hcnt2
  have hle : st.out.nextId ≤ o'.nextId := by rw [hI.next, hS.next]; exact hS.ext.len_le
  have hT : TInvR (fwStep e st next).1 j2 next := by
    refine ⟨by rw [hbuf]; exact hwf2, by rw [hbuf]; exact hlt2, fun h => by omega, fun _ => ?_⟩
    rw [hout, hfirsts]
    refine ⟨hS.sides, ?_⟩
    by_cases h2 : st.buf.count = 2
    · obtain ⟨r1, r2⟩ := hI.t.first h2
      simp only [h2, beq_self_eq_true, if_true]
      exact ⟨a, j2, rfl, r1, r2, hS.sides⟩
    · have hne : (st.buf.count == 2) = false := by simpa using h2
      obtain ⟨_, f0, f1, ef, g1, g2, g3⟩ := hI.t.full (by omega)
      simp only [hne, Bool.false_eq_true, if_false]
      exact ⟨f0, f1, ef, g1, g2, g3.mono hle⟩
  -- from here on only the properties of the committed record matter, not its term
  obtain ⟨b', hb'⟩ : ∃ b', b' = j2 := ⟨_, rfl⟩
  rw [← hb'] at hT hfirsts hgeo2 hS
  refine ⟨b', ⟨hT, by rw [hout]; exact hS.next, by rw [hS.pos, jEP_position]; rfl, hnp, by omega, ?_, ?_, ?_, ?_, ?_, ?_, ?_⟩,
    by rw [hout]; exact hS.ext, by rw [fwStep_eq_join hclose hI.t.two],
    hS.hw.trans (jEP_hw e pt k)⟩
  · rw [hcnt, if_neg (by omega)]
  · intro h; omega
  · intro _
    rw [hfirsts, hout]
    by_cases hk : k = 1
    · have hc2 : st.buf.count = 2 := by rw [hI.cnt, if_pos hk]
      simp only [hc2, beq_self_eq_true, if_true]
      subst hk
      exact ⟨b', by rw [hI.first1 rfl], hgeo2, by rw [hS.pos, jEP_position], hS.pPosPrev, hS.pNegPrev⟩
    · have hc3 : st.buf.count = 3 := by rw [hI.cnt, if_neg hk]
      obtain ⟨f1, hf, g, gp, p1, p2⟩ := hI.first2 (by omega)
      simp only [hc3]
      exact ⟨f1, hf, g, gp, p1.ext hS.ext, p2.ext hS.ext⟩
  · intro _
    rw [hout]
    exact ⟨hgeo2, hS.pNegNext, hS.pPosNext⟩
  · intro i hi1 hi2
    rw [hout]
    by_cases hik : i + 1 < k
    · exact (hI.quads i hi1 hik).ext hS.ext
    · obtain rfl : k = i + 1 := by omega
      exact hS.edge (hk2.mpr (by omega))
  · intro i hi1 hi2
    rw [hout]
    by_cases hik : i < k
    · exact (hI.joins i hi1 hik).ext hS.ext
    · obtain rfl : i = k := by omega
      exact ⟨hS.joinNeg, hS.joinPos⟩
  · intro t ht
    rw [hout] at ht ⊢
    obtain ⟨ts, ets, hts⟩ := hS.trisNew
    rw [ets] at ht
    rcases List.mem_append.mp ht with ht | ht
    · rcases hI.only t ht with ⟨i, a1, a2, a3⟩ | ⟨i, a1, a2, a3⟩ | ⟨i, a1, a2, a3⟩
      · exact Or.inl ⟨i, a1, by omega, a3.ext hS.ext⟩
      · exact Or.inr (Or.inl ⟨i, a1, by omega, a3.ext hS.ext⟩)
      · exact Or.inr (Or.inr ⟨i, a1, by omega, a3.ext hS.ext⟩)
    · rcases hts t ht with ⟨h3, hq⟩ | hq | hq
      · have := hk2.mp h3
        refine Or.inl ⟨k - 1, by omega, by omega, ?_⟩
        rw [show k - 1 + 1 = k by omega]; exact hq
      · exact Or.inr (Or.inl ⟨k, hk1, by omega, hq⟩)
      · refine Or.inr (Or.inr ⟨k, hk1, by omega, ?_⟩)
        rw [jEP_position, jEP_hw] at hq; exact hq

theorem feed_cinv {e : Env K} (hj : RoundOK e) (hw0 : e.hwFw ≠ 0) {pt : Nat → P K} (m : Nat) :
    ∀ (k : Nat) (st : St K) (a b : EP K), CInv e pt k st a b →
      Fresh e b → b.foldPos = false → b.foldNeg = false →
      (∀ i, k ≤ i → i < k + m → pointsAreTooClose e.thr (pt i) (pt (i + 1)) = false) →
      (∀ i, k ≤ i → i < k + m → noFoldAt e (pt (i - 1)) (pt i) (pt (i + 1))) →
      ∃ a' b', CInv e pt (k + m) ((restPts pt (k + 1) m).foldl (fun s q => (fwStep e s (linePt e q)).1) st) a' b'
        ∧ Fresh e b' ∧ b'.foldPos = false ∧ b'.foldNeg = false := by
  induction m with
  | zero => intro k st a b hI hbf hbfp hbfn _ _; exact ⟨a, b, by simpa [restPts] using hI, hbf, hbfp, hbfn⟩
  | succ m ih =>
    intro k st a b hI hbf hbfp hbfn hfar hnf
    obtain ⟨b', h1, _⟩ := fwStep_cinv_gen hj hw0 hI hbf hbfp hbfn (linePt e (k + 1, pt (k + 1))) rfl
      (hfar k (le_refl _) (by omega)) (hnf k (le_refl _) (by omega))
    obtain ⟨a'', b'', h2⟩ := ih (k + 1) _ _ _ h1 (fresh_mk' e _ _ _) rfl rfl (fun i h1 h2 => hfar i (by omega) (by omega))
      (fun i h1 h2 => hnf i (by omega) (by omega))
    refine ⟨a'', b'', ?_⟩
    rw [restPts_succ, List.foldl_cons]
    have : k + (m + 1) = k + 1 + m := by omega
    rw [this]; exact h2

/-- the invariant after `begin (pt 0)`, `line_to (pt 1)`, …, `line_to (pt n)`, from the state `st2` after the first two
points; `c` is the `close` flag `end` folds into `may_need_empty_cap` -/
theorem loop_cinv {e : Env K} (hj : RoundOK e) (hw0 : e.hwFw ≠ 0) {pt : Nat → P K} {n : Nat} (hn : 1 ≤ n)
    {st2 : St K} (hwf2 : WF st2.buf) (hab : st2.buf.lastTwo = some (fPt e pt, secondPt e 0 1 (pt 0) (pt 1)))
    (hc2 : st2.buf.count = 2) (hout : st2.out = Out.empty 0)
    (hfar : ∀ i, 1 ≤ i → i < n → pointsAreTooClose e.thr (pt i) (pt (i + 1)) = false)
    (hnf : ∀ i, 1 ≤ i → i < n → noFoldAt e (pt (i - 1)) (pt i) (pt (i + 1))) (c : Bool) :
    ∃ a b, CInv e pt n
        { (restPts pt 2 (n - 1)).foldl (fun s q => (fwStep e s (linePt e q)).1) st2 with
          mayNeedEmptyCap := ((restPts pt 2 (n - 1)).foldl (fun s q => (fwStep e s (linePt e q)).1) st2).mayNeedEmptyCap
            || (c && ((restPts pt 2 (n - 1)).foldl (fun s q => (fwStep e s (linePt e q)).1) st2).buf.count == 1) } a b
      ∧ Fresh e b ∧ b.foldPos = false ∧ b.foldNeg = false := by
  have hI1 : CInv e pt 1 st2 (fPt e pt) (secondPt e 0 1 (pt 0) (pt 1)) :=
    ⟨⟨hwf2, hab, fun _ => ⟨rfl, rfl⟩, fun h => by omega⟩, by rw [hout]; rfl, rfl, rfl, le_refl _, by simp [hc2],
      fun _ => rfl, fun h => by omega, fun h => by omega, fun i h1 h2 => by omega, fun i h1 h2 => by omega,
      fun t ht => by rw [hout] at ht; simp [Out.empty] at ht⟩
  obtain ⟨a, b, hI, hb⟩ := feed_cinv hj hw0 (n - 1) 1 st2 _ _ hI1 ⟨rfl, rfl, rfl, rfl, rfl⟩ rfl rfl
    (fun i h1 h2 => hfar i h1 (by omega)) (fun i h1 h2 => hnf i h1 (by omega))
  rw [show 1 + (n - 1) = n by omega] at hI
  -- the state differs from the fed one in `mayNeedEmptyCap` only, which no field reads: each field is its old proof
  exact ⟨a, b, { hI with t := { hI.t with } }, hb⟩

end

end Lyon.C06b
