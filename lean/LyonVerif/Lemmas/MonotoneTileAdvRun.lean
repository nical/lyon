/-
  C02 (`Props/C02f.lean` - `C02h.lean`): the invariant `Y3 seq l k tess a b` of the advanced monotone tessellator on a valid sweep
  sequence (`3`: about the triple inner tessellator, chain `a` on side `l`, other chain `b`, with `k` vertices fed; `YA`:
  the same for a whole `Adv` state, left chain first; the letter is a label only): potential bookkeeping `PInvL`, inner
  tessellator `TInv`, the two chains `SideChain`, the order of chain ends and heads.  It is checked against the two moves of
  the schedule (`Y3.ff`, `Y3.push`; `Lemmas/MonotoneAdvWalk.lean`).  Under `ChordClear` of the two chains every forward
  to the inner tessellator is flip-free and the potential `Phi` (`Lemmas/MonotoneAdvArea.lean`) does not grow
  (with the lower bound proved there it is constant): `PhiA` grows by at most the triangle `(lastLeft, p, lastRight)`
  per vertex and `end` closes the polygon without excess.  If every buffered chain of every reached state is chord-clear (`ChordClearRun`), the area sum of
  `Adv.run` is at most the polygon's shoelace area (`adv_run_area_le`), hence equal to it (with `adv_run_area`).
  `advState seq i` is the state after `i` middle vertices (`advState_zero`, `advState_succ`; `adv_run_eq_end`: the run
  is `end` of the last one); the bound is a forward invariant along it: potential plus the area still to come
  (`accFrom`) is at most the polygon's area.
-/
import LyonVerif.Lemmas.MonotoneTileAdvChain

set_option linter.unusedSectionVars false

namespace Lyon.C02f
open Lyon Lyon.Mono Lyon.C02 Lyon.C02c

section Geometry
variable {K : Type} [Field K] [LinearOrder K] [IsStrictOrderedRing K]

variable (seq : List (P K × Bool))

/-- `oab`, `oba`: a chain of two ids ends after the head of the other chain; `fwd_tinv` (`hvb`) and `beyond_in_opp` (`hua`)
ask it of the vertex that is forwarded -/
structure Y3 (l : Bool) (k : Nat) (tess : Basic K) (a b : SideEv K) : Prop where
  p3 : PInvL (posOf seq) tess l a.events a.last b.events b.last
  tinv : TInv seq tess l (headId a) (headId b)
  ca : SideChain seq l k a
  cb : SideChain seq (!l) k b
  oab : 2 ≤ a.events.length → headId b < a.last.id
  oba : 2 ≤ b.events.length → headId a < b.last.id

theorem Y3.symm {l : Bool} {k : Nat} {tess : Basic K} {a b : SideEv K} (h : Y3 seq l k tess a b) :
    Y3 seq (!l) k tess b a :=
  { p3 := PInvL.symm h.p3, tinv := h.tinv.symm, ca := h.cb, cb := by rw [Bool.not_not]; exact h.ca,
    oab := h.oba, oba := h.oab }

theorem SideChain.ends_ne {l : Bool} {k : Nat} {a b : SideEv K} (hca : SideChain seq l k a)
    (hcb : SideChain seq (!l) k b) (h2 : 2 ≤ b.events.length) : a.last.id ≠ b.last.id := by
  obtain ⟨hm, hhl⟩ := hcb.last_tail seq h2
  have hsb := hcb.side _ hm
  intro e
  by_cases ha : 2 ≤ a.events.length
  · have hsa := hca.side _ (hca.last_tail seq ha).1
    rw [e, hsb] at hsa
    revert hsa; cases l <;> simp
  · obtain ⟨_, hh⟩ := hca.single_head seq (by omega)
    rcases hca.hside with g | g
    · rw [hh, e] at g; omega
    · rw [hh, e, hsb] at g
      revert g; cases l <;> simp

theorem SideChain.last_lt_of_after (hval : SweepValid seq) {l : Bool} {k : Nat} {a b : SideEv K}
    (hca : SideChain seq l k a) (hcb : SideChain seq (!l) k b) (hk : k ≤ seq.length)
    (haft : isAfter a.last.pos b.last.pos = true) : b.last.id < a.last.id := by
  have hbn : b.last.id < seq.length := by have := hcb.lt _ (hcb.last_mem seq); omega
  rw [isAfter_iff, hca.good, hcb.good] at haft
  exact id_lt_of_after seq hval hbn haft

/-- the order of two chain ends as `flush` sites know it, in ids -/
theorem SideChain.ord_of_isAfter (hval : SweepValid seq) {l : Bool} {k : Nat} {a b : SideEv K}
    (hca : SideChain seq l k a) (hcb : SideChain seq (!l) k b) (hk : k ≤ seq.length)
    (h : 2 ≤ b.events.length → isAfter a.last.pos b.last.pos = false) :
    2 ≤ b.events.length → a.last.id < b.last.id := fun g => by
  have han : a.last.id < seq.length := by have := hca.lt _ (hca.last_mem seq); omega
  have hna : ¬ After (posOf seq a.last.id) (posOf seq b.last.id) := by
    rw [← hca.good, ← hcb.good, ← isAfter_iff, h g]; simp
  have := id_le_of_not_after seq hval han hna
  have := hca.ends_ne seq hcb g
  omega

theorem Y3.congr {l : Bool} {k : Nat} {tess : Basic K} {a b a' b' : SideEv K} (h : Y3 seq l k tess a b)
    (hae : a'.events = a.events) (hal : a'.last = a.last) (hbe : b'.events = b.events) (hbl : b'.last = b.last) :
    Y3 seq l k tess a' b' :=
  { p3 := by rw [hae, hal, hbe, hbl]; exact h.p3
    tinv := by simp only [headId, hae, hbe]; exact h.tinv
    ca := h.ca.congr seq hae hal
    cb := h.cb.congr seq hbe hbl
    oab := by simp only [headId, hae, hal, hbe]; exact h.oab
    oba := by simp only [headId, hae, hbl, hbe]; exact h.oba }

/-- **flush and forward of a chord-clear chain `a`** (≥ 2 ids, not ending after a buffered `b`): no fan triangle of the
inner tessellator is swapped (`fwd_tinv`), so the potential does not grow; `a'` is the restarted chain -/
theorem Y3.ff (hval : SweepValid seq) {l : Bool} {k : Nat} {t : Basic K} {a b : SideEv K} (hk : k ≤ seq.length)
    (h : Y3 seq l k t a b) (hl : 2 ≤ a.events.length) (hca : ChordClear seq l a)
    (hord : 2 ≤ b.events.length → a.last.id < b.last.id) (a' : SideEv K) (he : a'.events = [a.last.id])
    (hla : a'.last = a.last) :
    Y3 seq l k (ffTess t a (!l)) a' b ∧
      Phi (posOf seq) (ffTess t a (!l)) l a'.events a'.last.pos b.events b.last.pos ≤
        Phi (posOf seq) t l a.events a.last.pos b.events b.last.pos := by
  obtain ⟨hm, hhl⟩ := h.ca.last_tail seq hl
  have han : a.last.id < seq.length := by have := h.ca.lt _ (h.ca.last_mem seq); omega
  obtain ⟨t1, nf⟩ := fwd_tinv seq hval (t.pushTris (fanOf a (!l))) l (headId a) (headId b) a.last
    (h.tinv.pushTris seq _) h.ca.good h.p3.sidea (h.ca.side _ hm) han hhl (h.oab hl)
    (fun _ => chord_of_chain seq hval h.ca hk hl hca)
  have hha : headId a' = a.last.id := by simp [headId, he]
  obtain ⟨p3', _, hphi⟩ := flush_phi (l := l) (a := a) (b := b) h.p3
  refine ⟨{ p3 := by rw [he, hla]; exact p3'
            tinv := by rw [hha]; exact t1
            ca := h.ca.restart seq hl he hla
            cb := h.cb
            oab := fun h2 => by rw [he] at h2; simp at h2
            oba := fun h2 => by rw [hha]; exact hord h2 }, ?_⟩
  rw [he, hla]
  exact (hphi nf).le

/-- `Y3.ff` for the other chain `b`, read on side `l` again -/
theorem Y3.ff_opp (hval : SweepValid seq) {l : Bool} {k : Nat} {t : Basic K} {a b : SideEv K} (hk : k ≤ seq.length)
    (h : Y3 seq l k t a b) (hl : 2 ≤ b.events.length) (hcb : ChordClear seq (!l) b)
    (hord : 2 ≤ a.events.length → b.last.id < a.last.id) (b' : SideEv K) (he : b'.events = [b.last.id])
    (hlb : b'.last = b.last) :
    Y3 seq l k (ffTess t b l) a b' ∧
      Phi (posOf seq) (ffTess t b l) l a.events a.last.pos b'.events b'.last.pos ≤
        Phi (posOf seq) t l a.events a.last.pos b.events b.last.pos := by
  obtain ⟨y', hp'⟩ := (Y3.symm seq h).ff seq hval hk hl hcb hord b' he hlb
  rw [Bool.not_not, Phi_symm, Phi_symm] at hp'
  exact ⟨by simpa using Y3.symm seq y', hp'⟩

/-- buffering vertex `k` on chain `a`: the potential grows by exactly the triangle `(lastLeft, p, lastRight)` -/
theorem Y3.push {l : Bool} {k : Nat} {t : Basic K} {a b : SideEv K} (h : Y3 seq l k t a b) (p : P K)
    (hp : posOf seq k = p) (hs : sideAt seq k = l) :
    Y3 seq l (k + 1) t (a.push ⟨p, k, l⟩) b ∧
      Phi (posOf seq) t l (a.push ⟨p, k, l⟩).events p b.events b.last.pos =
        Phi (posOf seq) t l a.events a.last.pos b.events b.last.pos +
          wind (outL l a.last.pos b.last.pos) p (outR l a.last.pos b.last.pos) := by
  obtain ⟨q1, q2⟩ := push_pot (l := l) h.p3 ⟨p, k, l⟩ hp.symm rfl
  have hheadA := headId_push a ⟨p, k, l⟩ h.ca.ne
  exact ⟨{ p3 := q1
           tinv := by rw [hheadA]; exact h.tinv
           ca := h.ca.push seq p hp hs
           cb := h.cb.mono seq (by rw [hs]; cases l <;> simp)
           oab := fun _ => h.cb.lt _ (by rw [h.cb.head_mem seq]; simp)
           oba := fun h2 => by rw [hheadA]; exact h.oba h2 }, q2⟩

/-- **one `vertex` call** on the triple (side `a` receives the vertex `k`): neither flush raises the potential and both
leave the two `last` vertices where they were, so the push adds exactly the triangle `(last a, p, last b)` -/
theorem stepSides_y (hval : SweepValid seq) (tess : Basic K) (a b : SideEv K) (dx : K) (p : P K) (l : Bool) (k : Nat)
    (hk : k + 1 < seq.length) (h : Y3 seq l k tess a b) (hp : posOf seq k = p) (hs : sideAt seq k = l)
    (hca : ChordClear seq l a) (hcb : ChordClear seq (!l) b) :
    Y3 seq l (k + 1) (stepSides tess a b dx p k l).1 (stepSides tess a b dx p k l).2.1
        (stepSides tess a b dx p k l).2.2 ∧
      Phi3 (posOf seq) l (stepSides tess a b dx p k l) ≤
        Phi3 (posOf seq) l (tess, a, b) + wind (outL l a.last.pos b.last.pos) p (outR l a.last.pos b.last.pos) := by
  refine stepSides_ind (J := fun t' a' b' => Y3 seq l k t' a' b' ∧ ChordClear seq l a' ∧ ChordClear seq (!l) b' ∧
      Phi (posOf seq) t' l a'.events a'.last.pos b'.events b'.last.pos ≤
        Phi (posOf seq) tess l a.events a.last.pos b.events b.last.pos ∧ a'.last = a.last ∧ b'.last = b.last)
    (J' := fun t' a' b' => Y3 seq l (k + 1) t' a' b' ∧ Phi (posOf seq) t' l a'.events a'.last.pos b'.events b'.last.pos ≤
        Phi (posOf seq) tess l a.events a.last.pos b.events b.last.pos +
          wind (outL l a.last.pos b.last.pos) p (outR l a.last.pos b.last.pos))
    tess a b dx p k l ⟨h, hca, hcb, le_refl _, rfl, rfl⟩ ?_ ?_ ?_
  · rintro t a' b' ⟨y, ca, cb, hphi, ea, eb⟩ hb hia
    obtain ⟨e1, e2⟩ := flushSide_restart b' l hb
    obtain ⟨y', hp'⟩ := y.ff_opp seq hval (by omega) hb cb
      (fun _ => y.ca.last_lt_of_after seq hval y.cb (by omega) hia) _ e1 e2
    exact ⟨y'.congr seq rfl rfl rfl rfl, ca.congr seq rfl rfl,
      ChordClear.short seq (by rw [e1]; simp), hp'.trans hphi, ea, e2.trans eb⟩
  · rintro t a' b' ⟨y, ca, cb, hphi, ea, eb⟩ ha ho
    obtain ⟨e1, e2⟩ := flushSide_restart a' (!l) ha
    obtain ⟨y', hp'⟩ := y.ff seq hval (by omega) ha ca (y.ca.ord_of_isAfter seq hval y.cb (by omega) ho)
      (reRef (flushSide a' (!l)).1 p l) e1 e2
    exact ⟨y'.congr seq rfl rfl rfl rfl, ChordClear.short seq (by show (flushSide a' (!l)).1.events.length < 3; rw [e1]; simp),
      cb.congr seq rfl rfl, hp'.trans hphi, e2.trans ea, eb⟩
  · rintro t' a' b' ⟨y, _, _, hphi, ea, eb⟩ _
    obtain ⟨y', q⟩ := y.push seq p hp hs
    refine ⟨y', ?_⟩
    show Phi (posOf seq) t' l (a'.push ⟨p, k, l⟩).events p b'.events b'.last.pos ≤ _
    rw [q]
    rw [ea, eb] at hphi ⊢
    linarith

def YA (k : Nat) (st : Adv K) : Prop := Y3 seq true k st.tess st.left st.right

/-- both buffered chains are chord-clear -/
def ChordClearA (st : Adv K) : Prop := ChordClear seq true st.left ∧ ChordClear seq false st.right

theorem begin_y (p0 : P K) (h0 : posOf seq 0 = p0) (hn : 0 < seq.length) : YA seq 1 (Adv.begin Adv.new p0 0) := by
  have hp := (begin_pa (posOf seq) (Adv.new (α := K)) p0 h0).1
  have hv := begin_vInv seq p0 h0
  refine { p3 := hp, tinv := ?_, ca := SideChain.apex seq rfl rfl h0.symm, cb := SideChain.apex seq rfl rfl h0.symm,
           oab := ?_, oba := ?_ }
  · refine { top := ⟨[], rfl⟩, good := hv.good, dec := by simp [Adv.begin, Basic.begin], lt := ?_, heads := ?_,
             sides := ?_, reflex := by simp [Adv.begin, Basic.begin, ReflexT] }
    · intro v hv'
      simp only [Adv.begin, Basic.begin, List.mem_singleton] at hv'
      rw [hv']; exact hn
    · intro bot hb
      simp only [Adv.begin, Basic.begin, List.getLast?_singleton, Option.some.injEq] at hb
      subst hb
      exact ⟨fun _ => ⟨rfl, rfl⟩, fun e => absurd rfl e⟩
    · intro bot hb v hv' hne
      simp only [Adv.begin, Basic.begin, List.getLast?_singleton, Option.some.injEq] at hb
      simp only [Adv.begin, Basic.begin, List.mem_singleton] at hv'
      subst hb
      rw [hv'] at hne
      exact absurd rfl hne
  · intro h2; simp [Adv.begin] at h2
  · intro h2; simp [Adv.begin] at h2

theorem vertex_y (hval : SweepValid seq) (st : Adv K) (p : P K) (k : Nat) (l : Bool) (hk : k + 1 < seq.length)
    (h : YA seq k st) (hp : posOf seq k = p) (hs : sideAt seq k = l) (hc : ChordClearA seq st) :
    YA seq (k + 1) (st.vertex p k l) ∧
      PhiA (posOf seq) (st.vertex p k l) ≤ PhiA (posOf seq) st + wind st.left.last.pos p st.right.last.pos := by
  refine vertex_walk
    (I := fun l t a b => Y3 seq l k t a b ∧ ChordClear seq l a ∧ ChordClear seq (!l) b ∧
      Phi (posOf seq) t l a.events a.last.pos b.events b.last.pos = PhiA (posOf seq) st ∧
      outL l a.last.pos b.last.pos = st.left.last.pos ∧ outR l a.last.pos b.last.pos = st.right.last.pos)
    (I' := fun l t a b => Y3 seq l (k + 1) t a b ∧ Phi (posOf seq) t l a.events a.last.pos b.events b.last.pos ≤
      PhiA (posOf seq) st + wind st.left.last.pos p st.right.last.pos)
    (fun ⟨y, ca, cb, e, eL, eR⟩ => ⟨Y3.symm seq y, cb, by rwa [Bool.not_not], by rw [Phi_symm]; exact e,
      by rw [← eL]; cases ‹Bool› <;> rfl, by rw [← eR]; cases ‹Bool› <;> rfl⟩)
    (fun ⟨y, e⟩ => ⟨Y3.symm seq y, by rw [Phi_symm]; exact e⟩) st p k l (fun t a b ⟨y, ca, cb, e, eL, eR⟩ dx _ => ?_)
    ⟨h, hc.1, hc.2, rfl, rfl, rfl⟩
  have eu : (updSide a p l).events = a.events ∧ (updSide a p l).last = a.last := by cases l <;> exact ⟨rfl, rfl⟩
  obtain ⟨s1, s2⟩ := stepSides_y seq hval t (updSide a p l) b dx p l k hk (y.congr seq eu.1 eu.2 rfl rfl) hp hs
    (ca.congr seq eu.1 eu.2) cb
  refine ⟨s1, ?_⟩
  simp only [Phi3, eu.1, eu.2, e, eL, eR] at s2
  exact s2

/-- the other chain holds one id and the inner stack's top is on side `l`: the stack spans one edge of the polygon's
chain of that side up to the bottom vertex `k`, and `SweepValid` puts the stack's vertices on the inner side of
`bot → k` -/
theorem end_side (hval : SweepValid seq) {l : Bool} {k : Nat} {tess : Basic K} {a b : SideEv K}
    (hk : k + 1 = seq.length) (h : Y3 seq l k tess a b) (hb1 : b.events.length < 2) (hside : tess.previous.left = l)
    (bot : MV K) (hb0 : tess.stack.getLast? = some bot) :
    ∀ w ∈ tess.stack, bot.id < w.id → 0 ≤ sg tess.previous.left * wind bot.pos w.pos (posOf seq k) := by
  have hbmem : bot ∈ tess.stack := List.mem_of_getLast? hb0
  obtain ⟨hpid, hbid⟩ := (h.tinv.heads bot hb0).1 hside
  obtain ⟨hbe, hbh⟩ := h.cb.single_head seq hb1
  have hak : headId a < k := h.ca.lt _ (by rw [h.ca.head_mem seq]; simp)
  have hbk : headId b < k := h.cb.lt _ (by rw [h.cb.head_mem seq]; simp)
  have hle := h.tinv.le_prev seq
  intro w hw hlt
  rw [h.tinv.good bot hbmem, h.tinv.good w hw]
  refine (hval.edge_side hlt (by have := hle w hw; omega) (by omega) (fun j hj1 hj2 => ?_) ?_ (Or.inl hk)).le
  · have := h.cb.off_side seq (j := j) (by omega) hj2 (by rw [hbe, List.mem_singleton]; omega)
    rwa [Bool.not_not, ← hside] at this
  · rw [hbid, hside]
    exact h.cb.hside

theorem end_noflip_aux (hval : SweepValid seq) {l : Bool} {k : Nat} {tess : Basic K} {a b : SideEv K}
    (hk : k + 1 = seq.length) (h : Y3 seq l k tess a b) (hb1 : b.events.length < 2) (hside : tess.previous.left = l) :
    NoFlip tess ⟨posOf seq k, k, !tess.previous.left⟩ := by
  obtain ⟨rest, bot, hst, hb0, hbmem, _, _⟩ := h.tinv.bottom seq
  have hpid := ((h.tinv.heads bot hb0).1 hside).1
  have hak : headId a < k := h.ca.lt _ (by rw [h.ca.head_mem seq]; simp)
  exact Or.inr (fan_canon seq hval h.tinv bot hb0 ⟨posOf seq k, k, !tess.previous.left⟩ rfl (by simp only; omega)
    (by simp only; omega) (end_side seq hval hk h hb1 hside bot hb0))

theorem end_noflip (hval : SweepValid seq) {l : Bool} {k : Nat} {tess : Basic K} {a b : SideEv K}
    (hk : k + 1 = seq.length) (h : Y3 seq l k tess a b) (ha1 : a.events.length < 2) (hb1 : b.events.length < 2) :
    NoFlip tess ⟨posOf seq k, k, !tess.previous.left⟩ := by
  by_cases hside : tess.previous.left = l
  · exact end_noflip_aux seq hval hk h hb1 hside
  · exact end_noflip_aux seq hval hk (Y3.symm seq h) ha1 (Bool.eq_not_of_ne hside)

/-- **`Adv.end_`**: the pending chains are forwarded in sweep order without a flip, then the inner `end` closes exactly -/
theorem end_y (hval : SweepValid seq) (st : Adv K) (k : Nat) (hk : k + 1 = seq.length) (h : YA seq k st)
    (hc : ChordClearA seq st) (pe : P K) (hpe : posOf seq k = pe) :
    sumW (posOf seq) (st.end_ pe k).tris ≤
      PhiA (posOf seq) st + wind st.left.last.pos pe st.right.last.pos := by
  obtain ⟨t, a, b, ⟨y, _, _, hphi, ea, eb⟩, ha, hb, hperm⟩ := end_walk (J := fun t a b =>
      Y3 seq true k t a b ∧ ChordClear seq true a ∧ ChordClear seq false b ∧
      Phi (posOf seq) t true a.events a.last.pos b.events b.last.pos ≤ PhiA (posOf seq) st ∧
      a.last = st.left.last ∧ b.last = st.right.last) st pe k ⟨h, hc.1, hc.2, le_refl _, rfl, rfl⟩
    (fun t a b ⟨y, ca, cb, hp, ea, eb⟩ hl ho => by
      obtain ⟨e1, e2⟩ := flushSide_restart a false hl
      obtain ⟨y', hp'⟩ := y.ff seq hval (by omega) hl ca (y.ca.ord_of_isAfter seq hval y.cb (by omega) ho) _ e1 e2
      exact ⟨y', ChordClear.short seq (by rw [e1]; simp), cb, hp'.trans hp, e2.trans ea, eb⟩)
    (fun t a b ⟨y, ca, cb, hp, ea, eb⟩ hl ho => by
      obtain ⟨e1, e2⟩ := flushSide_restart b true hl
      obtain ⟨y', hp'⟩ := y.ff_opp seq hval (by omega) hl cb
        (fun g => y.ca.last_lt_of_after seq hval y.cb (by omega) (ho g)) _ e1 e2
      exact ⟨y', ca, ChordClear.short seq (by rw [e1]; simp), hp'.trans hp, ea, e2.trans eb⟩)
  rw [sumW_perm _ hperm, ← ea, ← eb]
  subst hpe
  exact ((finish_phi y.p3 ha hb _ k rfl).2 (end_noflip seq hval hk y ha hb)).le.trans (by linarith)

/-- the middle vertices of a sweep sequence (everything but the apex and the bottom vertex) -/
def midsOf (seq : List (P K × Bool)) : List (P K × Bool) := seq.tail.take (seq.tail.length - 1)

theorem midsOf_length : (midsOf seq).length = seq.length - 2 := by
  simp only [midsOf, List.length_take, List.length_tail]; omega

/-- the state after `i` middle vertices -/
noncomputable def advState (i : Nat) : Adv K := afeed (Adv.begin Adv.new (posOf seq 0) 0) 1 ((midsOf seq).take i)

theorem advState_zero : advState seq 0 = Adv.begin Adv.new (posOf seq 0) 0 := by
  simp [advState, afeed]

theorem advState_succ {i : Nat} (hi : i + 2 < seq.length) :
    advState seq (i + 1) = (advState seq i).vertex (posOf seq (i + 1)) (i + 1) (sideAt seq (i + 1)) := by
  have hlt : i + 1 < seq.length := by omega
  have hv := List.getElem?_eq_getElem hlt
  unfold advState midsOf
  rw [mids_take_succ seq i hi _ hv, afeed_snoc, posOf_of_getElem? hv, sideAt_of_getElem? hv]
  congr 1
  simp only [List.length_take, List.length_tail]; omega

theorem adv_run_eq_end (h2 : 2 ≤ seq.length) :
    Adv.run seq = ((advState seq (midsOf seq).length).end_ (posOf seq (seq.length - 1)) (seq.length - 1)).tris := by
  obtain ⟨v0, ve, e⟩ := seq_split seq h2
  rw [advState, List.take_length, midsOf]
  generalize seq.tail.take (seq.tail.length - 1) = mids at e ⊢
  subst e
  obtain ⟨_, g2, g3⟩ := split_getElem v0 ve mids
  rw [adv_run_afeed, g3, posOf_of_getElem? g2, Nat.add_comm]
  rfl

/-- **the chord-clear condition of a run**: in every state the advanced tessellator reaches while
the middle vertices are fed, both buffered chains are chord-clear (`ChordClear`) -/
def ChordClearRun : Prop :=
  ∀ i, ChordClearA seq (afeed (Adv.begin Adv.new (posOf seq 0) 0) 1 ((midsOf seq).take i))

/-- **area, advanced tessellator, upper bound**: on a valid sweep sequence whose run is
chord-clear the `wind`s of the triangles of `Adv.run` add up to at most the shoelace area — with
`adv_run_area`: exactly the shoelace area -/
theorem adv_run_area_le (h2 : 2 ≤ seq.length) (hval : SweepValid seq) (hcc : ChordClearRun seq) :
    sumW (posOf seq) (Adv.run seq) ≤ shoelaceW (polygonOf seq) := by
  have key : ∀ i, i ≤ seq.length - 2 → YA seq (i + 1) (advState seq i) ∧
      PhiA (posOf seq) (advState seq i) +
        accFrom seq (i + 1) (advState seq i).left.last.pos (advState seq i).right.last.pos ≤ shoelaceW (polygonOf seq) := by
    intro i
    induction i with
    | zero =>
      intro _
      rw [advState_zero]
      refine ⟨begin_y seq _ rfl (by omega), ?_⟩
      rw [(begin_pa (posOf seq) (Adv.new (α := K)) (posOf seq 0) rfl).2, zero_add]
      exact (accFrom_one seq h2).le
    | succ i ih =>
      intro hi
      obtain ⟨y, hle⟩ := ih (by omega)
      obtain ⟨v1, v2⟩ := vertex_y seq hval (advState seq i) _ (i + 1) _ (by omega) y rfl rfl (hcc i)
      obtain ⟨_, _, v3, v4⟩ := vertex_pa (posOf seq) (advState seq i) _ (i + 1) (sideAt seq (i + 1)) y.p3 rfl
      have hv := List.getElem?_eq_getElem (show i + 1 < seq.length by omega)
      rw [accFrom_step seq hv (by omega), ← posOf_of_getElem? hv, ← sideAt_of_getElem? hv] at hle
      rw [advState_succ seq (by omega), v3, v4]
      exact ⟨v1, by linarith⟩
  obtain ⟨y, hle⟩ := key (midsOf seq).length (midsOf_length seq).le
  have hk : (midsOf seq).length + 1 + 1 = seq.length := by rw [midsOf_length]; omega
  rw [accFrom_last seq hk] at hle
  rw [adv_run_eq_end seq h2, show seq.length - 1 = (midsOf seq).length + 1 by omega]
  exact (end_y seq hval _ _ hk y (hcc _) _ rfl).trans hle

end Geometry

end Lyon.C02f
