/-
  C14: the model's `Reversed` iterator computes the specification reversal (`reverseEvents` of
  `Lemmas/PathReversed.lean`) of a program's events, on every path in which the ids of the
  program's id program (`Lemmas/PathIds.lean`) are answered with the program's points.
  Induction over the program from its last call; the cursor arithmetic is checked against the
  widths of the calls, the current endpoint sits one endpoint block before the prefix's end.
  Second half (`evOk` … `spec_eventToCall`, for `reversed_involutive`): well-formed events whose
  endpoints carry `n` attributes (`evOk`: true of a valid program's events, kept by `revGo`) are the
  specification events of a valid program again, the one `eventToCall` reads off them.
  Mathlib-free.
-/
import LyonVerif.Lemmas.PathMore
import LyonVerif.Lemmas.PathReversed
namespace Lyon.Path
variable {S : Type} [Inhabited S]
set_option linter.unusedSectionVars false

theorem csub_add (a b : Nat) : csub (a + b) b = some a := by simp [csub]
theorem csub_zero (a : Nat) : csub a 0 = some a := by simp [csub]
theorem csub_eq (a b c : Nat) (h : a = c + b) : csub a b = some c := by subst h; simp [csub]

/-- inside a sub-path of a program whose id program resolves, the current point is the endpoint
stored one endpoint block before the end of what the program wrote -/
theorem ProgRes.cur {ep cp : Nat → Option (APt S)} {es : Nat} {pre : Prog S}
    (hpre : ProgRes ep cp (idProg es 0 pre) (pre.map aCall)) (hb : nestState false pre = some true) :
    ∃ fstp cur ci, stateAfter none (pre.map aCall) = some (fstp, cur) ∧ ep ci = some cur ∧
      ci + es = width es pre := by
  obtain ⟨⟨fstp, cur⟩, hσ⟩ := Option.isSome_iff_exists.mp
    (stateAfter_isSome (none : Option (APt S × APt S)) (pre.map aCall) true
      (by rw [nestState_map_step _ aCall_step]; exact hb))
  have hσres := (hpre.spec none none trivial).2
  rw [hσ] at hσres
  match hi : stateAfter none (idProg es 0 pre), hσres with
  | some (fi, ci), ⟨_, hci⟩ =>
    exact ⟨fstp, cur, ci, hσ, hci, by simpa using idState_cur es pre none 0 true hb (by simp) _ hi⟩

/-- `Reversed` over a program whose id program resolves in `P`: one step moves the cursor back over
the last call's slots; the ids it computes are those of the id program (`csub_eq` + `omega`), and
the previous endpoint is one endpoint block before the prefix's end (`ProgRes.cur`).  Stated over
`rp.reverse` so that the induction on `rp` peels the program's LAST call, the one `Reversed` reads
first; `fst` is the point the sub-path being read ends with, known whenever the read stands inside one -/
theorem reversedGo_ids (P : PathData S) (stride : Nat) (rp : Prog S) :
    ∀ (nc : Bool) (fst : Option (APt S)) (b : Bool),
      nestState false rp.reverse = some b →
      ProgRes P.endpointA P.ctrlA (idProg (stride + 1) 0 rp.reverse) (rp.reverse.map aCall) →
      (b = true → fst.isSome = true) →
      reversedGo P stride (emitVerbs rp.reverse).reverse (width (stride + 1) rp.reverse) nc fst
        = some (revGo (specFrom none (rp.reverse.map aCall)).reverse nc fst) := by
  induction rp with
  | nil => intro nc fst b _ _ _; simp [emitVerbs, specFrom, reversedGo, revGo]
  | cons c rp' ih =>
    intro nc fst b hn hres hfst
    simp only [List.reverse_cons] at hn hres ⊢
    rw [nestState_append] at hn
    obtain ⟨hid, hw⟩ := idProg_append (stride + 1) rp'.reverse [c] 0
    rw [hid, List.map_append] at hres
    obtain ⟨hpre, hc⟩ := hres.append_inv (by simp [idProg_length])
    rw [emitVerbs_append, List.reverse_append, hw, List.map_append, specFrom_append_state,
      List.reverse_append]
    cases hb' : nestState false rp'.reverse with
    | none => simp [hb'] at hn
    | some b' =>
      simp only [hb', Option.bind_some] at hn
      simp only [Nat.zero_add, List.map_cons, List.map_nil] at hc
      cases b' with
      | false =>
        cases c with
        | begin q a =>
          simp [nestState] at hn
          subst hn
          obtain ⟨f, rfl⟩ := Option.isSome_iff_exists.mp (hfst rfl)
          have hσ : stateAfter none (rp'.reverse.map aCall) = none := by
            simpa using stateAfter_isSome (none : Option (APt S × APt S)) (rp'.reverse.map aCall)
              false (by rw [nestState_map_step _ aCall_step]; exact hb')
          simp only [idProg, idCall, aCall] at hc
          cases hc with
          | begin hq _ =>
            simp [-List.map_reverse, hσ, emitVerbs, specFrom, aCall, reversedGo, revStep, revGo,
              nStoredPoints, width, callWidth, csub_add, hq, ih false none false hb' hpre (by simp)]
        | _ => simp [nestState] at hn
      | true =>
        obtain ⟨fstp, ⟨cur, ca⟩, ci, hσ, hci, hci'⟩ := hpre.cur hb'
        have cW : csub (width (stride + 1) rp'.reverse) (stride + 1) = some ci := csub_eq _ _ _ hci'.symm
        cases c with
        | begin q a => simp [nestState] at hn
        | line q a =>
          simp [nestState] at hn; subst hn
          simp only [idProg, idCall, aCall] at hc
          cases hc with
          | line hq _ =>
            simp [-List.map_reverse, hσ, emitVerbs, specFrom, aCall, reversedGo, revStep, revGo,
              nStoredPoints, width, callWidth, csub_add, cW, hq, hci, ih nc fst true hb' hpre hfst]
        | quad k q a =>
          simp [nestState] at hn; subst hn
          simp only [idProg, idCall, aCall] at hc
          cases hc with
          | quad hk hq _ =>
            have c1 : csub (width (stride + 1) rp'.reverse + (1 + (stride + 1))) (stride + 1)
                = some (width (stride + 1) rp'.reverse + 1) := csub_eq _ _ _ (by omega)
            have c2 : csub (width (stride + 1) rp'.reverse + (1 + (stride + 1))) (stride + 2)
                = some (width (stride + 1) rp'.reverse) := csub_eq _ _ _ (by omega)
            simp [-List.map_reverse, hσ, emitVerbs, specFrom, aCall, reversedGo, revStep, revGo,
              nStoredPoints, width, callWidth, csub_add, c1, c2, cW, hq, hk, hci,
              ih nc fst true hb' hpre hfst]
        | cubic k1 k2 q a =>
          simp [nestState] at hn; subst hn
          simp only [idProg, idCall, aCall] at hc
          cases hc with
          | cubic hk1 hk2 hq _ =>
            have c1 : csub (width (stride + 1) rp'.reverse + (2 + (stride + 1))) (stride + 1)
                = some (width (stride + 1) rp'.reverse + 2) := csub_eq _ _ _ (by omega)
            have c2 : csub (width (stride + 1) rp'.reverse + (2 + (stride + 1))) (stride + 3)
                = some (width (stride + 1) rp'.reverse) := csub_eq _ _ _ (by omega)
            have c3 : csub (width (stride + 1) rp'.reverse + 2) 1
                = some (width (stride + 1) rp'.reverse + 1) := csub_eq _ _ _ rfl
            simp [-List.map_reverse, hσ, emitVerbs, specFrom, aCall, reversedGo, revStep, revGo,
              nStoredPoints, width, callWidth, csub_add, c1, c2, c3, cW, hq, hk1, hk2, hci,
              ih nc fst true hb' hpre hfst]
        | end_ cl =>
          simp [nestState] at hn; subst hn
          cases cl with
          | true =>
            have c1 : csub (width (stride + 1) rp'.reverse + (stride + 1)) (2 * (stride + 1)) = some ci :=
              csub_eq _ _ _ (by omega)
            simp [-List.map_reverse, hσ, emitVerbs, specFrom, aCall, reversedGo, revStep, revGo,
              nStoredPoints, width, callWidth, csub_add, c1, hci,
              ih true (some (cur, ca)) true hb' hpre (by simp)]
          | false =>
            simp [-List.map_reverse, hσ, emitVerbs, specFrom, aCall, reversedGo, revStep, revGo,
              nStoredPoints, width, callWidth, csub_zero, cW, hci,
              ih false (some (cur, ca)) true hb' hpre (by simp)]

/-- endpoints carry `n` attributes, control points none (the empty list: a control point `c` is then
`ctl c.1`, which is how `spec_eventToCall` reads events back as builder calls) -/
def evOk (n : Nat) : Event (APt S) → Bool
  | .begin a => a.2.length == n
  | .line a b => a.2.length == n && b.2.length == n
  | .quad a c b => a.2.length == n && c.2.length == 0 && b.2.length == n
  | .cubic a c d b => a.2.length == n && c.2.length == 0 && d.2.length == 0 && b.2.length == n
  | .end_ l f _ => l.2.length == n && f.2.length == n

theorem evOk_spec (n : Nat) (prog : Prog S) (st : Option (APt S × APt S)) (ha : attrsOk n prog = true)
    (hn : wellNestedFrom st.isSome prog = true)
    (hst : ∀ f c, st = some (f, c) → f.2.length = n ∧ c.2.length = n) :
    ∀ e ∈ specFrom st (prog.map aCall), evOk n e = true := by
  induction prog generalizing st with
  | nil => cases st <;> simp [specFrom]
  | cons c r ih =>
    cases st with
    | none =>
      cases c with
      | begin p a =>
        simp only [attrsOk, Bool.and_eq_true, beq_iff_eq] at ha
        have := ih (some ((p, a), (p, a))) ha.2 hn (by intro f c h; cases h; exact ⟨ha.1, ha.1⟩)
        simpa [specFrom, aCall, evOk, ha.1] using this
      | _ => cases hn
    | some fc =>
      obtain ⟨f, c0⟩ := fc
      obtain ⟨hf, hc⟩ := hst f c0 rfl
      cases c with
      | begin p a => cases hn
      | line p a =>
        simp only [attrsOk, Bool.and_eq_true, beq_iff_eq] at ha
        have := ih (some (f, (p, a))) ha.2 hn (by intro f' c' h; cases h; exact ⟨hf, ha.1⟩)
        simpa [specFrom, aCall, evOk, ha.1, hc] using this
      | quad k p a =>
        simp only [attrsOk, Bool.and_eq_true, beq_iff_eq] at ha
        have := ih (some (f, (p, a))) ha.2 hn (by intro f' c' h; cases h; exact ⟨hf, ha.1⟩)
        simpa [specFrom, aCall, evOk, ha.1, hc, ctl] using this
      | cubic k1 k2 p a =>
        simp only [attrsOk, Bool.and_eq_true, beq_iff_eq] at ha
        have := ih (some (f, (p, a))) ha.2 hn (by intro f' c' h; cases h; exact ⟨hf, ha.1⟩)
        simpa [specFrom, aCall, evOk, ha.1, hc, ctl] using this
      | end_ cl =>
        have := ih none ha hn (by simp)
        simpa [specFrom, aCall, evOk, hf, hc] using this

theorem evOk_revGo (n : Nat) (L : List (Event (APt S))) (nc : Bool) (fst : Option (APt S))
    (hL : ∀ e ∈ L, evOk n e = true) (hf : ∀ f, fst = some f → f.2.length = n) :
    ∀ e ∈ revGo L nc fst, evOk n e = true := by
  induction L generalizing nc fst with
  | nil => simp [revGo]
  | cons x r ih =>
    have hx := hL x (by simp)
    have hr : ∀ e ∈ r, evOk n e = true := fun e he => hL e (by simp [he])
    cases x with
    | begin a =>
      simp [evOk] at hx
      have := ih false none hr (by simp)
      cases fst with
      | none => simpa [revGo, evOk, hx] using this
      | some f => simpa [revGo, evOk, hx, hf f rfl] using this
    | line a b =>
      simp [evOk] at hx
      simpa [revGo, evOk, hx] using ih nc fst hr hf
    | quad a c b =>
      simp [evOk] at hx
      simpa [revGo, evOk, hx] using ih nc fst hr hf
    | cubic a c d b =>
      simp [evOk] at hx
      simpa [revGo, evOk, hx] using ih nc fst hr hf
    | end_ l f cl =>
      simp [evOk] at hx
      simpa [revGo, evOk, hx] using ih cl (some l) hr (by intro f' h; cases h; exact hx.1)

/-- the builder program denoted by well-formed events denotes the same events again -/
theorem spec_eventToCall [BEq S] [LawfulBEq S] (n : Nat) (evs : List (Event (APt S))) (st : Option (APt S × APt S))
    (hwf : wellFormedFrom st evs = true) (hok : ∀ e ∈ evs, evOk n e = true) :
    specFrom st ((evs.map eventToCall).map aCall) = evs ∧
    wellNestedFrom st.isSome (evs.map eventToCall) = true ∧
    attrsOk n (evs.map eventToCall) = true := by
  induction evs generalizing st with
  | nil => cases st <;> simp_all [wellFormedFrom, specFrom, wellNestedFrom, attrsOk]
  | cons e r ih =>
    have he := hok e (by simp)
    have hr : ∀ e ∈ r, evOk n e = true := fun e he => hok e (by simp [he])
    cases st with
    | none =>
      cases e with
      | begin a =>
        simp [wellFormedFrom] at hwf
        simp [evOk] at he
        have := ih (some (a, a)) hwf hr
        simpa [eventToCall, aCall, specFrom, wellNestedFrom, attrsOk, he] using this
      | _ => simp [wellFormedFrom] at hwf
    | some fc =>
      obtain ⟨f, c0⟩ := fc
      cases e with
      | begin a => simp [wellFormedFrom] at hwf
      | line a b =>
        simp [wellFormedFrom] at hwf
        simp [evOk] at he
        have := ih (some (f, b)) hwf.2 hr
        simpa [eventToCall, aCall, specFrom, wellNestedFrom, attrsOk, he, hwf.1] using this
      | quad a c b =>
        simp [wellFormedFrom] at hwf
        simp [evOk] at he
        have hc : ctl c.1 = c := by
          obtain ⟨c1, c2⟩ := c; simp at he; simp [ctl, he.1.2]
        have := ih (some (f, b)) hwf.2 hr
        simpa [eventToCall, aCall, specFrom, wellNestedFrom, attrsOk, he, hwf.1, hc] using this
      | cubic a c d b =>
        simp [wellFormedFrom] at hwf
        simp [evOk] at he
        have hc : ctl c.1 = c := by
          obtain ⟨c1, c2⟩ := c; simp at he; simp [ctl, he.1.1.2]
        have hd : ctl d.1 = d := by
          obtain ⟨d1, d2⟩ := d; simp at he; simp [ctl, he.1.2]
        have := ih (some (f, b)) hwf.2 hr
        simpa [eventToCall, aCall, specFrom, wellNestedFrom, attrsOk, he, hwf.1, hc, hd] using this
      | end_ l f' cl =>
        simp [wellFormedFrom] at hwf
        have := ih none hwf.2 hr
        simpa [eventToCall, aCall, specFrom, wellNestedFrom, attrsOk, hwf.1] using this

end Lyon.Path
