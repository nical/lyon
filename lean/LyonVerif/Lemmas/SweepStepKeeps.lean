/-
  How the sweep is put together, said once for every assertion about its state.

  A composite step function of `Model/Tess/Sweep.lean` (`process_edges_above`, `split_event`,
  `process_edges_below`, `update_active_edges`, one event, `recover_from_error`, the retry, the loop, the tail
  of `tessellate_impl`, the dispatch of `tessellate`) adds nothing of its own to an invariant `I` that its leaf
  operations keep: `Keeps I E Ids L` lists what `I` has to survive at the leaves (`E` is what is claimed of a
  failure and of the state it happened in), and each composite function is walked once, for any such `I`.
  An invariant then consists of its leaf facts and one record.  `SpanOp` is the footprint of the span
  operations; an invariant that reads nothing of it gets its span fields from one implication (`Keeps.ofSpanOp`).

  Every file that proves a state invariant by walking these model functions has to import this one (directly or
  not): the auxiliary equations of their `match`es are generated where they are first needed, and two modules
  that generate the same ones cannot be imported together.  That settles the composite functions only.  The
  leaves `split_edge`, `sort_edges_below`, `merge_coincident_edges`, `handle_coincident_edges_below` and
  `initialize_events` are walked by each invariant family for itself, so two families can be imported together only
  when one imports the other: `SweepIdx*`, `SweepRep*` (with `Props/C07b`), `SweepPosSplit`, `SweepSpan*`,
  `SweepQueueOrd*` form one chain in this order, and a new family that unfolds a leaf imports the top of it.  The
  `SweepSafe*` files from `SweepSafeBelow` on are a branch outside the chain: `Props/C01b` cannot be imported beside
  `Props/C07b` or anything else in the chain.  The reset simulation of C08
  (`Lemmas/ResetSweepOps*.lean`, `ResetSweepLoop.lean`) compares two runs (`Sim2`) and does not go through `Keeps`,
  a record of facts about one run; it generates none of these equations and can be imported beside this file.

  The model files imported besides `Sweep.lean` give the names in which the ends of `tessellate_impl` are stated:
  `SweepCoh.initSt`, its initial state (`SweepCert.lean`), and `flushLeftover`, its final flush (`ResetSweep.lean`);
  `SweepCurves.lean` is the curved entry point of `curves_tessellate_cases`.
-/
import LyonVerif.Model.Tess.SweepCert
import LyonVerif.Model.Tess.ResetSweep
import LyonVerif.Model.Tess.SweepCurves
import LyonVerif.Lemmas.SweepStepRecover
import LyonVerif.Lemmas.SweepSpanStep

set_option linter.unusedSectionVars false
set_option linter.unusedVariables false
set_option mvcgen.warning false

namespace Lyon.Sweep
open Lyon Lyon.Scalar Lyon.Mono Lyon.EQ
open Std.Do

variable {α : Type} [Scalar α] [Wide α]

/-- What an assertion `I` has to survive at the leaf operations of one event.  `E f s`: what holds when a leaf
fails with `f` in `s`, or when the function itself panics in a state that satisfies `I`.  `Ids`: the vertex ids
that may be handed to the monotone tessellators (the current vertex and the upper ends of the active edges are
such).  `L`: the indices `split_edge` may be called with (the scan's `edges_to_split`). -/
structure Keeps (I : St α → Prop) (E : Fail → St α → Prop) (Ids : Nat → Prop) (L : Array Nat) : Prop where
  fail : ∀ f s, I s → E f s
  cur : ∀ s, I s → Ids s.curVertex
  act : ∀ s, I s → ∀ e ∈ s.active, Ids e.fromId
  cov : ∀ s c, CovLe s.cov c → I s → I (s.setCov c)
  spanVertex : ∀ i pos id l, Ids id → ⦃fun s => ⌜I s⌝⦄ (spanVertex i pos id l : SM α Unit) ⦃ends I E⦄
  beginSpan : ∀ i pos id, Ids id → ⦃fun s => ⌜I s⌝⦄ (beginSpan i pos id : SM α Unit) ⦃ends I E⦄
  endSpan : ∀ i pos id, Ids id → ⦃fun s => ⌜I s⌝⦄ (endSpan i pos id : SM α Unit) ⦃ends I E⦄
  cleanup : ∀ s, I s → I { s with spans := s.spans.filter (·.isSome) }
  splitEdge : ∀ ei ∈ L, ⦃fun s => ⌜I s⌝⦄ (splitEdge ei : SM α Unit) ⦃ends I E⦄

variable {I J : St α → Prop} {E : Fail → St α → Prop} {Ids : Nat → Prop} {L : Array Nat}

/-- the active edge at `i` becomes a merge vertex -/
abbrev mergeAt (s : St α) (i : Nat) (h : i < s.active.size) : St α :=
  { s with active := s.active.setIfInBounds i { s.active[i] with isMerge := true, from_ := s.active[i].to, winding := 0, fromId := s.curVertex } }

/-- `process_edges_above`: span operations and edge splits under `I`; `J` is what is left of `I` once the
edge at `above_start` has become a merge vertex (for most invariants `J` is `I`) -/
theorem processEdgesAbove_keeps (scan : Scan) (K : Keeps I E Ids scan.edgesToSplit)
    (hJ : ∀ s, I s → J s) (hm : ∀ s i h, I s → J (mergeAt s i h)) :
    ⦃fun s => ⌜I s⌝⦄ (processEdgesAbove scan : SM α Scan) ⦃ends J E⦄ := by
  unfold processEdgesAbove
  have h1 := K.spanVertex
  have h2 := K.endSpan
  have h3 := K.splitEdge
  mvcgen [h1, h2, h3] invariants
  · ends I E
  · ends I E
  · ends I E
  with skip
  · exact K.cur _ (by assumption) -- the id `span_vertex` is given
  · exact K.cur _ (by assumption) -- the id `end_span` is given
  · have hl := ‹_ = _ ++ _ :: _› -- `ei ∈ scan.edgesToSplit`
    exact Array.mem_toList_iff.mp (by rw [hl]; simp)
  · exact K.cleanup _ (by assumption)
  · exact hm _ _ _ (by assumption) -- the merge vertex
  · exact K.fail _ _ (by assumption)
  · exact hJ _ (by assumption) -- the return

theorem splitEvent_keeps (K : Keeps I E Ids L) (leftEdge : Nat) (leftSpan : Int) :
    ⦃fun s => ⌜I s⌝⦄ (splitEvent leftEdge leftSpan : SM α Unit) ⦃ends I E⦄ := by
  unfold splitEvent
  have h1 := K.spanVertex
  have h2 := K.beginSpan
  mvcgen [h1, h2]
  all_goals intros
  all_goals first
    | exact K.cur _ (by assumption)
    | exact K.act _ (by assumption) _ (Array.mem_of_getElem? (by assumption))
    | exact K.fail _ _ (by assumption)

/-- `process_edges_below` around the part that works on the pending edges (`sort_edges_below`,
`handle_coincident_edges_below`: their triples are the invariant's own) -/
theorem processEdgesBelow_keeps (K : Keeps I E Ids L) (scan : Scan)
    (hs : ⦃fun s => ⌜I s⌝⦄ (sortEdgesBelow : SM α Unit) ⦃ends I E⦄)
    (hc : ⦃fun s => ⌜I s⌝⦄ (handleCoincidentEdgesBelow : SM α Unit) ⦃ends I E⦄) :
    ⦃fun s => ⌜I s⌝⦄ (processEdgesBelow scan : SM α Unit) ⦃ends I E⦄ := by
  have h3 := splitEvent_keeps (α := α) K
  have h4 := K.beginSpan
  have h5 : ⦃fun s => ⌜I s⌝⦄ (belowSplit scan : SM α Unit) ⦃ends I E⦄ := by
    unfold belowSplit
    mvcgen [h3]
    exact K.fail _ _ (by assumption)
  have h6 : ⦃fun s => ⌜I s⌝⦄ (belowSpans scan : SM α Unit) ⦃ends I E⦄ := by
    unfold belowSpans
    mvcgen [h4] invariants
    · ends I E
    with skip
    exact K.cur _ (by assumption)
  rw [processEdgesBelow_eq]
  mvcgen [hs, hc, h5, h6]

/-- the pending edges spliced into the active list between `a` and `b` -/
abbrev spliceAt (s : St α) (a b : Nat) : St α :=
  { s with
    active := s.active.extract 0 a ++ (s.below.map fun e => ⟨s.curPos, e.to, e.winding, false, s.curVertex, e.srcEdge, e.rangeEnd⟩) ++
      s.active.extract b s.active.size,
    below := #[] }

theorem updateActiveEdges_keeps (hfail : ∀ f s, I s → E f s)
    (hix : ∀ a b, ⦃fun s => ⌜I s⌝⦄ (handleIntersectionsStep a b : SM α Unit) ⦃ends I E⦄)
    (hsp : ∀ s a b, I s → I (spliceAt s a b)) (scan : Scan) :
    ⦃fun s => ⌜I s⌝⦄ (updateActiveEdges scan : SM α Unit) ⦃ends I E⦄ := by
  unfold updateActiveEdges
  mvcgen [hix]
  all_goals first
    | exact hsp _ _ _ (by assumption)
    | exact hfail _ _ (by assumption)

/-- one event after the scan and its coverage marks: `I` up to the end of `process_edges_above`, `J` from there -/
theorem evBody_keeps (scan : Scan) (K : Keeps I E Ids scan.edgesToSplit)
    (hJ : ∀ s, I s → J s) (hm : ∀ s i h, I s → J (mergeAt s i h)) (K' : Keeps J E Ids L)
    (hs : ⦃fun s => ⌜J s⌝⦄ (sortEdgesBelow : SM α Unit) ⦃ends J E⦄)
    (hc : ⦃fun s => ⌜J s⌝⦄ (handleCoincidentEdgesBelow : SM α Unit) ⦃ends J E⦄)
    (hix : ∀ a b, ⦃fun s => ⌜J s⌝⦄ (handleIntersectionsStep a b : SM α Unit) ⦃ends J E⦄)
    (hsp : ∀ s a b, J s → J (spliceAt s a b)) :
    ⦃fun s => ⌜I s⌝⦄ (evBody scan : SM α (Option IErr)) ⦃ends J E⦄ := by
  unfold evBody
  have h1 := processEdgesAbove_keeps scan K hJ hm
  have h2 := processEdgesBelow_keeps K' (α := α) (hs := hs) (hc := hc)
  have h3 := updateActiveEdges_keeps K'.fail hix hsp
  mvcgen [h1, h2, h3]

/-- `process_events`: the scan reads the state and may promise something of its result (`S scan`, kept by the
coverage marks); when the scan refuses, nothing has changed -/
theorem processEvents_keeps {S : Scan → St α → Prop}
    (hscan : ∀ s scan, scanActiveEdges s = .ok scan → I s → S scan s)
    (hcov : ∀ scan s c, CovLe s.cov c → S scan s → S scan (s.setCov c))
    (hb : ∀ scan, ⦃fun s => ⌜S scan s⌝⦄ (evBody scan : SM α (Option IErr)) ⦃ends J E⦄) (hJ : ∀ s, I s → J s) :
    ⦃fun s => ⌜I s⌝⦄ (processEvents : SM α (Option IErr)) ⦃ends J E⦄ := by
  rw [processEvents_split]
  have h1 := fun s scan => (evMarks_onlyCov (α := α) s scan).keeps (P := S scan) fun s c hc h => hcov scan s c hc h
  mvcgen [h1, hb]
  · exact hJ _ (by assumption)
  · exact hscan _ _ (by assumption) (by assumption)

/-- what `recover_from_error` does besides: re-sort, rearrange, pop a span with its triangles -/
structure KeepsRecover (I : St α → Prop) (E : Fail → St α → Prop) (Ids : Nat → Prop) : Prop
    extends Keeps I E Ids #[] where
  sortActive : ⦃fun s => ⌜I s⌝⦄ (sortActiveEdges : SM α Unit) ⦃ends I E⦄
  /-- a list of active edges of a state that satisfied `I` may be installed -/
  rearrange : ∀ s₁ s a, I s₁ → (∀ e ∈ a, e ∈ s₁.active) → I s → I { s with active := a }
  popSpan : ∀ s t, s.spans.getD (s.spans.size - 1) none = some t → I s →
    I { s with spans := s.spans.pop, cov := s.cov ||| (1 <<< 21),
               out := t.tess.tris.foldl (fun o t => o.push (.tri t.1 t.2.1 t.2.2)) s.out }

theorem recoverFromError_keeps (K : KeepsRecover I E Ids) :
    ⦃fun s => ⌜I s⌝⦄ (recoverFromError : SM α Unit) ⦃ends I E⦄ := by
  unfold recoverFromError emitTris
  simp only [ite_mark_bind]
  have h0 := fun c (_ : Decidable c) b => (OnlyCov.markIf (α := α) c b).keeps (P := I) fun s c hc h => K.cov s c hc h
  have h1 := fun b => (OnlyCov.mark (α := α) b).keeps (P := I) fun s c hc h => K.cov s c hc h
  have h2 := K.sortActive
  have h3 := K.beginSpan
  mvcgen [h0, h1, h2, h3] invariants
  · ends I E
  · ends I E
  with skip
  -- the ids handed to `begin_span` are those of the re-sorted list, whose edges are edges of the old one
  · have hl := ‹_ = _ ++ _ :: _›
    have hid := all_of_split (swapLast_all (K.act _ (by assumption))) hl
    have h3' := fun i pos => h3 i pos _ hid
    -- the `if e.isMerge` at the head of the loop body, which `mvcgen` left as it was
    split <;> (show ⦃fun s => ⌜I s⌝⦄ (_ : SM α (ForInStep WindingState)) ⦃_⦄; mvcgen [h1, h3'])
  · exact K.rearrange _ _ _ (by assumption) (swapLast_all (P := (· ∈ _)) fun _ h => h) (by assumption)
  · exact K.fail _ _ (by assumption)
  · exact K.popSpan _ _ (by assumption) (by assumption)

/-- one event with its single retry after `recover_from_error`; `err`: the second refusal of the scan -/
theorem evRecover_keeps
    (ev : ⦃fun s => ⌜I s⌝⦄ (processEvents : SM α (Option IErr)) ⦃ends I E⦄)
    (rec : ⦃fun s => ⌜I s⌝⦄ (recoverFromError : SM α Unit) ⦃ends I E⦄)
    (err : ∀ s k, I s → E (.err k) { s with cov := s.cov ||| (1 <<< 1) }) :
    ⦃fun s => ⌜I s⌝⦄ (evRecover : SM α Unit) ⦃ends I E⦄ := by
  unfold evRecover
  mvcgen [mark, ev, rec]
  exact err _ _ (by assumption)

/-- `tessellator_loop` for an assertion `I f` between events (`f`: the fuel left), `J f` when an event begins,
`J' f` when it is done, `P` at the normal end and `E` about failures: `initialize_events` leads from `I (f+1)` at a
valid event to `J f`, the event with its retry from `J f` to `J' f`, moving on to the next event to `I f`.
`hfuel` is the loop's own fuel; `hfuelJ` is the `if s.q.fuelOut then throw .fuel` after an event (a walk of the
queue's links ran out of fuel during it) -/
theorem tessellatorLoop_phases {I J J' : Nat → St α → Prop} {P : St α → Prop} {E : Fail → St α → Prop}
    (hfuel : ∀ s, I 0 s → E .fuel s) (hfuelJ : ∀ f s, J' f s → E .fuel s)
    (hdone : ∀ f s, I (f + 1) s → (s.curEvent == INVALID) = true → P s)
    (hinit : ∀ f, ⦃fun s => ⌜I (f + 1) s ∧ ¬(s.curEvent == INVALID) = true⌝⦄ (initializeEvents : SM α Unit) ⦃ends (J f) E⦄)
    (hev : ∀ f, ⦃fun s => ⌜J f s⌝⦄ (evRecover : SM α Unit) ⦃ends (J' f) E⦄)
    (hadv : ∀ f s, J' f s → I f { s with curEvent := s.q.nextId s.curEvent }) : ∀ f : Nat,
    ⦃fun s => ⌜I f s⌝⦄ (tessellatorLoop f : SM α Unit) ⦃ends P E⦄
  | 0 => by
    unfold tessellatorLoop
    mvcgen
    exact hfuel _ (by assumption)
  | f+1 => by
    have ih := tessellatorLoop_phases hfuel hfuelJ hdone hinit hev hadv f
    have h1 := hinit f
    have h2 := hev f
    rw [tessellatorLoop_succ]
    mvcgen [ih, h1, h2]
    · exact hdone _ _ (by assumption) (by assumption)
    · exact hfuelJ _ _ (by assumption)
    · exact hadv _ _ (by assumption)

/-- what `tessellate_impl` returns when its loop ended normally in `s` -/
def finish (s : St α) : Option Fail × Array (Emit α) × Nat :=
  (none, flushLeftover s.spans s.out,
    if (flushLeftover s.spans s.out).size == s.out.size then s.cov else s.cov ||| (1 <<< 22))

theorem finish_cov (s : St α) : CovLe s.cov (finish s).2.2 := CovLe.ite (.refl _) (.or_right _ _)

/-- the flush of the spans left over: what survives the triangles of each live span survives the flush -/
theorem flushLeftover_ind {Φ : Array (Emit α) → Prop} {spans : Array (Option (Adv α))} {out : Array (Emit α)}
    (h0 : Φ out)
    (hstep : ∀ t o, some t ∈ spans → Φ o → Φ (t.tess.tris.foldl (fun o t => o.push (.tri t.1 t.2.1 t.2.2)) o)) :
    Φ (flushLeftover spans out) := by
  unfold flushLeftover
  refine Array.foldl_induction (motive := fun _ o => Φ o) h0 fun i o ih => ?_
  split
  · rename_i t ht
    exact hstep t o (ht ▸ Array.getElem_mem i.2) ih
  · exact ih

/-- the flush only appends triangles -/
theorem finish_vertex {s : St α} {pos : P α} {recs : List (P α × EdgeData α)}
    (h : Emit.vertex pos recs ∈ (finish s).2.1) : Emit.vertex pos recs ∈ s.out :=
  flushLeftover_ind (Φ := fun o => Emit.vertex pos recs ∈ o → Emit.vertex pos recs ∈ s.out) (fun h => h)
    (fun _ _ _ ih hm => ih (tris_vertex_mem _ hm)) h

/-- `tessellate_impl`: the tolerance is refused, or the loop runs from `initSt` and fails in a state `s` (output
and coverage of `s` are reported), or it ends normally in `s` (`finish s`) -/
theorem tessellateImpl_cases (Q : Option Fail × Array (Emit α) × Nat → Prop) (q : Queue α) (rule : Slab.Rule)
    (hz : Bool) (tol : α) (hi : Bool)
    (hbad : Q (some (.err "UnsupportedParamater(ToleranceIsNaN)"), #[], 0))
    (hrun : ∀ r s, (tessellatorLoop (4 * q.events.size * q.events.size + 1000)).run.run (SweepCoh.initSt q rule hz tol hi) = (r, s) →
      Q (match r with | .error f => (some f, s.out, s.cov) | .ok _ => finish s)) :
    Q (tessellateImpl q rule hz tol hi) := by
  unfold tessellateImpl
  split
  · exact hbad
  · dsimp only
    generalize hr : StateT.run (ExceptT.run (tessellatorLoop (α := α) _)) _ = r
    have h := hrun r.1 r.2 hr
    obtain ⟨_ | _, _⟩ := r <;> exact h

/-- `tessellate`: the sorted queue is refused, or `tessellate_impl` runs on it -/
theorem tessellate_cases (Q : Option Fail × Array (Emit α) × Nat → Prop) (entry : Entry) (rule : Slab.Rule)
    (hz : Bool) (tol : α) (hi : Bool) (subs : List (SubPath α))
    (hbad : Q (some (.unmodelled "sort-spec-mismatch"), #[], 0))
    (himpl : Q (tessellateImpl (buildQueue entry hz subs).sort rule hz tol hi)) :
    Q (tessellate entry rule hz tol hi subs) := by
  unfold tessellate
  dsimp only
  split
  · exact hbad
  · exact himpl

/-- `SweepCurves.tessellate`: the flattening refuses, the sorted queue is refused, or `tessellate_impl` runs on the
sorted queue `q0.sort` of the queue `q0` that was built -/
theorem curves_tessellate_cases [Transc α] [FlatConst α]
    (Q : (Option Fail × Array (Emit α) × Nat) × Array Nat → Prop) (mode : SweepCurves.IdMode) (rule : Slab.Rule)
    (hz : Bool) (tol : α) (hi : Bool) (cmds : List (SweepCurves.Cmd α))
    (hnone : Q ((some (.panic "flattening count.to_u32().unwrap()"), #[], 0), #[]))
    (hbad : ∀ ids, Q ((some (.unmodelled "sort-spec-mismatch"), #[], 0), ids))
    (himpl : ∀ q0 ids, SweepCurves.buildQueue mode hz tol cmds = some (q0, ids) →
      Q (tessellateImpl q0.sort rule hz tol hi, ids)) :
    Q (SweepCurves.tessellate mode rule hz tol hi cmds) := by
  unfold SweepCurves.tessellate
  split
  · exact hnone
  · rename_i q0 ids hb
    dsimp only
    split
    · exact hbad ids
    · exact himpl q0 ids hb

/-- what a span operation can do: `Rearr`, and the active list is the same -/
def SpanOp (s s' : St α) : Prop := Rearr s s' ∧ s'.active = s.active

theorem SpanOp.refl (s : St α) : SpanOp s s := ⟨.refl s, rfl⟩

theorem SpanOp.trans {s0 s s' : St α} (h : SpanOp s0 s) (h' : SpanOp s s') : SpanOp s0 s' :=
  ⟨h.1.trans h'.1, h'.2.trans h.2⟩

theorem SpanOp.step {s0 s : St α} (h : SpanOp s0 s) (sp : Array (Option (Adv α))) (pl : List (Adv α)) {c : Nat}
    (hc : CovLe s.cov c) (tris : List Mono.Tri) :
    SpanOp s0 { s with spans := sp, pool := pl, cov := c,
                       out := tris.foldl (fun o t => o.push (.tri t.1 t.2.1 t.2.2)) s.out } :=
  h.trans ⟨⟨rfl, hc, fun _ h => h, fun _ _ hm => tris_vertex_mem tris hm⟩, rfl⟩

theorem spanVertex_spanOp (s0 : St α) (i : Int) (pos : P α) (id : Nat) (l : Bool) :
    ⦃fun s => ⌜SpanOp s0 s⌝⦄ (spanVertex i pos id l : SM α Unit) ⦃both (SpanOp s0)⦄ := by
  unfold spanVertex
  mvcgen
  exact (‹SpanOp s0 _›).step _ _ (.refl _) []

theorem beginSpan_spanOp (s0 : St α) (i : Int) (pos : P α) (id : Nat) :
    ⦃fun s => ⌜SpanOp s0 s⌝⦄ (beginSpan i pos id : SM α Unit) ⦃both (SpanOp s0)⦄ := by
  unfold beginSpan
  mvcgen
  exact (‹SpanOp s0 _›).step _ _ (by cov_le) []

theorem emitTris_spanOp (s0 : St α) (tris : List Mono.Tri) :
    ⦃fun s => ⌜SpanOp s0 s⌝⦄ (emitTris tris : SM α Unit) ⦃both (SpanOp s0)⦄ := by
  unfold emitTris
  mvcgen
  exact (‹SpanOp s0 _›).step _ _ (.refl _) tris

theorem endSpan_spanOp (s0 : St α) (i : Int) (pos : P α) (id : Nat) :
    ⦃fun s => ⌜SpanOp s0 s⌝⦄ (endSpan i pos id : SM α Unit) ⦃both (SpanOp s0)⦄ := by
  unfold endSpan
  have h1 := emitTris_spanOp (α := α) s0
  mvcgen [h1]
  exact (‹SpanOp s0 _›).step _ _ (.refl _) []

/-- the record of an invariant that span bookkeeping cannot break and that asks nothing of the vertex ids -/
theorem Keeps.ofSpanOp (hI : ∀ s s', I s → SpanOp s s' → I s') (hfail : ∀ f s, I s → E f s)
    (hsplit : ∀ ei ∈ L, ⦃fun s => ⌜I s⌝⦄ (Sweep.splitEdge ei : SM α Unit) ⦃ends I E⦄) :
    Keeps I E (fun _ => True) L where
  fail := hfail
  cur := fun _ _ => trivial
  act := fun _ _ _ _ => trivial
  cov := fun s c hc h => hI _ _ h ((SpanOp.refl s).step s.spans s.pool hc [])
  spanVertex := fun i pos id l _ => ends_of_rel SpanOp.refl (spanVertex_spanOp · i pos id l) hI hfail
  beginSpan := fun i pos id _ => ends_of_rel SpanOp.refl (beginSpan_spanOp · i pos id) hI hfail
  endSpan := fun i pos id _ => ends_of_rel SpanOp.refl (endSpan_spanOp · i pos id) hI hfail
  cleanup := fun s h => hI _ _ h ((SpanOp.refl s).step _ s.pool (.refl _) [])
  splitEdge := hsplit

/-- **`recover_from_error` rearranges**: `sort_active_edges`, a swap of the last two active edges, spans
begun and popped - the relation to the start state is one more assertion that the leaves keep -/
theorem recoverFromError_rearr (s0 : St α) :
    ⦃fun s => ⌜Rearr s0 s⌝⦄ (recoverFromError : SM α Unit) ⦃both (Rearr s0)⦄ :=
  recoverFromError_keeps {
    toKeeps := Keeps.ofSpanOp (fun _ _ h r => h.trans r.1) (fun _ _ h => h) fun _ h => nomatch h
    sortActive := sortActiveEdges_rearr s0
    rearrange := fun _ _ _ h₁ ha h => h.setActive fun e he => h₁.active e (ha e he)
    popSpan := fun s t _ h => h.trans ((SpanOp.refl s).step _ s.pool (.or_right _ _) _).1 }

end Lyon.Sweep
