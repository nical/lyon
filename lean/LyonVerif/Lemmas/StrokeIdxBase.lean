/-
  Index validity for the COMPLETE stroker model `Lyon.Stroke.Full` (`Model/Tess/StrokeFull.lean`): the
  specifications of the emitting components.

  * the emission relation `VSteps C o o'` is defined in `Lemmas/StrokeFull.lean`.
  * `Upd e e'`: `e'` is the endpoint `e` after a step function rewrote side points, vertex ids,
    fold flags, advancement (and possibly forced `line_join = Miter`): what the class predicates of
    the invariant read is unchanged.  `GE G x`: the side-point relation `G` of the invariant at an endpoint.
  * effect equations `f … o = o.grow vs ts` (the block a component appends, as pure lists): `baseVertices_eq`,
    `edgeAndJoin_eq` (non-round), `lastEdge_eq`, `firstEdge_eq` (block, then the round cap if any), `closeVertices_eq`;
    this is the one place that unfolds these functions, `edgeAndJoin` excepted: a round join appends its arcs after the
    block, so it is no single `grow`, and `edgeAndJoin_vsteps` (here) and `edgeAndJoin_emits` (`Lemmas/StrokeAdvEmits.lean`)
    walk it themselves.
  * their specifications against `VSteps` (`…_spec`, `…_vsteps`), and those of `flattenedStep`, `emptyCap`.

  Everything here is discrete: it holds for every scalar type (`[Scalar α] [Transc α]`, floats
  included); all geometry is opaque.
-/
import LyonVerif.Lemmas.StrokeFull
import Mathlib.Tactic.SplitIfs

set_option linter.unusedSectionVars false

namespace Lyon.C05c
open Lyon Scalar Lyon.Stroke Lyon.Stroke.Full Lyon.C05 Lyon.C05b

section Ep
variable {α : Type} [Scalar α]

/-- `e'` is the endpoint `e` after a step function rewrote side points, vertex ids, fold flags,
the advancement, and possibly forced `line_join = Miter` (fast path of a flattened curve) -/
structure Upd (e e' : EP α) : Prop where
  pos : e'.position = e.position
  src : e'.src = e.src
  hw : e'.halfWidth = e.halfWidth
  flat : e'.isFlat = e.isFlat
  lj : e'.lineJoin = e.lineJoin ∨ e'.lineJoin = .miter

theorem Upd.refl (e : EP α) : Upd e e := ⟨rfl, rfl, rfl, rfl, Or.inl rfl⟩

theorem Upd.trans {a b c : EP α} (h1 : Upd a b) (h2 : Upd b c) : Upd a c :=
  ⟨h2.pos.trans h1.pos, h2.src.trans h1.src, h2.hw.trans h1.hw, h2.flat.trans h1.flat, by
    rcases h2.lj with h | h
    · rcases h1.lj with g | g
      · exact Or.inl (h.trans g)
      · exact Or.inr (h.trans g)
    · exact Or.inr h⟩

/-- the geometry of an endpoint that `flattened_step` reads from its `prev` argument -/
def GE (G : P α → P α → P α → Prop) (e : EP α) : Prop := G e.position e.pos.next e.neg.next

@[simp] theorem toJoin_ids (e : EP α) : e.toJoin.ids = e.ids := rfl

theorem cap_not_round {c : LineCap} (h : c ≠ .round) : (c == Lyon.StrokeQuad.Cap.round) = false := by
  cases c <;> simp_all

theorem join_not_round {j : LineJoin} (h : j ≠ .round) : (j == Lyon.StrokeQuad.Join.round) = false := by
  cases j <;> simp_all

end Ep

section Join
variable {α : Type} [Scalar α] [Transc α] {C : Src α → α → Prop}

theorem baseVertices_eq (j : EP α) (d : VData α) (o : Out α) :
    baseVertices j d o
      = ({ j with
            neg := { j.neg with prevVertex := o.nextId,
                                nextVertex := o.nextId + ((sideVerts j.toJoin j.neg { d with side := .negative }).length - 1) },
            pos := { j.pos with prevVertex := o.nextId + (sideVerts j.toJoin j.neg { d with side := .negative }).length,
                                nextVertex := o.nextId + (sideVerts j.toJoin j.neg { d with side := .negative }).length
                                  + ((sideVerts j.toJoin j.pos { d with side := .positive }).length - 1) } },
         o.grow (baseVerts j.toJoin d) []) := by
  unfold baseVertices
  rw [addJoinBaseVertices_eq]
  rfl

/-- `add_join_base_vertices` (negative side, then positive side): fresh vertices of the class of
`d`; afterwards all four ids of the join are valid, the interior triangles of `tessellate_join`
over them are proper and valid, a side that gets a round join has two distinct anchors; only
vertex ids changed -/
theorem baseVertices_spec (j : EP α) (d : VData α) (o : Out α) (hd : C d.src d.halfWidth) :
    VSteps C o (baseVertices j d o).2
    ∧ Good (baseVertices j d o).2.nextId (baseVertices j d o).1.ids
    ∧ Upd j (baseVertices j d o).1
    ∧ (baseVertices j d o).1.pos.next = j.pos.next ∧ (baseVertices j d o).1.neg.next = j.neg.next
    ∧ (∀ t ∈ joinInterior (baseVertices j d o).1.ids (needsJoinPos (baseVertices j d o).1.toJoin)
          (needsJoinNeg (baseVertices j d o).1.toJoin),
        Tri.Distinct t ∧ Tri.Below t (baseVertices j d o).2.nextId)
    ∧ (needsJoinPos (baseVertices j d o).1.toJoin = true →
        (baseVertices j d o).1.pos.prevVertex ≠ (baseVertices j d o).1.pos.nextVertex)
    ∧ (needsJoinNeg (baseVertices j d o).1.toJoin = true →
        (baseVertices j d o).1.neg.prevVertex ≠ (baseVertices j d o).1.neg.nextVertex) := by
  -- a side has one vertex or two; it has two when it needs a join
  have ha := sideVerts_length j.toJoin j.neg { d with side := .negative }
  have hb := sideVerts_length j.toJoin j.pos { d with side := .positive }
  have hlen : (baseVerts j.toJoin d).length = (sideVerts j.toJoin j.neg { d with side := .negative }).length
      + (sideVerts j.toJoin j.pos { d with side := .positive }).length := List.length_append
  rw [baseVertices_eq]
  generalize (sideVerts j.toJoin j.neg { d with side := .negative }).length = a at ha hlen ⊢
  generalize (sideVerts j.toJoin j.pos { d with side := .positive }).length = b at hb hlen ⊢
  have ha1 : 1 ≤ a := by rw [ha]; split_ifs <;> omega
  have hb1 : 1 ≤ b := by rw [hb]; split_ifs <;> omega
  have hp : needsJoinPos j.toJoin = true → o.nextId + a ≠ o.nextId + a + (b - 1) := fun h => by
    have h1 : j.pos.single.isNone = true := (Bool.and_eq_true_iff.mp h).1
    cases hs : j.pos.single <;> simp [hs] at h1 hb
    omega
  have hn : needsJoinNeg j.toJoin = true → o.nextId ≠ o.nextId + (a - 1) := fun h => by
    have h1 : j.neg.single.isNone = true := (Bool.and_eq_true_iff.mp h).1
    cases hs : j.neg.single <;> simp [hs] at h1 ha
    omega
  refine ⟨VSteps.grow o (fun v hv => by obtain ⟨n, s, rfl⟩ := baseVerts_mem hv; exact hd) (by simp), ?_,
    ⟨rfl, rfl, rfl, rfl, Or.inl rfl⟩, rfl, rfl, join_interior_ok _ _ _ _ ?_ hp hn, hp, hn⟩
  · simp only [Good, EP.ids, Out.grow, hlen]; omega
  · simp only [EP.ids, Out.grow, hlen]; omega

/-- one side's round join, if `c`: a fan between the side's two ids -/
theorem roundJoinIf_vsteps (c : Bool) (j : Join α) (isNeg : Bool) (tol : α) (d : VData α) (o : Out α)
    (hd : C d.src d.halfWidth) (hg : Good o.nextId j.ids)
    (h : c = true → (if isNeg then j.neg else j.pos).prevVertex ≠ (if isNeg then j.neg else j.pos).nextVertex) :
    VSteps C o (roundJoinIf c j isNeg tol d o) := by
  unfold roundJoinIf
  split_ifs with hc
  · unfold tessellateRoundJoin
    cases isNeg
    · exact arc_vsteps _ _ _ _ _ _ _ (h hc) hg.1 hg.2.1 hd
    · exact arc_vsteps _ _ _ _ _ _ _ (fun e => h hc e.symm) hg.2.2.2 hg.2.2.1 hd
  · exact VSteps.refl o

/-- `if count > 2 { add_edge_triangles(prev, join) }  tessellate_join(join)` over a join whose ids
have just been handed out -/
theorem edgeAndJoin_vsteps (tol : α) (count : Nat) (prev j : EP α) (d : VData α) (o : Out α)
    (hd : C d.src d.halfWidth)
    (hp : count > 2 → Out0 o.nextId prev.ids) (hj : Good o.nextId j.ids)
    (hint : ∀ t ∈ joinInterior j.ids (needsJoinPos j.toJoin) (needsJoinNeg j.toJoin),
        Tri.Distinct t ∧ Tri.Below t o.nextId)
    (hpos : needsJoinPos j.toJoin = true → j.pos.prevVertex ≠ j.pos.nextVertex)
    (hneg : needsJoinNeg j.toJoin = true → j.neg.prevVertex ≠ j.neg.nextVertex) :
    VSteps C o (edgeAndJoin tol count prev j d o) := by
  unfold edgeAndJoin tessellateJoin
  have s1 : VSteps C o (if count > 2 then o.addTris (addEdgeTriangles prev.ids j.ids) else o) := by
    split_ifs with h
    · exact VSteps.tris1 o _ (edge_tris_ok _ _ _ (hp h) hj.in1)
    · exact VSteps.refl o
  have hn1 : (if count > 2 then o.addTris (addEdgeTriangles prev.ids j.ids) else o).nextId = o.nextId := by
    split_ifs <;> rfl
  generalize (if count > 2 then o.addTris (addEdgeTriangles prev.ids j.ids) else o) = o1 at s1 hn1
  rw [← hn1] at hint hj
  have s2 := VSteps.tris1 (C := C) o1 _ hint
  have s3 := roundJoinIf_vsteps (needsJoinPos j.toJoin && j.toJoin.round) j.toJoin false tol d _ hd
    (hj.mono s2.next_le) fun h => hpos (Bool.and_eq_true_iff.mp h).1
  exact ((s1.trans s2).trans s3).trans (roundJoinIf_vsteps (needsJoinNeg j.toJoin && j.toJoin.round) j.toJoin true tol d _ hd
    (hj.mono (s2.trans s3).next_le) fun h => hneg (Bool.and_eq_true_iff.mp h).1)

theorem edgeAndJoin_eq (tol : α) (count : Nat) (prev j : EP α) (d : VData α) (o : Out α)
    (hr : (j.lineJoin == Lyon.StrokeQuad.Join.round) = false) :
    edgeAndJoin tol count prev j d o
      = o.grow [] ((if count > 2 then addEdgeTriangles prev.ids j.ids else [])
          ++ joinInterior j.ids (needsJoinPos j.toJoin) (needsJoinNeg j.toJoin)) := by
  unfold edgeAndJoin tessellateJoin roundJoinIf
  have : j.toJoin.round = false := hr
  simp only [this, Bool.and_false, Bool.false_eq_true, if_false, toJoin_ids]
  split_ifs <;> simp [Out.addTris, Out.grow]

end Join

section Edges
variable {α : Type} [Scalar α] [Transc α] {C : Src α → α → Prop}

/-- the advancements, the two side points, the normal and the skip condition `c` are hidden on purpose: index validity
must not depend on them.  Their values are in `flattenedStep_geo` (`Lemmas/StrokeIdxField.lean`). -/
theorem flattenedStep_shape (prev join next : EP α) (d : VData α) (o : Out α) :
    ∃ (jAdv nAdv : α) (p0 p1 nrm : P α) (c : Prop) (_ : Decidable c),
      flattenedStep prev join next d o =
        if c then
          ⟨{ join with advancement := jAdv,
                       pos := { join.pos with prev := p0, next := p0, single := some p0 },
                       neg := { join.neg with prev := p1, next := p1, single := some p1 } },
           { next with advancement := nAdv }, true, o⟩
        else
          ⟨{ join with advancement := jAdv,
                       pos := { join.pos with prev := p0, next := p0, single := some p0,
                                              prevVertex := o.nextId, nextVertex := o.nextId },
                       neg := { join.neg with prev := p1, next := p1, single := some p1,
                                              prevVertex := o.nextId + 1, nextVertex := o.nextId + 1 } },
           { next with advancement := nAdv }, false,
           (o.addVertex { d with advancement := jAdv, normal := nrm, side := .positive }).addVertex
             { d with advancement := jAdv, normal := -nrm, side := .negative }⟩ :=
  ⟨_, _, _, _, _, _, _, rfl⟩

/-- `flattened_step`: either skips (no output) or emits the join's two vertices, which become all
four ids of the join; both sides get a single vertex, so `tessellate_join` adds nothing -/
theorem flattenedStep_spec (prev join next : EP α) (d : VData α) (o : Out α) (hd : C d.src d.halfWidth) :
    Upd join (flattenedStep prev join next d o).join
    ∧ Upd next (flattenedStep prev join next d o).next
    ∧ (flattenedStep prev join next d o).next.ids = next.ids
    ∧ needsJoinPos (flattenedStep prev join next d o).join.toJoin = false
    ∧ needsJoinNeg (flattenedStep prev join next d o).join.toJoin = false
    ∧ ((flattenedStep prev join next d o).skip = true → (flattenedStep prev join next d o).out = o)
    ∧ ((flattenedStep prev join next d o).skip = false →
        VSteps C o (flattenedStep prev join next d o).out
        ∧ Good (flattenedStep prev join next d o).out.nextId (flattenedStep prev join next d o).join.ids) := by
  obtain ⟨jAdv, nAdv, p0, p1, nrm, c, dc, e⟩ := flattenedStep_shape prev join next d o
  rw [e]
  by_cases h : c
  · rw [if_pos h]
    refine ⟨⟨rfl, rfl, rfl, rfl, Or.inl rfl⟩, ⟨rfl, rfl, rfl, rfl, Or.inl rfl⟩, rfl, ?_, ?_, fun _ => rfl, fun h => ?_⟩
    · simp [needsJoinPos, EP.toJoin]
    · simp [needsJoinNeg, EP.toJoin]
    · simp at h
  · rw [if_neg h]
    refine ⟨⟨rfl, rfl, rfl, rfl, Or.inl rfl⟩, ⟨rfl, rfl, rfl, rfl, Or.inl rfl⟩, rfl, ?_, ?_, fun h => ?_, fun _ => ⟨?_, ?_⟩⟩
    · simp [needsJoinPos, EP.toJoin]
    · simp [needsJoinNeg, EP.toJoin]
    · simp at h
    · exact VSteps.vert _ (VSteps.vert1 o _ hd) hd
    · simp only [Good, EP.ids, Out.addVertex]; omega

/-- a vertex of `tessellate_last_edge`, `tessellate_first_edge`, `close`: at the endpoint `c`, normal towards `x` -/
def edgeVert (src : Src α) (c : P α) (hw adv : α) (side : Side) (x : P α) : VData α :=
  { baseVertex src c hw adv with side := side, normal := (x - c).sdiv hw }

/-- what `tessellate_last_edge` returns for `p1` when its first fresh id is `k` -/
def lastP1 (e : Env α) (p0 p1 : EP α) (k : Nat) : EP α :=
  { p1 with
    advancement := p0.advancement + len (p1.position - p0.position)
    pos := { p1.pos with prevVertex := k
                         prev := clipSidePos e.ix e.o.endCap p1.position p0.position p1.halfWidth p1.pos.prev p0.pos.next }
    neg := { p1.neg with prevVertex := k + 1
                         prev := clipSidePos e.ix e.o.endCap p1.position p0.position p1.halfWidth p1.neg.prev p0.neg.next } }

def lastVerts (e : Env α) (p0 p1 : EP α) : List (VData α) :=
  [edgeVert p1.src p1.position p1.halfWidth (lastP1 e p0 p1 0).advancement .positive (lastP1 e p0 p1 0).pos.prev,
   edgeVert p1.src p1.position p1.halfWidth (lastP1 e p0 p1 0).advancement .negative (lastP1 e p0 p1 0).neg.prev]

/-- the round end cap between the ids `k`, `k + 1`, if the end cap is round -/
def lastCap (e : Env α) (p0 p1 : EP α) (k : Nat) (o : Out α) : Out α :=
  if e.o.endCap == .round then
    tessellateRoundCap p1.position p1.halfWidth ((lastP1 e p0 p1 k).pos.prev - p1.position) k (k + 1)
      (p1.position - p0.position) e.o.tolerance false
      (baseVertex p1.src p1.position p1.halfWidth (lastP1 e p0 p1 k).advancement) o
  else o

theorem lastEdge_eq (e : Env α) (p0 p1 : EP α) (isFirst : Bool) (o : Out α) :
    lastEdge e p0 p1 isFirst o
      = (lastP1 e p0 p1 o.nextId, lastCap e p0 p1 o.nextId (o.grow (lastVerts e p0 p1)
          (if isFirst then [] else addEdgeTriangles p0.ids (lastP1 e p0 p1 o.nextId).ids))) := by
  cases isFirst <;> simp [lastEdge, lastCap, lastVerts, lastP1, edgeVert, Out.grow, Out.addVertex, Out.addTris, Nat.add_assoc]

def firstVerts (e : Env α) (f s : EP α) : List (VData α) :=
  [edgeVert f.src f.position f.halfWidth f.advancement .positive
     (clipSidePos e.ix e.o.startCap f.position s.position f.halfWidth f.pos.next s.pos.prev),
   edgeVert f.src f.position f.halfWidth f.advancement .negative
     (clipSidePos e.ix e.o.startCap f.position s.position f.halfWidth f.neg.next s.neg.prev)]

/-- the round start cap between the ids `k + 1`, `k`, if the start cap is round -/
def firstCap (e : Env α) (f s : EP α) (k : Nat) (o : Out α) : Out α :=
  if e.o.startCap == .round then
    tessellateRoundCap f.position f.halfWidth (f.neg.next - f.position) (k + 1) k (f.position - s.position)
      e.o.tolerance true (baseVertex f.src f.position f.halfWidth f.advancement) o
  else o

theorem firstEdge_eq (e : Env α) (f s : EP α) (o : Out α) :
    firstEdge e f s o = firstCap e f s o.nextId (o.grow (firstVerts e f s)
      (addEdgeTriangles { f.ids with posNext := o.nextId, negNext := o.nextId + 1 } s.ids)) := by
  simp [firstEdge, firstCap, firstVerts, edgeVert, Out.grow, Out.addVertex, Out.addTris, EP.ids, Nat.add_assoc]

theorem closeVertices_eq (p0 : EP α) (adv : α) (o : Out α) :
    closeVertices p0 adv o
      = ({ p0 with pos := { p0.pos with nextVertex := o.nextId }, neg := { p0.neg with nextVertex := o.nextId + 1 } },
         o.grow [edgeVert p0.src p0.position p0.halfWidth adv .positive (p0.pos.single.getD p0.pos.next),
                 edgeVert p0.src p0.position p0.halfWidth adv .negative (p0.neg.single.getD p0.neg.next)] []) := by
  simp [closeVertices, edgeVert, Out.grow, Out.addVertex, Nat.add_assoc]

/-- `tessellate_last_edge`: two fresh vertices at `p1` (they become its `prev` ids), the edge
triangles towards `p0` unless this is the first edge, the round end cap -/
theorem lastEdge_spec (e : Env α) (p0 p1 : EP α) (isFirst : Bool) (o : Out α)
    (hd : C p1.src p1.halfWidth)
    (h0 : isFirst = false → Out0 (o.nextId + 2) p0.ids)
    (h1 : Raw p1.ids ∨ Good o.nextId p1.ids) :
    VSteps C o (lastEdge e p0 p1 isFirst o).2
    ∧ Upd p1 (lastEdge e p0 p1 isFirst o).1
    ∧ In1 (lastEdge e p0 p1 isFirst o).2.nextId (lastEdge e p0 p1 isFirst o).1.ids := by
  have hin : In1 (o.nextId + 2) (lastP1 e p0 p1 o.nextId).ids := by
    show In1 _ { p1.ids with posPrev := o.nextId, negPrev := o.nextId + 1 }
    rcases h1 with h | h
    · exact h.in1 _ (by omega)
    · exact ((h.mono (by omega : o.nextId ≤ o.nextId + 2)).setPrev _ (by omega)).in1
  rw [lastEdge_eq]
  have s : VSteps C o (o.grow (lastVerts e p0 p1)
      (if isFirst then [] else addEdgeTriangles p0.ids (lastP1 e p0 p1 o.nextId).ids)) := by
    refine VSteps.grow o (by intro v hv; simp [lastVerts] at hv; rcases hv with rfl | rfl <;> exact hd) ?_
    cases isFirst
    · exact edge_tris_ok _ _ _ (h0 rfl) hin
    · simp
  generalize hob : o.grow (lastVerts e p0 p1) _ = ob at s ⊢
  have hn : ob.nextId = o.nextId + 2 := by rw [← hob]; rfl
  have c : VSteps C ob (lastCap e p0 p1 o.nextId ob) := by
    unfold lastCap
    split_ifs
    · exact roundCap_vsteps _ _ _ _ _ _ _ _ _ _ (by omega) (by omega) (by omega) hd
    · exact VSteps.refl _
  exact ⟨s.trans c, ⟨rfl, rfl, rfl, rfl, Or.inl rfl⟩, In1.mono hin (hn ▸ c.next_le)⟩

/-- `tessellate_first_edge`: two fresh vertices at the first point (its `next` ids), the first
edge's triangles, the round start cap -/
theorem firstEdge_spec (e : Env α) (first second : EP α) (o : Out α)
    (hd : C first.src first.halfWidth) (h0 : Raw first.ids)
    (h1 : In1 (o.nextId + 2) second.ids) :
    VSteps C o (firstEdge e first second o) := by
  rw [firstEdge_eq]
  have s : VSteps C o (o.grow (firstVerts e first second)
      (addEdgeTriangles { first.ids with posNext := o.nextId, negNext := o.nextId + 1 } second.ids)) :=
    VSteps.grow o (by intro v hv; simp [firstVerts] at hv; rcases hv with rfl | rfl <;> exact hd)
      (edge_tris_ok _ _ _ (h0.out0 o.nextId (by show o.nextId + 1 < o.nextId + 2; omega)) h1)
  refine s.trans ?_
  unfold firstCap
  split_ifs
  · exact roundCap_vsteps _ _ _ _ _ _ _ _ _ _ (by omega) (by show _ < o.nextId + 2; omega) (by show _ < o.nextId + 2; omega) hd
  · exact VSteps.refl _

/-- the end of `close`: two fresh vertices at `q0` (its `next` ids) and the closing edge -/
theorem closeVertices_spec (q0 q1 : EP α) (adv : α) (o : Out α)
    (hd : C q0.src q0.halfWidth) (h0 : Good o.nextId q0.ids) (h1 : Good o.nextId q1.ids) :
    VSteps C o ((closeVertices q0 adv o).2.addTris (addEdgeTriangles (closeVertices q0 adv o).1.ids q1.ids)) := by
  rw [closeVertices_eq, Out.addTris_eq, Out.grow_grow]
  refine VSteps.grow o (by intro v hv; simp at hv; rcases hv with rfl | rfl <;> exact hd) ?_
  exact edge_tris_ok _ _ (o.nextId + 2) ((h0.mono (by omega : o.nextId ≤ o.nextId + 2)).setNext o.nextId (by omega)).out0
    (h1.mono (by omega)).in1

theorem emptyCap_spec (e : Env α) (st : St α)
    (hd : ∀ point, st.buf.get 0 = some point → C point.src point.halfWidth) :
    VSteps C st.out (emptyCap e st) := by
  unfold emptyCap
  cases hg : st.buf.get 0 with
  | none => exact VSteps.refl _
  | some point =>
    simp only []
    cases e.o.startCap with
    | square => exact emptySquareCap_vsteps _ _ _ (hd point hg)
    | round => exact emptyRoundCap_vsteps _ _ _ _ (hd point hg)
    | butt => exact VSteps.refl _

end Edges

end Lyon.C05c
