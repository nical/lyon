/-
  NO-PANIC: `process_events`, `initialize_events`, `tessellator_loop`, `tessellate_impl`,
  `tessellate`: which panic messages the modelled sweep can end in.  The three steps of an event are
  specified once relative to the scanned state (`SweepCoh.processEdgesAbove_spec`,
  `processEdgesBelow_spec`, `updateActiveEdges_inv`, `SweepCoh.evBody_spec`), each index either valid or
  an allowed failure; here the second side is taken, for every state.  `sort_active_edges` too is walked
  once (`SweepCoh.sortActiveEdges_fr`): this file rests on the coherence files for both.
-/
import LyonVerif.Lemmas.SweepSafeCohLoop
import LyonVerif.Lemmas.SweepSafeCohRecover

set_option linter.unusedVariables false
set_option mvcgen.warning false

namespace Lyon.SweepSafe
open Lyon Lyon.Scalar Lyon.Mono Lyon.Sweep Lyon.EQ
open Std.Do

variable {α : Type} [Scalar α] [Wide α]
variable {tol : α} {n : Nat} {A : List String}

/-- what `process_edges_below` / `update_active_edges` need to know about the scan result -/
def Fit (tol : α) (s : St α) (sc : Scan) : Prop :=
  sc.aboveEnd ≤ s.active.size ∧ (sc.splitEvent = true → 1 ≤ sc.aboveStart) ∧
  (HorizAgree tol → sc.aboveStart ≤ sc.aboveEnd)

theorem core_of_safe {s : St α} (h : Safe tol s) : Core tol s.active.size [] s :=
  ⟨(safe_iff.mp h).1, (safe_iff.mp h).2, rfl⟩

theorem fit_above {s s' : St α} {scan : Scan} (h : ScanOk s scan) (htol : s.tolerance = tol)
    (hn : s'.active.size = s.active.size) : Fit tol s' (aboveResult scan) := by
  unfold aboveResult
  split
  · rename_i hm
    refine ⟨hn ▸ h.end_le, fun h' => Nat.le_succ_of_le (h.split_pos h'), ?_⟩
    intro hH
    have := h.merge_room (htol ▸ hH) hm
    dsimp only
    omega
  · exact ⟨hn ▸ h.end_le, h.split_pos, fun _ => h.start_le⟩

/-- `process_edges_above` after a scan of the state itself: the only panic is a span index -/
theorem processEdgesAbove_safeS (hA : mSpanIdx ∈ A) (scan : Scan) :
    ⦃fun s => ⌜Safe tol s ∧ ScanOk s scan⌝⦄ (processEdgesAbove scan : SM α Scan)
    ⦃safePost A fun sc s => Safe tol s ∧ Fit tol s sc⦄ :=
  safe_conseq fun s hs => ⟨_, _, ⟨rfl, rfl, rfl, rfl⟩,
    SweepCoh.processEdgesAbove_spec s scan hs.2 (safe_iff.mp hs.1).1 (Or.inl hA),
    fun _ _ _ h => ⟨h.2.1.safe (safe_iff.mp hs.1).2, h.1 ▸ fit_above hs.2 (safe_iff.mp hs.1).2 h.2.1.asize⟩⟩

/-- `process_edges_below` with any scan record that fits: relative to the state itself (`RelZ s {} _ s` is
the frame) -/
theorem processEdgesBelow_safeS (h1A : mEdgeIdx ∈ A) (h2A : mSpanIdx ∈ A) (h3A : mSpanIns ∈ A) (scan : Scan) :
    ⦃fun s => ⌜Safe tol s ∧ Fit tol s scan⌝⦄ (processEdgesBelow scan : SM α Unit)
    ⦃safePost A fun _ s => Safe tol s ∧ Fit tol s scan⦄ :=
  safe_conseq fun s hs => ⟨_, _,
    (⟨(safe_iff.mp hs.1).1, rfl, rfl, fun _ _ => rfl, (fun h => nomatch h), rfl, rfl⟩ :
      SweepCoh.RelZ s {} s.spans.size s),
    SweepCoh.processEdgesBelow_spec s {} _ scan hs.2.2.1 (Or.inl ⟨h1A, h2A, h3A⟩),
    fun _ _ _ h => ⟨h.safe (safe_iff.mp hs.1).2, h.asize ▸ hs.2.1, hs.2.2.1, hs.2.2.2⟩⟩

theorem updateActiveEdges_safeS (hUp : NextUpOk α ∨ mAssert ∈ A) (hH : HorizAgree tol ∨ mSplice ∈ A)
    (scan : Scan) :
    ⦃fun s => ⌜Safe tol s ∧ Fit tol s scan⌝⦄ (updateActiveEdges scan : SM α Unit)
    ⦃safePost A fun _ s => Safe tol s⦄ :=
  safe_conseq fun s hs => ⟨_, _, ⟨core_of_safe hs.1, rfl⟩,
    updateActiveEdges_inv (coreIx tol s.active.size (SweepSafe.bwOf s.below)) hUp scan
      (hH.elim (fun h => Or.inr (hs.2.2.2 h)) Or.inl) hs.2.1,
    fun _ _ _ ⟨s1, h1, e⟩ => e ▸ safe_iff.mpr ⟨h1.1.1, h1.1.2.1⟩⟩

/-- the hypotheses on the list `A` of panic messages under which the sweep's failures are `Allowed A` -/
structure Covers (tol : α) (A : List String) : Prop where
  spanIdx : mSpanIdx ∈ A
  spanIns : mSpanIns ∈ A
  edgeIdx : mEdgeIdx ∈ A
  nan : NoNaN α ∨ mNaN ∈ A
  up : NextUpOk α ∨ mAssert ∈ A
  horiz : HorizAgree tol ∨ mSplice ∈ A

/-- `process_events` (scan, edges above, edges below, active-edge update): no `mSub`, no `mNaN`.
The coverage marks between the scan and the three steps touch nothing the relation to the scanned state
reads; the three steps are `SweepCoh.evBody_spec` with the index failures allowed -/
theorem processEvents_safe (h1A : mSpanIdx ∈ A) (h2A : mSpanIns ∈ A) (h3A : mEdgeIdx ∈ A)
    (hUp : NextUpOk α ∨ mAssert ∈ A) (hH : HorizAgree tol ∨ mSplice ∈ A) :
    ⦃fun s => ⌜Safe tol s⌝⦄ (processEvents : SM α (Option IErr)) ⦃safePost A fun _ s => Safe tol s⦄ :=
  fun s hS => SweepCoh.processEvents_of_body s (fun _ _ => hS) (fun scan hx =>
    have hb := SweepCoh.of_scan_both hx
    have ht := (safe_iff.mp hS).2
    safe_conseq fun s' hs' => ⟨_, _, hs',
      SweepCoh.evBody_spec s scan hb.1 hb.2 (safe_iff.mp hS).1 hUp (Or.inl ⟨h1A, h2A, h3A⟩)
        (hH.elim (fun h => Or.inr (SweepCoh.scanAgree_of_horiz hb.1 hb.2 (ht ▸ h))) Or.inl),
      fun _ _ _ h => h.2.safe ht⟩) s rfl

/-- the sort of `recover_from_error` keeps spans and tolerance (`SweepCoh.sortActiveEdges_fr` read from
the state itself) -/
theorem sortActiveEdges_safe (hNaN : NoNaN α ∨ mNaN ∈ A) :
    ⦃fun s => ⌜Safe tol s⌝⦄ (sortActiveEdges : SM α Unit) ⦃safePost A fun _ s => Safe tol s⦄ :=
  safe_conseq fun s hs => ⟨_, _, ⟨rfl, rfl, rfl, rfl⟩, SweepCoh.sortActiveEdges_fr hNaN s,
    fun _ _ _ h => hs.frame h.1 h.2.1⟩

theorem recSpans_safe (s1 : St α) :
    ⦃fun s => ⌜Safe tol s⌝⦄ (recSpans s1 : SM α Unit) ⦃safePost A fun _ s => Safe tol s⦄ :=
  safe_conseq fun s hs => ⟨_, _, ⟨hs, rfl⟩, recSpans_spec s1 tol s.rule,
    fun _ _ _ h => safe_iff.mpr ⟨h.1.live, h.1.tol⟩⟩

theorem recoverFromError_safe (hNaN : NoNaN α ∨ mNaN ∈ A) :
    ⦃fun s => ⌜Safe tol s⌝⦄ (recoverFromError : SM α Unit) ⦃safePost A fun _ s => Safe tol s⦄ := by
  rw [recoverFromError_eq]
  have h1 := mark_safeS (α := α) (tol := tol) (A := A)
  have h2 := sortActiveEdges_safe (α := α) (tol := tol) (A := A) hNaN
  have h3 := fun c (_ : Decidable c) k => (OnlyCov.markIf (α := α) c k).keeps (P := Safe tol) fun _ _ _ h => h.frame rfl rfl
  have h4 := fun s1 => recSpans_safe (α := α) (tol := tol) (A := A) s1
  mvcgen [h1, h2, h3, h4]

theorem initializeEvents_frame (s : St α) :
    ⦃fun s' => ⌜s' = s⌝⦄ (initializeEvents : SM α Unit)
    ⦃safePost A fun _ s1 => s1.spans = s.spans ∧ s1.active = s.active ∧ s1.rule = s.rule ∧
      s1.tolerance = s.tolerance⦄ := by
  unfold initializeEvents
  mvcgen
  all_goals first
    | exact allowed_err _
    | exact allowed_fuel
    | (have h := ‹(_ : St α) = s›; subst h; exact ⟨rfl, rfl, rfl, rfl⟩)

theorem initializeEvents_safe :
    ⦃fun s => ⌜Safe tol s⌝⦄ (initializeEvents : SM α Unit) ⦃safePost A fun _ s => Safe tol s⦄ :=
  safe_conseq fun s hs => ⟨(· = s), _, rfl, initializeEvents_frame s, fun _ _ _ h => hs.frame h.1 h.2.2.2⟩

theorem evRecover_safe (hA : Covers tol A) :
    ⦃fun s => ⌜Safe tol s⌝⦄ (evRecover : SM α Unit) ⦃safePost A fun _ s => Safe tol s⦄ :=
  evRecover_keeps (processEvents_safe hA.spanIdx hA.spanIns hA.edgeIdx hA.up hA.horiz)
    (recoverFromError_safe hA.nan) fun _ _ _ => allowed_err _

theorem tessellatorLoop_safe (hA : Covers tol A) : ∀ f : Nat,
    ⦃fun s => ⌜Safe tol s⌝⦄ (tessellatorLoop f : SM α Unit) ⦃safePost A fun _ s => Safe tol s⦄ :=
  tessellatorLoop_phases (I := fun _ => Safe tol) (J := fun _ => Safe tol) (J' := fun _ => Safe tol) (fun _ _ => allowed_fuel)
    (fun _ _ _ => allowed_fuel) (fun _ _ h _ => h) (fun _ s hs => initializeEvents_safe s hs.1)
    (fun _ => evRecover_safe hA) fun _ _ h => h.frame rfl rfl

theorem safe_of_empty {t : α} (s : St α) (h1 : s.spans = #[]) (h2 : s.tolerance = t) : Safe t s :=
  safe_iff.mpr ⟨by intro k hk; simp [h1] at hk, h2⟩

theorem tessellateImpl_fail {q : Queue α} {rule : Slab.Rule} {horizontal : Bool} {tol : α} {handleIx : Bool} {f : Fail}
    (hf : (tessellateImpl q rule horizontal tol handleIx).1 = some f) :
    (∃ k, f = .err k) ∨ ((tessellatorLoop (4 * q.events.size * q.events.size + 1000)).run.run
      (SweepCoh.initSt q rule horizontal tol handleIx)).1 = .error f := by
  revert hf
  refine tessellateImpl_cases (fun r => r.1 = some f → _) q rule horizontal tol handleIx
    (fun h => Or.inl ⟨_, (Option.some.inj h).symm⟩) fun r s hr h => Or.inr ?_
  rw [hr]
  cases r with
  | error f' => exact congrArg Except.error (Option.some.inj h)
  | ok _ => cases h

theorem tessellate_fail {entry : Entry} {rule : Slab.Rule} {horizontal : Bool} {tol : α} {handleIx : Bool}
    {subs : List (SubPath α)} {f : Fail} (hf : (tessellate entry rule horizontal tol handleIx subs).1 = some f) :
    (∃ k, f = .unmodelled k) ∨
      (tessellateImpl (buildQueue entry horizontal subs).sort rule horizontal tol handleIx).1 = some f := by
  revert hf
  exact tessellate_cases (fun r => r.1 = some f → _) entry rule horizontal tol handleIx subs
    (fun h => Or.inl ⟨_, (Option.some.inj h).symm⟩) Or.inr

theorem tessellateImpl_allowed (q : Queue α) (rule : Slab.Rule) (horizontal : Bool) (tol : α) (handleIx : Bool)
    (hA : Covers (tol * half) A) (f : Fail)
    (hf : (tessellateImpl q rule horizontal tol handleIx).1 = some f) : Allowed A f := by
  rcases tessellateImpl_fail hf with ⟨k, rfl⟩ | h
  · exact allowed_err k
  · exact allowed_of_run (tessellatorLoop_safe hA _) (safe_of_empty _ rfl rfl) h

/-- the whole modelled `FillTessellator` on polygonal input -/
theorem tessellate_allowed (entry : Entry) (rule : Slab.Rule) (horizontal : Bool) (tol : α) (handleIx : Bool)
    (subs : List (SubPath α)) (hA : Covers (tol * half) A) (f : Fail)
    (hf : (tessellate entry rule horizontal tol handleIx subs).1 = some f) : Allowed A f := by
  rcases tessellate_fail hf with ⟨k, rfl⟩ | h
  · exact allowed_unmodelled k
  · exact tessellateImpl_allowed _ _ _ _ _ hA f h

end Lyon.SweepSafe
