/-
  C07b - error recovery (`sort_active_edges` and `recover_from_error` only rearrange the active list and do span
  bookkeeping, `Sweep.Rearr`; neither touches the queue) and the loop: `process_events` and `tessellator_loop` from
  the record `keeps_sinv`, `initialize_events` (the
  one step that emits a vertex with its sibling records), `tessellate_impl` on any structurally well-formed
  queue.  The queues of the two entry points are the subject of `Lemmas/SweepRepBuild.lean`.
-/
import LyonVerif.Lemmas.SweepRepActive

set_option linter.unusedSectionVars false
set_option mvcgen.warning false

namespace Lyon.SweepRep
open Lyon Lyon.Scalar Lyon.Mono Lyon.Sweep Lyon.EQ
open Std.Do

variable {α : Type} [Scalar α] [Wide α]
variable (IdP : Nat → Nat → Prop) (U : α → Prop)

theorem sortActiveEdges_spec :
    ⦃fun s => ⌜SInv IdP U s⌝⦄ (sortActiveEdges : SM α Unit) ⦃keepsR IdP U⦄ :=
  keeps_of_rel Rearr.refl sortActiveEdges_rearr fun _ _ h r => h.rearr r

theorem recoverFromError_spec :
    ⦃fun s => ⌜SInv IdP U s⌝⦄ (recoverFromError : SM α Unit) ⦃keepsR IdP U⦄ :=
  keeps_of_rel Rearr.refl recoverFromError_rearr fun _ _ h r => h.rearr r

theorem processEvents_spec {V : α → Prop} {M : Wide.W α → Prop} (hcl : Closure U V) (hw : WClosure V M) :
    ⦃fun s => ⌜SInv IdP U s⌝⦄ (processEvents : SM α (Option IErr)) ⦃keepsR IdP U⦄ :=
  processEvents_keeps (S := fun _ => SInv IdP U) (fun _ _ _ h => h) (fun _ _ _ hc h => h.setCov hc) (fun scan =>
    evBody_keeps scan (keeps_sinv IdP U _) (fun _ h => h) (fun _ i hi h => h.mergeAt i hi) (keeps_sinv IdP U #[])
      (sortEdgesBelow_spec IdP U) (handleCoincidentEdgesBelow_spec IdP U) (handleIntersectionsStep_spec IdP U hcl hw)
      fun _ a b h => h.splice a b) fun _ h => h

variable {IdP U}

theorem SInv.init {s s' : St α} (h : SInv IdP U s) (pos : P α)
    (e1 : s'.q = s.q) (e2 : s'.curEvent = s.curEvent) (e3 : s'.cov = s.cov) (e4 : s'.active = s.active)
    (e5 : s'.below = (s.q.siblings s.q.fuel s.curEvent).foldl (fun (b : Array (PendingEdge α)) i =>
        let e := s.q.ed i
        if e.isEdge then b.push ⟨e.to, slope (e.to - s.q.position s.curEvent), i, e.winding, e.t1⟩ else b) s.below)
    (e6 : s'.out = s.out.push (.vertex pos ((s.q.siblings s.q.fuel s.curEvent).map fun i => (s.q.position i, s.q.ed i)))) :
    SInv IdP U s' := by
  have hsib : ∀ i ∈ s.q.siblings s.q.fuel s.curEvent, i < s.q.edgeData.size := by
    intro i hi
    rw [h.qok.size]
    exact siblings_lt h.qok _ _ h.cur i hi
  refine ⟨e1 ▸ h.qok, by rw [e1, e2]; exact h.cur, by rw [e1, e3]; exact h.data, by rw [e1, e3, e4]; exact h.active, ?_, ?_⟩
  · rw [e1, e3, e5]
    exact init_below_all _ _ _ _ (fun i hi _ => ⟨hsib i hi, (h.data.ed (hsib i hi)).2.2⟩) _ h.below
  · rw [e3, e6]
    intro p recs hm r hr
    rcases Array.mem_push.mp hm with hm | hm
    · exact h.out p recs hm r hr
    · cases hm
      obtain ⟨i, hi, rfl⟩ := List.mem_map.mp hr
      exact h.data.ed (hsib i hi)

theorem SInv.advance {s s' : St α} (h : SInv IdP U s) (e1 : s'.q = s.q) (e2 : s'.curEvent = s.q.nextId s.curEvent)
    (e3 : s'.cov = s.cov) (e4 : s'.active = s.active) (e5 : s'.below = s.below) (e6 : s'.out = s.out) : SInv IdP U s' :=
  ⟨e1 ▸ h.qok, by rw [e1, e2]; exact h.qok.nextId _, by rw [e1, e3]; exact h.data, by rw [e1, e3, e4]; exact h.active,
    by rw [e1, e3, e5]; exact h.below, by rw [e3, e6]; exact h.out⟩

variable (IdP U)

theorem initializeEvents_spec :
    ⦃fun s => ⌜SInv IdP U s⌝⦄ (initializeEvents : SM α Unit) ⦃keepsR IdP U⦄ := by
  unfold initializeEvents
  mvcgen
  all_goals first
    | sinv0
    | (have hS := ‹SInv IdP U _›; exact hS.init _ rfl rfl rfl rfl rfl rfl)

theorem tessellatorLoop_spec {V : α → Prop} {M : Wide.W α → Prop} (hcl : Closure U V) (hw : WClosure V M) : ∀ f : Nat,
    ⦃fun s => ⌜SInv IdP U s⌝⦄ (tessellatorLoop f : SM α Unit) ⦃keepsR IdP U⦄ :=
  tessellatorLoop_phases (I := fun _ => SInv IdP U) (J := fun _ => SInv IdP U) (J' := fun _ => SInv IdP U) (E := fun _ => SInv IdP U)
    (fun _ h => h) (fun _ _ h => h) (fun _ _ h _ => h) (fun _ s hs => initializeEvents_spec IdP U s hs.1)
    (fun _ => evRecover_keeps (processEvents_spec IdP U hcl hw) (recoverFromError_spec IdP U)
      fun _ _ h => h.setCov (.or_right _ _))
    fun _ _ h => h.advance rfl rfl rfl rfl rfl rfl

theorem tessellatorLoop_run {V : α → Prop} {M : Wide.W α → Prop} (hcl : Closure U V) (hw : WClosure V M) (f : Nat)
    (s0 : St α) (h0 : SInv IdP U s0) : SInv IdP U ((tessellatorLoop f).run.run s0).2 :=
  SweepIdx.run_of_triple (tessellatorLoop_spec IdP U hcl hw f) s0 h0

/-- **`tessellate_impl` on any structurally well-formed queue**: every record emitted with a vertex
satisfies `DOk` relative to the coverage the run reports - whatever the outcome. -/
theorem tessellateImpl_records {V : α → Prop} {M : Wide.W α → Prop} (hcl : Closure U V) (hw : WClosure V M)
    (q : Queue α) (hq : QOk q) (hd : ∀ d ∈ q.edgeData, DOk IdP U d)
    (rule : Slab.Rule) (horizontal : Bool) (tol : α) (handleIx : Bool) :
    OutOkR IdP U (tessellateImpl q rule horizontal tol handleIx).2.2 (tessellateImpl q rule horizontal tol handleIx).2.1 := by
  refine tessellateImpl_cases (fun r => OutOkR IdP U r.2.2 r.2.1) _ _ _ _ _ (by intro p r hm; simp at hm) fun r s hr => ?_
  have h1 : SInv IdP U s := by
    have := tessellatorLoop_run IdP U hcl hw (4 * q.events.size * q.events.size + 1000)
      (SweepCoh.initSt q rule horizontal tol handleIx)
      ⟨hq, hq.first, fun i hi => (hd _ (Array.getElem_mem hi)).mono (fun _ u => Or.inr u), all_empty, all_empty,
        by intro p r hm; simp [SweepCoh.initSt] at hm⟩
    rwa [hr] at this
  cases r with
  | error f => exact h1.out
  | ok u =>
    intro p recs hm
    exact (h1.out.mono (finish_cov s)) p recs (finish_vertex hm)

end Lyon.SweepRep
