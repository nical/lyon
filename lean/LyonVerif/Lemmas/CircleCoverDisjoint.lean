/-
  The triangles of `fill_circle` do not overlap: the geometric part.  Two triangles on the two closed sides
  of a line are disjoint (`disj_of_sep`); for triangles with vertices on the circle the line is a chord: vertices on
  the arc `[a, b]` against vertices on `[b, a + 2π]` (`disj_of_arcs`, from `side_nonpos/nonneg` of
  `Lemmas/CircleCoverSide.lean`).
-/
import LyonVerif.Lemmas.CircleCoverSide

set_option linter.unusedSectionVars false

namespace Lyon.C03c
open Lyon Lyon.Shapes Lyon.C03

variable {K : Type} [Field K] [LinearOrder K] [IsStrictOrderedRing K] [Transc K]

/-- strictly inside the triangle: the three edge functions have the same strict sign -/
def StrictIn (T : Tri3 K) (p : P K) : Prop :=
  (0 < (T.2.1 - T.1).cross (p - T.1) ∧ 0 < (T.2.2 - T.2.1).cross (p - T.2.1) ∧ 0 < (T.1 - T.2.2).cross (p - T.2.2)) ∨
  ((T.2.1 - T.1).cross (p - T.1) < 0 ∧ (T.2.2 - T.2.1).cross (p - T.2.1) < 0 ∧ (T.1 - T.2.2).cross (p - T.2.2) < 0)

/-- no point is strictly inside both triangles -/
def Disj (T1 T2 : Tri3 K) : Prop := ∀ p : P K, ¬ (StrictIn T1 p ∧ StrictIn T2 p)

theorem Disj.symm {T1 T2 : Tri3 K} (h : Disj T1 T2) : Disj T2 T1 := fun p hp => h p ⟨hp.2, hp.1⟩

theorem strictIn_weights {T : Tri3 K} {p : P K} (h : StrictIn T p) :
    0 < (T.2.1 - T.1).cross (T.2.2 - T.1) * (T.2.2 - T.2.1).cross (p - T.2.1) ∧
    0 < (T.2.1 - T.1).cross (T.2.2 - T.1) * (T.1 - T.2.2).cross (p - T.2.2) ∧
    0 < (T.2.1 - T.1).cross (T.2.2 - T.1) * (T.2.1 - T.1).cross (p - T.1) := by
  rw [← (bary_coords T.1 T.2.1 T.2.2 p p).1]
  rcases h with ⟨p1, p2, p3⟩ | ⟨p1, p2, p3⟩
  · have hs := add_pos (add_pos p1 p2) p3
    exact ⟨mul_pos hs p2, mul_pos hs p3, mul_pos hs p1⟩
  · have hs := add_neg (add_neg p1 p2) p3
    exact ⟨mul_pos_of_neg_of_neg hs p2, mul_pos_of_neg_of_neg hs p3, mul_pos_of_neg_of_neg hs p1⟩

/-- a point strictly inside a triangle whose vertices satisfy `f ≤ 0` (`f = E × (· − U)`) has
`f ≤ 0`, and `f = 0` only if `f` vanishes at the three vertices; the triangle has non-zero area -/
theorem strict_halfplane (T : Tri3 K) (p U E : P K) (h : StrictIn T p)
    (hA : E.cross (T.1 - U) ≤ 0) (hB : E.cross (T.2.1 - U) ≤ 0) (hC : E.cross (T.2.2 - U) ≤ 0) :
    E.cross (p - U) ≤ 0 ∧
    (E.cross (p - U) = 0 → E.cross (T.1 - U) = 0 ∧ E.cross (T.2.1 - U) = 0 ∧ E.cross (T.2.2 - U) = 0) ∧
    (T.2.1 - T.1).cross (T.2.2 - T.1) ≠ 0 := by
  obtain ⟨w2, w3, w1⟩ := strictIn_weights h
  have hD : (T.2.1 - T.1).cross (T.2.2 - T.1) ≠ 0 := left_ne_zero_of_mul w1.ne'
  -- `D²·f(p)` is the sum of three terms `≤ 0`
  have t2 := mul_nonpos_of_nonneg_of_nonpos w2.le hA
  have t3 := mul_nonpos_of_nonneg_of_nonpos w3.le hB
  have t1 := mul_nonpos_of_nonneg_of_nonpos w1.le hC
  have key := bary_cross T.1 T.2.1 T.2.2 p U E
  refine ⟨?_, fun h0 => ?_, hD⟩
  · refine nonpos_of_mul_nonpos_right ?_ (mul_self_pos.2 hD)
    linear_combination t2 + t3 + t1 + (T.2.1 - T.1).cross (T.2.2 - T.1) * key
  · -- the three terms `≤ 0` add up to `D²·0`, so each vanishes, and its weight does not
    rw [h0, mul_zero] at key
    exact ⟨(mul_eq_zero.1 (le_antisymm t2
        (by linear_combination t3 + t1 + (T.2.1 - T.1).cross (T.2.2 - T.1) * key))).resolve_left w2.ne',
      (mul_eq_zero.1 (le_antisymm t3
        (by linear_combination t2 + t1 + (T.2.1 - T.1).cross (T.2.2 - T.1) * key))).resolve_left w3.ne',
      (mul_eq_zero.1 (le_antisymm t1
        (by linear_combination t2 + t3 + (T.2.1 - T.1).cross (T.2.2 - T.1) * key))).resolve_left w1.ne'⟩

theorem disj_of_sep (T1 T2 : Tri3 K) (U E : P K) (hE : ∃ W : P K, E.cross W ≠ 0)
    (h1 : E.cross (T1.1 - U) ≤ 0 ∧ E.cross (T1.2.1 - U) ≤ 0 ∧ E.cross (T1.2.2 - U) ≤ 0)
    (h2 : 0 ≤ E.cross (T2.1 - U) ∧ 0 ≤ E.cross (T2.2.1 - U) ∧ 0 ≤ E.cross (T2.2.2 - U)) :
    Disj T1 T2 := by
  intro p ⟨s1, s2⟩
  obtain ⟨le1, eq1, hD1⟩ := strict_halfplane T1 p U E s1 h1.1 h1.2.1 h1.2.2
  have hneg : ∀ X : P K, (-E).cross (X - U) = -(E.cross (X - U)) := by
    intro X; simp only [P.cross, P.sub_def, P.neg_def]; ring
  obtain ⟨le2, _, _⟩ := strict_halfplane T2 p U (-E) s2 (by rw [hneg]; exact neg_nonpos.2 h2.1)
    (by rw [hneg]; exact neg_nonpos.2 h2.2.1) (by rw [hneg]; exact neg_nonpos.2 h2.2.2)
  rw [hneg] at le2
  have h0 : E.cross (p - U) = 0 := le_antisymm le1 (neg_nonpos.1 le2)
  obtain ⟨zA, zB, zC⟩ := eq1 h0
  -- the three corners of `T1` are on the line, and `E ≠ 0`
  obtain ⟨W, hW⟩ := hE
  refine hD1 ((mul_eq_zero.1 ?_).resolve_left hW)
  obtain ⟨A, B, C⟩ := T1
  simp only [P.cross, P.sub_def] at zA zB zC ⊢
  linear_combination (W.x * (C.y - A.y) - W.y * (C.x - A.x)) * (zB - zA)
    - (W.x * (B.y - A.y) - W.y * (B.x - A.x)) * (zC - zA)

noncomputable section

/-- `X` is the point of the circle at some angle in `[lo, hi]` -/
def OnArc (c : P K) (r lo hi : K) (X : P K) : Prop := ∃ θ : K, lo ≤ θ ∧ θ ≤ hi ∧ X = pos c r θ

def ArcTri (c : P K) (r lo hi : K) (T : Tri3 K) : Prop :=
  OnArc c r lo hi T.1 ∧ OnArc c r lo hi T.2.1 ∧ OnArc c r lo hi T.2.2

theorem OnArc.mono {c : P K} {r lo hi lo' hi' : K} {X : P K} (h : OnArc c r lo hi X) (h1 : lo' ≤ lo) (h2 : hi ≤ hi') :
    OnArc c r lo' hi' X := by
  obtain ⟨θ, a, b, e⟩ := h
  exact ⟨θ, by linarith, by linarith, e⟩

theorem OnArc.shift (L : CircTrig K) {c : P K} {r lo hi : K} {X : P K} (h : OnArc c r lo hi X) :
    OnArc c r (lo + 2 * Transc.pi) (hi + 2 * Transc.pi) X := by
  obtain ⟨θ, a, b, e⟩ := h
  exact ⟨θ + 2 * Transc.pi, by linarith, by linarith, by rw [pos_periodic L]; exact e⟩

theorem ArcTri.mono {c : P K} {r lo hi lo' hi' : K} {T : Tri3 K} (h : ArcTri c r lo hi T) (h1 : lo' ≤ lo) (h2 : hi ≤ hi') :
    ArcTri c r lo' hi' T := ⟨h.1.mono h1 h2, h.2.1.mono h1 h2, h.2.2.mono h1 h2⟩

theorem ArcTri.shift (L : CircTrig K) {c : P K} {r lo hi : K} {T : Tri3 K} (h : ArcTri c r lo hi T) :
    ArcTri c r (lo + 2 * Transc.pi) (hi + 2 * Transc.pi) T := ⟨h.1.shift L, h.2.1.shift L, h.2.2.shift L⟩

theorem disj_of_arcs (L : CircTrig K) (c : P K) (r a b : K) (hr : r ≠ 0) (h0 : a < b) (h1 : b < a + 2 * Transc.pi)
    (T1 T2 : Tri3 K) (t1 : ArcTri c r a b T1) (t2 : ArcTri c r b (a + 2 * Transc.pi) T2) : Disj T1 T2 := by
  -- the chord is not the zero vector: with the mid point of the arc it spans a non-degenerate triangle
  obtain ⟨m0, m1⟩ := mid_mem h0
  apply disj_of_sep T1 T2 (pos c r a) (pos c r b - pos c r a) ⟨pos c r ((a + b) * Scalar.half) - pos c r b, fun h =>
    arc_area_ne L c hr m0 m1 h1 (by rw [← h]; simp only [P.cross, P.sub_def]; ring)⟩
  · obtain ⟨⟨θ1, x1, y1, e1⟩, ⟨θ2, x2, y2, e2⟩, ⟨θ3, x3, y3, e3⟩⟩ := t1
    rw [e1, e2, e3]
    exact ⟨side_nonpos L c r a b θ1 h0 h1 x1 y1, side_nonpos L c r a b θ2 h0 h1 x2 y2, side_nonpos L c r a b θ3 h0 h1 x3 y3⟩
  · obtain ⟨⟨θ1, x1, y1, e1⟩, ⟨θ2, x2, y2, e2⟩, ⟨θ3, x3, y3, e3⟩⟩ := t2
    rw [e1, e2, e3]
    exact ⟨side_nonneg L c r a b θ1 h0 h1 x1 y1, side_nonneg L c r a b θ2 h0 h1 x2 y2, side_nonneg L c r a b θ3 h0 h1 x3 y3⟩

end

end Lyon.C03c
