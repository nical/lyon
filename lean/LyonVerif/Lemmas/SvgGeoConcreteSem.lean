/-
  C15b, the semantics predicates and helper lemmas for `Props/C15b.lean`: the concrete geometry over
  ℝ (`realGeo`), what `arc_to` must do (`ArcToSem`) and the proof that it does (`arcTo_sem`), the
  centre-form arc (`arcOf`, `arcStart`), the witness state of the repaired finding
  C15-arc-zero-sweep-stale-position, the side condition on centre-form arcs in whole sequences
  (`CenterArcsOk`) and the laws `RunOk` of the concrete geometry (`runOk_real`).
-/
import LyonVerif.Lemmas.SvgGeoConcreteReal

set_option linter.unusedSimpArgs false

namespace Lyon.C15b
open Lyon Lyon.Path Lyon.Svg Lyon.ArcConv Lyon.C13

/-- the concrete geometry over ℝ (`Arc::cast::<f64>()` / `cast::<f32>()` are the identity there) -/
noncomputable def realGeo [Eps ℝ] : Geo ℝ (ArcArgs ℝ) := concreteGeo quadsOf
/-- … with the start point of every piece -/
noncomputable def realGeoQ [Eps ℝ] : GeoQ ℝ (ArcArgs ℝ) := concreteGeoQ quadsOf

/-- what the wrapped builder receives before the pieces of an `arc_to`: the implicit move-to at the
current position, or (inside a sub-path) the zero-length `line_to(arc_start = current_position)` -/
def arcToLead (s : St ℝ) : Calls ℝ :=
  if s.needMoveTo then endIfNeeded s ++ [.begin s.cur ()] else [.line s.cur ()]

/-- … of a centre-form `arc` whose ellipse point at the start angle is `start` -/
noncomputable def arcLead (s : St ℝ) (start : Pt ℝ) : Calls ℝ :=
  if s.needMoveTo then endIfNeeded s ++ [.begin start ()]
  else if nearStart start s.cur then [.line start ()] else []

/-- the semantics of `arc_to(radii, x_rotation, flags, to)` issued in state `s`, as a predicate on
the resulting state and calls -/
def ArcToSem [Eps ℝ] (s : St ℝ) (r : ArcArgs ℝ) (tgt : Pt ℝ) (out : St ℝ × Calls ℝ) : Prop :=
  (ArcConv.isStraightLine (svgArcOf r s.cur tgt) = true → out = lineTo s tgt)
  ∧ (ArcConv.isStraightLine (svgArcOf r s.cur tgt) = false →
      quadsOf (fromSvgArc (svgArcOf r s.cur tgt)) ≠ []
      ∧ Run (toP s.cur) (quadsOf (fromSvgArc (svgArcOf r s.cur tgt))) (toP tgt)
      ∧ out.2 = arcToLead s ++ quadCalls ((quadsOf (fromSvgArc (svgArcOf r s.cur tgt))).map pieceCall)
      ∧ out.1.first = (if s.needMoveTo then s.cur else s.first))
  ∧ out.1.cur = tgt
  ∧ out.1.needMoveTo = false
  ∧ ∀ p, lastPoint p out.2 = some tgt

theorem lineTo_target (s : St ℝ) (tgt : Pt ℝ) :
    (lineTo s tgt).1.cur = tgt ∧ (lineTo s tgt).1.needMoveTo = false
      ∧ ∀ p, lastPoint p (lineTo s tgt).2 = some tgt := by
  rw [lineTo_eq]
  unfold drawOut
  cases hn : s.needMoveTo <;> cases he : s.isEmpty <;>
    simp [moveTo, lastPoint, lastPoint_append, lastPoint_endIfNeeded_begin, hn]

theorem nearStart_self (p : Pt ℝ) : nearStart p p = true := by
  simp only [nearStart, sub_self, mul_zero, add_zero, decide_eq_true_eq, ofSci_eq]
  norm_num

/-- `arc_to` past `is_straight_line`: the arc of `to_arc` starts at the current position, so `arc`
finds its start point there (`near = true`) unless it returns early -/
theorem svgArcOutQ_arc [Eps ℝ] (heps0 : 0 ≤ (Eps.eps : ℝ)) (r : ArcArgs ℝ) (cur tgt : Pt ℝ)
    (hs : ArcConv.isStraightLine (svgArcOf r cur tgt) = false) :
    svgArcOutQ quadsOf r cur tgt =
      .arc (if approxEqPt cur (ofP (fromSvgArc (svgArcOf r cur tgt)).center) then .skip
        else .curve cur true (quadsOf (fromSvgArc (svgArcOf r cur tgt)))) := by
  obtain ⟨hrx, hry, hne⟩ := nondegenerate_of_not_straight _ heps0 hs
  have harc := centerArc_of_svg_real _ hrx hry hne
  obtain ⟨e0, _⟩ := svg_arc_endpoints_real _ hrx hry hne
  have hf : toP cur = (svgArcOf r cur tgt).from_ := rfl
  have hc : ofP (svgArcOf r cur tgt).from_ = cur := rfl
  simp only [svgArcOutQ, hs, Bool.false_eq_true, if_false, arcOutQ, hf, harc, Scalar.zero, sc_zero,
    e0, hc, nearStart_self]

theorem arcTo_sem [Eps ℝ] (heps : 2 / 10 ^ 6 ≤ (Eps.eps : ℝ)) (s : St ℝ) (r : ArcArgs ℝ)
    (tgt : Pt ℝ) : ArcToSem s r tgt (arcTo s tgt (realGeo.endpoint r s.cur tgt)) := by
  have heps0 : (0 : ℝ) ≤ Eps.eps := le_trans (by norm_num) heps
  unfold ArcToSem
  cases hs : ArcConv.isStraightLine (svgArcOf r s.cur tgt)
  · -- a true arc
    obtain ⟨hrx, hry, hne⟩ := nondegenerate_of_not_straight _ heps0 hs
    have hskip : approxEqPt s.cur (ofP (fromSvgArc (svgArcOf r s.cur tgt)).center) = false :=
      not_approxEq_center_real _ hrx hry hne heps hs
    obtain ⟨e0, e1⟩ := svg_arc_endpoints_real _ hrx hry hne
    obtain ⟨_, _, ⟨_, hne0, hlt, _, _⟩, _⟩ := svg_arc_real heps0 _ hs
    obtain ⟨e, hrun, hend, _, hnil⟩ := quadsOf_run_real (fromSvgArc (svgArcOf r s.cur tgt))
    have he : e = toP tgt := by rw [hend (le_of_lt hlt), e1]; rfl
    rw [e0, he] at hrun
    have hout : realGeo.endpoint r s.cur tgt =
        .arc (.curve s.cur true ((quadsOf (fromSvgArc (svgArcOf r s.cur tgt))).map pieceCall)) := by
      show (svgArcOutQ quadsOf r s.cur tgt).erase = _
      simp only [svgArcOutQ_arc heps0 r s.cur tgt hs, hskip, Bool.false_eq_true, if_false,
        SvgArcOutQ.erase, ArcOutQ.erase]
    have hlast : lastTo s.cur ((quadsOf (fromSvgArc (svgArcOf r s.cur tgt))).map pieceCall) = tgt := by
      rw [lastTo_pieces]; exact congrArg ofP hrun.end_eq
    have hnn : quadsOf (fromSvgArc (svgArcOf r s.cur tgt)) ≠ [] := fun h => hne0 (hnil.mp h)
    rw [hout]
    simp only [arcTo, arc_curve_eq]
    refine ⟨fun h => Bool.noConfusion h, fun _ => ?_, ?_, ?_, ?_⟩
    · refine ⟨hnn, hrun, ?_, ?_⟩
      · simp only [arcToLead]
        cases hn : s.needMoveTo <;> simp
      · cases hn : s.needMoveTo <;> simp
    · cases hn : s.needMoveTo <;> simp [hlast]
    · cases hn : s.needMoveTo <;> simp
    · intro p
      cases hn : s.needMoveTo
      · simp only [Bool.false_eq_true, if_false, if_true, lastPoint_append, lastPoint,
          lastPoint_quadCalls, hlast]
      · simp only [if_true]
        rw [lastPoint_append p (endIfNeeded s ++ ([Call.begin s.cur ()] : Calls ℝ)),
          lastPoint_endIfNeeded_begin, lastPoint_quadCalls, hlast]
  · -- straight line: `line_to(to)`
    have hout : realGeo.endpoint r s.cur tgt = .straight := by
      show (svgArcOutQ quadsOf r s.cur tgt).erase = _
      simp only [svgArcOutQ, hs, if_true, SvgArcOutQ.erase]
    obtain ⟨l1, l2, l3⟩ := lineTo_target s tgt
    rw [hout]
    exact ⟨fun _ => rfl, fun h => Bool.noConfusion h, l1, l2, l3⟩

/-- the arc `WithSvg::arc` builds in state `s` -/
noncomputable def arcOf (s : St ℝ) (r : ArcArgs ℝ) : Arc ℝ :=
  centerArc (toP r.center) (toP r.radii) r.sweepAngle r.xrot (toP s.cur)

/-- its start point `arc.from()`: the ellipse point at the start angle -/
noncomputable def arcStart (s : St ℝ) (r : ArcArgs ℝ) : Pt ℝ := ofP ((arcOf s r).sample 0)

theorem arcStart_on_curve (s : St ℝ) (r : ArcArgs ℝ) (hx : r.radii.x ≠ 0) (hy : r.radii.y ≠ 0)
    (t : ℝ) (ht : toP s.cur = toP r.center + Arc.sampleEllipse (toP r.radii) r.xrot t) :
    arcStart s r = s.cur := by
  unfold arcStart arcOf
  rw [ht, start_on_ellipse_real _ _ _ _ _ hx hy, ← ht]; rfl

/-- lyon's `f32` value of `S::EPSILON` (`WithSvg` works on `f32` points) -/
@[instance_reducible] noncomputable def f32Eps : Eps ℝ := ⟨1 / 10 ^ 4⟩

/-- sub-path opened at (21/20, 0): 0.05 outside the unit circle about the origin -/
noncomputable def wS : St ℝ := (moveTo (St.init 0) ⟨21 / 20, 0⟩).1
/-- `arc(center (0,0), radii (1,1), sweep 0, x_rotation 0)` -/
noncomputable def wR : ArcArgs ℝ := ⟨⟨1, 1⟩, 0, false, false, ⟨0, 0⟩, 0⟩

/-- `arc` does not return early there -/
theorem wS_off_center : approxEqPt wS.cur wR.center = false := by
  simp only [approxEqPt, wS, wR, moveTo, sc_abs, ofSci_eq, Bool.and_eq_false_iff,
    decide_eq_false_iff_not, not_lt]
  left; norm_num

theorem wArc_start : (arcOf wS wR).sample 0 = ⟨1, 0⟩ := by
  have hv : startVec (toP wR.center) wR.xrot (toP wS.cur) = ⟨21 / 20, 0⟩ := by
    apply P.ext' <;>
      simp [startVec, Arc.rotate, wS, wR, moveTo, toP, transc_sin_real, transc_cos_real, geom]
  have ha : startAngle (toP wR.center) (toP wR.radii) wR.xrot (toP wS.cur) = 0 := by
    unfold startAngle
    rw [hv, transc_atan2_real]
    simp only [wR, toP, div_one]
    have : (⟨21 / 20, 0⟩ : ℂ) = ((21 / 20 : ℝ) : ℂ) := rfl
    rw [this]
    exact Complex.arg_ofReal_of_nonneg (by norm_num)
  have hs : (arcOf wS wR).sample 0 = toP wR.center + Arc.sampleEllipse (toP wR.radii) wR.xrot
      (startAngle (toP wR.center) (toP wR.radii) wR.xrot (toP wS.cur) + wR.sweepAngle * 0) := rfl
  rw [hs, ha]
  apply P.ext' <;>
    simp [Arc.sampleEllipse, Arc.rotate, wR, toP, transc_sin_real, transc_cos_real, geom]

/-- the condition on centre-form `arc` commands for the CHAIN statement (not needed for
`current_position`): issued outside a sub-path, or skipped, or the arc's start point is less than 0.1
from the current position (the code then draws the connecting line), or the sweep is zero (no
piece), or the current position lies on the ellipse (what the code's comment "if the current position
is not on the arc …" expects).  What is excluded: inside a sub-path, start point 0.1 or more away —
the code draws no connecting line and the first piece does not start at the path's current point. -/
def CenterArcOk [Eps ℝ] (s : St ℝ) : Cmd ℝ (ArcArgs ℝ) → Prop
  | .arc r => s.needMoveTo = true ∨ approxEqPt s.cur r.center = true ∨
      nearStart (arcStart s r) s.cur = true ∨ r.sweepAngle = 0 ∨
      (r.radii.x ≠ 0 ∧ r.radii.y ≠ 0 ∧
        ∃ t, toP s.cur = toP r.center + Arc.sampleEllipse (toP r.radii) r.xrot t)
  | _ => True

def CenterArcsOk [Eps ℝ] (s : St ℝ) : List (Cmd ℝ (ArcArgs ℝ)) → Prop
  | [] => True
  | c :: rest => CenterArcOk s c ∧ CenterArcsOk (step realGeo s c).1 rest

theorem endpoint_ok_real [Eps ℝ] (heps0 : 0 ≤ (Eps.eps : ℝ)) (r : ArcArgs ℝ) (cur tgt : Pt ℝ)
    (b : Bool) : SvgOutOk b cur (realGeoQ.endpoint r cur tgt) := by
  show SvgOutOk b cur (svgArcOutQ quadsOf r cur tgt)
  cases hs : ArcConv.isStraightLine (svgArcOf r cur tgt)
  · obtain ⟨hrx, hry, hne⟩ := nondegenerate_of_not_straight _ heps0 hs
    rw [svgArcOutQ_arc heps0 r cur tgt hs]
    show OutOk b cur _
    split
    · trivial
    · exact ⟨fun _ _ _ => rfl, _, (svg_arc_endpoints_real _ hrx hry hne).1 ▸ quadsOf_run _⟩
  · simp only [svgArcOutQ, hs, if_true, SvgOutOk]

theorem center_ok_real [Eps ℝ] (s : St ℝ) (r : ArcArgs ℝ) (h : CenterArcOk s (.arc r)) :
    OutOk (!s.needMoveTo) s.cur (realGeoQ.center r s.cur) := by
  show OutOk (!s.needMoveTo) s.cur (arcOutQ quadsOf (toP r.center) (toP r.radii) r.sweepAngle r.xrot s.cur)
  unfold arcOutQ
  split
  · trivial
  · rename_i hsk
    refine ⟨fun hin hnear hq => ?_, ?_⟩
    · rcases h with h | h | h | h | ⟨hx, hy, t, ht⟩
      · simp [h] at hin
      · exact absurd h hsk
      · simp only [arcStart, arcOf] at h
        simp only [Scalar.zero, sc_zero] at hnear
        rw [h] at hnear; exact absurd hnear (by simp)
      · exfalso
        obtain ⟨_, _, _, _, hnil⟩ := quadsOf_run_real (arcOf s r)
        exact hq (hnil.mpr h)
      · have := arcStart_on_curve s r hx hy t ht
        simpa only [arcStart, arcOf, Scalar.zero, sc_zero] using this
    · rw [toP_ofP]
      simp only [Scalar.zero, sc_zero]
      exact ⟨_, quadsOf_run _⟩

theorem runOk_real [Eps ℝ] (heps0 : 0 ≤ (Eps.eps : ℝ)) (cmds : List (Cmd ℝ (ArcArgs ℝ)))
    (s : St ℝ) (hc : CenterArcsOk s cmds) : RunOk realGeoQ s cmds := by
  induction cmds generalizing s with
  | nil => trivial
  | cons c rest ih =>
    refine ⟨?_, ih _ hc.2⟩
    cases c <;> first
      | trivial
      | exact endpoint_ok_real heps0 _ _ _ _
      | exact center_ok_real s _ hc.1

/-- hypotheses of `svg_arc_on_curve_real` / last alternative of `CenterArcOk`: the point (1, 0) is
on the unit circle about the origin (parameter 0) -/
theorem on_unit_circle : toP (⟨1, 0⟩ : Pt ℝ)
    = toP (⟨0, 0⟩ : Pt ℝ) + Arc.sampleEllipse (toP (⟨1, 1⟩ : Pt ℝ)) 0 0 := by
  apply P.ext' <;>
    simp [Arc.sampleEllipse, Arc.rotate, toP, transc_sin_real, transc_cos_real, geom]

/-- a toy geometry over ℤ that satisfies the laws: every `arc_to` is one quadratic from the current
point to the target (`lawfulGeoQ.erase` is `C15.wGeo`, by `rfl`) -/
def lawfulGeoQ : GeoQ Int Unit where
  center _ _ := .skip
  endpoint _ cur tgt := .arc (.curve cur true [⟨toP cur, ⟨15, 5⟩, toP tgt⟩])

end Lyon.C15b
