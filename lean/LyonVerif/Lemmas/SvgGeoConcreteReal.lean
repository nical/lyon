/-
  C15b, real part: the concrete arc geometry of `WithSvg` (`Model/Path/SvgConcrete.lean`) over ℝ,
  with Mathlib's trigonometric functions (`exampleTransc` of `Props/C13.lean`), on top of the C13
  theorems over ℝ (`Props/C13Real.lean`).  No law of a transcendental function is assumed.

  The pieces of `arc_to_quadratic_beziers` form a connected `Run` from the ellipse point at the start angle
  (`quadsOf_run`, any ordered field).  Over ℝ: where the run ends; the start angle `WithSvg::arc` recomputes with
  `atan2` from the current position IS the start angle of `SvgArc::to_arc`, so `arc` rebuilds exactly the arc
  `arc_to` converted (lyon commits 40e30eb0 / 20bcfb88); `arc_to` never takes `arc`'s early return.
-/
import LyonVerif.Props.C13Real
import LyonVerif.Lemmas.SvgArcRealQuad
import LyonVerif.Lemmas.SvgGeoConcrete

set_option linter.unusedSectionVars false

namespace Lyon.Svg
open Lyon Scalar ArcConv Lyon.C13 Lyon.Path

section field
variable {K : Type} [Field K] [LinearOrder K] [IsStrictOrderedRing K] [Transc K] [ArcConv.Eps K]

theorem run_quadPieces (arc : Arc K) (step : K) (k i : Nat) :
    Run (quadPiece arc step i).a ((List.range' i k).map (quadPiece arc step))
      (pointAt arc (angleAt arc step (i + k))) := by
  induction k generalizing i with
  | zero => exact rfl
  | succ k ih =>
    rw [List.range'_succ, List.map_cons]
    have := ih (i + 1)
    rw [show i + 1 + k = i + (k + 1) by omega] at this
    exact ⟨rfl, this⟩

theorem quadsOf_closed_form (arc : Arc K) :
    quadsOf arc = (List.range' 0 (nQ arc)).map (quadPiece arc (stepQ arc)) := by
  unfold quadsOf
  rw [quads_closed_form, List.map_map]
  rfl

theorem quadPiece_zero_a (arc : Arc K) (step : K) : (quadPiece arc step 0).a = arc.sample 0 := by
  simp only [quadPiece, angleAt, pointAt, Arc.sample, Arc.getAngle, ofNat_eq, Nat.cast_zero, mul_zero,
    add_zero]

/-- the pieces of an arc form a connected run that starts at the ellipse point at the start
angle (`arc.from()`) — the same expressions, so this holds in floating point too
(`C13.arc_beziers_connected` says the same of consecutive indices of `quadsWithT`, without the end points) -/
theorem quadsOf_run (arc : Arc K) :
    Run (arc.sample 0) (quadsOf arc) (pointAt arc (angleAt arc (stepQ arc) (nQ arc))) := by
  have := run_quadPieces arc (stepQ arc) (nQ arc) 0
  rw [quadPiece_zero_a, Nat.zero_add] at this
  rw [quadsOf_closed_form]
  exact this

theorem quadsOf_length (arc : Arc K) : (quadsOf arc).length = nQ arc := by
  rw [quadsOf_closed_form]; simp

end field

theorem quadsOf_run_real (arc : Arc ℝ) :
    ∃ e, Run (arc.sample 0) (quadsOf arc) e
      ∧ (|arc.sweep| ≤ 2 * Real.pi → e = arc.sample 1)
      ∧ (2 * Real.pi < |arc.sweep| → e = arc.sample 0 ∧ (quadsOf arc).length = 8)
      ∧ (quadsOf arc = [] ↔ arc.sweep = 0) := by
  refine ⟨_, quadsOf_run arc, ?_, ?_, ?_⟩
  · intro hsw
    have hsw' : |arc.sweep| ≤ Transc.pi * 2 := by rw [transc_pi_real]; linarith
    obtain ⟨c1, _⟩ := cast_faithful_real arc
    by_cases h0 : arc.sweep = 0
    · obtain ⟨z, _⟩ := nSteps_zero_real arc h0
      rw [z]
      simp only [angleAt, pointAt, Arc.sample, Arc.getAngle, ofNat_eq, Nat.cast_zero, mul_zero, add_zero,
        h0, zero_mul]
    · obtain ⟨hq, _, nq, _⟩ := nSteps_pos_real arc h0
      show pointAt arc (angleAt arc (stepOf arc (nStepsQ arc)) (nQ arc)) = _
      rw [angleAt_eq_getAngle arc _ _ hsw', pointAt_getAngle, c1, div_self (ne_of_gt hq)]
  · intro hsw
    obtain ⟨_, _, _, _, _, _, h7, _⟩ := arc_beziers_beyond_turn_real arc hsw
    obtain ⟨hsq, _, _, n8, _⟩ := nSteps_full_turn_real arc (by linarith)
    rw [quadsOf_length, n8, hsq]
    exact ⟨h7, rfl⟩
  · rw [← List.length_eq_zero_iff, quadsOf_length]
    constructor
    · intro hn
      by_contra h0
      obtain ⟨_, _, nq, _⟩ := nSteps_pos_real arc h0
      omega
    · intro h0; exact (nSteps_zero_real arc h0).1

theorem rotate_neg_rotate_real (φ : ℝ) (u : P ℝ) : Arc.rotate (-φ) (Arc.rotate φ u) = u := by
  have h := Real.cos_sq_add_sin_sq φ
  apply P.ext'
  · simp only [Arc.rotate, transc_sin_real, transc_cos_real, Real.sin_neg, Real.cos_neg]
    linear_combination u.x * h
  · simp only [Arc.rotate, transc_sin_real, transc_cos_real, Real.sin_neg, Real.cos_neg]
    linear_combination u.y * h

/-- `Rotation::new(-x_rotation).transform_vector(p - center)` of a point of the ellipse -/
theorem startVec_on_ellipse_real (c r : P ℝ) (φ t : ℝ) :
    startVec c φ (c + Arc.sampleEllipse r φ t) = ⟨r.x * Real.cos t, r.y * Real.sin t⟩ := by
  have e : c + Arc.sampleEllipse r φ t - c = Arc.sampleEllipse r φ t := by
    apply P.ext' <;> simp only [geom] <;> ring
  unfold startVec
  rw [e]
  exact rotate_neg_rotate_real φ _

theorem atan2_unit_real (t : ℝ) :
    Real.cos (Transc.atan2 (Real.sin t) (Real.cos t) : ℝ) = Real.cos t
      ∧ Real.sin (Transc.atan2 (Real.sin t) (Real.cos t) : ℝ) = Real.sin t :=
  exactTrig_real.angle_exact ⟨Real.cos t, Real.sin t⟩ (exactTrig_real.cos_sq_add_sin_sq t)

theorem atan2_cos_sin_real (t : ℝ) (h1 : -Real.pi < t) (h2 : t ≤ Real.pi) :
    (Transc.atan2 (Real.sin t) (Real.cos t) : ℝ) = t := by
  rw [transc_atan2_real]
  have e : (⟨Real.cos t, Real.sin t⟩ : ℂ) = Complex.cos t + Complex.sin t * Complex.I := by
    apply Complex.ext <;> simp [Complex.cos_ofReal_re, Complex.sin_ofReal_re, Complex.cos_ofReal_im,
      Complex.sin_ofReal_im]
  rw [e]
  exact Complex.arg_cos_add_sin_mul_I ⟨h1, h2⟩

theorem start_on_ellipse_real (c r : P ℝ) (sw φ t : ℝ) (hx : r.x ≠ 0) (hy : r.y ≠ 0) :
    (centerArc c r sw φ (c + Arc.sampleEllipse r φ t)).sample 0 = c + Arc.sampleEllipse r φ t := by
  obtain ⟨hc, hs⟩ := atan2_unit_real t
  have hv := startVec_on_ellipse_real c r φ t
  have ha : startAngle c r φ (c + Arc.sampleEllipse r φ t)
      = Transc.atan2 (Real.sin t) (Real.cos t) := by
    unfold startAngle
    rw [hv]
    simp only [mul_div_cancel_left₀ _ hx, mul_div_cancel_left₀ _ hy]
  simp only [Arc.sample, Arc.getAngle, centerArc, ha, mul_zero, add_zero]
  simp only [Arc.sampleEllipse, transc_cos_real, transc_sin_real, hc, hs]

section svg
variable (a : SvgArc ℝ) (hrx : a.radii.x ≠ 0) (hry : a.radii.y ≠ 0) (hne : a.from_ ≠ a.to)
include hrx hry hne

/-- `arc` rebuilds the arc `arc_to` converted: with the centre, radii, sweep and rotation of
`SvgArc::to_arc`, the start angle `WithSvg::arc` computes from the current position `from` by
`atan2` of the un-rotated, un-scaled offset is `to_arc`'s own start angle. -/
theorem centerArc_of_svg_real :
    centerArc (fromSvgArc a).center (fromSvgArc a).radii (fromSvgArc a).sweep (fromSvgArc a).xrot a.from_
      = fromSvgArc a := by
  obtain ⟨e0, _⟩ := svg_arc_endpoints_real a hrx hry hne
  obtain ⟨_, _, px, py, _⟩ := svg_arc_radii_real a hrx hry hne
  have hstart : startAngle (fromSvgArc a).center (fromSvgArc a).radii (fromSvgArc a).xrot a.from_
      = (fromSvgArc a).start := by
    have hf : a.from_ = (fromSvgArc a).center
        + Arc.sampleEllipse (fromSvgArc a).radii (fromSvgArc a).xrot (fromSvgArc a).start := by
      rw [← e0]
      simp only [Arc.sample, Arc.getAngle, mul_zero, add_zero]
    have hr := atan2_real_range (startV a).y (startV a).x
    have hst : (fromSvgArc a).start = Transc.atan2 (startV a).y (startV a).x := rfl
    unfold startAngle
    rw [hf, startVec_on_ellipse_real]
    simp only [mul_div_cancel_left₀ _ (ne_of_gt px), mul_div_cancel_left₀ _ (ne_of_gt py)]
    exact atan2_cos_sin_real _ (by rw [hst]; exact hr.1) (by rw [hst]; exact hr.2)
  unfold centerArc
  rw [hstart]

/-- `arc_to` never takes the early return of `arc`: the current position is a point of an
ellipse whose radii exceed `S::EPSILON`; with `S::EPSILON ≥ 2·10⁻⁶` (lyon's f32 value is `10⁻⁴`) it
is not within euclid's `approx_eq` box (`10⁻⁶` per coordinate) of the centre. -/
theorem not_approxEq_center_real [Eps ℝ] (heps : 2 / 10 ^ 6 ≤ (Eps.eps : ℝ))
    (hs : ArcConv.isStraightLine a = false) :
    approxEqPt (ofP a.from_) (ofP (fromSvgArc a).center) = false := by
  obtain ⟨e0, _⟩ := svg_arc_endpoints_real a hrx hry hne
  obtain ⟨_, _, _, _, lx, ly, _⟩ := svg_arc_radii_real a hrx hry hne
  simp only [ArcConv.isStraightLine, Bool.or_eq_false_iff, decide_eq_false_iff_not, not_le, sc_abs] at hs
  obtain ⟨⟨s1, s2⟩, _⟩ := hs
  -- `from` is a point of the ellipse, so at least the smaller radius `> 2·10⁻⁶` away from the centre
  have hlow := ellMap_sqDist_center_ge (fromSvgArc a)
    ⟨Real.cos ((fromSvgArc a).getAngle 0), Real.sin ((fromSvgArc a).getAngle 0)⟩ (2 / 10 ^ 6)
    (exactTrig_real.cos_sq_add_sin_sq _) (by norm_num)
    (by linarith [le_abs_self (fromSvgArc a).radii.x]) (by linarith [le_abs_self (fromSvgArc a).radii.y])
  change _ ≤ sqDist ((fromSvgArc a).sample 0) _ at hlow
  rw [e0, sqDist] at hlow
  unfold approxEqPt
  simp only [ofP, sc_abs, ofSci_eq, Nat.cast_one, Bool.and_eq_false_iff, decide_eq_false_iff_not, not_lt]
  by_contra hcon
  push Not at hcon
  have q1 := mul_self_lt_mul_self (abs_nonneg _) hcon.1
  have q2 := mul_self_lt_mul_self (abs_nonneg _) hcon.2
  rw [abs_mul_abs_self] at q1 q2
  norm_num at hlow q1 q2
  linarith

end svg

end Lyon.Svg
