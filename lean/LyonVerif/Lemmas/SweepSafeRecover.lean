/-
  NO-PANIC: error recovery (`sort_active_edges` with its merge-vertex fix-up `swapBack`,
  `recover_from_error`).

  * `swapBack`: the indices `idx`, `idx - 1` are in range (`mEdgeIdx` unreachable here); when no
    prefix of the re-sorted active list has an `in` winding the loop reaches `idx == 0`, which is
    `Err(Internal(MergeVertexOutside))` (lyon 747d7f78; without that fix `idx - 1` underflows - a panic
    reachable on finite input, finding `C01-sort-active-edges-merge-underflow`);
  * `partial_cmp(..).unwrap()` (`mNaN`) is unreachable for a scalar type without NaN (`hNaN`);
  * `recover_from_error` = coverage mark, sort, coverage mark, span repair (`Sweep.recoverFromError_eq`); the
    span repair (`recSpans_spec`, from any state with live spans): `begin_span` is only called with
    `span_index == spans.len()` (`mSpanIns` unreachable here), the surplus spans popped are live
    (`mDead` unreachable), and one span per `in` gap of the winding fold is left.
  The sort itself is specified once, in `SweepSafeCohRecover.lean` (`sortActiveEdges_fr`); what it means
  for `Safe` is drawn in `SweepSafeLoop.lean`.  `Keep act rl tol s`: what the span repair keeps (active list,
  rule, tolerance, live spans).
-/
import LyonVerif.Lemmas.SweepSafeActive

set_option linter.unusedSectionVars false
set_option linter.unusedVariables false
set_option mvcgen.warning false

namespace Lyon.SweepSafe
open Lyon Lyon.Scalar Lyon.Mono Lyon.Sweep Lyon.EQ Lyon.SweepCoh
open Std.Do

variable {α : Type} [Scalar α] [Wide α]
variable {tol : α} {n : Nat} {A : List String}

/-- no value of the scalar type is a NaN -/
def NoNaN (α : Type) [Wide α] : Prop := ∀ x : α, Wide.isNaN x = false

theorem safe_iff {s : St α} : Safe tol s ↔ SomeExcept [] s.spans ∧ s.tolerance = tol :=
  ⟨fun ⟨_, h⟩ => ⟨h.1, h.2.1⟩, fun h => ⟨_, h.1, h.2, rfl⟩⟩

theorem Safe.frame {s s' : St α} (h : Safe tol s) (h1 : s'.spans = s.spans) (h2 : s'.tolerance = s.tolerance) :
    Safe tol s' := safe_iff.mpr ⟨h1 ▸ (safe_iff.mp h).1, h2 ▸ (safe_iff.mp h).2⟩

theorem swapBack_size (rule : Slab.Rule) (f : Nat) (a : Array (ActiveEdge α)) (idx : Nat) (w : Int)
    (a' : Array (ActiveEdge α)) (e : swapBack rule f a idx w = .ok a') : a'.size = a.size := by
  simpa using (swapBack_perm rule f a idx w a' e).length_eq

theorem swapBack_err (rule : Slab.Rule) (f : Nat) (a : Array (ActiveEdge α)) (idx : Nat) (w : Int)
    (e : Fail) (hi : idx < a.size) (h : swapBack rule f a idx w = .error e) :
    e = .fuel ∨ e = .err "Internal(MergeVertexOutside)" := by
  fun_induction swapBack rule f a idx w with
  | case1 => cases h; exact Or.inl rfl
  | case2 => cases h; exact Or.inr rfl
  | case3 => cases h
  | case4 _ _ _ _ _ _ _ _ _ _ a' _ ih => exact ih (by simp [a']; omega) h
  | case5 _ _ _ _ _ hx =>
    exact (hx _ _ (Array.getElem?_eq_getElem hi) (Array.getElem?_eq_getElem (by omega))).elim

theorem mark_safeS (b : Nat) :
    ⦃fun s => ⌜Safe tol s⌝⦄ (mark b : SM α Unit) ⦃safePost A fun _ s => Safe tol s⦄ :=
  mark_safe _ (fun s c h => h.frame rfl rfl) b

theorem anyNaN_false (h : NoNaN α) (keys : Array (α × Nat)) : anyNaNKey keys = false := by
  unfold anyNaNKey
  simp [h _]

theorem someExcept_pop {spans : Array (Option (Adv α))} (h : SomeExcept [] spans) : SomeExcept [] spans.pop := by
  intro j hj hn
  have hj' : j < spans.size := by simp at hj; omega
  rw [Array.getElem_pop] at hn
  exact h j hj' hn

structure Keep (act : Array (ActiveEdge α)) (rl : Slab.Rule) (tol : α) (s : St α) : Prop where
  act : s.active = act
  rule : s.rule = rl
  tol : s.tolerance = tol
  live : SomeExcept [] s.spans

theorem Keep.frame {act : Array (ActiveEdge α)} {rl : Slab.Rule} {tol : α} {s s' : St α} (h : Keep act rl tol s)
    (h1 : s'.active = s.active) (h2 : s'.rule = s.rule) (h3 : s'.tolerance = s.tolerance)
    (h4 : s'.spans = s.spans) : Keep act rl tol s' :=
  ⟨h1.trans h.act, h2.trans h.rule, h3.trans h.tol, h4 ▸ h.live⟩

theorem beginSpan_keep (act : Array (ActiveEdge α)) (rl : Slab.Rule) (tol : α) (i : Int) (pos : P α) (id : Nat) :
    ⦃fun s => ⌜Keep act rl tol s ∧ (s.spans.size : Int) = i⌝⦄ (beginSpan i pos id : SM α Unit)
    ⦃safePost A fun _ s => Keep act rl tol s ∧ (s.spans.size : Int) = i + 1⦄ := by
  unfold beginSpan
  mvcgen
  · rename_i s h _ _
    refine ⟨⟨h.1.act, h.1.rule, h.1.tol, someExcept_insert h.1.live _ _⟩, ?_⟩
    have := h.2
    simp
    omega
  · rename_i s h hn
    exfalso
    have := h.2
    omega

theorem need_update {w : WindingState} {rule : Slab.Rule} {x : Int} {n : Nat} (hlt : w.spanIndex < (n : Int))
    (hge : (w.update rule x).spanIndex ≥ (n : Int)) : (n : Int) = (w.update rule x).spanIndex := by
  rcases update_spanIndex w rule x with h | h <;> omega

/-- the number of spans `recover_from_error` keeps -/
def keepOf (s1 : St α) : Nat :=
  ((wfold s1.rule WindingState.new (swapLast s1.active).toList).spanIndex + 1).toNat

theorem recSpans_spec (s1 : St α) (tol : α) (rl : Slab.Rule) :
    ⦃fun s => ⌜Safe tol s ∧ s.rule = rl⌝⦄ (recSpans s1 : SM α Unit)
    ⦃safePost A fun _ s => Keep (swapLast s1.active) rl tol s ∧ s.spans.size = keepOf s1⦄ := by
  unfold recSpans
  have h3 := beginSpan_keep (α := α) (A := A) (swapLast s1.active) rl tol
  mvcgen [mark, emitTris, h3] invariants
  · post⟨fun r st => ⌜Keep (swapLast s1.active) rl tol st ∧ r.2 = wfold s1.rule WindingState.new r.1.prefix ∧
      r.2.spanIndex < (st.spans.size : Int)⌝, fun f _ => ⌜Allowed A f⌝⟩
  · post⟨fun r st => ⌜Keep (swapLast s1.active) rl tol st ∧ st.spans.size = keepOf s1 + r.1.suffix.length⌝,
      fun f _ => ⌜Allowed A f⌝⟩
  with skip
  case vc3 | vc7 => intro _ h; exact h
  -- the coverage mark before `begin_span`
  case vc1 =>
    rename_i s h hge t
    exact ⟨h.1.frame rfl rfl rfl rfl, show (s.spans.size : Int) = _ by have := h.2.2; omega⟩
  case vc5 =>
    rename_i s h hge t
    exact ⟨h.1.frame rfl rfl rfl rfl, need_update h.2.2 hge⟩
  -- one more edge folded
  case vc2 | vc6 =>
    rename_i hm s0 hinv _ _ _ s h
    refine ⟨h.1, ?_, by have := h.2; omega⟩
    rw [wfold_snoc, ← hinv.2.1]
    simp [wstep, hm]
  case vc4 | vc8 =>
    rename_i hm s h hge
    refine ⟨h.1, ?_, by omega⟩
    rw [wfold_snoc, ← h.2.1]
    simp [wstep, hm]
  case vc9 =>
    rename_i s h t
    exact ⟨⟨rfl, h.2, (safe_iff.mp h.1).2, (safe_iff.mp h.1).1⟩, rfl, show (-1 : Int) < _ by omega⟩
  -- the surplus spans popped are live
  case vc10 =>
    rename_i s h hx
    have hl : s.spans.size - 1 < s.spans.size := by
      have := h.2; simp only [List.length_cons] at this; omega
    rw [getD_eq hl] at hx
    exact absurd (h.1.live _ hl hx) (by simp)
  case vc11 =>
    rename_i s h tt hx t
    refine ⟨⟨h.1.act, h.1.rule, h.1.tol, someExcept_pop h.1.live⟩, ?_⟩
    show (Array.pop _).size = _
    have := h.2
    simp only [List.length_cons] at this
    simp only [Array.size_pop]
    omega
  case vc12 | vc15 =>
    rename_i act s' h' t r s h keep hgt
    have hk : keep = keepOf s1 := by
      show (r.spanIndex + 1).toNat = _
      rw [h.2.1]; rfl
    have h2 := h.2.2
    first
      | (refine ⟨h.1, ?_⟩; rw [range_length, ← hk]; omega)
      | (refine ⟨h.1, ?_⟩
         have : keep = (r.spanIndex + 1).toNat := rfl
         omega)

end Lyon.SweepSafe
