/-
  C14 helper lemmas: the views of `Model/Path/Store.lean` evaluated on exactly the storage a
  builder program produces (`emitPts`, `emitVerbs` of `Lemmas/PathStore.lean`).  Mathlib-free.
-/
import LyonVerif.Lemmas.PathStore
import LyonVerif.Lemmas.Trace

namespace Lyon.Path

variable {S : Type} [Inhabited S]
set_option linter.unusedSectionVars false
set_option linter.unusedSimpArgs false

/-- `Iter` over the storage of a program yields the program's specification events; inside a
sub-path (`st = some (first, cur)`) the builder's `first` is the iterator's. -/
theorem iterGo_emit (n : Nat) (prog : Prog S) (st : Option (Pt S × Pt S)) (f : Pt S) (fa : List S)
    (cur first : Pt S)
    (hn : wellNestedFrom st.isSome prog = true) (ha : attrsOk n prog = true) (hfa : fa.length = n)
    (hst : ∀ x ∈ st, x = (first, cur) ∧ f = first) :
    iterGo (attribStride n) (emitVerbs prog) (emitPts f fa prog) cur first = some (specFrom st prog) := by
  revert f fa cur first ha
  refine wellNested_induction ?_ ?_ ?_ ?_ ?_ ?_ st prog hn
  · intro f fa cur first _ _ _; simp [emitVerbs, emitPts, iterGo, specFrom]
  · intro p a r _ ih f fa cur first ha _ _
    simp only [attrsOk, Bool.and_eq_true, beq_iff_eq] at ha
    simp [emitVerbs, emitPts, iterGo, popSkip_endpoint n p a _ ha.1, ih _ a _ _ ha.2 ha.1 (fun x hx => by cases hx; exact ⟨rfl, rfl⟩), specFrom]
  · intro f0 c p a r _ ih f fa cur first ha hfa hst
    obtain ⟨h, rfl⟩ := hst _ rfl
    cases h
    simp only [attrsOk, Bool.and_eq_true, beq_iff_eq] at ha
    simp [emitVerbs, emitPts, iterGo, popSkip_endpoint n p a _ ha.1, ih _ fa _ _ ha.2 hfa (fun x hx => by cases hx; exact ⟨rfl, rfl⟩), specFrom]
  · intro f0 c k p a r _ ih f fa cur first ha hfa hst
    obtain ⟨h, rfl⟩ := hst _ rfl
    cases h
    simp only [attrsOk, Bool.and_eq_true, beq_iff_eq] at ha
    simp [emitVerbs, emitPts, iterGo, popPt, popSkip_endpoint n p a _ ha.1, ih _ fa _ _ ha.2 hfa (fun x hx => by cases hx; exact ⟨rfl, rfl⟩),
      specFrom]
  · intro f0 c k1 k2 p a r _ ih f fa cur first ha hfa hst
    obtain ⟨h, rfl⟩ := hst _ rfl
    cases h
    simp only [attrsOk, Bool.and_eq_true, beq_iff_eq] at ha
    simp [emitVerbs, emitPts, iterGo, popPt, popSkip_endpoint n p a _ ha.1, ih _ fa _ _ ha.2 hfa (fun x hx => by cases hx; exact ⟨rfl, rfl⟩),
      specFrom]
  · intro f0 c cl r _ ih f fa cur first ha hfa hst
    obtain ⟨h, rfl⟩ := hst _ rfl
    cases h
    simp only [attrsOk] at ha
    cases cl
    · simp [emitVerbs, emitPts, iterGo, ih _ fa _ _ ha hfa (by simp), specFrom]
    · simp [emitVerbs, emitPts, iterGo, popSkip_endpoint n _ fa _ hfa, ih _ fa _ _ ha hfa (by simp), specFrom]

/-- a builder call seen as a call on attribute-carrying points (control points carry none) -/
def aCall : Call (Pt S) (List S) → Call (APt S) (List S)
  | .begin p a => .begin (p, a) a
  | .line p a => .line (p, a) a
  | .quad c p a => .quad (ctl c) (p, a) a
  | .cubic c1 c2 p a => .cubic (ctl c1) (ctl c2) (p, a) a
  | .end_ cl => .end_ cl

theorem aCall_step (b : Bool) (c : Call (Pt S) (List S)) : nestState b [aCall c] = nestState b [c] := by
  cases b <;> cases c <;> rfl

theorem firstAfter_state (prog : Prog S) (st : Option (APt S × APt S)) (f : Pt S) (fa : List S) (b : Bool)
    (hn : nestState st.isSome prog = some b) (hst : ∀ x ∈ st, x.1 = (f, fa)) :
    ∀ x ∈ stateAfter st (prog.map aCall), x.1 = firstAfter f fa prog := by
  induction prog generalizing st f fa with
  | nil => exact hst
  | cons c r ih =>
    cases st with
    | none =>
      cases c with
      | begin p a => exact ih (some ((p, a), (p, a))) p a hn (fun _ h => by cases h; rfl)
      | _ => cases hn
    | some fc =>
      obtain ⟨f0, c0⟩ := fc
      have h0 : f0 = (f, fa) := hst _ rfl
      cases c with
      | begin p a => cases hn
      | end_ cl => exact ih none f fa hn (fun _ h => by cases h)
      | _ => exact ih (some (f0, _)) f fa hn (fun _ h => by cases h; exact h0)

/-- `iterGo_emit` for `IterWithAttributes`, by its own walk: after `close` `iterGo` keeps `cur` while
`iterAttrGo` goes on from the popped copy of `first`, so the two iterators agree (attributes dropped)
only on storage in which a `begin` follows every `close`, not on every `PathData` -/
theorem iterAttrGo_emit (n : Nat) (prog : Prog S) (st : Option (APt S × APt S)) (f : Pt S)
    (fa : List S) (cur first : APt S)
    (hn : wellNestedFrom st.isSome prog = true) (ha : attrsOk n prog = true) (hfa : fa.length = n)
    (hst : ∀ x ∈ st, x = (first, cur) ∧ first = (f, fa)) :
    iterAttrGo n (emitVerbs prog) (emitPts f fa prog) cur first
      = some (specFrom st (prog.map aCall)) := by
  induction prog generalizing st f fa cur first with
  | nil => cases st <;> simp [emitVerbs, emitPts, iterAttrGo, specFrom]
  | cons c r ih =>
    cases st with
    | none =>
      cases c with
      | begin p a =>
        simp only [attrsOk, Bool.and_eq_true, beq_iff_eq] at ha
        simp [emitVerbs, emitPts, iterAttrGo, aCall, popEndpoint_endpoint n p a _ ha.1, specFrom,
          ih (some ((p, a), (p, a))) p a (p, a) (p, a) (by simpa [wellNestedFrom] using hn) ha.2 ha.1
            (by simp)]
      | _ => simp [wellNestedFrom] at hn
    | some fc =>
      obtain ⟨h, rfl⟩ := hst _ rfl
      cases h
      cases c with
      | begin p a => simp [wellNestedFrom] at hn
      | line p a =>
        simp only [attrsOk, Bool.and_eq_true, beq_iff_eq] at ha
        simp [emitVerbs, emitPts, iterAttrGo, aCall, popEndpoint_endpoint n p a _ ha.1, specFrom,
          ih (some ((f, fa), (p, a))) f fa (p, a) (f, fa) (by simpa [wellNestedFrom] using hn) ha.2 hfa
            (by simp)]
      | quad k p a =>
        simp only [attrsOk, Bool.and_eq_true, beq_iff_eq] at ha
        simp [emitVerbs, emitPts, iterAttrGo, aCall, popPt, popEndpoint_endpoint n p a _ ha.1, specFrom,
          ih (some ((f, fa), (p, a))) f fa (p, a) (f, fa) (by simpa [wellNestedFrom] using hn) ha.2 hfa
            (by simp)]
      | cubic k1 k2 p a =>
        simp only [attrsOk, Bool.and_eq_true, beq_iff_eq] at ha
        simp [emitVerbs, emitPts, iterAttrGo, aCall, popPt, popEndpoint_endpoint n p a _ ha.1, specFrom,
          ih (some ((f, fa), (p, a))) f fa (p, a) (f, fa) (by simpa [wellNestedFrom] using hn) ha.2 hfa
            (by simp)]
      | end_ cl =>
        simp only [attrsOk] at ha
        cases cl
        · simp [emitVerbs, emitPts, iterAttrGo, aCall, specFrom,
            ih none f fa (f, fa) (f, fa) (by simpa [wellNestedFrom] using hn) ha hfa (by simp)]
        · simp [emitVerbs, emitPts, iterAttrGo, aCall, popEndpoint_endpoint n f fa _ hfa, specFrom,
            ih none f fa (f, fa) (f, fa) (by simpa [wellNestedFrom] using hn) ha hfa (by simp)]

theorem endpointA_at (P : PathData S) (pre rest : List (Pt S)) (p : Pt S) (a : List S)
    (hpts : P.points = pre ++ (endpointPts p a ++ rest)) (ha : a.length = P.numAttributes) :
    P.endpointA pre.length = some (p, a) := by
  have h1 : P.points[pre.length]? = some p := by simp [hpts, endpointPts]
  have h2 : P.points.drop (pre.length + 1) = packAttrs a ++ rest := by
    simp [hpts, endpointPts, List.drop_append]
  have h3 : pre.length + 1 + attribStride P.numAttributes ≤ P.points.length := by
    simp [hpts, endpointPts_length, ha]; omega
  simp only [PathData.endpointA, PathData.point, PathData.attributes, h1, Option.bind_some,
    interpolatedAttributes, h2, h3, if_true]
  by_cases h0 : P.numAttributes = 0
  · have : a = [] := List.eq_nil_of_length_eq_zero (by omega)
    simp [h0, this]
  · simp [h0, ← ha, flat_pack_take]

theorem ctrlA_at (P : PathData S) (pre rest : List (Pt S)) (c : Pt S)
    (hpts : P.points = pre ++ (c :: rest)) : P.ctrlA pre.length = some (ctl c) := by
  simp [PathData.ctrlA, PathData.point, hpts]

theorem point_of_endpointA (P : PathData S) (i : Nat) (x : APt S) (h : P.endpointA i = some x) :
    P.point i = some x.1 := by
  obtain ⟨q, hq, h⟩ := Option.bind_eq_some_iff.mp h
  obtain ⟨a, _, rfl⟩ := Option.map_eq_some_iff.mp h
  exact hq

theorem point_of_ctrlA (P : PathData S) (i : Nat) (x : APt S) (h : P.ctrlA i = some x) :
    P.point i = some x.1 := by
  obtain ⟨q, hq, rfl⟩ := Option.map_eq_some_iff.mp h
  exact hq

end Lyon.Path
