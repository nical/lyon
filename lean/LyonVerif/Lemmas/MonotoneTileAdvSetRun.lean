/-
  The run of the advanced tessellator on the fine remaining polygon (`adv_run_tilesW`; `Props/C02g.lean`,
  `Props/C02h.lean`).  `WA k st` collects the invariants of a whole `Adv` state after `k` vertices (`YA`, `ZA`, `NInv`;
  `WA.w3` reads `W3` off it); `WT` adds the tiling `Cut`: the triangles emitted so far cut the polygon down to the fine
  remaining polygon.  A flush is `ff_tilesW` (`W3.ff`), buffering a vertex leaves the region
  unchanged (`rg_push`); `end` flushes the pending chains in sweep order and the inner `end` closes
  (`end_walk`, `end_vertex_tW`; the emitted order is a permutation of the cutting order, `Tiles.perm`).
  `adv_state_wt`: every reached state `advState seq i` satisfies `WT`.  The run theorem is its reading at the last state,
  and for every reached state and either side: `adv_state_side`, `adv_state_fan_tilesO`, `adv_state_chain_poly_inside`,
  `adv_state_fan_inside`.
-/
import LyonVerif.Lemmas.MonotoneTileAdvSetFF

set_option linter.unusedSectionVars false

namespace Lyon.C02f
open Lyon Lyon.Mono Lyon.C02 Lyon.C02c

section Geometry
variable {K : Type} [Field K] [LinearOrder K] [IsStrictOrderedRing K]

variable (seq : List (P K × Bool))

theorem RgC_congr (tess : Basic K) {sc sc' so so' : SideEv K} (k : Nat) (h1 : sc'.events = sc.events)
    (h2 : so'.events = so.events) : RgC seq tess sc' so' k = RgC seq tess sc so k := by
  unfold RgC; rw [h1, h2]

theorem Rg3_congr (l : Bool) (tess : Basic K) {a a' b b' : SideEv K} (k : Nat) (h1 : a'.events = a.events)
    (h2 : b'.events = b.events) : Rg3 seq l tess a' b' k = Rg3 seq l tess a b k := by
  unfold Rg3; rw [RgC_congr seq tess k h1 h2, RgC_congr seq tess k h2 h1]

theorem rg_push (l : Bool) (tess : Basic K) (a b : SideEv K) (p : P K) (k : Nat) (hk : k + 1 < seq.length)
    (hs : sideAt seq k = l) (hne : a.events ≠ []) :
    Rg3 seq l tess (a.push ⟨p, k, l⟩) b (k + 1) = Rg3 seq l tess a b k := by
  have htail : (a.push ⟨p, k, l⟩).events.tail = a.events.tail ++ [k] := by
    simp only [SideEv.push]
    exact List.tail_append_of_ne_nil hne
  have f1 : fut seq l k = posOf seq k :: fut seq l (k + 1) := by
    simp only [fut]; rw [futIds_same seq l hk hs]; rfl
  have f2 : fut seq (!l) k = fut seq (!l) (k + 1) := by
    simp only [fut]; rw [futIds_other seq (!l) hk (by rw [hs]; cases l <;> simp)]
  unfold Rg3 RgC
  by_cases hcl : tess.previous.left = l
  · rw [if_pos hcl, if_pos hcl, hcl, htail, f1, f2]
    simp
  · have hopp : tess.previous.left = !l := Bool.eq_not_of_ne hcl
    rw [if_neg hcl, if_neg hcl, hopp, Bool.not_not, htail, f1, f2]
    simp

def WA (k : Nat) (st : Adv K) : Prop := YA seq k st ∧ ZA seq k st ∧ NInv (posOf seq) k st

theorem WA.w3 {k : Nat} {st : Adv K} (h : WA seq k st) : W3 seq true k st.tess st.left st.right :=
  ⟨h.1, h.2.1.ha, h.2.1.hb, h.2.2.1.2.1, h.2.2.1.2.2⟩

theorem vertex_w (hval : SweepValid seq) (st : Adv K) (p : P K) (k : Nat) (l : Bool) (hk : k + 1 < seq.length)
    (h : WA seq k st) (hp : posOf seq k = p) (hs : sideAt seq k = l) : WA seq (k + 1) (st.vertex p k l) := by
  have hcc : ChordClearA seq st := ⟨h.2.1.ha, by have := h.2.1.hb; rwa [Bool.not_true] at this⟩
  exact ⟨(vertex_y seq hval st p k l hk h.1 hp hs hcc).1, vertex_z seq hval st p k l hk h.2.1 hp hs,
    vertex_n (posOf seq) st p k l h.2.2 hp (fun j hj => valid_after hval hj (by omega))⟩

theorem end_vertex_tW (hval : SweepValid seq) {l : Bool} {k : Nat} {tess : Basic K} {a b : SideEv K}
    (w : W3 seq l k tess a b) (hk : k + 1 = seq.length) (ha1 : a.events.length < 2) (hb1 : b.events.length < 2) :
    ∃ nt R', (tess.end_ (posOf seq k) k).tris = tess.tris ++ nt ∧
      Tiles (Rg3 seq l tess a b k) (TriIn (posOf seq)) (TriInC (posOf seq)) nt R' ∧ ∀ q, ¬ R' q := by
  -- by symmetry the inner stack's top is on side `l`
  suffices hmain : ∀ (l : Bool) (a b : SideEv K), W3 seq l k tess a b → a.events.length < 2 → b.events.length < 2 →
      tess.previous.left = l → ∃ nt R', (tess.end_ (posOf seq k) k).tris = tess.tris ++ nt ∧
        Tiles (RgC seq tess a b k) (TriIn (posOf seq)) (TriInC (posOf seq)) nt R' ∧ ∀ q, ¬ R' q by
    unfold Rg3
    by_cases hcl : tess.previous.left = l
    · rw [if_pos hcl]; exact hmain l a b w ha1 hb1 hcl
    · rw [if_neg hcl]; exact hmain (!l) b a (W3.symm seq w) hb1 ha1 (Bool.eq_not_of_ne hcl)
  intro l a b w ha1 hb1 hcl
  have hy := w.y
  have ht := hy.tinv
  obtain ⟨rest, bot, hst, hb0, hbmem, hprevmem, hbotpos⟩ := ht.bottom seq
  obtain ⟨hpid, hbid⟩ := (ht.heads bot hb0).1 hcl
  obtain ⟨hae, hah⟩ := hy.ca.single_head seq ha1
  obtain ⟨hbe, hbh⟩ := hy.cb.single_head seq hb1
  have hak : headId a < k := hy.ca.lt _ (by rw [hy.ca.head_mem seq]; simp)
  have hbk : headId b < k := hy.cb.lt _ (by rw [hy.cb.head_mem seq]; simp)
  have hssort := ht.stack_sorted seq hval
  set cur : MV K := ⟨posOf seq k, k, !tess.previous.left⟩ with hcur
  have hvx := vertex_other tess cur (by simp only [hcur]; cases tess.previous.left <;> simp)
  refine ⟨fanTris cur tess.stack.reverse,
    InPoly tess.previous.left (tess.previous.pos :: [cur.pos]) (tess.previous.pos :: cur.pos :: []),
    by simp only [Basic.end_]; rw [← hcur, hvx], ?_⟩
  obtain ⟨hcs, hsideS, hfanP⟩ := ht.fanLe seq hval bot hb0 cur rfl (by simp only [hcur]; omega) (by simp only [hcur]; omega)
    (end_side seq hval hk hy hb1 hcl bot hb0)
  have eL : RgC seq tess a b k = InPoly tess.previous.left ((tess.stack.map (·.pos)).reverse ++ [cur.pos])
      (bot.pos :: cur.pos :: []) := by
    unfold RgC
    rw [hbotpos, hae, hbe]
    simp only [List.tail_cons, List.map_nil, List.nil_append, fut]
    rw [futIds_last seq _ hk, futIds_last seq _ hk]
    rfl
  rw [eL]
  have hgoodst : ∀ v ∈ tess.previous :: rest, Good (posOf seq) v := by rw [← hst]; exact ht.good
  rw [hst] at hfanP hsideS hcs hb0 hssort
  have t := fan_step_tilesW (posOf seq) tess.previous.left cur bot tess.previous rest [cur.pos] [] hgoodst rfl hb0
    hssort hcs hsideS hfanP (by
      simp only [SortedP, List.pairwise_cons, List.mem_singleton, forall_eq, List.not_mem_nil, false_imp_iff,
        implies_true, List.Pairwise.nil, and_true]
      exact hcs _ (by simp)) (by simp [SortedP]) (fun q hsp hin => Or.inl ⟨hsp, hin⟩)
  rw [← hst] at t
  exact ⟨t, fun q => fan_rest_empty _ [] (by simp [SortedP]) q⟩

/-- the emitted triangles tile the polygon minus the fine remaining polygon of the triple -/
def Cut (l : Bool) (k : Nat) (t : Basic K) (a b : SideEv K) : Prop :=
  Tiles (InsidePoly seq) (TriIn (posOf seq)) (TriInC (posOf seq)) t.tris (Rg3 seq l t a b k)

theorem Cut.symm {l : Bool} {k : Nat} {t : Basic K} {a b : SideEv K} (c : Cut seq l k t a b) : Cut seq (!l) k t b a := by
  unfold Cut; rw [Rg3_symm]; exact c

theorem W3.congr {l : Bool} {k : Nat} {t : Basic K} {a b a' b' : SideEv K} (w : W3 seq l k t a b)
    (hae : a'.events = a.events) (hap : a'.prev = a.prev) (hal : a'.last = a.last)
    (hbe : b'.events = b.events) (hbp : b'.prev = b.prev) (hbl : b'.last = b.last) : W3 seq l k t a' b' :=
  ⟨w.y.congr seq hae hal hbe hbl, w.ha.congr seq hae hal, w.hb.congr seq hbe hbl, w.na.congr hae hap hal,
    w.nb.congr hbe hbp hbl⟩

/-- **flush and forward of chain `a`** (≥ 2 ids, not ending after a buffered `b`): the invariants hold for the restarted chain
`a'` (and any `b'` that differs from `b` in its references only), and the fan with the inner tessellator's triangles cuts
the chain polygon and the popped ears / the fan off the fine remaining polygon (`ff_tilesW`) -/
theorem W3.ff (hval : SweepValid seq) {l : Bool} {k : Nat} {t : Basic K} {a b : SideEv K}
    (w : W3 seq l k t a b) (c : Cut seq l k t a b) (hk : k + 1 ≤ seq.length)
    (hl2 : 2 ≤ a.events.length) (hord : 2 ≤ b.events.length → a.last.id < b.last.id) (a' b' : SideEv K)
    (he : a'.events = [a.last.id]) (hla : a'.last = a.last)
    (hbe : b'.events = b.events) (hbp : b'.prev = b.prev) (hbl : b'.last = b.last) :
    W3 seq l k (ffTess t a (!l)) a' b' ∧ Cut seq l k (ffTess t a (!l)) a' b' := by
  obtain ⟨nt, e, T⟩ := ff_tilesW seq hval w hk hl2 hord a' he
  have w' : W3 seq l k (ffTess t a (!l)) a' b :=
    ⟨(w.y.ff seq hval (by omega) hl2 w.ha hord a' he hla).1, ChordClear.short seq (by rw [he]; simp), w.hb,
      CInv.single (by rw [he, hla]) (hla ▸ w.na.good), w.nb⟩
  refine ⟨w'.congr seq rfl rfl rfl hbe hbp hbl, ?_⟩
  unfold Cut ffTess
  rw [e, List.append_assoc, Rg3_congr seq l _ k rfl hbe]
  exact Tiles.trans c T

/-- `W3.ff` for the other chain `b`, read on side `l` again -/
theorem W3.ff_opp (hval : SweepValid seq) {l : Bool} {k : Nat} {t : Basic K} {a b : SideEv K}
    (w : W3 seq l k t a b) (c : Cut seq l k t a b) (hk : k + 1 ≤ seq.length)
    (hl2 : 2 ≤ b.events.length) (hord : 2 ≤ a.events.length → b.last.id < a.last.id) (a' b' : SideEv K)
    (he : b'.events = [b.last.id]) (hlb : b'.last = b.last)
    (hae : a'.events = a.events) (hap : a'.prev = a.prev) (hal : a'.last = a.last) :
    W3 seq l k (ffTess t b l) a' b' ∧ Cut seq l k (ffTess t b l) a' b' := by
  have := (W3.symm seq w).ff seq hval (c.symm seq) hk hl2 hord b' a' he hlb hae hap hal
  rw [Bool.not_not] at this
  exact ⟨by simpa using W3.symm seq this.1, by simpa using this.2.symm seq⟩

/-- **one `vertex` call on the triple**: the flushes cut, buffering leaves the fine remaining polygon unchanged (`rg_push`) -/
theorem stepSides_cut (hval : SweepValid seq) (tess : Basic K)
    (a b : SideEv K) (dx : K) (p : P K) (l : Bool) (k : Nat) (hk : k + 1 < seq.length)
    (w : W3 seq l k tess a b) (c : Cut seq l k tess a b) (hs : sideAt seq k = l) :
    Cut seq l (k + 1) (stepSides tess a b dx p k l).1 (stepSides tess a b dx p k l).2.1
      (stepSides tess a b dx p k l).2.2 := by
  refine stepSides_ind (J := fun t a b => W3 seq l k t a b ∧ Cut seq l k t a b)
    (J' := fun t a b => Cut seq l (k + 1) t a b) tess a b dx p k l ⟨w, c⟩ ?_ ?_ ?_
  · rintro t a b ⟨w, c⟩ hb hia
    obtain ⟨e1, e2⟩ := flushSide_restart b l hb
    exact w.ff_opp seq hval c (by omega) hb (fun _ => w.y.ca.last_lt_of_after seq hval w.y.cb (by omega) hia)
      { a with consRefX := a.refPt.x } (flushSide b l).1 e1 e2 rfl rfl rfl
  · rintro t a b ⟨w, c⟩ ha ho
    obtain ⟨e1, e2⟩ := flushSide_restart a (!l) ha
    exact w.ff seq hval c (by omega) ha (w.y.ca.ord_of_isAfter seq hval w.y.cb (by omega) ho)
      (reRef (flushSide a (!l)).1 p l) { b with consRefX := b.refPt.x } e1 e2 rfl rfl rfl
  · rintro t' a' b' ⟨w, c⟩ _
    unfold Cut
    rw [rg_push seq l _ _ _ p k hk hs w.y.ca.ne]
    exact c

def WT (k : Nat) (st : Adv K) : Prop := WA seq k st ∧ Cut seq true k st.tess st.left st.right

theorem vertex_wt (hval : SweepValid seq) (st : Adv K) (p : P K)
    (k : Nat) (l : Bool) (hk : k + 1 < seq.length) (h : WT seq k st) (hp : posOf seq k = p)
    (hs : sideAt seq k = l) : WT seq (k + 1) (st.vertex p k l) := by
  refine ⟨vertex_w seq hval st p k l hk h.1 hp hs, ?_⟩
  refine vertex_walk (I := fun l t a b => W3 seq l k t a b ∧ Cut seq l k t a b)
    (I' := fun l t a b => Cut seq l (k + 1) t a b) (fun h => ⟨W3.symm seq h.1, h.2.symm seq⟩) (Cut.symm seq)
    st p k l (fun t a b h dx _ => ?_) ⟨h.1.w3 seq, h.2⟩
  have e : ∀ x : SideEv K, (updSide x p l).events = x.events ∧ (updSide x p l).prev = x.prev ∧
      (updSide x p l).last = x.last := fun x => by cases l <;> exact ⟨rfl, rfl, rfl⟩
  refine stepSides_cut seq hval t _ b dx p l k hk
    (h.1.congr seq (e a).1 (e a).2.1 (e a).2.2 rfl rfl rfl) ?_ hs
  unfold Cut
  rw [Rg3_congr seq l t k (e a).1 rfl]
  exact h.2

theorem begin_wt (h2 : 2 ≤ seq.length) : WT seq 1 (Adv.begin Adv.new (posOf seq 0) 0) := by
  refine ⟨⟨begin_y _ _ rfl (by omega), begin_z _ _ rfl, begin_n _ Adv.new _ rfl⟩, ?_⟩
  have ereg : Rg3 seq true (Adv.begin Adv.new (posOf seq 0) 0).tess (Adv.begin Adv.new (posOf seq 0) 0).left
      (Adv.begin Adv.new (posOf seq 0) 0).right 1 = InsidePoly seq := by
    unfold Rg3 RgC InsidePoly leftChain rightChain
    simp [Adv.begin, Basic.begin, C02c.botPos]
  unfold Cut
  rw [ereg]
  exact Tiles.refl _ _ _

/-- **every state the advanced tessellator reaches on a valid sweep sequence** satisfies `WT`: the invariants `WA`, and
the triangles emitted so far cut the polygon down to the fine remaining polygon -/
theorem adv_state_wt (hval : SweepValid seq) (h2 : 2 ≤ seq.length) (i : Nat) :
    WT seq (1 + min i (seq.length - 2)) (advState seq i) := by
  have hv0 : seq[0]? = some seq[0] := List.getElem?_eq_getElem (by omega)
  have := adv_prefix_ind seq h2 (WT seq) (fun v hv => posOf_of_getElem? hv ▸ begin_wt seq h2)
    (fun k s v h _ hk hv => vertex_wt seq hval s _ _ _ hk h (posOf_of_getElem? hv) (by simp [sideAt, hv])) _ hv0 i
  rw [← posOf_of_getElem? hv0, List.length_take] at this
  rwa [← midsOf_length]

theorem adv_run_tilesW (h2 : 2 ≤ seq.length) (hval : SweepValid seq) :
    ∃ R', Tiles (InsidePoly seq) (TriIn (posOf seq)) (TriInC (posOf seq)) (Adv.run seq) R' ∧ ∀ q, ¬ R' q := by
  have hf := adv_state_wt seq hval h2 (midsOf seq).length
  have hk : 1 + (midsOf seq).length + 1 = seq.length := by rw [midsOf_length]; omega
  rw [adv_run_eq_end seq h2, show seq.length - 1 = 1 + (midsOf seq).length by omega]
  rw [← midsOf_length, Nat.min_self] at hf
  generalize advState seq (midsOf seq).length = st at hf ⊢
  -- `end`: the pending chains are flushed in sweep order, then the inner `end` closes
  obtain ⟨t, a, b, ⟨w, c⟩, ha, hb, hperm⟩ := end_walk (J := fun t a b => W3 seq true (1 + (midsOf seq).length) t a b ∧
      Cut seq true (1 + (midsOf seq).length) t a b) st (posOf seq (1 + (midsOf seq).length)) (1 + (midsOf seq).length) ⟨hf.1.w3 seq, hf.2⟩
    (fun t a b ⟨w, c⟩ hl ho => by
      obtain ⟨e1, e2⟩ := flushSide_restart a false hl
      exact w.ff seq hval c (by omega) hl (w.y.ca.ord_of_isAfter seq hval w.y.cb (by omega) ho)
        _ b e1 e2 rfl rfl rfl)
    (fun t a b ⟨w, c⟩ hl ho => by
      obtain ⟨e1, e2⟩ := flushSide_restart b true hl
      exact w.ff_opp seq hval c (by omega) hl (fun g => w.y.ca.last_lt_of_after seq hval w.y.cb (by omega) (ho g))
        a _ e1 e2 rfl rfl rfl)
  obtain ⟨nt, R', e, T, hemp⟩ := end_vertex_tW seq hval w (by omega) ha hb
  refine ⟨R', Tiles.perm ?_ hperm.symm, hemp⟩
  rw [e]
  exact Tiles.trans c T

/-- the buffered chain on side `l` of a reached state: consecutive vertices of its side, chord-clear,
sorted and locally convex -/
theorem adv_state_side (hval : SweepValid seq) (h2 : 2 ≤ seq.length) (i : Nat) (l : Bool) (s : SideEv K)
    (hs : s = (if l then (advState seq i).left else (advState seq i).right)) :
    ∃ k, k + 1 ≤ seq.length ∧ SideChain seq l k s ∧ ChordClear seq l s ∧ CInv (posOf seq) l s := by
  have w := (adv_state_wt seq hval h2 i).1.w3 seq
  subst hs
  cases l
  · exact ⟨_, by omega, w.y.cb, w.hb, w.nb⟩
  · exact ⟨_, by omega, w.y.ca, w.ha, w.na⟩

theorem adv_state_fan_tilesO (hval : SweepValid seq) (h2 : 2 ≤ seq.length) (i : Nat) (l : Bool) (s : SideEv K)
    (hs : s = (if l then (advState seq i).left else (advState seq i).right)) :
    Tiles (InPoly l (s.events.map (posOf seq)) [posOf seq (headId s), s.last.pos])
      (TriIn (posOf seq)) (TriInCN (posOf seq))
      (fanOf s (!l)) (fun _ => False) := by
  obtain ⟨k, _, hc, _, hci⟩ := adv_state_side seq hval h2 i l s hs
  exact flush_side_fan_tilesO seq hci hc

/-- the chain polygon of either buffered chain of a state with the invariants lies inside the polygon: inside the
remaining polygon (`chain_poly_rg`) — of the state itself, or, if the other chain ends earlier, of the state after that
chain's flush (`W3.ff`) -/
theorem W3.chain_poly_inside (hval : SweepValid seq) {l : Bool} {k : Nat} {t : Basic K} {a b : SideEv K}
    (w : W3 seq l k t a b) (c : Cut seq l k t a b) (hk : k + 1 ≤ seq.length) (hl2 : 2 ≤ a.events.length) (q : P K)
    (hq : InPoly l (a.events.map (posOf seq)) [posOf seq (headId a), a.last.pos] q) : InsidePoly seq q := by
  by_cases hb : 2 ≤ b.events.length ∧ b.last.id < a.last.id
  · obtain ⟨w', c'⟩ := w.ff_opp seq hval c hk hb.1 (fun _ => hb.2) a { b with events := [b.last.id] } rfl rfl rfl rfl rfl
    exact c'.sub q (chain_poly_rg seq hval w' hk hl2 (fun h => by simp at h) q hq)
  · exact c.sub q (chain_poly_rg seq hval w hk hl2
      (fun g => by have := w.y.ca.ends_ne seq w.y.cb g; omega) q hq)

theorem adv_state_chain_poly_inside (hval : SweepValid seq) (h2 : 2 ≤ seq.length) (i : Nat) (l : Bool) (s : SideEv K)
    (hs : s = (if l then (advState seq i).left else (advState seq i).right)) (hl2 : 2 ≤ s.events.length) (x : P K)
    (hx : InPoly l (s.events.map (posOf seq)) [posOf seq (headId s), s.last.pos] x) : InsidePoly seq x := by
  have h := adv_state_wt seq hval h2 i
  have w := h.1.w3 seq
  subst hs
  cases l
  · exact (W3.symm seq w).chain_poly_inside seq hval (h.2.symm seq) (by omega) hl2 x hx
  · exact w.chain_poly_inside seq hval h.2 (by omega) hl2 x hx

theorem adv_state_fan_inside (hval : SweepValid seq) (h2 : 2 ≤ seq.length) (i : Nat) (l : Bool) (s : SideEv K)
    (hs : s = (if l then (advState seq i).left else (advState seq i).right)) (t : Tri)
    (ht : t ∈ fanOf s (!l)) (x : P K)
    (hx : TriIn (posOf seq) t x) : InsidePoly seq x := by
  obtain ⟨a, b, c, _, _, _, _⟩ := flushLevels_ids _ _ _ t ht
  exact adv_state_chain_poly_inside seq hval h2 i l s hs (by omega) x
    ((adv_state_fan_tilesO seq hval h2 i l s hs).inside t ht x hx)

end Geometry

end Lyon.C02f
