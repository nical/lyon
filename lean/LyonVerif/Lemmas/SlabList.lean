/-
  List facts behind the slab checker: the cut ordinates are strictly increasing and have exactly the collected
  values as members (`dedupSorted_spec`, `mem_ordinates`), so an ordinate that is none of them lies below all,
  above all, or strictly inside exactly one slab that no cut ordinate enters (`slab_locate`); a sorted list splits
  at a down-closed predicate (`pairwise_split`); what `mkItem`, `edgeItems`, `triItems` produce.
-/
import LyonVerif.Lemmas.SlabAlg

set_option linter.unusedSectionVars false
set_option linter.unusedVariables false

namespace Lyon.Slab
open Lyon

variable {K : Type} [Field K] [LinearOrder K] [IsStrictOrderedRing K]

theorem dedupSorted_spec (l : List K) (hl : l.Pairwise (· ≤ ·)) :
    (dedupSorted l).Pairwise (· < ·) ∧ ∀ x, x ∈ dedupSorted l ↔ x ∈ l := by
  fun_induction dedupSorted l with
  | case1 => simp
  | case2 a => simp
  | case3 a b r hab ih =>
    obtain ⟨hs, hm⟩ := ih (List.pairwise_cons.mp hl).2
    refine ⟨List.pairwise_cons.mpr ⟨fun x hx => ?_, hs⟩, fun x => by
      rw [List.mem_cons, hm, ← List.mem_cons]⟩
    rcases List.mem_cons.mp ((hm x).mp hx) with rfl | hxr
    · exact hab
    · exact lt_of_lt_of_le hab ((List.pairwise_cons.mp (List.pairwise_cons.mp hl).2).1 x hxr)
  | case4 a b r hab ih =>
    -- `a ≤ b` and not `a < b`: a duplicate, dropped
    obtain ⟨hs, hm⟩ := ih (List.pairwise_cons.mp hl).2
    have e : a = b := le_antisymm ((List.pairwise_cons.mp hl).1 b (by simp)) (not_lt.mp hab)
    exact ⟨hs, fun x => by rw [hm, e]; simp⟩

theorem sortKey_pairwise {β : Type} (f : β → K) (l : List β) :
    (l.mergeSort (fun a b => f a ≤ f b)).Pairwise (fun a b => f a ≤ f b) := by
  have h := List.pairwise_mergeSort (le := fun (a b : β) => decide (f a ≤ f b))
    (fun a b c hab hbc => by simp only [decide_eq_true_eq] at *; exact le_trans hab hbc)
    (fun a b => by simp only [Bool.or_eq_true, decide_eq_true_eq]; exact le_total (f a) (f b)) l
  exact h.imp (fun {a b} hab => by simpa using hab)

theorem sortLe_pairwise (l : List K) : (l.mergeSort (fun a b => a ≤ b)).Pairwise (· ≤ ·) :=
  sortKey_pairwise id l

noncomputable def rawOrdinates (items : List (Item K)) (extra : List K) : List K :=
  items.flatMap (fun it => [it.a.y, it.b.y]) ++ extra ++ allCrossings items

theorem mem_ordinates (items : List (Item K)) (extra : List K) (y : K) :
    y ∈ ordinates items extra ↔ y ∈ rawOrdinates items extra := by
  unfold ordinates rawOrdinates
  simp only []
  rw [(dedupSorted_spec _ (sortLe_pairwise _)).2, List.mem_mergeSort]

theorem ordinates_strict (items : List (Item K)) (extra : List K) :
    (ordinates items extra).Pairwise (· < ·) := by
  unfold ordinates
  exact (dedupSorted_spec _ (sortLe_pairwise _)).1

theorem mem_allCrossings : ∀ (l : List (Item K)) (i j : Item K) (y : K), i ∈ l → j ∈ l →
    crossY i j = some y → crossY j i = some y → y ∈ allCrossings l
  | [], i, j, y, hi, _, _, _ => by simp at hi
  | h :: t, i, j, y, hi, hj, hij, hji => by
    rw [allCrossings, List.mem_append]
    rcases List.mem_cons.mp hi with rfl | hi'
    · rcases List.mem_cons.mp hj with rfl | hj'
      · rw [crossY_self] at hij; exact absurd hij (by simp)
      · left; exact List.mem_filterMap.mpr ⟨j, hj', hij⟩
    · rcases List.mem_cons.mp hj with rfl | hj'
      · left; exact List.mem_filterMap.mpr ⟨i, hi', hji⟩
      · right; exact mem_allCrossings t i j y hi' hj' hij hji

theorem slab_locate : ∀ (ys : List K) (hs : ys.Pairwise (· < ·)) (y : K) (hy : y ∉ ys),
    (∀ z ∈ ys, y < z) ∨ (∀ z ∈ ys, z < y) ∨
      ∃ p ∈ slabPairs ys, p.1 < y ∧ y < p.2 ∧ ∀ z ∈ ys, z ≤ p.1 ∨ p.2 ≤ z
  | [], _, y, _ => by left; simp
  | [a], _, y, hy => by
    have hne : y ≠ a := by simpa using hy
    rcases lt_or_gt_of_ne hne with h | h
    · left; simpa using h
    · right; left; simpa using h
  | a :: b :: r, hs, y, hy => by
    have hs' : (b :: r).Pairwise (· < ·) := (List.pairwise_cons.mp hs).2
    have ha : ∀ z ∈ b :: r, a < z := (List.pairwise_cons.mp hs).1
    have hb : ∀ z ∈ r, b < z := (List.pairwise_cons.mp hs').1
    have hya : y ≠ a := fun e => hy (by rw [e]; simp)
    have hyb : y ≠ b := fun e => hy (by rw [e]; simp)
    have hy' : y ∉ b :: r := fun h => hy (List.mem_cons_of_mem _ h)
    rcases lt_or_gt_of_ne hya with h | h
    · left
      intro z hz
      rcases List.mem_cons.mp hz with rfl | hz'
      · exact h
      · exact lt_trans h (ha z hz')
    · rcases lt_or_gt_of_ne hyb with h2 | h2
      · right; right
        refine ⟨(a, b), by simp [slabPairs], h, h2, ?_⟩
        intro z hz
        rcases List.mem_cons.mp hz with rfl | hz'
        · left; exact le_refl _
        · right
          rcases List.mem_cons.mp hz' with rfl | hz''
          · exact le_refl _
          · exact (hb z hz'').le
      · rcases slab_locate (b :: r) hs' y hy' with h3 | h3 | ⟨p, hp, hp1, hp2, hp3⟩
        · exact absurd (h3 b (by simp)) (not_lt.mpr h2.le)
        · right; left
          intro z hz
          rcases List.mem_cons.mp hz with rfl | hz'
          · exact h
          · exact h3 z hz'
        · right; right
          refine ⟨p, by rw [slabPairs]; exact List.mem_cons_of_mem _ hp, hp1, hp2, ?_⟩
          intro z hz
          rcases List.mem_cons.mp hz with rfl | hz'
          · left
            rcases hp3 b (by simp) with h4 | h4
            · exact le_trans (ha b (by simp)).le h4
            · exact absurd (lt_of_lt_of_le hp2 h4) (not_lt.mpr h2.le)
          · exact hp3 z hz'

theorem pairwise_split {β : Type} (r : β → β → Prop) (p : β → Bool) :
    ∀ (l : List β) (hl : l.Pairwise r)
      (hsep : ∀ a b, a ∈ l → b ∈ l → p a = false → p b = true → ¬ r a b),
      l = l.filter p ++ l.filter (fun x => !p x)
  | [], _, _ => by simp
  | x :: t, hl, hsep => by
    obtain ⟨hx, hl'⟩ := List.pairwise_cons.mp hl
    have ih := pairwise_split r p t hl'
      (fun a b ha hb => hsep a b (List.mem_cons_of_mem _ ha) (List.mem_cons_of_mem _ hb))
    cases hpx : p x
    · -- nothing after `x` satisfies `p`
      have hall : ∀ b ∈ t, p b = false := fun b hb => by
        by_contra hb'
        exact hsep x b (by simp) (List.mem_cons_of_mem _ hb) hpx (by simpa using hb') (hx b hb)
      have e1 : t.filter p = [] := List.filter_eq_nil_iff.mpr fun b hb => by simp [hall b hb]
      have e2 : t.filter (fun x => !p x) = t := List.filter_eq_self.mpr fun b hb => by simp [hall b hb]
      simp [hpx, e1, e2]
    · simpa [List.filter_cons, hpx] using ih

theorem mkItem_some {p q : P K} {e : Bool} {tri : Nat} {it : Item K} (h : mkItem p q e tri = some it) :
    it.a.y < it.b.y ∧ it.tri = tri ∧ (e = false → it.dir = 0) ∧ ((it.a = p ∧ it.b = q) ∨ (it.a = q ∧ it.b = p)) := by
  unfold mkItem at h
  by_cases h1 : p.y < q.y
  · rw [if_pos h1] at h; cases h; exact ⟨h1, rfl, fun he => by simp [he], Or.inl ⟨rfl, rfl⟩⟩
  · rw [if_neg h1] at h
    by_cases h2 : q.y < p.y
    · rw [if_pos h2] at h; cases h; exact ⟨h2, rfl, fun he => by simp [he], Or.inr ⟨rfl, rfl⟩⟩
    · rw [if_neg h2] at h; cases h

theorem mem_edgeItems {edges : List (P K × P K)} {it : Item K} (h : it ∈ edgeItems edges) :
    it.a.y < it.b.y ∧ it.tri = 0 := by
  unfold edgeItems at h
  obtain ⟨e, _, he⟩ := List.mem_filterMap.mp h
  exact ⟨(mkItem_some he).1, (mkItem_some he).2.1⟩

noncomputable def triOf (t : P K × P K × P K) (tag : Nat) : List (Item K) :=
  [mkItem t.1 t.2.1 false tag, mkItem t.2.1 t.2.2 false tag, mkItem t.2.2 t.1 false tag].filterMap id

theorem triItems_eq (tris : List (P K × P K × P K)) :
    triItems tris = (tris.zipIdx).flatMap (fun ti => triOf ti.1 (ti.2 + 1)) := by
  unfold triItems
  congr 1

theorem mem_triOf {t : P K × P K × P K} {tag : Nat} {it : Item K} (h : it ∈ triOf t tag) :
    it.a.y < it.b.y ∧ it.tri = tag ∧ it.dir = 0 := by
  unfold triOf at h
  obtain ⟨o, ho, he⟩ := List.mem_filterMap.mp h
  simp only [id] at he
  subst he
  simp only [List.mem_cons, List.mem_nil_iff, or_false] at ho
  rcases ho with ho | ho | ho <;>
    exact ⟨(mkItem_some ho.symm).1, (mkItem_some ho.symm).2.1, (mkItem_some ho.symm).2.2.1 rfl⟩

theorem mem_triItems {tris : List (P K × P K × P K)} {it : Item K} (h : it ∈ triItems tris) :
    it.a.y < it.b.y ∧ 1 ≤ it.tri ∧ it.tri ≤ tris.length ∧ it.dir = 0 := by
  rw [triItems_eq] at h
  obtain ⟨ti, hti, hit⟩ := List.mem_flatMap.mp h
  obtain ⟨h1, h2, h3⟩ := mem_triOf hit
  have hlt : ti.2 < tris.length := by
    have := List.mem_zipIdx hti
    omega
  refine ⟨h1, by omega, by omega, h3⟩

end Lyon.Slab
