/-
  C06b: the caps (`end_with_caps`: `tessellate_last_edge`, `tessellate_first_edge`) and the
  emission shape of the whole run `begin (pt 0), line_to (pt 1), …, line_to (pt n), end(false)`.
-/
import LyonVerif.Lemmas.StrokeCoverLoop


namespace Lyon.C06b
open Lyon Scalar Lyon.Stroke Lyon.Stroke.Full Lyon.C05 Lyon.C05b Lyon.C05c

section
variable {K : Type} [Field K] [LinearOrder K] [IsStrictOrderedRing K] [Transc K]

/- `tessellate_last_edge`: the two cap vertices get the ids `o.nextId`, `o.nextId + 1` and sit at the clipped side points;
the record handed back (what `end` passes on to the first edge) has them as `prev` points / ids and is `p1` otherwise;
the new triangles are the last edge's quad and then the fan of a round cap -/
theorem lastEdge_emG (e : Env K) (p0 p1 : EP K) (isFirst : Bool) (o : Out K)
    (hc : CapOK e.o.endCap (p1.position - p0.position))
    (hn : o.nextId = o.verts.length) (hw0 : p1.halfWidth ≠ 0) :
    Ext o (lastEdge e p0 p1 isFirst o).2
    ∧ (lastEdge e p0 p1 isFirst o).2.nextId = (lastEdge e p0 p1 isFirst o).2.verts.length
    ∧ PosAt (lastEdge e p0 p1 isFirst o).2 o.nextId
        (clipSidePos e.ix e.o.endCap p1.position p0.position p1.halfWidth p1.pos.prev p0.pos.next)
    ∧ PosAt (lastEdge e p0 p1 isFirst o).2 (o.nextId + 1)
        (clipSidePos e.ix e.o.endCap p1.position p0.position p1.halfWidth p1.neg.prev p0.neg.next)
    ∧ (lastEdge e p0 p1 isFirst o).1.pos.prev
        = clipSidePos e.ix e.o.endCap p1.position p0.position p1.halfWidth p1.pos.prev p0.pos.next
    ∧ (lastEdge e p0 p1 isFirst o).1.neg.prev
        = clipSidePos e.ix e.o.endCap p1.position p0.position p1.halfWidth p1.neg.prev p0.neg.next
    ∧ (lastEdge e p0 p1 isFirst o).1.position = p1.position
    ∧ (lastEdge e p0 p1 isFirst o).1.pos.single = p1.pos.single
    ∧ (lastEdge e p0 p1 isFirst o).1.neg.single = p1.neg.single
    ∧ (lastEdge e p0 p1 isFirst o).1.ids = { p1.ids with posPrev := o.nextId, negPrev := o.nextId + 1 }
    ∧ ∃ ts, (lastEdge e p0 p1 isFirst o).2.tris = o.tris
          ++ (if isFirst then [] else addEdgeTriangles p0.ids { p1.ids with posPrev := o.nextId, negPrev := o.nextId + 1 }) ++ ts
        ∧ ∀ t ∈ ts, TriFan (lastEdge e p0 p1 isFirst o).2
          [clipSidePos e.ix e.o.endCap p1.position p0.position p1.halfWidth p1.pos.prev p0.pos.next,
           clipSidePos e.ix e.o.endCap p1.position p0.position p1.halfWidth p1.neg.prev p0.neg.next]
          p1.position (p1.halfWidth * p1.halfWidth) t := by
  rw [lastEdge_eq]
  generalize hts : (if isFirst then [] else addEdgeTriangles p0.ids (lastP1 e p0 p1 o.nextId).ids) = ts0
  obtain ⟨q1, q2⟩ := posAt_grow2 hn p1.src p1.position p1.halfWidth (lastP1 e p0 p1 0).advancement hw0
    (lastP1 e p0 p1 0).pos.prev (lastP1 e p0 p1 0).neg.prev ts0
  obtain ⟨x4, n4, ts, e4, t4⟩ := capIf_shape (next_grow hn (lastVerts e p0 p1) ts0) p1.position p1.halfWidth _ _ _ _ _ false _ hc q1 q2
    (lastCap e p0 p1 o.nextId (o.grow (lastVerts e p0 p1) ts0)) rfl
  exact ⟨(Ext.grow _ _ _).trans x4, n4, q1.ext x4, q2.ext x4, rfl, rfl, rfl, rfl, rfl, rfl, ts, by rw [e4, ← hts]; rfl, t4⟩

/-- two cap vertices at `xp`, `xn` (ids `o.nextId`, `o.nextId + 1`) that become the `next` vertices of `f`, then the quad
towards `s`, whose `prev` vertices sit at `X`, `Y`: the common part of `tessellate_first_edge` and of the end of `close` -/
theorem firstBase_em (f s : EP K) (o : Out K) (adv : K) (xp xn : P K)
    (hn : o.nextId = o.verts.length) (hw0 : f.halfWidth ≠ 0)
    (hf1 : f.foldPos = false) (hf2 : f.foldNeg = false) (hs1 : s.foldPos = false) (hs2 : s.foldNeg = false)
    (X Y : P K) (hX : PosAt o s.pos.prevVertex X) (hY : PosAt o s.neg.prevVertex Y)
    (hne : s.pos.prevVertex ≠ s.neg.prevVertex) :
    ∀ o3, o3 = o.grow [capV f.src f.position f.halfWidth adv .positive xp, capV f.src f.position f.halfWidth adv .negative xn]
          (addEdgeTriangles { f.ids with posNext := o.nextId, negNext := o.nextId + 1 } s.ids) →
    Ext o o3 ∧ o3.nextId = o3.verts.length ∧ PosAt o3 o.nextId xp ∧ PosAt o3 (o.nextId + 1) xn
    ∧ EmTri o3 (xn, xp, X) ∧ EmTri o3 (xn, X, Y)
    ∧ (∀ t ∈ o3.tris, t ∈ o.tris ∨ TriIn o3 [xn, xp, X, Y] t) := by
  rintro o3 rfl
  obtain ⟨q1, q2⟩ := posAt_grow2 hn f.src f.position f.halfWidth adv hw0 xp xn
    (addEdgeTriangles { f.ids with posNext := o.nextId, negNext := o.nextId + 1 } s.ids)
  have hx := Ext.grow o [capV f.src f.position f.halfWidth adv .positive xp, capV f.src f.position f.halfWidth adv .negative xn]
    (addEdgeTriangles { f.ids with posNext := o.nextId, negNext := o.nextId + 1 } s.ids)
  have hXlt := posAt_lt hX
  have hYlt := posAt_lt hY
  obtain ⟨⟨e1, e2⟩, e3⟩ := quad_em (L := { f.ids with posNext := o.nextId, negNext := o.nextId + 1 }) (R := s.ids) hf1 hf2 hs1 hs2
    (by show o.nextId + 1 ≠ s.pos.prevVertex; omega) (by show o.nextId + 1 ≠ o.nextId; omega)
    (by show o.nextId ≠ s.pos.prevVertex; omega) (by show o.nextId + 1 ≠ s.neg.prevVertex; omega) hne
    q2 q1 (hX.ext hx) (hY.ext hx) (fun t ht => List.mem_append_right _ ht)
  exact ⟨hx, next_grow hn _ _, q1, q2, e1, e2, fun t ht => (List.mem_append.mp ht).imp id (e3 t)⟩

/- `tessellate_first_edge`: the two triangles of the first edge's quad between the start-cap corners and the second
point's `prev` vertices `X`, `Y`, and nothing else but that quad and the fan of a round start cap -/
theorem firstEdge_emG (e : Env K) (f s : EP K) (o : Out K) (hc : CapOK e.o.startCap (f.position - s.position))
    (hn : o.nextId = o.verts.length) (hw0 : f.halfWidth ≠ 0)
    (hf1 : f.foldPos = false) (hf2 : f.foldNeg = false) (hs1 : s.foldPos = false) (hs2 : s.foldNeg = false)
    (X Y : P K) (hX : PosAt o s.pos.prevVertex X) (hY : PosAt o s.neg.prevVertex Y)
    (hne : s.pos.prevVertex ≠ s.neg.prevVertex) :
    Ext o (firstEdge e f s o)
    ∧ EmTri (firstEdge e f s o)
        (clipSidePos e.ix e.o.startCap f.position s.position f.halfWidth f.neg.next s.neg.prev,
         clipSidePos e.ix e.o.startCap f.position s.position f.halfWidth f.pos.next s.pos.prev, X)
    ∧ EmTri (firstEdge e f s o)
        (clipSidePos e.ix e.o.startCap f.position s.position f.halfWidth f.neg.next s.neg.prev, X, Y)
    ∧ (∀ t ∈ (firstEdge e f s o).tris, t ∈ o.tris ∨ TriIn (firstEdge e f s o)
        [clipSidePos e.ix e.o.startCap f.position s.position f.halfWidth f.neg.next s.neg.prev,
         clipSidePos e.ix e.o.startCap f.position s.position f.halfWidth f.pos.next s.pos.prev, X, Y] t
      ∨ TriFan (firstEdge e f s o)
        [clipSidePos e.ix e.o.startCap f.position s.position f.halfWidth f.neg.next s.neg.prev,
         clipSidePos e.ix e.o.startCap f.position s.position f.halfWidth f.pos.next s.pos.prev]
        f.position (f.halfWidth * f.halfWidth) t) := by
  rw [firstEdge_eq]
  obtain ⟨b1, b2, b3, b4, b5, b6, b7⟩ := firstBase_em f s o f.advancement _ _ hn hw0 hf1 hf2 hs1 hs2 X Y hX hY hne _ rfl
  obtain ⟨x4, -, ts, e4, t4⟩ := capIf_shape b2 f.position f.halfWidth _ _ _ _ _ true _ hc b4 b3 (firstCap e f s o.nextId _) rfl
  refine ⟨b1.trans x4, b5.ext x4, b6.ext x4, fun t ht => ?_⟩
  rcases List.mem_append.mp (e4 ▸ ht) with h | h
  · exact (b7 t h).imp id fun h' => Or.inl (h'.ext x4)
  · exact Or.inr (Or.inr (t4 t h))

/-- `end(false)` on a state that satisfies the loop invariant: last edge, then first edge, give `Emitted` -/
theorem caps_emitted {e : Env K} (hfw : e.o.varWidth = false) (hw0 : e.hwFw ≠ 0) {pt : Nat → P K} {n : Nat}
    (hs : CapOK e.o.startCap (pt 0 - pt 1)) (he : CapOK e.o.endCap (pt n - pt (n - 1)))
    {st : St K} {a b : EP K} (hI : CInv e pt n st a b)
    (hbf : Fresh e b) (hbfp : b.foldPos = false) (hbfn : b.foldNeg = false) :
    Emitted e pt n (endWithCaps e st).out := by
  have hn1 := hI.k1
  have hc2 := WF.lastTwo_count _ _ hI.t.two
  have hcap : (st.mayNeedEmptyCap && st.buf.count == 1) = false := by
    have : (st.buf.count == 1) = false := by simp; omega
    simp [this]
  rw [endWithCaps_eq_some hcap hI.t.two]
  show Emitted e pt n (firstEdge e _ _ _)
  have ecaps : capsOut e st a b = lastEdge e a (lastSidesFw a b) (st.buf.count == 2) st.out := by
    unfold capsOut; rw [hfw]; rfl
  rw [ecaps]
  -- the last point with its side points
  have hbw : (lastSidesFw a b).halfWidth ≠ 0 := by
    show b.halfWidth ≠ 0; rw [hbf.hw]; exact hw0
  have he' : CapOK e.o.endCap ((lastSidesFw a b).position - a.position) := by
    rw [show (lastSidesFw a b).position = b.position from rfl, hI.apos, hI.bpos]; exact he
  obtain ⟨l1, l2, l3, l4, l5, l6, l7, l8, l9, m3, tsE, m1, mE⟩ :=
    lastEdge_emG e a (lastSidesFw a b) (st.buf.count == 2) st.out he' hI.next hbw
  have hbhw : (lastSidesFw a b).halfWidth = e.hwFw := hbf.hw
  have hanext : a.pos.next = (prevNext e pt n).1 ∧ a.neg.next = (prevNext e pt n).2 := by
    unfold prevNext
    by_cases hk : n = 1
    · rw [if_pos hk, hI.first1 hk]; exact ⟨rfl, rfl⟩
    · rw [if_neg hk]
      obtain ⟨g, _, _⟩ := hI.ageo (by omega)
      exact ⟨(geo_pos g).2.1, (geo_neg g).2.1⟩
  have hxp : clipSidePos e.ix e.o.endCap (lastSidesFw a b).position a.position (lastSidesFw a b).halfWidth
      (lastSidesFw a b).pos.prev a.pos.next = endPos e pt n := by
    unfold endPos endN
    rw [← hanext.1, ← hI.apos, ← hI.bpos, ← hbf.hw]; rfl
  have hxn : clipSidePos e.ix e.o.endCap (lastSidesFw a b).position a.position (lastSidesFw a b).halfWidth
      (lastSidesFw a b).neg.prev a.neg.next = endNeg e pt n := by
    unfold endNeg endN
    rw [← hanext.2, ← hI.apos, ← hI.bpos, ← hbf.hw]; rfl
  rw [hxp] at l3 l5
  rw [hxn] at l4 l6
  rw [hxp, hxn, show (lastSidesFw a b).position = b.position from rfl, hI.bpos, hbhw] at mE
  generalize lastEdge e a (lastSidesFw a b) (st.buf.count == 2) st.out = r at l1 l2 l3 l4 l5 l6 l7 m1 mE m3
  obtain ⟨p1b, o1⟩ := r
  simp only at l1 l2 l3 l4 l5 l6 l7 m1 mE m3 ⊢
  have hpos7 : p1b.position = pt n := l7.trans hI.bpos
  have hfold1 : p1b.ids.foldPos = false := by rw [m3]; exact hbfp
  have hfold2 : p1b.ids.foldNeg = false := by rw [m3]; exact hbfn
  have hidp : p1b.ids.posPrev = st.out.nextId := by rw [m3]
  have hidn : p1b.ids.negPrev = st.out.nextId + 1 := by rw [m3]
  have hX : PosAt o1 p1b.ids.posPrev (endPos e pt n) := by rw [hidp]; exact l3
  have hY : PosAt o1 p1b.ids.negPrev (endNeg e pt n) := by rw [hidn]; exact l4
  have hF0 : (fPt e pt).halfWidth ≠ 0 := hw0
  by_cases hk : n = 1
  · -- a single segment
    have hcnt : st.buf.count = 2 := by rw [hI.cnt, if_pos hk]
    have hn3 : ¬ st.buf.count > 2 := by omega
    simp only [if_neg hn3]
    rw [hI.first1 hk]
    have hs' : CapOK e.o.startCap ((fPt e pt).position - p1b.position) := by
      rw [hpos7, hk]; exact hs
    obtain ⟨x1, x2, x3, x4⟩ := firstEdge_emG e (fPt e pt) p1b o1 hs' l2 hF0 rfl rfl hfold1 hfold2 _ _ hX hY
      (by show p1b.ids.posPrev ≠ p1b.ids.negPrev; rw [hidp, hidn]; omega)
    have hsp : clipSidePos e.ix e.o.startCap (fPt e pt).position p1b.position (fPt e pt).halfWidth (fPt e pt).pos.next p1b.pos.prev
        = startPos e pt n := by
      unfold startPos secondPrev; rw [if_pos hk, hpos7, l5, hk]; rfl
    have hsn : clipSidePos e.ix e.o.startCap (fPt e pt).position p1b.position (fPt e pt).halfWidth (fPt e pt).neg.next p1b.neg.prev
        = startNeg e pt n := by
      unfold startNeg secondPrev; rw [if_pos hk, hpos7, l6, hk]; rfl
    rw [hsp, hsn] at x2 x4
    rw [hsn] at x3
    refine ⟨fun i h1 h2 => by omega, fun i h1 h2 => by omega, fun h => by omega, fun h => by omega, fun _ => ⟨x2, x3⟩, ?_⟩
    intro t ht
    rcases x4 t ht with h | h | h
    · have hc2' : (st.buf.count == 2) = true := by simp [hcnt]
      rw [hc2'] at m1
      simp only [if_true, List.append_nil] at m1
      rw [m1] at h
      rcases List.mem_append.mp h with h | h
      · rcases hI.only t h with ⟨i, a1, a2, _⟩ | ⟨i, a1, a2, _⟩ | ⟨i, a1, a2, _⟩ <;> omega
      · exact Or.inr (Or.inr (Or.inr (Or.inr (Or.inr (Or.inr (Or.inl ⟨hn1, (mE t h).ext x1⟩))))))
    · exact Or.inr (Or.inr (Or.inr (Or.inr (Or.inr (Or.inl ⟨hk, h⟩)))))
    · exact Or.inr (Or.inr (Or.inr (Or.inr (Or.inr (Or.inr (Or.inr ⟨hn1, h⟩))))))
  · -- at least one join
    have hk2 : 2 ≤ n := by omega
    have hcnt : st.buf.count = 3 := by rw [hI.cnt, if_neg hk]
    have h3 : st.buf.count > 2 := by omega
    obtain ⟨sa, f0, f1', ef, g1, g2, sf⟩ := hI.t.full h3
    obtain ⟨f1, hf, gf, gp, pf1, pf2⟩ := hI.first2 hk2
    rw [hf] at ef
    simp only [List.cons.injEq, and_true] at ef
    obtain ⟨rfl, rfl⟩ := ef
    obtain ⟨ga, pa1, pa2⟩ := hI.ageo hk2
    simp only [if_pos h3, hf, List.headD_cons, List.drop_succ_cons, List.drop_zero]
    -- the last edge
    have hne2 : (st.buf.count == 2) = false := by simp [hcnt]
    rw [hne2] at m1
    simp only [Bool.false_eq_true, if_false] at m1
    obtain ⟨a1, a2, ag, a4, a5⟩ := sa
    obtain ⟨ag1, ag2, ag3, ag4⟩ := ag
    have hids : ({ (lastSidesFw a b).ids with posPrev := st.out.nextId, negPrev := st.out.nextId + 1 } : JoinIds) = p1b.ids := m3.symm
    rw [hids] at m1
    obtain ⟨hlast, hquadL⟩ := quad_em (L := a.ids) (R := p1b.ids) a1 a2 hfold1 hfold2 (by rw [hidp]; omega) a4 (by rw [hidp]; omega)
      (by rw [hidn]; omega) (by rw [hidp, hidn]; omega) (pa1.ext l1) (pa2.ext l1)
      hX hY (fun t ht => by rw [m1]; simp [ht])
    -- the first edge
    obtain ⟨s1, s2, sg, s4, s5⟩ := sf
    have hs' : CapOK e.o.startCap ((fPt e pt).position - f1.position) := by
      rw [gp]; exact hs
    obtain ⟨x1, x2, x3, x4⟩ := firstEdge_emG e (fPt e pt) f1 o1 hs' l2 hF0 rfl rfl s1 s2 _ _ (pf1.ext l1) (pf2.ext l1) s5
    have hsp : clipSidePos e.ix e.o.startCap (fPt e pt).position f1.position (fPt e pt).halfWidth (fPt e pt).pos.next f1.pos.prev
        = startPos e pt n := by
      unfold startPos secondPrev; rw [if_neg hk, gp, (geo_pos gf).1]; rfl
    have hsn : clipSidePos e.ix e.o.startCap (fPt e pt).position f1.position (fPt e pt).halfWidth (fPt e pt).neg.next f1.neg.prev
        = startNeg e pt n := by
      unfold startNeg secondPrev; rw [if_neg hk, gp, (geo_neg gf).1]; rfl
    rw [hsp, hsn] at x2 x4
    rw [hsn] at x3
    have hx := l1.trans x1
    refine ⟨fun i h1 h2 => (hI.quads i h1 h2).ext hx, fun i h1 h2 => (hI.joins i h1 h2).ext hx,
      fun _ => ⟨hlast.1.ext x1, hlast.2.ext x1⟩, fun _ => ⟨x2, x3⟩, fun h => absurd h hk, ?_⟩
    intro t ht
    rcases x4 t ht with h | h | h
    · rw [m1] at h
      rcases List.mem_append.mp h with h | h
      swap
      · exact Or.inr (Or.inr (Or.inr (Or.inr (Or.inr (Or.inr (Or.inl ⟨hn1, (mE t h).ext x1⟩))))))
      rcases List.mem_append.mp h with h | h
      · rcases hI.only t h with ⟨i, a1, a2, a3⟩ | ⟨i, a1, a2, a3⟩ | ⟨i, a1, a2, a3⟩
        · exact Or.inl ⟨i, a1, a2, a3.ext hx⟩
        · exact Or.inr (Or.inl ⟨i, a1, a2, a3.ext hx⟩)
        · exact Or.inr (Or.inr (Or.inl ⟨i, a1, a2, a3.ext hx⟩))
      · exact Or.inr (Or.inr (Or.inr (Or.inl ⟨hk2, (hquadL t h).ext x1⟩)))
    · exact Or.inr (Or.inr (Or.inr (Or.inr (Or.inl ⟨hk2, h⟩))))
    · exact Or.inr (Or.inr (Or.inr (Or.inr (Or.inr (Or.inr (Or.inr ⟨hn1, h⟩))))))

end

section Run
variable {K : Type} [Field K] [LinearOrder K] [IsStrictOrderedRing K] [Transc K] [Asin K] [FlatConst K]

/-- **emission shape of the complete model on an open polyline** (fixed width, every join kind - Round under
`RoundOK` -, every cap - round under `CapOK` -, no merged points, no folding join): see `Emitted` -/
theorem run_emittedG (e : Env K) (store : Nat → List K) (hfw : e.o.varWidth = false)
    (hj : RoundOK e) (hw0 : e.hwFw ≠ 0)
    (pt : Nat → P K) (n : Nat) (hn : 1 ≤ n)
    (hs : CapOK e.o.startCap (pt 0 - pt 1)) (he : CapOK e.o.endCap (pt n - pt (n - 1)))
    (hfar : ∀ i, i < n → pointsAreTooClose e.thr (pt i) (pt (i + 1)) = false)
    (hnf : ∀ i, 1 ≤ i → i < n → noFoldAt e (pt (i - 1)) (pt i) (pt (i + 1))) :
    Emitted e pt n (runEvents e store (polyEvs pt n)).st.out := by
  obtain ⟨st2, hwf2, hab, hc2, hout, hrun⟩ := run_open_subpath_x e store hfw 0 1 (pt 0) (pt 1) (restPts pt 2 (n - 1))
    (hfar 0 (by omega))
  unfold polyEvs
  rw [hrun]
  obtain ⟨a', b', hI, hbf, hbfp, hbfn⟩ := loop_cinv hj hw0 hn hwf2 hab hc2 hout (fun i _ h2 => hfar i h2) hnf false
  exact caps_emitted hfw hw0 hs he hI hbf hbfp hbfn

theorem run_emitted (e : Env K) (store : Nat → List K) (hfw : e.o.varWidth = false)
    (hj : RoundOK e) (hs : e.o.startCap ≠ .round) (he : e.o.endCap ≠ .round) (hw0 : e.hwFw ≠ 0)
    (pt : Nat → P K) (n : Nat) (hn : 1 ≤ n)
    (hfar : ∀ i, i < n → pointsAreTooClose e.thr (pt i) (pt (i + 1)) = false)
    (hnf : ∀ i, 1 ≤ i → i < n → noFoldAt e (pt (i - 1)) (pt i) (pt (i + 1))) :
    Emitted e pt n (runEvents e store (polyEvs pt n)).st.out :=
  run_emittedG e store hfw hj hw0 pt n hn (Or.inl hs) (Or.inl he) hfar hnf

end Run

end Lyon.C06b
