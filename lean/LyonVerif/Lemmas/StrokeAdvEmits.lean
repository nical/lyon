/-
  The advancement bookkeeping of the complete stroker model, fixed width, one emitting component at a time, up to one
  `line_to` on a full window (`fwStep_join_advs`) and the `NoMerge` loop over it (`feedFw_advs`)
  (ALL joins and caps: the arc fans of round joins / caps inherit `self.vertex`): every vertex emitted for
  an endpoint carries the source `Endpoint(id)`, the position of that endpoint as `position_on_path`, and
  the advancement the step function computed for it; along a polyline that is the left fold
  `a_0, a_k = a_{k-1} + |p_k - p_{k-1}|` of the edge lengths (`advTable`).  `close()` is in
  `Lemmas/StrokeAdvClose.lean`, the sub-path window and the run-level theorems in `Lemmas/StrokeAdvMerge.lean`.

  Everything here is structural and holds for every scalar type (the additions are the model's own,
  in the model's order: the statement is bit-exact for floats), given only `is_nan(NaN) = true`.
  `Emits Q o o'`: `o'` extends the vertex list of `o` by vertices that all satisfy `Q`.
  `flatJoinAdv` is in `Lyon.C05f` (the statement of `C05f.flattened_step_advancement` names it); everything else of the
  `StrokeAdv*` files is in `Lyon.C05c`, the namespace of the `StrokeIdx*` files, whose window lemmas (`WF`,
  `fwStep_of_join`, `runFrom_subpath`) it builds on.
-/
import LyonVerif.Lemmas.StrokeIdxCount

set_option linter.unusedSectionVars false

namespace Lyon.C05f
open Lyon Scalar Lyon.Stroke Lyon.Stroke.Full
variable {α : Type} [Scalar α] [Transc α]

/-- the advancement `flattened_step` gives its join: `prev.advancement + |chord|` if still NaN.  The value handed to
`next` is `flatJoinAdv j' next` for the updated join `j'` -/
def flatJoinAdv (prev join : EP α) : α :=
  if Transc.isNaN join.advancement then prev.advancement + len (join.position - prev.position)
  else join.advancement

end Lyon.C05f

namespace Lyon.C05c
open Lyon Scalar Lyon.Stroke Lyon.Stroke.Full Lyon.C05 Lyon.C05b
open Lyon.C05f (flatJoinAdv)

section
variable {α : Type} [Scalar α] [Transc α]

/-- `o'` extends the vertex list of `o` by vertices satisfying `Q` -/
def Emits (Q : VData α → Prop) (o o' : Out α) : Prop :=
  ∃ vs : List (VData α), o'.verts = o.verts ++ vs ∧ ∀ v ∈ vs, Q v

theorem Emits.refl (Q : VData α → Prop) (o : Out α) : Emits Q o o := ⟨[], by simp, by simp⟩

theorem Emits.of_verts_eq {Q : VData α → Prop} {o o' : Out α} (h : o'.verts = o.verts) : Emits Q o o' :=
  ⟨[], by simp [h], by simp⟩

theorem Emits.trans {Q : VData α → Prop} {a b c : Out α} (h1 : Emits Q a b) (h2 : Emits Q b c) : Emits Q a c := by
  obtain ⟨v1, e1, q1⟩ := h1
  obtain ⟨v2, e2, q2⟩ := h2
  exact ⟨v1 ++ v2, by rw [e2, e1, List.append_assoc], List.forall_mem_append.mpr ⟨q1, q2⟩⟩

theorem Emits.mono {Q Q' : VData α → Prop} (hQ : ∀ v, Q v → Q' v) {a b : Out α} (h : Emits Q a b) : Emits Q' a b := by
  obtain ⟨vs, e, q⟩ := h
  exact ⟨vs, e, fun v hv => hQ v (q v hv)⟩

theorem Emits.of_new {Q : VData α → Prop} {n : Nat} {o : Out α} (h : Emits Q (Out.empty n) o) : ∀ v ∈ o.verts, Q v := by
  obtain ⟨vs, ev, qv⟩ := h
  intro v hv
  rw [show (Out.empty n : Out α).verts = [] from rfl, List.nil_append] at ev
  exact qv v (ev ▸ hv)

theorem Emits.grow {Q : VData α → Prop} {o : Out α} {vs : List (VData α)} (ts : List Stroke.Tri) (h : ∀ v ∈ vs, Q v) :
    Emits Q o (o.grow vs ts) := ⟨vs, rfl, h⟩

/-- what the vertices of one emission site share -/
def SiteOK (src : Src α) (pop : P α) (adv : α) (v : VData α) : Prop :=
  v.src = src ∧ v.positionOnPath = pop ∧ v.advancement = adv

theorem baseVertices_emits (j : EP α) (d : VData α) (o : Out α) :
    Emits (SiteOK d.src d.positionOnPath d.advancement) o (baseVertices j d o).2
      ∧ (baseVertices j d o).1.advancement = j.advancement ∧ (baseVertices j d o).1.src = j.src := by
  rw [baseVertices_eq]
  refine ⟨⟨_, rfl, fun v hv => ?_⟩, rfl, rfl⟩
  obtain ⟨n, s, rfl⟩ := baseVerts_mem hv
  exact ⟨rfl, rfl, rfl⟩

theorem Emits.vert {Q : VData α → Prop} {a b : Out α} (h : Emits Q a b) {v : VData α} (hv : Q v) :
    Emits Q a (b.addVertex v) :=
  h.trans ⟨[v], rfl, List.forall_mem_singleton.mpr hv⟩

theorem Emits.tris {Q : VData α → Prop} {a b : Out α} (h : Emits Q a b) (t : List Stroke.Tri) :
    Emits Q a (b.addTris t) :=
  h.trans (.of_verts_eq rfl)

theorem Emits.tri {Q : VData α → Prop} {a b : Out α} (h : Emits Q a b) (t : Stroke.Tri) :
    Emits Q a (b.addTri t) :=
  h.trans (.of_verts_eq rfl)

theorem arc_emits (n : Nat) : ∀ (a0 a1 : α) (va vb : Nat) (d : VData α) (o : Out α),
    Emits (SiteOK d.src d.positionOnPath d.advancement) o (tessellateArc a0 a1 va vb n d o) := by
  intro a0 a1 va vb d o
  rw [arc_eq]
  refine ⟨_, rfl, fun v hv => ?_⟩
  obtain ⟨m, _, rfl⟩ := List.mem_map.mp hv
  exact ⟨rfl, rfl, rfl⟩

theorem roundCap_emits (center : P α) (radius : α) (startNormal : P α) (sv ev : Nat)
    (edgeNormal : P α) (tolerance : α) (isStart : Bool) (d : VData α) (o : Out α)
    {s : Src α} {a : α} (hs : d.src = s) (ha : d.advancement = a) :
    Emits (SiteOK s center a) o
      (tessellateRoundCap center radius startNormal sv ev edgeNormal tolerance isStart d o) := by
  subst hs ha
  unfold tessellateRoundCap
  split_ifs
  · exact Emits.refl _ _
  · unfold roundCapBody
    simp only []
    have s0 : Emits (SiteOK d.src center d.advancement) o
        ((o.addVertex (⟨center, radius, normalize edgeNormal, d.advancement,
            capFirstSide isStart edgeNormal startNormal, d.src⟩ : VData α)).addTri (sv, o.nextId, ev)) :=
      ((Emits.refl _ _).vert ⟨rfl, rfl, rfl⟩).tri _
    exact (s0.trans (arc_emits _ _ _ _ _ (⟨center, radius, normalize edgeNormal, d.advancement,
        capFirstSide isStart edgeNormal startNormal, d.src⟩ : VData α) _)).trans
      (arc_emits _ _ _ _ _ (⟨center, radius, normalize edgeNormal, d.advancement,
        (capFirstSide isStart edgeNormal startNormal).opposite, d.src⟩ : VData α) _)

theorem edgeAndJoin_emits (tol : α) (count : Nat) (prev j : EP α) (d : VData α) (o : Out α) :
    Emits (SiteOK d.src d.positionOnPath d.advancement) o (edgeAndJoin tol count prev j d o) := by
  unfold edgeAndJoin tessellateJoin
  have s1 : Emits (SiteOK d.src d.positionOnPath d.advancement) o
      (if count > 2 then o.addTris (addEdgeTriangles prev.ids j.ids) else o) := by
    split_ifs
    · exact (Emits.refl _ _).tris _
    · exact Emits.refl _ _
  have hr : ∀ (c isNeg : Bool) (o' : Out α),
      Emits (SiteOK d.src d.positionOnPath d.advancement) o' (roundJoinIf c j.toJoin isNeg tol d o') := by
    intro c isNeg o'
    unfold roundJoinIf
    split_ifs
    · unfold tessellateRoundJoin
      simp only []
      split_ifs <;> exact arc_emits _ _ _ _ _ _ _
    · exact Emits.refl _ _
  exact ((s1.tris _).trans (hr _ _ _)).trans (hr _ _ _)

theorem lastEdge_emits (e : Env α) (p0 p1 : EP α) (isFirst : Bool) (o : Out α) :
    Emits (SiteOK p1.src p1.position (p0.advancement + len (p1.position - p0.position))) o (lastEdge e p0 p1 isFirst o).2 := by
  have h : ∀ ts, Emits (SiteOK p1.src p1.position (p0.advancement + len (p1.position - p0.position))) o
      (o.grow (lastVerts e p0 p1) ts) := fun ts => Emits.grow ts fun v hv => by
    simp only [lastVerts, List.mem_cons, List.mem_nil_iff, or_false] at hv
    rcases hv with rfl | rfl <;> exact ⟨rfl, rfl, rfl⟩
  rw [lastEdge_eq]
  show Emits _ o (lastCap e p0 p1 o.nextId _)
  unfold lastCap
  by_cases hc : (e.o.endCap == .round) = true
  · rw [if_pos hc]; exact (h _).trans (roundCap_emits _ _ _ _ _ _ _ _ _ _ rfl rfl)
  · rw [if_neg hc]; exact h _

theorem firstEdge_emits (e : Env α) (f s : EP α) (o : Out α) :
    Emits (SiteOK f.src f.position f.advancement) o (firstEdge e f s o) := by
  have h : ∀ ts, Emits (SiteOK f.src f.position f.advancement) o (o.grow (firstVerts e f s) ts) :=
    fun ts => Emits.grow ts fun v hv => by
      simp only [firstVerts, List.mem_cons, List.mem_nil_iff, or_false] at hv
      rcases hv with rfl | rfl <;> exact ⟨rfl, rfl, rfl⟩
  rw [firstEdge_eq]
  unfold firstCap
  by_cases hc : (e.o.startCap == .round) = true
  · rw [if_pos hc]; exact (h _).trans (roundCap_emits _ _ _ _ _ _ _ _ _ _ rfl rfl)
  · rw [if_neg hc]; exact h _

theorem lastEdge_adv (e : Env α) (p0 p1 : EP α) (isFirst : Bool) (o : Out α) :
    (lastEdge e p0 p1 isFirst o).1.advancement = p0.advancement + len (p1.position - p0.position) := rfl

theorem emptyCap_emits (e : Env α) (st : St α) (point : EP α) (hg : st.buf.get 0 = some point) :
    Emits (SiteOK point.src point.position point.advancement) st.out (emptyCap e st) := by
  unfold emptyCap
  rw [hg]
  simp only []
  cases e.o.startCap with
  | butt => exact Emits.refl _ _
  | square =>
    unfold tessellateEmptySquareCap
    simp only []
    exact (((((((Emits.refl _ _).vert ⟨rfl, rfl, rfl⟩).vert ⟨rfl, rfl, rfl⟩).vert ⟨rfl, rfl, rfl⟩).vert
      ⟨rfl, rfl, rfl⟩).tri _).tri _)
  | round =>
    unfold tessellateEmptyRoundCap
    simp only []
    exact ((((Emits.refl _ _).vert ⟨rfl, rfl, rfl⟩).vert ⟨rfl, rfl, rfl⟩).trans
      (roundCap_emits _ _ _ _ _ _ _ _ _ _ rfl rfl)).trans (roundCap_emits _ _ _ _ _ _ _ _ _ _ rfl rfl)

theorem joinSidesFw_adv (ix : Lyon.StrokeQuad.Ix α) (prev join next : EP α) (ml vhw : α) :
    (joinSidesFw ix prev join next ml vhw).advancement
      = (if Transc.isNaN join.advancement then prev.advancement + len (join.position - prev.position)
         else join.advancement)
    ∧ (joinSidesFw ix prev join next ml vhw).src = join.src := by
  rw [joinSidesFw_eq]; exact ⟨rfl, rfl⟩

theorem flattenedStep_advs (prev join next : EP α) (d : VData α) (o : Out α) :
    (flattenedStep prev join next d o).join.advancement = flatJoinAdv prev join
    ∧ (flattenedStep prev join next d o).next.advancement
        = (if Transc.isNaN next.advancement then flatJoinAdv prev join + len (next.position - join.position)
           else next.advancement)
    ∧ (flattenedStep prev join next d o).join.position = join.position
    ∧ (flattenedStep prev join next d o).next.position = next.position := by
  unfold flatJoinAdv flattenedStep
  simp only []
  split_ifs <;> exact ⟨rfl, rfl, rfl, rfl⟩

/-- what `flattened_step` emits (nothing when it answers "skip"): its two vertices carry the join's advancement -/
theorem flattenedStep_emits (prev join next : EP α) (d : VData α) (o : Out α) :
    Emits (SiteOK d.src d.positionOnPath (flatJoinAdv prev join)) o (flattenedStep prev join next d o).out := by
  obtain ⟨jAdv, nAdv, p0, p1, nrm, c, dc, e⟩ := flattenedStep_shape prev join next d o
  have h1 := (flattenedStep_advs prev join next d o).1
  rw [e] at h1 ⊢
  split_ifs at h1 ⊢
  · exact Emits.refl _ _
  · exact ((Emits.refl _ _).vert ⟨rfl, rfl, h1⟩).vert ⟨rfl, rfl, h1⟩

/-- the join of `fixed_width_step_impl`, both branches, any endpoints: the join gets `flatJoinAdv prev join`, every vertex
emitted carries the join's source, position and that advancement; `next` is handed on, on the fast path with its
advancement filled in -/
theorem fwJoin_advs (e : Env α) (st : St α) (prev join next : EP α) :
    ∃ j' n' o', fwJoin e st prev join next = (commitSt st prev j' o', n')
      ∧ j'.position = join.position ∧ j'.src = join.src ∧ j'.advancement = flatJoinAdv prev join
      ∧ n'.position = next.position
      ∧ ((fastPath prev join next = false ∧ n' = next)
         ∨ n'.advancement = (if Transc.isNaN next.advancement then flatJoinAdv prev join + len (next.position - join.position)
              else next.advancement))
      ∧ Emits (SiteOK join.src join.position (flatJoinAdv prev join)) st.out o' := by
  by_cases hfp : fastPath prev join next = true
  · obtain ⟨f1, f2, f3, f4⟩ := flattenedStep_advs prev { join with lineJoin := .miter } next
      (baseVertex join.src join.position join.halfWidth nan) st.out
    have fe := flattenedStep_emits prev { join with lineJoin := .miter } next
      (baseVertex join.src join.position join.halfWidth nan) st.out
    refine ⟨_, _, _, fwJoin_fast st hfp _ rfl, f3, ?_, f1, f4, Or.inr f2, fe.trans ?_⟩
    · unfold flattenedStep; simp only []; split_ifs <;> rfl
    · exact Emits.mono (fun v hv => ⟨hv.1, hv.2.1, hv.2.2.trans f1⟩) (edgeAndJoin_emits _ _ _ _ _ _)
  · have hfp' : fastPath prev join next = false := by simpa using hfp
    obtain ⟨a1, a2⟩ := joinSidesFw_adv e.ix prev join next e.o.miterLimit join.halfWidth
    have u1 := joinSidesFw_upd e.ix prev join next e.o.miterLimit join.halfWidth
    refine ⟨_, next, _, fwJoin_ordinary st hfp', ?_⟩
    generalize joinSidesFw e.ix prev join next e.o.miterLimit join.halfWidth = j1 at a1 a2 u1 ⊢
    obtain ⟨_, b2, _⟩ := baseVertices_verts j1 (fwJoinData join j1) st.out
    obtain ⟨c1, c2, c3⟩ := baseVertices_emits j1 (fwJoinData join j1) st.out
    refine ⟨b2.trans u1.pos, c3.trans a2, c2.trans a1, rfl, Or.inl ⟨hfp', rfl⟩, ?_⟩
    exact (c1.trans (edgeAndJoin_emits _ _ _ _ _ _)).mono fun v hv => ⟨hv.1, hv.2.1, hv.2.2.trans a1⟩

/-- one `line_to` on the window `(a, b)` with `b` fresh and `next` not merged: `b` becomes the join.  The last conjunct is
how `firsts` is filled when the window first holds three points (read by `close()`).  For any `b` and a `next` that
waits for its advancement: `fwStep_adv_any` -/
theorem fwStep_join_advs {e : Env α} {st : St α} (hwf : WF st.buf) {a b : EP α}
    (hab : st.buf.lastTwo = some (a, b)) (hb : Fresh e b) (next : EP α)
    (hfar : pointsAreTooClose e.thr b.position next.position = false) :
    ∃ b', (fwStep e st next).1.buf.lastTwo = some (b', next) ∧ WF (fwStep e st next).1.buf
      ∧ b'.position = b.position ∧ b'.src = b.src ∧ b'.advancement = flatJoinAdv a b
      ∧ Emits (SiteOK b.src b.position (flatJoinAdv a b)) st.out (fwStep e st next).1.out
      ∧ (fwStep e st next).1.buf.count = 3
      ∧ (fwStep e st next).1.firsts = (if st.buf.count == 2 then [a, b'] else st.firsts) := by
  obtain ⟨j2, n', o', ej, hp, hs, ha, _, hn, hv⟩ := fwJoin_advs e st a b next
  -- a fresh join is not on the fast path: `next` is handed on as it is
  obtain rfl : n' = next := hn.elim (·.2) fun _ => by
    rw [fwJoin_ordinary st (fastPath_fresh hb)] at ej; exact (Prod.mk.inj ej).2.symm
  obtain ⟨b2, e2, hwf2, hlt2, hc3⟩ := fwStep_of_join hwf hab hfar ej
  rw [e2]
  exact ⟨j2, hlt2, hwf2, hp, hs, ha, hv, hc3, rfl⟩

/-- `(endpoint id, position, advancement)` along a polyline: the advancement of a point is the
advancement of the point before it plus the length of the edge between them, starting at `a` -/
def advTable (a : α) : List (Nat × P α) → List (Nat × P α × α)
  | [] => []
  | [q] => [(q.1, q.2, a)]
  | q :: q' :: r => (q.1, q.2, a) :: advTable (a + len (q'.2 - q.2)) (q' :: r)

/-- a vertex agrees with an entry of the table -/
def AdvOK (tbl : List (Nat × P α × α)) (v : VData α) : Prop :=
  ∃ t ∈ tbl, v.src = .endpoint t.1 ∧ v.positionOnPath = t.2.1 ∧ v.advancement = t.2.2

theorem AdvOK.mono {T T' : List (Nat × P α × α)} (h : T ⊆ T') {v : VData α} : AdvOK T v → AdvOK T' v :=
  fun ⟨t, ht, hv⟩ => ⟨t, h ht, hv⟩

/-- a vertex of an emission site whose entry the table holds agrees with the table -/
theorem SiteOK.advOK {src : Src α} {pos : P α} {adv : α} {v : VData α} (h : SiteOK src pos adv v) {i : Nat}
    (hs : src = .endpoint i) {T : List (Nat × P α × α)} (ht : (i, pos, adv) ∈ T) : AdvOK T v :=
  ⟨_, ht, h.1.trans hs, h.2.1, h.2.2⟩

theorem advTable_head (a : α) (q : Nat × P α) (r : List (Nat × P α)) :
    (q.1, q.2, a) ∈ advTable a (q :: r) := by
  cases r <;> simp [advTable]

theorem advTable_tail (a : α) (q q' : Nat × P α) (r : List (Nat × P α)) :
    ∀ t ∈ advTable (a + len (q'.2 - q.2)) (q' :: r), t ∈ advTable a (q :: q' :: r) := by
  intro t ht; simp only [advTable, List.mem_cons]; exact Or.inr ht

theorem advTable_getLast (a : α) (q q' : Nat × P α) (r : List (Nat × P α)) :
    (advTable a (q :: q' :: r)).getLast? = (advTable (a + len (q'.2 - q.2)) (q' :: r)).getLast? := by
  cases r <;> simp [advTable]

/-- `b`, the newest point after `a`, still waits for its advancement or already holds the value it will get -/
def Pending (a b : EP α) : Prop :=
  b.advancement = nan ∨ b.advancement = a.advancement + len (b.position - a.position)

theorem Pending.nan {a b : EP α} (h : b.advancement = nan) : Pending a b := Or.inl h

theorem Pending.done {a b : EP α} (h : b.advancement = a.advancement + len (b.position - a.position)) :
    Pending a b := Or.inr h

theorem joinAdv_eq (hnan : Transc.isNaN (nan : α) = true) {a b : EP α} (h : Pending a b) :
    flatJoinAdv a b = a.advancement + len (b.position - a.position) := by
  unfold flatJoinAdv
  rcases h with h | h
  · rw [h, hnan]; rfl
  · split_ifs
    · rfl
    · exact h

theorem feedFw_advs {e : Env α} (hnan : Transc.isNaN (nan : α) = true)
    (f0 : EP α) (rest : List (Nat × P α)) :
    ∀ (st : St α) (a b : EP α) (ib : Nat), WF st.buf → st.buf.lastTwo = some (a, b) → Fresh e b →
      b.src = .endpoint ib →
      (b.advancement = nan ∨ b.advancement = a.advancement + len (b.position - a.position)) →
      NoMerge e.thr (b.position :: rest.map (·.2)) →
      ((st.buf.count = 2 ∧ a = f0) ∨ (st.buf.count = 3 ∧ st.firsts.head? = some f0)) →
      ∃ a' b' il, (rest.foldl (fun s q => (fwStep e s (linePt e q)).1) st).buf.lastTwo = some (a', b')
        ∧ Emits (AdvOK (advTable (a.advancement + len (b.position - a.position)) ((ib, b.position) :: rest)))
            st.out (rest.foldl (fun s q => (fwStep e s (linePt e q)).1) st).out
        ∧ b'.src = .endpoint il
        ∧ (il, b'.position, a'.advancement + len (b'.position - a'.position))
            ∈ advTable (a.advancement + len (b.position - a.position)) ((ib, b.position) :: rest)
        ∧ (advTable (a.advancement + len (b.position - a.position)) ((ib, b.position) :: rest)).getLast?
            = some (il, b'.position, a'.advancement + len (b'.position - a'.position))
        ∧ (((rest.foldl (fun s q => (fwStep e s (linePt e q)).1) st).buf.count = 2 ∧ a' = f0)
          ∨ ((rest.foldl (fun s q => (fwStep e s (linePt e q)).1) st).buf.count = 3
              ∧ (rest.foldl (fun s q => (fwStep e s (linePt e q)).1) st).firsts.head? = some f0))
        ∧ WF (rest.foldl (fun s q => (fwStep e s (linePt e q)).1) st).buf := by
  induction rest with
  | nil =>
    intro st a b ib hwf hab _ hsrc _ _ hfirst
    exact ⟨a, b, ib, hab, Emits.refl _ _, hsrc, by simp [advTable], by simp [advTable], hfirst, hwf⟩
  | cons q rest ih =>
    intro st a b ib hwf hab hb hsrc hadv hm hfirst
    obtain ⟨hfar, hm'⟩ := hm
    obtain ⟨b1, h1, h2, h3, h4, h5, h6, h7, h8⟩ := fwStep_join_advs hwf hab hb (linePt e q) hfar
    have hA := joinAdv_eq hnan hadv
    rw [hA] at h5 h6
    have hfirst' : ((fwStep e st (linePt e q)).1.buf.count = 2 ∧ b1 = f0)
        ∨ ((fwStep e st (linePt e q)).1.buf.count = 3 ∧ (fwStep e st (linePt e q)).1.firsts.head? = some f0) := by
      right
      refine ⟨h7, ?_⟩
      rw [h8]
      rcases hfirst with ⟨hc, rfl⟩ | ⟨hc, hf⟩
      · simp [hc]
      · have : (st.buf.count == 2) = false := by simp [hc]
        rw [this]; exact hf
    obtain ⟨a'', b'', il, g1, g2, g3, g4, g4l, g5, g6⟩ := ih _ b1 (linePt e q) q.1 h2 h1 (fresh_mk' e _ _ _) rfl (Or.inl rfl)
      hm' hfirst'
    have hpos : (linePt e q).position = q.2 := rfl
    rw [h5, h3, hpos] at g2 g4 g4l
    refine ⟨a'', b'', il, g1, ?_, g3, advTable_tail _ (ib, b.position) q rest _ g4,
      by rw [advTable_getLast _ (ib, b.position) q rest]; exact g4l, g5, g6⟩
    rw [List.foldl_cons]
    refine Emits.trans (Emits.mono ?_ h6) (Emits.mono ?_ g2)
    · exact fun v hv => hv.advOK hsrc (advTable_head _ (ib, b.position) (q :: rest))
    · exact fun v => AdvOK.mono (advTable_tail _ (ib, b.position) q rest)

end


end Lyon.C05c
