/-
  C06b: covering lemmas for one edge and one join, in terms of an abstract predicate `E` on
  position triples ("this triangle is emitted").

  * `trap_cov`: the two triangles of an edge quad whose corners are shifted along the edge by
    `hw·a0, hw·a1` (start) and `hw·b0, hw·b1` (end) cover the trapezoid between them, hence (edge long enough)
    the parts of the band next to the two joins that the corner lemmas hand over to it.
  * `end_corner`: the part of an edge's rectangle that lies beyond the trapezoid's end line at a join is covered by
    the join triangle or by the neighbouring trapezoid (coordinates in half widths, in the frame of the join).
  * `end_corner_len`: the same in lengths along the edge, with the two start shifts `a0 a1` of the outgoing trapezoid
    as numbers; in this form the statement is symmetric under reversal of the path
    (`t0 t1 ε a0 a1 ↦ −t1 −t0 −ε a1 a0`), so `start_corner_len` (the start of an edge at a join) is its mirror image.
-/
import LyonVerif.Lemmas.StrokeCoverGeo
import Mathlib.Tactic.Linarith
import Mathlib.Tactic.LinearCombination

set_option linter.unusedSectionVars false

namespace Lyon.C06b
open Lyon Scalar Lyon.StrokeQuad Lyon.Stroke Lyon.C06

variable {K : Type} [Field K] [LinearOrder K] [IsStrictOrderedRing K]

/-- `q` lies in a triangle that is emitted -/
def Cov (E : P K × P K × P K → Prop) (q : P K) : Prop := ∃ T, E T ∧ InTri q T

theorem mix_le (v a0 a1 T : K) (hv : -1 ≤ v) (hv1 : v ≤ 1) (h0 : a0 ≤ T) (h1 : a1 ≤ T) :
    ((1 - v) * a0 + (1 + v) * a1) / 2 ≤ T := by
  have := mul_le_mul_of_nonneg_left h0 (by linarith : (0 : K) ≤ 1 - v)
  have := mul_le_mul_of_nonneg_left h1 (by linarith : (0 : K) ≤ 1 + v)
  linarith

theorem mix_ge (v b0 b1 T : K) (hv : -1 ≤ v) (hv1 : v ≤ 1) (h0 : -T ≤ b0) (h1 : -T ≤ b1) :
    -T ≤ ((1 - v) * b0 + (1 + v) * b1) / 2 := by
  have := mix_le v (-b0) (-b1) T hv hv1 (by linarith) (by linarith)
  linarith

theorem eps_band {ε u : K} (h : ε * ε = 1) (hu : -1 ≤ u) (hu1 : u ≤ 1) : -1 ≤ ε * u ∧ ε * u ≤ 1 := by
  rcases mul_self_eq_one_iff.mp h with rfl | rfl <;> constructor <;> linarith

section
variable [Transc K]

/-- the edge quad between shifted side points covers the trapezoid between them (`x` measured along
the unit tangent `t` from `X`, `y` across in half widths).  The start shifts are at most `T0`, the end shifts at
least `−T1` half widths and the edge is at least `hw·(T0 + T1 + 1)` long, so the trapezoid also contains the band
from its start line up to `hw·(1 + T0)` after `X` (near part) and from `hw·(1 + T1)` before `Y` to its end line
(far part). -/
theorem trap_cov (E : P K × P K × P K → Prop) (X Y t : P K) (L hw a0 a1 b0 b1 T0 T1 x y : K)
    (hw0 : 0 < hw) (hd : Y - X = t.smul L)
    (hQ1 : E (X - (perp t).smul hw + t.smul (hw * a0), X + (perp t).smul hw + t.smul (hw * a1),
      Y + (perp t).smul hw + t.smul (hw * b1)))
    (hQ2 : E (X - (perp t).smul hw + t.smul (hw * a0), Y + (perp t).smul hw + t.smul (hw * b1),
      Y - (perp t).smul hw + t.smul (hw * b0)))
    (ha0 : a0 ≤ T0) (ha1 : a1 ≤ T0) (hb0 : -T1 ≤ b0) (hb1 : -T1 ≤ b1) (hlen : hw * (T0 + T1 + 1) ≤ L)
    (hy : -1 ≤ y) (hy1 : y ≤ 1)
    (hlo : hw * ((1 - y) * a0 + (1 + y) * a1) / 2 ≤ x ∨ L - hw * (1 + T1) ≤ x)
    (hhi : x ≤ L + hw * ((1 - y) * b0 + (1 + y) * b1) / 2 ∨ x ≤ hw * (1 + T0)) :
    Cov E (X + t.smul x + (perp t).smul (hw * y)) := by
  have hw' := le_of_lt hw0
  have hma := mul_le_mul_of_nonneg_left (mix_le y a0 a1 T0 hy hy1 ha0 ha1) hw'
  have hmb := mul_le_mul_of_nonneg_left (mix_ge y b0 b1 T1 hy hy1 hb0 hb1) hw'
  have hlo' : hw * ((1 - y) * a0 + (1 + y) * a1) / 2 ≤ x := by
    rcases hlo with h | h
    · exact h
    · linarith only [h, hma, hlen]
  have hhi' : x ≤ L + hw * ((1 - y) * b0 + (1 + y) * b1) / 2 := by
    rcases hhi with h | h
    · exact h
    · linarith only [h, hmb, hlen]
  -- `quad_covers_core` on the unit segment `X → X + t`: its shifts are then lengths along `t`, the end corners sit
  -- `L − 1 + hw·b` after `X + t`
  have h := quad_covers_core X (X + t) ((perp t).smul hw) (hw * a0) (hw * a1) (L - 1 + hw * b0) (L - 1 + hw * b1) x y
    (by linarith only [mul_le_mul_of_nonneg_left ha0 hw', mul_le_mul_of_nonneg_left hb0 hw', hlen, hw0])
    (by linarith only [mul_le_mul_of_nonneg_left ha1 hw', mul_le_mul_of_nonneg_left hb1 hw', hlen, hw0])
    hy hy1 (by linear_combination hlo') (by linear_combination hhi')
  have hY : Y = X + t.smul L := by rw [← hd]; geom_ring
  have c1 : X + t + (perp t).smul hw + (X + t - X).smul (L - 1 + hw * b1) = Y + (perp t).smul hw + t.smul (hw * b1) := by
    rw [hY]; geom_ring
  have c0 : X + t - (perp t).smul hw + (X + t - X).smul (L - 1 + hw * b0) = Y - (perp t).smul hw + t.smul (hw * b0) := by
    rw [hY]; geom_ring
  have ed : X + t - X = t := by geom_ring
  simp only [edgeQuad, bandPoint, c1, c0] at h
  rw [ed, show X + t.smul x + ((perp t).smul hw).smul y = X + t.smul x + (perp t).smul (hw * y) by geom_ring] at h
  rcases h with h | h
  · exact ⟨_, hQ1, h⟩
  · exact ⟨_, hQ2, h⟩

/-- **the end of an edge at a join.**  `t0`, `t1` the tangents in and out of the join `j`,
`t1 = c·t0 + (ε·σ)·perp t0` with `ε = ±1` the side of the inside of the turn, `σ = τ(1+c) ≥ 0`; the outer corners
of the two trapezoids are shifted by `lam ∈ [0, τ]` half widths beyond the join: `lam = 0` bevel-shaped join,
`lam = τ` kept miter (a straight join, `τ = 0`, is one), between: clipped `MiterClip`.  A point of the incoming edge's
rectangle (`x ≤ 0` half widths before the join, `y ∈ [−1, 1]` towards the inside) beyond the end line of its
trapezoid is covered, provided the join triangle (`lam < τ`: outer end, inner miter point, outer start) and the near part
of the outgoing trapezoid are. -/
theorem end_corner (E : P K × P K × P K → Prop) (j t0 t1 : P K) (hw ε c σ τ lam : K)
    (hε : ε * ε = 1) (hτ : σ = τ * (1 + c)) (hcs : c * c + σ * σ = 1) (hc : 0 < 1 + c) (hσ : 0 ≤ σ)
    (hl : 0 ≤ lam ∧ lam ≤ τ) (hrot : t1 = t0.smul c + (perp t0).smul (ε * σ))
    (hJ : lam < τ → ∀ q, InTri q (bp j t0 (hw * lam) (ε * hw * -1), bp j t0 (hw * -τ) (ε * hw * 1),
      bp j t1 (hw * -lam) (ε * hw * -1)) → Cov E q)
    (hT1 : ∀ x' y', -1 ≤ y' → y' ≤ 1 → (τ * (1 + y') - lam * (1 - y')) / 2 ≤ x' → x' ≤ 1 + τ →
      Cov E (bp j t1 (hw * x') (ε * hw * y')))
    (x y : K) (hy : -1 ≤ y) (hy1 : y ≤ 1) (hx0 : x ≤ 0) (hx : -((τ * (1 + y) - lam * (1 - y)) / 2) ≤ x) :
    Cov E (bp j t0 (hw * x) (ε * hw * y)) := by
  -- a band point of the incoming edge, in the band of the outgoing one: frame coordinates `(cx + σy, cy − σx)`
  have hmove : ∀ x y : K, bp j t0 (hw * x) (ε * hw * y) = bp j t1 (hw * (c * x + σ * y)) (ε * hw * (c * y - σ * x)) := by
    intro x y
    rw [bp_rot j t0 t1 c (ε * σ) _ _ (by linear_combination hcs + (σ * σ) * hε) hrot]
    exact bp_congr _ _ (by linear_combination (hw * σ * y) * hε) (by ring)
  rw [hmove]
  rcases eq_or_lt_of_le hl.2 with hk | hlt
  · -- kept miter (a straight join is one: `τ = 0` leaves no other `lam`)
    rw [hk] at hx hT1
    obtain ⟨b1, b2, b3, b4⟩ := corner_miter c σ τ x y hτ hcs hc hσ hy hy1 (by linear_combination hx) hx0
    exact hT1 _ _ b1 b2 (by linear_combination b3) b4
  · rcases corner_clip j (t0.smul hw) ((perp t0).smul (ε * hw)) c σ τ lam x y hτ hcs hc hσ hl.1 hlt hy hy1 hx hx0
      with h | ⟨b1, b2, b3, b4⟩
    · rw [← hmove]
      apply hJ hlt
      simp only [aff_bp] at h
      -- the outer start corner, seen from the outgoing edge
      have e3 : bp j t0 (hw * (σ - lam * c)) (ε * hw * (-c - lam * σ)) = bp j t1 (hw * -lam) (ε * hw * -1) := by
        rw [hmove]; exact bp_congr _ _ (by linear_combination (-(hw * lam)) * hcs)
          (by linear_combination (-(ε * hw)) * hcs)
      rw [e3] at h; exact h
    · exact hT1 _ _ b1 b2 b3 b4

/-- **the end of an edge at a join, in lengths**: `x ≤ 0` along `t0` from the join, `u ∈ [−1, 1]` half widths across;
`a0`, `a1` the start shifts (half widths) of the outgoing trapezoid on its negative / positive side: `τ` on the inner
side `ε`, `−lam` on the outer one (`hab`); the end shifts of the incoming trapezoid are `−a0`, `−a1` -/
theorem end_corner_len (E : P K × P K × P K → Prop) (j t0 t1 : P K) (hw ε c σ τ lam a0 a1 : K) (hw0 : 0 < hw)
    (hε : ε * ε = 1) (hτ : σ = τ * (1 + c)) (hcs : c * c + σ * σ = 1) (hc : 0 < 1 + c) (hσ : 0 ≤ σ)
    (hl : 0 ≤ lam ∧ lam ≤ τ) (hrot : t1 = t0.smul c + (perp t0).smul (ε * σ))
    (hab : ∀ y, ((1 - ε * y) * a0 + (1 + ε * y) * a1) / 2 = (τ * (1 + y) - lam * (1 - y)) / 2)
    (hJ : lam < τ → ∀ q, InTri q (bp j t0 (hw * lam) (ε * hw * -1), bp j t0 (hw * -τ) (ε * hw * 1),
      bp j t1 (hw * -lam) (ε * hw * -1)) → Cov E q)
    (hN : ∀ x y, -1 ≤ y → y ≤ 1 → hw * ((1 - y) * a0 + (1 + y) * a1) / 2 ≤ x → x ≤ hw * (1 + τ) →
      Cov E (bp j t1 x (hw * y)))
    (x u : K) (hu : -1 ≤ u) (hu1 : u ≤ 1) (hx0 : x ≤ 0) (hhi : -(hw * ((1 - u) * a0 + (1 + u) * a1) / 2) < x) :
    Cov E (bp j t0 x (hw * u)) := by
  obtain ⟨hyb, hyb1⟩ := eps_band hε hu hu1
  have hεy : ε * (ε * u) = u := by rw [← mul_assoc, hε, one_mul]
  -- the point in the frame of the join: `x/hw` half widths along the edge, `ε·u` towards the inside
  rw [bp_congr j t0 (by rw [mul_div_cancel₀ _ (ne_of_gt hw0)] : x = hw * (x / hw))
      (by linear_combination (-(hw * u)) * hε : hw * u = ε * hw * (ε * u))]
  have hloN := hab (ε * u)
  rw [hεy] at hloN
  refine end_corner E j t0 t1 hw ε c σ τ lam hε hτ hcs hc hσ hl hrot hJ ?_ (x / hw) (ε * u) hyb hyb1 ?_ ?_
  · intro x' y' h1 h2 h3 h4
    obtain ⟨hzb, hzb1⟩ := eps_band hε h1 h2
    rw [show ε * hw * y' = hw * (ε * y') by ring]
    refine hN _ _ hzb hzb1 ?_ (mul_le_mul_of_nonneg_left h4 (le_of_lt hw0))
    have : hw * ((1 - ε * y') * a0 + (1 + ε * y') * a1) / 2 = hw * ((τ * (1 + y') - lam * (1 - y')) / 2) := by
      linear_combination hw * hab y'
    rw [this]
    exact mul_le_mul_of_nonneg_left h3 (le_of_lt hw0)
  · rw [div_le_iff₀ hw0]; linarith
  · rw [le_div_iff₀ hw0]
    have : hw * ((1 - u) * a0 + (1 + u) * a1) / 2 = (τ * (1 + ε * u) - lam * (1 - ε * u)) / 2 * hw := by
      linear_combination hw * hloN
    rw [this] at hhi
    linarith

/-- **the start of an edge at a join** (`end_corner_len` for the reversed path: tangents `−t1`, `−t0`, inner side `−ε`, the
two sides exchanged) -/
theorem start_corner_len (E : P K × P K × P K → Prop) (j t0 t1 : P K) (hw ε c σ τ lam a0 a1 : K) (hw0 : 0 < hw)
    (hε : ε * ε = 1) (hτ : σ = τ * (1 + c)) (hcs : c * c + σ * σ = 1) (hc : 0 < 1 + c) (hσ : 0 ≤ σ)
    (hl : 0 ≤ lam ∧ lam ≤ τ) (hrot : t1 = t0.smul c + (perp t0).smul (ε * σ))
    (hab : ∀ y, ((1 - ε * y) * a0 + (1 + ε * y) * a1) / 2 = (τ * (1 + y) - lam * (1 - y)) / 2)
    (hJ : lam < τ → ∀ q, InTri q (bp j t0 (hw * lam) (ε * hw * -1), bp j t0 (hw * -τ) (ε * hw * 1),
      bp j t1 (hw * -lam) (ε * hw * -1)) → Cov E q)
    (hP : ∀ x y, -1 ≤ y → y ≤ 1 → -(hw * (1 + τ)) ≤ x → x ≤ -(hw * ((1 - y) * a0 + (1 + y) * a1) / 2) →
      Cov E (bp j t0 x (hw * y)))
    (x u : K) (hu : -1 ≤ u) (hu1 : u ≤ 1) (hx0 : 0 ≤ x) (hlo : x < hw * ((1 - u) * a0 + (1 + u) * a1) / 2) :
    Cov E (bp j t1 x (hw * u)) := by
  obtain ⟨_, _, hst, _⟩ := turn_facts c σ τ hτ hcs hc hσ
  have hrot' : -t0 = (-t1).smul c + (perp (-t1)).smul (-ε * σ) := by
    rw [hrot]; apply P.ext' <;> simp only [perp, geom]
    · linear_combination t0.x * hcs + (t0.x * σ * σ) * hε
    · linear_combination t0.y * hcs + (t0.y * σ * σ) * hε
  have h := end_corner_len E j (-t1) (-t0) hw (-ε) c σ τ lam a1 a0 hw0 (by linear_combination hε) hτ hcs hc hσ hl hrot'
    (fun y => by linear_combination hab y) ?_ ?_ (-x) (-u) (by linarith) (by linarith) (by linarith) (by linarith)
  · rw [bp_neg] at h
    rw [bp_congr j t1 (by ring : x = - -x) (by ring : hw * u = -(hw * -u))]; exact h
  · intro hk q hq
    apply hJ hk
    simp only [bp_neg] at hq
    -- the inner miter point is the same point seen from either edge
    have e2 : bp j t1 (-(hw * -τ)) (-(-ε * hw * 1)) = bp j t0 (hw * -τ) (ε * hw * 1) := by
      rw [bp_rot j t0 t1 c (ε * σ) (hw * -τ) _ (by linear_combination hcs + (σ * σ) * hε) hrot]
      exact bp_congr _ _ (by linear_combination (-hw) * hτ + (-(hw * σ)) * hε)
        (by linear_combination (-(ε * hw)) * hst)
    rw [e2, bp_congr j t1 (by ring : -(hw * lam) = hw * -lam) (by ring : -(-ε * hw * -1) = ε * hw * -1),
      bp_congr j t0 (by ring : -(hw * -lam) = hw * lam) (by ring : -(-ε * hw * -1) = ε * hw * -1)] at hq
    exact inTri_swap hq
  · intro x' y' h1 h2 h3 h4
    rw [bp_neg, bp_congr j t0 rfl (by ring : -(hw * y') = hw * -y')]
    exact hP (-x') (-y') (by linarith) (by linarith) (by linarith) (by linarith)

end

end Lyon.C06b
