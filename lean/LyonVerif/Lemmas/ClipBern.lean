/-
  The cubic Bernstein polynomial over an ordered field.  Each coordinate of a cubic Bézier curve, and
  its signed distance to a line, is `bern` of the four control values; everything the intersection
  proofs need of a cubic on [0,1] comes from four facts: `bern` is linear in its coefficients,
  reproduces affine functions of the parameter (`bern_affine`), is non-negative for non-negative
  coefficients, and determines its coefficients (`bern_inj`).  The lemmas at the end are about the
  `Cubic` of the model: its coordinates are `bern`s, so it is determined by its samples; it lies in
  the box of its control points (`cubic_in_fastBox`, from `Lemmas/Hull.lean`, not from `bern`).
-/
import LyonVerif.Model.Geom.Intersect
import LyonVerif.Lemmas.Field
import LyonVerif.Lemmas.Hull
import Mathlib.Tactic.Positivity

set_option linter.unusedSectionVars false

namespace Lyon.Clip
open Lyon
variable {K : Type} [Field K] [LinearOrder K] [IsStrictOrderedRing K]

/-- cubic Bernstein polynomial with coefficients `d0 … d3` -/
def bern (d0 d1 d2 d3 t : K) : K :=
  (1 - t) ^ 3 * d0 + 3 * (1 - t) ^ 2 * t * d1 + 3 * (1 - t) * t ^ 2 * d2 + t ^ 3 * d3

variable {d0 d1 d2 d3 e0 e1 e2 e3 t : K}

theorem bern_nonneg (h0 : 0 ≤ d0) (h1 : 0 ≤ d1) (h2 : 0 ≤ d2) (h3 : 0 ≤ d3) (ht0 : 0 ≤ t)
    (ht1 : t ≤ 1) : 0 ≤ bern d0 d1 d2 d3 t := by
  have : 0 ≤ 1 - t := sub_nonneg.mpr ht1
  unfold bern
  positivity

theorem bern_sub (d0 d1 d2 d3 e0 e1 e2 e3 t : K) :
    bern d0 d1 d2 d3 t - bern e0 e1 e2 e3 t = bern (d0 - e0) (d1 - e1) (d2 - e2) (d3 - e3) t := by
  unfold bern; ring

theorem bern_neg (d0 d1 d2 d3 t : K) : bern (-d0) (-d1) (-d2) (-d3) t = -bern d0 d1 d2 d3 t := by
  unfold bern; ring

theorem bern_const (c t : K) : bern c c c c t = c := by
  unfold bern; ring

theorem bern_mul_right (d0 d1 d2 d3 w t : K) :
    bern d0 d1 d2 d3 t * w = bern (d0 * w) (d1 * w) (d2 * w) (d3 * w) t := by
  unfold bern; ring

/-- the control values of an affine function at `0, 1/3, 2/3, 1` reproduce it -/
theorem bern_affine (a b x t : K) :
    bern (a + (0 - x) * b) (a + (1 / 3 - x) * b) (a + (2 / 3 - x) * b) (a + (1 - x) * b) t
      = a + (t - x) * b := by
  unfold bern; ring

theorem bern_line (m k t : K) : bern k (m * (1 / 3) + k) (m * (2 / 3) + k) (m + k) t = m * t + k := by
  unfold bern; ring

theorem bern_mono (h0 : d0 ≤ e0) (h1 : d1 ≤ e1) (h2 : d2 ≤ e2) (h3 : d3 ≤ e3) (ht0 : 0 ≤ t)
    (ht1 : t ≤ 1) : bern d0 d1 d2 d3 t ≤ bern e0 e1 e2 e3 t :=
  sub_nonneg.mp (bern_sub e0 e1 e2 e3 d0 d1 d2 d3 t ▸ bern_nonneg (sub_nonneg.mpr h0)
    (sub_nonneg.mpr h1) (sub_nonneg.mpr h2) (sub_nonneg.mpr h3) ht0 ht1)

/-- a cubic polynomial is determined by its values at `0, 1/2, 1, 2` -/
theorem bern_inj (h : ∀ t, bern d0 d1 d2 d3 t = bern e0 e1 e2 e3 t) :
    d0 = e0 ∧ d1 = e1 ∧ d2 = e2 ∧ d3 = e3 := by
  have h0 := h 0
  have hh := h (1 / 2)
  have h1 := h 1
  have h2 := h 2
  unfold bern at h0 hh h1 h2
  refine ⟨by linear_combination h0, ?_, ?_, by linear_combination h1⟩
  · linear_combination (16 / 9) * hh + (1 / 18) * h2 - (1 / 6) * h0 - (2 / 3) * h1
  · linear_combination (8 / 9) * hh - (1 / 18) * h2 - (1 / 6) * h0 + (1 / 3) * h1

theorem sample_x_bern (c : Cubic K) (t : K) : (c.sample t).x = bern c.a.x c.c1.x c.c2.x c.b.x t := by
  simp only [Cubic.sample, bern, geom, Nat.cast_ofNat, Nat.cast_one]; ring
theorem sample_y_bern (c : Cubic K) (t : K) : (c.sample t).y = bern c.a.y c.c1.y c.c2.y c.b.y t := by
  simp only [Cubic.sample, bern, geom, Nat.cast_ofNat, Nat.cast_one]; ring

theorem cubic_ext_of_sample {x y : Cubic K} (h : ∀ u, x.sample u = y.sample u) : x = y := by
  have hx : ∀ u, bern x.a.x x.c1.x x.c2.x x.b.x u = bern y.a.x y.c1.x y.c2.x y.b.x u := fun u => by
    rw [← sample_x_bern, ← sample_x_bern, h]
  have hy : ∀ u, bern x.a.y x.c1.y x.c2.y x.b.y u = bern y.a.y y.c1.y y.c2.y y.b.y u := fun u => by
    rw [← sample_y_bern, ← sample_y_bern, h]
  obtain ⟨x0, x1, x2, x3⟩ := bern_inj hx
  obtain ⟨y0, y1, y2, y3⟩ := bern_inj hy
  exact Cubic.ext' (P.ext' x0 y0) (P.ext' x1 y1) (P.ext' x2 y2) (P.ext' x3 y3)

theorem cubic_in_fastBox (c : Cubic K) (t : K) (h0 : 0 ≤ t) (h1 : t ≤ 1) :
    c.ixFastBoundingBox.min.x ≤ (c.sample t).x ∧ (c.sample t).x ≤ c.ixFastBoundingBox.max.x
    ∧ c.ixFastBoundingBox.min.y ≤ (c.sample t).y ∧ (c.sample t).y ≤ c.ixFastBoundingBox.max.y := by
  have hx := Hull.mem_hull4 c.a.x c.c1.x c.c2.x c.b.x
  have hy := Hull.mem_hull4 c.a.y c.c1.y c.c2.y c.b.y
  exact Hull.cubic_mem (Hull.rect_lerpClosed c.ixFastBoundingBox.min c.ixFastBoundingBox.max) c h0 h1
    ⟨hx.1.1, hx.1.2, hy.1.1, hy.1.2⟩ ⟨hx.2.1.1, hx.2.1.2, hy.2.1.1, hy.2.1.2⟩
    ⟨hx.2.2.1.1, hx.2.2.1.2, hy.2.2.1.1, hy.2.2.1.2⟩ ⟨hx.2.2.2.1, hx.2.2.2.2, hy.2.2.2.1, hy.2.2.2.2⟩

end Lyon.Clip
