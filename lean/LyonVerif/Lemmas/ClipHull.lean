/-
  Field-side lemmas for the fat-line clip of `Model/Geom/Clip.lean` (helper lemmas only; the
  property's theorems are in `Props/C12c.lean`):
  * "a line above the four control points `(i/3, d_i)` is above the polynomial on [0,1]" (the
    convex-hull property, from the Bernstein lemmas of `ClipBern.lean`);
  * the hull walk: walking the upper chain from the left until the threshold is reached never
    skips a parameter where the polynomial is ≥ the threshold; the right-to-left walk is the walk
    on the mirrored chains (`mirror`), and every "below" of walks and chains is its "above" twin under
    the reflection `y ↦ −y` (`negY`: a line below `F` is a line above `−F`); only the single-edge
    `edgeBelow_of_ctrl` repeats the three lines of `edgeAbove_of_ctrl`.
  That every chain produced by `convexHull` is such a chain is `ClipHullCases.lean`.
-/
import LyonVerif.Model.Geom.Clip
import LyonVerif.Lemmas.IxField
import LyonVerif.Lemmas.ClipBern
import Mathlib.Data.List.Chain

set_option linter.unusedSectionVars false

namespace Lyon.Clip
open Lyon Scalar
variable {K : Type} [Field K] [LinearOrder K] [IsStrictOrderedRing K]

/-- `S::value` literals on the field side: the exact decimal value -/
noncomputable instance fieldLit : F32Lit K where
  lit m e := (m : K) / (10 : K) ^ e

/-- the line through `p` and `q` (`p.x < q.x`) is above `F` on [0,1] (division-free) -/
def EdgeAbove (F : K → K) (p q : P K) : Prop :=
  p.x < q.x ∧ ∀ t, 0 ≤ t → t ≤ 1 → F t * (q.x - p.x) ≤ p.y * (q.x - p.x) + (t - p.x) * (q.y - p.y)

/-- the line through `p` and `q` (`p.x < q.x`) is below `F` on [0,1] -/
def EdgeBelow (F : K → K) (p q : P K) : Prop :=
  p.x < q.x ∧ ∀ t, 0 ≤ t → t ≤ 1 → p.y * (q.x - p.x) + (t - p.x) * (q.y - p.y) ≤ F t * (q.x - p.x)

/-- **Convex-hull property, upper part**: a line that is above the four control points
`(0,d0) (1/3,d1) (2/3,d2) (1,d3)` is above the Bernstein polynomial on [0,1]. -/
theorem edgeAbove_of_ctrl (d0 d1 d2 d3 : K) (p q : P K) (hx : p.x < q.x)
    (h0 : d0 * (q.x - p.x) ≤ p.y * (q.x - p.x) + (0 - p.x) * (q.y - p.y))
    (h1 : d1 * (q.x - p.x) ≤ p.y * (q.x - p.x) + (1 / 3 - p.x) * (q.y - p.y))
    (h2 : d2 * (q.x - p.x) ≤ p.y * (q.x - p.x) + (2 / 3 - p.x) * (q.y - p.y))
    (h3 : d3 * (q.x - p.x) ≤ p.y * (q.x - p.x) + (1 - p.x) * (q.y - p.y)) :
    EdgeAbove (bern d0 d1 d2 d3) p q := by
  refine ⟨hx, fun t ht0 ht1 => ?_⟩
  calc bern d0 d1 d2 d3 t * (q.x - p.x) = bern _ _ _ _ t := bern_mul_right ..
    _ ≤ bern _ _ _ _ t := bern_mono h0 h1 h2 h3 ht0 ht1
    _ = _ := bern_affine ..

theorem edgeBelow_of_ctrl (d0 d1 d2 d3 : K) (p q : P K) (hx : p.x < q.x)
    (h0 : p.y * (q.x - p.x) + (0 - p.x) * (q.y - p.y) ≤ d0 * (q.x - p.x))
    (h1 : p.y * (q.x - p.x) + (1 / 3 - p.x) * (q.y - p.y) ≤ d1 * (q.x - p.x))
    (h2 : p.y * (q.x - p.x) + (2 / 3 - p.x) * (q.y - p.y) ≤ d2 * (q.x - p.x))
    (h3 : p.y * (q.x - p.x) + (1 - p.x) * (q.y - p.y) ≤ d3 * (q.x - p.x)) :
    EdgeBelow (bern d0 d1 d2 d3) p q := by
  refine ⟨hx, fun t ht0 ht1 => ?_⟩
  calc _ = bern _ _ _ _ t := (bern_affine ..).symm
    _ ≤ bern _ _ _ _ t := bern_mono h0 h1 h2 h3 ht0 ht1
    _ = _ := (bern_mul_right ..).symm

theorem walkEdges_top_eq (thr : K) (p q : P K) (rest : List (P K)) (h2 : q.y = thr) :
    walkEdges true thr (p :: q :: rest) = some q.x := by
  rw [walkEdges]
  have h' : q.y ≥ thr := le_of_eq h2.symm
  have : (q.y == thr) = true := (sc_beq _ _).mpr h2
  simp [h', this]

theorem walkEdges_top_gt (thr : K) (p q : P K) (rest : List (P K)) (h : thr < q.y) :
    walkEdges true thr (p :: q :: rest) = some (p.x + (thr - p.y) * (q.x - p.x) / (q.y - p.y)) := by
  rw [walkEdges]
  have h' : q.y ≥ thr := le_of_lt h
  have : ¬ ((q.y == thr) = true) := fun hh => (ne_of_gt h) ((sc_beq _ _).mp hh)
  simp [h', this]

theorem walkEdges_top_skip (thr : K) (p q : P K) (rest : List (P K)) (h : q.y < thr) :
    walkEdges true thr (p :: q :: rest) = walkEdges true thr (q :: rest) := by
  rw [walkEdges]
  have h' : ¬ (q.y ≥ thr) := not_le.mpr h
  simp [h']

@[simp] theorem walkEdges_single (b : Bool) (thr : K) (p : P K) : walkEdges b thr [p] = none := by
  rw [walkEdges]; intro _ _ _ h; cases h

@[simp] theorem walkEdges_nil (b : Bool) (thr : K) : walkEdges b thr ([] : List (P K)) = none := by
  rw [walkEdges]; intro _ _ _ h; cases h

/-- mirror `x ↦ 1 - x` -/
def mirror (p : P K) : P K := ⟨1 - p.x, p.y⟩
/-- negate `y` -/
def negY (p : P K) : P K := ⟨p.x, -p.y⟩

@[simp] theorem mirror_x (p : P K) : (mirror p).x = 1 - p.x := rfl
@[simp] theorem mirror_y (p : P K) : (mirror p).y = p.y := rfl
@[simp] theorem negY_x (p : P K) : (negY p).x = p.x := rfl
@[simp] theorem negY_y (p : P K) : (negY p).y = -p.y := rfl

/-- the lower walk is the upper walk of the reflected chain against the negated threshold -/
theorem walkEdges_bot_eq (thr : K) : ∀ l : List (P K),
    walkEdges false thr l = walkEdges true (-thr) (l.map negY)
  | [] => by simp
  | [p] => by simp
  | p :: q :: rest => by
    have ih := walkEdges_bot_eq thr (q :: rest)
    simp only [List.map_cons] at ih ⊢
    have e : (thr - p.y) * (q.x - p.x) / (q.y - p.y) = (-thr - -p.y) * (q.x - p.x) / (-q.y - -p.y) := by
      rw [← neg_sub' thr, ← neg_sub' q.y, neg_mul, neg_div_neg_eq]
    -- one step of each walk: the tests `q.y ≤ thr`, `q.y == thr` become `-thr ≤ -q.y`, `-q.y == -thr`
    rw [walkEdges, walkEdges, ih]
    simp only [Bool.false_and, Bool.not_false, Bool.true_and, Bool.not_true, Bool.or_false,
      Bool.false_or, negY_x, negY_y, ge_iff_le, neg_le_neg_iff, sc_beq, neg_inj, e]

theorem walkEdges_top_mirror (thr : K) : ∀ l : List (P K),
    walkEdges true thr (l.map mirror) = (walkEdges true thr l).map (fun x => 1 - x)
  | [] => by simp
  | [p] => by simp
  | p :: q :: rest => by
    have ih := walkEdges_top_mirror thr (q :: rest)
    have key : (1 - p.x) + (thr - p.y) * ((1 - q.x) - (1 - p.x)) / (q.y - p.y)
        = 1 - (p.x + (thr - p.y) * (q.x - p.x) / (q.y - p.y)) := by ring
    simp only [List.map_cons] at ih ⊢
    rcases lt_trichotomy q.y thr with h | h | h
    · rw [walkEdges_top_skip _ _ _ _ (by simpa using h), walkEdges_top_skip _ _ _ _ h]; exact ih
    · rw [walkEdges_top_eq _ _ _ _ (by simpa using h), walkEdges_top_eq _ _ _ _ h]
      simp only [mirror_x, Option.map_some]
    · rw [walkEdges_top_gt _ _ _ _ (by simpa using h), walkEdges_top_gt _ _ _ _ h]
      simp only [mirror_x, mirror_y, key, Option.map_some]

/-- either walk on the mirrored chain is the walk on the chain, mirrored (for the lower walk:
reflection and mirror commute) -/
theorem walkEdges_mirror (b : Bool) (thr : K) (l : List (P K)) :
    walkEdges b thr (l.map mirror) = (walkEdges b thr l).map (fun x => 1 - x) := by
  cases b
  · rw [walkEdges_bot_eq, walkEdges_bot_eq, List.map_map,
      show negY ∘ mirror = mirror ∘ (negY : P K → P K) from rfl, ← List.map_map, walkEdges_top_mirror]
  · exact walkEdges_top_mirror thr l

/-- abscissa of the last vertex of the chain `p :: l` -/
def lastX : P K → List (P K) → K
  | p, [] => p.x
  | _, q :: r => lastX q r

theorem lastX_append_singleton : ∀ (s : P K) (m : List (P K)) (e : P K), lastX s (m ++ [e]) = e.x
  | _, [], _ => rfl
  | _, q :: r, e => lastX_append_singleton q r e

/-- the edge that stops the walk: left of the returned parameter the line — hence `F` — is below
the threshold (on all of [0,1], not only on the edge's span) -/
theorem edge_hit {F : K → K} {p q : P K} {thr : K} (he : EdgeAbove F p q) (hp : p.y < thr)
    (hq : thr ≤ q.y) {t : K} (ht0 : 0 ≤ t) (ht1 : t ≤ 1)
    (ht : t < p.x + (thr - p.y) * (q.x - p.x) / (q.y - p.y)) : F t < thr := by
  obtain ⟨hx, hF⟩ := he
  have hdy : 0 < q.y - p.y := by linarith
  have hdx : 0 < q.x - p.x := sub_pos.mpr hx
  have h3 : (t - p.x) * (q.y - p.y) < (thr - p.y) * (q.x - p.x) :=
    (lt_div_iff₀ hdy).mp (sub_lt_iff_lt_add'.mpr ht)
  have : F t * (q.x - p.x) < thr * (q.x - p.x) := by linarith [hF t ht0 ht1]
  exact lt_of_mul_lt_mul_right this hdx.le

theorem edge_span {F : K → K} {p q : P K} {thr : K} (he : EdgeAbove F p q) (hp : p.y < thr)
    (hq : q.y < thr) {t : K} (ht0 : 0 ≤ t) (ht1 : t ≤ 1) (h1 : p.x ≤ t) (h2 : t ≤ q.x) :
    F t < thr := by
  obtain ⟨hx, hF⟩ := he
  have hdx : 0 < q.x - p.x := sub_pos.mpr hx
  -- the line's value at `t` is a convex combination of `p.y` and `q.y`
  have a1 := mul_le_mul_of_nonneg_right (le_max_left p.y q.y) (sub_nonneg.mpr h2)
  have a2 := mul_le_mul_of_nonneg_right (le_max_right p.y q.y) (sub_nonneg.mpr h1)
  have a3 := mul_lt_mul_of_pos_right (max_lt hp hq) hdx
  have : F t * (q.x - p.x) < thr * (q.x - p.x) := by linarith [hF t ht0 ht1]
  exact lt_of_mul_lt_mul_right this hdx.le

/-- **the walk stops only where it may**: if the upper walk returns `x`, `F` is below the
threshold everywhere left of `x` -/
theorem walk_top_some {F : K → K} {thr : K} : ∀ (p : P K) (l : List (P K)),
    List.IsChain (EdgeAbove F) (p :: l) → p.y < thr → ∀ x, walkEdges true thr (p :: l) = some x →
    ∀ t, 0 ≤ t → t ≤ 1 → t < x → F t < thr
  | p, [], _, _, x, hw => by simp at hw
  | p, q :: rest, hc, hp, x, hw => by
    rw [List.isChain_cons_cons] at hc
    intro t ht0 ht1 htx
    rcases lt_trichotomy q.y thr with h | h | h
    · rw [walkEdges_top_skip _ _ _ _ h] at hw
      exact walk_top_some q rest hc.2 h x hw t ht0 ht1 htx
    · rw [walkEdges_top_eq _ _ _ _ h] at hw
      have hx : x = q.x := (Option.some.inj hw).symm
      apply edge_hit hc.1 hp (le_of_eq h.symm) ht0 ht1
      rw [h, mul_div_cancel_left₀ _ (sub_pos.mpr hp).ne']; linarith
    · rw [walkEdges_top_gt _ _ _ _ h] at hw
      have hx : x = _ := (Option.some.inj hw).symm
      exact edge_hit hc.1 hp h.le ht0 ht1 (by rw [← hx]; exact htx)

/-- twin of `walk_top_some`: an upper walk that finds nothing means `F` is below the threshold on the
whole span of the chain -/
theorem walk_top_none {F : K → K} {thr : K} : ∀ (p q : P K) (l : List (P K)),
    List.IsChain (EdgeAbove F) (p :: q :: l) → p.y < thr → walkEdges true thr (p :: q :: l) = none →
    ∀ t, 0 ≤ t → t ≤ 1 → p.x ≤ t → t ≤ lastX p (q :: l) → F t < thr
  | p, q, l, hc, hp, hw => by
    rw [List.isChain_cons_cons] at hc
    intro t ht0 ht1 h1 h2
    rcases lt_trichotomy q.y thr with h | h | h
    · rw [walkEdges_top_skip _ _ _ _ h] at hw
      rcases le_or_gt t q.x with h3 | h3
      · exact edge_span hc.1 hp h ht0 ht1 h1 h3
      · cases l with
        | nil => exact absurd h2 (not_le.mpr h3)
        | cons r l' => exact walk_top_none q r l' hc.2 h hw t ht0 ht1 h3.le h2
    · rw [walkEdges_top_eq _ _ _ _ h] at hw; cases hw
    · rw [walkEdges_top_gt _ _ _ _ h] at hw; cases hw

/-- **the upper walk is sound**: started below the threshold it finds a parameter, not past any `t` of
the chain's span where `F` reaches the threshold -/
theorem walk_top_sound {F : K → K} {thr : K} (p q : P K) (l : List (P K))
    (hc : List.IsChain (EdgeAbove F) (p :: q :: l)) (hp : p.y < thr) (t : K) (ht0 : 0 ≤ t) (ht1 : t ≤ 1)
    (h1 : p.x ≤ t) (h2 : t ≤ lastX p (q :: l)) (hF : thr ≤ F t) :
    ∃ x, walkEdges true thr (p :: q :: l) = some x ∧ x ≤ t := by
  cases hw : walkEdges true thr (p :: q :: l) with
  | none => exact absurd (walk_top_none p q l hc hp hw t ht0 ht1 h1 h2) (not_lt.mpr hF)
  | some x =>
    exact ⟨x, rfl, not_lt.mp fun h => not_lt.mpr hF (walk_top_some p _ hc hp x hw t ht0 ht1 h)⟩

theorem negY_negY (p : P K) : negY (negY p) = p := by
  cases p; simp [negY]

theorem edgeAbove_neg_iff {F : K → K} {p q : P K} :
    EdgeAbove (fun t => -F t) (negY p) (negY q) ↔ EdgeBelow F p q := by
  unfold EdgeAbove EdgeBelow
  simp only [negY_x, negY_y]
  refine and_congr_right fun _ => forall_congr' fun t => forall_congr' fun _ => forall_congr' fun _ => ?_
  constructor <;> intro h <;> linarith

theorem chainBelow_iff {F : K → K} {l : List (P K)} :
    List.IsChain (EdgeBelow F) l ↔ List.IsChain (EdgeAbove (fun t => -F t)) (l.map negY) := by
  rw [List.isChain_map]
  exact ⟨fun h => h.imp fun _ _ => edgeAbove_neg_iff.mpr, fun h => h.imp fun _ _ => edgeAbove_neg_iff.mp⟩

theorem chainAbove_iff {F : K → K} {l : List (P K)} :
    List.IsChain (EdgeAbove F) l ↔ List.IsChain (EdgeBelow (fun t => -F t)) (l.map negY) := by
  rw [chainBelow_iff, List.map_map]
  simp only [neg_neg, Function.comp_def, negY_negY, List.map_id']

theorem lastX_map_negY : ∀ (p : P K) (l : List (P K)), lastX (negY p) (l.map negY) = lastX p l
  | _, [] => rfl
  | _, q :: r => lastX_map_negY q r

theorem walk_bot_sound {F : K → K} {thr : K} (p q : P K) (l : List (P K))
    (hc : List.IsChain (EdgeBelow F) (p :: q :: l)) (hp : thr < p.y) (t : K) (ht0 : 0 ≤ t) (ht1 : t ≤ 1)
    (h1 : p.x ≤ t) (h2 : t ≤ lastX p (q :: l)) (hF : F t ≤ thr) :
    ∃ x, walkEdges false thr (p :: q :: l) = some x ∧ x ≤ t := by
  rw [walkEdges_bot_eq]
  exact walk_top_sound (F := fun t => -F t) (negY p) (negY q) (l.map negY) (chainBelow_iff.mp hc)
    (neg_lt_neg hp) t ht0 ht1 h1 ((lastX_map_negY p (q :: l)).symm ▸ h2) (neg_le_neg hF)

theorem edgeAbove_mirror {F : K → K} {p q : P K} (h : EdgeAbove F p q) :
    EdgeAbove (fun t => F (1 - t)) (mirror q) (mirror p) := by
  refine ⟨by simp only [mirror_x]; linarith [h.1], fun t ht0 ht1 => ?_⟩
  have := h.2 (1 - t) (by linarith) (by linarith)
  simp only [mirror_x, mirror_y]
  linarith

/-- reflect, mirror, reflect back (`negY` and `mirror` commute) -/
theorem edgeBelow_mirror {F : K → K} {p q : P K} (h : EdgeBelow F p q) :
    EdgeBelow (fun t => F (1 - t)) (mirror q) (mirror p) :=
  edgeAbove_neg_iff.mp (edgeAbove_mirror (F := fun t => -F t) (edgeAbove_neg_iff.mpr h))

theorem chainAbove_mirror {F : K → K} {l : List (P K)} (h : List.IsChain (EdgeAbove F) l) :
    List.IsChain (EdgeAbove (fun t => F (1 - t))) (l.reverse.map mirror) := by
  rw [List.isChain_map, List.isChain_reverse]
  exact h.imp (fun _ _ hab => edgeAbove_mirror hab)

theorem chainBelow_mirror {F : K → K} {l : List (P K)} (h : List.IsChain (EdgeBelow F) l) :
    List.IsChain (EdgeBelow (fun t => F (1 - t))) (l.reverse.map mirror) := by
  rw [List.isChain_map, List.isChain_reverse]
  exact h.imp (fun _ _ hab => edgeBelow_mirror hab)

theorem walkStart_below (s : P K) (top' bottom : List (P K)) (dMin dMax : K) (h : s.y < dMin) :
    walkStart (s :: top') bottom dMin dMax = walkEdges true dMin (s :: top') := by
  simp [walkStart, h]

theorem walkStart_above (s : P K) (top' bottom : List (P K)) (dMin dMax : K) (h1 : ¬ s.y < dMin)
    (h : s.y > dMax) : walkStart (s :: top') bottom dMin dMax = walkEdges false dMax bottom := by
  simp [walkStart, h1, h]

theorem walkStart_inside (s : P K) (top' bottom : List (P K)) (dMin dMax : K) (h1 : ¬ s.y < dMin)
    (h : ¬ s.y > dMax) : walkStart (s :: top') bottom dMin dMax = some s.x := by
  simp [walkStart, h1, h]

theorem walkStart_mirror (top bottom : List (P K)) (dMin dMax : K) :
    walkStart (top.map mirror) (bottom.map mirror) dMin dMax
      = (walkStart top bottom dMin dMax).map (fun x => 1 - x) := by
  cases top with
  | nil => simp [walkStart]
  | cons s top' =>
    rw [List.map_cons]
    by_cases h1 : s.y < dMin
    · rw [walkStart_below _ _ _ _ _ (by simpa using h1), walkStart_below _ _ _ _ _ h1,
        ← List.map_cons, walkEdges_mirror]
    · by_cases h2 : s.y > dMax
      · rw [walkStart_above _ _ _ _ _ (by simpa using h1) (by simpa using h2),
          walkStart_above _ _ _ _ _ h1 h2, walkEdges_mirror]
      · rw [walkStart_inside _ _ _ _ _ (by simpa using h1) (by simpa using h2),
          walkStart_inside _ _ _ _ _ h1 h2]; rfl

/-- the shape of the two chains of a hull over [0,1]: common first vertex at `x = 0`, common last
vertex at `x = 1`, every edge of `top` above `F`, every edge of `bottom` below `F` -/
structure HullOK (F : K → K) (top bottom : List (P K)) : Prop where
  shape : ∃ s e mt mb, top = s :: (mt ++ [e]) ∧ bottom = s :: (mb ++ [e]) ∧ s.x = 0 ∧ e.x = 1
  above : List.IsChain (EdgeAbove F) top
  below : List.IsChain (EdgeBelow F) bottom

theorem HullOK.mirror {F : K → K} {top bottom : List (P K)} (h : HullOK F top bottom) :
    HullOK (fun t => F (1 - t)) (top.reverse.map Clip.mirror) (bottom.reverse.map Clip.mirror) := by
  obtain ⟨s, e, mt, mb, ht, hb, hs, he⟩ := h.shape
  refine ⟨⟨Clip.mirror e, Clip.mirror s, mt.reverse.map Clip.mirror, mb.reverse.map Clip.mirror, ?_, ?_, ?_, ?_⟩,
    chainAbove_mirror h.above, chainBelow_mirror h.below⟩
  · rw [ht]; simp
  · rw [hb]; simp
  · simp [he]
  · simp [hs]

theorem HullOK.neg {F : K → K} {top bottom : List (P K)} (h : HullOK F top bottom) :
    HullOK (fun t => -F t) (bottom.map negY) (top.map negY) := by
  obtain ⟨s, e, mt, mb, ht, hb, hs, he⟩ := h.shape
  refine ⟨⟨negY s, negY e, mb.map negY, mt.map negY, ?_, ?_, hs, he⟩,
    chainBelow_iff.mp h.below, chainAbove_iff.mp h.above⟩
  · rw [hb]; simp
  · rw [ht]; simp

/-- **one walk is sound**: a parameter where `F` is inside `[dMin, dMax]` is not left of the value
returned by `walkStart`, and `walkStart` does return a value -/
theorem walkStart_sound {F : K → K} {top bottom : List (P K)} (h : HullOK F top bottom)
    (dMin dMax t : K) (ht0 : 0 ≤ t) (ht1 : t ≤ 1) (hlo : dMin ≤ F t) (hhi : F t ≤ dMax) :
    ∃ x, walkStart top bottom dMin dMax = some x ∧ x ≤ t := by
  obtain ⟨s, e, mt, mb, htop, hbot, hs, he⟩ := h.shape
  have habove := h.above
  have hbelow := h.below
  subst htop hbot
  by_cases h1 : s.y < dMin
  · rw [walkStart_below _ _ _ _ _ h1]
    cases hm : mt ++ [e] with
    | nil => simp at hm
    | cons q l =>
      rw [hm] at habove
      exact walk_top_sound s q l habove h1 t ht0 ht1 (hs ▸ ht0)
        (by rw [← hm, lastX_append_singleton, he]; exact ht1) hlo
  · by_cases h2 : s.y > dMax
    · rw [walkStart_above _ _ _ _ _ h1 h2]
      cases hm : mb ++ [e] with
      | nil => simp at hm
      | cons q l =>
        rw [hm] at hbelow
        exact walk_bot_sound s q l hbelow h2 t ht0 ht1 (hs ▸ ht0)
          (by rw [← hm, lastX_append_singleton, he]; exact ht1) hhi
    · rw [walkStart_inside _ _ _ _ _ h1 h2]
      exact ⟨s.x, rfl, by rw [hs]; exact ht0⟩

theorem clipHull_eq (top bottom : List (P K)) (dMin dMax a b : K) :
    clipHull top bottom dMin dMax = some (a, b) ↔ walkStart top bottom dMin dMax = some a
      ∧ walkStart top.reverse bottom.reverse dMin dMax = some b := by
  unfold clipHull
  cases walkStart top bottom dMin dMax <;> cases walkStart top.reverse bottom.reverse dMin dMax <;> simp

/-- **the clip is sound**: every parameter of [0,1] where `F` lies inside `[dMin, dMax]` is kept
by `clipHull` (which then cannot answer `none`) -/
theorem clipHull_sound {F : K → K} {top bottom : List (P K)} (h : HullOK F top bottom)
    (dMin dMax t : K) (ht0 : 0 ≤ t) (ht1 : t ≤ 1) (hlo : dMin ≤ F t) (hhi : F t ≤ dMax) :
    ∃ lo hi, clipHull top bottom dMin dMax = some (lo, hi) ∧ lo ≤ t ∧ t ≤ hi := by
  obtain ⟨a, ha, hat⟩ := walkStart_sound h dMin dMax t ht0 ht1 hlo hhi
  -- lyon's second walk runs on the REVERSED chains: that is the first walk on the mirrored hull of `F (1 − ·)`
  obtain ⟨y, hy, hyt⟩ := walkStart_sound h.mirror dMin dMax (1 - t) (by linarith) (by linarith)
    (by simpa using hlo) (by simpa using hhi)
  rw [walkStart_mirror] at hy
  obtain ⟨b, hb, rfl⟩ := Option.map_eq_some_iff.mp hy
  exact ⟨a, b, (clipHull_eq ..).mpr ⟨ha, hb⟩, hat, by linarith⟩

end Lyon.Clip
