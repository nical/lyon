/-
  A small exact scalar type for kernel-evaluated examples of the sweep model:
  integers with `Scalar` / `Sgn` / `Wide` instances.  No law is claimed (and none is needed by the
  index theorems); `isNaN` singles out one value so that an example can exercise the
  `PositionIsNaN` error path after some output has been emitted.
-/
import LyonVerif.Model.Tess.Sweep

namespace Lyon.SweepIdx
open Lyon Lyon.Scalar Lyon.Sweep

structure Z where
  v : Int
deriving DecidableEq, Repr

instance : Scalar Z where
  add a b := ⟨a.v + b.v⟩
  sub a b := ⟨a.v - b.v⟩
  mul a b := ⟨a.v * b.v⟩
  div a b := ⟨a.v / b.v⟩
  neg a := ⟨-a.v⟩
  lt a b := a.v < b.v
  le a b := a.v ≤ b.v
  beq a b := a.v == b.v
  ofNat n := ⟨n⟩
  ofSci m e := ⟨m / 10 ^ e⟩
  dlt := fun a b => inferInstanceAs (Decidable (a.v < b.v))
  dle := fun a b => inferInstanceAs (Decidable (a.v ≤ b.v))
  abs a := ⟨a.v.natAbs⟩
  min a b := if a.v ≤ b.v then a else b
  max a b := if a.v ≤ b.v then b else a

instance : Sgn Z where
  signum a := ⟨a.v.sign⟩

instance : Wide Z where
  W := Z
  scalarW := inferInstance
  sgnW := inferInstance
  widen := id
  narrow := id
  nextUp a := ⟨a.v + 1⟩
  fmin := ⟨-1000000⟩
  isNaN a := a.v == 777777
  sqrt a := ⟨a.v.toNat.sqrt⟩
  eps := ⟨0⟩

def pz (x y : Int) : P Z := ⟨⟨x⟩, ⟨y⟩⟩

/-- outcome of a run as a string: `ok` or the failure -/
def outcome (r : Option Fail × Array (Emit Z) × Nat) : String :=
  match r.1 with
  | none => "ok"
  | some (.err k) => k
  | some (.panic k) => "panic " ++ k
  | some (.unmodelled k) => "unmodelled " ++ k
  | some .fuel => "fuel"

end Lyon.SweepIdx
