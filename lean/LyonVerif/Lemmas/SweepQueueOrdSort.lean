/-
  `EventQueue::sort` and the order of the list it builds (pointer level, ordered fields).  The merge sort only rewrites
  links: the array of positions is the same array afterwards (`sort_poss`, every scalar type; hence `sort_pos`,
  `sort_size`); when the linked lists of `q.sort` enumerate the list-level
  specification `Spec.sort` (`merge_sort_sorted_perm`, `Props/Sweep.lean`; the model's `tessellate` CHECKS this on
  every run and reports `unmodelled sort-spec-mismatch` otherwise) the list from `first` is `SortedFrom`
  (`sort_sorted_of_spec`), and the start state of a run has `QOrd` up to its clause `down` (`qord_start`).
-/
import LyonVerif.Lemmas.SweepQueueOrd
import LyonVerif.Lemmas.SweepQueueOrdLoop
import LyonVerif.Props.Sweep

set_option linter.unusedSectionVars false

namespace Lyon.SweepSpan
open Lyon Lyon.Scalar Lyon.Sweep Lyon.EQ Lyon.SweepPos

section positions
variable {α : Type} [Scalar α]

/-- the positions of the raw event array: the merge sort leaves this array alone -/
abbrev poss (evs : Array (Event α)) : Array (P α) := evs.map (·.pos)

theorem map_modify_of {β γ : Type} (g : β → γ) (f : β → β) (h : ∀ x, g (f x) = g x) (a : Array β) (i : Nat) :
    (a.modify i f).map g = a.map g := by
  apply Array.ext
  · simp
  · intro j h1 h2
    simp only [Array.getElem_map, Array.getElem_modify]
    split <;> simp [h]

@[simp] theorem poss_setNextEvent (evs : Array (Event α)) (i n : Nat) : poss (Queue.setNextEvent evs i n) = poss evs :=
  map_modify_of (·.pos) (fun e => { e with nextEvent := n }) (fun _ => rfl) evs i

@[simp] theorem poss_setNextSibling (evs : Array (Event α)) (i n : Nat) :
    poss (Queue.setNextSibling evs i n) = poss evs :=
  map_modify_of (·.pos) (fun e => { e with nextSibling := n }) (fun _ => rfl) evs i

theorem mergeLoop_poss (f : Nat) (evs : Array (Event α)) (a b : Nat) (first : Bool) (head prev : Nat) :
    poss (Queue.mergeLoop f evs a b first head prev).1 = poss evs := by
  fun_induction Queue.mergeLoop f evs a b first head prev <;> (try split) <;> simp_all

theorem merge_poss (evs : Array (Event α)) (a b : Nat) : poss (Queue.merge evs a b).1 = poss evs := by
  unfold Queue.merge
  split_ifs <;> simp [mergeLoop_poss]

theorem mergeSort_poss (evs : Array (Event α)) (s e : Nat) : poss (Queue.mergeSort evs s e).1 = poss evs := by
  fun_induction Queue.mergeSort evs s e
  · rfl
  · rfl
  · rename_i ih3 _ ih1
    exact (merge_poss _ _ _).trans (ih1.trans ih3)

theorem sort_poss (q : Queue α) : poss q.sort.events = poss q.events := by
  unfold Queue.sort
  split
  · rfl
  · exact mergeSort_poss _ _ _

theorem getD_pos (evs : Array (Event α)) (i : Nat) :
    (evs.getD i Event.dflt).pos = (poss evs).getD i Event.dflt.pos := by
  simp only [Array.getD_eq_getD_getElem?, Array.getElem?_map]
  cases evs[i]? <;> rfl

theorem sort_pos (q : Queue α) (i : Nat) : q.sort.position i = q.position i := by
  show (q.sort.events.getD i Event.dflt).pos = (q.events.getD i Event.dflt).pos
  rw [getD_pos, getD_pos, sort_poss]

theorem sort_size (q : Queue α) : q.sort.events.size = q.events.size := by
  simpa using congrArg Array.size (sort_poss q)

end positions

section field
variable {K : Type} [Field K] [LinearOrder K] [IsStrictOrderedRing K]

theorem heads_valid (q : Queue K) (f id : Nat) : ∀ h ∈ q.heads f id, h ≠ INVALID := by
  fun_induction Queue.heads q f id
  case case3 f id hid ih =>
    intro h hm
    rcases List.mem_cons.mp hm with e | e
    · rw [e]; simpa using hid
    · exact ih h e
  all_goals exact fun _ hm => nomatch hm

theorem siblings_head (q : Queue K) (f id : Nat) (hid : id ≠ INVALID) : (q.siblings (f + 1) id).headD 0 = id := by
  simp [Queue.siblings, hid]

/-- a `next_event` list whose complete enumeration has pairwise increasing positions is sorted -/
theorem sorted_of_heads (q : Queue K) (f id : Nat) : (q.heads f id).length < f →
    (q.heads f id).Pairwise (fun a b => comparePositions (q.position a) (q.position b) = .lt) →
    SortedFrom q.events id := by
  fun_induction Queue.heads q f id
  case case1 => exact fun hl => nomatch hl
  case case2 f id hid => exact fun _ _ => (show id = INVALID by simpa using hid) ▸ .nil
  case case3 f id hid ih =>
    intro hl hp
    simp only [List.length_cons] at hl
    rw [List.pairwise_cons] at hp
    refine .cons id (by simpa using hid) (ih (by omega) hp.2) fun hnx => hp.1 _ ?_
    have hnx' : q.nextId id ≠ INVALID := hnx
    cases f with
    | zero => omega
    | succ f' =>
      simp only [Queue.heads]
      rw [if_neg (by simpa using hnx')]
      exact List.mem_cons_self

theorem length_le_flatten {γ : Type} : ∀ (l : List (List γ)), (∀ g ∈ l, g ≠ []) → l.length ≤ l.flatten.length
  | [], _ => by simp
  | g :: l, h => by
    have := length_le_flatten l (fun g' hg' => h g' (List.mem_cons_of_mem _ hg'))
    have hg : 0 < g.length := List.length_pos_iff.mpr (h g List.mem_cons_self)
    simp only [List.length_cons, List.flatten_cons, List.length_append]
    omega

/-- **`sort` builds a sorted list whenever its linked lists enumerate the list-level specification** (the check
`q.groups != Spec.sort ..` of the model's `tessellate`) -/
theorem sort_sorted_of_spec (q0 : Queue K) (hg : q0.sort.groups = Spec.sort q0.position q0.events.size) :
    SortedFrom q0.sort.events q0.sort.first := by
  have hsz := sort_size q0
  obtain ⟨hperm, hpw, hne, _⟩ := SweepProps.merge_sort_sorted_perm q0.position q0.events.size
  rw [← hg] at hperm hpw hne
  unfold Queue.groups at hperm hpw hne
  have hlen : (q0.sort.heads q0.sort.fuel q0.sort.first).length ≤ q0.events.size := by
    have h1 := length_le_flatten _ (fun g hg' => (hne g hg').1)
    rw [List.length_map] at h1
    have h2 := hperm.length_eq
    rw [List.length_range] at h2
    omega
  have hfuel : q0.sort.fuel = (2 * q0.sort.events.size + 7) + 1 := rfl
  apply sorted_of_heads q0.sort q0.sort.fuel q0.sort.first
  · omega
  · rw [List.pairwise_map] at hpw
    refine hpw.imp_of_mem ?_
    intro a b ha hb hab
    have hva := heads_valid _ _ _ a ha
    have hvb := heads_valid _ _ _ b hb
    rw [hfuel] at hab
    unfold Lyon.SweepProps.key at hab
    rw [siblings_head _ _ _ hva, siblings_head _ _ _ hvb] at hab
    rw [sort_pos, sort_pos]
    exact hab

variable [w : Wide K]

/-- **the queue-order invariant holds of the start state of a run** whose sorted queue passed the model's
specification check - up to `down` for the first event (the edge records of its sibling events point down the
sweep: a property of the queue BUILDER, not proved here) -/
theorem qord_start (q0 : Queue K) (hg : q0.sort.groups = Spec.sort q0.position q0.events.size) (rule : Slab.Rule) (horizontal : Bool) (tol : K)
    (handleIx : Bool)
    (hdown : ∀ i ∈ q0.sort.siblings q0.sort.fuel q0.sort.firstId, (q0.sort.ed i).isEdge = true →
      (q0.sort.position q0.sort.firstId).y ≤ (q0.sort.ed i).to.y) :
    QOrd (startSt q0.sort rule horizontal tol handleIx) :=
  ⟨sort_sorted_of_spec q0 hg, Or.inl rfl, all_empty, rfl, hdown⟩

end field

end Lyon.SweepSpan
