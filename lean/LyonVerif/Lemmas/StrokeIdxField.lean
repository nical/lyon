/-
  Index validity for the complete stroker model: the two arithmetic facts (`Reg`) over a
  linearly ordered field (exact arithmetic; `sqrt`, the trigonometric functions, `asin`, `is_nan`,
  the line intersection `ix` stay arbitrary).

  * `skipApart_field`: a skipped join moves away from the point before it
    (`|c-a|² = |a-b|² + |b-c|² + 2 (b-a)·(c-b)`).
  * `noskip_field`, `reg_field_fixed`: fixed width, `line_join ≠ MiterClip`: every endpoint that has been the middle
    of a step has side points symmetric about its position (`pos.next + neg.next = 2·position`),
    `flattened_step` places the join's two points symmetrically as well, hence the two dot products
    it tests add up to `2·|prev_edge|² ≥ 0` and are never both negative: no skip.
    (`MiterClip` moves the `next` point of the front side to the clip line: the symmetry is lost and
    with it this argument; the link of `Lemmas/StrokeIdxClipLink.lean` takes its place.)
-/
import LyonVerif.Lemmas.StrokeIdxRun
import LyonVerif.Lemmas.Field
import Mathlib.Tactic.Linarith
import Mathlib.Tactic.LinearCombination

set_option linter.unusedSectionVars false

namespace Lyon.C05c
open Lyon Scalar Lyon.Stroke Lyon.Stroke.Full Lyon.C05 Lyon.C05b

section
variable {α : Type} [Scalar α] [Transc α]

/-- `flattened_step` puts the join's two points at `position ± N·half_width`, and answers "skip"
only if both dot products are negative -/
theorem flattenedStep_geo (prev join next : EP α) (d : VData α) (o : Out α) :
    ∃ N : P α,
      ((flattenedStep prev join next d o).join.position = join.position
        ∧ (flattenedStep prev join next d o).join.pos.next = join.position + N.smul d.halfWidth
        ∧ (flattenedStep prev join next d o).join.neg.next = join.position - N.smul d.halfWidth)
      ∧ ((flattenedStep prev join next d o).skip = true →
          (join.position - prev.position).dot (join.position + N.smul d.halfWidth - prev.pos.next) < zero
          ∧ (join.position - prev.position).dot (join.position - N.smul d.halfWidth - prev.neg.next) < zero) := by
  unfold flattenedStep
  simp only []
  refine ⟨computeNormal ((join.position - prev.position).sdiv (len (join.position - prev.position)))
    ((next.position - join.position).sdiv (len (next.position - join.position))), ?_⟩
  split_ifs <;>
    first
    | exact ⟨⟨rfl, rfl, rfl⟩, fun _ => by assumption⟩
    | exact ⟨⟨rfl, rfl, rfl⟩, fun h' => by cases h'⟩

end

section Field
variable {K : Type} [Field K] [LinearOrder K] [IsStrictOrderedRing K]

theorem tooClose_false_iff (thr : K) (a b : P K) :
    pointsAreTooClose thr a b = false ↔ thr ≤ (a.x - b.x) * (a.x - b.x) + (a.y - b.y) * (a.y - b.y) := by
  unfold pointsAreTooClose
  rw [decide_eq_false_iff_not]
  simp only [geom, not_lt]

theorem tooClose_true_iff (thr : K) (a b : P K) :
    pointsAreTooClose thr a b = true ↔ (a.x - b.x) * (a.x - b.x) + (a.y - b.y) * (a.y - b.y) < thr := by
  unfold pointsAreTooClose
  rw [decide_eq_true_iff]
  simp only [geom]

theorem skipApart_field (thr : K) : SkipApart thr := by
  intro a b c h1 h2 h3
  rw [tooClose_false_iff] at h1 h2 ⊢
  have h3' : 0 < (b.x - a.x) * (c.x - b.x) + (b.y - a.y) * (c.y - b.y) := by
    simpa only [geom, Nat.cast_zero] using h3
  linarith [mul_self_nonneg (b.x - c.x), mul_self_nonneg (b.y - c.y)]

def Sym (pos a b : P K) : Prop := a.x + b.x = pos.x + pos.x ∧ a.y + b.y = pos.y + pos.y

/-- weak link: the side points `a, b` of an endpoint at `p` do not lean forward along the edge towards
`q`: `(q − p)·(a + b − 2p) ≤ 0` -/
def WLink (p a b q : P K) : Prop :=
  (q.x - p.x) * (a.x + b.x - p.x - p.x) + (q.y - p.y) * (a.y + b.y - p.y - p.y) ≤ 0

theorem Sym.wlink {p a b : P K} (h : Sym p a b) (q : P K) : WLink p a b q :=
  le_of_eq (by linear_combination (q.x - p.x) * h.1 + (q.y - p.y) * h.2)

theorem sym_add_sub (p v : P K) : Sym p (p + v) (p - v) := by
  constructor <;> simp only [geom] <;> ring

variable [Transc K]

/-- under the weak link `flattened_step` does not answer "skip": the two dot products it tests add up
to `2·|prev_edge|² − prev_edge·(pos.next + neg.next − 2·position) ≥ 0` -/
theorem noskip_field (prev join next : EP K) (d : VData K) (o : Out K)
    (hW : WLink prev.position prev.pos.next prev.neg.next join.position) :
    (flattenedStep prev join next d o).skip = false := by
  obtain ⟨N, _, hs⟩ := flattenedStep_geo prev join next d o
  by_contra hne
  obtain ⟨d0, d1⟩ := hs (by simpa using hne)
  unfold WLink at hW
  simp only [geom, Nat.cast_zero] at d0 d1
  linarith [mul_self_nonneg (join.position.x - prev.position.x), mul_self_nonneg (join.position.y - prev.position.y)]

theorem flat_sym (prev join next : EP K) (d : VData K) (o : Out K) :
    GE Sym (flattenedStep prev join next d o).join := by
  obtain ⟨N, ⟨h1, h2, h3⟩, _⟩ := flattenedStep_geo prev join next d o
  unfold GE
  rw [h1, h2, h3]
  exact sym_add_sub _ _

theorem first_sym (first next : EP K) : GE Sym (firstEdgeSetup first next).1 :=
  sym_add_sub _ _

def NoClip : Bool → LineJoin → Prop := fun _ lj => lj ≠ .miterClip

theorem noClip_miter : ∀ (f : Bool) (lj : LineJoin), NoClip f lj → NoClip f .miter := by
  intro _ _ _; unfold NoClip; decide

/-- fixed width, no `MiterClip` endpoint in the class: the side points of every endpoint that has been
the middle of a step are symmetric about its position, whatever `vertex.half_width` holds -/
theorem reg_field_fixed (e : Env K) (c : Cls K) (hc : ∀ f lj, c.D f lj → lj ≠ .miterClip)
    (hfw : e.o.varWidth = false) : Reg e c Sym where
  first := first_sym
  joinFw := by
    intro prev join next vhw hF
    obtain ⟨hp, hn⟩ := joinSidesFw_nexts e.ix prev join next e.o.miterLimit vhw
    have hlj := hc _ _ hF.2
    unfold GE
    rw [(joinSidesFw_upd e.ix prev join next e.o.miterLimit vhw).pos, hp, hn,
      if_neg (fun h => hlj h.1.2.2), if_neg (fun h => hlj h.1.2.2)]
    exact sym_add_sub _ _
  flat := flat_sym
  noskip := fun _ prev join next d o hG _ _ => noskip_field prev _ next d o (hG.wlink _)
  vw := by intro h; rw [hfw] at h; cases h

end Field

end Lyon.C05c
