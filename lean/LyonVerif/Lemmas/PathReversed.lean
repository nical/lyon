/-
  C14: the specification of path reversal on event sequences (`reverseEvents`) and its two
  laws — the reversal of a well-formed sequence is well-formed, and reversing twice gives the
  original.  Mathlib-free.

  `reverseEvents` walks the events backwards: an `End` opens a sub-path at its last point, segments
  are flipped (control points of a cubic swapped), the `Begin` closes the sub-path with an `End`
  naming the old first point as last and the old last point as first, keeping the close flag.
  So sub-paths come out in reverse order, each traversed backwards.
-/
import LyonVerif.Lemmas.Trace

namespace Lyon.Path

variable {π : Type}
set_option linter.unusedSimpArgs false

/-- a line, quadratic or cubic event (`PathEvent::is_edge` counts a closing `End` as well) -/
def Event.isSeg : Event π → Bool
  | .line _ _ => true
  | .quad _ _ _ => true
  | .cubic _ _ _ _ => true
  | _ => false

/-- a segment traversed backwards -/
def flipE : Event π → Event π
  | .line a b => .line b a
  | .quad a c b => .quad b c a
  | .cubic a c d b => .cubic b d c a
  | e => e

/-- walk over the events in reverse order; state = (close flag of the sub-path being emitted,
its first point) -/
def revGo : List (Event π) → Bool → Option π → List (Event π)
  | [], _, _ => []
  | .end_ l _ cl :: r, _, _ => .begin l :: revGo r cl (some l)
  | .begin a :: r, nc, fst => .end_ a (fst.getD a) nc :: revGo r false none
  | .line a b :: r, nc, fst => .line b a :: revGo r nc fst
  | .quad a c b :: r, nc, fst => .quad b c a :: revGo r nc fst
  | .cubic a c d b :: r, nc, fst => .cubic b d c a :: revGo r nc fst

/-- the state of `revGo` after a list of events: `revGo` is no homomorphism for `++`, the right
part starts in this state (`revGo_append`); it is the initial `(false, none)` again after a `Begin`,
which is why `reverseEvents` splits only in front of a `Begin` (`reverseEvents_append_begin`) -/
def revState : List (Event π) → Bool → Option π → Bool × Option π
  | [], nc, fst => (nc, fst)
  | .end_ l _ cl :: r, _, _ => revState r cl (some l)
  | .begin _ :: r, _, _ => revState r false none
  | .line _ _ :: r, nc, fst => revState r nc fst
  | .quad _ _ _ :: r, nc, fst => revState r nc fst
  | .cubic _ _ _ _ :: r, nc, fst => revState r nc fst

/-- the reversed path, as an event sequence -/
def reverseEvents (evs : List (Event π)) : List (Event π) := revGo evs.reverse false none

theorem revGo_append (A B : List (Event π)) (nc : Bool) (fst : Option π) :
    revGo (A ++ B) nc fst = revGo A nc fst ++ revGo B (revState A nc fst).1 (revState A nc fst).2 := by
  induction A generalizing nc fst with
  | nil => simp [revGo, revState]
  | cons e r ih => cases e <;> simp [revGo, revState, ih]

theorem revState_append (A B : List (Event π)) (nc : Bool) (fst : Option π) :
    revState (A ++ B) nc fst = revState B (revState A nc fst).1 (revState A nc fst).2 := by
  induction A generalizing nc fst with
  | nil => simp [revState]
  | cons e r ih => cases e <;> simp [revState, ih]

theorem revGo_segs (E : List (Event π)) (hE : ∀ e ∈ E, e.isSeg = true) (nc : Bool) (fst : Option π) :
    revGo E nc fst = E.map flipE ∧ revState E nc fst = (nc, fst) := by
  induction E with
  | nil => simp [revGo, revState]
  | cons e r ih =>
    have hr := ih (fun e he => hE e (by simp [he]))
    have he := hE e (by simp)
    cases e <;> simp_all [revGo, revState, flipE, Event.isSeg]

theorem flipE_flipE (e : Event π) : flipE (flipE e) = e := by cases e <;> rfl
theorem flipE_isSeg (e : Event π) : (flipE e).isSeg = e.isSeg := by cases e <;> rfl

/-- one sub-path `begin a, E, end l f cl` followed by anything: its reversal comes last -/
theorem reverseEvents_block (a l f : π) (cl : Bool) (E rest : List (Event π))
    (hE : ∀ e ∈ E, e.isSeg = true) :
    reverseEvents (.begin a :: (E ++ .end_ l f cl :: rest))
      = reverseEvents rest ++ (.begin l :: ((E.reverse.map flipE) ++ [.end_ a l cl])) := by
  have hE' : ∀ e ∈ E.reverse, e.isSeg = true := by
    intro e he; exact hE e (by simpa using he)
  have h1 : (Event.begin a :: (E ++ Event.end_ l f cl :: rest)).reverse
      = rest.reverse ++ (Event.end_ l f cl :: (E.reverse ++ [Event.begin a])) := by simp
  simp only [reverseEvents, h1, revGo_append, revGo, (revGo_segs E.reverse hE' _ _).1,
    (revGo_segs E.reverse hE' _ _).2, Option.getD_some, List.cons_append]

/-- a sequence that starts with `Begin` can be split off: `R (X ++ Y) = R Y ++ R X` -/
theorem reverseEvents_append_begin (X Y : List (Event π)) (a : π) :
    reverseEvents (X ++ .begin a :: Y) = reverseEvents (.begin a :: Y) ++ reverseEvents X := by
  have h1 : (X ++ Event.begin a :: Y).reverse = (Y.reverse ++ [Event.begin a]) ++ X.reverse := by simp
  have h2 : (Event.begin a :: Y).reverse = Y.reverse ++ [Event.begin a] := by simp
  simp only [reverseEvents, h1, h2, revGo_append (Y.reverse ++ [Event.begin a]), revState_append,
    revState]

section wf
variable [BEq π] [LawfulBEq π]

/-- segments chained from `c`, ending at `l` -/
def segRun : π → List (Event π) → π → Bool
  | c, [], l => c == l
  | c, .line a b :: r, l => a == c && segRun b r l
  | c, .quad a _ b :: r, l => a == c && segRun b r l
  | c, .cubic a _ _ b :: r, l => a == c && segRun b r l
  | _, _ :: _, _ => false

theorem segRun_isSeg (c l : π) (E : List (Event π)) (h : segRun c E l = true) :
    ∀ e ∈ E, e.isSeg = true := by
  induction E generalizing c with
  | nil => simp
  | cons e r ih =>
    cases e <;> simp_all [segRun, Event.isSeg] <;> exact ih _ h.2

theorem wf_decompose (f c : π) (evs : List (Event π)) (h : wellFormedFrom (some (f, c)) evs = true) :
    ∃ E l cl rest, evs = E ++ .end_ l f cl :: rest ∧ segRun c E l = true ∧
      wellFormedFrom none rest = true := by
  induction evs generalizing c with
  | nil => simp [wellFormedFrom] at h
  | cons e r ih =>
    cases e with
    | begin a => simp [wellFormedFrom] at h
    | line a b =>
      simp [wellFormedFrom] at h
      obtain ⟨E, l, cl, rest, h1, h2, h3⟩ := ih b h.2
      exact ⟨.line a b :: E, l, cl, rest, by simp [h1], by simp [segRun, h.1, h2], h3⟩
    | quad a k b =>
      simp [wellFormedFrom] at h
      obtain ⟨E, l, cl, rest, h1, h2, h3⟩ := ih b h.2
      exact ⟨.quad a k b :: E, l, cl, rest, by simp [h1], by simp [segRun, h.1, h2], h3⟩
    | cubic a k1 k2 b =>
      simp [wellFormedFrom] at h
      obtain ⟨E, l, cl, rest, h1, h2, h3⟩ := ih b h.2
      exact ⟨.cubic a k1 k2 b :: E, l, cl, rest, by simp [h1], by simp [segRun, h.1, h2], h3⟩
    | end_ l f' cl =>
      simp [wellFormedFrom] at h
      obtain ⟨⟨h1, h2⟩, h3⟩ := h
      subst h1 h2
      exact ⟨[], l, cl, r, by simp, by simp [segRun], h3⟩

theorem segRun_snoc (c l : π) (E : List (Event π)) (e : Event π) :
    segRun c (E ++ [e]) l = true ↔ ∃ m, segRun c E m = true ∧ segRun m [e] l = true := by
  induction E generalizing c with
  | nil => simp [segRun]
  | cons x r ih => cases x <;> simp [segRun, ih] <;> grind

theorem segRun_flip_reverse (c l : π) (E : List (Event π)) (h : segRun c E l = true) :
    segRun l (E.reverse.map flipE) c = true := by
  induction E generalizing c with
  | nil => simp [segRun] at h ⊢; exact h.symm
  | cons e r ih =>
    cases e with
    | begin a => simp [segRun] at h
    | end_ a b cl => simp [segRun] at h
    | line a b =>
      simp [segRun] at h
      simp only [List.reverse_cons, List.map_append, List.map_cons, List.map_nil, segRun_snoc]
      exact ⟨b, ih b h.2, by simp [flipE, segRun, h.1]⟩
    | quad a k b =>
      simp [segRun] at h
      simp only [List.reverse_cons, List.map_append, List.map_cons, List.map_nil, segRun_snoc]
      exact ⟨b, ih b h.2, by simp [flipE, segRun, h.1]⟩
    | cubic a k1 k2 b =>
      simp [segRun] at h
      simp only [List.reverse_cons, List.map_append, List.map_cons, List.map_nil, segRun_snoc]
      exact ⟨b, ih b h.2, by simp [flipE, segRun, h.1]⟩

theorem wf_of_segRun (f c l : π) (cl : Bool) (E rest : List (Event π)) (h : segRun c E l = true)
    (hr : wellFormedFrom none rest = true) :
    wellFormedFrom (some (f, c)) (E ++ .end_ l f cl :: rest) = true := by
  induction E generalizing c with
  | nil => simp [segRun] at h; simp [wellFormedFrom, h, hr]
  | cons e r ih => cases e <;> simp_all [segRun, wellFormedFrom]

/-- both laws at once, sub-path by sub-path: the recursion is on what follows the first sub-path -/
theorem reverse_laws (evs : List (Event π)) (hwf : WellFormed evs) :
    WellFormed (reverseEvents evs) ∧ reverseEvents (reverseEvents evs) = evs := by
  cases evs with
  | nil => simp [reverseEvents, revGo, WellFormed, wellFormedFrom]
  | cons e r =>
    cases e with
    | begin a =>
      simp only [WellFormed, wellFormedFrom] at hwf
      obtain ⟨E, l, cl, rest, h1, h2, h3⟩ := wf_decompose a a r hwf
      subst h1
      have hE := segRun_isSeg _ _ _ h2
      have hE' : ∀ e ∈ E.reverse.map flipE, e.isSeg = true := by
        intro e he
        simp only [List.mem_map, List.mem_reverse] at he
        obtain ⟨x, hx, rfl⟩ := he
        rw [flipE_isSeg]; exact hE x hx
      obtain ⟨ihwf, ihinv⟩ := reverse_laws rest h3
      rw [reverseEvents_block a l a cl E rest hE]
      constructor
      · apply wf_append none _ _ ihwf
        simp only [wellFormedFrom]
        have := wf_of_segRun l l a cl (E.reverse.map flipE) [] (segRun_flip_reverse a l E h2)
          (by simp [wellFormedFrom])
        simpa using this
      · rw [reverseEvents_append_begin, ihinv]
        have := reverseEvents_block l a l cl (E.reverse.map flipE) [] hE'
        rw [this]
        simp [reverseEvents, revGo, List.map_reverse, flipE_flipE, Function.comp_def]
    | _ => simp [WellFormed, wellFormedFrom] at hwf
termination_by evs.length
decreasing_by subst_vars; simp; omega

/-- `reversed_wellformed` (specification level): the reversal of a well-formed event sequence
is well-formed. -/
theorem reverseEvents_wellFormed (evs : List (Event π)) (h : WellFormed evs) :
    WellFormed (reverseEvents evs) := (reverse_laws evs h).1

/-- `reversed_involutive` (specification level): reversing twice gives the original. -/
theorem reverseEvents_involutive (evs : List (Event π)) (h : WellFormed evs) :
    reverseEvents (reverseEvents evs) = evs := (reverse_laws evs h).2

end wf

end Lyon.Path
