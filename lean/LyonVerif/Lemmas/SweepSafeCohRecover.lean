/-
  SPAN / WINDING COHERENCE, recovery: `sort_active_edges` and `recover_from_error` re-establish
  the coherence invariant `Coh` (or end in `Err(MergeVertexOutside)` / a NaN-key panic).  The insertion sort
  permutes the keys (`Sweep.insertionSort_perm`), so the re-sorted active list is a permutation of the old one
  (`sorted_perm`); the fix-up loop makes its merge vertices lie inside, position by position (`FixInv`).
  `hk3`, `hk4` in the proofs below count the clauses of `Coh`: clause 3 is `out` (the total winding is
  outside), clause 4 is `merges` (every merge vertex lies in an `in` region).
-/
import LyonVerif.Lemmas.SweepSafeCohFix
import LyonVerif.Lemmas.SweepSafeCohAbove

set_option linter.unusedSectionVars false
set_option mvcgen.warning false

namespace Lyon.SweepCoh
open Lyon Lyon.Scalar Lyon.Mono Lyon.Sweep Lyon.EQ Lyon.SweepSafe
open Std.Do

variable {α : Type} [Scalar α] [Wide α]
variable {A : List String}

/-- the signature (`s`) of the active edge the sort key `k` selects -/
def sk (a : Array (ActiveEdge α)) (k : α × Nat) : Option (Bool × Int) := (a[k.2]?).map sigOf

theorem keys_push {keys : Array (α × Nat)} {n i : Nat} {x : α} (hk : keys.size = n) (hi : i = n)
    (hp : ∀ p (h : p < keys.size), keys[p].2 = p) :
    ∀ p (h : p < (keys.push (x, i)).size), (keys.push (x, i))[p].2 = p := by
  intro p h
  rw [Array.getElem_push]
  split
  · exact hp p _
  · simp at h; omega

/-- the keys `(x, i)` built by the first loop select the signatures of the active list, in order -/
theorem keys_filterMap (a : Array (ActiveEdge α)) (keys : Array (α × Nat)) (hn : keys.size = a.size)
    (hp : ∀ p (h : p < keys.size), keys[p].2 = p) : keys.toList.filterMap (sk a) = sgA a := by
  have : keys.toList.map (sk a) = (sgA a).map some := by
    apply List.ext_getElem
    · simp [sgA, hn]
    · intro i h1 h2
      have hi : i < keys.size := by simpa using h1
      simp only [List.getElem_map, Array.getElem_toList, sk, sgA]
      rw [hp i hi, Array.getElem?_eq_getElem (hn ▸ hi)]; rfl
  rw [show keys.toList.filterMap (sk a) = (keys.toList.map (sk a)).filterMap id by rw [List.filterMap_map]; rfl,
    this, List.filterMap_map]
  simp

/-- the edges picked by the sorted keys are a permutation of the old active list -/
theorem sorted_perm (a : Array (ActiveEdge α)) (keys : Array (α × Nat)) (less : (α × Nat) → (α × Nat) → Bool)
    (r : Array (ActiveEdge α)) (hn : keys.size = a.size) (hp : ∀ p (h : p < keys.size), keys[p].2 = p)
    (hsg : sgA r = (insertionSort less keys).toList.filterMap (sk a)) : (sgA r).Perm (sgA a) := by
  rw [hsg, ← keys_filterMap a keys hn hp]
  exact (insertionSort_perm less keys).filterMap _

/-- the loop invariant of the merge-vertex fix-up: a permutation of the old list whose first `j` elements
have their merge vertices inside -/
structure FixInv (s0 : St α) (j : Nat) (edges : Array (ActiveEdge α)) (wn : Int) : Prop where
  perm : (sgA edges).Perm (sigs s0)
  k4 : MIn s0.rule 0 ((sgA edges).take j)
  wn : wn = gsum ((sgA edges).take j)

theorem gsum_take_succ (l : List (Bool × Int)) (j : Nat) (x : Bool × Int) (h : l[j]? = some x) :
    gsum (l.take (j + 1)) = gsum (l.take j) + gW x := by
  rw [List.take_add_one, h, gsum_append]
  simp [gsum_cons, gsum_nil]

theorem FixInv.skip {s0 : St α} {j : Nat} {edges : Array (ActiveEdge α)} {wn : Int}
    (h : FixInv s0 j edges wn) (hn : edges[j]? = none) : FixInv s0 (j + 1) edges wn := by
  have hl : (sgA edges).length ≤ j := by rw [sgA_length]; exact Array.getElem?_eq_none_iff.mp hn
  have e : (sgA edges).take (j + 1) = (sgA edges).take j := by
    rw [List.take_of_length_le hl, List.take_of_length_le (by omega)]
  exact ⟨h.perm, e ▸ h.k4, e ▸ h.wn⟩

/-- one more element `e` of the list: `c` says why it is fine where it stands -/
theorem FixInv.next {s0 : St α} {j : Nat} {edges : Array (ActiveEdge α)} {wn : Int} {e : ActiveEdge α}
    (h : FixInv s0 j edges wn) (he : edges[j]? = some e) (c : e.isMerge = true → s0.rule.isIn wn = true) :
    FixInv s0 (j + 1) edges (wn + gW (sigOf e)) := by
  have e1 : (sgA edges).take (j + 1) = (sgA edges).take j ++ [sigOf e] := by
    rw [List.take_add_one, sgA_getElem?, he]; rfl
  refine ⟨h.perm, ?_, by rw [e1, gsum_append, gsum_cons, gsum_nil, ← h.wn]; omega⟩
  rw [e1, MIn_append, Int.zero_add, ← h.wn]
  exact ⟨h.k4, c, trivial⟩

theorem FixInv.merge_in {s0 : St α} {j : Nat} {edges : Array (ActiveEdge α)} {wn : Int} {e : ActiveEdge α}
    (h : FixInv s0 j edges wn) (he : edges[j]? = some e) (hm : e.isMerge = true)
    (hin : s0.rule.isIn wn = true) : FixInv s0 (j + 1) edges wn := by
  have := h.next he fun _ => hin
  rwa [gW_merge (by exact hm), Int.add_zero] at this

theorem FixInv.edge {s0 : St α} {j : Nat} {edges : Array (ActiveEdge α)} {wn : Int} {e : ActiveEdge α}
    (h : FixInv s0 j edges wn) (he : edges[j]? = some e) (hm : ¬ e.isMerge = true) :
    FixInv s0 (j + 1) edges (wn + e.winding) := by
  have := h.next he fun h' => absurd h' hm
  rwa [show gW (sigOf e) = e.winding by simp [gW, sigOf, hm]] at this

theorem FixInv.swap {s0 : St α} {j : Nat} {edges : Array (ActiveEdge α)} {wn : Int} {e : ActiveEdge α}
    (h : FixInv s0 j edges wn) (hz : MZl (sigs s0)) (he : edges[j]? = some e) (hm : e.isMerge = true)
    {f : Nat} {a : Array (ActiveEdge α)} (hs : swapBack s0.rule f edges j wn = .ok a) :
    FixInv s0 (j + 1) a wn := by
  have he' : (sgA edges)[j]? = some (sigOf e) := by rw [sgA_getElem?, he]; rfl
  have hj : j < (sgA edges).length := (List.getElem?_eq_some_iff.mp he').1
  have hdec : sgA edges = (sgA edges).take j ++ sigOf e :: (sgA edges).drop (j + 1) := by
    conv => lhs; rw [← List.take_append_drop j (sgA edges), List.drop_eq_getElem_cons hj,
      (List.getElem?_eq_some_iff.mp he').2]
  have hlen : ((sgA edges).take j).length = j := by rw [List.length_take]; omega
  obtain ⟨A1, h1, h2, h3⟩ := swapBack_min s0.rule f edges j wn a _ _ _ hs hdec hlen hm
    (fun z hz' => hz z (h.perm.mem_iff.mp (List.mem_of_mem_take hz'))) h.wn h.k4
  have ht : (sgA a).take (j + 1) = A1 := by
    rw [h1, ← show A1.length = j + 1 by rw [h2.length_eq]; simp [hlen], List.take_left]
  refine ⟨?_, ht ▸ h3, ?_⟩
  · rw [h1]
    exact ((h2.append_right _).trans List.perm_middle.symm).trans ((List.Perm.of_eq hdec.symm).trans h.perm)
  · rw [ht, show gsum A1 = _ from lsum_perm gW h2, lsum_cons, gW_merge (by exact hm), Int.zero_add]
    exact h.wn

/-- one round of the fix-up loop: the invariant moves on from the indices seen `pref` to `pref ++ [cur]`
when the round keeps the size of the array and `hstep` is what it does at `j = cur` -/
theorem fix_next {s0 : St α} {m cur : Nat} {pref suff : List Nat} (hr : [:m].toList = pref ++ cur :: suff)
    {Z : Prop} {ed ed' : Array (ActiveEdge α)} {wn wn' : Int}
    (h : (Z → FixInv s0 pref.length ed wn) ∧ ed.size = pref.length + (cur :: suff).length)
    (hsz : ed'.size = ed.size) (hstep : Z → FixInv s0 cur ed wn → FixInv s0 (cur + 1) ed' wn') :
    (Z → FixInv s0 (pref ++ [cur]).length ed' wn') ∧ ed'.size = (pref ++ [cur]).length + suff.length := by
  obtain ⟨rfl, _⟩ := range_split hr
  rw [List.length_append, List.length_singleton]
  exact ⟨fun hz => hstep hz (h.1 hz), by rw [hsz, h.2, List.length_cons]; omega⟩

/-- what `sort_active_edges` guarantees about the new active list -/
structure SortedOK (s0 s' : St α) : Prop where
  spans : s'.spans = s0.spans
  rule : s'.rule = s0.rule
  tol : s'.tolerance = s0.tolerance
  sum : gsum (sigs s') = gsum (sigs s0)
  mz : MZl (sigs s')
  k4 : K4upto s0.rule (sigs s') (sigs s').length

/-- what `SortedOK` says of the new list, read off a permutation with its merge vertices inside -/
theorem sortedOK_of {s0 s' : St α} (hz : MZl (sigs s0)) (h1 : s'.spans = s0.spans) (h2 : s'.rule = s0.rule)
    (h3 : s'.tolerance = s0.tolerance) (hp : (sigs s').Perm (sigs s0)) (hk : MIn s0.rule 0 (sigs s')) :
    SortedOK s0 s' :=
  ⟨h1, h2, h3, lsum_perm gW hp, fun x hx => hz x (hp.mem_iff.mp hx), (K4upto_iff _).mpr hk⟩

/-- `sort_active_edges` from a state that agrees with `s0`: spans and tolerance stay, and when the merge
vertices of `s0` carry winding 0 the new active list is `SortedOK` -/
theorem sortActiveEdges_fr (hNaN : NoNaN α ∨ mNaN ∈ A) (s0 : St α) :
    ⦃fun s => ⌜Fr s0 s⌝⦄ (sortActiveEdges : SM α Unit)
    ⦃safePost A fun _ s' => s'.spans = s0.spans ∧ s'.tolerance = s0.tolerance ∧
      (MZl (sigs s0) → SortedOK s0 s')⦄ := by
  unfold sortActiveEdges
  mvcgen [mark] invariants
  · post⟨fun r s => ⌜Fr s0 s ∧ r.2.2.2.2 = r.1.prefix.length ∧ r.2.1.size = r.1.prefix.length ∧
      (∀ p (hp : p < r.2.1.size), r.2.1[p].2 = p) ∧ (r.2.2.1 = false → ∀ e ∈ r.1.prefix, e.isMerge = false)⌝,
      fun f _ => ⌜Allowed A f⌝⟩
  · post⟨fun r s => ⌜Fr s0 s ∧ sgA r.2 = r.1.prefix.filterMap (sk s0.active)⌝, fun f _ => ⌜Allowed A f⌝⟩
  · post⟨fun r s => ⌜Fr s0 s ∧ (MZl (sigs s0) → FixInv s0 r.1.prefix.length r.2.1 r.2.2) ∧
      r.2.1.size = r.1.prefix.length + r.1.suffix.length⌝, fun f _ => ⌜Allowed A f⌝⟩
  with skip
  -- the loop that makes the keys: `keys[p].2 = p` for all `p`; a merge vertex (`vc1`), an edge (`vc2`), entry
  case vc1 =>
    have h := ‹Fr s0 _ ∧ _›
    obtain ⟨hf, hi, hk, hp, _⟩ := h
    refine ⟨hf, by simp +zetaDelta; omega, by simp +zetaDelta; omega, keys_push hk hi hp, fun hh => by cases hh⟩
  case vc2 =>
    have h := ‹Fr s0 _ ∧ _›
    have hm := ‹¬ _ = true›
    obtain ⟨hf, hi, hk, hp, hmm⟩ := h
    refine ⟨hf, by simp +zetaDelta; omega, by simp +zetaDelta; omega, keys_push hk hi hp, fun hh e he => ?_⟩
    rcases List.mem_append.mp he with he | he
    · exact hmm hh e he
    · simp only [List.mem_singleton] at he
      rw [he]; simpa using hm
  case vc3 =>
    refine ⟨by assumption, rfl, rfl, ?_, ?_⟩
    · intro p hp; exact absurd hp (Nat.not_lt_zero _)
    · intros; rename_i he; cases he
  -- `partial_cmp(..).unwrap()` in the comparison of the sort; the sort itself outside its modelled range
  case vc4 =>
    rcases hNaN with hNaN | hNaN
    · exfalso
      have h := ‹(decide (_ ≥ 2) && anyNaNKey _) = true›
      rw [anyNaN_false hNaN] at h
      simp at h
    · exact allowed_panic hNaN
  case vc5 => exact allowed_unmodelled _
  -- the loop that picks the edges by the sorted keys: index in range (`vc6`), not in range, entry
  case vc6 =>
    have hfr := ‹Fr s0 _›
    rename_i pref cur suff hsp b e hx st h
    refine ⟨h.1, ?_⟩
    have : sk s0.active cur = some (sigOf e) := by unfold sk; rw [← hfr.2.1, hx]; rfl
    rw [List.filterMap_append, ← h.2]
    simp [sgA, this]
  case vc7 =>
    have hfr := ‹Fr s0 _›
    rename_i pref cur suff hsp b hx st h
    refine ⟨h.1, ?_⟩
    have : sk s0.active cur = none := by unfold sk; rw [← hfr.2.1, hx]; rfl
    rw [List.filterMap_append, ← h.2]
    simp [this]
  case vc8 => exact ⟨(by assumption : Fr s0 _ ∧ _).1, by simp [sgA]⟩
  -- the fix-up loop, at `j`: no edge there;
  case vc9 =>
    have h := ‹Fr s0 _ ∧ (_ → FixInv _ _ _ _) ∧ _›
    exact ⟨h.1, fix_next ‹_ = _ ++ _ :: _› h.2 rfl fun _ hi => hi.skip (by assumption)⟩
  -- a merge vertex outside the shape: moved back by `swapBack`, or `swapBack` fails;
  case vc10 =>
    have hfr := ‹Fr s0 _›
    have h := ‹Fr s0 _ ∧ (_ → FixInv _ _ _ _) ∧ _›
    have hs := ‹swapBack _ _ _ _ _ = _›
    rw [hfr.2.2.1] at hs
    exact ⟨h.1, fix_next ‹_ = _ ++ _ :: _› h.2 (swapBack_size _ _ _ _ _ _ hs)
      fun hz hi => hi.swap hz (by assumption) (by assumption) hs⟩
  case vc11 =>
    have hget := ‹_ = some _›
    have hx := ‹swapBack _ _ _ _ _ = _›
    have hlt := (Array.getElem?_eq_some_iff.mp hget).1
    rcases swapBack_err _ _ _ _ _ _ hlt hx with e | e
    · rw [e]; exact allowed_fuel
    · rw [e]; exact allowed_err _
  -- a merge vertex inside the shape: stays;
  case vc12 =>
    have hfr := ‹Fr s0 _›
    have h := ‹Fr s0 _ ∧ (_ → FixInv _ _ _ _) ∧ _›
    have hin := ‹¬ (!_) = true›
    rw [hfr.2.2.1] at hin
    exact ⟨h.1, fix_next ‹_ = _ ++ _ :: _› h.2 rfl
      fun _ hi => hi.merge_in (by assumption) (by assumption) (by simpa using hin)⟩
  -- an edge: its winding is added to `wn`
  case vc13 =>
    have h := ‹Fr s0 _ ∧ (_ → FixInv _ _ _ _) ∧ _›
    exact ⟨h.1, fix_next ‹_ = _ ++ _ :: _› h.2 rfl fun _ hi => hi.edge (by assumption) (by assumption)⟩
  -- entry of the fix-up loop
  case vc14 =>
    -- the sort only permutes the keys `(x, i)`, so the edges picked by the sorted keys are a permutation of
    -- the old list (`sorted_perm`); this is `FixInv` at `j = 0`, which the fix-up loop then carries to the end
    have hfr := ‹Fr s0 _›
    have h := ‹Fr s0 _ ∧ sgA _ = _›
    have h1 := ‹Fr s0 _ ∧ _ = _ ∧ _›
    obtain ⟨_, _, hk, hp, _⟩ := h1
    exact ⟨h.1, fun _ => ⟨sorted_perm s0.active _ _ _ (by simpa [← hfr.2.1] using hk) hp h.2, trivial, rfl⟩,
      by rw [range_length]; simp⟩
  -- its exit: `FixInv` at `j = edges.len()` is `SortedOK`
  case vc15 =>
    have h := ‹Fr s0 _ ∧ (_ → FixInv _ _ _ _) ∧ _›
    obtain ⟨hf, hi, hsz⟩ := h
    refine ⟨hf.1, hf.2.2.2, fun hz => sortedOK_of hz hf.1 hf.2.2.1 hf.2.2.2 (hi hz).perm ?_⟩
    have := (hi hz).k4
    rwa [List.take_of_length_le (by rw [sgA_length, hsz]; simp)] at this
  -- no merge vertex in the active list: no fix-up, and a list of edges is `MIn`
  case vc17 =>
    have hfr := ‹Fr s0 _›
    have h := ‹Fr s0 _ ∧ sgA _ = _›
    have h1 := ‹Fr s0 _ ∧ _ = _ ∧ _›
    have hnm := ‹¬ _ = true›
    obtain ⟨_, _, hk, hp, hno⟩ := h1
    have hf := sorted_perm s0.active _ _ _ (by simpa [← hfr.2.1] using hk) hp h.2
    rw [hfr.2.1] at hno
    refine ⟨h.1.1, h.1.2.2.2, fun hz => sortedOK_of hz h.1.1 h.1.2.2.1 h.1.2.2.2 hf (MIn_edges _ _ fun x hx => ?_)⟩
    rcases List.mem_map.mp (hf.mem_iff.mp hx) with ⟨e, he, hex⟩
    rw [← hex]
    exact hno (by simpa using hnm) e he

theorem sortActiveEdges_coh (hNaN : NoNaN α ∨ mNaN ∈ A) (s0 : St α) (hz : MZl (sigs s0)) :
    ⦃fun s => ⌜Fr s0 s⌝⦄ (sortActiveEdges : SM α Unit) ⦃safePost A fun _ s' => SortedOK s0 s'⦄ :=
  safe_conseq fun _ hs => ⟨_, _, hs, sortActiveEdges_fr hNaN s0, fun _ _ _ h => h.2.2 hz⟩

/-- the last edge is not a merge vertex when the merge vertices lie in `in` regions and the total is `out` -/
theorem swapLast_id (rule : Slab.Rule) (a : Array (ActiveEdge α)) (hk4 : K4upto rule (sgA a) (sgA a).length)
    (hk3 : rule.isIn (gsum (sgA a)) = false) : swapLast a = a := by
  unfold swapLast
  split
  · rename_i l p hl hp
    split
    · rename_i hc
      exfalso
      simp only [Bool.and_eq_true, decide_eq_true_eq] at hc
      have hl' : (sgA a)[a.size - 1]? = some (sigOf l) := by rw [sgA_getElem?, hl]; rfl
      have h1 := hk4 (a.size - 1) (by rw [sgA_length]; omega) _ hl' hc.2
      have h2 := gsum_take_succ _ _ _ hl'
      rw [gW_merge (by exact hc.2), List.take_of_length_le (by rw [sgA_length]; omega)] at h2
      rw [h2, Int.add_zero, h1] at hk3
      cases hk3
    · rfl
  · rfl

theorem wstep_si (rule : Slab.Rule) (w : WindingState) (e : ActiveEdge α) :
    w.spanIndex ≤ (wstep rule w e).spanIndex ∧ (wstep rule w e).spanIndex ≤ w.spanIndex + 1 := by
  unfold wstep
  split
  · constructor <;> (simp only; omega)
  · unfold WindingState.update
    simp only
    split <;> constructor <;> omega

theorem final_coh (s1 : St α) (tol : α) (hmz : MZl (sigs s1))
    (hk4 : K4upto s1.rule (sigs s1) (sigs s1).length) (hk3 : s1.rule.isIn (gsum (sigs s1)) = false)
    (s : St α) (hk : Keep (swapLast s1.active) s1.rule tol s) (hsz : s.spans.size = keepOf s1) :
    Coh s ∧ s.tolerance = tol := by
  have hsw : swapLast s1.active = s1.active := swapLast_id _ _ hk4 hk3
  have e1 : s.active = s1.active := hk.act.trans hsw
  have e2 : s.rule = s1.rule := hk.rule
  have e3 : sigs s = sigs s1 := by unfold sigs; rw [e1]
  have e4 : Wtot s = wfold s1.rule WindingState.new s1.active.toList := by
    unfold Wtot Wat
    rw [e1, e2, List.take_of_length_le (by simp)]
  refine ⟨coh_of_min hk.live ?_ (by rw [Wtot_isIn, e3, e2]; exact hk3)
    ((K4upto_iff _).mp (by rw [e3, e2]; exact hk4)) (e3 ▸ hmz), hk.tol⟩
  have hg := (Wat_good s s.active.size).ge
  change -1 ≤ (Wtot s).spanIndex at hg
  rw [hsz]
  unfold keepOf
  rw [hsw, ← e4]
  omega

theorem recSpans_coh (s1 : St α) (tol : α) (hmz : MZl (sigs s1))
    (hk4 : K4upto s1.rule (sigs s1) (sigs s1).length) (hk3 : s1.rule.isIn (gsum (sigs s1)) = false) :
    ⦃fun s => ⌜Keep s1.active s1.rule tol s⌝⦄ (recSpans s1 : SM α Unit)
    ⦃safePost A fun _ s3 => Coh s3 ∧ s3.tolerance = tol⦄ :=
  safe_conseq fun _ hs => ⟨_, _, ⟨safe_iff.mpr ⟨hs.live, hs.tol⟩, hs.rule⟩, recSpans_spec s1 tol s1.rule,
    fun _ s3 _ h => final_coh s1 tol hmz hk4 hk3 s3 h.1 h.2⟩

theorem recoverFromError_coh_at (hNaN : NoNaN α ∨ mNaN ∈ A) (s0 : St α) (hc : Coh s0) (tol : α)
    (ht : s0.tolerance = tol) :
    ⦃fun s => ⌜Fr s0 s⌝⦄ (recoverFromError : SM α Unit)
    ⦃safePost A fun _ s3 => Coh s3 ∧ s3.tolerance = tol⦄ := by
  rw [recoverFromError_eq]
  have h2 := sortActiveEdges_coh (A := A) hNaN s0 hc.mz
  have h3 := fun c (_ : Decidable c) k => (OnlyCov.markIf (α := α) c k).spec
  mvcgen [mark, h2, h3]
  case vc2 s hs =>
    exact fun c _ => recSpans_coh s tol hs.mz (by rw [hs.rule]; exact hs.k4)
      (by rw [hs.rule, hs.sum, ← Wtot_isIn]; exact hc.out) (s.setCov c) ⟨rfl, rfl, hs.tol.trans ht, hs.spans ▸ hc.live⟩

/-- `recover_from_error` re-establishes the coherence invariant (or ends in an allowed failure:
`Err(MergeVertexOutside)`, fuel, unmodelled sort, or the NaN-key panic of the sort) -/
theorem recoverFromError_coh (hNaN : NoNaN α ∨ mNaN ∈ A) (tol : α) :
    ⦃fun s => ⌜Coh s ∧ s.tolerance = tol⌝⦄ (recoverFromError : SM α Unit)
    ⦃safePost A fun _ s3 => Coh s3 ∧ s3.tolerance = tol⦄ := by
  intro s hs
  exact recoverFromError_coh_at hNaN s hs.1 tol hs.2 s ⟨rfl, rfl, rfl, rfl⟩

end Lyon.SweepCoh
