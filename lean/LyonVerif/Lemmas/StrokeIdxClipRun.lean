/-
  Index validity for the complete stroker model: the fixed-width step function keeps the window
  invariant together with the LINK of `Lemmas/StrokeIdxRun.lean` (second-newest endpoint's side points vs.
  the newest endpoint's position), given the arithmetic facts `LinkReg` (discharged over ordered fields
  in `Lemmas/StrokeIdxClipLink.lean`).  Everything in this file is discrete and holds for every scalar
  type.  Fixed width only: with a variable width `Reg` is already proved for every join.  The invariant
  `Inv` is used with the trivial side-point relation `TrivG`.
-/
import LyonVerif.Lemmas.StrokeIdxCls

set_option linter.unusedSectionVars false

namespace Lyon.C05c
open Lyon Scalar Lyon.Stroke Lyon.Stroke.Full Lyon.C05 Lyon.C05b

section
variable {α : Type} [Scalar α] [Transc α]

def TrivG : P α → P α → P α → Prop := fun _ _ _ => True

/-- the arithmetic facts the fixed-width id logic needs, with the link: every function that writes
`pos.next` / `neg.next` of the point that becomes second-newest establishes `S` towards the pushed
point; under `W`, `flattened_step` does not answer "skip" -/
structure LinkReg (e : Env α) (c : Cls α) (S W : P α → P α → P α → P α → Prop) : Prop where
  law : LinkLaw e.thr S W
  first : ∀ first next : EP α, pointsAreTooClose e.thr first.position next.position = false →
    LK S (firstEdgeSetup first next).1 next.position
  joinFw : ∀ prev join next : EP α, c.F join →
    pointsAreTooClose e.thr join.position next.position = false →
    LK S (joinSidesFw e.ix prev join next e.o.miterLimit join.halfWidth) next.position
  flat : ∀ (prev join next : EP α) (d : VData α) (o : Out α),
    pointsAreTooClose e.thr join.position next.position = false →
    LK S (flattenedStep prev join next d o).join next.position
  noskip : ∀ (prev join next : EP α) (d : VData α) (o : Out α), LK W prev join.position →
    fastPath prev join next = true → (flattenedStep prev join next d o).skip = false

variable {c : Cls α} {S W : P α → P α → P α → P α → Prop}

theorem fwStep_specL {e : Env α} (hreg : LinkReg e c S W) :
    StepSpecL e.thr c TrivG S W (fwStep e) :=
  fwStep_specGL ⟨fun f n => ⟨trivial, hreg.first f n⟩, fun p j n hF => ⟨trivial, hreg.joinFw p j n hF⟩,
    fun p j n d o => ⟨trivial, hreg.flat p j n d o⟩,
    fun p j n d o _ hW _ hfp => hreg.noskip p { j with lineJoin := .miter } n d o hW hfp⟩

end

section Events
variable {α : Type} [Scalar α] [Transc α] [Asin α] [FlatConst α] {c : Cls α}
  {S W : P α → P α → P α → P α → Prop}

theorem envStep_specL {e : Env α} (hreg : LinkReg e c S W) (hfw : e.o.varWidth = false) :
    StepSpecL e.thr c TrivG S W e.step := by
  unfold Env.step
  rw [hfw]
  simpa using fwStep_specL hreg

/-- the whole run (fixed width) under `LinkReg`: every triangle emitted, at the moment it is emitted,
refers to three distinct vertices that have been emitted before; every vertex is of the class -/
theorem runEvents_specL {e : Env α} (hreg : LinkReg e c S W) (hfw : e.o.varWidth = false)
    (store : Nat → List α) {K : Nat → Prop} (hk : K unset)
    (evs : List (IdEv α)) (hev : ∀ ev ∈ evs, EvOK e store c K ev) :
    RInvL e c TrivG S K (runEvents e store evs) :=
  runEvents_link (envStep_specL hreg hfw) hreg.law store hk evs hev

end Events

end Lyon.C05c
