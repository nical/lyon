/-
  The convex-hull certificate of the exact flattening checker (`chkHull`,
  Model/Geom/FlattenCertExact.lean): the band `{p | sqDistSeg p a b ≤ d}` of a segment is convex
  (`Slab.lerpClosed_band`), so a Bézier point over a sub-range lies in it when the control points of
  `split_range` of that sub-range do (`Hull.quad_mem`, `Hull.cubic_mem`: `HullLaw`); `hull_sound` is the
  soundness of the checker for every curve with a hull law.
-/
import LyonVerif.Lemmas.FlattenCertExactList
import LyonVerif.Props.C10

set_option linter.unusedSectionVars false

namespace Lyon.FlatChk
open Lyon Scalar Lyon.Flat

variable {K : Type} [Field K] [LinearOrder K] [IsStrictOrderedRing K]

/-- `split_range(t0..t1)` of a quadratic is the quadratic re-parametrised -/
theorem quad_split_range_sample (q : Quad K) (t0 t1 u : K) :
    (q.splitRange t0 t1).sample u = q.sample (t0 + u * (t1 - t0)) := by
  rw [C10.quad_split_range_sample, mul_comm]

/-- what `chkHull` needs from the curve: the control points of a sub-range bound the curve over it -/
def HullLaw (sample : K → P K) (ctrl : K → K → List (P K)) : Prop :=
  ∀ (a b : P K) (d τ0 τ1 u : K), 0 ≤ u → u ≤ 1 →
    (∀ p ∈ ctrl τ0 τ1, Slab.sqDistSeg p a b ≤ d) → Slab.sqDistSeg (sample (τ0 + u * (τ1 - τ0))) a b ≤ d

theorem quad_hull_law (q : Quad K) : HullLaw q.sample (quadCtrl q) := by
  intro a b d τ0 τ1 u h0 h1 h
  rw [← quad_split_range_sample]
  simp only [quadCtrl, List.mem_cons, List.not_mem_nil, or_false, forall_eq_or_imp, forall_eq] at h
  exact Hull.quad_mem (Slab.lerpClosed_band a b d) _ h0 h1 h.1 h.2.1 h.2.2

theorem cubic_hull_law (c : Cubic K) : HullLaw c.sample (cubicCtrl c) := by
  intro a b d τ0 τ1 u h0 h1 h
  rw [← cubic_split_range_sample]
  simp only [cubicCtrl, List.mem_cons, List.not_mem_nil, or_false, forall_eq_or_imp, forall_eq] at h
  exact Hull.cubic_mem (Slab.lerpClosed_band a b d) _ h0 h1 h.1 h.2.1 h.2.2.1 h.2.2.2

theorem range_covered_sound (sample : K → P K) (ctrl : K → K → List (P K)) (hl : HullLaw sample ctrl)
    (r2 : K) (cands : List (FlatSeg K)) (t0 t1 : K) (m : Nat) (hm : 0 < m)
    (h : rangeCovered ctrl r2 cands t0 t1 m = true) (s : K) (hs0 : 0 ≤ s) (hs1 : s ≤ 1) :
    ∃ sg ∈ cands, Slab.sqDistSeg (sample (t0 + s * (t1 - t0))) sg.a sg.b ≤ r2 := by
  have hmK : (0 : K) < (m : K) := by exact_mod_cast hm
  obtain ⟨j, hj, hu0, hu1⟩ := Hull.unit_parts m hm hs0 hs1
  simp only [rangeCovered, List.all_eq_true, List.mem_range, List.any_eq_true, ptsNear,
    decide_eq_true_eq] at h
  obtain ⟨sg, hsg, hpts⟩ := h j hj
  refine ⟨sg, hsg, ?_⟩
  have := hl sg.a sg.b r2 (subParam t0 t1 m j) (subParam t0 t1 m (j+1)) (s * m - j) hu0 hu1 hpts
  have e : subParam t0 t1 m j + (s * m - j) * (subParam t0 t1 m (j+1) - subParam t0 t1 m j)
      = t0 + s * (t1 - t0) := by
    simp only [subParam, ofNat_eq]
    push_cast
    field_simp
    ring
  rw [e] at this
  exact this

theorem window_sub (all : List (FlatSeg K)) (w i : Nat) (x : FlatSeg K) (h : x ∈ window all w i) : x ∈ all :=
  List.mem_of_mem_drop (List.mem_of_mem_take h)

theorem hullAll_spec (ctrl : K → K → List (P K)) (r2 : K) (ms : List Nat) (w : Nat) (all l : List (FlatSeg K))
    (i : Nat) (hsub : ∀ x ∈ l, x ∈ all) (h : hullAll ctrl r2 ms w all l i = true) :
    ∀ sg ∈ l, ∃ cands : List (FlatSeg K), (∀ x ∈ cands, x ∈ all) ∧ chordHullOK ctrl r2 ms cands sg = true := by
  induction l generalizing i with
  | nil => intro sg hsg; cases hsg
  | cons y r ih =>
    simp only [hullAll, Bool.and_eq_true] at h
    intro sg hsg
    rcases List.mem_cons.mp hsg with rfl | hsg
    · refine ⟨candidates all w i sg, ?_, h.1⟩
      intro x hx
      simp only [candidates, List.mem_cons] at hx
      rcases hx with rfl | hx
      · exact hsub _ List.mem_cons_self
      · exact window_sub all w i x hx
    · exact ih (i + 1) (fun x hx => hsub x (List.mem_cons_of_mem _ hx)) h.2 sg hsg

theorem hull_sound (sample : K → P K) (ctrl : K → K → List (P K)) (hl : HullLaw sample ctrl)
    (p0 p1 : P K) (r2 : K) (ms : List Nat) (w : Nat) (l : List (FlatSeg K))
    (h : chkHull sample ctrl p0 p1 r2 ms w l = true) :
    (l ≠ [] ∧ Chain p0 0 l ∧ lastPt p0 l = p1 ∧ lastT 0 l = 1
      ∧ ∀ sg ∈ l, 0 ≤ sg.t0 ∧ sg.t0 < sg.t1 ∧ sg.t1 ≤ 1)
    ∧ (∀ sg ∈ l, (sg.b - sample sg.t1).sqLen ≤ r2)
    ∧ ∀ t : K, 0 ≤ t → t ≤ 1 → ∃ sg ∈ l, ∃ s2 : K, 0 ≤ s2 ∧ s2 ≤ 1 ∧
        (sample t - sg.a.lerp sg.b s2).sqLen ≤ r2 := by
  simp only [chkHull, Bool.and_eq_true, sc_zero, sc_one] at h
  obtain ⟨⟨hch, hv⟩, hh⟩ := h
  have hst := chainOK_range p0 0 p1 1 l hch
  refine ⟨hst, ?_, ?_⟩
  · simp only [vtxNear, List.all_eq_true, decide_eq_true_eq] at hv
    exact hv
  · intro t ht0 ht1
    obtain ⟨sg, hsg, s, hs0, hs1, rfl⟩ := chain_cover p0 0 1 l hst.2.1 hst.1 hst.2.2.2.1 t ht0 ht1
    obtain ⟨cands, hc, hok⟩ := hullAll_spec ctrl r2 ms w l l 0 (fun x hx => hx) hh sg hsg
    simp only [chordHullOK, List.any_eq_true, Bool.and_eq_true, decide_eq_true_eq] at hok
    obtain ⟨m, _, hm, hcov⟩ := hok
    obtain ⟨sg2, hsg2, hd⟩ := range_covered_sound sample ctrl hl r2 cands sg.t0 sg.t1 m hm hcov s hs0 hs1
    exact ⟨sg2, hc sg2 hsg2, (Slab.sqDistSeg_le_iff _ sg2.a sg2.b r2).mp hd⟩

end Lyon.FlatChk
