/-
  Index validity for the complete stroker model: the standard endpoint classes (sources
  that name endpoints / edges of the input, the fixed half width) and the discharge of the event
  hypotheses `EvOK` for them; the discrete instance of `Reg` for polylines (`reg_polyline`) and the one for variable
  width from `SkipApart` alone (`reg_variable`).
-/
import LyonVerif.Lemmas.StrokeIdxRun

set_option linter.unusedSectionVars false

namespace Lyon.C05c
open Lyon Scalar Lyon.Stroke Lyon.Stroke.Full Lyon.C05 Lyon.C05b

section
variable {α : Type} [Scalar α]

/-- the endpoint id an event introduces -/
def evId : IdEv α → List Nat
  | .begin id _ => [id]
  | .line id _ => [id]
  | .quad _ id _ => [id]
  | .cubic _ _ id _ => [id]
  | .end_ _ => []

/-- all endpoint ids of an event list -/
def evIds (evs : List (IdEv α)) : List Nat := evs.flatMap evId

theorem evId_mem {evs : List (IdEv α)} {ev : IdEv α} (h : ev ∈ evs) {id : Nat} (hid : id ∈ evId ev) :
    id ∈ evIds evs := List.mem_flatMap.mpr ⟨ev, h, hid⟩

/-- the event is no curve; `IsPolyline evs` is `∀ ev ∈ evs, NoCurve ev` written out -/
def NoCurve : IdEv α → Prop
  | .quad _ _ _ => False
  | .cubic _ _ _ _ => False
  | _ => True

/-- no curve events -/
def IsPolyline (evs : List (IdEv α)) : Prop :=
  ∀ ev ∈ evs, match ev with
    | .quad _ _ _ => False
    | .cubic _ _ _ _ => False
    | _ => True

/-- a vertex source that names an endpoint of the input, or an edge between two of them (`from`
is the id of the event before the curve; `unset` = `EndpointId::INVALID` only if the event list
starts with a curve) -/
def SrcOK (ids : List Nat) : Src α → Prop
  | .endpoint id => id ∈ ids
  | .edge a b _ => (a ∈ ids ∨ a = unset) ∧ b ∈ ids

end

section
variable {α : Type} [Scalar α] [Transc α]

/-- `base_width * attributes.get(id)[attrib_index]` … as in `Env.widthOf` / `hwOf` / `hwAt`, without
the `Asin` / `FlatConst` classes those carry along -/
def hwOfId (e : Env α) (store : Nat → List α) (id : Nat) : α :=
  if e.o.varWidth then (e.o.lineWidth * (store id).getD e.o.varIdx nan) * half else e.o.lineWidth * half
def hwAtT (e : Env α) (store : Nat → List α) (a b : Nat) (t : α) : α :=
  if e.o.varWidth then
    ((e.o.lineWidth * (store a).getD e.o.varIdx nan) * (one - t) + (e.o.lineWidth * (store b).getD e.o.varIdx nan) * t) * half
  else e.o.lineWidth * half

/-- the half width a vertex carries is the one its source has in the input: an endpoint's own width
(`line_width * attribute * 0.5`, or `line_width * 0.5`), or the interpolated width
`(w_from * (1 - t) + w_to * t) * 0.5` of a point of a curve (the end point of a curve gets the
value interpolated at the last flattening parameter) -/
def HwOK (e : Env α) (store : Nat → List α) : Src α → α → Prop
  | .endpoint id, hw => hw = hwOfId e store id ∨ ∃ a t, hw = hwAtT e store a id t
  | .edge a b t, hw => hw = hwAtT e store a b t

/-- what every emitted vertex satisfies: its source names an endpoint / an edge of the input, its
half width is the source's, and is `line_width * 0.5` when the line width is fixed -/
def VertexOK (e : Env α) (store : Nat → List α) (ids : List Nat) (s : Src α) (hw : α) : Prop :=
  SrcOK ids s ∧ (e.o.varWidth = false → hw = e.o.lineWidth * half) ∧ HwOK e store s hw

/-- the standard class: `VertexOK`; `D` constrains `(is_flattening_step, line_join)` -/
def stdCls (e : Env α) (store : Nat → List α) (ids : List Nat) (D : Bool → LineJoin → Prop)
    (hD : ∀ f lj, D f lj → D f .miter) : Cls α where
  C := VertexOK e store ids
  D := D
  miter := hD

/-- polylines: no endpoint of the class is a flattening step, so `flattened_step` is never called: the
discrete instance of `Reg` (any scalar type, fixed or variable width) -/
theorem reg_polyline (e : Env α) (c : Cls α) (hc : ∀ f lj, c.D f lj → f = false) :
    Reg e c (fun _ _ _ => True) where
  first := fun _ _ => trivial
  joinFw := fun _ _ _ _ _ => trivial
  flat := fun _ _ _ _ _ => trivial
  noskip := fun _ prev join next _ _ _ hF hfp => by
    have h := fastPath_flat hfp; rw [hc _ _ hF.2] at h; cases h
  vw := fun _ => ⟨fun _ _ _ => trivial, fun prev join next hF hfp => by
    have h := fastPath_flat hfp; rw [hc _ _ hF.2] at h; cases h⟩

/-- variable width with curves: `SkipApart` is the only arithmetic fact needed -/
theorem reg_variable (e : Env α) (c : Cls α) (hvw : e.o.varWidth = true) (hap : SkipApart e.thr) :
    Reg e c (fun _ _ _ => True) where
  first := fun _ _ => trivial
  joinFw := fun _ _ _ _ _ => trivial
  flat := fun _ _ _ _ _ => trivial
  noskip := by intro h; rw [hvw] at h; cases h
  vw := fun _ => ⟨fun _ _ _ => trivial, fun prev join next _ hfp t1 t2 => skipApart_vw hap prev join next hfp t1 t2⟩

variable [Asin α] [FlatConst α]

theorem hwOf_eq (e : Env α) (store : Nat → List α) (id : Nat) : e.hwOf store id = hwOfId e store id := rfl

theorem hwAt_eq (e : Env α) (store : Nat → List α) (a b : Nat) (t : α) :
    e.hwAt store a b t = hwAtT e store a b t := rfl

theorem hwOfId_fixed (e : Env α) (store : Nat → List α) (id : Nat) (h : e.o.varWidth = false) :
    hwOfId e store id = e.o.lineWidth * half := by
  unfold hwOfId; simp [h]

theorem hwAtT_fixed (e : Env α) (store : Nat → List α) (a b : Nat) (t : α) (h : e.o.varWidth = false) :
    hwAtT e store a b t = e.o.lineWidth * half := by
  unfold hwAtT; simp [h]

theorem evOK_of {e : Env α} {store : Nat → List α} {c : Cls α} {K : Nat → Prop} (ev : IdEv α)
    (hcv : ¬ NoCurve ev →
      ∀ id ∈ evId ev, ∀ cur, K cur → ∀ pos t flat,
        c.F (EP.mk' pos (e.hwAt store cur id t) nan e.o.join
          (if t == one then .endpoint id else .edge cur id t) flat))
    (hK : ∀ id ∈ evId ev, K id)
    (hpt : ∀ id ∈ evId ev, ∀ p adv, c.F (EP.mk' p (e.hwOf store id) adv e.o.join (.endpoint id) false)) :
    EvOK e store c K ev := by
  cases ev with
  | begin id p => exact ⟨fun adv => hpt id (by simp [evId]) p adv, hK id (by simp [evId])⟩
  | line id p => exact ⟨hpt id (by simp [evId]) p nan, hK id (by simp [evId])⟩
  | quad ctrl id p =>
    refine ⟨fun cur curPos l hk hq q hql => ?_, hK id (by simp [evId])⟩
    obtain ⟨_, _, _, rfl⟩ := quadPoints_mem hq q hql
    exact hcv (by simp [NoCurve]) id (by simp [evId]) cur hk _ _ _
  | cubic c1 c2 id p =>
    refine ⟨fun cur curPos l hk hq q hql => ?_, hK id (by simp [evId])⟩
    obtain ⟨_, _, _, rfl⟩ := cubicPoints_mem hq q hql
    exact hcv (by simp [NoCurve]) id (by simp [evId]) cur hk _ _ _
  | end_ cl => trivial

theorem evOK_std (e : Env α) (store : Nat → List α) (evs : List (IdEv α))
    (D : Bool → LineJoin → Prop) (hD : ∀ f lj, D f lj → D f .miter)
    (hD0 : D false e.o.join) (hD1 : (∀ f, D f e.o.join) ∨ IsPolyline evs) :
    ∀ ev ∈ evs, EvOK e store (stdCls e store (evIds evs) D hD) (fun id => id ∈ evIds evs ∨ id = unset) ev := by
  intro ev hev
  refine evOK_of ev (fun hcurve id hid cur hk pos t flat => ?_) (fun id hid => Or.inl (evId_mem hev hid))
    (fun id hid p adv => ⟨⟨evId_mem hev hid, fun h => by rw [hwOf_eq]; exact hwOfId_fixed e store id h,
      Or.inl (hwOf_eq e store id)⟩, hD0⟩)
  rcases hD1 with hD1 | hp
  swap
  · exact absurd (hp _ hev) hcurve
  refine ⟨⟨?_, fun h => by rw [hwAt_eq]; exact hwAtT_fixed e store cur id t h, ?_⟩, hD1 _⟩
  · show SrcOK (evIds evs) (if t == one then Src.endpoint id else Src.edge cur id t)
    split_ifs
    · exact evId_mem hev hid
    · exact ⟨hk, evId_mem hev hid⟩
  · show HwOK e store (if t == one then Src.endpoint id else Src.edge cur id t) (e.hwAt store cur id t)
    split_ifs
    · exact Or.inr ⟨cur, t, hwAt_eq e store cur id t⟩
    · exact hwAt_eq e store cur id t

end

end Lyon.C05c
