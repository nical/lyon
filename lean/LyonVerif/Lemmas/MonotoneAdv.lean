/-
  C02 (`Props/C02c.lean`): the two-level scheme of `AdvancedMonotoneTessellator`, discrete part
  (holds for every scalar type, floats included).

  The doubling loop of `flush_side` (`flushLevel` / `flushLevels` of `Model/Tess/Monotone.lean`): at level `step`
  the live chain positions are the multiples of `step` below `len`, and a level removes the odd multiples
  (`flushLevel_eq`: one level in normal form, the ears at the odd multiples and the left-over triangle iff the
  number of live steps is odd; count, positions, area and the tiling of a level are read off it).  So a chain of
  `len` ids is cut into `len − 2` triangles, each on three positions `a < b < c < len` (`ChainTri`).

  The run: the invariant `InvL`, checked against the two moves of `Lemmas/MonotoneAdvWalk.lean`; `Adv.run` on
  `n ≥ 2` vertices emits `n − 2` triangles with three distinct ids each (`run_spec`); that the ids are `< n` is
  `run_ids_lt` of `Lemmas/MonotoneIdsLt.lean`.

  One induction for every statement about a run: `afeed` feeds vertices with the ids in order and carries an
  invariant (`afeed_walk`, the instance of `C02.walk_gen`); a reached state is `afeed` from `begin` over a prefix of
  the middle vertices (`adv_prefix_ind`), and `Adv.run` closes the last of them with `end` (`adv_run_afeed`,
  `adv_run_ind`).
-/
import LyonVerif.Lemmas.MonotoneBasic
import LyonVerif.Lemmas.MonotoneAdvWalk

set_option linter.unusedSectionVars false
set_option linter.unusedVariables false

namespace Lyon.C02c
open Lyon Lyon.Mono Lyon.C02

/-- the ear at the odd multiple `i·2·step + step` -/
def mainTri (ev : Array Nat) (step : Nat) (right : Bool) (i : Nat) : Tri :=
  if right then (ev.getD (i * 2 * step + step) 0, ev.getD (i * 2 * step) 0, ev.getD (i * 2 * step + step + step) 0)
  else (ev.getD (i * 2 * step) 0, ev.getD (i * 2 * step + step) 0, ev.getD (i * 2 * step + step + step) 0)

/-- the left-over triangle `(0, b, c)` -/
def extraTri (ev : Array Nat) (right : Bool) (b c : Nat) : Tri :=
  if right then (ev.getD 0 0, ev.getD c 0, ev.getD b 0) else (ev.getD 0 0, ev.getD b 0, ev.getD c 0)

/-- **one level in normal form**: `n = (len−1)/step ≥ 2` live steps, `m = n/2` ears at the odd multiples; the
left-over triangle `(0, 2m·step, (2m+1)·step)` exists iff `n` is odd -/
theorem flushLevel_eq (ev : Array Nat) (len step : Nat) (right : Bool) (hs : 1 ≤ step) (hlt : step * 2 < len) :
    ∃ m, 1 ≤ m ∧ (len - 1) / (2 * step) = m ∧ m * (2 * step) ≤ len - 1 ∧
      (((len - 1) / step = 2 * m ∧ flushLevel ev len step right = (List.range m).map (mainTri ev step right)) ∨
       ((len - 1) / step = 2 * m + 1 ∧ m * (2 * step) + step < len ∧
          flushLevel ev len step right =
            (List.range m).map (mainTri ev step right) ++ [extraTri ev right (m * (2 * step)) (m * (2 * step) + step)])) := by
  have hq2 : (len - 1) / (2 * step) = (len - 1) / step / 2 := by
    rw [Nat.div_div_eq_div_mul, Nat.mul_comm]
  have hm1 : 1 ≤ (len - 1) / (2 * step) := by
    rw [Nat.le_div_iff_mul_le (by omega)]; omega
  have hmul : (len - 1) / step * step ≤ len - 1 := Nat.div_mul_le_self _ _
  obtain ⟨m', hm'⟩ : ∃ m', (len - 1) / (2 * step) = m' + 1 := ⟨(len - 1) / (2 * step) - 1, by omega⟩
  have hm2 : (len - 1) / step = 2 * (m' + 1) ∨ (len - 1) / step = 2 * (m' + 1) + 1 := by omega
  have e1 : m' * 2 * step + step + step = (m' + 1) * (2 * step) := by
    rw [Nat.add_mul, Nat.mul_assoc]; omega
  have e2 : (2 * (m' + 1) + 1) * step = (m' + 1) * (2 * step) + step := by
    rw [Nat.add_mul, Nat.mul_comm 2 (m' + 1), Nat.mul_assoc]; omega
  refine ⟨m' + 1, by omega, hm', by rw [← hm']; exact Nat.div_mul_le_self _ _, ?_⟩
  have h0 : (m' + 1 == 0) = false := by simp
  unfold flushLevel
  simp only [hm', h0, Bool.false_eq_true, if_false, Nat.add_sub_cancel, e1]
  rcases hm2 with hm2 | hm2
  · left
    have hno : ¬ ((m' + 1) * (2 * step) + step < len) := by
      intro hh
      have := (Nat.le_div_iff_mul_le (by omega : 0 < step)).mpr (show (2 * (m' + 1) + 1) * step ≤ len - 1 by omega)
      omega
    rw [if_neg hno, List.append_nil]
    exact ⟨hm2, rfl⟩
  · right
    have hyes : (m' + 1) * (2 * step) + step < len := by
      rw [hm2, e2] at hmul; omega
    rw [if_pos hyes]
    exact ⟨hm2, hyes, rfl⟩

/-- a level emits as many triangles as it halves the number of live steps, at least one of which remains -/
theorem flushLevel_length (ev : Array Nat) (len step : Nat) (right : Bool) (hs : 1 ≤ step) (hlt : step * 2 < len) :
    (flushLevel ev len step right).length + (len - 1) / (2 * step) = (len - 1) / step ∧ 1 ≤ (len - 1) / (2 * step) := by
  obtain ⟨m, hm, e, _, ⟨e1, e2⟩ | ⟨e1, _, e2⟩⟩ := flushLevel_eq ev len step right hs hlt <;>
    simp only [e2, e, e1, List.length_append, List.length_map, List.length_range, List.length_cons, List.length_nil] <;>
    omega

theorem flushLevels_length (ev : Array Nat) (len : Nat) (right : Bool) (fuel step : Nat)
    (hs : 1 ≤ step) (hf : len ≤ step + fuel) :
    (flushLevels ev len right fuel step).length = (len - 1) / step - 1 := by
  induction fuel generalizing step with
  | zero =>
    simp only [flushLevels, List.length_nil]
    have : (len - 1) / step = 0 := Nat.div_eq_of_lt (by omega)
    omega
  | succ fuel ih =>
    simp only [flushLevels]
    split
    · rename_i hlt
      have := flushLevel_length ev len step right hs hlt
      rw [List.length_append, ih (step * 2) (by omega) (by omega), Nat.mul_comm step 2]
      omega
    · rename_i hge
      have : (len - 1) / step < 2 := by
        rw [Nat.div_lt_iff_lt_mul (by omega)]; omega
      simp only [List.length_nil]
      omega

theorem flushLevels_count (ev : Array Nat) (len : Nat) (right : Bool) :
    (flushLevels ev len right (len + 1) 1).length = len - 2 := by
  rw [flushLevels_length ev len right (len + 1) 1 (by omega) (by omega), Nat.div_one]
  omega

/-- `t` is a triangle on three chain entries with increasing indices `a < b < c < len`, listed in
increasing order on the left side and in an odd permutation of it on the right side (both shapes
`flush_side` uses: `(b, a, c)` in its main loop, `(a, c, b)` for the leftover triangle). -/
def ChainTri (ev : Array Nat) (len : Nat) (right : Bool) (t : Tri) : Prop :=
  ∃ a b c, a < b ∧ b < c ∧ c < len ∧
    (if right then t = (ev.getD b 0, ev.getD a 0, ev.getD c 0) ∨ t = (ev.getD a 0, ev.getD c 0, ev.getD b 0)
     else t = (ev.getD a 0, ev.getD b 0, ev.getD c 0))

theorem flushLevel_chainTri (ev : Array Nat) (len step : Nat) (right : Bool) (hs : 1 ≤ step)
    (hlt : step * 2 < len) : ∀ t ∈ flushLevel ev len step right, ChainTri ev len right t := by
  obtain ⟨m, hm, _, hle, hcase⟩ := flushLevel_eq ev len step right hs hlt
  have hmain : ∀ t ∈ (List.range m).map (mainTri ev step right), ChainTri ev len right t := by
    intro t ht
    obtain ⟨i, hi, rfl⟩ := List.mem_map.mp ht
    rw [List.mem_range] at hi
    have : (i + 1) * (2 * step) ≤ m * (2 * step) := Nat.mul_le_mul_right _ hi
    have e : (i + 1) * (2 * step) = i * 2 * step + step + step := by rw [Nat.add_mul, Nat.mul_assoc]; omega
    refine ⟨i * 2 * step, i * 2 * step + step, i * 2 * step + step + step, by omega, by omega, by omega, ?_⟩
    cases right <;> simp [mainTri]
  intro t ht
  rcases hcase with ⟨_, e⟩ | ⟨_, hx, e⟩ <;> rw [e] at ht
  · exact hmain t ht
  · rcases List.mem_append.mp ht with g | g
    · exact hmain t g
    · rw [List.mem_singleton] at g
      have : 0 < m * (2 * step) := Nat.mul_pos (by omega) (by omega)
      refine ⟨0, m * (2 * step), m * (2 * step) + step, this, by omega, hx, ?_⟩
      cases right <;> simp [g, extraTri]

theorem flushLevels_chainTri (ev : Array Nat) (len : Nat) (right : Bool) (fuel step : Nat) (hs : 1 ≤ step) :
    ∀ t ∈ flushLevels ev len right fuel step, ChainTri ev len right t := by
  induction fuel generalizing step with
  | zero => intro t ht; simp [flushLevels] at ht
  | succ fuel ih =>
    intro t ht
    simp only [flushLevels] at ht
    split at ht
    · rename_i hlt
      rcases List.mem_append.mp ht with h | h
      · exact flushLevel_chainTri ev len step right hs hlt t h
      · exact ih (step * 2) (by omega) t h
    · simp at ht

theorem flushLevels_ids (ev : Array Nat) (len : Nat) (right : Bool) :
    ∀ t ∈ flushLevels ev len right (len + 1) 1, ChainTri ev len right t :=
  flushLevels_chainTri ev len right (len + 1) 1 (by omega)

theorem chainTri_distinct (l : List Nat) (right : Bool) (hnd : l.Nodup) (t : Tri)
    (h : ChainTri l.toArray l.length right t) : TriDistinct t := by
  obtain ⟨a, b, c, hab, hbc, hc, h⟩ := h
  have g : ∀ i, i < l.length → l.toArray.getD i 0 = l[i]! := by
    intro i hi; simp [Array.getD, hi]
  have inj : ∀ i j, i < j → j < l.length → l[i]! ≠ l[j]! := by
    intro i j hij hj
    have hi : i < l.length := by omega
    simp only [getElem!_pos, hi, hj]
    exact (List.pairwise_iff_getElem.mp hnd) i j hi hj hij
  rw [g a (by omega), g b (by omega), g c hc] at h
  have h1 := inj a b hab (by omega)
  have h2 := inj b c hbc hc
  have h3 := inj a c (by omega) hc
  cases right
  · simp only [Bool.false_eq_true, if_false] at h
    subst h; exact ⟨h1, h2, h3⟩
  · simp only [if_true] at h
    rcases h with h | h <;> subst h
    · exact ⟨h1.symm, h3, h2⟩
    · exact ⟨h3, h2.symm, h1⟩

section Discrete
variable {α : Type} [Scalar α]

/-! ## the invariant of the two-level scheme

`k` vertices have been fed, with ids `0 … k−1`.  Every id is in exactly one place: in the inner
stack-tessellator (possibly already consumed by it), or pending in the tail of one side's buffered
chain.  The HEAD of a chain is the vertex the chain hangs from (already forwarded).  The count:
`triangles + inner stack + pending = k` (`off` is a slack in this clause; every statement below has `off = 0`). -/
structure InvL (tess : Basic α) (ea : List Nat) (la : Nat) (eb : List Nat) (lb : Nat) (k off : Nat) : Prop where
  top : ∃ rest, tess.stack = tess.previous :: rest
  snd : (tess.stack.map (·.id)).Nodup
  tri : ∀ t ∈ tess.tris, TriDistinct t
  nda : ea.Nodup
  ndb : eb.Nodup
  lasta : ea.getLast? = some la
  lastb : eb.getLast? = some lb
  taila : ∀ x ∈ ea.tail, x ∉ eb ∧ x ∉ tess.stack.map (·.id)
  tailb : ∀ x ∈ eb.tail, x ∉ ea ∧ x ∉ tess.stack.map (·.id)
  lta : ∀ x ∈ ea, x < k
  ltb : ∀ x ∈ eb, x < k
  lts : ∀ v ∈ tess.stack, v.id < k
  cnt : tess.tris.length + tess.stack.length + (ea.length - 1) + (eb.length - 1) = k + off

theorem InvL.symm {tess : Basic α} {ea eb : List Nat} {la lb k off : Nat} (h : InvL tess ea la eb lb k off) :
    InvL tess eb lb ea la k off :=
  { top := h.top, snd := h.snd, tri := h.tri, nda := h.ndb, ndb := h.nda, lasta := h.lastb, lastb := h.lasta,
    taila := h.tailb, tailb := h.taila, lta := h.ltb, ltb := h.lta, lts := h.lts,
    cnt := by have := h.cnt; omega }

theorem getLast_mem_tail (l : List Nat) (x : Nat) (h : l.getLast? = some x) (hl : 2 ≤ l.length) : x ∈ l.tail := by
  match l, hl with
  | a :: b :: r, _ =>
    simp only [List.tail_cons]
    rw [List.getLast?_cons_cons] at h
    exact List.mem_of_getLast? h

/-- flushing side `a` (≥ 2 buffered ids): its `len − 2` chain triangles go out, its last vertex is
forwarded to the inner tessellator, the chain restarts from that vertex. -/
theorem InvL.flushFwd {tess : Basic α} {ea eb : List Nat} {la lb k : Nat} (h : InvL tess ea la eb lb k 0)
    (hl : 2 ≤ ea.length) (tr : List Tri) (htr : tr.length = ea.length - 2)
    (hd : ∀ t ∈ tr, TriDistinct t) (mv : MV α) (hmv : mv.id = la) :
    InvL ((tess.pushTris tr).vertex mv) [la] la eb lb k 0 := by
  have hmem : la ∈ ea.tail := getLast_mem_tail ea la h.lasta hl
  have hla : la ∈ ea := List.mem_of_mem_tail hmem
  have hf := h.taila la hmem
  have vf := vertex_fresh (tess.pushTris tr) mv h.top h.snd
    (by intro t ht
        rcases List.mem_append.mp ht with g | g
        · exact h.tri t g
        · exact hd t g)
    (by rw [hmv]; exact hf.2)
  obtain ⟨v1, v2, v3, v4, v5⟩ := vf
  have hsub : ∀ x ∈ ((tess.pushTris tr).vertex mv).stack.map (·.id), x = la ∨ x ∈ tess.stack.map (·.id) := by
    intro x hx
    obtain ⟨v, hv, rfl⟩ := List.mem_map.mp hx
    rcases v4 v hv with g | g
    · exact Or.inl (g.trans hmv)
    · exact Or.inr g
  refine { top := v1, snd := v2, tri := v3, nda := by simp, ndb := h.ndb, lasta := rfl, lastb := h.lastb,
           taila := by simp, tailb := ?_, lta := ?_, ltb := h.ltb, lts := ?_, cnt := ?_ }
  · intro x hx
    have g := h.tailb x hx
    have hne : x ≠ la := fun e => g.1 (e ▸ hla)
    refine ⟨by simpa using hne, ?_⟩
    intro hx'
    rcases hsub x hx' with e | e
    · exact hne e
    · exact g.2 e
  · intro x hx
    simp only [List.mem_singleton] at hx
    exact hx ▸ h.lta la hla
  · intro v hv
    rcases hsub v.id (List.mem_map.mpr ⟨v, hv, rfl⟩) with e | e
    · rw [e]; exact h.lta la hla
    · obtain ⟨w, hw, hwid⟩ := List.mem_map.mp e
      rw [← hwid]; exact h.lts w hw
  · have := h.cnt
    have e1 : (tess.pushTris tr).tris.length = tess.tris.length + tr.length := by
      simp [Basic.pushTris]
    have e2 : (tess.pushTris tr).stack = tess.stack := rfl
    rw [e1, e2] at v5
    simp only [List.length_cons, List.length_nil]
    omega

theorem InvL.push {tess : Basic α} {ea eb : List Nat} {la lb k : Nat} (h : InvL tess ea la eb lb k 0) :
    InvL tess (ea ++ [k]) k eb lb (k + 1) 0 := by
  have hne : ea ≠ [] := by intro e; have := h.lasta; simp [e] at this
  have hlen := List.length_pos_iff.mpr hne
  have hka : k ∉ ea := fun g => Nat.lt_irrefl _ (h.lta k g)
  have hkb : k ∉ eb := fun g => Nat.lt_irrefl _ (h.ltb k g)
  have hks := fresh_of_lt h.lts
  refine { top := h.top, snd := h.snd, tri := h.tri, nda := ?_, ndb := h.ndb, lasta := by simp, lastb := h.lastb,
           taila := ?_, tailb := ?_, lta := ?_, ltb := ?_, lts := ?_, cnt := ?_ }
  · rw [List.nodup_append]
    refine ⟨h.nda, by simp, ?_⟩
    intro a ha b hb
    simp only [List.mem_singleton] at hb
    subst hb
    intro e; exact hka (e ▸ ha)
  · intro x hx
    rw [List.tail_append_of_ne_nil hne, List.mem_append, List.mem_singleton] at hx
    rcases hx with g | g
    · exact h.taila x g
    · subst g; exact ⟨hkb, hks⟩
  · intro x hx
    have g := h.tailb x hx
    refine ⟨?_, g.2⟩
    rw [List.mem_append, List.mem_singleton]
    rintro (e | e)
    · exact g.1 e
    · have := h.ltb x (List.mem_of_mem_tail hx); omega
  · intro x hx
    rw [List.mem_append, List.mem_singleton] at hx
    rcases hx with g | g
    · have := h.lta x g; omega
    · omega
  · intro x hx; have := h.ltb x hx; omega
  · intro v hv; have := h.lts v hv; omega
  · have := h.cnt
    simp only [List.length_append, List.length_cons, List.length_nil]
    omega

/-- the invariant on a triple (inner tessellator, one side, the other side) -/
def Inv3 (x : Trip α) (k : Nat) : Prop := InvL x.1 x.2.1.events x.2.1.last.id x.2.2.events x.2.2.last.id k 0

theorem flushSide_tris_distinct (s : SideEv α) (r : Bool) (hnd : s.events.Nodup) :
    ∀ t ∈ fanOf s r, TriDistinct t :=
  fun t ht => chainTri_distinct s.events r hnd t (flushLevels_ids _ _ r t ht)

theorem Inv3.symm {k : Nat} {t : Basic α} {a b : SideEv α} (h : Inv3 (t, a, b) k) : Inv3 (t, b, a) k :=
  InvL.symm (h : InvL t a.events a.last.id b.events b.last.id k 0)

theorem Inv3.ff {k : Nat} {t : Basic α} {a b a' b' : SideEv α} (h : Inv3 (t, a, b) k) (hl : 2 ≤ a.events.length)
    (r : Bool) (ha : a'.events = [a.last.id] ∧ a'.last = a.last) (hb : b'.events = b.events ∧ b'.last = b.last) :
    Inv3 (ffTess t a r, a', b') k := by
  have h0 : InvL t a.events a.last.id b.events b.last.id k 0 := h
  show InvL _ a'.events a'.last.id b'.events b'.last.id k 0
  rw [ha.1, ha.2, hb.1, hb.2]
  exact h0.flushFwd hl _ (flushLevels_count _ _ _) (flushSide_tris_distinct a r h0.nda) a.last rfl

theorem stepSides_inv (tess : Basic α) (a b : SideEv α) (dx : α) (p : P α) (l : Bool) (k : Nat)
    (h : Inv3 (tess, a, b) k) : Inv3 (stepSides tess a b dx p k l) (k + 1) :=
  stepSides_ind (J := fun t a b => Inv3 (t, a, b) k) (J' := fun t a b => Inv3 (t, a, b) (k + 1)) tess a b dx p k l h
    (fun t a b h hb _ => (h.symm.ff hb l (flushSide_restart b l hb) ⟨rfl, rfl⟩).symm)
    (fun t a b h ha _ => h.ff ha (!l) (flushSide_restart a (!l) ha) ⟨rfl, rfl⟩)
    (fun t' a' b' h _ => InvL.push h)

/-- the invariant on a whole `Adv` state -/
def AInv (st : Adv α) (k : Nat) : Prop := Inv3 (st.tess, st.left, st.right) k

theorem begin_inv (old : Adv α) (p : P α) : AInv (Adv.begin old p 0) 1 := by
  refine { top := ⟨[], rfl⟩, snd := by simp [Adv.begin, Basic.begin], tri := by simp [Adv.begin, Basic.begin],
           nda := by simp [Adv.begin], ndb := by simp [Adv.begin], lasta := rfl, lastb := rfl,
           taila := by simp [Adv.begin], tailb := by simp [Adv.begin], lta := by simp [Adv.begin],
           ltb := by simp [Adv.begin], lts := by simp [Adv.begin, Basic.begin], cnt := by simp [Adv.begin, Basic.begin] }

theorem vertex_inv (st : Adv α) (p : P α) (l : Bool) (k : Nat) (h : AInv st k) :
    AInv (st.vertex p k l) (k + 1) :=
  vertex_walk (I := fun _ t a b => Inv3 (t, a, b) k) (I' := fun _ t a b => Inv3 (t, a, b) (k + 1)) Inv3.symm Inv3.symm
    st p k l (fun t a b h dx _ => stepSides_inv t (updSide a p l) b dx p l k (by cases l <;> exact h)) h

/-- with nothing pending on either side, `end` of the inner tessellator closes the piece -/
theorem InvL.finish {tess : Basic α} {ea eb : List Nat} {la lb k : Nat} (h : InvL tess ea la eb lb k 0)
    (ha : ea.length < 2) (hb : eb.length < 2) (pos : P α) :
    (tess.end_ pos k).tris.length = k - 1 ∧ ∀ t ∈ (tess.end_ pos k).tris, TriDistinct t := by
  obtain ⟨rest, hst⟩ := h.top
  constructor
  · apply end_count
    refine ⟨by simp [hst], ?_⟩
    have := h.cnt; omega
  · exact (vertex_fresh tess ⟨pos, k, !tess.previous.left⟩ h.top h.snd h.tri (fresh_of_lt h.lts)).2.2.1

theorem end_inv (st : Adv α) (pos : P α) (k : Nat) (h : AInv st k) :
    (st.end_ pos k).tris.length = k - 1 ∧ ∀ t ∈ (st.end_ pos k).tris, TriDistinct t := by
  obtain ⟨t, a, b, hJ, ha, hb, hp⟩ := end_walk (J := fun t a b => Inv3 (t, a, b) k) st pos k h
    (fun t a b h ha _ => h.ff ha false (flushSide_restart a false ha) ⟨rfl, rfl⟩)
    (fun t a b h hb _ => (h.symm.ff hb true (flushSide_restart b true hb) ⟨rfl, rfl⟩).symm)
  have := InvL.finish hJ ha hb pos
  exact ⟨by rw [hp.length_eq, this.1], fun x hx => this.2 x (hp.mem_iff.mp hx)⟩

/-- ids `k, k+1, …` are assigned in feeding order -/
def afeed (s : Adv α) : Nat → List (P α × Bool) → Adv α
  | _, [] => s
  | k, (p, l) :: r => afeed (s.vertex p k l) (k + 1) r

theorem foldl_zipIdx_eq_afeed (vs : List (P α × Bool)) (s : Adv α) (k : Nat) :
    (vs.zipIdx k).foldl (fun s (pi : (P α × Bool) × Nat) => s.vertex pi.1.1 (pi.2 + 1) pi.1.2) s
      = afeed s (k + 1) vs := by
  induction vs generalizing s k with
  | nil => rfl
  | cons v r ih =>
    obtain ⟨p, l⟩ := v
    simp only [List.zipIdx_cons, List.foldl_cons, afeed]
    exact ih _ (k + 1)

theorem afeed_walk {IA : Nat → Adv α → Prop} (vs : List (P α × Bool)) (st : Adv α) (k : Nat)
    (step : ∀ i (hi : i < vs.length) st', IA (k + i) st' → IA (k + i + 1) (st'.vertex vs[i].1 (k + i) vs[i].2))
    (h : IA k st) : IA (k + vs.length) (afeed st k vs) :=
  walk_gen (fun s v k => s.vertex v.1 k v.2) afeed (fun _ _ => rfl) (fun _ _ _ _ => rfl) vs st k step h

/-- one more vertex: the recursion of a reached state -/
theorem afeed_snoc (vs : List (P α × Bool)) (s : Adv α) (k : Nat) (v : P α × Bool) :
    afeed s k (vs ++ [v]) = (afeed s k vs).vertex v.1 (k + vs.length) v.2 := by
  induction vs generalizing s k with
  | nil => simp [afeed]
  | cons w r ih =>
    simp only [List.cons_append, afeed, List.length_cons]
    rw [ih, show k + 1 + r.length = k + (r.length + 1) by omega]

theorem afeed_inv (vs : List (P α × Bool)) (s : Adv α) (k : Nat) (h : AInv s k) :
    AInv (afeed s k vs) (k + vs.length) :=
  afeed_walk (IA := fun k s => AInv s k) vs s k (fun i _ st' h' => vertex_inv st' _ _ (k + i) h') h

/-- `Adv.run` is `afeed` over the middle vertices, closed by `end` -/
theorem adv_run_afeed (v0 ve : P α × Bool) (mids : List (P α × Bool)) :
    Adv.run (v0 :: (mids ++ [ve])) = ((afeed (Adv.begin Adv.new v0.1 0) 1 mids).end_ ve.1 (mids.length + 1)).tris := by
  obtain ⟨x, xs, e, e1, e2, e3⟩ := snoc_facts mids ve
  rw [e]
  simp only [Adv.run, e1, e2, foldl_zipIdx_eq_afeed, Option.map_some, Option.getD_some, Nat.zero_add]
  rw [e3]

/-- **induction over the states of a run of the advanced tessellator**: `I k s` ("`s` is a state after `k` vertices")
holds of `begin` and is kept by the `vertex` call for every middle vertex; then it holds of every reached state,
`afeed` over a prefix of the middle vertices (`afeed_walk` along that prefix) -/
theorem adv_prefix_ind (seq : List (P α × Bool)) (h2 : 2 ≤ seq.length) (I : Nat → Adv α → Prop)
    (h0 : ∀ v, seq[0]? = some v → I 1 (Adv.begin Adv.new v.1 0))
    (hstep : ∀ k s v, I k s → 1 ≤ k → k + 1 < seq.length → seq[k]? = some v → I (k + 1) (s.vertex v.1 k v.2))
    (v0 : P α × Bool) (hv0 : seq[0]? = some v0) (i : Nat) :
    I (1 + ((seq.tail.take (seq.tail.length - 1)).take i).length)
      (afeed (Adv.begin Adv.new v0.1 0) 1 ((seq.tail.take (seq.tail.length - 1)).take i)) := by
  obtain ⟨w0, ve, e⟩ := seq_split seq h2
  generalize seq.tail.take (seq.tail.length - 1) = mids at e ⊢
  subst e
  obtain ⟨g1, _, _⟩ := split_getElem w0 ve mids
  refine afeed_walk (mids.take i) _ 1 (fun j hj s' h' => ?_) (h0 _ hv0)
  have hj' : j < mids.length := by simp only [List.length_take] at hj; omega
  have := hstep (1 + j) s' mids[j] h' (by omega) (by simp; omega) (g1 j hj')
  simpa only [List.getElem_take] using this

/-- the same for the whole run: the state that `end` closes is the last of them -/
theorem adv_run_ind (seq : List (P α × Bool)) (h2 : 2 ≤ seq.length) (I : Nat → Adv α → Prop)
    (h0 : ∀ v, seq[0]? = some v → I 1 (Adv.begin Adv.new v.1 0))
    (hstep : ∀ k s v, I k s → 1 ≤ k → k + 1 < seq.length → seq[k]? = some v → I (k + 1) (s.vertex v.1 k v.2)) :
    ∃ s v, I (seq.length - 1) s ∧ seq[seq.length - 1]? = some v ∧
      Adv.run seq = (s.end_ v.1 (seq.length - 1)).tris := by
  have hp := adv_prefix_ind seq h2 I h0 hstep
  obtain ⟨v0, ve, e⟩ := seq_split seq h2
  generalize seq.tail.take (seq.tail.length - 1) = mids at e hp
  subst e
  obtain ⟨_, g2, g3⟩ := split_getElem v0 ve mids
  have := hp v0 rfl mids.length
  rw [List.take_length] at this
  rw [g3]
  exact ⟨_, ve, this, g2, by rw [adv_run_afeed, Nat.add_comm]⟩

theorem run_spec (seq : List (P α × Bool)) :
    (2 ≤ seq.length → (Adv.run seq).length = seq.length - 2) ∧ ∀ t ∈ Adv.run seq, TriDistinct t := by
  by_cases h2 : 2 ≤ seq.length
  · obtain ⟨s, v, hI, _, e⟩ := adv_run_ind seq h2 (fun k s => AInv s k) (fun v _ => begin_inv Adv.new v.1)
      (fun k s v h _ _ _ => vertex_inv s v.1 v.2 k h)
    have := end_inv s v.1 _ hI
    rw [e]
    exact ⟨fun _ => by rw [this.1]; omega, this.2⟩
  · rw [(run_short seq h2).2]; exact ⟨fun h => absurd h h2, by simp⟩

end Discrete

end Lyon.C02c
