/-
  Sums of a function of directed edges over edge lists and over the closed outline of a point list
  (`Winding.subEdges`).  Winding number (`testSegment q`, in `ℤ`), shoelace sum (cross terms, in `K`) and the
  signed crossings of a horizontal line are such sums.  Three facts carry the C18 results about them:
  * a function that is a difference `φ b - φ a` sums to zero around a closed outline (`edgeSum_exact`);
  * flipping every edge negates the sum of an antisymmetric function (`edgeSum_flip`);
  * reversing the point list negates it too: the outline of the reversed list is a rotation of the flipped
    outline (`subEdges_reverse_sum`).
-/
import LyonVerif.Model.Algo.Winding
import Mathlib.Algebra.BigOperators.Group.List.Basic


namespace Lyon.C18
open Lyon Lyon.Winding

variable {K : Type} {M : Type} [AddCommGroup M]

theorem foldl_add {β : Type} (f : β → M) (l : List β) (acc : M) :
    l.foldl (fun a x => a + f x) acc = acc + (l.map f).sum := by
  induction l generalizing acc with
  | nil => simp
  | cons x r ih => simp only [List.foldl_cons, List.map_cons, List.sum_cons, ih, add_assoc]

section outline
variable (g : P K → P K → M)

def edgeSum (es : List (P K × P K)) : M := (es.map (fun e => g e.1 e.2)).sum

theorem edgeSum_append (a b : List (P K × P K)) : edgeSum g (a ++ b) = edgeSum g a + edgeSum g b := by
  simp [edgeSum]

theorem edgeSum_add (h : P K → P K → M) (es : List (P K × P K)) :
    edgeSum (fun a b => g a b + h a b) es = edgeSum g es + edgeSum h es := by
  simp only [edgeSum]; exact List.sum_map_add

theorem edgeSum_congr {g h : P K → P K → M} {es : List (P K × P K)}
    (H : ∀ e ∈ es, g e.1 e.2 = h e.1 e.2) : edgeSum g es = edgeSum h es := by
  simp only [edgeSum]; rw [List.map_congr_left H]

theorem edgeSum_eq_zero {es : List (P K × P K)} (H : ∀ e ∈ es, g e.1 e.2 = 0) : edgeSum g es = 0 :=
  List.sum_eq_zero fun x hx => by
    obtain ⟨e, he, rfl⟩ := List.mem_map.mp hx
    exact H e he

theorem edgeSum_map (f : P K × P K → P K × P K) (es : List (P K × P K)) :
    edgeSum g (es.map f) = edgeSum (fun a b => g (f (a, b)).1 (f (a, b)).2) es := by
  simp [edgeSum, List.map_map, Function.comp_def]

theorem edgeSum_flip (hg : ∀ a b, g b a = - g a b) (es : List (P K × P K)) :
    edgeSum g (es.map (fun e => (e.2, e.1))) = - edgeSum g es := by
  rw [edgeSum, edgeSum, List.sum_neg, List.map_map, List.map_map]
  exact congrArg List.sum (List.map_congr_left fun e _ => hg e.1 e.2)

theorem edgeSum_exact_from (φ : P K → M) (f u : P K) (r : List (P K)) :
    edgeSum (fun a b => φ b - φ a) (subEdgesFrom f (u :: r)) = φ f - φ u := by
  induction r generalizing u with
  | nil => simp [edgeSum, subEdgesFrom]
  | cons p r ih =>
    have := ih p
    simp only [edgeSum, subEdgesFrom, List.map_cons, List.sum_cons] at this ⊢
    rw [this, sub_add_sub_cancel']

theorem edgeSum_exact (φ : P K → M) (pts : List (P K)) :
    edgeSum (fun a b => φ b - φ a) (subEdges pts) = 0 := by
  cases pts with
  | nil => rfl
  | cons p r => rw [subEdges, edgeSum_exact_from, sub_self]

theorem subEdgesFrom_map (τ : P K → P K) (f : P K) (l : List (P K)) :
    subEdgesFrom (τ f) (l.map τ) = (subEdgesFrom f l).map (fun e => (τ e.1, τ e.2)) := by
  fun_induction subEdgesFrom f l with
  | case1 => rfl
  | case2 p => rfl
  | case3 p q r ih => simp only [List.map_cons, subEdgesFrom] at ih ⊢; rw [ih]

theorem subEdges_map (τ : P K → P K) (pts : List (P K)) :
    subEdges (pts.map τ) = (subEdges pts).map (fun e => (τ e.1, τ e.2)) := by
  cases pts with
  | nil => rfl
  | cons p r => exact subEdgesFrom_map τ p (p :: r)

/-- sum of `g` over the consecutive pairs of an OPEN point list; a closed outline is the chain of its points with the
first one repeated at the end (`subEdges_chain`), which is what lets reversal be read off `chain_reverse` -/
def chain : List (P K) → M
  | a :: b :: r => g a b + chain (b :: r)
  | _ => 0

theorem chain_split (l : List (P K)) (m : P K) (y : List (P K)) :
    chain g (l ++ m :: y) = chain g (l ++ [m]) + chain g (m :: y) := by
  induction l with
  | nil => simp [chain]
  | cons a l ih =>
    cases l with
    | nil => simp [chain]
    | cons b l' =>
      simp only [List.cons_append, chain] at ih ⊢
      rw [ih, add_assoc]

theorem chain_snoc_zero (f : P K) (hz : ∀ a, g a f = 0) (l : List (P K)) :
    chain g (l ++ [f]) = chain g l := by
  fun_induction chain g l with
  | case1 a b r ih => simp only [List.cons_append, chain] at ih ⊢; rw [ih]
  | case2 l h =>
    match l, h with
    | [], _ => rfl
    | [a], _ => simp [chain, hz]
    | a :: b :: r, h => exact absurd rfl (h a b r)

variable (hg : ∀ a b, g b a = - g a b)
include hg

theorem chain_reverse (l : List (P K)) : chain g l.reverse = - chain g l := by
  induction l with
  | nil => simp [chain]
  | cons a r ih =>
    cases r with
    | nil => simp [chain]
    | cons b r' =>
      have e : (a :: b :: r').reverse = r'.reverse ++ b :: [a] := by simp
      have e2 : r'.reverse ++ [b] = (b :: r').reverse := by simp
      rw [e, chain_split, e2, ih]
      simp only [chain, hg a b, add_zero]
      rw [neg_add_rev]

omit hg in
theorem subEdgesFrom_chain (f u : P K) (r : List (P K)) :
    edgeSum g (subEdgesFrom f (u :: r)) = chain g (u :: r ++ [f]) := by
  induction r generalizing u with
  | nil => simp [edgeSum, subEdgesFrom, chain]
  | cons p r ih =>
    have := ih p
    simp only [edgeSum, subEdgesFrom, List.map_cons, List.sum_cons, List.cons_append, chain] at this ⊢
    rw [this]

omit hg in
theorem subEdges_chain (a : P K) (r : List (P K)) :
    edgeSum g (subEdges (a :: r)) = chain g (a :: r ++ [a]) := by
  unfold subEdges; exact subEdgesFrom_chain g a a r

/-- **Reversing the point list of a sub-path negates the sum over its closed outline**: the outline
`z, w…, a, z` of the reversed list `z :: w ++ [a]` and the reversed outline `a, z, w…, a` are the
chain `z, w…, a` plus the edge `a z`, after resp. before it. -/
theorem subEdges_reverse_sum (pts : List (P K)) :
    edgeSum g (subEdges pts.reverse) = - edgeSum g (subEdges pts) := by
  cases pts with
  | nil => simp [subEdges, edgeSum]
  | cons a r =>
    rw [subEdges_chain, ← chain_reverse g hg, List.reverse_append, List.reverse_cons]
    generalize r.reverse = l
    cases l with
    | nil => rfl
    | cons z w =>
      rw [List.cons_append, subEdges_chain,
        show z :: (w ++ [a]) ++ [z] = (z :: w) ++ a :: [z] by simp, chain_split]
      simp only [chain, add_zero, List.cons_append, List.reverse_singleton]
      exact add_comm _ _

omit hg in
theorem sum_reversed_path (f : List (P K) → M) (hf : ∀ s, f s.reverse = - f s)
    (subs : List (List (P K))) :
    ((subs.reverse.map List.reverse).map f).sum = - (subs.map f).sum := by
  rw [List.map_map, List.map_reverse, List.sum_reverse, List.sum_neg, List.map_map]
  exact congrArg List.sum (List.map_congr_left fun s _ => hf s)

end outline

end Lyon.C18
