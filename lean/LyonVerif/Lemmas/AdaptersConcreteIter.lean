/-
  C16 with the concrete flatteners, iterator side (`Model/Path/AdaptersConcrete.lean`):
  the `Flattened` iterators of lyon_geom (`QuadIter`, `CubicIter` of `Model/Geom/Flatten.lean`),
  when they finish, end with the curve's stored end point — for EVERY scalar type whose `==`
  accepts `1 == 1` (all the cubic iterator needs: `t_inner == S::ONE`, repair e20d2048).
  These are statements about whole runs (`collectDone`), proved here by their own walk through
  `next`; C09's `quad_iter_final`, `cubic_iter_last_point` are about the single step and are not
  used.  `itTot` makes the iterator flattener total (`[to]` where lyon_geom panics or the fuel
  runs out) only so that `IterEndsAtTo`, which quantifies over all curves, can be shown to hold of
  lyon_geom's iterators (`C16.itTot_iterEndsAtTo`); no `…_concrete` theorem goes through it, they
  use `itModel_on_ends` on the curves met.
-/
import LyonVerif.Model.Path.AdaptersConcrete
import LyonVerif.Lemmas.AdaptersConcretePath


namespace Lyon.Adapt
open Lyon Lyon.Path Scalar

section iter_any
variable {α : Type} [Scalar α] [Transc α] [FlatConst α]

theorem quad_collect_of_done (f : Nat) (s : QuadIter α) (l : List (P α))
    (h : s.collectDone f = some l) : s.collect f = l := by
  fun_induction QuadIter.collectDone f s generalizing l with
  | case1 => cases h
  | case2 f s s' hn => rw [QuadIter.collect, hn]; exact Option.some.inj h
  | case3 f s p s' hn ih =>
    obtain ⟨l', hl', rfl⟩ := Option.map_eq_some_iff.1 h
    simp only [QuadIter.collect, hn, ih l' hl']

theorem cubic_collect_of_done (f : Nat) (s : CubicIter α) (l : List (P α))
    (h : s.collectDone f = some l) : s.collect f = l := by
  fun_induction CubicIter.collectDone f s generalizing l with
  | case1 => cases h
  | case2 f s s' hn => rw [CubicIter.collect, hn]; exact Option.some.inj h
  | case3 f s p s' hn ih =>
    obtain ⟨l', hl', rfl⟩ := Option.map_eq_some_iff.1 h
    simp only [CubicIter.collect, hn, ih l' hl']

/-- one step of the finished run of a quadratic's iterator: at the end it yields the stored `to`
and stops; before, the sample at `t_at_iteration(i)`, and the run goes on from `i + 1` -/
theorem quadIter_collectDone (f : Nat) (s : QuadIter α) (hd : s.done = false) (l : List (P α))
    (h : s.collectDone f = some l) :
    if s.atEnd = true then l = [s.curve.b]
    else ∃ f' l', f = f' + 1 ∧ ({ s with i := s.i + one } : QuadIter α).collectDone f' = some l' ∧
      l = s.curve.sample (s.params.tAt s.i) :: l' := by
  cases f with
  | zero => simp [QuadIter.collectDone] at h
  | succ f =>
    rw [QuadIter.collectDone] at h
    split
    · rename_i he
      have hn : s.next = (some s.curve.b, { s with done := true }) := by
        simp [QuadIter.next, hd, he]
      simp only [hn, Option.map_eq_some_iff] at h
      obtain ⟨l', hl', rfl⟩ := h
      cases f with
      | zero => simp [QuadIter.collectDone] at hl'
      | succ f' =>
        rw [QuadIter.collectDone] at hl'
        have hn' : ({ s with done := true } : QuadIter α).next = (none, { s with done := true }) := by
          simp [QuadIter.next]
        simp only [hn'] at hl'
        cases Option.some.inj hl'
        rfl
    · rename_i he
      have hn : s.next = (some (s.curve.sample (s.params.tAt s.i)), { s with i := s.i + one }) := by
        simp [QuadIter.next, hd, he]
      simp only [hn, Option.map_eq_some_iff] at h
      obtain ⟨l', hl', rfl⟩ := h
      exact ⟨f, l', rfl, hl', rfl⟩

theorem quadIter_done_ends (f : Nat) (s : QuadIter α) (hd : s.done = false) (l : List (P α))
    (h : s.collectDone f = some l) : ∃ l', l = l' ++ [s.curve.b] := by
  induction f generalizing s l with
  | zero => simp [QuadIter.collectDone] at h
  | succ f ih =>
    have := quadIter_collectDone _ s hd l h
    split at this
    · exact ⟨[], this⟩
    · obtain ⟨f', l', hf, hl', rfl⟩ := this
      cases hf
      obtain ⟨l'', rfl⟩ := ih { s with i := s.i + one } hd l' hl'
      exact ⟨_ :: l'', rfl⟩

/-- `QuadraticBezierSegment::flattened(tol)`, once it has finished, has yielded a non-empty
sequence whose last point is the stored `to` — every scalar type, every tolerance -/
theorem quadIter_ends (fuel : Nat) (q : Quad α) (tol : α) (l : List (P α))
    (h : (QuadIter.new q tol).collectDone fuel = some l) : ∃ l', l = l' ++ [q.b] :=
  quadIter_done_ends fuel (QuadIter.new q tol) rfl l h

theorem quadTIter_next_none (s : QuadTIter α) : s.next.1 = none ↔ s.done = true := by
  unfold QuadTIter.next
  by_cases hd : s.done = true
  · simp [hd]
  · by_cases he : s.atEnd = true <;> simp [hd, he]

theorem quadTIter_next_done (s : QuadTIter α) (hd : s.done = false) (h : s.next.2.done = true) :
    s.next.1 = some one := by
  unfold QuadTIter.next at h ⊢
  by_cases he : s.atEnd = true
  · simp [hd, he]
  · simp [hd, he] at h

theorem quadTIter_next_some (s : QuadTIter α) (hd : s.done = false) : ∃ t, s.next.1 = some t := by
  unfold QuadTIter.next
  by_cases he : s.atEnd = true <;> simp [hd, he]

/-- invariant: if the current sub-curve is finished and it was the last one, the point yielded
last was the stored end point -/
def CubicInv (s : CubicIter α) (last : Option (P α)) : Prop :=
  s.current.done = true → s.remaining = 0 → last = some s.curve.b

theorem cubicIter_step (hone : ((one : α) == one) = true) (s s' : CubicIter α) (p : P α)
    (hn : s.next = (some p, s')) :
    s'.curve = s.curve ∧ CubicInv s' (some p) := by
  unfold CubicIter.next at hn
  cases hc : s.current.next with
  | mk o cur =>
    cases o with
    | some tInner =>
      simp only [hc, Prod.mk.injEq, Option.some.injEq] at hn
      obtain ⟨hp, rfl⟩ := hn
      refine ⟨rfl, ?_⟩
      intro hdone hrem
      simp only at hdone hrem
      have hd0 : s.current.done = false := by
        cases hd : s.current.done with
        | false => rfl
        | true =>
          have := (quadTIter_next_none s.current).2 hd
          rw [hc] at this; cases this
      have ht : s.current.next.1 = some one := quadTIter_next_done s.current hd0 (by rw [hc]; exact hdone)
      rw [hc] at ht
      cases Option.some.inj ht
      rw [← hp]
      simp [CubicIter.lastOr, hrem, hone]
    | none =>
      simp only [hc] at hn
      by_cases hr : s.remaining = 0
      · simp [hr] at hn
      · simp only [hr, if_false, CubicIter.advance, Prod.mk.injEq, Option.some.injEq] at hn
        obtain ⟨hp, rfl⟩ := hn
        refine ⟨rfl, ?_⟩
        intro hdone hrem
        simp only at hdone hrem
        have ht := quadTIter_next_done
          (QuadTIter.new ((s.curve.splitRange (s.rangeStart + s.rangeStep)
            (s.rangeStart + s.rangeStep + s.rangeStep)).toQuadratic) s.tolerance) rfl hdone
        rw [← hp]
        simp [CubicIter.lastOr, hrem, ht, hone]

/-- the point yielded last is carried through the run (`l.getLast?.or last`); `CubicInv` says it
is `to` once the last sub-curve is done, which is when `next` returns `None` -/
theorem cubicIter_done_ends (hone : ((one : α) == one) = true) (f : Nat) (s : CubicIter α)
    (last : Option (P α)) (hinv : CubicInv s last) (l : List (P α))
    (h : s.collectDone f = some l) :
    (l.getLast?.or last) = some s.curve.b := by
  fun_induction CubicIter.collectDone f s generalizing l last with
  | case1 => cases h
  | case2 f s s' hn =>
    cases Option.some.inj h
    -- `next` returned `None`: the sub-curve is done and none remains
    have h1 : s.current.done = true ∧ s.remaining = 0 := by
      unfold CubicIter.next at hn
      cases hc : s.current.next with
      | mk o cur =>
        cases o with
        | some t => simp [hc] at hn
        | none =>
          have hd := (quadTIter_next_none s.current).1 (by rw [hc])
          simp only [hc] at hn
          by_cases hr : s.remaining = 0
          · exact ⟨hd, hr⟩
          · simp [hr, CubicIter.advance] at hn
    simpa using hinv h1.1 h1.2
  | case3 f s p s' hn ih =>
    obtain ⟨l', hl', rfl⟩ := Option.map_eq_some_iff.1 h
    obtain ⟨hcv, hinv'⟩ := cubicIter_step hone s s' p hn
    have := ih (some p) hinv' l' hl'
    rw [hcv] at this
    rwa [List.getLast?_cons, Option.some_or, ← Option.or_some]

theorem cubicIter_new (c : Cubic α) (tol : α) (it : CubicIter α) (h : CubicIter.new c tol = some it) :
    it.curve = c ∧ it.current.done = false := by
  simp only [CubicIter.new, Option.map_eq_some_iff] at h
  obtain ⟨n, _, rfl⟩ := h
  exact ⟨rfl, rfl⟩

/-- `CubicBezierSegment::flattened(tol)`, once it has finished, has yielded a non-empty sequence
whose last point is the stored `to` (lyon commit e20d2048) — every scalar type with `1 == 1` -/
theorem cubicIter_ends (hone : ((one : α) == one) = true) (fuel : Nat) (c : Cubic α) (tol : α)
    (it : CubicIter α) (hnew : CubicIter.new c tol = some it) (l : List (P α))
    (h : it.collectDone fuel = some l) : ∃ l', l = l' ++ [c.b] := by
  obtain ⟨hc, hd⟩ := cubicIter_new c tol it hnew
  have := cubicIter_done_ends hone fuel it none (by intro h1; rw [hd] at h1; cases h1) l h
  rw [hc, Option.or_none] at this
  exact List.getLast?_eq_some_iff.mp this

/-- `itModel` on the curves whose iterator finishes within the fuel, the single point `to`
elsewhere (never reached by an adapter whose `itOkEvents` holds) -/
def itTot (fuel : Nat) (tol : α) : IterFlattener (P α) where
  quad a c b := if itOkQuad fuel tol a c b then (itModel fuel tol).quad a c b else [b]
  cubic a c1 c2 b := if itOkCubic fuel tol a c1 c2 b then (itModel fuel tol).cubic a c1 c2 b else [b]

theorem itModel_quad_ends (fuel : Nat) (tol : α) (a c b : P α) (h : itOkQuad fuel tol a c b = true) :
    ∃ l, (itModel fuel tol).quad a c b = l ++ [b] := by
  simp only [itOkQuad, Option.isSome_iff_exists] at h
  obtain ⟨l, hl⟩ := h
  obtain ⟨l', rfl⟩ := quadIter_ends fuel ⟨a, c, b⟩ tol l hl
  exact ⟨l', quad_collect_of_done _ _ _ hl⟩

theorem itModel_cubic_ends (hone : ((one : α) == one) = true) (fuel : Nat) (tol : α)
    (a c1 c2 b : P α) (h : itOkCubic fuel tol a c1 c2 b = true) :
    ∃ l, (itModel fuel tol).cubic a c1 c2 b = l ++ [b] := by
  simp only [itOkCubic] at h
  cases hn : CubicIter.new ⟨a, c1, c2, b⟩ tol with
  | none => simp [hn] at h
  | some it =>
    simp only [hn, Option.isSome_iff_exists] at h
    obtain ⟨l, hl⟩ := h
    obtain ⟨l', rfl⟩ := cubicIter_ends hone fuel ⟨a, c1, c2, b⟩ tol it hn l hl
    refine ⟨l', ?_⟩
    simp only [itModel, hn]
    exact cubic_collect_of_done _ _ _ hl

theorem itModel_on_ends (hone : ((one : α) == one) = true) (fuel : Nat) (tol : α)
    (k : Curve (P α)) (h : itOk fuel tol k = true) : ∃ l, (itModel fuel tol).on k = l ++ [k.to] := by
  cases k with
  | quad a c b => exact itModel_quad_ends fuel tol a c b h
  | cubic a c d b => exact itModel_cubic_ends hone fuel tol a c d b h

end iter_any

end Lyon.Adapt
