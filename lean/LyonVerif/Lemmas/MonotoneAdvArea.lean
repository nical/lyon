/-
  C02 (`Props/C02c.lean`): the signed-area potential of the ADVANCED monotone tessellator, for EVERY
  (position, side) sequence.

  `flush_area` — for EVERY input the `wind`s of the triangles `flush_side` emits for a buffered chain
  `e_0 … e_{len−1}` add up exactly to the `wind`-area of the closed polygon `e_0 … e_{len−1}`
  (left side; its negative on the right side): each level of the doubling loop removes the odd
  multiples of `step` from the closed polygon over the multiples of `step` (the left-over triangle
  `(0, last, last+step)` removes the final odd one across the closing edge), until two positions
  are left.  `flush_side` never re-orients a triangle, so this sum is exact — a chain triangle with
  negative `wind` is a triangle outside the chain polygon.

  `Phi = G(inner tessellator) ± (chain polygon of side a − chain polygon of side b
          + quadrilateral (head a, last a, last b, head b))`
  i.e. emitted area + area of everything fed but not yet triangulated.  Buffering a vertex adds
  exactly `wind(lastLeft, p, lastRight)` (`push_pot`); `flush_side` moves the chain polygon's area
  into emitted triangles exactly (`flush_area`) and forwards one vertex to the inner tessellator,
  which can only add a non-negative excess, zero when nothing is flipped (`fwd_pot`, `flush_phi`, from
  `vertex_area`).  Carried through `Adv.vertex` / `Adv.end_` / `Adv.run`:
  `Σ wind(Adv.run seq) ≥ shoelace(polygonOf seq)` for every sequence (`adv_run_area`).
-/
import LyonVerif.Lemmas.MonotoneGeom
import LyonVerif.Lemmas.MonotoneAdv

set_option linter.unusedSectionVars false

namespace Lyon.C02c
open Lyon Lyon.Mono Lyon.C02

variable {K : Type} [Field K] [LinearOrder K] [IsStrictOrderedRing K]

/-- `Σ_{j<m} E(q(j·s), q((j+1)·s))`: the path over the first `m+1` multiples of `s` -/
noncomputable def pathE (q : Nat → P K) (s : Nat) : Nat → K
  | 0 => 0
  | m + 1 => pathE q s m + E (q (m * s)) (q ((m + 1) * s))

/-- the closed polygon over the multiples of `s` below `len` -/
noncomputable def closedE (q : Nat → P K) (s len : Nat) : K :=
  pathE q s ((len - 1) / s) + E (q ((len - 1) / s * s)) (q 0)

theorem sum_map_neg_list {ι : Type} (l : List ι) (f : ι → K) : (l.map (fun x => -f x)).sum = -(l.map f).sum := by
  induction l with
  | nil => simp
  | cons a r ih => simp only [List.map_cons, List.sum_cons, ih]; ring

theorem level_main (q : Nat → P K) (s n : Nat) :
    ((List.range n).map (fun i => wind (q (i * 2 * s)) (q (i * 2 * s + s)) (q (i * 2 * s + s + s)))).sum =
      pathE q s (2 * n) - pathE q (2 * s) n := by
  induction n with
  | zero => simp [pathE]
  | succ n ih =>
    rw [List.range_succ, List.map_append, List.sum_append, ih]
    simp only [List.map_cons, List.map_nil, List.sum_cons, List.sum_nil, add_zero]
    rw [show 2 * (n + 1) = 2 * n + 1 + 1 by ring]
    simp only [pathE]
    rw [show 2 * n * s = n * 2 * s by ring, show (2 * n + 1) * s = n * 2 * s + s by ring,
      show (2 * n + 1 + 1) * s = n * 2 * s + s + s by ring, show n * (2 * s) = n * 2 * s by ring,
      show (n + 1) * (2 * s) = n * 2 * s + s + s by ring, wind_eq,
      E_anti (q (n * 2 * s)) (q (n * 2 * s + s + s))]
    ring

theorem flushLevel_area (pos : Nat → P K) (ev : Array Nat) (len step : Nat) (right : Bool) (hs : 1 ≤ step)
    (hlt : step * 2 < len) :
    sumW pos (flushLevel ev len step right) =
      sg (!right) * (closedE (fun i => pos (ev.getD i 0)) step len - closedE (fun i => pos (ev.getD i 0)) (2 * step) len) := by
  obtain ⟨m, _, em, _, hcase⟩ := flushLevel_eq ev len step right hs hlt
  generalize hq : (fun i => pos (ev.getD i 0)) = q
  have hqa : ∀ i, pos (ev.getD i 0) = q i := fun i => by rw [← hq]
  have hmain : sumW pos ((List.range m).map (mainTri ev step right)) =
      sg (!right) * (pathE q step (2 * m) - pathE q (2 * step) m) := by
    rw [← level_main]
    simp only [sumW, List.map_map]
    cases right
    · simp only [sg, Bool.not_false, if_true, one_mul]
      congr 1
      apply List.map_congr_left
      intro i _
      simp only [Function.comp, triW, mainTri, Bool.false_eq_true, if_false, hqa]
    · simp only [sg, Bool.not_true, Bool.false_eq_true, if_false, neg_one_mul]
      rw [← sum_map_neg_list]
      congr 1
      apply List.map_congr_left
      intro i _
      simp only [Function.comp, triW, mainTri, if_true, hqa]
      rw [wind_swap]
  simp only [closedE, em]
  rcases hcase with ⟨e1, e⟩ | ⟨e1, _, e⟩ <;> rw [e, e1]
  · rw [hmain, show 2 * m * step = m * (2 * step) by ring]
    ring
  · -- the left-over triangle removes the last odd multiple across the closing edge
    rw [sumW_append, hmain]
    simp only [sumW_cons, sumW_nil, add_zero, pathE]
    rw [show 2 * m * step = m * (2 * step) by ring, show (2 * m + 1) * step = m * (2 * step) + step by ring]
    cases right
    · simp only [sg, Bool.not_false, if_true, Bool.false_eq_true, if_false, one_mul, triW, extraTri, hqa, wind_eq]
      rw [E_anti (q 0) (q (m * (2 * step)))]
      ring
    · simp only [sg, Bool.not_true, Bool.false_eq_true, if_false, if_true, neg_one_mul, triW, extraTri, hqa]
      rw [wind_swap_bc, wind_eq, E_anti (q 0) (q (m * (2 * step)))]
      ring

theorem flushLevels_area (pos : Nat → P K) (ev : Array Nat) (len : Nat) (right : Bool) (fuel step : Nat)
    (hs : 1 ≤ step) (hf : len ≤ step + fuel) :
    sumW pos (flushLevels ev len right fuel step) = sg (!right) * closedE (fun i => pos (ev.getD i 0)) step len := by
  induction fuel generalizing step with
  | zero =>
    have : (len - 1) / step = 0 := Nat.div_eq_of_lt (by omega)
    simp [flushLevels, closedE, this, pathE, E_self]
  | succ fuel ih =>
    simp only [flushLevels]
    split
    · rename_i hlt
      rw [sumW_append, flushLevel_area pos ev len step right hs hlt, ih (step * 2) (by omega) (by omega),
        Nat.mul_comm step 2]
      ring
    · rename_i hge
      have hlt2 : (len - 1) / step < 2 := by
        rw [Nat.div_lt_iff_lt_mul (by omega)]; omega
      have : (len - 1) / step = 0 ∨ (len - 1) / step = 1 := by
        generalize (len - 1) / step = m at hlt2 ⊢; omega
      rcases this with e | e
      · simp [closedE, e, pathE, E_self]
      · simp only [sumW_nil, closedE, e, pathE, Nat.zero_mul, Nat.one_mul, zero_add]
        rw [E_anti (pos (ev.getD 0 0)) (pos (ev.getD step 0))]; ring

theorem flush_area (pos : Nat → P K) (ev : Array Nat) (len : Nat) (right : Bool) :
    sumW pos (flushLevels ev len right (len + 1) 1) = sg (!right) * closedE (fun i => pos (ev.getD i 0)) 1 len :=
  flushLevels_area pos ev len right (len + 1) 1 (by omega) (by omega)

/-- position of the `i`-th buffered id -/
def evPos (pos : Nat → P K) (ev : List Nat) (i : Nat) : P K := pos (ev.getD i 0)

theorem evPos_toArray (pos : Nat → P K) (ev : List Nat) (i : Nat) : pos (ev.toArray.getD i 0) = evPos pos ev i := by
  simp [evPos, List.getD_eq_getElem?_getD]

theorem evPos_append_left (pos : Nat → P K) (ev : List Nat) (x : Nat) (i : Nat) (hi : i < ev.length) :
    evPos pos (ev ++ [x]) i = evPos pos ev i := by
  simp [evPos, List.getD_eq_getElem?_getD, List.getElem?_append_left hi]

theorem evPos_append_length (pos : Nat → P K) (ev : List Nat) (x : Nat) : evPos pos (ev ++ [x]) ev.length = pos x := by
  simp [evPos, List.getD_eq_getElem?_getD]

/-- `wind`-area of the closed polygon of a buffered chain (ids `ev`, oldest first) -/
noncomputable def chainPoly (pos : Nat → P K) (ev : List Nat) : K := closedE (evPos pos ev) 1 ev.length

theorem chainPoly_eq (pos : Nat → P K) (ev : List Nat) :
    chainPoly pos ev = closedE (fun i => pos (ev.toArray.getD i 0)) 1 ev.length := by
  simp only [chainPoly, evPos_toArray]

theorem closedE_one (q : Nat → P K) (len : Nat) :
    closedE q 1 len = pathE q 1 (len - 1) + E (q (len - 1)) (q 0) := by
  simp [closedE]

theorem pathE_congr (q q' : Nat → P K) (m : Nat) (h : ∀ i, i ≤ m → q i = q' i) : pathE q 1 m = pathE q' 1 m := by
  induction m with
  | zero => rfl
  | succ m ih =>
    simp only [pathE, Nat.mul_one]
    rw [ih (fun i hi => h i (by omega)), h m (by omega), h (m + 1) (by omega)]

theorem chainPoly_single (pos : Nat → P K) (x : Nat) : chainPoly pos [x] = 0 := by
  simp [chainPoly, closedE, pathE, E_self]

theorem chainPoly_push (pos : Nat → P K) (ev : List Nat) (x : Nat) (hne : ev ≠ []) :
    chainPoly pos (ev ++ [x]) = chainPoly pos ev - E (evPos pos ev (ev.length - 1)) (evPos pos ev 0)
      + E (evPos pos ev (ev.length - 1)) (pos x) + E (pos x) (evPos pos ev 0) := by
  have hlen : 1 ≤ ev.length := by
    cases ev with
    | nil => exact absurd rfl hne
    | cons a r => simp
  have hq := evPos_append_left pos ev x
  simp only [chainPoly, closedE_one, List.length_append, List.length_cons, List.length_nil]
  rw [show ev.length + (0 + 1) - 1 = (ev.length - 1) + 1 by omega]
  simp only [pathE, Nat.mul_one]
  rw [show ev.length - 1 + 1 = ev.length by omega, evPos_append_length, hq 0 (by omega), hq (ev.length - 1) (by omega),
    pathE_congr (evPos pos (ev ++ [x])) (evPos pos ev) (ev.length - 1) (fun i hi => hq i (by omega))]
  ring

theorem evPos_last (pos : Nat → P K) (ev : List Nat) (x : Nat) (h : ev.getLast? = some x) :
    evPos pos ev (ev.length - 1) = pos x := by
  rw [List.getLast?_eq_getElem?] at h
  simp [evPos, List.getD_eq_getElem?_getD, h]

/-- `wind`-area of the quadrilateral `(a, b, c, d)` -/
noncomputable def quad (a b c d : P K) : K := E a b + E b c + E c d + E d a

/-- emitted + pending area; `l`: side `a` is the left one -/
noncomputable def Phi (pos : Nat → P K) (tess : Basic K) (l : Bool) (ea : List Nat) (la : P K)
    (eb : List Nat) (lb : P K) : K :=
  G pos tess + sg l * (chainPoly pos ea - chainPoly pos eb + quad (evPos pos ea 0) la lb (evPos pos eb 0))

/-- the two buffered chains over the inner tessellator: each ends in its last vertex, and its FIRST buffered id is
the inner tessellator's last vertex on that side (`heada`, `headb`): the chain hangs from it -/
structure PInvL (pos : Nat → P K) (tess : Basic K) (l : Bool) (ea : List Nat) (la : MV K)
    (eb : List Nat) (lb : MV K) : Prop where
  binv : BInv pos tess
  nea : ea ≠ []
  neb : eb ≠ []
  lasta : ea.getLast? = some la.id
  lastb : eb.getLast? = some lb.id
  gooda : Good pos la
  goodb : Good pos lb
  sidea : la.left = l
  sideb : lb.left = !l
  heada : evPos pos ea 0 = (if l then lastL tess else lastR tess)
  headb : evPos pos eb 0 = (if l then lastR tess else lastL tess)

theorem PInvL.symm {pos : Nat → P K} {tess : Basic K} {l : Bool} {ea eb : List Nat} {la lb : MV K}
    (h : PInvL pos tess l ea la eb lb) : PInvL pos tess (!l) eb lb ea la :=
  { binv := h.binv, nea := h.neb, neb := h.nea, lasta := h.lastb, lastb := h.lasta, gooda := h.goodb,
    goodb := h.gooda, sidea := h.sideb, sideb := by rw [h.sidea]; simp,
    heada := by rw [h.headb]; cases l <;> rfl, headb := by rw [h.heada]; cases l <;> rfl }

theorem Phi_symm (pos : Nat → P K) (tess : Basic K) (l : Bool) (ea eb : List Nat) (la lb : P K) :
    Phi pos tess (!l) eb lb ea la = Phi pos tess l ea la eb lb := by
  simp only [Phi, quad]
  rw [E_anti (evPos pos eb 0) lb, E_anti lb la, E_anti la (evPos pos ea 0), E_anti (evPos pos ea 0) (evPos pos eb 0)]
  cases l <;> simp only [sg, Bool.not_true, Bool.not_false, if_true, Bool.false_eq_true, if_false] <;> ring

/-- the outer polygon's last left / right vertex -/
def outL (l : Bool) (la lb : P K) : P K := if l then la else lb
def outR (l : Bool) (la lb : P K) : P K := if l then lb else la

theorem push_pot {pos : Nat → P K} {tess : Basic K} {l : Bool} {ea eb : List Nat} {la lb : MV K}
    (h : PInvL pos tess l ea la eb lb) (cur : MV K) (hc : Good pos cur) (hl : cur.left = l) :
    PInvL pos tess l (ea ++ [cur.id]) cur eb lb ∧
      Phi pos tess l (ea ++ [cur.id]) cur.pos eb lb.pos =
        Phi pos tess l ea la.pos eb lb.pos + wind (outL l la.pos lb.pos) cur.pos (outR l la.pos lb.pos) := by
  have hlen : 1 ≤ ea.length := by
    cases ea with
    | nil => exact absurd rfl h.nea
    | cons a r => simp
  have h0 := evPos_append_left pos ea cur.id 0 (by omega)
  constructor
  · exact { binv := h.binv, nea := by simp, neb := h.neb, lasta := by simp, lastb := h.lastb, gooda := hc,
            goodb := h.goodb, sidea := hl, sideb := h.sideb, heada := by rw [h0]; exact h.heada, headb := h.headb }
  · have hla : evPos pos ea (ea.length - 1) = la.pos := by
      rw [evPos_last pos ea la.id h.lasta]; exact h.gooda.symm
    have hcp : pos cur.id = cur.pos := hc.symm
    simp only [Phi, chainPoly_push pos ea cur.id h.nea, h0, hla, hcp, quad, outL, outR, wind_eq]
    rw [E_anti (evPos pos ea 0) la.pos, E_anti (evPos pos ea 0) cur.pos]
    cases l
    · simp only [sg, Bool.false_eq_true, if_false]
      rw [E_anti cur.pos lb.pos, E_anti lb.pos la.pos, E_anti la.pos cur.pos]; ring
    · simp only [sg, if_true]
      rw [E_anti lb.pos la.pos]; ring

theorem pushTris_pot {pos : Nat → P K} {tess : Basic K} {l : Bool} {ea eb : List Nat} {la lb : MV K}
    (h : PInvL pos tess l ea la eb lb) (tr : List Tri) :
    PInvL pos (tess.pushTris tr) l ea la eb lb ∧
      Phi pos (tess.pushTris tr) l ea la.pos eb lb.pos = Phi pos tess l ea la.pos eb lb.pos + sumW pos tr := by
  constructor
  · exact { h with binv := h.binv }
  · simp only [Phi, G, Basic.pushTris, sumW_append, botPos]; ring

/-- **forwarding the last vertex of side `a`** to the inner tessellator (the chain restarts from it): the potential
changes by the chain polygon's area and by the excess of `vertex_area` (zero when nothing is flipped) -/
theorem fwd_pot {pos : Nat → P K} {tess : Basic K} {l : Bool} {ea eb : List Nat} {la lb : MV K}
    (h : PInvL pos tess l ea la eb lb) :
    PInvL pos (tess.vertex la) l [la.id] la eb lb ∧
      Phi pos (tess.vertex la) l [la.id] la.pos eb lb.pos + sg l * chainPoly pos ea =
        Phi pos tess l ea la.pos eb lb.pos +
          (G pos (tess.vertex la) - (G pos tess + wind (lastL tess) la.pos (lastR tess))) := by
  obtain ⟨v1, v2, v3, _, _⟩ := vertex_area pos tess la h.binv h.gooda
  have hs := h.sidea
  have hh : evPos pos [la.id] 0 = la.pos := by simp [evPos]; exact h.gooda.symm
  constructor
  · refine { binv := v1, nea := by simp, neb := h.neb, lasta := rfl, lastb := h.lastb, gooda := h.gooda,
             goodb := h.goodb, sidea := h.sidea, sideb := h.sideb, heada := ?_, headb := ?_ }
    · rw [hh, v2, v3, hs]; cases l <;> simp
    · rw [h.headb, v2, v3, hs]; cases l <;> simp
  · simp only [Phi, chainPoly_single, hh, quad, E_self]
    rw [h.heada, h.headb, wind_eq]
    generalize lastL tess = l0
    generalize lastR tess = r0
    cases l
    · simp only [sg, Bool.false_eq_true, if_false]
      rw [E_anti r0 la.pos, E_anti l0 r0]
      ring
    · simp only [sg, if_true]
      rw [E_anti r0 la.pos]
      ring

/-- **flush and forward** of side `a` (the `right` flag of its `flush_side` is `!l`), in the shape of `vertex_area`: the
chain polygon's area moves into its fan exactly (`flush_area`), so the potential does not fall, and is kept when the
forward flips nothing -/
theorem flush_phi {pos : Nat → P K} {tess : Basic K} {l : Bool} {a b : SideEv K}
    (h : PInvL pos tess l a.events a.last b.events b.last) :
    PInvL pos (ffTess tess a (!l)) l [a.last.id] a.last b.events b.last ∧
      Phi pos tess l a.events a.last.pos b.events b.last.pos ≤
        Phi pos (ffTess tess a (!l)) l [a.last.id] a.last.pos b.events b.last.pos ∧
      (NoFlip tess a.last → Phi pos (ffTess tess a (!l)) l [a.last.id] a.last.pos b.events b.last.pos =
        Phi pos tess l a.events a.last.pos b.events b.last.pos) := by
  obtain ⟨p1, p2⟩ := pushTris_pot h (fanOf a (!l))
  obtain ⟨_, _, _, v4, v5⟩ := vertex_area pos (tess.pushTris (fanOf a (!l))) a.last p1.binv p1.gooda
  obtain ⟨f1, e⟩ := fwd_pot p1
  rw [p2, flush_area, ← chainPoly_eq, Bool.not_not] at e
  unfold ffTess
  exact ⟨f1, by linarith, fun hnf => by have := v5 hnf; linarith⟩

def P3 (pos : Nat → P K) (l : Bool) (x : Trip K) : Prop :=
  PInvL pos x.1 l x.2.1.events x.2.1.last x.2.2.events x.2.2.last

noncomputable def Phi3 (pos : Nat → P K) (l : Bool) (x : Trip K) : K :=
  Phi pos x.1 l x.2.1.events x.2.1.last.pos x.2.2.events x.2.2.last.pos

/-- the potential is at least `c`, the polygon fed so far ends in `L` (left) and `R` (right) -/
def PS (pos : Nat → P K) (c : K) (L R : P K) (l : Bool) (t : Basic K) (a b : SideEv K) : Prop :=
  PInvL pos t l a.events a.last b.events b.last ∧ c ≤ Phi pos t l a.events a.last.pos b.events b.last.pos ∧
    outL l a.last.pos b.last.pos = L ∧ outR l a.last.pos b.last.pos = R

theorem PS.symm {pos : Nat → P K} {c : K} {L R : P K} {l : Bool} {t : Basic K} {a b : SideEv K}
    (h : PS pos c L R l t a b) : PS pos c L R (!l) t b a := by
  obtain ⟨h1, h2, h3, h4⟩ := h
  refine ⟨h1.symm, by rw [Phi_symm]; exact h2, ?_, ?_⟩
  · rw [← h3]; cases l <;> rfl
  · rw [← h4]; cases l <;> rfl

theorem PS.ff {pos : Nat → P K} {c : K} {L R : P K} {l : Bool} {t : Basic K} {a b : SideEv K}
    (h : PS pos c L R l t a b)
    {a' b' : SideEv K} (ha : a'.events = [a.last.id] ∧ a'.last = a.last)
    (hb : b'.events = b.events ∧ b'.last = b.last) : PS pos c L R l (ffTess t a (!l)) a' b' := by
  obtain ⟨h1, h2, h3, h4⟩ := h
  obtain ⟨f1, f2, _⟩ := flush_phi (l := l) (a := a) (b := b) h1
  unfold PS
  rw [ha.1, ha.2, hb.1, hb.2]
  exact ⟨f1, le_trans h2 f2, h3, h4⟩

def PA (pos : Nat → P K) (st : Adv K) : Prop := P3 pos true (st.tess, st.left, st.right)
noncomputable def PhiA (pos : Nat → P K) (st : Adv K) : K := Phi3 pos true (st.tess, st.left, st.right)

theorem begin_pa (pos : Nat → P K) (old : Adv K) (p0 : P K) (h0 : pos 0 = p0) :
    PA pos (Adv.begin old p0 0) ∧ PhiA pos (Adv.begin old p0 0) = 0 := by
  constructor
  · exact { binv := begin_bInv pos p0 h0, nea := by simp [Adv.begin], neb := by simp [Adv.begin],
            lasta := rfl, lastb := rfl, gooda := h0.symm, goodb := h0.symm, sidea := rfl, sideb := rfl,
            heada := by simp [Adv.begin, evPos, lastL, Basic.begin, h0],
            headb := by simp [Adv.begin, evPos, lastR, Basic.begin, botPos, h0] }
  · simp only [PhiA, Phi3, Phi, Adv.begin, chainPoly_single, quad, evPos, List.getD_cons_zero, h0, E_self]
    rw [begin_G]; simp

theorem vertex_pa (pos : Nat → P K) (st : Adv K) (p : P K) (id : Nat) (l : Bool) (h : PA pos st) (hp : pos id = p) :
    PA pos (st.vertex p id l) ∧
      PhiA pos st + wind st.left.last.pos p st.right.last.pos ≤ PhiA pos (st.vertex p id l) ∧
      (st.vertex p id l).left.last.pos = (if l then p else st.left.last.pos) ∧
      (st.vertex p id l).right.last.pos = (if l then st.right.last.pos else p) := by
  have := vertex_walk (I := PS pos (PhiA pos st) st.left.last.pos st.right.last.pos)
    (I' := PS pos (PhiA pos st + wind st.left.last.pos p st.right.last.pos)
      (if l then p else st.left.last.pos) (if l then st.right.last.pos else p)) PS.symm PS.symm st p id l
    (fun t a b h dx _ => by
      have hu : PS pos (PhiA pos st) st.left.last.pos st.right.last.pos l t (updSide a p l) b := by
        cases l <;> exact h
      refine stepSides_ind (J := PS pos _ _ _ l) (J' := PS pos _ _ _ l) t _ b dx p id l hu
        (fun t a b h hb _ => ff_opp PS.symm h (PS.ff · (flushSide_restart b l hb) ⟨rfl, rfl⟩))
        (fun t a b h ha _ => PS.ff h (flushSide_restart a (!l) ha) ⟨rfl, rfl⟩)
        (fun t' a' b' h _ => ?_)
      obtain ⟨h1, h2, h3, h4⟩ := h
      obtain ⟨q1, q2⟩ := push_pot (l := l) h1 ⟨p, id, l⟩ hp.symm rfl
      refine ⟨q1, ?_, ?_, ?_⟩
      · show _ ≤ Phi pos t' l (a'.events ++ [id]) p b'.events b'.last.pos
        rw [h3, h4] at q2
        rw [q2]; linarith
      · rw [← h3]; cases l <;> rfl
      · rw [← h4]; cases l <;> rfl)
    ⟨h, le_refl _, rfl, rfl⟩
  obtain ⟨h1, h2, h3, h4⟩ := this
  exact ⟨h1, h2, h3, h4⟩

theorem singleton_of_short (ev : List Nat) (x : Nat) (hne : ev ≠ []) (hl : ev.length < 2) (hlast : ev.getLast? = some x) :
    ev = [x] := by
  match ev, hne, hl with
  | [a], _, _ => simpa using hlast

/-- nothing pending on either side: the potential IS `G` of the inner tessellator, whose `end` closes the polygon
(`vertex_area` for the bottom vertex) -/
theorem finish_phi {pos : Nat → P K} {tess : Basic K} {ea eb : List Nat} {la lb : MV K}
    (h : PInvL pos tess true ea la eb lb) (ha : ea.length < 2) (hb : eb.length < 2) (pe : P K) (ide : Nat)
    (hpe : pos ide = pe) :
    Phi pos tess true ea la.pos eb lb.pos + wind la.pos pe lb.pos ≤ sumW pos (tess.end_ pe ide).tris ∧
    (NoFlip tess ⟨pe, ide, !tess.previous.left⟩ →
      sumW pos (tess.end_ pe ide).tris = Phi pos tess true ea la.pos eb lb.pos + wind la.pos pe lb.pos) := by
  have e1 := singleton_of_short ea la.id h.nea ha h.lasta
  have e2 := singleton_of_short eb lb.id h.neb hb h.lastb
  have g1 : evPos pos [la.id] 0 = la.pos := by simp [evPos]; exact h.gooda.symm
  have g2 : evPos pos [lb.id] 0 = lb.pos := by simp [evPos]; exact h.goodb.symm
  have ha' := h.heada
  have hb' := h.headb
  rw [e1, g1] at ha'
  rw [e2, g2] at hb'
  simp only [if_true] at ha' hb'
  have hf := end_area pos tess pe ide hpe h.binv
  rw [← ha', ← hb'] at hf
  have e : Phi pos tess true ea la.pos eb lb.pos = G pos tess := by
    simp only [Phi, e1, e2, chainPoly_single, g1, g2, quad, E_self, sg, if_true]
    rw [E_anti la.pos lb.pos]
    ring
  rw [e]
  exact hf

theorem end_pa (pos : Nat → P K) (st : Adv K) (pe : P K) (ide : Nat) (h : PA pos st) (hpe : pos ide = pe) :
    PhiA pos st + wind st.left.last.pos pe st.right.last.pos ≤ sumW pos (st.end_ pe ide).tris := by
  obtain ⟨t, a, b, ⟨h1, h2, h3, h4⟩, ha, hb, hp⟩ := end_walk
    (J := PS pos (PhiA pos st) st.left.last.pos st.right.last.pos true) st pe ide ⟨h, le_refl _, rfl, rfl⟩
    (fun t a b h ha _ => PS.ff h (flushSide_restart a false ha) ⟨rfl, rfl⟩)
    (fun t a b h hb _ => (PS.ff h.symm (flushSide_restart b true hb) (b' := a) ⟨rfl, rfl⟩).symm)
  have := (finish_phi h1 ha hb pe ide hpe).1
  simp only [outL, outR, if_true] at h3 h4
  rw [h3, h4] at this h2
  rw [sumW_perm _ hp]
  exact le_trans (by linarith) this

theorem adv_run_area (seq : List (P K × Bool)) (h2 : 2 ≤ seq.length) :
    shoelaceW (polygonOf seq) ≤ sumW (posOf seq) (Adv.run seq) := by
  obtain ⟨s, v, ⟨hp, hI⟩, hv, e⟩ := adv_run_ind seq h2
    (fun k st => PA (posOf seq) st ∧
      shoelaceW (polygonOf seq) ≤ PhiA (posOf seq) st + accFrom seq k st.left.last.pos st.right.last.pos)
    (fun v hv => by
      have hp0 : posOf seq 0 = v.1 := posOf_of_getElem? hv
      obtain ⟨b1, b2⟩ := begin_pa (posOf seq) (Adv.new (α := K)) v.1 hp0
      refine ⟨b1, ?_⟩
      rw [b2, zero_add, ← accFrom_one seq h2, hp0]
      exact le_refl _)
    (fun k st v ⟨hp, hI⟩ _ hk hv => by
      obtain ⟨v1, v2, v3, v4⟩ := vertex_pa (posOf seq) st v.1 k v.2 hp (posOf_of_getElem? hv)
      refine ⟨v1, ?_⟩
      rw [accFrom_step seq hv hk] at hI
      rw [v3, v4]
      linarith)
  rw [e]
  have := end_pa (posOf seq) s v.1 (seq.length - 1) hp (posOf_of_getElem? hv)
  rw [accFrom_last seq (by omega), posOf_of_getElem? hv] at hI
  linarith

end Lyon.C02c
