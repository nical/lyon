/-
  The order tests of the tessellator models decide `LexLt` (`Lemmas/LexOrder.lean`).
-/
import LyonVerif.Lemmas.LexOrder
import LyonVerif.Model.Tess.Monotone
import LyonVerif.Model.Tess.EventQueue

set_option linter.unusedSectionVars false

namespace Lyon

variable {K : Type} [Field K] [LinearOrder K] [IsStrictOrderedRing K]

/-- `is_after(a, b)` of monotone.rs / fill.rs -/
theorem Mono.isAfter_lexLt (a b : P K) : Mono.isAfter a b = true ↔ LexLt b a := by
  rw [lexLt_iff_after]; simp [Mono.isAfter]

/-- `is_after(a, b)` as the sweep model spells it -/
theorem Sources.isAfter_lexLt (a b : P K) : Sources.isAfter a b = true ↔ LexLt b a := by
  rw [lexLt_iff_after]; simp [Sources.isAfter]

/-- `compare_positions` of event_queue.rs -/
theorem EQ.comparePositions_eq (a b : P K) : EQ.comparePositions a b = lexCmp a b := rfl

end Lyon
