/-
  Helper definitions and lemmas for C14 about `Model/Path/Store.lean`:
  what a builder program stores (`emitPts`, `emitVerbs`), and the point-iterator primitives on
  exactly such storage.  Mathlib-free.
-/
import LyonVerif.Model.Path.Store

namespace Lyon.Path

variable {S : Type} [Inhabited S]
set_option linter.unusedSectionVars false

abbrev Prog (S : Type) := List (Call (Pt S) (List S))

theorem packAttrs_length (a : List S) : (packAttrs a).length = attribStride a.length := by
  induction a using packAttrs.induct with
  | case1 => simp [packAttrs, attribStride]
  | case2 x => simp [packAttrs, attribStride]
  | case3 x y r ih => simp [packAttrs, attribStride] at *; omega

theorem flat_pack_take (a : List S) (rest : List (Pt S)) :
    (flatPts (packAttrs a ++ rest)).take a.length = a := by
  induction a using packAttrs.induct with
  | case1 => simp
  | case2 x => simp [packAttrs, flatPts]
  | case3 x y r ih => simp [packAttrs, flatPts, ih]

/-- the points stored for one endpoint: position, then its packed attributes -/
def endpointPts (p : Pt S) (a : List S) : List (Pt S) := p :: packAttrs a

theorem endpointPts_length (p : Pt S) (a : List S) :
    (endpointPts p a).length = attribStride a.length + 1 := by
  simp [endpointPts, packAttrs_length]

theorem advanceN_append (l rest : List (Pt S)) (k : Nat) (h : l.length = k) :
    advanceN k (l ++ rest) = some rest := by
  subst h; simp [advanceN]

theorem popSkip_endpoint (n : Nat) (p : Pt S) (a : List S) (rest : List (Pt S)) (h : a.length = n) :
    popSkip (attribStride n) (endpointPts p a ++ rest) = some (p, rest) := by
  subst h
  simp [popSkip, popPt, endpointPts, advanceN_append _ _ _ (packAttrs_length a)]

theorem popEndpoint_endpoint (n : Nat) (p : Pt S) (a : List S) (rest : List (Pt S)) (h : a.length = n) :
    popEndpoint n (endpointPts p a ++ rest) = some ((p, a), rest) := by
  subst h
  simp [popEndpoint, popPt, endpointPts, advanceN_append _ _ _ (packAttrs_length a), flat_pack_take]

/-- every endpoint of the program carries exactly `n` attributes -/
def attrsOk (n : Nat) : Prog S → Bool
  | [] => true
  | .begin _ a :: r => a.length == n && attrsOk n r
  | .line _ a :: r => a.length == n && attrsOk n r
  | .quad _ _ a :: r => a.length == n && attrsOk n r
  | .cubic _ _ _ a :: r => a.length == n && attrsOk n r
  | .end_ _ :: r => attrsOk n r

/-- the points a program appends to the storage; `f`, `fa` = the builder's `first`,
`first_attributes` -/
def emitPts : Pt S → List S → Prog S → List (Pt S)
  | _, _, [] => []
  | _, _, .begin p a :: r => endpointPts p a ++ emitPts p a r
  | f, fa, .line p a :: r => endpointPts p a ++ emitPts f fa r
  | f, fa, .quad c p a :: r => c :: (endpointPts p a ++ emitPts f fa r)
  | f, fa, .cubic c1 c2 p a :: r => c1 :: c2 :: (endpointPts p a ++ emitPts f fa r)
  | f, fa, .end_ true :: r => endpointPts f fa ++ emitPts f fa r
  | f, fa, .end_ false :: r => emitPts f fa r

/-- the verbs a program appends -/
def emitVerbs : Prog S → List Verb
  | [] => []
  | .begin _ _ :: r => Verb.begin :: emitVerbs r
  | .line _ _ :: r => Verb.lineTo :: emitVerbs r
  | .quad _ _ _ :: r => Verb.quadraticTo :: emitVerbs r
  | .cubic _ _ _ _ :: r => Verb.cubicTo :: emitVerbs r
  | .end_ true :: r => Verb.close :: emitVerbs r
  | .end_ false :: r => Verb.end_ :: emitVerbs r

/-- the builder's `first` / `first_attributes` after a program -/
def firstAfter : Pt S → List S → Prog S → Pt S × List S
  | f, fa, [] => (f, fa)
  | _, _, .begin p a :: r => firstAfter p a r
  | f, fa, _ :: r => firstAfter f fa r

theorem firstAfter_length (n : Nat) (f : Pt S) (fa : List S) (prog : Prog S)
    (ha : attrsOk n prog = true) (hfa : fa.length = n) : (firstAfter f fa prog).2.length = n := by
  induction prog generalizing f fa with
  | nil => simpa [firstAfter]
  | cons c r ih =>
    cases c <;> simp_all [firstAfter, attrsOk]

/-- the endpoint id one call hands back when the storage holds `pos` points -/
def callId (pos : Nat) : Call (Pt S) (List S) → Option Nat
  | .begin _ _ => some pos
  | .line _ _ => some pos
  | .quad _ _ _ => some (pos + 1)
  | .cubic _ _ _ _ => some (pos + 2)
  | .end_ _ => none

theorem call_emit (b : BuilderWithAttributes S) (c : Call (Pt S) (List S))
    (ha : attrsOk b.numAttributes [c] = true) (hfa : b.firstAttributes.length = b.numAttributes) :
    b.call c = some
      ({ builder := { points := b.builder.points ++ emitPts b.builder.first b.firstAttributes [c],
                      verbs := b.builder.verbs ++ emitVerbs [c],
                      first := (firstAfter b.builder.first b.firstAttributes [c]).1 },
         numAttributes := b.numAttributes,
         firstAttributes := (firstAfter b.builder.first b.firstAttributes [c]).2 },
       callId b.builder.points.length c) := by
  obtain ⟨⟨pts, vs, f⟩, n, fa⟩ := b
  cases c with
  | end_ cl =>
    cases cl <;>
      simp_all [BuilderWithAttributes.call, BuilderWithAttributes.end_, BuilderWithAttributes.withPoints,
        BuilderImpl.end_, pushAttributesImpl, emitPts, emitVerbs, firstAfter, endpointPts, callId]
  | _ =>
    simp_all [attrsOk, BuilderWithAttributes.call, BuilderWithAttributes.begin, BuilderWithAttributes.lineTo,
      BuilderWithAttributes.quadraticBezierTo, BuilderWithAttributes.cubicBezierTo,
      BuilderWithAttributes.withPoints, BuilderImpl.begin, BuilderImpl.lineTo, BuilderImpl.quadraticBezierTo,
      BuilderImpl.cubicBezierTo, pushAttributesImpl, emitPts, emitVerbs, firstAfter, endpointPts, callId]

end Lyon.Path
