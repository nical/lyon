/-
  Helper definitions and lemmas for `Props/SweepCurves.lean`: the edge records a curve leaves in
  the event-queue builder (`edgesOf`, `flatRange`, `storedRange`; which records one curve call stores is
  `Sources.curveSegment_recs`, `Lemmas/SourcesCurve.lean`); `Tiles` (what `Flat.quad_flat_tiles` /
  `Flat.cubic_flat_tiles` of `Lemmas/Flatten.lean` say of a flattening).
-/
import LyonVerif.Model.Tess.SweepCurves
import LyonVerif.Lemmas.Flatten

set_option linter.unusedSectionVars false

namespace Lyon.SweepCurvesProps
open Lyon Lyon.Scalar Lyon.Sources Lyon.SweepCurves Lyon.Flat

variable {K : Type} [Field K] [LinearOrder K] [IsStrictOrderedRing K]

/-- the edge records among stored records (vertex events dropped), newest first -/
noncomputable def edgesOf (recs : List (EdgeRec K)) : List (EdgeRec K) := recs.filter (·.isEdge)

/-- the range of an edge record read in the direction of the flattening that produced it:
`add_edge` stores a downward piece as it is (winding `w` of the curve) and an upward piece with
ends and range swapped and winding `-w` -/
noncomputable def flatRange (w : Int) (r : EdgeRec K) : K × K := if r.winding = w then (r.t0, r.t1) else (r.t1, r.t0)

/-- the range stored for a piece: the flattening's own, or `1 - t` when flattened from the end -/
noncomputable def storedRange (ns : Bool) (l : Piece K) : K × K := (pieceT ns l.t0, pieceT ns l.t1)

noncomputable def nondeg (l : Piece K) : Bool := !(l.a == l.b)

section flat
variable [Transc K] [FlatConst K]

/-- the pieces of a flattening form a chain in points and parameters from `(p, 0)` to `(q, 1)`:
they tile `[0,1]` in order -/
def Tiles (p q : P K) (l : List (FlatSeg K)) : Prop :=
  l ≠ [] ∧ Chain p 0 l ∧ lastPt p l = q ∧ lastT 0 l = 1

theorem toPieces_filter_map (ns : Bool) (l : List (FlatSeg K)) :
    ((toPieces l).filter nondeg).map (storedRange ns)
      = (l.filter (fun s => !(s.a == s.b))).map (fun s => (pieceT ns s.t0, pieceT ns s.t1)) := by
  unfold toPieces
  rw [List.filter_map, List.map_map]
  rfl

end flat

end Lyon.SweepCurvesProps
