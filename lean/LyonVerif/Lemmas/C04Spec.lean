/-
  C04: the vocabulary in which the geometry-builder property is stated (`Protocol`, `firstRefusal`, `idsFresh`,
  `wellScoped`, `beforeKth`, `tieSink`, `lower`, `protocolB`) and what the theorems of `Props/C04.lean`,
  `Props/C08.lean` and `Props/C02d.lean` rest on: the trace of a run under `?` obeys the protocol
  (`protocol_of_calls`); a builder that refuses the k-th vertex is transparent before it (`runQ_refuseAt`); vertex
  and triangle calls only append to a `BuffersBuilder` (`bb_exec_body`); a fill call that fits the index type leaves
  the prior contents, the payloads and the corner ordinals moved up by the number of prior vertices
  (`tessellateImpl_fit`), one that fails gives the prior contents back (`tessellateImpl_failed`); the stroke and
  fast-path skeletons are the fill skeleton on the concatenated requests (`strokeRun_eq`, `shapeRun_eq`).
  Two vocabularies stand side by side: requests (`runQ`, `payloads` / `corners`, the invariant `Ext` of
  `Lemmas/Tess.lean`: `tessellateImpl_fit`, `tessellateImpl_failed`, the all-or-nothing theorems) and builder calls of
  ANY caller (`Op`, `Sink.exec`, `opVerts` / `opCorners`, the equation `bb_exec_body`: `buffers_abort_restores`,
  `buffers_end_extends`); `lower` with `exec_lower` takes a request run to its calls, and no lemma yet equates
  `opVerts (lower …)` with `payloads …`.
-/
import LyonVerif.Lemmas.Tess


namespace Lyon.C04
open Lyon Lyon.Tess

/-- First refused vertex of a trace. -/
def firstRefusal : List Call → Option GErr
  | [] => none
  | .vertex (.error e) :: _ => some e
  | _ :: r => firstRefusal r

/-- The protocol the property demands of one tessellation call: `begin`, then only vertex /
triangle calls, then exactly one terminator — `end` iff the call returned `Ok`, `abort` iff it
returned an error — and nothing after it; a refused vertex is what the call returns (the first). -/
structure Protocol (tr : List Call) (res : Option TErr) : Prop where
  shape : ∃ body term, tr = .begin :: body ++ [term] ∧ (∀ c ∈ body, c.isBody = true) ∧
      ((res = none ∧ term = .endG) ∨ (res ≠ none ∧ term = .abort))
  first_error : ∀ e, firstRefusal tr = some e → res = some (.geometryBuilder e)

/-- Every triangle of a trace uses only ids returned (by successful vertex calls) earlier in it. -/
def idsFresh : List Nat → List Call → Bool
  | _, [] => true
  | ids, .vertex (.ok i) :: r => idsFresh (ids ++ [i]) r
  | ids, .tri a b c :: r => ids.contains a && ids.contains b && ids.contains c && idsFresh ids r
  | ids, _ :: r => idsFresh ids r

/-- Every triangle request names vertices requested before it (`n` = number requested so far). -/
def wellScoped : Nat → List CReq → Bool
  | _, [] => true
  | n, .v _ :: r => wellScoped (n + 1) r
  | n, .t a b c :: r => decide (a < n) && decide (b < n) && decide (c < n) && wellScoped n r

def Op.isBody : Op → Bool
  | .vertex _ => true
  | .tri _ _ _ => true
  | _ => false

/-- The requests strictly before the `j`-th vertex request (`j ≥ 1`). -/
def beforeKth : Nat → List CReq → List CReq
  | _, [] => []
  | 0, _ => []
  | 1, .v _ :: _ => []
  | j + 2, .v p :: r => .v p :: beforeKth (j + 1) r
  | j + 1, .t a b c :: r => .t a b c :: beforeKth (j + 1) r

theorem firstRefusal_skip (pre rest : List Call) (h : OkTri pre) :
    firstRefusal (pre ++ rest) = firstRefusal rest := by
  induction pre with
  | nil => rfl
  | cons c pre ih =>
    have hc := h c (by simp)
    have ih' := ih (fun c' hc' => h c' (by simp [hc']))
    rcases hc with ⟨i, rfl⟩ | ⟨a, b, d, rfl⟩ <;> simpa [firstRefusal] using ih'

theorem body_of_okTri (l : List Call) (h : OkTri l) : ∀ c ∈ l, c.isBody = true := by
  intro c hc
  rcases h c hc with ⟨i, rfl⟩ | ⟨a, b, d, rfl⟩ <;> rfl

theorem protocol_of_calls (calls : List Call) (err : Option GErr) (hq : QCalls calls err)
    (res : Option TErr) (term : Call) (hres : ∀ e, err = some e → res = some (.geometryBuilder e))
    (hterm : (res = none ∧ term = .endG) ∨ (res ≠ none ∧ term = .abort)) :
    Protocol (.begin :: calls ++ [term]) res := by
  have hterm' : firstRefusal [term] = none := by rcases hterm with ⟨_, rfl⟩ | ⟨_, rfl⟩ <;> rfl
  cases err with
  | none =>
    refine ⟨⟨calls, term, rfl, body_of_okTri calls hq, hterm⟩, fun e he => ?_⟩
    rw [show firstRefusal (.begin :: calls ++ [term]) = firstRefusal (calls ++ [term]) from rfl,
      firstRefusal_skip calls _ hq, hterm'] at he
    cases he
  | some e =>
    obtain ⟨pre, rfl, hall⟩ := hq
    refine ⟨⟨_, term, rfl, fun c hc => ?_, hterm⟩, fun e' he => ?_⟩
    · rcases List.mem_append.mp hc with h | h
      · exact body_of_okTri pre hall c h
      · rw [List.mem_singleton.mp h]; rfl
    · rw [show firstRefusal (.begin :: (pre ++ [.vertex (.error e)]) ++ [term])
          = firstRefusal (pre ++ (.vertex (.error e) :: [term])) by simp [firstRefusal],
        firstRefusal_skip pre _ hall] at he
      cases he
      exact hres e rfl

/-- The sinks of the correspondence check: a real `BuffersBuilder`, optionally wrapped in
`InvertWinding`, behind the fault injector (`k = 0`: never injects, so that only the builder's own
`TooManyVertices` can occur). -/
def tieSink (inv : Bool) (k : Nat) (e : GErr) : Sink (BB × Nat) :=
  (if inv then bbSink.invert else bbSink).refuseAt k e

theorem tieSink_preserves (inv : Bool) (k : Nat) (e : GErr) (b0 : Buffers) :
    (tieSink inv k e).Preserves (fun s => Ext b0 s.1) := by
  unfold tieSink
  cases inv
  · exact (bbSink_preserves_ext b0).refuseAt k e
  · exact (bbSink_preserves_ext b0).invert.refuseAt k e

theorem tieSink_begin (inv : Bool) (k : Nat) (e : GErr) (s : BB × Nat) :
    ((tieSink inv k e).begin s).1 = s.1.begin := by cases inv <;> rfl
theorem tieSink_abort (inv : Bool) (k : Nat) (e : GErr) (s : BB × Nat) :
    ((tieSink inv k e).abort s).1 = s.1.abort := by cases inv <;> rfl
theorem tieSink_endG (inv : Bool) (k : Nat) (e : GErr) (s : BB × Nat) :
    ((tieSink inv k e).endG s).1 = s.1 := by cases inv <;> rfl

theorem refuseAt_vertex_eq {σ : Type} (S : Sink σ) (e : GErr) (k n : Nat) (s : σ) (p : Nat)
    (h : n + 1 = k) : (S.refuseAt k e).vertex (s, n) p = ((s, n + 1), .error e) := by
  simp [Sink.refuseAt, h]

theorem refuseAt_vertex_ne {σ : Type} (S : Sink σ) (e : GErr) (k n : Nat) (s : σ) (p : Nat)
    (h : ¬ n + 1 = k) :
    (S.refuseAt k e).vertex (s, n) p = (((S.vertex s p).1, n + 1), (S.vertex s p).2) := by
  simp [Sink.refuseAt, h]

theorem refuseAt_tri {σ : Type} (S : Sink σ) (e : GErr) (k n : Nat) (s : σ) (a b c : Nat) :
    (S.refuseAt k e).tri (s, n) a b c = (S.tri s a b c, n) := rfl

/-- the run against the injector that refuses the `k`-th vertex (`n` vertices counted so far) is the fault-free run of
the requests before that vertex, followed by the refusal -/
theorem runQ_refuseAt {σ : Type} (S : Sink σ) (e : GErr) (k : Nat) :
    ∀ (core : List CReq) (s : σ) (n : Nat) (ids : List Nat),
      (runQ S core s ids).err = none → n < k → k ≤ n + nVerts core →
      (runQ (S.refuseAt k e) core (s, n) ids).calls =
          (runQ S (beforeKth (k - n) core) s ids).calls ++ [.vertex (.error e)] ∧
      (runQ (S.refuseAt k e) core (s, n) ids).err = some e ∧
      (runQ (S.refuseAt k e) core (s, n) ids).st = ((runQ S (beforeKth (k - n) core) s ids).st, k) := by
  intro core
  induction core with
  | nil => intro s n ids _ h1 h2; simp [nVerts] at h2; omega
  | cons r rest ih =>
    intro s n ids hok h1 h2
    cases r with
    | v p =>
      rcases hv : S.vertex s p with ⟨s', (i | e')⟩
      · -- accepted by the inner builder
        simp only [runQ, hv] at hok
        by_cases hk : n + 1 = k
        · have hj : k - n = 1 := by omega
          simp [runQ, refuseAt_vertex_eq S e k n s p hk, hj, beforeKth, hk]
        · obtain ⟨j, hj⟩ : ∃ j, k - n = j + 2 := ⟨k - n - 2, by omega⟩
          have hj' : k - (n + 1) = j + 1 := by omega
          have := ih s' (n + 1) (ids ++ [i]) hok (by omega) (by simp [nVerts] at h2; omega)
          rw [hj'] at this
          simp only [runQ, refuseAt_vertex_ne S e k n s p hk, hv, hj, beforeKth]
          simp only [this, List.cons_append, and_self]
      · simp [runQ, hv] at hok
    | t a b c =>
      simp only [runQ] at hok
      obtain ⟨j, hj⟩ : ∃ j, k - n = j + 1 := ⟨k - n - 1, by omega⟩
      have := ih (S.tri s (resolve ids a) (resolve ids b) (resolve ids c)) n ids hok h1
        (by simpa [nVerts] using h2)
      rw [hj] at this
      simp only [runQ, hj, beforeKth, refuseAt_tri]
      simp only [this, List.cons_append, and_self]

theorem contains_of_mem (ids : List Nat) (a : Nat) : ids.contains a = true ↔ a ∈ ids := by
  simp

def opVerts : List Op → List Nat
  | [] => []
  | .vertex p :: r => p :: opVerts r
  | _ :: r => opVerts r

def opCorners : List Op → List Nat
  | [] => []
  | .tri a b c :: r => a :: b :: c :: opCorners r
  | _ :: r => opCorners r

/-- `bbSink_vertex` along a list of body calls, as one equation -/
theorem bb_exec_body (ops : List Op) : ∀ (b : BB), (∀ o ∈ ops, Op.isBody o = true) →
    (bbSink.exec ops b).1 =
      { b with buf := ⟨b.buf.vertices ++ opVerts ops, b.buf.indices ++ (opCorners ops).map b.conv⟩ } := by
  induction ops with
  | nil => intro b _; simp [Sink.exec, opVerts, opCorners]
  | cons o r ih =>
    intro b h
    have ho := h o (by simp)
    have ih' := fun b' => ih b' (fun o ho => h o (List.mem_cons_of_mem _ ho))
    cases o with
    | vertex p =>
      rw [Sink.exec, ih', bbSink_vertex]
      simp only [opVerts, opCorners, List.append_assoc, List.singleton_append]
      rfl
    | tri x y z =>
      rw [Sink.exec, ih']
      simp only [bbSink, BB.addTriangle, opVerts, opCorners, List.map_cons, List.append_assoc, List.cons_append,
        List.nil_append]
      rfl
    | _ => simp [Op.isBody] at ho

/-- with the real builder an accepted vertex's id is its position, so `idsFresh` bounds every corner by the number of
vertices pushed so far; `lo`: nothing below the call's first vertex is referred to -/
theorem corners_fresh (lo : Nat) (ops : List Op) : ∀ (b : BB) (ids : List Nat),
    (∀ o ∈ ops, Op.isBody o = true) → lo ≤ b.buf.vertices.length →
    (∀ id ∈ ids, lo ≤ id ∧ id < b.buf.vertices.length) → idsFresh ids (bbSink.exec ops b).2 = true →
    ∀ a ∈ opCorners ops, lo ≤ a ∧ a < b.buf.vertices.length + (opVerts ops).length := by
  induction ops with
  | nil => intro _ _ _ _ _ _; simp [opCorners]
  | cons o r ih =>
    intro b ids h hlo hids hf a ha
    have ho := h o (by simp)
    have hr : ∀ o ∈ r, Op.isBody o = true := fun o ho => h o (List.mem_cons_of_mem _ ho)
    cases o with
    | vertex p =>
      have ih' := fun ids' => ih (bbSink.vertex b p).1 ids' hr
      simp only [Sink.exec, bbSink_vertex] at hf
      rw [bbSink_vertex] at ih'
      simp only [List.length_append, List.length_singleton] at ih'
      have hids' : ∀ id ∈ ids, lo ≤ id ∧ id < b.buf.vertices.length + 1 := fun id hid => by
        have := hids id hid; omega
      simp only [opVerts, List.length_cons]
      split at hf <;> simp only [idsFresh] at hf
      · have := ih' ids (by omega) hids' hf a ha; omega
      · -- the id handed out is the position of the new vertex
        have := ih' (ids ++ [b.buf.vertices.length]) (by omega) (fun id hid => by
          rcases List.mem_append.mp hid with h' | h'
          · exact hids' id h'
          · rw [List.mem_singleton.mp h']; omega) hf a ha
        omega
    | tri x y z =>
      simp only [Sink.exec, idsFresh, Bool.and_eq_true, contains_of_mem] at hf
      obtain ⟨⟨⟨hx, hy⟩, hz⟩, hfr⟩ := hf
      simp only [opCorners, List.mem_cons] at ha
      have hb : ∀ w ∈ ids, lo ≤ w ∧ w < b.buf.vertices.length + (opVerts (Op.tri x y z :: r)).length :=
        fun w hw => ⟨(hids w hw).1, Nat.lt_add_right _ (hids w hw).2⟩
      rcases ha with rfl | rfl | rfl | ha
      · exact hb _ hx
      · exact hb _ hy
      · exact hb _ hz
      · exact ih (bbSink.tri b x y z) ids hr hlo hids hfr a ha
    | _ => simp [Op.isBody] at ho

theorem resolve_mem (ids : List Nat) (a : Nat) (h : a < ids.length) : resolve ids a ∈ ids := by
  simp [resolve, List.getD_eq_getElem?_getD, List.getElem?_eq_getElem h]

theorem idsFresh_append_term (t : Call) (ht : t.isTerminator = true) :
    ∀ (l : List Call) (ids : List Nat), idsFresh ids (l ++ [t]) = idsFresh ids l := by
  intro l
  induction l with
  | nil => intro ids; cases t <;> simp_all [idsFresh, Call.isTerminator]
  | cons c l ih =>
    intro ids
    cases c with
    | vertex r => cases r <;> simp [idsFresh, ih]
    | _ => simp [idsFresh, ih]

theorem runQ_fresh {σ : Type} (S : Sink σ) (core : List CReq) (s : σ) (ids : List Nat)
    (hw : wellScoped ids.length core = true) : idsFresh ids (runQ S core s ids).calls = true := by
  fun_induction runQ S core s ids with
  | case1 => simp [idsFresh]
  | case2 p r s ids s' i hv x ih =>
    simp only [idsFresh]
    exact ih (by simpa [wellScoped] using hw)
  | case3 p r s ids s' e hv => simp [idsFresh]
  | case4 a b c r s ids x ih =>
    simp only [wellScoped, Bool.and_eq_true, decide_eq_true_eq] at hw
    obtain ⟨⟨⟨ha, hb⟩, hc⟩, hr⟩ := hw
    simp only [idsFresh, Bool.and_eq_true, contains_of_mem]
    exact ⟨⟨⟨resolve_mem ids a ha, resolve_mem ids b hb⟩, resolve_mem ids c hc⟩, ih hr⟩

theorem strokeEvents_fresh {σ : Type} (S : Sink σ) (evs : List (List CReq)) (s : σ) (ids : List Nat)
    (h : wellScoped ids.length evs.flatten = true) : idsFresh ids (strokeEvents S evs s ids).calls = true := by
  rw [(strokeEvents_eq S evs s ids).1]
  exact runQ_fresh S _ s ids h

def payloads : List CReq → List Nat
  | [] => []
  | .v p :: r => p :: payloads r
  | .t _ _ _ :: r => payloads r

def corners : List CReq → List Nat
  | [] => []
  | .v _ :: r => corners r
  | .t a b c :: r => a :: b :: c :: corners r

theorem payloads_length (core : List CReq) : (payloads core).length = nVerts core := by
  induction core with
  | nil => rfl
  | cons r rest ih => cases r <;> simp [payloads, nVerts, ih]

theorem corners_lt : ∀ (core : List CReq) (k : Nat), wellScoped k core = true →
    ∀ a ∈ corners core, a < k + nVerts core
  | [], _, _ => by simp [corners]
  | .v p :: r, k, h => fun a ha => by
    have := corners_lt r (k + 1) (by simpa [wellScoped] using h) a ha
    simp only [nVerts]; omega
  | .t x y z :: r, k, h => fun a ha => by
    simp only [wellScoped, Bool.and_eq_true, decide_eq_true_eq] at h
    simp only [corners, List.mem_cons] at ha
    have := corners_lt r k h.2 a
    simp only [nVerts]
    rcases ha with rfl | rfl | rfl | ha
    · omega
    · omega
    · omega
    · exact this ha

/-- `n0 + k` vertices are in the buffer, the last `k` of them returned since `begin`: the ids so far are
`range' n0 k`, and a corner ordinal `a` becomes the index `n0 + a` -/
theorem runQ_bb_fit (n0 fv fi : Nat) (cfg : IdxCfg) (hm1 : cfg.max ≤ cfg.modulus) (hm2 : cfg.max ≤ idxMod) :
    ∀ (core : List CReq) (k : Nat) (vs is : List Nat),
    vs.length = n0 + k → wellScoped k core = true → n0 + k + nVerts core ≤ cfg.max →
    (runQ bbSink core ⟨⟨vs, is⟩, fv, fi, 0, cfg⟩ (List.range' n0 k)).err = none ∧
    (runQ bbSink core ⟨⟨vs, is⟩, fv, fi, 0, cfg⟩ (List.range' n0 k)).st =
      ⟨⟨vs ++ payloads core, is ++ (corners core).map (n0 + ·)⟩, fv, fi, 0, cfg⟩ := by
  intro core
  induction core with
  | nil => intro k vs is _ _ _; simp [runQ, payloads, corners]
  | cons r rest ih =>
    intro k vs is hlen hw hfit
    cases r with
    | v p =>
      simp only [nVerts] at hfit
      obtain ⟨e1, e2⟩ := ih (k + 1) (vs ++ [p]) is (by simp [hlen]; omega) (by simpa [wellScoped] using hw) (by omega)
      rw [List.range'_concat, Nat.one_mul] at e1 e2
      -- accepted, and the id is the position `n0 + k`
      simp only [runQ, bbSink_vertex, hlen, if_neg (show ¬ n0 + k + 1 > cfg.max by omega), e1, e2, payloads, corners,
        List.append_assoc, List.singleton_append, and_self]
    | t x y z =>
      simp only [wellScoped, Bool.and_eq_true, decide_eq_true_eq] at hw
      obtain ⟨⟨⟨hx, hy⟩, hz⟩, hr⟩ := hw
      -- an ordinal in range is the id `n0 + a`, which the index conversion does not wrap
      have cv : ∀ a, a < k → BB.conv ⟨⟨vs, is⟩, fv, fi, 0, cfg⟩ (resolve (List.range' n0 k) a) = n0 + a := by
        intro a ha
        have : resolve (List.range' n0 k) a = n0 + a := by
          simp [resolve, List.getD_eq_getElem?_getD, ha]
        have hlt : n0 + a < cfg.max := by simp only [nVerts] at hfit; omega
        simp only [this, BB.conv, Nat.add_zero]
        rw [Nat.mod_eq_of_lt (show n0 + a < idxMod by omega), Nat.mod_eq_of_lt (by omega)]
      obtain ⟨e1, e2⟩ := ih k vs (is ++ [n0 + x, n0 + y, n0 + z]) hlen hr (by simpa [nVerts] using hfit)
      simp only [runQ, bbSink, BB.addTriangle, cv x hx, cv y hy, cv z hz]
      simp only [bbSink] at e1 e2
      simp [e1, e2, payloads, corners]

theorem tessellateImpl_fit (B : Buffers) (cfg : IdxCfg) (core : List CReq) (hw : wellScoped 0 core = true)
    (hfit : B.vertices.length + nVerts core ≤ cfg.max) (hm1 : cfg.max ≤ cfg.modulus) (hm2 : cfg.max ≤ idxMod) :
    (tessellateImpl bbSink true core none (BB.new B cfg)).result = none ∧
    (tessellateImpl bbSink true core none (BB.new B cfg)).st.buf =
      ⟨B.vertices ++ payloads core, B.indices ++ (corners core).map (B.vertices.length + ·)⟩ := by
  obtain ⟨e, s⟩ := runQ_bb_fit B.vertices.length (B.vertices.length % idxMod) (B.indices.length % idxMod) cfg hm1 hm2
    core 0 B.vertices B.indices rfl hw (by omega)
  simp only [List.range'_zero] at e s
  rw [tessellateImpl_eq]
  simp only [bbSink, BB.begin, BB.new] at e s ⊢
  simp [e, s, callResult, Sink.finish, BB.endG]

theorem runQ_refused : ∀ (core : List CReq) (b : BB) (ids : List Nat),
    b.buf.vertices.length ≤ b.cfg.max → b.buf.vertices.length + nVerts core > b.cfg.max →
    (runQ bbSink core b ids).err = some .tooManyVertices := by
  intro core
  induction core with
  | nil => intro b ids h1 h2; simp [nVerts] at h2; omega
  | cons r rest ih =>
    intro b ids h1 h2
    cases r with
    | v p =>
      simp only [nVerts] at h2
      rw [runQ, bbSink_vertex]
      by_cases hgt : b.buf.vertices.length + 1 > b.cfg.max
      · rw [if_pos hgt]
      · rw [if_neg hgt]
        exact ih _ _ (by simp; omega) (by simp; omega)
    | t x y z =>
      rw [runQ]
      exact ih _ ids h1 h2

theorem tessellateImpl_failed (B : Buffers) (cfg : IdxCfg) (tolOk : Bool) (core : List CReq) (coreErr : Option TErr)
    (hv : B.vertices.length < idxMod) (hi : B.indices.length < idxMod)
    (h : (tessellateImpl bbSink tolOk core coreErr (BB.new B cfg)).result ≠ none) :
    (tessellateImpl bbSink tolOk core coreErr (BB.new B cfg)).st.buf = B := by
  cases tolOk
  · rfl
  · rw [tessellateImpl_eq] at h ⊢
    cases hr : callResult (runQ bbSink core (bbSink.begin (BB.new B cfg)) []).err coreErr with
    | none => exact absurd hr h
    | some r =>
      exact (runQ_preserves (bbSink_preserves_ext B) core _ [] (Ext.ofBegin (BB.new B cfg) hv hi)).abort

theorem nVerts_append : ∀ (a b : List CReq), nVerts (a ++ b) = nVerts a + nVerts b := by
  intro a
  induction a with
  | nil => intro b; simp [nVerts]
  | cons r a ih => intro b; cases r <;> simp [nVerts, ih] <;> omega

theorem wellScoped_append : ∀ (a b : List CReq) (n : Nat),
    wellScoped n (a ++ b) = (wellScoped n a && wellScoped (n + nVerts a) b) := by
  intro a
  induction a with
  | nil => intro b n; simp [wellScoped, nVerts]
  | cons r a ih =>
    intro b n
    cases r with
    | v p => simp only [List.cons_append, wellScoped, nVerts, ih]; congr 2; omega
    | t x y z => simp only [List.cons_append, wellScoped, nVerts, ih, Bool.and_assoc]

theorem borderRadius_scoped : ∀ (n va vb next : Nat), va < next → vb < next →
    wellScoped next (borderRadius n va vb next).1 = true ∧
    (borderRadius n va vb next).2 = next + nVerts (borderRadius n va vb next).1 := by
  intro n
  induction n with
  | zero => intro va vb next _ _; simp [borderRadius, wellScoped, nVerts]
  | succ n ih =>
    intro va vb next ha hb
    obtain ⟨l1, l2⟩ := ih va next (next + 1) (by omega) (by omega)
    obtain ⟨r1, r2⟩ := ih next vb (borderRadius n va next (next + 1)).2 (by omega) (by omega)
    simp only [borderRadius, wellScoped, nVerts, wellScoped_append, nVerts_append, Bool.and_eq_true,
      decide_eq_true_eq]
    refine ⟨⟨⟨⟨by omega, by omega⟩, by omega⟩, l1, ?_⟩, ?_⟩
    · rw [← l2]; exact r1
    · rw [r2, l2]; omega

theorem circleQuadrants_scoped (n : Nat) : ∀ (q next : Nat), 4 ≤ next →
    wellScoped next (circleQuadrants n q next).1 = true ∧
    (circleQuadrants n q next).2 = next + nVerts (circleQuadrants n q next).1 := by
  intro q
  induction q with
  | zero => intro next _; simp [circleQuadrants, wellScoped, nVerts]
  | succ q ih =>
    intro next h4
    have hm : (3 - q + 1) % 4 < 4 := Nat.mod_lt _ (by omega)
    obtain ⟨x1, x2⟩ := borderRadius_scoped n (3 - q) ((3 - q + 1) % 4) next (by omega) (by omega)
    obtain ⟨y1, y2⟩ := ih (borderRadius n (3 - q) ((3 - q + 1) % 4) next).2 (by omega)
    simp only [circleQuadrants, wellScoped_append, nVerts_append, Bool.and_eq_true]
    exact ⟨⟨x1, by rw [← x2]; exact y1⟩, by rw [y2, x2]; omega⟩

theorem shapeRun_eq {σ : Type} (S : Sink σ) (script : List CReq) (s : σ) :
    shapeRun S script s = tessellateImpl S true script none s := by
  unfold shapeRun tessellateImpl
  dsimp only
  cases (runQ S script (S.begin s) []).err <;> simp

theorem strokeRun_eq {σ : Type} (S : Sink σ) (events : List (List CReq)) (s : σ) :
    (strokeRun S events s).trace = (tessellateImpl S true events.flatten none s).trace ∧
    (strokeRun S events s).result = (tessellateImpl S true events.flatten none s).result ∧
    (strokeRun S events s).st = (tessellateImpl S true events.flatten none s).st := by
  obtain ⟨h1, h2, h3⟩ := strokeEvents_eq S events (S.begin s) []
  unfold strokeRun tessellateImpl
  dsimp only
  rw [h1, h2, h3]
  cases (runQ S events.flatten (S.begin s) []).err <;> simp

/-- The builder calls (`Op`s, raw ids) that `runQ` makes for a request sequence. -/
def lower {σ : Type} (S : Sink σ) : List CReq → σ → List Nat → List Op
  | [], _, _ => []
  | .v p :: r, s, ids =>
      match S.vertex s p with
      | (s', .ok i) => .vertex p :: lower S r s' (ids ++ [i])
      | (_, .error _) => [.vertex p]
  | .t a b c :: r, s, ids =>
      .tri (resolve ids a) (resolve ids b) (resolve ids c) ::
        lower S r (S.tri s (resolve ids a) (resolve ids b) (resolve ids c)) ids

theorem lower_body {σ : Type} (S : Sink σ) (core : List CReq) (s : σ) (ids : List Nat) :
    ∀ o ∈ lower S core s ids, Op.isBody o = true := by
  fun_induction lower S core s ids with
  | case1 => simp
  | case2 p r s ids s' i hv ih => exact fun o ho => (List.mem_cons.mp ho).elim (· ▸ rfl) (ih o)
  | case3 p r s ids s' e hv => exact fun o ho => List.mem_singleton.mp ho ▸ rfl
  | case4 a b c r s ids ih => exact fun o ho => (List.mem_cons.mp ho).elim (· ▸ rfl) (ih o)

theorem exec_lower {σ : Type} (S : Sink σ) (core : List CReq) (s : σ) (ids : List Nat) :
    S.exec (lower S core s ids) s = ((runQ S core s ids).st, (runQ S core s ids).calls) := by
  fun_induction runQ S core s ids with
  | case1 => simp [lower, Sink.exec]
  | case2 p r s ids s' i hv x ih => simp only [lower, hv, Sink.exec, ih, x]
  | case3 p r s ids s' e hv => simp [lower, hv, Sink.exec]
  | case4 a b c r s ids x ih => simp only [lower, Sink.exec, ih, x]

/-- Body calls up to one terminator, which must match the result. -/
def bodyThenTerm : List Call → Option TErr → Bool
  | [], _ => false
  | [t], res => (decide (t = .endG) && res.isNone) || (decide (t = .abort) && res.isSome)
  | c :: r, res => c.isBody && bodyThenTerm r res

/-- Decidable form of `Protocol`. -/
def protocolB (tr : List Call) (res : Option TErr) : Bool :=
  (match tr with
   | .begin :: rest => bodyThenTerm rest res
   | _ => false) &&
  (match firstRefusal tr with
   | none => true
   | some e => decide (res = some (.geometryBuilder e)))

theorem bodyThenTerm_append (body : List Call) (t : Call) (res : Option TErr) :
    bodyThenTerm (body ++ [t]) res = (body.all Call.isBody &&
      ((decide (t = .endG) && res.isNone) || (decide (t = .abort) && res.isSome))) := by
  induction body with
  | nil => simp [bodyThenTerm]
  | cons c r ih =>
    cases r with
    | nil => simp [bodyThenTerm]
    | cons d r' =>
      simp only [List.cons_append, bodyThenTerm, List.all_cons] at ih ⊢
      rw [ih]
      simp only [Bool.and_assoc]

theorem bodyThenTerm_iff (res : Option TErr) : ∀ l : List Call,
    bodyThenTerm l res = true ↔
      ∃ body term, l = body ++ [term] ∧ (∀ c ∈ body, c.isBody = true) ∧
        ((res = none ∧ term = .endG) ∨ (res ≠ none ∧ term = .abort)) := by
  intro l
  rcases List.eq_nil_or_concat l with rfl | ⟨body, t, rfl⟩
  · simp [bodyThenTerm]
  · rw [List.concat_eq_append, bodyThenTerm_append]
    simp only [Bool.and_eq_true, List.all_eq_true, Bool.or_eq_true, decide_eq_true_eq]
    constructor
    · rintro ⟨hb, ⟨rfl, hr⟩ | ⟨rfl, hr⟩⟩
      · exact ⟨body, _, rfl, hb, Or.inl ⟨Option.isNone_iff_eq_none.mp hr, rfl⟩⟩
      · exact ⟨body, _, rfl, hb, Or.inr ⟨Option.isSome_iff_ne_none.mp hr, rfl⟩⟩
    · rintro ⟨b', t', h, hb, hc⟩
      obtain ⟨rfl, h'⟩ := List.append_inj' h rfl
      cases h'
      refine ⟨hb, ?_⟩
      rcases hc with ⟨rfl, rfl⟩ | ⟨hr, rfl⟩
      · exact Or.inl ⟨rfl, rfl⟩
      · exact Or.inr ⟨rfl, Option.isSome_iff_ne_none.mpr hr⟩

end Lyon.C04
