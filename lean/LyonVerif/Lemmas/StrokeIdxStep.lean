/-
  Index validity for the complete stroker model `Lyon.Stroke.Full`: the two step functions
  `fixed_width_step_impl` (`fwStep`) and `step_impl` (`vwStep`) as program equations per window size, what a step has
  to deliver (`StepRes`), and the parts both share: the window bookkeeping (`step_merged`, `step_zero`, `step_second`,
  `step_commit`) and the two branches through which a join is committed, specified once - the ordinary one (`ordJoin`:
  base vertices, edge, `tessellate_join`) and the fast path of a flattened curve (`flatOut`, after `flattened_step`).
  `vwStep_spec` is here; the fixed-width walk needs the link and is in `Lemmas/StrokeIdxRun.lean`.  The file starts with
  `compute_join_side_positions_fixed_width`: which fields of the join it sets (`joinSidesFw_eq`, hence `joinSidesFw_upd`) and
  what it leaves in the `next` side points (`frontFix_next`, `joinSidesFw_nexts`, `fwGeo_fields`).
  `step_first` is the first point of a sub-path (empty window), `fwStep_eq_first` the first EDGE (one point in the window).
-/
import LyonVerif.Lemmas.StrokeIdxInv

set_option linter.unusedSectionVars false

namespace Lyon.C05c
open Lyon Scalar Lyon.Stroke Lyon.Stroke.Full Lyon.C05 Lyon.C05b

section
variable {α : Type} [Scalar α] [Transc α]

/-- `compute_join_side_positions_fixed_width` sets the advancement, the two sides and (when the join folds) one fold flag -/
theorem joinSidesFw_eq (ix : Lyon.StrokeQuad.Ix α) (prev join next : EP α) (ml vhw : α) :
    joinSidesFw ix prev join next ml vhw
      = { join with
          advancement := if Transc.isNaN join.advancement then prev.advancement + (fwGeo prev join next ml vhw).pl
                         else join.advancement
          pos := (joinSidesFw ix prev join next ml vhw).pos
          neg := (joinSidesFw ix prev join next ml vhw).neg
          foldPos := join.foldPos || ((fwGeo prev join next ml vhw).fold && !(fwGeo prev join next ml vhw).frontNeg)
          foldNeg := join.foldNeg || ((fwGeo prev join next ml vhw).fold && (fwGeo prev join next ml vhw).frontNeg) } := by
  unfold joinSidesFw
  simp only []
  cases (fwGeo prev join next ml vhw).fold <;> cases (fwGeo prev join next ml vhw).frontNeg <;> simp

theorem joinSidesFw_upd (ix : Lyon.StrokeQuad.Ix α) (prev join next : EP α) (ml vhw : α) :
    Upd join (joinSidesFw ix prev join next ml vhw) := by
  rw [joinSidesFw_eq]; exact ⟨rfl, rfl, rfl, rfl, Or.inl rfl⟩

theorem frontFix_next (ix : Lyon.StrokeQuad.Ix α) (lj : LineJoin) (u : Bool) (s : SideGeom α) (j fn m : P α)
    (cd : α) :
    (frontFix ix lj u s j fn m cd).next
      = if u = false ∧ lj = .miterClip then j + (Lyon.StrokeQuad.clipIntersections ix (s.prev - j) (s.next - j) fn cd).2
        else s.next := by
  cases u <;> cases lj <;> rfl

theorem frontFix_single (ix : Lyon.StrokeQuad.Ix α) (lj : LineJoin) (u : Bool) (s : SideGeom α) (j fn m : P α)
    (cd : α) : (frontFix ix lj u s j fn m cd).single = if u then some m else s.single := by
  cases u <;> cases lj <;> rfl

/-- where `compute_join_side_positions_fixed_width` leaves the two `next` side points: at
`join ± perp(next_tangent)·half_width`, except for the FRONT side of a clipped `MiterClip` join
(no fold, miter limit exceeded), which moves to the clip line -/
theorem joinSidesFw_nexts (ix : Lyon.StrokeQuad.Ix α) (prev join next : EP α) (ml vhw : α) :
    let g := fwGeo prev join next ml vhw
    let j := join.position
    let n0 := (perp g.pt).smul vhw
    let n1 := (perp g.nt).smul vhw
    let clipped := g.fold = false ∧ g.unclipped = false ∧ join.lineJoin = .miterClip
    (joinSidesFw ix prev join next ml vhw).pos.next
        = (if clipped ∧ g.frontNeg = false then
            j + (Lyon.StrokeQuad.clipIntersections ix ((j + n0) - j) ((j + n1) - j) g.frontNormal (ml * vhw)).2
          else j + n1)
      ∧ (joinSidesFw ix prev join next ml vhw).neg.next
        = (if clipped ∧ g.frontNeg = true then
            j + (Lyon.StrokeQuad.clipIntersections ix ((j - n0) - j) ((j - n1) - j) g.frontNormal (ml * vhw)).2
          else j - n1) := by
  unfold joinSidesFw
  simp only []
  cases (fwGeo prev join next ml vhw).fold <;> cases (fwGeo prev join next ml vhw).frontNeg <;>
    simp [frontFix_next]

theorem fwGeo_fields (prev join next : EP α) (ml vhw : α) :
    let g := fwGeo prev join next ml vhw
    g.pt = (join.position - prev.position).sdiv (len (join.position - prev.position))
      ∧ g.nt = (next.position - join.position).sdiv (len (next.position - join.position))
      ∧ g.normal = computeNormal g.pt g.nt
      ∧ g.frontNeg = decide (g.pt.cross g.nt ≥ zero)
      ∧ g.frontNormal = (if g.frontNeg then -g.normal else g.normal)
      ∧ g.unclipped = ((join.lineJoin == .miter || join.lineJoin == .miterClip)
          && !miterLimitIsExceeded g.frontNormal ml) :=
  ⟨rfl, rfl, rfl, rfl, rfl, rfl⟩

theorem firstEdgeSetup_spec (first next : EP α) :
    Upd first (firstEdgeSetup first next).1 ∧ (firstEdgeSetup first next).1.ids = first.ids
    ∧ Upd next (firstEdgeSetup first next).2 ∧ (firstEdgeSetup first next).2.ids = next.ids :=
  ⟨⟨rfl, rfl, rfl, rfl, Or.inl rfl⟩, rfl, ⟨rfl, rfl, rfl, rfl, Or.inl rfl⟩, rfl⟩

theorem edgeAttach_spec [Asin α] (p0 p1 : EP α) :
    Upd p0 (edgeAttach p0 p1).1 ∧ (edgeAttach p0 p1).1.ids = p0.ids
    ∧ Upd p1 (edgeAttach p0 p1).2 ∧ (edgeAttach p0 p1).2.ids = p1.ids :=
  ⟨⟨rfl, rfl, rfl, rfl, Or.inl rfl⟩, rfl, ⟨rfl, rfl, rfl, rfl, Or.inl rfl⟩, rfl⟩

theorem setSide_upd (e : EP α) (isNeg : Bool) (s : SideGeom α) : Upd e (e.setSide isNeg s) := by
  cases isNeg <;> exact ⟨rfl, rfl, rfl, rfl, Or.inl rfl⟩

theorem setFold_upd (e : EP α) (isNeg b : Bool) : Upd e (e.setFold isNeg b) := by
  cases isNeg <;> exact ⟨rfl, rfl, rfl, rfl, Or.inl rfl⟩

theorem joinSideVw_upd (ix : Lyon.StrokeQuad.Ix α) (prev join next : EP α) (ml : α) (isNeg : Bool) :
    Upd join (joinSideVw ix prev join next ml isNeg) := by
  unfold joinSideVw
  simp only []
  have h1 : Upd join (if (vwGeo prev join next isNeg).fold then join.setFold isNeg true else join) := by
    split_ifs
    · exact setFold_upd _ _ _
    · exact Upd.refl _
  generalize (if (vwGeo prev join next isNeg).fold then join.setFold isNeg true else join) = j1 at h1 ⊢
  split_ifs
  · exact h1.trans (setSide_upd _ _ _)
  · exact h1.trans (setSide_upd _ _ _)
  · exact h1

theorem joinSidesVw_upd (ix : Lyon.StrokeQuad.Ix α) (prev join next : EP α) (ml : α) :
    Upd join (joinSidesVw ix prev join next ml) := by
  have h1 := joinSideVw_upd ix prev join next ml false
  have h2 := joinSideVw_upd ix prev (joinSideVw ix prev join next ml false) next ml true
  have h12 := h1.trans h2
  unfold joinSidesVw
  simp only []
  split_ifs <;> exact ⟨h12.pos, h12.src, h12.hw, h12.flat, h12.lj⟩

theorem joinInterior_none (i : JoinIds) : joinInterior i false false = [] := by
  unfold joinInterior; split_ifs <;> rfl

theorem tooClose_eq {st : St α} {l : EP α} (h : st.buf.last = some l) (thr : α) (p : P α) :
    st.tooClose thr p = pointsAreTooClose thr l.position p := by
  simp [St.tooClose, h]

theorem tooClose_none {st : St α} (h : st.buf.last = none) (thr : α) (p : P α) :
    st.tooClose thr p = false := by
  simp [St.tooClose, h]

theorem fastPath_dot {prev join next : EP α} (h : fastPath prev join next = true) :
    (join.position - prev.position).dot (next.position - join.position) > zero := by
  unfold fastPath at h
  simp only [Bool.and_eq_true, decide_eq_true_eq] at h
  exact h.2

theorem fastPath_flat {prev join next : EP α} (h : fastPath prev join next = true) : join.isFlat = true := by
  unfold fastPath at h
  simp only [Bool.and_eq_true] at h
  exact h.1

theorem skipApart_vw {thr : α} (h : SkipApart thr) (prev join next : EP α)
    (hfp : fastPath prev join next = true)
    (t1 : pointsAreTooClose thr prev.position join.position = false)
    (t2 : pointsAreTooClose thr join.position next.position = false) :
    pointsAreTooClose thr prev.position next.position = false :=
  h _ _ _ t1 t2 (fastPath_dot hfp)

/-- the result `r` of a step function called in state `st` with the point `next`.  `merged` also returns
`tooClose = true`: `close_specL` shows the second step of `close` unmerged by contradiction with it; `added` says
`count = 3`, `firsts` unchanged for a full window only, which is where `close` takes its two steps. -/
structure StepRes (thr : α) (c : Cls α) (G : P α → P α → P α → Prop) (st : St α) (next : EP α)
    (r : St α × Bool) : Prop where
  inv : Inv thr c G r.1
  steps : VSteps c.C st.out r.1.out
  merged : r.2 = false → r.1.buf = st.buf ∧ r.1.firsts = st.firsts ∧ r.1.out = st.out
    ∧ st.tooClose thr next.position = true
  added : r.2 = true → st.tooClose thr next.position = false
    ∧ (∃ n', r.1.buf.last = some n' ∧ Upd next n' ∧ n'.ids = next.ids)
    ∧ (3 ≤ st.buf.count → r.1.buf.count = 3 ∧ r.1.firsts = st.firsts)

/-- a step function keeps the invariant: `next` is a fresh point (`Raw`), or — in `close`, window
full — a point that has been a join before -/
def StepSpec (thr : α) (c : Cls α) (G : P α → P α → P α → Prop) (step : StepFn α) : Prop :=
  ∀ (st : St α) (next : EP α), Inv thr c G st → c.F next →
    (Raw next.ids ∨ (3 ≤ st.buf.count ∧ Good st.out.nextId next.ids)) →
    StepRes thr c G st next (step st next)

variable {c : Cls α} {G : P α → P α → P α → Prop}

/-- the state after a committed join, before the new point is pushed -/
def commitSt (st : St α) (prev j' : EP α) (o' : Out α) : St α :=
  { st.setLast j' with out := o', firsts := if st.buf.count == 2 then [prev, j'] else st.firsts }

/-- ordinary branch: `add_join_base_vertices`, the edge towards `prev`, `tessellate_join`, for the join `j1`
whose side points have been computed; `dd` is `self.vertex` -/
def ordJoin (e : Env α) (st : St α) (prev j1 : EP α) (dd : VData α) : EP α × Out α :=
  ((baseVertices j1 dd st.out).1,
   edgeAndJoin e.o.tolerance st.buf.count prev (baseVertices j1 dd st.out).1 dd (baseVertices j1 dd st.out).2)

/-- fast path of a flattened curve: the output once `flattened_step` has answered `r` -/
def flatOut (e : Env α) (st : St α) (prev : EP α) (d : VData α) (r : FlatStep α) : Out α :=
  edgeAndJoin e.o.tolerance st.buf.count prev r.join { d with advancement := r.join.advancement } r.out

/-- `self.vertex` of the ordinary fixed-width join: the advancement is the computed join's -/
def fwJoinData (join j1 : EP α) : VData α :=
  { baseVertex join.src join.position join.halfWidth nan with advancement := j1.advancement }

theorem fwJoin_ordinary {e : Env α} (st : St α) {prev join next : EP α} (hfp : fastPath prev join next = false) :
    fwJoin e st prev join next
      = (commitSt st prev
          (ordJoin e st prev (joinSidesFw e.ix prev join next e.o.miterLimit join.halfWidth)
            (fwJoinData join (joinSidesFw e.ix prev join next e.o.miterLimit join.halfWidth))).1
          (ordJoin e st prev (joinSidesFw e.ix prev join next e.o.miterLimit join.halfWidth)
            (fwJoinData join (joinSidesFw e.ix prev join next e.o.miterLimit join.halfWidth))).2, next) := by
  unfold fwJoin; simp only []; rw [hfp]; rfl

theorem fwJoin_fast {e : Env α} (st : St α) {prev join next : EP α} (hfp : fastPath prev join next = true)
    (r : FlatStep α) (hr : r = flattenedStep prev { join with lineJoin := .miter } next
      (baseVertex join.src join.position join.halfWidth nan) st.out) :
    fwJoin e st prev join next
      = (commitSt st prev r.join (flatOut e st prev (baseVertex join.src join.position join.halfWidth nan) r), r.next) := by
  subst hr; unfold fwJoin; simp only []; rw [if_pos hfp]; rfl

theorem ordJoin_spec {e : Env α} {st : St α} {prev join : EP α} (hI : Inv e.thr c G st)
    (hxy : st.buf.lastTwo = some (prev, join)) (j1 : EP α) (dd : VData α) (hC : c.C dd.src dd.halfWidth) :
    Upd j1 (ordJoin e st prev j1 dd).1
      ∧ (ordJoin e st prev j1 dd).1.pos.next = j1.pos.next ∧ (ordJoin e st prev j1 dd).1.neg.next = j1.neg.next
      ∧ Good (ordJoin e st prev j1 dd).2.nextId (ordJoin e st prev j1 dd).1.ids
      ∧ VSteps c.C st.out (ordJoin e st prev j1 dd).2 := by
  obtain ⟨s1, gd, u2, e1, e2, hint, hp, hn⟩ := baseVertices_spec (C := c.C) j1 dd st.out hC
  have s2 := edgeAndJoin_vsteps (C := c.C) e.o.tolerance st.buf.count prev _ _ _ hC
    (fun h => (((hI.three (by omega) _ _ hxy).1).mono s1.next_le).out0) gd hint hp hn
  exact ⟨u2, e1, e2, gd.mono s2.next_le, s1.trans s2⟩

theorem flatOut_spec {e : Env α} {st : St α} {prev join : EP α} (hI : Inv e.thr c G st)
    (hxy : st.buf.lastTwo = some (prev, join)) (next : EP α) (d : VData α) (hd : c.C d.src d.halfWidth)
    (r : FlatStep α) (hr : r = flattenedStep prev { join with lineJoin := .miter } next d st.out)
    (hns : r.skip = false) :
    Upd join r.join ∧ Good (flatOut e st prev d r).nextId r.join.ids ∧ VSteps c.C st.out (flatOut e st prev d r)
      ∧ Upd next r.next ∧ r.next.ids = next.ids := by
  have sp := flattenedStep_spec (C := c.C) prev { join with lineJoin := .miter } next d st.out hd
  rw [← hr] at sp
  obtain ⟨uj, un, idn, np, nn, _, hgood⟩ := sp
  obtain ⟨s1, g1⟩ := hgood hns
  have s2 : VSteps c.C r.out (flatOut e st prev d r) := edgeAndJoin_vsteps (C := c.C) _ _ _ _ _ _ hd
    (fun h => (((hI.three (by omega) _ _ hxy).1).mono s1.next_le).out0) g1
    (by rw [np, nn, joinInterior_none]; simp) (by rw [np]; simp) (by rw [nn]; simp)
  exact ⟨Upd.trans (⟨rfl, rfl, rfl, rfl, Or.inr rfl⟩ : Upd join { join with lineJoin := .miter }) uj,
    g1.mono s2.next_le, s1.trans s2, un, idn⟩

/-- the join part of `fixed_width_step_impl` commits a join.  The no-skip premise `hns` is about this triple only (not the
`Reg.noskip` over all triples); the last clause says which function wrote the `next` side points of the new join -/
theorem fwJoin_specL {e : Env α} {st : St α} {prev join : EP α} (next : EP α)
    (hI : Inv e.thr c G st) (hxy : st.buf.lastTwo = some (prev, join))
    (hns : fastPath prev join next = true →
      (flattenedStep prev { join with lineJoin := .miter } next
        (baseVertex join.src join.position join.halfWidth nan) st.out).skip = false) :
    ∃ j' n' o', fwJoin e st prev join next = (commitSt st prev j' o', n')
      ∧ Upd join j' ∧ Good o'.nextId j'.ids ∧ VSteps c.C st.out o'
      ∧ Upd next n' ∧ n'.ids = next.ids
      ∧ ((fastPath prev join next = true ∧ j' = (flattenedStep prev { join with lineJoin := .miter } next
              (baseVertex join.src join.position join.halfWidth nan) st.out).join)
        ∨ (j'.pos.next = (joinSidesFw e.ix prev join next e.o.miterLimit join.halfWidth).pos.next
            ∧ j'.neg.next = (joinSidesFw e.ix prev join next e.o.miterLimit join.halfWidth).neg.next)) := by
  have hFj : c.F join := hI.cls1 _ (hI.wf.lastTwo_last _ _ hxy)
  by_cases hfp : fastPath prev join next = true
  · obtain ⟨uj, hg, hs, un, idn⟩ := flatOut_spec hI hxy next _ hFj.1 _ rfl (hns hfp)
    exact ⟨_, _, _, fwJoin_fast st hfp _ rfl, uj, hg, hs, un, idn, Or.inl ⟨hfp, rfl⟩⟩
  · obtain ⟨u2, e1, e2, hg, hs⟩ := ordJoin_spec hI hxy (joinSidesFw e.ix prev join next e.o.miterLimit join.halfWidth)
      (fwJoinData join (joinSidesFw e.ix prev join next e.o.miterLimit join.halfWidth)) hFj.1
    exact ⟨_, _, _, fwJoin_ordinary st (by simpa using hfp), (joinSidesFw_upd _ _ _ _ _ _).trans u2, hg, hs,
      Upd.refl _, rfl, Or.inr ⟨e1, e2⟩⟩

theorem fwStep_eq_join {e : Env α} {st : St α} {next prev join : EP α}
    (h1 : st.tooClose e.thr next.position = false) (h2 : st.buf.lastTwo = some (prev, join)) :
    fwStep e st next = ((fwJoin e st prev join next).1.push (fwJoin e st prev join next).2, true) := by
  unfold fwStep; rw [if_neg (by simp [h1])]; simp only [h2]

theorem setLast_push {st : St α} (hwf : WF st.buf) (hc : 0 < st.buf.count) (a b : EP α) :
    WF ((st.setLast a).push b).buf ∧ ((st.setLast a).push b).buf.count = min 3 (st.buf.count + 1)
      ∧ ((st.setLast a).push b).buf.lastTwo = some (a, b) := by
  obtain ⟨b1, hb1, hwf1, hc1, hl1, _⟩ := hwf.replaceLast hc a
  obtain ⟨b2, hb2, hwf2, hc2, _, hlt2⟩ := hwf1.push b
  have : ((st.setLast a).push b).buf = b2 := by simp [St.push, St.setLast, hb1, hb2]
  rw [this]
  exact ⟨hwf2, by rw [hc2, hc1], hlt2 a hl1⟩

theorem fwStep_of_join {e : Env α} {st : St α} (hwf : WF st.buf) {a b next j2 n' : EP α} {o' : Out α}
    (hab : st.buf.lastTwo = some (a, b))
    (hfar : pointsAreTooClose e.thr b.position next.position = false)
    (ej : fwJoin e st a b next = (commitSt st a j2 o', n')) :
    ∃ b2, (fwStep e st next).1
        = { st with buf := b2, out := o', firsts := if st.buf.count == 2 then [a, j2] else st.firsts }
      ∧ WF b2 ∧ b2.lastTwo = some (j2, n') ∧ b2.count = 3 := by
  have hclose : st.tooClose e.thr next.position = false := by
    rw [tooClose_eq (hwf.lastTwo_last _ _ hab)]; exact hfar
  have hc2 := WF.lastTwo_count _ _ hab
  have hle := hwf.count_le
  obtain ⟨hwf2, hcnt2, hlt2⟩ := setLast_push hwf (by omega) j2 n'
  refine ⟨_, ?_, hwf2, hlt2, by rw [hcnt2]; omega⟩
  rw [fwStep_eq_join hclose hab, ej]; rfl

theorem fwStep_eq_first {e : Env α} {st : St α} {next first : EP α}
    (h1 : st.tooClose e.thr next.position = false) (h2 : st.buf.lastTwo = none) (h3 : st.buf.last = some first) :
    fwStep e st next = ((st.setLast (firstEdgeSetup first next).1).push (firstEdgeSetup first next).2, true) := by
  unfold fwStep; rw [if_neg (by simp [h1])]; simp only [h2, h3]

theorem fwStep_second {e : Env α} {st : St α} (hwf : WF st.buf) (hc : st.buf.count = 1) {first : EP α}
    (hl : st.buf.last = some first) (next : EP α)
    (hfar : pointsAreTooClose e.thr first.position next.position = false) :
    ∃ b2, (fwStep e st next).1 = { st with buf := b2 } ∧ WF b2 ∧ b2.count = 2
      ∧ b2.lastTwo = some ((firstEdgeSetup first next).1, (firstEdgeSetup first next).2) := by
  have hcl : st.tooClose e.thr next.position = false := by rw [tooClose_eq hl]; exact hfar
  obtain ⟨hwf2, hc2, hlt2⟩ := setLast_push hwf (by omega) (firstEdgeSetup first next).1 (firstEdgeSetup first next).2
  refine ⟨_, ?_, hwf2, by rw [hc2, hc]; rfl, hlt2⟩
  rw [fwStep_eq_first hcl (lastTwo_none (by omega)) hl]; rfl

theorem fwStep_eq_zero {e : Env α} {st : St α} {next : EP α}
    (h1 : st.tooClose e.thr next.position = false) (h2 : st.buf.lastTwo = none) (h3 : st.buf.last = none) :
    fwStep e st next = (st.push next, true) := by
  unfold fwStep; rw [if_neg (by simp [h1])]; simp only [h2, h3]

theorem fwStep_merged {e : Env α} {st : St α} {next : EP α} (h : st.tooClose e.thr next.position = true) :
    fwStep e st next = ({ st with mayNeedEmptyCap := st.mayNeedEmptyCap || st.buf.count == 1 }, false) := by
  unfold fwStep; rw [if_pos h]

theorem fwStep_added {e : Env α} {st : St α} {next prev join : EP α}
    (h1 : st.tooClose e.thr next.position = false) (h2 : st.buf.lastTwo = some (prev, join)) :
    (fwStep e st next).2 = true := by
  rw [fwStep_eq_join h1 h2]

theorem fwStep_sps (e : Env α) (st : St α) (next : EP α) :
    (fwStep e st next).1.subPathStartAdvancement = st.subPathStartAdvancement := by
  cases h1 : st.tooClose e.thr next.position
  · rcases h2 : st.buf.lastTwo with _ | ⟨prev, join⟩
    · rcases h3 : st.buf.last with _ | first
      · rw [fwStep_eq_zero h1 h2 h3]; rfl
      · rw [fwStep_eq_first h1 h2 h3]; rfl
    · rw [fwStep_eq_join h1 h2]
      cases hfp : fastPath prev join next
      · rw [fwJoin_ordinary st hfp]; rfl
      · rw [fwJoin_fast st hfp _ rfl]; rfl
  · rw [fwStep_merged h1]

theorem step_merged {thr : α} {st : St α} (next : EP α) (b : Bool) (hI : Inv thr c G st)
    (hclose : st.tooClose thr next.position = true) :
    StepRes thr c G st next ({ st with mayNeedEmptyCap := b }, false) :=
  ⟨hI, VSteps.refl _, fun _ => ⟨rfl, rfl, rfl, hclose⟩, fun h => by simp at h⟩

theorem step_zero {thr : α} {st : St α} {next : EP α} (hI : Inv thr c G st) (hF : c.F next)
    (hn : Raw next.ids ∨ (3 ≤ st.buf.count ∧ Good st.out.nextId next.ids))
    (hclose : st.tooClose thr next.position = false) (h0 : st.buf.count = 0) :
    StepRes thr c G st next (st.push next, true) := by
  have hr : Raw next.ids := by
    rcases hn with hn | ⟨h3, _⟩
    · exact hn
    · omega
  obtain ⟨b', hb, hI', hc', hl'⟩ := InvC.push_first hI h0 hF hr
  have e : st.push next = { st with buf := b' } := by simp [St.push, hb]
  rw [e]
  exact ⟨hI', VSteps.refl _, fun h => by simp at h,
    fun _ => ⟨hclose, ⟨next, hl', Upd.refl _, rfl⟩, fun h3 => by omega⟩⟩

theorem step_second {thr : α} {st : St α} {next first first' next' : EP α} (hI : Inv thr c G st) (hF : c.F next)
    (hn : Raw next.ids ∨ (3 ≤ st.buf.count ∧ Good st.out.nextId next.ids))
    (hclose : st.tooClose thr next.position = false) (h1 : st.buf.count = 1) (hl : st.buf.last = some first)
    (u1 : Upd first first') (id1 : first'.ids = first.ids) (g1 : GE G first')
    (u2 : Upd next next') (id2 : next'.ids = next.ids) :
    StepRes thr c G st next ((st.setLast first').push next', true) := by
  have hr : Raw next.ids := by
    rcases hn with hn | ⟨h3, _⟩
    · exact hn
    · omega
  rw [tooClose_eq hl] at hclose
  obtain ⟨b1, b2, hb1, hb2, hI', hc', hl'⟩ := InvC.push_second hI h1 hl u1 id1 g1 hF hr u2 id2 hclose
  have e : (st.setLast first').push next' = { st with buf := b2 } := by simp [St.push, St.setLast, hb1, hb2]
  rw [e]
  exact ⟨hI', VSteps.refl _, fun h => by simp at h,
    fun _ => ⟨by rw [tooClose_eq hl]; exact hclose, ⟨next', hl', u2, id2⟩, fun h3 => by omega⟩⟩

theorem step_commit {thr : α} {st : St α} {prev join j' next n' : EP α} {o' : Out α}
    (hI : Inv thr c G st) (hF : c.F next)
    (hn : Raw next.ids ∨ (3 ≤ st.buf.count ∧ Good st.out.nextId next.ids))
    (hxy : st.buf.lastTwo = some (prev, join))
    (uj : Upd join j') (gj : GE G j') (hg : Good o'.nextId j'.ids) (hs : VSteps c.C st.out o')
    (un : Upd next n') (idn : n'.ids = next.ids) :
    Inv thr c G ((commitSt st prev j' o').push n')
    ∧ ((commitSt st prev j' o').push n').out = o'
    ∧ ((commitSt st prev j' o').push n').buf.last = some n'
    ∧ ((commitSt st prev j' o').push n').buf.count = 3
    ∧ (3 ≤ st.buf.count → ((commitSt st prev j' o').push n').firsts = st.firsts) := by
  obtain ⟨b1, b2, hb1, hb2, hI', hc', hl'⟩ := InvC.commit hI hxy hs.next_le uj gj hg hF hn un idn
  have e : ((commitSt st prev j' o').push n')
      = { st with buf := b2, out := o', firsts := if st.buf.count == 2 then [prev, j'] else st.firsts } := by
    simp [commitSt, St.push, St.setLast, hb1, hb2]
  rw [e]
  refine ⟨hI', rfl, hl', hc', fun h3 => ?_⟩
  have : (st.buf.count == 2) = false := by simp; omega
  simp [this]

theorem push_count_one {st : St α} (hwf : WF st.buf) (h0 : st.buf.count = 0) (b : EP α) :
    (st.push b).buf.count = 1 := by
  obtain ⟨b2, hb2, _, hc2, _, _⟩ := hwf.push b
  have : (st.push b).buf = b2 := by simp [St.push, hb2]
  rw [this, hc2, h0]; rfl

end

section
variable {α : Type} [Scalar α] [Transc α] [Asin α] {c : Cls α} {G : P α → P α → P α → Prop}

theorem vwJoin_spec {e : Env α} (hreg : Reg e c G) (hvw : e.o.varWidth = true)
    {st : St α} {prev join : EP α} (next : EP α)
    (hI : Inv e.thr c G st) (hxy : st.buf.lastTwo = some (prev, join)) :
    (∃ n', vwJoin e st prev join next = st.setLast n' ∧ Upd next n' ∧ n'.ids = next.ids
        ∧ fastPath prev join next = true)
    ∨ (∃ j' n' o', vwJoin e st prev join next =
        (commitSt st prev j' o').push n'
      ∧ Upd join j' ∧ GE G j' ∧ Good o'.nextId j'.ids ∧ VSteps c.C st.out o'
      ∧ Upd next n' ∧ n'.ids = next.ids) := by
  have hFj : c.F join := hI.cls1 _ (hI.wf.lastTwo_last _ _ hxy)
  have hG : ∀ x : EP α, GE G x := fun x => (hreg.vw hvw).1 _ _ _
  by_cases hfp : fastPath prev join next = true
  · by_cases hs : (flattenedStep prev { join with lineJoin := .miter } next
        (baseVertex join.src join.position join.halfWidth join.advancement) st.out).skip = true
    · left
      obtain ⟨_, un, idn, _, _, hskip, _⟩ := flattenedStep_spec (C := c.C) prev { join with lineJoin := .miter } next
        (baseVertex join.src join.position join.halfWidth join.advancement) st.out hFj.1
      refine ⟨_, ?_, un, idn, hfp⟩
      unfold vwJoin; simp only []; rw [if_pos hfp, if_pos hs, hskip hs]
    · right
      obtain ⟨uj, hg, hst, un, idn⟩ := flatOut_spec hI hxy next _ hFj.1 _ rfl (by simpa using hs)
      exact ⟨_, _, _, by unfold vwJoin; simp only []; rw [if_pos hfp, if_neg hs]; rfl, uj, hG _, hg, hst, un, idn⟩
  · right
    obtain ⟨u2, _, _, hg, hst⟩ := ordJoin_spec hI hxy (joinSidesVw e.ix prev join next e.o.miterLimit)
      (baseVertex join.src join.position join.halfWidth join.advancement) hFj.1
    exact ⟨_, _, _, by unfold vwJoin; simp only []; rw [if_neg hfp]; rfl,
      (joinSidesVw_upd e.ix prev join next e.o.miterLimit).trans u2, hG _, hg, hst, Upd.refl _, rfl⟩

theorem vwStep_eq_zero {e : Env α} {st : St α} {next : EP α}
    (h1 : st.tooClose e.thr next.position = false) (h3 : st.buf.last = none) :
    vwStep e st next = (st.push next, true) := by
  unfold vwStep; simp only []; rw [if_neg (by simp [h1])]; simp only [h3]

theorem vwStep_eq_one {e : Env α} {st : St α} {next join0 : EP α}
    (h1 : st.tooClose e.thr next.position = false) (h3 : st.buf.last = some join0)
    (h2 : (st.setLast (edgeAttach join0 next).1).buf.lastTwo = none) :
    vwStep e st next = ((st.setLast (edgeAttach join0 next).1).push (edgeAttach join0 next).2, true) := by
  unfold vwStep; simp only []; rw [if_neg (by simp [h1])]; simp only [h3, h2]

theorem vwStep_eq_join {e : Env α} {st : St α} {next join0 prev join : EP α}
    (h1 : st.tooClose e.thr next.position = false) (h3 : st.buf.last = some join0)
    (h2 : (st.setLast (edgeAttach join0 next).1).buf.lastTwo = some (prev, join)) :
    vwStep e st next = (vwJoin e (st.setLast (edgeAttach join0 next).1) prev join (edgeAttach join0 next).2, true) := by
  unfold vwStep; simp only []; rw [if_neg (by simp [h1])]; simp only [h3, h2]

theorem vwStep_merged {e : Env α} {st : St α} {next : EP α} (h : st.tooClose e.thr next.position = true) :
    vwStep e st next = ({ st with mayNeedEmptyCap := st.mayNeedEmptyCap || st.buf.count == 1 }, false) := by
  unfold vwStep; simp only []; rw [if_pos h]

theorem vwStep_spec {e : Env α} (hreg : Reg e c G) (hvw : e.o.varWidth = true) :
    StepSpec e.thr c G (vwStep e) := by
  -- by window size: merged; empty; one point (the edge attachment rewrites it); two or more (`vwJoin_spec`: the
  -- join is skipped - this is where `SkipApart` enters - or committed)
  intro st next hI hF hn
  by_cases hclose : st.tooClose e.thr next.position = true
  · rw [vwStep_merged hclose]; exact step_merged next _ hI hclose
  have hclose' : st.tooClose e.thr next.position = false := by simpa using hclose
  have hG : ∀ x : EP α, GE G x := fun x => (hreg.vw hvw).1 _ _ _
  by_cases hc0 : st.buf.count = 0
  · rw [vwStep_eq_zero hclose' (last_none hc0)]
    exact step_zero hI hF hn hclose' hc0
  obtain ⟨join, hl⟩ := hI.wf.last_some (by omega)
  obtain ⟨u1, id1, u2, id2⟩ := edgeAttach_spec join next
  obtain ⟨b', hb, hI1, hc', hl1, hlt1⟩ := InvC.setLast hI hl (Cls.F_upd (hI.cls1 _ hl) u1) id1 (fun _ => u1.pos)
  have hst1 : st.setLast (edgeAttach join next).1 = { st with buf := b' } := by simp [St.setLast, hb]
  by_cases hc1 : st.buf.count = 1
  · rw [vwStep_eq_one hclose' hl (by rw [hst1]; exact lastTwo_none (by show b'.count < 2; omega))]
    exact step_second hI hF hn hclose' hc1 hl u1 id1 (hG _) u2 id2
  obtain ⟨prev, join', hxy⟩ := hI.wf.lastTwo_some (by omega)
  obtain rfl := hI.wf.lastTwo_snd hxy hl
  have hxy1 : ({ st with buf := b' } : St α).buf.lastTwo = some (prev, (edgeAttach join' next).1) := hlt1 _ _ hxy
  have hI1' : Inv e.thr c G ({ st with buf := b' } : St α) := hI1
  rw [vwStep_eq_join hclose' hl (by rw [hst1]; exact hxy1), hst1]
  have hFn : c.F (edgeAttach join' next).2 := Cls.F_upd hF u2
  have hn' : Raw (edgeAttach join' next).2.ids ∨ (3 ≤ ({ st with buf := b' } : St α).buf.count
      ∧ Good ({ st with buf := b' } : St α).out.nextId (edgeAttach join' next).2.ids) := by
    rw [id2]
    exact hn.imp id fun h => ⟨by show 3 ≤ b'.count; omega, h.2⟩
  rcases vwJoin_spec hreg hvw _ hI1' hxy1 with ⟨n', ej, un, idn, hfp⟩ | ⟨j', n', o', ej, uj, gj, hg, hs, un, idn⟩
  · rw [ej]
    have hfar : b'.count = 2 → pointsAreTooClose e.thr prev.position (edgeAttach join' next).2.position = false := by
      intro h2
      have t2 : pointsAreTooClose e.thr (edgeAttach join' next).1.position (edgeAttach join' next).2.position = false := by
        rw [u1.pos, u2.pos, ← tooClose_eq hl]; exact hclose'
      exact (hreg.vw hvw).2 prev _ _ (hI1.cls1 _ hl1) hfp (hI1.two h2 _ _ hxy1).2.2 t2
    obtain ⟨b1, hb1, hI2, hc2, hl2⟩ := InvC.skip hI1 hxy1 hFn hn' un idn hfar
    have e2 : ({ st with buf := b' } : St α).setLast n' = { st with buf := b1 } := by
      simp [St.setLast, hb1]
    rw [e2]
    exact ⟨hI2, VSteps.refl _, fun h => by simp at h,
      fun _ => ⟨hclose', ⟨n', hl2, u2.trans un, idn.trans id2⟩,
        fun h3 => ⟨by show b1.count = 3; have := hI.wf.count_le; omega, rfl⟩⟩⟩
  · rw [ej]
    obtain ⟨a1, a2, a3, a4, a5⟩ := step_commit hI1' hFn hn' hxy1 uj gj hg hs un idn
    exact ⟨a1, by rw [a2]; exact hs, fun h => by simp at h,
      fun _ => ⟨hclose', ⟨n', a3, u2.trans un, idn.trans id2⟩,
        fun h3 => ⟨a4, a5 (by show 3 ≤ b'.count; omega)⟩⟩⟩

variable [FlatConst α]

theorem step_first (e : Env α) (st : St α) (next : EP α) (h : st.buf.count = 0) :
    e.step st next = (st.push next, true) := by
  have hl : st.buf.last = none := last_none h
  have hc : st.tooClose e.thr next.position = false := tooClose_none hl _ _
  unfold Env.step
  cases e.o.varWidth
  · simpa using fwStep_eq_zero hc (lastTwo_none (by omega)) hl
  · simpa using vwStep_eq_zero hc hl

theorem step_merged_eq (e : Env α) (st : St α) (next : EP α) (h : st.tooClose e.thr next.position = true) :
    e.step st next = ({ st with mayNeedEmptyCap := st.mayNeedEmptyCap || st.buf.count == 1 }, false) := by
  unfold Env.step
  cases e.o.varWidth
  · simpa using fwStep_merged h
  · simpa using vwStep_merged h

end

end Lyon.C05c
