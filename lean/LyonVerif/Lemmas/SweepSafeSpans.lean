/-
  NO-PANIC: the failure assertion, the state invariant, and what the span operations do to
  the liveness of the spans.  The step functions themselves are walked once, relative to the scanned
  state (`SweepSafeCohAbove.lean` and the files after it); the no-panic reading of each is drawn in
  `SweepSafeLoop.lean`.

  `Allowed A f`  : the failure `f` is not a panic, or it is a panic whose message is in the list `A`.
                   Every triple below has `Allowed A` as its exception postcondition, for an
                   ARBITRARY list `A` subject to explicit membership hypotheses - so that
                   instantiating `A` shows which panic sites a function can reach.
  `Core tol n D s` : every span is live (`some`) except at the indices in `D`; `s.tolerance = tol`;
                   `s.active.size = n`.  Every use has `D = []` (`handle_intersections`, where the length of
                   the active list matters); the spans ended during `process_edges_above` and not yet
                   cleaned up are carried by `SweepCoh.SpA s0 D`.
  `Safe tol s`   : `Core` with no span ended and any length of the active list; `safe_iff`
                   (`SweepSafeRecover.lean`) opens it.

  Suffixes of the triples of the `SweepSafe*` files (failure postcondition `Allowed A` throughout):
  `_spec`           the walk of a function relative to the scanned state `s0`, from which both readings are drawn;
  `_safe`, `_safeS` the no-panic reading: `Safe tol` is kept (`_safeS`: together with `ScanOk` / `Fit` of the scan);
  `_coh_at`, `_coh` the coherence reading: from a state in relation `Fr` to a coherent `s0` / from a coherent state;
  `_rel`            one step on a coherent `s0`, the relation to `s0` as postcondition;
  `_sp`, `_z`, `_zb`, `_keep`  a span operation keeps `SpA`, `RelZ` (`_zb`: and the pending list), `Keep`;
  `_inv`            any predicate with the closure properties `IxInv` is kept (`SweepSafeActive.lean`);
  `_fr`             in `SweepSafeBelow.lean`: every predicate with `FrameP` is kept; `sortActiveEdges_fr`: relative
                    to `Fr s0`.
-/
import LyonVerif.Lemmas.SweepSafeScan

set_option linter.unusedSectionVars false
set_option linter.unusedVariables false
set_option mvcgen.warning false

namespace Lyon.SweepSafe
open Lyon Lyon.Scalar Lyon.Mono Lyon.Sweep Lyon.EQ
open Std.Do

variable {α : Type} [Scalar α] [Wide α]

/-! ### the panic messages of `Model/Tess/Sweep.lean` -/
def mSpanIdx : String := "span index out of range"
def mDead : String := "dead span"
def mSpanIns : String := "span insertion index out of range"
def mEdgeIdx : String := "edge index out of range"
def mBelowIdx : String := "edge below index out of range"
def mSub : String := "subtract with overflow"
def mSplice : String := "splice range"
def mNaN : String := "partial_cmp unwrap on NaN"
def mAssert : String := "assert is_after(intersection_position, current_position)"

def Allowed (A : List String) (f : Fail) : Prop := ∀ w, f = .panic w → w ∈ A

theorem allowed_panic {A : List String} {w : String} (h : w ∈ A) : Allowed A (.panic w) := by
  intro w' e; cases e; exact h
theorem allowed_err {A : List String} (k : String) : Allowed A (.err k) := by intro w e; cases e
theorem allowed_unmodelled {A : List String} (k : String) : Allowed A (.unmodelled k) := by intro w e; cases e
theorem allowed_fuel {A : List String} : Allowed A .fuel := by intro w e; cases e

abbrev SMps (α : Type) : PostShape := .except Fail (.arg (St α) .pure)

/-- every span is live except at the indices in `D` -/
def SomeExcept (D : List Int) (spans : Array (Option (Adv α))) : Prop :=
  ∀ k (h : k < spans.size), spans[k] = none → (k : Int) ∈ D

def Core (tol : α) (n : Nat) (D : List Int) (s : St α) : Prop :=
  SomeExcept D s.spans ∧ s.tolerance = tol ∧ s.active.size = n

/-- between events: every span live, the tolerance is the call's -/
def Safe (tol : α) (s : St α) : Prop := ∃ n, Core tol n [] s

theorem Core.frame {tol : α} {n : Nat} {D : List Int} {s s' : St α} (h : Core tol n D s)
    (h1 : s'.spans = s.spans) (h2 : s'.tolerance = s.tolerance) (h3 : s'.active.size = s.active.size) :
    Core tol n D s' := ⟨h1 ▸ h.1, h2 ▸ h.2.1, h3 ▸ h.2.2⟩

/-- postcondition shape: `Q` on success, `Allowed A` on failure -/
abbrev safePost {β : Type} (A : List String) (Q : β → St α → Prop) : PostCond β (SMps α) :=
  post⟨fun r s => ⌜Q r s⌝, fun f _ => ⌜Allowed A f⌝⟩

variable {tol : α} {n : Nat} {A : List String}

/-- consequence rule; the stronger triple may be chosen from the state `s` the program starts in, and
the postcondition is only needed of the result of the run from `s` -/
theorem safe_conseq {β : Type} {x : SM α β} {P : St α → Prop} {Q : β → St α → Prop}
    (h : ∀ s, P s → ∃ (P' : St α → Prop) (Q' : β → St α → Prop), P' s ∧ ⦃fun s => ⌜P' s⌝⦄ x ⦃safePost A Q'⦄ ∧
      ∀ r s', x.run.run s = (.ok r, s') → Q' r s' → Q r s') :
    ⦃fun s => ⌜P s⌝⦄ x ⦃safePost A Q⦄ := by
  intro s hs
  obtain ⟨P', Q', hp, ht, hq⟩ := h s hs
  have h1 := ht s hp
  rw [wp_run] at h1 ⊢
  revert h1 hq
  generalize (x.run.run s : Except Fail β × St α) = r
  obtain ⟨res, s'⟩ := r
  cases res with
  | error e => exact fun _ h1 => h1
  | ok r => exact fun hq h1 => hq r s' rfl h1

theorem allowed_of_run {β : Type} {x : SM α β} {P : St α → Prop} {Q : β → St α → Prop}
    (h : ⦃fun s => ⌜P s⌝⦄ x ⦃safePost A Q⦄) {s : St α} (hs : P s) {f : Fail}
    (hf : (x.run.run s).1 = .error f) : Allowed A f := by
  have h1 := h s hs
  rw [wp_run, hf] at h1
  exact h1

theorem mark_safe (P : St α → Prop) (hP : ∀ s c, P s → P { s with cov := c }) (b : Nat) :
    ⦃fun s => ⌜P s⌝⦄ (mark b : SM α Unit) ⦃safePost A fun _ s => P s⦄ := by
  unfold mark
  mvcgen
  all_goals (rename_i s h t; exact hP _ _ h)

theorem mark_core (D : List Int) (b : Nat) :
    ⦃fun s => ⌜Core tol n D s⌝⦄ (mark b : SM α Unit) ⦃safePost A fun _ s => Core tol n D s⦄ :=
  mark_safe _ (fun s c h => h.frame rfl rfl rfl) b

theorem spanIdx_lt {i : Int} {m k : Nat} (h : spanIdx i m = some k) : k < m ∧ (k : Int) = i := by
  unfold spanIdx at h
  split at h
  · cases h
    rename_i h'
    exact ⟨h'.2, by omega⟩
  · cases h

theorem getD_eq {γ : Type} {a : Array (Option γ)} {k : Nat} (h : k < a.size) : a.getD k none = a[k] := by
  simp [Array.getD, h]

theorem someExcept_set {D : List Int} {spans : Array (Option (Adv α))} (h : SomeExcept D spans) (k : Nat)
    (t : Adv α) : SomeExcept D (spans.setIfInBounds k (some t)) := by
  intro j hj hn
  have hj' : j < spans.size := by simpa using hj
  rw [Array.getElem_setIfInBounds hj'] at hn
  split at hn
  · cases hn
  · exact h j hj' hn

theorem someExcept_kill {D : List Int} {spans : Array (Option (Adv α))} (h : SomeExcept D spans) (k : Nat) :
    SomeExcept ((k : Int) :: D) (spans.setIfInBounds k none) := by
  intro j hj hn
  have hj' : j < spans.size := by simpa using hj
  rw [Array.getElem_setIfInBounds hj'] at hn
  split at hn
  · rename_i e; simp [e]
  · exact List.mem_cons_of_mem _ (h j hj' hn)

theorem someExcept_insert {spans : Array (Option (Adv α))} (h : SomeExcept [] spans) (k : Nat) (t : Adv α) :
    SomeExcept [] ((spans.extract 0 k).push (some t) ++ spans.extract k spans.size) := by
  intro j hj hn
  exfalso
  have hmem : (none : Option (Adv α)) ∈ (spans.extract 0 k).push (some t) ++ spans.extract k spans.size :=
    hn ▸ Array.getElem_mem hj
  simp only [Array.mem_append, Array.mem_push] at hmem
  have key : ∀ x ∈ spans, x ≠ none := by
    intro x hx e
    rcases Array.mem_iff_getElem.mp hx with ⟨j', hj', e'⟩
    have := h j' hj' (e'.trans e)
    simp at this
  rcases hmem with (hm | hm) | hm
  · exact key _ (mem_of_mem_extract hm) rfl
  · cases hm
  · exact key _ (mem_of_mem_extract hm) rfl

theorem someExcept_filter {spans : Array (Option (Adv α))} :
    SomeExcept [] (spans.filter (·.isSome)) := by
  intro j hj hn
  have hmem : (none : Option (Adv α)) ∈ spans.filter (·.isSome) := hn ▸ Array.getElem_mem hj
  have := (Array.mem_filter.mp hmem).2
  simp at this

theorem someExcept_mono {D D' : List Int} {spans : Array (Option (Adv α))} (h : SomeExcept D spans)
    (hs : ∀ x ∈ D, x ∈ D') : SomeExcept D' spans := fun k hk hn => hs _ (h k hk hn)

theorem not_mem_of_pairwise {l p q : List Int} {c : Int} (h : l.Pairwise (· < ·)) (e : l = p ++ c :: q) :
    c ∉ p := by
  intro hc
  rw [e, List.pairwise_append] at h
  have := h.2.2 c hc c (by simp)
  omega

/-- what `process_edges_above` returns -/
def aboveResult (scan : Scan) : Scan :=
  if scan.mergeEvent then { scan with aboveStart := scan.aboveStart + 1 } else scan

end Lyon.SweepSafe
