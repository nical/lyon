/-
  The exact flattening checker (Model/Geom/FlattenCertExact.lean) at the level of lists: what the
  structural test `chainOK` guarantees (`chainOK_range`), one segment
  (`seg_sound`: deviation and vertex bounds ⟹ every curve point of its range is within `r + eps` of the
  EMITTED segment), one quadratic piece of a cubic (`piece_near`; the pieces form a chain of chords:
  `pieces_chainOK`), and the converse certificate `far_from_sound`.
-/
import LyonVerif.Lemmas.FlattenCertExact
import LyonVerif.Lemmas.FlattenTolCubic
import LyonVerif.Lemmas.SlabAlg

set_option linter.unusedSectionVars false

namespace Lyon.FlatChk
open Lyon Scalar Lyon.Flat

variable {K : Type} [Field K] [LinearOrder K] [IsStrictOrderedRing K]

theorem flatDevSq_le (q : Quad K) (b : K) (l : List (FlatSeg K)) (h : flatDevSq q l ≤ b) :
    ∀ sg ∈ l, segDevSq q sg ≤ b :=
  le_of_listMax_le (segDevSq q) (flatDevSq q) (fun _ _ => rfl) l b h

theorem flatVtxSq_le (q : Quad K) (b : K) (l : List (FlatSeg K)) (h : flatVtxSq q l ≤ b) :
    ∀ sg ∈ l, (sg.a - q.sample sg.t0).sqLen ≤ b ∧ (sg.b - q.sample sg.t1).sqLen ≤ b :=
  fun sg hsg => max_le_iff.mp (le_of_listMax_le (segVtxSq q) (flatVtxSq q) (fun _ _ => rfl) l b h sg hsg)

theorem chainOK_range (p : P K) (t : K) (pe : P K) (te : K) (l : List (FlatSeg K))
    (h : chainOK p t pe te l = true) :
    l ≠ [] ∧ Chain p t l ∧ lastPt p l = pe ∧ lastT t l = te
      ∧ ∀ sg ∈ l, t ≤ sg.t0 ∧ sg.t0 < sg.t1 ∧ sg.t1 ≤ te := by
  induction l generalizing p t with
  | nil => simp [chainOK] at h
  | cons sg r ih =>
    cases r with
    | nil =>
      simp only [chainOK, Bool.and_eq_true, decide_eq_true_eq, P.beq_iff_eq, sc_beq] at h
      obtain ⟨⟨⟨⟨h1, h2⟩, h3⟩, h4⟩, h5⟩ := h
      refine ⟨by simp, ⟨h1, h2, trivial⟩, h4, h5, fun s hs => ?_⟩
      rw [List.mem_singleton.mp hs]
      exact ⟨h2.ge, h3, h5.le⟩
    | cons y r2 =>
      simp only [chainOK, Bool.and_eq_true, decide_eq_true_eq, P.beq_iff_eq, sc_beq] at h
      obtain ⟨⟨⟨h1, h2⟩, h3⟩, h4⟩ := h
      obtain ⟨_, i2, i3, i4, i5⟩ := ih sg.b sg.t1 h4
      -- the next range starts at `sg.t1` and ends inside `[sg.t1, te]`
      obtain ⟨y0, y1, y2⟩ := i5 y List.mem_cons_self
      refine ⟨by simp, ⟨h1, h2, i2⟩, i3, i4, fun s hs => ?_⟩
      rcases List.mem_cons.mp hs with rfl | hs
      · exact ⟨h2.ge, h3, y0.trans (y1.le.trans y2)⟩
      · exact ⟨h2 ▸ h3.le.trans (i5 s hs).1, (i5 s hs).2⟩

theorem seg_sound (q : Quad K) (sg : FlatSeg K) (r eps : K) (hr : 0 ≤ r) (he : 0 ≤ eps)
    (hd : segDevSq q sg ≤ r * r)
    (ha : (sg.a - q.sample sg.t0).sqLen ≤ eps * eps) (hb : (sg.b - q.sample sg.t1).sqLen ≤ eps * eps)
    (s : K) (hs0 : 0 ≤ s) (hs1 : s ≤ 1) :
    ∃ s2 : K, 0 ≤ s2 ∧ s2 ≤ 1 ∧
      (q.sample (sg.t0 + s * (sg.t1 - sg.t0)) - sg.a.lerp sg.b s2).sqLen ≤ (r + eps) * (r + eps) := by
  obtain ⟨s2, h0, h1, h2⟩ := dev_core (q.sample sg.t0) (q.sample sg.t1) (segDD q sg) s hs0 hs1
  rw [quad_chord_point]
  exact ⟨s2, h0, h1, sq_dist_triangle _ _ _ r eps hr he (le_trans h2 hd)
    (lerp_shift _ _ sg.a sg.b (eps * eps) s2 h0 h1 ha hb)⟩

def Piece.seg (pc : Piece K) : FlatSeg K := ⟨pc.q.a, pc.q.b, pc.t0, pc.t1⟩

theorem pieces_chainOK (p pe : P K) (t : K) (ps : List (Piece K)) (hr : rangesOK t ps = true)
    (hj : joinsOK p pe ps = true) : chainOK p t pe one (ps.map Piece.seg) = true := by
  induction ps generalizing p t with
  | nil => simp [rangesOK] at hr
  | cons pc r ih =>
    cases r with
    | nil =>
      simp only [rangesOK, joinsOK, chainOK, Piece.seg, List.map, Bool.and_eq_true] at hr hj ⊢
      exact ⟨⟨⟨⟨hj.1, hr.1.1⟩, hr.1.2⟩, hj.2⟩, hr.2⟩
    | cons y r2 =>
      simp only [rangesOK, joinsOK, chainOK, List.map, Bool.and_eq_true] at hr hj ⊢
      exact ⟨⟨⟨hj.1, hr.1.1⟩, hr.1.2⟩, ih _ _ hr.2 hj.2⟩

theorem chkFlatCubic_spec (c : Cubic K) (tolq tolc k eps : K) (ps : List (Piece K))
    (h : chkFlatCubic c tolq tolc k eps ps = true) :
    0 ≤ eps ∧ 0 ≤ k * tolq ∧ 0 ≤ k * tolc ∧ chainOK c.a 0 c.b 1 (ps.map Piece.seg) = true
    ∧ ∀ pc ∈ ps, pieceCtrlSq c pc ≤ eps * eps ∧ pieceDevSq c pc ≤ (k * tolc) * (k * tolc)
        ∧ chkFlat pc.q tolq k eps pc.l = true := by
  simp only [chkFlatCubic, pieceOK, Bool.and_eq_true, decide_eq_true_eq, sc_zero, List.all_eq_true] at h
  obtain ⟨⟨⟨⟨⟨he, hkq⟩, hkc⟩, hr⟩, hj⟩, hall⟩ := h
  exact ⟨he, hkq, hkc, sc_one (K := K) ▸ pieces_chainOK c.a c.b 0 ps hr hj, fun pc hp => ⟨(hall pc hp).1.1, (hall pc hp).1.2, (hall pc hp).2⟩⟩

/-- **one piece**: the cubic over the piece's range is within `kc` of the exact `to_quadratic` of the
sub-range (`cubic_piece_deviation`), which is within `eps` of the emitted quadratic (`quad_ctrl_shift`),
at the same local parameter -/
theorem piece_near (c : Cubic K) (pc : Piece K) (kc eps u : K) (hkc : 0 ≤ kc) (he : 0 ≤ eps)
    (hctrl : pieceCtrlSq c pc ≤ eps * eps) (hdev : pieceDevSq c pc ≤ kc * kc) (hu0 : 0 ≤ u) (hu1 : u ≤ 1) :
    (c.sample (pc.t0 + u * (pc.t1 - pc.t0)) - pc.q.sample u).sqLen ≤ (kc + eps) * (kc + eps) := by
  have h1 : (c.sample (pc.t0 + u * (pc.t1 - pc.t0)) - (pieceExact c pc).sample u).sqLen ≤ kc * kc := by
    refine le_trans (cubic_piece_deviation c pc.t0 pc.t1 u hu0 hu1) (le_trans (le_of_eq ?_) hdev)
    simp only [pieceDevSq, thirdDiff, ofNat_eq, Nat.cast_ofNat]
    ring
  simp only [pieceCtrlSq, sc_max, max_le_iff] at hctrl
  exact sq_dist_triangle _ _ _ kc eps hkc he h1
    (quad_ctrl_shift pc.q (pieceExact c pc) (eps * eps) u hu0 hu1 hctrl.1 hctrl.2.1 hctrl.2.2)

theorem far_from_sound (p : P K) (r2 : K) (l : List (FlatSeg K)) (h : farFrom p r2 l = true) :
    ∀ sg ∈ l, ∀ s : K, 0 ≤ s → s ≤ 1 → r2 < (p - sg.a.lerp sg.b s).sqLen := by
  intro sg hsg s hs0 hs1
  simp only [farFrom, List.all_eq_true, decide_eq_true_eq] at h
  exact lt_of_lt_of_le (h sg hsg) (Slab.sqDistSeg_le_at p sg.a sg.b s hs0 hs1)

end Lyon.FlatChk
