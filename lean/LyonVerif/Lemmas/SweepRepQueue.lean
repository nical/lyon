/-
  Structural well-formedness of the fill tessellator's event queue (`Model/Tess/EventQueue.lean`)
  and its preservation by every queue operation the sweep uses - the pointer-level facts that the
  record invariants of `Lemmas/SweepRepInv.lean` (C07b) rest on:

  `Link n x`   : `x` is `INVALID` or an index `< n`;
  `LinksOk`    : every `next_sibling` / `next_event` link of an event array is a `Link`;
  `QOk q`      : `events` and `edge_data` have the same length, all links are `Link`s, `first` is;
  preserved by `push_unsorted`, `insert_into_sorted_list` (whatever the walk does, also when it
  runs out of fuel), `insert_sorted`, `insert_sibling`, `vertex_event_on_edge_sorted`,
  `push_unlinked`, and established by `ofRecs` + the pointer-level merge `sort`.

  Consequence (`siblings_lt`): every id enumerated by a sibling list that starts at a `Link` is a
  valid index, so `q.ed i` of such an id is a stored record - not the default record.

  No arithmetic law of the scalar type is used.
-/
import LyonVerif.Model.Tess.Sweep
import LyonVerif.Lemmas.ListFold

set_option linter.unusedSectionVars false
set_option linter.unusedVariables false

namespace Lyon.SweepRep
open Lyon Lyon.Scalar Lyon.EQ Lyon.Sweep

variable {α : Type} [Scalar α]

/-- an id that is `INVALID` or a valid index -/
def Link (n x : Nat) : Prop := x = INVALID ∨ x < n

theorem Link.mono {n m x : Nat} (h : Link n x) (hnm : n ≤ m) : Link m x :=
  h.imp id (fun h => Nat.lt_of_lt_of_le h hnm)

theorem Link.invalid (n : Nat) : Link n INVALID := Or.inl rfl

theorem Link.of_lt {n x : Nat} (h : x < n) : Link n x := Or.inr h

theorem Link.lt_of_ne {n x : Nat} (h : Link n x) (hne : (x == INVALID) = false) : x < n := by
  rcases h with h | h
  · simp [h] at hne
  · exact h

theorem Link.lt_of_not {n x : Nat} (h : Link n x) (hne : ¬ (x == INVALID) = true) : x < n :=
  h.lt_of_ne (by simpa using hne)

def LinksOk (evs : Array (Event α)) : Prop :=
  ∀ i (h : i < evs.size), Link evs.size evs[i].nextSibling ∧ Link evs.size evs[i].nextEvent

theorem getD_links {evs : Array (Event α)} (h : LinksOk evs) (i : Nat) :
    Link evs.size (evs.getD i Event.dflt).nextSibling ∧ Link evs.size (evs.getD i Event.dflt).nextEvent := by
  by_cases hi : i < evs.size
  · have : evs.getD i Event.dflt = evs[i] := by simp [Array.getD, hi]
    rw [this]; exact h i hi
  · have : evs.getD i Event.dflt = Event.dflt := by simp [Array.getD, hi]
    rw [this]; exact ⟨Link.invalid _, Link.invalid _⟩

theorem linksOk_modify {evs : Array (Event α)} (h : LinksOk evs) (id : Nat) (f : Event α → Event α)
    (hf : ∀ e, Link evs.size e.nextSibling → Link evs.size e.nextEvent →
      Link evs.size (f e).nextSibling ∧ Link evs.size (f e).nextEvent) : LinksOk (evs.modify id f) := by
  intro i hi
  have hi' : i < evs.size := by simpa using hi
  simp only [Array.size_modify, Array.getElem_modify]
  split
  · exact hf _ (h i hi').1 (h i hi').2
  · exact h i hi'

theorem setNextEvent_ok {evs : Array (Event α)} (h : LinksOk evs) (id nx : Nat) (hn : Link evs.size nx) :
    LinksOk (Queue.setNextEvent evs id nx) :=
  linksOk_modify h id _ (fun e h1 _ => ⟨h1, hn⟩)

theorem setNextSibling_ok {evs : Array (Event α)} (h : LinksOk evs) (id nx : Nat) (hn : Link evs.size nx) :
    LinksOk (Queue.setNextSibling evs id nx) :=
  linksOk_modify h id _ (fun e _ h2 => ⟨hn, h2⟩)

@[simp] theorem size_setNextEvent (evs : Array (Event α)) (id nx : Nat) :
    (Queue.setNextEvent evs id nx).size = evs.size := by simp [Queue.setNextEvent]

@[simp] theorem size_setNextSibling (evs : Array (Event α)) (id nx : Nat) :
    (Queue.setNextSibling evs id nx).size = evs.size := by simp [Queue.setNextSibling]

theorem linksOk_push {evs : Array (Event α)} (h : LinksOk evs) (e : Event α)
    (h1 : Link (evs.size + 1) e.nextSibling) (h2 : Link (evs.size + 1) e.nextEvent) : LinksOk (evs.push e) := by
  intro i hi
  simp only [Array.size_push] at hi ⊢
  rw [Array.getElem_push]
  split
  · rename_i hlt
    exact ⟨(h i hlt).1.mono (Nat.le_succ _), (h i hlt).2.mono (Nat.le_succ _)⟩
  · exact ⟨h1, h2⟩

structure QOk (q : Queue α) : Prop where
  size : q.edgeData.size = q.events.size
  links : LinksOk q.events
  first : Link q.events.size q.first

theorem QOk.ev_links {q : Queue α} (h : QOk q) (i : Nat) :
    Link q.events.size (q.ev i).nextSibling ∧ Link q.events.size (q.ev i).nextEvent :=
  getD_links h.links i

theorem QOk.nextId {q : Queue α} (h : QOk q) (i : Nat) : Link q.events.size (q.nextId i) := (h.ev_links i).2

theorem ed_eq_getElem {q : Queue α} {i : Nat} (hi : i < q.edgeData.size) : q.ed i = q.edgeData[i] := by
  simp [Queue.ed, Array.getD, hi]

theorem QOk.ed_eq {q : Queue α} (h : QOk q) {i : Nat} (hi : i < q.edgeData.size) : q.ed i = q.edgeData[i] :=
  ed_eq_getElem hi

theorem siblings_lt {q : Queue α} (h : QOk q) : ∀ (f id : Nat), Link q.events.size id →
    ∀ i ∈ q.siblings f id, i < q.events.size := by
  intro f id hl
  fun_induction Queue.siblings q f id with
  | case1 => simp
  | case2 => simp
  | case3 f id hne ih => exact List.forall_mem_cons.2 ⟨hl.lt_of_not hne, ih (h.ev_links id).1⟩

theorem qok_pushUnsorted {q : Queue α} (h : QOk q) (p : P α) (d : EdgeData α) : QOk (q.pushUnsorted p d) := by
  refine ⟨?_, ?_, ?_⟩
  · simp [Queue.pushUnsorted, h.size]
  · exact linksOk_push h.links _ (Link.invalid _) (Link.invalid _)
  · simpa [Queue.pushUnsorted] using h.first.mono (Nat.le_succ _)

@[simp] theorem pushUnsorted_events_size (q : Queue α) (p : P α) (d : EdgeData α) :
    (q.pushUnsorted p d).events.size = q.events.size + 1 := by simp [Queue.pushUnsorted]

@[simp] theorem pushUnsorted_edgeData (q : Queue α) (p : P α) (d : EdgeData α) :
    (q.pushUnsorted p d).edgeData = q.edgeData.push d := rfl

/-- the walk of `insert_into_sorted_list` -/
theorem insertLoop_ok (idx : Nat) (p : P α) (f : Nat) (evs : Array (Event α)) (prev current : Nat)
    (evs' : Array (Event α)) (h : LinksOk evs) (hidx : idx < evs.size) (hc : Link evs.size current)
    (e : Queue.insertLoop idx p f evs prev current = some evs') : LinksOk evs' ∧ evs'.size = evs.size := by
  fun_induction Queue.insertLoop idx p f evs prev current with
  | case1 => cases e
  | case2 f evs prev current hc0 =>
    cases e
    exact ⟨setNextEvent_ok h _ _ (Link.of_lt hidx), by simp⟩
  | case3 f evs prev current hc0 pos hp =>
    cases e
    refine ⟨setNextSibling_ok (setNextSibling_ok h _ _ (getD_links h current).1) _ _ ?_, by simp⟩
    simpa using Link.of_lt hidx
  | case4 f evs prev current hc0 pos hp ha =>
    cases e
    refine ⟨setNextEvent_ok (setNextEvent_ok h _ _ (Link.of_lt hidx)) _ _ ?_, by simp⟩
    simpa using Link.of_lt (hc.lt_of_not hc0)
  | case5 f evs prev current hc0 pos hp ha ih =>
    exact ih h hidx (getD_links h current).2 e
theorem qok_insertIntoSortedList {q : Queue α} (h : QOk q) (idx : Nat) (p : P α) (after : Nat)
    (hidx : idx < q.events.size) (ha : Link q.events.size after) :
    QOk (q.insertIntoSortedList idx p after) ∧
    (q.insertIntoSortedList idx p after).events.size = q.events.size ∧
    (q.insertIntoSortedList idx p after).edgeData = q.edgeData := by
  unfold Queue.insertIntoSortedList
  split
  · rename_i evs he
    obtain ⟨h1, h2⟩ := insertLoop_ok idx p _ _ _ _ _ h.links hidx ha he
    exact ⟨⟨by simp [h.size, h2], h1, by simpa [h2] using h.first⟩, h2, rfl⟩
  · exact ⟨⟨h.size, h.links, h.first⟩, rfl, rfl⟩

theorem qok_insertSorted {q : Queue α} (h : QOk q) (p : P α) (d : EdgeData α) (after : Nat)
    (ha : Link q.events.size after) :
    QOk (q.insertSorted p d after).1 ∧ (q.insertSorted p d after).1.events.size = q.events.size + 1 ∧
    (q.insertSorted p d after).1.edgeData = q.edgeData.push d ∧ (q.insertSorted p d after).2 = q.events.size := by
  unfold Queue.insertSorted
  have h1 := qok_pushUnsorted h p d
  have := qok_insertIntoSortedList h1 q.events.size p after (by simp) (by simpa using ha.mono (Nat.le_succ _))
  exact ⟨this.1, by simpa using this.2.1, by simpa using this.2.2, rfl⟩

theorem qok_vertexEventOnEdgeSorted {q : Queue α} (h : QOk q) (p : P α) (t : α) (f g after : Nat)
    (ha : Link q.events.size after) :
    QOk (q.vertexEventOnEdgeSorted p t f g after) ∧
    (q.vertexEventOnEdgeSorted p t f g after).events.size = q.events.size + 1 ∧
    (q.vertexEventOnEdgeSorted p t f g after).edgeData = q.edgeData.push ⟨Sources.nanPoint, t, t, 0, false, f, g⟩ := by
  -- `vertex_event_on_edge_sorted` is `insert_sorted` of a record that is no edge
  have := qok_insertSorted h p ⟨Sources.nanPoint, t, t, 0, false, f, g⟩ after ha
  exact ⟨this.1, this.2.1, this.2.2.1⟩

theorem qok_insertSibling {q : Queue α} (h : QOk q) (sibling : Nat) (p : P α) (d : EdgeData α) :
    QOk (q.insertSibling sibling p d) ∧ (q.insertSibling sibling p d).events.size = q.events.size + 1 ∧
    (q.insertSibling sibling p d).edgeData = q.edgeData.push d := by
  unfold Queue.insertSibling
  have hp : LinksOk (q.events.push ⟨(q.ev sibling).nextSibling, INVALID, p⟩) :=
    linksOk_push h.links _ ((h.ev_links sibling).1.mono (Nat.le_succ _)) (Link.invalid _)
  refine ⟨⟨by simp [h.size], ?_, ?_⟩, by simp, rfl⟩
  · apply setNextSibling_ok hp
    simp only [Array.size_push]
    exact Link.of_lt (Nat.lt_succ_self _)
  · simpa using h.first.mono (Nat.le_succ _)

theorem findLastSibling_lt {evs : Array (Event α)} (h : LinksOk evs) : ∀ (f id : Nat), id < evs.size →
    Queue.findLastSibling evs f id < evs.size := by
  intro f id hid
  fun_induction Queue.findLastSibling evs f id with
  | case1 => exact hid
  | case2 => exact hid
  | case3 f id nx hn ih => exact ih ((getD_links h id).1.lt_of_not hn)

theorem mergeLoop_ok (n : Nat) : ∀ (f : Nat) (evs : Array (Event α)) (a b : Nat) (first : Bool) (head prev : Nat),
    evs.size = n → LinksOk evs → Link n a → Link n b → Link n head →
    LinksOk (Queue.mergeLoop f evs a b first head prev).1 ∧
    (Queue.mergeLoop f evs a b first head prev).1.size = n ∧
    Link n (Queue.mergeLoop f evs a b first head prev).2.1 ∧
    Link n (Queue.mergeLoop f evs a b first head prev).2.2 := by
  intro f evs a b first head prev hn h ha hb hh
  fun_induction Queue.mergeLoop f evs a b first head prev with
  | case1 => exact ⟨h, hn, hh, ha⟩
  | case2 f evs a b first head prev ha0 =>
    subst hn
    cases first
    · exact ⟨setNextEvent_ok h _ _ hb, by simp, hh, ha⟩
    · exact ⟨h, rfl, hh, ha⟩
  | case3 f evs a b first head prev ha0 hb0 =>
    subst hn
    cases first
    · exact ⟨setNextEvent_ok h _ _ ha, by simp, hh, ha⟩
    · exact ⟨h, rfl, hh, ha⟩
  | case4 f evs a b head prev ha0 hb0 hc a' ih =>
    subst hn
    exact ih rfl h (getD_links h a).2 hb ha
  | case5 f evs a b first head prev ha0 hb0 hc a' hf ih =>
    subst hn
    exact ih (by simp) (setNextEvent_ok h prev a ha) (getD_links h a).2 hb hh
  | case6 f evs a b head prev ha0 hb0 hc b' ih =>
    subst hn
    exact ih rfl h ha (getD_links h b).2 hb
  | case7 f evs a b first head prev ha0 hb0 hc b' hf ih =>
    subst hn
    exact ih (by simp) (setNextEvent_ok h prev b hb) ha (getD_links h b).2 hh
  | case8 f evs a b first head prev ha0 hb0 hc aSib b' ih =>
    subst hn
    exact ih (by simp) (setNextSibling_ok h aSib b hb) ha (getD_links h b).2 hh

theorem merge_ok {n : Nat} {evs : Array (Event α)} (hn : evs.size = n) (h : LinksOk evs) (a b : Nat) (ha : Link n a)
    (hb : Link n b) : LinksOk (Queue.merge evs a b).1 ∧ (Queue.merge evs a b).1.size = n ∧ Link n (Queue.merge evs a b).2 := by
  unfold Queue.merge
  split
  · exact ⟨h, hn, hb⟩
  · split
    · exact ⟨h, hn, ha⟩
    · have := mergeLoop_ok n (2 * evs.size + 4) evs a b true INVALID INVALID hn h ha hb (Link.invalid _)
      refine ⟨this.1, this.2.1, ?_⟩
      dsimp only
      split
      · exact this.2.2.2
      · exact this.2.2.1

theorem mergeSort_ok (n : Nat) : ∀ (k : Nat) (evs : Array (Event α)) (s e : Nat), e - s ≤ k → evs.size = n → LinksOk evs →
    s < e → e ≤ n →
    LinksOk (Queue.mergeSort evs s e).1 ∧ (Queue.mergeSort evs s e).1.size = n ∧ Link n (Queue.mergeSort evs s e).2
  | 0, evs, s, e, hk, hn, h, hse, hes => by omega
  | k+1, evs, s, e, hk, hn, h, hse, hes => by
    rw [Queue.mergeSort]
    dsimp only
    split
    · exact ⟨h, hn, Link.of_lt (by omega)⟩
    · split
      · exact ⟨h, hn, Link.of_lt (by omega)⟩
      · have ra := mergeSort_ok n k evs s ((s + e) / 2) (by omega) hn h (by omega) (by omega)
        have rb := mergeSort_ok n k _ ((s + e) / 2) e (by omega) ra.2.1 ra.1 (by omega) hes
        exact merge_ok rb.2.1 rb.1 _ _ ra.2.2 rb.2.2

/-- the sort rewrites links only -/
theorem sort_edgeData (q : Queue α) : q.sort.edgeData = q.edgeData := by
  unfold Queue.sort
  split <;> rfl

theorem qok_sort {q : Queue α} (h : QOk q) : QOk q.sort := by
  unfold Queue.sort
  split
  · exact ⟨h.size, h.links, h.first⟩
  · rename_i hne
    have := mergeSort_ok _ q.events.size q.events 0 q.events.size (by omega) rfl h.links
      (Nat.pos_of_ne_zero (by simpa using hne)) (Nat.le_refl _)
    exact ⟨by simp [h.size, this.2.1], this.1, by simpa [this.2.1] using this.2.2⟩

theorem qok_empty : QOk (Queue.empty : Queue α) :=
  ⟨rfl, by intro i hi; simp [Queue.empty] at hi, Link.invalid _⟩

theorem qok_ofRecs (recs : List (Sources.EdgeRec α)) : QOk (Queue.ofRecs recs) := by
  unfold Queue.ofRecs
  exact foldl_inv QOk _ recs _ qok_empty fun _ h _ _ => qok_pushUnsorted h _ _

/-- the records of `ofRecs`, as `EdgeData` -/
def dataOf (r : Sources.EdgeRec α) : EdgeData α := ⟨r.to, r.t0, r.t1, r.winding, r.isEdge, r.fromId, r.toId⟩

theorem ofRecs_edgeData_aux (recs : List (Sources.EdgeRec α)) : ∀ (q : Queue α),
    (recs.foldl (fun q r => q.pushUnsorted r.pos ⟨r.to, r.t0, r.t1, r.winding, r.isEdge, r.fromId, r.toId⟩) q).edgeData
      = q.edgeData ++ (recs.map dataOf).toArray := by
  induction recs with
  | nil => intro q; simp
  | cons r rs ih =>
    intro q
    simp only [List.foldl_cons, List.map_cons]
    rw [ih]
    simp [dataOf]

theorem ofRecs_edgeData (recs : List (Sources.EdgeRec α)) :
    (Queue.ofRecs recs).edgeData = (recs.map dataOf).toArray := by
  unfold Queue.ofRecs
  rw [ofRecs_edgeData_aux]
  simp [Queue.empty]

end Lyon.SweepRep
