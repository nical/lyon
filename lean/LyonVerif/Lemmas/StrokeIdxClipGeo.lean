/-
  The geometry of the clipped front side of a `LineJoin::MiterClip` join over a linearly ordered field:
  `get_clip_intersections` puts the `next` point of the front side on the side line at `b + lam·nt` with
  `lam ≤ 0` (`clip_core`/`clip_point`, `normal_closed`, `clip_front`): with `N = ±(perp(nt) + τ·nt)` the miter normal of
  the front side, `lam·(N·nt) = hw·(miter_limit·|N| − 1) > 0` and `N·nt < 0` (the outer miter leans
  backwards along the next edge).  When the determinant guard of `Line::intersection` fires
  (`clip_fallback`) the side point stays where it is (/repo fix ede203df; lyon's earlier fall-back was the
  UNSCALED normal).  `sqrt` enters through `sqrt x ≥ 0`, `sqrt x · sqrt x = x` for `x ≥ 0` only.
  Used by the index-validity proof (`Lemmas/StrokeIdxClipLink.lean`) and by the coverage proofs.
  Also here, and fetched from here by the coverage and advancement files: the unit-vector facts of the stroker
  (`len_nonneg`, `sdiv_unit`, `sdiv_smul`, `sqLen_smul_sign` in `Lyon.C05c`; `rot_of_unit`, `cs_unit` in `Lyon.C06b`, with
  the closed form of the miter normal).  `clip_core` is the coordinate form behind `clip_point`; users take `clip_point`.
-/
import LyonVerif.Model.Tess.StrokeFull
import LyonVerif.Lemmas.Field
import LyonVerif.Props.C05
import LyonVerif.Props.C06
import Mathlib.Tactic.Linarith
import Mathlib.Tactic.LinearCombination
import Mathlib.Tactic.FieldSimp

set_option linter.unusedSectionVars false

namespace Lyon.C05c
open Lyon Scalar Lyon.Stroke Lyon.Stroke.Full Lyon.C05
open Lyon.StrokeQuad (Ix clipIntersections lineIntersection lineIxPoint)

section Field
variable {K : Type} [Field K] [LinearOrder K] [IsStrictOrderedRing K] [Transc K]

/-- `get_clip_intersections`, second point: the clip line (through `normalize(N)·k`, orthogonal to
`N`) meets the side line through `b = m·perp(nt)` along the unit vector `nt` at `b + lam·nt` with
`lam·(N·nt) = k·|N| − b·N` -/
theorem clip_core (eps : K) (heps : 0 ≤ eps) (a N nt : P K) (m k : K)
    (hunit : nt.x * nt.x + nt.y * nt.y = 1) (hm : m ≠ 0)
    (hL0 : 0 < Transc.sqrt N.sqLen) (hL : Transc.sqrt N.sqLen * Transc.sqrt N.sqLen = N.sqLen)
    (hdet : eps < |m * (N.x * nt.x + N.y * nt.y)|) :
    ∃ lam : K,
      (clipIntersections (lineIntersection eps) a ⟨-(m * nt.y), m * nt.x⟩ N k).2
        = ⟨-(m * nt.y) + lam * nt.x, m * nt.x + lam * nt.y⟩
      ∧ lam * (N.x * nt.x + N.y * nt.y) = k * Transc.sqrt N.sqLen - m * (-(nt.y) * N.x + nt.x * N.y) := by
  set b : P K := ⟨-(m * nt.y), m * nt.x⟩ with hb
  have hc : (perp N).cross (perp b) = m * (N.x * nt.x + N.y * nt.y) := by
    simp only [perp, hb, geom]; ring
  have hne : (perp N).cross (perp b) ≠ 0 := by
    rw [hc]; intro h; rw [h, abs_zero] at hdet; exact absurd hdet (not_lt.mpr heps)
  have hguard : ¬ Scalar.abs ((perp N).cross (perp b)) ≤ eps := by
    rw [hc]; show ¬ |_| ≤ eps; exact not_le.mpr hdet
  unfold clipIntersections lineIntersection
  simp only []
  rw [if_neg hguard]
  simp only [Option.getD_some]
  obtain ⟨h1, h2⟩ := Lyon.C06.ix_on_both_lines ((Stroke.normalize N).smul k) (perp N) b (perp b) hne
  generalize lineIxPoint ((Stroke.normalize N).smul k) (perp N) b (perp b) = X at h1 h2
  set L := Transc.sqrt N.sqLen with hLdef
  have hLne : L ≠ 0 := ne_of_gt hL0
  simp only [perp, Stroke.normalize, hb, geom] at h1 h2
  have hLs : Transc.sqrt (N.x * N.x + N.y * N.y) = L := by rw [hLdef]; simp only [geom]
  rw [hLs] at h1
  have h2' : -(X.x - -(m * nt.y)) * nt.y + (X.y - m * nt.x) * nt.x = 0 := by
    have : m * (-(X.x - -(m * nt.y)) * nt.y + (X.y - m * nt.x) * nt.x) = 0 := by linear_combination h2
    rcases mul_eq_zero.mp this with h | h
    · exact absurd h hm
    · exact h
  have hpx : X.x = -(m * nt.y) + ((X.x - -(m * nt.y)) * nt.x + (X.y - m * nt.x) * nt.y) * nt.x := by
    linear_combination (-(X.x - -(m * nt.y))) * hunit - nt.y * h2'
  have hpy : X.y = m * nt.x + ((X.x - -(m * nt.y)) * nt.x + (X.y - m * nt.x) * nt.y) * nt.y := by
    linear_combination (-(X.y - m * nt.x)) * hunit + nt.x * h2'
  refine ⟨(X.x - -(m * nt.y)) * nt.x + (X.y - m * nt.x) * nt.y, P.ext' hpx hpy, ?_⟩
  have hL' : L * L = N.x * N.x + N.y * N.y := by rw [hL]; simp only [geom]
  have hcp : N.x / L * k * N.x + N.y / L * k * N.y = k * L := by
    field_simp
    linear_combination (-k) * hL'
  generalize (X.x - -(m * nt.y)) * nt.x + (X.y - m * nt.x) * nt.y = lam at hpx hpy ⊢
  have hXN : X.x * N.x + X.y * N.y = k * L := by linear_combination h1 + hcp
  rw [hpx, hpy] at hXN
  linear_combination hXN

/-- `get_clip_intersections`, second point, when `Line::intersection` answers `None` (determinant
within the guard): the side point stays where it is (/repo fix ede203df) -/
theorem clip_fallback (eps : K) (a N nt : P K) (m k : K)
    (hdet : |m * (N.x * nt.x + N.y * nt.y)| ≤ eps) :
    (clipIntersections (lineIntersection eps) a ⟨-(m * nt.y), m * nt.x⟩ N k).2 = ⟨-(m * nt.y), m * nt.x⟩ := by
  have hc : (perp N).cross (perp (⟨-(m * nt.y), m * nt.x⟩ : P K)) = m * (N.x * nt.x + N.y * nt.y) := by
    simp only [perp, geom]; ring
  have hguard : Scalar.abs ((perp N).cross (perp (⟨-(m * nt.y), m * nt.x⟩ : P K))) ≤ eps := by
    rw [hc]; exact hdet
  unfold clipIntersections lineIntersection
  simp only []
  rw [if_pos hguard]
  rfl

theorem computeNormal_zero_left (v : P K) : (computeNormal (⟨0, 0⟩ : P K) v).sqLen = 0 := by
  unfold computeNormal computeNormalTail
  simp only []
  have h0 : ∀ n : P K, Scalar.abs (n.dot (perp (⟨0, 0⟩ : P K))) < normalEpsilon := by
    intro n
    rw [normalEpsilon_eq]
    simp only [perp, geom]
    norm_num
  split_ifs with h1 h2
  · simp only [geom, Nat.cast_zero]; ring
  · simp only [perp, geom]; ring
  · exact absurd (h0 _) h2

theorem len_nonneg (hs0 : ∀ x : K, 0 ≤ x → 0 ≤ Transc.sqrt x) (v : P K) : 0 ≤ len v :=
  hs0 _ (P.sqLen_nonneg _)

theorem sdiv_unit (hs0 : ∀ x : K, 0 ≤ x → 0 ≤ Transc.sqrt x)
    (hs : ∀ x : K, 0 ≤ x → Transc.sqrt x * Transc.sqrt x = x) (v : P K) (hv : 0 < v.sqLen) :
    0 < len v ∧ (v.sdiv (len v)).sqLen = 1 :=
  ⟨sqrt_pos_of_pos hs0 hs hv, sdiv_sqLen v (hs _ hv.le) hv.ne'⟩

theorem sdiv_smul (v : P K) {L : K} (hL : L ≠ 0) : v = (v.sdiv L).smul L := by
  apply P.ext' <;> simp only [geom] <;> exact (div_mul_cancel₀ _ hL).symm

theorem sqLen_smul_sign (n : P K) {sg : K} (hsg : sg * sg = 1) : (n.smul sg).sqLen = n.sqLen := by
  simp only [geom]; linear_combination (n.x * n.x + n.y * n.y) * hsg

end Field

end Lyon.C05c

namespace Lyon.C06b
open Lyon Scalar Lyon.Stroke Lyon.Stroke.Full Lyon.C05 Lyon.C05c
open Lyon.StrokeQuad (Ix clipIntersections lineIntersection)

section
variable {K : Type} [Field K] [LinearOrder K] [IsStrictOrderedRing K] [Transc K]

/-- `perp t1 = c·perp t0 − s·t0`, `t1 = c·t0 + s·perp t0` for a unit `t0` -/
theorem rot_of_unit (t0 t1 : P K) (h0 : t0.sqLen = 1) :
    t1 = t0.smul (t0.dot t1) + (perp t0).smul (t0.cross t1) := by
  simp only [perp, geom] at h0 ⊢
  apply P.ext' <;> simp only []
  · linear_combination (-t1.x) * h0
  · linear_combination (-t1.y) * h0

/-- `c² + s² = 1` for unit vectors -/
theorem cs_unit (t0 t1 : P K) (h0 : t0.sqLen = 1) (h1 : t1.sqLen = 1) :
    t0.dot t1 * t0.dot t1 + t0.cross t1 * t0.cross t1 = 1 := by
  simp only [geom] at h0 h1 ⊢
  linear_combination (t1.x * t1.x + t1.y * t1.y) * h0 + h1

/-- the miter vector `compute_normal` returns, with `c = t0·t1`, `s = t0×t1`, `τ = s/(1+c)` (the signed tangent of
half the turn): `perp t0 − τ·t0 = perp t1 + τ·t1`.  Both are `perp (t0 + t1) / (1 + c)`, since
`perp (t0 + t1) = (1+c)·perp t0 − s·t0 = (1+c)·perp t1 + s·t1`.  Laws of `sqrt` used: `≥ 0`, squares back. -/
theorem normal_closed (hs0 : ∀ x : K, 0 ≤ x → 0 ≤ Transc.sqrt x)
    (hs : ∀ x : K, 0 ≤ x → Transc.sqrt x * Transc.sqrt x = x) (t0 t1 : P K)
    (h0 : t0.sqLen = 1) (h1 : t1.sqLen = 1) (hg : ¬ (t0 + t1).sqLen < normalEpsilon) :
    0 < 1 + t0.dot t1
    ∧ computeNormal t0 t1 = perp t0 - t0.smul (t0.cross t1 / (1 + t0.dot t1))
    ∧ computeNormal t0 t1 = perp t1 + t1.smul (t0.cross t1 / (1 + t0.dot t1)) := by
  obtain ⟨hc, hN⟩ := computeNormal_closed t0 t1 h0 h1 hg (hs0 _ (P.sqLen_nonneg _)) (hs _ (P.sqLen_nonneg _))
  have hcne : 1 + t0.dot t1 ≠ 0 := ne_of_gt hc
  refine ⟨hc, ?_, ?_⟩ <;> rw [hN] <;> apply P.ext' <;> simp only [perp, geom] at h0 h1 hcne ⊢ <;> field_simp
  · linear_combination t1.y * h0
  · linear_combination (-t1.x) * h0
  · linear_combination t0.y * h1
  · linear_combination (-t0.x) * h1

/-- one side `N = σ·(perp t + τ·t)` of a miter vector, `t` a unit vector, `σ = ±1`: `N·t = σ·τ`, `perp t·N = σ`,
`|N|² = 1 + τ²` -/
theorem miter_dots (t : P K) (τ σ : K) (ht : t.sqLen = 1) (hσ : σ * σ = 1) :
    ((perp t + t.smul τ).smul σ).dot t = σ * τ ∧ (perp t).dot ((perp t + t.smul τ).smul σ) = σ
    ∧ ((perp t + t.smul τ).smul σ).sqLen = 1 + τ * τ := by
  simp only [perp, geom] at ht ⊢
  refine ⟨?_, ?_, ?_⟩
  · linear_combination (σ * τ) * ht
  · linear_combination σ * ht
  · linear_combination (σ * σ) * (1 + τ * τ) * ht + (1 + τ * τ) * hσ

/-- `clip_core` in vector form: the point the model puts on the side line `{m·perp(nt) + lam·nt}` lies on the clip line
`{X : X·N = k·|N|}` at `lam·(N·nt) = k·|N| − m·(perp(nt)·N)`, squared distance `m² + lam²` from the join -/
theorem clip_point (eps : K) (heps : 0 ≤ eps) (a N nt : P K) (m k : K)
    (hunit : nt.sqLen = 1) (hm : m ≠ 0)
    (hL0 : 0 < Transc.sqrt N.sqLen) (hL : Transc.sqrt N.sqLen * Transc.sqrt N.sqLen = N.sqLen)
    (hdet : eps < |m * N.dot nt|) :
    ∃ lam : K,
      (clipIntersections (lineIntersection eps) a ((perp nt).smul m) N k).2 = (perp nt).smul m + nt.smul lam
      ∧ lam * N.dot nt = k * Transc.sqrt N.sqLen - m * (perp nt).dot N
      ∧ ((perp nt).smul m + nt.smul lam).dot N = k * Transc.sqrt N.sqLen
      ∧ ((perp nt).smul m + nt.smul lam).sqLen = m * m + lam * lam := by
  have hunit' : nt.x * nt.x + nt.y * nt.y = 1 := by simpa only [geom] using hunit
  have hdet' : eps < |m * (N.x * nt.x + N.y * nt.y)| := by simpa only [geom] using hdet
  obtain ⟨lam, h1, h2⟩ := clip_core eps heps a N nt m k hunit' hm hL0 hL hdet'
  have hb : ((perp nt).smul m : P K) = ⟨-(m * nt.y), m * nt.x⟩ := by
    apply P.ext' <;> simp only [perp, geom] <;> ring
  generalize Transc.sqrt N.sqLen = r at h2 ⊢
  refine ⟨lam, ?_, ?_, ?_, ?_⟩
  · rw [hb, h1]; geom_ring
  · simp only [perp, geom]; linear_combination h2
  · simp only [perp, geom]; linear_combination h2
  · simp only [perp, geom]; linear_combination (m * m + lam * lam) * hunit'

end

end Lyon.C06b

namespace Lyon.C05c
open Lyon Scalar Lyon.Stroke Lyon.Stroke.Full Lyon.C05 Lyon.C06b
open Lyon.StrokeQuad (clipIntersections lineIntersection)

section Field
variable {K : Type} [Field K] [LinearOrder K] [IsStrictOrderedRing K] [Transc K]

/-- the clipped `next` point of the front side of a `MiterClip` join lies BEHIND the unclipped one along the next
edge: `front.next − join = b + lam·nt`, `lam ≤ 0`, where `b = perp(nt)·(sg·hw)` is the unclipped offset and `sg = ±1` the
sign of the front side, opposite to the turn (`sg = −1`: the front side is the negative one, left turn).  With
`N = sg·(perp(nt) + τ·nt)` the front miter normal (`normal_closed`): `lam·(sg τ) = hw·(miter_limit·|N| − 1) > 0`
(`clip_point`; `|N| > 2`) and `sg τ < 0`: the outer miter leans backwards along the next edge.  When the determinant
guard of `Line::intersection` fires the point stays where it is (`clip_fallback`, `lam = 0`). -/
theorem clip_front (hs0 : ∀ x : K, 0 ≤ x → 0 ≤ Transc.sqrt x)
    (hs : ∀ x : K, 0 ≤ x → Transc.sqrt x * Transc.sqrt x = x)
    (eps hw ml : K) (heps : 0 ≤ eps) (hhw : 0 ≤ hw) (hml : 1 ≤ ml)
    (pt nt : P K) (hpt : pt.sqLen = 1) (hnt : nt.sqLen = 1) (a : P K) (sg : K)
    (hsg : sg * sg = 1) (hturn : sg * pt.cross nt ≤ 0)
    (hex : (computeNormal pt nt).sqLen > ml * ml * 4) :
    ∃ lam : K, lam ≤ 0 ∧
      (clipIntersections (lineIntersection eps) a ((perp nt).smul (sg * hw)) ((computeNormal pt nt).smul sg) (ml * hw)).2
        = (perp nt).smul (sg * hw) + nt.smul lam := by
  have hml2 : 4 ≤ ml * ml * 4 := by linarith [one_le_mul_of_one_le_of_one_le hml hml]
  have hg : ¬ (pt + nt).sqLen < normalEpsilon := by
    intro h
    rw [compute_normal_opposite pt nt h] at hex
    simp only [geom] at hex
    linarith
  obtain ⟨hc, _, h1⟩ := normal_closed hs0 hs pt nt hpt hnt hg
  have hτ : pt.cross nt / (1 + pt.dot nt) * (1 + pt.dot nt) = pt.cross nt := div_mul_cancel₀ _ hc.ne'
  generalize pt.cross nt / (1 + pt.dot nt) = tau at h1 hτ
  rw [h1] at hex ⊢
  rw [← sqLen_smul_sign _ hsg] at hex
  generalize hN : (perp nt + nt.smul tau).smul sg = N at hex
  obtain ⟨hρ, hσ, hNsq⟩ := hN ▸ miter_dots nt tau sg hnt hsg
  have h4 : 4 < 1 + tau * tau := by rw [← hNsq]; linarith
  by_cases hdet : eps < |sg * hw * N.dot nt|
  swap
  · -- the determinant guard fires: the side point is left alone
    refine ⟨0, le_refl _, ?_⟩
    have eb : (perp nt).smul (sg * hw) = ⟨-(sg * hw * nt.y), sg * hw * nt.x⟩ := by
      apply P.ext' <;> simp only [perp, geom] <;> ring
    rw [eb, clip_fallback eps a N nt (sg * hw) (ml * hw) (by simpa only [geom] using not_lt.mp hdet)]
    apply P.ext' <;> simp only [geom] <;> ring
  have hhw0 : 0 < hw := lt_of_le_of_ne hhw fun h => by
    rw [← h, mul_zero, zero_mul, abs_zero] at hdet
    exact absurd hdet (not_lt.mpr heps)
  have hm : sg * hw ≠ 0 := mul_ne_zero (fun h => by rw [h, mul_zero] at hsg; exact zero_ne_one hsg) hhw0.ne'
  have hNpos : (0 : K) < N.sqLen := by rw [hNsq]; linarith
  have hL := hs _ hNpos.le
  have hL0 := sqrt_pos_of_pos hs0 hs hNpos
  obtain ⟨lam, c1, c2, _, _⟩ := clip_point eps heps a N nt (sg * hw) (ml * hw) hnt hm hL0 hL hdet
  refine ⟨lam, ?_, c1⟩
  -- `lam·(sg τ) = hw·(ml·|N| − 1) > 0` and `sg τ < 0` (the outer miter leans backwards along the next edge)
  rw [hρ, hσ] at c2
  have hr2 : 2 < Transc.sqrt N.sqLen := lt_of_mul_self_lt_mul_self₀ hL0.le (by rw [hL, hNsq]; linarith)
  have hpos : 0 < lam * (sg * tau) := by
    rw [c2, show ml * hw * Transc.sqrt N.sqLen - sg * hw * sg = hw * (ml * Transc.sqrt N.sqLen - 1) by
      linear_combination (-hw) * hsg]
    exact mul_pos hhw0 (sub_pos.mpr (one_lt_mul_of_le_of_lt hml (by linarith)))
  have hst : sg * tau < 0 := by
    have e : (sg * tau) * (sg * pt.cross nt) = (sg * sg) * (tau * tau * (1 + pt.dot nt)) := by rw [← hτ]; ring
    exact neg_of_mul_pos_left (by rw [e, hsg, one_mul]; exact mul_pos (by linarith) hc) hturn
  exact (neg_of_mul_pos_left hpos hst.le).le

end Field

end Lyon.C05c
