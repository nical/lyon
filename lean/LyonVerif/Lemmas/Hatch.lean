/-
  What C20 rests on (vocabulary: `Lemmas/HatchSpec.lean`).  `hatch_line` pairs consecutive crossings of the edges it
  counts (`lineLoop_inPairs`); on every row that `hatch` records, those edges are, as a multiset, the edges of the
  event list that span the row (`hatch_rows`), found by one walk through `hatch` with the swept prefix of the edge
  list as ghost (`hatch_keeps`); a point of a sorted list of crossings lies in one of the paired intervals iff an
  odd number of them lie left of it (`inPairs_parity`).  Together: the even-odd rule.  The offsets (`hatch_off`)
  and the `y_max` bound are instances of the same walk; closed sub-paths give even crossing counts (`closed_even`).
  Around that: the stable insertion sort both sorts of the code are modelled by (`isort_perm`, `isort_pairwise`),
  flattened curved input is again a stream of closed sub-paths (`flatten_closed`), and where a dot of
  `HatchesToDots` lies on its segment (`dotLoop_mem`, `modulo_range`, `alignU_nonneg`).
-/
import LyonVerif.Lemmas.HatchSpec
import LyonVerif.Lemmas.LexOrder

set_option linter.unusedSectionVars false

namespace Lyon.Hatch
open Lyon Scalar

section sort
variable {β : Type}

theorem insertBy_perm (lt : β → β → Bool) (x : β) (l : List β) :
    (insertBy lt x l).Perm (x :: l) := by
  induction l with
  | nil => exact List.Perm.refl _
  | cons y ys ih =>
    simp only [insertBy]
    split
    · exact (List.Perm.cons y ih).trans (List.Perm.swap x y ys)
    · exact List.Perm.refl _

theorem isort_perm (lt : β → β → Bool) (l : List β) : (isort lt l).Perm l := by
  induction l with
  | nil => exact List.Perm.refl _
  | cons x xs ih => exact (insertBy_perm lt x _).trans (List.Perm.cons x ih)

theorem insertBy_pairwise {R : β → β → Prop} (lt : β → β → Bool)
    (trans : ∀ a b c, R a b → R b c → R a c)
    (h1 : ∀ a b, lt a b = true → R a b) (h2 : ∀ a b, lt a b = false → R b a)
    (x : β) (l : List β) (hl : l.Pairwise R) : (insertBy lt x l).Pairwise R := by
  induction l with
  | nil => simp [insertBy]
  | cons y ys ih =>
    rw [List.pairwise_cons] at hl
    simp only [insertBy]
    cases hlt : lt y x with
    | true =>
      simp only [if_true]
      rw [List.pairwise_cons]
      refine ⟨?_, ih hl.2⟩
      intro z hz
      have hz' := (insertBy_perm lt x ys).mem_iff.mp hz
      rcases List.mem_cons.mp hz' with rfl | hz''
      · exact h1 _ _ hlt
      · exact hl.1 z hz''
    | false =>
      simp only [Bool.false_eq_true, if_false]
      rw [List.pairwise_cons, List.pairwise_cons]
      refine ⟨?_, hl⟩
      intro z hz
      rcases List.mem_cons.mp hz with rfl | hz'
      · exact h2 _ _ hlt
      · exact trans _ _ _ (h2 _ _ hlt) (hl.1 z hz')

theorem isort_pairwise {R : β → β → Prop} (lt : β → β → Bool)
    (trans : ∀ a b c, R a b → R b c → R a c)
    (h1 : ∀ a b, lt a b = true → R a b) (h2 : ∀ a b, lt a b = false → R b a)
    (l : List β) : (isort lt l).Pairwise R := by
  induction l with
  | nil => simp [isort]
  | cons x xs ih => exact insertBy_pairwise lt trans h1 h2 x _ ih

end sort

variable {K : Type} [Field K] [LinearOrder K] [IsStrictOrderedRing K]

theorem cmpPos_eq (a b : P K) : cmpPos a b = lexCmp a b := rfl

theorem cmpPos_lt_y {a b : P K} (h : cmpPos a b = .lt) : a.y ≤ b.y :=
  ((lexCmp_lt_iff a b).mp (cmpPos_eq a b ▸ h)).le_y

theorem cmpPos_gt_y {a b : P K} (h : cmpPos a b = .gt) : b.y ≤ a.y :=
  ((lexCmp_gt_iff a b).mp (cmpPos_eq a b ▸ h)).le_y

theorem cmpPos_ne_lt_y {a b : P K} (h : cmpPos a b ≠ .lt) : b.y ≤ a.y :=
  le_y_of_not_lexLt fun g => h (cmpPos_eq a b ▸ (lexCmp_lt_iff a b).mpr g)

theorem cmpPos_ne_gt_y {a b : P K} (h : cmpPos a b ≠ .gt) : a.y ≤ b.y :=
  le_y_of_not_lexLt fun g => h (cmpPos_eq a b ▸ (lexCmp_gt_iff a b).mpr g)

theorem sortActive_perm (y : K) (l : List (Seg K)) : (sortActive y l).Perm l := isort_perm _ l

theorem sortActive_sorted (y : K) (l : List (Seg K)) :
    (sortActive y l).Pairwise (fun e f => solveX e y ≤ solveX f y) := by
  apply isort_pairwise
  · intro a b c h1 h2; exact le_trans h1 h2
  · intro a b h; exact le_of_lt (of_decide_eq_true h)
  · intro a b h; exact not_lt.mp (of_decide_eq_false h)

theorem events_sorted_aux (l : List (Seg K)) :
    (isort ltFrom l).Pairwise (fun e f => e.a.y ≤ f.a.y) := by
  apply isort_pairwise
  · intro a b c h1 h2; exact le_trans h1 h2
  · intro a b h
    apply cmpPos_lt_y
    simpa [ltFrom] using h
  · intro a b h
    apply cmpPos_ne_lt_y
    intro hc
    simp [ltFrom, hc] at h

theorem countLt_eq_zero {l : List K} {x : K} (h : ∀ a ∈ l, x ≤ a) : countLt l x = 0 := by
  unfold countLt
  rw [List.length_eq_zero_iff, List.filter_eq_nil_iff]
  intro a ha
  simp [not_lt.mpr (h a ha)]

theorem countLt_cons (a x : K) (l : List K) :
    countLt (a :: l) x = (if a < x then 1 else 0) + countLt l x := by
  unfold countLt
  by_cases h : a < x <;> simp [h, Nat.add_comm]

/-- two elements at a time; the split is on the SECOND of them: right of it the pair is passed and the rest decides,
otherwise nothing of the rest lies left of `x` -/
theorem inPairs_parity (x : K) : ∀ (l : List K), l.Pairwise (· ≤ ·) → x ∉ l →
    (inPairs l x ↔ (countLt l x % 2 = 1 ∧ ∃ b ∈ l, x < b))
  | [], _, _ => by simp [inPairs, countLt]
  | [a], _, _ => by
    simp only [inPairs, countLt_cons, false_iff, not_and, List.mem_singleton, exists_eq_left]
    intro h hxa
    simp [hxa.not_gt, countLt] at h
  | a :: b :: rest, hs, hx => by
    simp only [List.pairwise_cons, List.mem_cons, not_or, forall_eq_or_imp] at hs hx
    obtain ⟨⟨hab, har⟩, hbr, hrest⟩ := hs
    obtain ⟨hxa, hxb, hxr⟩ := hx
    have ih := inPairs_parity x rest hrest hxr
    simp only [inPairs, countLt_cons, List.mem_cons, exists_eq_or_imp]
    by_cases hb : b < x
    · have ha : a < x := hab.trans_lt hb
      have h2 : (1 + (1 + countLt rest x)) % 2 = countLt rest x % 2 := by omega
      simp only [ha, hb, hb.not_gt, ha.not_gt, and_false, false_or, if_true, ih, h2]
    · have hxb' : x < b := lt_of_le_of_ne (not_lt.mp hb) hxb
      have h0 : countLt rest x = 0 := countLt_eq_zero fun c hc => (hxb'.trans_le (hbr c hc)).le
      simp only [ih, h0, hb, hxb', if_false, true_or, or_true, and_true]
      by_cases ha : a < x <;> simp [ha]

/-- with an even number of crossings the last one closes the last interval -/
theorem inPairs_parity_even (x : K) (l : List K) (hs : l.Pairwise (· ≤ ·)) (hx : x ∉ l)
    (he : l.length % 2 = 0) : inPairs l x ↔ countLt l x % 2 = 1 := by
  rw [inPairs_parity x l hs hx]
  refine ⟨fun h => h.1, fun hodd => ⟨hodd, ?_⟩⟩
  -- otherwise every element is < x and countLt = length is even
  by_contra hne
  have : countLt l x = l.length := congrArg _ (List.filter_eq_self.mpr fun a ha => decide_eq_true
    (lt_of_le_of_ne (not_lt.mp fun h => hne ⟨a, ha, h⟩) (ne_of_mem_of_not_mem ha hx)))
  omega

variable [Transc K]

theorem crossings_skip {y : K} {e : Seg K} (es : List (Seg K)) (h : e.b.y ≤ y) :
    crossings y (e :: es) = crossings y es := by
  simp [crossings, cnt, h]

theorem crossings_count {y : K} {e : Seg K} (es : List (Seg K)) (h : ¬ e.b.y ≤ y) :
    crossings y (e :: es) = solveX e y :: crossings y es := by
  simp [crossings, cnt, h]

/-- `inside`, `px`: a left end is pending, at abscissa `px` (`pt` its tangent); it then pairs with the first crossing of `l` -/
theorem lineLoop_inPairs (cfg : Cfg K) (y : K) (row : Nat) (x : K) (l : List (Seg K)) (inside : Bool)
    (px : K) (pt : P K) :
    (∃ s ∈ lineLoop cfg y row l inside px pt, s.xa < x ∧ x < s.xb)
      ↔ inPairs (if inside then px :: crossings y l else crossings y l) x := by
  fun_induction lineLoop cfg y row l inside px pt with
  | case1 inside => cases inside <;> simp [crossings, inPairs]
  | case2 e es inside px pt h ih => rw [crossings_skip es h]; exact ih
  | case3 e es px pt h ih =>
    rw [crossings_count es h]
    simpa [inPairs, mkSeg] using or_congr_right ih
  | case4 e es inside px pt h hi ih =>
    rw [crossings_count es h, Bool.eq_false_iff.mpr hi]
    exact ih

-- `lineLoop_inPairs` at `inside = false` and at `inside = true`
theorem lineLoop_intervals (cfg : Cfg K) (y : K) (row : Nat) (x : K) :
    ∀ (l : List (Seg K)) (px : K) (pt : P K),
      ((∃ s ∈ lineLoop cfg y row l false px pt, s.xa < x ∧ x < s.xb) ↔ inPairs (crossings y l) x) ∧
      ((∃ s ∈ lineLoop cfg y row l true px pt, s.xa < x ∧ x < s.xb) ↔ inPairs (px :: crossings y l) x) :=
  fun l px pt => ⟨lineLoop_inPairs cfg y row x l false px pt, lineLoop_inPairs cfg y row x l true px pt⟩

/-- every segment runs from a crossing (or the pending left end) to a crossing, and is `mkSeg` of its own fields -/
theorem lineLoop_ends (cfg : Cfg K) (y : K) (row : Nat) (l : List (Seg K)) (inside : Bool) (px : K)
    (pt : P K) (s : HSeg K) (hs : s ∈ lineLoop cfg y row l inside px pt) :
    ((inside = true ∧ s.xa = px) ∨ s.xa ∈ crossings y l) ∧ s.xb ∈ crossings y l ∧
    s = mkSeg cfg y row s.xa s.xb s.ta s.tb := by
  fun_induction lineLoop cfg y row l inside px pt with
  | case1 => simp at hs
  | case2 e es inside px pt h ih => rw [crossings_skip es h]; exact ih hs
  | case3 e es px pt h ih =>
    rw [crossings_count es h]
    rcases List.mem_cons.mp hs with rfl | hs
    · exact ⟨Or.inl ⟨rfl, rfl⟩, List.mem_cons_self .., rfl⟩
    · obtain ⟨h1, h2, h3⟩ := ih hs
      exact ⟨Or.inr (List.mem_cons_of_mem _ (h1.resolve_left (by simp))), List.mem_cons_of_mem _ h2, h3⟩
  | case4 e es inside px pt h hi ih =>
    rw [crossings_count es h]
    obtain ⟨h1, h2, h3⟩ := ih hs
    exact ⟨Or.inr (h1.elim (fun e => e.2 ▸ List.mem_cons_self ..) (List.mem_cons_of_mem _)),
      List.mem_cons_of_mem _ h2, h3⟩

theorem lineLoop_ordered (cfg : Cfg K) (y : K) (row : Nat) :
    ∀ (l : List (Seg K)) (inside : Bool) (px : K) (pt : P K),
      l.Pairwise (fun e f => solveX e y ≤ solveX f y) →
      (inside = true → ∀ e ∈ l, px ≤ solveX e y) →
      ∀ s ∈ lineLoop cfg y row l inside px pt, s.xa ≤ s.xb := by
  intro l inside px pt hsort hpx
  fun_induction lineLoop cfg y row l inside px pt with
  | case1 => simp
  | case2 e es inside px pt h ih =>
    exact ih (List.pairwise_cons.mp hsort).2 (fun hi e' he' => hpx hi e' (List.mem_cons_of_mem _ he'))
  | case3 e es px pt h ih =>
    intro s hs
    rcases List.mem_cons.mp hs with rfl | hs
    · exact hpx rfl e (List.mem_cons_self ..)
    · exact ih (List.pairwise_cons.mp hsort).2 (fun hi => by simp at hi) s hs
  | case4 e es inside px pt h hi ih =>
    exact ih (List.pairwise_cons.mp hsort).2 (fun _ e' he' => (List.pairwise_cons.mp hsort).1 e' he')

variable {σ : Type}

theorem rowsWhile_post (cfg : Cfg K) (B : Builder σ K) (bound : K) (f : Nat) (st : St σ K) :
    (rowsWhile cfg B f bound st).stop = false → (rowsWhile cfg B f bound st).fuelOut = false →
      bound ≤ (rowsWhile cfg B f bound st).y := by
  fun_induction rowsWhile cfg B f bound st with
  | case1 => intro _ hf; simp at hf
  | case2 bound st h | case5 f bound st h => exact fun _ _ => not_lt.mp h
  | case3 f bound st h hstop => intro hc; simp [hstop] at hc
  | case4 f bound st h hstop ih => exact ih

theorem rowsWhile_keeps (cfg : Cfg K) (B : Builder σ K) (bound : K) (I : St σ K → Prop)
    (hfuel : ∀ st, I st → I { st with fuelOut := true })
    (hstep : ∀ st, I st → st.stop = false → st.y < bound → I (rowStep cfg B st))
    (f : Nat) (st : St σ K) (h : I st) (hs : st.stop = false) : I (rowsWhile cfg B f bound st) := by
  fun_induction rowsWhile cfg B f bound st with
  | case1 bound st hlt => exact hfuel st h
  | case2 | case5 => exact h
  | case3 f bound st hlt hstop => exact hstep st h hs hlt
  | case4 f bound st hlt hstop ih => exact ih hstep (hstep st h hs hlt) (by simpa using hstop)

theorem rowsWhile_ymax (cfg : Cfg K) (B : Builder σ K) (bound : K) (f : Nat) (st : St σ K) :
    (rowsWhile cfg B f bound st).ymax = st.ymax := by
  fun_induction rowsWhile cfg B f bound st with
  | case1 | case2 | case3 | case5 => rfl
  | case4 f bound st h hstop ih => exact ih

theorem hatch_nil (cfg : Cfg K) (B : Builder σ K) (fuel : Nat) (b0 : σ) :
    hatch cfg B fuel [] b0 = some (emptySt b0) := rfl

theorem hatch_cons (cfg : Cfg K) (B : Builder σ K) (fuel : Nat) (e0 : Seg K) (es : List (Seg K))
    (b0 : σ) :
    hatch cfg B fuel (e0 :: es) b0 = some (finish cfg B fuel
      (hatchEdges cfg B fuel (e0 :: es)
        (initSt (B.nextOff b0 0).2 (e0.a.y + (B.nextOff b0 0).1) (B.nextOff b0 0).1))) := rfl

/-! ## One walk through `Hatcher::hatch`

An invariant `I done st`, `done` being the prefix of the edge list already handed to `update_sweep_line`, is taken through
the row loop, the edge loop and the final rows once; the sweep invariant, the offsets and the `y_max` bound are instances. -/

section keeps
variable (cfg : Cfg K) (B : Builder σ K) (fuel : Nat) {edges : List (Seg K)}
  (I : List (Seg K) → St σ K → Prop)
  (hfuel : ∀ d st, I d st → I d { st with fuelOut := true })
  (hrow : ∀ d rest st, edges = d ++ rest → I d st → st.stop = false →
    (∀ e ∈ rest.head?, st.y < e.a.y) → I d (rowStep cfg B st))
  (hsweep : ∀ d e rest st, edges = d ++ e :: rest → I d st → st.stop = false → e.a.y ≤ st.y →
    I (d ++ [e]) { st with ymax := Scalar.max st.ymax e.b.y, active := updateSweep st.active e })
include hfuel hrow hsweep

theorem hatchEdges_keeps (rest done : List (Seg K)) (st : St σ K) (hsplit : edges = done ++ rest)
    (h : I done st) (hs : st.stop = false) :
    ∃ done', I done' (hatchEdges cfg B fuel rest st) ∧
      ((hatchEdges cfg B fuel rest st).stop = false →
        (hatchEdges cfg B fuel rest st).fuelOut = false → done' = edges) := by
  fun_induction hatchEdges cfg B fuel rest st generalizing done with
  | case1 st => exact ⟨done, h, fun _ _ => by simp [hsplit]⟩
  | case2 e es st hstop =>
    refine ⟨done, rowsWhile_keeps cfg B e.a.y (I done) (hfuel done)
      (fun st h hs hlt => hrow done _ st hsplit h hs (by simpa using hlt)) fuel st h hs, fun h1 h2 => ?_⟩
    simp [h1, h2] at hstop
  | case3 e es st hstop ih =>
    have hw := rowsWhile_keeps cfg B e.a.y (I done) (hfuel done)
      (fun st h hs hlt => hrow done _ st hsplit h hs (by simpa using hlt)) fuel st h hs
    simp only [Bool.or_eq_true, not_or, Bool.not_eq_true] at hstop
    exact ih (done ++ [e]) (by simp [hsplit])
      (hsweep done e es _ hsplit hw hstop.1 (rowsWhile_post cfg B _ fuel st hstop.1 hstop.2)) hstop.1

theorem hatch_keeps (e0 : Seg K) (es : List (Seg K)) (hedges : edges = e0 :: es) (b0 : σ) (st : St σ K)
    (h : hatch cfg B fuel edges b0 = some st)
    (h0 : I [] (initSt (B.nextOff b0 0).2 (e0.a.y + (B.nextOff b0 0).1) (B.nextOff b0 0).1)) :
    ∃ done, I done st ∧ (st.stop = false → st.fuelOut = false → done = edges ∧ st.ymax ≤ st.y) := by
  subst hedges
  rw [hatch_cons, Option.some.injEq] at h
  subst h
  obtain ⟨done, hI, hdone⟩ := hatchEdges_keeps cfg B fuel I hfuel hrow hsweep (e0 :: es) [] _ rfl h0 rfl
  simp only [finish]
  split
  · rename_i hstop
    exact ⟨done, hI, fun h1 h2 => by simp [h1, h2] at hstop⟩
  · rename_i hstop
    simp only [Bool.or_eq_true, not_or, Bool.not_eq_true] at hstop
    obtain rfl := hdone hstop.1 hstop.2
    refine ⟨_, rowsWhile_keeps cfg B _ (I (e0 :: es)) (hfuel _)
      (fun st h hs _ => hrow _ [] st (by simp) h hs (by simp)) fuel _ hI hstop.1, fun h1 h2 => ⟨rfl, ?_⟩⟩
    rw [rowsWhile_ymax]
    exact rowsWhile_post cfg B _ fuel _ h1 h2

end keeps

/-- `done` = the prefix of the sorted edge list already handed to `update_sweep_line`.  `live`: on every row from
the current one on, the edges the active list still counts are those the swept prefix still counts (`retain` drops
only edges that no later row counts). -/
structure Inv (cfg : Cfg K) (edges done : List (Seg K)) (st : St σ K) : Prop where
  rows : ∀ r ∈ st.rows, RowInv cfg edges r
  live : st.stop = false →
    (∀ e ∈ done, e.a.y ≤ st.y) ∧
    ∀ y, st.y ≤ y → (st.active.filter (cnt y)).Perm (done.filter (cnt y))

theorem rowStep_inv (cfg : Cfg K) (B : Builder σ K) {edges done rest : List (Seg K)} {st : St σ K}
    (hsplit : edges = done ++ rest) (hrest : ∀ e ∈ rest, st.y < e.a.y)
    (h : Inv cfg edges done st) (hs : st.stop = false) :
    Inv cfg edges done (rowStep cfg B st) := by
  obtain ⟨hy, hlive⟩ := h.live hs
  constructor
  · intro r hr
    simp only [rowStep, List.mem_cons] at hr
    rcases hr with rfl | hr
    · refine ⟨rfl, sortActive_sorted _ _, ?_⟩
      show ((sortActive st.y st.active).filter (cnt st.y)).Perm (edges.filter (spansB st.y))
      -- among swept edges "counted" is "spanning"; no edge still to come spans the row
      have h2 : done.filter (cnt st.y) = done.filter (spansB st.y) :=
        List.filter_congr fun e he => by simp [cnt, spansB, hy e he, ← not_le]
      have h4 : rest.filter (spansB st.y) = [] :=
        List.filter_eq_nil_iff.mpr fun e he => by simp [spansB, not_le.mpr (hrest e he)]
      rw [hsplit, List.filter_append, h4, List.append_nil, ← h2]
      exact ((sortActive_perm _ _).filter _).trans (hlive _ le_rfl)
    · exact h.rows r hr
  · intro hstop
    have hmono : st.y ≤ (rowStep cfg B st).y := by
      simp only [rowStep, decide_eq_false_iff_not, not_le] at hstop ⊢
      exact le_of_lt (lt_add_of_pos_right _ (by simpa using hstop))
    exact ⟨fun e he => le_trans (hy e he) hmono,
      fun y hy' => ((sortActive_perm _ _).filter _).trans (hlive y (hmono.trans hy'))⟩

theorem updateSweep_inv (cfg : Cfg K) {edges done : List (Seg K)} {st : St σ K} (e : Seg K) (m : K)
    (h : Inv cfg edges done st) (hy : st.stop = false → e.a.y ≤ st.y) :
    Inv cfg edges (done ++ [e]) { st with ymax := m, active := updateSweep st.active e } := by
  refine ⟨h.rows, fun hs => ?_⟩
  obtain ⟨hdone, hlive⟩ := h.live hs
  refine ⟨fun e' he' => (List.mem_append.mp he').elim (hdone e') (fun h1 => by simp_all), fun y hy' => ?_⟩
  show ((updateSweep st.active e).filter (cnt y)).Perm _
  -- `retain` only drops edges that end at or above the new edge's start, which no later row counts
  rw [updateSweep, List.filter_append, List.filter_append, List.filter_filter]
  refine List.Perm.append_right _ ((List.filter_congr fun a _ => ?_) ▸ hlive y hy')
  by_cases hk : cmpPos a.b e.a = .lt
  · simp [cnt, hk, (cmpPos_lt_y hk).trans ((hy hs).trans hy')]
  · simp [hk]

theorem initSt_inv (cfg : Cfg K) (edges : List (Seg K)) (b : σ) (y0 off0 : K) :
    Inv cfg edges [] (initSt b y0 off0) :=
  ⟨fun r hr => by simp [initSt] at hr, fun _ => ⟨by simp, fun y _ => by simp [initSt]⟩⟩

theorem hatch_rows (cfg : Cfg K) (B : Builder σ K) (fuel : Nat) (edges : List (Seg K)) (b0 : σ)
    (hsorted : edges.Pairwise (fun e f => e.a.y ≤ f.a.y)) (st : St σ K)
    (h : hatch cfg B fuel edges b0 = some st) : ∀ r ∈ st.rows, RowInv cfg edges r := by
  cases edges with
  | nil =>
    rw [hatch_nil, Option.some.injEq] at h
    subst h
    simp [emptySt]
  | cons e0 es =>
    obtain ⟨_, hI, _⟩ := hatch_keeps cfg B fuel (Inv cfg (e0 :: es))
      (fun _ _ h => ⟨h.rows, h.live⟩)
      (fun d rest st hsplit h hs hlt => rowStep_inv cfg B hsplit (fun e he => by
        -- `rest` is a sorted suffix: its head bounds it from below
        cases rest with
        | nil => simp at he
        | cons e' r =>
          have hp := (List.pairwise_append.mp (hsplit ▸ hsorted)).2.1
          exact lt_of_lt_of_le (hlt e' rfl)
            ((List.mem_cons.mp he).elim (fun h => h ▸ le_refl _) ((List.pairwise_cons.mp hp).1 e))) h hs)
      (fun d e _ st _ h _ hy => updateSweep_inv cfg e _ h (fun _ => hy))
      e0 es rfl b0 st h (initSt_inv cfg _ _ _ _)
    exact hI.rows

/-- the crossings of a recorded row are, as a multiset, the crossings of the spanning edges of the event list;
membership, counts and length are read off this -/
theorem crossings_perm {cfg : Cfg K} {edges : List (Seg K)} {r : Row K} (hri : RowInv cfg edges r) :
    (crossings r.y r.active).Perm ((edges.filter (spansB r.y)).map fun e => solveX e r.y) :=
  hri.perm.map _

theorem mem_crossings_iff {cfg : Cfg K} {edges : List (Seg K)} {r : Row K} (hri : RowInv cfg edges r) (c : K) :
    c ∈ crossings r.y r.active ↔ ∃ e ∈ edges, e.a.y ≤ r.y ∧ r.y < e.b.y ∧ c = solveX e r.y := by
  simp only [(crossings_perm hri).mem_iff, List.mem_map, List.mem_filter, spansB, decide_eq_true_eq, and_assoc,
    eq_comm (a := c)]

theorem row_core (cfg : Cfg K) (edges : List (Seg K)) (r : Row K) (hri : RowInv cfg edges r)
    (x : K) (hx : ∀ e ∈ edges, e.a.y ≤ r.y → r.y < e.b.y → solveX e r.y ≠ x) :
    (crossings r.y r.active).Pairwise (· ≤ ·) ∧ x ∉ crossings r.y r.active ∧
    countLt (crossings r.y r.active) x = crossingsLeft edges x r.y ∧
    (crossings r.y r.active).length = spanCount edges r.y ∧
    ((∃ b ∈ crossings r.y r.active, x < b) ↔
      ∃ e ∈ edges, e.a.y ≤ r.y ∧ r.y < e.b.y ∧ x < solveX e r.y) := by
  have hp := crossings_perm hri
  refine ⟨?_, ?_, ?_, ?_, ?_⟩
  · exact List.pairwise_map.mpr (hri.sorted.sublist List.filter_sublist)
  · rw [mem_crossings_iff hri]
    rintro ⟨e, he, h1, h2, rfl⟩
    exact hx e he h1 h2 rfl
  · rw [countLt, (hp.filter _).length_eq, List.filter_map, List.length_map, List.filter_filter]
    exact congrArg List.length (List.filter_congr fun e _ => Bool.and_comm _ _)
  · rw [hp.length_eq, List.length_map]; rfl
  · simp only [mem_crossings_iff hri]
    exact ⟨fun ⟨_, ⟨e, he, h1, h2, rfl⟩, h⟩ => ⟨e, he, h1, h2, h⟩, fun ⟨e, he, h1, h2, h⟩ => ⟨_, ⟨e, he, h1, h2, rfl⟩, h⟩⟩

/-- parity of the number of edges of `l` that span row `y`.  `add_edge` flips it exactly when the two ends of the
edge fall on different sides of the row (`side`, `spanPar_addEdge`), so along `line_to`s the flips telescope to
`side` of the first point xor `side` of the current one (`lines_par`), and `end`, which returns to the first
point, undoes them (`subpath_par`): closed sub-paths leave the parity as it was. -/
noncomputable def spanPar (y : K) (l : List (Seg K)) : Bool :=
  decide ((l.filter (spansB y)).length % 2 = 1)

theorem spanPar_snoc (y : K) (l : List (Seg K)) (e : Seg K) :
    spanPar y (l ++ [e]) = xor (spanPar y l) (spansB y e) := by
  unfold spanPar
  rw [List.filter_append, List.length_append]
  cases h : spansB y e
  · simp [h]
  · simp [h, Nat.succ_mod_two_eq_one_iff, ← decide_not]

/-- `add_edge` stores an edge downward -/
theorem orient_le (a b : P K) : (orient a b).a.y ≤ (orient a b).b.y := by
  unfold orient
  split
  · rename_i h; exact cmpPos_gt_y (by simpa using h)
  · rename_i h; exact cmpPos_ne_gt_y (by simpa using h)

theorem spansB_of_le {e : Seg K} (h : e.a.y ≤ e.b.y) (y : K) :
    spansB y e = xor (decide (e.a.y ≤ y)) (decide (e.b.y ≤ y)) := by
  unfold spansB
  by_cases h1 : e.b.y ≤ y
  · simp [h1, h.trans h1, not_lt.mpr h1]
  · by_cases h2 : e.a.y ≤ y <;> simp [h1, h2, not_le.mp h1]

theorem spansB_orient (y : K) (a b : P K) :
    spansB y (orient a b) = xor (decide (a.y ≤ y)) (decide (b.y ≤ y)) := by
  rw [spansB_of_le (orient_le a b)]
  unfold orient
  split
  · exact Bool.xor_comm _ _
  · rfl

noncomputable def side (c s y : K) (p : P K) : Bool := decide ((rot c s p).y ≤ y)

theorem spanPar_addEdge (c s y : K) (l : List (Seg K)) (a b : P K) :
    spanPar y (addEdge c s l a b) = xor (spanPar y l) (xor (side c s y a) (side c s y b)) := by
  unfold addEdge
  split
  · rename_i h
    have hab : a = b := by
      have h' : (a.x == b.x && a.y == b.y) = true := h
      rw [Bool.and_eq_true, sc_beq, sc_beq] at h'
      exact P.ext' h'.1 h'.2
    subst hab
    simp
  · rw [spanPar_snoc, spansB_orient]
    rfl

theorem lines_par (c s y : K) : ∀ (ps : List (P K)) (b : EB K),
    spanPar y ((ps.map PEv.line).foldl (EB.step c s) b).edges =
      xor (spanPar y b.edges) (xor (side c s y b.current)
        (side c s y ((ps.map PEv.line).foldl (EB.step c s) b).current)) ∧
    ((ps.map PEv.line).foldl (EB.step c s) b).first = b.first
  | [], b => by simp
  | p :: ps, b => by
    simp only [List.map_cons, List.foldl_cons]
    obtain ⟨ih1, ih2⟩ := lines_par c s y ps (EB.step c s b (.line p))
    refine ⟨?_, by rw [ih2]; rfl⟩
    rw [ih1]
    simp only [EB.step, spanPar_addEdge]
    generalize spanPar y b.edges = q
    generalize side c s y b.current = s1
    generalize side c s y p = s2
    generalize side c s y _ = s3
    cases q <;> cases s1 <;> cases s2 <;> cases s3 <;> rfl

theorem subpath_par (c s y : K) (sp : P K × List (P K)) (b : EB K) :
    spanPar y ((subpathEvents sp).foldl (EB.step c s) b).edges = spanPar y b.edges := by
  unfold subpathEvents
  simp only [List.foldl_cons, List.foldl_append, List.foldl_nil]
  obtain ⟨h1, h2⟩ := lines_par c s y sp.2 (EB.step c s b (.begin sp.1))
  simp only [EB.step] at h1 h2 ⊢
  rw [spanPar_addEdge, h1, h2]
  generalize spanPar y b.edges = q
  generalize side c s y sp.1 = s1
  generalize side c s y _ = s2
  cases q <;> cases s1 <;> cases s2 <;> rfl

theorem path_par (c s y : K) : ∀ (sps : List (P K × List (P K))) (b : EB K),
    spanPar y ((pathEvents sps).foldl (EB.step c s) b).edges = spanPar y b.edges
  | [], b => by simp [pathEvents]
  | sp :: sps, b => by
    have : pathEvents (sp :: sps) = subpathEvents sp ++ pathEvents sps := by
      simp [pathEvents]
    rw [this, List.foldl_append, path_par c s y sps, subpath_par]

theorem closed_even (c s y : K) (sps : List (P K × List (P K))) :
    spanCount (buildEvents c s (pathEvents sps)) y % 2 = 0 := by
  have hp := path_par c s y sps ⟨[], ⟨zero, zero⟩, ⟨zero, zero⟩⟩
  unfold spanPar at hp
  simp only [List.filter_nil, List.length_nil, Nat.zero_mod, zero_ne_one, decide_false,
    decide_eq_false_iff_not] at hp
  unfold spanCount buildEvents
  have := ((isort_perm ltFrom ((pathEvents sps).foldl (EB.step c s)
    ⟨[], ⟨zero, zero⟩, ⟨zero, zero⟩⟩).edges).filter (spansB y)).length_eq
  unfold spansB at this hp
  rw [this]
  omega

section curved
variable [FlatConst K]

theorem flatten_segs (tol : K) (tail : List (CEv K)) :
    ∀ (segs : List (CSeg K)) (cur : P K) (pe : List (PEv K)),
      flattenEvents tol (segs.map CSeg.toEv ++ tail) cur = some pe →
      ∃ (ps : List (P K)) (cur' : P K) (pe' : List (PEv K)),
        pe = ps.map PEv.line ++ pe' ∧ flattenEvents tol tail cur' = some pe'
  | [], cur, pe, h => ⟨[], cur, pe, by simp, by simpa using h⟩
  | sg :: segs, cur, pe, h => by
    cases sg with
    | line p =>
      simp only [List.map_cons, List.cons_append, CSeg.toEv, flattenEvents, Option.map_eq_some_iff] at h
      obtain ⟨pe1, h1, rfl⟩ := h
      obtain ⟨ps, cur', pe', rfl, h3⟩ := flatten_segs tol tail segs p pe1 h1
      exact ⟨p :: ps, cur', pe', by simp, h3⟩
    | quad c p | cubic c1 c2 p =>
      simp only [List.map_cons, List.cons_append, CSeg.toEv, flattenEvents] at h
      split at h
      · simp at h
      · rename_i fs _
        simp only [Option.map_eq_some_iff] at h
        obtain ⟨pe1, h1, rfl⟩ := h
        obtain ⟨ps, cur', pe', rfl, h3⟩ := flatten_segs tol tail segs _ pe1 h1
        exact ⟨FlatSeg.points fs ++ ps, cur', pe', by simp [curveLines], h3⟩

theorem flatten_closed (tol : K) :
    ∀ (csps : List (P K × List (CSeg K))) (cur : P K) (pe : List (PEv K)),
      flattenEvents tol (cpathEvents csps) cur = some pe → ∃ sps, pe = pathEvents sps
  | [], cur, pe, h => ⟨[], by simpa [cpathEvents, flattenEvents, pathEvents] using h.symm⟩
  | sp :: csps, cur, pe, h => by
    have hsplit : cpathEvents (sp :: csps) =
        .begin sp.1 :: (sp.2.map CSeg.toEv ++ (.close :: cpathEvents csps)) := by
      simp [cpathEvents, csubpathEvents]
    rw [hsplit] at h
    simp only [flattenEvents, Option.map_eq_some_iff] at h
    obtain ⟨pe1, h1, rfl⟩ := h
    obtain ⟨ps, cur', pe', rfl, h3⟩ := flatten_segs tol _ sp.2 sp.1 pe1 h1
    simp only [flattenEvents, Option.map_eq_some_iff] at h3
    obtain ⟨pe2, h4, rfl⟩ := h3
    obtain ⟨sps, rfl⟩ := flatten_closed tol csps cur' pe2 h4
    exact ⟨(sp.1, ps) :: sps, by simp [pathEvents, subpathEvents]⟩

end curved

theorem rowStep_off (cfg : Cfg K) (B : Builder σ K) (y00 : K) {st : St σ K}
    (h : OffInv y00 st) (hs : st.stop = false) : OffInv y00 (rowStep cfg B st) := by
  have hne : st.offs ≠ [] := by
    intro hnil
    have := h.len
    simp [hnil] at this
  constructor
  · simp [rowStep, h.len]
  · simp [rowStep, h.nrows]
  · simp only [rowStep, List.sum_cons]
    rw [h.ysum]
    ring
  · intro r hr
    simp only [rowStep, List.mem_cons] at hr
    rcases hr with rfl | hr
    · refine ⟨by simp [rowStep], ?_⟩
      simp only [rowStep]
      have : st.row + 1 - st.row = 1 := by omega
      rw [this]
      simpa using h.ysum
    · obtain ⟨h1, h2⟩ := h.rows r hr
      refine ⟨by simp only [rowStep]; omega, ?_⟩
      simp only [rowStep]
      have : st.row + 1 - r.idx = (st.row - r.idx) + 1 := by omega
      rw [this, List.drop_succ_cons]
      exact h2
  · intro hstop o ho
    simp only [rowStep, decide_eq_false_iff_not] at hstop
    simp only [rowStep] at ho
    rw [List.dropLast_cons_of_ne_nil hne, List.mem_cons] at ho
    rcases ho with rfl | ho
    · simpa using not_le.mp hstop
    · exact h.pos hs o ho
  · intro hstop
    simp only [rowStep, decide_eq_true_eq] at hstop
    refine ⟨?_, ?_, ?_⟩
    · simpa [rowStep] using h.pos hs
    · simp only [rowStep, List.length_cons]
      have := h.len
      omega
    · intro o ho
      simp only [rowStep, List.head?_cons, Option.mem_def, Option.some.injEq] at ho
      subst ho
      simpa using hstop

theorem hatch_off (cfg : Cfg K) (B : Builder σ K) (fuel : Nat) (e0 : Seg K) (es : List (Seg K))
    (b0 : σ) (st : St σ K) (h : hatch cfg B fuel (e0 :: es) b0 = some st) : OffInv e0.a.y st := by
  obtain ⟨_, hI, _⟩ := hatch_keeps cfg B fuel (fun _ => OffInv e0.a.y)
    (fun _ _ h => ⟨h.len, h.nrows, h.ysum, h.rows, h.pos, h.stopped⟩)
    (fun _ _ _ _ h hs _ => rowStep_off cfg B _ h hs)
    (fun _ _ _ _ _ h _ _ => ⟨h.len, h.nrows, h.ysum, h.rows, h.pos, h.stopped⟩)
    e0 es rfl b0 st h (by constructor <;> simp [initSt])
  exact hI

theorem hatch_runs_to_ymax (cfg : Cfg K) (B : Builder σ K) (fuel : Nat) (edges : List (Seg K))
    (b0 : σ) (st : St σ K) (h : hatch cfg B fuel edges b0 = some st)
    (hs : st.stop = false) (hf : st.fuelOut = false) : ∀ e ∈ edges, e.b.y ≤ st.y := by
  cases edges with
  | nil => simp
  | cons e0 es =>
    obtain ⟨_, hI, hd⟩ := hatch_keeps cfg B fuel (fun d st => ∀ e ∈ d, e.b.y ≤ st.ymax)
      (fun _ _ h => h) (fun _ _ _ _ h _ _ => h)
      (fun d e _ st _ h _ _ e' he' => by
        rcases List.mem_append.mp he' with h1 | h1
        · exact le_trans (h e' h1) (le_max_left _ _)
        · rw [List.mem_singleton] at h1; subst h1; exact le_max_right _ _)
      e0 es rfl b0 st h (by simp)
    obtain ⟨rfl, hy⟩ := hd hs hf
    exact fun e he => le_trans (hI e he) hy

theorem sdiv_smul (v : P K) (d u : K) : (v.sdiv d).smul u = v.smul (u / d) := by
  apply P.ext' <;> simp only [P.sdiv, P.smul] <;> ring

theorem dotLoop_mem (pat : DotPat K) (s : HSeg K) (ab : P K) (f col : Nat) (u0 : K) (d : Dot K)
    (hd : d ∈ dotLoop pat s ab f col u0) :
    ∃ u, u0 ≤ u ∧ s.ua + u < s.ub ∧ d.u = s.ua + u ∧ d.pos = s.pa + ab.smul u ∧
      d.v = s.v ∧ d.row = s.row ∧ col ≤ d.col := by
  fun_induction dotLoop pat s ab f col u0 with
  | case1 | case3 => simp at hd
  | case2 f col u0 hlt ih =>
    rcases List.mem_cons.mp hd with rfl | hd
    · exact ⟨u0, le_refl _, hlt, rfl, rfl, rfl, rfl, le_refl _⟩
    · split at hd
      · simp at hd
      · rename_i hpos
        have hpos' : (0:K) < pat.colOff (col + 1) s.row := by simpa using not_le.mp hpos
        obtain ⟨u, h1, h2, h3, h4, h5, h6, h7⟩ := ih hd
        exact ⟨u, le_trans (le_of_lt (lt_add_of_pos_right _ hpos')) h1, h2, h3, h4, h5, h6, by omega⟩

-- `≤ m`, not `< m`: for `a < 0` with `fmod a m = 0` the code returns `m + 0`
theorem modulo_range (hf : FmodLaws K) (a m : K) (hm : 0 < m) : 0 ≤ modulo a m ∧ modulo a m ≤ m := by
  unfold modulo
  have := hf a m hm
  split
  · rename_i h
    have h' : (0:K) ≤ a := by simpa using h
    exact ⟨(this.1 h').1, le_of_lt (this.1 h').2⟩
  · rename_i h
    have h' : a < 0 := by simpa using not_le.mp h
    obtain ⟨h1, h2⟩ := this.2 h'
    constructor
    · have : (0:K) ≤ m + Transc.fmod a m := by linarith
      exact this
    · have : m + Transc.fmod a m ≤ m := by linarith
      exact this

theorem alignU_nonneg (hf : FmodLaws K) (u0 ua : K) (al : Option K) (h0 : 0 ≤ u0)
    (hal : ∀ d ∈ al, 0 < d) : 0 ≤ alignU u0 ua al := by
  cases al with
  | none => simpa [alignU] using h0
  | some d =>
    have hd := hal d rfl
    have := modulo_range hf ua d hd
    simp only [alignU]
    split
    · exact h0
    · have h2 : (0:K) ≤ u0 + (d - modulo ua d) := by linarith [this.2]
      exact h2

end Lyon.Hatch
