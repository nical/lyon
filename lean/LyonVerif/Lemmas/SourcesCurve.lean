/-
  What one curve call of the event-queue builder stores (`Model/Tess/Sources.lean`: `curveStep`, `curveTail`,
  `Builder.curveSegment`, the model of `quadratic_bezier_segment` / `cubic_bezier_segment`), for every scalar type.

  `prev_endpoint_id` does not change while the pieces are stored, so the new records are known exactly:
  `curveSegment_recs`: the records are `new ++ old`, the edge records of `new` are `pieceRec` of the non-degenerate
  pieces of the flattening that is used (newest first), and every other new record is a vertex event at the start of a
  piece or at the start of the curve, with the ids of the curve.  Properties of the stored records (positions and
  windings, t-ranges, ids, "the record lies on the curve") are read off this description.

  Beside it `sources_ne_nil`, about the sources of a vertex (`sources`), which C07 and the reset simulation of C08 both use.

  Mathlib-free.
-/
import LyonVerif.Model.Tess.Sources

namespace Lyon.Sources
open Lyon Lyon.Scalar

variable {α : Type} [Scalar α]

/-- the record `add_edge` makes of a non-degenerate piece of a curve with endpoint ids `f → t`: stored downward,
with the parameters of the original curve -/
def pieceRec (ns : Bool) (w : Int) (f t : Nat) (l : Piece α) : EdgeRec α :=
  if isAfter l.a l.b then ⟨l.b, l.a, pieceT ns l.t1, pieceT ns l.t0, -w, true, f, t⟩
  else ⟨l.a, l.b, pieceT ns l.t0, pieceT ns l.t1, w, true, f, t⟩

theorem pieceRec_isEdge (ns : Bool) (w : Int) (f t : Nat) (l : Piece α) : (pieceRec ns w f t l).isEdge = true := by
  unfold pieceRec; split <;> rfl

theorem addEdge_piece {ns : Bool} {w : Int} {f t : Nat} {l : Piece α} (hd : ¬(l.a == l.b) = true) :
    addEdge l.a l.b w f t (pieceT ns l.t0) (pieceT ns l.t1) = some (pieceRec ns w f t l) := by
  unfold addEdge pieceRec
  rw [if_neg hd, apply_ite some]

/-- what a curve call from `from_` with ids `f → t` appends: the records of its non-degenerate pieces (newest first) and
vertex events, at the start of a piece or at the start of the curve -/
structure CurveNew (ns : Bool) (w : Int) (f t : Nat) (from_ : P α) (ps : List (Piece α)) (new : List (EdgeRec α)) :
    Prop where
  edges : new.filter (·.isEdge) = ((ps.filter (fun l => !(l.a == l.b))).map (pieceRec ns w f t)).reverse
  other : ∀ r ∈ new, r.isEdge = false →
    (∃ l ∈ ps, r = vertexEventOnCurve l.a (pieceT ns l.t0) f t) ∨ r = vertexEvent from_ f

/-- the pieces of two runs of callbacks, one after the other -/
theorem CurveNew.append {ns : Bool} {w : Int} {f t : Nat} {from_ : P α} {ps₁ ps₂ : List (Piece α)}
    {new₁ new₂ : List (EdgeRec α)} (h₁ : CurveNew ns w f t from_ ps₁ new₁) (h₂ : CurveNew ns w f t from_ ps₂ new₂) :
    CurveNew ns w f t from_ (ps₁ ++ ps₂) (new₂ ++ new₁) where
  edges := by
    rw [List.filter_append, h₁.edges, h₂.edges, List.filter_append, List.map_append, List.reverse_append]
  other := fun r hr hre => (List.mem_append.1 hr).elim
    (fun hr => (h₂.other r hr hre).imp (fun ⟨l, hl, e⟩ => ⟨l, List.mem_append_right _ hl, e⟩) id)
    (fun hr => (h₁.other r hr hre).imp (fun ⟨l, hl, e⟩ => ⟨l, List.mem_append_left _ hl, e⟩) id)

/-- one callback: nothing for a degenerate piece; else perhaps a vertex event, then the record of the piece;
`prev_endpoint_id` stays -/
theorem curveStep_recs (ns : Bool) (w : Int) (toId : Nat) (from_ : P α) (s : CurveLoop α) (l : Piece α) :
    ∃ add, (curveStep ns w toId s l).bld.recs = add ++ s.bld.recs ∧
      (curveStep ns w toId s l).bld.prevId = s.bld.prevId ∧ CurveNew ns w s.bld.prevId toId from_ [l] add := by
  unfold curveStep
  by_cases hd : (l.a == l.b) = true
  · rw [if_pos hd]
    exact ⟨[], rfl, rfl, by simp [hd], fun _ h => absurd h (by simp)⟩
  · rw [if_neg hd]
    simp only [addEdge_piece hd]
    by_cases hv : (s.first.isSome && isAfter l.a l.b && isAfter l.a s.prev) = true
    · simp only [if_pos hv]
      refine ⟨[_, _], rfl, rfl, by simp [hd, pieceRec_isEdge, vertexEventOnCurve, Builder.pushRec], fun x hx hxe => ?_⟩
      simp only [List.mem_cons, List.not_mem_nil, or_false] at hx
      rcases hx with rfl | rfl
      · rw [pieceRec_isEdge] at hxe; cases hxe
      · exact Or.inl ⟨l, List.mem_cons_self, rfl⟩
    · simp only [if_neg hv]
      refine ⟨[_], rfl, rfl, by simp [hd, pieceRec_isEdge], fun x hx hxe => ?_⟩
      rw [List.mem_singleton.1 hx, pieceRec_isEdge] at hxe; cases hxe

theorem foldl_curveStep_recs (ns : Bool) (w : Int) (toId : Nat) (from_ : P α) (ps : List (Piece α)) (s : CurveLoop α) :
    ∃ new, (ps.foldl (curveStep ns w toId) s).bld.recs = new ++ s.bld.recs ∧
      (ps.foldl (curveStep ns w toId) s).bld.prevId = s.bld.prevId ∧ CurveNew ns w s.bld.prevId toId from_ ps new := by
  induction ps generalizing s with
  | nil => exact ⟨[], rfl, rfl, rfl, fun _ h => absurd h (by simp)⟩
  | cons l r ih =>
    obtain ⟨add, e1, p1, c1⟩ := curveStep_recs ns w toId from_ s l
    obtain ⟨new, e2, p2, c2⟩ := ih (curveStep ns w toId s l)
    rw [p1] at p2 c2
    exact ⟨new ++ add, by rw [List.foldl_cons, e2, e1, List.append_assoc], p2, c1.append c2⟩

/-- after the loop: perhaps the vertex event of the curve's start; `prev_endpoint_id` becomes `to_id` unless every
piece was degenerate -/
theorem curveTail_recs (b0 : Builder α) (s : CurveLoop α) (p q : P α) (toId : Nat) (ns : Bool) :
    ((curveTail b0 s p q toId ns).recs = s.bld.recs ∨
      (curveTail b0 s p q toId ns).recs = vertexEvent p s.bld.prevId :: s.bld.recs) ∧
    ((curveTail b0 s p q toId ns).prevId = toId ∨ (curveTail b0 s p q toId ns).prevId = s.bld.prevId) := by
  unfold curveTail
  cases s.first with
  | none => exact ⟨Or.inl rfl, Or.inr rfl⟩
  | some f =>
    by_cases h1 : b0.nth = 0 <;>
      by_cases h2 : (isAfter p s.bld.prev && isAfter p (if ns = true then s.prev else f)) = true <;>
      simp [h1, h2, Builder.pushRec]

theorem curveSegment_recs (b : Builder α) (q : P α) (toId : Nat) (flat flatFlipped : List (Piece α)) :
    ∃ new, (b.curveSegment q toId flat flatFlipped).recs = new ++ b.recs ∧
      CurveNew (isAfter b.current q) (if isAfter b.current q then -1 else 1) b.prevId toId b.current
        (if isAfter b.current q then flatFlipped else flat) new ∧
      ((b.curveSegment q toId flat flatFlipped).prevId = toId ∨
        (b.curveSegment q toId flat flatFlipped).prevId = b.prevId) := by
  unfold Builder.curveSegment
  simp only []
  obtain ⟨new, e, p, he, ho⟩ := foldl_curveStep_recs (isAfter b.current q) (if isAfter b.current q then -1 else 1) toId
    b.current (if isAfter b.current q then flatFlipped else flat) ⟨b, if isAfter b.current q then q else b.current, none⟩
  obtain ⟨h, hp⟩ := curveTail_recs b _ b.current q toId (isAfter b.current q)
  rw [p] at hp
  rcases h with h | h <;> rw [h, e]
  · exact ⟨new, rfl, ⟨he, ho⟩, hp⟩
  · refine ⟨_ :: new, rfl, ⟨by rw [List.filter_cons, he]; rfl, fun r hr hre => ?_⟩, hp⟩
    rcases List.mem_cons.1 hr with rfl | hr
    · exact Or.inr (by rw [p])
    · exact ho r hr hre

/-- a vertex with at least one sibling record has at least one source -/
theorem sources_ne_nil (rs : List (EdgeRec α)) (h : rs ≠ []) : sources rs ≠ [] := by
  cases rs with
  | nil => exact absurd rfl h
  | cons r rs => simp [sources, sourcesFrom]

end Lyon.Sources
