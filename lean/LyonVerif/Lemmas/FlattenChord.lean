/-
  Plane geometry over an ordered field shared by all tolerance proofs of flattening: a curve point over
  a chord `AB` has the form `X(s) = lerp(A,B,s) − s(1−s)·dd` (`dd` the second difference scaled to the
  chord's range), and its distance to the chord is bounded in two ways — at the same parameter
  (`param_dev`) and at the foot of the perpendicular when that foot stays on the chord (`perp_dev`). Also here: a
  unit vector in the cone of two unit vectors is within the sagitta of their chord (`unit_cone_sagitta`).
-/
import LyonVerif.Lemmas.Flatten
import LyonVerif.Lemmas.Hull
import LyonVerif.Model.Geom.FlattenCert

set_option linter.unusedSectionVars false

namespace Lyon.Flat
open Lyon Scalar

variable {K : Type} [Field K] [LinearOrder K] [IsStrictOrderedRing K]

theorem chord_factor_sq (s : K) (hs0 : 0 ≤ s) (hs1 : s ≤ 1) : (s * (1 - s)) ^ 2 ≤ 1 / 16 := by
  linear_combination pow_le_pow_left₀ (mul_nonneg hs0 (sub_nonneg.mpr hs1)) (Hull.chord_factor s) 2

theorem chord_weight_le (s E : K) (hs0 : 0 ≤ s) (hs1 : s ≤ 1) (hE : 0 ≤ E) :
    (s * (1 - s)) ^ 2 * E ≤ E / 16 := by
  linear_combination mul_le_mul_of_nonneg_right (chord_factor_sq s hs0 hs1) hE

/-- `|u(1−u)(1−2u)| ≤ √3/18` on `[0,1]`, squared: with `w = u(1−u) ≥ 0` the square is `w²(1−4w)`,
and `1/108 − w²(1−4w) = (6w−1)²(12w+1)/108` -/
theorem cubic_factor (u : K) (h0 : 0 ≤ u) (h1 : u ≤ 1) : (u * (1 - u) * (1 - 2 * u)) ^ 2 ≤ 1 / 108 := by
  have hw : 0 ≤ u * (1 - u) := mul_nonneg h0 (sub_nonneg.mpr h1)
  linear_combination (1 / 108 : K) * mul_nonneg (sq_nonneg (6 * (u * (1 - u)) - 1))
    (by linear_combination 12 * hw : (0 : K) ≤ 12 * (u * (1 - u)) + 1)

theorem lagrange (d v : P K) : d.sqLen * v.sqLen = d.dot v * d.dot v + d.cross v * d.cross v := by
  simp only [P.sqLen, P.dot, P.cross]; ring

theorem smul_smul (p : P K) (a b : K) : (p.smul a).smul b = p.smul (a * b) := by
  simp only [P.smul, mul_assoc]

theorem sqLen_smul (p : P K) (a : K) : (p.smul a).sqLen = a ^ 2 * p.sqLen := by
  simp only [P.smul, P.sqLen]; ring

theorem smul_dot (p v : P K) (a : K) : (p.smul a).dot v = a * p.dot v := by
  simp only [P.smul, P.dot]; ring

theorem smul_cross (p v : P K) (a : K) : (p.smul a).cross v = a * p.cross v := by
  simp only [P.smul, P.cross]; ring

theorem sqLen_sub_comm (a b : P K) : (a - b).sqLen = (b - a).sqLen := by
  simp only [P.sqLen, P.sub_def]; ring

/-- Cauchy–Schwarz through Lagrange's identity: `(u·v)² ≤ |u|²|v|² ≤ (αβ)²` -/
theorem sq_triangle (u v : P K) (α β : K) (hα : 0 ≤ α) (hβ : 0 ≤ β)
    (hu : u.sqLen ≤ α * α) (hv : v.sqLen ≤ β * β) : (u + v).sqLen ≤ (α + β) * (α + β) := by
  have hcs : u.dot v ^ 2 ≤ (α * β) ^ 2 := by
    linear_combination mul_le_mul hu hv (P.sqLen_nonneg v) (mul_self_nonneg α)
      + mul_self_nonneg (u.cross v) - lagrange u v
  have hdot : u.dot v ≤ α * β := le_of_sq_le_sq hcs (mul_nonneg hα hβ)
  have e : (u + v).sqLen = u.sqLen + v.sqLen + 2 * u.dot v := by
    simp only [P.sqLen, P.dot, P.add_def]; ring
  rw [e]; linear_combination hu + hv + 2 * hdot

theorem sq_dist_triangle (a b c : P K) (α β : K) (hα : 0 ≤ α) (hβ : 0 ≤ β)
    (h1 : (a - b).sqLen ≤ α * α) (h2 : (b - c).sqLen ≤ β * β) : (a - c).sqLen ≤ (α + β) * (α + β) := by
  have e : a - c = (a - b) + (b - c) := by
    apply P.ext' <;> simp only [P.add_def, P.sub_def] <;> ring
  rw [e]; exact sq_triangle _ _ α β hα hβ h1 h2

/-- parallelogram law -/
theorem unit_sub_le_four (p u : P K) (hp : p.sqLen = 1) (hu : u.sqLen = 1) : (p - u).sqLen ≤ 4 := by
  have e : (p - u).sqLen + (p + u).sqLen = 2 * p.sqLen + 2 * u.sqLen := by
    simp only [P.sqLen, P.add_def, P.sub_def]; ring
  linear_combination e + 2 * hp + 2 * hu + P.sqLen_nonneg (p + u)

theorem lerp_self (p : P K) (s : K) : p.lerp p s = p := by
  apply P.ext' <;> simp only [geom, Nat.cast_one] <;> ring

/-- the squared distance from `X(s)` (with any weight `w`) to the chord point at `s2`, times `|v|²`,
split along and across the chord -/
theorem chord_sq_identity (A B dd : P K) (s s2 w : K) :
    ((A.lerp B s + dd.smul (-w)) - A.lerp B s2).sqLen * (B - A).sqLen
      = ((s - s2) * (B - A).sqLen - w * dd.dot (B - A)) ^ 2 + w ^ 2 * (dd.cross (B - A) * dd.cross (B - A)) := by
  simp only [geom, Nat.cast_one]; ring

/-- at the same parameter the distance is `s(1−s)·|dd| ≤ |dd|/4` -/
theorem param_dev (A B dd : P K) (s : K) (hs0 : 0 ≤ s) (hs1 : s ≤ 1) :
    ((A.lerp B s + dd.smul (-(s * (1 - s)))) - A.lerp B s).sqLen ≤ dd.sqLen / 16 := by
  have e : ((A.lerp B s + dd.smul (-(s * (1 - s)))) - A.lerp B s).sqLen = (s * (1 - s)) ^ 2 * dd.sqLen := by
    simp only [geom, Nat.cast_one]; ring
  rw [e]; exact chord_weight_le s _ hs0 hs1 (P.sqLen_nonneg dd)

/-- the parameter `s − s(1−s)κ` of the foot of the perpendicular from `X(s)` stays in `[0,1]` when
`|κ| ≤ 1`: it is `s(1 − (1−s)κ)` and its complement is `(1−s)(1 + sκ)` -/
theorem foot_mem (s κ : K) (hs0 : 0 ≤ s) (hs1 : s ≤ 1) (hκ0 : -1 ≤ κ) (hκ1 : κ ≤ 1) :
    0 ≤ s - s * (1 - s) * κ ∧ s - s * (1 - s) * κ ≤ 1 := by
  have h1 : 0 ≤ s * (1 - (1 - s) * κ) :=
    mul_nonneg hs0 (by linear_combination mul_le_mul_of_nonneg_left hκ1 (sub_nonneg.mpr hs1) + hs0)
  have h2 : 0 ≤ (1 - s) * (1 + s * κ) :=
    mul_nonneg (sub_nonneg.mpr hs1) (by linear_combination mul_le_mul_of_nonneg_left hκ0 hs0 + hs1)
  exact ⟨by linear_combination h1, by linear_combination h2⟩

/-- at the foot of the perpendicular (parameter `s − s(1−s)κ`, `κ·|v|² = dd·v`) the distance is
`s(1−s)·|dd × v|/|v|` -/
theorem perp_dev_at (A B dd : P K) (s κ : K) (hs0 : 0 ≤ s) (hs1 : s ≤ 1) (hvv : 0 < (B - A).sqLen)
    (hκ : κ * (B - A).sqLen = dd.dot (B - A)) :
    ((A.lerp B s + dd.smul (-(s * (1 - s)))) - A.lerp B (s - s * (1 - s) * κ)).sqLen
      ≤ dd.cross (B - A) * dd.cross (B - A) / (16 * (B - A).sqLen) := by
  rw [le_div_iff₀ (mul_pos (by norm_num) hvv), ← mul_assoc, mul_comm _ (16 : K), mul_assoc, chord_sq_identity]
  have h0 : (s - (s - s * (1 - s) * κ)) * (B - A).sqLen - s * (1 - s) * dd.dot (B - A) = 0 := by
    rw [← hκ]; ring
  rw [h0]
  linear_combination 16 * chord_weight_le s _ hs0 hs1 (mul_self_nonneg (dd.cross (B - A)))

/-- when `|dd·v| ≤ |v|²` the foot of the perpendicular from every `X(s)` is on the chord -/
theorem perp_dev (A B dd : P K) (s : K) (hs0 : 0 ≤ s) (hs1 : s ≤ 1) (hvv : 0 < (B - A).sqLen)
    (hκ : |dd.dot (B - A)| ≤ (B - A).sqLen) :
    ∃ s2 : K, 0 ≤ s2 ∧ s2 ≤ 1 ∧
      ((A.lerp B s + dd.smul (-(s * (1 - s)))) - A.lerp B s2).sqLen
        ≤ dd.cross (B - A) * dd.cross (B - A) / (16 * (B - A).sqLen) := by
  obtain ⟨h1, h2⟩ := abs_le.mp hκ
  obtain ⟨f0, f1⟩ := foot_mem s (dd.dot (B - A) / (B - A).sqLen) hs0 hs1
    (by rw [le_div_iff₀ hvv]; linear_combination h1) (by rw [div_le_one hvv]; exact h2)
  exact ⟨_, f0, f1, perp_dev_at A B dd s _ hs0 hs1 hvv (div_mul_cancel₀ _ (ne_of_gt hvv))⟩

/-- the curve point over the range `[t0, t1]` at relative position `s` is
`lerp(Q(t0), Q(t1), s) − s(1−s)·Δ²(P0 − 2P1 + P2)`, `Δ = t1 − t0` (theorem `chord_deviation`) -/
theorem quad_chord_point (q : Quad K) (t0 t1 s : K) :
    q.sample (t0 + s * (t1 - t0))
      = (q.sample t0).lerp (q.sample t1) s
        + (q.secondDiff.smul ((t1 - t0) * (t1 - t0))).smul (-(s * (1 - s))) := by
  simp only [Quad.secondDiff]
  geom_ring

/-- moving both end points of a segment by at most `√e2` moves each of its points by at most `√e2`:
the difference of the two points is the `lerp` of the two displacements, and the disc is convex -/
theorem lerp_shift (A B A2 B2 : P K) (e2 s : K) (hs0 : 0 ≤ s) (hs1 : s ≤ 1)
    (ha : (A2 - A).sqLen ≤ e2) (hb : (B2 - B).sqLen ≤ e2) :
    (A.lerp B s - A2.lerp B2 s).sqLen ≤ e2 :=
  Hull.lerp_sub_lerp A B A2 B2 s ▸ Hull.sqLen_lerp_le _ _ e2 s hs0 hs1
    (sqLen_sub_comm A2 A ▸ ha) (sqLen_sub_comm B2 B ▸ hb)

/-- moving the control points of a quadratic by at most `√e2` moves each of its points by at most
`√e2` (`lerp_shift` at each level of de Casteljau's scheme) -/
theorem quad_ctrl_shift (q r : Quad K) (e2 u : K) (hu0 : 0 ≤ u) (hu1 : u ≤ 1)
    (ha : (q.a - r.a).sqLen ≤ e2) (hc : (q.c - r.c).sqLen ≤ e2) (hb : (q.b - r.b).sqLen ≤ e2) :
    (r.sample u - q.sample u).sqLen ≤ e2 := by
  rw [Hull.quad_casteljau, Hull.quad_casteljau]
  apply lerp_shift _ _ _ _ e2 u hu0 hu1 <;> rw [sqLen_sub_comm]
  · exact lerp_shift _ _ _ _ e2 u hu0 hu1 ha hc
  · exact lerp_shift _ _ _ _ e2 u hu0 hu1 hc hb

end Lyon.Flat

namespace Lyon.ArcChk
open Lyon Scalar Lyon.Flat

variable {K : Type} [Field K] [LinearOrder K] [IsStrictOrderedRing K]

/-- `ν = |λP0 + μP1|` for unit vectors at squared distance `L2 ≤ 4τ(2−τ)`: `ν² = σ² − λμ·L2` with
`σ = λ + μ`, and `4λμ ≤ σ²` gives `σ²(1−τ)² ≤ ν² ≤ σ²` -/
theorem cone_scalar (lam mu nu L2 τ : K) (hl : 0 ≤ lam) (hm : 0 ≤ mu) (hn : 0 ≤ nu) (hL0 : 0 ≤ L2)
    (hnu : nu * nu = (lam + mu) * (lam + mu) - lam * mu * L2) (ht0 : 0 ≤ τ) (ht1 : τ ≤ 1)
    (hL : L2 ≤ 4 * τ * (2 - τ)) : (lam + mu) * (1 - τ) ≤ nu ∧ nu ≤ lam + mu := by
  have hlm := mul_nonneg hl hm
  constructor
  · refine le_of_sq_le_sq ?_ hn
    linear_combination mul_le_mul_of_nonneg_left hL hlm - hnu
      + mul_nonneg (sq_nonneg (lam - mu)) (mul_nonneg ht0 (by linear_combination ht1 : (0 : K) ≤ 2 - τ))
  · refine le_of_sq_le_sq ?_ (add_nonneg hl hm)
    linear_combination hnu + mul_nonneg hlm hL0

/-- a unit vector `Q` in the cone of two unit vectors `P0, P1` (`νQ = λP0 + μP1`) is within `τ` of the
chord `P0P1` when `|P1 − P0|² ≤ 4τ(2 − τ)`, `0 ≤ τ ≤ 1`: the chord point `X = (λP0 + μP1)/σ` lies on
the ray of `Q`, `Q − X = (1 − ν/σ)·Q`, and `σ(1−τ) ≤ ν ≤ σ` (`cone_scalar`).
`4τ(2 − τ)` is the squared chord of sagitta `τ`: half chord² `= 1 − (1 − τ)² = τ(2 − τ)`.  The angle form of the same
chord is `Flat.unit_chord_core` (Lemmas/FlattenTolArc.lean). -/
theorem unit_cone_sagitta (P0 P1 Q : P K) (lam mu nu τ : K) (h0 : P0.sqLen = 1) (h1 : P1.sqLen = 1)
    (hq : Q.sqLen = 1) (hl : 0 ≤ lam) (hm : 0 ≤ mu) (hn : 0 < nu)
    (hx : nu * Q.x = lam * P0.x + mu * P1.x) (hy : nu * Q.y = lam * P0.y + mu * P1.y)
    (ht0 : 0 ≤ τ) (ht1 : τ ≤ 1) (hL : (P1 - P0).sqLen ≤ 4 * τ * (2 - τ)) :
    ∃ s : K, 0 ≤ s ∧ s ≤ 1 ∧ (Q - P0.lerp P1 s).sqLen ≤ τ * τ := by
  simp only [P.sqLen] at h0 h1 hq
  have hnu : nu * nu = (lam + mu) * (lam + mu) - lam * mu * (P1 - P0).sqLen := by
    have e : nu * nu = (nu * Q.x) * (nu * Q.x) + (nu * Q.y) * (nu * Q.y) := by
      linear_combination (-(nu * nu)) * hq
    rw [e, hx, hy]
    simp only [P.sqLen, P.sub_def]
    linear_combination (lam * lam + lam * mu) * h0 + (mu * mu + lam * mu) * h1
  obtain ⟨hlo, hhi⟩ := cone_scalar lam mu nu _ τ hl hm hn.le (P.sqLen_nonneg _) hnu ht0 ht1 hL
  have hσ : 0 < lam + mu := hn.trans_le hhi
  have hs : mu / (lam + mu) * (lam + mu) = mu := div_mul_cancel₀ _ (ne_of_gt hσ)
  refine ⟨mu / (lam + mu), div_nonneg hm hσ.le, (div_le_one hσ).mpr (le_add_of_nonneg_left hl), ?_⟩
  generalize mu / (lam + mu) = s at hs ⊢
  have ev : (Q - P0.lerp P1 s).smul (lam + mu) = Q.smul (lam + mu - nu) := by
    apply P.ext' <;> simp only [geom, Nat.cast_one]
    · linear_combination (P0.x - P1.x) * hs + hx
    · linear_combination (P0.y - P1.y) * hs + hy
  have e := sqLen_smul (Q - P0.lerp P1 s) (lam + mu)
  rw [ev, sqLen_smul, P.sqLen, hq] at e
  have h3 := mul_self_le_mul_self (sub_nonneg.mpr hhi) (by linear_combination hlo : lam + mu - nu ≤ (lam + mu) * τ)
  exact le_of_mul_le_mul_right (by linear_combination h3 - e) (mul_pos hσ hσ)

end Lyon.ArcChk
