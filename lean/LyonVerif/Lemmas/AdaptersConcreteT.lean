/-
  C16 with the concrete flatteners — the parameters `t.end` the callback flattener of a
  QUADRATIC reports (and `private::flatten_quadratic_bezier` / `for_each_flattened` interpolate
  the attributes with): over ordered fields they are strictly increasing, start above 0 and end
  with exactly 1.  From C09's `tAt_strict_mono`, `general_signs`, `tAt_zero`, `tAt_count`, given
  the laws of the non-field functions that those use (`SqrtLaws`: `sqrt` non-negative and
  monotone, `0.39 < 1`) and `CeilLaws` (`CountLaws` + `ceil x < x + 1`).
-/
import LyonVerif.Lemmas.AdaptersConcreteLaws
import LyonVerif.Props.C09

set_option linter.unusedSectionVars false

namespace Lyon.Adapt
open Lyon Lyon.Path Scalar Lyon.Flat

section field
variable {K : Type} [Field K] [LinearOrder K] [IsStrictOrderedRing K] [Transc K] [FlatConst K]

/-- what `FlatteningParameters::new` computes in its general branch, as far as `t_at_iteration`
is concerned -/
theorem generalCore_shape (q : Quad K) (tol : K) :
    ∃ pF pT scale : K,
      (FlatParams.generalCore q tol).integralFrom = approxParabolaIntegral pF ∧
      (FlatParams.generalCore q tol).invIntegralFrom
        = approxParabolaInvIntegral (approxParabolaIntegral pF) ∧
      (FlatParams.generalCore q tol).divInvIntegralDiff
        = one / (approxParabolaInvIntegral (approxParabolaIntegral pT)
            - approxParabolaInvIntegral (approxParabolaIntegral pF)) ∧
      (FlatParams.generalCore q tol).count
        = FlatParams.fixCount (Transc.ceil (FlatParams.countEstimate pF pT
            (approxParabolaIntegral pT - approxParabolaIntegral pF) scale tol)) ∧
      (FlatParams.generalCore q tol).integralStep
        = (approxParabolaIntegral pT - approxParabolaIntegral pF) / (FlatParams.generalCore q tol).count :=
  ⟨_, _, _, rfl, rfl, rfl, rfl, rfl⟩

theorem new_eq_generalCore_or (q : Quad K) (tol : K) :
    FlatParams.new q tol = FlatParams.generalCore q tol ∨ (FlatParams.new q tol).count = 0 := by
  unfold FlatParams.new
  split
  · right; simp [FlatParams.linear]
  · unfold FlatParams.general
    split
    · right; simp [FlatParams.linear]
    · left; rfl

/-- the loop of `for_each_flattened_with_t` from iteration `k` on: the reported `t.end`s
increase strictly from `t_from = t_at_iteration(k − 1)` to the final `1 = t_at_iteration(count)` -/
theorem quad_loop_t_incr (q : Quad K) (p : FlatParams K) (n : ℕ)
    (mono : ∀ i j : K, i < j → p.tAt i < p.tAt j) (h1 : p.tAt (n : K) = 1)
    (m k : ℕ) (hk : 1 ≤ k) (hkm : k + m = n) (frm : P K) (d : K) :
    IncrFrom (p.tAt ((k - 1 : ℕ) : K))
      ((q.flatLoop p m (k : K) frm (p.tAt ((k - 1 : ℕ) : K))).map (·.t1)) ∧
    ((q.flatLoop p m (k : K) frm (p.tAt ((k - 1 : ℕ) : K))).map (·.t1)).getLastD d = 1 := by
  induction m generalizing k frm d with
  | zero =>
    simp only [Quad.flatLoop, List.map_cons, List.map_nil, IncrFrom, and_true, List.getLastD_cons,
      List.getLastD_nil, sc_one_eq]
    rw [← h1]
    apply mono
    have : k - 1 < n := by omega
    exact_mod_cast this
  | succ m ih =>
    have hi : (k : K) + one = ((k + 1 : ℕ) : K) := by
      rw [sc_one_eq]; push_cast; ring
    have hk1 : ((k + 1 - 1 : ℕ) : K) = (k : K) := by
      congr 1
    simp only [Quad.flatLoop, List.map_cons, IncrFrom, List.getLastD_cons, and_assoc]
    refine ⟨?_, ?_⟩
    · apply mono
      have : k - 1 < k := by omega
      exact_mod_cast this
    · have := ih (k + 1) (by omega) (by omega) (q.sample (p.tAt (k : K))) (p.tAt (k : K))
      rw [hk1] at this
      rw [hi]
      exact this

/-- the `t.end`s of the callbacks of a quadratic's
`for_each_flattened_with_t` are strictly increasing, the first is above 0 and the last is
exactly 1 — so every one lies in `(0, 1]` (`incrFrom_range`).  With count `n ≤ 1` there is only
that one.  Otherwise the parameters are
those of the general branch (`generalCore_shape`) with two different integrals (equal ones give
count `ceil 0 < 1`), so `t_at_iteration` is strictly monotone (`general_signs`,
`tAt_strict_mono`) with `tAt 0 = 0` and `tAt n = 1`, and the loop reports `tAt 1 < … < tAt (n−1)`
and then `1` (`quad_loop_t_incr`). -/
theorem quad_flat_t_increasing (S : SqrtLaws K) (L : CeilLaws K) (q : Quad K) (tol : K)
    (l : List (FlatSeg K)) (h : q.forEachFlattenedWithT tol = some l) :
    IncrFrom 0 (l.map (·.t1)) ∧ (l.map (·.t1)).getLastD 0 = 1 := by
  simp only [Quad.forEachFlattenedWithT, Option.map_eq_some_iff] at h
  obtain ⟨n, hn, rfl⟩ := h
  have hc := count_eq_of_toU32 L.toNat_natCast _ (flatParams_count_int L.toCountLaws q tol) n hn
  by_cases hn2 : n ≤ 1
  · have : n - 1 = 0 := by omega
    simp [Quad.flatWith, this, Quad.flatLoop, IncrFrom]
  · have hn2' : 2 ≤ n := by omega
    have hcpos : (0 : K) < (FlatParams.new q tol).count := by
      rw [hc]; exact_mod_cast (by omega : 0 < n)
    rcases new_eq_generalCore_or q tol with hg | h0
    swap
    · rw [h0] at hcpos; exact absurd hcpos (lt_irrefl _)
    obtain ⟨pF, pT, scale, e1, e2, e3, e4, e5⟩ := generalCore_shape q tol
    rw [← hg] at e1 e2 e3 e4 e5
    set p := FlatParams.new q tol with hp
    set i0 := approxParabolaIntegral pF with hi0
    set i1 := approxParabolaIntegral pT with hi1
    -- the two integrals differ: otherwise the count would be `ceil 0 < 1`
    have hne : i0 ≠ i1 := by
      intro heq
      have hest : FlatParams.countEstimate pF pT (i1 - i0) scale tol = 0 := by
        simp [FlatParams.countEstimate, heq, sc_abs]
      rw [hest] at e4
      have hlt : p.count < 1 := by
        rw [e4]; unfold FlatParams.fixCount
        split
        · have := L.ceil_lt 0; simpa using this
        · simp
      rw [hc] at hlt
      have : n < 1 := by exact_mod_cast hlt
      omega
    have hsign := C09.general_signs S.sqrt_nonneg S.sqrt_mono S.b_lt_one i0 i1 p.count hcpos hne
    rw [show (1 : K) / (approxParabolaInvIntegral i1 - approxParabolaInvIntegral i0)
        = p.divInvIntegralDiff by rw [e3, sc_one_eq],
      ← e5] at hsign
    have mono : ∀ i j : K, i < j → p.tAt i < p.tAt j := fun i j hij =>
      C09.tAt_strict_mono S.sqrt_nonneg S.sqrt_mono S.b_lt_one p i j hij hsign
    have hinv : p.invIntegralFrom = approxParabolaInvIntegral p.integralFrom := by rw [e2, e1]
    have ht0 : p.tAt 0 = 0 := C09.tAt_zero p hinv
    have hne' : approxParabolaInvIntegral i1 ≠ approxParabolaInvIntegral p.integralFrom := by
      rw [e1]
      exact fun heq => hne (StrictMono.injective
        (fun _ _ => C09.inv_integral_strict_mono S.sqrt_nonneg S.sqrt_mono S.b_lt_one _ _) heq).symm
    have htn : p.tAt (n : K) = 1 := by
      rw [← hc]
      refine C09.tAt_count p i1 ?_ hinv ?_ hne'
      · rw [e5, e1]
        field_simp [ne_of_gt hcpos]
        ring
      · rw [e3, e1, sc_one_eq]
    have := quad_loop_t_incr q p n mono htn (n - 1) 1 (le_refl 1) (by omega) q.a 0
    simp only [Nat.sub_self, Nat.cast_zero, ht0, Nat.cast_one] at this
    simpa [Quad.flatWith, sc_one_eq] using this

end field

end Lyon.Adapt
