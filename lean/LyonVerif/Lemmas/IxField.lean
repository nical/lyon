/-
  Field-side helpers for C12: the canonical `Sgn` instance of an ordered field (`signum 0 = 1`, as
  `signum(+0.0) = 1.0` in Rust; `−0.0` has no counterpart in a field; `sgn_sq`, and with it
  `C12.qR_sq` and `C12.cbrtS_cube`, needs `signum 0 ≠ 0`), and the pure
  algebra behind the segment intersection theorems of `Props/C12.lean` (Cramer's rule, range test
  with postponed division, "a non-corner solution of a parallel pair is not the only one").
-/
import LyonVerif.Model.Geom.Intersect
import LyonVerif.Lemmas.Field
import Mathlib.Algebra.Order.Ring.Abs
import Mathlib.Tactic.Tauto

set_option linter.unusedSectionVars false

geom_all Lyon.Seg
geom_all Lyon.Line

namespace Lyon
variable {K : Type} [Field K] [LinearOrder K] [IsStrictOrderedRing K]
noncomputable instance fieldSgn : Sgn K where
  signum x := if x < 0 then -1 else 1

theorem sgn_neg {x : K} (h : x < 0) : Sgn.signum x = -1 := by simp [Sgn.signum, h]
theorem sgn_nonneg {x : K} (h : 0 ≤ x) : Sgn.signum x = 1 := by simp [Sgn.signum, not_lt.mpr h]
theorem sgn_mul_self (x : K) : Sgn.signum x * x = |x| := by
  rcases lt_or_ge x 0 with h | h
  · rw [sgn_neg h, abs_of_neg h]; ring
  · rw [sgn_nonneg h, abs_of_nonneg h]; ring
theorem sgn_sq (x : K) : Sgn.signum x * Sgn.signum x = 1 := by
  rcases lt_or_ge x 0 with h | h
  · rw [sgn_neg h]; ring
  · rw [sgn_nonneg h]; ring
theorem sgn_mul_abs (x : K) : Sgn.signum x * |x| = x := by
  rw [← sgn_mul_self, ← mul_assoc, sgn_sq, one_mul]

end Lyon

namespace Lyon.Ix
open Lyon Scalar
variable {K : Type} [Field K] [LinearOrder K] [IsStrictOrderedRing K]

/-- the reciprocal the code multiplies by, named: `1 / d = i` with `i · d = 1` -/
theorem one_div_spec {d : K} (h : d ≠ 0) : ∃ i, 1 / d = i ∧ i * d = 1 := ⟨_, rfl, one_div_mul_cancel h⟩

theorem sharesEndpoint_iff (s o : Seg K) :
    s.sharesEndpoint o = true ↔ (s.b = o.b ∨ s.a = o.a ∨ s.a = o.b ∨ s.b = o.a) := by
  unfold Seg.sharesEndpoint
  simp only [Bool.or_eq_true, P.beq_iff_eq]
  tauto

theorem signed_div (n d : K) (hd : d ≠ 0) : n * Sgn.signum d / |d| = n / d := by
  rw [div_eq_div_iff (abs_ne_zero.mpr hd) hd, mul_assoc, sgn_mul_self]

theorem cramer (ax ay bx by' cx cy dx dy t u : K)
    (hd : (bx - ax) * (dy - cy) - (by' - ay) * (dx - cx) ≠ 0) :
    ((1 - t) * ax + t * bx = (1 - u) * cx + u * dx ∧ (1 - t) * ay + t * by' = (1 - u) * cy + u * dy)
    ↔ (t = ((cx - ax) * (dy - cy) - (cy - ay) * (dx - cx)) / ((bx - ax) * (dy - cy) - (by' - ay) * (dx - cx))
       ∧ u = ((cx - ax) * (by' - ay) - (cy - ay) * (bx - ax)) / ((bx - ax) * (dy - cy) - (by' - ay) * (dx - cx))) := by
  constructor
  · rintro ⟨h1, h2⟩
    constructor
    · rw [eq_div_iff hd]; linear_combination (dy - cy) * h1 - (dx - cx) * h2
    · rw [eq_div_iff hd]; linear_combination (by' - ay) * h1 - (bx - ax) * h2
  · rintro ⟨h1, h2⟩
    rw [eq_div_iff hd] at h1 h2
    constructor
    · apply mul_right_cancel₀ hd
      linear_combination (bx - ax) * h1 - (dx - cx) * h2
    · apply mul_right_cancel₀ hd
      linear_combination (by' - ay) * h1 - (dy - cy) * h2

theorem sample_eq_iff (s o : Seg K) (t u : K) (hd : s.ixDet o ≠ 0) :
    s.sample t = o.sample u ↔
      (t = (o.a - s.a).cross o.toVector / s.ixDet o ∧ u = (o.a - s.a).cross s.toVector / s.ixDet o) := by
  have hd' : (s.b.x - s.a.x) * (o.b.y - o.a.y) - (s.b.y - s.a.y) * (o.b.x - o.a.x) ≠ 0 := by
    simpa only [geom] using hd
  have h := cramer s.a.x s.a.y s.b.x s.b.y o.a.x o.a.y o.b.x o.b.y t u hd'
  simp only [geom, Nat.cast_one, P.mk.injEq]
  exact h

theorem sample_eq_unique {s o : Seg K} {t u t' u' : K} (hd : s.ixDet o ≠ 0)
    (h : s.sample t = o.sample u) (h' : s.sample t' = o.sample u') : t' = t ∧ u' = u := by
  obtain ⟨a1, a2⟩ := (sample_eq_iff s o t u hd).mp h
  obtain ⟨b1, b2⟩ := (sample_eq_iff s o t' u' hd).mp h'
  exact ⟨b1.trans a1.symm, b2.trans a2.symm⟩

theorem sqLen_pos {a b : P K} (h : a ≠ b) :
    0 < (b.x - a.x) * (b.x - a.x) + (b.y - a.y) * (b.y - a.y) :=
  (add_nonneg (mul_self_nonneg _) (mul_self_nonneg _)).lt_of_ne' fun h0 =>
    h (P.ext' (sub_eq_zero.mp (mul_self_add_mul_self_eq_zero.mp h0).1).symm
      (sub_eq_zero.mp (mul_self_add_mul_self_eq_zero.mp h0).2).symm)

/-- the range test on the undivided numerators is the range test on the quotients -/
theorem range_iff (n d : K) (hd : 0 < d) : ¬ (n < 0 ∨ n > d) ↔ (0 ≤ n / d ∧ n / d ≤ 1) := by
  rw [not_or, not_lt, not_lt, div_le_one hd, le_div_iff₀ hd, zero_mul]

/-- from `x ∈ [0,1]` one can move a little way in direction `a` and stay in `[0,1]`, unless `x` sits
on the end that `a` points out of -/
theorem room (x a : K) (h0 : 0 ≤ x) (h1 : x ≤ 1) (hlo : x = 0 → 0 ≤ a) (hhi : x = 1 → a ≤ 0) :
    ∃ δ : K, 0 < δ ∧ ∀ ε, 0 ≤ ε → ε ≤ δ → 0 ≤ x + ε * a ∧ x + ε * a ≤ 1 := by
  rcases lt_trichotomy a 0 with ha | ha | ha
  · have hx : 0 < x := h0.lt_of_ne' fun h => not_le.mpr ha (hlo h)
    refine ⟨x / -a, div_pos hx (neg_pos.mpr ha), fun ε hε hεδ => ?_⟩
    have e1 := (le_div_iff₀ (neg_pos.mpr ha)).mp hεδ
    have e2 := mul_nonneg hε (neg_nonneg.mpr ha.le)
    exact ⟨by linear_combination e1, by linear_combination h1 + e2⟩
  · exact ⟨1, one_pos, fun ε _ _ => by rw [ha, mul_zero, add_zero]; exact ⟨h0, h1⟩⟩
  · have hx : x < 1 := h1.lt_of_ne fun h => not_le.mpr ha (hhi h)
    refine ⟨(1 - x) / a, div_pos (by linarith) ha, fun ε hε hεδ => ?_⟩
    have e1 := (le_div_iff₀ ha).mp hεδ
    have e2 := mul_nonneg hε ha.le
    exact ⟨by linear_combination h0 + e2, by linear_combination e1⟩

/-- a line through a non-corner point of the unit square, with direction `(α, β)`, `β > 0`,
contains another point of the square -/
theorem exists_other (t u α β : K) (hβ : 0 < β) (ht0 : 0 ≤ t) (ht1 : t ≤ 1)
    (hu0 : 0 ≤ u) (hu1 : u ≤ 1) (hnc : ¬ ((t = 0 ∨ t = 1) ∧ (u = 0 ∨ u = 1))) :
    ∃ ε : K, ε ≠ 0 ∧ 0 ≤ t + ε * α ∧ t + ε * α ≤ 1 ∧ 0 ≤ u + ε * β ∧ u + ε * β ≤ 1 := by
  have both : ∀ a b : K, (t = 0 → 0 ≤ a) → (t = 1 → a ≤ 0) → (u = 0 → 0 ≤ b) → (u = 1 → b ≤ 0) →
      ∃ δ : K, 0 < δ ∧ (0 ≤ t + δ * a ∧ t + δ * a ≤ 1) ∧ (0 ≤ u + δ * b ∧ u + δ * b ≤ 1) := by
    intro a b h1 h2 h3 h4
    obtain ⟨δ₁, hδ₁, r₁⟩ := room t a ht0 ht1 h1 h2
    obtain ⟨δ₂, hδ₂, r₂⟩ := room u b hu0 hu1 h3 h4
    exact ⟨Min.min δ₁ δ₂, lt_min hδ₁ hδ₂, r₁ _ (lt_min hδ₁ hδ₂).le (min_le_left _ _),
      r₂ _ (lt_min hδ₁ hδ₂).le (min_le_right _ _)⟩
  -- forwards (`ε > 0`) unless `(α, β)` points out of the square at `(t, u)`; then backwards does not
  by_cases hf : (t = 0 → 0 ≤ α) ∧ (t = 1 → α ≤ 0) ∧ u ≠ 1
  · obtain ⟨δ, hδ, h1, h2⟩ := both α β hf.1 hf.2.1 (fun _ => hβ.le) (fun h => absurd h hf.2.2)
    exact ⟨δ, hδ.ne', h1.1, h1.2, h2.1, h2.2⟩
  · obtain ⟨δ, hδ, h1, h2⟩ := both (-α) (-β)
      (fun h => neg_nonneg.mpr <| not_lt.mp fun hc => hf
        ⟨fun _ => hc.le, fun h1 => absurd (h ▸ h1) zero_ne_one, fun hu => hnc ⟨.inl h, .inr hu⟩⟩)
      (fun h => neg_nonpos.mpr <| not_lt.mp fun hc => hf
        ⟨fun h0 => absurd (h0 ▸ h) zero_ne_one, fun _ => hc.le, fun hu => hnc ⟨.inr h, .inr hu⟩⟩)
      (fun hu => absurd ⟨fun h => absurd ⟨.inl h, .inl hu⟩ hnc, fun h => absurd ⟨.inr h, .inl hu⟩ hnc,
        fun h1 => zero_ne_one (hu ▸ h1)⟩ hf)
      (fun _ => (neg_neg_of_pos hβ).le)
    refine ⟨-δ, (neg_neg_of_pos hδ).ne, ?_⟩
    rw [neg_mul_comm, neg_mul_comm]
    exact ⟨h1.1, h1.2, h2.1, h2.2⟩
end Lyon.Ix
