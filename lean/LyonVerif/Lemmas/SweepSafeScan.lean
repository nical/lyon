/-
  NO-PANIC: what a successful `scan_active_edges` guarantees (`ScanOk`).

  `scanActiveEdges` is a pure function `St α → Except IErr Scan` with two `for` loops (edges before the
  current point; edges connecting with it).  The facts below are what the later steps
  (`process_edges_above`, `process_edges_below`, `update_active_edges`) need in order not to index
  out of range, not to underflow `above_start - 1` and not to splice an inverted range.  They hold
  for EVERY scalar type (no order law is used), except `merge_room`, which needs the two
  "the current point is on this edge" tests of the scan to agree on the first connecting edge
  (`HorizAgree`, a theorem over ordered fields, `Lemmas/SweepSafeField.lean`).
  The scan is first brought into stages (`scanActiveEdges_eq`); `I1`, `I2` are the index parts of the
  loop invariants of the two passes.  The run itself is in `SweepSafeCohScanSpec.lean`.
-/
import Std.Do
import Std.Tactic.Do
import LyonVerif.Lemmas.SweepStepKeeps

set_option linter.unusedSectionVars false
set_option mvcgen.warning false

namespace Lyon.SweepSafe
open Lyon Lyon.Scalar Lyon.Mono Lyon.Sweep Lyon.EQ
open Std.Do

variable {α : Type} [Scalar α] [Wide α]

/-- `Spec.throw_Except` of Lean 4.33 carries two unused instance arguments; `mvcgen` leaves them as
goals.  Any instance will do. -/
macro "fix_throw" : tactic => `(tactic| (
  any_goals (first | exact (Id : Type → Type) | fail)
  any_goals (first | exact PostShape.pure | fail)
  any_goals (first | infer_instance | fail)))

/-- the two on-edge tests of `scan_active_edges` agree on an edge: when the first pass
(`edge_is_before_current_point`) says "touches the current point", the second pass
(`is_edge_connecting`) does not say "strictly to the right, not connecting".  Syntactically true
except for level edges (`from.y == to.y`), where it needs `¬ a < b → b ≤ a` and `|x - x| ≤ tol`. -/
def HorizAgree (t : α) : Prop :=
  ∀ (cur : P α) (e : ActiveEdge α), (edgeBefore cur t e).2 = true →
    isEdgeConnecting cur t e ≠ .ok (false, false)

theorem of_ite {γ : Sort _} {P : γ → Prop} {c : Prop} [Decidable c] {a b : γ} (ha : P a) (hb : P b) :
    P (if c then a else b) := by
  split <;> assumption

theorem edgeBefore_snd {cur : P α} {t : α} {e : ActiveEdge α} :
    (edgeBefore cur t e).2 = true → (edgeBefore cur t e).1 = false := by
  unfold edgeBefore
  repeat' apply of_ite (P := fun r : Bool × Bool => r.2 = true → r.1 = false)
  all_goals decide

structure ScanOk (s : St α) (scan : Scan) : Prop where
  start_le : scan.aboveStart ≤ scan.aboveEnd
  end_le : scan.aboveEnd ≤ s.active.size
  split_lt : ∀ ei ∈ scan.edgesToSplit, ei < s.active.size
  merge_lt : scan.mergeEvent = true → scan.aboveStart < s.active.size
  merge_room : HorizAgree s.tolerance → scan.mergeEvent = true → scan.aboveStart < scan.aboveEnd
  split_pos : scan.splitEvent = true → 1 ≤ scan.aboveStart
  ends_inc : scan.spansToEnd.toList.Pairwise (· < ·)

/-! ### `scan_active_edges` in stages

The body of `scan_active_edges` branches on `prev_was_merge` / `connecting` between its two loops and
three more times after the second one; read as control flow that is 3 copies of the second loop and 8
endings.  Below the branches are moved into the data: the scan is the first loop (`scanPass1`), a
record computed from its result (`scanMid`), the second loop (`scanPass2`), a record computed from its
result (`scanFin`), and the check of the remaining edges (`scanActiveEdges_eq`). -/

/-- first pass (edges before the current point): `(connecting, idx, w, prevWasMerge)` -/
def scanPass1 (s : St α) : Except IErr (Bool × Nat × WindingState × Bool) := do
  let mut connecting := false
  let mut idx : Nat := 0
  let mut w := WindingState.new
  let mut prevWasMerge := false
  for e in s.active do
    if e.isMerge then
      w := { w with spanIndex := w.spanIndex + 1 }
      idx := idx + 1
      prevWasMerge := true
      continue
    let r := edgeBefore s.curPos s.tolerance e
    if r.2 then connecting := true
    if !r.1 then break
    w := w.update s.rule e.winding
    prevWasMerge := false
    idx := idx + 1
  return (connecting, idx, w, prevWasMerge)

def scanMid (r : Bool × Nat × WindingState × Bool) : Scan :=
  { aboveStart := if r.2.2.2 then r.2.1 - 1 else r.2.1
    windingBefore := if r.2.2.2 then ⟨r.2.2.1.spanIndex - 1, r.2.2.1.number, r.2.2.1.isIn⟩ else r.2.2.1
    vertexEvents :=
      if r.2.2.2 && !r.1 then #[(r.2.2.1.spanIndex - 1, false), (r.2.2.1.spanIndex, true)] else #[]
    mergeSplitEvent := r.2.2.2 && !r.1
    splitEvent := !r.1 && r.2.2.1.isIn && !(r.2.2.2 && !r.1) }

/-- second pass (edges connecting with the current point): `(idx, w, scan, firstConnecting)` -/
def scanPass2 (s : St α) (idx0 : Nat) (w0 : WindingState) (scan0 : Scan) (fc0 : Bool) :
    Except IErr (Nat × WindingState × Scan × Bool) := do
  let mut idx := idx0
  let mut w := w0
  let mut scan := scan0
  let mut firstConnecting := fc0
  for e in s.active.extract idx0 s.active.size do
    if e.isMerge then
      if !w.isIn then throw .mergeVertexOutside
      scan := { scan with spansToEnd := scan.spansToEnd.push w.spanIndex }
      w := { w with spanIndex := w.spanIndex + 1 }
      idx := idx + 1
      firstConnecting := false
      continue
    let c ← isEdgeConnecting s.curPos s.tolerance e
    if c.2 then scan := { scan with edgesToSplit := scan.edgesToSplit.push idx }
    if !c.1 then break
    if !firstConnecting && w.isIn then
      scan := { scan with spansToEnd := scan.spansToEnd.push w.spanIndex }
    w := w.update s.rule e.winding
    if w.isIn && w.spanIndex ≥ (s.spans.size : Int) then throw .insufficientSpans
    idx := idx + 1
    firstConnecting := false
  return (idx, w, scan, firstConnecting)

/-- `inBefore` = `is_in` of the winding before the second pass -/
def scanFin (s : St α) (inBefore : Bool) (b : Nat × WindingState × Scan × Bool) : Scan :=
  { b.2.2.1 with
    aboveEnd := b.1
    mergeEvent :=
      if inBefore && b.2.1.isIn && s.below.isEmpty && b.2.2.1.edgesToSplit.isEmpty then true
      else b.2.2.1.mergeEvent
    vertexEvents :=
      let v := if inBefore then b.2.2.1.vertexEvents.push (b.2.2.1.windingBefore.spanIndex, false)
               else b.2.2.1.vertexEvents
      if b.2.1.isIn then v.push (b.2.1.spanIndex, true) else v }

theorem scanActiveEdges_eq (s : St α) : scanActiveEdges s = (do
    let r ← scanPass1 s
    if r.1 then
      let b ← scanPass2 s r.2.1 r.2.2.1 (scanMid r) (!r.2.2.2)
      checkRemainingEdges s.curPos s.active b.1
      return scanFin s r.2.2.1.isIn b
    else
      checkRemainingEdges s.curPos s.active r.2.1
      return { scanMid r with aboveEnd := r.2.1 }) := by
  unfold scanActiveEdges scanPass1
  simp only [bind_assoc, pure_bind]
  refine bind_congr fun r => ?_
  obtain ⟨c, i, w, p⟩ := r
  cases c
  · cases p <;> rfl
  · cases p <;>
    · simp only [scanPass2, bind_assoc, pure_bind, if_true]
      refine bind_congr fun b => ?_
      unfold scanFin
      -- the four Booleans the endings branch on, as variables (`split` rewrites all eight records thrice)
      generalize w.isIn = x, b.2.1.isIn = y, s.below.isEmpty = z, b.2.2.1.edgesToSplit.isEmpty = u
      cases x <;> cases y <;> cases z <;> cases u <;> rfl

theorem of_spec {ε β : Type} {x : Except ε β} {Q : β → Prop} {r : β}
    (h : ⦃⌜True⌝⦄ x ⦃post⟨fun r => ⌜Q r⌝, fun _ => ⌜True⌝⟩⦄) (hx : x = .ok r) : Q r := by
  subst hx
  have h2 : (Except.ok r : Except ε β) = pure r := rfl
  rw [h2] at h
  simpa [Triple, WP.pure] using h

theorem bind_ok {ε β γ : Type} {x : Except ε β} {f : β → Except ε γ} {c : γ} (h : x >>= f = .ok c) :
    ∃ a, x = .ok a ∧ f a = .ok c := by
  cases x with
  | error e => cases h
  | ok a => exact ⟨a, rfl, h⟩

theorem self_spec {ε β : Type} (x : Except ε β) :
    ⦃⌜True⌝⦄ x ⦃post⟨fun r => ⌜x = .ok r⌝, fun _ => ⌜True⌝⟩⦄ := by
  cases x with
  | ok a =>
    have h : (Except.ok a : Except ε β) = pure a := rfl
    rw [h]; mvcgen
  | error e =>
    have h : (Except.error e : Except ε β) = throw e := rfl
    rw [h]; mvcgen
    fix_throw

/-- index part of the loop invariant of the first pass: what it knows beyond the winding part `J1`; loop
state `(connecting, idx, w, prevWasMerge)` -/
structure I1 (s : St α) (pref : List (ActiveEdge α)) (b : Bool × Nat × WindingState × Bool) : Prop where
  /-- `idx` has not run past the edges seen (`start_le`, `end_le`) -/
  le : b.2.1 ≤ pref.length
  /-- the edge the pass stopped at touches the current point (for `first_connecting_absurd`) -/
  conn : b.1 = true → ∃ e0, s.active[b.2.1]? = some e0 ∧ e0.isMerge = false ∧
      (edgeBefore s.curPos s.tolerance e0).2 = true
  /-- inside the shape there is an edge on the left, and two after a merge vertex (`split_pos`) -/
  inside : b.2.2.1.isIn = true → 1 ≤ b.2.1 ∧ (b.2.2.2 = true → 2 ≤ b.2.1)

variable {s : St α} {pref suff : List (ActiveEdge α)} {cur : ActiveEdge α}

theorem edgeBefore_absurd {Q : Prop} {c : P α} {t : α} {e : ActiveEdge α}
    (h2 : (edgeBefore c t e).2 = true) (h1 : ¬(!(edgeBefore c t e).1) = true) : Q := by
  have := edgeBefore_snd h2
  simp [this] at h1

/-- index part of the loop invariant of the second pass: what it knows beyond the winding part `J2`; loop
state `(idx, w, scan, firstConnecting)`, `idx0` is `idx` at loop entry -/
structure I2 (s : St α) (idx0 : Nat) (pref : List (ActiveEdge α)) (b : Nat × WindingState × Scan × Bool) :
    Prop where
  /-- `idx` has not run past the edges seen (`end_le`) -/
  le : b.1 ≤ idx0 + pref.length
  /-- an edge to split is an active edge and no merge vertex (`split_lt`, `SplitNM`) -/
  splits : ∀ ei ∈ b.2.2.1.edgesToSplit, ∃ e, s.active[ei]? = some e ∧ e.isMerge = false
  /-- the span indices pushed increase (`ends_inc`) … -/
  endsInc : b.2.2.1.spansToEnd.toList.Pairwise (· < ·)
  /-- … because each is at most the current one, and below it inside the shape -/
  endsLe : ∀ x ∈ b.2.2.1.spansToEnd, x ≤ b.2.1.spanIndex ∧ (b.2.1.isIn = true → x < b.2.1.spanIndex)

theorem extract_split {idx0 : Nat} (h : (s.active.extract idx0).toList = pref ++ cur :: suff) :
    idx0 + pref.length < s.active.size ∧ s.active[idx0 + pref.length]? = some cur := by
  have h1 := getElem?_of_split h
  have h2 := size_of_split h
  simp only [Array.size_extract] at h2
  rw [Array.getElem?_extract] at h1
  split at h1
  · simp only [Nat.min_self] at h2
    exact ⟨by omega, h1⟩
  · cases h1

/-- a `yield` step of the second pass at the cursor `b.1`: `es`, `ss` are the new `edges_to_split`,
`spans_to_end` -/
theorem I2_yield {idx0 : Nat} {b : Nat × WindingState × Scan × Bool} {w' : WindingState}
    {es : Array Nat} {ss : Array Int} (hI : I2 s idx0 pref b) (hc : b.1 = idx0 + pref.length)
    (hcur : s.active[b.1]? = some cur)
    (he : es = b.2.2.1.edgesToSplit ∨ (es = b.2.2.1.edgesToSplit.push b.1 ∧ cur.isMerge = false))
    (hw : w'.spanIndex = b.2.1.spanIndex + 1 ∨ (w'.spanIndex = b.2.1.spanIndex ∧ w'.isIn = false))
    (hp : ss = b.2.2.1.spansToEnd ∨ (ss = b.2.2.1.spansToEnd.push b.2.1.spanIndex ∧ b.2.1.isIn = true)) :
    I2 s idx0 (pref ++ [cur]) (b.1 + 1, w', { b.2.2.1 with edgesToSplit := es, spansToEnd := ss }, false) := by
  have key : ∀ x : Int, x ≤ b.2.1.spanIndex → x ≤ w'.spanIndex ∧ (w'.isIn = true → x < w'.spanIndex) := by
    intro x h1
    rcases hw with hw | ⟨hw, hwi⟩
    · exact ⟨by omega, fun _ => by omega⟩
    · exact ⟨by omega, fun hh => by simp [hwi] at hh⟩
  refine { le := by simp; omega, splits := ?_, endsInc := ?_, endsLe := ?_ }
  · rcases he with rfl | ⟨rfl, hm⟩
    · exact hI.splits
    · exact all_push hI.splits _ ⟨cur, hcur, hm⟩
  · rcases hp with rfl | ⟨rfl, hin⟩
    · exact hI.endsInc
    · show (Array.push _ _).toList.Pairwise _
      rw [Array.toList_push, List.pairwise_append]
      refine ⟨hI.endsInc, by simp, fun x hx y hy => ?_⟩
      rw [List.mem_singleton.mp hy]
      exact (hI.endsLe x (Array.mem_toList_iff.mp hx)).2 hin
  · have old := fun x hx => key x (hI.endsLe x hx).1
    rcases hp with rfl | ⟨rfl, hin⟩
    · exact old
    · exact all_push old _ (key _ (Int.le_refl _))

theorem wfold_snoc (rule : Slab.Rule) (w : WindingState) (l : List (ActiveEdge α)) (e : ActiveEdge α) :
    SweepCoh.wfold rule w (l ++ [e]) = SweepCoh.wstep rule (SweepCoh.wfold rule w l) e := by
  simp [SweepCoh.wfold, List.foldl_append]

/-- an edge raises the span index by one exactly when the region to its right is `in` -/
theorem update_si (rule : Slab.Rule) (w : WindingState) (k : Int) :
    (w.update rule k).spanIndex = w.spanIndex + (SweepCoh.bi (w.update rule k).isIn : Int) := by
  unfold WindingState.update SweepCoh.bi
  by_cases h : rule.isIn (w.number + k) = true <;> simp [h]

theorem update_spanIndex (w : WindingState) (rule : Slab.Rule) (k : Int) :
    (w.update rule k).spanIndex = w.spanIndex + 1 ∨
      ((w.update rule k).spanIndex = w.spanIndex ∧ (w.update rule k).isIn = false) := by
  have h := update_si rule w k
  cases hi : (w.update rule k).isIn <;> simp [hi, SweepCoh.bi] at h ⊢ <;> omega

/-- the first connecting edge is the one the first pass stopped at -/
theorem first_connecting_absurd {r : Bool × Nat × WindingState × Bool} {c : Bool × Bool}
    (hI1 : I1 s s.active.toList r) (hconn : r.1 = true)
    (h : (s.active.extract r.2.1).toList = pref ++ cur :: suff)
    (hc : isEdgeConnecting s.curPos s.tolerance cur = .ok c) (h1 : (!c.1) = true) (h2 : ¬c.2 = true)
    (hH : HorizAgree s.tolerance) (hp : pref = []) : False := by
  obtain ⟨e0, he0, _, hb⟩ := hI1.conn hconn
  have hx := (extract_split h).2
  rw [hp, List.length_nil, Nat.add_zero, he0] at hx
  rw [← Option.some.inj hx] at hc
  refine hH s.curPos e0 hb (hc.trans ?_)
  rcases c with ⟨c1, c2⟩
  simp at h1 h2
  rw [h1, h2]

theorem and2_right {a b : Bool} (h : (!a && b) = true) : b = true := by simp at h; exact h.2
theorem of_not_not_true {a : Bool} (h : ¬(!a) = true) : a = true := by simpa using h

end Lyon.SweepSafe
