/-
  The clipped side point of a butt / square cap (`tessellate_first_edge`, `tessellate_last_edge`) over a linearly ordered
  field, with the exact `Line::intersection`: a side point `p + perp(u)·c` whose side line runs along the edge moves by `0`
  (butt, round) or `hw` (square) along the unit vector `u` towards the cap (`clip_side_value`, `cap_corner`; the start cap is
  the end cap of the reversed edge: `cap_corner_start`).  `emit_position`: what a vertex constructor reads back.
-/
import LyonVerif.Model.Tess.StrokeFull
import LyonVerif.Props.C06

set_option linter.unusedSectionVars false

namespace Lyon.C05c
open Lyon Scalar Lyon.Stroke Lyon.Stroke.Full
open Lyon.StrokeQuad (lineIntersection capSide)

section Field
variable {K : Type} [Field K] [LinearOrder K] [IsStrictOrderedRing K] [Transc K]

theorem clipSidePos_eq_capSide (ix : Lyon.StrokeQuad.Ix K) (cap : LineCap) (p q : P K) (hw : K) (s o : P K) :
    clipSidePos ix cap p q hw s o = capSide ix cap p q s o hw := by
  unfold clipSidePos capSide capClip Lyon.StrokeQuad.Cap.clip
  cases cap <;> rfl

theorem emit_position (p x : P K) (hw : K) (h : hw ≠ 0) : p + ((x - p).sdiv hw).smul hw = x := by
  apply P.ext' <;> simp only [geom] <;> field_simp <;> ring

def capShift (cap : LineCap) (hw : K) : K :=
  match cap with
  | .square => hw
  | _ => 0

/-- one clipped cap corner: the side point `p + perp(t)·c` (`t = normalize (p − q)` a unit vector), whose
side line runs along the edge (`sidePos − other = t·mu`, `|mu| > eps`), moves by `0` (butt) or `hw`
(square) along `t` -/
theorem clip_side_value (eps : K) (heps : 0 ≤ eps) (cap : LineCap) (hcap : cap ≠ .round) (p q other : P K) (c hw mu : K)
    (hunit : (normalize (p - q)).sqLen = 1)
    (hpar : (p + (perp (normalize (p - q))).smul c) - other = (normalize (p - q)).smul mu)
    (hmu : eps < |mu|) :
    clipSidePos (lineIntersection eps) cap p q hw (p + (perp (normalize (p - q))).smul c) other
      = p + (perp (normalize (p - q))).smul c + (normalize (p - q)).smul (capShift cap hw) := by
  rw [clipSidePos_eq_capSide]
  have hdet : eps < |(perp (normalize (p - q))).cross ((p + (perp (normalize (p - q))).smul c) - other)| := by
    rw [hpar]
    have e : (perp (normalize (p - q))).cross ((normalize (p - q)).smul mu) = -mu := by
      generalize normalize (p - q) = t at hunit
      simp only [perp, geom] at hunit ⊢
      linear_combination (-mu) * hunit
    rw [e, abs_neg]; exact hmu
  cases cap with
  | round => exact absurd rfl hcap
  | butt =>
    rw [Lyon.C06.cap_side_butt eps heps p q other c hw hdet]
    apply P.ext' <;> simp only [capShift, geom] <;> ring
  | square =>
    rw [Lyon.C06.cap_side_square eps heps p q other c hw mu hpar hdet]
    rfl

theorem normalize_swap (a b : P K) : normalize (a - b) = (normalize (b - a)).smul (-1) := by
  unfold Stroke.normalize
  have : (a - b).sqLen = (b - a).sqLen := by simp only [geom]; ring
  rw [this]
  apply P.ext' <;> simp only [geom] <;> ring

end Field

end Lyon.C05c

namespace Lyon.C06b
open Lyon Scalar Lyon.Stroke Lyon.Stroke.Full Lyon.C05c
open Lyon.StrokeQuad (lineIntersection)

section
variable {K : Type} [Field K] [LinearOrder K] [IsStrictOrderedRing K] [Transc K]

theorem sub_smul_eq (a v : P K) (w : K) : a - v.smul w = a + v.smul (-w) := by
  geom_ring

/-- **one cap corner**, butt, square or round: `u` the unit vector from the other end `q` of the edge to the end
point `p` (`p − q = u·L`, `L > eps`); the side point `p + perp(u)·c`, whose side line comes from
`q + perp(u)·c + u·ν`, `ν ≤ 0`, moves by `0` (butt, round) or `hw` (square) along `u` -/
theorem cap_corner (eps : K) (heps : 0 ≤ eps) (cap : LineCap) (p q u : P K) (c hw L ν : K)
    (hu : normalize (p - q) = u) (hunit : u.sqLen = 1) (hpq : p - q = u.smul L) (hν : ν ≤ 0) (hL : eps < L) :
    clipSidePos (lineIntersection eps) cap p q hw (p + (perp u).smul c) (q + (perp u).smul c + u.smul ν)
      = p + (perp u).smul c + u.smul (capShift cap hw) := by
  by_cases hr : cap = .round
  · subst hr
    show p + (perp u).smul c = _
    apply P.ext' <;> simp only [capShift, geom] <;> ring
  · subst hu
    refine clip_side_value eps heps cap hr p q _ c hw (L - ν) hunit ?_ (by rw [abs_of_pos (by linarith)]; linarith)
    have hx := congrArg P.x hpq
    have hy := congrArg P.y hpq
    generalize normalize (p - q) = u at hx hy ⊢
    simp only [geom] at hx hy
    apply P.ext' <;> simp only [geom] <;> linarith

/-- the start cap is the end cap of the reversed edge: `t` the unit vector from `p` towards the other end `q`, the side
line comes from `q + perp(t)·c + t·ν`, `ν ≥ 0`; the side point moves by `0` or `hw` AGAINST `t` -/
theorem cap_corner_start (eps : K) (heps : 0 ≤ eps) (cap : LineCap) (p q t : P K) (c hw L ν : K)
    (ht : normalize (q - p) = t) (hunit : t.sqLen = 1) (hpq : q - p = t.smul L) (hν : 0 ≤ ν) (hL : eps < L) :
    clipSidePos (lineIntersection eps) cap p q hw (p + (perp t).smul c) (q + (perp t).smul c + t.smul ν)
      = p + (perp t).smul c + t.smul (-(capShift cap hw)) := by
  have hunit' : (t.smul (-1)).sqLen = 1 := by simp only [geom] at hunit ⊢; linear_combination hunit
  have hE' : p - q = (t.smul (-1)).smul L := by
    have hx := congrArg P.x hpq
    have hy := congrArg P.y hpq
    simp only [geom] at hx hy
    apply P.ext' <;> simp only [geom] <;> linarith
  have h := cap_corner eps heps cap p q (t.smul (-1)) (-c) hw L (-ν) (by rw [normalize_swap, ht]) hunit' hE'
    (by linarith) hL
  have a1 : p + (perp (t.smul (-1))).smul (-c) = p + (perp t).smul c := by
    apply P.ext' <;> simp only [perp, geom] <;> ring
  have a2 : q + (perp (t.smul (-1))).smul (-c) + (t.smul (-1)).smul (-ν) = q + (perp t).smul c + t.smul ν := by
    apply P.ext' <;> simp only [perp, geom] <;> ring
  rw [a1, a2] at h
  rw [h]; apply P.ext' <;> simp only [geom] <;> ring

end

end Lyon.C06b
