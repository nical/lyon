/-
  Tolerance clause of ARC flattening (Props/C09b.lean). On the unit circle a point between the ends of a chord
  of half-angle `h` has a chord point within the sagitta `1 − cos h`: `unit_chord_core` as pure algebra in the
  chord's frame, `unit_chord_trig` through `TrigLaws` (exactly the laws of `sin`/`cos`/`acos`/`π` the proofs use,
  discharged for the real functions in Props/C09Real.lean). The frame map of Lemmas/FlattenFrame.lean carries
  that to the ellipse, scaled by the largest radius (`arc_chord_near`). The loop of
  `Arc::for_each_flattened_with_t` keeps every range inside `[0,1]` with a span of at most `flattening_step`'s
  `2·acos((R − tol)/R)` (`arc_loop_ranges`) and ends within the fuel (`arc_loop_length`).
-/
import LyonVerif.Lemmas.FlattenFrame
import LyonVerif.Lemmas.FlattenChord

set_option linter.unusedSectionVars false

namespace Lyon.Flat
open Lyon Scalar

variable {K : Type} [Field K] [LinearOrder K] [IsStrictOrderedRing K]

/-- The laws of the trigonometric functions used by the arc tolerance theorems. All of them hold
for Mathlib's real functions (`real_trig_laws` in Props/C09Real.lean); `le_cos_acos` is the form of
`cos (acos x) = x` that is also true left of the domain (`Real.arccos x = π` for `x < −1`).
The circle mesh (C03) has its own `C03c.CircTrig` / `C03c.TrigAdd` (Lemmas/CircleCoverTrig.lean) with the same first
three fields; there is no bridge between them. -/
structure TrigLaws (K : Type) [Field K] [LinearOrder K] [IsStrictOrderedRing K] [Transc K] : Prop where
  cos_sq_add_sin_sq : ∀ x : K, Transc.cos x * Transc.cos x + Transc.sin x * Transc.sin x = 1
  cos_add : ∀ x y : K, Transc.cos (x + y) = Transc.cos x * Transc.cos y - Transc.sin x * Transc.sin y
  sin_add : ∀ x y : K, Transc.sin (x + y) = Transc.sin x * Transc.cos y + Transc.cos x * Transc.sin y
  cos_neg : ∀ x : K, Transc.cos (-x) = Transc.cos x
  sin_neg : ∀ x : K, Transc.sin (-x) = -Transc.sin x
  /-- `cos` is antitone on `[0, π]` -/
  cos_antitone : ∀ x y : K, 0 ≤ x → x ≤ y → y ≤ Transc.pi → Transc.cos y ≤ Transc.cos x
  acos_nonneg : ∀ x : K, 0 ≤ Transc.acos x
  acos_le_pi : ∀ x : K, Transc.acos x ≤ Transc.pi
  le_cos_acos : ∀ x : K, x ≤ 1 → x ≤ Transc.cos (Transc.acos x)

theorem exists_param_of_sq_le (a b : K) (h : a * a ≤ b * b) : ∃ s : K, 0 ≤ s ∧ s ≤ 1 ∧ (2 * s - 1) * b = a := by
  by_cases hb : b = 0
  · have ha : a = 0 := mul_self_eq_zero.mp (le_antisymm (by simpa [hb] using h) (mul_self_nonneg a))
    exact ⟨0, le_refl _, zero_le_one, by rw [hb, ha, mul_zero]⟩
  · have hq : |a / b| ≤ 1 := by
      rw [abs_le_one_iff_mul_self_le_one, div_mul_div_comm, div_le_one (mul_self_pos.mpr hb)]; exact h
    obtain ⟨h1, h2⟩ := abs_le.mp hq
    refine ⟨(1 + a / b) / 2, by linear_combination (1 / 2 : K) * h1, by linear_combination (1 / 2 : K) * h2, ?_⟩
    rw [show 2 * ((1 + a / b) / 2) - 1 = a / b by ring, div_mul_cancel₀ _ hb]

/-- On the circle of radius `R`, in the frame of the chord's mid-angle (`ch, sh` = cos/sin of the
half-angle `h`, `cd, sd` of the offset `δ` of the arc point; the chord runs from `(ch, −sh)` to
`(ch, sh)`): if `cos h ≤ cos δ` whenever `cos h ≥ 0`, some point of the chord is within the sagitta
`R(1 − cos h) ≤ tol` of the arc point.
(`cos h ≥ 0`: the foot of the perpendicular lies on the chord; `cos h < 0`: the chord's midpoint.)
The same chord in cone form: `ArcChk.unit_cone_sagitta` (Lemmas/FlattenChord.lean); as an identity in the
half-plane form: `C03c.chord_cross` (Lemmas/CircleCoverTrig.lean). -/
theorem unit_chord_core (R tol cd sd ch sh : K)
    (hd : cd * cd + sd * sd = 1) (hh : ch * ch + sh * sh = 1)
    (hR : 0 ≤ R) (hcd : 0 ≤ ch → ch ≤ cd) (hsag : R * (1 - ch) ≤ tol) :
    ∃ s : K, 0 ≤ s ∧ s ≤ 1 ∧ R * R * ((cd - ch) ^ 2 + (sd - (2 * s - 1) * sh) ^ 2) ≤ tol * tol := by
  have hch1 : ch ≤ 1 := le_of_sq_le_sq (by linear_combination hh + mul_self_nonneg sh) zero_le_one
  have hcd1 : cd ≤ 1 := le_of_sq_le_sq (by linear_combination hd + mul_self_nonneg sd) zero_le_one
  have hfin : R * R * ((1 - ch) * (1 - ch)) ≤ tol * tol := by
    linear_combination mul_self_le_mul_self (mul_nonneg hR (sub_nonneg.mpr hch1)) hsag
  -- it suffices that the squared distance on the unit circle is at most `(1 − cos h)²`
  suffices h : ∃ s : K, 0 ≤ s ∧ s ≤ 1 ∧ (cd - ch) ^ 2 + (sd - (2 * s - 1) * sh) ^ 2 ≤ (1 - ch) * (1 - ch) by
    obtain ⟨s, h0, h1, h2⟩ := h
    exact ⟨s, h0, h1, le_trans (mul_le_mul_of_nonneg_left h2 (mul_self_nonneg R)) hfin⟩
  rcases le_or_gt 0 ch with hc | hc
  · have hle := hcd hc
    obtain ⟨s, h0, h1, hs⟩ := exists_param_of_sq_le sd sh
      (by linear_combination mul_self_le_mul_self hc hle + hd - hh)
    refine ⟨s, h0, h1, ?_⟩
    rw [hs, sub_self]
    linear_combination mul_self_le_mul_self (sub_nonneg.mpr hle) (sub_le_sub_right hcd1 ch)
  · refine ⟨1 / 2, by norm_num, by norm_num, ?_⟩
    linear_combination hd + 2 * mul_nonneg (neg_nonneg.mpr hc.le) (sub_nonneg.mpr hcd1)

section trig
variable [Transc K]

theorem TrigLaws.cos_abs (L : TrigLaws K) (x : K) : Transc.cos |x| = Transc.cos x := by
  rcases abs_cases x with ⟨h, _⟩ | ⟨h, _⟩
  · rw [h]
  · rw [h, L.cos_neg]

theorem TrigLaws.cos_le_of_abs_le (L : TrigLaws K) (x y : K) (hxy : |x| ≤ |y|) (hy : |y| ≤ Transc.pi) :
    Transc.cos y ≤ Transc.cos x := by
  rw [← L.cos_abs x, ← L.cos_abs y]
  exact L.cos_antitone _ _ (abs_nonneg x) hxy hy

/-- the sagitta of a chord of half-angle `|h| ≤ acos((R − tol)/R)` is within `tol` -/
theorem TrigLaws.sagitta (L : TrigLaws K) (R tol h : K) (hR : 0 < R) (ht : 0 ≤ tol)
    (hh : |h| ≤ Transc.acos ((R - tol) / R)) : R * (1 - Transc.cos h) ≤ tol := by
  have h2 := L.cos_antitone |h| _ (abs_nonneg h) hh (L.acos_le_pi _)
  rw [L.cos_abs] at h2
  have h3 := (L.le_cos_acos _ ((div_le_one hR).mpr (sub_le_self R ht))).trans h2
  rw [div_le_iff₀ hR] at h3
  linear_combination h3

/-- the unit point at the angle of `t`: `sample t` is its image under the arc's frame map (`arc_sample_eq`) -/
noncomputable def unitAt (a : Arc K) (t : K) : P K := ⟨Transc.cos (a.getAngle t), Transc.sin (a.getAngle t)⟩

theorem arc_sample_eq (a : Arc K) (t : K) : a.sample t = (arcFrame a).map (unitAt a t) := by
  apply P.ext' <;> simp only [arcFrame, unitAt, geom] <;> ring

theorem arc_chord_near (a : Arc K) (R t0 t1 t s : K) (hRdef : R = Max.max |a.radii.x| |a.radii.y|)
    (hφ : Transc.cos a.xrot * Transc.cos a.xrot + Transc.sin a.xrot * Transc.sin a.xrot = 1) :
    (a.sample t - (a.sample t0).lerp (a.sample t1) s).sqLen
      ≤ R * R * (unitAt a t - (unitAt a t0).lerp (unitAt a t1) s).sqLen := by
  rw [arc_sample_eq, arc_sample_eq, arc_sample_eq, hRdef]
  exact ArcChk.frame_map_near (arcFrame a) _ hφ (ArcChk.sq_le_max_abs _ _).1 (ArcChk.sq_le_max_abs _ _).2 _ _ _ s

theorem arc_sample_center (a : Arc K) (t : K)
    (hφ : Transc.cos a.xrot * Transc.cos a.xrot + Transc.sin a.xrot * Transc.sin a.xrot = 1) :
    (a.sample t - a.center).sqLen
      = a.radii.x * a.radii.x * (Transc.cos (a.getAngle t) * Transc.cos (a.getAngle t))
        + a.radii.y * a.radii.y * (Transc.sin (a.getAngle t) * Transc.sin (a.getAngle t)) := by
  simp only [geom]
  linear_combination
    (a.radii.x * a.radii.x * (Transc.cos (a.start + a.sweep * t) * Transc.cos (a.start + a.sweep * t))
     + a.radii.y * a.radii.y * (Transc.sin (a.start + a.sweep * t) * Transc.sin (a.start + a.sweep * t))) * hφ

/-- **the chord lemma on the unit circle, through the trigonometric laws**: for `t ∈ [t0, t1]`
whose angular span `|sweep|·(t1 − t0)` is at most `2·acos((R − tol)/R)`, some `s ∈ [0,1]` puts the
chord point within `tol/R` of the arc point (on the unit circle; scaled by `R`). With `m` the
mid-angle, `h` the half-angle and `d` the offset of `t`, the three angles are `m + d`, `m − h`,
`m + h`, and the rotation by `m` is an isometry. -/
theorem unit_chord_trig (L : TrigLaws K) (a : Arc K) (R tol t0 t1 t : K) (hR : 0 < R) (ht : 0 ≤ tol)
    (h0 : t0 ≤ t) (h1 : t ≤ t1)
    (hspan : |a.sweep| * (t1 - t0) ≤ 2 * Transc.acos ((R - tol) / R)) :
    ∃ s : K, 0 ≤ s ∧ s ≤ 1 ∧
      R * R * (unitAt a t - (unitAt a t0).lerp (unitAt a t1) s).sqLen ≤ tol * tol := by
  obtain ⟨m, hm⟩ : ∃ m : K, m = a.start + a.sweep * ((t0 + t1) / 2) := ⟨_, rfl⟩
  obtain ⟨h, hh⟩ : ∃ h : K, h = a.sweep * ((t1 - t0) / 2) := ⟨_, rfl⟩
  obtain ⟨d, hd⟩ : ∃ d : K, d = a.sweep * (t - (t0 + t1) / 2) := ⟨_, rfl⟩
  have eT : a.getAngle t = m + d := by rw [Arc.getAngle, hm, hd]; ring
  have e0 : a.getAngle t0 = m + -h := by rw [Arc.getAngle, hm, hh]; ring
  have e1 : a.getAngle t1 = m + h := by rw [Arc.getAngle, hm, hh]; ring
  have hw : (0 : K) ≤ (t1 - t0) / 2 := div_nonneg (sub_nonneg.mpr (h0.trans h1)) zero_le_two
  have hhA : |h| ≤ Transc.acos ((R - tol) / R) := by
    rw [hh, abs_mul, abs_of_nonneg hw]; linear_combination (1 / 2 : K) * hspan
  have hdh : |d| ≤ |h| := by
    rw [hd, hh, abs_mul, abs_mul, abs_of_nonneg hw]
    exact mul_le_mul_of_nonneg_left (abs_le.mpr ⟨by linear_combination h0, by linear_combination h1⟩) (abs_nonneg _)
  obtain ⟨s, hs0, hs1, hs⟩ := unit_chord_core R tol (Transc.cos d) (Transc.sin d)
    (Transc.cos h) (Transc.sin h) (L.cos_sq_add_sin_sq d) (L.cos_sq_add_sin_sq h) hR.le
    (fun _ => L.cos_le_of_abs_le d h hdh (hhA.trans (L.acos_le_pi _))) (L.sagitta R tol h hR ht hhA)
  refine ⟨s, hs0, hs1, ?_⟩
  simp only [unitAt, eT, e0, e1]
  simp only [L.cos_add, L.sin_add, L.cos_neg, L.sin_neg, geom, Nat.cast_one]
  convert hs using 2
  linear_combination ((Transc.cos d - Transc.cos h) ^ 2
    + (Transc.sin d - (2 * s - 1) * Transc.sin h) ^ 2) * L.cos_sq_add_sin_sq m

end trig

section loop
variable [Transc K] [FlatConst K]

/-- `2·acos((R − tol)/R)` of `flattening_step`, `R` the largest radius -/
noncomputable def arcAng (a : Arc K) (tol : K) : K :=
  two * Transc.acos ((Scalar.max (Scalar.abs a.radii.x) (Scalar.abs a.radii.y) - tol)
    / Scalar.max (Scalar.abs a.radii.x) (Scalar.abs a.radii.y))

def ArcRangeOK (a : Arc K) (ang : K) (sg : FlatSeg K) : Prop :=
  0 ≤ sg.t0 ∧ sg.t0 ≤ sg.t1 ∧ sg.t1 ≤ 1 ∧ |a.sweep| * (sg.t1 - sg.t0) ≤ ang

theorem arc_step_eq (a iter : Arc K) (tol t0 : K) (h : ArcInv a iter t0) (h1 : t0 ≤ 1) :
    iter.flatteningStep tol
      = if Min.min (arcAng a tol / (|a.sweep| * (1 - t0))) 1 < FlatConst.epsilon then 1
        else Min.min (arcAng a tol / (|a.sweep| * (1 - t0))) 1 := by
  obtain ⟨_, hr, _, _, hs⟩ := h
  have e : |iter.sweep| = |a.sweep| * (1 - t0) := by
    rw [hs, abs_mul, abs_of_nonneg (sub_nonneg.mpr h1)]
  simp only [arcAng, Arc.flatteningStep, hr, sc_abs, sc_min, sc_one, e]
  exact if_congr Iff.rfl rfl rfl

/-- a step that does not end the loop is `ang/W` (`W = |sweep|·(1 − t0)` the remaining angle) and lies
in `[ε, 1)` -/
theorem arc_step_lt_one (a iter : Arc K) (tol t0 : K) (h : ArcInv a iter t0) (h1 : t0 ≤ 1)
    (hs : ¬ one ≤ iter.flatteningStep tol) :
    iter.flatteningStep tol = arcAng a tol / (|a.sweep| * (1 - t0))
    ∧ FlatConst.epsilon ≤ iter.flatteningStep tol ∧ iter.flatteningStep tol < 1 := by
  rw [arc_step_eq a iter tol t0 h h1]
  rw [arc_step_eq a iter tol t0 h h1, sc_one_eq] at hs
  split_ifs at hs ⊢ with hb
  · exact absurd le_rfl hs
  · have hq := (min_lt_iff.mp (not_le.mp hs)).resolve_right (lt_irrefl _)
    rw [min_eq_left hq.le] at hb ⊢
    exact ⟨rfl, not_lt.mp hb, hq⟩

/-- a step that ends the loop, when the `EPSILON` guard cannot fire (`ε·|sweep| ≤ ang`, `ε ≤ 1`): the
remaining angle is at most `ang` -/
theorem arc_step_final (a iter : Arc K) (tol t0 : K) (h : ArcInv a iter t0) (h0 : 0 ≤ t0) (h1 : t0 ≤ 1)
    (hang0 : 0 ≤ arcAng a tol) (heps1 : (FlatConst.epsilon : K) ≤ 1)
    (heps : FlatConst.epsilon * |a.sweep| ≤ arcAng a tol) (hs : one ≤ iter.flatteningStep tol) :
    |a.sweep| * (1 - t0) ≤ arcAng a tol := by
  rw [arc_step_eq a iter tol t0 h h1, sc_one_eq] at hs
  rcases (mul_nonneg (abs_nonneg a.sweep) (sub_nonneg.mpr h1)).eq_or_lt with hW | hW
  · rw [← hW]; exact hang0
  · have hq : 1 ≤ arcAng a tol / (|a.sweep| * (1 - t0)) := by
      split_ifs at hs with hb
      · -- the guard would fire: `ang/W < ε`, but `ε·W ≤ ε·|sweep| ≤ ang`
        have h2 := (min_lt_iff.mp hb).resolve_right (not_lt.mpr heps1)
        have hep : (0 : K) ≤ FlatConst.epsilon := (div_nonneg hang0 hW.le).trans h2.le
        rw [div_lt_iff₀ hW] at h2
        have := mul_le_mul_of_nonneg_left
          (mul_le_of_le_one_right (abs_nonneg a.sweep) (sub_le_self 1 h0)) hep
        exact absurd (h2.trans_le (this.trans heps)) (lt_irrefl _)
      · exact hs.trans (min_le_left _ _)
    rwa [le_div_iff₀ hW, one_mul] at hq

/-- **invariant of the flattening loop** (any radii): if the loop ends by its own `break` (the
list is no longer than the fuel — what the driver checks) and the `EPSILON` guard of
`flattening_step` does not fire on the whole arc (`ε·|sweep| ≤ 2·acos(…)`; `ε ≤ 1`), every emitted
segment has a range `0 ≤ t0 ≤ t1 ≤ 1` over an angle of at most `2·acos((R − tol)/R)`. (That it runs from
`sample t0` to `sample t1` is `arc_loop_ends_on`; that the ranges cover `[0,1]` is `chain_cover`.) -/
theorem arc_loop_ranges (a : Arc K) (tol : K) (hang0 : 0 ≤ arcAng a tol)
    (heps1 : (FlatConst.epsilon : K) ≤ 1) (heps : FlatConst.epsilon * |a.sweep| ≤ arcAng a tol)
    (f : Nat) (iter : Arc K) (t0 : K) (frm : P K)
    (hinv : ArcInv a iter t0) (h0 : 0 ≤ t0) (h1 : t0 ≤ 1)
    (hlen : (a.flatLoop tol f iter t0 frm).length ≤ f) :
    ∀ sg ∈ a.flatLoop tol f iter t0 frm, ArcRangeOK a (arcAng a tol) sg := by
  have o : (one : K) = 1 := sc_one
  induction f generalizing iter t0 frm with
  | zero => simp [Arc.flatLoop] at hlen
  | succ f ih =>
    unfold Arc.flatLoop at hlen ⊢
    by_cases hs : one ≤ iter.flatteningStep tol
    · -- the final segment: the remaining angle is at most the step
      rw [if_pos hs]
      intro sg hsg
      rw [List.mem_singleton.mp hsg]
      exact ⟨h0, h1.trans o.ge, o.le, o ▸ arc_step_final a iter tol t0 hinv h0 h1 hang0 heps1 heps hs⟩
    · rw [if_neg hs] at hlen ⊢
      obtain ⟨hst, _, hst1⟩ := arc_step_lt_one a iter tol t0 hinv h1 hs
      obtain ⟨hi, _⟩ := arc_inv_step a iter t0 (iter.flatteningStep tol) hinv
      have hW0 := mul_nonneg (abs_nonneg a.sweep) (sub_nonneg.mpr h1)
      rw [o] at hi hlen ⊢
      generalize iter.flatteningStep tol = st at hst hst1 hi hlen ⊢
      have hst0 : 0 ≤ st := hst ▸ div_nonneg hang0 hW0
      have ht1a : t0 ≤ t0 + st * (1 - t0) := le_add_of_nonneg_right (mul_nonneg hst0 (sub_nonneg.mpr h1))
      have ht1b : t0 + st * (1 - t0) ≤ 1 := by
        linear_combination mul_le_of_le_one_left (sub_nonneg.mpr h1) hst1.le
      have hspan : |a.sweep| * (t0 + st * (1 - t0) - t0) ≤ arcAng a tol := by
        rw [add_sub_cancel_left, mul_left_comm, hst, div_mul_comm]
        exact mul_le_of_le_one_left hang0 (div_self_le_one _)
      intro sg hsg
      rcases List.mem_cons.mp hsg with rfl | hsg
      · exact ⟨h0, ht1a, ht1b, hspan⟩
      · exact ih (iter.afterSplit st) _ _ hi (h0.trans ht1a) ht1b (Nat.le_of_succ_le_succ hlen) sg hsg

/-- **the loop terminates within the fuel**: each non-final step consumes exactly the angle
`2·acos(…)` of the remaining sweep, so with `remaining angle ≤ f · 2·acos(…)` the loop ends by its
own `break` after at most `f` segments (`0 < ε` excludes the field-only case `x/0 = 0`). -/
theorem arc_loop_length (a : Arc K) (tol : K) (heps0 : (0 : K) < FlatConst.epsilon)
    (f : Nat) (iter : Arc K) (t0 : K) (frm : P K)
    (hinv : ArcInv a iter t0) (h1 : t0 ≤ 1) (hf : 1 ≤ f)
    (hW : |a.sweep| * (1 - t0) ≤ f * arcAng a tol) :
    (a.flatLoop tol f iter t0 frm).length ≤ f := by
  have o : (one : K) = 1 := sc_one
  induction f generalizing iter t0 frm with
  | zero => omega
  | succ f ih =>
    unfold Arc.flatLoop
    by_cases hs : one ≤ iter.flatteningStep tol
    · rw [if_pos hs]; exact Nat.succ_le_succ (Nat.zero_le f)
    · rw [if_neg hs]
      obtain ⟨hst, hste, hst1⟩ := arc_step_lt_one a iter tol t0 hinv h1 hs
      obtain ⟨hi, _⟩ := arc_inv_step a iter t0 (iter.flatteningStep tol) hinv
      rw [o] at hi ⊢
      generalize iter.flatteningStep tol = st at hst hste hst1 hi ⊢
      -- `0 < st = ang/W < 1`: `0 < ang < W`, and the step leaves the angle `W − ang`
      obtain ⟨_, hWp⟩ := (div_pos_iff.mp (hst ▸ heps0.trans_le hste)).resolve_right
        fun h => not_lt.mpr (mul_nonneg (abs_nonneg a.sweep) (sub_nonneg.mpr h1)) h.2
      have hlt : arcAng a tol < |a.sweep| * (1 - t0) := by rwa [hst, div_lt_one hWp] at hst1
      have hWst : |a.sweep| * (1 - (t0 + st * (1 - t0))) = |a.sweep| * (1 - t0) - arcAng a tol := by
        rw [← mul_div_cancel₀ (arcAng a tol) hWp.ne', ← hst]; ring
      have hf1 : 1 ≤ f := by
        rcases Nat.eq_zero_or_pos f with h | h
        · subst h; push_cast at hW; linarith
        · exact h
      refine Nat.succ_le_succ (ih (iter.afterSplit st) _ _ hi ?_ hf1 ?_)
      · linear_combination mul_le_of_le_one_left (sub_nonneg.mpr h1) hst1.le
      · rw [hWst]; push_cast at hW; linear_combination hW

theorem arcAng_eq (a : Arc K) (tol : K) :
    arcAng a tol
      = 2 * Transc.acos ((Max.max |a.radii.x| |a.radii.y| - tol) / Max.max |a.radii.x| |a.radii.y|) := by
  simp only [arcAng, sc_two, sc_max, sc_abs]

theorem arc_flat_ranges (a : Arc K) (tol : K) (fuel : Nat) (hang0 : 0 ≤ arcAng a tol)
    (heps1 : (FlatConst.epsilon : K) ≤ 1) (heps : FlatConst.epsilon * |a.sweep| ≤ arcAng a tol)
    (hfuel : (a.forEachFlattenedWithT tol fuel).length ≤ fuel) :
    ∀ sg ∈ a.forEachFlattenedWithT tol fuel, ArcRangeOK a (arcAng a tol) sg := by
  rw [Arc.forEachFlattenedWithT, sc_zero_eq] at hfuel ⊢
  exact arc_loop_ranges a tol hang0 heps1 heps fuel a 0 a.fromPt (arc_inv_init a) le_rfl zero_le_one hfuel

theorem arc_flat_length (a : Arc K) (tol : K) (fuel : Nat) (heps0 : (0 : K) < FlatConst.epsilon) (hf : 1 ≤ fuel) (hsw : |a.sweep| ≤ fuel * arcAng a tol) :
    (a.forEachFlattenedWithT tol fuel).length ≤ fuel := by
  rw [Arc.forEachFlattenedWithT, sc_zero_eq]
  exact arc_loop_length a tol heps0 fuel a 0 a.fromPt (arc_inv_init a) zero_le_one hf
    (by rwa [sub_zero, mul_one])

end loop

end Lyon.Flat
