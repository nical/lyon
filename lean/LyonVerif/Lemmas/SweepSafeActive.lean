/-
  NO-PANIC: `update_active_edges` (`handle_intersections`, `process_intersection`, the splice).

  * the active-edge index handed to `process_intersection` comes from enumerating the active list:
    always in range (`mEdgeIdx` unreachable here), for every scalar type;
  * `assert!(is_after(intersection_position, current_position))`: after the fix-up
    `intersection_position.y = current_position.y.next_after(INFINITY)` the assertion holds whenever
    `y < next_after(y)` - true for every finite `f32` and `-inf`, for the successor on an ordered
    field; it can fail only for `y = +inf` / NaN.  Stated as `hUp`;
  * the splice range `above_start..above_end` is well-formed (`mSplice` unreachable) when the two
    on-edge tests agree (`HorizAgree`, see `SweepSafeScan.lean`).
  `handle_intersections`, `process_intersection` and `update_active_edges` are verified once, for every
  invariant `P` with `IxInv P n W`; `Core` here and `RelU` (`SweepSafeCohUpdate.lean`) are instances.
-/
import LyonVerif.Lemmas.SweepSafeBelow
import LyonVerif.Model.Tess.SweepCert

set_option linter.unusedSectionVars false
set_option mvcgen.warning false

namespace Lyon.SweepSafe
open Lyon Lyon.Scalar Lyon.Mono Lyon.Sweep Lyon.EQ Lyon.SweepCoh
open Std.Do

variable {α : Type} [Scalar α] [Wide α]
variable {tol : α} {n : Nat} {A : List String}

/-- `y < y.next_after(INFINITY)` -/
def NextUpOk (α : Type) [Scalar α] [Wide α] : Prop := ∀ y : α, y < Wide.nextUp y

theorem isAfter_nextUp (h : NextUpOk α) (x : α) (cur : P α) :
    Sweep.isAfter (⟨x, Wide.nextUp cur.y⟩ : P α) cur = true := by
  simp [Sweep.isAfter, Sources.isAfter, h cur.y]

theorem assert_ok (h : NextUpOk α) (ip0 cur : P α) : Sweep.isAfter (piIp1 cur ip0) cur = true := by
  unfold piIp1
  by_cases h0 : Sweep.isAfter ip0 cur = true
  · simp [h0]
  · simp [h0]
    exact isAfter_nextUp h _ _

theorem assert_allowed (hUp : NextUpOk α ∨ mAssert ∈ A) {ip0 cur : P α}
    (h : (!Sweep.isAfter (piIp1 cur ip0) cur) = true) : Allowed A (.panic mAssert) := by
  rcases hUp with hUp | hUp
  · rw [assert_ok hUp] at h; cases h
  · exact allowed_panic hUp

def bwOf (bl : Array (PendingEdge α)) : List Int := bl.toList.map (·.winding)

theorem bw_set {bl : Array (PendingEdge α)} {bi : Nat} {eb' : PendingEdge α}
    (h : ∀ e, bl[bi]? = some e → e.winding = eb'.winding) : bwOf (bl.setIfInBounds bi eb') = bwOf bl := by
  unfold bwOf
  apply List.ext_getElem?
  intro k
  simp only [List.getElem?_map, Array.getElem?_toList]
  rw [Array.getElem?_setIfInBounds]
  split
  · rename_i hk
    rw [← hk]
    by_cases hb : bi < bl.size
    · simp only [hb, if_true]
      have := h bl[bi] (by simp [hb])
      simp [hb, this]
    · simp [hb]
  · rfl

theorem bw_getElem {bl bl' : Array (PendingEdge α)} (h : bwOf bl' = bwOf bl) (bi : Nat) (e e' : PendingEdge α)
    (he : bl[bi]? = some e) (he' : bl'[bi]? = some e') : e'.winding = e.winding := by
  unfold bwOf at h
  have := congrArg (fun l => l[bi]?) h
  simp only [List.getElem?_map, Array.getElem?_toList, he, he', Option.map_some] at this
  exact Option.some.inj this

/-- what `handle_intersections` needs of an invariant `P`: `P` fixes the length of the active list and
the windings of the pending edges; it survives the replacement of an active edge by one with the same
merge flag and winding (whatever happens to queue and coverage bits) and of a pending edge by one that
leaves the windings as they are -/
structure IxInv (P : St α → Prop) (n : Nat) (W : List Int) : Prop where
  size : ∀ s, P s → s.active.size = n
  bw : ∀ s, P s → bwOf s.below = W
  setActive : ∀ (s : St α) i e v q c, P s → s.active[i]? = some e → sigOf v = sigOf e →
    P { s with q := q, active := s.active.setIfInBounds i v, cov := c }
  setBelow : ∀ (s : St α) bl, P s → bwOf bl = W → P { s with below := bl }

variable {P : St α → Prop} {W : List Int}

theorem processIntersection_inv (hI : IxInv P n W) (hUp : NextUpOk α ∨ mAssert ∈ A) (ta tb : Wide.W α)
    (aei : Nat) (haei : aei < n) (eb0 : PendingEdge α) (belowSeg : Seg (Wide.W α)) :
    ⦃fun s => ⌜P s⌝⦄ (processIntersection ta tb aei eb0 belowSeg : SM α (PendingEdge α))
    ⦃safePost A fun eb s => P s ∧ eb.winding = eb0.winding⦄ := by
  rw [processIntersection_eq]
  mvcgen
  case vc1 s h hx => exact absurd (hI.size s h ▸ haei) (by simpa using hx)
  case vc3 => exact assert_allowed hUp ‹_›
  -- the intersection is the current point: only `from` of the active edge moves
  case vc2 s h ae0 hx _ _ => exact hI.setActive s _ _ _ _ _ h hx rfl
  -- the cuts keep winding and merge flag of both edges
  case vc4 s h ae0 hx _ _ _ _ =>
    have ha := piAe_fields s.q s.curPos s.curEvent ae0 eb0 ta tb
      (piIp (piIp1 s.curPos (narrowP (belowSeg.sample tb))) ae0 eb0)
    exact ⟨hI.setActive s _ _ _ _ _ h hx (Prod.ext ha.2.2.1 ha.2.1), (piEb_fields _ _ _ _ _ _ _ _).2.2⟩

theorem handleIntersectionsStep_inv (hI : IxInv P n W) (hUp : NextUpOk α ∨ mAssert ∈ A) (skipS skipE : Nat) :
    ⦃fun s => ⌜P s⌝⦄ (handleIntersectionsStep skipS skipE : SM α Unit) ⦃safePost A fun _ s => P s⦄ :=
  handleIntersectionsStep_keeps skipS skipE fun bi eb x seg s hs =>
    triple_conseq (processIntersection_inv (A := A) hI hUp x.1 x.2.1 x.2.2
        (hI.size s hs.1 ▸ (hiScan_cut (M := fun _ => True) trivial (fun _ _ _ _ => trivial) _ _ _ _ hs.2.2).1.1) eb seg)
      (fun _ h => h)
      -- the edge written back has the winding of the edge read before `process_intersection`
      (fun r s' h => hI.setBelow s' _ h.1 (by
        rw [bw_set, hI.bw s' h.1]
        intro e he
        rw [h.2]
        exact bw_getElem ((hI.bw s' h.1).trans (hI.bw s hs.1).symm) _ _ _ hs.2.1 he))
      (fun _ _ h => h) s hs.1

theorem coreIx (tol : α) (n : Nat) (W : List Int) : IxInv (fun s => Core tol n [] s ∧ bwOf s.below = W) n W :=
  ⟨fun _ h => h.1.2.2, fun _ h => h.2, fun _ _ _ _ _ _ h _ _ => ⟨h.1.frame rfl rfl (by simp), h.2⟩,
    fun _ _ h hb => ⟨h.1.frame rfl rfl rfl, hb⟩⟩

theorem processIntersection_safe (hUp : NextUpOk α ∨ mAssert ∈ A) (ta tb : Wide.W α) (aei : Nat) (haei : aei < n)
    (eb0 : PendingEdge α) (belowSeg : Seg (Wide.W α)) :
    ⦃fun s => ⌜Core tol n [] s⌝⦄ (processIntersection ta tb aei eb0 belowSeg : SM α (PendingEdge α))
    ⦃safePost A fun _ s => Core tol n [] s⦄ :=
  safe_conseq fun s hs => ⟨_, _, ⟨hs, rfl⟩,
    processIntersection_inv (coreIx tol n (bwOf s.below)) hUp ta tb aei haei eb0 belowSeg, fun _ _ _ h => h.1.1⟩

theorem updateActiveEdges_inv (hI : IxInv P n W) (hUp : NextUpOk α ∨ mAssert ∈ A) (sc : Scan)
    (hSp : mSplice ∈ A ∨ sc.aboveStart ≤ sc.aboveEnd) (hend : sc.aboveEnd ≤ n) :
    ⦃fun s => ⌜P s⌝⦄ (updateActiveEdges sc : SM α Unit)
    ⦃safePost A fun _ s' => ∃ s, P s ∧ s' = spliceAt s sc.aboveStart sc.aboveEnd⦄ := by
  unfold updateActiveEdges
  have h1 := handleIntersectionsStep_inv (A := A) hI hUp
  mvcgen [h1]
  all_goals first
    | exact ⟨_, ‹P _›, rfl⟩
    | (refine hSp.elim allowed_panic fun hle => ?_
       have := hI.size _ ‹P _›
       have := ‹_ ∨ _›
       omega)

end Lyon.SweepSafe
