/-
  The discrete polyline skeleton `Lyon.Stroke.Poly` of `Model/Tess/StrokeParts.lean` (fixed-width polylines,
  bevel joins, butt caps), for `Props/C05b.lean`.  The skeleton is kept because the model family `poly` of C05 runs
  it against lyon; the complete stroker (`Model/Tess/StrokeFull.lean`) has its own window invariant `C05c.InvC`
  (`Lemmas/StrokeIdx*.lean`), which covers every join, cap and width mode: build on that one.  What both
  share is in `Lemmas/StrokeWindow.lean`.  The output grows by operations of at most 4 vertices and
  4 triangles whose triangles are proper and only use ids handed out by the end of the same operation (`MeshOp`,
  `MeshSteps`); the window invariant `Inv` of `Poly.State` says which window entries carry ids that are read
  later; the vertex count of an open sub-path without merged points is `4 + joinCost` (`NoMerge`, `NoFold`).
-/
import LyonVerif.Model.Tess.StrokeParts
import LyonVerif.Lemmas.StrokeWindow
import LyonVerif.Lemmas.ListFold
import Mathlib.Tactic.SplitIfs
import Mathlib.Algebra.Order.Field.Rat

set_option linter.unusedSectionVars false

namespace Lyon.C05b
open Lyon Scalar Lyon.Stroke Lyon.Stroke.Poly Lyon.C05

/-- `m` with the vertices `vs` (fresh consecutive ids) and the triangles `ts` appended -/
def grow (m : Mesh) (vs : List (Nat × Side)) (ts : List Tri) : Mesh :=
  ⟨m.nextId + vs.length, m.verts ++ vs, m.tris ++ ts⟩

theorem grow_nil (m : Mesh) : grow m [] [] = m := by
  cases m; simp [grow]

theorem grow_grow (m : Mesh) (a c : List (Nat × Side)) (b d : List Tri) :
    grow (grow m a b) c d = grow m (a ++ c) (b ++ d) := by
  simp [grow, Nat.add_assoc]

theorem add_eq_grow (m : Mesh) (s : Nat) (d : Side) : m.add s d = grow m [(s, d)] [] := by
  simp [Mesh.add, grow]

theorem addTris_eq_grow (m : Mesh) (t : List Tri) : m.addTris t = grow m [] t := by
  simp [Mesh.addTris, grow]

theorem addSide_eq_grow (m : Mesh) (s : Nat) (d : Side) (single : Bool) :
    m.addSide s d single = grow m (if single then [(s, d)] else [(s, d), (s, d)]) [] := by
  cases single <;> simp [Mesh.addSide, add_eq_grow, grow_grow]

/-- `m'` extends `m`: vertices and triangles are appended, the new vertices got consecutive fresh
ids, every NEW triangle has three pairwise distinct ids, all of them handed out when `m'` was
reached -/
def MeshExt (m m' : Mesh) : Prop :=
  ∃ vs ts, m' = grow m vs ts ∧ ∀ t ∈ ts, Tri.Distinct t ∧ Tri.Below t m'.nextId

/-- one operation: an extension by at most 4 vertices and at most 4 triangles -/
def MeshOp (m m' : Mesh) : Prop :=
  ∃ vs ts, m' = grow m vs ts ∧ vs.length ≤ 4 ∧ ts.length ≤ 4
    ∧ ∀ t ∈ ts, Tri.Distinct t ∧ Tri.Below t m'.nextId

/-- a run of operations -/
inductive MeshSteps : Mesh → Mesh → Prop
  | refl (m : Mesh) : MeshSteps m m
  | tail {m m' m'' : Mesh} : MeshSteps m m' → MeshOp m' m'' → MeshSteps m m''

theorem MeshExt.refl (m : Mesh) : MeshExt m m := ⟨[], [], (grow_nil m).symm, by simp⟩

theorem MeshExt.next_le {m m' : Mesh} (h : MeshExt m m') : m.nextId ≤ m'.nextId := by
  obtain ⟨vs, ts, rfl, _⟩ := h; simp [grow]

theorem MeshExt.trans {a b c : Mesh} (h1 : MeshExt a b) (h2 : MeshExt b c) : MeshExt a c := by
  have hle := h2.next_le
  obtain ⟨vs1, ts1, rfl, ht1⟩ := h1
  obtain ⟨vs2, ts2, rfl, ht2⟩ := h2
  refine ⟨vs1 ++ vs2, ts1 ++ ts2, grow_grow _ _ _ _ _, ?_⟩
  intro t ht
  rcases List.mem_append.mp ht with h | h
  · exact ⟨(ht1 t h).1, (ht1 t h).2.mono hle⟩
  · exact ht2 t h

theorem MeshOp.ext {m m' : Mesh} (h : MeshOp m m') : MeshExt m m' := by
  obtain ⟨vs, ts, e, _, _, ht⟩ := h; exact ⟨vs, ts, e, ht⟩

theorem MeshSteps.ext {m m' : Mesh} (h : MeshSteps m m') : MeshExt m m' := by
  induction h with
  | refl => exact MeshExt.refl _
  | tail _ op ih => exact ih.trans op.ext

theorem MeshSteps.trans {a b c : Mesh} (h1 : MeshSteps a b) (h2 : MeshSteps b c) : MeshSteps a c := by
  induction h2 with
  | refl => exact h1
  | tail _ op ih => exact MeshSteps.tail ih op

theorem MeshOp.steps {m m' : Mesh} (h : MeshOp m m') : MeshSteps m m' :=
  MeshSteps.tail (MeshSteps.refl m) h

def MeshOK (m : Mesh) : Prop :=
  m.nextId = m.verts.length ∧ ∀ t ∈ m.tris, Tri.Distinct t ∧ Tri.Below t m.nextId

theorem MeshExt.ok {m m' : Mesh} (h : MeshExt m m') (hm : MeshOK m) : MeshOK m' := by
  have hle := h.next_le
  obtain ⟨vs, ts, rfl, ht⟩ := h
  refine ⟨by simp [grow, hm.1], ?_⟩
  intro t htm
  rcases List.mem_append.mp (by simpa [grow] using htm) with h | h
  · exact ⟨(hm.2 t h).1, (hm.2 t h).2.mono hle⟩
  · exact ht t h

section Join
variable {α : Type} [Scalar α] [Transc α]

/-- vertices added by one join: 4 if it folds, else 3 -/
def joinVerts (hw : α) (prev join next : P α) : Nat :=
  if (joinShape prev join next hw).fold then 4 else 3

theorem joinInterior_length (i : JoinIds) (needPos needNeg : Bool) :
    (joinInterior i needPos needNeg).length ≤ 2 := by
  unfold joinInterior
  split_ifs <;> cases needPos <;> cases needNeg <;> simp

theorem joinAt_spec (hw : α) (prev join : Pt α) (nextPos : P α) (m : Mesh) :
    let r := joinAt hw prev join nextPos m
    (∃ vs, r.2.1 = grow m vs [] ∧ vs.length = joinVerts hw prev.pos join.pos nextPos ∧ vs.length ≤ 4)
    ∧ Good r.2.1.nextId r.1.ids ∧ r.1.pos = join.pos ∧ r.1.src = join.src
    ∧ r.2.2.length ≤ 2
    ∧ ∀ t ∈ r.2.2, Tri.Distinct t ∧ Tri.Below t r.2.1.nextId := by
  rcases join with ⟨jp, js, ⟨a, b, c, d, fp, fn⟩⟩
  simp only [joinAt, joinVerts, addSide_eq_grow, grow_grow]
  generalize joinShape prev.pos jp nextPos hw = sh
  rcases sh with ⟨frontNeg, fold⟩
  -- the vertex ids depend on `(frontNeg, fold)` only; the interior triangles by `join_interior_ok`
  refine ⟨?_, ?_, trivial, trivial, joinInterior_length _ _ _, join_interior_ok _ _ _ _ ?_ ?_ ?_⟩ <;>
    cases frontNeg <;> cases fold <;> simp [grow, Good]

end Join

section State
variable {α : Type} [Scalar α] [Transc α]

/-- Which entries of the window carry ids that are read later, with `n = st.mesh.nextId`:
* `count ≤ 2`: every point in the window is `Raw` (was never a join; its unset ids are never read,
  see `Raw.out0` / `Raw.in1`), and the two points of a full pair are not too close;
* `count = 3`: the second-newest point has been a join (`Good n`), the newest is `Raw` or `Good n`
  (the latter happens in `close`, which feeds the stored second endpoint again);
  `firsts = [f0, f1]` holds the first endpoint (`Raw`) and the second one after its join (`Good n`),
  and these two are not too close (`close` relies on that: its second step is never merged). -/
structure Inv (thr : α) (st : State α) : Prop where
  wf : WF st.buf
  one : st.buf.count ≤ 1 → ∀ y, st.buf.last = some y → Raw y.ids
  two : st.buf.count = 2 → ∀ x y, st.buf.lastTwo = some (x, y) →
    Raw x.ids ∧ Raw y.ids ∧ pointsAreTooClose thr x.pos y.pos = false
  three : 3 ≤ st.buf.count → ∀ x y, st.buf.lastTwo = some (x, y) →
    Good st.mesh.nextId x.ids ∧ (Raw y.ids ∨ Good st.mesh.nextId y.ids)
  firsts : 3 ≤ st.buf.count → ∃ f0 f1, st.firsts = [f0, f1] ∧ Raw f0.ids
    ∧ Good st.mesh.nextId f1.ids ∧ pointsAreTooClose thr f0.pos f1.pos = false
  nofirsts : st.buf.count ≤ 2 → st.firsts = []

theorem Inv.new (thr : α) (m : Mesh) : Inv thr (State.new m) := by
  refine ⟨WF.new _, ?_, ?_, ?_, ?_, ?_⟩ <;> simp [State.new, PointBuffer.new, PointBuffer.last]

theorem stepJoin_eq {st : State α} {x y : Pt α} (h : st.buf.lastTwo = some (x, y)) (hw : α) (next : Pt α) :
    stepJoin hw st next =
      { buf := (st.buf.replaceLast (joinAt hw x y next.pos st.mesh).1).getD st.buf
        firsts := if st.buf.count == 2 then [x, (joinAt hw x y next.pos st.mesh).1] else st.firsts
        mesh := ((if st.buf.count > 2 then
            (joinAt hw x y next.pos st.mesh).2.1.addTris
              (addEdgeTriangles x.ids (joinAt hw x y next.pos st.mesh).1.ids)
          else (joinAt hw x y next.pos st.mesh).2.1).addTris (joinAt hw x y next.pos st.mesh).2.2) } := by
  unfold stepJoin; rw [h]

theorem stepJoin_spec {thr : α} {st : State α} (hI : Inv thr st) {x y : Pt α}
    (h : st.buf.lastTwo = some (x, y)) (hw : α) (next : Pt α) :
    let st' := stepJoin hw st next
    MeshOp st.mesh st'.mesh
    ∧ st'.mesh.verts.length = st.mesh.verts.length + joinVerts hw x.pos y.pos next.pos
    ∧ WF st'.buf ∧ st'.buf.count = st.buf.count
    ∧ (∃ q, st'.buf.last = some q ∧ st'.buf.lastTwo = some (x, q) ∧ q.pos = y.pos ∧ q.src = y.src
        ∧ Good st'.mesh.nextId q.ids
        ∧ (st.buf.count = 2 → st'.firsts = [x, q]))
    ∧ (3 ≤ st.buf.count → st'.firsts = st.firsts) := by
  have hc : 2 ≤ st.buf.count := WF.lastTwo_count x y h
  have hj := joinAt_spec hw x y next.pos st.mesh
  simp only [stepJoin_eq h]
  generalize joinAt hw x y next.pos st.mesh = r at hj ⊢
  obtain ⟨q, m1, inter⟩ := r
  obtain ⟨⟨vs, hm1, hvl, hv4⟩, hq, hqp, hqs, hil, hit⟩ := hj
  simp only at hm1 hq hqp hqs hil hit ⊢
  subst hm1
  obtain ⟨b', hb, hwf', hcnt', hlast', hlt'⟩ := hI.wf.replaceLast (by omega) q
  simp only [hb, Option.getD_some]
  have hn1 : (grow st.mesh vs []).nextId = st.mesh.nextId + vs.length := rfl
  refine ⟨?_, ?_, hwf', hcnt', ⟨q, hlast', hlt' x y h, hqp, hqs, ?_, ?_⟩, ?_⟩
  · by_cases h3 : st.buf.count > 2
    · rw [if_pos h3]
      have hx : Good st.mesh.nextId x.ids := (hI.three (by omega) x y h).1
      refine ⟨vs, addEdgeTriangles x.ids q.ids ++ inter, ?_, hv4, ?_, ?_⟩
      · simp [addTris_eq_grow, grow_grow]
      · have := edge_tris_len x.ids q.ids
        simp; omega
      · intro t ht
        have hnid : ((grow st.mesh vs []).addTris (addEdgeTriangles x.ids q.ids) |>.addTris inter).nextId
            = st.mesh.nextId + vs.length := rfl
        rw [hnid]
        rcases List.mem_append.mp ht with ht | ht
        · exact edge_tris_ok _ _ _ (hx.mono (by omega)).out0 (by simpa [hn1] using hq.in1) t ht
        · simpa [hn1] using hit t ht
    · rw [if_neg h3]
      refine ⟨vs, inter, ?_, hv4, by omega, ?_⟩
      · simp [addTris_eq_grow, grow_grow]
      · intro t ht
        simpa [Mesh.addTris] using hit t ht
  · split_ifs <;> simp [Mesh.addTris, grow, hvl]
  · split_ifs <;> simpa [Mesh.addTris] using hq
  · intro h2; simp [h2]
  · intro h3
    have : ¬ st.buf.count = 2 := by omega
    simp [this]

theorem isTooClose_eq {thr : α} {st : State α} {y : Pt α} (h : st.buf.last = some y) (p : P α) :
    isTooClose thr st p = pointsAreTooClose thr y.pos p := by
  simp [isTooClose, h]

/-- `hn`: `next` is a fresh point (`Raw`), or — in `close` — a point that has been a join before -/
theorem step_spec {thr : α} {st : State α} (hI : Inv thr st) (hw : α) (next : Pt α)
    (hn : Raw next.ids ∨ (2 ≤ st.buf.count ∧ Good st.mesh.nextId next.ids)) :
    let r := step thr hw st next
    Inv thr r.1 ∧ MeshSteps st.mesh r.1.mesh
    ∧ (r.2 = false → r.1 = st ∧ isTooClose thr st next.pos = true)
    ∧ (r.2 = true → isTooClose thr st next.pos = false
        ∧ r.1.buf.count = min 3 (st.buf.count + 1) ∧ r.1.buf.last = some next
        ∧ (st.buf.count < 2 → r.1.mesh = st.mesh
            ∧ ∀ y, st.buf.last = some y → r.1.buf.lastTwo = some (y, next))
        ∧ (∀ x y, st.buf.lastTwo = some (x, y) → ∃ q, r.1.buf.lastTwo = some (q, next)
            ∧ q.pos = y.pos ∧ Good r.1.mesh.nextId q.ids
            ∧ r.1.mesh.verts.length = st.mesh.verts.length + joinVerts hw x.pos y.pos next.pos)) := by
  unfold step
  by_cases hclose : isTooClose thr st next.pos = true
  · rw [if_pos hclose]
    exact ⟨hI, MeshSteps.refl _, fun _ => ⟨rfl, hclose⟩, fun h => by simp at h⟩
  rw [if_neg hclose]
  have hclose' : isTooClose thr st next.pos = false := by simpa using hclose
  by_cases hc : st.buf.count > 1
  · rw [if_pos hc]
    obtain ⟨x, y, hxy⟩ := hI.wf.lastTwo_some (by omega)
    obtain ⟨hop, hvl, hwf1, hcnt1, ⟨q, hq1, hq2, hqp, hqs, hqg, hqf⟩, hf3⟩ := stepJoin_spec hI hxy hw next
    generalize stepJoin hw st next = st1 at hop hvl hwf1 hcnt1 hq1 hq2 hqg hqf hf3 ⊢
    obtain ⟨b', hb, hwf', hcnt', hlast', hlt'⟩ := hwf1.push next
    have hle : st.mesh.nextId ≤ st1.mesh.nextId := hop.ext.next_le
    have hc3 : b'.count = 3 := by rw [hcnt', hcnt1]; omega
    simp only [hb, Option.getD_some]
    refine ⟨⟨hwf', ?_, ?_, ?_, ?_, ?_⟩, hop.steps, fun h => by simp at h, fun _ => ⟨hclose', ?_, hlast', ?_, ?_⟩⟩
    · intro h; simp only at h; omega
    · intro h; simp only at h; omega
    · exact fun _ => of_lastTwo (hlt' q hq1) ⟨hqg, hn.imp id (fun hn => hn.2.mono hle)⟩
    · intro _
      simp only
      by_cases h2 : st.buf.count = 2
      · obtain ⟨rx, ry, rc⟩ := hI.two h2 x y hxy
        exact ⟨x, q, hqf h2, rx, hqg, by rw [hqp]; exact rc⟩
      · obtain ⟨f0, f1, e, r0, g1, c⟩ := hI.firsts (by omega)
        exact ⟨f0, f1, by rw [hf3 (by omega)]; exact e, r0, g1.mono hle, c⟩
    · intro h; simp only at h; omega
    · rw [hcnt', hcnt1]
    · intro h; omega
    · exact of_lastTwo hxy ⟨q, hlt' q hq1, hqp, hqg, hvl⟩
  · rw [if_neg hc]
    obtain ⟨b', hb, hwf', hcnt', hlast', hlt'⟩ := hI.wf.push next
    have hraw : Raw next.ids := by
      rcases hn with hn | ⟨h2, _⟩
      · exact hn
      · omega
    simp only [hb, Option.getD_some]
    refine ⟨⟨hwf', ?_, ?_, ?_, ?_, ?_⟩, MeshSteps.refl _, fun h => by simp at h, fun _ => ⟨hclose', hcnt', hlast', ?_, ?_⟩⟩
    · exact fun _ => of_last hlast' hraw
    · intro h2
      have h1 : st.buf.count = 1 := by simp only at h2; rw [hcnt'] at h2; omega
      obtain ⟨y, hy⟩ := hI.wf.last_some (by omega)
      exact of_lastTwo (hlt' y hy) ⟨hI.one (by omega) y hy, hraw, by rw [← isTooClose_eq hy]; exact hclose'⟩
    · intro h3; simp only at h3; rw [hcnt'] at h3; omega
    · intro h3; simp only at h3; rw [hcnt'] at h3; omega
    · intro _; exact hI.nofirsts (by omega)
    · intro _; exact ⟨trivial, fun y hy => hlt' y hy⟩
    · intro a b hab
      rw [lastTwo_none (by omega)] at hab; cases hab

@[simp] theorem grow_nextId (m : Mesh) (vs : List (Nat × Side)) (ts : List Tri) :
    (grow m vs ts).nextId = m.nextId + vs.length := rfl
@[simp] theorem add_nextId (m : Mesh) (s : Nat) (d : Side) : (m.add s d).nextId = m.nextId + 1 := rfl
@[simp] theorem addTris_nextId (m : Mesh) (t : List Tri) : (m.addTris t).nextId = m.nextId := rfl

/-- two fresh vertices and the triangles of the edge they end / start (`tessellate_last_edge`,
`tessellate_first_edge`, the last edge of `close`): one operation -/
theorem edge_op (m : Mesh) (s : Nat) (p0 p1 : JoinIds) (h0 : Out0 (m.nextId + 2) p0)
    (h1 : In1 (m.nextId + 2) p1) :
    MeshOp m (((m.add s .positive).add s .negative).addTris (addEdgeTriangles p0 p1)) := by
  refine ⟨[(s, .positive), (s, .negative)], addEdgeTriangles p0 p1, ?_, by simp, ?_, ?_⟩
  · simp [add_eq_grow, addTris_eq_grow, grow_grow]
  · have := edge_tris_len p0 p1; omega
  · intro t ht
    exact edge_tris_ok p0 p1 _ h0 h1 t ht

theorem pair_op (m : Mesh) (s : Nat) : MeshOp m ((m.add s .positive).add s .negative) := by
  refine ⟨[(s, .positive), (s, .negative)], [], ?_, by simp, by simp, by simp⟩
  simp [add_eq_grow, grow_grow]

theorem MeshOp.verts {m m' : Mesh} (h : MeshOp m m') : m.nextId ≤ m'.nextId := h.ext.next_le

theorem endWithCaps_spec {thr : α} {st : State α} (hI : Inv thr st) :
    MeshSteps st.mesh (endWithCaps st)
    ∧ (2 ≤ st.buf.count → (endWithCaps st).verts.length = st.mesh.verts.length + 4)
    ∧ (st.buf.count < 2 → endWithCaps st = st.mesh) := by
  by_cases hc : st.buf.count < 2
  · have : endWithCaps st = st.mesh := by unfold endWithCaps; rw [lastTwo_none hc]
    rw [this]
    exact ⟨MeshSteps.refl _, fun h => by omega, fun _ => rfl⟩
  obtain ⟨p0, p1, h⟩ := hI.wf.lastTwo_some (by omega)
  have hle := hI.wf.count_le
  refine ⟨?_, fun _ => ?_, fun h => absurd h hc⟩
  · unfold endWithCaps; rw [h]; simp only
    by_cases h3 : st.buf.count > 2
    · have hne : (st.buf.count == 2) = false := by simp; omega
      obtain ⟨f0, f1, hf, r0, g1, _⟩ := hI.firsts (by omega)
      obtain ⟨g0, g⟩ := hI.three (by omega) p0 p1 h
      simp only [hne, if_pos h3, hf, List.headD_cons, List.drop_succ_cons, List.drop_zero,
        Bool.false_eq_true, if_false]
      refine MeshSteps.tail (MeshOp.steps (edge_op _ _ _ _ ?_ ?_)) (edge_op _ _ _ _ ?_ ?_)
      · exact (g0.mono (by omega)).out0
      · rcases g with g | g
        · exact g.in1 _ (by omega)
        · exact ((g.mono (by omega : st.mesh.nextId ≤ st.mesh.nextId + 2)).setPrev _ (by omega)).in1
      · exact r0.out0 _ (by omega)
      · exact (g1.mono (by simp; omega)).in1
    · have he : (st.buf.count == 2) = true := by simp; omega
      obtain ⟨r0, r1, _⟩ := hI.two (by omega) p0 p1 h
      simp only [he, if_neg h3, if_true]
      refine MeshSteps.tail (pair_op st.mesh p1.src).steps (edge_op _ _ _ _ ?_ ?_)
      · exact r0.out0 _ (by omega)
      · exact r1.in1 _ (by simp)
  · unfold endWithCaps; rw [h]; simp only
    split_ifs <;> simp [Mesh.add, Mesh.addTris]

/-- the last edge of `close` as a function of the state after its two steps -/
def closeTail (st3 : State α) : Mesh :=
  match st3.buf.lastTwo with
  | some (q0, q1) =>
    ((st3.mesh.add q0.src .positive).add q0.src .negative).addTris
      (addEdgeTriangles { q0.ids with posNext := st3.mesh.nextId, negNext := st3.mesh.nextId + 1 } q1.ids)
  | none => st3.mesh

theorem close_eq {thr hw : α} {st : State α} {p p2 : Pt α} {rest : List (Pt α)}
    (h : st.firsts = p :: p2 :: rest) :
    close thr hw st = closeTail (step thr hw
      (if (step thr hw st p).2 then (step thr hw st p).1 else fixUp (step thr hw st p).1 p.pos) p2).1 := by
  unfold close closeTail; rw [h]; rfl

theorem fixUp_spec {thr : α} {st : State α} (hI : Inv thr st) (h3 : 3 ≤ st.buf.count) (pos : P α) :
    let st' := fixUp st pos
    Inv thr st' ∧ st'.mesh = st.mesh ∧ st'.buf.count = st.buf.count
    ∧ ∃ l, st'.buf.last = some l ∧ l.pos = pos := by
  obtain ⟨l, hl⟩ := hI.wf.last_some (by omega)
  obtain ⟨b', hb, hwf', hcnt', hlast', hlt'⟩ := hI.wf.replaceLast (by omega) { l with pos := pos }
  have e : fixUp st pos = { st with buf := b' } := by simp [fixUp, hl, hb]
  rw [e]
  refine ⟨⟨hwf', ?_, ?_, ?_, ?_, ?_⟩, rfl, hcnt', _, hlast', rfl⟩
  · intro h; simp only at h; omega
  · intro h; simp only at h; omega
  · intro _
    obtain ⟨x, y, hxy⟩ := hI.wf.lastTwo_some (by omega)
    obtain rfl := (hI.wf.lastTwo_snd hxy hl).symm
    exact of_lastTwo (hlt' x l hxy) (hI.three h3 x l hxy)
  · intro _; exact hI.firsts h3
  · intro h; simp only at h; omega

theorem close_spec {thr : α} {st : State α} (hI : Inv thr st) (hw : α) :
    MeshSteps st.mesh (close thr hw st) := by
  by_cases h3 : 3 ≤ st.buf.count
  swap
  · have : close thr hw st = st.mesh := by
      unfold close; rw [hI.nofirsts (by omega)]
    rw [this]; exact MeshSteps.refl _
  obtain ⟨f0, f1, hf, r0, g1, hfar⟩ := hI.firsts h3
  have hle := hI.wf.count_le
  rw [close_eq hf]
  obtain ⟨hI1, hs1, hfalse1, htrue1⟩ := step_spec hI hw f0 (Or.inl r0)
  have key : ∃ st2 : State α, st2 = (if (step thr hw st f0).2 then (step thr hw st f0).1
        else fixUp (step thr hw st f0).1 f0.pos)
      ∧ Inv thr st2 ∧ MeshSteps st.mesh st2.mesh ∧ st2.buf.count = 3
      ∧ ∃ l, st2.buf.last = some l ∧ l.pos = f0.pos := by
    refine ⟨_, rfl, ?_⟩
    cases hr : (step thr hw st f0).2
    · obtain ⟨e, _⟩ := hfalse1 hr
      obtain ⟨a, b, d, l, hl, hp⟩ := fixUp_spec hI h3 f0.pos
      simp only [e, Bool.false_eq_true, if_false]
      exact ⟨a, by rw [b]; exact MeshSteps.refl _, by rw [d]; omega, l, hl, hp⟩
    · obtain ⟨_, hcnt, hlast, _, _⟩ := htrue1 hr
      simp only [if_true]
      exact ⟨hI1, hs1, by rw [hcnt]; omega, f0, hlast, rfl⟩
  obtain ⟨st2, he, hI2, hs2, hc2, l, hl, hlp⟩ := key
  rw [← he]
  -- second step: never merged
  obtain ⟨hI3, hs3, hfalse3, htrue3⟩ :=
    step_spec hI2 hw f1 (Or.inr ⟨by omega, g1.mono hs2.ext.next_le⟩)
  have hr3 : (step thr hw st2 f1).2 = true := by
    cases hr : (step thr hw st2 f1).2
    · have := (hfalse3 hr).2
      rw [isTooClose_eq hl, hlp, hfar] at this; cases this
    · rfl
  obtain ⟨x, y, hxy⟩ := hI2.wf.lastTwo_some (by omega)
  obtain ⟨q, hq, _, gq, _⟩ := (htrue3 hr3).2.2.2.2 x y hxy
  refine (hs2.trans hs3).trans (MeshOp.steps ?_)
  unfold closeTail; rw [hq]; simp only
  apply edge_op
  · exact ((gq.mono (by omega : _ ≤ _ + 2)).setNext _ (by omega)).out0
  · exact (g1.mono (by have := (hs2.trans hs3).ext.next_le; omega)).in1

theorem finish_spec {thr : α} {st : State α} (hI : Inv thr st) (hw : α) (closed : Bool) :
    MeshSteps st.mesh (finish thr hw st closed) := by
  unfold finish
  split_ifs
  · exact close_spec hI hw
  · exact (endWithCaps_spec hI).1

/-- the `line_to` loop of one sub-path -/
def feedPts (thr hw : α) (st : State α) (src : Nat) (pts : List (P α)) : State α × Nat :=
  pts.foldl (fun (acc : State α × Nat) p => ((step thr hw acc.1 (Pt.new p acc.2)).1, acc.2 + 1)) (st, src)

theorem raw_new (p : P α) (src : Nat) : Raw (Pt.new p src).ids := ⟨rfl, rfl⟩

theorem feedPts_spec (thr hw : α) (pts : List (P α)) (st : State α) (src : Nat) (hI : Inv thr st) :
    Inv thr (feedPts thr hw st src pts).1 ∧ MeshSteps st.mesh (feedPts thr hw st src pts).1.mesh :=
  foldl_inv (fun acc : State α × Nat => Inv thr acc.1 ∧ MeshSteps st.mesh acc.1.mesh) _ pts _ ⟨hI, MeshSteps.refl _⟩
    fun acc h p _ =>
      let r := step_spec h.1 hw (Pt.new p acc.2) (Or.inl (raw_new p acc.2))
      ⟨r.1, h.2.trans r.2.1⟩

theorem subPath_eq (thr hw : α) (m : Mesh) (src : Nat) (pts : List (P α)) (closed : Bool) :
    subPath thr hw m src pts closed = finish thr hw (feedPts thr hw (State.new m) src pts).1 closed := rfl

theorem subPath_spec (thr hw : α) (m : Mesh) (src : Nat) (pts : List (P α)) (closed : Bool) :
    MeshSteps m (subPath thr hw m src pts closed) := by
  rw [subPath_eq]
  obtain ⟨hI, hs⟩ := feedPts_spec thr hw pts (State.new m) src (Inv.new thr m)
  exact hs.trans (finish_spec hI hw closed)

theorem path_spec (tolerance lineWidth : α) (subs : List (List (P α) × Bool)) :
    MeshSteps ⟨0, [], []⟩ (path tolerance lineWidth subs) := by
  unfold path
  simp only
  generalize squareMergeThreshold tolerance lineWidth = thr
  generalize lineWidth * half = hw
  exact foldl_inv (fun acc : Mesh × Nat => MeshSteps ⟨0, [], []⟩ acc.1) _ subs _ (MeshSteps.refl _)
    fun acc h s _ => h.trans (subPath_spec thr hw acc.1 acc.2 s.1 s.2)

/-- vertices contributed by the interior joins of the polyline `pts`: 3 per join, 4 if it folds -/
def joinCost (hw : α) : List (P α) → Nat
  | a :: b :: c :: rest => joinVerts hw a b c + joinCost hw (b :: c :: rest)
  | _ => 0

def foldCount (hw : α) : List (P α) → Nat
  | a :: b :: c :: rest => (if (joinShape a b c hw).fold then 1 else 0) + foldCount hw (b :: c :: rest)
  | _ => 0

/-- no interior join folds -/
def NoFold (hw : α) : List (P α) → Prop
  | a :: b :: c :: rest => (joinShape a b c hw).fold = false ∧ NoFold hw (b :: c :: rest)
  | _ => True

theorem joinCost_eq (hw : α) : ∀ (pts : List (P α)),
    joinCost hw pts = 3 * (pts.length - 2) + foldCount hw pts
  | [] => rfl
  | [_] => rfl
  | [_, _] => rfl
  | a :: b :: c :: rest => by
    have ih := joinCost_eq hw (b :: c :: rest)
    simp only [joinCost, foldCount, joinVerts, ih, List.length_cons]
    split_ifs <;> omega

theorem foldCount_noFold (hw : α) : ∀ (pts : List (P α)), NoFold hw pts → foldCount hw pts = 0
  | [], _ => rfl
  | [_], _ => rfl
  | [_, _], _ => rfl
  | a :: b :: c :: rest, h => by
    have ih := foldCount_noFold hw (b :: c :: rest) h.2
    simp [foldCount, h.1, ih]

theorem step_added {thr : α} {st : State α} (hw : α) (next : Pt α)
    (h : isTooClose thr st next.pos = false) : (step thr hw st next).2 = true := by
  unfold step; rw [if_neg (by simp [h])]

theorem feedPts_cons (thr hw : α) (st : State α) (src : Nat) (p : P α) (ps : List (P α)) :
    feedPts thr hw st src (p :: ps) = feedPts thr hw (step thr hw st (Pt.new p src)).1 (src + 1) ps := rfl

theorem feedPts_verts (thr hw : α) (rest : List (P α)) : ∀ (st : State α) (src : Nat) (a b : Pt α),
    Inv thr st → st.buf.lastTwo = some (a, b) → NoMerge thr (b.pos :: rest) →
    2 ≤ (feedPts thr hw st src rest).1.buf.count
    ∧ (feedPts thr hw st src rest).1.mesh.verts.length
        = st.mesh.verts.length + joinCost hw (a.pos :: b.pos :: rest) := by
  induction rest with
  | nil =>
    intro st src a b hI hab _
    exact ⟨WF.lastTwo_count a b hab, rfl⟩
  | cons c rest ih =>
    intro st src a b hI hab hm
    obtain ⟨hfar, hm'⟩ := hm
    have hlast := hI.wf.lastTwo_last a b hab
    have hnot : isTooClose thr st (Pt.new c src).pos = false := by
      rw [isTooClose_eq hlast]; exact hfar
    obtain ⟨hI1, _, _, htrue⟩ := step_spec hI hw (Pt.new c src) (Or.inl (raw_new c src))
    obtain ⟨_, _, _, _, hjoin⟩ := htrue (step_added hw _ hnot)
    obtain ⟨q, hq, hqp, _, hv⟩ := hjoin a b hab
    obtain ⟨h2, hlen⟩ := ih _ (src + 1) q (Pt.new c src) hI1 hq hm'
    rw [feedPts_cons]
    refine ⟨h2, ?_⟩
    rw [hlen, hv, hqp]
    simp only [joinCost, Pt.new]
    omega

theorem isTooClose_new (thr : α) (m : Mesh) (p : P α) : isTooClose thr (State.new m) p = false := by
  simp [isTooClose, State.new, PointBuffer.new, PointBuffer.last]

theorem subPath_open_verts (thr hw : α) (m : Mesh) (src : Nat) (pts : List (P α))
    (h2 : 2 ≤ pts.length) (hm : NoMerge thr pts) :
    (subPath thr hw m src pts false).verts.length = m.verts.length + 4 + joinCost hw pts := by
  match pts, h2, hm with
  | a :: b :: rest, _, hm =>
    obtain ⟨hfar, hm'⟩ := hm
    rw [subPath_eq, feedPts_cons, feedPts_cons]
    obtain ⟨hI1, _, _, htrue1⟩ := step_spec (Inv.new thr m) hw (Pt.new a src) (Or.inl (raw_new a src))
    obtain ⟨_, hc1, hl1, hlow1, _⟩ := htrue1 (step_added hw _ (isTooClose_new thr m a))
    have hm1 := (hlow1 (by simp [State.new, PointBuffer.new])).1
    have hc1' : (step thr hw (State.new m) (Pt.new a src)).1.buf.count = 1 := by
      rw [hc1]; simp [State.new, PointBuffer.new]
    generalize (step thr hw (State.new m) (Pt.new a src)).1 = st1 at hI1 hc1' hl1 hm1 ⊢
    have hnot : isTooClose thr st1 (Pt.new b (src + 1)).pos = false := by
      rw [isTooClose_eq hl1]; exact hfar
    obtain ⟨hI2, _, _, htrue2⟩ := step_spec hI1 hw (Pt.new b (src + 1)) (Or.inl (raw_new b _))
    obtain ⟨_, _, _, hlow2, _⟩ := htrue2 (step_added hw _ hnot)
    obtain ⟨hm2, hl2⟩ := hlow2 (by omega)
    have hab := hl2 _ hl1
    generalize (step thr hw st1 (Pt.new b (src + 1))).1 = st2 at hI2 hm2 hab ⊢
    obtain ⟨hcnt, hlen⟩ := feedPts_verts thr hw rest st2 (src + 1 + 1) _ _ hI2 hab hm'
    obtain ⟨hI3, _⟩ := feedPts_spec thr hw rest st2 (src + 1 + 1) hI2
    have hfin : ∀ st : State α, finish thr hw st false = endWithCaps st := by
      intro st; simp [finish]
    rw [hfin, (endWithCaps_spec hI3).2.1 hcnt, hlen, hm2, hm1]
    show m.verts.length + joinCost hw (a :: b :: rest) + 4 = _
    omega

end State

/-- vertices / triangles of a list of blocks (one block per operation) -/
def vertsOf (bs : List (List (Nat × Side) × List Tri)) : List (Nat × Side) := (bs.map (·.1)).flatten
def trisOf (bs : List (List (Nat × Side) × List Tri)) : List Tri := (bs.map (·.2)).flatten

theorem MeshSteps.trace {m0 m : Mesh} (h : MeshSteps m0 m) :
    ∃ bs : List (List (Nat × Side) × List Tri), m = grow m0 (vertsOf bs) (trisOf bs)
      ∧ ∀ pre b post, bs = pre ++ b :: post → b.1.length ≤ 4 ∧ b.2.length ≤ 4
        ∧ ∀ t ∈ b.2, Tri.Distinct t ∧ Tri.Below t (m0.nextId + (vertsOf pre).length + b.1.length) := by
  induction h with
  | refl => exact ⟨[], by simp [vertsOf, trisOf, grow_nil], by simp⟩
  | tail _ op ih =>
    obtain ⟨bs, rfl, hb⟩ := ih
    obtain ⟨vs, ts, rfl, hv, ht, hok⟩ := op
    refine ⟨bs ++ [(vs, ts)], by simp [vertsOf, trisOf, grow_grow], ?_⟩
    intro pre b post e
    rcases List.eq_nil_or_concat post with rfl | ⟨post', x, rfl⟩
    · have e' : bs ++ [(vs, ts)] = pre ++ [b] := e
      obtain ⟨rfl, hbx⟩ := List.append_inj' e' rfl
      simp only [List.cons.injEq, and_true] at hbx
      subst hbx
      refine ⟨hv, ht, ?_⟩
      simpa [Nat.add_assoc] using hok
    · have e' : bs ++ [(vs, ts)] = (pre ++ b :: post') ++ [x] := by simpa using e
      obtain ⟨rfl, _⟩ := List.append_inj' e' rfl
      exact hb pre b post' rfl

/-- A `Transc ℚ` for the concrete `example`s of `Props/C05b.lean` - `C05e.lean` (evaluated by kernel reduction):
`sqrt` is exact on the squares of `0..64` and `1` elsewhere; the other functions are not used by
`Poly`.  The theorems hold for every instance, so for this one too. -/
@[instance_reducible] def toyTransc : Transc ℚ where
  sqrt q := (((List.range 65).find? (fun k => decide ((k : ℚ) * k = q))).map (fun k => (k : ℚ))).getD 1
  cbrt := id
  sin := id
  cos := id
  tan := id
  acos := id
  atan2 := fun a _ => a
  pow := fun a _ => a
  log2 := id
  ln := id
  floor := id
  ceil := id
  toNat := fun _ => 0
  fmod := fun a _ => a
  eps := 0
  pi := 3
  isNaN := fun _ => false
  isFinite := fun _ => true

end Lyon.C05b
