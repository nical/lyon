/-
  Helper lemmas for the stored route of a transform (C16 `transform_commutes*`, C14
  `transformed_*`): `Path::apply_transform` (an `IdIter` walk writing through `points[id]`,
  `Model/Path/Adapters.lean`) evaluated on exactly the storage a builder program produces
  (`emitPts` / `emitVerbs` of the C14 lemmas): the result is the storage of the transformed
  program (`stored_transform`; every index of the walk is in bounds since the result is `some`;
  `applyAll_close_in_bounds` says it of the `End{close: true}` write, for C14).  For the
  views of the transformed path in `Props/C14.lean`: a point map on endpoints that carry their
  attributes (`mapA`), and reversal (`Lemmas/PathReversed.lean`) commutes with a point map.
  Mathlib-free.
-/
import LyonVerif.Model.Path.Adapters
import LyonVerif.Lemmas.Adapters
import LyonVerif.Lemmas.PathMore
import LyonVerif.Lemmas.PathReversed

namespace Lyon.Adapt
open Lyon Lyon.Path

variable {S : Type} [Inhabited S]
set_option linter.unusedSectionVars false
set_option linter.unusedSimpArgs false

theorem emitVerbs_map (g : Pt S → Pt S) (prog : Prog S) :
    emitVerbs (prog.map (mapCall g)) = emitVerbs prog := by
  induction prog with
  | nil => rfl
  | cons c r ih =>
    cases c with
    | end_ cl => cases cl <;> simp [emitVerbs, mapCall, ih]
    | _ => simp [emitVerbs, mapCall, ih]

theorem attrsOk_map (g : Pt S → Pt S) (n : Nat) (prog : Prog S) :
    attrsOk n (prog.map (mapCall g)) = attrsOk n prog := by
  induction prog with
  | nil => rfl
  | cons c r ih => cases c <;> simp [attrsOk, mapCall, ih]

theorem applyAt_length (g : Pt S → Pt S) (pre : List (Pt S)) (x : Pt S) (r : List (Pt S)) :
    applyAt g (pre ++ x :: r) pre.length = some (pre ++ g x :: r) := by
  have h : (pre ++ x :: r).modify pre.length g = pre ++ g x :: r := by
    induction pre with
    | nil => simp
    | cons a t ih => simpa using ih
  simp [applyAt, h]

theorem applyAt_length' (g : Pt S → Pt S) (pre : List (Pt S)) (x : Pt S) (r : List (Pt S))
    (i : Nat) (h : i = pre.length) : applyAt g (pre ++ x :: r) i = some (pre ++ g x :: r) := by
  subst h; exact applyAt_length g pre x r

theorem applyAt_some (g : Pt S → Pt S) (pts q : List (Pt S)) (i : Nat)
    (h : applyAt g pts i = some q) : i < pts.length ∧ q.length = pts.length := by
  unfold applyAt at h
  split at h
  · cases h; exact ⟨by assumption, by simp⟩
  · cases h

theorem applyEvent_length (g : Pt S → Pt S) (stride : Nat) (pts q : List (Pt S)) (e : Event Nat)
    (h : applyEvent g stride pts e = some q) : q.length = pts.length := by
  cases e with
  | begin a => exact (applyAt_some g _ _ _ h).2
  | line a b => exact (applyAt_some g _ _ _ h).2
  | quad a c b =>
    obtain ⟨q1, h1, h⟩ := Option.bind_eq_some_iff.1 h
    rw [(applyAt_some g _ _ _ h).2, (applyAt_some g _ _ _ h1).2]
  | cubic a c d b =>
    obtain ⟨q1, h1, h⟩ := Option.bind_eq_some_iff.1 h
    obtain ⟨q2, h2, h⟩ := Option.bind_eq_some_iff.1 h
    rw [(applyAt_some g _ _ _ h).2, (applyAt_some g _ _ _ h2).2, (applyAt_some g _ _ _ h1).2]
  | end_ l f cl =>
    cases cl with
    | true => exact (applyAt_some g _ _ _ h).2
    | false => simp only [applyEvent] at h; cases h; rfl

/-- if the whole walk succeeds, the write performed for every `End { close: true }` event —
index `last + stride + 1` — is inside the storage -/
theorem applyAll_close_in_bounds (g : Pt S → Pt S) (stride : Nat) (evs : List (Event Nat))
    (pts q : List (Pt S)) (h : applyAll g stride evs pts = some q) :
    q.length = pts.length ∧
      ∀ last first, Event.end_ last first true ∈ evs → last + stride + 1 < pts.length := by
  induction evs generalizing pts with
  | nil => simp only [applyAll] at h; cases h; simp
  | cons e r ih =>
    obtain ⟨q1, h1, h⟩ := Option.bind_eq_some_iff.1 h
    have hl := applyEvent_length g stride pts q1 e h1
    obtain ⟨hq, hr⟩ := ih q1 h
    refine ⟨by rw [hq, hl], ?_⟩
    intro last first hm
    rcases List.mem_cons.mp hm with he | hm'
    · subst he
      exact (applyAt_some g _ _ _ h1).1
    · rw [← hl]; exact hr last first hm'

/-- the walk of `apply_transform` over the id program of a stored program rewrites the program's
slots into the storage of the transformed program, every index inside the storage, whatever
precedes and follows: every position slot written by a `begin / line_to / quadratic_bezier_to /
cubic_bezier_to` is transformed, and so is the copy of the first point that `end(true)` stores
(lyon commit f78412c3; before it that slot kept the untransformed point); the attribute slots are
untouched.  (`f`, `fa` = the builder's `first`, `first_attributes`, untransformed.)  `pre` is
the storage before the program's slots (already walked; its length is the id of the first slot),
`post` what follows; both are kept.  Inside a sub-path (`hst`) the current endpoint sits one
endpoint block — a position and `n` attributes, `attribStride n + 1` slots — before the
program's slots; `end(true)` writes the copy of the first point at `current + stride + 1`. -/
theorem applyAll_idProg (g : Pt S → Pt S) (n : Nat) (prog : Prog S) (st : Option (Nat × Nat))
    (f : Pt S) (fa : List S) (pre post : List (Pt S))
    (hn : wellNestedFrom st.isSome prog = true) (ha : attrsOk n prog = true) (hfa : fa.length = n)
    (hst : ∀ x ∈ st, x.2 + (attribStride n + 1) = pre.length) :
    applyAll g (attribStride n) (specFrom st (idProg (attribStride n + 1) pre.length prog))
        (pre ++ (emitPts f fa prog ++ post))
      = some (pre ++ (emitPts (g f) fa (prog.map (mapCall g)) ++ post)) := by
  induction prog generalizing st f fa pre with
  | nil => cases st <;> simp [idProg, specFrom, emitPts, applyAll]
  | cons c r ih =>
    cases st with
    | none =>
      cases c with
      | begin p a =>
        simp only [attrsOk, Bool.and_eq_true, beq_iff_eq] at ha
        have := ih (some (pre.length, pre.length)) p a (pre ++ endpointPts (g p) a)
          (by simpa [wellNestedFrom] using hn) ha.2 ha.1 (by simp [endpointPts_length, ha.1])
        simp only [idProg, idCall, callWidth, specFrom, applyAll, applyEvent, emitPts, List.map_cons, mapCall,
          endpointPts, List.cons_append, applyAt_length g pre p _, Option.bind_some]
        simpa [endpointPts, packAttrs_length, ha.1, List.append_assoc] using this
      | _ => simp [wellNestedFrom] at hn
    | some fc =>
      obtain ⟨first, cur⟩ := fc
      have hcur : cur + (attribStride n + 1) = pre.length := hst _ rfl
      cases c with
      | begin p a => simp [wellNestedFrom] at hn
      | line p a =>
        simp only [attrsOk, Bool.and_eq_true, beq_iff_eq] at ha
        have := ih (some (first, pre.length)) f fa (pre ++ endpointPts (g p) a)
          (by simpa [wellNestedFrom] using hn) ha.2 hfa (by simp [endpointPts_length, ha.1])
        simp only [idProg, idCall, callWidth, specFrom, applyAll, applyEvent, emitPts, List.map_cons, mapCall,
          endpointPts, List.cons_append, applyAt_length g pre p _, Option.bind_some]
        simpa [endpointPts, packAttrs_length, ha.1, List.append_assoc] using this
      | quad k p a =>
        simp only [attrsOk, Bool.and_eq_true, beq_iff_eq] at ha
        have := ih (some (first, pre.length + 1)) f fa (pre ++ g k :: endpointPts (g p) a)
          (by simpa [wellNestedFrom] using hn) ha.2 hfa (by simp [endpointPts_length, ha.1]; omega)
        have h2 := applyAt_length' g (pre ++ [g k]) p (packAttrs a ++ (emitPts f fa r ++ post))
          (pre.length + 1) (by simp)
        simp only [List.append_assoc, List.singleton_append] at h2
        simp only [idProg, idCall, callWidth, specFrom, applyAll, applyEvent, emitPts, List.map_cons, mapCall,
          endpointPts, List.cons_append, List.append_assoc, applyAt_length g pre k _,
          Option.bind_some, h2]
        simpa [endpointPts, packAttrs_length, ha.1, List.append_assoc, Nat.add_assoc,
          show 1 + (attribStride n + 1) = attribStride n + 2 by omega] using this
      | cubic k1 k2 p a =>
        simp only [attrsOk, Bool.and_eq_true, beq_iff_eq] at ha
        have := ih (some (first, pre.length + 2)) f fa (pre ++ g k1 :: g k2 :: endpointPts (g p) a)
          (by simpa [wellNestedFrom] using hn) ha.2 hfa (by simp [endpointPts_length, ha.1]; omega)
        have h2 := applyAt_length' g (pre ++ [g k1]) k2
          (p :: (packAttrs a ++ (emitPts f fa r ++ post))) (pre.length + 1) (by simp)
        have h3 := applyAt_length' g (pre ++ [g k1, g k2]) p
          (packAttrs a ++ (emitPts f fa r ++ post)) (pre.length + 2) (by simp)
        simp only [List.append_assoc, List.singleton_append, List.cons_append, List.nil_append] at h2 h3
        simp only [idProg, idCall, callWidth, specFrom, applyAll, applyEvent, emitPts, List.map_cons, mapCall,
          endpointPts, List.cons_append, List.append_assoc, applyAt_length g pre k1 _,
          Option.bind_some, h2, h3]
        simpa [endpointPts, packAttrs_length, ha.1, List.append_assoc, Nat.add_assoc,
          show 2 + (attribStride n + 1) = attribStride n + 3 by omega] using this
      | end_ cl =>
        simp only [attrsOk] at ha
        cases cl with
        | true =>
          -- `last + stride + 1` is the slot of the copy of `first` that `end(true)` stored
          have := ih none f fa (pre ++ endpointPts (g f) fa)
            (by simpa [wellNestedFrom] using hn) ha hfa (by simp)
          simp only [idProg, idCall, callWidth, specFrom, applyAll, applyEvent, emitPts, List.map_cons, mapCall,
            endpointPts, List.cons_append,
            applyAt_length' g pre f _ (cur + attribStride n + 1) (by omega), Option.bind_some]
          simpa [endpointPts, packAttrs_length, hfa, List.append_assoc] using this
        | false =>
          have := ih none f fa pre (by simpa [wellNestedFrom] using hn) ha hfa (by simp)
          simpa [idProg, idCall, callWidth, specFrom, applyAll, applyEvent, emitPts, mapCall] using this

/-- `apply_transform` on the storage `Path::builder_with_attributes(n)` holds for a valid
program: no index of the walk is outside the storage, and the result is the storage of the
transformed program — transforming after storing = storing through `builder::Transformed`, slot
for slot (so EVERY view of the transformed path is the view of the transformed program). -/
theorem stored_transform (g : Pt S → Pt S) (n : Nat) (prog : Prog S)
    (hn : WellNested prog) (ha : attrsOk n prog = true) :
    applyTransform g ⟨emitPts zeroPt (List.replicate n default) prog, emitVerbs prog, n⟩
      = some ⟨emitPts zeroPt (List.replicate n default) (prog.map (mapCall g)),
              emitVerbs (prog.map (mapCall g)), n⟩ := by
  have hI := idIterGo_emit (attribStride n + 1) prog none hn 0 0 0 (fun _ => rfl) (by simp)
  have hA := applyAll_idProg g n prog none zeroPt (List.replicate n default) [] [] hn ha
    (by simp) (by simp)
  simp only [List.nil_append, List.append_nil, List.length_nil] at hA
  have hirr := emitPts_indep (prog.map (mapCall g)) (by rw [wellNestedFrom_map]; exact hn)
    (g zeroPt) zeroPt (List.replicate n default) (List.replicate n default)
  simp only [applyTransform, PathData.idIter, hI, hA, Option.map_some, hirr, emitVerbs_map]

/-- `path.transformed(g).iter()` on the path stored from a valid program = the transformed
events of the program; no read or write outside the storage. -/
theorem stored_transform_iter (g : Pt S → Pt S) (n : Nat) (prog : Prog S)
    (hn : WellNested prog) (ha : attrsOk n prog = true) :
    (applyTransform g
        ⟨emitPts zeroPt (List.replicate n default) prog, emitVerbs prog, n⟩).bind PathData.iter
      = some ((specEvents prog).map (mapEvent g)) := by
  rw [stored_transform g n prog hn ha, Option.bind_some]
  have hB := iterGo_emit n (prog.map (mapCall g)) none zeroPt (List.replicate n default)
    zeroPt zeroPt (by rw [Option.isSome_none, wellNestedFrom_map]; exact hn) (by rw [attrsOk_map]; exact ha)
    (by simp) (by simp)
  have hs := specFrom_map g none prog
  simp only [Option.map_none] at hs
  simp only [PathData.iter, hB, specEvents, hs]

/-! ## For the views of a transformed stored path (`Props/C14.lean`) -/

/-- a point map acting on an endpoint that carries its attributes (attributes untouched) -/
def mapA (g : Pt S → Pt S) (q : APt S) : APt S := (g q.1, q.2)

theorem aCall_map (g : Pt S → Pt S) (prog : Prog S) :
    (prog.map (mapCall g)).map Path.aCall = (prog.map Path.aCall).map (mapCall (mapA g)) := by
  simp only [List.map_map]
  congr 1; funext c
  cases c <;> rfl

theorem specEvents_aCall_map (g : Pt S → Pt S) (prog : Prog S) :
    specEvents ((prog.map (mapCall g)).map Path.aCall)
      = (specEvents (prog.map Path.aCall)).map (mapEvent (mapA g)) := by
  rw [aCall_map]
  simpa [specEvents] using specFrom_map (mapA g) none (prog.map Path.aCall)

theorem withPoints_fst_mapA (g : Pt S → Pt S) (e : Event (APt S)) :
    withPoints Prod.fst (mapEvent (mapA g) e) = mapEvent g (withPoints Prod.fst e) := by
  cases e <;> simp [withPoints, mapEvent, mapA]

theorem revGo_map {π π' : Type} (h : π → π') (evs : List (Event π)) (nc : Bool) (fst : Option π) :
    revGo (evs.map (mapEvent h)) nc (fst.map h) = (revGo evs nc fst).map (mapEvent h) := by
  induction evs generalizing nc fst with
  | nil => rfl
  | cons e r ih =>
    cases e with
    | begin a =>
      have := ih false none
      cases fst <;> simp_all [revGo, mapEvent]
    | line a b => simpa [revGo, mapEvent] using ih nc fst
    | quad a c b => simpa [revGo, mapEvent] using ih nc fst
    | cubic a c d b => simpa [revGo, mapEvent] using ih nc fst
    | end_ l f cl => simpa [revGo, mapEvent] using ih cl (some l)

theorem reverseEvents_map {π π' : Type} (h : π → π') (evs : List (Event π)) :
    reverseEvents (evs.map (mapEvent h)) = (reverseEvents evs).map (mapEvent h) := by
  simpa [reverseEvents, List.map_reverse] using revGo_map h evs.reverse false none

end Lyon.Adapt
