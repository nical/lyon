/-
  C03d — the two curves the shape helpers draw a circle with, and how far each is from the circle.

  builder.rs `add_circle` and `add_rounded_rectangle` draw every quarter circle as ONE cubic Bézier
  with the magic constant `CONSTANT_FACTOR = 0.55191505` (not the `4/3·tan(θ/4)` of the arc code of
  C13): from `ctr + ρ·u` to `ctr + ρ·v` (`u ⟂ v` unit vectors) with control points
  `ctr + ρ·(u + k·v)`, `ctr + ρ·(v + k·u)` (`QuarterArc`).  Then `B(t) = ctr + ρ·(b(t)·u + b(1−t)·v)` with
  `b = bern k`, and `b(t)² + b(1−t)² = 1 + s²·(α − β·s)`, `s = t(1−t)`, for EVERY `k` (`bern_sq_sum`).  The bounds of
  `s²(α − βs)` on `[0, 1/4]` are lemmas about variables `α`, `β`; lyon's constant enters through `quart_kC` only and
  gives `(ρ(1 − 2·10⁻⁴))² ≤ |B(t) − ctr|² ≤ (ρ(1 + 2·10⁻⁴))²` (`QuarterArc.radial`).

  fill.rs `FillBuilder::add_circle` draws the circle as eight quadratics with the decimal constants
  `tan(π/8) = 0.41421357` and `FRAC_1_SQRT_2`: from `ctr + ρ·u` with control point `ctr + ρ·(u + τ·v)` to
  `ctr + ρ·k·(u + v)`, and the mirror image from there on to `ctr + ρ·v` (`EighthArc`).  The squared radius is
  `1 + A·(t(1−t))² + e₂t² + e₄t⁴`, where `e₂`, `e₄` vanish for the exact constants (`eighth_poly`, `eighth_consts`):
  `ρ²(1 − 10⁻⁷) ≤ |Q(t) − ctr|² ≤ (1.0032·ρ)²` (`EighthArc.radial`).
-/
import LyonVerif.Model.Path.Shapes
import LyonVerif.Lemmas.Field
import LyonVerif.Lemmas.Hull
import Mathlib.Tactic.Positivity
import Mathlib.Tactic.NormNum

set_option linter.unusedSectionVars false

namespace Lyon.C03d
open Lyon Lyon.Path Lyon.PathShapes

variable {K : Type} [Field K] [LinearOrder K] [IsStrictOrderedRing K]

/-- the weight of the start direction `u` along the quarter cubic with constant `k` -/
def bern (k t : K) : K := (1 - t) ^ 3 + 3 * (1 - t) ^ 2 * t + 3 * k * (1 - t) * t ^ 2

/-- `CONSTANT_FACTOR` as a field element -/
def kC : K := 55191505 / 10 ^ 8

theorem circleK_eq : (circleK : K) = kC := by simp [circleK, kC, ofSci_eq]

theorem bern_nonneg (k t : K) (hk : 0 ≤ k) (h0 : 0 ≤ t) (h1 : t ≤ 1) : 0 ≤ bern k t := by
  have : 0 ≤ 1 - t := sub_nonneg.2 h1
  unfold bern; positivity

theorem bern_le_one (k t : K) (hk : k ≤ 1) (h0 : 0 ≤ t) (h1 : t ≤ 1) : bern k t ≤ 1 := by
  -- `1 − b(t) = t³ + 3(1 − k)(1 − t)t²`
  unfold bern
  linear_combination pow_nonneg h0 3
    + 3 * mul_nonneg (mul_nonneg (sub_nonneg.2 hk) (sub_nonneg.2 h1)) (sq_nonneg t)

/-- `α` and `β` of the squared radius, `κ = 3(1 − k)` -/
def quartA (k : K) : K := (3 * (1 - k)) ^ 2 - 8 * (3 * (1 - k)) + 9
def quartB (k : K) : K := 2 * (3 * (1 - k) - 1) ^ 2

/-- **the squared radius of the quarter cubic, for every constant `k`** -/
theorem bern_sq_sum (k t : K) :
    bern k t ^ 2 + bern k (1 - t) ^ 2 = 1 + (t * (1 - t)) ^ 2 * (quartA k - quartB k * (t * (1 - t))) := by
  unfold bern quartA quartB; ring

theorem unit_mul_le_quarter {t : K} (h0 : 0 ≤ t) (h1 : t ≤ 1) : 0 ≤ t * (1 - t) ∧ t * (1 - t) ≤ 1 / 4 :=
  ⟨mul_nonneg h0 (sub_nonneg.2 h1), by linear_combination sq_nonneg (t - 1 / 2)⟩

/-- on `[0, 1/4]`, when `α ≤ β/4`: `α − βs ≥ α − β/4`, which is `≤ 0`, and `s² ≤ 1/16` -/
theorem sq_cubic_lower {α β s : K} (h0 : 0 ≤ s) (h1 : s ≤ 1 / 4) (hβ : 0 ≤ β) (hα : α ≤ β / 4) :
    (α - β / 4) / 16 ≤ s ^ 2 * (α - β * s) := by
  have a : 0 ≤ s ^ 2 * (β * (1 / 4 - s)) := mul_nonneg (sq_nonneg s) (mul_nonneg hβ (sub_nonneg.2 h1))
  have b : 0 ≤ (1 / 4 - s) * (1 / 4 + s) * (β / 4 - α) :=
    mul_nonneg (mul_nonneg (sub_nonneg.2 h1) (by linear_combination h0)) (sub_nonneg.2 hα)
  linear_combination a + b

/-- for `s ≥ 0` the cubic `s²(α − βs)` has its maximum `4α³/27β²` at `2α/3β`; with any `s₀` not below
that point: `βs₀³/2 − s²(α − βs) = β(s − s₀)²(s + s₀/2) + (3/2·βs₀ − α)s²` -/
theorem sq_cubic_upper {α β s s₀ : K} (h0 : 0 ≤ s) (hβ : 0 ≤ β) (hs₀ : 0 ≤ s₀) (hα : α ≤ 3 / 2 * β * s₀) :
    s ^ 2 * (α - β * s) ≤ β * s₀ ^ 3 / 2 := by
  have a : 0 ≤ β * ((s - s₀) ^ 2 * (s + s₀ / 2)) := by positivity
  have b : 0 ≤ (3 / 2 * β * s₀ - α) * s ^ 2 := mul_nonneg (sub_nonneg.2 hα) (sq_nonneg s)
  linear_combination a + b

/-- what is used of lyon's constant: `α ≈ 0.05`, `β ≈ 0.24`, `2α/3β < s₀ = 0.1491` -/
theorem quart_kC :
    quartA (kC : K) ≤ quartB kC / 4 ∧ -(4 / 10 ^ 4) + 4 / 10 ^ 8 ≤ (quartA (kC : K) - quartB kC / 4) / 16 ∧
    quartA (kC : K) ≤ 3 / 2 * quartB kC * (1491 / 10 ^ 4) ∧
    quartB (kC : K) * (1491 / 10 ^ 4) ^ 3 / 2 ≤ 4 / 10 ^ 4 + 4 / 10 ^ 8 := by
  simp only [quartA, quartB, kC]; norm_num

theorem radial_poly_bounds (t : K) (h0 : 0 ≤ t) (h1 : t ≤ 1) :
    (1 - 2 / 10 ^ 4 : K) ^ 2 ≤ bern kC t ^ 2 + bern kC (1 - t) ^ 2 ∧
    bern kC t ^ 2 + bern kC (1 - t) ^ 2 ≤ (1 + 2 / 10 ^ 4 : K) ^ 2 := by
  obtain ⟨hs0, hs4⟩ := unit_mul_le_quarter h0 h1
  obtain ⟨c1, c2, c3, c4⟩ := quart_kC (K := K)
  have hβ : (0 : K) ≤ quartB kC := by unfold quartB; positivity
  have lo := sq_cubic_lower hs0 hs4 hβ c1
  have hi := sq_cubic_upper hs0 hβ (by positivity) c3
  rw [bern_sq_sum]
  exact ⟨by linear_combination lo + c2, by linear_combination hi + c4⟩

theorem sqLen_orthonormal_comb {ctr u v p : P K} {ρ a b : K} (hu : u.x * u.x + u.y * u.y = 1)
    (hv : v.x * v.x + v.y * v.y = 1) (huv : u.x * v.x + u.y * v.y = 0)
    (hx : p.x = ctr.x + ρ * (a * u.x + b * v.x)) (hy : p.y = ctr.y + ρ * (a * u.y + b * v.y)) :
    (p - ctr).sqLen = ρ ^ 2 * (a ^ 2 + b ^ 2) := by
  simp only [P.sub_def, P.sqLen, hx, hy]
  linear_combination (ρ ^ 2 * a ^ 2) * hu + (ρ ^ 2 * b ^ 2) * hv + (2 * ρ ^ 2 * a * b) * huv

/-- a cubic that is lyon's quarter circle of radius `ρ` about `ctr` from direction `u` to
direction `v` (orthonormal) -/
structure QuarterArc (ctr : P K) (ρ : K) (u v : P K) (q : Cubic K) : Prop where
  hu : u.x * u.x + u.y * u.y = 1
  hv : v.x * v.x + v.y * v.y = 1
  huv : u.x * v.x + u.y * v.y = 0
  ax : q.a.x = ctr.x + ρ * u.x
  ay : q.a.y = ctr.y + ρ * u.y
  c1x : q.c1.x = ctr.x + ρ * (u.x + kC * v.x)
  c1y : q.c1.y = ctr.y + ρ * (u.y + kC * v.y)
  c2x : q.c2.x = ctr.x + ρ * (v.x + kC * u.x)
  c2y : q.c2.y = ctr.y + ρ * (v.y + kC * u.y)
  bx : q.b.x = ctr.x + ρ * v.x
  bY : q.b.y = ctr.y + ρ * v.y

namespace QuarterArc
variable {ctr : P K} {ρ : K} {u v : P K} {q : Cubic K}

/-- the same curve drawn backwards (the `Winding::Negative` order) -/
theorem flip (h : QuarterArc ctr ρ u v q) : QuarterArc ctr ρ v u ⟨q.b, q.c2, q.c1, q.a⟩ :=
  ⟨h.hv, h.hu, by linear_combination h.huv, h.bx, h.bY, h.c2x, h.c2y, h.c1x, h.c1y, h.ax, h.ay⟩

theorem sample_eq (h : QuarterArc ctr ρ u v q) (t : K) :
    q.sample t = ⟨ctr.x + ρ * (bern kC t * u.x + bern kC (1 - t) * v.x),
                  ctr.y + ρ * (bern kC t * u.y + bern kC (1 - t) * v.y)⟩ := by
  apply P.ext' <;>
    simp only [Cubic.sample, P.add_def, P.smul, sc_one, sc_three, h.ax, h.ay, h.c1x, h.c1y, h.c2x, h.c2y, h.bx, h.bY,
      bern] <;>
    ring

theorem sqDist (h : QuarterArc ctr ρ u v q) (t : K) :
    (q.sample t - ctr).sqLen = ρ ^ 2 * (bern kC t ^ 2 + bern kC (1 - t) ^ 2) :=
  sqLen_orthonormal_comb h.hu h.hv h.huv (congrArg P.x (h.sample_eq t)) (congrArg P.y (h.sample_eq t))

/-- **radial error of the quarter cubic**: every point is within `2·10⁻⁴·ρ` of the circle of
radius `ρ` about `ctr` (squared form) -/
theorem radial (h : QuarterArc ctr ρ u v q) (t : K) (h0 : 0 ≤ t) (h1 : t ≤ 1) :
    (ρ * (1 - 2 / 10 ^ 4)) ^ 2 ≤ (q.sample t - ctr).sqLen ∧
    (q.sample t - ctr).sqLen ≤ (ρ * (1 + 2 / 10 ^ 4)) ^ 2 := by
  obtain ⟨lo, hi⟩ := radial_poly_bounds t h0 h1
  rw [h.sqDist, mul_pow, mul_pow]
  have : 0 ≤ ρ ^ 2 := sq_nonneg ρ
  exact ⟨mul_le_mul_of_nonneg_left lo this, mul_le_mul_of_nonneg_left hi this⟩

/-- the end points are exactly on the circle and the end tangents are perpendicular to the radii -/
theorem ends (h : QuarterArc ctr ρ u v q) :
    (q.a - ctr).sqLen = ρ ^ 2 ∧ (q.b - ctr).sqLen = ρ ^ 2 ∧
    (q.c1 - q.a).dot (q.a - ctr) = 0 ∧ (q.b - q.c2).dot (q.b - ctr) = 0 := by
  simp only [P.sub_def, P.sqLen, P.dot, h.ax, h.ay, h.bx, h.bY, h.c1x, h.c1y, h.c2x, h.c2y]
  refine ⟨?_, ?_, ?_, ?_⟩
  · linear_combination (ρ ^ 2) * h.hu
  · linear_combination (ρ ^ 2) * h.hv
  · linear_combination (ρ ^ 2 * kC) * h.huv
  · linear_combination (-(ρ ^ 2 * kC)) * h.huv

/-- the weights are in `[0,1]`: the curve stays in the square spanned by `ρ·u`, `ρ·v` at `ctr` -/
theorem in_corner (h : QuarterArc ctr ρ u v q) (t : K) (h0 : 0 ≤ t) (h1 : t ≤ 1) :
    ∃ a b : K, 0 ≤ a ∧ a ≤ 1 ∧ 0 ≤ b ∧ b ≤ 1 ∧
      q.sample t = ⟨ctr.x + ρ * (a * u.x + b * v.x), ctr.y + ρ * (a * u.y + b * v.y)⟩ := by
  have hk0 : (0 : K) ≤ kC := by unfold kC; positivity
  have hk1 : (kC : K) ≤ 1 := by unfold kC; norm_num
  exact ⟨bern kC t, bern kC (1 - t), bern_nonneg _ _ hk0 h0 h1, bern_le_one _ _ hk1 h0 h1,
    bern_nonneg _ _ hk0 (sub_nonneg.2 h1) (sub_le_self 1 h0), bern_le_one _ _ hk1 (sub_nonneg.2 h1) (sub_le_self 1 h0),
    h.sample_eq t⟩

end QuarterArc

/-- `tan_pi_over_8 = 0.41421357` as a field element -/
def tC : K := 41421357 / 10 ^ 8
/-- `FRAC_1_SQRT_2` (the decimal of the model) as a field element -/
def kS : K := 70710678118654752440 / 10 ^ 20

theorem tanPi8_eq : (tanPi8 : K) = tC := by simp [tanPi8, tC, ofSci_eq]
theorem frac1Sqrt2_eq : (frac1Sqrt2 : K) = kS := by simp [frac1Sqrt2, kS, ofSci_eq]

/-- weights of `u` and `v` along the eighth-circle quadratic -/
def qa (t : K) : K := 1 - (1 - kS) * t ^ 2
def qb (t : K) : K := 2 * tC * t - (2 * tC - kS) * t ^ 2

/-- the coefficients of the squared radius: `A ≈ 0.1005`; `e₂`, `e₄` vanish for the exact `tan(π/8)`, `1/√2` -/
def eighthA : K := 2 * tC * (2 * tC - kS)
def eighthE2 : K := 4 * tC ^ 2 - 2 * (1 - kS) - 2 * tC * (2 * tC - kS)
def eighthE4 : K := (1 - kS) ^ 2 + (2 * tC - kS) ^ 2 - 2 * tC * (2 * tC - kS)

theorem eighth_poly (t : K) :
    qa t ^ 2 + qb t ^ 2 = 1 + eighthA * (t * (1 - t)) ^ 2 + eighthE2 * t ^ 2 + eighthE4 * t ^ 4 := by
  unfold qa qb eighthA eighthE2 eighthE4; ring

/-- what is used of the two decimal constants -/
theorem eighth_consts :
    (0 : K) ≤ eighthA ∧ (eighthA : K) ≤ 1006 / 10 ^ 4 ∧
    -(4 / 10 ^ 8 : K) ≤ eighthE2 ∧ (eighthE2 : K) ≤ 4 / 10 ^ 8 ∧
    -(4 / 10 ^ 8 : K) ≤ eighthE4 ∧ (eighthE4 : K) ≤ 4 / 10 ^ 8 := by
  simp only [eighthA, eighthE2, eighthE4, tC, kS]; norm_num

theorem mul_unit_bounds {e ε x : K} (hl : -ε ≤ e) (hu : e ≤ ε) (h0 : 0 ≤ x) (h1 : x ≤ 1) :
    -ε ≤ e * x ∧ e * x ≤ ε := by
  have a := mul_le_mul_of_nonneg_right hu h0
  have b := mul_le_mul_of_nonneg_right hl h0
  have c := mul_le_of_le_one_right (by linear_combination (1 / 2) * hl + (1 / 2) * hu : 0 ≤ ε) h1
  exact ⟨by linear_combination b + c, by linear_combination a + c⟩

theorem eighth_poly_bounds (t : K) (h0 : 0 ≤ t) (h1 : t ≤ 1) :
    (1 - 1 / 10 ^ 7 : K) ≤ qa t ^ 2 + qb t ^ 2 ∧ qa t ^ 2 + qb t ^ 2 ≤ (1 + 32 / 10 ^ 4 : K) ^ 2 := by
  obtain ⟨hs0, hs4⟩ := unit_mul_le_quarter h0 h1
  obtain ⟨a0, a1, l2, u2, l4, u4⟩ := eighth_consts (K := K)
  obtain ⟨b2lo, b2hi⟩ := mul_unit_bounds l2 u2 (sq_nonneg t) (pow_le_one₀ h0 h1)
  obtain ⟨b4lo, b4hi⟩ := mul_unit_bounds l4 u4 (pow_nonneg h0 4) (pow_le_one₀ h0 h1)
  have bA0 : 0 ≤ eighthA * (t * (1 - t)) ^ 2 := mul_nonneg a0 (sq_nonneg _)
  have bA1 : eighthA * (t * (1 - t)) ^ 2 ≤ 1006 / 10 ^ 4 * (1 / 4) ^ 2 :=
    mul_le_mul a1 (pow_le_pow_left₀ hs0 hs4 2) (sq_nonneg _) (by positivity)
  rw [eighth_poly]
  exact ⟨by linear_combination bA0 + b2lo + b4lo, by linear_combination bA1 + b2hi + b4hi⟩

/-- a quadratic that is the first half of lyon's quarter circle: from direction `u` to the
diagonal `k·(u + v)` (orthonormal `u`, `v`) -/
structure EighthArc (ctr : P K) (ρ : K) (u v : P K) (q : Quad K) : Prop where
  hu : u.x * u.x + u.y * u.y = 1
  hv : v.x * v.x + v.y * v.y = 1
  huv : u.x * v.x + u.y * v.y = 0
  ax : q.a.x = ctr.x + ρ * u.x
  ay : q.a.y = ctr.y + ρ * u.y
  cx : q.c.x = ctr.x + ρ * (u.x + tC * v.x)
  cy : q.c.y = ctr.y + ρ * (u.y + tC * v.y)
  bx : q.b.x = ctr.x + ρ * (kS * (u.x + v.x))
  bY : q.b.y = ctr.y + ρ * (kS * (u.y + v.y))

namespace EighthArc
variable {ctr : P K} {ρ : K} {u v : P K} {q : Quad K}

theorem sample_eq (h : EighthArc ctr ρ u v q) (t : K) :
    q.sample t = ⟨ctr.x + ρ * (qa t * u.x + qb t * v.x), ctr.y + ρ * (qa t * u.y + qb t * v.y)⟩ := by
  apply P.ext' <;>
    simp only [Quad.sample, P.add_def, P.smul, sc_one, sc_two, h.ax, h.ay, h.cx, h.cy, h.bx, h.bY, qa, qb] <;> ring

theorem sqDist (h : EighthArc ctr ρ u v q) (t : K) :
    (q.sample t - ctr).sqLen = ρ ^ 2 * (qa t ^ 2 + qb t ^ 2) :=
  sqLen_orthonormal_comb h.hu h.hv h.huv (congrArg P.x (h.sample_eq t)) (congrArg P.y (h.sample_eq t))

/-- **radial error of the eighth-circle quadratic**: `ρ²(1 − 10⁻⁷) ≤ |Q(t) − ctr|² ≤ (1.0032·ρ)²` -/
theorem radial (h : EighthArc ctr ρ u v q) (t : K) (h0 : 0 ≤ t) (h1 : t ≤ 1) :
    ρ ^ 2 * (1 - 1 / 10 ^ 7) ≤ (q.sample t - ctr).sqLen ∧
    (q.sample t - ctr).sqLen ≤ (ρ * (1 + 32 / 10 ^ 4)) ^ 2 := by
  obtain ⟨lo, hi⟩ := eighth_poly_bounds t h0 h1
  rw [h.sqDist, mul_pow]
  have : 0 ≤ ρ ^ 2 := sq_nonneg ρ
  exact ⟨mul_le_mul_of_nonneg_left lo this, mul_le_mul_of_nonneg_left hi this⟩

end EighthArc

/-- `flip().sample(t) = sample(1 − t)` -/
theorem quad_flip_sample (q : Quad K) (t : K) : q.flip.sample t = q.sample (1 - t) :=
  Hull.quad_flip_sample q t

end Lyon.C03d
