/-
  The mesh of `fill_circle`, resolved: the combinatorial part, without trigonometry.

  `fillBorderRadius c a0 a1 r va vb n m` (model of `fill_border_radius`, `Model/Tess/BasicShapes.lean`) subdivides the
  cap between the chord `A → B` (the positions of the vertices `va`, `vb`) and the polyline through the mid-angle
  vertices.  The index buffer is resolved ONCE to a list of point triples (`border_resolved`, `circleMesh_resolved`,
  `covered_iff`); the cover is proved about that list (`cap_covers`, `circleTris_cover`).

  "Inner side" of an edge `e = (U, V)` is `0 ≤ (V − U) × (p − U)`; the statements here are about half-planes and hold
  for every choice of the functions `cos`, `sin`.  That the leaf edges are the sides of the inscribed regular
  `4·2ⁿ`-gon, and what the half-planes contain, is `Lemmas/CircleCoverTrig.lean`.
-/
import LyonVerif.Props.C03

set_option linter.unusedSectionVars false

namespace Lyon.C03c
open Lyon Lyon.Shapes Lyon.C03

variable {K : Type} [Field K] [LinearOrder K] [IsStrictOrderedRing K] [Transc K]

abbrev Tri3 (K : Type) := P K × P K × P K

noncomputable section

/-- the point of the circle at angle `a`, exactly the expression of `fill_border_radius`:
`center + vector(a.cos(), a.sin()) * radius` -/
def pos (c : P K) (r a : K) : P K := c + (⟨Transc.cos a, Transc.sin a⟩ : P K).smul r

/-- `p` lies in (the closed triangle of) some triangle of the mesh -/
def Covered (m : Mesh K) (p : P K) : Prop :=
  ∃ t ∈ m.tris, ∃ A B C : P K, m.verts[t.1]? = some A ∧ m.verts[t.2.1]? = some B ∧
    m.verts[t.2.2]? = some C ∧ inTri A B C p

/-- `m'` has `m`'s vertices and triangles as prefixes (the vertices alone, `Extends.prefix`, resolve indices; the
triangles are what `Extends.covered` needs) -/
def Extends (m m' : Mesh K) : Prop :=
  (∃ ev, m'.verts = m.verts ++ ev) ∧ (∃ et, m'.tris = m.tris ++ et)

theorem Extends.refl (m : Mesh K) : Extends m m := ⟨⟨[], by simp⟩, ⟨[], by simp⟩⟩

theorem Extends.trans {m1 m2 m3 : Mesh K} (h12 : Extends m1 m2) (h23 : Extends m2 m3) : Extends m1 m3 := by
  obtain ⟨⟨ev, hv⟩, ⟨et, ht⟩⟩ := h12
  obtain ⟨⟨ev', hv'⟩, ⟨et', ht'⟩⟩ := h23
  exact ⟨⟨ev ++ ev', by rw [hv', hv, List.append_assoc]⟩, ⟨et ++ et', by rw [ht', ht, List.append_assoc]⟩⟩

theorem Extends.vert {m m' : Mesh K} (h : Extends m m') {i : Nat} {A : P K}
    (hi : m.verts[i]? = some A) : m'.verts[i]? = some A := by
  obtain ⟨⟨ev, hv⟩, _⟩ := h
  have hlt : i < m.verts.length := by
    by_contra hc
    rw [List.getElem?_eq_none (not_lt.1 hc)] at hi
    exact absurd hi (by simp)
  rw [hv, List.getElem?_append_left hlt]
  exact hi

theorem Extends.covered {m m' : Mesh K} (h : Extends m m') {p : P K} (hc : Covered m p) : Covered m' p := by
  obtain ⟨t, ht, A, B, C, hA, hB, hC, hin⟩ := hc
  obtain ⟨_, ⟨et, hte⟩⟩ := id h
  exact ⟨t, by rw [hte]; exact List.mem_append_left _ ht, A, B, C, h.vert hA, h.vert hB, h.vert hC, hin⟩

theorem border_extends (c : P K) (a0 a1 r : K) (va vb n : Nat) (m : Mesh K) :
    Extends m (fillBorderRadius c a0 a1 r va vb n m) := by
  induction n generalizing a0 a1 va vb m with
  | zero => exact Extends.refl m
  | succ n ih =>
    simp only [fillBorderRadius]
    refine Extends.trans (Extends.trans ?_ (ih _ _ _ _ _)) (ih _ _ _ _ _)
    exact ⟨⟨[_], rfl⟩, ⟨[_], rfl⟩⟩

/-- the edges of the finest polyline of a `fill_border_radius` call of depth `n` between the
points `A` (at angle `a0`) and `B` (at angle `a1`), in order from `A` to `B` -/
def leafEdges (c : P K) (r : K) : Nat → K → K → P K → P K → List (P K × P K)
  | 0, _, _, A, B => [(A, B)]
  | n+1, a0, a1, A, B =>
    leafEdges c r n a0 ((a0 + a1) * Scalar.half) A (pos c r ((a0 + a1) * Scalar.half)) ++
    leafEdges c r n ((a0 + a1) * Scalar.half) a1 (pos c r ((a0 + a1) * Scalar.half)) B

/-- `p` is on the inner (left) side of the directed edge `e`, boundary included -/
def Inner (e : P K × P K) (p : P K) : Prop := 0 ≤ (e.2 - e.1).cross (p - e.1)

theorem leafEdges_length (c : P K) (r : K) (n : Nat) (a0 a1 : K) (A B : P K) :
    (leafEdges c r n a0 a1 A B).length = 2 ^ n := by
  induction n generalizing a0 a1 A B with
  | zero => rfl
  | succ n ih => simp only [leafEdges, List.length_append, ih]; rw [pow_succ]; ring

/-- a triangle of the index buffer with its vertex ids resolved (`d` for an invalid id: never used,
`C03.circle_tris_distinct`) -/
def ptsOf (vs : List (P K)) (d : P K) (t : Tri) : Tri3 K := (vs.getD t.1 d, vs.getD t.2.1 d, vs.getD t.2.2 d)

/-- the triangles of a mesh as point triples, in emission order -/
def meshTris (m : Mesh K) (d : P K) : List (Tri3 K) := m.tris.map (ptsOf m.verts d)

theorem getD_of_getElem? (l : List (P K)) (d X : P K) (i : Nat) (h : l[i]? = some X) : l.getD i d = X := by
  simp [List.getD, h]

theorem getElem?_getD (l : List (P K)) (d : P K) (i : Nat) (h : i < l.length) : l[i]? = some (l.getD i d) := by
  simp [List.getD, List.getElem?_eq_getElem h]

theorem Extends.prefix {m m' : Mesh K} (h : Extends m m') : m.verts <+: m'.verts := h.1.imp fun _ e => e.symm

theorem getD_of_prefix {l V : List (P K)} (h : l <+: V) (d : P K) {i : Nat} {X : P K} (hi : l[i]? = some X) :
    V.getD i d = X := by
  obtain ⟨s, rfl⟩ := h
  have hlt : i < l.length := by
    by_contra hc
    rw [List.getElem?_eq_none (not_lt.1 hc)] at hi
    exact absurd hi (by simp)
  simp [List.getD, List.getElem?_append_left hlt, hi]

theorem covered_iff {m : Mesh K} (hok : ∀ t ∈ m.tris, TriOK m.verts.length t) (d p : P K) :
    Covered m p ↔ ∃ T ∈ meshTris m d, inTri T.1 T.2.1 T.2.2 p := by
  constructor
  · rintro ⟨t, ht, A, B, C, hA, hB, hC, hin⟩
    refine ⟨_, List.mem_map_of_mem ht, ?_⟩
    simpa only [ptsOf, getD_of_getElem? _ d _ _ hA, getD_of_getElem? _ d _ _ hB, getD_of_getElem? _ d _ _ hC]
      using hin
  · rintro ⟨T, hT, hin⟩
    obtain ⟨t, ht, rfl⟩ := List.mem_map.1 hT
    obtain ⟨-, -, -, x, y, z⟩ := hok t ht
    exact ⟨t, ht, _, _, _, getElem?_getD _ d _ x, getElem?_getD _ d _ y, getElem?_getD _ d _ z, hin⟩

/-- the triangles `fill_border_radius` emits (depth `n`, between `A` at angle `a0` and `B` at
angle `a1`), as point triples in emission order -/
def capTris (c : P K) (r : K) : Nat → K → K → P K → P K → List (Tri3 K)
  | 0, _, _, _, _ => []
  | n+1, a0, a1, A, B =>
    (B, pos c r ((a0 + a1) * Scalar.half), A) ::
      (capTris c r n a0 ((a0 + a1) * Scalar.half) A (pos c r ((a0 + a1) * Scalar.half)) ++
       capTris c r n ((a0 + a1) * Scalar.half) a1 (pos c r ((a0 + a1) * Scalar.half)) B)

/-- **what a border call appends**, resolved against any vertex list `V` that extends the one the call returns
(later calls only append vertices): exactly `capTris` to the triangle list, and the end points of its leaf
edges are vertices -/
theorem border_resolved (c d : P K) (r : K) (n : Nat) (a0 a1 : K) (va vb : Nat) (m : Mesh K) (A B : P K)
    (hA : m.verts[va]? = some A) (hB : m.verts[vb]? = some B) (V : List (P K))
    (hV : (fillBorderRadius c a0 a1 r va vb n m).verts <+: V) :
    (fillBorderRadius c a0 a1 r va vb n m).tris.map (ptsOf V d)
      = m.tris.map (ptsOf V d) ++ capTris c r n a0 a1 A B ∧
    ∀ e ∈ leafEdges c r n a0 a1 A B, e.1 ∈ V ∧ e.2 ∈ V := by
  induction n generalizing a0 a1 va vb m A B with
  | zero =>
    refine ⟨by simp [fillBorderRadius, capTris], fun e he => ?_⟩
    rw [List.mem_singleton.1 he]
    exact ⟨hV.subset (List.mem_of_getElem? hA), hV.subset (List.mem_of_getElem? hB)⟩
  | succ n ih =>
    set mid := (a0 + a1) * Scalar.half
    set m1 : Mesh K := ⟨m.verts ++ [pos c r mid], m.tris ++ [(vb, m.verts.length, va)]⟩ with hm1
    set m2 := fillBorderRadius c a0 mid r va m.verts.length n m1
    change (fillBorderRadius c mid a1 r m.verts.length vb n m2).verts <+: V at hV
    show (fillBorderRadius c mid a1 r m.verts.length vb n m2).tris.map (ptsOf V d) = _ ∧ _
    have e1 : Extends m m1 := ⟨⟨[_], rfl⟩, ⟨[_], rfl⟩⟩
    have e2 : Extends m1 m2 := border_extends ..
    have hM : m1.verts[m.verts.length]? = some (pos c r mid) := by simp [hm1]
    have p2 : m2.verts <+: V := (border_extends ..).prefix.trans hV
    have p1 : m1.verts <+: V := e2.prefix.trans p2
    obtain ⟨t2, v2⟩ := ih mid a1 _ vb m2 _ B (e2.vert hM) ((e1.trans e2).vert hB) hV
    obtain ⟨t1, v1⟩ := ih a0 mid va _ m1 A _ (e1.vert hA) hM p2
    refine ⟨?_, fun e he => (List.mem_append.1 he).elim (v1 e) (v2 e)⟩
    rw [t2, t1]
    simp only [hm1, List.map_append, List.map_cons, List.map_nil, ptsOf, capTris, List.append_assoc,
      List.cons_append, List.nil_append, getD_of_prefix p1 d (e1.vert hB), getD_of_prefix p1 d hM,
      getD_of_prefix p1 d (e1.vert hA)]
    rfl

theorem step_tri (A M B p : P K) (h1 : 0 ≤ (M - A).cross (p - A)) (h2 : 0 ≤ (B - M).cross (p - M))
    (h3 : (B - A).cross (p - A) ≤ 0) : inTri B M A p := by
  right
  simp only [P.cross, P.sub_def] at h1 h2 h3 ⊢
  exact ⟨by linear_combination h2, by linear_combination h1, by linear_combination h3⟩

/-- **the join law of the cover**: if the caps beyond `A → M` and beyond `M → B` are covered, a point on the
outer side of the chord `A → B` (closed) lies in one of them or else in the step triangle -/
theorem cover_join {A M B p : P K} {S1 S2 : List (Tri3 K)}
    (c1 : (M - A).cross (p - A) < 0 → ∃ T ∈ S1, inTri T.1 T.2.1 T.2.2 p)
    (c2 : (B - M).cross (p - M) < 0 → ∃ T ∈ S2, inTri T.1 T.2.1 T.2.2 p)
    (hout : (B - A).cross (p - A) ≤ 0) : ∃ T ∈ (B, M, A) :: (S1 ++ S2), inTri T.1 T.2.1 T.2.2 p := by
  by_cases h1 : (M - A).cross (p - A) < 0
  · obtain ⟨T, hT, hp⟩ := c1 h1
    exact ⟨T, List.mem_cons_of_mem _ (List.mem_append_left _ hT), hp⟩
  by_cases h2 : (B - M).cross (p - M) < 0
  · obtain ⟨T, hT, hp⟩ := c2 h2
    exact ⟨T, List.mem_cons_of_mem _ (List.mem_append_right _ hT), hp⟩
  · exact ⟨_, List.mem_cons_self, step_tri A M B p (not_lt.1 h1) (not_lt.1 h2) hout⟩

/-- **One border call covers its cap.**  A point on the inner side of all `2ⁿ` leaf edges and strictly beyond
the chord `A → B` (seen from the inner side) lies in one of the triangles of the call. -/
theorem cap_covers (c : P K) (r : K) (n : Nat) (a0 a1 : K) (A B p : P K)
    (hin : ∀ e ∈ leafEdges c r n a0 a1 A B, Inner e p) (hout : (B - A).cross (p - A) < 0) :
    ∃ T ∈ capTris c r n a0 a1 A B, inTri T.1 T.2.1 T.2.2 p := by
  induction n generalizing a0 a1 A B with
  | zero => exact absurd hout (not_lt.2 (hin (A, B) (by simp [leafEdges])))
  | succ n ih =>
    obtain ⟨h1, h2⟩ := List.forall_mem_append.1 hin
    exact cover_join (ih a0 _ A _ h1) (ih _ a1 _ B h2) hout.le

/-- the four axis vertices `fill_circle` adds first: left, up, right, down -/
def axisVerts (c : P K) (r : K) : List (P K) :=
  [c + (⟨-Scalar.one, Scalar.zero⟩ : P K).smul r, c + (⟨Scalar.zero, -Scalar.one⟩ : P K).smul r,
   c + (⟨Scalar.one, Scalar.zero⟩ : P K).smul r, c + (⟨Scalar.zero, Scalar.one⟩ : P K).smul r]

/-- the boundary edges of the mesh `fill_circle` builds with recursion depth `n`: the leaf edges
of its four `fill_border_radius` calls, with the angles the code passes -/
def circleEdges (c : P K) (r : K) (n : Nat) : List (P K × P K) :=
  let pi := (Transc.pi : K)
  leafEdges c r n pi (Scalar.ofSci 15 1 * pi) ((axisVerts c r).getD 0 c) ((axisVerts c r).getD 1 c) ++
  leafEdges c r n (Scalar.ofSci 15 1 * pi) (Scalar.two * pi) ((axisVerts c r).getD 1 c) ((axisVerts c r).getD 2 c) ++
  leafEdges c r n Scalar.zero (pi * Scalar.half) ((axisVerts c r).getD 2 c) ((axisVerts c r).getD 3 c) ++
  leafEdges c r n (pi * Scalar.half) pi ((axisVerts c r).getD 3 c) ((axisVerts c r).getD 0 c)

theorem circleEdges_length (c : P K) (r : K) (n : Nat) : (circleEdges c r n).length = 4 * 2 ^ n := by
  simp only [circleEdges, List.length_append, leafEdges_length]; ring

/-- the triangles of the circle mesh of depth `n`, as point triples: the square, then the four caps -/
def circleTris (c : P K) (r : K) (n : Nat) : List (Tri3 K) :=
  let pi := (Transc.pi : K)
  let v := fun i => (axisVerts c r).getD i c
  [(v 0, v 3, v 1), (v 1, v 3, v 2)] ++
  capTris c r n pi (Scalar.ofSci 15 1 * pi) (v 0) (v 1) ++
  capTris c r n (Scalar.ofSci 15 1 * pi) (Scalar.two * pi) (v 1) (v 2) ++
  capTris c r n Scalar.zero (pi * Scalar.half) (v 2) (v 3) ++
  capTris c r n (pi * Scalar.half) pi (v 3) (v 0)

theorem circleMesh_resolved (c : P K) (R : K) (n : Nat) :
    meshTris (circleMesh c R n) c = circleTris c R n ∧
    ∀ e ∈ circleEdges c R n, e.1 ∈ (circleMesh c R n).verts ∧ e.2 ∈ (circleMesh c R n).verts := by
  set m0 : Mesh K := ⟨axisVerts c R, [(0, 3, 1), (1, 3, 2)]⟩ with hm0
  have g : ∀ (i : Nat) (_ : i < 4 := by decide), m0.verts[i]? = some ((axisVerts c R).getD i c) :=
    fun i hi => getElem?_getD _ c i hi
  set m1 := fillBorderRadius c Transc.pi (Scalar.ofSci 15 1 * Transc.pi) R 0 1 n m0
  set m2 := fillBorderRadius c (Scalar.ofSci 15 1 * Transc.pi) (Scalar.two * Transc.pi) R 1 2 n m1
  set m3 := fillBorderRadius c Scalar.zero (Transc.pi * Scalar.half) R 2 3 n m2
  have e1 : Extends m0 m1 := border_extends ..
  have e2 : Extends m0 m2 := e1.trans (border_extends ..)
  have e3 : Extends m0 m3 := e2.trans (border_extends ..)
  set V := (circleMesh c R n).verts
  have p3 : m3.verts <+: V := (border_extends ..).prefix
  have p2 : m2.verts <+: V := (border_extends ..).prefix.trans p3
  have p1 : m1.verts <+: V := (border_extends ..).prefix.trans p2
  have p0 := e1.prefix.trans p1
  obtain ⟨t4, v4⟩ := border_resolved c c R n (Transc.pi * Scalar.half) Transc.pi 3 0 m3 _ _
    (e3.vert (g 3)) (e3.vert (g 0)) V (List.prefix_refl _)
  obtain ⟨t3, v3⟩ := border_resolved c c R n _ _ 2 3 m2 _ _ (e2.vert (g 2)) (e2.vert (g 3)) V p3
  obtain ⟨t2, v2⟩ := border_resolved c c R n _ _ 1 2 m1 _ _ (e1.vert (g 1)) (e1.vert (g 2)) V p2
  obtain ⟨t1, v1⟩ := border_resolved c c R n _ _ 0 1 m0 _ _ (g 0) (g 1) V p1
  constructor
  · refine t4.trans ?_
    rw [t3, t2, t1]
    simp only [hm0, List.map_cons, List.map_nil, ptsOf, getD_of_prefix p0 c (g 0),
      getD_of_prefix p0 c (g 1), getD_of_prefix p0 c (g 2), getD_of_prefix p0 c (g 3)]
    rfl
  · intro e he
    simp only [circleEdges, List.mem_append] at he
    rcases he with ((he | he) | he) | he
    exacts [v1 e he, v2 e he, v3 e he, v4 e he]

theorem circleMesh_meshTris (c : P K) (R : K) (n : Nat) : meshTris (circleMesh c R n) c = circleTris c R n :=
  (circleMesh_resolved c R n).1

theorem circle_meshTris (c : P K) (r tol : K) (m : Mesh K) (h : fillCircle c r tol = some m) :
    meshTris m c = circleTris c (Scalar.abs r) (circleRecursions (Scalar.abs r) tol) := by
  obtain ⟨-, rfl⟩ := fillCircle_eq h
  exact circleMesh_meshTris c _ _

theorem inTri_rot {A B C p : P K} (h : inTri A B C p) : inTri B C A p :=
  h.imp (fun h => ⟨h.2.1, h.2.2, h.1⟩) fun h => ⟨h.2.1, h.2.2, h.1⟩

/-- a point on the inner side of all boundary edges lies in a triangle of `circleTris`: each half of the square is
the step triangle over two quadrant caps (`cover_join`), and the point is on the outer side of the diagonal
`v 1 – v 3` seen from one of the halves -/
theorem circleTris_cover (c : P K) (r : K) (n : Nat) (p : P K) (hp : ∀ e ∈ circleEdges c r n, Inner e p) :
    ∃ T ∈ circleTris c r n, inTri T.1 T.2.1 T.2.2 p := by
  simp only [circleEdges, List.mem_append] at hp
  simp only [circleTris, List.mem_append, List.mem_cons, List.not_mem_nil, or_false]
  generalize (axisVerts c r).getD 0 c = v0 at hp ⊢
  generalize (axisVerts c r).getD 1 c = v1 at hp ⊢
  generalize (axisVerts c r).getD 2 c = v2 at hp ⊢
  generalize (axisVerts c r).getD 3 c = v3 at hp ⊢
  have k := fun a0 a1 A B => cap_covers c r n a0 a1 A B p
  by_cases hd : (v1 - v3).cross (p - v3) ≤ 0
  · obtain ⟨T, hT, h⟩ := cover_join (k _ _ v3 v0 fun e h => hp e (Or.inr h))
      (k _ _ v0 v1 fun e h => hp e (Or.inl (Or.inl (Or.inl h)))) hd
    rcases List.mem_cons.1 hT with rfl | hT
    · exact ⟨_, Or.inl (Or.inl (Or.inl (Or.inl (Or.inl rfl)))), inTri_rot h⟩
    · exact (List.mem_append.1 hT).elim (fun hT => ⟨T, Or.inr hT, h⟩)
        fun hT => ⟨T, Or.inl (Or.inl (Or.inl (Or.inr hT))), h⟩
  · have hd' : (v3 - v1).cross (p - v1) ≤ 0 := by
      simp only [P.cross, P.sub_def, not_le] at hd ⊢
      linear_combination hd.le
    obtain ⟨T, hT, h⟩ := cover_join (k _ _ v1 v2 fun e h => hp e (Or.inl (Or.inl (Or.inr h))))
      (k _ _ v2 v3 fun e h => hp e (Or.inl (Or.inr h))) hd'
    rcases List.mem_cons.1 hT with rfl | hT
    · exact ⟨_, Or.inl (Or.inl (Or.inl (Or.inl (Or.inr rfl)))), inTri_rot (inTri_rot h)⟩
    · exact (List.mem_append.1 hT).elim (fun hT => ⟨T, Or.inl (Or.inl (Or.inr hT)), h⟩)
        fun hT => ⟨T, Or.inl (Or.inr hT), h⟩

theorem circle_covers_edges (c : P K) (r tol : K) (m : Mesh K) (h : fillCircle c r tol = some m)
    (p : P K)
    (hp : ∀ e ∈ circleEdges c (Scalar.abs r) (circleRecursions (Scalar.abs r) tol), Inner e p) :
    Covered m p := by
  obtain ⟨-, rfl⟩ := fillCircle_eq h
  rw [covered_iff (circleMesh_tris_ok c _ _) c, circleMesh_meshTris]
  exact circleTris_cover c _ _ p hp

theorem circle_edge_verts (c : P K) (r tol : K) (m : Mesh K) (h : fillCircle c r tol = some m) :
    ∀ e ∈ circleEdges c (Scalar.abs r) (circleRecursions (Scalar.abs r) tol), e.1 ∈ m.verts ∧ e.2 ∈ m.verts := by
  obtain ⟨-, rfl⟩ := fillCircle_eq h
  exact (circleMesh_resolved c _ _).2

end

end Lyon.C03c
