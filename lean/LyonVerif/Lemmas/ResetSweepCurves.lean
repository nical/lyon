/-
  C08 on the sweep model, curved input and custom attributes: the attribute buffer
  (used by `Props/C08d.lean`).

  `Reset.interp` (the model of `FillVertex::interpolated_attributes` that scribbles on the object's
  `attrib_buffer`) on a buffer of the right length computes, for a store whose slices have the
  right length, exactly the buffer-free `SweepCurves.vertexAttrs` (= `Sources.interpAttr` per
  component, the model family `sweepc:32` ties on fresh objects): every slot is assigned from the
  first source before the other sources are added to it, so what the buffer held — zeros of a new
  tessellator, the attributes of the previous vertex, the leftovers of an earlier call with another
  attribute count — never reaches the result.
-/
import LyonVerif.Model.Tess.ResetSweepCurves
import LyonVerif.Lemmas.Reset
import LyonVerif.Lemmas.SourcesCurve


namespace Lyon.C08
open Lyon Lyon.Scalar Lyon.EQ Lyon.Sweep Lyon.SweepCurves Lyon.Reset

variable {α : Type} [Scalar α]

theorem storeL_length (ids : Array Nat) (values : Array (Array α)) (n id : Nat) :
    (storeL ids values n id).length = n := by
  simp [storeL]

theorem lenOk_toSrc (ids : Array Nat) (values : Array (Array α)) (n : Nat) (s : Sources.Source α) :
    (toSrc s).lenOk (storeL ids values n) n = true := by
  cases s <;> simp [toSrc, Src.lenOk, storeL_length]

theorem val_toSrc (ids : Array Nat) (values : Array (Array α)) (n : Nat) (s : Sources.Source α) :
    (toSrc s).val (storeL ids values n) = (List.range n).map (fun i => Sources.srcAttr (storeOf ids values) i s) := by
  cases s with
  | endpoint id => rfl
  | edge f t u =>
    simp only [toSrc, Src.val, storeL, List.zipWith_map, List.zipWith_self, Sources.srcAttr]

theorem accumulate_storeL (ids : Array Nat) (values : Array (Array α)) (n : Nat) (rest : List (Sources.Source α)) :
    ∀ (g : Nat → α) (div : α),
      accumulate (storeL ids values n) n (rest.map toSrc) ((List.range n).map g) div =
        some ((List.range n).map (fun i => rest.foldl (fun b s => b + Sources.srcAttr (storeOf ids values) i s) (g i)),
              rest.foldl (fun d _ => d + one) div) := by
  induction rest with
  | nil => intro g div; rfl
  | cons s r ih =>
    intro g div
    simp only [List.map_cons, accumulate, lenOk_toSrc, List.length_map, List.length_range, beq_self_eq_true,
      Bool.and_self, if_true, val_toSrc, List.zipWith_map, List.zipWith_self, List.foldl_cons]
    exact ih _ _

theorem interpMain_storeL (ids : Array Nat) (values : Array (Array α)) (n : Nat) (first : Sources.Source α)
    (rest : List (Sources.Source α)) (buf : List α) (hb : buf.length = n) :
    let acc := fun i => rest.foldl (fun b s => b + Sources.srcAttr (storeOf ids values) i s)
      (Sources.srcAttr (storeOf ids values) i first)
    let div := rest.foldl (fun d _ => d + one) (one : α)
    let res := (List.range n).map (fun i => if one < div then acc i / div else acc i)
    interpMain (storeL ids values n) n (toSrc first) (rest.map toSrc) buf = (.slice res, res) := by
  intro acc div res
  have hd : buf.drop n = [] := by rw [← hb]; exact List.drop_length
  have ht : ((toSrc first).val (storeL ids values n)).take n = (toSrc first).val (storeL ids values n) := by
    apply List.take_of_length_le
    rw [val_toSrc]; simp
  unfold interpMain
  simp only [lenOk_toSrc, hb, beq_self_eq_true, Bool.and_self, Bool.not_true, Bool.false_eq_true, if_false, hd, ht,
    List.append_nil]
  rw [val_toSrc, accumulate_storeL]
  by_cases h : one < div
  · simp only [res, div, h, if_true, List.map_map]
    rfl
  · simp only [res, div, h, if_false]
    rfl

/-- `interpAttr`, all components, in the shape of the general path -/
theorem interpAttr_general (S : Nat → Nat → α) (rs : List (Sources.EdgeRec α)) (first : Sources.Source α)
    (rest : List (Sources.Source α)) (h : Sources.sources rs = first :: rest)
    (hfast : ∀ id, first = .endpoint id → rest ≠ []) (i : Nat) :
    Sources.interpAttr S rs i =
      (if one < rest.foldl (fun d _ => d + one) (one : α)
        then rest.foldl (fun b s => b + Sources.srcAttr S i s) (Sources.srcAttr S i first) / rest.foldl (fun d _ => d + one) (one : α)
        else rest.foldl (fun b s => b + Sources.srcAttr S i s) (Sources.srcAttr S i first)) := by
  unfold Sources.interpAttr
  rw [h]
  cases first with
  | edge f t u => rfl
  | endpoint id =>
    cases rest with
    | nil => exact absurd rfl (hfast id rfl)
    | cons s r => rfl

/-- **`interpolated_attributes` on the object's buffer = the buffer-free `vertexAttrs`**, for every
buffer of the length `tessellate_impl` has just given it, whatever it holds -/
theorem interpVertex_storeL (ids : Array Nat) (values : Array (Array α)) (n : Nat) (recs : List (P α × EQ.EdgeData α))
    (buf : List α) (hb : buf.length = n) (hr : recs ≠ []) :
    (interpVertex (some (storeL ids values n)) n recs buf).1 = .slice (vertexAttrs ids values n recs) ∧
    (interpVertex (some (storeL ids values n)) n recs buf).2.length = n := by
  have hne : Sources.sources (recs.map recOf) ≠ [] := Sources.sources_ne_nil _ (by simpa using hr)
  unfold interpVertex vertexAttrs
  cases hs : Sources.sources (recs.map recOf) with
  | nil => exact absurd hs hne
  | cons first rest =>
    cases first with
    | endpoint id =>
      cases rest with
      | nil =>
        refine ⟨?_, hb⟩
        show IRes.slice (storeL ids values n id) = _
        congr 1
        apply List.map_congr_left
        intro i _
        unfold Sources.interpAttr
        rw [hs]
      | cons s r =>
        have e := interpMain_storeL ids values n (.endpoint id) (s :: r) buf hb
        have e' : interp (some (storeL ids values n)) n (List.map toSrc (.endpoint id :: s :: r)) buf =
            interpMain (storeL ids values n) n (toSrc (.endpoint id)) ((s :: r).map toSrc) buf := rfl
        rw [e', e]
        refine ⟨?_, by simp⟩
        show IRes.slice _ = IRes.slice _
        congr 1
        apply List.map_congr_left
        intro i _
        rw [interpAttr_general _ _ _ _ hs (fun _ _ => List.cons_ne_nil _ _)]
    | edge f t u =>
      have e := interpMain_storeL ids values n (.edge f t u) rest buf hb
      have e' : interp (some (storeL ids values n)) n (List.map toSrc (.edge f t u :: rest)) buf =
          interpMain (storeL ids values n) n (toSrc (.edge f t u)) (rest.map toSrc) buf := by
        cases rest <;> rfl
      rw [e', e]
      refine ⟨?_, by simp⟩
      show IRes.slice _ = IRes.slice _
      congr 1
      apply List.map_congr_left
      intro i _
      rw [interpAttr_general _ _ _ _ hs (fun _ h => by cases h)]

/-- the attributes handed to the vertex constructors of one call depend on the LENGTH of the
buffer only (which `resize` / `clear` fix), for every store -/
theorem withAttrs_fresh (store : Option (Nat → List α)) (n : Nat) (es : List (Emit α)) :
    ∀ (buf buf' : List α), buf.length = buf'.length →
      (withAttrs store n es buf).1 = (withAttrs store n es buf').1 ∧
      (withAttrs store n es buf).2.length = (withAttrs store n es buf').2.length := by
  induction es with
  | nil => intro buf buf' h; exact ⟨rfl, h⟩
  | cons e r ih =>
    intro buf buf' h
    cases e with
    | vertex pos recs =>
      obtain ⟨e1, e2⟩ := interp_fresh store n ((Sources.sources (recs.map recOf)).map toSrc) buf buf' h
      obtain ⟨i1, i2⟩ := ih _ _ e2
      simp only [withAttrs, interpVertex]
      exact ⟨by rw [e1, i1], i2⟩
    | tri a b c =>
      obtain ⟨i1, i2⟩ := ih _ _ h
      simp only [withAttrs]
      exact ⟨by rw [i1], i2⟩

/-- without a store every vertex gets `NO_ATTRIBUTES` and the buffer is not touched -/
theorem withAttrs_none (n : Nat) (ids : Array Nat) (values : Array (Array α)) (k : Nat) (es : List (Emit α)) (buf : List α) :
    (withAttrs none n es buf).1 = es.map (annotate false ids values k) := by
  induction es generalizing buf with
  | nil => rfl
  | cons e r ih =>
    cases e with
    | vertex pos recs =>
      simp only [withAttrs, List.map_cons, annotate, vertexAttrsR, interpVertex, interp, Bool.not_false, if_true]
      rw [ih]
    | tri a b c => simp only [withAttrs, List.map_cons, annotate]; rw [ih]

/-- **with a store: every vertex of the call gets `vertexAttrs`**, whatever the buffer held when
the call started (zeros or stale values), the buffer being threaded through all the vertices -/
theorem withAttrs_storeL (ids : Array Nat) (values : Array (Array α)) (n : Nat) (es : List (Emit α)) :
    ∀ (buf : List α), buf.length = n →
      (withAttrs (some (storeL ids values n)) n es buf).1 = es.map (annotate true ids values n) := by
  induction es with
  | nil => intro _ _; rfl
  | cons e r ih =>
    intro buf hb
    cases e with
    | vertex pos recs =>
      simp only [withAttrs, List.map_cons, annotate, vertexAttrsR, Bool.not_true, Bool.false_eq_true, if_false]
      cases recs with
      | nil =>
        simp only [List.isEmpty_nil, if_true]
        have e0 : interpVertex (some (storeL ids values n)) n ([] : List (P α × EQ.EdgeData α)) buf = (.panic, buf) := rfl
        rw [e0, ih buf hb]
      | cons x xs =>
        obtain ⟨h1, h2⟩ := interpVertex_storeL ids values n (x :: xs) buf hb (List.cons_ne_nil _ _)
        simp only [List.isEmpty_cons, Bool.false_eq_true, if_false]
        rw [h1, ih _ h2]
    | tri a b c => simp only [withAttrs, List.map_cons, annotate]; rw [ih buf hb]

end Lyon.C08
