/-
  C16 with the concrete flatteners — concrete instances used by the non-vacuity examples of
  `Props/C16b.lean` / `Props/C16c.lean`: a program over `ℚ` with a quadratic that `is_linear`
  accepts (flattened without a panic whatever `sqrt`/`ceil`/`to_u32` are:
  `cbOkQuad_of_isLinear`, `itOkQuad_of_isLinear`, about any such quadratic).  At the end: `ℚ` with
  the genuine `ceil`/`floor` (`ratCeilTransc` of `Lemmas/AdaptersConcreteAgree.lean`, a model of
  `CountLaws` there: `ratCeil_countLaws`) is also a model of `CeilLaws`, `SqrtLaws`; no example
  uses these two (the examples of those laws are over `ℝ`, `Lemmas/AdaptersConcreteReal.lean`,
  and over `kTransc`, `Lemmas/AdaptersConcreteKernel.lean`).
-/
import LyonVerif.Model.Path.AdaptersConcrete
import LyonVerif.Lemmas.AdaptersConcreteAgree
import LyonVerif.Lemmas.AdaptersConcreteT
import LyonVerif.Lemmas.Flatten


namespace Lyon.Adapt
open Lyon Lyon.Path Scalar Lyon.Flat

section field
variable {K : Type} [Field K] [LinearOrder K] [IsStrictOrderedRing K] [Transc K] [FlatConst K]

/-- a quadratic `is_linear` accepts is flattened without a panic whatever `ceil`, `sqrt`,
`to_u32` are (count 0): used for the non-vacuity examples -/
theorem cbOkQuad_of_isLinear (tol : K) (a c b : P K)
    (h : (⟨a, c, b⟩ : Quad K).isLinear tol = true) : cbOkQuad tol a c b = true := by
  simp [cbOkQuad, Quad.forEachFlattenedWithT, FlatParams.new, h, FlatParams.linear, toU32,
    ofNat_eq]

/-- and its iterator finishes after the one point `to` (fuel 2), given `−EPSILON ≤ 1` -/
theorem itOkQuad_of_isLinear (tol : K) (a c b : P K) (h : (⟨a, c, b⟩ : Quad K).isLinear tol = true)
    (he : (0 : K) - FlatConst.epsilon ≤ 1) : itOkQuad 2 tol a c b = true := by
  have hat : (QuadIter.new (⟨a, c, b⟩ : Quad K) tol).atEnd = true := by
    simpa only [QuadIter.atEnd, QuadIter.new, FlatParams.new, h, if_true, FlatParams.linear,
      decide_eq_true_eq, sc_zero_eq, sc_one_eq] using he
  unfold itOkQuad
  rw [QuadIter.collectDone, QuadIter.next, if_neg (by simp [QuadIter.new]), if_pos hat]
  simp [QuadIter.collectDone, QuadIter.next]

end field

section ExamplesK
variable {K : Type} [Field K] [LinearOrder K] [IsStrictOrderedRing K]

noncomputable def exProg : List (Call (P K) (List K)) :=
  [.begin ⟨0, 0⟩ [1], .quad ⟨1, 1 / 8⟩ ⟨2, 0⟩ [3], .line ⟨3, 0⟩ [4], .end_ true]

theorem exLinear : (⟨⟨0, 0⟩, ⟨1, 1 / 8⟩, ⟨2, 0⟩⟩ : Quad K).isLinear (1 / 10) = true := by
  simp only [Quad.isLinear, segSqDist, segClosestPoint, geom]
  norm_num

theorem exLinear2 : (⟨⟨1, 1⟩, ⟨3, 5 / 4⟩, ⟨5, 1⟩⟩ : Quad K).isLinear (1 / 5) = true := by
  simp only [Quad.isLinear, segSqDist, segClosestPoint, geom]
  norm_num

theorem exOne : (((one : K)) == one) = true := (sc_beq _ _).mpr rfl

/-- the builder-side adapter does not panic on `exProg`, whatever the non-field functions are -/
theorem exBuilderOk (T : Transc K) (C : FlatConst K) :
    ∃ out, flatBuilderC (1 / 10 : K) ⟨0, 0⟩ 1 exProg = some out := by
  refine ⟨_, if_pos ?_⟩
  simp only [exProg, cbOkRun, Bool.and_eq_true, and_true]
  exact cbOkQuad_of_isLinear _ _ _ _ exLinear

/-- the iterator-side adapter finishes on the events of `exProg` (fuel 2), given `−EPSILON ≤ 1` -/
theorem exIterOk (T : Transc K) (C : FlatConst K) (he : (0 : K) - C.epsilon ≤ 1) :
    ∃ out, flatIterC 2 (1 / 10 : K) (specEvents exProg) = some out := by
  refine ⟨_, if_pos ?_⟩
  simp only [exProg, specEvents, specFrom, itOkEvents, Bool.and_eq_true, and_true]
  exact itOkQuad_of_isLinear _ _ _ _ exLinear he

end ExamplesK

section Examples

/-- `ℚ` with `ratCeilTransc` satisfies `CeilLaws` and (next) `SqrtLaws`: `sqrt := max · 0` is
non-negative and monotone; `0.39 < 1` -/
theorem ratCeil_ceilLaws : @CeilLaws ℚ _ _ _ ratCeilTransc toyConst :=
  @CeilLaws.mk ℚ _ _ _ ratCeilTransc toyConst ratCeil_countLaws (fun x => Int.ceil_lt_add_one x)

theorem ratCeil_sqrtLaws : @SqrtLaws ℚ _ _ _ ratCeilTransc toyConst :=
  @SqrtLaws.mk ℚ _ _ _ ratCeilTransc toyConst (fun x => le_max_right _ _)
    (fun x y _ h => max_le_max h le_rfl) (by show ((39 : ℕ) : ℚ) / 10 ^ 2 < 1; norm_num)

end Examples

end Lyon.Adapt
