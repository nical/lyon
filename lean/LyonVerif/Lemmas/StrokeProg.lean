/-
  Programs on one `StrokeBuilder` (`Model/Tess/StrokeBuilderProg.lean`): the machinery that lifts the
  window invariant of the complete stroker model (`Lemmas/StrokeIdx*.lean`) from one event list under
  ONE options record to a list of `Item`s, each executed under ITS OWN options record (the setters
  and the thin rectangle change `builder.options` between - and inside - sub-paths; the merge
  threshold and the intersection routine are those of the builder's creation).

  `runItems_spec` is the event-loop invariant `RInv` over items, given `Reg` and `EvOK` per item for ONE endpoint
  class `c`: the class may not depend on the item's options, so `clsOf` leaves its `(source, half width)` part `C`
  arbitrary (the instances of `Reg` only look at the `(is_flattening_step, line_join)` part).  The rest is
  bookkeeping of `expand` (ids, options and joins of the items) and the endpoint class of a program
  (`ProgVertexOK`, `evOK_prog`).
-/
import LyonVerif.Model.Tess.StrokeBuilderProg
import LyonVerif.Lemmas.ListFold
import LyonVerif.Lemmas.StrokeIdxCls
import LyonVerif.Lemmas.StrokeIdxField

set_option linter.unusedSectionVars false

namespace Lyon.C05e
open Lyon Scalar Lyon.Stroke Lyon.Stroke.Full Lyon.Stroke.Prog Lyon.C05 Lyon.C05b Lyon.C05c

section Regs
variable {α : Type} [Scalar α] [Transc α]

def clsOf (C : Src α → α → Prop) (D : Bool → LineJoin → Prop) (hD : ∀ f lj, D f lj → D f .miter) : Cls α :=
  ⟨C, D, hD⟩

theorem reg_poly_cls (e : Env α) (C : Src α → α → Prop) :
    Reg e (clsOf C (fun f _ => f = false) (fun _ _ h => h)) (fun _ _ _ => True) :=
  reg_polyline e _ (fun _ _ h => h)

theorem reg_variable_cls (e : Env α) (C : Src α → α → Prop) (hvw : e.o.varWidth = true) (hap : SkipApart e.thr) :
    Reg e (clsOf C (fun _ _ => True) (fun _ _ h => h)) (fun _ _ _ => True) :=
  reg_variable e _ hvw hap

end Regs

section RegField
variable {K : Type} [Field K] [LinearOrder K] [IsStrictOrderedRing K] [Transc K] [Asin K] [FlatConst K]

theorem reg_field_fixed_cls (e : Env K) (C : Src K → K → Prop) (hfw : e.o.varWidth = false) :
    Reg e (clsOf C NoClip noClip_miter) Sym :=
  reg_field_fixed e _ (fun _ _ h => h) hfw

end RegField

section Items
variable {α : Type} [Scalar α] [Transc α] [Asin α] [FlatConst α]
variable {c : Cls α} {G : P α → P α → P α → Prop}

/-- the environment an item is executed in -/
def envOf (e0 : Env α) (it : Item α) : Env α := { e0 with o := it.o }

theorem runItems_eq (e0 : Env α) (store : Nat → List α) (its : List (Item α)) :
    runItems e0 store its
      = its.foldl (fun r it => if r.panicked then r else runEvent (envOf e0 it) store r it.ev)
          ⟨St.new, unset, nanP, false⟩ := rfl

/-- **the invariant of the event loop, options changing from item to item**: if the scalar
arithmetic is regular for every item's environment and every item feeds endpoints of the class,
the whole emission sequence is valid and the window invariant holds at the end -/
theorem runItems_spec (e0 : Env α) (store : Nat → List α) {K : Nat → Prop} (hk : K unset)
    (its : List (Item α))
    (h : ∀ it ∈ its, Reg (envOf e0 it) c G ∧ EvOK (envOf e0 it) store c K it.ev) :
    RInv e0 c G K (runItems e0 store its) := by
  rw [runItems_eq]
  refine foldl_inv (RInv e0 c G K) _ its _ (RInv.new e0 hk) fun r hr it hit => ?_
  show RInv e0 c G K (if r.panicked = true then r else runEvent (envOf e0 it) store r it.ev)
  split_ifs
  · exact hr
  · obtain ⟨hreg, hev⟩ := h it hit
    -- `RInv` reads its environment only through `e.thr`, which `envOf` keeps: hence the two re-wraps
    have h1 := runEvent_spec hreg store (⟨hr.inv, hr.steps, hr.cur⟩ : RInv (envOf e0 it) c G K r) hev
    exact ⟨h1.inv, h1.steps, h1.cur⟩

end Items

section Expand
variable {α : Type} [Scalar α]

/-- the events of an item list -/
def evsOf (its : List (Item α)) : List (IdEv α) := its.map (·.ev)

theorem id?_eq (it : Item α) : it.id? = (evId it.ev).head? := by
  unfold Item.id? evId
  cases it.ev <;> rfl

/-- the ids of an item list, in order -/
def idsOf (its : List (Item α)) : List Nat := its.filterMap Item.id?

theorem idsOf_append (a b : List (Item α)) : idsOf (a ++ b) = idsOf a ++ idsOf b := by
  simp [idsOf, List.filterMap_append]

theorem idsOf_items_lineEvents (o : Opts α) (a : List α) : ∀ (pts : List (P α)) (n : Nat),
    idsOf (items o a (lineEvents n pts)) = List.range' n pts.length := by
  intro pts
  induction pts with
  | nil => intro n; rfl
  | cons p r ih =>
    intro n
    have := ih (n + 1)
    simp only [items, lineEvents, List.map_cons, idsOf, List.filterMap_cons, Item.id?, List.length_cons,
      List.range'_succ] at this ⊢
    rw [this]

theorem idsOf_items_polygon (o : Opts α) (a : List α) (n : Nat) (pts : List (P α)) (closed : Bool) :
    idsOf (items o a (polygonEvents n pts closed)) = List.range' n pts.length := by
  cases pts with
  | nil => rfl
  | cons p r =>
    have h := idsOf_items_lineEvents o a r (n + 1)
    simp only [items, polygonEvents, List.map_cons, List.map_append, idsOf, List.filterMap_cons,
      List.filterMap_append, Item.id?, List.length_cons, List.range'_succ, List.map_nil,
      List.filterMap_nil, List.append_nil] at h ⊢
    rw [h]

theorem expandCmd_ids (s : BSt α) (c : Cmd α) :
    idsOf (expandCmd s c).2 = List.range' s.nextId ((expandCmd s c).1.nextId - s.nextId) := by
  cases c with
  | begin p a => simp [expandCmd, idsOf, Item.id?]
  | line p a => simp [expandCmd, idsOf, Item.id?]
  | quad c p a => simp [expandCmd, idsOf, Item.id?]
  | cubic c1 c2 p a => simp [expandCmd, idsOf, Item.id?]
  | end_ cl => simp [expandCmd, idsOf, Item.id?]
  | rect mn mx positive a =>
    simp only [expandCmd]
    split_ifs
    · simp only [idsOf_items_polygon]; simp
    · simp only [idsOf_items_polygon]; simp [rectCorners]; split_ifs <;> rfl
  | polygon pts closed a => simp only [expandCmd, idsOf_items_polygon]; simp
  | segment p q a => simp only [expandCmd, idsOf_items_polygon]; simp
  | point p a => simp only [expandCmd, idsOf_items_polygon]; simp
  | setJoin j => simp [expandCmd, idsOf]
  | setStartCap cp => simp [expandCmd, idsOf]
  | setEndCap cp => simp [expandCmd, idsOf]
  | setMiterLimit ml => simp [expandCmd, idsOf]

theorem expandCmd_next_le (s : BSt α) (c : Cmd α) : s.nextId ≤ (expandCmd s c).1.nextId := by
  cases c <;> simp only [expandCmd] <;> (try split_ifs) <;> simp

theorem finalBSt_next_le : ∀ (cmds : List (Cmd α)) (s : BSt α), s.nextId ≤ (finalBSt s cmds).nextId := by
  intro cmds
  induction cmds with
  | nil => intro s; exact Nat.le_refl _
  | cons c cs ih => intro s; exact Nat.le_trans (expandCmd_next_le s c) (ih _)

/-- **the ids of a program are consecutive**: the k-th endpoint the program creates has id
`s.nextId + k` (on a fresh builder: `k`), whichever calls - raw events, shape helpers, thin or
ordinary rectangles - create the endpoints -/
theorem expand_ids : ∀ (cmds : List (Cmd α)) (s : BSt α),
    idsOf (expand s cmds) = List.range' s.nextId ((finalBSt s cmds).nextId - s.nextId) := by
  intro cmds
  induction cmds with
  | nil => intro s; simp [expand, finalBSt, idsOf]
  | cons c cs ih =>
    intro s
    simp only [expand, finalBSt]
    rw [idsOf_append, expandCmd_ids, ih]
    have h1 := expandCmd_next_le s c
    have h2 := finalBSt_next_le cs (expandCmd s c).1
    obtain ⟨a, ha⟩ := Nat.exists_eq_add_of_le h1
    obtain ⟨b, hb⟩ := Nat.exists_eq_add_of_le h2
    rw [hb, ha]
    have e1 : s.nextId + a - s.nextId = a := by omega
    have e2 : s.nextId + a + b - (s.nextId + a) = b := by omega
    have e3 : s.nextId + a + b - s.nextId = a + b := by omega
    rw [e1, e2, e3]
    exact List.range'_append_1

theorem expand_forall {Q : BSt α → Prop} {P : Item α → Prop} : ∀ (l : List (Cmd α)) (s : BSt α),
    (∀ s c, c ∈ l → Q s → Q (expandCmd s c).1 ∧ ∀ it ∈ (expandCmd s c).2, P it) → Q s →
    ∀ it ∈ expand s l, P it := by
  intro l
  induction l with
  | nil => intro s _ _ it hit; simp [expand] at hit
  | cons c cs ih =>
    intro s hstep hs it hit
    simp only [expand, List.mem_append] at hit
    obtain ⟨h1, h2⟩ := hstep s c (by simp) hs
    rcases hit with hit | hit
    · exact h2 it hit
    · exact ih _ (fun s' c' hc' => hstep s' c' (by simp [hc'])) h1 it hit

theorem mem_items {o : Opts α} {a : List α} {evs : List (IdEv α)} {it : Item α} (h : it ∈ items o a evs) :
    it.o = o ∧ it.attrs = a ∧ it.ev ∈ evs := by
  simp only [items, List.mem_map] at h
  obtain ⟨ev, hev, rfl⟩ := h
  exact ⟨rfl, rfl, hev⟩

theorem expandCmd_opts (s : BSt α) (c : Cmd α) :
    (expandCmd s c).1.o.tolerance = s.o.tolerance ∧ (expandCmd s c).1.o.lineWidth = s.o.lineWidth
    ∧ (expandCmd s c).1.o.varWidth = s.o.varWidth ∧ (expandCmd s c).1.o.varIdx = s.o.varIdx
    ∧ ((expandCmd s c).1.o.join = s.o.join ∨ c = .setJoin (expandCmd s c).1.o.join) := by
  cases c <;> simp only [expandCmd] <;> (try split_ifs) <;> simp

theorem lineEvents_poly : ∀ (pts : List (P α)) (n : Nat), ∀ ev ∈ lineEvents n pts, NoCurve ev := by
  intro pts
  induction pts with
  | nil => intro n ev h; simp [lineEvents] at h
  | cons p r ih =>
    intro n ev h
    simp only [lineEvents, List.mem_cons] at h
    rcases h with rfl | h
    · trivial
    · exact ih _ ev h

theorem polygonEvents_poly (n : Nat) (pts : List (P α)) (closed : Bool) : ∀ ev ∈ polygonEvents n pts closed, NoCurve ev := by
  intro ev h
  cases pts with
  | nil => simp [polygonEvents] at h
  | cons p r =>
    simp only [polygonEvents, List.mem_cons, List.mem_append, List.mem_nil_iff, or_false] at h
    rcases h with (rfl | h) | rfl
    · trivial
    · exact lineEvents_poly r _ ev h
    · trivial

/-- one walk of `expandCmd` for both facts about an item of a call: its options (`expandCmd_item_opts`), and that its
event is a curve only if the call is one -/
theorem expandCmd_item (s : BSt α) (c : Cmd α) : ∀ it ∈ (expandCmd s c).2,
    (it.o = s.o ∨ ∃ mn mx positive a, c = .rect mn mx positive a ∧ rectIsThin s.o mn mx = true
      ∧ it.o = thinOpts s.o (thinSegment mn mx).2.2)
    ∧ ((match c with | .quad _ _ _ => False | .cubic _ _ _ _ => False | _ => True) → NoCurve it.ev) := by
  intro it hit
  have poly {o : Opts α} {a : List α} {n : Nat} {pts : List (P α)} {cl : Bool}
      (h : it ∈ items o a (polygonEvents n pts cl)) : it.o = o ∧ NoCurve it.ev :=
    ⟨(mem_items h).1, polygonEvents_poly _ _ _ _ (mem_items h).2.2⟩
  cases c with
  | begin p a => simp only [expandCmd, List.mem_singleton] at hit; subst hit; exact ⟨Or.inl rfl, fun _ => trivial⟩
  | line p a => simp only [expandCmd, List.mem_singleton] at hit; subst hit; exact ⟨Or.inl rfl, fun _ => trivial⟩
  | quad c p a => simp only [expandCmd, List.mem_singleton] at hit; subst hit; exact ⟨Or.inl rfl, False.elim⟩
  | cubic c1 c2 p a => simp only [expandCmd, List.mem_singleton] at hit; subst hit; exact ⟨Or.inl rfl, False.elim⟩
  | end_ cl => simp only [expandCmd, List.mem_singleton] at hit; subst hit; exact ⟨Or.inl rfl, fun _ => trivial⟩
  | rect mn mx positive a =>
    simp only [expandCmd] at hit
    split_ifs at hit with hthin
    · exact ⟨Or.inr ⟨mn, mx, positive, a, rfl, hthin, (poly hit).1⟩, fun _ => (poly hit).2⟩
    · exact ⟨Or.inl (poly hit).1, fun _ => (poly hit).2⟩
  | polygon pts closed a => simp only [expandCmd] at hit; exact ⟨Or.inl (poly hit).1, fun _ => (poly hit).2⟩
  | segment p q a => simp only [expandCmd] at hit; exact ⟨Or.inl (poly hit).1, fun _ => (poly hit).2⟩
  | point p a => simp only [expandCmd] at hit; exact ⟨Or.inl (poly hit).1, fun _ => (poly hit).2⟩
  | setJoin j => simp [expandCmd] at hit
  | setStartCap cp => simp [expandCmd] at hit
  | setEndCap cp => simp [expandCmd] at hit
  | setMiterLimit ml => simp [expandCmd] at hit

/-- the options an item of a call is executed with: the builder's, or - a thin rectangle - the
builder's with the line widened by `d` and the caps replaced -/
theorem expandCmd_item_opts (s : BSt α) (c : Cmd α) : ∀ it ∈ (expandCmd s c).2,
    it.o = s.o ∨ ∃ mn mx positive a, c = .rect mn mx positive a ∧ rectIsThin s.o mn mx = true
      ∧ it.o = thinOpts s.o (thinSegment mn mx).2.2 :=
  fun it hit => (expandCmd_item s c it hit).1

theorem thinOpts_fields (o : Opts α) (d : α) :
    (thinOpts o d).tolerance = o.tolerance ∧ (thinOpts o d).lineWidth = o.lineWidth + d
    ∧ (thinOpts o d).varWidth = o.varWidth ∧ (thinOpts o d).varIdx = o.varIdx
    ∧ (thinOpts o d).join = o.join ∧ (thinOpts o d).miterLimit = o.miterLimit := by
  unfold thinOpts; simp

theorem rectIsThin_fixed {o : Opts α} {mn mx : P α} (h : rectIsThin o mn mx = true) : o.varWidth = false := by
  unfold rectIsThin at h
  simp only [Bool.and_eq_true, Bool.not_eq_true'] at h
  exact h.1

/-- **the options of every item of a program**: tolerance, `variable_line_width` never change; the
line width is the builder's, or - for the two endpoints of a thin rectangle, fixed width only - the
builder's plus that rectangle's `d` -/
theorem expand_opts (cmds : List (Cmd α)) (s : BSt α) : ∀ it ∈ expand s cmds,
    it.o.tolerance = s.o.tolerance ∧ it.o.varWidth = s.o.varWidth ∧ it.o.varIdx = s.o.varIdx
    ∧ (it.o.lineWidth = s.o.lineWidth
       ∨ (s.o.varWidth = false ∧ ∃ mn mx positive a, Cmd.rect mn mx positive a ∈ cmds
            ∧ it.o.lineWidth = s.o.lineWidth + (thinSegment mn mx).2.2)) := by
  refine expand_forall (Q := fun s' => s'.o.tolerance = s.o.tolerance ∧ s'.o.lineWidth = s.o.lineWidth
      ∧ s'.o.varWidth = s.o.varWidth ∧ s'.o.varIdx = s.o.varIdx) cmds s ?_ ⟨rfl, rfl, rfl, rfl⟩
  intro s' c hc ⟨q1, q2, q3, q4⟩
  obtain ⟨o1, o2, o3, o4, _⟩ := expandCmd_opts s' c
  refine ⟨⟨o1.trans q1, o2.trans q2, o3.trans q3, o4.trans q4⟩, ?_⟩
  intro it hit
  rcases expandCmd_item_opts s' c it hit with h | ⟨mn, mx, positive, a, rfl, hthin, h⟩
  · rw [h]; exact ⟨q1, q3, q4, Or.inl q2⟩
  · obtain ⟨t1, t2, t3, t4, _, _⟩ := thinOpts_fields s'.o (thinSegment mn mx).2.2
    rw [h]
    refine ⟨t1.trans q1, t3.trans q3, t4.trans q4, Or.inr ⟨?_, mn, mx, positive, a, hc, ?_⟩⟩
    · rw [← q3]; exact rectIsThin_fixed hthin
    · rw [t2, q2]

/-- the join of every item is the builder's or the argument of a `set_line_join` call -/
theorem expand_join (cmds : List (Cmd α)) (s : BSt α) : ∀ it ∈ expand s cmds,
    it.o.join = s.o.join ∨ Cmd.setJoin it.o.join ∈ cmds := by
  refine expand_forall (Q := fun s' => s'.o.join = s.o.join ∨ Cmd.setJoin s'.o.join ∈ cmds) cmds s ?_ (Or.inl rfl)
  intro s' c hc hq
  obtain ⟨_, _, _, _, hj⟩ := expandCmd_opts s' c
  have hq' : (expandCmd s' c).1.o.join = s.o.join ∨ Cmd.setJoin (expandCmd s' c).1.o.join ∈ cmds := by
    rcases hj with hj | hj
    · rw [hj]; exact hq
    · exact Or.inr (hj ▸ hc)
  refine ⟨hq', ?_⟩
  intro it hit
  rcases expandCmd_item_opts s' c it hit with h | ⟨mn, mx, positive, a, _, _, h⟩
  · rw [h]; exact hq
  · rw [h, (thinOpts_fields _ _).2.2.2.2.1]; exact hq

def ItemPoly (it : Item α) : Prop :=
  match it.ev with
  | .quad _ _ _ => False
  | .cubic _ _ _ _ => False
  | _ => True

/-- no `quadratic_bezier_to` / `cubic_bezier_to` call (every shape helper modelled here - rectangle,
polygon, segment, point - is allowed) -/
def IsPolyProg (cmds : List (Cmd α)) : Prop :=
  ∀ c ∈ cmds, match c with
    | .quad _ _ _ => False
    | .cubic _ _ _ _ => False
    | _ => True

theorem expand_poly (cmds : List (Cmd α)) (hp : IsPolyProg cmds) (s : BSt α) : ∀ it ∈ expand s cmds, ItemPoly it := by
  refine expand_forall (Q := fun _ => True) cmds s ?_ trivial
  intro s' c hc _
  exact ⟨trivial, fun it hit => (expandCmd_item s' c it hit).2 (hp c hc)⟩

end Expand

section Class
variable {α : Type} [Scalar α] [Transc α]

/-- the endpoint id a source belongs to: the endpoint itself, or the end point of the curve -/
def srcTo : Src α → Nat
  | .endpoint id => id
  | .edge _ b _ => b

/-- what every vertex a program emits satisfies: its source names an endpoint the program created -
or an edge between two of them (`from` may be `EndpointId::INVALID` only if a curve comes before any
`begin`) - and, when the line width is fixed, its half width is HALF THE LINE WIDTH THAT WAS IN FORCE
WHEN THAT ENDPOINT WAS CREATED (`it.o` of the item with that id; ids are unique: `expand_ids`) -/
def ProgVertexOK (its : List (Item α)) (s : Src α) (hw : α) : Prop :=
  (match s with
    | .endpoint _ => True
    | .edge a _ _ => a = unset ∨ ∃ it ∈ its, it.id? = some a)
  ∧ ∃ it ∈ its, it.id? = some (srcTo s) ∧ (it.o.varWidth = false → hw = it.o.lineWidth * half)

def ProgId (its : List (Item α)) (id : Nat) : Prop := id = unset ∨ ∃ it ∈ its, it.id? = some id

variable [Asin α] [FlatConst α]

theorem evOK_prog (e0 : Env α) (store : Nat → List α) (its : List (Item α))
    (D : Bool → LineJoin → Prop) (hD : ∀ f lj, D f lj → D f .miter) (it : Item α) (hit : it ∈ its)
    (hD0 : D false it.o.join) (hD1 : (∀ f, D f it.o.join) ∨ ItemPoly it) :
    EvOK (envOf e0 it) store (clsOf (ProgVertexOK its) D hD) (ProgId its) it.ev := by
  have hid : ∀ id ∈ evId it.ev, it.id? = some id := by
    intro id h; rw [id?_eq]; cases hev : it.ev <;> rw [hev] at h <;> simp [evId] at h ⊢ <;> exact h.symm
  refine evOK_of it.ev (fun hcurve id h cur hk pos t flat => ?_) (fun id h => Or.inr ⟨it, hit, hid id h⟩)
    (fun id h p adv => ⟨⟨trivial, it, hit, hid id h, fun hf => by
      rw [hwOf_eq]; exact hwOfId_fixed (envOf e0 it) store id hf⟩, hD0⟩)
  rcases hD1 with hD1 | hp
  swap
  · exact absurd hp hcurve
  have hfixT : it.o.varWidth = false → (envOf e0 it).hwAt store cur id t = it.o.lineWidth * half := fun hf => by
    rw [hwAt_eq]; exact hwAtT_fixed (envOf e0 it) store cur id t hf
  refine ⟨?_, hD1 _⟩
  show ProgVertexOK its (if t == one then Src.endpoint id else Src.edge cur id t) ((envOf e0 it).hwAt store cur id t)
  split_ifs
  · exact ⟨trivial, it, hit, hid id h, hfixT⟩
  · exact ⟨hk, it, hit, hid id h, hfixT⟩

end Class

end Lyon.C05e
