/-
  C02 (`Props/C02f.lean` - `C02h.lean`): the inner basic tessellator of the advanced monotone tessellator and the buffered chains.
  The inner tessellator is fed a subsequence of the vertices (the ends of the buffered chains) in increasing id order.

  `TInv`: the top of its stack is the head of one buffered chain, the bottom entry the head of the other; ids decrease;
  the stack is strictly reflex; entries above the bottom are vertices of the top's side.  Forwarding the end `v` of a
  chain keeps it and swaps no fan triangle (`fwd_tinv`) provided the chord `head → v` has every vertex of the other
  side in between weakly on its own side: lyon's winding test does not swap a triangle of non-zero area (`fanPos`,
  `fanLeT_canon`).
  `SideChain seq l k s`: `s.events` are, in increasing order, the chain's head (the apex or an already forwarded
  vertex of side `l`) followed by ALL vertices of side `l` fed after it (ids `< k`).
  `ChordClear seq l s`: that chord condition for a chain of ≥ 3 ids; for 2 ids the chord is an edge of the polygon
  and `SweepValid` gives it (`chord_of_chain`).
-/
import LyonVerif.Lemmas.MonotoneTileRun
import LyonVerif.Lemmas.MonotoneAdvNonneg
import LyonVerif.Lemmas.LexOrderTess

set_option linter.unusedSectionVars false

namespace Lyon.C02f
open Lyon Lyon.Mono Lyon.C02 Lyon.C02c

section Geometry
variable {K : Type} [Field K] [LinearOrder K] [IsStrictOrderedRing K]

variable (seq : List (P K × Bool))

/-- `ha`: id of the head of the buffered chain on side `l`, `hb`: of the other chain -/
structure TInv (tess : Basic K) (l : Bool) (ha hb : Nat) : Prop where
  top : ∃ rest, tess.stack = tess.previous :: rest
  good : ∀ v ∈ tess.stack, Good (posOf seq) v
  dec : tess.stack.Pairwise (fun a b => b.id < a.id)
  lt : ∀ v ∈ tess.stack, v.id < seq.length
  heads : ∀ bot, tess.stack.getLast? = some bot →
    (tess.previous.left = l → tess.previous.id = ha ∧ bot.id = hb) ∧
    (tess.previous.left ≠ l → tess.previous.id = hb ∧ bot.id = ha)
  sides : ∀ bot, tess.stack.getLast? = some bot → ∀ v ∈ tess.stack, v.id ≠ bot.id →
    sideAt seq v.id = tess.previous.left
  reflex : ReflexT tess.previous.left (tess.stack.map (·.pos))

theorem TInv.symm {tess : Basic K} {l : Bool} {ha hb : Nat} (h : TInv seq tess l ha hb) :
    TInv seq tess (!l) hb ha :=
  { top := h.top, good := h.good, dec := h.dec, lt := h.lt, sides := h.sides, reflex := h.reflex,
    heads := fun bot hb' => ⟨fun e => (h.heads bot hb').2 (by rw [e]; cases l <;> simp),
      fun e => (h.heads bot hb').1 (by revert e; cases tess.previous.left <;> cases l <;> simp)⟩ }

theorem TInv.pushTris {tess : Basic K} {l : Bool} {ha hb : Nat} (h : TInv seq tess l ha hb) (tr : List Tri) :
    TInv seq (tess.pushTris tr) l ha hb :=
  { top := h.top, good := h.good, dec := h.dec, lt := h.lt, sides := h.sides, reflex := h.reflex, heads := h.heads }

theorem TInv.bottom {tess : Basic K} {l : Bool} {ha hb : Nat} (h : TInv seq tess l ha hb) :
    ∃ rest bot, tess.stack = tess.previous :: rest ∧ tess.stack.getLast? = some bot ∧ bot ∈ tess.stack ∧
      tess.previous ∈ tess.stack ∧ C02c.botPos tess = bot.pos := by
  obtain ⟨rest, hst⟩ := h.top
  have hne0 : tess.stack ≠ [] := by rw [hst]; simp
  have hb0 := List.getLast?_eq_some_getLast hne0
  exact ⟨rest, _, hst, hb0, List.getLast_mem hne0, by rw [hst]; simp, by simp [C02c.botPos, hb0]⟩

theorem TInv.le_prev {tess : Basic K} {l : Bool} {ha hb : Nat} (h : TInv seq tess l ha hb) :
    ∀ v ∈ tess.stack, v.id ≤ tess.previous.id := by
  obtain ⟨rest, hst⟩ := h.top
  intro v hv
  rw [hst] at hv
  rcases List.mem_cons.mp hv with e | e
  · rw [e]
  · have := h.dec
    rw [hst] at this
    exact Nat.le_of_lt (List.rel_of_pairwise_cons this e)

theorem TInv.stack_sorted (hval : SweepValid seq) {tess : Basic K} {l : Bool} {ha hb : Nat}
    (h : TInv seq tess l ha hb) : (tess.stack.map (·.pos)).Pairwise (fun a b => After a b) := by
  rw [List.pairwise_map]
  refine h.dec.imp_of_mem ?_
  intro a b ha' hb' hlt
  rw [h.good a ha', h.good b hb']
  exact valid_after hval hlt (h.lt a ha')

/-- **the fan over the inner stack** from a vertex `v` that comes after it is weakly positive when the stack's vertices
above the bottom lie weakly on the stack's side of `bot → v` (`fanPos`), hence canonical: no triangle is swapped.
The first two clauses are what the tiling step `fan_step_tilesW` asks for besides -/
theorem TInv.fanLe (hval : SweepValid seq) {tess : Basic K} {l : Bool} {ha hb : Nat} (h : TInv seq tess l ha hb)
    (bot : MV K) (hb0 : tess.stack.getLast? = some bot) (v : MV K) (hv : Good (posOf seq) v)
    (hvn : v.id < seq.length) (hgt : tess.previous.id < v.id)
    (hside : ∀ w ∈ tess.stack, bot.id < w.id → 0 ≤ sg tess.previous.left * wind bot.pos w.pos v.pos) :
    (∀ w ∈ tess.stack, After v.pos w.pos) ∧
      (∀ w ∈ tess.stack, w.pos = bot.pos ∨ 0 ≤ sg tess.previous.left * wind bot.pos w.pos v.pos) ∧
      FanLeT tess.previous.left v.pos (tess.stack.map (·.pos)) := by
  have hbmem : bot ∈ tess.stack := List.mem_of_getLast? hb0
  have hle := h.le_prev seq
  have hcs : ∀ w ∈ tess.stack, After v.pos w.pos := fun w hw => by
    rw [h.good w hw, hv]
    exact valid_after hval (by have := hle w hw; omega) hvn
  have hs : ∀ w ∈ tess.stack, w.pos = bot.pos ∨ 0 ≤ sg tess.previous.left * wind bot.pos w.pos v.pos := fun w hw =>
    (pairwise_last tess.stack bot h.dec hb0 w hw).imp (fun e => by rw [h.good w hw, h.good bot hbmem, e]) (hside w hw)
  exact ⟨hcs, hs, (fanPos tess.previous.left v.pos bot.pos _ (by rw [List.getLast?_map, hb0]; rfl)
    (List.forall_mem_map.mpr hs) (h.stack_sorted seq hval) (List.forall_mem_map.mpr hcs) h.reflex).1⟩

theorem fan_canon (hval : SweepValid seq) {tess : Basic K} {l : Bool} {ha hb : Nat} (h : TInv seq tess l ha hb)
    (bot : MV K) (hb0 : tess.stack.getLast? = some bot) (v : MV K) (hv : Good (posOf seq) v)
    (hvn : v.id < seq.length) (hgt : tess.previous.id < v.id)
    (hside : ∀ w ∈ tess.stack, bot.id < w.id → 0 ≤ sg tess.previous.left * wind bot.pos w.pos v.pos) :
    FanCanon tess.previous.left v.pos (tess.stack.reverse.map (·.pos)) := by
  rw [List.map_reverse]
  exact fanLeT_canon _ _ _ (h.fanLe seq hval bot hb0 v hv hvn hgt hside).2.2

theorem fwd_tinv (hval : SweepValid seq) (tess : Basic K) (l : Bool) (ha hb : Nat) (v : MV K)
    (h : TInv seq tess l ha hb) (hv : Good (posOf seq) v) (hvl : v.left = l) (hvs : sideAt seq v.id = l)
    (hvn : v.id < seq.length) (hva : ha < v.id) (hvb : hb < v.id)
    (hchord : tess.previous.left ≠ l → ∀ j, ha < j → j < v.id → sideAt seq j = !l →
      0 ≤ sg (!l) * wind (posOf seq ha) (posOf seq j) v.pos) :
    TInv seq (tess.vertex v) l v.id hb ∧ NoFlip tess v := by
  obtain ⟨rest, bot, hst, hb0, hbmem, hprevmem, _⟩ := h.bottom seq
  have hheads := h.heads bot hb0
  have hle := h.le_prev seq
  by_cases hside : tess.previous.left = l
  · -- same side: ears are popped
    have hcl : v.left = tess.previous.left := by rw [hvl, hside]
    have hvx := vertex_same tess v rest hcl hst
    have hsuf : (popLoop v tess.previous rest).1 <:+ tess.stack := hst ▸ popLoop_suffix v tess.previous rest
    have hnn := popLoop_nonempty v tess.previous rest
    have hgl := popLoop_getLast v tess.previous rest
    have hpid : tess.previous.id = ha := (hheads.1 hside).1
    refine ⟨?_, Or.inl hcl⟩
    rw [hvx]
    refine ⟨⟨_, rfl⟩, ?_, ?_, ?_, ?_, ?_, ?_⟩
    · intro w hw
      rcases List.mem_cons.mp hw with e | e
      · exact e ▸ hv
      · exact h.good w (hsuf.subset e)
    · refine List.Pairwise.cons ?_ (h.dec.sublist hsuf.sublist)
      intro a ha'
      have := hle a (hsuf.subset ha')
      omega
    · intro w hw
      rcases List.mem_cons.mp hw with e | e
      · rw [e]; exact hvn
      · exact h.lt w (hsuf.subset e)
    · intro b' hb'
      simp only at hb'
      rw [List.getLast?_cons_of_ne_nil hnn, hgl, ← hst, hb0] at hb'
      have : b' = bot := (Option.some.inj hb').symm
      rw [this]
      exact ⟨fun _ => ⟨rfl, (hheads.1 hside).2⟩, fun e => absurd hvl e⟩
    · intro b' hb' w hw hwb
      simp only at hb' hw ⊢
      rw [List.getLast?_cons_of_ne_nil hnn, hgl, ← hst, hb0] at hb'
      have eb : b' = bot := (Option.some.inj hb').symm
      rcases List.mem_cons.mp hw with e | e
      · rw [e, hvs, hvl]
      · rw [hcl]
        exact h.sides bot hb0 w (hsuf.subset e) (by rw [← eb]; exact hwb)
    · simp only [List.map_cons]
      apply popLoop_reflex
      have := h.reflex
      rw [hst] at this
      rw [hcl]; exact this
  · -- the side changes: fan
    have hopp : tess.previous.left = !l := Bool.eq_not_of_ne hside
    have hcl : v.left ≠ tess.previous.left := by rw [hvl]; exact fun e => hside e.symm
    have hvx := vertex_other tess v hcl
    have hpid : tess.previous.id = hb := (hheads.2 hside).1
    have hbid : bot.id = ha := (hheads.2 hside).2
    constructor
    · rw [hvx]
      refine ⟨⟨_, rfl⟩, ?_, ?_, ?_, ?_, ?_, by simp [ReflexT]⟩
      · intro w hw
        simp only [List.mem_cons, List.not_mem_nil, or_false] at hw
        rcases hw with e | e
        · exact e ▸ hv
        · exact e ▸ h.good _ hprevmem
      · simp only [List.pairwise_cons, List.mem_singleton, forall_eq, List.not_mem_nil, false_imp_iff,
          implies_true, List.Pairwise.nil, and_true]
        omega
      · intro w hw
        simp only [List.mem_cons, List.not_mem_nil, or_false] at hw
        rcases hw with e | e
        · rw [e]; exact hvn
        · rw [e]; exact h.lt _ hprevmem
      · intro b' hb'
        simp only [List.getLast?_cons_cons, List.getLast?_singleton, Option.some.injEq] at hb'
        subst hb'
        exact ⟨fun _ => ⟨rfl, hpid⟩, fun e => absurd hvl e⟩
      · intro b' hb' w hw hwb
        simp only [List.getLast?_cons_cons, List.getLast?_singleton, Option.some.injEq] at hb'
        subst hb'
        simp only [List.mem_cons, List.not_mem_nil, or_false] at hw
        rcases hw with e | e
        · rw [e, hvs, hvl]
        · exact absurd (by rw [e]) hwb
    · refine Or.inr (fan_canon seq hval h bot hb0 v hv hvn (by omega) (fun w hw hlt => ?_))
      have hws : sideAt seq w.id = !l := by
        rw [← hopp]; exact h.sides bot hb0 w hw (by omega)
      have := hchord hside w.id (by omega) (by have := hle w hw; omega) hws
      rw [hopp, h.good bot hbmem, hbid, h.good w hw]
      exact this

theorem isAfter_iff (a b : P K) : isAfter a b = true ↔ After a b :=
  (Mono.isAfter_lexLt a b).trans (after_iff a b).symm

theorem id_lt_of_after (hval : SweepValid seq) {i j : Nat} (hj : j < seq.length)
    (h : After (posOf seq i) (posOf seq j)) : j < i := by
  by_contra hn
  rcases Nat.lt_or_ge i j with g | g
  · exact after_asymm h (valid_after hval g hj)
  · have : i = j := by omega
    rw [this] at h; exact after_irrefl _ h

theorem id_le_of_not_after (hval : SweepValid seq) {i j : Nat} (hi : i < seq.length)
    (h : ¬ After (posOf seq i) (posOf seq j)) : i ≤ j := by
  by_contra hn
  exact h (valid_after hval (by omega) hi)

/-- id of the vertex the chain hangs from -/
def headId (s : SideEv K) : Nat := s.events.headD 0

structure SideChain (l : Bool) (k : Nat) (s : SideEv K) : Prop where
  ne : s.events ≠ []
  last : s.events.getLast? = some s.last.id
  good : Good (posOf seq) s.last
  inc : s.events.Pairwise (· < ·)
  lt : ∀ x ∈ s.events, x < k
  side : ∀ x ∈ s.events.tail, sideAt seq x = l
  hside : headId s = 0 ∨ sideAt seq (headId s) = l
  complete : ∀ j, headId s < j → j < k → sideAt seq j = l → j ∈ s.events

theorem SideChain.congr {l : Bool} {k : Nat} {s s' : SideEv K} (h : SideChain seq l k s)
    (he : s'.events = s.events) (hl : s'.last = s.last) : SideChain seq l k s' :=
  { ne := he ▸ h.ne, last := by rw [he, hl]; exact h.last, good := hl ▸ h.good, inc := he ▸ h.inc,
    lt := he ▸ h.lt, side := he ▸ h.side, hside := by simp only [headId, he]; exact h.hside,
    complete := by simp only [headId, he]; exact h.complete }

/-- an equation, used as a rewrite, not a membership: the ids start with `headId s` -/
theorem SideChain.head_mem {l : Bool} {k : Nat} {s : SideEv K} (h : SideChain seq l k s) :
    s.events = headId s :: s.events.tail := by
  cases hs : s.events with
  | nil => exact absurd hs h.ne
  | cons a r => simp [headId, hs]

theorem SideChain.last_mem {l : Bool} {k : Nat} {s : SideEv K} (h : SideChain seq l k s) :
    s.last.id ∈ s.events := List.mem_of_getLast? h.last

theorem SideChain.off_side {l : Bool} {k : Nat} {s : SideEv K} (h : SideChain seq l k s) {j : Nat}
    (hj1 : headId s < j) (hj2 : j < k) (hn : j ∉ s.events) : sideAt seq j = !l :=
  Bool.eq_not_of_ne (fun e => hn (h.complete j hj1 hj2 e))

theorem SideChain.le_last {l : Bool} {k : Nat} {s : SideEv K} (h : SideChain seq l k s) :
    ∀ x ∈ s.events, x ≤ s.last.id := by
  intro x hx
  obtain ⟨ys, e⟩ := List.getLast?_eq_some_iff.mp h.last
  have hp := h.inc
  rw [e] at hx hp
  rcases List.mem_append.mp hx with g | g
  · exact ((List.pairwise_append.mp hp).2.2 x g _ (List.mem_singleton_self _)).le
  · rw [List.mem_singleton.mp g]

theorem SideChain.last_tail {l : Bool} {k : Nat} {s : SideEv K} (h : SideChain seq l k s)
    (h2 : 2 ≤ s.events.length) : s.last.id ∈ s.events.tail ∧ headId s < s.last.id := by
  have hm := getLast_mem_tail s.events s.last.id h.last h2
  refine ⟨hm, ?_⟩
  have := h.inc
  rw [h.head_mem seq] at this
  exact List.rel_of_pairwise_cons this hm

theorem SideChain.single_head {l : Bool} {k : Nat} {s : SideEv K} (h : SideChain seq l k s)
    (h1 : s.events.length < 2) : s.events = [s.last.id] ∧ headId s = s.last.id := by
  have e := singleton_of_short s.events s.last.id h.ne h1 h.last
  exact ⟨e, by simp [headId, e]⟩

theorem SideChain.apex {l : Bool} {s : SideEv K} (he : s.events = [0]) (hid : s.last.id = 0)
    (hg : Good (posOf seq) s.last) : SideChain seq l 1 s :=
  { ne := by rw [he]; simp, last := by rw [he, hid]; rfl, good := hg, inc := by rw [he]; simp,
    lt := by rw [he]; simp, side := by rw [he]; simp, hside := Or.inl (by simp [headId, he]),
    complete := fun j h1 h2 _ => by simp only [headId, he, List.headD_cons] at h1; omega }

/-- the chain restarted from its last vertex (after a flush) -/
theorem SideChain.restart {l : Bool} {k : Nat} {s s' : SideEv K} (h : SideChain seq l k s)
    (h2 : 2 ≤ s.events.length) (he : s'.events = [s.last.id]) (hl : s'.last = s.last) : SideChain seq l k s' := by
  obtain ⟨hm, hlt⟩ := h.last_tail seq h2
  have hh : headId s' = s.last.id := by simp [headId, he]
  refine { ne := by rw [he]; simp, last := by rw [he, hl]; rfl, good := hl ▸ h.good, inc := by rw [he]; simp,
           lt := ?_, side := by rw [he]; simp, hside := ?_, complete := ?_ }
  · intro x hx
    rw [he, List.mem_singleton] at hx
    rw [hx]; exact h.lt _ (h.last_mem seq)
  · rw [hh]; exact Or.inr (h.side _ hm)
  · intro j hj1 hj2 hjs
    rw [hh] at hj1
    have := h.le_last seq j (h.complete j (by omega) hj2 hjs)
    omega

theorem headId_push (s : SideEv K) (v : MV K) (hne : s.events ≠ []) : headId (s.push v) = headId s := by
  simp only [headId, SideEv.push]
  cases hs : s.events with
  | nil => exact absurd hs hne
  | cons x r => simp

theorem SideChain.push {l : Bool} {k : Nat} {s : SideEv K} (h : SideChain seq l k s) (p : P K)
    (hp : posOf seq k = p) (hs : sideAt seq k = l) : SideChain seq l (k + 1) (s.push ⟨p, k, l⟩) := by
  have hhead := headId_push s ⟨p, k, l⟩ h.ne
  have htail : (s.push ⟨p, k, l⟩).events.tail = s.events.tail ++ [k] := by
    simp only [SideEv.push]
    exact List.tail_append_of_ne_nil h.ne
  refine { ne := by simp [SideEv.push], last := by simp [SideEv.push], good := hp.symm, inc := ?_, lt := ?_,
           side := ?_, hside := by rw [hhead]; exact h.hside, complete := ?_ }
  · simp only [SideEv.push]
    rw [List.pairwise_append]
    refine ⟨h.inc, by simp, ?_⟩
    intro a ha b hb
    simp only [List.mem_singleton] at hb
    rw [hb]; exact h.lt a ha
  · intro x hx
    simp only [SideEv.push, List.mem_append, List.mem_singleton] at hx
    rcases hx with g | g
    · have := h.lt x g; omega
    · omega
  · intro x hx
    rw [htail, List.mem_append, List.mem_singleton] at hx
    rcases hx with g | g
    · exact h.side x g
    · rw [g]; exact hs
  · intro j hj1 hj2 hjs
    rw [hhead] at hj1
    simp only [SideEv.push, List.mem_append, List.mem_singleton]
    by_cases e : j = k
    · exact Or.inr e
    · exact Or.inl (h.complete j hj1 (by omega) hjs)

/-- the step `k → k + 1` when vertex `k` is on the other side (not monotonicity in `k`) -/
theorem SideChain.mono {l : Bool} {k : Nat} {s : SideEv K} (h : SideChain seq l k s)
    (hs : sideAt seq k ≠ l) : SideChain seq l (k + 1) s :=
  { h with
    lt := fun x hx => by have := h.lt x hx; omega
    complete := fun j hj1 hj2 hjs => by
      by_cases e : j = k
      · rw [e] at hjs; exact absurd hjs hs
      · exact h.complete j hj1 (by omega) hjs }

/-- **the condition under which `flush_side`'s fan is an ear sequence**: no vertex of the other
side that lies between the chain's first and last vertex in sweep order is strictly beyond the
chord `first → last` -/
def ChordClear (l : Bool) (s : SideEv K) : Prop :=
  3 ≤ s.events.length → ∀ j, headId s < j → j < s.last.id → sideAt seq j = !l →
    0 ≤ sg (!l) * wind (posOf seq (headId s)) (posOf seq j) s.last.pos

theorem ChordClear.congr {l : Bool} {s s' : SideEv K} (h : ChordClear seq l s)
    (he : s'.events = s.events) (hl : s'.last = s.last) : ChordClear seq l s' := by
  unfold ChordClear at h ⊢
  simp only [headId, he, hl] at h ⊢
  exact h

theorem ChordClear.short {l : Bool} {s : SideEv K} (h : s.events.length < 3) : ChordClear seq l s := by
  intro h3; omega

/-- for a chain of ≥ 2 ids: every vertex of the other side between head and last is weakly on its
own side of the chord — from `ChordClear` (≥ 3 ids) or from `SweepValid` (2 ids: the chord is an
edge of the polygon) -/
theorem chord_of_chain (hval : SweepValid seq) {l : Bool} {k : Nat} {s : SideEv K} (h : SideChain seq l k s)
    (hk : k ≤ seq.length) (h2 : 2 ≤ s.events.length) (hc : ChordClear seq l s) :
    ∀ j, headId s < j → j < s.last.id → sideAt seq j = !l →
      0 ≤ sg (!l) * wind (posOf seq (headId s)) (posOf seq j) s.last.pos := by
  by_cases h3 : 3 ≤ s.events.length
  · exact hc h3
  · intro j hj1 hj2 hjs
    obtain ⟨hm, hlt⟩ := h.last_tail seq h2
    have hev : s.events = [headId s, s.last.id] := by
      have e := h.head_mem seq
      have hl := h.last
      match hs : s.events, h2, (not_le.mp h3) with
      | [a, b], _, _ =>
        rw [hs] at e hl
        simp only [List.tail_cons, List.cons.injEq, and_true] at e
        simp only [List.getLast?_cons_cons, List.getLast?_singleton, Option.some.injEq] at hl
        rw [← e, hl]
    have hln : s.last.id < seq.length := by have := h.lt _ (h.last_mem seq); omega
    rw [h.good]
    refine (hval.edge_side (τ := !l) hj1 hj2 hln (fun i hi1 hi2 => ?_) ?_ ?_).le
    · refine h.off_side seq hi1 (by have := h.lt _ (h.last_mem seq); omega) ?_
      rw [hev]
      simp only [List.mem_cons, List.not_mem_nil, or_false]
      omega
    · rcases h.hside with e | e
      · exact Or.inl e
      · right; rw [e, Bool.not_not]
    · right; rw [h.side _ hm, Bool.not_not]

end Geometry

end Lyon.C02f
