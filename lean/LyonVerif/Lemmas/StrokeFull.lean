/-
  The emission relations of the full stroker model `Lyon.Stroke.Full` (`Model/Tess/StrokeFull.lean`),
  for every scalar type.

  * `VSteps C o o'`: `o'` is reached from `o` by a sequence of `add_stroke_vertex` calls and
    `add_triangle` calls in which every vertex carries a `(source, half width)` pair of the class `C`
    and every triangle has three pairwise distinct ids that have all been handed out when it is
    emitted.  An `Out` keeps vertices and triangles
    in two lists, so between two outputs the relation says exactly that a block was appended
    (`Out.grow`) whose vertices are of the class and whose triangles are proper and below the
    `nextId` reached at the end: `VSteps.grow` (emit the vertices first) and `VSteps.exists_grow`.
  * `OutSteps o o'`: the same without a class, defined on its own; `VSteps.outSteps` forgets the
    class.  The proofs work with `VSteps` throughout; nothing is proved about `OutSteps` beyond
    that and the two empty caps at the end of the file.
  * `tessellateArc`, round and empty caps emit valid sequences (`arc_vsteps`, `roundCap_vsteps`,
    `emptySquareCap_vsteps`, `emptyRoundCap_vsteps`); all geometry (angles, subdivision counts) is opaque.
-/
import LyonVerif.Model.Tess.StrokeFull
import LyonVerif.Lemmas.StrokeParts
import LyonVerif.Lemmas.StrokeWindow

set_option linter.unusedSectionVars false

namespace Lyon.C05b
open Lyon Scalar Lyon.Stroke Lyon.Stroke.Full Lyon.C05

section Out
variable {α : Type}

/-- call-level freshness: a sequence of `add_stroke_vertex` / `add_triangle(s)` calls in which
every triangle is proper and only references ids handed out BEFORE it is emitted -/
inductive OutSteps : Out α → Out α → Prop
  | refl (o : Out α) : OutSteps o o
  | vert {o o' : Out α} (d : VData α) : OutSteps o o' → OutSteps o (o'.addVertex d)
  | tris {o o' : Out α} (ts : List Stroke.Tri) : OutSteps o o' →
      (∀ t ∈ ts, Tri.Distinct t ∧ Tri.Below t o'.nextId) → OutSteps o (o'.addTris ts)

@[simp] theorem addVertex_nextId (o : Out α) (d : VData α) : (o.addVertex d).nextId = o.nextId + 1 := rfl
@[simp] theorem addTri_nextId (o : Out α) (t : Stroke.Tri) : (o.addTri t).nextId = o.nextId := rfl
@[simp] theorem addTris_nextId' (o : Out α) (t : List Stroke.Tri) : (o.addTris t).nextId = o.nextId := rfl

end Out

end Lyon.C05b

namespace Lyon.C05c
open Lyon Scalar Lyon.Stroke Lyon.Stroke.Full Lyon.C05 Lyon.C05b

section VSteps
variable {α : Type}

/-- call-level validity: a sequence of `add_stroke_vertex` / `add_triangle(s)` calls in which every
vertex has a `(source, half width)` pair of the class `C` and every triangle is proper and only
references ids handed out BEFORE it is emitted -/
inductive VSteps (C : Src α → α → Prop) : Out α → Out α → Prop
  | refl (o : Out α) : VSteps C o o
  | vert {o o' : Out α} (d : VData α) : VSteps C o o' → C d.src d.halfWidth → VSteps C o (o'.addVertex d)
  | tris {o o' : Out α} (ts : List Stroke.Tri) : VSteps C o o' →
      (∀ t ∈ ts, Tri.Distinct t ∧ Tri.Below t o'.nextId) → VSteps C o (o'.addTris ts)

variable {C : Src α → α → Prop}

theorem VSteps.tri {o o' : Out α} (t : Stroke.Tri) (h : VSteps C o o')
    (ht : Tri.Distinct t ∧ Tri.Below t o'.nextId) : VSteps C o (o'.addTri t) := by
  have : o'.addTri t = o'.addTris [t] := rfl
  rw [this]
  exact VSteps.tris [t] h (by simpa using ht)

theorem VSteps.trans {a b c : Out α} (h1 : VSteps C a b) (h2 : VSteps C b c) : VSteps C a c := by
  induction h2 with
  | refl => exact h1
  | vert d _ hd ih => exact VSteps.vert d ih hd
  | tris ts _ ht ih => exact VSteps.tris ts ih ht

theorem VSteps.next_le {o o' : Out α} (h : VSteps C o o') : o.nextId ≤ o'.nextId := by
  induction h with
  | refl => exact Nat.le_refl _
  | vert d _ _ ih => exact Nat.le_succ_of_le ih
  | tris ts _ _ ih => exact ih

theorem VSteps.outSteps {o o' : Out α} (h : VSteps C o o') : OutSteps o o' := by
  induction h with
  | refl => exact OutSteps.refl _
  | vert d _ _ ih => exact OutSteps.vert d ih
  | tris ts _ ht ih => exact OutSteps.tris ts ih ht

theorem VSteps.mono {C' : Src α → α → Prop} (hC : ∀ s w, C s w → C' s w) {o o' : Out α}
    (h : VSteps C o o') : VSteps C' o o' := by
  induction h with
  | refl => exact VSteps.refl _
  | vert d _ hd ih => exact VSteps.vert d ih (hC _ _ hd)
  | tris ts _ ht ih => exact VSteps.tris ts ih ht

theorem VSteps.grow (o : Out α) {vs : List (VData α)} {ts : List Stroke.Tri}
    (hv : ∀ d ∈ vs, C d.src d.halfWidth)
    (ht : ∀ t ∈ ts, Tri.Distinct t ∧ Tri.Below t (o.nextId + vs.length)) : VSteps C o (o.grow vs ts) := by
  have hvs : ∀ vs : List (VData α), (∀ d ∈ vs, C d.src d.halfWidth) → VSteps C o (o.grow vs []) := by
    intro vs
    induction vs using List.reverseRecOn with
    | nil => intro _; rw [Out.grow_nil]; exact VSteps.refl o
    | append_singleton vs d ih =>
      intro h
      have e : o.grow (vs ++ [d]) [] = (o.grow vs []).addVertex d := by rw [Out.addVertex_eq, Out.grow_grow]; rfl
      rw [e]
      exact VSteps.vert d (ih fun x hx => h x (by simp [hx])) (h d (by simp))
  have e : o.grow vs ts = (o.grow vs []).addTris ts := by rw [Out.addTris_eq, Out.grow_grow]; simp
  rw [e]
  exact VSteps.tris ts (hvs vs hv) ht

/-- conversely, all that `VSteps C o o'` says of `o'`: a block was appended to `o`, its vertices are of the class,
its triangles are proper and below the `nextId` reached at the end -/
theorem VSteps.exists_grow {o o' : Out α} (h : VSteps C o o') :
    ∃ vs ts, o' = o.grow vs ts ∧ (∀ d ∈ vs, C d.src d.halfWidth)
      ∧ ∀ t ∈ ts, Tri.Distinct t ∧ Tri.Below t (o.nextId + vs.length) := by
  induction h with
  | refl => exact ⟨[], [], (Out.grow_nil _).symm, by simp, by simp⟩
  | vert d _ hd ih =>
    obtain ⟨vs, ts, rfl, hv, ht⟩ := ih
    refine ⟨vs ++ [d], ts, by rw [Out.addVertex_eq, Out.grow_grow]; simp, ?_, ?_⟩
    · intro x hx
      rcases List.mem_append.mp hx with hx | hx
      · exact hv x hx
      · simp at hx; subst hx; exact hd
    · intro t htm
      exact ⟨(ht t htm).1, (ht t htm).2.mono (by simp)⟩
  | tris ts' _ ht' ih =>
    obtain ⟨vs, ts, rfl, hv, ht⟩ := ih
    refine ⟨vs, ts ++ ts', by rw [Out.addTris_eq, Out.grow_grow]; simp, hv, ?_⟩
    intro t htm
    rcases List.mem_append.mp htm with h | h
    · exact ht t h
    · exact ht' t h

theorem VSteps.verts {o o' : Out α} (h : VSteps C o o') :
    ∃ vs : List (VData α), o'.verts = o.verts ++ vs ∧ o'.nextId = o.nextId + vs.length
      ∧ ∀ d ∈ vs, C d.src d.halfWidth := by
  obtain ⟨vs, ts, rfl, hv, _⟩ := h.exists_grow
  exact ⟨vs, rfl, rfl, hv⟩

theorem VSteps.vert1 (o : Out α) (d : VData α) (hd : C d.src d.halfWidth) : VSteps C o (o.addVertex d) :=
  VSteps.vert d (VSteps.refl o) hd

theorem VSteps.tris1 (o : Out α) (ts : List Stroke.Tri)
    (ht : ∀ t ∈ ts, Tri.Distinct t ∧ Tri.Below t o.nextId) : VSteps C o (o.addTris ts) :=
  VSteps.tris ts (VSteps.refl o) ht

theorem VSteps.nil_tris (o : Out α) : VSteps C o (o.addTris []) :=
  VSteps.tris1 o [] (by simp)

end VSteps

section Arc
variable {α : Type} [Scalar α] [Transc α] {C : Src α → α → Prop}

theorem arc_vsteps (n : Nat) (a0 a1 : α) (va vb : Nat) (d : VData α) (o : Out α)
    (hab : va ≠ vb) (ha : va < o.nextId) (hb : vb < o.nextId) (hd : C d.src d.halfWidth) :
    VSteps C o (tessellateArc a0 a1 va vb n d o) := by
  rw [arc_eq]
  refine VSteps.grow o (fun v hv => ?_) (by
    rw [List.length_map, arcAngles_length]; exact arcTris_ok n va vb _ hab ha hb)
  obtain ⟨m, _, rfl⟩ := List.mem_map.mp hv
  exact hd

/-- `tessellate_round_cap` between two distinct existing vertices; its vertices carry the radius
as half width -/
theorem roundCap_vsteps (center : P α) (radius : α) (startNormal : P α) (sv ev : Nat)
    (edgeNormal : P α) (tolerance : α) (isStart : Bool) (d : VData α) (o : Out α)
    (hne : sv ≠ ev) (hs : sv < o.nextId) (he : ev < o.nextId) (hd : C d.src radius) :
    VSteps C o (tessellateRoundCap center radius startNormal sv ev edgeNormal tolerance isStart d o) := by
  unfold tessellateRoundCap
  split_ifs
  · exact VSteps.refl o
  · have key : ∀ (d1 d2 : VData α) (a b c : α) (n : Nat), C d1.src d1.halfWidth → C d2.src d2.halfWidth →
        VSteps C o (tessellateArc b c o.nextId ev n d2
          (tessellateArc a b sv o.nextId n d1 ((o.addVertex d1).addTri (sv, o.nextId, ev)))) := by
      intro d1 d2 a b c n h1 h2
      let o1 : Out α := (o.addVertex d1).addTri (sv, o.nextId, ev)
      have hn1 : o1.nextId = o.nextId + 1 := rfl
      have s1 : VSteps C o o1 := by
        refine VSteps.tri _ (VSteps.vert1 o d1 h1) ?_
        simp only [Tri.Distinct, Tri.Below, addVertex_nextId]
        omega
      have s2 := arc_vsteps (C := C) n a b sv o.nextId d1 o1 (by omega) (by omega) (by omega) h1
      have hle := s2.next_le
      have s3 := arc_vsteps (C := C) n b c o.nextId ev d2 (tessellateArc a b sv o.nextId n d1 o1)
        (by omega) (by omega) (by omega) h2
      exact (s1.trans s2).trans s3
    exact key _ _ _ _ _ _ hd hd

theorem emptySquareCap_vsteps (position : P α) (d : VData α) (o : Out α) (hd : C d.src d.halfWidth) :
    VSteps C o (tessellateEmptySquareCap position d o) := by
  simp only [tessellateEmptySquareCap]
  refine VSteps.tri _ (VSteps.tri _ (VSteps.vert _ (VSteps.vert _ (VSteps.vert _
    (VSteps.vert _ (VSteps.refl o) hd) hd) hd) hd) ?_) ?_ <;>
  · simp only [Tri.Distinct, Tri.Below, addVertex_nextId, addTri_nextId]; omega

theorem emptyRoundCap_vsteps (center : P α) (tolerance : α) (d : VData α) (o : Out α)
    (hd : C d.src d.halfWidth) :
    VSteps C o (tessellateEmptyRoundCap center tolerance d o) := by
  let dl : VData α := { d with positionOnPath := center, normal := ⟨-one, zero⟩, side := .positive }
  let dr : VData α := { dl with normal := ⟨one, zero⟩, side := .negative }
  let o2 : Out α := (o.addVertex dl).addVertex dr
  have hn2 : o2.nextId = o.nextId + 2 := rfl
  have s0 : VSteps C o o2 := VSteps.vert _ (VSteps.vert1 o dl hd) hd
  have s1 := roundCap_vsteps (C := C) center d.halfWidth ⟨-one, zero⟩ o.nextId (o.nextId + 1) ⟨zero, one⟩ tolerance true
    dr o2 (by omega) (by omega) (by omega) hd
  have hle := s1.next_le
  have s2 := roundCap_vsteps (C := C) center d.halfWidth ⟨one, zero⟩ (o.nextId + 1) o.nextId ⟨zero, -one⟩ tolerance false
    dr (tessellateRoundCap center d.halfWidth ⟨-one, zero⟩ o.nextId (o.nextId + 1) ⟨zero, one⟩ tolerance true dr o2)
    (by omega) (by omega) (by omega) hd
  exact (s0.trans s1).trans s2

end Arc

end Lyon.C05c

namespace Lyon.C05b
open Lyon Scalar Lyon.Stroke Lyon.Stroke.Full Lyon.C05

section Arc
variable {α : Type} [Scalar α] [Transc α]

theorem emptySquareCap_steps (position : P α) (d : VData α) (o : Out α) :
    OutSteps o (tessellateEmptySquareCap position d o) :=
  (C05c.emptySquareCap_vsteps (C := fun _ _ => True) position d o trivial).outSteps

theorem emptyRoundCap_steps (center : P α) (tolerance : α) (d : VData α) (o : Out α) :
    OutSteps o (tessellateEmptyRoundCap center tolerance d o) :=
  (C05c.emptyRoundCap_vsteps (C := fun _ _ => True) center tolerance d o trivial).outSteps

end Arc

end Lyon.C05b
