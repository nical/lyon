/-
  Core algebra of the exact flattening checker (Model/Geom/FlattenCertExact.lean): `devSq (B − A) dd` bounds the
  squared distance of `lerp(A,B,s) − s(1−s)·dd` to the segment `AB` for every `s ∈ [0,1]` (`dev_core`).
  Degenerate chord: `param_dev`; perpendicular: `perp_dev`; hairpin (`a = |dd·v| > |v|²`): `perp_dev_at` while
  the foot of the perpendicular is on the chord, else the distance to the nearer end point, at most `hairEndSq`
  (`hair_scalar`), which is never above the parametric bound (`hair_end_le`).
-/
import LyonVerif.Model.Geom.FlattenCertExact
import LyonVerif.Lemmas.FlattenChord
import Mathlib.Tactic.Positivity
import Mathlib.Tactic.NormNum

set_option linter.unusedSectionVars false

geom_all Lyon.FlatChk

namespace Lyon.FlatChk
open Lyon Scalar Lyon.Flat

variable {K : Type} [Field K] [LinearOrder K] [IsStrictOrderedRing K]

theorem perpSq_eq (v dd : P K) : perpSq v dd = dd.cross v * dd.cross v / (16 * v.sqLen) := by
  simp only [perpSq, ofNat_eq, Nat.cast_ofNat]

theorem devSq_degenerate {v : P K} (dd : P K) (hv : ¬ 0 < v.sqLen) : devSq v dd = dd.sqLen / 16 := by
  simp only [devSq, zero, sc_zero, if_neg hv]
  simp only [ofNat_eq, Nat.cast_ofNat]

theorem devSq_perp {v dd : P K} (hv : 0 < v.sqLen) (hk : |dd.dot v| ≤ v.sqLen) :
    devSq v dd = perpSq v dd := by
  simp only [devSq, sc_zero, sc_abs, if_pos hv, if_pos hk]

theorem devSq_hairpin {v dd : P K} (hv : 0 < v.sqLen) (hk : v.sqLen < |dd.dot v|) :
    devSq v dd = Max.max (perpSq v dd) (hairEndSq v dd) := by
  simp only [devSq, sc_zero, sc_abs, sc_max, if_pos hv, if_neg (not_le.mpr hk)]

/-- `hairEndSq` in the scalars `vv = |v|²`, `a = |dd·v|`, `cr = dd × v` -/
theorem hairEndSq_eq (v dd : P K) :
    hairEndSq v dd = hairW v dd * hairW v dd * (dd.cross v * dd.cross v) / v.sqLen
      + (|dd.dot v| - v.sqLen) * (|dd.dot v| - v.sqLen) * ((|dd.dot v| - v.sqLen) * (|dd.dot v| - v.sqLen))
        / (16 * (|dd.dot v| * |dd.dot v|) * v.sqLen) := by
  simp only [hairEndSq, hairAlongSq, hairEx, sc_abs, ofNat_eq, Nat.cast_ofNat, abs_mul_abs_self]

theorem hairW_eq (v dd : P K) :
    hairW v dd = if |dd.dot v| ≤ 2 * v.sqLen then (|dd.dot v| - v.sqLen) * v.sqLen / (|dd.dot v| * |dd.dot v|)
      else 1 / 4 := by
  simp only [hairW, hairEx, sc_abs, sc_two, sc_one, sc_four, abs_mul_abs_self]

/-! ## The hairpin stretch, in scalars

`vv = |v|²`, `a = |dd·v| > vv`; at relative position `s` with the foot of the perpendicular off the
chord (`s·vv < s(1−s)·a`) the distance to the nearer end point has the component `g = s(1−s)a − s·vv`
along the chord and `s(1−s)·|cr|/|v|` across it. -/

/-- `4a·g = (a−vv)² − ((a−vv) − 2sa)²`: the overshoot along the chord is at most `(a−vv)²/(4a)` -/
theorem hair_along (s vv a : K) (ha : 0 < a) (hg : 0 ≤ s * (1 - s) * a - s * vv) :
    (s * vv - s * (1 - s) * a) ^ 2 ≤ (a - vv) * (a - vv) * ((a - vv) * (a - vv)) / (16 * (a * a)) := by
  have h1 : (s * (1 - s) * a - s * vv) * (4 * a) ≤ (a - vv) * (a - vv) := by
    linear_combination sq_nonneg ((a - vv) - 2 * s * a)
  rw [le_div_iff₀ (by positivity)]
  linear_combination mul_self_le_mul_self (mul_nonneg hg (mul_nonneg (by norm_num) ha.le)) h1

/-- on that stretch `s < s* = (a−vv)/a`; for `a ≤ 2vv` (`s* ≤ ½`) the weight `s(1−s)` is below its
value at `s*`: `(a−vv)vv − s(1−s)a² = ((a−vv) − sa)(vv − sa)` -/
theorem hair_weight (s vv a : K) (hs0 : 0 ≤ s) (ha : 0 < a) (hneg : s * vv < s * (1 - s) * a) :
    s * (1 - s) ≤ if a ≤ 2 * vv then (a - vv) * vv / (a * a) else 1 / 4 := by
  split_ifs with h2
  · have hsa : s * a < a - vv := by
      have : s * vv < s * ((1 - s) * a) := by linear_combination hneg
      linear_combination lt_of_mul_lt_mul_left this hs0
    rw [le_div_iff₀ (mul_pos ha ha)]
    linear_combination mul_nonneg (sub_nonneg.mpr hsa.le) (by linear_combination hsa + h2 : (0 : K) ≤ vv - s * a)
  · exact Hull.chord_factor s

theorem hair_scalar (s vv a cr W : K) (hs0 : 0 ≤ s) (hs1 : s ≤ 1) (hvv : 0 < vv) (ha : vv < a)
    (hneg : s * vv < s * (1 - s) * a)
    (hW : W = if a ≤ 2 * vv then (a - vv) * vv / (a * a) else 1 / 4) :
    ((s * vv - s * (1 - s) * a) ^ 2 + (s * (1 - s)) ^ 2 * (cr * cr)) / vv
      ≤ W * W * (cr * cr) / vv + ((a - vv) * (a - vv)) * ((a - vv) * (a - vv)) / (16 * (a * a) * vv) := by
  have ha0 : 0 < a := hvv.trans ha
  have hsW : s * (1 - s) ≤ W := hW ▸ hair_weight s vv a hs0 ha0 hneg
  have hw2 := mul_self_le_mul_self (mul_nonneg hs0 (sub_nonneg.mpr hs1)) hsW
  have h5 := hair_along s vv a ha0 (by linear_combination hneg)
  have h6 := mul_le_mul_of_nonneg_right hw2 (mul_self_nonneg cr)
  rw [← div_div, ← add_div]
  exact div_le_div_of_nonneg_right (by linear_combination h5 + h6) hvv.le

/-- the weight bound is between `0` and `¼` (`4(a−vv)vv ≤ a²`) -/
theorem hairW_bounds (vv a W : K) (hvv : 0 < vv) (ha : vv < a)
    (hW : W = if a ≤ 2 * vv then (a - vv) * vv / (a * a) else 1 / 4) : 0 ≤ W ∧ W ≤ 1 / 4 := by
  have ha2 : 0 < a * a := mul_pos (hvv.trans ha) (hvv.trans ha)
  rw [hW]
  split_ifs
  · refine ⟨div_nonneg (mul_nonneg (sub_nonneg.mpr ha.le) hvv.le) ha2.le, ?_⟩
    rw [div_le_iff₀ ha2]
    linear_combination (1 / 4 : K) * sq_nonneg (a - 2 * vv)
  · norm_num

/-- the end-point bound is at most the parametric one, `|dd|²/16 = (a² + cr²)/(16·vv)` -/
theorem hair_end_le (vv a c2 W : K) (hvv : 0 < vv) (ha : vv < a) (hc : 0 ≤ c2)
    (hW : W = if a ≤ 2 * vv then (a - vv) * vv / (a * a) else 1 / 4) :
    W * W * c2 / vv + (a - vv) * (a - vv) * ((a - vv) * (a - vv)) / (16 * (a * a) * vv)
      ≤ (a * a + c2) / vv / 16 := by
  obtain ⟨hW0, hW1⟩ := hairW_bounds vv a W hvv ha hW
  have ha2 : 0 < a * a := mul_pos (hvv.trans ha) (hvv.trans ha)
  have h1 : (a - vv) * (a - vv) ≤ a * a :=
    mul_self_le_mul_self (sub_nonneg.mpr ha.le) (sub_le_self a hvv.le)
  have h2 := mul_le_mul h1 h1 (mul_self_nonneg _) ha2.le
  have h3 := mul_le_mul_of_nonneg_right (mul_self_le_mul_self hW0 hW1) hc
  rw [← div_div _ _ vv, ← add_div, div_right_comm]
  refine div_le_div_of_nonneg_right ?_ hvv.le
  have h4 : (a - vv) * (a - vv) * ((a - vv) * (a - vv)) / (16 * (a * a)) ≤ a * a / 16 := by
    rw [div_le_div_iff₀ (by positivity) (by norm_num)]; linear_combination 16 * h2
  linear_combination h3 + h4

/-- where the foot of the perpendicular from `X(s)` has left the chord at the end point of parameter
`e` (`s'` = parameter distance from that end: `s' = s` at `e = 0`, `s' = 1 − s` at `e = 1`; `hw`, `hsq`: weight and
along-chord component are the same written in `s'`), the distance to that end point is within `hairEndSq` -/
theorem hair_end_dev (A B dd : P K) (s e s' : K) (hs0 : 0 ≤ s') (hs1 : s' ≤ 1)
    (hvv : 0 < (B - A).sqLen) (hk : (B - A).sqLen < |dd.dot (B - A)|)
    (hw : s' * (1 - s') = s * (1 - s))
    (hsq : ((s - e) * (B - A).sqLen - s * (1 - s) * dd.dot (B - A)) ^ 2
      = (s' * (B - A).sqLen - s' * (1 - s') * |dd.dot (B - A)|) ^ 2)
    (hneg : s' * (B - A).sqLen < s' * (1 - s') * |dd.dot (B - A)|) :
    ((A.lerp B s + dd.smul (-(s * (1 - s)))) - A.lerp B e).sqLen ≤ hairEndSq (B - A) dd := by
  rw [hairEndSq_eq]
  refine le_trans (le_of_eq ?_) (hair_scalar s' _ _ (dd.cross (B - A)) _ hs0 hs1 hvv hk hneg (hairW_eq _ dd))
  rw [eq_div_iff (ne_of_gt hvv), chord_sq_identity, hsq, hw]

/-- the curve point over a chord is within `√devSq` of the chord.  By the foot `s − s(1−s)κ`, `κ = dd·v/|v|²`, of the
perpendicular: on the chord (perpendicular bound), beyond `A` or beyond `B` (distance to that end, `hair_end_dev`).
The foot can leave at `A` only when `dd·v > 0` and at `B` only when `dd·v < 0`, which is how `dd·v` becomes the
`|dd·v|` of `hairEndSq`. -/
theorem dev_core (A B dd : P K) (s : K) (hs0 : 0 ≤ s) (hs1 : s ≤ 1) :
    ∃ s2 : K, 0 ≤ s2 ∧ s2 ≤ 1 ∧
      ((A.lerp B s + dd.smul (-(s * (1 - s)))) - A.lerp B s2).sqLen ≤ devSq (B - A) dd := by
  by_cases hvv : 0 < (B - A).sqLen
  · by_cases hk : |dd.dot (B - A)| ≤ (B - A).sqLen
    · rw [devSq_perp hvv hk, perpSq_eq]
      exact perp_dev A B dd s hs0 hs1 hvv hk
    · -- hairpin chord: the foot `s − s(1−s)κ` may leave the chord, at `A` if `dd·v > 0`, at `B` if `< 0`
      have hk := not_le.mp hk
      rw [devSq_hairpin hvv hk]
      have hw0 : 0 ≤ s * (1 - s) := mul_nonneg hs0 (sub_nonneg.mpr hs1)
      have hκv : dd.dot (B - A) / (B - A).sqLen * (B - A).sqLen = dd.dot (B - A) :=
        div_mul_cancel₀ _ (ne_of_gt hvv)
      generalize dd.dot (B - A) / (B - A).sqLen = κ at hκv
      by_cases hf0 : 0 ≤ s - s * (1 - s) * κ
      · by_cases hf1 : s - s * (1 - s) * κ ≤ 1
        · exact ⟨_, hf0, hf1, le_trans (perpSq_eq _ dd ▸ perp_dev_at A B dd s κ hs0 hs1 hvv hκv) (le_max_left _ _)⟩
        · -- beyond `B`: then `dd·v < 0`
          have h1 : (1 - s) * (B - A).sqLen < s * (1 - s) * -dd.dot (B - A) := by
            rw [← hκv]; linear_combination mul_pos (sub_pos.mpr (not_le.mp hf1)) hvv
          have hdv : dd.dot (B - A) < 0 := neg_pos.mp
            (pos_of_mul_pos_right ((mul_nonneg (sub_nonneg.mpr hs1) hvv.le).trans_lt h1) hw0)
          rw [← abs_of_neg hdv] at h1
          refine ⟨1, zero_le_one, le_refl _, le_trans
            (hair_end_dev A B dd s 1 (1 - s) (sub_nonneg.mpr hs1) (by linarith) hvv hk (by ring) ?_ ?_)
            (le_max_right _ _)⟩
          · rw [abs_of_neg hdv]; ring
          · rw [sub_sub_cancel, mul_comm (1 - s) s]; exact h1
      · -- beyond `A`: then `dd·v > 0`
        have h1 : s * (B - A).sqLen < s * (1 - s) * dd.dot (B - A) := by
          rw [← hκv]; linear_combination mul_neg_of_neg_of_pos (not_le.mp hf0) hvv
        have hdv : 0 < dd.dot (B - A) := pos_of_mul_pos_right ((mul_nonneg hs0 hvv.le).trans_lt h1) hw0
        rw [← abs_of_pos hdv] at h1
        refine ⟨0, le_refl _, zero_le_one, le_trans
          (hair_end_dev A B dd s 0 s hs0 hs1 hvv hk rfl ?_ h1) (le_max_right _ _)⟩
        rw [abs_of_pos hdv, sub_zero]
  · rw [devSq_degenerate dd hvv]
    exact ⟨s, hs0, hs1, param_dev A B dd s hs0 hs1⟩

end Lyon.FlatChk
