/-
  Helper lemmas for C16 (`Model/Path/Adapters.lean`): how the adapters act on the protocol
  state, on the endpoint list and on the specification events.

  `Curve`, `curvesMet`, `curvesOf`: the curves a flattening adapter hands to the curve flattener,
  as a list.  What a run needs of the flattener is asked of these curves only, so the same
  statement serves an arbitrary flattener (the hypothesis holds of all curves) and lyon_geom's own
  (it holds of the curves it does not panic on).  Core Lean only.
-/
import LyonVerif.Model.Path.Adapters
import LyonVerif.Lemmas.Trace

namespace Lyon.Adapt
open Lyon Lyon.Path

section Maps
variable {π π' A : Type}

theorem nestState_map (f : π → π') (b : Bool) (prog : List (Call π A)) :
    nestState b (prog.map (mapCall f)) = nestState b prog :=
  nestState_map_step _ (fun b c => by cases b <;> cases c <;> rfl) b prog

theorem wellNestedFrom_map (f : π → π') (b : Bool) (prog : List (Call π A)) :
    wellNestedFrom b (prog.map (mapCall f)) = wellNestedFrom b prog :=
  wellNestedFrom_map_step _ (fun b c => by cases b <;> cases c <;> rfl) b prog

theorem nestState_noAttr {B : Type} (b : Bool) (prog : List (Call π A)) :
    nestState b (prog.map (noAttrCall (B := B))) = nestState b prog :=
  nestState_map_step _ (fun b c => by cases b <;> cases c <;> rfl) b prog

theorem specFrom_map (f : π → π') (st : Option (π × π)) (prog : List (Call π A)) :
    specFrom (st.map fun s => (f s.1, f s.2)) (prog.map (mapCall f))
      = (specFrom st prog).map (mapEvent f) := by
  induction prog generalizing st with
  | nil => cases st <;> simp [specFrom]
  | cons c r ih =>
    cases st with
    | none =>
      cases c with
      | begin p a => simpa [specFrom, mapCall, mapEvent] using ih (some (p, p))
      | line p a => simpa [specFrom, mapCall] using ih none
      | quad k p a => simpa [specFrom, mapCall] using ih none
      | cubic k1 k2 p a => simpa [specFrom, mapCall] using ih none
      | end_ cl => simpa [specFrom, mapCall] using ih none
    | some fc =>
      obtain ⟨fst, cur⟩ := fc
      cases c with
      | begin p a => simpa [specFrom, mapCall] using ih (some (fst, cur))
      | line p a => simpa [specFrom, mapCall, mapEvent] using ih (some (fst, p))
      | quad k p a => simpa [specFrom, mapCall, mapEvent] using ih (some (fst, p))
      | cubic k1 k2 p a => simpa [specFrom, mapCall, mapEvent] using ih (some (fst, p))
      | end_ cl => simpa [specFrom, mapCall, mapEvent] using ih none

theorem endpoints_map (f : π → π') (prog : List (Call π A)) :
    endpoints (prog.map (mapCall f)) = (endpoints prog).map fun e => (f e.1, e.2) := by
  induction prog with
  | nil => rfl
  | cons c r ih => cases c <;> simp [endpoints, mapCall, ih]

theorem endpoints_append (l1 l2 : List (Call π A)) :
    endpoints (l1 ++ l2) = endpoints l1 ++ endpoints l2 := by
  induction l1 with
  | nil => rfl
  | cons c r ih => cases c <;> simp [endpoints, ih]

theorem eventEndpoints_append (l1 l2 : List (Event π)) :
    eventEndpoints (l1 ++ l2) = eventEndpoints l1 ++ eventEndpoints l2 := by
  induction l1 with
  | nil => rfl
  | cons c r ih => cases c <;> simp [eventEndpoints, ih]

theorem eventEndpoints_map (f : π → π') (l : List (Event π)) :
    eventEndpoints (l.map (mapEvent f)) = (eventEndpoints l).map f := by
  induction l with
  | nil => rfl
  | cons c r ih => cases c <;> simp [eventEndpoints, mapEvent, ih]

end Maps

/-- a curve as an adapter hands it to the flattener: `from`, control point(s), `to` -/
inductive Curve (π : Type) where
  | quad (a c b : π)
  | cubic (a c d b : π)

section Curves
variable {π π' α A : Type}

def Curve.from : Curve π → π
  | .quad a _ _ => a
  | .cubic a _ _ _ => a

def Curve.to : Curve π → π
  | .quad _ _ b => b
  | .cubic _ _ _ b => b

def Curve.map (g : π → π') : Curve π → Curve π'
  | .quad a c b => .quad (g a) (g c) (g b)
  | .cubic a c d b => .cubic (g a) (g c) (g d) (g b)

def Flattener.on (F : Flattener π α) : Curve π → List (FSeg π α)
  | .quad a c b => F.quad a c b
  | .cubic a c d b => F.cubic a c d b

def IterFlattener.on (G : IterFlattener π) : Curve π → List π
  | .quad a c b => G.quad a c b
  | .cubic a c d b => G.cubic a c d b

/-- the curves `builder::Flattened` flattens while it receives `prog`, starting with
`current_position = cur` (same traversal as `FlatB.run`) -/
def curvesMet : π → List (Call π A) → List (Curve π)
  | _, [] => []
  | _, .begin p _ :: r => curvesMet p r
  | _, .line p _ :: r => curvesMet p r
  | cur, .quad c p _ :: r => .quad cur c p :: curvesMet p r
  | cur, .cubic c1 c2 p _ :: r => .cubic cur c1 c2 p :: curvesMet p r
  | cur, .end_ _ :: r => curvesMet cur r

/-- the curves the iterator-side adapters flatten: the curve events of the stream -/
def curvesOf : List (Event π) → List (Curve π)
  | [] => []
  | .quad a c b :: r => .quad a c b :: curvesOf r
  | .cubic a c d b :: r => .cubic a c d b :: curvesOf r
  | _ :: r => curvesOf r

theorem all_congr_mem {β : Type} {l : List β} {p q : β → Bool} (h : ∀ x ∈ l, p x = q x) :
    l.all p = l.all q := by
  induction l with
  | nil => rfl
  | cons x r ih =>
    rw [List.all_cons, List.all_cons, h x (List.mem_cons_self ..),
      ih fun y hy => h y (List.mem_cons_of_mem _ hy)]

theorem curvesMet_map (g : π → π') (cur : π) (prog : List (Call π A)) :
    curvesMet (g cur) (prog.map (mapCall g)) = (curvesMet cur prog).map (Curve.map g) := by
  induction prog generalizing cur with
  | nil => rfl
  | cons c r ih => cases c <;> simp [curvesMet, mapCall, Curve.map, ih]

theorem curvesOf_map (g : π → π') (evs : List (Event π)) :
    curvesOf (evs.map (mapEvent g)) = (curvesOf evs).map (Curve.map g) := by
  induction evs with
  | nil => rfl
  | cons e r ih => cases e <;> simp [curvesOf, mapEvent, Curve.map, ih]

theorem mem_curvesOf_quad {a c b : π} {evs : List (Event π)} (h : Event.quad a c b ∈ evs) :
    Curve.quad a c b ∈ curvesOf evs := by
  induction evs with
  | nil => cases h
  | cons e r ih =>
    rcases List.mem_cons.1 h with rfl | h'
    · simp [curvesOf]
    · cases e <;> simp [curvesOf, ih h']

theorem mem_curvesOf_cubic {a c d b : π} {evs : List (Event π)} (h : Event.cubic a c d b ∈ evs) :
    Curve.cubic a c d b ∈ curvesOf evs := by
  induction evs with
  | nil => cases h
  | cons e r ih =>
    rcases List.mem_cons.1 h with rfl | h'
    · simp [curvesOf]
    · cases e <;> simp [curvesOf, ih h']

/-- for a well-nested program the builder-side adapter flattens exactly the curve events of the
path the program denotes: its `current_position` is the event's `from` -/
theorem curvesMet_spec (st : Option (π × π)) (prog : List (Call π A))
    (hn : wellNestedFrom st.isSome prog = true) :
    ∀ cur, (∀ f c, st = some (f, c) → cur = c) →
      curvesMet cur prog = curvesOf (specFrom st prog) := by
  refine wellNested_induction ?_ ?_ ?_ ?_ ?_ ?_ st prog hn
  · intro _ _; rfl
  · intro p a r _ ih cur _
    simpa [curvesMet, specFrom, curvesOf] using ih p (by simp)
  · intro f c p a r _ ih cur _
    simpa [curvesMet, specFrom, curvesOf] using ih p (by simp)
  · intro f c k p a r _ ih cur hs
    simp [curvesMet, specFrom, curvesOf, hs f c rfl, ih p (by simp)]
  · intro f c k1 k2 p a r _ ih cur hs
    simp [curvesMet, specFrom, curvesOf, hs f c rfl, ih p (by simp)]
  · intro f c cl r _ ih cur _
    simpa [curvesMet, specFrom, curvesOf] using ih cur (by simp)

theorem curvesOf_attrEvents (o : π) (prog : List (Call π (List α))) (hn : WellNested prog) :
    curvesOf ((attrEvents prog).map (mapEvent Prod.fst)) = curvesMet o prog := by
  have h := specFrom_map (A := List α) Prod.fst none (prog.map aCall)
  have e : ∀ l : List (Call π (List α)), (l.map aCall).map (mapCall Prod.fst) = l := by
    intro l
    induction l with
    | nil => rfl
    | cons c r ih => cases c <;> simp [aCall, mapCall, ih]
  rw [Option.map_none, e] at h
  rw [attrEvents, specEvents, ← h, ← curvesMet_spec none prog hn o (by simp)]

end Curves

section Flat
variable {π α : Type} [Scalar α]

theorem nestState_emitLines (segs : List (FSeg π α)) (prev a : List α) :
    nestState true (emitLines segs prev a) = some true := by
  induction segs with
  | nil => rfl
  | cons s r ih => simpa [emitLines, nestState] using ih

theorem nestState_specLines (segs : List (FSeg π α)) (prev a : List α) :
    nestState true (specLines segs prev a) = some true := by
  induction segs with
  | nil => rfl
  | cons s r ih => simpa [specLines, nestState] using ih

theorem nestState_flatRun (F : Flattener π α) (s : FlatB π α) (b b' : Bool)
    (prog : List (Call π (List α))) (h : nestState b prog = some b') :
    nestState b (FlatB.run F s prog) = some b' := by
  induction prog generalizing s b with
  | nil => simpa [FlatB.run] using h
  | cons c r ih =>
    cases b <;> cases c <;> simp only [nestState] at h <;> try (exact absurd h (by simp))
    · simpa [FlatB.run, FlatB.step, nestState] using ih _ _ h
    · simpa [FlatB.run, FlatB.step, nestState] using ih _ _ h
    · simp only [FlatB.run, FlatB.step]
      exact nestState_append_of (nestState_emitLines _ _ _) (ih _ _ h)
    · simp only [FlatB.run, FlatB.step]
      exact nestState_append_of (nestState_emitLines _ _ _) (ih _ _ h)
    · simpa [FlatB.run, FlatB.step, nestState] using ih _ _ h

theorem isFlat_emitLines (segs : List (FSeg π α)) (prev a : List α) :
    ∀ c ∈ emitLines segs prev a, Call.isFlat c = true := by
  intro c hc
  simp only [emitLines, List.mem_map] at hc
  obtain ⟨s, _, rfl⟩ := hc
  rfl

theorem isFlat_flatRun (F : Flattener π α) (s : FlatB π α) (prog : List (Call π (List α))) :
    ∀ c ∈ FlatB.run F s prog, Call.isFlat c = true := by
  induction prog generalizing s with
  | nil => simp [FlatB.run]
  | cons c r ih =>
    cases c <;> simp only [FlatB.run, FlatB.step, List.forall_mem_append] <;>
      first | exact ⟨fun _ h => List.mem_singleton.1 h ▸ rfl, ih _⟩
            | exact ⟨isFlat_emitLines _ _ _, ih _⟩

theorem marks_flatRun (F : Flattener π α) (s : FlatB π α) (prog : List (Call π (List α))) :
    (FlatB.run F s prog).filter Call.isMark = prog.filter Call.isMark := by
  induction prog generalizing s with
  | nil => rfl
  | cons c r ih =>
    have hl : ∀ segs (prev a : List α), (emitLines (π := π) segs prev a).filter Call.isMark = [] := by
      intro segs prev a
      induction segs with
      | nil => rfl
      | cons s r ih => simp [emitLines, Call.isMark]
    cases c <;> simp [FlatB.run, FlatB.step, Call.isMark, List.filter_cons, ih, hl]

theorem endpoints_emitLines_snoc (l : List (FSeg π α)) (x : FSeg π α) (prev a : List α) :
    endpoints (emitLines (l ++ [x]) prev a)
      = endpoints (emitLines l prev a) ++ [(x.b, emitAttr prev a x.t)] := by
  simp [emitLines, endpoints_append, endpoints]

theorem emitAttr_one_any (hone : ((Scalar.one : α) == Scalar.one) = true) (prev a : List α) :
    emitAttr prev a Scalar.one = a := by
  simp [emitAttr, hone]

/-- The endpoints of a program, with their attributes, are a subsequence of the endpoints of
what `Flattened` hands down, when `F` ends at `(to, 1)` on every curve met: the last point
emitted for a curve is the call's `to`, and it carries the call's own attributes because
`t.end == 1.0` holds there (`hone`: any scalar type in which `1 == 1`). -/
theorem keeps_run_on (hone : ((Scalar.one : α) == Scalar.one) = true) (F : Flattener π α)
    (s : FlatB π α) (prog : List (Call π (List α)))
    (h : ∀ k ∈ curvesMet s.cur prog, ∃ l x, F.on k = l ++ [⟨x, k.to, Scalar.one⟩]) :
    List.Sublist (endpoints prog) (endpoints (FlatB.run F s prog)) := by
  induction prog generalizing s with
  | nil => simp [endpoints, FlatB.run]
  | cons c r ih =>
    cases c with
    | quad k p a =>
      simp only [curvesMet, List.forall_mem_cons, Flattener.on, Curve.to] at h
      obtain ⟨l, x, hl⟩ := h.1
      simp only [endpoints, FlatB.run, FlatB.step, hl, endpoints_append, endpoints_emitLines_snoc,
        emitAttr_one_any hone]
      exact List.Sublist.append (List.sublist_append_right _ [(p, a)]) (ih _ h.2)
    | cubic k1 k2 p a =>
      simp only [curvesMet, List.forall_mem_cons, Flattener.on, Curve.to] at h
      obtain ⟨l, x, hl⟩ := h.1
      simp only [endpoints, FlatB.run, FlatB.step, hl, endpoints_append, endpoints_emitLines_snoc,
        emitAttr_one_any hone]
      exact List.Sublist.append (List.sublist_append_right _ [(p, a)]) (ih _ h.2)
    | _ => simpa [endpoints, FlatB.run, FlatB.step] using ih _ h

end Flat

section Iter
variable {π : Type}

theorem eventEndpoints_chain (a : π) (pts : List π) : eventEndpoints (chain a pts) = pts := by
  induction pts generalizing a with
  | nil => rfl
  | cons p r ih => simp [chain, eventEndpoints, ih]

theorem isFlat_chain (a : π) (pts : List π) : ∀ e ∈ chain a pts, Event.isFlat e = true := by
  induction pts generalizing a with
  | nil => simp [chain]
  | cons p r ih =>
    intro e he
    simp only [chain, List.mem_cons] at he
    rcases he with rfl | he
    · rfl
    · exact ih _ e he

theorem isFlat_flatIter (G : IterFlattener π) (evs : List (Event π)) :
    ∀ e ∈ flatIter G evs, Event.isFlat e = true := by
  induction evs with
  | nil => simp [flatIter]
  | cons c r ih =>
    cases c <;> simp only [flatIter, List.forall_mem_cons, List.forall_mem_append] <;>
      first | exact ⟨rfl, ih⟩ | exact ⟨isFlat_chain _ _, ih⟩

theorem iter_keeps_on (G : IterFlattener π) (evs : List (Event π))
    (h : ∀ k ∈ curvesOf evs, ∃ l, G.on k = l ++ [k.to]) :
    List.Sublist (eventEndpoints evs) (eventEndpoints (flatIter G evs)) := by
  induction evs with
  | nil => simp [eventEndpoints, flatIter]
  | cons e r ih =>
    cases e with
    | quad a c b =>
      simp only [curvesOf, List.forall_mem_cons, IterFlattener.on, Curve.to] at h
      obtain ⟨l, hl⟩ := h.1
      simp only [eventEndpoints, flatIter, eventEndpoints_append, eventEndpoints_chain, hl]
      exact List.Sublist.append (List.sublist_append_right _ [b]) (ih h.2)
    | cubic a c d b =>
      simp only [curvesOf, List.forall_mem_cons, IterFlattener.on, Curve.to] at h
      obtain ⟨l, hl⟩ := h.1
      simp only [eventEndpoints, flatIter, eventEndpoints_append, eventEndpoints_chain, hl]
      exact List.Sublist.append (List.sublist_append_right _ [b]) (ih h.2)
    | _ => simpa [eventEndpoints, flatIter] using ih h

theorem wellFormed_chain [DecidableEq π] (f a : π) (l : List π) (b : π) (rest : List (Event π)) :
    wellFormedFrom (some (f, a)) (chain a (l ++ [b]) ++ rest) = wellFormedFrom (some (f, b)) rest := by
  induction l generalizing a with
  | nil => simp [chain, wellFormedFrom]
  | cons p r ih => simpa [chain, wellFormedFrom] using ih p

theorem wellFormedFrom_flatIter_on [DecidableEq π] (G : IterFlattener π) (evs : List (Event π))
    (hG : ∀ k ∈ curvesOf evs, ∃ l, G.on k = l ++ [k.to])
    (st : Option (π × π)) (h : wellFormedFrom st evs = true) :
    wellFormedFrom st (flatIter G evs) = true := by
  induction evs generalizing st with
  | nil => simpa [flatIter] using h
  | cons e r ih =>
    cases st with
    | none =>
      cases e with
      | begin p =>
        simp only [wellFormedFrom, flatIter] at h ⊢
        exact ih hG _ h
      | _ => simp [wellFormedFrom] at h
    | some fc =>
      obtain ⟨f, c⟩ := fc
      cases e with
      | begin p => simp [wellFormedFrom] at h
      | line a b =>
        simp only [wellFormedFrom, flatIter, Bool.and_eq_true] at h ⊢
        exact ⟨h.1, ih hG _ h.2⟩
      | quad a k b =>
        simp only [wellFormedFrom, Bool.and_eq_true, beq_iff_eq] at h
        simp only [curvesOf, List.forall_mem_cons, IterFlattener.on, Curve.to] at hG
        obtain ⟨rfl, h2⟩ := h
        obtain ⟨l, hl⟩ := hG.1
        rw [flatIter, hl, wellFormed_chain]
        exact ih hG.2 _ h2
      | cubic a k1 k2 b =>
        simp only [wellFormedFrom, Bool.and_eq_true, beq_iff_eq] at h
        simp only [curvesOf, List.forall_mem_cons, IterFlattener.on, Curve.to] at hG
        obtain ⟨rfl, h2⟩ := h
        obtain ⟨l, hl⟩ := hG.1
        rw [flatIter, hl, wellFormed_chain]
        exact ih hG.2 _ h2
      | end_ l fst cl =>
        simp only [wellFormedFrom, flatIter, Bool.and_eq_true] at h ⊢
        exact ⟨h.1, ih hG _ h.2⟩

end Iter

section AttrIter
variable {π α : Type} [Scalar α]

theorem eventEndpoints_linesA (fa ta : List α) (ca : List α) (segs : List (FSeg π α)) :
    eventEndpoints (linesA fa ta ca segs) = segs.map fun s => (s.b, interpI fa ta s.t) := by
  induction segs generalizing ca with
  | nil => rfl
  | cons s r ih => simp [linesA, eventEndpoints, ih]

theorem isFlat_linesA (fa ta : List α) (ca : List α) (segs : List (FSeg π α)) :
    ∀ e ∈ linesA fa ta ca segs, Event.isFlat e = true := by
  induction segs generalizing ca with
  | nil => simp [linesA]
  | cons s r ih =>
    intro e he
    simp only [linesA, List.mem_cons] at he
    rcases he with rfl | he
    · rfl
    · exact ih _ e he

theorem isFlat_flatAttrIter (F : Flattener π α) (evs : List (Event (AP π α))) :
    ∀ e ∈ flatAttrIter F evs, Event.isFlat e = true := by
  induction evs with
  | nil => simp [flatAttrIter]
  | cons c r ih =>
    cases c <;> simp only [flatAttrIter, List.forall_mem_cons, List.forall_mem_append] <;>
      first | exact ⟨rfl, ih⟩ | exact ⟨isFlat_linesA _ _ _ _, ih⟩

end AttrIter

section FlatEvents
variable {π α : Type} [Scalar α]

theorem specFrom_emitLines_snoc (f c : π) (l : List (FSeg π α)) (x : FSeg π α) (prev a : List α)
    (rest : List (Call π (List α))) :
    specFrom (some (f, c)) (emitLines (l ++ [x]) prev a ++ rest)
      = chain c ((l ++ [x]).map (·.b)) ++ specFrom (some (f, x.b)) rest := by
  induction l generalizing c with
  | nil => simp [emitLines, specFrom, chain]
  | cons s r ih =>
    have := ih s.b
    simp only [emitLines, List.map_append, List.map_cons, List.map_nil, List.cons_append,
      specFrom, chain] at this ⊢
    rw [this]

/-- the events denoted by what the builder-side adapter hands down are the iterator-side
flattening of the events of the program, when on every curve met the callbacks end at `to` (at
any `t`: events carry positions only, no attribute hangs on `t == 1` as in `keeps_run_on`) and
the iterator yields their `line.to`s -/
theorem flatRun_events_on (F : Flattener π α) (G : IterFlattener π)
    (st : Option (π × π)) (prog : List (Call π (List α)))
    (hn : wellNestedFrom st.isSome prog = true) :
    ∀ s : FlatB π α, (∀ f c, st = some (f, c) → s.cur = c) →
      (∀ k ∈ curvesMet s.cur prog,
        (∃ l x t, F.on k = l ++ [⟨x, k.to, t⟩]) ∧ G.on k = (F.on k).map (·.b)) →
      specFrom st (FlatB.run F s prog) = flatIter G (specFrom st prog) := by
  refine wellNested_induction ?_ ?_ ?_ ?_ ?_ ?_ st prog hn
  · intro s _ _; rfl
  · intro p a r _ ih s _ h
    simpa [FlatB.run, FlatB.step, specFrom, flatIter] using ih ⟨p, a⟩ (by simp) h
  · intro f c p a r _ ih s _ h
    simpa [FlatB.run, FlatB.step, specFrom, flatIter] using ih ⟨p, a⟩ (by simp) h
  · intro f c k p a r _ ih s hs h
    have hcur := hs f c rfl
    simp only [curvesMet, List.forall_mem_cons, Flattener.on, IterFlattener.on, Curve.to, hcur] at h
    obtain ⟨⟨⟨l, x, t, hl⟩, hG⟩, h2⟩ := h
    simp only [FlatB.run, FlatB.step, specFrom, flatIter, hcur, hG, hl, specFrom_emitLines_snoc,
      ih ⟨p, a⟩ (by simp) h2]
  · intro f c k1 k2 p a r _ ih s hs h
    have hcur := hs f c rfl
    simp only [curvesMet, List.forall_mem_cons, Flattener.on, IterFlattener.on, Curve.to, hcur] at h
    obtain ⟨⟨⟨l, x, t, hl⟩, hG⟩, h2⟩ := h
    simp only [FlatB.run, FlatB.step, specFrom, flatIter, hcur, hG, hl, specFrom_emitLines_snoc,
      ih ⟨p, a⟩ (by simp) h2]
  · intro f c cl r _ ih s _ h
    simpa [FlatB.run, FlatB.step, specFrom, flatIter] using ih s (by simp) h

end FlatEvents

end Lyon.Adapt
