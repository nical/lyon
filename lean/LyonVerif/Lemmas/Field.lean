/-
  The theorem-side instance of `Scalar`: any linearly ordered field.
  The model `def`s are the same ones the executable driver runs at `Float32`/`Float`.
  With it what every proof about the model at a field starts from: the model's constants and comparisons as field
  terms (`sc_*`, `sc_beq`, `bne_iff`, `P.beq_iff_eq`), the `geom` unfolding set and `geom_ring`, `P.ext'`, the two
  consequences of the `sqrt` laws (`sqrt_eq_of_sq`, `sqrt_pos_of_pos`), `sdiv_sqLen`, and `strict_ext` about lists.
-/
import LyonVerif.Model.Scalar
import LyonVerif.Lemmas.Attr
import Mathlib.Algebra.Order.Field.Basic
import Mathlib.Tactic.Ring
import Mathlib.Tactic.Linarith
import Mathlib.Tactic.FieldSimp
import Mathlib.Tactic.LinearCombination

set_option linter.unusedSectionVars false

geom_all Lyon.P
geom_all Lyon.Scalar

namespace Lyon

section
variable {K : Type} [Field K] [LinearOrder K] [IsStrictOrderedRing K]

noncomputable instance fieldScalar : Scalar K where
  add := (· + ·)
  sub := (· - ·)
  mul := (· * ·)
  div := (· / ·)
  neg := fun a => -a
  lt := (· < ·)
  le := (· ≤ ·)
  beq := fun a b => decide (a = b)
  ofNat := fun n => (n : K)
  ofSci := fun m e => (m : K) / (10 : K) ^ e
  dlt := fun a b => inferInstanceAs (Decidable (a < b))
  dle := fun a b => inferInstanceAs (Decidable (a ≤ b))
  abs := fun a => |a|
  min := fun a b => Min.min a b
  max := fun a b => Max.max a b

@[simp] theorem sc_zero : (Scalar.ofNat 0 : K) = 0 := by simp [Scalar.ofNat]
@[simp] theorem sc_one : (Scalar.ofNat 1 : K) = 1 := by simp [Scalar.ofNat]
@[simp] theorem sc_two : (Scalar.ofNat 2 : K) = 2 := by simp [Scalar.ofNat]
@[simp] theorem sc_three : (Scalar.ofNat 3 : K) = 3 := by simp [Scalar.ofNat]
@[simp] theorem sc_four : (Scalar.ofNat 4 : K) = 4 := by simp [Scalar.ofNat]
@[simp] theorem sc_six : (Scalar.ofNat 6 : K) = 6 := by simp [Scalar.ofNat]
@[simp] theorem sc_half : (Scalar.ofSci 5 1 : K) = 1/2 := by simp [Scalar.ofSci]; norm_num
theorem sc_beq (a b : K) : ((a == b) = true) ↔ a = b := by
  show (decide (a = b) = true) ↔ a = b
  simp
theorem bne_iff (a b : K) : ((a != b) = true) ↔ a ≠ b := by simp [bne]

@[geom] theorem ofNat_eq (n : Nat) : (Scalar.ofNat n : K) = (n : K) := rfl
@[geom] theorem ofSci_eq (m e : Nat) : (Scalar.ofSci m e : K) = (m : K) / (10 : K) ^ e := rfl
@[geom] theorem sc_add (a b : K) : Add.add a b = a + b := rfl
@[geom] theorem sc_abs (a : K) : Scalar.abs a = |a| := rfl
@[geom] theorem sc_min (a b : K) : Scalar.min a b = min a b := rfl
@[geom] theorem sc_max (a b : K) : Scalar.max a b = max a b := rfl

theorem P.ext' {a b : P K} (hx : a.x = b.x) (hy : a.y = b.y) : a = b := by
  cases a; cases b; simp_all

theorem P.sqLen_nonneg (v : P K) : 0 ≤ v.sqLen := add_nonneg (mul_self_nonneg _) (mul_self_nonneg _)

@[geom] theorem P.add_def (a b : P K) : a + b = ⟨a.x + b.x, a.y + b.y⟩ := rfl
@[geom] theorem P.sub_def (a b : P K) : a - b = ⟨a.x - b.x, a.y - b.y⟩ := rfl
@[geom] theorem P.neg_def (a : P K) : -a = ⟨-a.x, -a.y⟩ := rfl

end

/-- unfold the model down to field arithmetic and close the goal with `ring`
(point equalities are split into coordinates first) -/
macro "geom_ring" : tactic => `(tactic|
  (first
    | (apply P.ext' <;> (simp only [geom, Nat.cast_ofNat, Nat.cast_one, Nat.cast_zero, pow_one]) <;> ring)
    | ((simp only [geom, Nat.cast_ofNat, Nat.cast_one, Nat.cast_zero, pow_one]) <;> ring)))

section
variable {K : Type} [Field K] [LinearOrder K] [IsStrictOrderedRing K]

/-! The model's constants and comparisons in the spelling the model uses (`Scalar.zero`, `Scalar.one`,
`==` on scalars and points), for `rw` and `▸`; `simp` reaches them through `sc_zero`, `sc_one`, … -/

theorem sc_zero_eq : (Scalar.zero : K) = 0 := sc_zero
theorem sc_one_eq : (Scalar.one : K) = 1 := sc_one
theorem sc_two_eq : (Scalar.two : K) = 2 := sc_two
theorem sc_four_eq : (Scalar.four : K) = 4 := sc_four
theorem sc_half_eq : (Scalar.half : K) = 1 / 2 := sc_half

theorem sc_beq_zero (x : K) : ((x == (Scalar.zero : K)) = true) ↔ x = 0 := by
  rw [sc_zero_eq]; exact sc_beq _ _

theorem P.beq_iff_eq (a b : P K) : ((a == b) = true) ↔ a = b := by
  show (P.beq a b = true) ↔ a = b
  simp only [P.beq, Bool.and_eq_true, sc_beq]
  constructor
  · rintro ⟨h1, h2⟩; exact P.ext' h1 h2
  · rintro rfl; exact ⟨rfl, rfl⟩

theorem P.beq_comm (a b : P K) : (a == b) = (b == a) :=
  Bool.eq_iff_iff.mpr (by rw [P.beq_iff_eq, P.beq_iff_eq, eq_comm])

/-- a vector divided by a number whose square is its squared length is a unit vector (`Vector2D::normalize`, with
`sqrt` entering only through `l * l = |v|²`) -/
theorem sdiv_sqLen (v : P K) {l : K} (hl : l * l = v.sqLen) (hne : v.sqLen ≠ 0) : (v.sdiv l).sqLen = 1 := by
  have hl0 : l ≠ 0 := fun h => hne (by rw [← hl, h, mul_zero])
  simp only [geom] at hl ⊢
  field_simp
  linear_combination -hl

end

section
variable {K : Type} [Field K] [LinearOrder K] [IsStrictOrderedRing K] [Transc K]

/-- a non-negative number whose square is `x` is `sqrt x` -/
theorem sqrt_eq_of_sq (hs0 : ∀ x : K, 0 ≤ x → 0 ≤ Transc.sqrt x)
    (hsq : ∀ x : K, 0 ≤ x → Transc.sqrt x * Transc.sqrt x = x) {x y : K} (hy : 0 ≤ y) (h : y * y = x) :
    Transc.sqrt x = y :=
  have hx : 0 ≤ x := h ▸ mul_self_nonneg y
  (mul_self_inj (hs0 x hx) hy).1 ((hsq x hx).trans h.symm)

theorem sqrt_pos_of_pos (hs0 : ∀ x : K, 0 ≤ x → 0 ≤ Transc.sqrt x)
    (hsq : ∀ x : K, 0 ≤ x → Transc.sqrt x * Transc.sqrt x = x) {x : K} (hx : 0 < x) : 0 < Transc.sqrt x :=
  (hs0 x hx.le).lt_of_ne fun h => hx.ne (by rw [← hsq x hx.le, ← h, mul_zero])

end

/-- a strictly increasing list is determined by its members -/
theorem strict_ext {α : Type} [LinearOrder α] {l₁ l₂ : List α} (h₁ : l₁.Pairwise (· < ·)) (h₂ : l₂.Pairwise (· < ·))
    (h : ∀ x, x ∈ l₁ ↔ x ∈ l₂) : l₁ = l₂ :=
  List.Perm.eq_of_pairwise (le := (· < ·)) (fun _ _ _ _ hab hba => absurd hab hba.asymm) h₁ h₂
    ((List.perm_ext_iff_of_nodup (h₁.imp ne_of_lt) (h₂.imp ne_of_lt)).mpr h)

end Lyon