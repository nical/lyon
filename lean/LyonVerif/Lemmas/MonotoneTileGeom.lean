/-
  C02 (`Props/C02f.lean`): point-level geometry for the POINT-SET tiling proofs.

  * the sweep order on points is total (`after_total`), its direction cone `Hv` is closed under
    positive combinations (`hv_comb2`);
  * `InTri a b c q` — `q` lies strictly inside the (positively oriented) triangle `(a, b, c)`:
    `wind a b q, wind b c q, wind c a q > 0`; `InTriS σ x y z` — the same for a triangle listed in
    sweep order `x < y < z` whose middle vertex sticks out on side `σ`;
  * barycentric identities (`bary_sum`, `bary_wind`, `bary_x`, `bary_y`): polynomial identities,
    no division;
  * a point strictly inside a triangle lies strictly between its first and last vertex in sweep
    order (`inTriS_after`) and on that side of a line on which the three vertices lie: weakly
    (`inTriS_side_le`), and strictly if the line is a sweep edge, because three points on a line
    are collinear (`wind_of_on_line`, `inTriS_side_weak`);
  * "turn" lemmas (`turn_from_xW`, `turn_to_zW`, `turn_outerW`, `turn_cover_xyW`, `turn_cover_yz_le`):
    consequences of `cross_trans_mix_sg` / `cross_trans_le_sg` that move the half-plane test of a point
    from one edge of a triangle to another; the corner may be flat (weak convexity).

  Sweep-monotone chains, the region between two chains, and the bookkeeping relation `Tiles`:
  * `ChainIn c C q` — `q` lies strictly on the INNER side of the chain `C` (a list of points,
    strictly increasing in sweep order) of side `c`: the unique edge `a → b` of `C` with
    `a ≤ q < b` in sweep order has `sg c · wind a b q > 0`.  (The sweep order is the lexicographic
    `(y, x)` order, so horizontal edges need no special case.)
  * `InPoly c C O q = ChainIn c C q ∧ ChainIn (!c) O q` — the open region between a chain on side
    `c` and a chain on the other side.
  * `Tiles R I Ic ts R'` — the tiles `ts` (open point sets `I t`, closed `Ic t`) lie inside the
    region `R`, are pairwise disjoint, are disjoint from the smaller region `R' ⊆ R`, and every
    point of `R` is in `R'` or in a closed tile.  Closed under concatenation (`Tiles.trans`),
    reversal, framing by a disjoint region (`Tiles.frame`), mapping the tiles (`Tiles.map`, `Tiles.weakenIc`) and
    `Tiles.rebase`: `R'` is replaced by an equivalent region, `R` by a LARGER one whose extra points lie in closed
    tiles (this is how a cut line is absorbed).
  * `ear_chain_*` — cutting the ear `(x, y, z)` off a chain `A ++ x :: y :: z :: B` weakly convex at `y`:
    the four clauses of a `Tiles` step, for the chain alone.
-/
import LyonVerif.Lemmas.MonotoneGeomValid

set_option linter.unusedSectionVars false
set_option linter.unusedVariables false

namespace Lyon.C02f
open Lyon Lyon.Mono Lyon.C02 Lyon.C02c

variable {K : Type} [Field K] [LinearOrder K] [IsStrictOrderedRing K]

theorem after_of_hv {a b : P K} (h : Hv (a - b)) : After a b := by
  rcases h with h | ⟨h1, h2⟩
  · left; simp only [geom] at h; linarith
  · right; simp only [geom] at h1 h2; exact ⟨by linarith, by linarith⟩

theorem after_total (a b : P K) : After a b ∨ a = b ∨ After b a := by
  simp only [after_iff]; exact (LexLt.total b a).imp_right (Or.imp_left Eq.symm)

theorem after_asymm {a b : P K} (h : After a b) : ¬ After b a :=
  fun g => after_irrefl a (after_trans h g)

/-- `a ≤ q` in sweep order -/
def AfterEq (q a : P K) : Prop := q = a ∨ After q a

theorem afterEq_trans_after {q a b : P K} (h1 : AfterEq q a) (h2 : After a b) : After q b := by
  rcases h1 with e | e
  · rw [e]; exact h2
  · exact after_trans e h2

theorem after_trans_afterEq {q a b : P K} (h1 : After q a) (h2 : AfterEq a b) : After q b := by
  rcases h2 with e | e
  · rw [← e]; exact h1
  · exact after_trans h1 e

theorem afterEq_of_not_after {q a : P K} (h : ¬ After a q) : AfterEq q a := by
  rcases after_total q a with g | g | g
  · exact Or.inr g
  · exact Or.inl g
  · exact absurd g h

theorem not_after_of_afterEq {q a : P K} (h : AfterEq q a) : ¬ After a q := by
  rcases h with e | e
  · rw [e]; exact after_irrefl a
  · exact after_asymm e

/-- `q` is in the half-open sweep interval `[a, b)` -/
def Span (a b q : P K) : Prop := AfterEq q a ∧ After b q

theorem hv_comb2 {u v w : P K} {s t W : K} (hu : Hv u) (hv : Hv v) (hs : 0 < s) (ht : 0 < t) (hW : 0 < W)
    (ex : W * w.x = s * u.x + t * v.x) (ey : W * w.y = s * u.y + t * v.y) : Hv w := by
  have h := hv_comb hu hv hs.le ht.le (Or.inl hs)
  have e : u.smul s + v.smul t = w.smul W := by
    simp only [P.smul, geom, P.mk.injEq]; exact ⟨by linarith, by linarith⟩
  have e2 : (w.smul W).smul W⁻¹ = w := by
    obtain ⟨x, y⟩ := w
    simp only [P.smul, mul_assoc, mul_inv_cancel₀ hW.ne', mul_one]
  rw [e] at h
  exact e2 ▸ (hv_smul_iff h W⁻¹).mpr (inv_pos.mpr hW)

theorem wind_self_right (a b : P K) : wind a b b = 0 := by simp only [wind]; geom_ring
theorem wind_self_left (a b : P K) : wind a b a = 0 := by simp only [wind]; geom_ring

theorem sg_mul_self (c : Bool) : (sg c : K) * sg c = 1 := by cases c <;> simp [sg]
theorem sg_ne_zero (c : Bool) : (sg c : K) ≠ 0 := by cases c <;> simp [sg]

theorem sg_wind_swap (c : Bool) (a b q : P K) : sg (!c) * wind b a q = sg c * wind a b q := by
  rw [sg_not, wind_swap]; ring

theorem bary_sum (x y z q : P K) : wind x y z = wind y z q + wind z x q + wind x y q := by
  simp only [wind]; geom_ring

theorem bary_wind (x y z q a b : P K) :
    wind x y z * wind a b q = wind y z q * wind a b x + wind z x q * wind a b y + wind x y q * wind a b z := by
  simp only [wind]; geom_ring

theorem bary_wind_sg (σ τ : Bool) (x y z q a b : P K) :
    (sg σ * wind x y z) * (sg τ * wind a b q) = (sg σ * wind y z q) * (sg τ * wind a b x) +
      (sg σ * wind z x q) * (sg τ * wind a b y) + (sg σ * wind x y q) * (sg τ * wind a b z) := by
  linear_combination (sg σ * sg τ) * bary_wind x y z q a b

theorem bary_x (x y z q p : P K) :
    wind x y z * (q.x - p.x) = wind y z q * (x.x - p.x) + wind z x q * (y.x - p.x) + wind x y q * (z.x - p.x) := by
  simp only [wind]; geom_ring

theorem bary_y (x y z q p : P K) :
    wind x y z * (q.y - p.y) = wind y z q * (x.y - p.y) + wind z x q * (y.y - p.y) + wind x y q * (z.y - p.y) := by
  simp only [wind]; geom_ring

/-- `q` lies strictly inside the triangle `(a, b, c)` taken in a positively oriented order
(`wind a b c > 0`; the predicate is empty for a negatively oriented or degenerate triple, see
`inTri_pos`) -/
def InTri (a b c q : P K) : Prop := 0 < wind a b q ∧ 0 < wind b c q ∧ 0 < wind c a q

theorem inTri_rot (a b c q : P K) : InTri a b c q ↔ InTri b c a q := by
  unfold InTri; constructor <;> rintro ⟨h1, h2, h3⟩ <;> exact ⟨by assumption, by assumption, by assumption⟩

/-- the same for a triangle listed in sweep order `x, y, z` whose orientation is given by the
side `σ` on which `y` sticks out of `x → z` -/
def InTriS (σ : Bool) (x y z q : P K) : Prop :=
  0 < sg σ * wind x y q ∧ 0 < sg σ * wind y z q ∧ 0 < sg σ * wind z x q

theorem inTri_pos {a b c q : P K} (h : InTri a b c q) : 0 < wind a b c := by
  rw [bary_sum a b c q]; linarith [h.1, h.2.1, h.2.2]

theorem inTriS_true (x y z q : P K) : InTriS true x y z q ↔ InTri x y z q := by
  simp [InTriS, InTri, sg]

theorem inTriS_false (x y z q : P K) : InTriS false x y z q ↔ InTri y x z q := by
  simp only [InTriS, InTri, sg, Bool.false_eq_true, if_false, neg_one_mul]
  rw [wind_swap x y q, wind_swap z x q, wind_swap y z q]
  constructor
  · rintro ⟨h1, h2, h3⟩; exact ⟨by linarith, by linarith, by linarith⟩
  · rintro ⟨h1, h2, h3⟩; exact ⟨by linarith, by linarith, by linarith⟩

theorem inTriS_pos {σ : Bool} {x y z q : P K} (h : InTriS σ x y z q) : 0 < sg σ * wind x y z := by
  rw [bary_sum x y z q]; linarith [h.1, h.2.1, h.2.2]

theorem inTriS_after {σ : Bool} {x y z q : P K} (hyx : After y x) (hzy : After z y)
    (h : InTriS σ x y z q) : After q x ∧ After z q := by
  have hW := inTriS_pos h
  obtain ⟨hc, ha, hb⟩ := h
  have hzx := after_trans hzy hyx
  constructor
  · apply after_of_hv
    refine hv_comb2 (after_hv hyx) (after_hv hzx) hb hc hW ?_ ?_
    · have := bary_x x y z q x
      simp only [geom]; linear_combination (sg σ) * this
    · have := bary_y x y z q x
      simp only [geom]; linear_combination (sg σ) * this
  · apply after_of_hv
    refine hv_comb2 (after_hv hzx) (after_hv hzy) ha hb hW ?_ ?_
    · have := bary_x x y z q z
      simp only [geom]; linear_combination (-(sg σ)) * this
    · have := bary_y x y z q z
      simp only [geom]; linear_combination (-(sg σ)) * this

theorem inTriS_side_le {σ τ : Bool} {x y z q o1 o2 : P K} (h : InTriS σ x y z q)
    (hx : 0 ≤ sg τ * wind o1 o2 x) (hy : 0 ≤ sg τ * wind o1 o2 y) (hz : 0 ≤ sg τ * wind o1 o2 z) :
    0 ≤ sg τ * wind o1 o2 q := by
  have hW := inTriS_pos h
  obtain ⟨hc, ha, hb⟩ := h
  refine nonneg_of_mul_nonneg_right ?_ hW
  rw [bary_wind_sg]
  exact add_nonneg (add_nonneg (mul_nonneg ha.le hx) (mul_nonneg hb.le hy)) (mul_nonneg hc.le hz)

theorem cross_par {a b D : P K} (hD : Hv D) (h1 : a.cross D = 0) (h2 : b.cross D = 0) : a.cross b = 0 := by
  simp only [geom] at h1 h2 ⊢
  have ix : (a.x * b.y - a.y * b.x) * D.x = (a.x * D.y - a.y * D.x) * b.x - (b.x * D.y - b.y * D.x) * a.x := by ring
  have iy : (a.x * b.y - a.y * b.x) * D.y = (a.x * D.y - a.y * D.x) * b.y - (b.x * D.y - b.y * D.x) * a.y := by ring
  rw [h1, h2] at ix iy
  rcases hD with g | ⟨_, g⟩
  · rcases mul_eq_zero.mp (by linarith : (a.x * b.y - a.y * b.x) * D.y = 0) with z | z
    · exact z
    · linarith
  · rcases mul_eq_zero.mp (by linarith : (a.x * b.y - a.y * b.x) * D.x = 0) with z | z
    · exact z
    · linarith

theorem wind_of_on_line {o1 o2 x y z : P K} (ho : After o2 o1) (hx : wind o1 o2 x = 0) (hy : wind o1 o2 y = 0)
    (hz : wind o1 o2 z = 0) : wind x y z = 0 := by
  have hD := after_hv ho
  have e : ∀ p r : P K, (p - r).cross (o2 - o1) = wind o1 o2 p - wind o1 o2 r := by
    intro p r; simp only [wind]; geom_ring
  have h1 : (x - y).cross (o2 - o1) = 0 := by rw [e, hx, hy]; ring
  have h2 : (z - y).cross (o2 - o1) = 0 := by rw [e, hz, hy]; ring
  exact cross_par hD h1 h2

/-- a point strictly inside a (non-degenerate) triangle whose vertices lie weakly on a side of the
line `o₁ o₂` lies STRICTLY on that side: otherwise all three vertices are on the line, hence collinear -/
theorem inTriS_side_weak {σ τ : Bool} {x y z q o1 o2 : P K} (ho : After o2 o1) (h : InTriS σ x y z q)
    (hx : 0 ≤ sg τ * wind o1 o2 x) (hy : 0 ≤ sg τ * wind o1 o2 y) (hz : 0 ≤ sg τ * wind o1 o2 z) :
    0 < sg τ * wind o1 o2 q := by
  have hW := inTriS_pos h
  refine lt_of_le_of_ne (inTriS_side_le h hx hy hz) (Ne.symm ?_)
  intro e0
  obtain ⟨hc, ha, hb⟩ := h
  have e := bary_wind_sg σ τ x y z q o1 o2
  rw [e0, mul_zero] at e
  have m1 := mul_nonneg ha.le hx
  have m2 := mul_nonneg hb.le hy
  have m3 := mul_nonneg hc.le hz
  -- a positive weight times a value is zero: the value is zero, the vertex is on the line
  have on : ∀ {w : K} {p : P K}, 0 < w → w * (sg τ * wind o1 o2 p) = 0 → wind o1 o2 p = 0 := fun hw h0 =>
    ((mul_eq_zero.mp ((mul_eq_zero.mp h0).resolve_left hw.ne')).resolve_left (sg_ne_zero τ))
  have zx : wind o1 o2 x = 0 := on ha (by linarith)
  have zy : wind o1 o2 y = 0 := on hb (by linarith)
  have zz : wind o1 o2 z = 0 := on hc (by linarith)
  have := wind_of_on_line ho zx zy zz
  rw [this, mul_zero] at hW
  exact lt_irrefl _ hW

/-- `y` sticks out of `x → z` weakly on side `c` and `q` (after `x`) is strictly on the inner side of
`x → z` ⟹ `q` is strictly on the inner side of `x → y` -/
theorem turn_from_xW (c : Bool) {x y z q : P K} (hy : After y x) (hz : After z x) (hq : AfterEq q x)
    (h1 : 0 ≤ sg c * wind x y z) (h2 : 0 < sg c * wind x z q) : 0 < sg c * wind x y q := by
  rcases hq with e | hq
  · rw [e, wind_self_left] at h2; simp at h2
  rw [wind_cross_a] at h1 h2 ⊢
  exact cross_trans_mix_sg c (after_hv hq) (after_hv hz) (after_hv hy) (Or.inr ⟨h2, h1⟩)

/-- the same seen from the far end: `q` (before `z`) strictly on the inner side of `x → z` ⟹
strictly on the inner side of `y → z` -/
theorem turn_to_zW (c : Bool) {x y z q : P K} (hzx : After z x) (hzy : After z y) (hzq : After z q)
    (h1 : 0 ≤ sg c * wind x y z) (h2 : 0 < sg c * wind x z q) : 0 < sg c * wind y z q := by
  rw [wind_cross_d] at h1
  rw [wind_cross_b] at h2 ⊢
  exact cross_trans_mix_sg c (after_hv hzy) (after_hv hzx) (after_hv hzq) (Or.inl ⟨h1, h2⟩)

/-- `b` sticks out of `a → d` weakly on side `c`; `q` (before `d`) strictly on the outer side of `b → d`
⟹ strictly on the outer side of `a → d` -/
theorem turn_outerW (c : Bool) {a b d q : P K} (hda : After d a) (hdb : After d b) (hdq : After d q)
    (h1 : 0 ≤ sg c * wind a b d) (h2 : sg c * wind b d q < 0) : sg c * wind a d q < 0 := by
  rw [wind_cross_d] at h1
  rw [wind_cross_b, cross_flip, mul_neg] at h2 ⊢
  rw [neg_lt_zero] at h2 ⊢
  exact cross_trans_mix_sg c (after_hv hdq) (after_hv hdb) (after_hv hda) (Or.inr ⟨h2, h1⟩)

/-- increasing in sweep order (a chain, top to bottom); the stack lists are `Pairwise After`, decreasing -/
def SortedP (l : List (P K)) : Prop := l.Pairwise (fun a b => After b a)

/-- `q` is strictly on the inner side of the sweep-monotone chain of side `c` -/
def ChainIn (c : Bool) : List (P K) → P K → Prop
  | a :: b :: r, q => (Span a b q ∧ 0 < sg c * wind a b q) ∨ ChainIn c (b :: r) q
  | _, _ => False

theorem chainIn_cons2 (c : Bool) (a b : P K) (r : List (P K)) (q : P K) :
    ChainIn c (a :: b :: r) q ↔ (Span a b q ∧ 0 < sg c * wind a b q) ∨ ChainIn c (b :: r) q := Iff.rfl

@[simp] theorem chainIn_nil (c : Bool) (q : P K) : ¬ ChainIn c [] q := id
@[simp] theorem chainIn_single (c : Bool) (a q : P K) : ¬ ChainIn c [a] q := id

theorem chainIn_append (c : Bool) (l1 : List (P K)) (x : P K) (l2 : List (P K)) (q : P K) :
    ChainIn c (l1 ++ x :: l2) q ↔ ChainIn c (l1 ++ [x]) q ∨ ChainIn c (x :: l2) q := by
  induction l1 with
  | nil => simp
  | cons a r ih =>
    cases r with
    | nil =>
      simp only [List.cons_append, List.nil_append, chainIn_cons2]
      constructor
      · rintro (h | h)
        · exact Or.inl (Or.inl h)
        · exact Or.inr h
      · rintro ((h | h) | h)
        · exact Or.inl h
        · exact absurd h (chainIn_single c x q)
        · exact Or.inr h
    | cons b r' =>
      simp only [List.cons_append, chainIn_cons2] at ih ⊢
      rw [ih, or_assoc]

theorem chainIn_three (c : Bool) (A M B : List (P K)) (h last q : P K) :
    ChainIn c (A ++ h :: M ++ last :: B) q ↔
      ChainIn c (A ++ [h]) q ∨ ChainIn c (h :: M ++ [last]) q ∨ ChainIn c (last :: B) q := by
  rw [show A ++ h :: M ++ last :: B = A ++ h :: (M ++ last :: B) by simp, chainIn_append c A h (M ++ last :: B) q]
  rw [show h :: (M ++ last :: B) = (h :: M) ++ last :: B by simp, chainIn_append c (h :: M) last B q]

theorem chainIn_chord (c : Bool) (A B : List (P K)) (h last q : P K) :
    ChainIn c (A ++ h :: last :: B) q ↔
      ChainIn c (A ++ [h]) q ∨ (Span h last q ∧ 0 < sg c * wind h last q) ∨ ChainIn c (last :: B) q := by
  rw [chainIn_append c A h (last :: B) q]
  rfl

theorem chainIn_prefix (c : Bool) (q : P K) : ∀ (L B : List (P K)), ChainIn c L q → ChainIn c (L ++ B) q
  | [], _, h => absurd h (chainIn_nil c q)
  | [_], _, h => absurd h (chainIn_single c _ q)
  | a :: b :: r, B, h => by
    rcases h with h | h
    · exact Or.inl h
    · exact Or.inr (chainIn_prefix c q (b :: r) B h)

theorem chainIn_lower (c : Bool) (a : P K) (l : List (P K)) (q : P K) (hs : SortedP (a :: l))
    (h : ChainIn c (a :: l) q) : AfterEq q a := by
  induction l generalizing a with
  | nil => exact absurd h (chainIn_single c a q)
  | cons b r ih =>
    rcases h with ⟨h, _⟩ | h
    · exact h.1
    · have hb := ih b (List.Pairwise.of_cons hs) h
      have hab : After b a := List.rel_of_pairwise_cons hs (by simp)
      exact Or.inr (afterEq_trans_after hb hab)

theorem chainIn_upper (c : Bool) (l : List (P K)) (q z : P K) (hs : SortedP l) (hz : l.getLast? = some z)
    (h : ChainIn c l q) : After z q := by
  induction l with
  | nil => exact absurd h (chainIn_nil c q)
  | cons a r ih =>
    cases r with
    | nil => exact absurd h (chainIn_single c a q)
    | cons b r' =>
      rw [List.getLast?_cons_cons] at hz
      rcases h with ⟨h, _⟩ | h
      · exact afterEq_trans_after ((rel_last (List.Pairwise.of_cons hs) hz b (by simp)).imp Eq.symm id) h.2
      · exact ih (List.Pairwise.of_cons hs) hz h

/-- the open region between a chain `C` on side `c` and a chain `O` on the other side -/
def InPoly (c : Bool) (C O : List (P K)) (q : P K) : Prop := ChainIn c C q ∧ ChainIn (!c) O q

theorem inPoly_swap (c : Bool) (C O : List (P K)) (q : P K) : InPoly (!c) O C q ↔ InPoly c C O q := by
  simp only [InPoly, Bool.not_not]; exact and_comm

def InTriC (a b c q : P K) : Prop := 0 ≤ wind a b q ∧ 0 ≤ wind b c q ∧ 0 ≤ wind c a q

theorem inTriC_rot (a b c q : P K) : InTriC a b c q ↔ InTriC b c a q := by
  unfold InTriC; constructor <;> rintro ⟨h1, h2, h3⟩ <;> exact ⟨by assumption, by assumption, by assumption⟩

def InTriSC (σ : Bool) (x y z q : P K) : Prop :=
  0 ≤ sg σ * wind x y q ∧ 0 ≤ sg σ * wind y z q ∧ 0 ≤ sg σ * wind z x q

theorem inTriSC_true (x y z q : P K) : InTriSC true x y z q ↔ InTriC x y z q := by
  simp [InTriSC, InTriC, sg]

theorem inTriSC_false (x y z q : P K) : InTriSC false x y z q ↔ InTriC y x z q := by
  simp only [InTriSC, InTriC, sg, Bool.false_eq_true, if_false, neg_one_mul]
  rw [wind_swap x y q, wind_swap z x q, wind_swap y z q]
  constructor
  · rintro ⟨h1, h2, h3⟩; exact ⟨by linarith, by linarith, by linarith⟩
  · rintro ⟨h1, h2, h3⟩; exact ⟨by linarith, by linarith, by linarith⟩

/-- a point of the closed triangle strictly inside of one of its first two edges: the triangle is non-degenerate -/
theorem inTriSC_pos {c : Bool} {x y z q : P K} (h : InTriSC c x y z q)
    (hs : 0 < sg c * wind x y q ∨ 0 < sg c * wind y z q) : 0 < sg c * wind x y z := by
  have e : sg c * wind x y z = sg c * wind y z q + sg c * wind z x q + sg c * wind x y q := by
    rw [bary_sum x y z q]; ring
  obtain ⟨h1, h2, h3⟩ := h
  rcases hs with g | g <;> linarith

/-- tiles `ts` cut the region `R` down to `R'` -/
structure Tiles {T : Type} (R : P K → Prop) (I Ic : T → P K → Prop) (ts : List T) (R' : P K → Prop) : Prop where
  /-- every tile lies inside `R` -/
  inside : ∀ t ∈ ts, ∀ q, I t q → R q
  /-- what remains is part of `R` -/
  sub : ∀ q, R' q → R q
  /-- no tile meets what remains -/
  apart : ∀ t ∈ ts, ∀ q, I t q → ¬ R' q
  /-- the tiles are pairwise disjoint -/
  disj : ts.Pairwise (fun t t' => ∀ q, ¬ (I t q ∧ I t' q))
  /-- every point of `R` is in what remains or in a closed tile -/
  cover : ∀ q, R q → R' q ∨ ∃ t ∈ ts, Ic t q

namespace Tiles
variable {T : Type} {R R' R'' : P K → Prop} {I Ic : T → P K → Prop} {ts ts' : List T}

theorem refl (R : P K → Prop) (I Ic : T → P K → Prop) : Tiles R I Ic [] R :=
  ⟨by simp, fun _ h => h, by simp, List.Pairwise.nil, fun _ h => Or.inl h⟩

theorem trans (h1 : Tiles R I Ic ts R') (h2 : Tiles R' I Ic ts' R'') : Tiles R I Ic (ts ++ ts') R'' := by
  refine ⟨?_, fun q h => h1.sub q (h2.sub q h), ?_, ?_, ?_⟩
  · intro t ht q hq
    rcases List.mem_append.mp ht with g | g
    · exact h1.inside t g q hq
    · exact h1.sub q (h2.inside t g q hq)
  · intro t ht q hq hr
    rcases List.mem_append.mp ht with g | g
    · exact h1.apart t g q hq (h2.sub q hr)
    · exact h2.apart t g q hq hr
  · rw [List.pairwise_append]
    refine ⟨h1.disj, h2.disj, ?_⟩
    intro a ha b hb q ⟨qa, qb⟩
    exact h1.apart a ha q qa (h2.inside b hb q qb)
  · intro q hq
    rcases h1.cover q hq with g | ⟨t, ht, g⟩
    · rcases h2.cover q g with g' | ⟨t, ht, g'⟩
      · exact Or.inl g'
      · exact Or.inr ⟨t, List.mem_append_right _ ht, g'⟩
    · exact Or.inr ⟨t, List.mem_append_left _ ht, g⟩

theorem reverse (h : Tiles R I Ic ts R') : Tiles R I Ic ts.reverse R' := by
  refine ⟨fun t ht => h.inside t (List.mem_reverse.mp ht), h.sub, fun t ht => h.apart t (List.mem_reverse.mp ht), ?_, ?_⟩
  · rw [List.pairwise_reverse]
    exact h.disj.imp (fun hab q ⟨qa, qb⟩ => hab q ⟨qb, qa⟩)
  · intro q hq
    rcases h.cover q hq with g | ⟨t, ht, g⟩
    · exact Or.inl g
    · exact Or.inr ⟨t, List.mem_reverse.mpr ht, g⟩

theorem frame (h : Tiles R I Ic ts R') (X : P K → Prop) (hx : ∀ q, R q → ¬ X q) :
    Tiles (fun q => R q ∨ X q) I Ic ts (fun q => R' q ∨ X q) := by
  refine ⟨fun t ht q hq => Or.inl (h.inside t ht q hq), ?_, ?_, h.disj, ?_⟩
  · rintro q (g | g)
    · exact Or.inl (h.sub q g)
    · exact Or.inr g
  · rintro t ht q hq (g | g)
    · exact h.apart t ht q hq g
    · exact hx q (h.inside t ht q hq) g
  · rintro q (g | g)
    · rcases h.cover q g with g' | g'
      · exact Or.inl (Or.inl g')
      · exact Or.inr g'
    · exact Or.inl (Or.inr g)

theorem rebase {R0 R1 : P K → Prop} (h : Tiles R I Ic ts R') (h0 : ∀ q, R q → R0 q)
    (h0c : ∀ q, R0 q → R q ∨ ∃ t ∈ ts, Ic t q) (h1 : ∀ q, R1 q ↔ R' q) : Tiles R0 I Ic ts R1 := by
  refine ⟨fun t ht q hq => h0 q (h.inside t ht q hq), fun q hq => h0 q (h.sub q ((h1 q).mp hq)),
    fun t ht q hq hr => h.apart t ht q hq ((h1 q).mp hr), h.disj, ?_⟩
  intro q hq
  rcases h0c q hq with g | g
  · rcases h.cover q g with g' | g'
    · exact Or.inl ((h1 q).mpr g')
    · exact Or.inr g'
  · exact Or.inr g

theorem map {T' : Type} {I' Ic' : T' → P K → Prop} (f : T → T') (h : Tiles R I Ic ts R')
    (hI : ∀ t ∈ ts, ∀ q, I' (f t) q ↔ I t q) (hIc : ∀ t ∈ ts, ∀ q, Ic t q → Ic' (f t) q) :
    Tiles R I' Ic' (ts.map f) R' := by
  refine ⟨?_, h.sub, ?_, ?_, ?_⟩
  · intro t' ht' q hq
    obtain ⟨t, ht, rfl⟩ := List.mem_map.mp ht'
    exact h.inside t ht q ((hI t ht q).mp hq)
  · intro t' ht' q hq
    obtain ⟨t, ht, rfl⟩ := List.mem_map.mp ht'
    exact h.apart t ht q ((hI t ht q).mp hq)
  · rw [List.pairwise_map]
    refine h.disj.imp_of_mem ?_
    intro a b ha hb hab q ⟨qa, qb⟩
    exact hab q ⟨(hI a ha q).mp qa, (hI b hb q).mp qb⟩
  · intro q hq
    rcases h.cover q hq with g | ⟨t, ht, g⟩
    · exact Or.inl g
    · exact Or.inr ⟨f t, List.mem_map_of_mem ht, hIc t ht q g⟩

theorem weakenIc {Ic' : T → P K → Prop} (h : Tiles R I Ic ts R') (hw : ∀ t q, Ic t q → Ic' t q) :
    Tiles R I Ic' ts R' :=
  ⟨h.inside, h.sub, h.apart, h.disj, fun q hq => (h.cover q hq).imp id (fun ⟨t, ht, g⟩ => ⟨t, ht, hw t q g⟩)⟩

theorem perm (h : Tiles R I Ic ts R') (p : ts.Perm ts') : Tiles R I Ic ts' R' :=
  ⟨fun t ht => h.inside t (p.mem_iff.mpr ht), h.sub, fun t ht => h.apart t (p.mem_iff.mpr ht),
    (p.pairwise_iff (fun {x y} hxy q ⟨qa, qb⟩ => hxy q ⟨qb, qa⟩)).mp h.disj,
    fun q hq => (h.cover q hq).imp id (fun ⟨t, ht, g⟩ => ⟨t, p.mem_iff.mp ht, g⟩)⟩

end Tiles

/-- for the covering clause, at a weakly convex corner: weakly inside of `x → y` before
`y` means weakly inside of `y → z` as well … -/
theorem turn_cover_xyW (c : Bool) {x y z q : P K} (hyx : After y x) (hzy : After z y) (hyq : After y q)
    (h1 : 0 ≤ sg c * wind x y z) (h2 : 0 ≤ sg c * wind x y q) : 0 ≤ sg c * wind y z q := by
  have e3 : wind y z q = (z - y).cross (y - q) := by simp only [wind]; geom_ring
  rw [wind_cross_c] at h1; rw [wind_cross_b x y q] at h2; rw [e3]
  exact cross_trans_le_sg c (after_hv hzy) (after_hv hyx) (after_hv hyq) h1 h2

/-- … and weakly inside of `y → z` at or after `y` means weakly inside of `x → y` -/
theorem turn_cover_yz_le (c : Bool) {x y z q : P K} (hyx : After y x) (hzy : After z y) (hqy : AfterEq q y)
    (h1 : 0 ≤ sg c * wind x y z) (h2 : 0 ≤ sg c * wind y z q) : 0 ≤ sg c * wind x y q := by
  rcases hqy with e | hqy
  · rw [e, wind_self_right]; simp
  rw [wind_cross_c] at h1 ⊢; rw [wind_cross_a y z q] at h2
  exact cross_trans_le_sg c (after_hv hqy) (after_hv hzy) (after_hv hyx) h2 h1

variable (c : Bool) (A B : List (P K)) {x y z : P K}

theorem ear_chain_sub (hyx : After y x) (hzy : After z y) (hconv : 0 ≤ sg c * wind x y z) (q : P K)
    (h : ChainIn c (A ++ x :: z :: B) q) : ChainIn c (A ++ x :: y :: z :: B) q := by
  rw [chainIn_append] at h ⊢
  rcases h with h | h
  · exact Or.inl h
  right
  rcases h with ⟨⟨hqx, hzq⟩, hin⟩ | h
  · have hzx := after_trans hzy hyx
    by_cases g : After y q
    · exact Or.inl ⟨⟨hqx, g⟩, turn_from_xW c hyx hzx hqx hconv hin⟩
    · exact Or.inr (Or.inl ⟨⟨afterEq_of_not_after g, hzq⟩, turn_to_zW c hzx hzy hzq hconv hin⟩)
  · exact Or.inr (Or.inr h)

theorem ear_chain_tri (hyx : After y x) (hzy : After z y) (q : P K) (h : InTriS c x y z q) :
    ChainIn c (A ++ x :: y :: z :: B) q := by
  obtain ⟨hqx, hzq⟩ := inTriS_after hyx hzy h
  rw [chainIn_append]
  right
  by_cases g : After y q
  · exact Or.inl ⟨⟨Or.inr hqx, g⟩, h.1⟩
  · exact Or.inr (Or.inl ⟨⟨afterEq_of_not_after g, hzq⟩, h.2.1⟩)

theorem ear_chain_apart (hyx : After y x) (hzy : After z y) (hA : SortedP (A ++ [x])) (hB : SortedP (z :: B))
    (q : P K) (h : InTriS c x y z q) : ¬ ChainIn c (A ++ x :: z :: B) q := by
  obtain ⟨hqx, hzq⟩ := inTriS_after hyx hzy h
  rw [chainIn_append]
  rintro (g | ⟨_, g⟩ | g)
  · have := chainIn_upper c (A ++ [x]) q x hA (by simp) g
    exact after_asymm this hqx
  · have := h.2.2
    rw [wind_swap, mul_neg] at this
    linarith
  · have := chainIn_lower c z B q hB g
    exact not_after_of_afterEq this hzq

/-- every point inside the chain is inside what remains or in the closed ear; the ear is then non-degenerate, since the
point is strictly inside of the chain edge that spans it -/
theorem ear_chain_cover (hyx : After y x) (hzy : After z y) (hconv : 0 ≤ sg c * wind x y z) (q : P K)
    (h : ChainIn c (A ++ x :: y :: z :: B) q) :
    ChainIn c (A ++ x :: z :: B) q ∨ (InTriSC c x y z q ∧ 0 < sg c * wind x y z) := by
  rw [chainIn_append] at h
  rw [chainIn_append]
  rcases h with h | ⟨⟨hqx, hyq⟩, hin⟩ | ⟨⟨hqy, hzq⟩, hin⟩ | h
  · exact Or.inl (Or.inl h)
  · by_cases g : 0 < sg c * wind x z q
    · exact Or.inl (Or.inr (Or.inl ⟨⟨hqx, after_trans hzy hyq⟩, g⟩))
    · right
      have hT : InTriSC c x y z q := ⟨hin.le, turn_cover_xyW c hyx hzy hyq hconv hin.le, by
        rw [wind_swap, mul_neg]; linarith [not_lt.mp g]⟩
      exact ⟨hT, inTriSC_pos hT (Or.inl hin)⟩
  · by_cases g : 0 < sg c * wind x z q
    · exact Or.inl (Or.inr (Or.inl ⟨⟨Or.inr (afterEq_trans_after hqy hyx), hzq⟩, g⟩))
    · right
      have hT : InTriSC c x y z q := ⟨turn_cover_yz_le c hyx hzy hqy hconv hin.le, hin.le, by
        rw [wind_swap, mul_neg]; linarith [not_lt.mp g]⟩
      exact ⟨hT, inTriSC_pos hT (Or.inr hin)⟩
  · exact Or.inl (Or.inr (Or.inr h))

end Lyon.C02f
