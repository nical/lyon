/-
  The run-level lift of `ActiveSpan` + parameter range (`Lemmas/SweepSpan*.lean`) through the fuel-bounded
  loop, RELATIVE to the missing queue-order invariant: two state predicates `Q` (at the head of the loop) and
  `R` (during an event) with the properties `QOrdHyp` - `Q` gives `AdvOK`, the step functions keep them.
-/
import LyonVerif.Lemmas.SweepSpanLoop

set_option linter.unusedSectionVars false
set_option mvcgen.warning false

namespace Lyon.SweepSpan
open Lyon Lyon.Scalar Lyon.Sweep Lyon.EQ Lyon.SweepPos Lyon.SweepIdx
open Std.Do

section field
variable {K : Type} [Field K] [LinearOrder K] [IsStrictOrderedRing K]
variable [w : Wide K]

/-- two triples about the same program combine (the run is one run); the first one says what holds on failure -/
theorem triple_and {β : Type} {x : SM K β} {P P1 P2 : St K → Prop} {Q1 Q2 : β → St K → Prop} {E1 E : St K → Prop}
    (h1 : ⦃fun s => ⌜P1 s⌝⦄ x ⦃post⟨fun r s => ⌜Q1 r s⌝, fun _ s => ⌜E1 s⌝⟩⦄)
    (h2 : ⦃fun s => ⌜P2 s⌝⦄ x ⦃post⟨fun r s => ⌜Q2 r s⌝, fun _ _ => ⌜True⌝⟩⦄)
    (hP : ∀ s, P s → P1 s ∧ P2 s) (hE : ∀ s, E1 s → E s) :
    ⦃fun s => ⌜P s⌝⦄ x ⦃post⟨fun r s => ⌜Q1 r s ∧ Q2 r s⌝, fun _ s => ⌜E s⌝⟩⦄ := by
  intro s hs
  refine (wp x).mono _ _ ?_ s (Triple.and x h1 h2 s (hP s hs))
  exact ⟨fun _ _ h => h, fun _ _ h => hE _ h.1, trivial⟩

/-- **the missing queue-order invariant, as an interface**: `Q` holds at the head of the loop and gives `AdvOK`
(the next vertex is in sweep order), `R` holds during an event; the step functions keep them -/
structure QOrdHyp (Q R : St K → Prop) : Prop where
  adv : ∀ s, Inv s → Q s → AdvOK s
  init : ⦃fun s => ⌜Inv s ∧ Q s⌝⦄ (initializeEvents : SM K Unit) ⦃post⟨fun _ s => ⌜R s⌝, fun _ _ => ⌜True⌝⟩⦄
  event : ⦃fun s => ⌜Inv s ∧ R s⌝⦄ (processEvents : SM K (Option IErr)) ⦃post⟨fun _ s => ⌜R s⌝, fun _ _ => ⌜True⌝⟩⦄
  recover : ⦃fun s => ⌜Inv s ∧ R s⌝⦄ (recoverFromError : SM K Unit) ⦃post⟨fun _ s => ⌜R s⌝, fun _ _ => ⌜True⌝⟩⦄
  next : ∀ s, Inv s → R s → Q { s with curEvent := s.q.nextId s.curEvent }

variable {Q R : St K → Prop}

theorem init_both (h : QOrdHyp Q R) :
    ⦃fun s => ⌜Inv s ∧ Q s⌝⦄ (initializeEvents : SM K Unit)
    ⦃post⟨fun _ s => ⌜Inv s ∧ R s⌝, fun _ s => ⌜UInv s⌝⟩⦄ :=
  triple_and initializeEvents_inv h.init (fun s hs => ⟨⟨hs.1, h.adv s hs.1 hs.2⟩, hs⟩) fun _ h => h

theorem event_both {M : w.W → Prop} (hw : SweepRep.WClosure (α := K) U M) (h : QOrdHyp Q R) :
    ⦃fun s => ⌜Inv s ∧ R s⌝⦄ (processEvents : SM K (Option IErr))
    ⦃post⟨fun _ s => ⌜Inv s ∧ R s⌝, fun _ s => ⌜UInv s⌝⟩⦄ :=
  triple_and (processEvents_inv hw) h.event (fun _ hs => ⟨hs.1, hs⟩) fun _ h => h.2

theorem recover_both (h : QOrdHyp Q R) :
    ⦃fun s => ⌜Inv s ∧ R s⌝⦄ (recoverFromError : SM K Unit)
    ⦃post⟨fun _ s => ⌜Inv s ∧ R s⌝, fun _ s => ⌜UInv s⌝⟩⦄ :=
  triple_and recoverFromError_inv h.recover (fun _ hs => ⟨hs.1, hs⟩) fun _ h => h.2

theorem evRecover_both {M : w.W → Prop} (hw : SweepRep.WClosure (α := K) U M) (h : QOrdHyp Q R) :
    ⦃fun s => ⌜Inv s ∧ R s⌝⦄ (evRecover : SM K Unit) ⦃post⟨fun _ s => ⌜Inv s ∧ R s⌝, fun _ s => ⌜UInv s⌝⟩⦄ :=
  evRecover_keeps (event_both hw h) (recover_both h) fun _ _ hR => hR.1.2

/-- **the loop**: from a state with `ActiveSpan`, the parameter range and the queue-order invariant, every
parameter stored or emitted stays in `[0,1]` - whatever the outcome, no `Tainted` restriction -/
theorem tessellatorLoop_unit {M : w.W → Prop} (hw : SweepRep.WClosure (α := K) U M) (h : QOrdHyp Q R) (f : Nat) :
    ⦃fun s => ⌜Inv s ∧ Q s⌝⦄ (tessellatorLoop f : SM K Unit) ⦃post⟨fun _ s => ⌜UInv s⌝, fun _ s => ⌜UInv s⌝⟩⦄ :=
  tessellatorLoop_phases (I := fun _ s => Inv s ∧ Q s) (J := fun _ s => Inv s ∧ R s) (J' := fun _ s => Inv s ∧ R s) (E := fun _ s => UInv s)
    (fun _ hQ => hQ.1.2) (fun _ _ hR => hR.1.2) (fun _ _ hQ _ => hQ.1.2)
    (fun _ => triple_conseq (init_both h) (fun _ hs => hs.1) (fun _ _ hs => hs) fun _ _ hs => hs)
    (fun _ => evRecover_both hw h) (fun _ s hR => ⟨hR.1, h.next s hR.1 hR.2⟩) f

/-- the state `tessellate_impl` starts the loop from -/
noncomputable def startSt (q : Queue K) (rule : Slab.Rule) (horizontal : Bool) (tol : K) (handleIx : Bool) : St K :=
  { q := q, curPos := ⟨Wide.fmin (α := K), Wide.fmin (α := K)⟩, curVertex := INVALID, curEvent := q.firstId,
    active := #[], below := #[], spans := #[], pool := [], rule := rule, horizontal := horizontal,
    tolerance := tol * half, handleIntersections := handleIx, out := #[], nverts := 0 }

theorem inv_start (q : Queue K) (hq : QU q) (rule : Slab.Rule) (horizontal : Bool) (tol : K) (handleIx : Bool) :
    Inv (startSt q rule horizontal tol handleIx) :=
  ⟨⟨all_empty, all_empty⟩, hq, all_empty, all_empty, fun _ _ hm => nomatch hm⟩

/-- **`tessellate_impl` on any queue whose records are in `[0,1]`**, relative to the queue-order invariant:
every record emitted with a vertex has both range ends in `[0,1]`, whatever the outcome -/
theorem tessellateImpl_unit {M : w.W → Prop} (hw : SweepRep.WClosure (α := K) U M) (h : QOrdHyp Q R)
    (q : Queue K) (hq : QU q) (rule : Slab.Rule) (horizontal : Bool) (tol : K) (handleIx : Bool)
    (hQ0 : Q (startSt q rule horizontal tol handleIx)) :
    OutU (tessellateImpl q rule horizontal tol handleIx).2.1 := by
  refine tessellateImpl_cases (fun r => OutU r.2.1) q rule horizontal tol handleIx
    (fun p r hm => by simp at hm) fun r s hr => ?_
  have h1 : UInv s := by
    have := SweepIdx.run_of_triple (tessellatorLoop_unit hw h (4 * q.events.size * q.events.size + 1000))
      (SweepCoh.initSt q rule horizontal tol handleIx) ⟨inv_start q hq rule horizontal tol handleIx, hQ0⟩
    rwa [hr] at this
  cases r with
  | error f => exact h1.2.2.2
  | ok u => exact fun p recs hm => h1.2.2.2 p recs (finish_vertex hm)

end field

end Lyon.SweepSpan
