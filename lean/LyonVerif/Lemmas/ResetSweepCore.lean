/-
  C08 on the sweep model: the simulation framework.

  Two runs of the same `SM` program are compared, one from a state `s`, one from a state `s'` that
  differs from `s` in what a used `FillTessellator` may still hold when the sweep starts:

  * `pool`  — ANY two lists of recycled monotone tessellators (different lengths, stale contents);
  * `spans` — the same length, and slot by slot either both dead or both alive with `AdvSim`-related
              tessellators (equal up to a `SideEvents::prev` that cannot be read yet);
  * `cov`   — the coverage bits (instrumentation).

  `StSim s s'` says exactly this; `Sim2 m m'` says that runs of `m` / `m'` from related states give
  the same result (value or failure) and related states again.  The rules of this file decompose
  a `do` block structurally (`bind`, `get`, `set`, `throw`, `if`, `for … in`); `sim_auto` (`Lemmas/ResetSweepOps.lean`) applies them.
  Everything the geometry builder sees (`St.out`) is a field on which related states AGREE.
-/
import LyonVerif.Model.Tess.ResetSweep
import LyonVerif.Lemmas.Reset
import LyonVerif.Lemmas.SweepStep

set_option linter.unusedSectionVars false
set_option linter.unusedVariables false

namespace Lyon.C08
open Lyon Lyon.Mono Lyon.Sweep Lyon.EQ

variable {α : Type} [Scalar α] [Wide α]

/-- slot by slot: both dead, or both alive and `AdvSim` -/
def OSim : Option (Adv α) → Option (Adv α) → Prop
  | some a, some b => AdvSim a b
  | none, none => True
  | _, _ => False

theorem OSim.refl (a : Option (Adv α)) : OSim a a := by
  cases a with
  | none => trivial
  | some t => exact AdvSim.refl t

/-- two span lists: the same length, slot by slot `OSim` -/
inductive LSim : List (Option (Adv α)) → List (Option (Adv α)) → Prop
  | nil : LSim [] []
  | cons {x y : Option (Adv α)} {xs ys : List (Option (Adv α))} : OSim x y → LSim xs ys → LSim (x :: xs) (y :: ys)

theorem LSim.refl : ∀ (a : List (Option (Adv α))), LSim a a
  | [] => .nil
  | x :: r => .cons (OSim.refl x) (LSim.refl r)

theorem LSim.length {a b : List (Option (Adv α))} (h : LSim a b) : b.length = a.length := by
  induction h with
  | nil => rfl
  | cons _ _ ih => simp [ih]

theorem LSim.getElem? {a b : List (Option (Adv α))} (h : LSim a b) :
    ∀ i : Nat, OSim (a[i]?.getD none) (b[i]?.getD none) := by
  induction h with
  | nil => intro i; simp; trivial
  | cons hx _ ih =>
    intro i
    cases i with
    | zero => simpa using hx
    | succ j => simpa using ih j

theorem LSim.set {a b : List (Option (Adv α))} (h : LSim a b) {x y : Option (Adv α)} (hxy : OSim x y) :
    ∀ k, LSim (a.set k x) (b.set k y) := by
  induction h with
  | nil => intro k; exact .nil
  | cons hx hr ih =>
    intro k
    cases k with
    | zero => exact .cons hxy hr
    | succ j => exact .cons hx (ih j)

theorem LSim.append {a b c d : List (Option (Adv α))} (h1 : LSim a b) (h2 : LSim c d) : LSim (a ++ c) (b ++ d) := by
  induction h1 with
  | nil => exact h2
  | cons hx _ ih => exact .cons hx ih

theorem LSim.take {a b : List (Option (Adv α))} (h : LSim a b) : ∀ k, LSim (a.take k) (b.take k) := by
  induction h with
  | nil => intro k; simp; exact .nil
  | cons hx _ ih =>
    intro k
    cases k with
    | zero => exact .nil
    | succ j => exact .cons hx (ih j)

theorem LSim.drop {a b : List (Option (Adv α))} (h : LSim a b) : ∀ k, LSim (a.drop k) (b.drop k) := by
  induction h with
  | nil => intro k; simp; exact .nil
  | cons hx hr ih =>
    intro k
    cases k with
    | zero => exact .cons hx hr
    | succ j => exact ih j

theorem OSim.isSome {x y : Option (Adv α)} (h : OSim x y) : x.isSome = y.isSome := by
  cases x <;> cases y <;> first | rfl | exact h.elim

theorem LSim.filter {a b : List (Option (Adv α))} (h : LSim a b) :
    LSim (a.filter (·.isSome)) (b.filter (·.isSome)) := by
  induction h with
  | nil => exact .nil
  | cons hx _ ih =>
    simp only [List.filter_cons, ← hx.isSome]
    split
    · exact .cons hx ih
    · exact ih

theorem LSim.dropLast {a b : List (Option (Adv α))} (h : LSim a b) : LSim a.dropLast b.dropLast := by
  induction h with
  | nil => exact .nil
  | cons hx hr ih =>
    cases hr with
    | nil => exact .nil
    | cons hy hr' => exact .cons hx ih

def SpansSim (a b : Array (Option (Adv α))) : Prop := LSim a.toList b.toList

theorem SpansSim.refl (a : Array (Option (Adv α))) : SpansSim a a := LSim.refl _

theorem SpansSim.size {a b : Array (Option (Adv α))} (h : SpansSim a b) : b.size = a.size := by
  simpa using LSim.length h

theorem SpansSim.getD {a b : Array (Option (Adv α))} (h : SpansSim a b) (i : Nat) :
    OSim (a.getD i none) (b.getD i none) := by
  rw [Array.getD_eq_getD_getElem?, Array.getD_eq_getD_getElem?, ← Array.getElem?_toList, ← Array.getElem?_toList]
  exact LSim.getElem? h i

theorem SpansSim.getD_cases {a b : Array (Option (Adv α))} (h : SpansSim a b) (i : Nat) :
    (a.getD i none = none ∧ b.getD i none = none) ∨
      ∃ t t', a.getD i none = some t ∧ b.getD i none = some t' ∧ AdvSim t t' := by
  have hk := h.getD i
  rcases ha : a.getD i none with _ | t <;> rcases hb : b.getD i none with _ | t' <;> rw [ha, hb] at hk
  · exact Or.inl ⟨rfl, rfl⟩
  · exact hk.elim
  · exact hk.elim
  · exact Or.inr ⟨t, t', rfl, rfl, hk⟩

theorem SpansSim.setIfInBounds {a b : Array (Option (Adv α))} (h : SpansSim a b) {x y : Option (Adv α)} (hxy : OSim x y)
    (k : Nat) : SpansSim (a.setIfInBounds k x) (b.setIfInBounds k y) := by
  unfold SpansSim
  rw [Array.toList_setIfInBounds, Array.toList_setIfInBounds]
  exact LSim.set h hxy k

theorem SpansSim.insert {a b : Array (Option (Adv α))} (h : SpansSim a b) {x y : Option (Adv α)} (hxy : OSim x y)
    (k : Nat) :
    SpansSim ((a.extract 0 k).push x ++ a.extract k a.size) ((b.extract 0 k).push y ++ b.extract k a.size) := by
  unfold SpansSim
  simp only [Array.toList_append, Array.toList_push, Array.toList_extract, List.extract_eq_take_drop]
  exact LSim.append (LSim.append (LSim.take (LSim.drop h 0) _) (.cons hxy .nil)) (LSim.take (LSim.drop h k) _)

theorem SpansSim.filter {a b : Array (Option (Adv α))} (h : SpansSim a b) :
    SpansSim (a.filter (·.isSome)) (b.filter (·.isSome)) := by
  unfold SpansSim
  rw [Array.toList_filter, Array.toList_filter]
  exact LSim.filter h

theorem SpansSim.pop {a b : Array (Option (Adv α))} (h : SpansSim a b) : SpansSim a.pop b.pop := by
  unfold SpansSim
  rw [Array.toList_pop, Array.toList_pop]
  exact LSim.dropLast h

/-- replace the three fields related states may differ in -/
@[reducible] def with3 (s : St α) (sp : Array (Option (Adv α))) (pl : List (Adv α)) (c : Nat) : St α :=
  { s with spans := sp, pool := pl, cov := c }

def StSim (s s' : St α) : Prop := ∃ sp pl c, s' = with3 s sp pl c ∧ SpansSim s.spans sp

theorem StSim.rfl' (s : St α) : StSim s s := ⟨s.spans, s.pool, s.cov, rfl, SpansSim.refl _⟩

theorem StSim.mk' (s : St α) (sp : Array (Option (Adv α))) (pl : List (Adv α)) (c : Nat) (h : SpansSim s.spans sp) :
    StSim s (with3 s sp pl c) := ⟨sp, pl, c, rfl, h⟩

variable {β γ δ : Type}

def run (m : SM α β) (s : St α) : Except Fail β × St α := m.run.run s

def RSim (r r' : Except Fail β × St α) : Prop := r.1 = r'.1 ∧ StSim r.2 r'.2

/-- runs of `m` and `m'` from related states give the same result and related states.  A class: the lemma of each
step function is an instance of it, and `sim_auto` finds the lemma of a callee by instance search -/
class Sim2 (m m' : SM α β) : Prop where
  out : ∀ s s', StSim s s' → RSim (run m s) (run m' s')

abbrev Sim (m : SM α β) : Prop := Sim2 m m

@[simp] theorem run_pure (a : β) (s : St α) : run (pure a : SM α β) s = (.ok a, s) := rfl
@[simp] theorem run_throw (e : Fail) (s : St α) : run (throw e : SM α β) s = (.error e, s) := rfl
@[simp] theorem run_get (s : St α) : run (get : SM α (St α)) s = (.ok s, s) := rfl
@[simp] theorem run_set (t s : St α) : run (set t : SM α PUnit) s = (.ok ⟨⟩, t) := rfl
@[simp] theorem run_modify (g : St α → St α) (s : St α) : run (modify g : SM α PUnit) s = (.ok ⟨⟩, g s) := rfl

theorem run_bind (m : SM α β) (f : β → SM α γ) (s : St α) :
    run (m >>= f) s = match run m s with
      | (.ok a, t) => run (f a) t
      | (.error e, t) => (.error e, t) := Sweep.run_bind m f s

theorem sim_pure (a : β) : Sim2 (pure a : SM α β) (pure a) := ⟨fun s s' h => ⟨rfl, h⟩⟩

theorem sim_throw (e : Fail) : Sim2 (throw e : SM α β) (throw e) := ⟨fun s s' h => ⟨rfl, h⟩⟩

theorem sim_bind {m m' : SM α β} {f f' : β → SM α γ} (hm : Sim2 m m') (hf : ∀ a, Sim2 (f a) (f' a)) :
    Sim2 (m >>= f) (m' >>= f') := by
  refine ⟨fun s s' h => ?_⟩
  rw [run_bind, run_bind]
  obtain ⟨e1, e2⟩ := hm.out s s' h
  rcases h1 : run m s with ⟨r, t⟩
  rcases h2 : run m' s' with ⟨r', t'⟩
  rw [h1, h2] at e1 e2
  simp only at e1 e2
  subst e1
  cases r with
  | error e => exact ⟨rfl, e2⟩
  | ok a => exact (hf a).out t t' e2

/-- `let s ← get; …`: the continuation is entered with related states on the two sides -/
theorem sim_get_bind {f f' : St α → SM α β}
    (hf : ∀ s sp pl c, SpansSim s.spans sp → Sim2 (f s) (f' (with3 s sp pl c))) :
    Sim2 (get >>= f) (get >>= f') := by
  refine ⟨fun s s' h => ?_⟩
  rw [run_bind, run_bind]
  simp only [run_get]
  obtain ⟨sp, pl, c, rfl, hs⟩ := h
  exact (hf s sp pl c hs).out s _ ⟨sp, pl, c, rfl, hs⟩

theorem sim_set {t t' : St α} (h : StSim t t') : Sim2 (set t : SM α PUnit) (set t') :=
  ⟨fun _ _ _ => ⟨rfl, h⟩⟩

theorem sim_modify {g g' : St α → St α} (h : ∀ s s', StSim s s' → StSim (g s) (g' s')) :
    Sim2 (modify g : SM α PUnit) (modify g') :=
  ⟨fun s s' hs => ⟨rfl, h s s' hs⟩⟩

/-- (the two `Decidable` instances may differ syntactically: `dsimp` does not normalise instance
arguments, the right-hand side's still mentions `with3 s sp pl c`) -/
theorem sim_ite {c : Prop} {i1 i2 : Decidable c} {a a' b b' : SM α β} (ha : Sim2 a a') (hb : Sim2 b b') :
    Sim2 (@ite _ c i1 a b) (@ite _ c i2 a' b') := by
  by_cases hc : c
  · rw [if_pos hc, if_pos hc]; exact ha
  · rw [if_neg hc, if_neg hc]; exact hb

theorem sim_dite {c : Prop} {i1 i2 : Decidable c} {a a' : c → SM α β} {b b' : ¬ c → SM α β}
    (ha : ∀ h, Sim2 (a h) (a' h)) (hb : ∀ h, Sim2 (b h) (b' h)) :
    Sim2 (@dite _ c i1 a b) (@dite _ c i2 a' b') := by
  by_cases hc : c
  · rw [dif_pos hc, dif_pos hc]; exact ha _
  · rw [dif_neg hc, dif_neg hc]; exact hb _

theorem sim_forIn_list {f f' : γ → δ → SM α (ForInStep δ)} (hf : ∀ x b, Sim2 (f x b) (f' x b)) (xs : List γ) :
    ∀ b : δ, Sim2 (forIn xs b f) (forIn xs b f') := by
  induction xs with
  | nil => intro b; simp only [List.forIn_nil]; exact sim_pure b
  | cons x r ih =>
    intro b
    simp only [List.forIn_cons]
    refine sim_bind (hf x b) ?_
    intro st
    cases st with
    | done b' => exact sim_pure b'
    | yield b' => exact ih b'

theorem sim_forIn_array {f f' : γ → δ → SM α (ForInStep δ)} (xs : Array γ) (b : δ)
    (hf : ∀ x b, Sim2 (f x b) (f' x b)) : Sim2 (forIn xs b f) (forIn xs b f') := by
  rw [← Array.forIn_toList, ← Array.forIn_toList]
  exact sim_forIn_list hf _ b

theorem sim_forIn_range {f f' : Nat → δ → SM α (ForInStep δ)} (r : Std.Legacy.Range) (b : δ)
    (hf : ∀ x b, Sim2 (f x b) (f' x b)) : Sim2 (forIn r b f) (forIn r b f') := by
  rw [Std.Legacy.Range.forIn_eq_forIn_range', Std.Legacy.Range.forIn_eq_forIn_range']
  exact sim_forIn_list hf _ b

theorem sim_set_with3 {t : St α} {sp : Array (Option (Adv α))} {pl : List (Adv α)} {c : Nat}
    (h : SpansSim t.spans sp) : Sim2 (set t : SM α PUnit) (set (with3 t sp pl c)) :=
  sim_set ⟨sp, pl, c, rfl, h⟩

theorem sim_onlyCov {m : SM α Unit} (h : OnlyCov m) : Sim m := by
  refine ⟨fun s s' hs => ?_⟩
  obtain ⟨sp, pl, c, rfl, hsp⟩ := hs
  obtain ⟨c1, -, h1⟩ := h s
  obtain ⟨c2, -, h2⟩ := h (with3 s sp pl c)
  unfold run
  rw [h1, h2]
  exact ⟨rfl, sp, pl, c2, rfl, hsp⟩

end Lyon.C08
