/-
  C17b (the parser with its concrete arc handling): the concrete arc handling of the parser (`Model/ParserConcrete.lean`,
  `concreteNum`) never answers `none` — the only panic site of the modelled arc conversion,
  `cast::<S, i32>(n_steps).unwrap()` in `arc_to_quadratic_beziers_with_t`, is unreachable:

      n_steps = ceil( min(|sweep|, 2π) / (π/4) )

  and `f32::min` returns the other operand when one is NaN, so `min(|sweep|, 2π)` is never NaN
  whatever `sweep` is (NaN, ±inf: zero radii, equal end points, non-finite operands all end here or
  in the `is_straight_line` branch before it).

  The scalar type is generic (`[Scalar α] [Transc α]`: `Float32` is opaque to the kernel), so the four
  IEEE facts used are stated as the hypothesis `NoNaNLaws α`; they hold for binary32/64 with the
  `Scalar.min` of `Model/Scalar.lean` (IEEE minNum).  `OI` below is a small number type WITH a
  NaN (`none`) on which they are proved: the hypothesis is satisfiable in the presence of NaN.
-/
import LyonVerif.Model.ParserConcrete

namespace Lyon.Parser
open Lyon

/-- the IEEE facts about NaN used by `bezPanics_false` -/
structure NoNaNLaws (α : Type) [Scalar α] [Transc α] : Prop where
  /-- `2π` is a number -/
  twoPi : Transc.isNaN (Transc.pi * Scalar.two : α) = false
  /-- `x.min(c)` is a number if `c` is (`f32::min`: NaN operands are ignored) -/
  min_right : ∀ x c : α, Transc.isNaN c = false → Transc.isNaN (Scalar.min x c) = false
  /-- a number divided by the finite non-zero constant `π/4` is a number -/
  div_quarterPi : ∀ x : α, Transc.isNaN x = false → Transc.isNaN (x / ArcConv.fracPi4) = false
  /-- `ceil` of a number is a number -/
  ceil : ∀ x : α, Transc.isNaN x = false → Transc.isNaN (Transc.ceil x) = false

variable {α : Type} [Scalar α] [Transc α]

/-- `cast::<S, i32>(n_steps).unwrap()` never sees a NaN: for EVERY centre-form arc (NaN / infinite
sweep, radii, angles included) -/
theorem bezPanics_false (h : NoNaNLaws α) (arc : Arc α) : ArcConv.bezPanics arc = false := by
  unfold ArcConv.bezPanics ArcConv.nStepsQ ArcConv.effSweep
  exact h.ceil _ (h.div_quarterPi _ (h.min_right _ _ h.twoPi))

variable [ArcConv.Eps α]

theorem concreteNum_arc (h : NoNaNLaws α) (ofLexeme : List Char → α) (pos : Nat) (a : ArcArgs α) :
    (concreteNum ofLexeme).arc pos a = some (arcQuads a) := by
  simp [concreteNum, bezPanics_false h]

theorem concreteNum_arc_ne_none (h : NoNaNLaws α) (ofLexeme : List Char → α) :
    ∀ pos a, (concreteNum ofLexeme).arc pos a ≠ none := by
  intro pos a; rw [concreteNum_arc h]; exact Option.some_ne_none _

/-! ### a number type with a NaN on which the laws hold

`Option Int`, `none` = NaN; comparisons with NaN are false; `min` is the `f32::min` of
`Model/Scalar.lean`; division by zero gives NaN.  (`pi = 4` so that `π/4` is a non-zero integer —
the type only serves to show that `NoNaNLaws` is satisfiable together with a NaN.) -/

def OI := Option Int

namespace OI
def lift2 (f : Int → Int → Int) : OI → OI → OI
  | some a, some b => some (f a b)
  | _, _ => none
def div : OI → OI → OI
  | some a, some b => if b = 0 then none else some (a / b)
  | _, _ => none
def lt : OI → OI → Prop
  | some a, some b => a < b
  | _, _ => False
def le : OI → OI → Prop
  | some a, some b => a ≤ b
  | _, _ => False
instance : ∀ a b, Decidable (lt a b)
  | some a, some b => inferInstanceAs (Decidable (a < b))
  | none, _ => isFalse (fun h => h)
  | some _, none => isFalse (fun h => h)
instance : ∀ a b, Decidable (le a b)
  | some a, some b => inferInstanceAs (Decidable (a ≤ b))
  | none, _ => isFalse (fun h => h)
  | some _, none => isFalse (fun h => h)
def isNaN : OI → Bool
  | none => true
  | some _ => false
def min (a b : OI) : OI := if lt a b then a else if lt b a then b else if isNaN a then b else a
def max (a b : OI) : OI := if lt b a then a else if lt a b then b else if isNaN a then b else a
def map (f : Int → Int) : OI → OI
  | some a => some (f a)
  | none => none
end OI

instance : Scalar OI where
  add := OI.lift2 (· + ·)
  sub := OI.lift2 (· - ·)
  mul := OI.lift2 (· * ·)
  div := OI.div
  neg := OI.map (- ·)
  lt := OI.lt
  le := OI.le
  beq := fun a b => match a, b with
    | some x, some y => x == y
    | _, _ => false
  ofNat := fun n => some n
  ofSci := fun m _ => some m
  dlt := fun a b => inferInstanceAs (Decidable (OI.lt a b))
  dle := fun a b => inferInstanceAs (Decidable (OI.le a b))
  abs := OI.map (fun a => if a < 0 then -a else a)
  min := OI.min
  max := OI.max

instance : Transc OI where
  sqrt := id
  cbrt := id
  sin := id
  cos := id
  tan := id
  acos := id
  atan2 := fun a _ => a
  pow := fun a _ => a
  log2 := id
  ln := id
  floor := id
  ceil := id
  toNat := fun a => match a with
    | some x => x.toNat
    | none => 0
  fmod := fun a _ => a
  eps := some 0
  pi := some 4
  isNaN := OI.isNaN
  isFinite := fun a => !OI.isNaN a

instance : ArcConv.Eps OI := ⟨some 0⟩

theorem OI.min_right (x c : OI) (hc : OI.isNaN c = false) : OI.isNaN (OI.min x c) = false := by
  cases c with
  | none => cases hc
  | some b =>
    cases x with
    | none => simp [OI.min, OI.lt, OI.isNaN]
    | some a =>
      unfold OI.min
      by_cases h1 : OI.lt (some a) (some b)
      · simp [h1, OI.isNaN]
      · by_cases h2 : OI.lt (some b) (some a)
        · simp [h1, h2, OI.isNaN]
        · simp [h1, h2, OI.isNaN]

/-- `NoNaNLaws` holds on a type that has a NaN -/
theorem noNaNLaws_OI : NoNaNLaws OI where
  twoPi := rfl
  min_right := OI.min_right
  div_quarterPi := by
    intro x hx
    cases x with
    | none => cases hx
    | some a => exact (rfl : OI.isNaN (OI.div (some a) (some 1)) = false)
  ceil := fun x hx => hx

/-- … and the NaN is there: a NaN sweep angle still does not reach the `unwrap` -/
example : Transc.isNaN (show OI from none) = true ∧
    ArcConv.bezPanics (⟨⟨some 0, some 0⟩, ⟨some 1, some 1⟩, some 0, none, some 0⟩ : Arc OI) = false :=
  ⟨rfl, bezPanics_false noNaNLaws_OI _⟩

end Lyon.Parser
