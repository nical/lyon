/-
  C06c: the join geometry of the COMPLETE stroker model (`StrokeFull.joinSidesFw`,
  `compute_join_side_positions_fixed_width` inside `StrokeBuilderImpl`) IS the component model of
  `Model/Tess/StrokeQuad.lean` (`joinSidesT`) that `Props/C06.lean` reasons about — for every scalar type
  (floats included), on an endpoint as `begin` / `line_to` create it.
-/
import LyonVerif.Model.Tess.StrokeFull


namespace Lyon.C06b
open Lyon Scalar Lyon.Stroke Lyon.Stroke.Full
open Lyon.StrokeQuad (joinSidesT frontSide clipSide foldTest Side2 JoinSides)

section
variable {α : Type} [Scalar α] [Transc α]

theorem frontFix_eq_frontSide (ix : Lyon.StrokeQuad.Ix α) (lj : LineJoin) (u : Bool) (s : SideGeom α) (j F m : P α) (d : α)
    (o : Option (P α)) (hs : s.single = o) :
    (frontFix ix lj u s j F m d).prev = (frontSide ix lj u ⟨s.prev, s.next, o⟩ j F m d).prev
    ∧ (frontFix ix lj u s j F m d).next = (frontSide ix lj u ⟨s.prev, s.next, o⟩ j F m d).next
    ∧ (frontFix ix lj u s j F m d).single = (frontSide ix lj u ⟨s.prev, s.next, o⟩ j F m d).single := by
  subst hs
  unfold frontFix frontSide
  cases u
  · by_cases h : lj = .miterClip
    · rw [if_neg Bool.false_ne_true, if_neg Bool.false_ne_true, if_pos h, if_pos (by rw [h]; rfl)]
      exact ⟨rfl, rfl, rfl⟩
    · rw [if_neg Bool.false_ne_true, if_neg Bool.false_ne_true, if_neg h, if_neg (by simpa using h)]
      exact ⟨rfl, rfl, rfl⟩
  · rw [if_pos rfl, if_pos rfl]
    exact ⟨rfl, rfl, rfl⟩

theorem joinSidesT_fwGeo (ix : Lyon.StrokeQuad.Ix α) (prev join next : EP α) (ml hw : α) (g : FwGeo α)
    (hg : g = fwGeo prev join next ml hw) :
    joinSidesT ix g.pt g.nt g.pl g.nl join.position hw ml join.lineJoin
    = if g.fold then
        ⟨⟨join.position + (perp g.pt).smul hw, join.position + (perp g.nt).smul hw, none⟩,
         ⟨join.position - (perp g.pt).smul hw, join.position - (perp g.nt).smul hw, none⟩, !g.frontNeg, g.frontNeg⟩
      else if g.frontNeg then
        ⟨⟨join.position + (perp g.pt).smul hw, join.position + (perp g.nt).smul hw, some (join.position + g.normal.smul hw)⟩,
         frontSide ix join.lineJoin g.unclipped
           ⟨join.position - (perp g.pt).smul hw, join.position - (perp g.nt).smul hw, none⟩
           join.position g.frontNormal (join.position - g.normal.smul hw) (ml * hw), false, false⟩
      else
        ⟨frontSide ix join.lineJoin g.unclipped
           ⟨join.position + (perp g.pt).smul hw, join.position + (perp g.nt).smul hw, none⟩
           join.position g.frontNormal (join.position + g.normal.smul hw) (ml * hw),
         ⟨join.position - (perp g.pt).smul hw, join.position - (perp g.nt).smul hw, some (join.position - g.normal.smul hw)⟩,
         false, false⟩ := by
  subst hg; rfl

end

end Lyon.C06b
