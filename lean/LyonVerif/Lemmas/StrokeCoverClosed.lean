/-
  C06c: the emission shape of a CLOSED fixed-width polygon `pt 0 … pt m` (`m ≥ 2`: at least three points,
  `begin, line_to …, end(true)`), `StrokeBuilderImpl::close`: two more steps through the first two points
  (`pt (m+1) = pt 0`, `pt (m+2) = pt 1`), the two vertices `close` re-creates at the first point and the quad of the
  first edge.  No caps.
-/
import LyonVerif.Lemmas.StrokeCoverRun

set_option linter.unusedSectionVars false

namespace Lyon.C06b
open Lyon Scalar Lyon.Stroke Lyon.Stroke.Full Lyon.C05 Lyon.C05b Lyon.C05c

section
variable {K : Type} [Field K] [LinearOrder K] [IsStrictOrderedRing K] [Transc K]

theorem closeVertices_unfold (p0 : EP K) (adv : K) (o : Out K) :
    closeVertices p0 adv o
      = ({ p0 with pos := { p0.pos with nextVertex := o.nextId }, neg := { p0.neg with nextVertex := o.nextId + 1 } },
         (o.addVertex (capV p0.src p0.position p0.halfWidth adv .positive (sNext p0.pos))).addVertex
           (capV p0.src p0.position p0.halfWidth adv .negative (sNext p0.neg))) := rfl

/-- the vertices `close` re-creates sit at the `next` side points of the join at the first point; the quad of
the first edge, towards the second point `s` (whose `prev` vertices sit at `X`, `Y`), is emitted -/
theorem closeVertices_em (p0 s : EP K) (adv : K) (o : Out K)
    (hn : o.nextId = o.verts.length) (hw0 : p0.halfWidth ≠ 0)
    (hf1 : p0.foldPos = false) (hf2 : p0.foldNeg = false) (hs1 : s.foldPos = false) (hs2 : s.foldNeg = false)
    (X Y : P K) (hX : PosAt o s.pos.prevVertex X) (hY : PosAt o s.neg.prevVertex Y)
    (hne : s.pos.prevVertex ≠ s.neg.prevVertex) :
    let o' := (closeVertices p0 adv o).2.addTris (addEdgeTriangles (closeVertices p0 adv o).1.ids s.ids)
    Ext o o'
    ∧ EmTri o' (sNext p0.neg, sNext p0.pos, X) ∧ EmTri o' (sNext p0.neg, X, Y)
    ∧ (∀ t ∈ o'.tris, t ∈ o.tris ∨ TriIn o' [sNext p0.neg, sNext p0.pos, X, Y] t) := by
  intro o'
  obtain ⟨b1, _, _, _, b5, b6, b7⟩ := firstBase_em p0 s o adv (sNext p0.pos) (sNext p0.neg) hn hw0 hf1 hf2 hs1 hs2 X Y hX hY hne
    o' (by simp only [o', closeVertices_eq, Out.addTris_eq, Out.grow_grow]; rfl)
  exact ⟨b1, b5, b6, b7⟩

/-- `close` after the `line_to` loop: two more steps (through the first point, then towards the second one, whose
record is the one stored in `firsts`), the two vertices `close` re-creates and the quad of the first edge -/
theorem close_emitted {e : Env K} (hj : RoundOK e) (hw0 : e.hwFw ≠ 0) {pt : Nat → P K} {m : Nat}
    (hm : 2 ≤ m) (hp0 : pt (m + 1) = pt 0) (hp1 : pt (m + 1 + 1) = pt 1)
    {st : St K} {a b : EP K} (hI : CInv e pt m st a b)
    (hbf : Fresh e b) (hbfp : b.foldPos = false) (hbfn : b.foldNeg = false)
    (hfar1 : pointsAreTooClose e.thr (pt m) (pt (m + 1)) = false)
    (hnf1 : noFoldAt e (pt (m - 1)) (pt m) (pt (m + 1)))
    (hfar2 : pointsAreTooClose e.thr (pt (m + 1)) (pt (m + 1 + 1)) = false)
    (hnf2 : noFoldAt e (pt m) (pt (m + 1)) (pt (m + 1 + 1))) :
    EmittedC e pt m (close (fwStep e) st).out := by
  obtain ⟨f1, hf, _, gp, pf1, pf2⟩ := hI.first2 hm
  obtain ⟨_, _, f1', ef, _, _, sf⟩ := hI.t.full (by rw [hI.cnt, if_neg (by omega)]; omega)
  rw [hf] at ef
  simp only [List.cons.injEq, and_true] at ef
  obtain ⟨_, rfl⟩ := ef
  -- `close()` feeds the first point again with its advancement reset (`nan`: to be recomputed), then the stored second
  -- point `f1` as it is: two more steps of the same loop
  obtain ⟨b', hI1, hx1, hadd1, _⟩ := fwStep_cinv_gen hj hw0 hI hbf hbfp hbfn
    ({ fPt e pt with advancement := nan } : EP K) (by rw [hp0]; rfl) hfar1 hnf1
  unfold close
  simp only [hf]
  generalize fwStep e st ({ fPt e pt with advancement := nan } : EP K) = r1 at hI1 hx1 hadd1
  obtain ⟨st1, added⟩ := r1
  simp only at hI1 hx1 hadd1
  subst hadd1
  simp only [if_true]
  obtain ⟨b'', hI2, hx2, _, hwb⟩ := fwStep_cinv_gen hj hw0 hI1 ⟨rfl, rfl, rfl, rfl, rfl⟩ rfl rfl f1 (by rw [gp, hp1]) hfar2 hnf2
  generalize fwStep e st1 f1 = r2 at hI2 hx2
  obtain ⟨st3, _⟩ := r2
  simp only at hI2 hx2 ⊢
  simp only [hI2.t.two]
  obtain ⟨sb, _⟩ := hI2.t.full (by rw [hI2.cnt, if_neg (by omega)]; omega)
  obtain ⟨ga, _, _⟩ := hI2.ageo (by omega)
  simp only [Nat.add_sub_cancel] at ga
  obtain ⟨x1, x2, x3, x4⟩ := closeVertices_em b'' f1 (fPt e pt).advancement st3.out hI2.next (by rw [hwb]; exact hw0)
    sb.1 sb.2.1 sf.1 sf.2.1 _ _ (pf1.ext (hx1.trans hx2)) (pf2.ext (hx1.trans hx2)) sf.2.2.2.2
  rw [geo_sNext_neg ga, geo_sNext_pos ga] at x2 x4
  rw [geo_sNext_neg ga] at x3
  refine ⟨fun i h1 h2 => (hI2.quads i h1 (by omega)).ext x1, ⟨x2, x3⟩, fun i h1 h2 => (hI2.joins i h1 (by omega)).ext x1,
    fun t ht => ?_⟩
  rcases x4 t ht with h | h
  · rcases hI2.only t h with ⟨i, a1, a2, a3⟩ | ⟨i, a1, a2, a3⟩ | ⟨i, a1, a2, a3⟩
    · exact Or.inl ⟨i, a1, by omega, a3.ext x1⟩
    · exact Or.inr (Or.inl ⟨i, a1, by omega, a3.ext x1⟩)
    · exact Or.inr (Or.inr (Or.inl ⟨i, a1, by omega, a3.ext x1⟩))
  · exact Or.inr (Or.inr (Or.inr h))

end

section Run
variable {K : Type} [Field K] [LinearOrder K] [IsStrictOrderedRing K] [Transc K] [Asin K] [FlatConst K]

/-- **emission shape of the complete model on a closed polygon** (fixed width, every join kind - Round under `RoundOK` -, no merged
points, no folding join; `pt` continued periodically: `pt (m+1) = pt 0`, `pt (m+2) = pt 1`) -/
theorem run_emitted_closed (e : Env K) (store : Nat → List K) (hfw : e.o.varWidth = false)
    (hj : RoundOK e) (hw0 : e.hwFw ≠ 0)
    (pt : Nat → P K) (m : Nat) (hm : 2 ≤ m) (hp0 : pt (m + 1) = pt 0) (hp1 : pt (m + 1 + 1) = pt 1)
    (hfar : ∀ i, i ≤ m + 1 → pointsAreTooClose e.thr (pt i) (pt (i + 1)) = false)
    (hnf : ∀ i, 1 ≤ i → i ≤ m + 1 → noFoldAt e (pt (i - 1)) (pt i) (pt (i + 1))) :
    EmittedC e pt m (runEvents e store (polyEvsC pt m)).st.out := by
  obtain ⟨st1, hwf1, hc1, hl1, _, hout1, hrun, _⟩ :=
    runFrom_subpath e store hfw _ idle_new 0 (pt 0) ((1, pt 1) :: restPts pt 2 (m - 1)) true
  obtain ⟨b2, e2, hwf2, hc2, hab⟩ := fwStep_second (e := e) hwf1 hc1 hl1 (linePt e (1, pt 1)) (hfar 0 (by omega))
  unfold polyEvsC
  rw [runEvents_eq_runFrom]
  show EmittedC e pt m (runFrom e store _
    (IdEv.begin 0 (pt 0) :: (lineEvs ((1, pt 1) :: restPts pt 2 (m - 1)) ++ [IdEv.end_ true]))).st.out
  rw [hrun, List.foldl_cons, e2]
  obtain ⟨a', b', hI, hbf, hbfp, hbfn⟩ := loop_cinv (st2 := { st1 with buf := b2 }) hj hw0 (by omega : 1 ≤ m) hwf2 hab hc2
    hout1 (fun i _ h2 => hfar i (by omega)) (fun i h1 h2 => hnf i h1 (by omega)) true
  set st' := (restPts pt 2 (m - 1)).foldl (fun s q => (fwStep e s (linePt e q)).1) { st1 with buf := b2 } with hst'
  have hcnt : st'.buf.count = 3 := by
    have := hI.cnt; rw [if_neg (by omega)] at this; exact this
  have := close_emitted hj hw0 hm hp0 hp1 hI hbf hbfp hbfn (hfar m (by omega)) (hnf m (by omega) (by omega))
    (hfar (m + 1) (by omega)) (hnf (m + 1) (by omega) (by omega))
  unfold endSub
  simp only [Bool.true_and, hcnt, show (3 > 2) from by omega, decide_true, if_true]
  simp only [Bool.true_and, hcnt] at this
  exact this

end Run

end Lyon.C06b
