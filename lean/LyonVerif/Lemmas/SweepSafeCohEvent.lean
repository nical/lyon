/-
  SPAN / WINDING COHERENCE: the coherence invariant after an event whose winding is conserved
  (`EventOkW`): `coh_after`, a pure fact about the new state `NewSt`; the walk of the event that uses it
  is `evBody_spec` (`SweepSafeCohLoop.lean`).
-/
import LyonVerif.Lemmas.SweepSafeCohUpdate

set_option mvcgen.warning false

namespace Lyon.SweepCoh
open Lyon Lyon.Scalar Lyon.Mono Lyon.Sweep Lyon.EQ Lyon.SweepSafe
open Std.Do

variable {α : Type} [Scalar α] [Wide α]

/-- winding conservation at an event, in terms of the windings `W` of the edges that leave the vertex
(after splits and merges of coincident edges):
* `bal`: the winding number to the right of the new edges is the winding number to the right of the
  edges that ended (or were split) at the vertex;
* `stray`: a vertex without outgoing edges either ends edges or lies outside the filled region;
* `mergeW`: a merge event has no outgoing edges (a consequence of the scan, `ScanSem.merge` gives
  `s0.below.isEmpty`; kept as a hypothesis because the relations to `s0` do not track `below` up to the splice) -/
structure EventOkW (s0 : St α) (scan : Scan) (W : List Int) : Prop where
  bal : (pfold s0.rule (Wat s0 scan.aboveStart) W).number = (Wat s0 scan.aboveEnd).number
  stray : W = [] → scan.mergeEvent = true ∨
    (scan.aboveStart < scan.aboveEnd ∧ scan.mergeSplitEvent = false ∧ (Wat s0 scan.aboveStart).isIn = false) ∨
    (scan.aboveStart = scan.aboveEnd ∧ (Wat s0 scan.aboveStart).isIn = false)
  mergeW : scan.mergeEvent = true → W = []

/-- **an event with conserved winding keeps `Coh`.**  The signatures of the new active list are those of `s0` with
the above-range replaced by the merge vertex, if any, and the pending edges `W` (`NewSt.sg`); so the total fold of
`s'` is the fold of `s0` up to `above_start`, then the new middle, then the old tail.  `bal` makes the winding number
after the new middle the old one at `above_end`, and `sfold_shift` carries that over the tail: the total is `out`
again, and the span index at the end differs by what it differs after the middle.  Span count: the old middle
raised the index by `cntIn` (`incr_eq_cnt`), the new one by the gaps of `W` (`gaps_true`); the Boolean identity
`key` matches the two ends.  Merge vertices: `MIn` of the old list cut at `above_start` and `above_end`
(`MIn_append`), the new middle by `MIn_edges`.  `wM`, the state after the possible merge vertex, comes through an
`∃` so that the rest of the proof has a variable with its three equations, not the fold -/
theorem coh_after {s0 s' : St α} {scan : Scan} {W : List Int} (hok : ScanOk s0 scan) (hsem : ScanSem s0 scan)
    (hc : Coh s0) (hG : ScanAgree s0 scan) (hev : EventOkW s0 scan W)
    (hN : NewSt s0 scan (s0.spans.size - cntIn s0 scan.aboveStart scan.aboveEnd + bi scan.splitEvent +
      gapsFrom s0.rule (Wat s0 scan.aboveStart) true W) W s') : Coh s' := by
  have hab := hok.start_le
  have hbn := hok.end_le
  have hlen := sigs_length s0
  have hrule := hN.rule
  have hsg := hN.sg
  unfold newSigs at hsg
  have hw0 : Wat s0 scan.aboveStart = sfold s0.rule WindingState.new ((sigs s0).take scan.aboveStart) :=
    Wat_sfold s0 _
  have hT0 : Wtot s0 = sfold s0.rule (Wat s0 scan.aboveEnd) ((sigs s0).drop scan.aboveEnd) := by
    have := Wat_split s0 (k := scan.aboveEnd) (m := s0.active.size) hbn
    rw [List.take_of_length_le (by omega)] at this
    exact this
  have hwM : ∃ wM, wM = sfold s0.rule (Wat s0 scan.aboveStart) (if scan.mergeEvent then [(true, (0 : Int))] else []) ∧
      wM.number = (Wat s0 scan.aboveStart).number ∧ wM.isIn = (Wat s0 scan.aboveStart).isIn ∧
      wM.spanIndex = (Wat s0 scan.aboveStart).spanIndex + (bi scan.mergeEvent : Int) := by
    refine ⟨_, rfl, ?_⟩
    cases scan.mergeEvent <;> simp [sfold, sstep, bi]
  obtain ⟨wM, hwMd, hwMn, hwMi, hwMs⟩ := hwM
  have hT' : Wtot s' = sfold s0.rule (pfold s0.rule wM W) ((sigs s0).drop scan.aboveEnd) := by
    rw [Wtot_sfold, hsg, hrule, sfold_append, sfold_append, sfold_append, ← hw0, ← hwMd]
    rfl
  have hgM : Good s0.rule wM := by rw [hwMd]; exact good_sfold (Wat_good s0 _) _
  have hnum : (pfold s0.rule wM W).number = (Wat s0 scan.aboveEnd).number := by
    have := (sfold_shift (rule := s0.rule) hwMn hwMi (W.map fun k => (false, k))).1
    rw [← hev.bal]; exact this
  have hg1' : Good s0.rule (pfold s0.rule wM W) := good_pfold hgM W
  have hg1 : Good s0.rule (Wat s0 scan.aboveEnd) := Wat_good s0 _
  have hisin : (pfold s0.rule wM W).isIn = (Wat s0 scan.aboveEnd).isIn := by
    rw [hg1'.canon, hg1.canon, hnum]
  obtain ⟨_, hTi, hTs⟩ := sfold_shift (rule := s0.rule) hnum hisin ((sigs s0).drop scan.aboveEnd)
  rw [← hT0, ← hT'] at hTi hTs
  have hmid := incr_eq_cnt s0 hc.merges scan.aboveStart (scan.aboveEnd - scan.aboveStart) (by omega)
  rw [Nat.add_sub_cancel' hab, cntIn_succ] at hmid
  have hnew := gaps_true s0.rule wM W
  have hZ := Z1_ge hok hc
  have hgap : gapsFrom s0.rule wM true W = gapsFrom s0.rule (Wat s0 scan.aboveStart) true W := by
    by_cases hm : scan.mergeEvent = true
    · rw [hev.mergeW hm]; rfl
    · have : wM = Wat s0 scan.aboveStart := by rw [hwMd]; simp [hm, sfold]
      rw [this]
  rw [hgap, hisin] at hnew
  have hsz0 := hc.size
  -- a split event connects to no edge above and lies inside
  have hsp : scan.aboveStart < scan.aboveEnd ∨ (Wat s0 scan.aboveStart).isIn = false → scan.splitEvent = false := by
    intro h
    cases hs : scan.splitEvent
    · rfl
    · obtain ⟨h1, h2, _⟩ := hsem.split hs
      rcases h with h | h
      · omega
      · rw [h] at h2; cases h2
  have key : (bi scan.mergeEvent : Int) + (bi (!W.isEmpty && (Wat s0 scan.aboveEnd).isIn) : Int) -
      (if scan.aboveStart < scan.aboveEnd ∧ (Wat s0 scan.aboveEnd).isIn = true then (1 : Nat) else 0 : Nat) =
      (bi scan.splitEvent : Int) := by
    by_cases hm : scan.mergeEvent = true
    · rw [hev.mergeW hm, hm, hsp (.inl (hG.1 hm)), (hsem.merge hm).2.1]
      simp [bi, hG.1 hm]
    · have hm' : scan.mergeEvent = false := by simpa using hm
      rw [hm']
      by_cases hW : W = []
      · rcases hev.stray hW with h | ⟨hlt, _, hout⟩ | ⟨heq, hout⟩
        · exact absurd h hm
        · have hb := hev.bal
          rw [hW, pfold_nil] at hb
          have hin : (Wat s0 scan.aboveEnd).isIn = false := by
            rw [hg1.canon, ← hb, ← (Wat_good s0 _).canon]; exact hout
          rw [hW, hin, hsp (.inl hlt)]; simp [bi]
        · rw [hW, hsp (.inr hout)]; simp [bi, heq]
      · have hWe : W.isEmpty = false := by cases W <;> simp_all
        rw [hWe]
        by_cases hlt : scan.aboveStart < scan.aboveEnd
        · rw [hsp (.inl hlt)]
          cases (Wat s0 scan.aboveEnd).isIn <;> simp [bi, hlt]
        · have heq : scan.aboveStart = scan.aboveEnd := by omega
          have hse : scan.splitEvent = (Wat s0 scan.aboveEnd).isIn := by
            cases hi : (Wat s0 scan.aboveEnd).isIn
            · exact hsp (.inr (heq ▸ hi))
            · exact hG.2 heq (by rw [heq]; exact hi)
          rw [hse]
          cases (Wat s0 scan.aboveEnd).isIn <;> simp [bi, hlt]
  have hsize : (s'.spans.size : Int) = (Wtot s').spanIndex + 1 := by
    rw [hN.size]
    have h1 := hZ.1
    generalize (if scan.aboveStart < scan.aboveEnd ∧ (Wat s0 scan.aboveEnd).isIn = true then (1 : Nat) else 0) = δ1
      at hmid key
    generalize bi (!W.isEmpty && (Wat s0 scan.aboveEnd).isIn) = ε at hnew key
    generalize gapsFrom s0.rule (Wat s0 scan.aboveStart) true W = G at hnew ⊢
    generalize cntIn s0 scan.aboveStart scan.aboveEnd = cnt at hmid h1 ⊢
    push_cast [Int.ofNat_sub h1] at hmid ⊢
    omega
  -- the merge vertices: the winding balance as `gsum`s, the old invariant cut at `above_start`, `above_end`
  have hb := hev.bal
  rw [pfold, sfold_number, Wat_split s0 hab, sfold_number] at hb
  have h0 := hc.min
  rw [← List.take_append_drop scan.aboveEnd (sigs s0),
    ← List.take_append_drop scan.aboveStart ((sigs s0).take scan.aboveEnd), List.take_take,
    Nat.min_eq_left hab] at h0
  rw [MIn_append, MIn_append] at h0
  have hM : gsum (if scan.mergeEvent then [(true, (0 : Int))] else []) = 0 := by cases scan.mergeEvent <;> rfl
  refine coh_of_min hN.live hsize (by rw [hTi]; exact hc.out) ?_ ?_
  · rw [hrule, hsg, MIn_append, MIn_append, MIn_append]
    refine ⟨⟨⟨h0.1.1, ?_⟩, MIn_edges _ _ (by simp)⟩, ?_⟩
    · cases hm : scan.mergeEvent
      · trivial
      · exact ⟨fun _ => by rw [Int.zero_add, ← Wat_isIn]; exact (hsem.merge hm).1, trivial⟩
    · have h2 := h0.2
      simp only [gsum_append, hM] at h2 ⊢
      rw [show (0 : Int) + (gsum ((sigs s0).take scan.aboveStart) + 0 + gsum (W.map fun k => (false, k))) =
        0 + (gsum ((sigs s0).take scan.aboveStart) + gsum (((sigs s0).take scan.aboveEnd).drop scan.aboveStart)) by omega]
      exact h2
  · rw [hsg]
    intro x hx hx1
    simp only [List.mem_append, List.mem_map] at hx
    rcases hx with ((hx | hx) | hx) | hx
    · exact hc.mz x (List.mem_of_mem_take hx) hx1
    · cases hme : scan.mergeEvent
      · rw [hme] at hx; simp at hx
      · rw [hme] at hx; simp at hx; rw [hx]
    · obtain ⟨k, _, rfl⟩ := hx; cases hx1
    · exact hc.mz x (List.mem_of_mem_drop hx) hx1

end Lyon.SweepCoh
