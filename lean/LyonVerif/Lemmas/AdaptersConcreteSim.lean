/-
  C16 with the concrete flatteners — where is the tolerance applied?

  `Flattened<Transformed<_>>` flattens the ORIGINAL curve at `tol` and transforms the points;
  `Transformed<Flattened<_>>` flattens the TRANSFORMED curve at `tol` (in the target space).
  For a similarity `m` of scale `s` the two coincide exactly, in exact arithmetic, when the
  target-space tolerance is `s·tol`:

  * orientation kept (`IsSim`: rotation, uniform scaling, translation): lyon_geom's flattening
    parameters of the transformed quadratic at `s·tol` are THE SAME record as those of the original
    at `tol`;
  * orientation reversed (`IsSimNeg`: a reflection composed with those): the parabola parameters
    change sign, the two approximation functions are odd, so the parameters are the NEGATED record
    (`negParams`): same `count`, same `t_at_iteration` — PROVIDED the one asymmetric test of
    `FlatteningParameters::new`, `(parabola_from < 0) == (parabola_to < 0)`, gives the same answer
    for `(−pf, −pt)` as for `(pf, pt)`: it does unless exactly one of the two is `0`
    (`ParabolaGeneric`).  At `0` the test is NOT symmetric (`C16.flatten_reflection_asymmetric_at_zero`).

  Either way the same `t`s are sampled, and Bézier evaluation commutes with affine maps.  Needs
  `sqrt (s·s·x) = s·sqrt x` (the only non-field step: `scale` divides by `sqrt(ddx² + ddy²)`).

  Both cases are instances of `Conformal m s σ` (dot products scale by `s²`, cross products by
  `σ·s²`); what the flattening of curves uses of `(m, s)` is `FlatCommutes` (parameters
  indistinguishable — `PRel` — on the quadratics concerned, `num_quadratics` equal), from which
  `quad_flatten_xf`, `cubic_flatten_xf` and the iterator statements of
  `Lemmas/AdaptersConcreteSimIter.lean` follow for both orientations.
-/
import LyonVerif.Model.Path.AdaptersConcrete
import LyonVerif.Lemmas.AdaptersConcretePath
import LyonVerif.Lemmas.AdaptersConcreteLaws
import LyonVerif.Lemmas.Flatten
import LyonVerif.Props.C10
import LyonVerif.Lemmas.ClipBern

set_option linter.unusedSectionVars false

namespace Lyon.Adapt
open Lyon Lyon.Path Scalar Lyon.Flat

section field
variable {K : Type} [Field K] [LinearOrder K] [IsStrictOrderedRing K]

/-- `m` is an orientation-preserving similarity of scale `s > 0`:
`m = [[a, b], [−b, a]] + translation`, `s² = a² + b²` -/
structure IsSim (m : Xf K) (s : K) : Prop where
  h22 : m.m22 = m.m11
  h21 : m.m21 = -m.m12
  spos : 0 < s
  ss : s * s = m.m11 * m.m11 + m.m12 * m.m12

-- orientation-reversing: `m = [[a, b], [b, −a]] + translation`, `s² = a² + b²`
structure IsSimNeg (m : Xf K) (s : K) : Prop where
  h22 : m.m22 = -m.m11
  h21 : m.m21 = m.m12
  spos : 0 < s
  ss : s * s = m.m11 * m.m11 + m.m12 * m.m12

/-- the linear part of `m` (acts on differences of points) -/
def Xf.lin (m : Xf K) (v : P K) : P K := ⟨v.x * m.m11 + v.y * m.m21, v.x * m.m12 + v.y * m.m22⟩

/-- the linear part of `m` multiplies dot products by `s²` and cross products by `σ·s²`
(`σ = 1`: orientation kept; `σ = −1`: a mirror image) -/
structure Conformal (m : Xf K) (s σ : K) : Prop where
  spos : 0 < s
  dot : ∀ v w, (Xf.lin m v).dot (Xf.lin m w) = s * s * v.dot w
  cross : ∀ v w, (Xf.lin m v).cross (Xf.lin m w) = σ * (s * s * v.cross w)

theorem IsSim.conformal {m : Xf K} {s : K} (h : IsSim m s) : Conformal m s 1 :=
  ⟨h.spos, fun v w => by simp only [Xf.lin, P.dot, h.h22, h.h21, h.ss]; ring,
    fun v w => by simp only [Xf.lin, P.cross, h.h22, h.h21, h.ss]; ring⟩

theorem IsSimNeg.conformal {m : Xf K} {s : K} (h : IsSimNeg m s) : Conformal m s (-1) :=
  ⟨h.spos, fun v w => by simp only [Xf.lin, P.dot, h.h22, h.h21, h.ss]; ring,
    fun v w => by simp only [Xf.lin, P.cross, h.h22, h.h21, h.ss]; ring⟩

theorem coord_lin (i : Bool) (m : Xf K) (v : P K) :
    C10.coord i (Xf.lin m v)
      = C10.coord false v * C10.coord i ⟨m.m11, m.m12⟩ + C10.coord true v * C10.coord i ⟨m.m21, m.m22⟩ := by
  cases i <;> rfl

theorem apply_sub (m : Xf K) (p q : P K) : m.apply p - m.apply q = Xf.lin m (p - q) :=
  C10.ext_coord fun i => by
    simp only [C10.coord_sub, C10.coord_apply, coord_lin]; ring

theorem apply_add_lin_smul (m : Xf K) (a v : P K) (u : K) :
    m.apply a + (Xf.lin m v).smul u = m.apply (a + v.smul u) :=
  C10.ext_coord fun i => by
    simp only [C10.coord_add, C10.coord_smul, C10.coord_apply, coord_lin]; ring

-- the second difference `2·ctrl − from − to`
noncomputable def ddOf (q : Quad K) : P K := ⟨two * q.c.x - q.a.x - q.b.x, two * q.c.y - q.a.y - q.b.y⟩

theorem ddOf_sim (m : Xf K) (q : Quad K) : ddOf (q.transformed m) = Xf.lin m (ddOf q) := by
  apply P.ext' <;> simp only [ddOf, Quad.transformed, Xf.apply, Xf.lin, geom] <;> push_cast <;> ring

section conformal
variable {m : Xf K} {s σ : K} (h : Conformal m s σ)
include h

theorem Conformal.ss_pos : 0 < s * s := mul_pos h.spos h.spos

theorem segSqDist_sim (a b p : P K) :
    segSqDist (m.apply a) (m.apply b) (m.apply p) = s * s * segSqDist a b p := by
  have hne : s * s ≠ 0 := ne_of_gt h.ss_pos
  simp only [segSqDist, segClosestPoint, apply_sub, h.dot, mul_div_mul_left _ _ hne,
    apply_add_lin_smul, show ∀ v : P K, v.sqLen = v.dot v from fun _ => rfl]

theorem isLinear_sim (q : Quad K) (tol : K) :
    (q.transformed m).isLinear (s * tol) = q.isLinear tol := by
  simp only [Quad.isLinear, Quad.transformed, segSqDist_sim h]
  have h1 : s * tol * (s * tol) * four = s * s * (tol * tol * four) := by ring
  rw [h1]
  congr 1
  exact propext (mul_le_mul_iff_of_pos_left h.ss_pos)

end conformal

section transc
variable [Transc K] [FlatConst K]

theorem api_neg (x : K) : approxParabolaIntegral (-x) = -approxParabolaIntegral x := by
  simp only [approxParabolaIntegral]
  rw [show half * half * -x * -x = half * half * x * x by ring, neg_div]

theorem apii_neg (x : K) : approxParabolaInvIntegral (-x) = -approxParabolaInvIntegral x := by
  simp only [approxParabolaInvIntegral]
  rw [show half * half * -x * -x = half * half * x * x by ring]
  ring

/-- the parameters with the four signed fields negated -/
def negParams (p : FlatParams K) : FlatParams K :=
  ⟨p.count, -p.integralFrom, -p.integralStep, -p.invIntegralFrom, -p.divInvIntegralDiff⟩

theorem tAt_negParams (p : FlatParams K) (i : K) : (negParams p).tAt i = p.tAt i := by
  simp only [FlatParams.tAt, negParams]
  rw [show -p.integralFrom + -p.integralStep * i = -(p.integralFrom + p.integralStep * i) by ring,
    apii_neg]
  ring

/-- what the general branch of `FlatteningParameters::new` computes from the parabola parameters
`parabola_from`, `parabola_to` and `scale` -/
noncomputable def coreOf2 (parabolaFrom parabolaTo scale tol : K) : FlatParams K :=
  let integralFrom := approxParabolaIntegral parabolaFrom
  let integralTo := approxParabolaIntegral parabolaTo
  let integralDiff := integralTo - integralFrom
  let invIntegralFrom := approxParabolaInvIntegral integralFrom
  let invIntegralTo := approxParabolaInvIntegral integralTo
  let divInvIntegralDiff := one / (invIntegralTo - invIntegralFrom)
  let count := FlatParams.fixCount (Transc.ceil (FlatParams.countEstimate parabolaFrom parabolaTo integralDiff scale tol))
  let integralStep := integralDiff / count
  ⟨count, integralFrom, integralStep, invIntegralFrom, divInvIntegralDiff⟩

theorem flatCross_vec (q : Quad K) : FlatParams.flatCross q = (q.b - q.a).cross (ddOf q) := rfl

/-- the general branch in the quantities a conformal map acts on, with `dd = 2·ctrl − from − to`:
`n1 = (ctrl−from)·dd`, `n2 = (to−ctrl)·dd`, `cross = (to−from)×dd`, `d2 = |dd|²` -/
theorem generalCore_eq_coreOf2 (q : Quad K) (tol : K) :
    FlatParams.generalCore q tol
      = coreOf2 ((q.c - q.a).dot (ddOf q) * (one / (q.b - q.a).cross (ddOf q)))
          ((q.b - q.c).dot (ddOf q) * (one / (q.b - q.a).cross (ddOf q)))
          (Scalar.abs ((q.b - q.a).cross (ddOf q)) / (Transc.sqrt ((ddOf q).dot (ddOf q))
            * Scalar.abs ((q.b - q.c).dot (ddOf q) * (one / (q.b - q.a).cross (ddOf q))
              - (q.c - q.a).dot (ddOf q) * (one / (q.b - q.a).cross (ddOf q))))) tol := by
  unfold FlatParams.generalCore coreOf2
  rfl

/-- the sign test of `FlatteningParameters::new` answers the same for `(pf, pt)` and `(−pf, −pt)` -/
def ParabolaGeneric (pf pt : K) : Prop :=
  (decide (-pf < 0) = decide (-pt < 0)) = (decide (pf < 0) = decide (pt < 0))

theorem parabolaGeneric_of_ne (pf pt : K) (h1 : pf ≠ 0) (h2 : pt ≠ 0) : ParabolaGeneric pf pt := by
  unfold ParabolaGeneric
  rcases lt_or_gt_of_ne h1 with a | a <;> rcases lt_or_gt_of_ne h2 with b | b <;>
    simp [a, b, not_lt.mpr (le_of_lt a), not_lt.mpr (le_of_lt b)]

theorem coreOf2_neg (s : K) (hs : 0 < s) (pf pt sc tol : K) (hg : ParabolaGeneric pf pt) :
    coreOf2 (-pf) (-pt) (s * sc) (s * tol) = negParams (coreOf2 pf pt sc tol) := by
  have hne : s ≠ 0 := ne_of_gt hs
  have hest : FlatParams.countEstimate (-pf) (-pt)
      (-(approxParabolaIntegral pt - approxParabolaIntegral pf)) (s * sc) (s * tol)
      = FlatParams.countEstimate pf pt (approxParabolaIntegral pt - approxParabolaIntegral pf) sc tol := by
    unfold ParabolaGeneric at hg
    simp only [FlatParams.countEstimate, mul_div_mul_left _ _ hne, sc_abs, abs_neg,
      sc_zero_eq, hg]
  simp only [coreOf2, negParams, api_neg, apii_neg,
    show -approxParabolaIntegral pt - -approxParabolaIntegral pf
      = -(approxParabolaIntegral pt - approxParabolaIntegral pf) by ring, hest,
    show -approxParabolaInvIntegral (approxParabolaIntegral pt)
        - -approxParabolaInvIntegral (approxParabolaIntegral pf)
      = -(approxParabolaInvIntegral (approxParabolaIntegral pt)
        - approxParabolaInvIntegral (approxParabolaIntegral pf)) by ring,
    neg_div, div_neg]

theorem coreOf2_scale (s : K) (hs : 0 < s) (pf pt sc tol : K) :
    coreOf2 pf pt (s * sc) (s * tol) = coreOf2 pf pt sc tol := by
  simp only [coreOf2, FlatParams.countEstimate, mul_div_mul_left _ _ (ne_of_gt hs)]

/-- under a similarity of ratio `s` (`σ = ±1` its orientation) the parabola parameters
`n / cross` are multiplied by `σ` -/
theorem parab_conf {s σ : K} (hs : 0 < s) (hσ : σ = 1 ∨ σ = -1) (n cross : K) :
    s * s * n * (one / (σ * (s * s * cross))) = σ * (n * (one / cross)) := by
  have hss : s * s ≠ 0 := mul_ne_zero hs.ne' hs.ne'
  have hσi : σ⁻¹ = σ := inv_eq_of_mul_eq_one_right (by rcases hσ with rfl | rfl <;> ring)
  rw [sc_one_eq, one_div, one_div, mul_inv, mul_inv, hσi]
  have : s * s * (s * s)⁻¹ = 1 := mul_inv_cancel₀ hss
  linear_combination (σ * n * cross⁻¹) * this

/-- under a similarity of ratio `s` (`σ = ±1` its orientation) the `scale` of
`FlatteningParameters::new` is multiplied by `s` -/
theorem scale_conf (hsq : SqrtScales K) {s σ : K} (hs : 0 < s) (hσ : σ = 1 ∨ σ = -1)
    (x y cross d2 : K) (hd2 : 0 ≤ d2) :
    Scalar.abs (σ * (s * s * cross)) / (Transc.sqrt (s * s * d2) * Scalar.abs (σ * y - σ * x))
      = s * (Scalar.abs cross / (Transc.sqrt d2 * Scalar.abs (y - x))) := by
  have hσabs : |σ| = 1 := by rcases hσ with rfl | rfl <;> simp
  rw [hsq s d2 hs.le hd2, ← mul_sub]
  simp only [sc_abs, abs_mul, hσabs, one_mul, abs_of_pos hs]
  rw [mul_assoc s (Transc.sqrt d2), mul_assoc s s, mul_div_mul_left _ _ hs.ne', mul_div_assoc]

/-- two parameter records the flattening cannot tell apart -/
def PRel (p' p : FlatParams K) : Prop := p'.count = p.count ∧ ∀ i, p'.tAt i = p.tAt i

/-- the parabola parameters of a quadratic (`parabola_from`, `parabola_to` of
`FlatteningParameters::new`) -/
noncomputable def parabolaFromOf (q : Quad K) : K :=
  ((q.c.x - q.a.x) * (ddOf q).x + (q.c.y - q.a.y) * (ddOf q).y) * (one / FlatParams.flatCross q)
noncomputable def parabolaToOf (q : Quad K) : K :=
  ((q.b.x - q.c.x) * (ddOf q).x + (q.b.y - q.c.y) * (ddOf q).y) * (one / FlatParams.flatCross q)

/-- under a similarity the parameters of the transformed quadratic at `s·tol`
are those of the original at `tol` (orientation kept) or their negation (mirror image, when the
sign test is symmetric for this curve): same count, same `t_at_iteration` -/
theorem flatParams_rel (hsq : SqrtScales K) {m : Xf K} {s σ : K} (h : Conformal m s σ) (q : Quad K)
    (tol : K) (hσ : σ = 1 ∨ σ = -1 ∧ ParabolaGeneric (parabolaFromOf q) (parabolaToOf q)) :
    PRel (FlatParams.new (q.transformed m) (s * tol)) (FlatParams.new q tol) := by
  have hss : s * s ≠ 0 := ne_of_gt h.ss_pos
  have hσ0 : σ ≠ 0 := by rcases hσ with rfl | ⟨rfl, _⟩ <;> norm_num
  have hσ' : σ = 1 ∨ σ = -1 := hσ.imp_right And.left
  unfold FlatParams.new
  rw [isLinear_sim h]
  split
  · exact ⟨rfl, fun _ => rfl⟩
  · unfold FlatParams.general
    rw [flatCross_vec, flatCross_vec, ddOf_sim]
    simp only [Quad.transformed, apply_sub, h.cross]
    have hz : (σ * (s * s * (q.b - q.a).cross (ddOf q)) == (zero : K))
        = ((q.b - q.a).cross (ddOf q) == (zero : K)) := by
      rw [Bool.eq_iff_iff, sc_beq, sc_beq, sc_zero_eq, mul_eq_zero, mul_eq_zero]
      simp only [hσ0, hss, false_or]
    rw [hz]
    split
    · exact ⟨rfl, fun _ => rfl⟩
    · have hd2 : (0 : K) ≤ (ddOf q).dot (ddOf q) := add_nonneg (mul_self_nonneg _) (mul_self_nonneg _)
      -- every vector the parameters are made of goes through the linear part of `m`
      have e := generalCore_eq_coreOf2 (q.transformed m) (s * tol)
      rw [ddOf_sim] at e
      simp only [Quad.transformed, apply_sub, h.cross, h.dot, parab_conf h.spos hσ',
        scale_conf hsq h.spos hσ' _ _ _ _ hd2] at e
      rw [show FlatParams.generalCore ⟨m.apply q.a, m.apply q.c, m.apply q.b⟩ (s * tol) = _ from e,
        generalCore_eq_coreOf2 q tol]
      rcases hσ with rfl | ⟨rfl, hg⟩
      · rw [one_mul, one_mul, coreOf2_scale s h.spos]
        exact ⟨rfl, fun _ => rfl⟩
      · change ParabolaGeneric ((q.c - q.a).dot (ddOf q) * (one / (q.b - q.a).cross (ddOf q)))
          ((q.b - q.c).dot (ddOf q) * (one / (q.b - q.a).cross (ddOf q))) at hg
        rw [neg_one_mul, neg_one_mul, coreOf2_neg s h.spos _ _ _ tol hg]
        exact ⟨rfl, fun i => tAt_negParams _ i⟩

end transc

/-- a cubic is determined by its points, and both sides have the points `m (c (t0 + (t1 − t0)·u))` -/
theorem cubic_splitRange_xf (m : Xf K) (c : Cubic K) (t0 t1 : K) :
    (c.transformed m).splitRange t0 t1 = (c.splitRange t0 t1).transformed m :=
  Clip.cubic_ext_of_sample fun u => by
    rw [C10.cubic_split_range_sample, C10.cubic_transformed_sample, C10.cubic_transformed_sample,
      C10.cubic_split_range_sample]

theorem toQuadratic_xf (m : Xf K) (c : Cubic K) :
    (c.transformed m).toQuadratic = c.toQuadratic.transformed m := by
  simp only [Cubic.toQuadratic, Quad.transformed, Cubic.transformed, Quad.mk.injEq, true_and, and_true]
  refine C10.ext_coord fun i => ?_
  simp only [C10.coord_apply, C10.coord_add, C10.coord_sub, C10.coord_smul, ofNat_eq, Nat.cast_ofNat,
    ofSci_eq]
  ring

theorem numQuadraticsImpl_sim [Transc K] {m : Xf K} {s σ : K} (h : Conformal m s σ) (c : Cubic K)
    (tol : K) : (c.transformed m).numQuadraticsImpl (s * tol) = c.numQuadraticsImpl tol := by
  have hss : s * s ≠ 0 := ne_of_gt h.ss_pos
  -- the error vector `from − 3·ctrl1 + 3·ctrl2 − to` is a combination of differences
  have hv : ∀ w : P K, w = ⟨c.a.x - three * c.c1.x + three * c.c2.x - c.b.x,
      c.a.y - three * c.c1.y + three * c.c2.y - c.b.y⟩ →
      ((c.transformed m).a.x - three * (c.transformed m).c1.x + three * (c.transformed m).c2.x
          - (c.transformed m).b.x) = (Xf.lin m w).x ∧
      ((c.transformed m).a.y - three * (c.transformed m).c1.y + three * (c.transformed m).c2.y
          - (c.transformed m).b.y) = (Xf.lin m w).y := by
    rintro w rfl
    constructor <;> simp only [Cubic.transformed, Xf.apply, Xf.lin, geom] <;> push_cast <;> ring
  obtain ⟨hx, hy⟩ := hv _ rfl
  unfold Cubic.numQuadraticsImpl
  simp only []
  rw [hx, hy, show ∀ v : P K, v.x * v.x + v.y * v.y = v.dot v from fun _ => rfl, h.dot,
    show (ofNat 432 : K) * (s * tol) * (s * tol) = s * s * (ofNat 432 * tol * tol) by ring,
    mul_div_mul_left _ _ hss]
  rfl

section transc
variable [Transc K] [FlatConst K]

/-- what the flattening of curves uses of the pair (`m`, scale `s`): on the quadratics in `G` the
parameters at `s·tol` cannot be told from the original ones at `tol`, and cubics are cut into the
same number of quadratics -/
structure FlatCommutes (m : Xf K) (s : K) (G : Quad K → Prop) : Prop where
  params : ∀ q tol, G q → PRel (FlatParams.new (q.transformed m) (s * tol)) (FlatParams.new q tol)
  numQuads : ∀ (c : Cubic K) tol,
    (c.transformed m).numQuadraticsImpl (s * tol) = c.numQuadraticsImpl tol

theorem IsSim.flatCommutes (hsq : SqrtScales K) {m : Xf K} {s : K} (h : IsSim m s) :
    FlatCommutes m s fun _ => True :=
  ⟨fun q tol _ => flatParams_rel hsq h.conformal q tol (Or.inl rfl),
    numQuadraticsImpl_sim h.conformal⟩

theorem IsSimNeg.flatCommutes (hsq : SqrtScales K) {m : Xf K} {s : K} (h : IsSimNeg m s) :
    FlatCommutes m s fun q => ParabolaGeneric (parabolaFromOf q) (parabolaToOf q) :=
  ⟨fun q tol hg => flatParams_rel hsq h.conformal q tol (Or.inr ⟨rfl, hg⟩),
    numQuadraticsImpl_sim h.conformal⟩

/-! ### the callback flatteners; they use the parameters only through `count` and
`t_at_iteration` -/

theorem flatLoop_congr_tAt (q : Quad K) (p p' : FlatParams K) (h : ∀ i, p'.tAt i = p.tAt i)
    (n : ℕ) (i : K) (frm : P K) (tFrom : K) :
    q.flatLoop p' n i frm tFrom = q.flatLoop p n i frm tFrom := by
  induction n generalizing i frm tFrom with
  | zero => rfl
  | succ n ih => simp only [Quad.flatLoop, h, ih]

/-- a callback moved by a point map (ranges unchanged) -/
noncomputable def mapFlat (m : Xf K) (sg : FlatSeg K) : FlatSeg K := ⟨m.apply sg.a, m.apply sg.b, sg.t0, sg.t1⟩

theorem quad_flatLoop_xf (m : Xf K) (q : Quad K) (p : FlatParams K) (n : ℕ) (i : K) (frm : P K)
    (tFrom : K) :
    (q.transformed m).flatLoop p n i (m.apply frm) tFrom
      = (q.flatLoop p n i frm tFrom).map (mapFlat m) := by
  induction n generalizing i frm tFrom with
  | zero => simp [Quad.flatLoop, mapFlat, Quad.transformed]
  | succ n ih =>
    simp only [Quad.flatLoop, List.map_cons, mapFlat, C10.quad_transformed_sample, ih]

variable {m : Xf K} {s : K} {G : Quad K → Prop} (F : FlatCommutes m s G)
include F

/-- `for_each_flattened_with_t` of the transformed quadratic at `s·tol` =
the transformed callbacks of the original at `tol` (same count, same `t`s, panic iff panic) -/
theorem quad_flatten_xf (q : Quad K) (tol : K) (hq : G q) :
    (q.transformed m).forEachFlattenedWithT (s * tol)
      = (q.forEachFlattenedWithT tol).map (List.map (mapFlat m)) := by
  obtain ⟨hc, ht⟩ := F.params q tol hq
  simp only [Quad.forEachFlattenedWithT, hc, Option.map_map]
  congr 1
  funext n
  simp only [Function.comp, Quad.flatWith, flatLoop_congr_tAt _ _ _ ht]
  exact quad_flatLoop_xf m q _ _ _ _ _

/-- a quadratic approximation with its `t` range, transformed: the range stays -/
noncomputable def mapQR (m : Xf K) (x : Quad K × K × K) : Quad K × K × K := (x.1.transformed m, x.2)

omit F in
theorem quadsLoop_xf (m : Xf K) (c : Cubic K) (step : K) (n : ℕ) (t0 : K) :
    (c.transformed m).quadsLoop step n t0 = (c.quadsLoop step n t0).map (mapQR m) := by
  induction n generalizing t0 with
  | zero => simp [Cubic.quadsLoop, mapQR, cubic_splitRange_xf, toQuadratic_xf]
  | succ n ih => simp [Cubic.quadsLoop, mapQR, cubic_splitRange_xf, toQuadratic_xf, ih]

omit F in
theorem rerange_xf (m : Xf K) (r0 len : K) (lq : Bool) (l : List (FlatSeg K)) (tFrom : K) :
    Cubic.rerange r0 len lq (l.map (mapFlat m)) tFrom
      = ((Cubic.rerange r0 len lq l tFrom).1.map (mapFlat m), (Cubic.rerange r0 len lq l tFrom).2) := by
  induction l generalizing tFrom with
  | nil => rfl
  | cons sg r ih =>
    simp only [List.map_cons, Cubic.rerange, mapFlat, ih]

theorem flatQuadsT_xf (tol : K) (qs : List (Quad K × K × K)) (hg : ∀ x ∈ qs, G x.1) (tFrom : K) :
    Cubic.flatQuadsT (s * tol) (qs.map (mapQR m)) tFrom
      = (Cubic.flatQuadsT tol qs tFrom).map (List.map (mapFlat m)) := by
  induction qs generalizing tFrom with
  | nil => rfl
  | cons x rest ih =>
    obtain ⟨q, r0, r1⟩ := x
    simp only [List.map_cons, mapQR, Cubic.flatQuadsT,
      quad_flatten_xf F q _ (hg _ (List.mem_cons_self ..))]
    cases hq' : q.forEachFlattenedWithT tol with
    | none => rfl
    | some l =>
      simp only [Option.map_some, rerange_xf, ih fun y hy => hg y (List.mem_cons_of_mem _ hy)]
      cases hr : Cubic.flatQuadsT tol rest (Cubic.rerange r0 (r1 - r0) (r1 == one) l tFrom).2 with
      | none => rfl
      | some r => simp

/-- the same for a cubic (its quadratic approximations, their number and
their flattening all commute with the similarity) -/
theorem cubic_flatten_xf (c : Cubic K) (tol : K)
    (hg : ∀ x ∈ c.forEachQuadraticWithT (tol * FlatConst.value 4 1), G x.1) :
    (c.transformed m).forEachFlattenedWithT (s * tol)
      = (c.forEachFlattenedWithT tol).map (List.map (mapFlat m)) := by
  simp only [Cubic.forEachQuadraticWithT] at hg
  simp only [Cubic.forEachFlattenedWithT, Cubic.forEachQuadraticWithT, mul_assoc s tol, F.numQuads,
    quadsLoop_xf]
  exact flatQuadsT_xf F _ _ hg _

theorem cbModel_quad_xf (tol : K) (a c b : P K) (hg : G ⟨a, c, b⟩) :
    (cbModel (s * tol)).quad (m.apply a) (m.apply c) (m.apply b)
      = ((cbModel tol).quad a c b).map (mapSeg m.apply) ∧
    cbOkQuad (s * tol) (m.apply a) (m.apply c) (m.apply b) = cbOkQuad tol a c b := by
  have hf := quad_flatten_xf F ⟨a, c, b⟩ tol hg
  simp only [Quad.transformed] at hf
  refine ⟨?_, by simp only [cbOkQuad, hf, Option.isSome_map]⟩
  simp only [cbModel, hf]
  cases Quad.forEachFlattenedWithT (⟨a, c, b⟩ : Quad K) tol with
  | none => rfl
  | some l => simp [segOf, mapSeg, mapFlat, Function.comp_def]

theorem cbModel_cubic_xf (tol : K) (a c d b : P K)
    (hg : ∀ x ∈ (⟨a, c, d, b⟩ : Cubic K).forEachQuadraticWithT (tol * FlatConst.value 4 1), G x.1) :
    (cbModel (s * tol)).cubic (m.apply a) (m.apply c) (m.apply d) (m.apply b)
      = ((cbModel tol).cubic a c d b).map (mapSeg m.apply) ∧
    cbOkCubic (s * tol) (m.apply a) (m.apply c) (m.apply d) (m.apply b) = cbOkCubic tol a c d b := by
  have hf := cubic_flatten_xf F ⟨a, c, d, b⟩ tol hg
  simp only [Cubic.transformed] at hf
  refine ⟨?_, by simp only [cbOkCubic, hf, Option.isSome_map]⟩
  simp only [cbModel, hf]
  cases Cubic.forEachFlattenedWithT (⟨a, c, d, b⟩ : Cubic K) tol with
  | none => rfl
  | some l => simp [segOf, mapSeg, mapFlat, Function.comp_def]

omit F in
/-- the quadratics lyon_geom's callback flattener computes parameters for, on the curve, are in `G` -/
def GenericCb (G : Quad K → Prop) (tol : K) : Curve (P K) → Prop
  | .quad a c b => G ⟨a, c, b⟩
  | .cubic a c d b =>
    ∀ x ∈ (⟨a, c, d, b⟩ : Cubic K).forEachQuadraticWithT (tol * FlatConst.value 4 1), G x.1

theorem cbModel_on_xf (tol : K) (k : Curve (P K)) (hg : GenericCb G tol k) :
    (cbModel (s * tol)).on (k.map m.apply) = ((cbModel tol).on k).map (mapSeg m.apply) ∧
    cbOk (s * tol) (k.map m.apply) = cbOk tol k := by
  cases k with
  | quad a c b => exact cbModel_quad_xf F tol a c b hg
  | cubic a c d b => exact cbModel_cubic_xf F tol a c d b hg

/-- `builder.flattened(s·tol).transformed(m)` hands down the transformed calls of
`builder.transformed(m).flattened(tol)` and panics iff it does, when the quadratics of every
curve met are in `G` -/
theorem flatBuilderC_xf (tol : K) (o : P K) (n : Nat) (prog : List (Call (P K) (List K)))
    (hg : ∀ k ∈ curvesMet o prog, GenericCb G tol k) :
    flatBuilderC (s * tol) (m.apply o) n (xfBuilder m.apply prog)
      = (flatBuilderC tol o n prog).map (xfBuilder m.apply) := by
  refine guard_map _ ?_ (run_map m.apply _ _ (FlatB.init o n) prog fun k hk =>
    (cbModel_on_xf F tol k (hg k hk)).1)
  rw [cbOkRun_eq, cbOkRun_eq, xfBuilder, curvesMet_map, List.all_map]
  exact all_congr_mem fun k hk => (cbModel_on_xf F tol k (hg k hk)).2

theorem flatAttrIterC_xf (tol : K) (aevs : List (Event (AP (P K) K)))
    (hg : ∀ k ∈ curvesOf (aevs.map (mapEvent Prod.fst)), GenericCb G tol k) :
    flatAttrIterC (s * tol) (aevs.map (mapEvent (mapAP m.apply)))
      = (flatAttrIterC tol aevs).map (List.map (mapEvent (mapAP m.apply))) := by
  refine guard_map _ ?_ (flatAttrIter_map m.apply _ _ aevs fun k hk =>
    (cbModel_on_xf F tol k (hg k hk)).1)
  rw [cbOkEvents_eq, cbOkEvents_eq, mapEvent_fst_mapAP, curvesOf_map, List.all_map]
  exact all_congr_mem fun k hk => (cbModel_on_xf F tol k (hg k hk)).2

omit F

/-- the sign test is symmetric for every quadratic approximation of the list -/
def QuadsGeneric (qs : List (Quad K × K × K)) : Prop :=
  ∀ x ∈ qs, ParabolaGeneric (parabolaFromOf x.1) (parabolaToOf x.1)

end transc

end field

end Lyon.Adapt
