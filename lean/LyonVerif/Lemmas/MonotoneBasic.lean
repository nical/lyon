/-
  The BASIC monotone tessellator of `Model/Tess/Monotone.lean`, discrete part (any scalar type, floats included):
  what the end results of `Props/C02.lean` and the rest of the monotone family stand on.

  * counting: `CountInv` (`triangles + stack = vertices fed`, stack never empty), kept by `vertex`; `end` is a change
    of side (`end_count`);
  * ids: fed with a FRESH id, `vertex` keeps the stack ids distinct and emits triangles on three distinct ids
    (`vertex_fresh`; fresh, not largest: the advanced tessellator forwards older ids); `DInv` for ids in feeding order;
  * runs: `feed` gives the vertices the ids in feeding order; ONE induction, `walk_gen`, carries an invariant along a
    feeding recursion (`feed_walk`; `afeed_walk` of `Lemmas/MonotoneAdv.lean` is its other instance); `Basic.run` is
    `feed` over the middle vertices closed by `end` (`seq_split`, `basic_run_feed`), so an invariant of the state
    after `k` vertices reaches the state that `end` closes (`basic_run_ind`).
-/
import LyonVerif.Model.Tess.Monotone

set_option linter.unusedSectionVars false

namespace Lyon.C02
open Lyon Lyon.Mono

variable {α : Type} [Scalar α]

theorem fanTris_length (cur : MV α) (l : List (MV α)) : (fanTris cur l).length = l.length - 1 := by
  induction l with
  | nil => rfl
  | cons a r ih =>
    cases r with
    | nil => rfl
    | cons b r' =>
      simp only [fanTris, List.length_cons, ih]
      omega

theorem popLoop_length (cur lp : MV α) (st : List (MV α)) :
    (popLoop cur lp st).1.length + (popLoop cur lp st).2.length = st.length + 1 := by
  induction st generalizing lp with
  | nil => simp [popLoop]
  | cons top rest ih =>
    simp only [popLoop]
    split
    · have := ih top
      simp only [List.length_cons]
      omega
    · simp

theorem popLoop_nonempty (cur lp : MV α) (st : List (MV α)) : (popLoop cur lp st).1 ≠ [] := by
  induction st generalizing lp with
  | nil => simp [popLoop]
  | cons top rest ih =>
    simp only [popLoop]
    split
    · exact ih top
    · simp

/-- the ear-cutting loop leaves a suffix of the stack -/
theorem popLoop_suffix (cur lp : MV α) (st : List (MV α)) : (popLoop cur lp st).1 <:+ lp :: st := by
  induction st generalizing lp with
  | nil => simp [popLoop]
  | cons top rest ih =>
    simp only [popLoop]
    split
    · exact (ih top).trans (List.suffix_cons _ _)
    · exact List.suffix_refl _

theorem popLoop_getLast (cur lp : MV α) (st : List (MV α)) :
    (popLoop cur lp st).1.getLast? = (lp :: st).getLast? := by
  have hne := popLoop_nonempty cur lp st
  rw [List.getLast?_eq_some_getLast hne, (popLoop_suffix cur lp st).getLast hne, ← List.getLast?_eq_some_getLast]

/-- `Basic.vertex` on the side of the stack: the ear-cutting loop from the top -/
theorem vertex_same (s : Basic α) (cur : MV α) (rest : List (MV α)) (h : cur.left = s.previous.left)
    (hst : s.stack = s.previous :: rest) :
    s.vertex cur = ⟨cur :: (popLoop cur s.previous rest).1, cur, s.tris ++ (popLoop cur s.previous rest).2⟩ := by
  have hne : (cur.left != s.previous.left) = false := by rw [h]; cases s.previous.left <;> rfl
  simp only [Basic.vertex, hne, Bool.false_eq_true, if_false, hst]

/-- `Basic.vertex` on the other side: the fan over the whole stack, bottom first -/
theorem vertex_other (s : Basic α) (cur : MV α) (h : cur.left ≠ s.previous.left) :
    s.vertex cur = ⟨[cur, s.previous], cur, s.tris ++ fanTris cur s.stack.reverse⟩ := by
  have hne : (cur.left != s.previous.left) = true := by
    revert h; cases cur.left <;> cases s.previous.left <;> simp
  simp only [Basic.vertex, hne, if_true]

theorem vertex_previous (s : Basic α) (v : MV α) : (s.vertex v).previous = v := by
  unfold Basic.vertex
  split
  · rfl
  · cases s.stack <;> rfl

/-- the counting invariant: `triangles + stack = vertices fed`, stack never empty -/
def CountInv (s : Basic α) (fed : Nat) : Prop := s.stack ≠ [] ∧ s.tris.length + s.stack.length = fed

theorem begin_countInv (p : P α) (id : Nat) : CountInv (Basic.begin p id) 1 := by
  simp [CountInv, Basic.begin]

theorem vertex_countInv (s : Basic α) (cur : MV α) (fed : Nat) (h : CountInv s fed) :
    CountInv (s.vertex cur) (fed + 1) := by
  obtain ⟨hne, hc⟩ := h
  unfold Basic.vertex
  split
  · refine ⟨by simp, ?_⟩
    simp only [List.length_append, fanTris_length, List.length_reverse, List.length_cons, List.length_nil]
    have := List.length_pos_iff.mpr hne
    omega
  · cases hs : s.stack with
    | nil => exact absurd hs hne
    | cons top rest =>
      refine ⟨by simp, ?_⟩
      have := popLoop_length cur top rest
      simp only [List.length_append, List.length_cons]
      rw [hs] at hc
      simp only [List.length_cons] at hc
      omega

theorem foldl_countInv (vs : List (MV α)) (s : Basic α) (fed : Nat) (h : CountInv s fed) :
    CountInv (vs.foldl Basic.vertex s) (fed + vs.length) := by
  induction vs generalizing s fed with
  | nil => simpa using h
  | cons v r ih =>
    have := ih (s.vertex v) (fed + 1) (vertex_countInv s v fed h)
    simp only [List.foldl_cons, List.length_cons]
    rwa [show fed + (r.length + 1) = fed + 1 + r.length by omega]

/-- `end` emits `stack.length − 1` more triangles (it is a change of side). -/
theorem end_count (s : Basic α) (p : P α) (id fed : Nat) (h : CountInv s fed) :
    (s.end_ p id).tris.length = fed - 1 := by
  obtain ⟨hne, hc⟩ := h
  have hlen := List.length_pos_iff.mpr hne
  simp only [Basic.end_, Basic.vertex]
  have : ((!s.previous.left) != s.previous.left) = true := by cases s.previous.left <;> rfl
  simp only [this, if_true, List.length_append, fanTris_length, List.length_reverse]
  omega

def TriDistinct (t : Tri) : Prop := t.1 ≠ t.2.1 ∧ t.2.1 ≠ t.2.2 ∧ t.1 ≠ t.2.2

/-! The basic tessellator fed with a FRESH id (not necessarily the largest so far: the advanced
tessellator forwards chain ends out of order) keeps its stack ids pairwise distinct and emits
triangles with three distinct ids. -/

theorem fanTris_distinct (cur : MV α) (l : List (MV α))
    (hnd : (l.map (·.id)).Nodup) (hfresh : cur.id ∉ l.map (·.id)) : ∀ t ∈ fanTris cur l, TriDistinct t := by
  induction l with
  | nil => intro t ht; simp [fanTris] at ht
  | cons a r ih =>
    cases r with
    | nil => intro t ht; simp [fanTris] at ht
    | cons b r' =>
      intro t ht
      simp only [fanTris, List.mem_cons] at ht
      simp only [List.map_cons, List.nodup_cons, List.mem_cons, not_or] at hnd hfresh
      rcases ht with ht | ht
      · subst ht
        simp only [fanTri, TriDistinct]
        split
        · exact ⟨hnd.1.1, fun h => hfresh.2.1 h.symm, fun h => hfresh.1 h.symm⟩
        · exact ⟨fun h => hnd.1.1 h.symm, fun h => hfresh.1 h.symm, fun h => hfresh.2.1 h.symm⟩
      · apply ih
        · simp only [List.map_cons, List.nodup_cons]
          exact hnd.2
        · simp only [List.map_cons, List.mem_cons, not_or]
          exact hfresh.2
        · exact ht

theorem popLoop_spec (cur lp : MV α) (st : List (MV α)) (hlp : lp.id ≠ cur.id)
    (hnot : lp.id ∉ st.map (·.id)) (hnd : (st.map (·.id)).Nodup) (hfresh : cur.id ∉ st.map (·.id)) :
    ∀ t ∈ (popLoop cur lp st).2, TriDistinct t := by
  induction st generalizing lp with
  | nil => simp [popLoop]
  | cons top rest ih =>
    simp only [List.map_cons, List.nodup_cons, List.mem_cons, not_or] at hnd hfresh hnot
    simp only [popLoop]
    split
    · intro t ht
      rcases List.mem_cons.mp ht with ht | ht
      · subst ht
        simp only [earTri, TriDistinct]
        split
        · exact ⟨fun h => hnot.1 h.symm, hlp, fun h => hfresh.1 h.symm⟩
        · exact ⟨hnot.1, fun h => hfresh.1 h.symm, hlp⟩
      · exact ih top (fun h => hfresh.1 h.symm) hnd.1 hnd.2 hfresh.2 t ht
    · simp

theorem vertex_fresh (s : Basic α) (cur : MV α) (htop : ∃ rest, s.stack = s.previous :: rest)
    (hnd : (s.stack.map (·.id)).Nodup) (htri : ∀ t ∈ s.tris, TriDistinct t)
    (hfresh : cur.id ∉ s.stack.map (·.id)) :
    (∃ rest, (s.vertex cur).stack = (s.vertex cur).previous :: rest) ∧
    ((s.vertex cur).stack.map (·.id)).Nodup ∧ (∀ t ∈ (s.vertex cur).tris, TriDistinct t) ∧
    (∀ v ∈ (s.vertex cur).stack, v.id = cur.id ∨ v.id ∈ s.stack.map (·.id)) ∧
    (s.vertex cur).tris.length + (s.vertex cur).stack.length = s.tris.length + s.stack.length + 1 := by
  obtain ⟨rest, hst⟩ := htop
  have hcnt := (vertex_countInv s cur (s.tris.length + s.stack.length) ⟨by simp [hst], rfl⟩).2
  by_cases hside : cur.left = s.previous.left
  · -- the new stack is `cur` on a part of the old one; every ear is `cur` with lastPopped and top
    rw [vertex_same s cur rest hside hst] at hcnt ⊢
    rw [hst] at hnd hfresh hcnt ⊢
    -- the ids of the stack that remains are ids of the old stack
    have hsub := (popLoop_suffix cur s.previous rest).map (·.id)
    have hnd' := List.nodup_cons.mpr ⟨fun h => hfresh (hsub.subset h), hnd.sublist hsub.sublist⟩
    simp only [List.map_cons, List.nodup_cons, List.mem_cons, not_or] at hnd hfresh
    have sp3 := popLoop_spec cur s.previous rest (fun h => hfresh.1 h.symm) hnd.1 hnd.2 hfresh.2
    refine ⟨⟨_, rfl⟩, hnd', fun t ht => (List.mem_append.mp ht).elim (htri t) (sp3 t), fun v hv => ?_, hcnt⟩
    rcases List.mem_cons.mp hv with e | e
    · exact Or.inl (e ▸ rfl)
    · exact Or.inr (hsub.subset (List.mem_map_of_mem e))
  · -- the new stack is `[cur, previous]`; every fan triangle is `cur` with two adjacent stack entries
    rw [vertex_other s cur hside] at hcnt ⊢
    have hp : s.previous.id ∈ s.stack.map (·.id) := by rw [hst]; simp
    refine ⟨⟨_, rfl⟩, ?_, fun t ht => (List.mem_append.mp ht).elim (htri t) ?_, fun v hv => ?_, hcnt⟩
    · simp only [List.map_cons, List.map_nil, List.nodup_cons, List.mem_cons, List.not_mem_nil, or_false,
        not_false_eq_true, List.nodup_nil, and_true]
      intro h; exact hfresh (h ▸ hp)
    · refine fanTris_distinct cur s.stack.reverse ?_ ?_ t
      · rw [List.map_reverse]
        unfold List.Nodup at hnd ⊢
        rw [List.pairwise_reverse]
        exact hnd.imp (fun h => fun e => h e.symm)
      · rw [List.map_reverse]; simpa using hfresh
    · simp only [List.mem_cons, List.not_mem_nil, or_false] at hv
      rcases hv with hv | hv
      · exact Or.inl (hv ▸ rfl)
      · exact Or.inr (hv ▸ hp)

def DInv (s : Basic α) (k : Nat) : Prop :=
  (∃ rest, s.stack = s.previous :: rest) ∧ (s.stack.map (·.id)).Nodup ∧ (∀ v ∈ s.stack, v.id < k) ∧
    ∀ t ∈ s.tris, TriDistinct t

theorem begin_dInv (p : P α) : DInv (Basic.begin p 0) 1 :=
  ⟨⟨[], rfl⟩, by simp [Basic.begin], by simp [Basic.begin], by simp [Basic.begin]⟩

/-- an id above every stack id is fresh -/
theorem fresh_of_lt {st : List (MV α)} {k : Nat} (h : ∀ v ∈ st, v.id < k) : k ∉ st.map (·.id) := by
  intro g
  obtain ⟨v, hv, e⟩ := List.mem_map.mp g
  have := h v hv
  omega

/-- the next id `k` is fresh -/
theorem vertex_dInv (s : Basic α) (cur : MV α) (k : Nat) (hk : cur.id = k) (h : DInv s k) :
    DInv (s.vertex cur) (k + 1) := by
  obtain ⟨htop, hnd, hlt, htri⟩ := h
  obtain ⟨v1, v2, v3, v4, _⟩ := vertex_fresh s cur htop hnd htri (hk ▸ fresh_of_lt hlt)
  refine ⟨v1, v2, fun v hv => ?_, v3⟩
  rcases v4 v hv with e | e
  · omega
  · obtain ⟨w, hw, e'⟩ := List.mem_map.mp e
    have := hlt w hw
    omega

/-- ids `k, k+1, …` are assigned to the vertices in feeding order -/
def feed (s : Basic α) : Nat → List (P α × Bool) → Basic α
  | _, [] => s
  | k, (p, l) :: r => feed (s.vertex ⟨p, k, l⟩) (k + 1) r

/-- an invariant indexed by the number of vertices fed is carried along a feeding recursion `F` (`feed`, `afeed`):
the one induction behind every statement about a run -/
theorem walk_gen {σ β : Type} (g : σ → β → Nat → σ) (F : σ → Nat → List β → σ)
    (hnil : ∀ s k, F s k [] = s) (hcons : ∀ s k b r, F s k (b :: r) = F (g s b k) (k + 1) r)
    {I : Nat → σ → Prop} : ∀ (vs : List β) (s : σ) (k : Nat),
      (∀ i (hi : i < vs.length) s', I (k + i) s' → I (k + i + 1) (g s' vs[i] (k + i))) → I k s →
      I (k + vs.length) (F s k vs)
  | [], s, k, _, h => by rw [hnil]; exact h
  | b :: r, s, k, step, h => by
    rw [hcons, List.length_cons, show k + (r.length + 1) = k + 1 + r.length by omega]
    refine walk_gen g F hnil hcons r _ (k + 1) (fun i hi s' h' => ?_) (step 0 (by simp) s h)
    have := step (i + 1) (by simp only [List.length_cons]; omega) s'
    simp only [List.getElem_cons_succ, show k + (i + 1) = k + 1 + i by omega] at this
    exact this h'

theorem feed_walk {I : Nat → Basic α → Prop} (vs : List (P α × Bool)) (s : Basic α) (k : Nat)
    (step : ∀ i (hi : i < vs.length) s', I (k + i) s' → I (k + i + 1) (s'.vertex ⟨vs[i].1, k + i, vs[i].2⟩))
    (h : I k s) : I (k + vs.length) (feed s k vs) :=
  walk_gen (fun s v k => s.vertex ⟨v.1, k, v.2⟩) feed (fun _ _ => rfl) (fun _ _ _ _ => rfl) vs s k step h

theorem foldl_zipIdx_eq_feed (vs : List (P α × Bool)) (s : Basic α) (k : Nat) :
    (vs.zipIdx k).foldl (fun s (pi : (P α × Bool) × Nat) => s.vertex ⟨pi.1.1, pi.2 + 1, pi.1.2⟩) s
      = feed s (k + 1) vs := by
  induction vs generalizing s k with
  | nil => rfl
  | cons v r ih =>
    obtain ⟨p, l⟩ := v
    simp only [List.zipIdx_cons, List.foldl_cons, feed]
    exact ih _ (k + 1)

/-- a sequence of at least two vertices: the apex, the middle vertices, the bottom vertex -/
theorem seq_split (seq : List (P α × Bool)) (h2 : 2 ≤ seq.length) :
    ∃ v0 ve, seq = v0 :: (seq.tail.take (seq.tail.length - 1) ++ [ve]) := by
  match seq, h2 with
  | v0 :: v1 :: rest, _ =>
    refine ⟨v0, (v1 :: rest).getLast (by simp), ?_⟩
    rw [List.tail_cons, ← List.dropLast_eq_take, List.dropLast_concat_getLast]

/-- the middle vertices up to the `i`-th: one more entry -/
theorem mids_take_succ (seq : List (P α × Bool)) (i : Nat) (hi : i + 2 < seq.length) (v : P α × Bool)
    (hv : seq[i + 1]? = some v) :
    (seq.tail.take (seq.tail.length - 1)).take (i + 1) = (seq.tail.take (seq.tail.length - 1)).take i ++ [v] := by
  rw [List.take_add_one, List.getElem?_take_of_lt (by simp only [List.length_tail]; omega), List.getElem?_tail, hv]
  rfl

theorem split_getElem (v0 ve : P α × Bool) (mids : List (P α × Bool)) :
    (∀ i (hi : i < mids.length), (v0 :: (mids ++ [ve]))[1 + i]? = some mids[i]) ∧
      (v0 :: (mids ++ [ve]))[1 + mids.length]? = some ve ∧ (v0 :: (mids ++ [ve])).length - 1 = 1 + mids.length :=
  ⟨fun i hi => by
      rw [Nat.add_comm, List.getElem?_cons_succ, List.getElem?_append_left hi, List.getElem?_eq_getElem hi],
    by rw [Nat.add_comm, List.getElem?_cons_succ, List.getElem?_append_right (Nat.le_refl _)]; simp,
    by simp; omega⟩

/-- `mids ++ [ve]` as the runs read it: non-empty, all but the last entry, the last entry, the length -/
theorem snoc_facts {β : Type} (mids : List β) (ve : β) :
    ∃ x xs, mids ++ [ve] = x :: xs ∧ (x :: xs).take ((x :: xs).length - 1) = mids ∧
      (x :: xs).getLast? = some ve ∧ (x :: xs).length = mids.length + 1 := by
  obtain ⟨x, xs, e⟩ : ∃ x xs, mids ++ [ve] = x :: xs := by cases mids <;> exact ⟨_, _, rfl⟩
  exact ⟨x, xs, e, by rw [← e]; simp, by rw [← e]; simp, by rw [← e]; simp⟩

/-- `Basic.run` is `feed` over the middle vertices, closed by `end` -/
theorem basic_run_feed (v0 ve : P α × Bool) (mids : List (P α × Bool)) :
    Basic.run (v0 :: (mids ++ [ve])) = ((feed (Basic.begin v0.1 0) 1 mids).end_ ve.1 (mids.length + 1)).tris := by
  obtain ⟨x, xs, e, e1, e2, e3⟩ := snoc_facts mids ve
  rw [e]
  simp only [Basic.run, e1, e2, foldl_zipIdx_eq_feed, Option.map_some, Option.getD_some, Nat.zero_add]
  rw [e3]

/-- **induction over a run of the basic tessellator**: `I k s` ("`s` is a state after `k` vertices") holds of
`begin` and is kept by the `vertex` call for every middle vertex; then it holds of the state that `end` closes -/
theorem basic_run_ind (seq : List (P α × Bool)) (h2 : 2 ≤ seq.length) (I : Nat → Basic α → Prop)
    (h0 : ∀ v, seq[0]? = some v → I 1 (Basic.begin v.1 0))
    (hstep : ∀ k s v, I k s → 1 ≤ k → k + 1 < seq.length → seq[k]? = some v → I (k + 1) (s.vertex ⟨v.1, k, v.2⟩)) :
    ∃ s v, I (seq.length - 1) s ∧ seq[seq.length - 1]? = some v ∧
      Basic.run seq = (s.end_ v.1 (seq.length - 1)).tris := by
  obtain ⟨v0, ve, e⟩ := seq_split seq h2
  generalize seq.tail.take (seq.tail.length - 1) = mids at e
  subst e
  obtain ⟨g1, g2, g3⟩ := split_getElem v0 ve mids
  rw [g3]
  exact ⟨_, ve, feed_walk mids _ 1 (fun i hi s' h' => hstep (1 + i) s' mids[i] h' (by omega) (by omega) (g1 i hi))
    (h0 v0 rfl), g2, by rw [basic_run_feed, Nat.add_comm]⟩

theorem run_short (seq : List (P α × Bool)) (h : ¬ 2 ≤ seq.length) : Basic.run seq = [] ∧ Adv.run seq = [] := by
  match seq, h with
  | [], _ => exact ⟨rfl, rfl⟩
  | [_], _ => exact ⟨rfl, rfl⟩
  | _ :: _ :: _, h => exact absurd (by simp) h

end Lyon.C02
