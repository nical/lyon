/-
  The buffered chains of the states the advanced tessellator reaches on a valid sweep sequence, as
  point sets (`Props/C02g.lean`, `Props/C02h.lean`): the chain invariant `CInv` (`Lemmas/MonotoneAdvNonneg.lean`: sorted,
  locally convex — what `outward_turn` maintains) makes a buffered chain strictly sorted and weakly
  convex, so `flush_side` tiles its chain polygon (`flush_side_fan_tilesW`) and the open fan triangles
  are strictly beyond the chord (`flush_side_fan_tilesO`); the fans of the final state are in the output
  (`adv_final_fans_emitted`).
-/
import LyonVerif.Lemmas.MonotoneTileAdvSetFan

set_option linter.unusedSectionVars false

namespace Lyon.C02f
open Lyon Lyon.Mono Lyon.C02 Lyon.C02c

section Geometry
variable {K : Type} [Field K] [LinearOrder K] [IsStrictOrderedRing K]

theorem toArray_getD (pos : Nat → P K) (ev : List Nat) :
    (fun i => pos (ev.toArray.getD i 0)) = evPos pos ev := by
  funext i; simp [evPos, List.getD_eq_getElem?_getD]

theorem range_map_evPos (pos : Nat → P K) (ev : List Nat) :
    (List.range ev.length).map (evPos pos ev) = ev.map pos := by
  apply List.ext_getElem
  · simp
  · intro i h1 h2
    simp [evPos, List.getD_eq_getElem?_getD]
    simp at h1
    simp [h1]

theorem evPos_head (pos : Nat → P K) (ev : List Nat) : evPos pos ev 0 = pos (ev.headD 0) := by
  cases ev <;> rfl

variable (seq : List (P K × Bool))

theorem chain_convex_mem {c : Bool} {s : SideEv K} (hci : CInv (posOf seq) c s) :
    ∀ v ∈ s.events.map (posOf seq), 0 ≤ sg c * wind (posOf seq (headId s)) v s.last.pos := by
  refine List.forall_mem_map.mpr (fun j hj => ?_)
  obtain ⟨i, hi, e⟩ := List.mem_iff_getElem.mp hj
  have g := convex_global c (evPos (posOf seq) s.events) s.events.length hci.sorted hci.conv 0 i (s.events.length - 1)
    (by omega) (by omega) (by omega)
  have e0 : evPos (posOf seq) s.events 0 = posOf seq (headId s) := evPos_head _ _
  have ei : evPos (posOf seq) s.events i = posOf seq j := by
    simp [evPos, List.getD_eq_getElem?_getD, hi, e]
  have el : evPos (posOf seq) s.events (s.events.length - 1) = s.last.pos := by
    rw [evPos_last (posOf seq) s.events s.last.id hci.last]; exact hci.good.symm
  rw [e0, ei, el] at g
  exact g

theorem convexChainW_of_cinv {pos : Nat → P K} {c : Bool} {s : SideEv K} (h : CInv pos c s) :
    ConvexChainW (fun i => pos (s.events.toArray.getD i 0)) c s.events.length := by
  rw [toArray_getD]
  exact ⟨sorted_all _ _ h.sorted, fun a b d hab hbd hd =>
    convex_global c (evPos pos s.events) s.events.length h.sorted h.conv a b d (by omega) (by omega) hd⟩

/-- the chain of `flush_side`'s array, its first and its last entry, in terms of the buffered chain -/
theorem side_fan_eqs {l : Bool} {k : Nat} {s : SideEv K} (hc : SideChain seq l k s) :
    (List.range s.events.length).map (fun i => posOf seq (s.events.toArray.getD i 0)) = s.events.map (posOf seq) ∧
    posOf seq (s.events.toArray.getD 0 0) = posOf seq (headId s) ∧
    posOf seq (s.events.toArray.getD (s.events.length - 1) 0) = s.last.pos := by
  have ge := congrFun (toArray_getD (posOf seq) s.events)
  exact ⟨by rw [toArray_getD, range_map_evPos], (ge 0).trans (evPos_head _ _),
    by rw [ge, evPos_last (posOf seq) s.events s.last.id hc.last, ← hc.good]⟩

/-- `flush_side` on a buffered chain tiles the chain polygon closed on its chord side — no general position -/
theorem flush_side_fan_tilesW {l : Bool} {k : Nat} {s : SideEv K} (hci : CInv (posOf seq) l s)
    (hc : SideChain seq l k s) :
    Tiles (fun x => ChainIn l (s.events.map (posOf seq)) x ∧ CSide l (posOf seq (headId s)) s.last.pos x)
      (TriIn (posOf seq)) (TriInCN (posOf seq))
      (fanOf s (!l)) (fun _ => False) := by
  have hl : 1 ≤ s.events.length := by have := List.length_pos_of_ne_nil hc.ne; omega
  have := flush_fan_tilesW (posOf seq) s.events.toArray (!l) s.events.length hl
    (by rw [Bool.not_not]; exact convexChainW_of_cinv hci)
  obtain ⟨e1, e2, e3⟩ := side_fan_eqs seq hc
  rwa [Bool.not_not, e1, e2, e3] at this

/-- the same fan against the OPEN chain polygon: the open fan triangles are strictly beyond the chord -/
theorem flush_side_fan_tilesO {l : Bool} {k : Nat} {s : SideEv K} (hci : CInv (posOf seq) l s)
    (hc : SideChain seq l k s) :
    Tiles (InPoly l (s.events.map (posOf seq)) [posOf seq (headId s), s.last.pos])
      (TriIn (posOf seq)) (TriInCN (posOf seq))
      (fanOf s (!l)) (fun _ => False) := by
  have hl : 1 ≤ s.events.length := by have := List.length_pos_of_ne_nil hc.ne; omega
  have := flush_fan_tilesO (posOf seq) s.events.toArray (!l) s.events.length hl
    (by rw [Bool.not_not]; exact convexChainW_of_cinv hci)
  obtain ⟨e1, e2, e3⟩ := side_fan_eqs seq hc
  rwa [Bool.not_not, e1, e2, e3] at this

/-- **`Adv.end_` emits the fans of both buffered chains** (of ≥ 2 ids): a chain of the schedule of `end` is still the
original one or its fan has been pushed -/
theorem end_fans_emitted {α : Type} [Scalar α] (st : Adv α) (p : P α) (id : Nat) :
    (2 ≤ st.left.events.length → ∀ t ∈ fanOf st.left false, t ∈ (st.end_ p id).tris) ∧
    (2 ≤ st.right.events.length → ∀ t ∈ fanOf st.right true, t ∈ (st.end_ p id).tris) := by
  have hff : ∀ (t : Basic α) (a : SideEv α) (r : Bool), ∀ x, x ∈ t.tris ∨ x ∈ fanOf a r → x ∈ (ffTess t a r).tris :=
    fun t a r x hx => vertex_tris_mono _ _ x (List.mem_append.mpr hx)
  obtain ⟨t, a, b, ⟨ja, jb⟩, ha, hb, hperm⟩ := end_walk
    (J := fun t a b => (a = st.left ∨ ∀ x ∈ fanOf st.left false, x ∈ t.tris) ∧
      (b = st.right ∨ ∀ x ∈ fanOf st.right true, x ∈ t.tris)) st p id ⟨Or.inl rfl, Or.inl rfl⟩
    (fun t a b ⟨ja, jb⟩ _ _ => ⟨Or.inr (fun x hx => hff t a false x (ja.elim (fun e => Or.inr (e ▸ hx)) (fun g => Or.inl (g x hx)))),
      jb.imp (fun e => e) (fun g x hx => hff t a false x (Or.inl (g x hx)))⟩)
    (fun t a b ⟨ja, jb⟩ _ _ => ⟨ja.imp (fun e => e) (fun g x hx => hff t b true x (Or.inl (g x hx))),
      Or.inr (fun x hx => hff t b true x (jb.elim (fun e => Or.inr (e ▸ hx)) (fun g => Or.inl (g x hx))))⟩)
  have hend : ∀ x ∈ t.tris, x ∈ (st.end_ p id).tris := fun x hx =>
    hperm.mem_iff.mpr (vertex_tris_mono t ⟨p, id, !t.previous.left⟩ x hx)
  exact ⟨fun h2 x hx => hend x (ja.elim (fun e => by rw [e] at ha; omega) (fun g => g x hx)),
    fun h2 x hx => hend x (jb.elim (fun e => by rw [e] at hb; omega) (fun g => g x hx))⟩

theorem adv_final_fans_emitted (h2 : 2 ≤ seq.length) (l : Bool) (s : SideEv K)
    (hs : s = (if l then (advState seq (midsOf seq).length).left else (advState seq (midsOf seq).length).right))
    (hl2 : 2 ≤ s.events.length) :
    ∀ t ∈ fanOf s (!l), t ∈ Adv.run seq := by
  rw [adv_run_eq_end seq h2]
  have := end_fans_emitted (advState seq (midsOf seq).length) (posOf seq (seq.length - 1)) (seq.length - 1)
  cases l
  · simp only [Bool.false_eq_true, if_false] at hs
    subst hs
    exact this.2 hl2
  · simp only [if_true] at hs
    subst hs
    exact this.1 hl2

end Geometry

end Lyon.C02f
