/-
  C14 helper lemmas: the attribute builder's run as one equation (`run_eq`: the storage of
  `Lemmas/PathStore.lean` and the ids of `Lemmas/PathIds.lean`), the plain builder as its case of no
  attributes, concatenation, path buffers.  Mathlib-free.
-/
import LyonVerif.Lemmas.PathIds
import LyonVerif.Model.Path.Buffer

namespace Lyon.Path

variable {S : Type} [Inhabited S]
set_option linter.unusedSectionVars false
set_option linter.unusedSimpArgs false

/-- a call as the plain builder sees it: attributes ignored -/
def noAttr {A : Type} : Call (Pt S) A → Call (Pt S) (List S)
  | .begin p _ => .begin p []
  | .line p _ => .line p []
  | .quad c p _ => .quad c p []
  | .cubic c1 c2 p _ => .cubic c1 c2 p []
  | .end_ cl => .end_ cl

theorem attrsOk_noAttr {A : Type} (prog : List (Call (Pt S) A)) :
    attrsOk 0 (prog.map noAttr) = true := by
  induction prog with
  | nil => rfl
  | cons c r ih => cases c <;> simp [noAttr, attrsOk, ih]

theorem specFrom_noAttr {A : Type} (st : Option (Pt S × Pt S)) (prog : List (Call (Pt S) A)) :
    specFrom st (prog.map noAttr) = specFrom st prog := by
  induction prog generalizing st with
  | nil => cases st <;> simp [specFrom]
  | cons c r ih =>
    cases st with
    | none => cases c <;> simp [specFrom, noAttr, ih]
    | some fc => obtain ⟨f, c0⟩ := fc; cases c <;> simp [specFrom, noAttr, ih]

/-- with no attributes, `first_attributes` stays empty -/
theorem firstAfter_noAttr {A : Type} (f : Pt S) (prog : List (Call (Pt S) A)) :
    (firstAfter f [] (prog.map noAttr)).2 = [] := by
  induction prog generalizing f with
  | nil => rfl
  | cons c r ih => cases c <;> simp [firstAfter, noAttr, ih]

/-- the plain builder is the attribute builder with no attributes, on the calls with their attributes dropped -/
theorem plain_call {A : Type} (b : BuilderImpl S) (c : Call (Pt S) A) :
    (⟨b, 0, []⟩ : BuilderWithAttributes S).call (noAttr c)
      = some (⟨(b.call c).1, 0, []⟩, (b.call c).2) := by
  obtain ⟨pts, vs, f⟩ := b
  cases c with
  | end_ cl =>
    cases cl <;> simp [noAttr, BuilderWithAttributes.call, BuilderWithAttributes.end_,
      BuilderWithAttributes.withPoints, BuilderImpl.call, BuilderImpl.end_, pushAttributesImpl, packAttrs]
  | _ =>
    simp [noAttr, BuilderWithAttributes.call, BuilderWithAttributes.begin, BuilderWithAttributes.lineTo,
      BuilderWithAttributes.quadraticBezierTo, BuilderWithAttributes.cubicBezierTo,
      BuilderWithAttributes.withPoints, BuilderImpl.call, BuilderImpl.begin, BuilderImpl.lineTo,
      BuilderImpl.quadraticBezierTo, BuilderImpl.cubicBezierTo, pushAttributesImpl, packAttrs]

theorem plain_run {A : Type} (b : BuilderImpl S) (prog : List (Call (Pt S) A)) :
    (⟨b, 0, []⟩ : BuilderWithAttributes S).run (prog.map noAttr)
      = some (⟨(b.run prog).1, 0, []⟩, (b.run prog).2) := by
  induction prog generalizing b with
  | nil => rfl
  | cons c r ih => simp [BuilderWithAttributes.run, BuilderImpl.run, plain_call, ih]

/-- on a well-nested program the stored points do not depend on the builder's `first` state -/
theorem emitPts_indep (prog : Prog S) (hn : wellNestedFrom false prog = true) (f f' : Pt S)
    (fa fa' : List S) : emitPts f fa prog = emitPts f' fa' prog := by
  cases prog with
  | nil => rfl
  | cons c r => cases c <;> simp_all [wellNestedFrom, emitPts]

theorem emitVerbs_append (p q : Prog S) : emitVerbs (p ++ q) = emitVerbs p ++ emitVerbs q := by
  induction p with
  | nil => rfl
  | cons c r ih => cases c with
    | end_ cl => cases cl <;> simp [emitVerbs, ih]
    | _ => simp [emitVerbs, ih]

theorem emitPts_append (f : Pt S) (fa : List S) (p q : Prog S) :
    emitPts f fa (p ++ q) = emitPts f fa p ++ emitPts (firstAfter f fa p).1 (firstAfter f fa p).2 q := by
  induction p generalizing f fa with
  | nil => rfl
  | cons c r ih => cases c with
    | end_ cl => cases cl <;> simp [emitPts, firstAfter, ih]
    | _ => simp [emitPts, firstAfter, ih]

theorem firstAfter_append (f : Pt S) (fa : List S) (p q : Prog S) :
    firstAfter f fa (p ++ q) = firstAfter (firstAfter f fa p).1 (firstAfter f fa p).2 q := by
  induction p generalizing f fa with
  | nil => rfl
  | cons c r ih => cases c <;> simp [firstAfter, ih]

theorem attrsOk_append (n : Nat) (p q : Prog S) :
    attrsOk n (p ++ q) = (attrsOk n p && attrsOk n q) := by
  induction p with
  | nil => simp [attrsOk]
  | cons c r ih => cases c <;> simp [attrsOk, ih, Bool.and_assoc]

theorem emitPts_append_indep (f f' : Pt S) (fa fa' : List S) (p q : Prog S) (h : WellNested q) :
    emitPts f fa (p ++ q) = emitPts f fa p ++ emitPts f' fa' q := by
  rw [emitPts_append, emitPts_indep q h _ f' _ fa']

/-- the points of well-nested pieces, each stored on its own from any builder state, appended, are
the points their concatenation stores from any builder state -/
theorem flatMap_emitPts (f f' : Pt S) (fa fa' : List S) (ps : List (Prog S))
    (h : ∀ p ∈ ps, WellNested p) : ps.flatMap (emitPts f' fa') = emitPts f fa ps.flatten := by
  induction ps generalizing f fa with
  | nil => rfl
  | cons p r ih =>
    have hr := fun q hq => h q (List.mem_cons_of_mem p hq)
    rw [List.flatMap_cons, List.flatten_cons, emitPts_append_indep f f' fa fa' p _ (WellNested.flatten hr),
      ih f' fa' hr, emitPts_indep p (h p (List.mem_cons_self ..)) f f' fa fa']

theorem flatMap_emitVerbs (ps : List (Prog S)) : ps.flatMap emitVerbs = emitVerbs ps.flatten := by
  induction ps with
  | nil => rfl
  | cons p r ih => rw [List.flatMap_cons, List.flatten_cons, emitVerbs_append, ih]

theorem sliceRange_mid {α : Type} (pre mid post : List α) :
    sliceRange (pre ++ mid ++ post) pre.length (pre.length + mid.length) = some mid := by
  simp [sliceRange, List.drop_append, List.take_append]

theorem adjustIds_total (m : Nat) (ids : List Nat) (h : ∀ id ∈ ids, m ≤ id) :
    adjustIds m ids = some (ids.map (· - m)) := by
  induction ids with
  | nil => rfl
  | cons i r ih =>
    have hi := h i (by simp)
    simp [adjustIds, adjustId, csub, hi, ih (fun id hid => h id (by simp [hid]))]

/-- the endpoints (position, attributes) a program hands to the builder, in call order -/
def progEndpoints : Prog S → List (APt S)
  | [] => []
  | .begin p a :: r => (p, a) :: progEndpoints r
  | .line p a :: r => (p, a) :: progEndpoints r
  | .quad _ p a :: r => (p, a) :: progEndpoints r
  | .cubic _ _ p a :: r => (p, a) :: progEndpoints r
  | .end_ _ :: r => progEndpoints r

theorem progEndpoints_eq (prog : Prog S) : progEndpoints prog = callEndpoints (prog.map aCall) := by
  induction prog with
  | nil => rfl
  | cons c r ih => cases c <;> simp [progEndpoints, aCall, callEndpoints, ih]

theorem callEndpoints_idProg_cons (es pos : Nat) (c : Call (Pt S) (List S)) (r : Prog S) :
    callEndpoints (idProg es pos (c :: r))
      = consId (callId pos c) (callEndpoints (idProg es (pos + callWidth es c) r)) := by
  cases c <;> rfl

/-- the attribute builder's run: the record it leaves and the ids it hands back; it never fails on a
program whose endpoints all carry `num_attributes` attributes -/
theorem run_eq (b : BuilderWithAttributes S) (prog : Prog S)
    (ha : attrsOk b.numAttributes prog = true) (hfa : b.firstAttributes.length = b.numAttributes) :
    b.run prog = some
      ({ builder := { points := b.builder.points ++ emitPts b.builder.first b.firstAttributes prog,
                      verbs := b.builder.verbs ++ emitVerbs prog,
                      first := (firstAfter b.builder.first b.firstAttributes prog).1 },
         numAttributes := b.numAttributes,
         firstAttributes := (firstAfter b.builder.first b.firstAttributes prog).2 },
       callEndpoints (idProg (attribStride b.numAttributes + 1) b.builder.points.length prog)) := by
  induction prog generalizing b with
  | nil => simp [BuilderWithAttributes.run, emitPts, emitVerbs, firstAfter, idProg, callEndpoints]
  | cons c r ih =>
    rw [← List.singleton_append, attrsOk_append, Bool.and_eq_true] at ha
    have e1 := emitPts_append b.builder.first b.firstAttributes [c] r
    have e2 := emitVerbs_append [c] r
    have e3 := firstAfter_append b.builder.first b.firstAttributes [c] r
    simp only [List.singleton_append] at e1 e2 e3
    simp only [BuilderWithAttributes.run, call_emit b c ha.1 hfa, Option.bind_some,
      ih ⟨⟨b.builder.points ++ emitPts b.builder.first b.firstAttributes [c], b.builder.verbs ++ emitVerbs [c],
          (firstAfter b.builder.first b.firstAttributes [c]).1⟩, b.numAttributes,
          (firstAfter b.builder.first b.firstAttributes [c]).2⟩ ha.2
        (firstAfter_length b.numAttributes b.builder.first b.firstAttributes [c] ha.1 hfa),
      Option.map_some, e1, e2, e3, List.append_assoc, callEndpoints_idProg_cons, List.length_append,
      emitPts_length b.numAttributes [c] _ _ ha.1 hfa, width, Nat.add_zero]

theorem buildWithAttributes_emit (n : Nat) (prog : Prog S) (ha : attrsOk n prog = true) :
    buildWithAttributes n prog =
      some ⟨emitPts zeroPt (List.replicate n default) prog, emitVerbs prog, n⟩ := by
  rw [buildWithAttributes, run_eq (BuilderWithAttributes.new (S := S) n) prog
    (by simpa [BuilderWithAttributes.new] using ha) (by simp [BuilderWithAttributes.new])]
  simp [BuilderWithAttributes.build, BuilderWithAttributes.new, BuilderImpl.new]

theorem ids_resolve_emit (P : PathData S) (prog : Prog S) (f : Pt S) (fa : List S) (pre : List (Pt S))
    (hall : P.points = pre ++ emitPts f fa prog) (ha : attrsOk P.numAttributes prog = true)
    (hfa : fa.length = P.numAttributes) :
    (callEndpoints (idProg (attribStride P.numAttributes + 1) pre.length prog)).mapM P.endpointA
      = some (progEndpoints prog) := by
  rw [progEndpoints_eq]
  exact (idProg_resolves P prog f fa pre hall ha hfa).endpoints_resolve

theorem callEndpoints_idProg_ge (es pos : Nat) (prog : Prog S) :
    ∀ id ∈ callEndpoints (idProg es pos prog), pos ≤ id := by
  induction prog generalizing pos with
  | nil => simp [idProg, callEndpoints]
  | cons c r ih =>
    intro id hid
    rw [callEndpoints_idProg_cons] at hid
    have hr := ih (pos + callWidth es c) id
    cases c with
    | end_ cl => exact Nat.le_trans (Nat.le_add_right _ _) (hr hid)
    | _ =>
      simp only [callId, consId, List.mem_cons] at hid
      rcases hid with h | h
      · omega
      · exact Nat.le_trans (Nat.le_add_right _ _) (hr h)

theorem plain_run_eq {A : Type} (b : BuilderImpl S) (prog : List (Call (Pt S) A)) :
    b.run prog =
      ({ points := b.points ++ emitPts b.first [] (prog.map noAttr),
         verbs := b.verbs ++ emitVerbs (prog.map noAttr),
         first := (firstAfter b.first [] (prog.map noAttr)).1 },
       callEndpoints (idProg 1 b.points.length (prog.map noAttr))) := by
  have h := run_eq (⟨b, 0, []⟩ : BuilderWithAttributes S) (prog.map noAttr) (attrsOk_noAttr prog) rfl
  rw [plain_run] at h
  simp [attribStride] at h
  exact Prod.ext h.1.1 h.2

end Lyon.Path
