/-
  C06c: closed polygons.  `pt` is continued periodically (`pt (i + N) = pt i`, `N = m + 1` points); the
  regime `RegimeC` is stated on one period; every quantity the argument uses is periodic, so the local
  hypotheses `Around` hold around every edge index `k ≥ 2`, and every edge of the polygon has such an index.
-/
import LyonVerif.Lemmas.StrokeCoverAsm

set_option linter.unusedSectionVars false

namespace Lyon.C06b
open Lyon Scalar Lyon.Stroke Lyon.Stroke.Full Lyon.C05 Lyon.C05b Lyon.C05c Lyon.C06
open Lyon.StrokeQuad (lineIntersection)

section
variable {K : Type} [Field K] [LinearOrder K] [IsStrictOrderedRing K] [Transc K]

/-- what is known around the edge `pt k → pt (k+1)`, `k ≥ 2`, both of whose ends are joins -/
structure Around (e : Env K) (eps : K) (pt : Nat → P K) (o : Out K) (k : Nat) : Prop where
  hyp : CoverHyp e eps
  k2 : 2 ≤ k
  sq : ∀ i, k - 1 ≤ i → i ≤ k + 1 → 0 < (pt (i + 1) - pt i).sqLen
  jc : ∀ i, k - 2 ≤ i → i ≤ k + 1 → JClosed e pt i (psAt e pt (i + 1)) (nsAt e pt (i + 1)) (lamAt e pt (i + 1))
  quads : ∀ i, k - 1 ≤ i → i ≤ k + 1 → EmQuadJ o (jEP e pt i) (jEP e pt (i + 1))
  joins : ∀ i, k ≤ i → i ≤ k + 1 → EmJoin o (jEP e pt i)
  len : ∀ i, k - 1 ≤ i → i ≤ k + 1 → e.hwFw * (|jtau pt (i - 1)| + |jtau pt i| + 1) ≤ eL pt i

theorem inner_bounds (e : Env K) (pt : Nat → P K) (i : Nat) :
    sA0 e pt (i + 1) ≤ |jtau pt i| ∧ sA1 e pt (i + 1) ≤ |jtau pt i|
    ∧ -|jtau pt (i + 1)| ≤ sB0 e pt 0 (i + 1) ∧ -|jtau pt (i + 1)| ≤ sB1 e pt 0 (i + 1) :=
  ⟨(abs_le.mp (sA_abs_le e pt i).1).2, (abs_le.mp (sA_abs_le e pt i).2).2,
    (abs_le.mp (sB_abs_le e pt (Nat.succ_ne_zero _)).1).1, (abs_le.mp (sB_abs_le e pt (Nat.succ_ne_zero _)).2).1⟩

/-- **every point of the rectangle of an edge between two joins lies in an emitted triangle** (as `edge_cover`,
without the caps) -/
theorem edge_cover_in {e : Env K} {eps : K} {pt : Nat → P K} {o : Out K} (j : Nat) (A : Around e eps pt o (j + 2))
    (s u : K) (hs : 0 ≤ s) (hs1 : s ≤ 1) (hu : -1 ≤ u) (hu1 : u ≤ 1) :
    Cov (EmTri o) (bandPoint (pt (j + 2)) (pt (j + 2 + 1)) ((perp (eT pt (j + 2))).smul e.hwFw) s u) := by
  have h := A.hyp
  have jc : ∀ i, j ≤ i → i ≤ j + 3 → JClosed e pt i (psAt e pt (i + 1)) (nsAt e pt (i + 1)) (lamAt e pt (i + 1)) :=
    fun i h1 h2 => A.jc i (by omega) (by omega)
  have ed : ∀ i, j + 1 ≤ i → i ≤ j + 3 →
      0 < eL pt i ∧ (eT pt i).sqLen = 1 ∧ pt (i + 1) - pt i = (eT pt i).smul (eL pt i) :=
    fun i h1 h2 => edge_eq h.sqrt_nonneg h.sqrt_sq pt i (A.sq i (by omega) (by omega))
  -- the trapezoids of the three edges `j+1`, `j+2`, `j+3`
  have T : ∀ i, j ≤ i → i ≤ j + 2 → Trap (EmTri o) e pt 0 (i + 1) |jtau pt i| |jtau pt (i + 1)| :=
    fun i h1 h2 => trap_of_quad h.hw (ed (i + 1) (by omega) (by omega))
      (edgeQuad_of_corners (quadSet_in i (Nat.succ_ne_zero _) (jc i h1 (by omega)) (jc (i + 1) (by omega) (by omega)))
        (A.quads (i + 1) (by omega) (by omega)))
      (inner_bounds e pt i) (A.len (i + 1) (by omega) (by omega))
  have D : ∀ i, j + 1 ≤ i → i ≤ j + 2 → ∃ ε c σ τ lam : K, JointData (EmTri o) e pt i ε c σ τ lam :=
    fun i h1 h2 => joint_data_of i (jc i (by omega) (by omega)) (ed i (by omega) (by omega)).2.1
      (ed (i + 1) (by omega) (by omega)).2.1 (A.joins (i + 1) (by omega) (by omega))
  obtain ⟨ε, c, σ, τ, lam, D1⟩ := D (j + 1) (by omega) (by omega)
  obtain ⟨ε', c', σ', τ', lam', D2⟩ := D (j + 2) (by omega) (by omega)
  refine edge_cover_of h.hw (ed (j + 2) (by omega) (by omega)) (T (j + 1) (by omega) (by omega))
    (Or.inr ⟨j + 1, rfl, Nat.succ_ne_zero _, (ed (j + 1) (by omega) (by omega)).2.2, ε, c, σ, τ, lam, |jtau pt j|, D1,
      by rw [D1.tabs]; exact T j (by omega) (by omega)⟩)
    (Or.inr ⟨Nat.succ_ne_zero _, ε', c', σ', τ', lam', |jtau pt (j + 2 + 1)|, D2, by rw [D2.tabs]; exact T (j + 2) (by omega) (by omega)⟩)
    s u hs hs1 hu hu1

theorem per_all (N : Nat) (hN : 0 < N) (C : Nat → Prop) (hper : ∀ i, C (N + i) ↔ C i) (h : ∀ i, i < N → C i) :
    ∀ i, C i := by
  intro i
  induction i using Nat.strong_induction_on with
  | _ i ih =>
    by_cases hi : i < N
    · exact h i hi
    · obtain ⟨i', rfl⟩ : ∃ i', i = N + i' := ⟨i - N, by omega⟩
      exact (hper i').mpr (ih i' (by omega))

/-- a property of (polyline, index) that holds on one period holds everywhere; `hC` is `fun _ => rfl` for every property
that reads `pt` at `i + const` only -/
theorem per_pt {pt : Nat → P K} {N : Nat} (hN : 0 < N) (hper : ∀ i, pt (i + N) = pt i)
    (C : (Nat → P K) → Nat → Prop) (hC : ∀ i, C pt (N + i) = C (fun j => pt (N + j)) i) (h : ∀ i, i < N → C pt i) :
    ∀ i, C pt i := by
  have hs : (fun j => pt (N + j)) = pt := funext fun j => by rw [Nat.add_comm]; exact hper j
  exact per_all N hN (C pt) (fun i => by rw [hC, hs]) h

/-- **the no-fold regime of a closed polygon** with the `N = m + 1` points `pt 0 … pt m`, `pt` continued
`N`-periodically: on one period, no point is merged with its successor, every edge is longer than `eps`, no
U-turn at any point (first guard of `compute_normal`), the model's fold test answers "no fold" at every
point, every edge is at least `w/2·(|tan(θ_a/2)| + |tan(θ_b/2)| + 1)` long (`θ_a`, `θ_b` the turns at its ends) -/
def RegimeC (e : Env K) (eps : K) (pt : Nat → P K) (m : Nat) : Prop :=
  (∀ i, i < m + 1 → pointsAreTooClose e.thr (pt i) (pt (i + 1)) = false)
  ∧ (∀ i, i < m + 1 → eps < eL pt i)
  ∧ (∀ i, i < m + 1 → ¬ (eT pt i + eT pt (i + 1)).sqLen < normalEpsilon)
  ∧ (∀ i, i < m + 1 → noFoldAt e (pt i) (pt (i + 1)) (pt (i + 1 + 1)))
  ∧ (∀ i, i < m + 1 → e.hwFw * (|jtau pt i| + |jtau pt (i + 1)| + 1) ≤ eL pt (i + 1))

noncomputable instance (e : Env K) (eps : K) (pt : Nat → P K) (m : Nat) : Decidable (RegimeC e eps pt m) := by
  unfold RegimeC noFoldAt; infer_instance

/-- the closed regime holds at every index of the periodic continuation (one period is what `RegimeC` says) -/
theorem regimeC_ext {e : Env K} {eps : K} {pt : Nat → P K} {m : Nat}
    (hper : ∀ i, pt (i + (m + 1)) = pt i) (hr : RegimeC e eps pt m) :
    (∀ i, pointsAreTooClose e.thr (pt i) (pt (i + 1)) = false)
    ∧ (∀ i, eps < eL pt i)
    ∧ (∀ i, ¬ (eT pt i + eT pt (i + 1)).sqLen < normalEpsilon)
    ∧ (∀ i, noFoldAt e (pt i) (pt (i + 1)) (pt (i + 1 + 1)))
    ∧ (∀ i, e.hwFw * (|jtau pt i| + |jtau pt (i + 1)| + 1) ≤ eL pt (i + 1)) :=
  have hN : 0 < m + 1 := Nat.succ_pos m
  ⟨per_pt hN hper (fun pt i => pointsAreTooClose e.thr (pt i) (pt (i + 1)) = false) (fun _ => rfl) hr.1,
   per_pt hN hper (fun pt i => eps < eL pt i) (fun _ => rfl) hr.2.1,
   per_pt hN hper (fun pt i => ¬ (eT pt i + eT pt (i + 1)).sqLen < normalEpsilon) (fun _ => rfl) hr.2.2.1,
   per_pt hN hper (fun pt i => noFoldAt e (pt i) (pt (i + 1)) (pt (i + 1 + 1))) (fun _ => rfl) hr.2.2.2.1,
   per_pt hN hper (fun pt i => e.hwFw * (|jtau pt i| + |jtau pt (i + 1)| + 1) ≤ eL pt (i + 1)) (fun _ => rfl) hr.2.2.2.2⟩

section Periodic
variable {pt : Nat → P K} {N : Nat} (hper : ∀ i, pt (i + N) = pt i)
include hper

/-- the join records are periodic (their geometry depends on the three positions only) -/
theorem jEP_per (e : Env K) (i : Nat) : EP.geo (jEP e pt (N + (i + 1))) = EP.geo (jEP e pt (i + 1)) := by
  have hper' : ∀ i, pt (N + i) = pt i := fun i => by rw [Nat.add_comm]; exact hper i
  unfold jEP
  exact joinSidesFw_geo_congr e.ix _ _ (hper' i) (hper' _) rfl (hper' (i + 1 + 1)) rfl rfl

end Periodic

/-- what the closed-polygon proofs take from `RegimeC`, at EVERY index (by periodicity): proper edges, the joins in closed
form, the room clause -/
theorem regimeC_all {e : Env K} {eps : K} (h : CoverHyp e eps) {pt : Nat → P K} {m : Nat}
    (hper : ∀ i, pt (i + (m + 1)) = pt i) (hr : RegimeC e eps pt m) :
    (∀ i, 0 < (pt (i + 1) - pt i).sqLen)
    ∧ (∀ i, JClosed e pt i (psAt e pt (i + 1)) (nsAt e pt (i + 1)) (lamAt e pt (i + 1)))
    ∧ (∀ i, e.hwFw * (|jtau pt i| + |jtau pt (i + 1)| + 1) ≤ eL pt (i + 1)) := by
  obtain ⟨_, a2, a3, a4, a5⟩ := regimeC_ext hper hr
  have hsq : ∀ i, 0 < (pt (i + 1) - pt i).sqLen := fun i => sqLen_pos_of_len h.sqrt_sq h.eps_nonneg pt i (a2 i)
  exact ⟨hsq, fun i => jEP_closed e eps h.ix_eq h.eps_nonneg h.sqrt_nonneg h.sqrt_sq pt i h.join4 h.clip h.hw (hsq i)
    (hsq (i + 1)) (a3 i) (a4 i), a5⟩

theorem around_closed {e : Env K} {eps : K} (h : CoverHyp e eps) {pt : Nat → P K} {m : Nat}
    (hper : ∀ i, pt (i + (m + 1)) = pt i) (hr : RegimeC e eps pt m) {o : Out K} (hE : EmittedC e pt m o)
    (j : Nat) : Around e eps pt o (j + 2) := by
  obtain ⟨hsq, hjc, a5⟩ := regimeC_all h hper hr
  have hN : 0 < m + 1 := by omega
  have hquads : ∀ i, EmQuadJ o (jEP e pt (i + 1)) (jEP e pt (i + 1 + 1)) := by
    refine per_all (m + 1) hN (fun i => EmQuadJ o (jEP e pt (i + 1)) (jEP e pt (i + 1 + 1))) ?_ ?_
    · intro i
      have g1 := jEP_per hper e i
      have g2 := jEP_per hper e (i + 1)
      exact ⟨emQuadJ_congr g1.symm g2.symm, emQuadJ_congr g1 g2⟩
    · intro i hi
      by_cases him : i + 1 ≤ m
      · exact hE.quads (i + 1) (by omega) him
      · have : i = m := by omega
        subst this
        exact emQuadJ_congr rfl (jEP_per hper e 0) hE.closing
  have hjoins : ∀ i, EmJoin o (jEP e pt (i + 1)) := by
    refine per_all (m + 1) hN (fun i => EmJoin o (jEP e pt (i + 1))) ?_ ?_
    · intro i
      have g1 := jEP_per hper e i
      exact ⟨emJoin_congr g1.symm, emJoin_congr g1⟩
    · intro i hi
      exact hE.joins (i + 1) (by omega) (by omega)
  refine ⟨h, by omega, fun i _ _ => hsq i, fun i _ _ => hjc i, ?_, ?_, ?_⟩
  · intro i h1 h2
    obtain ⟨i', rfl⟩ : ∃ i', i = i' + 1 := ⟨i - 1, by omega⟩
    exact hquads i'
  · intro i h1 h2
    obtain ⟨i', rfl⟩ : ∃ i', i = i' + 1 := ⟨i - 1, by omega⟩
    exact hjoins i'
  · intro i h1 h2
    obtain ⟨i', rfl⟩ : ∃ i', i = i' + 1 := ⟨i - 1, by omega⟩
    exact a5 i'

/-- **closed polygons: every point of every edge's rectangle lies in an emitted triangle** (every `k`: the
edge `pt k → pt (k+1)`, indices continued periodically) -/
theorem edge_cover_closed {e : Env K} {eps : K} (h : CoverHyp e eps) {pt : Nat → P K} {m : Nat}
    (hper : ∀ i, pt (i + (m + 1)) = pt i) (hr : RegimeC e eps pt m) {o : Out K} (hE : EmittedC e pt m o)
    (hm : 2 ≤ m) (k : Nat) (s u : K) (hs : 0 ≤ s) (hs1 : s ≤ 1) (hu : -1 ≤ u) (hu1 : u ≤ 1) :
    Cov (EmTri o) (bandPoint (pt k) (pt (k + 1)) ((perp (eT pt k)).smul e.hwFw) s u) := by
  -- one period up (the index is then at least 2); the shifted polyline is `pt`
  have hsh : (fun j => pt (m + 1 + j)) = pt := funext fun j => by rw [Nat.add_comm]; exact hper j
  have := edge_cover_in (m - 1 + k) (around_closed h hper hr hE (m - 1 + k)) s u hs hs1 hu hu1
  rw [show m - 1 + k + 2 = m + 1 + k by omega] at this
  change Cov (EmTri o) (bandPoint ((fun j => pt (m + 1 + j)) k) ((fun j => pt (m + 1 + j)) (k + 1))
    ((perp (eT (fun j => pt (m + 1 + j)) k)).smul e.hwFw) s u) at this
  rw [hsh] at this; exact this

end

end Lyon.C06b
