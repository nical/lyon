/-
  Reach of a single-segment stroke (fixed width, butt / square caps) in the complete stroker model:
  `begin p0, line_to p1, end(false)` emits four vertices; the two of the end point sit exactly at
  `p1 ± perp(t)·hw (+ t·hw for a square cap)`, the two of the start point at
  `p0 ± perp(t)·hw (− t·hw)`, `t` the unit tangent: squared distance `hw²` (butt) or `2·hw²` (square)
  from their endpoint.  The cap corners are those of `Lemmas/StrokeCapClip.lean`.
-/
import LyonVerif.Lemmas.StrokeAdvEmits
import LyonVerif.Lemmas.StrokeIdxClipGeo
import LyonVerif.Lemmas.StrokeCapClip

set_option linter.unusedSectionVars false

namespace Lyon.C05c
open Lyon Scalar Lyon.Stroke Lyon.Stroke.Full Lyon.C05 Lyon.C05b
open Lyon.StrokeQuad (lineIntersection)
open Lyon.C06b (sub_smul_eq cap_corner cap_corner_start)

section
variable {α : Type} [Scalar α] [Transc α] [Asin α] [FlatConst α]

theorem segment_out (e : Env α) (store : Nat → List α) (hfw : e.o.varWidth = false)
    (i0 i1 : Nat) (p0 p1 : P α) (hfar : pointsAreTooClose e.thr p0 p1 = false) :
    (runEvents e store [IdEv.begin i0 p0, IdEv.line i1 p1, IdEv.end_ false]).st.out
      = firstEdge e (firstPt e i0 i1 p0 p1)
          (lastEdge e (firstPt e i0 i1 p0 p1) (lastSidesFw (firstPt e i0 i1 p0 p1) (secondPt e i0 i1 p0 p1)) true (Out.empty 0)).1
          (lastEdge e (firstPt e i0 i1 p0 p1) (lastSidesFw (firstPt e i0 i1 p0 p1) (secondPt e i0 i1 p0 p1)) true (Out.empty 0)).2 := by
  obtain ⟨st2, hwf2, hab, hc2, hout, hrun⟩ := run_open_subpath_x e store hfw i0 i1 p0 p1 [] hfar
  have hl : (IdEv.begin i0 p0 :: IdEv.line i1 p1 :: (lineEvs ([] : List (Nat × P α)) ++ [IdEv.end_ false]))
      = [IdEv.begin i0 p0, IdEv.line i1 p1, IdEv.end_ false] := rfl
  rw [hl] at hrun
  rw [hrun]
  simp only [List.foldl_nil]
  rw [endWithCaps_eq_two (st := { st2 with mayNeedEmptyCap := st2.mayNeedEmptyCap || (false && st2.buf.count == 1) }) hab]
  show firstEdge e (if st2.buf.count > 2 then _ else _) (if st2.buf.count > 2 then _ else _) _ = _
  rw [if_neg (by omega), if_neg (by omega)]
  unfold capsOut
  show firstEdge e _ (lastEdge e _ (if e.o.varWidth then _ else _) (st2.buf.count == 2) st2.out).1
    (lastEdge e _ (if e.o.varWidth then _ else _) (st2.buf.count == 2) st2.out).2 = _
  rw [hfw, hc2, hout]
  rfl

end
section Field
variable {K : Type} [Field K] [LinearOrder K] [IsStrictOrderedRing K] [Transc K]

/-- squared distance of a cap corner from its endpoint: `hw²` (butt), `2·hw²` (square) -/
def capReachSq (cap : LineCap) (hw : K) : K :=
  match cap with
  | .square => 2 * (hw * hw)
  | _ => hw * hw

theorem capReachSq_eq (cap : LineCap) (hw : K) : capReachSq cap hw = hw * hw + capShift cap hw * capShift cap hw := by
  cases cap <;> simp only [capReachSq, capShift] <;> ring

theorem corner_dist (p t : P K) (c s : K) (hunit : t.sqLen = 1) :
    ((p + (perp t).smul c + t.smul s) - p).sqLen = c * c + s * s := by
  simp only [perp, geom] at hunit ⊢
  linear_combination (c * c + s * s) * hunit

def AtPos (pop : P K) (xs : List (P K)) (v : VData K) : Prop :=
  v.positionOnPath = pop ∧ v.read.position ∈ xs

theorem lastEdge_positions (e : Env K) (hc : e.o.endCap ≠ .round) (p0 p1 : EP K) (isFirst : Bool) (o : Out K)
    (hw0 : p1.halfWidth ≠ 0) :
    Emits (AtPos p1.position
        [clipSidePos e.ix e.o.endCap p1.position p0.position p1.halfWidth p1.pos.prev p0.pos.next,
         clipSidePos e.ix e.o.endCap p1.position p0.position p1.halfWidth p1.neg.prev p0.neg.next])
      o (lastEdge e p0 p1 isFirst o).2 := by
  rw [lastEdge_eq]
  show Emits _ o (lastCap e p0 p1 o.nextId _)
  unfold lastCap
  rw [if_neg (by rw [cap_not_round hc]; exact Bool.false_ne_true)]
  refine Emits.grow _ fun v hv => ?_
  simp only [lastVerts, List.mem_cons, List.mem_nil_iff, or_false] at hv
  rcases hv with rfl | rfl
  · exact ⟨rfl, List.mem_cons.mpr (Or.inl (emit_position _ _ _ hw0))⟩
  · exact ⟨rfl, List.mem_cons.mpr (Or.inr (List.mem_cons.mpr (Or.inl (emit_position _ _ _ hw0))))⟩

theorem firstEdge_positions (e : Env K) (hc : e.o.startCap ≠ .round) (f s : EP K) (o : Out K)
    (hw0 : f.halfWidth ≠ 0) :
    Emits (AtPos f.position
        [clipSidePos e.ix e.o.startCap f.position s.position f.halfWidth f.pos.next s.pos.prev,
         clipSidePos e.ix e.o.startCap f.position s.position f.halfWidth f.neg.next s.neg.prev])
      o (firstEdge e f s o) := by
  rw [firstEdge_eq]
  unfold firstCap
  rw [if_neg (by rw [cap_not_round hc]; exact Bool.false_ne_true)]
  refine Emits.grow _ fun v hv => ?_
  simp only [firstVerts, List.mem_cons, List.mem_nil_iff, or_false] at hv
  rcases hv with rfl | rfl
  · exact ⟨rfl, List.mem_cons.mpr (Or.inl (emit_position _ _ _ hw0))⟩
  · exact ⟨rfl, List.mem_cons.mpr (Or.inr (List.mem_cons.mpr (Or.inl (emit_position _ _ _ hw0))))⟩

variable [Asin K] [FlatConst K]

/-- **reach of a single-segment stroke.**  Fixed width `2·hw`, `hw > 0`, butt or square caps, the
exact `Line::intersection` with guard `eps`, the `sqrt` laws, an edge longer than `eps`:
`begin p0, line_to p1, end(false)` emits only vertices that sit on `p1` at squared distance `hw²` (butt
end cap) / `2·hw²` (square) from it, or on `p0` at squared distance `hw²` / `2·hw²` by the start cap -/
theorem segment_reach (e : Env K) (eps : K) (hix : e.ix = lineIntersection eps) (heps : 0 ≤ eps)
    (hs0 : ∀ x : K, 0 ≤ x → 0 ≤ Transc.sqrt x) (hs : ∀ x : K, 0 ≤ x → Transc.sqrt x * Transc.sqrt x = x)
    (store : Nat → List K) (hfw : e.o.varWidth = false)
    (hsc : e.o.startCap ≠ .round) (hec : e.o.endCap ≠ .round)
    (i0 i1 : Nat) (p0 p1 : P K) (hfar : pointsAreTooClose e.thr p0 p1 = false)
    (hlen : eps < len (p1 - p0)) (hhw : 0 < e.hwFw) :
    ∀ v ∈ (runEvents e store [IdEv.begin i0 p0, IdEv.line i1 p1, IdEv.end_ false]).st.out.verts,
      (v.positionOnPath = p1 ∧ (v.read.position - p1).sqLen = capReachSq e.o.endCap e.hwFw)
      ∨ (v.positionOnPath = p0 ∧ (v.read.position - p0).sqLen = capReachSq e.o.startCap e.hwFw) := by
  rw [segment_out e store hfw i0 i1 p0 p1 hfar]
  have hw0 : e.hwFw ≠ 0 := ne_of_gt hhw
  -- the unit tangent `t`, `p1 − p0 = t·L`
  have hL0 : 0 < len (p1 - p0) := lt_of_le_of_lt heps hlen
  have hnn : (0 : K) ≤ (p1 - p0).sqLen := P.sqLen_nonneg _
  have hsq : 0 < (p1 - p0).sqLen := by rw [← hs _ hnn]; exact mul_pos hL0 hL0
  have hunit : (normalize (p1 - p0)).sqLen = 1 := (sdiv_unit hs0 hs (p1 - p0) hsq).2
  have hE : p1 - p0 = (normalize (p1 - p0)).smul (len (p1 - p0)) := sdiv_smul _ hL0.ne'
  generalize len (p1 - p0) = L at hE hlen
  generalize ht : normalize (p1 - p0) = t at hunit hE
  set hw := e.hwFw with hhwdef
  have hsE0 : 0 ≤ capShift e.o.endCap hw := by cases e.o.endCap <;> simp only [capShift] <;> linarith
  have hz : ∀ a : P K, a + t.smul 0 = a := fun a => by apply P.ext' <;> simp only [geom] <;> ring
  -- the four corners: the end cap clips side lines that start at the unclipped first point, the start cap side
  -- lines that come from the (shifted) end corners
  have hv1 := cap_corner eps heps e.o.endCap p1 p0 t hw hw L 0 ht hunit hE le_rfl hlen
  have hv2 := cap_corner eps heps e.o.endCap p1 p0 t (-hw) hw L 0 ht hunit hE le_rfl hlen
  have hv3 := cap_corner_start eps heps e.o.startCap p0 p1 t hw hw L _ ht hunit hE hsE0 hlen
  have hv4 := cap_corner_start eps heps e.o.startCap p0 p1 t (-hw) hw L _ ht hunit hE hsE0 hlen
  rw [hz, ← hix] at hv1 hv2
  rw [← hix] at hv3 hv4
  simp only [← sub_smul_eq] at hv2 hv4
  have E1 := lastEdge_positions e hec (firstPt e i0 i1 p0 p1)
    (lastSidesFw (firstPt e i0 i1 p0 p1) (secondPt e i0 i1 p0 p1)) true (Out.empty 0) hw0
  have E2 := firstEdge_positions e hsc (firstPt e i0 i1 p0 p1)
    (lastEdge e (firstPt e i0 i1 p0 p1) (lastSidesFw (firstPt e i0 i1 p0 p1) (secondPt e i0 i1 p0 p1)) true (Out.empty 0)).1
    (lastEdge e (firstPt e i0 i1 p0 p1) (lastSidesFw (firstPt e i0 i1 p0 p1) (secondPt e i0 i1 p0 p1)) true (Out.empty 0)).2 hw0
  change Emits (AtPos p1 [clipSidePos e.ix e.o.endCap p1 p0 hw (p1 + (perp (normalize (p1 - p0))).smul hw) (p0 + (perp (normalize (p1 - p0))).smul hw),
    clipSidePos e.ix e.o.endCap p1 p0 hw (p1 - (perp (normalize (p1 - p0))).smul hw) (p0 - (perp (normalize (p1 - p0))).smul hw)]) _ _ at E1
  change Emits (AtPos p0 [clipSidePos e.ix e.o.startCap p0 p1 hw (p0 + (perp (normalize (p1 - p0))).smul hw)
      (clipSidePos e.ix e.o.endCap p1 p0 hw (p1 + (perp (normalize (p1 - p0))).smul hw) (p0 + (perp (normalize (p1 - p0))).smul hw)),
    clipSidePos e.ix e.o.startCap p0 p1 hw (p0 - (perp (normalize (p1 - p0))).smul hw)
      (clipSidePos e.ix e.o.endCap p1 p0 hw (p1 - (perp (normalize (p1 - p0))).smul hw) (p0 - (perp (normalize (p1 - p0))).smul hw))]) _ _ at E2
  rw [ht, hv1, hv2] at E1
  rw [ht, hv1, hv2, hv3, hv4] at E2
  refine Emits.of_new ((Emits.mono ?_ E1).trans (Emits.mono ?_ E2))
  · rintro v ⟨hp, hx⟩
    simp only [List.mem_cons, List.mem_nil_iff, or_false] at hx
    simp only [sub_smul_eq] at hx
    refine Or.inl ⟨hp, ?_⟩
    rcases hx with hx | hx <;> (rw [hx, corner_dist _ _ _ _ hunit, capReachSq_eq]; try ring)
  · rintro v ⟨hp, hx⟩
    simp only [List.mem_cons, List.mem_nil_iff, or_false] at hx
    simp only [sub_smul_eq] at hx
    refine Or.inr ⟨hp, ?_⟩
    rcases hx with hx | hx <;> (rw [hx, corner_dist _ _ _ _ hunit, capReachSq_eq]; try ring)

end Field

end Lyon.C05c
