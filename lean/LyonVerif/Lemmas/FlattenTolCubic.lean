/-
  Cubic flattening, tolerance clause (Props/C09b.lean): a sub-range `[t0,t1]` of a cubic is the
  re-parametrised cubic with third difference `Δ³·(P3 − 3P2 + 3P1 − P0)`, hence differs from its
  `to_quadratic` by at most `|P3 − 3P2 + 3P1 − P0|²·Δ⁶/432` (squared: `cubic_piece_deviation`); the
  pieces of `for_each_quadratic_bezier_with_t` have equal length (`quads_loop_step`; that they cover `[0,1]` is
  `chain_cover` on their `QuadChain`); every segment of a piece's flattening appears in the cubic's flattening.
-/
import LyonVerif.Model.Geom.Flatten
import LyonVerif.Lemmas.Field
import LyonVerif.Lemmas.Flatten
import LyonVerif.Lemmas.FlattenChord
import LyonVerif.Props.C10

set_option linter.unusedSectionVars false

namespace Lyon.Flat
open Lyon Scalar

variable {K : Type} [Field K] [LinearOrder K] [IsStrictOrderedRing K]

/-- `split_range(t0..t1)` is the cubic re-parametrised: `sub.sample u = c.sample (t0 + u·(t1 − t0))` -/
theorem cubic_split_range_sample (c : Cubic K) (t0 t1 u : K) :
    (c.splitRange t0 t1).sample u = c.sample (t0 + u * (t1 - t0)) := by
  rw [C10.cubic_split_range_sample, mul_comm]

theorem cubic_split_range_third_diff (c : Cubic K) (t0 t1 : K) :
    ((((c.splitRange t0 t1).b - (c.splitRange t0 t1).c2.smul 3) + (c.splitRange t0 t1).c1.smul 3)
        - (c.splitRange t0 t1).a)
      = ((((c.b - c.c2.smul 3) + c.c1.smul 3) - c.a)).smul ((t1 - t0) * (t1 - t0) * (t1 - t0)) :=
  C10.ext_coord fun i => by
    simp only [Cubic.splitRange, Cubic.sample, Quad.sample, C10.coord_add, C10.coord_sub, C10.coord_smul,
      ofNat_eq, Nat.cast_ofNat, Nat.cast_one]
    ring

theorem cubic_toQuadratic_dev (c : Cubic K) (t : K) :
    c.sample t - c.toQuadratic.sample t
      = (((c.b - c.c2.smul 3) + c.c1.smul 3) - c.a).smul (1 / 2 * (t * (1 - t) * (1 - 2 * t))) :=
  C10.ext_coord fun i => by
    simp only [Cubic.toQuadratic, Cubic.sample, Quad.sample, C10.coord_add, C10.coord_sub, C10.coord_smul,
      ofSci_eq, ofNat_eq, Nat.cast_ofNat, Nat.cast_one, pow_one]
    ring

/-- **deviation of one piece**: over `[t0, t1]` the cubic differs from the `to_quadratic` of its
sub-range, at the same local parameter `u ∈ [0,1]`, by at most `|D|²·(t1 − t0)⁶ / 432` (squared),
`D = P3 − 3P2 + 3P1 − P0` — the `432` of `num_quadratics_impl`: the sub-range is a cubic with third
difference `(t1 − t0)³·D`, and `(u(1−u)(1−2u))²/4 ≤ 1/432`. -/
theorem cubic_piece_deviation (c : Cubic K) (t0 t1 u : K) (hu0 : 0 ≤ u) (hu1 : u ≤ 1) :
    (c.sample (t0 + u * (t1 - t0)) - (c.splitRange t0 t1).toQuadratic.sample u).sqLen
      ≤ (((c.b - c.c2.smul 3) + c.c1.smul 3) - c.a).sqLen * (t1 - t0) ^ 6 / 432 := by
  rw [← cubic_split_range_sample, cubic_toQuadratic_dev, cubic_split_range_third_diff, smul_smul, sqLen_smul]
  have hf := cubic_factor u hu0 hu1
  generalize u * (1 - u) * (1 - 2 * u) = f at hf ⊢
  generalize t1 - t0 = T
  have := mul_le_mul_of_nonneg_left hf
    (mul_nonneg (P.sqLen_nonneg (((c.b - c.c2.smul 3) + c.c1.smul 3) - c.a)) (sq_nonneg (T ^ 3)))
  linear_combination (1 / 4 : K) * this

section loops
variable [Transc K] [FlatConst K]

theorem numQuadraticsImpl_eq (c : Cubic K) (tol : K) :
    c.numQuadraticsImpl tol = Max.max (Transc.ceil (Transc.pow
      ((((c.b - c.c2.smul 3) + c.c1.smul 3) - c.a).sqLen / (432 * tol * tol)) (1 / 6))) 1 := by
  have herr : (c.a.x - 3 * c.c1.x + 3 * c.c2.x - c.b.x) * (c.a.x - 3 * c.c1.x + 3 * c.c2.x - c.b.x)
      + (c.a.y - 3 * c.c1.y + 3 * c.c2.y - c.b.y) * (c.a.y - 3 * c.c1.y + 3 * c.c2.y - c.b.y)
      = (((c.b - c.c2.smul 3) + c.c1.smul 3) - c.a).sqLen := by
    simp only [geom]; ring
  simp only [Cubic.numQuadraticsImpl, sc_max, ofNat_eq, Nat.cast_ofNat, Nat.cast_one, herr]

theorem count_eq_of_toU32 (hnat : ∀ n : ℕ, Transc.toNat ((n : ℕ) : K) = n) (x : K) (hx : ∃ z : ℤ, x = (z : K)) (n : ℕ)
    (h : toU32 x = some n) : x = (n : K) := by
  obtain ⟨z, rfl⟩ := hx
  unfold toU32 at h
  split at h
  · rename_i hc
    have h1 : (-1 : K) < (z : K) := by
      have := hc.1
      simpa [sc_one_eq] using this
    have hz : (-1 : ℤ) < z := by exact_mod_cast h1
    obtain ⟨m, rfl⟩ : ∃ m : ℕ, z = m := ⟨z.toNat, by omega⟩
    have : Transc.toNat (((m : ℕ) : ℤ) : K) = m := by
      rw [Int.cast_natCast]; exact hnat m
    rw [this] at h
    cases Option.some.inj h
    simp
  · cases h

theorem max_ceil_one_int (hceil : ∀ x : K, ∃ z : ℤ, Transc.ceil x = (z : K)) (y : K) :
    (∃ z : ℤ, Scalar.max (Transc.ceil y) (one : K) = (z : K)) ∧ 1 ≤ Scalar.max (Transc.ceil y) (one : K) := by
  simp only [sc_max, sc_one_eq]
  constructor
  · obtain ⟨z, hz⟩ := hceil y
    exact ⟨max z 1, by rw [hz]; push_cast; rfl⟩
  · exact le_max_right _ _

theorem numQuadraticsImpl_int (hceil : ∀ x : K, ∃ z : ℤ, Transc.ceil x = (z : K)) (c : Cubic K)
    (tol : K) :
    (∃ z : ℤ, c.numQuadraticsImpl tol = (z : K)) ∧ 1 ≤ c.numQuadraticsImpl tol := by
  unfold Cubic.numQuadraticsImpl
  exact max_ceil_one_int hceil _

/-- the cast `to_u32` of `num_quadratics_impl`'s result is exact when it is below 2³², given that
the cast is exact on natural numbers and `ceil` is integer-valued -/
theorem numQuadratics_cast (hnat : ∀ n : ℕ, Transc.toNat ((n : ℕ) : K) = n)
    (hceil : ∀ x : K, ∃ z : ℤ, Transc.ceil x = (z : K)) (c : Cubic K) (tol : K)
    (hlt : c.numQuadraticsImpl tol < 4294967296) :
    (((toU32 (c.numQuadraticsImpl tol)).getD 1 : ℕ) : K) = c.numQuadraticsImpl tol := by
  obtain ⟨hint, hge⟩ := numQuadraticsImpl_int hceil c tol
  have hsome : ∃ N, toU32 (c.numQuadraticsImpl tol) = some N := by
    unfold toU32
    rw [if_pos]
    · exact ⟨_, rfl⟩
    · refine ⟨?_, ?_⟩
      · have : (-(one : K)) = -1 := by rw [sc_one_eq]
        rw [this]; linarith
      · simpa [ofNat_eq] using hlt
  obtain ⟨N, hN⟩ := hsome
  rw [hN, Option.getD_some]
  exact (count_eq_of_toU32 hnat _ hint N hN).symm

theorem quads_loop_step (c : Cubic K) (step : K) (k : Nat) (t0 : K) (hinv : t0 + ((k : K) + 1) * step = 1) :
    ∀ p ∈ c.quadsLoop step k t0, p.1 = (c.splitRange p.2.1 p.2.2).toQuadratic ∧ p.2.2 - p.2.1 = step := by
  induction k generalizing t0 with
  | zero =>
    intro p hp
    rw [List.mem_singleton.mp hp]
    exact ⟨rfl, by rw [sc_one_eq]; push_cast at hinv; linear_combination (-1 : K) * hinv⟩
  | succ k ih =>
    intro p hp
    rcases List.mem_cons.mp hp with rfl | hp
    · exact ⟨rfl, by ring⟩
    · exact ih (t0 + step) (by push_cast at hinv; linear_combination hinv) p hp

theorem rerange_mem (r0 len : K) (lastQuad : Bool) (l : List (FlatSeg K)) (tFrom : K) :
    ∀ sg ∈ l, ∃ sg2 ∈ (Cubic.rerange r0 len lastQuad l tFrom).1, sg2.a = sg.a ∧ sg2.b = sg.b := by
  induction l generalizing tFrom with
  | nil => intro sg h; cases h
  | cons s l ih =>
    intro sg hsg
    rcases List.mem_cons.mp hsg with rfl | hsg
    · simp only [Cubic.rerange]
      exact ⟨_, List.mem_cons_self, rfl, rfl⟩
    · obtain ⟨sg2, h2, h3⟩ := ih _ sg hsg
      exact ⟨sg2, by simp only [Cubic.rerange]; exact List.mem_cons_of_mem _ h2, h3⟩

theorem flatQuadsT_mem (tol : K) (qs : List (Quad K × K × K)) (tFrom : K) (l : List (FlatSeg K))
    (h : Cubic.flatQuadsT tol qs tFrom = some l) :
    ∀ p ∈ qs, ∃ lq, p.1.forEachFlattenedWithT tol = some lq
      ∧ ∀ sg ∈ lq, ∃ sg2 ∈ l, sg2.a = sg.a ∧ sg2.b = sg.b := by
  induction qs generalizing tFrom l with
  | nil => intro p hp; cases hp
  | cons x rest ih =>
    obtain ⟨q, r0, r1⟩ := x
    obtain ⟨lq, lr, hf, hr, rfl⟩ := flatQuadsT_cons tol q r0 r1 rest tFrom l h
    intro p hp
    rcases List.mem_cons.mp hp with rfl | hp
    · refine ⟨lq, hf, ?_⟩
      intro sg hsg
      obtain ⟨sg2, h2, h3⟩ := rerange_mem r0 (r1 - r0) (r1 == one) lq tFrom sg hsg
      exact ⟨sg2, List.mem_append_left _ h2, h3⟩
    · obtain ⟨lq2, h1, h2⟩ := ih _ lr hr p hp
      refine ⟨lq2, h1, ?_⟩
      intro sg hsg
      obtain ⟨sg2, h3, h4⟩ := h2 sg hsg
      exact ⟨sg2, List.mem_append_right _ h3, h4⟩

theorem flatQuads_mem (tol : K) (qs : List (Quad K × K × K)) (l : List (FlatSeg K))
    (h : Cubic.flatQuads tol qs = some l) :
    ∀ p ∈ qs, ∃ lq, p.1.forEachFlattenedWithT tol = some lq ∧ ∀ sg ∈ lq, sg ∈ l := by
  fun_induction Cubic.flatQuads tol qs generalizing l with
  | case1 => intro p hp; cases hp
  | case2 q r0 r1 rest lq lr hr hq ih =>
    cases h
    intro p hp
    rcases List.mem_cons.mp hp with rfl | hp
    · exact ⟨lq, hq, fun sg hsg => List.mem_append_left _ hsg⟩
    · obtain ⟨lq2, h1, h2⟩ := ih lr hr p hp
      exact ⟨lq2, h1, fun sg hsg => List.mem_append_right _ (h2 sg hsg)⟩
  | case3 => cases h

end loops

end Lyon.Flat
