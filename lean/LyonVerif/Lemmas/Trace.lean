/-
  Shared lemmas about the protocol trace language (`Model/Path/Trace.lean`): the protocol state
  over concatenated call lists; the specification state of a builder program (`none` outside a
  sub-path, `some (first, current)` inside one): induction over a well-nested program together
  with the state it is read in (only the five legal steps occur), and the state after a program;
  well-nested programs and well-formed event lists appended, the call a well-nested program ends with.
  Core Lean only (no Mathlib), so any `Lemmas/*` or `Props/*` file may import it.
-/
import LyonVerif.Model.Path.Trace

namespace Lyon.Path

variable {π A : Type}

theorem nestState_append (b : Bool) (l1 l2 : List (Call π A)) :
    nestState b (l1 ++ l2) = (nestState b l1).bind (fun b' => nestState b' l2) := by
  induction l1 generalizing b with
  | nil => simp [nestState]
  | cons c r ih => cases b <;> cases c <;> simp [nestState, ih]

theorem nestState_append_of {b b1 b2 : Bool} {l1 l2 : List (Call π A)}
    (h1 : nestState b l1 = some b1) (h2 : nestState b1 l2 = some b2) :
    nestState b (l1 ++ l2) = some b2 := by
  simp [nestState_append, h1, h2]

theorem wellNested_append {l1 l2 : List (Call π A)} (h1 : WellNested l1) (h2 : WellNested l2) :
    WellNested (l1 ++ l2) := by
  have a := (wellNestedFrom_iff_nestState false l1).1 h1
  have b := (wellNestedFrom_iff_nestState false l2).1 h2
  exact (wellNestedFrom_iff_nestState false _).2 (nestState_append_of a b)

/-- a map of calls that keeps what each call is to the protocol (a `begin`, an edge, an `end`:
`hf`, by `cases b <;> cases c <;> rfl` for a map that keeps the constructor) keeps the nesting
state -/
theorem nestState_map_step {π' B : Type} (f : Call π A → Call π' B)
    (hf : ∀ b c, nestState b [f c] = nestState b [c]) (b : Bool) (prog : List (Call π A)) :
    nestState b (prog.map f) = nestState b prog := by
  induction prog generalizing b with
  | nil => rfl
  | cons c r ih =>
    rw [List.map_cons, ← List.singleton_append, nestState_append, hf,
      ← List.singleton_append (l := r), nestState_append]
    simp only [ih]

theorem wellNestedFrom_map_step {π' B : Type} (f : Call π A → Call π' B)
    (hf : ∀ b c, nestState b [f c] = nestState b [c]) (b : Bool) (prog : List (Call π A)) :
    wellNestedFrom b (prog.map f) = wellNestedFrom b prog :=
  Bool.eq_iff_iff.2 (by
    rw [wellNestedFrom_iff_nestState, wellNestedFrom_iff_nestState, nestState_map_step f hf])

/-- induction over a well-nested program along the state `specFrom` keeps (first and current
point of the open sub-path); the five out-of-place cases are gone.  The state's point type is the
program's: a walk whose own state is of another type (`applyAll_idProg`, indices;
`specRun_attrEvents_on`, points with attributes) cannot use it and splits the cases by hand. -/
@[elab_as_elim]
theorem wellNested_induction {motive : Option (π × π) → List (Call π A) → Prop}
    (nil : motive none [])
    (begin : ∀ p a r, wellNestedFrom true r = true → motive (some (p, p)) r →
      motive none (.begin p a :: r))
    (line : ∀ f c p a r, wellNestedFrom true r = true → motive (some (f, p)) r →
      motive (some (f, c)) (.line p a :: r))
    (quad : ∀ f c k p a r, wellNestedFrom true r = true → motive (some (f, p)) r →
      motive (some (f, c)) (.quad k p a :: r))
    (cubic : ∀ f c k1 k2 p a r, wellNestedFrom true r = true → motive (some (f, p)) r →
      motive (some (f, c)) (.cubic k1 k2 p a :: r))
    (end_ : ∀ f c cl r, wellNestedFrom false r = true → motive none r →
      motive (some (f, c)) (.end_ cl :: r))
    (st : Option (π × π)) (prog : List (Call π A)) (hn : wellNestedFrom st.isSome prog = true) :
    motive st prog := by
  induction prog generalizing st with
  | nil => cases st with
    | none => exact nil
    | some fc => simp [wellNestedFrom] at hn
  | cons c r ih =>
    cases st with
    | none =>
      cases c with
      | begin p a => exact begin p a r hn (ih (some (p, p)) hn)
      | _ => simp [wellNestedFrom] at hn
    | some fc =>
      obtain ⟨f, c0⟩ := fc
      cases c with
      | begin p a => simp [wellNestedFrom] at hn
      | line p a => exact line f c0 p a r hn (ih (some (f, p)) hn)
      | quad k p a => exact quad f c0 k p a r hn (ih (some (f, p)) hn)
      | cubic k1 k2 p a => exact cubic f c0 k1 k2 p a r hn (ih (some (f, p)) hn)
      | end_ cl => exact end_ f c0 cl r hn (ih none hn)

/-- the state `specFrom` is in after a program (`some (first, current)` inside a sub-path); like
`specFrom` it skips a call out of place -/
def stateAfter : Option (π × π) → List (Call π A) → Option (π × π)
  | st, [] => st
  | none, .begin p _ :: r => stateAfter (some (p, p)) r
  | some (f, _), .line p _ :: r => stateAfter (some (f, p)) r
  | some (f, _), .quad _ p _ :: r => stateAfter (some (f, p)) r
  | some (f, _), .cubic _ _ p _ :: r => stateAfter (some (f, p)) r
  | some _, .end_ _ :: r => stateAfter none r
  | st, _ :: r => stateAfter st r

theorem specFrom_append_state (st : Option (π × π)) (p q : List (Call π A)) :
    specFrom st (p ++ q) = specFrom st p ++ specFrom (stateAfter st p) q := by
  induction p generalizing st with
  | nil => simp [specFrom, stateAfter]
  | cons c r ih =>
    cases st with
    | none => cases c <;> simp [specFrom, stateAfter, ih]
    | some fc => obtain ⟨f, c0⟩ := fc; cases c <;> simp [specFrom, stateAfter, ih]

theorem stateAfter_isSome (st : Option (π × π)) (p : List (Call π A)) (b : Bool)
    (h : nestState st.isSome p = some b) : (stateAfter st p).isSome = b := by
  induction p generalizing st with
  | nil => simp [nestState] at h; simp [stateAfter, h]
  | cons c r ih =>
    cases st with
    | none => cases c <;> simp_all [nestState, stateAfter] <;> exact ih _ h
    | some fc => obtain ⟨f, c0⟩ := fc; cases c <;> simp_all [nestState, stateAfter] <;> exact ih _ h

/-- after a well-nested program the next one is read from outside a sub-path -/
theorem specFrom_append (st : Option (π × π)) (p q : List (Call π A))
    (hp : wellNestedFrom st.isSome p = true) :
    specFrom st (p ++ q) = specFrom st p ++ specFrom none q := by
  rw [specFrom_append_state, show stateAfter st p = none by
    simpa using stateAfter_isSome st p false ((wellNestedFrom_iff_nestState _ p).mp hp)]

theorem WellNested.flatten {ps : List (List (Call π A))} (h : ∀ p ∈ ps, WellNested p) :
    WellNested ps.flatten := by
  induction ps with
  | nil => rfl
  | cons p r ih =>
    exact wellNested_append (h p (List.mem_cons_self ..)) (ih fun q hq => h q (List.mem_cons_of_mem _ hq))

/-- a non-empty well-nested program ends with an `end` inside a sub-path -/
theorem wellNested_last (prog : List (Call π A)) (h : WellNested prog) (hne : prog ≠ []) :
    ∃ pre cl, prog = pre ++ [Call.end_ cl] ∧ nestState false pre = some true := by
  have hn : nestState false prog = some false := (wellNestedFrom_iff_nestState false prog).mp h
  cases hr : prog.reverse with
  | nil => simp at hr; exact absurd hr hne
  | cons c rp =>
    have hp : prog = rp.reverse ++ [c] := by
      have := congrArg List.reverse hr; simpa using this
    rw [hp, nestState_append] at hn
    cases hb : nestState false rp.reverse with
    | none => simp [hb] at hn
    | some b =>
      simp only [hb, Option.bind_some] at hn
      cases b <;> cases c <;> simp [nestState] at hn
      exact ⟨rp.reverse, _, hp, hb⟩

theorem wellNestedFrom_cons_next (s : Bool) (c : Call π A) (r : List (Call π A))
    (hn : wellNestedFrom s (c :: r) = true) :
    ∃ s', wellNestedFrom s' r = true ∧ ((∀ cl, c ≠ .end_ cl) → r ≠ []) := by
  cases s <;> cases c <;> simp only [wellNestedFrom] at hn
  -- an `end` (the side condition is void), another legal call (then `r = []` is not well nested),
  -- or an illegal call (`hn` is `false = true`)
  all_goals first
    | exact ⟨false, hn, fun h => absurd rfl (h _)⟩
    | exact ⟨true, hn, fun _ hr => by rw [hr] at hn; cases hn⟩
    | cases hn

theorem wf_append [BEq π] [LawfulBEq π] (st : Option (π × π)) (X Y : List (Event π))
    (hX : wellFormedFrom st X = true) (hY : wellFormedFrom none Y = true) : wellFormedFrom st (X ++ Y) = true := by
  induction X generalizing st with
  | nil => cases st <;> simp_all [wellFormedFrom]
  | cons e r ih =>
    cases st with
    | none => cases e <;> simp_all [wellFormedFrom]
    | some fc => obtain ⟨f, c⟩ := fc; cases e <;> simp_all [wellFormedFrom]

end Lyon.Path
