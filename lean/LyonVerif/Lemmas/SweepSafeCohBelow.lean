/-
  SPAN / WINDING COHERENCE: `process_edges_below`, relative to the scanned state: the number
  of spans begun is the number of `in` gaps strictly inside the sorted pending edges (+1 for a split
  event).  The index failures are allowed (no-panic analysis) or excluded by what a coherent scanned
  state provides (`BelowOk`, `belowOk_of_coh`): then nothing fails.
-/
import LyonVerif.Lemmas.SweepSafeCohAbove

set_option linter.unusedSectionVars false
set_option linter.unusedSimpArgs false
set_option mvcgen.warning false

namespace Lyon.SweepCoh
open Lyon Lyon.Scalar Lyon.Mono Lyon.Sweep Lyon.EQ Lyon.SweepSafe
open Std.Do

variable {α : Type} [Scalar α] [Wide α]
variable {A : List String}

theorem relZ_frame (s0 : St α) (scan : Scan) (Z : Nat) : FrameP (RelZ s0 scan Z) := by
  intro s s' h1 h2 h3 h4 h
  exact ⟨h1 ▸ h.live, by rw [h1]; exact h.size, by rw [h2]; exact h.asize, by rw [h2]; exact h.sig,
    by rw [h2]; exact h.merged, by rw [h3]; exact h.rule, by rw [h4]; exact h.tol⟩

/-- `spans[i].tess().vertex(..)` between clean-ups: the index is one of the `Z` spans, or `mSpanIdx` is allowed -/
theorem spanVertex_z (s0 : St α) (scan : Scan) (Z : Nat) (i : Int) (hV : mSpanIdx ∈ A ∨ (0 ≤ i ∧ i < (Z : Int)))
    (pos : P α) (id : Nat) (l : Bool) :
    ⦃fun s => ⌜RelZ s0 scan Z s⌝⦄ (spanVertex i pos id l : SM α Unit)
    ⦃safePost A fun _ s => RelZ s0 scan Z s⦄ := by
  unfold spanVertex
  mvcgen
  · rename_i s h hk
    refine hV.elim allowed_panic fun hi => ?_
    rw [h.size, spanIdx_some hi.1 hi.2] at hk
    cases hk
  · rename_i s h k hk hd
    have hk' := spanIdx_lt hk
    exfalso
    rw [getD_eq hk'.1] at hd
    have := h.live k hk'.1 hd
    simp at this
  · rename_i s h k hk t ht
    exact ⟨someExcept_set h.live k _, by simp [h.size], h.asize, h.sig, h.merged, h.rule, h.tol⟩

/-- `begin_span` with every piece of state it does not touch made explicit: the index is at most the
number of spans, or `mSpanIns` is allowed -/
theorem beginSpan_zb (s0 : St α) (scan : Scan) (Z : Nat) (bl : Array (PendingEdge α)) (i : Int)
    (hV : mSpanIns ∈ A ∨ (0 ≤ i ∧ i ≤ (Z : Int))) (pos : P α) (id : Nat) :
    ⦃fun s => ⌜RelZ s0 scan Z s ∧ s.below = bl⌝⦄ (beginSpan i pos id : SM α Unit)
    ⦃safePost A fun _ s => RelZ s0 scan (Z + 1) s ∧ s.below = bl⦄ := by
  unfold beginSpan
  mvcgen
  · rename_i s h _ _
    refine ⟨⟨someExcept_insert h.1.live _ _, ?_, h.1.asize, h.1.sig, h.1.merged, h.1.rule, h.1.tol⟩, h.2⟩
    have := h.1.size
    simp
    omega
  · rename_i s h hn
    refine hV.elim allowed_panic fun hi => ?_
    exfalso
    have := h.1.size
    omega

theorem beginSpan_z (s0 : St α) (scan : Scan) (Z : Nat) (i : Int) (hV : mSpanIns ∈ A ∨ (0 ≤ i ∧ i ≤ (Z : Int)))
    (pos : P α) (id : Nat) :
    ⦃fun s => ⌜RelZ s0 scan Z s⌝⦄ (beginSpan i pos id : SM α Unit)
    ⦃safePost A fun _ s => RelZ s0 scan (Z + 1) s⦄ :=
  safe_conseq fun s hs => ⟨_, _, ⟨hs, rfl⟩, beginSpan_zb s0 scan Z s.below i hV pos id, fun _ _ _ h => h.1⟩

/-- the number of `begin_span` calls of the loop of `process_edges_below` over the pending windings
`l`, entered with winding state `w` and flag `first` -/
def gapsFrom (rule : Slab.Rule) : WindingState → Bool → List Int → Nat
  | _, _, [] => 0
  | w, first, k :: l => bi (!first && w.isIn) + gapsFrom rule (w.update rule k) false l

theorem pfold_nil (rule : Slab.Rule) (w : WindingState) : pfold rule w [] = w := rfl

theorem pfold_cons (rule : Slab.Rule) (w : WindingState) (k : Int) (l : List Int) :
    pfold rule w (k :: l) = pfold rule (w.update rule k) l := by
  simp [pfold, sfold, sstep]

theorem gaps_false (rule : Slab.Rule) : ∀ (l : List Int) (w : WindingState),
    (pfold rule w l).spanIndex - w.spanIndex + (bi w.isIn : Int) =
      (gapsFrom rule w false l : Int) + (bi (pfold rule w l).isIn : Int)
  | [], w => by simp [pfold_nil, gapsFrom]
  | k :: l, w => by
    have ih := gaps_false rule l (w.update rule k)
    have := update_si rule w k
    rw [pfold_cons]
    simp only [gapsFrom, Bool.not_false, Bool.true_and]
    push_cast
    omega

theorem gaps_true (rule : Slab.Rule) (w : WindingState) (l : List Int) :
    (pfold rule w l).spanIndex - w.spanIndex =
      (gapsFrom rule w true l : Int) + (bi (!l.isEmpty && (pfold rule w l).isIn) : Int) := by
  cases l with
  | nil => simp [pfold_nil, gapsFrom, bi]
  | cons k l =>
    have h := gaps_false rule l (w.update rule k)
    have := update_si rule w k
    rw [pfold_cons]
    simp only [gapsFrom, Bool.not_true, Bool.false_and, List.isEmpty_cons, Bool.not_false, Bool.true_and]
    rw [show bi false = 0 from rfl]
    push_cast
    omega

/-- `split_event`: the split vertex has a right neighbour or `mEdgeIdx` is allowed; its span indices are
among the `Z` spans or `mSpanIdx`, `mSpanIns` are allowed -/
theorem splitEvent_rel (s0 : St α) (scan : Scan) (Z : Nat) (leftEdge : Nat) (leftSpan : Int)
    (hE : mEdgeIdx ∈ A ∨ leftEdge + 1 < s0.active.size)
    (hS : (mSpanIdx ∈ A ∧ mSpanIns ∈ A) ∨ (0 ≤ leftSpan ∧ leftSpan + 1 ≤ (Z : Int))) :
    ⦃fun s => ⌜RelZ s0 scan Z s⌝⦄ (splitEvent leftEdge leftSpan : SM α Unit)
    ⦃safePost A fun _ s => RelZ s0 scan (Z + 1) s⦄ := by
  unfold splitEvent
  have h2 := fun (i : Int) (hi : mSpanIns ∈ A ∨ (0 ≤ i ∧ i ≤ (Z : Int))) =>
    beginSpan_z (α := α) (A := A) s0 scan Z i hi
  have h3 := fun (i : Int) (hi : mSpanIdx ∈ A ∨ (0 ≤ i ∧ i < ((Z + 1 : Nat) : Int))) =>
    spanVertex_z (α := α) (A := A) s0 scan (Z + 1) i hi
  mvcgen [h2, h3]
  -- (`show` in front: an alternative that does not fit must fail, not be reported)
  all_goals first
    | assumption
    | (intro _ h; exact h)
    | (show mSpanIns ∈ A ∨ _; exact hS.imp And.right fun h => ⟨by omega, by omega⟩)
    | (show mSpanIdx ∈ A ∨ _; exact hS.imp And.left fun h => ⟨by omega, by push_cast; omega⟩)
    | (intro _ _; show mSpanIns ∈ A ∨ _; exact hS.imp And.right fun h => ⟨by omega, by omega⟩)
    | (intro _ _; show mSpanIdx ∈ A ∨ _; exact hS.imp And.left fun h => ⟨by omega, by push_cast; omega⟩)
    | (rename_i s h x4 x3 hx hb ha
       refine hE.elim allowed_panic fun hle => ?_
       exfalso
       have h1' : leftEdge < s.active.size := by rw [h.asize]; omega
       have h2' : leftEdge + 1 < s.active.size := by rw [h.asize]; omega
       exact hx s.active[leftEdge] s.active[leftEdge + 1] (by rw [← ha]; simp [h1']) (by rw [← hb]; simp [h2']))

theorem pfold_snoc (rule : Slab.Rule) (w : WindingState) (l : List Int) (k : Int) :
    pfold rule w (l ++ [k]) = (pfold rule w l).update rule k := by
  simp [pfold, sfold_append, sfold, sstep]

theorem gapsFrom_snoc (rule : Slab.Rule) : ∀ (l : List Int) (w : WindingState) (f : Bool) (k : Int),
    gapsFrom rule w f (l ++ [k]) = gapsFrom rule w f l + bi (!(f && l.isEmpty) && (pfold rule w l).isIn)
  | [], w, f, k => by simp [gapsFrom, pfold_nil]
  | x :: l, w, f, k => by
    have ih := gapsFrom_snoc rule l (w.update rule x) false k
    simp only [List.cons_append, gapsFrom, ih, pfold_cons, List.isEmpty_cons, Bool.and_false, Bool.not_false,
      Bool.true_and, Bool.false_and]
    omega

theorem good_pfold {rule : Slab.Rule} {w : WindingState} (h : Good rule w) (l : List Int) :
    Good rule (pfold rule w l) := good_sfold h _

section event
variable {s0 : St α} {scan : Scan}

/-- the spans left after `process_edges_above` (their number is the `Z` of the first `RelZ`) still cover the
region left of the vertex -/
theorem Z1_ge (hok : ScanOk s0 scan) (hc : Coh s0) :
    cntIn s0 scan.aboveStart scan.aboveEnd ≤ s0.spans.size ∧
    (Wat s0 scan.aboveStart).spanIndex + 1 + (cntIn s0 scan.aboveStart scan.aboveEnd : Int) ≤ (s0.spans.size : Int) := by
  have hle := hok.start_le
  have hn := hok.end_le
  have h1 := incr_eq_cnt s0 hc.merges scan.aboveStart (scan.aboveEnd - scan.aboveStart) (by omega)
  rw [Nat.add_sub_cancel' hle] at h1
  have h2 := cntIn_succ s0 scan.aboveStart scan.aboveEnd
  have h3 := Wat_le_tot s0 scan.aboveEnd
  have h4 := hc.size
  have h5 := (Wat_good s0 scan.aboveStart).ge
  constructor
  · have : (cntIn s0 scan.aboveStart scan.aboveEnd : Int) ≤ (s0.spans.size : Int) := by
      rw [h2] at h1; push_cast at h1; omega
    exact_mod_cast this
  · rw [h2] at h1; push_cast at h1; omega

/-- a split vertex has a right neighbour: the total winding is `out` -/
theorem split_lt (hc : Coh s0) (hin : (Wat s0 scan.aboveStart).isIn = true) :
    scan.aboveStart < s0.active.size := by
  by_cases h : scan.aboveStart < s0.active.size
  · exact h
  · exfalso
    rw [Wat_ge_size s0 (by omega), hc.out] at hin
    cases hin

end event

/-- the loop invariant of the `begin_span` loop of `process_edges_below`, entered with winding state `w0` -/
def InvB (s0 : St α) (scan : Scan) (Z2 : Nat) (w0 : WindingState) (pref suff : List (PendingEdge α))
    (b : WindingState × Bool) (s : St α) : Prop :=
  RelZ s0 scan (Z2 + gapsFrom s0.rule w0 true (pref.map (·.winding))) s ∧
  s.below.toList = pref ++ suff ∧
  b.1 = pfold s0.rule w0 (pref.map (·.winding)) ∧ b.2 = pref.isEmpty

theorem ar_split (scan : Scan) : (aboveResult scan).splitEvent = scan.splitEvent := by
  unfold aboveResult; split <;> rfl
theorem ar_wb (scan : Scan) : (aboveResult scan).windingBefore = scan.windingBefore := by
  unfold aboveResult; split <;> rfl
theorem ar_start_ge (scan : Scan) : scan.aboveStart ≤ (aboveResult scan).aboveStart := by
  unfold aboveResult; split
  · exact Nat.le_succ _
  · exact Nat.le_refl _
theorem ar_end (scan : Scan) : (aboveResult scan).aboveEnd = scan.aboveEnd := by
  unfold aboveResult; split <;> rfl

section loop
variable {s0 : St α} {scan : Scan} {Z2 : Nat} {w0 : WindingState} {s s' : St α} {pref suff : List (PendingEdge α)}
  {cur : PendingEdge α} {b : WindingState × Bool}

/-- one more pending edge: `s'` is the state after the `begin_span` that was due (or the same state) -/
theorem InvB_next (rule : Slab.Rule) (hrule : rule = s0.rule) (hI : InvB s0 scan Z2 w0 pref (cur :: suff) b s)
    (hs' : RelZ s0 scan (Z2 + gapsFrom s0.rule w0 true (pref.map (·.winding)) + bi (!b.2 && b.1.isIn)) s' ∧
      s'.below = s.below) :
    InvB s0 scan Z2 w0 (pref ++ [cur]) suff (b.1.update rule cur.winding, false) s' := by
  obtain ⟨h1, h2, h3, h4⟩ := hI
  refine ⟨?_, by rw [hs'.2, h2]; simp, ?_, by simp⟩
  · rw [List.map_append, List.map_singleton, gapsFrom_snoc, Bool.true_and, List.isEmpty_map, ← h4, ← h3,
      ← Nat.add_assoc]
    exact hs'.1
  · rw [List.map_append, List.map_singleton, pfold_snoc, ← h3, hrule]

/-- the span index handed to `begin_span` is at most the number of spans: the spans begun so far are the
`in` gaps of the fold, and the fold started inside the `Z2` spans -/
theorem InvB_begin_pre (hg : Good s0.rule w0) (hZ2 : w0.spanIndex + 1 ≤ (Z2 : Int))
    (hI : InvB s0 scan Z2 w0 pref suff b s) (hp : (!b.2 && b.1.isIn) = true) :
    0 ≤ b.1.spanIndex ∧ b.1.spanIndex ≤ ((Z2 + gapsFrom s0.rule w0 true (pref.map (·.winding)) : Nat) : Int) := by
  obtain ⟨h1, h2, h3, h4⟩ := hI
  have hin : b.1.isIn = true := and2_right hp
  have hne : b.2 = false := by cases hb : b.2 <;> simp [hb] at hp ⊢
  have hgp := gaps_true s0.rule w0 (pref.map (·.winding))
  have hgood := good_pfold hg (pref.map (·.winding))
  rw [← h3] at hgp hgood
  rw [List.isEmpty_map, ← h4, hne, hin] at hgp
  simp only [Bool.not_false, Bool.and_self, bi, if_true] at hgp
  constructor
  · exact hgood.inn hin
  · push_cast at hgp ⊢; omega

end loop

/-- what excludes the index failures of `process_edges_below` called with the scan record `sc` on `Z` spans:
the winding state is well-formed and its span lies among the `Z` spans; a split vertex has a right
neighbour and a span -/
def BelowOk (s0 : St α) (Z : Nat) (sc : Scan) : Prop :=
  Good s0.rule sc.windingBefore ∧ sc.windingBefore.spanIndex + 1 ≤ (Z : Int) ∧
  (sc.splitEvent = true → sc.aboveStart < s0.active.size ∧ 0 ≤ sc.windingBefore.spanIndex)

/-- a coherent scanned state provides `BelowOk` for the state left by `process_edges_above`: the spans left
still cover the region left of the vertex (`Z1_ge`); a split event is no merge event, and a split vertex has
a right neighbour because the total winding is `out` (`split_lt`) -/
theorem belowOk_of_coh {s0 : St α} {scan : Scan} (hok : ScanOk s0 scan) (hsem : ScanSem s0 scan) (hc : Coh s0)
    (hG : ScanAgree s0 scan) :
    BelowOk s0 (s0.spans.size - scan.spansToEnd.size) (aboveResult scan) := by
  have hZ := Z1_ge hok hc
  unfold BelowOk
  rw [hsem.se_count, ar_wb, hsem.wb, ar_split]
  refine ⟨Wat_good s0 _, by have := hZ.1; have := hZ.2; omega, fun hsp => ?_⟩
  obtain ⟨hab, hin, _⟩ := hsem.split hsp
  have hme : scan.mergeEvent = false := by
    cases hm : scan.mergeEvent
    · rfl
    · have := hG.1 hm; omega
  rw [show (aboveResult scan).aboveStart = scan.aboveStart by simp [aboveResult, hme]]
  exact ⟨split_lt hc hin, (Wat_good s0 _).inn hin⟩

/-- **`process_edges_below`** called with ANY scan record `sc`, relative to the scanned state: one span is
begun for a split event and one for every `in` gap strictly inside the (sorted, merged) pending edges -
`gapsFrom` of `sc.windingBefore`, whatever the state.  `above_start - 1` does not underflow (`hpos`); the
index failures are allowed (no-panic analysis) or excluded by `BelowOk` -/
theorem processEdgesBelow_spec (s0 : St α) (scan : Scan) (Z : Nat) (sc : Scan)
    (hpos : sc.splitEvent = true → 1 ≤ sc.aboveStart)
    (hV : (mEdgeIdx ∈ A ∧ mSpanIdx ∈ A ∧ mSpanIns ∈ A) ∨ BelowOk s0 Z sc) :
    ⦃fun s => ⌜RelZ s0 scan Z s⌝⦄ (processEdgesBelow sc : SM α Unit)
    ⦃safePost A fun _ s => RelZ s0 scan
      (Z + bi sc.splitEvent + gapsFrom s0.rule sc.windingBefore true (bwOf s.below)) s⦄ := by
  have h1 := sortEdgesBelow_fr (α := α) (A := A) (relZ_frame s0 scan Z)
  have h2 := handleCoincidentEdgesBelow_fr (α := α) (A := A) (relZ_frame s0 scan Z)
  have h3 := fun le ls hE hS => splitEvent_rel (α := α) (A := A) s0 scan Z le ls hE hS
  have h5 : ⦃fun s => ⌜RelZ s0 scan Z s⌝⦄ (belowSplit sc : SM α Unit)
      ⦃safePost A fun _ s => RelZ s0 scan (Z + bi sc.splitEvent) s⦄ := by
    unfold belowSplit
    mvcgen [h3]
    case vc6 hn _ h =>
      rw [show sc.splitEvent = false by simpa using hn]
      exact h
    all_goals have hsp : sc.splitEvent = true := ‹sc.splitEvent = true›
    case vc1 =>
      have h0 := ‹(sc.aboveStart == 0) = true›
      have := hpos hsp
      simp at h0
      omega
    case vc3 => rw [hsp]; exact id
    case vc4 =>
      intro _ _
      exact hV.imp (·.1) fun hB => by have := hpos hsp; have := (hB.2.2 hsp).1; omega
    case vc5 =>
      intro _ _
      exact hV.imp (fun h => ⟨h.2.1, h.2.2⟩) fun hB => ⟨(hB.2.2 hsp).2, hB.2.1⟩
  have h6 : ⦃fun s => ⌜RelZ s0 scan (Z + bi sc.splitEvent) s⌝⦄ (belowSpans sc : SM α Unit)
      ⦃safePost A fun _ s => RelZ s0 scan
        (Z + bi sc.splitEvent + gapsFrom s0.rule sc.windingBefore true (bwOf s.below)) s⦄ := by
    unfold belowSpans
    mvcgen invariants
    · post⟨fun r s => ⌜InvB s0 scan (Z + bi sc.splitEvent) sc.windingBefore r.1.prefix r.1.suffix r.2 s⌝,
        fun f _ => ⌜Allowed A f⌝⟩
    with skip
    case vc4 sb _ _ s hI =>
      have : bwOf s.below = sb.below.toList.map (·.winding) := by unfold bwOf; rw [hI.2.1, List.append_nil]
      rw [this]; exact hI.1
    case vc2 sb hsb _ _ _ _ b _ _ _ hcond s hI =>
      exact InvB_next sb.rule hsb.rule hI
        ⟨by rw [show bi (!b.2 && b.1.isIn) = 0 from if_neg hcond]; exact hI.1, rfl⟩
    case vc1 sb hsb _ _ _ _ b _ _ _ hcond s hI =>
      have hpre : mSpanIns ∈ A ∨ _ := hV.imp (·.2.2) fun hB =>
        InvB_begin_pre hB.1 (by have := hB.2.1; push_cast; omega) hI hcond
      -- applied by hand: the precondition of `beginSpan_zb` names the pending list of this very state
      have hwp := beginSpan_zb (A := A) s0 scan _ s.below b.1.spanIndex hpre s.curPos s.curVertex s ⟨hI.1, rfl⟩
      refine (wp (beginSpan b.1.spanIndex s.curPos s.curVertex : SM α Unit)).mono _ _ ?_ s hwp
      refine ⟨fun a s' hs' => ?_, fun e s' hs' => hs', trivial⟩
      show (wp⟦(pure (ForInStep.yield (_, false)) : SM α (ForInStep (WindingState × Bool)))⟧ _ s').down
      simp only [WP.pure]
      exact InvB_next sb.rule hsb.rule hI
        ⟨by rw [show bi (!b.2 && b.1.isIn) = 1 from if_pos hcond]; exact hs'.1, hs'.2⟩
  rw [processEdgesBelow_eq]
  mvcgen [h1, h2, h5, h6]

end Lyon.SweepCoh
