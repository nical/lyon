/-
  C16 with the concrete flatteners — a KERNEL-EVALUATED multi-segment instance of the
  t-monotonicity theorems (`quad_flat_t_increasing`, `cubic_flat_t_increasing`).

  `kTransc` / `kConst`: computable non-field functions over `ℚ` that satisfy the laws those
  theorems assume (`SqrtLaws`: `sqrt x := max x 0` is non-negative and monotone; `CeilLaws`: the
  genuine rational `ceil`/`floor` and the saturating cast) — so the model's flattener can be RUN
  inside the logic on the executable rational instance of `Scalar` (`Model/RatScalar.lean`, which
  IS the field instance at `ℚ`: `instScalarRat_eq_fieldScalar`), and the theorems apply to what
  it returns:

  * quadratic `from (0,0) ctrl (1,1) to (2,0)`, tolerance 1/8: count 4, four callbacks;
  * cubic `from (0,0) ctrl (1,3) (3,3) to (4,0)`, tolerance 1/5: eight callbacks.
-/
import LyonVerif.Lemmas.AdaptersConcreteTC
import LyonVerif.Lemmas.RatField
import Mathlib.Data.Rat.Floor


namespace Lyon.Adapt
open Lyon Lyon.Path Scalar Lyon.Flat

/-- computable stand-ins over ℚ: `sqrt x = max x 0` (NOT the square root — only its order laws are
used), genuine `floor`/`ceil` (`ceil x = −⌊−x⌋`), saturating cast -/
@[instance_reducible] def kTransc : Transc ℚ :=
  { sqrt := fun x => if x ≤ 0 then 0 else x, cbrt := id, sin := id, cos := id, tan := id, acos := id,
    atan2 := fun a _ => a, pow := fun a _ => a, log2 := id, ln := id,
    floor := fun x => (x.floor : ℚ), ceil := fun x => -(((-x).floor : ℤ) : ℚ),
    toNat := fun x => x.floor.toNat, fmod := fun a _ => a, eps := 0, pi := 3,
    isNaN := fun _ => false, isFinite := fun _ => true }

@[instance_reducible] def kConst : FlatConst ℚ := ⟨1 / 10000, fun m e => (m : ℚ) / 10 ^ e, (67 / 100) ^ 4⟩

theorem kSqrtLaws : @SqrtLaws ℚ _ _ _ kTransc kConst :=
  @SqrtLaws.mk ℚ _ _ _ kTransc kConst
    (fun x => by show (0 : ℚ) ≤ if x ≤ 0 then 0 else x; split_ifs with h <;> linarith)
    (fun x y hx hxy => by
      show (if x ≤ 0 then (0 : ℚ) else x) ≤ if y ≤ 0 then 0 else y
      split_ifs <;> linarith)
    (by show ((39 : ℕ) : ℚ) / 10 ^ 2 < 1; norm_num)

theorem kCeilLaws : @CeilLaws ℚ _ _ _ kTransc kConst :=
  @CeilLaws.mk ℚ _ _ _ kTransc kConst
    (@CountLaws.mk ℚ _ _ _ kTransc kConst
      (fun n => by show (⌊((n : ℕ) : ℚ)⌋).toNat = n; simp)
      (fun x => ⟨-⌊-x⌋, by show -((⌊-x⌋ : ℤ) : ℚ) = _; push_cast; rfl⟩)
      (by show (0 : ℚ) ≤ 1 / 10000; norm_num) (by show (1 / 10000 : ℚ) < 1; norm_num))
    (fun x => by
      show -((⌊-x⌋ : ℤ) : ℚ) < x + 1
      have := Int.lt_floor_add_one (-x)
      linarith)

/-- `for_each_flattened_with_t` of `from (0,0) ctrl (1,1) to (2,0)` at tolerance 1/8: four callbacks,
with these `t.end`s (evaluated on the executable instance) — the hypothesis of
`quad_flat_t_increasing` -/
theorem kQuad_ts :
    (@Quad.forEachFlattenedWithT ℚ fieldScalar kTransc kConst ⟨⟨0, 0⟩, ⟨1, 1⟩, ⟨2, 0⟩⟩ (1 / 8)).map
        (fun l => l.map (·.t1))
      = some [37828146494727661061 / 132562585978910644244, 1 / 2,
          94734439484182983183 / 132562585978910644244, 1] := by
  rw [← instScalarRat_eq_fieldScalar]; decide +kernel

theorem kCubic_ts :
    ((@Cubic.forEachFlattenedWithT ℚ fieldScalar kTransc kConst ⟨⟨0, 0⟩, ⟨1, 3⟩, ⟨3, 3⟩, ⟨4, 0⟩⟩
        (1 / 5)).map (fun l => l.length)) = some 8 := by
  rw [← instScalarRat_eq_fieldScalar]; decide +kernel

end Lyon.Adapt
