/-
  C02 (`Props/C02f.lean`): the run of the BASIC monotone tessellator on a valid sweep sequence as a
  sequence of `Tiles` steps on the REMAINING POLYGON.

  `futIds seq τ k` — ids `j ≥ k` of the middle vertices on chain `τ`, followed by the id of the
  bottom vertex (which belongs to both chains).  In closed form (`futIds_eq`): a filter of a range, then the
  bottom vertex; membership, order and first entry are read off it (`futIds_mem`, `futIds_pairwise`,
  `futIds_head`).  The remaining polygon `region` of a state `s`
  reached after `k` vertices, stack on side `c`:
    chain on side `c`  : the stack, bottom first, then `fut seq c k`;
    chain on side `!c` : the stack's bottom entry (the last vertex of that chain), then `fut seq (!c) k`.

  One `vertex` call is a `Tiles` step from the remaining polygon of the state before to that of the
  state after: `same_step_tiles`; `fan_step_state` for the change of side (and the final `end` call,
  which is one); combined: `vertex_tiles`.  The geometric side conditions come from `SweepValid`
  (instantiated at the edge of the opposite chain that spans the stack) and from the stack
  invariant `VInv`.

  The whole run (`run_tiles`, by `basic_run_ind`): in every reached state the triangles so far cut the
  polygon down to the remaining polygon; after `end` nothing remains: the triangles of `Basic.run seq` tile
  `InsidePoly seq`, the open region between the left and the right chain of the sweep sequence
  (`leftChain`, `rightChain`: the two boundary chains of `polygonOf seq`, see `polygonOf_chains`).
-/
import LyonVerif.Lemmas.MonotoneTileCut

set_option linter.unusedSectionVars false

namespace Lyon.C02f
open Lyon Lyon.Mono Lyon.C02 Lyon.C02c

variable {K : Type} [Field K] [LinearOrder K] [IsStrictOrderedRing K]

-- the ids `k, k+1, …` of the entries of side `τ` of a list, its last entry always; the recursion serves
-- `futIds_step`/`_last`/`_end`, membership, order and head are read off the closed form `futIds_eq`
def futAux (τ : Bool) : List (P K × Bool) → Nat → List Nat
  | [], _ => []
  | [_], k => [k]
  | v :: w :: r, k => if v.2 = τ then k :: futAux τ (w :: r) (k + 1) else futAux τ (w :: r) (k + 1)

/-- ids of the vertices of chain `τ` from entry `k` on (the bottom vertex belongs to both chains) -/
def futIds (seq : List (P K × Bool)) (τ : Bool) (k : Nat) : List Nat := futAux τ (seq.drop k) k

/-- their positions -/
def fut (seq : List (P K × Bool)) (τ : Bool) (k : Nat) : List (P K) := (futIds seq τ k).map (posOf seq)

variable (seq : List (P K × Bool)) (τ : Bool)

theorem sideAt_eq {k : Nat} (hk : k < seq.length) : sideAt seq k = seq[k].2 := by
  simp [sideAt, List.getElem?_eq_getElem hk]

theorem futIds_last {k : Nat} (hk : k + 1 = seq.length) : futIds seq τ k = [k] := by
  have h1 : k < seq.length := by omega
  unfold futIds
  rw [List.drop_eq_getElem_cons h1, List.drop_eq_nil_of_le (by omega)]
  rfl

theorem futIds_end {k : Nat} (hk : seq.length ≤ k) : futIds seq τ k = [] := by
  unfold futIds
  rw [List.drop_eq_nil_of_le hk]
  rfl

theorem futIds_step {k : Nat} (hk : k + 1 < seq.length) :
    futIds seq τ k = if sideAt seq k = τ then k :: futIds seq τ (k + 1) else futIds seq τ (k + 1) := by
  have h1 : k < seq.length := by omega
  unfold futIds
  rw [List.drop_eq_getElem_cons h1, List.drop_eq_getElem_cons hk, sideAt_eq seq h1]
  simp only [futAux]

theorem futIds_same {k : Nat} (hk : k + 1 < seq.length) (h : sideAt seq k = τ) :
    futIds seq τ k = k :: futIds seq τ (k + 1) := by rw [futIds_step seq τ hk, if_pos h]

theorem futIds_other {k : Nat} (hk : k + 1 < seq.length) (h : sideAt seq k ≠ τ) :
    futIds seq τ k = futIds seq τ (k + 1) := by rw [futIds_step seq τ hk, if_neg h]

/-- vertex `k` heads the future of its own chain (the bottom vertex that of both) -/
theorem futIds_self {k : Nat} (hk : k < seq.length) (h : k + 1 = seq.length ∨ sideAt seq k = τ) :
    futIds seq τ k = k :: futIds seq τ (k + 1) := by
  by_cases hl : k + 1 = seq.length
  · rw [futIds_last seq τ hl, futIds_end seq τ (by omega)]
  · exact futIds_same seq τ (by omega) (h.resolve_left hl)

theorem futIds_eq : ∀ (m k : Nat), k + m + 1 = seq.length →
    futIds seq τ k = (List.range' k m).filter (fun j => decide (sideAt seq j = τ)) ++ [k + m]
  | 0, k, h => by rw [futIds_last seq τ (by omega)]; simp
  | m + 1, k, h => by
    rw [futIds_step seq τ (by omega), futIds_eq m (k + 1) (by omega), List.range'_succ, List.filter_cons,
      show k + 1 + m = k + (m + 1) by omega]
    by_cases g : sideAt seq k = τ <;> simp [g]

theorem futIds_mem {k : Nat} (hk : k < seq.length) (x : Nat) :
    x ∈ futIds seq τ k ↔ (k ≤ x ∧ x + 1 < seq.length ∧ sideAt seq x = τ) ∨ x + 1 = seq.length := by
  rw [futIds_eq seq τ (seq.length - 1 - k) k (by omega)]
  simp only [List.mem_append, List.mem_filter, List.mem_range'_1, decide_eq_true_eq, List.mem_singleton]
  constructor
  · rintro (⟨⟨h1, h2⟩, h3⟩ | h)
    · exact Or.inl ⟨h1, by omega, h3⟩
    · exact Or.inr (by omega)
  · rintro (⟨h1, h2, h3⟩ | h)
    · exact Or.inl ⟨⟨h1, by omega⟩, h3⟩
    · exact Or.inr (by omega)

theorem futIds_pairwise {k : Nat} (hk : k < seq.length) : (futIds seq τ k).Pairwise (· < ·) := by
  rw [futIds_eq seq τ (seq.length - 1 - k) k (by omega), List.pairwise_append]
  refine ⟨List.Pairwise.filter _ List.pairwise_lt_range', by simp, ?_⟩
  intro a ha b hb
  have := (List.mem_range'_1.mp (List.mem_filter.mp ha).1).2
  simp only [List.mem_singleton] at hb
  omega

/-- the head of the future chain: the next vertex of chain `τ` (or the bottom vertex), everything
before it is on the other chain -/
theorem futIds_head {k : Nat} (hk : k < seq.length) :
    ∃ f rest, futIds seq τ k = f :: rest ∧ k ≤ f ∧ f < seq.length ∧
      (∀ j, k ≤ j → j < f → sideAt seq j = !τ) ∧ (f + 1 = seq.length ∨ sideAt seq f = τ) ∧
      (∀ j ∈ rest, f < j ∧ j < seq.length) ∧ rest.Pairwise (· < ·) := by
  have hs := futIds_pairwise seq τ hk
  have hm := futIds_mem seq τ hk
  cases e : futIds seq τ k with
  | nil => have := (hm (seq.length - 1)).mpr (Or.inr (by omega)); rw [e] at this; cases this
  | cons f rest =>
    rw [e] at hs hm
    have hf := (hm f).mp (by simp)
    refine ⟨f, rest, rfl, by omega, by omega, fun j h1 h2 => ?_, ?_, fun j hj => ?_, hs.of_cons⟩
    · -- a vertex of side `τ` before `f` would be an entry of the chain before its head
      by_contra hne
      have : j ∈ f :: rest := (hm j).mpr (Or.inl ⟨h1, by omega, by
        revert hne; cases sideAt seq j <;> cases τ <;> simp⟩)
      rcases List.mem_cons.mp this with g | g
      · omega
      · have := List.rel_of_pairwise_cons hs g; omega
    · rcases hf with ⟨_, _, h3⟩ | h
      · exact Or.inr h3
      · exact Or.inl h
    · refine ⟨List.rel_of_pairwise_cons hs hj, ?_⟩
      rcases (hm j).mp (List.mem_cons_of_mem _ hj) with ⟨_, h2, _⟩ | h <;> omega

theorem sortedP_ids (hval : SweepValid seq) (l : List Nat) (hl : l.Pairwise (· < ·)) (hb : ∀ j ∈ l, j < seq.length) :
    SortedP (l.map (posOf seq)) := by
  unfold SortedP
  rw [List.pairwise_map]
  refine hl.imp_of_mem ?_
  intro a b ha hb' hab
  exact valid_after hval hab (hb b hb')

theorem fut_sorted (hval : SweepValid seq) (i k : Nat) (hik : i < k) (hk : k < seq.length) :
    SortedP (posOf seq i :: fut seq τ k) := by
  obtain ⟨f, rest, e, h1, h2, _, _, h5, h6⟩ := futIds_head seq τ hk
  have := sortedP_ids seq hval (i :: f :: rest)
    (List.Pairwise.cons (fun j hj => by
        rcases List.mem_cons.mp hj with g | g
        · omega
        · have := (h5 j g).1; omega)
      (List.Pairwise.cons (fun j hj => (h5 j hj).1) h6))
    (fun j hj => by
      rcases List.mem_cons.mp hj with g | g
      · omega
      · rcases List.mem_cons.mp g with g | g
        · omega
        · exact (h5 j g).2)
  simpa [fut, e] using this

/-- the open region that is not yet triangulated in state `s` (`k` vertices fed) -/
def region (s : Basic K) (k : Nat) : P K → Prop :=
  InPoly s.previous.left ((s.stack.map (·.pos)).reverse ++ fut seq s.previous.left k)
    (botPos s :: fut seq (!s.previous.left) k)

/-- facts about the stack of a state reached on a valid sequence -/
structure StackFacts (s : Basic K) (k : Nat) (bot : MV K) : Prop where
  last : s.stack.getLast? = some bot
  botPos : botPos s = bot.pos
  botLt : bot.id < k
  sort : (s.stack.map (·.pos)).Pairwise (fun a b => After a b)
  lo : ∀ v ∈ s.stack, v.id = bot.id ∨ bot.id < v.id
  loPos : ∀ v ∈ s.stack, AfterEq v.pos bot.pos
  before : ∀ v ∈ s.stack, ∀ j, j < seq.length → v.id < j → After (posOf seq j) v.pos

theorem stackFacts (hval : SweepValid seq) (s : Basic K) (k : Nat) (h : VInv seq s k) (hk : k < seq.length) :
    ∃ bot, StackFacts seq s k bot := by
  obtain ⟨rest, hst⟩ := h.top
  have hne : s.stack ≠ [] := by rw [hst]; simp
  have hb : s.stack.getLast? = some (s.stack.getLast hne) := List.getLast?_eq_some_getLast hne
  generalize s.stack.getLast hne = bot at hb
  have hbmem : bot ∈ s.stack := List.mem_of_getLast? hb
  have hlo := pairwise_last s.stack bot h.dec hb
  refine ⟨bot, hb, by simp [C02c.botPos, hb], h.lt bot hbmem, ?_, hlo, ?_, ?_⟩
  · rw [List.pairwise_map]
    refine h.dec.imp_of_mem ?_
    intro a b ha hb' hlt
    rw [h.good a ha, h.good b hb']
    exact valid_after hval hlt (by have := h.lt a ha; omega)
  · intro v hv
    rcases hlo v hv with e | e
    · left; rw [h.good v hv, h.good bot hbmem, e]
    · right; rw [h.good v hv, h.good bot hbmem]
      exact valid_after hval e (by have := h.lt v hv; omega)
  · intro v hv j hj hvj
    rw [h.good v hv]
    exact valid_after hval hvj hj

theorem same_step_tiles (hval : SweepValid seq) (s : Basic K) (k : Nat) (cur : MV K)
    (h : VInv seq s k) (hk1 : k + 1 < seq.length) (hid : cur.id = k) (hpos : Good (posOf seq) cur)
    (hsd : sideAt seq k = cur.left) (hside : cur.left = s.previous.left) :
    ∃ nt, (s.vertex cur).tris = s.tris ++ nt ∧
      Tiles (region seq s k) (TriIn (posOf seq)) (TriInC (posOf seq)) nt (region seq (s.vertex cur) (k + 1)) := by
  obtain ⟨rest, hst⟩ := h.top
  have hv := vertex_same s cur rest hside hst
  refine ⟨(popLoop cur s.previous rest).2, by rw [hv], ?_⟩
  obtain ⟨bot, hF⟩ := stackFacts seq hval s k h (by omega)
  have hcp : cur.pos = posOf seq k := by rw [← hid]; exact hpos
  have hsk : sideAt seq k = s.previous.left := by rw [hsd, hside]
  obtain ⟨f, restO, eO, f1, f2, f3, f4, f5, f6⟩ := futIds_head seq (!s.previous.left) hk1
  have eL : region seq s k = InPoly cur.left (((s.previous :: rest).map (·.pos)).reverse ++ cur.pos :: fut seq cur.left (k + 1))
      (bot.pos :: fut seq (!cur.left) (k + 1)) := by
    unfold region
    rw [hF.botPos, ← hside, ← hst]
    simp only [fut]
    rw [futIds_same seq cur.left (by omega) hsd, futIds_other seq (!cur.left) (by omega) (by rw [hsd]; cases cur.left <;> simp), hcp]
    rfl
  have hnn := popLoop_nonempty cur s.previous rest
  have hgl := popLoop_getLast cur s.previous rest
  have eR : region seq (s.vertex cur) (k + 1) =
      InPoly cur.left (((popLoop cur s.previous rest).1.map (·.pos)).reverse ++ cur.pos :: fut seq cur.left (k + 1))
        (bot.pos :: fut seq (!cur.left) (k + 1)) := by
    unfold region
    rw [hv]
    simp only
    have e0 : C02c.botPos (⟨cur :: (popLoop cur s.previous rest).1, cur, s.tris ++ (popLoop cur s.previous rest).2⟩ : Basic K) = bot.pos := by
      simp only [C02c.botPos]
      rw [List.getLast?_cons_of_ne_nil hnn, hgl, ← hst, hF.last]; rfl
    rw [e0]
    simp
  rw [eL, eR]
  -- `SweepValid` at the edge `bot → f` of the chain opposite to the stack: every vertex between them is strictly on its inner side
  have hsidef : ∀ j, bot.id < j → j < f → 0 < sg (!cur.left) * wind bot.pos (posOf seq f) (posOf seq j) := by
    intro j hj1 hj2
    obtain ⟨r1, r2⟩ := h.run bot hF.last
    rw [h.good bot (List.mem_of_getLast? hF.last), hside]
    exact hval.edge_side_inner hj1 hj2 f2 (fun i hi1 hi2 => by
      rcases Nat.lt_trichotomy i k with g | g | g
      · exact r1 i g hi1
      · rw [g]; exact hsk
      · simpa using f3 i (by omega) hi2) r2 f4
  have hcs : ∀ v ∈ s.stack, After cur.pos v.pos := fun v hv' => by
    rw [hcp]; exact hF.before v hv' k (by omega) (h.lt v hv')
  have hS : ∀ v ∈ s.stack, 0 ≤ sg (!cur.left) * wind bot.pos (posOf seq f) v.pos := by
    intro v hv'
    rcases hF.lo v hv' with e | e
    · rw [h.good v hv', h.good bot (List.mem_of_getLast? hF.last), e, wind_self_left, mul_zero]
    · rw [h.good v hv']
      exact (hsidef v.id e (by have := h.lt v hv'; omega)).le
  refine pop_tilesW (posOf seq) cur _ (ChainIn (!cur.left) (bot.pos :: fut seq (!cur.left) (k + 1))) hpos ?_ rest
    s.previous ?_ ?_ ?_ ?_
  · rw [hcp]; exact fut_sorted seq cur.left hval k (k + 1) (by omega) hk1
  · rw [← hst]; exact h.good
  · rw [← hst]; exact hF.sort
  · rw [← hst]; exact hcs
  · -- an ear `(u, w, cur)` lies in the sweep range of the edge `bot → f` and strictly on its inner side
    rw [← hst, show fut seq (!cur.left) (k + 1) = posOf seq f :: restO.map (posOf seq) by simp only [fut]; rw [hside, eO]; rfl]
    intro u hu w hw hwu q hq
    obtain ⟨hqu, hcq⟩ := inTriS_after hwu (hcs w hw) hq
    rw [hcp] at hcq
    refine Or.inl ⟨⟨Or.inr (after_trans_afterEq hqu (hF.loPos u hu)), after_trans (valid_after hval (by omega) f2) hcq⟩,
      inTriS_side_weak (hF.before bot (List.mem_of_getLast? hF.last) f f2 (by have := hF.botLt; omega)) hq
        (hS u hu) (hS w hw) ?_⟩
    rw [hcp]; exact (hsidef k hF.botLt (by omega)).le

/-- **change-of-side step** (also the `end` call: `k + 1 = seq.length`) -/
theorem fan_step_state (hval : SweepValid seq) (s : Basic K) (k : Nat) (cur : MV K)
    (h : VInv seq s k) (hk : k < seq.length) (hid : cur.id = k) (hpos : Good (posOf seq) cur)
    (hsd : k + 1 = seq.length ∨ sideAt seq k = cur.left) (hside : cur.left ≠ s.previous.left) :
    ∃ nt, (s.vertex cur).tris = s.tris ++ nt ∧
      Tiles (region seq s k) (TriIn (posOf seq)) (TriInC (posOf seq)) nt (region seq (s.vertex cur) (k + 1)) := by
  obtain ⟨rest, hst⟩ := h.top
  have hopp : cur.left = !s.previous.left := Bool.eq_not_of_ne hside
  have hv := vertex_other s cur hside
  refine ⟨fanTris cur s.stack.reverse, by rw [hv], ?_⟩
  obtain ⟨bot, hF⟩ := stackFacts seq hval s k h hk
  have hcp : cur.pos = posOf seq k := by rw [← hid]; exact hpos
  have hfan : FanLeT s.previous.left cur.pos (s.stack.map (·.pos)) :=
    ((valid_noFlip seq s k cur hval h hk hid hpos hsd).2 hside).le
  have hbmem : bot ∈ s.stack := List.mem_of_getLast? hF.last
  have hsd' : k + 1 = seq.length ∨ sideAt seq k = !s.previous.left := hsd.imp id (fun e => by rw [e, hopp])
  have hsideS : ∀ v ∈ s.stack, v.pos = bot.pos ∨ 0 ≤ sg s.previous.left * wind bot.pos v.pos cur.pos := by
    intro v hv'
    rcases hF.lo v hv' with e | e
    · left; rw [h.good v hv', h.good bot hbmem, e]
    · right
      rw [hcp]
      exact (h.stack_side hval hk hsd' hF.last hv' e).le
  have hcs : ∀ v ∈ s.stack, After cur.pos v.pos := by
    intro v hv'; rw [hcp]; exact hF.before v hv' k hk (h.lt v hv')
  have hprev : s.previous.pos = posOf seq s.previous.id := h.good s.previous (by rw [hst]; simp)
  have hpid := h.prevId
  have hFlast := hF.last
  have hFsort := hF.sort
  rw [hst] at hFlast hFsort hfan hsideS hcs
  have hgood : ∀ v ∈ s.previous :: rest, Good (posOf seq) v := by rw [← hst]; exact h.good
  have eL : region seq s k = InPoly s.previous.left
      (((s.previous :: rest).map (·.pos)).reverse ++ fut seq s.previous.left k)
      (bot.pos :: cur.pos :: fut seq (!s.previous.left) (k + 1)) := by
    unfold region
    rw [hF.botPos, hst]
    simp only [fut]
    rw [futIds_self seq _ hk hsd', hcp]; rfl
  -- the region after; the future of the stack's chain is still taken from `k` (after the last vertex nothing remains, either way)
  have eR : ∀ q, region seq (s.vertex cur) (k + 1) q ↔ InPoly s.previous.left
      (s.previous.pos :: fut seq s.previous.left k) (s.previous.pos :: cur.pos :: fut seq (!s.previous.left) (k + 1)) q := by
    intro q
    have e1 : region seq (s.vertex cur) (k + 1) q ↔ InPoly s.previous.left
        (s.previous.pos :: fut seq s.previous.left (k + 1)) (s.previous.pos :: cur.pos :: fut seq (!s.previous.left) (k + 1)) q := by
      unfold region
      rw [hv]
      simp only
      rw [hopp, Bool.not_not]
      have e0 : C02c.botPos (⟨[cur, s.previous], cur, s.tris ++ fanTris cur s.stack.reverse⟩ : Basic K) = s.previous.pos := by
        simp [C02c.botPos]
      rw [e0]
      have := inPoly_swap s.previous.left (s.previous.pos :: fut seq s.previous.left (k + 1))
        (s.previous.pos :: cur.pos :: fut seq (!s.previous.left) (k + 1)) q
      simpa using this
    rw [e1]
    simp only [fut]
    by_cases hl : k + 1 = seq.length
    · rw [futIds_end seq _ (by omega : seq.length ≤ k + 1), futIds_end seq _ (by omega : seq.length ≤ k + 1),
        futIds_last seq _ hl, hcp]
      exact ⟨fun g => absurd g.1 (chainIn_single _ _ q),
        fun g => absurd g (fan_rest_empty s.previous.left [] (by simp [SortedP]) q)⟩
    · rw [futIds_other seq s.previous.left (k := k) (by omega) (by rw [hsd'.resolve_left hl]; cases s.previous.left <;> simp)]
  rw [eL, show fanTris cur s.stack.reverse = fanTris cur (s.previous :: rest).reverse by rw [hst]]
  have hdt := hcs s.previous (by simp)
  refine (fan_step_tilesW (posOf seq) s.previous.left cur bot s.previous rest (fut seq s.previous.left k) _ hgood hpos
    hFlast hFsort hcs hsideS hfan ?_ ?_ ?_).rebase (fun _ g => g) (fun _ g => Or.inl g) eR
  · have := fut_sorted seq s.previous.left hval s.previous.id k (by omega) hk
    rwa [← hprev] at this
  · have := fut_sorted seq (!s.previous.left) hval s.previous.id k (by omega) hk
    simp only [fut] at this ⊢
    rw [futIds_self seq _ hk hsd', List.map_cons, ← hcp] at this
    exact List.Pairwise.of_cons this
  · intro q hsp hin
    obtain ⟨f, restC, eC, f1, f2, f3, f4, _, _⟩ := futIds_head seq s.previous.left hk
    have eFc : fut seq s.previous.left k = posOf seq f :: restC.map (posOf seq) := by simp only [fut]; rw [eC]; rfl
    rw [eFc]
    rcases Nat.eq_or_lt_of_le f1 with e | e
    · rw [← e, ← hcp]; exact Or.inl ⟨hsp, hin⟩
    · -- `cur` is strictly inside of the edge `previous → f` of the stack's chain: so is what lies inside of the diagonal
      have hfc : After (posOf seq f) cur.pos := by rw [hcp]; exact valid_after hval e f2
      have := hval.edge_side_inner (τ := !s.previous.left) (i := s.previous.id) (j := k) (k := f) (by omega) e f2
        (fun j hj1 hj2 => f3 j (by omega) hj2)
        (by rcases h.prevSide with e | e
            · exact Or.inl e
            · right; rw [e, Bool.not_not])
        (by rw [Bool.not_not]; exact f4)
      rw [Bool.not_not, ← hprev, ← hcp] at this
      exact Or.inl ⟨⟨hsp.1, after_trans hfc hsp.2⟩, turn_from_xW _ (after_trans hfc hdt) hdt hsp.1 this.le hin⟩

/-- **every `vertex` call on a valid sweep sequence cuts triangles off the
remaining polygon**: the new triangles lie inside the remaining polygon of the state before, are
pairwise disjoint and disjoint from the remaining polygon of the state after, which is a subset;
nothing else is lost (covering by the closed triangles). -/
theorem vertex_tiles (hval : SweepValid seq) (s : Basic K) (k : Nat) (cur : MV K)
    (h : VInv seq s k) (hk : k < seq.length) (hid : cur.id = k) (hpos : Good (posOf seq) cur)
    (hsd : (k + 1 = seq.length ∧ cur.left = !s.previous.left) ∨ (k + 1 < seq.length ∧ sideAt seq k = cur.left)) :
    ∃ nt, (s.vertex cur).tris = s.tris ++ nt ∧
      Tiles (region seq s k) (TriIn (posOf seq)) (TriInC (posOf seq)) nt (region seq (s.vertex cur) (k + 1)) := by
  by_cases hside : cur.left = s.previous.left
  · rcases hsd with ⟨_, e⟩ | ⟨hk1, e⟩
    · exfalso; rw [hside] at e; revert e; cases s.previous.left <;> simp
    · exact same_step_tiles seq hval s k cur h hk1 hid hpos e hside
  · exact fan_step_state seq hval s k cur h hk hid hpos (hsd.imp (·.1) (·.2)) hside

theorem region_end (s : Basic K) (k : Nat) (hk : seq.length ≤ k) (q : P K) : ¬ region seq s k q := by
  intro g
  unfold region at g
  simp only [fut] at g
  rw [futIds_end seq _ hk, futIds_end seq _ hk] at g
  exact chainIn_single _ _ q g.2

/-- apex, left chain, bottom vertex -/
def leftChain : List (P K) := posOf seq 0 :: fut seq true 1
/-- apex, right chain, bottom vertex -/
def rightChain : List (P K) := posOf seq 0 :: fut seq false 1

/-- `q` lies strictly inside the y-monotone polygon of the sweep sequence: strictly to the right
of the left chain and strictly to the left of the right chain (each tested at the chain edge that
spans `q` in sweep order) -/
def InsidePoly (q : P K) : Prop := InPoly true (leftChain seq) (rightChain seq) q

theorem futAux_map (τ : Bool) : ∀ (l : List (P K × Bool)) (k : Nat) (hne : l ≠ []),
    (∀ i (h : i < l.length), seq[k + i]? = some l[i]) →
    (futAux τ l k).map (posOf seq) =
      ((l.dropLast.filter (fun v => decide (v.2 = τ))).map (·.1)) ++ [(l.getLast hne).1]
  | [], _, hne, _ => absurd rfl hne
  | [v], k, _, h => by
    have := h 0 (by simp)
    simp only [Nat.add_zero, List.getElem_cons_zero] at this
    simp [futAux, posOf, this]
  | v :: w :: r, k, _, h => by
    have h0 := h 0 (by simp)
    simp only [Nat.add_zero, List.getElem_cons_zero] at h0
    have ih := futAux_map τ (w :: r) (k + 1) (by simp) (by
      intro i hi
      have := h (i + 1) (by simp only [List.length_cons] at hi ⊢; omega)
      simp only [List.getElem_cons_succ] at this
      rw [← this]; congr 1; omega)
    simp only [futAux, List.dropLast_cons_cons, List.getLast_cons_cons]
    by_cases g : v.2 = τ
    · simp only [g, if_true, List.map_cons, List.filter_cons, decide_true, List.cons_append]
      rw [ih]
      simp [posOf, h0]
    · simp only [g, if_false, List.filter_cons, decide_false]
      rw [ih]
      simp

/-- closed form of the chain of side `τ`: apex, the middle vertices of side `τ`, bottom vertex -/
theorem chain_eq (τ : Bool) (p0 : P K) (b0 : Bool) (l : List (P K × Bool)) (hne : l ≠ []) :
    posOf ((p0, b0) :: l) 0 :: fut ((p0, b0) :: l) τ 1 =
      p0 :: (l.dropLast.filter (fun v => decide (v.2 = τ))).map (·.1) ++ [(l.getLast hne).1] := by
  unfold fut futIds
  rw [List.drop_succ_cons, List.drop_zero, futAux_map ((p0, b0) :: l) τ l 1 hne (by
    intro i hi
    rw [show 1 + i = i + 1 by omega, List.getElem?_cons_succ, List.getElem?_eq_getElem hi])]
  simp [posOf]

theorem leftChain_eq (p0 : P K) (b0 : Bool) (v1 : P K × Bool) (rest : List (P K × Bool)) :
    leftChain ((p0, b0) :: v1 :: rest) = p0 :: leftsOf ((v1 :: rest).take ((v1 :: rest).length - 1)) ++
      [(((v1 :: rest).getLast?.map (·.1)).getD p0)] := by
  rw [leftChain, chain_eq _ _ _ _ (by simp)]; simp [leftsOf, List.dropLast_eq_take]; rfl

theorem rightChain_eq (p0 : P K) (b0 : Bool) (v1 : P K × Bool) (rest : List (P K × Bool)) :
    rightChain ((p0, b0) :: v1 :: rest) = p0 :: rightsOf ((v1 :: rest).take ((v1 :: rest).length - 1)) ++
      [(((v1 :: rest).getLast?.map (·.1)).getD p0)] := by
  rw [rightChain, chain_eq _ _ _ _ (by simp)]; simp [rightsOf, List.dropLast_eq_take]; rfl

/-- the two chains are the two halves of the boundary loop `polygonOf seq` whose shoelace area the
area theorems of `Props/C02c.lean` speak about: apex, left chain downwards, bottom vertex, then the
right chain upwards -/
theorem polygonOf_chains (h2 : 2 ≤ seq.length) :
    polygonOf seq = leftChain seq ++ ((rightChain seq).tail.dropLast).reverse := by
  match seq, h2 with
  | (p0, b0) :: v1 :: rest, _ =>
    rw [leftChain_eq, rightChain_eq]
    simp [polygonOf]

/-- **the triangles of `Basic.run` tile the polygon** (valid sweep sequence; a zero-area triangle on three
collinear chain vertices is an empty open tile): in every reached state the triangles so far cut the polygon down
to the remaining polygon -/
theorem run_tiles (h2 : 2 ≤ seq.length) (hval : SweepValid seq) :
    Tiles (InsidePoly seq) (TriIn (posOf seq)) (TriInC (posOf seq)) (Basic.run seq) (fun _ => False) := by
  obtain ⟨s, v, ⟨hV, hT⟩, hv, e⟩ := basic_run_ind seq h2
    (fun k s => VInv seq s k ∧ Tiles (InsidePoly seq) (TriIn (posOf seq)) (TriInC (posOf seq)) s.tris (region seq s k))
    (fun v hv => by
      refine ⟨begin_vInv _ _ (posOf_of_getElem? hv), ?_⟩
      have : region seq (Basic.begin v.1 0) 1 = InsidePoly seq := by
        unfold region InsidePoly leftChain rightChain
        simp [Basic.begin, C02c.botPos, posOf_of_getElem? hv]
      rw [this]; exact Tiles.refl _ _ _)
    (fun k s v ⟨hV, hT⟩ _ hk hv => by
      have hg : Good (posOf seq) (⟨v.1, k, v.2⟩ : MV K) := (posOf_of_getElem? hv).symm
      obtain ⟨nt, e, t⟩ := vertex_tiles seq hval s k ⟨v.1, k, v.2⟩ hV (by omega) rfl hg
        (Or.inr ⟨hk, sideAt_of_getElem? hv⟩)
      exact ⟨vertex_vInv seq s k _ hV rfl hg (sideAt_of_getElem? hv), e ▸ hT.trans t⟩)
  have hg : Good (posOf seq) (⟨v.1, seq.length - 1, !s.previous.left⟩ : MV K) := (posOf_of_getElem? hv).symm
  obtain ⟨nt, e', t⟩ := vertex_tiles seq hval s _ ⟨v.1, seq.length - 1, !s.previous.left⟩ hV (by omega) rfl hg
    (Or.inl ⟨by omega, rfl⟩)
  rw [e]
  show Tiles _ _ _ (s.vertex ⟨v.1, seq.length - 1, !s.previous.left⟩).tris _
  rw [e']
  refine (hT.trans t).rebase (fun _ g => g) (fun _ g => Or.inl g) (fun q => ?_)
  exact ⟨fun g => absurd g id, fun g => absurd g (region_end seq _ _ (by omega) q)⟩

end Lyon.C02f
