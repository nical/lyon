/-
  Field-side lemmas for the fat line of `Model/Geom/Clip.lean`:
  * the signed distance of a cubic's points to any line equation is the cubic Bernstein polynomial
    of the four control points' distances;
  * the baseline equation of a cubic vanishes at `from` and `to` whatever the normalisation factor;
  * the curve lies inside its own fat line `[d_min, d_max]` (`fat_line_min_max`, factors 3/4, 4/9).
-/
import LyonVerif.Model.Geom.Clip
import LyonVerif.Lemmas.ClipBern

set_option linter.unusedSectionVars false

namespace Lyon.Clip
open Lyon Scalar
variable {K : Type} [Field K] [LinearOrder K] [IsStrictOrderedRing K]

theorem signedDistance_sample (e : LineEq K) (c : Cubic K) (t : K) :
    LineEq.signedDistance e (c.sample t)
      = bern (LineEq.signedDistance e c.a) (LineEq.signedDistance e c.c1)
          (LineEq.signedDistance e c.c2) (LineEq.signedDistance e c.b) t := by
  simp only [Cubic.sample, LineEq.signedDistance, bern, geom, Nat.cast_ofNat, Nat.cast_one]
  ring

variable [Transc K]

/-- the baseline's equation vanishes at `from` (whatever `1 / sqrt(a² + b²)` evaluates to) -/
theorem baselineEq_from (c : Cubic K) : LineEq.signedDistance (baselineEq c) c.a = 0 := by
  simp only [baselineEq, Line.equation, LineEq.new, Seg.toLine, Cubic.baseline, LineEq.signedDistance,
    geom, Nat.cast_one]
  ring

theorem baselineEq_to (c : Cubic K) : LineEq.signedDistance (baselineEq c) c.b = 0 := by
  simp only [baselineEq, Line.equation, LineEq.new, Seg.toLine, Cubic.baseline, LineEq.signedDistance,
    geom, Nat.cast_one]
  ring

/-- `3u(1-u)² ≤ 4/9` for `u ≤ 1`: the difference is `(1-3u)²(4-3u)/9` -/
theorem w1_le (u : K) (h1 : u ≤ 1) : 3 * (1 - u) ^ 2 * u ≤ 4 / 9 := by
  linear_combination (1 / 9) * mul_nonneg (sq_nonneg (1 - 3 * u)) (by linarith : 0 ≤ 4 - 3 * u)
theorem w2_le (u : K) (h0 : 0 ≤ u) : 3 * (1 - u) * u ^ 2 ≤ 4 / 9 := by
  linear_combination w1_le (1 - u) (sub_le_self 1 h0)
theorem w12_le (u : K) : 3 * (1 - u) ^ 2 * u + 3 * (1 - u) * u ^ 2 ≤ 3 / 4 := by
  linear_combination (3 / 4) * sq_nonneg (2 * u - 1)

/-- weights `w1, w2 ≥ 0` with `w1, w2 ≤ 4/9` and `w1 + w2 ≤ 3/4` (the two inner Bernstein weights):
`w1 e1 + w2 e2` is at most `3/4 · max` if `e1, e2` have the same sign, at most `4/9 · max` otherwise -/
theorem fat_upper {w1 w2 e1 e2 : K} (hw1 : 0 ≤ w1) (hw2 : 0 ≤ w2) (a2 : w2 ≤ 4 / 9)
    (a12 : w1 + w2 ≤ 3 / 4) (hle : e1 ≤ e2) :
    w1 * e1 + w2 * e2 ≤ (if e1 * e2 > 0 then 3 / 4 else 4 / 9) * Max.max e2 0 := by
  have h12 := mul_le_mul_of_nonneg_left hle hw1
  split_ifs with hp
  · rcases le_total e2 0 with h | h
    · rw [max_eq_right h, mul_zero]
      exact add_nonpos (h12.trans (mul_nonpos_of_nonneg_of_nonpos hw1 h))
        (mul_nonpos_of_nonneg_of_nonpos hw2 h)
    · rw [max_eq_left h]
      exact (add_le_add h12 le_rfl).trans
        ((add_mul _ _ _).symm.trans_le (mul_le_mul_of_nonneg_right a12 h))
  · have h1 : e1 ≤ 0 := not_lt.mp fun h => hp (mul_pos h (h.trans_le hle))
    have h2 : 0 ≤ e2 := not_lt.mp fun h => hp (mul_pos_of_neg_of_neg (hle.trans_lt h) h)
    rw [max_eq_left h2]
    exact (add_le_add (mul_nonpos_of_nonneg_of_nonpos hw1 h1)
      (mul_le_mul_of_nonneg_right a2 h2)).trans_eq (zero_add _)

/-- the two-sided bound: the lower one is the upper one for `-hi ≤ -lo` -/
theorem fat_bound {w1 w2 lo hi : K} (hw1 : 0 ≤ w1) (hw2 : 0 ≤ w2) (a1 : w1 ≤ 4 / 9) (a2 : w2 ≤ 4 / 9)
    (a12 : w1 + w2 ≤ 3 / 4) (hle : lo ≤ hi) :
    (if lo * hi > 0 then 3 / 4 else 4 / 9) * Min.min lo 0 ≤ w1 * lo + w2 * hi
    ∧ w1 * lo + w2 * hi ≤ (if lo * hi > 0 then 3 / 4 else 4 / 9) * Max.max hi 0 := by
  refine ⟨?_, fat_upper hw1 hw2 a2 a12 hle⟩
  have := fat_upper hw2 hw1 a1 ((add_comm _ _).trans_le a12) (neg_le_neg hle)
  rw [neg_mul_neg, mul_comm hi lo] at this
  rcases le_total lo 0 with h | h
  · rw [max_eq_left (neg_nonneg.mpr h)] at this
    rw [min_eq_left h]; linarith
  · rw [max_eq_right (neg_nonpos.mpr h)] at this
    rw [min_eq_right h]; linarith

/-- **fat-line property**: every point of a cubic has its signed distance to the cubic's own
baseline inside `fat_line_min_max` -/
theorem fatLine_contains (c : Cubic K) (u : K) (h0 : 0 ≤ u) (h1 : u ≤ 1) :
    (fatLineMinMax c).1 ≤ LineEq.signedDistance (baselineEq c) (c.sample u)
    ∧ LineEq.signedDistance (baselineEq c) (c.sample u) ≤ (fatLineMinMax c).2 := by
  rw [signedDistance_sample, baselineEq_from, baselineEq_to]
  set e1 := LineEq.signedDistance (baselineEq c) c.c1
  set e2 := LineEq.signedDistance (baselineEq c) c.c2
  have hu : 0 ≤ 1 - u := sub_nonneg.mpr h1
  have hw1 : 0 ≤ 3 * (1 - u) ^ 2 * u := by positivity
  have hw2 : 0 ≤ 3 * (1 - u) * u ^ 2 := by positivity
  have hb : bern 0 e1 e2 0 u = 3 * (1 - u) ^ 2 * u * e1 + 3 * (1 - u) * u ^ 2 * e2 := by
    unfold bern; ring
  rw [hb]
  unfold fatLineMinMax fatFactor
  simp only [ofNat_eq, Nat.cast_ofNat, Nat.cast_zero, sc_min, sc_max]
  by_cases h : e1 < e2
  · have hD : fatD c = (e1, e2) := if_pos h
    rw [hD]
    exact fat_bound hw1 hw2 (w1_le u h1) (w2_le u h0) (w12_le u) h.le
  · have hD : fatD c = (e2, e1) := if_neg h
    rw [hD, add_comm]
    exact fat_bound hw2 hw1 (w2_le u h0) (w1_le u h1) ((add_comm _ _).trans_le (w12_le u)) (not_lt.mp h)

end Lyon.Clip
