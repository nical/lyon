/-
  What the window invariants of the polyline skeleton (`Lemmas/StrokePoly.lean`) and of the complete stroker
  (`Lemmas/StrokeIdx*.lean`) share: the two states of a join's ids (`Raw`: never a join, `Good n`: all four ids
  handed out), the ids `add_edge_triangles` reads (`Out0`, `In1`, `edge_tris_ok`), well-formed point buffers
  observed through `count` / `last` / `lastTwo` (`WF`), and `NoMerge`.
-/
import LyonVerif.Model.Tess.StrokeParts
import LyonVerif.Lemmas.StrokeParts
import Mathlib.Tactic.SplitIfs


namespace Lyon.C05b
open Lyon Scalar Lyon.Stroke Lyon.Stroke.Poly Lyon.C05

/-- never a join: the fold flags are still `false` (the four ids are unset and not read) -/
def Raw (i : JoinIds) : Prop := i.foldPos = false ∧ i.foldNeg = false

/-- has been a join: the four ids have been handed out -/
def Good (n : Nat) (i : JoinIds) : Prop :=
  i.posPrev < n ∧ i.posNext < n ∧ i.negPrev < n ∧ i.negNext < n

theorem Good.mono {n k : Nat} {i : JoinIds} (h : Good n i) (hnk : n ≤ k) : Good k i :=
  ⟨by have := h.1; omega, by have := h.2.1; omega, by have := h.2.2.1; omega, by have := h.2.2.2; omega⟩

/-- the two ids `add_edge_triangles` reads from its first join are below `n` -/
def Out0 (n : Nat) (i : JoinIds) : Prop := edgeP0Neg i < n ∧ edgeP0Pos i < n
/-- the two ids `add_edge_triangles` reads from its second join are below `n` -/
def In1 (n : Nat) (i : JoinIds) : Prop := edgeP1Neg i < n ∧ edgeP1Pos i < n

theorem Good.out0 {n : Nat} {i : JoinIds} (h : Good n i) : Out0 n i := by
  obtain ⟨h1, h2, h3, h4⟩ := h
  unfold Out0 edgeP0Neg edgeP0Pos; split_ifs <;> exact ⟨by assumption, by assumption⟩

theorem In1.mono {n m : Nat} {i : JoinIds} (h : In1 n i) (hnm : n ≤ m) : In1 m i :=
  ⟨Nat.lt_of_lt_of_le h.1 hnm, Nat.lt_of_lt_of_le h.2 hnm⟩

theorem Good.in1 {n : Nat} {i : JoinIds} (h : Good n i) : In1 n i := by
  obtain ⟨h1, h2, h3, h4⟩ := h
  unfold In1 edgeP1Neg edgeP1Pos; split_ifs <;> exact ⟨by assumption, by assumption⟩

/-- a point that was never a join, with the `next` ids just assigned (`tessellate_first_edge`) -/
theorem Raw.out0 {n : Nat} {i : JoinIds} (h : Raw i) (w : Nat) (hw : w + 1 < n) :
    Out0 n { i with posNext := w, negNext := w + 1 } := by
  simp [Out0, edgeP0Neg, edgeP0Pos, h.1, h.2]; omega

/-- a point that was never a join, with the `prev` ids just assigned (`tessellate_last_edge`) -/
theorem Raw.in1 {n : Nat} {i : JoinIds} (h : Raw i) (v : Nat) (hv : v + 1 < n) :
    In1 n { i with posPrev := v, negPrev := v + 1 } := by
  simp [In1, edgeP1Neg, edgeP1Pos, h.1, h.2]; omega

theorem Good.setNext {n : Nat} {i : JoinIds} (h : Good n i) (w : Nat) (hw : w + 1 < n) :
    Good n { i with posNext := w, negNext := w + 1 } :=
  ⟨h.1, by simp; omega, h.2.2.1, by simp; omega⟩

theorem Good.setPrev {n : Nat} {i : JoinIds} (h : Good n i) (v : Nat) (hv : v + 1 < n) :
    Good n { i with posPrev := v, negPrev := v + 1 } :=
  ⟨by simp; omega, h.2.1, by simp; omega, h.2.2.2⟩

theorem edge_tris_ok (p0 p1 : JoinIds) (n : Nat) (h0 : Out0 n p0) (h1 : In1 n p1) :
    ∀ t ∈ addEdgeTriangles p0 p1, Tri.Distinct t ∧ Tri.Below t n := by
  intro t ht
  obtain ⟨a, b⟩ := h0
  obtain ⟨c, d⟩ := h1
  unfold addEdgeTriangles edgeTri1 edgeTri2 at ht
  split_ifs at ht <;> simp at ht
  all_goals (rcases ht with rfl | rfl <;> simp only [Tri.Distinct, Tri.Below] <;>
    refine ⟨⟨?_, ?_, ?_⟩, ?_, ?_, ?_⟩ <;> first | assumption | tauto)

theorem edge_tris_len (p0 p1 : JoinIds) : (addEdgeTriangles p0 p1).length ≤ 2 := by
  unfold addEdgeTriangles edgeTri1 edgeTri2
  split_ifs <;> simp

section Buffer
variable {β : Type}

/-- the buffer represents some list (`Rep`): `start`/`count` are in one of the six reachable shapes -/
def WF (b : PointBuffer β) : Prop := ∃ l, Rep b l

theorem WF.new (d : β) : WF (PointBuffer.new d) := ⟨[], Rep.c0 d d d⟩

theorem wf_clear (b : PointBuffer β) : WF b.clear := ⟨[], Rep.c0 _ _ _⟩

theorem WF.count_le {b : PointBuffer β} (h : WF b) : b.count ≤ 3 := by
  obtain ⟨l, h⟩ := h; cases h <;> simp

theorem lastTwo_none {b : PointBuffer β} (hc : b.count < 2) : b.lastTwo = none := by
  unfold PointBuffer.lastTwo; rw [if_neg (by omega)]

theorem last_none {b : PointBuffer β} (hc : b.count = 0) : b.last = none := by
  unfold PointBuffer.last; rw [if_neg (by omega)]

theorem get_zero_of_last {b : PointBuffer β} (hc : b.count = 1) : b.get 0 = b.last := by
  simp [PointBuffer.last, hc]

theorem WF.last_some {b : PointBuffer β} (h : WF b) (hc : 0 < b.count) : ∃ y, b.last = some y := by
  obtain ⟨l, h⟩ := h
  cases h <;> simp [PointBuffer.last, PointBuffer.get, PointBuffer.slot] at hc ⊢

theorem WF.lastTwo_some {b : PointBuffer β} (h : WF b) (hc : 2 ≤ b.count) :
    ∃ x y, b.lastTwo = some (x, y) := by
  obtain ⟨l, h⟩ := h
  cases h <;> simp [PointBuffer.lastTwo, PointBuffer.slot] at hc ⊢

theorem WF.lastTwo_last {b : PointBuffer β} (h : WF b) (x y : β) (hl : b.lastTwo = some (x, y)) :
    b.last = some y := by
  obtain ⟨l, h⟩ := h
  cases h <;> simp [PointBuffer.lastTwo, PointBuffer.slot, PointBuffer.last, PointBuffer.get] at hl ⊢ <;>
    exact hl.2

theorem WF.lastTwo_snd {b : PointBuffer β} (h : WF b) {x y z : β} (hl : b.lastTwo = some (x, y))
    (hz : b.last = some z) : y = z := by
  rw [h.lastTwo_last x y hl] at hz; exact Option.some.inj hz

theorem WF.lastTwo_count {b : PointBuffer β} (x y : β) (hl : b.lastTwo = some (x, y)) :
    2 ≤ b.count := by
  by_contra hc
  rw [lastTwo_none (by omega)] at hl; cases hl

/-- a property of THE last entry holds of every `y` with `last = some y` (the form the invariants use) -/
theorem of_last {b : PointBuffer β} {y : β} (h : b.last = some y) {Q : β → Prop} (hy : Q y) :
    ∀ z, b.last = some z → Q z := by
  intro z hz; rw [h] at hz; cases hz; exact hy

theorem of_lastTwo {b : PointBuffer β} {x y : β} (h : b.lastTwo = some (x, y)) {Q : β → β → Prop} (hq : Q x y) :
    ∀ a c, b.lastTwo = some (a, c) → Q a c := by
  intro a c hac; rw [h] at hac; cases hac; exact hq

theorem WF.push {b : PointBuffer β} (h : WF b) (p : β) :
    ∃ b', b.push p = some b' ∧ WF b' ∧ b'.count = min 3 (b.count + 1) ∧ b'.last = some p
      ∧ (∀ y, b.last = some y → b'.lastTwo = some (y, p)) := by
  obtain ⟨l, h⟩ := h
  obtain ⟨b', hb, hr⟩ := h.push p
  refine ⟨b', hb, ⟨_, hr⟩, ?_⟩
  cases h <;>
    (simp [PointBuffer.push, PointBuffer.setSlot, PointBuffer.bumpCount, PointBuffer.bumpStart] at hb
     subst hb
     simp [PointBuffer.last, PointBuffer.get, PointBuffer.slot, PointBuffer.lastTwo])

theorem WF.replaceLast {b : PointBuffer β} (h : WF b) (hc : 0 < b.count) (p : β) :
    ∃ b', b.replaceLast p = some b' ∧ WF b' ∧ b'.count = b.count ∧ b'.last = some p
      ∧ (∀ x y, b.lastTwo = some (x, y) → b'.lastTwo = some (x, p)) := by
  obtain ⟨l, h⟩ := h
  have hl : l ≠ [] := by
    intro e; subst e
    have := h.observe.1
    simp at this; omega
  obtain ⟨b', hb, hr⟩ := (h.replaceLast p).2 hl
  refine ⟨b', hb, ⟨_, hr⟩, ?_⟩
  cases h <;> first
    | (simp at hc; done)
    | (simp [PointBuffer.replaceLast, PointBuffer.setSlot] at hb
       subst hb
       simp [PointBuffer.last, PointBuffer.get, PointBuffer.slot, PointBuffer.lastTwo])

end Buffer

section NoMerge
variable {α : Type} [Scalar α] [Transc α]

/-- every `points_are_too_close` test along the run answers `false` (without merges the last kept
point is always the previous input point) -/
def NoMerge (thr : α) : List (P α) → Prop
  | a :: b :: rest => pointsAreTooClose thr a b = false ∧ NoMerge thr (b :: rest)
  | _ => True

instance noMergeDec (thr : α) : ∀ l : List (P α), Decidable (NoMerge thr l)
  | [] => isTrue trivial
  | [_] => isTrue trivial
  | a :: b :: rest =>
    have := noMergeDec thr (b :: rest)
    inferInstanceAs (Decidable (pointsAreTooClose thr a b = false ∧ NoMerge thr (b :: rest)))

end NoMerge

end Lyon.C05b
