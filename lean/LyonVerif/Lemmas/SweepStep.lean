/-
  The step functions of `Model/Tess/Sweep.lean` in the form in which the invariants of the sweep
  use them: runs of `SM` programs against weakest preconditions, programs that only set coverage
  bits (`OnlyCov`), and `process_events` / `process_intersection` cut into the part that matters
  to an invariant and the coverage bookkeeping around it.

  Why: `mvcgen` walks a `do` block path by path, and every `if c then mark k` or `let mut` update
  under an `if` is a join point that doubles the paths through what follows.  `process_events` is
  rewritten as scan, marks, body (`processEvents_split`), `process_intersection` as one `set` of
  pure functions of the state (`processIntersection_eq`); an invariant then meets each of the
  calls that are expensive to walk once.

  At the end: the two sorts of the model permute their array (`insertionSort_perm`, `swapBack_perm`;
  used in `Lemmas/SweepStepRecover.lean`).
-/
import Std.Do
import Std.Tactic.Do
import LyonVerif.Model.Tess.Sweep
import LyonVerif.Lemmas.SweepStepArray

set_option linter.unusedSectionVars false
set_option mvcgen.warning false

namespace Lyon.Sweep
open Lyon Lyon.Scalar Lyon.Mono Lyon.EQ
open Std.Do
variable {α : Type} [Scalar α] [Wide α]

abbrev SMps (α : Type) : PostShape := .except Fail (.arg (St α) .pure)

theorem wp_run {β : Type} (x : SM α β) (Q : PostCond β (SMps α)) (s : St α) :
    wp⟦x⟧ Q s = (match (x.run.run s).1 with | .ok r => Q.1 r | .error f => Q.2.1 f) (x.run.run s).2 := by
  simp only [wp, PredTrans.pushExcept, PredTrans.pushArg, StateT.run, PredTrans.apply_Pure_pure]
  simp only [PredTrans.apply, Id.run]
  rcases ExceptT.run x s with ⟨_ | _, _⟩ <;> rfl

theorem wp_ok {β : Type} {x : SM α β} {s s' : St α} {r : β} (Q : PostCond β (SMps α))
    (h : x.run.run s = (.ok r, s')) : wp⟦x⟧ Q s = Q.1 r s' := by
  rw [wp_run, h]

/-- the postcondition "`I` of the state on success, `E f` of the state in which failure `f` happened" (the
state is kept on failure, and the tessellator goes on from it) -/
abbrev ends {β : Type} (I : St α → Prop) (E : Fail → St α → Prop) : PostCond β (SMps α) :=
  post⟨fun _ s => ⌜I s⌝, fun f s => ⌜E f s⌝⟩

/-- `I` of the state on success and on failure -/
abbrev both {β : Type} (I : St α → Prop) : PostCond β (SMps α) :=
  post⟨fun _ s => ⌜I s⌝, fun _ s => ⌜I s⌝⟩

theorem triple_conseq {β : Type} {x : SM α β} {P P' : St α → Prop} {Q Q' : β → St α → Prop}
    {E E' : Fail → St α → Prop}
    (h : ⦃fun s => ⌜P s⌝⦄ x ⦃post⟨fun r s => ⌜Q r s⌝, fun f s => ⌜E f s⌝⟩⦄)
    (hp : ∀ s, P' s → P s) (hq : ∀ r s, Q r s → Q' r s) (he : ∀ f s, E f s → E' f s) :
    ⦃fun s => ⌜P' s⌝⦄ x ⦃post⟨fun r s => ⌜Q' r s⌝, fun f s => ⌜E' f s⌝⟩⦄ := by
  intro s hs
  have h1 := h s (hp s hs)
  rw [wp_run] at h1 ⊢
  revert h1
  generalize (x.run.run s : Except Fail β × St α) = r
  obtain ⟨_ | _, _⟩ := r
  · exact he _ _
  · exact hq _ _

/-- the index `c` a `for` loop over `[:m]` is at: `p` is done, `q` to come -/
theorem range_split {m : Nat} {p q : List Nat} {c : Nat} (h : [:m].toList = p ++ c :: q) :
    c = p.length ∧ m = p.length + 1 + q.length := by
  simp only [Std.Legacy.Range.toList, Nat.sub_zero, Nat.add_sub_cancel, Nat.div_one] at h
  have h1 := congrArg List.length h
  simp at h1
  have h2 := congrArg (fun l => l[p.length]?) h
  simp at h2
  rw [List.getElem?_range' (by omega)] at h2
  simp at h2
  omega

theorem range_length (m : Nat) : [:m].toList.length = m := by
  simp [Std.Legacy.Range.toList]

theorem run_bind {β γ : Type} (x : SM α β) (f : β → SM α γ) (s : St α) :
    (x >>= f).run.run s = (match x.run.run s with
      | (.ok r, s') => (f r).run.run s'
      | (.error e, s') => (.error e, s')) := by
  simp only [ExceptT.run_bind, StateT.run_bind]
  rcases x.run.run s with ⟨_ | _, _⟩ <;> rfl

def CovLe (c c' : Nat) : Prop := ∀ i, c.testBit i = true → c'.testBit i = true

theorem CovLe.refl (c : Nat) : CovLe c c := fun _ h => h
theorem CovLe.trans {a b c : Nat} (h1 : CovLe a b) (h2 : CovLe b c) : CovLe a c := fun i h => h2 i (h1 i h)
theorem CovLe.or_right (c x : Nat) : CovLe c (c ||| x) := by
  intro i h; simp [Nat.testBit_or, h]
theorem CovLe.or_step {a c : Nat} (x : Nat) (h : CovLe a c) : CovLe a (c ||| x) := h.trans (CovLe.or_right c x)
theorem CovLe.ite {a c1 c2 : Nat} {p : Prop} [Decidable p] (h1 : CovLe a c1) (h2 : CovLe a c2) :
    CovLe a (if p then c1 else c2) := by split <;> assumption

/-- closes `CovLe a (…a ||| b ||| c …)` goals, through `if`s -/
macro "cov_le" : tactic =>
  `(tactic| (repeat (first
      | exact CovLe.refl _
      | assumption
      | apply CovLe.or_step
      | apply CovLe.ite)))

def St.setCov (s : St α) (c : Nat) : St α := { s with cov := c }

def OnlyCov (x : SM α Unit) : Prop := ∀ s, ∃ c, CovLe s.cov c ∧ x.run.run s = (.ok (), s.setCov c)

theorem OnlyCov.pure : OnlyCov (pure () : SM α Unit) := fun s => ⟨s.cov, .refl _, rfl⟩

theorem OnlyCov.mark (b : Nat) : OnlyCov (mark b : SM α Unit) := fun s => ⟨_, .or_right s.cov _, rfl⟩

theorem OnlyCov.ite {c : Prop} [Decidable c] {x y : SM α Unit} (hx : OnlyCov x) (hy : OnlyCov y) :
    OnlyCov (if c then x else y) := by
  split <;> assumption

theorem OnlyCov.bind {x : SM α Unit} {f : Unit → SM α Unit} (hx : OnlyCov x) (hf : OnlyCov (f ())) :
    OnlyCov (x >>= f) := by
  intro s
  obtain ⟨c, hc, h⟩ := hx s
  obtain ⟨c', hc', h'⟩ := hf (s.setCov c)
  exact ⟨c', hc.trans hc', by rw [run_bind, h]; exact h'⟩

theorem OnlyCov.spec {x : SM α Unit} (h : OnlyCov x) (Q : PostCond Unit (SMps α)) :
    ⦃fun s => ⌜∀ c, CovLe s.cov c → (Q.1 () (s.setCov c)).down⌝⦄ x ⦃Q⦄ := by
  intro s hs
  obtain ⟨c, hc, hr⟩ := h s
  rw [wp_ok Q hr]
  exact hs c hc

theorem OnlyCov.keeps {x : SM α Unit} (h : OnlyCov x) {P : St α → Prop}
    (hP : ∀ s c, CovLe s.cov c → P s → P (s.setCov c)) : ⦃fun s => ⌜P s⌝⦄ x ⦃⇓ _ s => ⌜P s⌝⦄ :=
  fun s hs => h.spec _ s fun c hc => hP s c hc hs

theorem ite_bind_unit {β : Type} (c : Prop) [Decidable c] (m : SM α Unit) (f : Unit → SM α β) :
    (if c then m >>= f else f ()) = ((if c then m else pure ()) >>= f) := by
  split <;> simp

/-- `if c then mark b` as one step: `mvcgen` splits a bare `if` and walks what follows it once per
branch (`ite_bind_unit` folds the join point the `do` notation makes of it) -/
def markIf (c : Prop) [Decidable c] (b : Nat) : SM α Unit := if c then mark b else pure ()

theorem OnlyCov.markIf (c : Prop) [Decidable c] (b : Nat) : OnlyCov (markIf c b : SM α Unit) :=
  .ite (.mark b) .pure

theorem ite_mark_bind {β : Type} (c : Prop) [Decidable c] (b : Nat) (f : Unit → SM α β) :
    (if c then mark b >>= f else f ()) = (markIf c b >>= f) := ite_bind_unit c (mark b) f

theorem keeps_of_rel {β : Type} {x : SM α β} {R : St α → St α → Prop} (hrefl : ∀ s, R s s)
    (hx : ∀ s0, ⦃fun s => ⌜R s0 s⌝⦄ x ⦃both (R s0)⦄) {I : St α → Prop}
    (hI : ∀ s s', I s → R s s' → I s') :
    ⦃fun s => ⌜I s⌝⦄ x ⦃both I⦄ :=
  fun s hs => (wp x).mono _ _ ⟨fun _ s' r => hI s s' hs r, fun _ s' r => hI s s' hs r, trivial⟩ s
    (hx s s (hrefl s))

theorem ends_of_rel {β : Type} {x : SM α β} {R : St α → St α → Prop} (hrefl : ∀ s, R s s)
    (hx : ∀ s0, ⦃fun s => ⌜R s0 s⌝⦄ x ⦃both (R s0)⦄) {I : St α → Prop} {E : Fail → St α → Prop}
    (hI : ∀ s s', I s → R s s' → I s') (hfail : ∀ f s, I s → E f s) : ⦃fun s => ⌜I s⌝⦄ x ⦃ends I E⦄ :=
  triple_conseq (keeps_of_rel hrefl hx hI) (fun _ h => h) (fun _ _ h => h) hfail

theorem ite_bind_unit₂ {β : Type} (c : Prop) [Decidable c] (m₁ m₂ : SM α Unit) (f : Unit → SM α β) :
    (if c then m₁ >>= fun _ => m₂ >>= f else f ()) = ((if c then m₁ >>= fun _ => m₂ else pure ()) >>= f) := by
  split <;> simp

def evMarks (s : St α) (scan : Scan) : SM α Unit := do
  if scan.mergeEvent then mark 2
  if scan.splitEvent then mark 3
  if scan.mergeSplitEvent then mark 4
  if s.active.any (·.isMerge) then
    if (s.active.extract 0 scan.aboveStart).any (·.isMerge) then mark 17
    if (s.active.extract scan.aboveStart scan.aboveEnd).any (·.isMerge) then mark 18

theorem evMarks_onlyCov (s : St α) (scan : Scan) : OnlyCov (evMarks s scan) := by
  unfold evMarks
  simp only [ite_bind_unit]
  exact .bind (.ite (.mark 2) .pure) (.bind (.ite (.mark 3) .pure) (.bind (.ite (.mark 4) .pure)
    (.ite (.bind (.ite (.mark 17) .pure) (.ite (.mark 18) .pure)) .pure)))

def evBody (scan : Scan) : SM α (Option IErr) := do
  let scan ← processEdgesAbove scan
  processEdgesBelow scan
  updateActiveEdges scan
  return none

theorem processEvents_split : (processEvents : SM α (Option IErr)) = (do
    let s ← get
    match scanActiveEdges s with
    | .error e => return some e
    | .ok scan => do evMarks s scan; evBody scan) := by
  unfold processEvents evMarks evBody
  simp only [ite_bind_unit, ite_bind_unit₂, bind_assoc]
  rfl

/-- `process_intersection` from the point where the intersection position `ip` is fixed: the cuts of
the active edge `ae0` and of the pending edge `eb0` at `ip`, as a pure computation that hands the
new queue, coverage bits, active edge and pending edge to `K`.  The text is that of the model, so
the `do` notation makes the same join points of it and the model's block is this function by `rfl`;
the conditions are written on `ae0`, `eb0` (not on the `let mut` copies) so that `cases` finds them. -/
def piK {γ : Type} (q0 : Queue α) (cur : P α) (curEvent : Nat) (ae0 : ActiveEdge α) (eb0 : PendingEdge α)
    (ta tb : Wide.W α) (ip : P α) (cov0 : Nat) (K : Queue α → Nat → ActiveEdge α → PendingEdge α → γ) : γ := Id.run do
  let aSrc := q0.ed ae0.srcEdge
  let bSrc := q0.ed eb0.srcEdge
  let mut q := q0
  let mut cov := cov0
  let mut inserted : Option Nat := none
  let mut flippedActive := false
  let mut ae := ae0
  if ae0.to != ip && ae0.from_ != ip then
    let rta := Sources.remapT (Wide.narrow ta) aSrc.t0 ae.rangeEnd
    if isAfter ae0.to ip then
      let r := q.insertSorted ip ⟨ae.to, rta, ae.rangeEnd, ae.winding, true, aSrc.fromId, aSrc.toId⟩ curEvent
      q := r.1
      inserted := some r.2
    else
      flippedActive := true
      cov := cov ||| (1 <<< 13)
      q := (q.insertSorted ae.to ⟨ip, ae.rangeEnd, rta, -ae.winding, true, aSrc.fromId, aSrc.toId⟩ curEvent).1
    ae := { ae with to := ip, rangeEnd := rta }
  else cov := cov ||| (1 <<< 25)
  let mut eb := eb0
  if eb0.to != ip && cur != ip then
    let rtb := Sources.remapT (Wide.narrow tb) bSrc.t0 eb.rangeEnd
    if isAfter eb0.to ip then
      let d : EdgeData α := ⟨eb.to, rtb, eb.rangeEnd, eb.winding, true, bSrc.fromId, bSrc.toId⟩
      match inserted with
      | some idx =>
        q := q.insertSibling idx ip d
        cov := cov ||| (1 <<< 16)
      | none => q := (q.insertSorted ip d curEvent).1
    else
      q := (q.insertSorted eb.to ⟨ip, eb.rangeEnd, rtb, -eb.winding, true, bSrc.fromId, bSrc.toId⟩ curEvent).1
      cov := cov ||| (1 <<< 14)
      if flippedActive then
        q := q.vertexEventOnEdgeSorted ip rtb bSrc.fromId bSrc.toId curEvent
        cov := cov ||| (1 <<< 15)
    eb := { eb with to := ip, rangeEnd := rtb }
  else cov := cov ||| (1 <<< 26)
  return K q cov ae eb

section
variable (q0 : Queue α) (cur : P α) (curEvent : Nat) (ae0 : ActiveEdge α) (eb0 : PendingEdge α) (ta tb : Wide.W α) (ip : P α)
def piQ : Queue α := piK q0 cur curEvent ae0 eb0 ta tb ip 0 fun q _ _ _ => q
def piCov (cov0 : Nat) : Nat := piK q0 cur curEvent ae0 eb0 ta tb ip cov0 fun _ c _ _ => c
def piAe : ActiveEdge α := piK q0 cur curEvent ae0 eb0 ta tb ip 0 fun _ _ ae _ => ae
def piEb : PendingEdge α := piK q0 cur curEvent ae0 eb0 ta tb ip 0 fun _ _ _ eb => eb

theorem piK_eq {γ : Type} (cov0 : Nat) (K : Queue α → Nat → ActiveEdge α → PendingEdge α → γ) :
    piK q0 cur curEvent ae0 eb0 ta tb ip cov0 K =
      K (piQ q0 cur curEvent ae0 eb0 ta tb ip) (piCov q0 cur curEvent ae0 eb0 ta tb ip cov0)
        (piAe q0 cur curEvent ae0 eb0 ta tb ip) (piEb q0 cur curEvent ae0 eb0 ta tb ip) := by
  unfold piQ piCov piAe piEb piK
  cases (ae0.to != ip && ae0.from_ != ip) <;> cases isAfter ae0.to ip <;> cases (eb0.to != ip && cur != ip) <;>
    cases isAfter eb0.to ip <;> rfl

def piRta : α := Sources.remapT (Wide.narrow ta) (q0.ed ae0.srcEdge).t0 ae0.rangeEnd
def piRtb : α := Sources.remapT (Wide.narrow tb) (q0.ed eb0.srcEdge).t0 eb0.rangeEnd

theorem piAe_eq : piAe q0 cur curEvent ae0 eb0 ta tb ip =
    if ae0.to != ip && ae0.from_ != ip then { ae0 with to := ip, rangeEnd := piRta q0 ae0 ta } else ae0 := by
  unfold piAe piK
  cases (ae0.to != ip && ae0.from_ != ip) <;> cases isAfter ae0.to ip <;> cases (eb0.to != ip && cur != ip) <;>
    cases isAfter eb0.to ip <;> rfl

theorem piEb_eq : piEb q0 cur curEvent ae0 eb0 ta tb ip =
    if eb0.to != ip && cur != ip then { eb0 with to := ip, rangeEnd := piRtb q0 eb0 tb } else eb0 := by
  unfold piEb piK
  cases (ae0.to != ip && ae0.from_ != ip) <;> cases isAfter ae0.to ip <;> cases (eb0.to != ip && cur != ip) <;>
    cases isAfter eb0.to ip <;> rfl

theorem piAe_fields : let ae := piAe q0 cur curEvent ae0 eb0 ta tb ip
    ae.from_ = ae0.from_ ∧ ae.winding = ae0.winding ∧ ae.isMerge = ae0.isMerge ∧ ae.fromId = ae0.fromId ∧
      ae.srcEdge = ae0.srcEdge := by
  rw [piAe_eq]; split <;> exact ⟨rfl, rfl, rfl, rfl, rfl⟩

theorem piEb_fields : let eb := piEb q0 cur curEvent ae0 eb0 ta tb ip
    eb.sortKey = eb0.sortKey ∧ eb.srcEdge = eb0.srcEdge ∧ eb.winding = eb0.winding := by
  rw [piEb_eq]; split <;> exact ⟨rfl, rfl, rfl⟩

theorem covLe_piCov (c : Nat) : CovLe c (piCov q0 cur curEvent ae0 eb0 ta tb ip c) := by
  unfold piCov piK
  cases (ae0.to != ip && ae0.from_ != ip) <;> cases isAfter ae0.to ip <;> cases (eb0.to != ip && cur != ip) <;>
    cases isAfter eb0.to ip <;> (dsimp only [Id.run]; cov_le)

/-- the events `process_intersection` inserts: position and edge record (the part of the active edge
below `ip`, or its flipped part when `ip` is below its end; the same for the pending edge) -/
inductive PiIns : P α → EdgeData α → Prop
  | aTail : PiIns ip ⟨ae0.to, piRta q0 ae0 ta, ae0.rangeEnd, ae0.winding, true,
      (q0.ed ae0.srcEdge).fromId, (q0.ed ae0.srcEdge).toId⟩
  | aFlip : PiIns ae0.to ⟨ip, ae0.rangeEnd, piRta q0 ae0 ta, -ae0.winding, true,
      (q0.ed ae0.srcEdge).fromId, (q0.ed ae0.srcEdge).toId⟩
  | bTail : PiIns ip ⟨eb0.to, piRtb q0 eb0 tb, eb0.rangeEnd, eb0.winding, true,
      (q0.ed eb0.srcEdge).fromId, (q0.ed eb0.srcEdge).toId⟩
  | bFlip : PiIns eb0.to ⟨ip, eb0.rangeEnd, piRtb q0 eb0 tb, -eb0.winding, true,
      (q0.ed eb0.srcEdge).fromId, (q0.ed eb0.srcEdge).toId⟩

variable {q0 cur curEvent ae0 eb0 ta tb ip}

/-- the new queue is the old one after at most three insertions of `PiIns` events (sorted from the current
event, or as a sibling at `ip`) and possibly a vertex event at `ip` on the pending edge's source -/
theorem piQ_ind {Φ : Queue α → Prop} (h0 : Φ q0)
    (hS : ∀ q p d, Φ q → PiIns q0 ae0 eb0 ta tb ip p d → Φ (q.insertSorted p d curEvent).1)
    (hSib : ∀ q i d, Φ q → PiIns q0 ae0 eb0 ta tb ip ip d → Φ (q.insertSibling i ip d))
    (hV : ∀ q, Φ q → Φ (q.vertexEventOnEdgeSorted ip (piRtb q0 eb0 tb) (q0.ed eb0.srcEdge).fromId
      (q0.ed eb0.srcEdge).toId curEvent)) :
    Φ (piQ q0 cur curEvent ae0 eb0 ta tb ip) := by
  unfold piQ piK
  cases (ae0.to != ip && ae0.from_ != ip)
  · cases (eb0.to != ip && cur != ip)
    · exact h0
    · cases isAfter eb0.to ip
      · exact hS _ _ _ h0 .bFlip
      · exact hS _ _ _ h0 .bTail
  · cases isAfter ae0.to ip <;> cases (eb0.to != ip && cur != ip)
    · exact hS _ _ _ h0 .aFlip
    · cases isAfter eb0.to ip
      · exact hV _ (hS _ _ _ (hS _ _ _ h0 .aFlip) .bFlip)
      · exact hS _ _ _ (hS _ _ _ h0 .aFlip) .bTail
    · exact hS _ _ _ h0 .aTail
    · cases isAfter eb0.to ip
      · exact hS _ _ _ (hS _ _ _ h0 .aTail) .bFlip
      · exact hSib _ _ _ (hS _ _ _ h0 .aTail) .bTail
end

/-- the intersection point after the fix-up: a point that is not after the current position gets the next
representable `y` above the current one (coverage bit 10, `intersection-y-fixup`) -/
def piIp1 (cur ip0 : P α) : P α := if !isAfter ip0 cur then ⟨ip0.x, Wide.nextUp cur.y⟩ else ip0

/-- then snapped to the lower end of the pending edge or of the active edge when `is_near` (bits 11, 12) -/
def piIp (ip1 : P α) (ae0 : ActiveEdge α) (eb0 : PendingEdge α) : P α :=
  if isNear ip1 eb0.to then eb0.to else if isNear ip1 ae0.to then ae0.to else ip1

/-- the coverage after these two steps: bit 8 (`intersection`) and those of `piIp1`, `piIp` -/
def piCov0 (cov0 : Nat) (cur ip0 ip1 : P α) (ae0 : ActiveEdge α) (eb0 : PendingEdge α) : Nat :=
  let c := cov0 ||| (1 <<< 8)
  let c := if !isAfter ip0 cur then c ||| (1 <<< 10) else c
  if isNear ip1 eb0.to then c ||| (1 <<< 11) else if isNear ip1 ae0.to then c ||| (1 <<< 12) else c

/-- `process_intersection` after its `assert!` (the text is that of the model) -/
def piK0 {γ : Type} (q0 : Queue α) (cur : P α) (curEvent : Nat) (ae0 : ActiveEdge α) (eb0 : PendingEdge α)
    (ta tb : Wide.W α) (ip0 ip1 : P α) (cov0 : Nat) (K : Queue α → Nat → ActiveEdge α → PendingEdge α → γ) : γ := Id.run do
  let ip : P α := if isNear ip1 eb0.to then eb0.to else if isNear ip1 ae0.to then ae0.to else ip1
  let mut cov := cov0 ||| (1 <<< 8)
  if !isAfter ip0 cur then cov := cov ||| (1 <<< 10)
  if isNear ip1 eb0.to then cov := cov ||| (1 <<< 11)
  else if isNear ip1 ae0.to then cov := cov ||| (1 <<< 12)
  return piK q0 cur curEvent ae0 eb0 ta tb ip cov K

theorem piK0_eq {γ : Type} (q0 : Queue α) (cur : P α) (curEvent : Nat) (ae0 : ActiveEdge α) (eb0 : PendingEdge α)
    (ta tb : Wide.W α) (ip0 ip1 : P α) (cov0 : Nat) (K : Queue α → Nat → ActiveEdge α → PendingEdge α → γ) :
    piK0 q0 cur curEvent ae0 eb0 ta tb ip0 ip1 cov0 K =
      K (piQ q0 cur curEvent ae0 eb0 ta tb (piIp ip1 ae0 eb0))
        (piCov q0 cur curEvent ae0 eb0 ta tb (piIp ip1 ae0 eb0) (piCov0 cov0 cur ip0 ip1 ae0 eb0))
        (piAe q0 cur curEvent ae0 eb0 ta tb (piIp ip1 ae0 eb0)) (piEb q0 cur curEvent ae0 eb0 ta tb (piIp ip1 ae0 eb0)) := by
  unfold piK0 piIp piCov0
  cases (!isAfter ip0 cur) <;> cases isNear ip1 eb0.to <;> cases isNear ip1 ae0.to <;> exact piK_eq ..

theorem covLe_piCov0 (cov0 : Nat) (cur ip0 ip1 : P α) (ae0 : ActiveEdge α) (eb0 : PendingEdge α) :
    CovLe cov0 (piCov0 cov0 cur ip0 ip1 ae0 eb0) := by
  have h8 : CovLe cov0 (cov0 ||| (1 <<< 8)) := .or_right _ _
  have h10 := CovLe.ite (p := (!isAfter ip0 cur) = true) (h8.or_step (1 <<< 10)) h8
  exact .ite (h10.or_step _) (.ite (h10.or_step _) h10)

/-- `process_intersection`: the early return at the current position, the `assert!`, and otherwise one
`set` of the queue, the active edge and the coverage bits computed by `piQ`, `piAe`, `piCov` -/
theorem processIntersection_eq (ta tb : Wide.W α) (aei : Nat) (eb0 : PendingEdge α) (belowSeg : Seg (Wide.W α)) :
    processIntersection ta tb aei eb0 belowSeg = (do
      let s ← get
      match s.active[aei]? with
      | none => throw (.panic "edge index out of range")
      | some ae0 =>
        let ip0 : P α := narrowP (belowSeg.sample tb)
        if s.curPos == ip0 then
          let r := Sources.remapT (Wide.narrow ta) (s.q.ed ae0.srcEdge).t0 ae0.rangeEnd
          set { s with
            cov := s.cov ||| (1 <<< 9),
            active := s.active.setIfInBounds aei { ae0 with from_ := ip0 },
            q := { s.q with edgeData := s.q.edgeData.modify ae0.srcEdge (fun d => { d with t0 := r }) } }
          return eb0
        else if !isAfter (piIp1 s.curPos ip0) s.curPos then
          throw (.panic "assert is_after(intersection_position, current_position)")
        else
          let ip := piIp (piIp1 s.curPos ip0) ae0 eb0
          set { s with
            q := piQ s.q s.curPos s.curEvent ae0 eb0 ta tb ip,
            active := s.active.setIfInBounds aei (piAe s.q s.curPos s.curEvent ae0 eb0 ta tb ip),
            cov := piCov s.q s.curPos s.curEvent ae0 eb0 ta tb ip (piCov0 s.cov s.curPos ip0 (piIp1 s.curPos ip0) ae0 eb0) }
          return piEb s.q s.curPos s.curEvent ae0 eb0 ta tb ip : SM α (PendingEdge α)) := by
  have h : processIntersection ta tb aei eb0 belowSeg = (do
      let s ← get
      match s.active[aei]? with
      | none => throw (.panic "edge index out of range")
      | some ae0 =>
        let cur := s.curPos
        let ip0 : P α := narrowP (belowSeg.sample tb)
        if cur == ip0 then
          let src := s.q.ed ae0.srcEdge
          let r := Sources.remapT (Wide.narrow ta) src.t0 ae0.rangeEnd
          set { s with
            cov := s.cov ||| (1 <<< 9),
            active := s.active.setIfInBounds aei { ae0 with from_ := ip0 },
            q := { s.q with edgeData := s.q.edgeData.modify ae0.srcEdge (fun d => { d with t0 := r }) } }
          return eb0
        let ip1 : P α := if !isAfter ip0 cur then ⟨ip0.x, Wide.nextUp cur.y⟩ else ip0
        if !isAfter ip1 cur then throw (.panic "assert is_after(intersection_position, current_position)")
        piK0 s.q cur s.curEvent ae0 eb0 ta tb ip0 ip1 s.cov fun q cov ae eb => do
          set { s with q := q, active := s.active.setIfInBounds aei ae, cov := cov }
          return eb : SM α (PendingEdge α)) := rfl
  rw [h]
  simp only [piK0_eq, ExceptT.bind_throw]
  rfl

theorem siftLeft_perm {γ : Type} (less : γ → γ → Bool) (tmp : γ) : ∀ (j : Nat) (a : Array γ), j < a.size →
    (siftLeft less tmp j a).toList.Perm (a.toList.set j tmp)
  | 0, a, _ => by simp [siftLeft]
  | j+1, a, h => by
    simp only [siftLeft]
    have hj : j < a.size := by omega
    have hg : a.getD j tmp = a[j] := by simp [Array.getD, hj]
    rw [hg]
    split
    · refine (siftLeft_perm less tmp j _ (by simp; omega)).trans ?_
      -- the hole moves one place to the left: positions `j`, `j+1` hold `tmp`, `a[j]` in the other order
      have := List.set_set_perm (as := a.toList.set (j + 1) tmp) (i := j + 1) (j := j) (by simp; omega) (by simp; omega)
      simpa [Array.toList_setIfInBounds, List.getElem_set] using this
    · simp [Array.toList_setIfInBounds]

/-- Rust's insertion sort (`len ≤ 20`) rearranges the slice -/
theorem insertionSort_perm {γ : Type} (less : γ → γ → Bool) (a : Array γ) :
    (insertionSort less a).toList.Perm a.toList := by
  unfold insertionSort
  generalize List.range a.size = l
  induction l generalizing a with
  | nil => exact .refl _
  | cons i l ih =>
    simp only [List.foldl_cons]
    refine (ih _).trans ?_
    split
    · rename_i tmp ht
      obtain ⟨hi, e⟩ := Array.getElem?_eq_some_iff.mp ht
      split
      · exact .refl _
      · have := siftLeft_perm less tmp i a hi
        rwa [show a.toList.set i tmp = a.toList by rw [← e, ← Array.getElem_toList, List.set_getElem_self]] at this
    · exact .refl _

theorem insertionSort_mem {γ : Type} (less : γ → γ → Bool) (a : Array γ) (x : γ)
    (h : x ∈ insertionSort less a) : x ∈ a :=
  Array.mem_toList_iff.mp ((insertionSort_perm less a).mem_iff.mp (Array.mem_toList_iff.mpr h))

theorem all_insertionSort {γ : Type} {P : γ → Prop} {a : Array γ} (h : ∀ e ∈ a, P e) (less : γ → γ → Bool) :
    ∀ e ∈ insertionSort less a, P e := fun e he => h e (insertionSort_mem less a e he)

/-- the merge-vertex fix-up of `sort_active_edges` swaps neighbours -/
theorem swapBack_perm (rule : Slab.Rule) : ∀ (f : Nat) (a : Array (ActiveEdge α)) (idx : Nat) (w : Int)
    (a' : Array (ActiveEdge α)), swapBack rule f a idx w = .ok a' → a'.toList.Perm a.toList
  | 0, a, idx, w, a', e => by simp [swapBack] at e
  | f+1, a, idx, w, a', e => by
    simp only [swapBack] at e
    split at e
    · cases e
    · split at e
      · rename_i x y hx hy
        obtain ⟨h1, rfl⟩ := Array.getElem?_eq_some_iff.mp hx
        obtain ⟨h2, rfl⟩ := Array.getElem?_eq_some_iff.mp hy
        have hp : ((a.setIfInBounds idx a[idx - 1]).setIfInBounds (idx - 1) a[idx]).toList.Perm a.toList := by
          have := List.set_set_perm (as := a.toList) (i := idx) (j := idx - 1) (by simpa using h1) (by simpa using h2)
          simpa only [Array.toList_setIfInBounds, Array.getElem_toList] using this
        split at e
        · cases e; exact hp
        · exact (swapBack_perm rule f _ _ _ a' e).trans hp
      · cases e

end Lyon.Sweep
