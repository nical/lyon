/-
  Facts about arrays that every invariant of the sweep uses: a predicate that holds of every element of an array
  (the active edges, the pending edges, the spans) still holds after the updates the step functions make - `push`,
  `setIfInBounds`, `modify`, `eraseIdxIfInBounds`, the splice of `update_active_edges` - and of the element a read
  or a `for` loop is at.  Nothing here mentions the model.
-/

namespace Lyon.Sweep

variable {γ : Type}

theorem mem_of_getD_eq_some {a : Array (Option γ)} {k : Nat} {t : γ} (h : a.getD k none = some t) : some t ∈ a := by
  by_cases hk : k < a.size
  · have : a.getD k none = a[k] := by simp [Array.getD, hk]
    rw [this] at h
    exact h ▸ Array.getElem_mem hk
  · have : a.getD k none = none := by simp [Array.getD, hk]
    rw [this] at h; cases h

theorem mem_of_mem_extract {a : Array γ} {i j : Nat} {x : γ} (h : x ∈ a.extract i j) : x ∈ a := by
  rcases Array.mem_iff_getElem.mp h with ⟨k, hk, e⟩
  rw [Array.getElem_extract] at e
  exact e ▸ Array.getElem_mem _

theorem mem_of_mem_pop {a : Array γ} {x : γ} (h : x ∈ a.pop) : x ∈ a := by
  rcases Array.mem_iff_getElem.mp h with ⟨k, hk, e⟩
  rw [Array.getElem_pop] at e
  exact e ▸ Array.getElem_mem _

theorem mem_of_mem_eraseIdxIfInBounds {a : Array γ} {i : Nat} {x : γ} (h : x ∈ a.eraseIdxIfInBounds i) : x ∈ a := by
  unfold Array.eraseIdxIfInBounds at h
  split at h
  · exact Array.mem_of_mem_eraseIdx h
  · exact h

/-- the element a `for` loop is at (`a.toList = p ++ c :: q`), by position -/
theorem getElem?_of_split {a : Array γ} {p q : List γ} {c : γ} (h : a.toList = p ++ c :: q) :
    a[p.length]? = some c := by
  rw [← Array.getElem?_toList, h]
  simp

theorem size_of_split {a : Array γ} {p q : List γ} {c : γ} (h : a.toList = p ++ c :: q) :
    a.size = p.length + 1 + q.length := by
  rw [← Array.length_toList, h]; simp; omega

variable {P : γ → Prop} {a : Array γ}

/-- the element a `for` loop is at (`a.toList = pref ++ cur :: suff`) is one of `a` -/
theorem all_of_split (h : ∀ e ∈ a, P e) {pref suff : List γ} {cur : γ} (hl : a.toList = pref ++ cur :: suff) : P cur :=
  h cur (Array.mem_toList_iff.mp (by rw [hl]; simp))

theorem all_getElem? (h : ∀ e ∈ a, P e) {i : Nat} {x : γ} (hx : a[i]? = some x) : P x :=
  h x (Array.mem_of_getElem? hx)

theorem all_empty : ∀ e ∈ (#[] : Array γ), P e := by
  intro e he; simp at he

theorem all_push (h : ∀ e ∈ a, P e) (v : γ) (hv : P v) : ∀ e ∈ a.push v, P e := by
  intro e he
  rcases Array.mem_push.mp he with r | r
  · exact h e r
  · exact r ▸ hv

theorem all_set (h : ∀ e ∈ a, P e) (i : Nat) (v : γ) (hv : P v) : ∀ e ∈ a.setIfInBounds i v, P e := by
  intro e he
  rcases Array.mem_or_eq_of_mem_setIfInBounds he with r | r
  · exact h e r
  · exact r ▸ hv

theorem all_modify (h : ∀ e ∈ a, P e) (i : Nat) {f : γ → γ} (hf : ∀ e, P e → P (f e)) : ∀ e ∈ a.modify i f, P e := by
  intro e he
  rcases Array.mem_iff_getElem.mp he with ⟨j, hj, rfl⟩
  have hj' : j < a.size := by simpa using hj
  rw [Array.getElem_modify]
  split
  · exact hf _ (h _ (Array.getElem_mem hj'))
  · exact h _ (Array.getElem_mem hj')

theorem all_erase (h : ∀ e ∈ a, P e) (i : Nat) : ∀ e ∈ a.eraseIdxIfInBounds i, P e :=
  fun e he => h e (mem_of_mem_eraseIdxIfInBounds he)

/-- the active list after `update_active_edges`: the old edges outside the range, the pending edges between -/
theorem all_splice {β : Type} (ha : ∀ e ∈ a, P e) {below : Array β} {f : β → γ} (hf : ∀ b ∈ below, P (f b))
    (i j k : Nat) : ∀ e ∈ a.extract 0 i ++ below.map f ++ a.extract j k, P e := by
  intro e he
  simp only [Array.mem_append, Array.mem_map] at he
  rcases he with (he | ⟨b, hb, rfl⟩) | he
  · exact ha e (mem_of_mem_extract he)
  · exact hf b hb
  · exact ha e (mem_of_mem_extract he)

end Lyon.Sweep
