/-
  An ellipse as the image `A(unit circle)` of `Frame.map` (Model/Geom/FlattenCertArc.lean),
  `A(p) = center + Rot(c,s)(rx·p.x, ry·p.y)`: `A` maps chords to chords and scales distances by at most
  the largest radius, so a bound on the unit circle carries over (`frame_map_near`). `arcFrame a` is the frame of
  an arc of the model. Used for the arc tolerance theorem (Lemmas/FlattenTolArc.lean), for the exact arc checker
  and for the arc-to-Bézier bounds (Lemmas/SvgArcRealQuad.lean); rests on the model and Lemmas/Field only.
-/
import LyonVerif.Model.Geom.FlattenCertArc
import LyonVerif.Lemmas.Field

set_option linter.unusedSectionVars false

geom_all Lyon.ArcChk

namespace Lyon.ArcChk
open Lyon Scalar

variable {K : Type} [Field K] [LinearOrder K] [IsStrictOrderedRing K]

theorem frame_map_contract (f : Frame K) (R : K) (hc : f.c * f.c + f.s * f.s = 1)
    (hrx : f.rx * f.rx ≤ R * R) (hry : f.ry * f.ry ≤ R * R) (p q : P K) :
    (f.map p - f.map q).sqLen ≤ R * R * (p - q).sqLen := by
  have e : (f.map p - f.map q).sqLen
      = (f.c * f.c + f.s * f.s) * (f.rx * f.rx * ((p.x - q.x) * (p.x - q.x)) + f.ry * f.ry * ((p.y - q.y) * (p.y - q.y))) := by
    simp only [geom]; ring
  rw [e, hc, one_mul]
  have a := mul_le_mul_of_nonneg_right hrx (mul_self_nonneg (p.x - q.x))
  have b := mul_le_mul_of_nonneg_right hry (mul_self_nonneg (p.y - q.y))
  simp only [geom]
  linear_combination a + b

theorem frame_map_lerp (f : Frame K) (p q : P K) (s : K) :
    f.map (p.lerp q s) = (f.map p).lerp (f.map q) s := by
  geom_ring

theorem unit_pt_on_circle (u : K) (flip : Bool) : (unitPt u flip).sqLen = 1 := by
  have hd : (1 : K) + u * u ≠ 0 := (add_pos_of_pos_of_nonneg one_pos (mul_self_nonneg u)).ne'
  cases flip <;> simp only [unitPt, geom, Nat.cast_one, Nat.cast_ofNat, if_true, if_false, Bool.false_eq_true] <;>
    field_simp <;> ring

theorem frame_map_on_ellipse (f : Frame K) (hc : f.c * f.c + f.s * f.s = 1) (hrx : f.rx ≠ 0) (hry : f.ry ≠ 0)
    (p : P K) (hp : p.sqLen = 1) :
    ((f.c * ((f.map p).x - f.center.x) + f.s * ((f.map p).y - f.center.y)) / f.rx) ^ 2
      + ((-f.s * ((f.map p).x - f.center.x) + f.c * ((f.map p).y - f.center.y)) / f.ry) ^ 2 = 1 := by
  have e1 : f.c * ((f.map p).x - f.center.x) + f.s * ((f.map p).y - f.center.y)
      = (f.c * f.c + f.s * f.s) * (f.rx * p.x) := by simp only [geom]; ring
  have e2 : -f.s * ((f.map p).x - f.center.x) + f.c * ((f.map p).y - f.center.y)
      = (f.c * f.c + f.s * f.s) * (f.ry * p.y) := by simp only [geom]; ring
  rw [e1, e2, hc, one_mul, one_mul, mul_div_cancel_left₀ _ hrx, mul_div_cancel_left₀ _ hry]
  simp only [P.sqLen] at hp
  rw [← hp]; ring

theorem frame_map_near (f : Frame K) (R : K) (hc : f.c * f.c + f.s * f.s = 1)
    (hrx : f.rx * f.rx ≤ R * R) (hry : f.ry * f.ry ≤ R * R) (Q p q : P K) (s : K) :
    (f.map Q - (f.map p).lerp (f.map q) s).sqLen ≤ R * R * (Q - p.lerp q s).sqLen :=
  frame_map_lerp f p q s ▸ frame_map_contract f R hc hrx hry Q (p.lerp q s)

theorem sq_le_max_abs (rx ry : K) :
    rx * rx ≤ Max.max |rx| |ry| * Max.max |rx| |ry| ∧ ry * ry ≤ Max.max |rx| |ry| * Max.max |rx| |ry| :=
  ⟨abs_mul_abs_self rx ▸ mul_self_le_mul_self (abs_nonneg _) (le_max_left _ _),
   abs_mul_abs_self ry ▸ mul_self_le_mul_self (abs_nonneg _) (le_max_right _ _)⟩

end Lyon.ArcChk

namespace Lyon.Flat
open Lyon Scalar

/-- the frame of an arc: its ellipse is `(arcFrame a).map (unit circle)` -/
noncomputable def arcFrame {K : Type} [Field K] [LinearOrder K] [IsStrictOrderedRing K] [Transc K]
    (a : Arc K) : ArcChk.Frame K :=
  ⟨a.center, a.radii.x, a.radii.y, Transc.cos a.xrot, Transc.sin a.xrot⟩

end Lyon.Flat
