/-
  Advancement bookkeeping of the complete stroker model on polyline sub-paths, open or closed, with MERGED points: a
  point within the merge threshold of the last kept point is dropped by `fixed_width_step_impl` (it only sets
  `may_need_empty_cap` while a single point is kept), so the table of advancements ranges over the
  KEPT points `keptFrom`.  Any polyline sub-path `begin p0, line_to …, end(closed)`, with any number
  of points (also none: the empty cap), started in any idle state.  The proof carries one invariant
  (`SubWin`): the window sits at a position inside the table of the whole sub-path, which stays fixed while the
  points are fed; `SubWin.end_` reads `end(closed)` off it, for both values of `closed` (`close()` itself: `close_advs`).
  A closed sub-path adds the entries `CloseX` to its table.  Without merged points (`NoMerge`) the kept points are all
  points (`keptFrom_noMerge`): `polyline_advancement`.  A whole path is `path_from`, one induction
  over its sub-paths (`Props/C05f.lean`, `C05g.lean`, `C05h.lean`).

  What the code does (`StrokeBuilderImpl::begin`, `end_with_caps`): the first point of a sub-path gets
  `sub_path_start_advancement`, which is `0` in a new tessellator and is set to the advancement of the
  last point whenever an OPEN sub-path with at least two kept points ends — the advancement does NOT
  restart at `begin`, it runs on through the path (`pathTable`, `pathTableM`, `PathAdv`).
-/
import LyonVerif.Lemmas.StrokeAdvClose

set_option linter.unusedSectionVars false

namespace Lyon.C05c
open Lyon Scalar Lyon.Stroke Lyon.Stroke.Full Lyon.C05 Lyon.C05b

section
variable {α : Type} [Scalar α] [Transc α] [Asin α] [FlatConst α]

/-- an open sub-path with at least two points: `subEvsC i0 p0 ((i1, p1) :: rest) false`, definitionally.  Of the three
families below, `subEvsC` / `SubC` / `PathAdv` (open or closed, any points) is the general one; `subEvs` / `SubP` /
`pathTable` (open, two or more points, used under `NoMerge`) and `subEvsM` / `SubM` / `pathTableM` (open, any points) are
its instances, in which the theorems of `Props/C05f.lean` and `Props/C05g.lean` are stated -/
def subEvs (i0 i1 : Nat) (p0 p1 : P α) (rest : List (Nat × P α)) : List (IdEv α) :=
  IdEv.begin i0 p0 :: IdEv.line i1 p1 :: (lineEvs rest ++ [IdEv.end_ false])

/-- an open polyline sub-path: two points with their endpoint ids, and the further points -/
structure SubP (α : Type) where
  i0 : Nat
  i1 : Nat
  p0 : P α
  p1 : P α
  rest : List (Nat × P α)

def SubP.pts (s : SubP α) : List (Nat × P α) := (s.i0, s.p0) :: (s.i1, s.p1) :: s.rest
def SubP.evs (s : SubP α) : List (IdEv α) := subEvs s.i0 s.i1 s.p0 s.p1 s.rest

/-- the events of the path -/
def pathEvs (subs : List (SubP α)) : List (IdEv α) := subs.flatMap SubP.evs

/-- the advancement a table ends with (`a` for an empty table) -/
def lastAdv (a : α) (t : List (Nat × P α × α)) : α := (t.getLast?.map (·.2.2)).getD a

/-- the form in which the sub-path theorems give the value a table ends with -/
theorem lastAdv_eq {a x : α} {t : List (Nat × P α × α)} (h : t.getLast?.map (·.2.2) = some x) : lastAdv a t = x := by
  unfold lastAdv; rw [h]; rfl

/-- the table of a path: every sub-path continues where the one before it ended -/
def pathTable (a : α) : List (SubP α) → List (Nat × P α × α)
  | [] => []
  | s :: r => advTable a s.pts ++ pathTable (lastAdv a (advTable a s.pts)) r

/-- the points `fixed_width_step_impl` keeps: each one not within the merge threshold of the last
kept point -/
def keptFrom (thr : α) : P α → List (Nat × P α) → List (Nat × P α)
  | _, [] => []
  | last, q :: r => if pointsAreTooClose thr last q.2 then keptFrom thr last r else q :: keptFrom thr q.2 r

theorem keptFrom_close {thr : α} {p : P α} {q : Nat × P α} (r : List (Nat × P α))
    (h : pointsAreTooClose thr p q.2 = true) : keptFrom thr p (q :: r) = keptFrom thr p r := by
  simp only [keptFrom]; rw [if_pos h]

theorem keptFrom_far {thr : α} {p : P α} {q : Nat × P α} (r : List (Nat × P α))
    (h : pointsAreTooClose thr p q.2 = false) : keptFrom thr p (q :: r) = q :: keptFrom thr q.2 r := by
  simp only [keptFrom]; rw [if_neg (by simp [h])]

/-- what the `line_to` loop keeps about `firsts` and the pending advancement, for `close()` -/
def FirstsOK (st : St α) (a b F : EP α) (P1 : P α) : Prop :=
  (st.buf.count = 2 ∧ a = F ∧ b.position = P1)
  ∨ (st.buf.count = 3 ∧ (∃ f1, st.firsts = [F, f1] ∧ f1.position = P1) ∧ b.advancement = nan)

theorem FirstsOK.head {st : St α} {a b F : EP α} {P1 : P α} (h : FirstsOK st a b F P1) :
    (if st.buf.count > 2 then st.firsts.headD a else a) = F := by
  rcases h with ⟨hc, ha, _⟩ | ⟨hc, ⟨f1, hf, _⟩, _⟩
  · rw [if_neg (by omega)]; exact ha
  · rw [if_pos (by omega), hf]; rfl

/-- `end(false)` on a window `(a', b')`: `hlast` says that the table holds the entry `b'` is about to get, `hfirst` that the
first point `end_with_caps` reads (in the window, or at the head of `firsts`) is `F`, `hF` that the table holds `F`'s entry -/
theorem endSub_open_advs {e : Env α} (hfw : e.o.varWidth = false) {st' : St α} {a' b' F : EP α} {il i0 : Nat}
    {T : List (Nat × P α × α)} (hab : st'.buf.lastTwo = some (a', b'))
    (hsb : b'.src = .endpoint il)
    (hlast : (il, b'.position, a'.advancement + len (b'.position - a'.position)) ∈ T)
    (hfirst : (if st'.buf.count > 2 then st'.firsts.headD a' else a') = F)
    (hFs : F.src = .endpoint i0) (hF : (i0, F.position, F.advancement) ∈ T) :
    Emits (AdvOK T) st'.out (endSub e (fwStep e) st' false).out
    ∧ (endSub e (fwStep e) st' false).subPathStartAdvancement = a'.advancement + len (b'.position - a'.position) := by
  rw [endSub_open e (fwStep e) st', endWithCaps_eq_two (e := e) hab]
  refine ⟨?_, ?_⟩
  · have s2 : Emits (AdvOK T) st'.out (capsOut e st' a' b').2 := by
      show Emits _ st'.out (lastEdge e a' (if e.o.varWidth then b' else lastSidesFw a' b') (st'.buf.count == 2) st'.out).2
      rw [hfw]
      exact Emits.mono (fun v hv => hv.advOK hsb hlast) (lastEdge_emits e a' (lastSidesFw a' b') (st'.buf.count == 2) st'.out)
    refine s2.trans ?_
    show Emits _ _ (firstEdge e (if st'.buf.count > 2 then st'.firsts.headD a' else a') _ _)
    rw [hfirst]
    exact Emits.mono (fun v hv => hv.advOK hFs hF) (firstEdge_emits e _ _ _)
  · show (lastEdge e a' (if e.o.varWidth then b' else lastSidesFw a' b') (st'.buf.count == 2) st'.out).1.advancement = _
    rw [hfw, lastEdge_adv]
    rfl

/-- the window of a polyline sub-path that began at `(i0, p0)` with start value `s0`, between two `line_to`s, against the
table `T` of the WHOLE sub-path (fixed while the points are fed); `rest`: the points still to come, `o0`: the output when
the sub-path began.  `one`: only the first point is kept so far.
`win`: two or more are; `a, b` the last two, `b` still waiting for its advancement (or holding the value it
will get); the part `pre` of the table is behind the window, the rest is still to come.  Only `close()` reads `hF`, `hP1`, the
full `firsts` of `hfirst` and `ha` (`SubWin.end_`, `closed = true`); `end_with_caps` needs the head of `firsts` and `h0`. -/
inductive SubWin (e : Env α) (s0 : α) (i0 : Nat) (p0 : P α) (T : List (Nat × P α × α)) (o0 : Out α) :
    St α → List (Nat × P α) → Prop
  | one {st : St α} {rest : List (Nat × P α)} (hwf : WF st.buf) (hc : st.buf.count = 1)
      (hl : st.buf.last = some (EP.mk' p0 e.hwFw s0 e.o.join (.endpoint i0) false))
      (hs : st.subPathStartAdvancement = s0)
      (hT : T = advTable s0 ((i0, p0) :: keptFrom e.thr p0 rest))
      (hout : Emits (AdvOK T) o0 st.out) : SubWin e s0 i0 p0 T o0 st rest
  | win {st : St α} {rest : List (Nat × P α)} {a b F : EP α} {ia ib : Nat} {P1 : P α}
      {pre : List (Nat × P α × α)}
      (hwf : WF st.buf) (hab : st.buf.lastTwo = some (a, b)) (hb : Fresh e b)
      (hsb : b.src = .endpoint ib)
      (hadv : Pending a b)
      (hfirst : FirstsOK st a b F P1)
      (hF : Fresh e F) (hFs : F.src = .endpoint i0) (hFp : F.position = p0) (hFa : F.advancement = s0)
      (hP1 : pointsAreTooClose e.thr p0 P1 = false)
      (hs : st.subPathStartAdvancement = s0)
      (hT : T = pre ++ advTable (a.advancement + len (b.position - a.position))
              ((ib, b.position) :: keptFrom e.thr b.position rest))
      (ha : (ia, a.position, a.advancement) ∈ pre) (h0 : (i0, p0, s0) ∈ pre)
      (hout : Emits (AdvOK T) o0 st.out) : SubWin e s0 i0 p0 T o0 st rest

theorem SubWin.begin_ {e : Env α} {s0 : α} {i0 : Nat} {p0 : P α} {st : St α} (pts : List (Nat × P α))
    (hwf : WF st.buf) (hc : st.buf.count = 1)
    (hl : st.buf.last = some (EP.mk' p0 e.hwFw s0 e.o.join (.endpoint i0) false))
    (hs : st.subPathStartAdvancement = s0) :
    SubWin e s0 i0 p0 (advTable s0 ((i0, p0) :: keptFrom e.thr p0 pts)) st.out st pts :=
  .one hwf hc hl hs rfl (Emits.refl _ _)

theorem SubWin.step {e : Env α} (hnan : Transc.isNaN (nan : α) = true) {s0 : α} {i0 : Nat} {p0 : P α}
    {T : List (Nat × P α × α)} {o0 : Out α} {st : St α} {q : Nat × P α} {rest : List (Nat × P α)}
    (h : SubWin e s0 i0 p0 T o0 st (q :: rest)) :
    SubWin e s0 i0 p0 T o0 (fwStep e st (linePt e q)).1 rest := by
  cases h with
  | one hwf hc hl hs hT hout =>
    by_cases hclose : pointsAreTooClose e.thr p0 q.2 = true
    · rw [fwStep_merged (by rw [tooClose_eq hl]; exact hclose)]
      exact .one hwf hc hl hs (by rw [hT, keptFrom_close _ hclose]) hout
    · have hfar : pointsAreTooClose e.thr p0 q.2 = false := by simpa using hclose
      obtain ⟨b2, est2, hwf2, hcnt, hab⟩ := fwStep_second (e := e) hwf hc hl (linePt e q) hfar
      rw [est2]
      refine .win (F := (firstEdgeSetup (EP.mk' p0 e.hwFw s0 e.o.join (.endpoint i0) false) (linePt e q)).1)
        (P1 := q.2) (ia := i0) (ib := q.1) (pre := [(i0, p0, s0)]) hwf2 hab ⟨rfl, rfl, rfl, rfl, rfl⟩ rfl
        (.done ?_) (Or.inl ⟨hcnt, rfl, rfl⟩) ⟨rfl, rfl, rfl, rfl, rfl⟩ rfl rfl rfl hfar hs ?_
        (List.mem_singleton.mpr rfl) (List.mem_singleton.mpr rfl) hout
      · show (if Transc.isNaN (nan : α) then s0 + len (q.2 - p0) else nan) = s0 + len (q.2 - p0)
        rw [hnan]; rfl
      · rw [hT, keptFrom_far _ hfar]; rfl
  | win hwf hab hb hsb hadv hfirst hF hFs hFp hFa hP1 hs hT ha h0 hout =>
    rename_i a b F ia ib P1 pre
    have hlast := hwf.lastTwo_last _ _ hab
    by_cases hclose : pointsAreTooClose e.thr b.position q.2 = true
    · rw [fwStep_merged (by rw [tooClose_eq hlast]; exact hclose)]
      exact .win hwf hab hb hsb hadv hfirst hF hFs hFp hFa hP1 hs
        (by rw [hT, keptFrom_close _ hclose]) ha h0 hout
    · have hfar : pointsAreTooClose e.thr b.position (linePt e q).position = false := by
        show pointsAreTooClose e.thr b.position q.2 = false; simpa using hclose
      obtain ⟨b1, h1, h2, h3, h4, h5, h6, h7, h8⟩ := fwStep_join_advs hwf hab hb (linePt e q) hfar
      rw [joinAdv_eq hnan hadv] at h5 h6
      -- the entry of `b` moves behind the window
      have hT' : T = (pre ++ [(ib, b.position, a.advancement + len (b.position - a.position))])
          ++ advTable (b1.advancement + len ((linePt e q).position - b1.position))
              ((q.1, (linePt e q).position) :: keptFrom e.thr (linePt e q).position rest) := by
        rw [hT, keptFrom_far _ hfar, h5, h3, List.append_assoc]; rfl
      have hbT : (ib, b.position, a.advancement + len (b.position - a.position)) ∈ T := by
        rw [hT']; simp
      refine .win (F := F) (P1 := P1) (ia := ib) h2 h1 (fresh_mk' e _ _ _) rfl (.nan rfl)
        (Or.inr ⟨h7, ?_, rfl⟩) hF hFs hFp hFa hP1 ((fwStep_sps e st _).trans hs) hT'
        (by rw [h3, h5]; simp) (by simp [h0])
        (hout.trans (Emits.mono (fun v hv => hv.advOK hsb hbT) h6))
      rw [h8]
      rcases hfirst with ⟨hc, rfl, hp⟩ | ⟨hc, hf, _⟩
      · simp only [hc, beq_self_eq_true, if_true]
        exact ⟨b1, rfl, by rw [h3]; exact hp⟩
      · rw [show (st.buf.count == 2) = false by simp [hc]]; exact hf

theorem SubWin.feed {e : Env α} (hnan : Transc.isNaN (nan : α) = true) {s0 : α} {i0 : Nat} {p0 : P α}
    {T : List (Nat × P α × α)} {o0 : Out α} : ∀ (pts : List (Nat × P α)) {st : St α},
    SubWin e s0 i0 p0 T o0 st pts →
    SubWin e s0 i0 p0 T o0 (pts.foldl (fun s q => (fwStep e s (linePt e q)).1) st) []
  | [], _, h => h
  | _ :: r, _, h => SubWin.feed hnan r (h.step hnan)

/-- the extra table entries of a closed sub-path (see the header of `StrokeAdvClose`): none when `close()` does not run
(fewer than three kept points); else the first point's join (start + perimeter), or — first point
merged into the last kept point `l` — `l` moved onto `p0` with its join and the two re-created
vertices under `l`'s id.  As stated the relation is weaker than `close_advs`: `X = []` is always allowed, and the
moved point's join carries `A + |p0 − p|` for SOME entry `(i, p, A)` of the table (in the run: the second-to-last kept point) -/
def CloseX (thr s0 : α) (i0 : Nat) (p0 : P α) (T X : List (Nat × P α × α)) : Prop :=
  X = [] ∨ ∃ il pl Al, T.getLast? = some (il, pl, Al) ∧
    ((pointsAreTooClose thr pl p0 = false ∧ X = [(i0, p0, Al + len (p0 - pl))])
     ∨ (pointsAreTooClose thr pl p0 = true ∧ ∃ ia pa Aa, (ia, pa, Aa) ∈ T
          ∧ X = [(il, p0, Aa + len (p0 - pa)), (il, p0, s0)]))

theorem SubWin.end_ {e : Env α} (hfw : e.o.varWidth = false) (hnan : Transc.isNaN (nan : α) = true)
    {s0 : α} {i0 : Nat} {p0 : P α}
    {T : List (Nat × P α × α)} {o0 : Out α} {st : St α} (h : SubWin e s0 i0 p0 T o0 st []) (closed : Bool) :
    ∃ X, (closed = false → X = []) ∧ CloseX e.thr s0 i0 p0 T X
      ∧ Emits (AdvOK (T ++ X)) o0 (endSub e (fwStep e) st closed).out
      ∧ (T.getLast?.map (·.2.2) = some (endSub e (fwStep e) st closed).subPathStartAdvancement
         ∨ (closed = true ∧ (endSub e (fwStep e) st closed).subPathStartAdvancement = s0)) := by
  cases h with
  | one hwf hc hl hs hT hout =>
    -- a single kept point: the empty cap, if at all
    have hg := (get_zero_of_last hc).trans hl
    have hT1 : T = [(i0, p0, s0)] := hT
    obtain ⟨k1, _, k3⟩ := endSub_one e (fwStep e) hc closed
    refine ⟨[], fun _ => rfl, Or.inl rfl, ?_, Or.inl (by rw [k3, hs, hT1]; rfl)⟩
    rw [List.append_nil, k1]
    split_ifs
    · exact hout.trans (Emits.mono (fun v hv => hv.advOK rfl (hT1 ▸ List.mem_singleton.mpr rfl)) (emptyCap_emits e st _ hg))
    · exact hout
  | win hwf hab hb hsb hadv hfirst hF hFs hFp hFa hP1 hs hT ha h0 hout =>
    rename_i a b F ia ib P1 pre
    subst hFp hFa
    have hT' : T = pre ++ [(ib, b.position, a.advancement + len (b.position - a.position))] := hT
    have hTl : T.getLast? = some (ib, b.position, a.advancement + len (b.position - a.position)) := by
      rw [hT']; simp
    have hTa : (ia, a.position, a.advancement) ∈ T := by rw [hT']; simp [ha]
    have hT0 : (i0, F.position, F.advancement) ∈ T := by rw [hT']; simp [h0]
    -- `end_with_caps`: `end(false)`, and `end(true)` with two kept points; stated for any `c` so that it serves both
    have hopen : ∀ c : Bool, ∃ X, (c = false → X = []) ∧ CloseX e.thr F.advancement i0 F.position T X
        ∧ Emits (AdvOK (T ++ X)) o0 (endSub e (fwStep e) st false).out
        ∧ (T.getLast?.map (·.2.2) = some (endSub e (fwStep e) st false).subPathStartAdvancement
           ∨ (c = true ∧ (endSub e (fwStep e) st false).subPathStartAdvancement = F.advancement)) := fun c => by
      obtain ⟨k1, k4⟩ := endSub_open_advs hfw hab hsb (List.mem_of_getLast? hTl) hfirst.head hFs hT0
      exact ⟨[], fun _ => rfl, Or.inl rfl, by rw [List.append_nil]; exact hout.trans k1, Or.inl (by rw [k4, hTl]; rfl)⟩
    cases closed with
    | false => exact hopen false
    | true =>
    rcases hfirst with ⟨hc2, _, _⟩ | ⟨hc3, ⟨f1, hfs, rfl⟩, hbn⟩
    · rw [endSub_closed_two e _ st hc2]; exact hopen true
    · -- three or more: `close()`
      rw [endSub_closed e (fwStep e) st (by omega)]
      obtain ⟨c1, c2, c3, c4⟩ := close_advs (e := e) hnan hwf hab hc3 hfs hF hb hbn hP1
      have hsp : (close (fwStep e) st).subPathStartAdvancement = F.advancement := c4.trans hs
      have hl : ∀ X, Emits (AdvOK (T ++ X)) o0 st.out :=
        fun X => Emits.mono (fun v => AdvOK.mono (List.subset_append_left _ _)) hout
      by_cases hm : pointsAreTooClose e.thr b.position F.position = true
      · refine ⟨[(ib, F.position, a.advancement + len (F.position - a.position)), (ib, F.position, F.advancement)],
          fun h => Bool.noConfusion h,
          Or.inr ⟨ib, b.position, _, hTl, Or.inr ⟨hm, ia, a.position, a.advancement, hTa, rfl⟩⟩,
          (hl _).trans (Emits.mono ?_ (c2 hm)), Or.inr ⟨rfl, hsp⟩⟩
        rintro v (hv | hv) <;> exact hv.advOK hsb (List.mem_append_right _ (by simp))
      · have hm' : pointsAreTooClose e.thr b.position F.position = false := by simpa using hm
        refine ⟨[(i0, F.position, a.advancement + len (b.position - a.position) + len (F.position - b.position))],
          fun h => Bool.noConfusion h, Or.inr ⟨ib, b.position, _, hTl, Or.inl ⟨hm', rfl⟩⟩,
          (hl _).trans (Emits.mono ?_ (c1 hm')), Or.inr ⟨rfl, hsp⟩⟩
        rintro v (hv | hv | hv)
        · exact hv.advOK hsb (List.mem_append_left _ (List.mem_of_getLast? hTl))
        · exact hv.advOK hFs (List.mem_append_right _ (by simp))
        · exact hv.advOK hFs (List.mem_append_left _ hT0)

/-- `subEvsC i0 p0 pts false` -/
def subEvsM (i0 : Nat) (p0 : P α) (pts : List (Nat × P α)) : List (IdEv α) :=
  IdEv.begin i0 p0 :: (lineEvs pts ++ [IdEv.end_ false])

theorem subpath_advancement_m (e : Env α) (store : Nat → List α) (hfw : e.o.varWidth = false)
    (hnan : Transc.isNaN (nan : α) = true) (r0 : Run α) (h0 : Idle r0)
    (i0 : Nat) (p0 : P α) (pts : List (Nat × P α)) :
    Idle (runFrom e store r0 (subEvsM i0 p0 pts))
    ∧ Emits (AdvOK (advTable r0.st.subPathStartAdvancement ((i0, p0) :: keptFrom e.thr p0 pts)))
        r0.st.out (runFrom e store r0 (subEvsM i0 p0 pts)).st.out
    ∧ ((advTable r0.st.subPathStartAdvancement ((i0, p0) :: keptFrom e.thr p0 pts)).getLast?).map (·.2.2)
        = some (runFrom e store r0 (subEvsM i0 p0 pts)).st.subPathStartAdvancement := by
  obtain ⟨st1, hwf1, hc1, hl1, hs1, hout1, hst, hp⟩ := runFrom_subpath e store hfw r0 h0 i0 p0 pts false
  obtain ⟨X, x0, _, k1, k4⟩ := ((SubWin.begin_ pts hwf1 hc1 hl1 hs1).feed hnan pts).end_ hfw hnan false
  obtain rfl := x0 rfl
  rw [List.append_nil, hout1] at k1
  exact ⟨hp, hst ▸ k1, hst ▸ k4.resolve_right fun h => Bool.noConfusion h.1⟩

/-- `begin p0`, a `line_to` per point, `end(closed)` -/
def subEvsC (i0 : Nat) (p0 : P α) (pts : List (Nat × P α)) (closed : Bool) : List (IdEv α) :=
  IdEv.begin i0 p0 :: (lineEvs pts ++ [IdEv.end_ closed])

/-- an open polyline sub-path: its first point and the `line_to` points (any number, merged or not) -/
structure SubM (α : Type) where
  i0 : Nat
  p0 : P α
  pts : List (Nat × P α)

def pathEvsM (subs : List (SubM α)) : List (IdEv α) := subs.flatMap (fun s => subEvsM s.i0 s.p0 s.pts)

/-- the table of a path over the kept points of each sub-path; every sub-path continues where the one
before it ended (a sub-path with a single kept point leaves the value alone) -/
def pathTableM (thr : α) (a : α) : List (SubM α) → List (Nat × P α × α)
  | [] => []
  | s :: r => advTable a ((s.i0, s.p0) :: keptFrom thr s.p0 s.pts)
      ++ pathTableM thr (lastAdv a (advTable a ((s.i0, s.p0) :: keptFrom thr s.p0 s.pts))) r

/-- a polyline sub-path, open or closed -/
structure SubC (α : Type) where
  i0 : Nat
  p0 : P α
  pts : List (Nat × P α)
  closed : Bool

def pathEvsC (subs : List (SubC α)) : List (IdEv α) := subs.flatMap (fun s => subEvsC s.i0 s.p0 s.pts s.closed)

/-- a vertex agrees with the advancement bookkeeping of the path whose first sub-path starts at `a`:
it agrees with the table of some sub-path (kept points, plus `CloseX` for a closed one), where each
sub-path starts at the value the table of the previous one ends with — or, after a CLOSED sub-path, at the
same value as that sub-path (in the run: when `close()` ran, three or more kept points; the relation allows it after
every closed sub-path) -/
inductive PathAdv (thr : α) : α → List (SubC α) → VData α → Prop
  | here (a : α) (s : SubC α) (r : List (SubC α)) (v : VData α) (X : List (Nat × P α × α)) :
      (s.closed = false → X = []) →
      CloseX thr a s.i0 s.p0 (advTable a ((s.i0, s.p0) :: keptFrom thr s.p0 s.pts)) X →
      AdvOK (advTable a ((s.i0, s.p0) :: keptFrom thr s.p0 s.pts) ++ X) v → PathAdv thr a (s :: r) v
  | there (a a' : α) (s : SubC α) (r : List (SubC α)) (v : VData α) :
      (a' = lastAdv a (advTable a ((s.i0, s.p0) :: keptFrom thr s.p0 s.pts)) ∨ (s.closed = true ∧ a' = a)) →
      PathAdv thr a' r v → PathAdv thr a (s :: r) v

/-- **a path, sub-path by sub-path**: if every sub-path (with `ok s`), run from an idle state with start value `a`,
leaves the run idle, emits `Q1 a s` and ends with a start value `a'` such that `nxt a s a'`, then the path emits
`Q a subs`, for any `Q` that holds of the head's vertices (`here`) and is inherited from the tail (`there`) -/
theorem path_from {S : Type} (e : Env α) (store : Nat → List α) (evs : S → List (IdEv α)) {ok : S → Prop}
    {Q : α → List S → VData α → Prop} {Q1 : α → S → VData α → Prop} {nxt : α → S → α → Prop}
    (hsub : ∀ (r0 : Run α) (s : S), ok s → Idle r0 → Idle (runFrom e store r0 (evs s))
      ∧ Emits (Q1 r0.st.subPathStartAdvancement s) r0.st.out (runFrom e store r0 (evs s)).st.out
      ∧ nxt r0.st.subPathStartAdvancement s (runFrom e store r0 (evs s)).st.subPathStartAdvancement)
    (here : ∀ a s r v, Q1 a s v → Q a (s :: r) v)
    (there : ∀ a a' s r v, nxt a s a' → Q a' r v → Q a (s :: r) v) :
    ∀ (subs : List S) (r0 : Run α), (∀ s ∈ subs, ok s) → Idle r0 →
      Idle (runFrom e store r0 (subs.flatMap evs))
      ∧ Emits (Q r0.st.subPathStartAdvancement subs) r0.st.out (runFrom e store r0 (subs.flatMap evs)).st.out
  | [], r0, _, h0 => ⟨h0, Emits.refl _ _⟩
  | s :: r, r0, hok, h0 => by
    obtain ⟨k1, k2, k3⟩ := hsub r0 s (hok s (by simp)) h0
    rw [List.flatMap_cons, runFrom_append]
    obtain ⟨j1, j2⟩ := path_from e store evs hsub here there r _ (fun x hx => hok x (by simp [hx])) k1
    exact ⟨j1, (Emits.mono (here _ s r) k2).trans (Emits.mono (there _ _ s r · k3) j2)⟩

theorem keptFrom_noMerge (thr : α) : ∀ (pts : List (Nat × P α)) (p : P α),
    NoMerge thr (p :: pts.map (·.2)) → keptFrom thr p pts = pts := by
  intro pts
  induction pts with
  | nil => intro _ _; rfl
  | cons q r ih =>
    intro p hm
    rw [keptFrom_far _ hm.1, ih q.2 hm.2]

/-- **advancement of a fixed-width polyline** (any scalar type).  Fixed line width, a sub-path
`begin p0, line_to p1, line_to …, end(false)` at the start of a tessellation, none of whose points is
merged (`NoMerge`), every join kind and cap, `is_nan(NaN) = true`:
every emitted vertex names an endpoint `k` of the input as its source, has that endpoint's position
as `position_on_path`, and its advancement is entry `k` of `advTable`: `0` for the first point,
`a_{k-1} + |p_k − p_{k-1}|` (`Vector::length`, the model's own additions in the model's order) for
the `k`-th — the sum of the lengths of the first `k` edges. -/
theorem polyline_advancement (e : Env α) (store : Nat → List α) (hfw : e.o.varWidth = false)
    (hnan : Transc.isNaN (nan : α) = true)
    (i0 i1 : Nat) (p0 p1 : P α) (rest : List (Nat × P α))
    (hm : NoMerge e.thr (p0 :: p1 :: rest.map (·.2))) :
    ∀ v ∈ (runEvents e store (IdEv.begin i0 p0 :: IdEv.line i1 p1 :: (lineEvs rest ++ [IdEv.end_ false]))).st.out.verts,
      AdvOK (advTable zero ((i0, p0) :: (i1, p1) :: rest)) v := by
  have h := (subpath_advancement_m e store hfw hnan _ idle_new i0 p0 ((i1, p1) :: rest)).2.1
  rw [keptFrom_noMerge e.thr ((i1, p1) :: rest) p0 hm] at h
  exact Emits.of_new h

end
end Lyon.C05c