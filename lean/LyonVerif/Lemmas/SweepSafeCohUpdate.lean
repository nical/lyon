/-
  SPAN / WINDING COHERENCE: `update_active_edges` (`handle_intersections` changes neither a
  winding nor a merge flag: `RelU` is an `IxInv`; the signatures of the spliced active list, `NewSt`).
-/
import LyonVerif.Lemmas.SweepSafeCohBelow

set_option linter.unusedSectionVars false
set_option mvcgen.warning false

namespace Lyon.SweepCoh
open Lyon Lyon.Scalar Lyon.Mono Lyon.Sweep Lyon.EQ Lyon.SweepSafe
open Std.Do

variable {α : Type} [Scalar α] [Wide α]
variable {A : List String}

structure RelU (s0 : St α) (scan : Scan) (Z : Nat) (W : List Int) (s : St α) : Prop where
  rel : RelZ s0 scan Z s
  bw : bwOf s.below = W

theorem RelZ.set_active {s0 : St α} {scan : Scan} {Z : Nat} {s s' : St α} {i : Nat} {v e : ActiveEdge α}
    (h : RelZ s0 scan Z s) (he : s.active[i]? = some e) (h2 : s'.active = s.active.setIfInBounds i v)
    (hv : sigOf v = sigOf e) (h1 : s'.spans = s.spans) (h3 : s'.rule = s.rule)
    (h4 : s'.tolerance = s.tolerance) : RelZ s0 scan Z s' := by
  refine ⟨h1 ▸ h.live, by rw [h1]; exact h.size, by rw [h2]; simp [h.asize], ?_, ?_, by rw [h3]; exact h.rule,
    by rw [h4]; exact h.tol⟩
  · intro k hk; rw [h2, sig_set he hv]; exact h.sig k hk
  · intro hm; rw [h2, sig_set he hv]; exact h.merged hm

theorem relUIx (s0 : St α) (scan : Scan) (Z : Nat) (W : List Int) : IxInv (RelU s0 scan Z W) s0.active.size W :=
  ⟨fun _ h => h.rel.asize, fun _ h => h.bw,
    fun _ _ _ _ _ _ h he hv => ⟨h.rel.set_active he rfl hv rfl rfl rfl, h.bw⟩,
    fun _ _ h hb => ⟨(relZ_frame s0 scan Z).apply h.rel _ rfl rfl rfl rfl, hb⟩⟩

/-- the signatures of the active list after the event -/
def newSigs (s0 : St α) (scan : Scan) (W : List Int) : List (Bool × Int) :=
  (sigs s0).take scan.aboveStart ++ (if scan.mergeEvent then [(true, (0 : Int))] else []) ++
    W.map (fun k => (false, k)) ++ (sigs s0).drop scan.aboveEnd

/-- the state after `update_active_edges`, relative to the scanned state -/
structure NewSt (s0 : St α) (scan : Scan) (Z : Nat) (W : List Int) (s : St α) : Prop where
  live : SomeExcept [] s.spans
  size : s.spans.size = Z
  rule : s.rule = s0.rule
  tol : s.tolerance = s0.tolerance
  sg : sigs s = newSigs s0 scan W

theorem relZ_sigs_take {s0 : St α} {scan : Scan} {Z : Nat} {s : St α} (h : RelZ s0 scan Z s) :
    (sigs s).take scan.aboveStart = (sigs s0).take scan.aboveStart := by
  apply List.ext_getElem?
  intro k
  simp only [List.getElem?_take, sigs, List.getElem?_map, Array.getElem?_toList]
  split
  · rename_i hk
    exact h.sig k (fun _ => by omega)
  · rfl

theorem relZ_sigs_drop {s0 : St α} {scan : Scan} {Z : Nat} {s : St α} (h : RelZ s0 scan Z s)
    (hm : scan.mergeEvent = true → scan.aboveStart < scan.aboveEnd) :
    (sigs s).drop scan.aboveEnd = (sigs s0).drop scan.aboveEnd := by
  apply List.ext_getElem?
  intro k
  simp only [List.getElem?_drop, sigs, List.getElem?_map, Array.getElem?_toList]
  exact h.sig _ (fun hme => by have := hm hme; omega)

theorem relZ_sigs_take_merge {s0 : St α} {scan : Scan} {Z : Nat} {s : St α} (h : RelZ s0 scan Z s)
    (hm : scan.mergeEvent = true) (hlt : scan.aboveStart < s0.active.size) :
    (sigs s).take (scan.aboveStart + 1) = (sigs s0).take scan.aboveStart ++ [(true, 0)] := by
  have hlen : scan.aboveStart < (sigs s).length := by simp [sigs, h.asize]; exact hlt
  rw [List.take_succ_eq_append_getElem hlen, relZ_sigs_take h]
  congr 2
  have := h.merged hm
  simp only [sigs, List.getElem_map, Array.getElem_toList]
  have hlt' : scan.aboveStart < s.active.size := by rw [h.asize]; exact hlt
  simp only [hlt', Array.getElem?_eq_getElem, Option.map_some, Option.some.injEq] at this
  exact this

theorem ar_start_le {s0 : St α} {scan : Scan} (hok : ScanOk s0 scan) (hG : ScanAgree s0 scan) :
    (aboveResult scan).aboveStart ≤ scan.aboveEnd ∧ scan.aboveEnd ≤ s0.active.size := by
  refine ⟨?_, hok.end_le⟩
  unfold aboveResult
  split
  · rename_i hm
    have := hG.1 hm
    dsimp only; omega
  · exact hok.start_le

theorem newSt_of {s0 : St α} {scan : Scan} (hok : ScanOk s0 scan) (hG : ScanAgree s0 scan)
    {Z : Nat} {W : List Int} {s s' : St α} (h : RelU s0 scan Z W s) (f : PendingEdge α → ActiveEdge α)
    (hf : ∀ e, sigOf (f e) = (false, e.winding))
    (h1 : s'.spans = s.spans) (h2 : s'.rule = s.rule) (h3 : s'.tolerance = s.tolerance)
    (h4 : s'.active = s.active.extract 0 (aboveResult scan).aboveStart ++ s.below.map f ++
      s.active.extract scan.aboveEnd s.active.size) : NewSt s0 scan Z W s' := by
  refine ⟨h1 ▸ h.rel.live, by rw [h1]; exact h.rel.size, by rw [h2]; exact h.rel.rule,
    by rw [h3]; exact h.rel.tol, ?_⟩
  have hle := ar_start_le hok hG
  unfold sigs newSigs
  rw [h4]
  simp only [Array.toList_append, Array.toList_extract, Array.toList_map, List.map_append, List.map_map]
  have e1 : (List.extract s.active.toList 0 (aboveResult scan).aboveStart).map sigOf =
      (sigs s).take (aboveResult scan).aboveStart := by
    simp [List.extract, sigs, List.map_take]
  have e2 : (List.extract s.active.toList scan.aboveEnd s.active.size).map sigOf =
      (sigs s).drop scan.aboveEnd := by
    simp only [List.extract, sigs, List.map_drop, List.map_take]
    apply List.take_of_length_le
    simp
  have e3 : List.map (sigOf ∘ f) s.below.toList = W.map (fun k => (false, k)) := by
    rw [← h.bw]
    unfold bwOf
    rw [List.map_map]
    apply List.map_congr_left
    intro e _
    exact hf e
  rw [e1, e2, e3, relZ_sigs_drop h.rel (fun hm => hG.1 hm)]
  unfold aboveResult
  by_cases hm : scan.mergeEvent = true
  · simp only [hm, if_true]
    rw [relZ_sigs_take_merge h.rel hm (hok.merge_lt hm)]
  · simp only [hm, Bool.false_eq_true, if_false]
    rw [relZ_sigs_take h.rel]
    simp

end Lyon.SweepCoh
