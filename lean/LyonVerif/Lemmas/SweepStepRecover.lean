/-
  `sort_active_edges` and `recover_from_error` rearrange the active list (the first touches nothing
  else but coverage bits, the second does span bookkeeping too).  Stated once, as relations between
  the state before and after (`Resorted`, `Rearr`), so that an invariant about the edges needs no symbolic
  run of its own through the two functions (`recoverFromError_rearr` is in `Lemmas/SweepStepKeeps.lean`).

  Of the rearrangement the relations record INCLUSION only: every active edge afterwards is an active edge
  before.  That is what an invariant that holds edge by edge needs.  That the new list is a permutation of the
  old one (`insertionSort_perm`, `swapBack_perm` in `Lemmas/SweepStep.lean`) is not carried: an invariant that
  counts edges has to walk the two functions itself.
-/
import LyonVerif.Lemmas.SweepStep

set_option linter.unusedSectionVars false
set_option mvcgen.warning false

namespace Lyon.Sweep
open Lyon Lyon.Scalar Lyon.Mono Lyon.EQ
open Std.Do

variable {α : Type} [Scalar α] [Wide α]

theorem swapBack_all {P : ActiveEdge α → Prop} {rule : Slab.Rule} {f : Nat} {a a' : Array (ActiveEdge α)} {idx : Nat} {w : Int}
    (he : swapBack rule f a idx w = .ok a') (h : ∀ e ∈ a, P e) : ∀ e ∈ a', P e :=
  fun e hm => h e (Array.mem_toList_iff.mp ((swapBack_perm rule f a idx w a' he).mem_iff.mp (Array.mem_toList_iff.mpr hm)))

/-- the last two active edges swapped back when the last one is a merge vertex -/
def swapLast (a : Array (ActiveEdge α)) : Array (ActiveEdge α) :=
  match a[a.size-1]?, a[a.size-2]? with
  | some l, some p => if a.size > 1 && l.isMerge then (a.setIfInBounds (a.size-1) p).setIfInBounds (a.size-2) l else a
  | _, _ => a

theorem swapLast_all {P : ActiveEdge α → Prop} {a : Array (ActiveEdge α)} (h : ∀ e ∈ a, P e) : ∀ e ∈ swapLast a, P e := by
  unfold swapLast
  split
  · rename_i l p hl hp
    split
    · exact all_set (all_set h _ _ (h p (Array.mem_of_getElem? hp))) _ _ (h l (Array.mem_of_getElem? hl))
    · exact h
  · exact h

/-- the span repair of `recover_from_error` (same text as in the model): a trailing merge vertex is
swapped back, then one span per `in` gap of the winding fold; `s` = the state after the sort -/
def recSpans (s : St α) : SM α Unit := do
  let active := swapLast s.active
  modify fun s' => { s' with active := active }
  let mut w := WindingState.new
  for e in active do
    if e.isMerge then
      w := { w with spanIndex := w.spanIndex + 1 }
    else
      w := w.update s.rule e.winding
    if w.spanIndex ≥ ((← get).spans.size : Int) then
      mark 20
      beginSpan w.spanIndex e.from_ e.fromId
  let target := w.spanIndex + 1
  let s ← get
  let keep := target.toNat
  if s.spans.size > keep then
    for _ in [0:s.spans.size - keep] do
      let s' ← get
      let last := s'.spans.size - 1
      match s'.spans.getD last none with
      | none => throw (.panic "dead span")
      | some t =>
        set { s' with spans := s'.spans.pop, cov := s'.cov ||| (1 <<< 21) }
        emitTris t.tess.tris

/-- for the `SweepSafe*` files, which prove the span repair on its own, from any state with live spans
(`recSpans_spec`); the walk for an arbitrary invariant (`recoverFromError_keeps`) and the reset simulation have
nothing to say of `recSpans` alone and go through the model's text -/
theorem recoverFromError_eq : (recoverFromError : SM α Unit) = (do
    mark 0
    sortActiveEdges
    let s ← get
    markIf (s.active.size > 1 && (s.active[s.active.size-1]?.map (·.isMerge)).getD false) 24
    recSpans s) := by
  unfold recoverFromError recSpans
  simp only [ite_mark_bind]
  rfl

/-- `s'` is `s` with another active list, whose edges are active edges of `s` (inclusion; nothing is said about
how often an edge occurs), and with coverage bits added -/
structure Resorted (s s' : St α) : Prop where
  /-- the fields not named here are those of `s` -/
  same : { s' with active := s.active, cov := s.cov } = s
  cov : CovLe s.cov s'.cov
  active : ∀ e ∈ s'.active, e ∈ s.active

theorem Resorted.refl (s : St α) : Resorted s s := ⟨rfl, .refl _, fun _ h => h⟩

theorem Resorted.setCov {s0 s : St α} (h : Resorted s0 s) {c : Nat} (hc : CovLe s.cov c) : Resorted s0 (s.setCov c) :=
  ⟨h.same, h.cov.trans hc, h.active⟩

theorem Resorted.setActive {s0 s : St α} (h : Resorted s0 s) {a : Array (ActiveEdge α)} (ha : ∀ e ∈ a, e ∈ s0.active) :
    Resorted s0 { s with active := a } :=
  ⟨h.same, h.cov, ha⟩

theorem sortActiveEdges_resorted (s0 : St α) :
    ⦃fun s => ⌜Resorted s0 s⌝⦄ (sortActiveEdges : SM α Unit)
    ⦃both (Resorted s0)⦄ := by
  unfold sortActiveEdges
  have h1 := fun b => (OnlyCov.mark (α := α) b).keeps (P := Resorted s0) fun _ _ hc h => h.setCov hc
  mvcgen [h1] invariants
  · both (Resorted s0)
  · post⟨fun r s => ⌜Resorted s0 s ∧ ∀ e ∈ r.2, e ∈ s0.active⌝, fun _ s => ⌜Resorted s0 s⌝⟩
  · post⟨fun r s => ⌜Resorted s0 s ∧ ∀ e ∈ r.2.1, e ∈ s0.active⌝, fun _ s => ⌜Resorted s0 s⌝⟩
  with skip
  · have hm := Array.mem_of_getElem? ‹_[_]? = some _›
    exact ⟨(‹Resorted s0 _ ∧ _›).1, all_push (‹Resorted s0 _ ∧ _›).2 _ (Resorted.active (by assumption) _ hm)⟩
  · exact ⟨‹Resorted s0 _›, all_empty⟩
  · exact (‹Resorted s0 _ ∧ _›).1
  · exact ⟨‹Resorted s0 _›, swapBack_all ‹swapBack _ _ _ _ _ = Except.ok _› (‹Resorted s0 _ ∧ _›).2⟩
  · exact (‹Resorted s0 _ ∧ _›).1
  · exact (‹Resorted s0 _ ∧ _›).1.setActive (‹Resorted s0 _ ∧ _›).2
  · exact (‹Resorted s0 _ ∧ _›).1.setActive (‹Resorted s0 _ ∧ _›).2

/-- emitting triangles (`emit_tris`, the flush of a span) adds no vertex to the output: the `out` clause of `Rearr` -/
theorem tris_vertex_mem {α : Type} {out : Array (Emit α)} (tris : List Mono.Tri) {pos : P α}
    {recs : List (P α × EdgeData α)}
    (h : Emit.vertex pos recs ∈ tris.foldl (fun o t => o.push (.tri t.1 t.2.1 t.2.2)) out) :
    Emit.vertex pos recs ∈ out := by
  induction tris generalizing out with
  | nil => exact h
  | cons t ts ih =>
    simp only [List.foldl_cons] at h
    rcases Array.mem_push.mp (ih h) with r | r
    · exact r
    · cases r

/-- `s'` is `s` up to span bookkeeping and with another active list: every active edge of `s'` is one of `s`
(inclusion; nothing is said about how often an edge occurs), coverage bits are only added, the output gained
triangles only -/
structure Rearr (s s' : St α) : Prop where
  /-- the fields not named here are those of `s` -/
  same : { s' with active := s.active, spans := s.spans, pool := s.pool, cov := s.cov, out := s.out } = s
  cov : CovLe s.cov s'.cov
  active : ∀ e ∈ s'.active, e ∈ s.active
  out : ∀ pos recs, Emit.vertex pos recs ∈ s'.out → Emit.vertex pos recs ∈ s.out

namespace Rearr
variable {s0 s s' : St α}

theorem refl (s : St α) : Rearr s s := ⟨rfl, CovLe.refl _, fun _ h => h, fun _ _ h => h⟩

theorem trans (h : Rearr s0 s) (h' : Rearr s s') : Rearr s0 s' := by
  refine ⟨?_, h.cov.trans h'.cov, fun e he => h.active e (h'.active e he), fun p r hm => h.out p r (h'.out p r hm)⟩
  have e1 := h.same
  have e2 := h'.same
  cases s0; cases s; cases s'
  cases e1; cases e2; rfl

theorem q (h : Rearr s s') : s'.q = s.q := by have e := congrArg St.q h.same; exact e
theorem below (h : Rearr s s') : s'.below = s.below := by have e := congrArg St.below h.same; exact e
theorem curPos (h : Rearr s s') : s'.curPos = s.curPos := by have e := congrArg St.curPos h.same; exact e
theorem curEvent (h : Rearr s s') : s'.curEvent = s.curEvent := by have e := congrArg St.curEvent h.same; exact e

theorem setActive (h : Rearr s0 s) {a : Array (ActiveEdge α)} (ha : ∀ e ∈ a, e ∈ s0.active) :
    Rearr s0 { s with active := a } :=
  ⟨h.same, h.cov, ha, h.out⟩

end Rearr

theorem Resorted.rearr {s s' : St α} (h : Resorted s s') : Rearr s s' := by
  refine ⟨?_, h.cov, h.active, fun _ _ hm => ?_⟩
  · have e := h.same
    cases s; cases s'; cases e; rfl
  · have e := congrArg St.out h.same
    exact (e : s'.out = s.out) ▸ hm

theorem sortActiveEdges_rearr (s0 : St α) :
    ⦃fun s => ⌜Rearr s0 s⌝⦄ (sortActiveEdges : SM α Unit) ⦃both (Rearr s0)⦄ :=
  keeps_of_rel Resorted.refl sortActiveEdges_resorted fun _ _ h r => h.trans r.rearr

end Lyon.Sweep
