/-
  Index validity for the complete stroker model `Lyon.Stroke.Full`: `end_with_caps`, `close`, `end` and the
  event loop (`runEvent`, `runEvents`) for a step function that keeps the window invariant together with a link
  between the last two window entries (`StepSpecL`): `runEvent_specL` for one event, `runEvents_link` for the run;
  `runEvent_spec`, `runEvents_spec` are their case of the trivial link (`TrivS`).  The fixed-width step is walked once for the side-point relation and the link (`RegL`, `fwStep_specGL`).
-/
import LyonVerif.Lemmas.StrokeIdxStep
import LyonVerif.Lemmas.ListFold

set_option linter.unusedSectionVars false
set_option linter.unusedVariables false

namespace Lyon.C05c
open Lyon Scalar Lyon.Stroke Lyon.Stroke.Full Lyon.C05 Lyon.C05b

section
variable {α : Type} [Scalar α] [Transc α] {c : Cls α} {G : P α → P α → P α → Prop}

theorem lastSidesFw_spec (p0 p1 : EP α) : Upd p1 (lastSidesFw p0 p1) ∧ (lastSidesFw p0 p1).ids = p1.ids :=
  ⟨⟨rfl, rfl, rfl, rfl, Or.inl rfl⟩, rfl⟩

theorem endWithCaps_eq_cap {e : Env α} {st : St α} (h : (st.mayNeedEmptyCap && st.buf.count == 1) = true) :
    endWithCaps e st = { st with out := emptyCap e st } := by
  unfold endWithCaps; simp only []; rw [if_pos h]

theorem endWithCaps_eq_none {e : Env α} {st : St α} (h : (st.mayNeedEmptyCap && st.buf.count == 1) = false)
    (h2 : st.buf.lastTwo = none) : endWithCaps e st = st := by
  unfold endWithCaps; simp only []; rw [if_neg (by simp [h])]; simp only [h2]

/-- the last edge `end_with_caps` tessellates (on the fixed-width side points); the first edge is put around it in `endWithCaps_eq_some` -/
def capsOut (e : Env α) (st : St α) (p0 p1 : EP α) : EP α × Out α :=
  lastEdge e p0 (if e.o.varWidth then p1 else lastSidesFw p0 p1) (st.buf.count == 2) st.out

theorem endWithCaps_eq_some {e : Env α} {st : St α} {p0 p1 : EP α}
    (h : (st.mayNeedEmptyCap && st.buf.count == 1) = false) (h2 : st.buf.lastTwo = some (p0, p1)) :
    endWithCaps e st = { st with
      subPathStartAdvancement := (capsOut e st p0 p1).1.advancement,
      out := firstEdge e (if st.buf.count > 2 then st.firsts.headD p0 else p0)
        (if st.buf.count > 2 then (st.firsts.drop 1).headD (capsOut e st p0 p1).1 else (capsOut e st p0 p1).1)
        (capsOut e st p0 p1).2 } := by
  unfold endWithCaps; simp only []; rw [if_neg (by simp [h])]; simp only [h2]; rfl

/-- `endWithCaps_eq_some` when the window holds two entries or more (`lastTwo` is some, so the count is not 1) -/
theorem endWithCaps_eq_two {e : Env α} {st : St α} {p0 p1 : EP α} (h2 : st.buf.lastTwo = some (p0, p1)) :
    endWithCaps e st = { st with
      subPathStartAdvancement := (capsOut e st p0 p1).1.advancement,
      out := firstEdge e (if st.buf.count > 2 then st.firsts.headD p0 else p0)
        (if st.buf.count > 2 then (st.firsts.drop 1).headD (capsOut e st p0 p1).1 else (capsOut e st p0 p1).1)
        (capsOut e st p0 p1).2 } := by
  have hc2 := WF.lastTwo_count _ _ h2
  have hc1 : (st.buf.count == 1) = false := by simp; omega
  exact endWithCaps_eq_some (by simp [hc1]) h2

theorem endWithCaps_spec {thr : α} (e : Env α) {st : St α} (hI : Inv thr c G st) :
    VSteps c.C st.out (endWithCaps e st).out ∧ (endWithCaps e st).buf = st.buf := by
  by_cases hcap : (st.mayNeedEmptyCap && st.buf.count == 1) = true
  · rw [endWithCaps_eq_cap hcap]
    refine ⟨emptyCap_spec e st ?_, rfl⟩
    intro point hp
    have h1 : st.buf.count = 1 := by
      simp only [Bool.and_eq_true, beq_iff_eq] at hcap; exact hcap.2
    exact (hI.cls1 _ ((get_zero_of_last h1).symm.trans hp)).1
  have hcap' : (st.mayNeedEmptyCap && st.buf.count == 1) = false := by simpa using hcap
  by_cases hc2 : st.buf.count < 2
  · rw [endWithCaps_eq_none hcap' (lastTwo_none hc2)]
    exact ⟨VSteps.refl _, rfl⟩
  obtain ⟨p0, p1, hxy⟩ := hI.wf.lastTwo_some (by omega)
  have hle := hI.wf.count_le
  rw [endWithCaps_eq_some hcap' hxy]
  refine ⟨?_, rfl⟩
  have hF1 : c.F p1 := hI.cls1 _ (hI.wf.lastTwo_last _ _ hxy)
  have hF0 : c.F p0 := hI.cls2 _ _ hxy
  have ua : Upd p1 (if e.o.varWidth then p1 else lastSidesFw p0 p1)
      ∧ (if e.o.varWidth then p1 else lastSidesFw p0 p1).ids = p1.ids := by
    split_ifs
    · exact ⟨Upd.refl _, rfl⟩
    · exact lastSidesFw_spec p0 p1
  unfold capsOut
  obtain ⟨s1, _, i1⟩ := lastEdge_spec (C := c.C) e p0 _ (st.buf.count == 2) st.out (Cls.F_upd hF1 ua.1).1
    (fun h => by
      have h3 : 3 ≤ st.buf.count := by
        have : st.buf.count ≠ 2 := by simpa using h
        omega
      exact ((hI.three h3 _ _ hxy).1.mono (by omega)).out0)
    (by
      rw [ua.2]
      by_cases h2 : st.buf.count = 2
      · exact Or.inl (hI.two h2 _ _ hxy).2.1
      · exact (hI.three (by omega) _ _ hxy).2)
  generalize lastEdge e p0 _ (st.buf.count == 2) st.out = r at s1 i1 ⊢
  obtain ⟨p1b, o1⟩ := r
  simp only at s1 i1 ⊢
  have hle1 := s1.next_le
  refine s1.trans ?_
  by_cases h3 : st.buf.count > 2
  · obtain ⟨f0, f1, ef, r0, g1, _⟩ := hI.firsts (by omega)
    simp only [if_pos h3, ef, List.headD_cons, List.drop_succ_cons, List.drop_zero]
    exact firstEdge_spec e f0 f1 o1 (hI.clsF f0 (by simp [ef])).1 r0 (g1.mono (by omega)).in1
  · simp only [if_neg h3]
    exact firstEdge_spec e p0 p1b o1 hF0.1 (hI.two (by omega) _ _ hxy).1 (In1.mono i1 (by omega))

/-- the position fix-up of `close` after a merged first step -/
def closeFix (st1 : St α) (added : Bool) (pos : P α) : St α :=
  if added then st1 else
    match st1.buf.last with
    | some l => st1.setLast { l with position := pos }
    | none => st1

/-- the last edge of `close` -/
def closeTail (st3 : St α) (adv : α) : St α :=
  match st3.buf.lastTwo with
  | some (q0, q1) =>
    { st3 with out := ((closeVertices q0 adv st3.out).2.addTris
        (addEdgeTriangles (closeVertices q0 adv st3.out).1.ids q1.ids)) }
  | none => st3

/-- `close()` feeds the first point again with a pending (`nan`) advancement, then the second; the vertices it
re-creates for the closing edge get the start advancement stored in `p` -/
theorem close_eq (step : StepFn α) {st : St α} {p p2 : EP α} {rest : List (EP α)}
    (h : st.firsts = p :: p2 :: rest) :
    close step st = closeTail (step (closeFix (step st { p with advancement := nan }).1
      (step st { p with advancement := nan }).2 p.position) p2).1 p.advancement := by
  unfold close closeTail closeFix; rw [h]; rfl

/-! ## the window invariant with a LINK between the last two entries

`Reg` asks for "`flattened_step` never answers skip" for EVERY triple `prev, join, next` whose `prev`
satisfies a relation `G position pos.next neg.next`.  With `LineJoin::MiterClip` no such relation exists:
the clipped front side point of `prev` lies behind `prev` ALONG THE EDGE TOWARDS THE POINT THAT FOLLOWED
IT, so the argument needs to know that `join` is that point.  The chain `close → end → event loop` is
therefore proved once, for a step function that keeps the invariant AND a link

    `Link S buf`:  for the last two entries `x, y` of the window, `S x.position x.pos.next x.neg.next y.position`

with a strong relation `S` (established whenever a point is pushed) and a weak relation `W` (what
`flattened_step` needs; `S → W`, and `S` survives as `W` when `close` moves the last point onto the first
one after a merged step: `LinkLaw.fix`).  `TrivS` is the case without a link. -/

def LK (S : P α → P α → P α → P α → Prop) (x : EP α) (q : P α) : Prop :=
  S x.position x.pos.next x.neg.next q

def Link (S : P α → P α → P α → P α → Prop) (buf : PointBuffer (EP α)) : Prop :=
  ∀ x y, buf.lastTwo = some (x, y) → LK S x y.position

/-- strong and weak link: `S → W`; `S` for `q` gives `W` for every `q'` within merge distance of `q` -/
structure LinkLaw (thr : α) (S W : P α → P α → P α → P α → Prop) : Prop where
  weaken : ∀ p a b q, S p a b q → W p a b q
  fix : ∀ p a b q q', S p a b q → pointsAreTooClose thr q q' = true → W p a b q'

variable {S W : P α → P α → P α → P α → Prop}

theorem Link.weaken {thr : α} (law : LinkLaw thr S W) {buf : PointBuffer (EP α)} (h : Link S buf) : Link W buf :=
  fun x y hxy => law.weaken _ _ _ _ (h x y hxy)

theorem Link.of_count {buf : PointBuffer (EP α)} (h : buf.count < 2) : Link S buf := by
  intro x y hxy
  rw [lastTwo_none h] at hxy; cases hxy

/-- a step function keeps the invariant and the link: it needs the weak link and re-establishes the
strong one whenever it pushes a point -/
def StepSpecL (thr : α) (c : Cls α) (G : P α → P α → P α → Prop) (S W : P α → P α → P α → P α → Prop) (step : StepFn α) : Prop :=
  ∀ (st : St α) (next : EP α), Inv thr c G st → Link W st.buf → c.F next →
    (Raw next.ids ∨ (3 ≤ st.buf.count ∧ Good st.out.nextId next.ids)) →
    StepRes thr c G st next (step st next) ∧ ((step st next).2 = true → Link S (step st next).1.buf)

theorem StepSpecL.run {thr : α} {step : StepFn α} (hstep : StepSpecL thr c G S W step) (law : LinkLaw thr S W)
    {st : St α} {next : EP α} (hI : Inv thr c G st) (hL : Link S st.buf) (hF : c.F next)
    (hn : Raw next.ids ∨ (3 ≤ st.buf.count ∧ Good st.out.nextId next.ids)) :
    StepRes thr c G st next (step st next) ∧ Link S (step st next).1.buf := by
  obtain ⟨r, l⟩ := hstep st next hI (hL.weaken law) hF hn
  refine ⟨r, ?_⟩
  cases hr : (step st next).2
  · rw [(r.merged hr).1]; exact hL
  · exact l hr

theorem close_specL {thr : α} {step : StepFn α} (hstep : StepSpecL thr c G S W step) (law : LinkLaw thr S W)
    {st : St α} (hI : Inv thr c G st) (hL : Link S st.buf) (h3 : 3 ≤ st.buf.count) :
    VSteps c.C st.out (close step st).out := by
  obtain ⟨f0, f1, hf, r0, g1, hfar⟩ := hI.firsts h3
  have hle := hI.wf.count_le
  have hF0 : c.F f0 := hI.clsF f0 (by simp [hf])
  have hF1 : c.F f1 := hI.clsF f1 (by simp [hf])
  rw [close_eq step hf]
  have up : Upd f0 { f0 with advancement := nan } := ⟨rfl, rfl, rfl, rfl, Or.inl rfl⟩
  obtain ⟨r1, l1⟩ := hstep.run law (next := { f0 with advancement := nan }) hI hL (Cls.F_upd hF0 up) (Or.inl r0)
  have key : ∃ st2 : St α, st2 = closeFix (step st { f0 with advancement := nan }).1
        (step st { f0 with advancement := nan }).2 f0.position
      ∧ Inv thr c G st2 ∧ Link W st2.buf ∧ VSteps c.C st.out st2.out ∧ st2.buf.count = 3
      ∧ ∃ l, st2.buf.last = some l ∧ l.position = f0.position := by
    refine ⟨_, rfl, ?_⟩
    cases hr : (step st { f0 with advancement := nan }).2
    · -- a merged step leaves window, `firsts` and output as they are: the fix-up is read off the state before it
      obtain ⟨e1, e2, e3, hcl⟩ := r1.merged hr
      obtain ⟨x0, z0, h0⟩ := hI.wf.lastTwo_some (by omega)
      have hl := hI.wf.lastTwo_last _ _ h0
      obtain ⟨b', hb, hI2, hc2, hl2, hlt2⟩ := InvC.setLast (y' := { z0 with position := f0.position }) hI hl
        (hI.cls1 z0 hl) rfl (fun h => by omega)
      have e : closeFix (step st { f0 with advancement := nan }).1 false f0.position
          = { (step st { f0 with advancement := nan }).1 with buf := b' } := by
        simp [closeFix, e1, hl, St.setLast, hb]
      rw [e]
      refine ⟨by unfold Inv; rw [e2, e3]; exact hI2, ?_, by rw [e3]; exact VSteps.refl _,
        by show b'.count = 3; omega, _, hl2, rfl⟩
      intro x y hxy
      obtain ⟨rfl, rfl⟩ := lastTwo_inj (hlt2 x0 z0 h0) hxy
      exact law.fix _ _ _ _ _ (hL _ _ h0) (by rw [← tooClose_eq hl]; exact hcl)
    · obtain ⟨_, ⟨n', hl, un, _⟩, hcnt⟩ := r1.added hr
      have e : closeFix (step st { f0 with advancement := nan }).1 true f0.position
          = (step st { f0 with advancement := nan }).1 := by simp [closeFix]
      rw [e]
      exact ⟨r1.inv, l1.weaken law, r1.steps, (hcnt h3).1, n', hl, un.pos⟩
  obtain ⟨st2, he, hI2, hL2, hs2, hc2, l, hl, hlp⟩ := key
  rw [← he]
  -- second step: never merged
  have g1' := g1.mono hs2.next_le
  obtain ⟨r3, _⟩ := hstep st2 f1 hI2 hL2 hF1 (Or.inr ⟨by omega, g1'⟩)
  have hr3 : (step st2 f1).2 = true := by
    cases hr : (step st2 f1).2
    · have := (r3.merged hr).2.2.2
      rw [tooClose_eq hl, hlp, hfar] at this; cases this
    · rfl
  obtain ⟨_, ⟨n3, hl3, _, id3⟩, hcnt3⟩ := r3.added hr3
  obtain ⟨hc3, _⟩ := hcnt3 (by omega)
  have hI3 := r3.inv
  have hs3 := r3.steps
  generalize (step st2 f1).1 = st3 at hI3 hs3 hl3 hc3
  obtain ⟨q0, q1, hq⟩ := hI3.wf.lastTwo_some (by omega)
  obtain rfl := hI3.wf.lastTwo_snd hq hl3
  have e : closeTail st3 f0.advancement = { st3 with out := ((closeVertices q0 f0.advancement st3.out).2.addTris
      (addEdgeTriangles (closeVertices q0 f0.advancement st3.out).1.ids q1.ids)) } := by
    simp [closeTail, hq]
  rw [e]
  refine (hs2.trans hs3).trans ?_
  exact closeVertices_spec q0 q1 f0.advancement st3.out (hI3.cls2 _ _ hq).1 (hI3.three (by omega) _ _ hq).1
    (by rw [id3]; exact g1'.mono hs3.next_le)

theorem endSub_open (e : Env α) (step : StepFn α) (st : St α) :
    endSub e step st false = { endWithCaps e st with buf := (endWithCaps e st).buf.clear, firsts := [] } := by
  unfold endSub
  simp

theorem endSub_closed (e : Env α) (step : StepFn α) (st : St α) (h3 : 3 ≤ st.buf.count) :
    endSub e step st true = { close step st with buf := (close step st).buf.clear, firsts := [] } := by
  have h1 : (st.buf.count == 1) = false := by simp; omega
  unfold endSub
  simp [h1, show 2 < st.buf.count from h3]

theorem endSub_closed_two (e : Env α) (step : StepFn α) (st : St α) (hc : st.buf.count = 2) :
    endSub e step st true = endSub e step st false := by
  unfold endSub; simp [hc]

theorem endSub_one (e : Env α) (step : StepFn α) {st : St α} (hc : st.buf.count = 1) (closed : Bool) :
    (endSub e step st closed).out = (if st.mayNeedEmptyCap || closed then emptyCap e st else st.out)
    ∧ (endSub e step st closed).buf = st.buf.clear
    ∧ (endSub e step st closed).subPathStartAdvancement = st.subPathStartAdvancement := by
  have hlt : st.buf.lastTwo = none := lastTwo_none (by omega)
  have hes : endSub e step st closed
      = { endWithCaps e { st with mayNeedEmptyCap := st.mayNeedEmptyCap || closed } with
          buf := (endWithCaps e { st with mayNeedEmptyCap := st.mayNeedEmptyCap || closed }).buf.clear, firsts := [] } := by
    unfold endSub; simp [hc]
  rw [hes]
  cases hf : (st.mayNeedEmptyCap || closed)
  · rw [endWithCaps_eq_none (st := { st with mayNeedEmptyCap := false }) (by simp) hlt]
    exact ⟨by rw [if_neg Bool.false_ne_true], rfl, rfl⟩
  · rw [endWithCaps_eq_cap (st := { st with mayNeedEmptyCap := true }) (by simp [hc])]
    exact ⟨by rw [if_pos rfl]; rfl, rfl, rfl⟩

theorem endSub_specL {thr : α} (e : Env α) {step : StepFn α} (hstep : StepSpecL thr c G S W step)
    (law : LinkLaw thr S W) {st : St α} (hI : Inv thr c G st) (hL : Link S st.buf) (closed : Bool) :
    VSteps c.C st.out (endSub e step st closed).out ∧ Inv thr c G (endSub e step st closed)
      ∧ Link S (endSub e step st closed).buf := by
  have hI0 : Inv thr c G ({ st with mayNeedEmptyCap := st.mayNeedEmptyCap || (closed && st.buf.count == 1) } : St α) := hI
  refine ⟨?_, InvC.cleared' _ _, Link.of_count (by show (0 : Nat) < 2; omega)⟩
  unfold endSub
  simp only []
  split_ifs with hc
  · exact close_specL hstep law hI0 hL (by simp at hc; exact hc.2)
  · exact (endWithCaps_spec e hI0).1

def TrivS : P α → P α → P α → P α → Prop := fun _ _ _ _ => True

theorem trivLaw (thr : α) : LinkLaw thr TrivS TrivS := ⟨fun _ _ _ _ _ => trivial, fun _ _ _ _ _ _ _ => trivial⟩

theorem StepSpec.toL {thr : α} {step : StepFn α} (h : StepSpec thr c G step) : StepSpecL thr c G TrivS TrivS step :=
  fun st next hI _ hF hn => ⟨h st next hI hF hn, fun _ _ _ _ => trivial⟩

/-- what the fixed-width step needs of the arithmetic: every function that writes the `next` side points of the point
that becomes second-newest establishes `G` and the link `S` towards the pushed point; with `G` and the weak link `W`
`flattened_step` does not answer "skip" (it would connect vertex ids that were never assigned).  Fixed width only, and
`joinFw` at `join.halfWidth` (what the model passes), unlike `Reg`: the variable-width step needs no link -/
structure RegL (e : Env α) (c : Cls α) (G : P α → P α → P α → Prop) (S W : P α → P α → P α → P α → Prop) : Prop where
  first : ∀ first next : EP α, GE G (firstEdgeSetup first next).1
    ∧ (pointsAreTooClose e.thr first.position next.position = false → LK S (firstEdgeSetup first next).1 next.position)
  joinFw : ∀ prev join next : EP α, c.F join →
    GE G (joinSidesFw e.ix prev join next e.o.miterLimit join.halfWidth)
    ∧ (pointsAreTooClose e.thr join.position next.position = false →
        LK S (joinSidesFw e.ix prev join next e.o.miterLimit join.halfWidth) next.position)
  flat : ∀ (prev join next : EP α) (d : VData α) (o : Out α), GE G (flattenedStep prev join next d o).join
    ∧ (pointsAreTooClose e.thr join.position next.position = false → LK S (flattenedStep prev join next d o).join next.position)
  noskip : ∀ (prev join next : EP α) (d : VData α) (o : Out α), GE G prev → LK W prev join.position → c.F join →
    fastPath prev join next = true → (flattenedStep prev { join with lineJoin := .miter } next d o).skip = false

theorem fwStep_specGL {e : Env α} (hreg : RegL e c G S W) : StepSpecL e.thr c G S W (fwStep e) := by
  intro st next hI hL hF hn
  by_cases hclose : st.tooClose e.thr next.position = true
  · rw [fwStep_merged hclose]; exact ⟨step_merged next _ hI hclose, fun h => by simp at h⟩
  have hclose' : st.tooClose e.thr next.position = false := by simpa using hclose
  by_cases hc2 : 2 ≤ st.buf.count
  · obtain ⟨prev, join, hxy⟩ := hI.wf.lastTwo_some hc2
    have hlast := hI.wf.lastTwo_last _ _ hxy
    have hFj : c.F join := hI.cls1 _ hlast
    have hapart : pointsAreTooClose e.thr join.position next.position = false := by
      rw [← tooClose_eq hlast]; exact hclose'
    rw [fwStep_eq_join hclose' hxy]
    obtain ⟨j', n', o', ej, uj, hg, hs, un, idn, hcase⟩ := fwJoin_specL (c := c) next hI hxy
      (fun hfp => hreg.noskip prev join next _ _ (hI.geo _ _ hxy) (hL _ _ hxy) hFj hfp)
    rw [ej]
    -- `G` and the link of the new join, from whichever function wrote its `next` side points
    have hGS : GE G j' ∧ LK S j' n'.position := by
      unfold GE LK
      rw [un.pos]
      rcases hcase with ⟨hfp, rfl⟩ | ⟨e1, e2⟩
      · exact ⟨(hreg.flat prev _ next _ _).1, (hreg.flat prev { join with lineJoin := .miter } next _ _).2 hapart⟩
      · have := hreg.joinFw prev join next hFj
        unfold GE LK at this
        rw [(joinSidesFw_upd e.ix prev join next e.o.miterLimit join.halfWidth).pos] at this
        rw [uj.pos, e1, e2]; exact ⟨this.1, this.2 hapart⟩
    obtain ⟨a1, a2, a3, a4, a5⟩ := step_commit hI hF hn hxy uj hGS.1 hg hs un idn
    refine ⟨⟨a1, by rw [a2]; exact hs, fun h => by simp at h,
      fun _ => ⟨hclose', ⟨n', a3, un, idn⟩, fun h3 => ⟨a4, a5 h3⟩⟩⟩, fun _ => ?_⟩
    exact of_lastTwo (setLast_push hI.wf (by omega) j' n').2.2 hGS.2
  · have hlt : st.buf.lastTwo = none := lastTwo_none (by omega)
    by_cases hc1 : st.buf.count = 1
    · obtain ⟨first, hl⟩ := hI.wf.last_some (by omega)
      rw [fwStep_eq_first hclose' hlt hl]
      obtain ⟨u1, id1, u2, id2⟩ := firstEdgeSetup_spec first next
      refine ⟨step_second hI hF hn hclose' hc1 hl u1 id1 (hreg.first first next).1 u2 id2, fun _ => ?_⟩
      refine of_lastTwo (setLast_push hI.wf (by omega) _ _).2.2 ?_
      have := (hreg.first first next).2 (by rw [← tooClose_eq hl]; exact hclose')
      rw [← u2.pos] at this
      exact this
    · rw [fwStep_eq_zero hclose' hlt (last_none (by omega))]
      exact ⟨step_zero hI hF hn hclose' (by omega),
        fun _ => Link.of_count (by rw [push_count_one hI.wf (by omega)]; omega)⟩

theorem fwStep_spec {e : Env α} (hreg : Reg e c G) (hfw : e.o.varWidth = false) :
    StepSpec e.thr c G (fwStep e) := fun st next hI hF hn =>
  (fwStep_specGL (S := TrivS) (W := TrivS)
    ⟨fun f n => ⟨hreg.first f n, fun _ => trivial⟩, fun p j n hF => ⟨hreg.joinFw p j n _ hF, fun _ => trivial⟩,
     fun p j n d o => ⟨hreg.flat p j n d o, fun _ => trivial⟩,
     fun p j n d o hG _ hF hfp => hreg.noskip hfw p j n d o hG hF hfp⟩ st next hI (fun _ _ _ => trivial) hF hn).1

end

section Events
variable {α : Type} [Scalar α] [Transc α] [Asin α] [FlatConst α] {c : Cls α} {G : P α → P α → P α → Prop}

theorem mk'_raw (p : P α) (hw adv : α) (lj : LineJoin) (src : Src α) (flat : Bool) :
    Raw (EP.mk' p hw adv lj src flat).ids := ⟨rfl, rfl⟩

omit [Asin α] in
theorem quadPoints_mem {q : Quad α} {tol : α} {a b : Nat} {hwAt : α → α} {lj : LineJoin} {l : List (EP α)}
    (h : quadPoints q tol a b hwAt lj = some l) : ∀ x ∈ l, ∃ pos t flat,
      x = EP.mk' pos (hwAt t) nan lj (if t == one then .endpoint b else .edge a b t) flat := by
  unfold quadPoints at h
  cases hf : flattenQuad q tol with
  | none => rw [hf] at h; simp at h
  | some l0 =>
    rw [hf] at h
    simp only [Option.map_some, Option.some.injEq] at h
    subst h
    intro x hx
    simp only [List.mem_map] at hx
    obtain ⟨f, _, rfl⟩ := hx
    exact ⟨_, _, _, rfl⟩

omit [Asin α] in
theorem cubicPoints_mem {q : Cubic α} {tol : α} {a b : Nat} {hwAt : α → α} {lj : LineJoin} {l : List (EP α)}
    (h : cubicPoints q tol a b hwAt lj = some l) : ∀ x ∈ l, ∃ pos t flat,
      x = EP.mk' pos (hwAt t) nan lj (if t == one then .endpoint b else .edge a b t) flat := by
  unfold cubicPoints at h
  cases hf : q.forEachFlattenedWithT tol with
  | none => rw [hf] at h; simp at h
  | some l0 =>
    rw [hf] at h
    simp only [Option.map_some, Option.some.injEq] at h
    subst h
    intro x hx
    simp only [List.mem_map] at hx
    obtain ⟨f, _, rfl⟩ := hx
    exact ⟨_, _, _, rfl⟩

theorem quadPoints_raw {q : Quad α} {tol : α} {a b : Nat} {hwAt : α → α} {lj : LineJoin} {l : List (EP α)}
    (h : quadPoints q tol a b hwAt lj = some l) : ∀ x ∈ l, Raw x.ids := by
  intro x hx
  obtain ⟨_, _, _, rfl⟩ := quadPoints_mem h x hx
  exact mk'_raw _ _ _ _ _ _

theorem cubicPoints_raw {q : Cubic α} {tol : α} {a b : Nat} {hwAt : α → α} {lj : LineJoin} {l : List (EP α)}
    (h : cubicPoints q tol a b hwAt lj = some l) : ∀ x ∈ l, Raw x.ids := by
  intro x hx
  obtain ⟨_, _, _, rfl⟩ := cubicPoints_mem h x hx
  exact mk'_raw _ _ _ _ _ _

/-- the endpoints an event feeds to the step function are of the class `c`; `K` holds of the
endpoint ids seen so far (`curId`: the `from` id of the next curve) -/
def EvOK (e : Env α) (store : Nat → List α) (c : Cls α) (K : Nat → Prop) : IdEv α → Prop
  | .begin id p => (∀ adv, c.F (EP.mk' p (e.hwOf store id) adv e.o.join (.endpoint id) false)) ∧ K id
  | .line id p => c.F (EP.mk' p (e.hwOf store id) nan e.o.join (.endpoint id) false) ∧ K id
  | .quad ctrl id p => (∀ cur curPos l, K cur →
      quadPoints ⟨curPos, ctrl, p⟩ e.o.tolerance cur id (e.hwAt store cur id) e.o.join = some l →
      ∀ q ∈ l, c.F q) ∧ K id
  | .cubic c1 c2 id p => (∀ cur curPos l, K cur →
      cubicPoints ⟨curPos, c1, c2, p⟩ e.o.tolerance cur id (e.hwAt store cur id) e.o.join = some l →
      ∀ q ∈ l, c.F q) ∧ K id
  | .end_ _ => True

/-- the invariant of the event loop -/
structure RInv (e : Env α) (c : Cls α) (G : P α → P α → P α → Prop) (K : Nat → Prop) (r : Run α) : Prop where
  inv : Inv e.thr c G r.st
  steps : VSteps c.C (Out.empty 0) r.st.out
  cur : K r.curId

theorem RInv.new (e : Env α) {K : Nat → Prop} (hk : K unset) :
    RInv e c G K (⟨St.new, unset, nanP, false⟩ : Run α) :=
  ⟨InvC.new _ _, VSteps.refl _, hk⟩

variable {S W : P α → P α → P α → P α → Prop}

theorem feedList_specL {thr : α} {step : StepFn α} (hstep : StepSpecL thr c G S W step) (law : LinkLaw thr S W)
    (l : List (EP α)) (st : St α) (hI : Inv thr c G st) (hL : Link S st.buf) (hq : ∀ q ∈ l, c.F q ∧ Raw q.ids) :
    Inv thr c G (l.foldl (fun s q => (step s q).1) st)
      ∧ Link S (l.foldl (fun s q => (step s q).1) st).buf
      ∧ VSteps c.C st.out (l.foldl (fun s q => (step s q).1) st).out :=
  foldl_inv (fun s : St α => Inv thr c G s ∧ Link S s.buf ∧ VSteps c.C st.out s.out) _ l st ⟨hI, hL, VSteps.refl _⟩
    fun s h q hql =>
      let r := hstep.run law h.1 h.2.1 (hq q hql).1 (Or.inl (hq q hql).2)
      ⟨r.1.inv, r.2, h.2.2.trans r.1.steps⟩

structure RInvL (e : Env α) (c : Cls α) (G : P α → P α → P α → Prop) (S : P α → P α → P α → P α → Prop) (K : Nat → Prop) (r : Run α) : Prop where
  base : RInv e c G K r
  link : Link S r.st.buf

theorem feed_specL {e : Env α} (hstep : StepSpecL e.thr c G S W e.step) (law : LinkLaw e.thr S W)
    {K : Nat → Prop} {r : Run α} (hr : RInvL e c G S K r) (pts : Option (List (EP α))) (id : Nat) (p : P α)
    (hk : K id) (hpts : ∀ l, pts = some l → ∀ q ∈ l, c.F q ∧ Raw q.ids) :
    RInvL e c G S K (r.feed e pts id p) := by
  cases pts with
  | none => exact ⟨⟨hr.base.inv, hr.base.steps, hr.base.cur⟩, hr.link⟩
  | some l =>
    obtain ⟨a, b, d⟩ := feedList_specL hstep law l r.st hr.base.inv hr.link (hpts l rfl)
    exact ⟨⟨a, hr.base.steps.trans d, hk⟩, b⟩

theorem runEvent_specL {e : Env α} (hstep : StepSpecL e.thr c G S W e.step) (law : LinkLaw e.thr S W)
    (store : Nat → List α) {K : Nat → Prop} {r : Run α}
    (hr : RInvL e c G S K r) {ev : IdEv α} (hev : EvOK e store c K ev) :
    RInvL e c G S K (runEvent e store r ev) := by
  cases ev with
  | begin id p =>
    obtain ⟨hF, hk⟩ := hev
    have hI0 : Inv e.thr c G ({ r.st with mayNeedEmptyCap := false } : St α) := hr.base.inv
    obtain ⟨r1, l1⟩ := hstep.run law (st := { r.st with mayNeedEmptyCap := false }) hI0 hr.link
      (hF r.st.subPathStartAdvancement) (Or.inl (mk'_raw _ _ _ _ _ _))
    exact ⟨⟨r1.inv, hr.base.steps.trans r1.steps, hk⟩, l1⟩
  | line id p =>
    obtain ⟨hF, hk⟩ := hev
    obtain ⟨r1, l1⟩ := hstep.run law hr.base.inv hr.link hF (Or.inl (mk'_raw _ _ _ _ _ _))
    exact ⟨⟨r1.inv, hr.base.steps.trans r1.steps, hk⟩, l1⟩
  | quad ctrl id p =>
    exact feed_specL hstep law hr _ id p hev.2 fun l hq q hql =>
      ⟨hev.1 r.curId r.curPos l hr.base.cur hq q hql, quadPoints_raw hq q hql⟩
  | cubic c1 c2 id p =>
    exact feed_specL hstep law hr _ id p hev.2 fun l hq q hql =>
      ⟨hev.1 r.curId r.curPos l hr.base.cur hq q hql, cubicPoints_raw hq q hql⟩
  | end_ cl =>
    obtain ⟨a, b, d⟩ := endSub_specL e hstep law hr.base.inv hr.link cl
    exact ⟨⟨b, hr.base.steps.trans a, hr.base.cur⟩, d⟩

/-- the whole run: its output is reached from the empty one by `VSteps` (every triangle has three distinct ids
below the `nextId` reached at the end of its block, `VSteps.exists_grow`); every vertex is of the class -/
theorem runEvents_link {e : Env α} (hstep : StepSpecL e.thr c G S W e.step) (law : LinkLaw e.thr S W)
    (store : Nat → List α) {K : Nat → Prop} (hk : K unset)
    (evs : List (IdEv α)) (hev : ∀ ev ∈ evs, EvOK e store c K ev) :
    RInvL e c G S K (runEvents e store evs) := by
  unfold runEvents
  refine foldl_inv (RInvL e c G S K) _ evs _ ⟨RInv.new e hk, Link.of_count (by show (0 : Nat) < 2; omega)⟩
    fun r hr ev hmem => ?_
  show RInvL e c G S K (if r.panicked = true then r else runEvent e store r ev)
  split_ifs
  · exact hr
  · exact runEvent_specL hstep law store hr (hev ev hmem)

omit [FlatConst α] in
theorem envStep_spec [FlatConst α] {e : Env α} (hreg : Reg e c G) : StepSpec e.thr c G e.step := by
  unfold Env.step
  cases h : e.o.varWidth
  · simpa using fwStep_spec hreg h
  · simpa using vwStep_spec hreg h

theorem runEvent_spec {e : Env α} (hreg : Reg e c G) (store : Nat → List α) {K : Nat → Prop} {r : Run α}
    (hr : RInv e c G K r) {ev : IdEv α} (hev : EvOK e store c K ev) :
    RInv e c G K (runEvent e store r ev) :=
  (runEvent_specL (envStep_spec hreg).toL (trivLaw e.thr) store ⟨hr, fun _ _ _ => trivial⟩ hev).base

theorem runEvents_spec {e : Env α} (hreg : Reg e c G) (store : Nat → List α) {K : Nat → Prop} (hk : K unset)
    (evs : List (IdEv α)) (hev : ∀ ev ∈ evs, EvOK e store c K ev) :
    RInv e c G K (runEvents e store evs) :=
  (runEvents_link (envStep_spec hreg).toL (trivLaw e.thr) store hk evs hev).base

end Events

end Lyon.C05c
