/-
  C07b - the record invariant of the WHOLE modelled sweep (`Model/Tess/Sweep.lean`).

  `SInv IdP U s` (a predicate on the sweep state `St α`, for ANY scalar type `α`):
  * the event queue is structurally well formed (`QOk`) and the current event is a `Link`;
  * every stored edge record `edge_data[i]` satisfies `DOk`: its endpoint-id pair satisfies `IdP`
    (an arbitrary predicate on `(from_id, to_id)`: e.g. "is the id pair of an input record") and
    its `range.start`, `range.end` satisfy `U` (an arbitrary predicate on parameters: `True` for the
    discrete theorem, `lo ≤ t ≤ hi` over an ordered field);
  * every active edge and every pending edge names a stored record (`src_edge < edge_data.len()`)
    and its `range_end` satisfies `U`;
  * every record emitted with a vertex (`Emit.vertex pos recs`) satisfies `DOk`.

  The `U` part is relative to the coverage instrumentation of the model: once the run has taken
  the `edge-split-at-vertex` branch (bit 5, `split_edge` of `process_edges_above`) or the
  `coincident-split` branch (bit 7, `merge_coincident_edges`), the state is `Tnt` (tainted) and the
  `U` claims are void (`Uc U cov t := Tnt cov ∨ U t`).  The split parameters of these two branches
  (`Sources.splitTAtVertex`; `Sources.splitT` under the guard `endsWithin`) are in `[0,1]` when the edge
  spans the current vertex in sweep order, and that is an invariant `SInv` does not carry (`ActiveSpan`,
  `Lemmas/SweepSpan.lean`, `Props/C07d.lean`).  The id claims (`IdP`) and the structural claims are
  unconditional.

  `Lemmas/SweepIdxLoop.lean` is imported for `run_of_triple`; the import also puts this family above the
  index family, which walks the same leaf functions (the rule at the head of `Lemmas/SweepStepKeeps.lean`).
-/
import LyonVerif.Lemmas.SweepRepQueue
import LyonVerif.Lemmas.SweepIdxLoop

set_option linter.unusedSectionVars false

namespace Lyon.SweepRep
open Lyon Lyon.Scalar Lyon.Mono Lyon.Sweep Lyon.EQ
open Std.Do

variable {α : Type} [Scalar α] [Wide α]

/-- the run has taken a branch whose split parameter is not confined by the code
(bit 5 `edge-split-at-vertex`, bit 7 `coincident-split`) -/
def Tnt (c : Nat) : Prop := c.testBit 5 = true ∨ c.testBit 7 = true

theorem Tnt.mono {c c' : Nat} (h : CovLe c c') (t : Tnt c) : Tnt c' := t.imp (h 5) (h 7)

theorem tnt_bit5 (c : Nat) : Tnt (c ||| 32) := by
  left; rw [Nat.testBit_or]; simp; right; decide
theorem tnt_bit7 (c : Nat) : Tnt (c ||| 128) := by
  right; rw [Nat.testBit_or]; simp; right; decide

/-- `U`, void once the state is tainted -/
def Uc (U : α → Prop) (c : Nat) (t : α) : Prop := Tnt c ∨ U t

theorem Uc.mono {U : α → Prop} {c c' : Nat} (h : CovLe c c') {t : α} (u : Uc U c t) : Uc U c' t :=
  u.imp (Tnt.mono h) id

theorem Uc.tnt {U : α → Prop} {c : Nat} (h : Tnt c) (t : α) : Uc U c t := Or.inl h

variable (IdP : Nat → Nat → Prop) (U : α → Prop)

/-- an edge record: endpoint ids and both ends of the `t`-range -/
def DOk (V : α → Prop) (d : EdgeData α) : Prop := IdP d.fromId d.toId ∧ V d.t0 ∧ V d.t1

/-- an active edge: names a stored record; `range_end` -/
def AOk (V : α → Prop) (n : Nat) (e : ActiveEdge α) : Prop := e.srcEdge < n ∧ V e.rangeEnd

/-- a pending edge -/
def BOk (V : α → Prop) (n : Nat) (e : PendingEdge α) : Prop := e.srcEdge < n ∧ V e.rangeEnd

variable {IdP U}

theorem DOk.mono {V V' : α → Prop} (h : ∀ t, V t → V' t) {d : EdgeData α} (hd : DOk IdP V d) : DOk IdP V' d :=
  ⟨hd.1, h _ hd.2.1, h _ hd.2.2⟩
theorem AOk.mono {V V' : α → Prop} (h : ∀ t, V t → V' t) {n m : Nat} (hnm : n ≤ m) {e : ActiveEdge α}
    (he : AOk V n e) : AOk V' m e := ⟨Nat.lt_of_lt_of_le he.1 hnm, h _ he.2⟩
theorem BOk.mono {V V' : α → Prop} (h : ∀ t, V t → V' t) {n m : Nat} (hnm : n ≤ m) {e : PendingEdge α}
    (he : BOk V n e) : BOk V' m e := ⟨Nat.lt_of_lt_of_le he.1 hnm, h _ he.2⟩

variable (IdP U)

/-- the records of the queue satisfy `DOk` -/
def QData (c : Nat) (q : Queue α) : Prop := ∀ i (h : i < q.edgeData.size), DOk IdP (Uc U c) q.edgeData[i]

def OutOkR (c : Nat) (out : Array (Emit α)) : Prop :=
  ∀ pos recs, Emit.vertex pos recs ∈ out → ∀ r ∈ recs, DOk IdP (Uc U c) r.2

structure SInv (s : St α) : Prop where
  qok : QOk s.q
  cur : Link s.q.events.size s.curEvent
  data : QData IdP U s.cov s.q
  active : ∀ e ∈ s.active, AOk (Uc U s.cov) s.q.edgeData.size e
  below : ∀ e ∈ s.below, BOk (Uc U s.cov) s.q.edgeData.size e
  out : OutOkR IdP U s.cov s.out

variable {IdP U}

theorem QData.mono {c c' : Nat} (h : CovLe c c') {q : Queue α} (hd : QData IdP U c q) : QData IdP U c' q :=
  fun i hi => (hd i hi).mono (fun _ => Uc.mono h)

theorem OutOkR.mono {c c' : Nat} (h : CovLe c c') {o : Array (Emit α)} (hd : OutOkR IdP U c o) : OutOkR IdP U c' o :=
  fun p r hm x hx => (hd p r hm x hx).mono (fun _ => Uc.mono h)

theorem QData.push {c : Nat} {q : Queue α} (hd : QData IdP U c q) {ed : Array (EdgeData α)} {d : EdgeData α}
    (he : ed = q.edgeData.push d) (hok : DOk IdP (Uc U c) d) :
    ∀ i (h : i < ed.size), DOk IdP (Uc U c) ed[i] := by
  subst he
  intro i hi
  rw [Array.getElem_push]
  split
  · exact hd i _
  · exact hok

theorem QData.ed {c : Nat} {q : Queue α} (hd : QData IdP U c q) {i : Nat} (hi : i < q.edgeData.size) :
    DOk IdP (Uc U c) (q.ed i) := by
  rw [ed_eq_getElem hi]; exact hd i hi

/-- the pending edges after a merge of two coincident ones: the upper one with a new winding, the lower one erased -/
theorem merge_below_all {P : PendingEdge α → Prop} {below : Array (PendingEdge α)} (h : ∀ e ∈ below, P e)
    {upper : PendingEdge α} {w : Int} (hu : P { upper with winding := w }) (i j : Nat) :
    ∀ e ∈ (below.setIfInBounds i { upper with winding := w }).eraseIdxIfInBounds j, P e :=
  all_erase (all_set h _ _ hu) _

theorem all_mono {γ : Type} {P Q : γ → Prop} {a : Array γ} (h : ∀ e ∈ a, P e) (hpq : ∀ e, P e → Q e) :
    ∀ e ∈ a, Q e := fun e he => hpq e (h e he)

/-- a state that differs in fields the invariant does not read; the coverage only grows; active and
pending edges are still fine (relative to the OLD state) -/
theorem SInv.frame {s s' : St α} (h : SInv IdP U s) (hq : s'.q = s.q) (hc : s'.curEvent = s.curEvent)
    (hcov : CovLe s.cov s'.cov)
    (ha : ∀ e ∈ s'.active, AOk (Uc U s.cov) s.q.edgeData.size e)
    (hb : ∀ e ∈ s'.below, BOk (Uc U s.cov) s.q.edgeData.size e)
    (ho : ∀ pos recs, Emit.vertex pos recs ∈ s'.out → Emit.vertex pos recs ∈ s.out) : SInv IdP U s' := by
  refine ⟨hq ▸ h.qok, by rw [hq, hc]; exact h.cur, by rw [hq]; exact h.data.mono hcov, ?_, ?_, ?_⟩
  · intro e he; rw [hq]; exact (ha e he).mono (fun _ => Uc.mono hcov) (Nat.le_refl _)
  · intro e he; rw [hq]; exact (hb e he).mono (fun _ => Uc.mono hcov) (Nat.le_refl _)
  · intro p r hm; exact h.out.mono hcov p r (ho p r hm)

theorem SInv.frame0 {s s' : St α} (h : SInv IdP U s) (hq : s'.q = s.q) (hc : s'.curEvent = s.curEvent)
    (hcov : CovLe s.cov s'.cov) (ha : s'.active = s.active) (hb : s'.below = s.below) (ho : s'.out = s.out) :
    SInv IdP U s' :=
  h.frame hq hc hcov (ha ▸ h.active) (hb ▸ h.below) (fun _ _ hm => ho ▸ hm)

theorem SInv.setCov {s : St α} (h : SInv IdP U s) {c : Nat} (hc : CovLe s.cov c) : SInv IdP U (s.setCov c) :=
  h.frame0 rfl rfl hc rfl rfl rfl

theorem SInv.rearr {s s' : St α} (h : SInv IdP U s) (r : Rearr s s') : SInv IdP U s' :=
  h.frame r.q r.curEvent r.cov (fun e he => h.active e (r.active e he)) (r.below ▸ h.below) r.out

theorem SInv.grow {s s' : St α} (h : SInv IdP U s) (hq : QOk s'.q) (hsz : s.q.edgeData.size ≤ s'.q.edgeData.size)
    (hc : s'.curEvent = s.curEvent) (hcov : CovLe s.cov s'.cov)
    (hd : QData IdP U s'.cov s'.q)
    (ha : ∀ e ∈ s'.active, AOk (Uc U s'.cov) s'.q.edgeData.size e)
    (hb : ∀ e ∈ s'.below, BOk (Uc U s'.cov) s'.q.edgeData.size e)
    (ho : ∀ pos recs, Emit.vertex pos recs ∈ s'.out → Emit.vertex pos recs ∈ s.out) : SInv IdP U s' := by
  refine ⟨hq, ?_, hd, ha, hb, ?_⟩
  · rw [hc]
    have : s.q.events.size ≤ s'.q.events.size := by rw [← h.qok.size, ← hq.size]; exact hsz
    exact h.cur.mono this
  · intro p r hm; exact h.out.mono hcov p r (ho p r hm)

/-- the postcondition shape of `SM` -/
abbrev SMps (α : Type) : PostShape := .except Fail (.arg (St α) .pure)

variable (IdP U)

/-- "the invariant holds afterwards, whether the step returned or threw" -/
abbrev keepsR {β : Type} : PostCond β (SMps α) :=
  post⟨fun _ s => ⌜SInv IdP U s⌝, fun _ s => ⌜SInv IdP U s⌝⟩

variable {IdP U}

/-- `sinv0` closes `SInv IdP U s'` when `s'` differs from the last state known to satisfy the invariant only in
fields it does not read or in a grown coverage (`SInv.frame0`).  The hypothesis is named before `frame0` is applied:
otherwise the `rfl` arguments would unify its state with the new one. -/
macro "sinv0" : tactic =>
  `(tactic| first | assumption | (have hS := ‹SInv _ _ _›; apply SInv.frame0 hS <;> first | rfl | (cov_le; done)))

end Lyon.SweepRep
