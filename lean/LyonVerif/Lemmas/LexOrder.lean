/-
  The order in which the sweeps visit positions: by `y`, then by `x`.  `fill.rs::is_after`, `monotone.rs`,
  `event_queue.rs::compare_positions` and `hatching.rs::compare_positions` all decide this one relation; the
  model functions are tied to it in `Lemmas/LexOrderTess.lean` and `Lemmas/Hatch.lean`.
-/
import LyonVerif.Lemmas.Field

set_option linter.unusedSectionVars false

namespace Lyon

variable {K : Type} [Field K] [LinearOrder K] [IsStrictOrderedRing K]

def LexLt (a b : P K) : Prop := a.y < b.y ∨ (a.y = b.y ∧ a.x < b.x)

theorem LexLt.irrefl (a : P K) : ¬ LexLt a a := by
  rintro (h | ⟨_, h⟩) <;> exact lt_irrefl _ h

theorem LexLt.trans {a b c : P K} (h1 : LexLt a b) (h2 : LexLt b c) : LexLt a c := by
  rcases h1 with h1 | ⟨e1, h1⟩ <;> rcases h2 with h2 | ⟨e2, h2⟩
  · exact Or.inl (lt_trans h1 h2)
  · exact Or.inl (e2 ▸ h1)
  · exact Or.inl (e1 ▸ h2)
  · exact Or.inr ⟨e1.trans e2, lt_trans h1 h2⟩

theorem LexLt.asymm {a b : P K} (h : LexLt a b) : ¬ LexLt b a := fun g => LexLt.irrefl a (h.trans g)

theorem LexLt.total (a b : P K) : LexLt a b ∨ a = b ∨ LexLt b a := by
  rcases lt_trichotomy a.y b.y with h | h | h
  · exact Or.inl (Or.inl h)
  · rcases lt_trichotomy a.x b.x with h' | h' | h'
    · exact Or.inl (Or.inr ⟨h, h'⟩)
    · exact Or.inr (Or.inl (P.ext' h' h))
    · exact Or.inr (Or.inr (Or.inr ⟨h.symm, h'⟩))
  · exact Or.inr (Or.inr (Or.inl h))

theorem LexLt.le_y {a b : P K} (h : LexLt a b) : a.y ≤ b.y := h.elim le_of_lt fun h => h.1.le

theorem le_y_of_not_lexLt {a b : P K} (h : ¬ LexLt a b) : b.y ≤ a.y := not_lt.mp fun g => h (Or.inl g)

/-- the same relation with the equation written the other way round, as `is_after` spells it -/
theorem lexLt_iff_after (a b : P K) : LexLt b a ↔ b.y < a.y ∨ (a.y = b.y ∧ b.x < a.x) := by
  unfold LexLt; rw [eq_comm]

/-- the body of `compare_positions` (event_queue.rs and hatching.rs have the same one) -/
noncomputable def lexCmp (a b : P K) : Ordering :=
  if b.y < a.y then .gt else if a.y < b.y then .lt else if b.x < a.x then .gt else if a.x < b.x then .lt else .eq

theorem lexCmp_lt_iff (a b : P K) : lexCmp a b = .lt ↔ LexLt a b := by
  unfold lexCmp LexLt
  rcases lt_trichotomy a.y b.y with h | h | h
  · simp [h, h.not_gt]
  · rcases lt_trichotomy a.x b.x with g | g | g <;> simp [h, g, g.not_gt]
  · simp [h, h.not_gt, h.ne']

theorem lexCmp_gt_iff (a b : P K) : lexCmp a b = .gt ↔ LexLt b a := by
  unfold lexCmp LexLt
  rcases lt_trichotomy a.y b.y with h | h | h
  · simp [h, h.not_gt, h.ne']
  · rcases lt_trichotomy a.x b.x with g | g | g <;> simp [h, g, g.not_gt]
  · simp [h]

theorem lexCmp_eq_iff (a b : P K) : lexCmp a b = .eq ↔ a = b := by
  rcases LexLt.total a b with h | rfl | h
  · have := (lexCmp_lt_iff a b).mpr h
    exact ⟨fun e => (by rw [this] at e; cases e), fun e => absurd h (e ▸ LexLt.irrefl a)⟩
  · simp [lexCmp]
  · have := (lexCmp_gt_iff a b).mpr h
    exact ⟨fun e => (by rw [this] at e; cases e), fun e => absurd h (e ▸ LexLt.irrefl b)⟩

end Lyon
