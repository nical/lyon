/-
  SPAN / WINDING COHERENCE: the three steps of an event composed (`evBody_spec`: the state
  afterwards is the splice of a state related to the scanned one, `EvDone`), and `process_events` from a
  coherent state (`processEvents_coh_at`, `EvPost`).
-/
import LyonVerif.Lemmas.SweepSafeCohEvent

set_option linter.unusedSectionVars false
set_option mvcgen.warning false

namespace Lyon.SweepCoh
open Lyon Lyon.Scalar Lyon.Mono Lyon.Sweep Lyon.EQ Lyon.SweepSafe
open Std.Do

variable {α : Type} [Scalar α] [Wide α]
variable {A : List String}

/-- the number of spans after an event with outgoing windings `W` -/
def Zf (s0 : St α) (scan : Scan) (W : List Int) : Nat :=
  s0.spans.size - cntIn s0 scan.aboveStart scan.aboveEnd + bi scan.splitEvent +
    gapsFrom s0.rule (Wat s0 scan.aboveStart) true W

theorem ite_bind_unit {β : Type} (c : Prop) [Decidable c] (m : SM α Unit) (f : Unit → SM α β) :
    (if c then (do let r ← m; f r) else f ()) = (do (if c then m else pure ()); f ()) :=
  Sweep.ite_bind_unit c m f

/-- the state after an event: the splice of a state related to the scanned one -/
def EvDone (s0 : St α) (scan : Scan) (s' : St α) : Prop :=
  ∃ W s1, RelU s0 scan (Zf s0 scan W) W s1 ∧ s' = spliceAt s1 (aboveResult scan).aboveStart (aboveResult scan).aboveEnd

theorem EvDone.safe {tol : α} {s0 : St α} {scan : Scan} {s' : St α} (h : EvDone s0 scan s')
    (ht : s0.tolerance = tol) : Safe tol s' := by
  obtain ⟨W, s1, h1, rfl⟩ := h
  exact safe_iff.mpr ⟨h1.rel.live, h1.rel.tol.trans ht⟩

/-- **the three steps of an event**, from the scanned state `s0` with live spans.  The number of spans
afterwards is `Zf` whether or not `s0` is coherent (`ScanSem` comes from the scan).  The span and edge
indices are allowed failures (no-panic analysis) or valid because `s0` is coherent; the splice range
likewise (`hSp`) -/
theorem evBody_spec (s0 : St α) (scan : Scan) (hok : ScanOk s0 scan) (hsem : ScanSem s0 scan)
    (hl : SomeExcept [] s0.spans) (hUp : NextUpOk α ∨ mAssert ∈ A)
    (hV : (mSpanIdx ∈ A ∧ mSpanIns ∈ A ∧ mEdgeIdx ∈ A) ∨ (Coh s0 ∧ ScanAgree s0 scan))
    (hSp : mSplice ∈ A ∨ ScanAgree s0 scan) :
    ⦃fun s => ⌜Fr s0 s⌝⦄ (evBody scan : SM α (Option IErr))
    ⦃safePost A fun r s' => r = none ∧ EvDone s0 scan s'⦄ := by
  have hZf : ∀ W, s0.spans.size - scan.spansToEnd.size + bi (aboveResult scan).splitEvent +
      gapsFrom s0.rule (aboveResult scan).windingBefore true W = Zf s0 scan W := fun W => by
    rw [Zf, ar_split, ar_wb, hsem.wb, hsem.se_count]
  have h1 := processEdgesAbove_spec (A := A) s0 scan hok hl
    (hV.imp (·.1) fun h => ⟨ve_valid h.1 hsem, se_valid h.1 hsem⟩)
  have h2 : ∀ sc, ⦃fun s => ⌜sc = aboveResult scan ∧ RelZ s0 scan (s0.spans.size - scan.spansToEnd.size) s ∧
        scan.spansToEnd.size ≤ s0.spans.size⌝⦄ (processEdgesBelow sc : SM α Unit)
      ⦃safePost A fun _ s => sc = aboveResult scan ∧ RelZ s0 scan (Zf s0 scan (bwOf s.below)) s⦄ :=
    fun sc => safe_conseq fun s hs => by
      obtain ⟨rfl, hr, _⟩ := hs
      exact ⟨_, _, hr, processEdgesBelow_spec s0 scan _ (aboveResult scan)
        (fun h => Nat.le_trans (hok.split_pos (ar_split scan ▸ h)) (ar_start_ge scan))
        (hV.imp (fun h => ⟨h.2.2, h.1, h.2.1⟩) fun h => belowOk_of_coh hok hsem h.1 h.2),
        fun _ _ _ h => ⟨rfl, hZf _ ▸ h⟩⟩
  have h3 : ∀ sc, ⦃fun s => ⌜sc = aboveResult scan ∧ RelZ s0 scan (Zf s0 scan (bwOf s.below)) s⌝⦄
      (updateActiveEdges sc : SM α Unit) ⦃safePost A fun _ s' => EvDone s0 scan s'⦄ :=
    fun sc => safe_conseq fun s hs => by
      obtain ⟨rfl, hr⟩ := hs
      exact ⟨_, _, (⟨hr, rfl⟩ : RelU s0 scan _ (bwOf s.below) s),
        updateActiveEdges_inv (relUIx s0 scan _ _) hUp (aboveResult scan)
          (hSp.imp id fun hG => by rw [ar_end]; exact (ar_start_le hok hG).1) (by rw [ar_end]; exact hok.end_le),
        fun _ _ _ ⟨s1, h1, e⟩ => ⟨_, s1, h1, e⟩⟩
  unfold evBody
  mvcgen [h1, h2, h3]
  all_goals first
    | assumption
    | (intro _ h; exact h)
    | exact ⟨rfl, by assumption⟩

/-- the event on a coherent scanned state: no failure but the assertion; the signatures of the new active
list are those of `s0` with the above-range replaced by the pending edges -/
theorem evBody_rel (s0 : St α) (scan : Scan) (hok : ScanOk s0 scan) (hsem : ScanSem s0 scan) (hc : Coh s0)
    (hG : ScanAgree s0 scan) (hUp : NextUpOk α ∨ mAssert ∈ A) :
    ⦃fun s => ⌜Fr s0 s⌝⦄ (evBody scan : SM α (Option IErr))
    ⦃safePost A fun r s' => r = none ∧ ∃ W, NewSt s0 scan (Zf s0 scan W) W s'⦄ :=
  safe_conseq fun s hs => ⟨_, _, hs, evBody_spec s0 scan hok hsem hc.live hUp (Or.inr ⟨hc, hG⟩) (Or.inr hG),
    fun _ _ _ ⟨hr, W, s1, h1, e⟩ => ⟨hr, W, e ▸ newSt_of hok hG h1
      (fun e => ⟨s1.curPos, e.to, e.winding, false, s1.curVertex, e.srcEdge, e.rangeEnd⟩) (fun e => rfl) rfl rfl rfl
      (by rw [ar_end])⟩⟩

/-- what `process_events` does to a coherent state `s1` -/
def EvPost (s1 : St α) (r : Option IErr) (s' : St α) : Prop :=
  match scanActiveEdges s1 with
  | .ok scan => r = none ∧ ∃ W, NewSt s1 scan (Zf s1 scan W) W s'
  | .error e => r = some e ∧ s'.spans = s1.spans ∧ s'.active = s1.active ∧ s'.rule = s1.rule ∧
      s'.tolerance = s1.tolerance

theorem Fr.setCov {s0 : St α} (c : Nat) : Fr s0 (s0.setCov c) := ⟨rfl, rfl, rfl, rfl⟩

/-- `process_events` from `s1`: a failed scan returns its error in `s1`; after a successful one the coverage
marks change nothing the relation `Fr` to the scanned state reads, and the three steps run from it -/
theorem processEvents_of_body (s1 : St α) {Q : Option IErr → St α → Prop}
    (herr : ∀ e, scanActiveEdges s1 = .error e → Q (some e) s1)
    (hev : ∀ scan, scanActiveEdges s1 = .ok scan →
      ⦃fun s' => ⌜Fr s1 s'⌝⦄ (evBody scan : SM α (Option IErr)) ⦃safePost A Q⦄) :
    ⦃fun s => ⌜s = s1⌝⦄ (processEvents : SM α (Option IErr)) ⦃safePost A Q⦄ := by
  rw [processEvents_split]
  have hm := fun s scan => (evMarks_onlyCov (α := α) s scan).spec
  mvcgen [hm]
  all_goals subst ‹_ = s1›
  case vc1 hx => exact herr _ hx
  case vc2 s scan hx => exact fun c _ => hev scan hx (s.setCov c) (Fr.setCov c)

/-- `process_events` from a coherent state: the three steps are `evBody_rel` -/
theorem processEvents_coh_at (s1 : St α) (hc : Coh s1)
    (hG : ∀ scan, scanActiveEdges s1 = .ok scan → ScanAgree s1 scan)
    (hUp : NextUpOk α ∨ mAssert ∈ A) :
    ⦃fun s => ⌜s = s1⌝⦄ (processEvents : SM α (Option IErr)) ⦃safePost A fun r s' => EvPost s1 r s'⦄ :=
  processEvents_of_body s1 (fun e hx => by unfold EvPost; rw [hx]; exact ⟨rfl, rfl, rfl, rfl, rfl⟩) fun scan hx => by
    have hb := of_scan_both hx
    have he : (fun r s' => EvPost s1 r s') = fun r s' => r = none ∧ ∃ W, NewSt s1 scan (Zf s1 scan W) W s' := by
      funext r s'; unfold EvPost; rw [hx]
    rw [he]
    exact evBody_rel s1 scan hb.1 hb.2 hc (hG scan hx) hUp

end Lyon.SweepCoh
