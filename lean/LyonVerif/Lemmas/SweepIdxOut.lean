/-
  Index validity of an emission sequence (`Array (Sweep.Emit α)`): every triangle names only vertices emitted
  before it (`ValidFrom`, counted by `nVerts`; `OutOk` for the output of the sweep), and what appending vertices
  and triangles does to it.
-/
import LyonVerif.Model.Tess.Sweep
import LyonVerif.Lemmas.SweepIdxMono


namespace Lyon.SweepIdx
open Lyon Lyon.Scalar Lyon.Mono Lyon.Sweep

variable {α : Type}

/-- number of `.vertex` emissions -/
def nVerts : List (Emit α) → Nat
  | [] => 0
  | .vertex _ _ :: r => nVerts r + 1
  | .tri _ _ _ :: r => nVerts r

/-- every triangle names only vertices emitted before it (`n` = vertices emitted before the list) -/
def ValidFrom : Nat → List (Emit α) → Prop
  | _, [] => True
  | n, .vertex _ _ :: r => ValidFrom (n + 1) r
  | n, .tri a b c :: r => (a < n ∧ b < n ∧ c < n) ∧ ValidFrom n r

theorem nVerts_append : ∀ (a b : List (Emit α)), nVerts (a ++ b) = nVerts a + nVerts b
  | [], b => by simp [nVerts]
  | .vertex _ _ :: r, b => by simp only [List.cons_append, nVerts, nVerts_append r b]; omega
  | .tri _ _ _ :: r, b => by simp only [List.cons_append, nVerts, nVerts_append r b]

theorem validFrom_append : ∀ (n : Nat) (a b : List (Emit α)),
    ValidFrom n (a ++ b) ↔ ValidFrom n a ∧ ValidFrom (n + nVerts a) b
  | n, [], b => by simp [ValidFrom, nVerts]
  | n, .vertex _ _ :: r, b => by
    simp only [List.cons_append, ValidFrom, nVerts, validFrom_append (n + 1) r b]
    rw [show n + 1 + nVerts r = n + (nVerts r + 1) by omega]
  | n, .tri _ _ _ :: r, b => by
    simp only [List.cons_append, ValidFrom, nVerts, validFrom_append n r b, and_assoc]

def trisEmits (tris : List Mono.Tri) : List (Emit α) := tris.map fun t => .tri t.1 t.2.1 t.2.2

theorem nVerts_trisEmits : ∀ tris : List Mono.Tri, nVerts (trisEmits (α := α) tris) = 0
  | [] => rfl
  | _ :: r => by simp only [trisEmits, List.map_cons, nVerts]; exact nVerts_trisEmits r

theorem validFrom_trisEmits {n : Nat} : ∀ tris : List Mono.Tri, TrisLt n tris → ValidFrom n (trisEmits (α := α) tris)
  | [], _ => trivial
  | t :: r, h => by
    simp only [trisEmits, List.map_cons, ValidFrom]
    exact ⟨h t (by simp), validFrom_trisEmits r (fun u hu => h u (List.mem_cons_of_mem _ hu))⟩

/-- the `foldl … push` that `emitTris` and the final flush use -/
theorem foldl_push_tris (tris : List Mono.Tri) (o : Array (Emit α)) :
    (tris.foldl (fun o t => o.push (.tri t.1 t.2.1 t.2.2)) o).toList = o.toList ++ trisEmits tris := by
  rw [List.foldl_push_eq_append, Array.toList_append]
  rfl

/-- the invariant on `St.out` / `St.nverts` -/
def OutOk (out : Array (Emit α)) (n : Nat) : Prop := ValidFrom 0 out.toList ∧ nVerts out.toList = n

theorem outOk_empty : OutOk (#[] : Array (Emit α)) 0 := ⟨trivial, rfl⟩

theorem outOk_push_tris {out : Array (Emit α)} {n : Nat} (h : OutOk out n) (tris : List Mono.Tri) (ht : TrisLt n tris) :
    OutOk (tris.foldl (fun o t => o.push (.tri t.1 t.2.1 t.2.2)) out) n := by
  unfold OutOk
  rw [foldl_push_tris, validFrom_append, nVerts_append, nVerts_trisEmits, h.2]
  exact ⟨⟨h.1, by simpa using validFrom_trisEmits tris ht⟩, rfl⟩

theorem outOk_push_vertex {out : Array (Emit α)} {n : Nat} (h : OutOk out n) (pos : P α)
    (recs : List (P α × EQ.EdgeData α)) : OutOk (out.push (.vertex pos recs)) (n + 1) := by
  unfold OutOk
  rw [Array.toList_push, validFrom_append, nVerts_append, h.2]
  exact ⟨⟨h.1, trivial⟩, rfl⟩

theorem validFrom_getElem : ∀ (n : Nat) (l : List (Emit α)), ValidFrom n l →
    ∀ (i a b c : Nat), l[i]? = some (.tri a b c) →
      a < n + nVerts (l.take i) ∧ b < n + nVerts (l.take i) ∧ c < n + nVerts (l.take i) := by
  intro n l h i a b c hi
  obtain ⟨hlt, he⟩ := List.getElem?_eq_some_iff.mp hi
  rw [← List.take_append_drop i l, validFrom_append, List.drop_eq_getElem_cons hlt, he] at h
  exact h.2.1

theorem validFrom_mem (n : Nat) (l : List (Emit α)) (h : ValidFrom n l) (a b c : Nat) (hm : Emit.tri a b c ∈ l) :
    a < n + nVerts l ∧ b < n + nVerts l ∧ c < n + nVerts l := by
  obtain ⟨s, t, rfl⟩ := List.append_of_mem hm
  have := ((validFrom_append n s _).mp h).2.1
  rw [nVerts_append]
  omega

/-- (stated for any `out`: with the run of `tessellate` in its place the `simpa` would unfold the run) -/
theorem outOk_mem {out : Array (Emit α)} {n a b c : Nat} (hn : OutOk out n) (h : Emit.tri a b c ∈ out) :
    a < nVerts out.toList ∧ b < nVerts out.toList ∧ c < nVerts out.toList := by
  simpa using validFrom_mem 0 _ hn.1 a b c (Array.mem_toList_iff.mpr h)

end Lyon.SweepIdx
