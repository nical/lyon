/-
  The sweep of one slab.  If it records no failure, every boundary between a prefix `L` of the sorted items and the
  rest was examined with the counters after `L` (`sweepGo_ok`).  `par` holds the parities of the triangle tags passed
  and `f` is the number of its `true` entries whatever was passed (`toggle_getD`, `toggle_count`), so the counters are the
  sum of `dir` over `L` and the number of tags occurring an odd number of times in `L` (`AccInv`, `run_init`); for the items left of a
  point these are the winding number and the coverage of the semantic definitions (`winding_eq`, `coverage_eq`).
-/
import LyonVerif.Lemmas.SlabList

set_option linter.unusedSectionVars false

namespace Lyon.Slab
open Lyon

variable {K : Type} [Field K] [LinearOrder K] [IsStrictOrderedRing K]

/-- counters after passing the items `L` -/
noncomputable def Acc.run (st : Acc) (L : List (Item K)) : Acc := L.foldl Acc.step st

theorem Acc.run_cons (st : Acc) (it : Item K) (L : List (Item K)) :
    st.run (it :: L) = (st.step it).run L := rfl

theorem Acc.run_nil (st : Acc) : st.run ([] : List (Item K)) = st := rfl

theorem Acc.run_append (st : Acc) (L M : List (Item K)) : st.run (L ++ M) = (st.run L).run M := by
  unfold Acc.run; rw [List.foldl_append]

theorem sweepGo_ok (m : Mode) (rule : Rule) (edges : List (P K × P K)) (d2 y0 y1 ym : K) :
    ∀ (L : List (K × Item K)) (st : Acc) (l : Item K) (R : List (K × Item K)),
      (sweepGo m rule edges d2 y0 y1 ym st l (L ++ R)).1 = [] →
      (R = [] → m.holds rule (st.run (L.map Prod.snd)).w (st.run (L.map Prod.snd)).f = true) ∧
      (∀ x r R', R = (x, r) :: R' → ((L.map Prod.snd).getLastD l).xAt ym < x →
        gapOk m rule edges d2 y0 y1 (st.run (L.map Prod.snd)).w (st.run (L.map Prod.snd)).f
          ((L.map Prod.snd).getLastD l) r = true)
  | [], st, l, R, h => by
    simp only [List.nil_append, List.map_nil, List.getLastD_nil, Acc.run_nil] at h ⊢
    constructor
    · rintro rfl
      simpa [sweepGo] using h
    · rintro x r R' rfl hlt
      simp [sweepGo, gapAt, hlt] at h
      exact h.2
  | xi :: L, st, l, R, h => by
    simp only [List.cons_append, sweepGo, List.append_eq_nil_iff] at h
    have ih := sweepGo_ok m rule edges d2 y0 y1 ym L (st.step xi.2) xi.2 R h.1
    simp only [List.map_cons, List.getLastD_cons, Acc.run_cons]
    exact ih

/-- number of items of `L` tagged with triangle index `i` -/
def cnt (L : List (Item K)) (i : Nat) : Nat := L.countP (fun it => it.tri == i + 1)

def oddAt (L : List (Item K)) (i : Nat) : Bool := decide (cnt L i % 2 = 1)

/-- sum of the winding contributions -/
def wSum (L : List (Item K)) : Int := (L.map (fun it => it.dir)).sum

/-- number of triangle indices `< n` whose tag occurs an odd number of times in `L` -/
def fCount (n : Nat) (L : List (Item K)) : Nat := ((List.range n).filter (oddAt L)).length

theorem cnt_perm {L M : List (Item K)} (h : L.Perm M) (i : Nat) : cnt L i = cnt M i :=
  h.countP_eq _

theorem wSum_perm {L M : List (Item K)} (h : L.Perm M) : wSum L = wSum M :=
  (h.map _).sum_eq

theorem fCount_perm (n : Nat) {L M : List (Item K)} (h : L.Perm M) : fCount n L = fCount n M := by
  unfold fCount
  congr 2
  funext i
  unfold oddAt
  rw [cnt_perm h]

theorem oddAt_nil : oddAt ([] : List (Item K)) = fun _ => false := by
  funext i; simp [oddAt, cnt]

theorem cnt_snoc (L : List (Item K)) (it : Item K) (i : Nat) :
    cnt (L ++ [it]) i = cnt L i + (if it.tri = i + 1 then 1 else 0) := by
  unfold cnt
  rw [List.countP_append]
  congr 1
  by_cases h : it.tri = i + 1 <;> simp [h]

theorem oddAt_snoc (L : List (Item K)) (it : Item K) (i : Nat) :
    oddAt (L ++ [it]) i = (oddAt L i != decide (it.tri = i + 1)) := by
  unfold oddAt
  rw [cnt_snoc]
  by_cases h : it.tri = i + 1 <;> simp only [h, if_true, if_false, decide_true, decide_false, Nat.add_zero] <;>
    by_cases hh : cnt L i % 2 = 1 <;> simp [hh] <;> omega

theorem toggle_size (par : Array Bool) (f tri : Nat) : (toggle par f tri).1.size = par.size := by
  unfold toggle; split <;> simp

theorem toggle_getD (par : Array Bool) (f tri i : Nat) (hi : i < par.size) :
    (toggle par f tri).1.getD i false = (par.getD i false != decide (tri = i + 1)) := by
  unfold toggle
  by_cases h0 : tri = 0
  · simp [h0]
  · have hne : ¬ ((tri == 0) = true) := by simpa using h0
    simp only [hne, if_false, Bool.false_eq_true, Array.getD_eq_getD_getElem?, Array.getElem?_setIfInBounds]
    by_cases hk : tri = i + 1
    · simp [hk, hi]
    · simp [hk, show ¬ tri - 1 = i by omega]

theorem toggle_count (par : Array Bool) (f tri : Nat) (hf : f = par.toList.count true) (ht : tri ≤ par.size) :
    (toggle par f tri).2 = (toggle par f tri).1.toList.count true := by
  unfold toggle
  by_cases h0 : tri = 0
  · simp [h0, hf]
  · have hne : ¬ ((tri == 0) = true) := by simpa using h0
    have hk : tri - 1 < par.toList.length := by simp; omega
    simp only [hne, if_false, Bool.false_eq_true, Array.toList_setIfInBounds, List.count_set hk,
      Array.getD_eq_getD_getElem?, ← Array.getElem?_toList, List.getElem?_eq_getElem hk, Option.getD_some]
    cases par.toList[tri - 1] <;> simp [hf]

structure AccInv (n : Nat) (st : Acc) (L : List (Item K)) : Prop where
  w : st.w = wSum L
  size : st.par.size = n
  par : ∀ i, i < n → st.par.getD i false = oddAt L i
  f : st.f = st.par.toList.count true

theorem accInv_init (n : Nat) : AccInv n (Acc.init n) ([] : List (Item K)) :=
  ⟨rfl, by simp [Acc.init], fun i hi => by simp [Acc.init, oddAt_nil, hi],
   by simp [Acc.init, List.count_replicate]⟩

theorem accInv_step (n : Nat) (st : Acc) (L : List (Item K)) (it : Item K) (h : AccInv n st L)
    (htri : it.tri ≤ n) : AccInv n (st.step it) (L ++ [it]) :=
  ⟨by show st.w + it.dir = _; rw [h.w]; unfold wSum; simp,
   (toggle_size _ _ _).trans h.size,
   fun i hi => by
    show (toggle st.par st.f it.tri).1.getD i false = _
    rw [toggle_getD _ _ _ _ (h.size ▸ hi), h.par i hi, oddAt_snoc],
   toggle_count _ _ _ h.f (h.size ▸ htri)⟩

theorem accInv_run (n : Nat) : ∀ (M : List (Item K)) (st : Acc) (L : List (Item K)),
    AccInv n st L → (∀ it ∈ M, it.tri ≤ n) → AccInv n (st.run M) (L ++ M)
  | [], st, L, h, _ => by simpa [Acc.run] using h
  | it :: M, st, L, h, hM => by
    rw [Acc.run_cons]
    have := accInv_run n M (st.step it) (L ++ [it]) (accInv_step n st L it h (hM it (by simp)))
      (fun it' h' => hM it' (List.mem_cons_of_mem _ h'))
    simpa using this

theorem AccInv.fCount {n : Nat} {st : Acc} {L : List (Item K)} (h : AccInv n st L) : st.f = fCount n L := by
  have e : st.par.toList = (List.range n).map (oddAt L) :=
    List.ext_getElem (by simp [h.size]) fun i h1 h2 => by
      have hi : i < n := by simpa using h2
      have := h.par i hi
      rw [Array.getD_eq_getD_getElem?, ← Array.getElem?_toList, List.getElem?_eq_getElem h1] at this
      simpa using this
  rw [h.f, e, List.count_eq_countP, List.countP_map, List.countP_eq_length_filter]
  unfold Slab.fCount
  congr 2
  funext i; simp

theorem run_init (n : Nat) (M : List (Item K)) (hM : ∀ it ∈ M, it.tri ≤ n) :
    ((Acc.init n).run M).w = wSum M ∧ ((Acc.init n).run M).f = fCount n M := by
  have h := accInv_run n M (Acc.init n) [] (accInv_init n) hM
  rw [List.nil_append] at h
  exact ⟨h.w, h.fCount⟩

theorem foldl_dir (L : List (Item K)) (w : Int) : L.foldl (fun w it => w + it.dir) w = w + wSum L := by
  unfold wSum
  induction L generalizing w with
  | nil => simp
  | cons it r ih => simp only [List.foldl_cons, List.map_cons, List.sum_cons]; rw [ih]; omega

theorem wSum_append (L M : List (Item K)) : wSum (L ++ M) = wSum L + wSum M := by
  unfold wSum; simp

theorem wSum_zero (L : List (Item K)) (h : ∀ it ∈ L, it.dir = 0) : wSum L = 0 := by
  unfold wSum
  exact List.sum_eq_zero fun x hx => by
    obtain ⟨it, hit, rfl⟩ := List.mem_map.mp hx
    exact h it hit

theorem winding_eq (inp : Input K) (q : P K) :
    winding inp.edges q = wSum ((checkItems inp).filter (fun it => it.leftOf q)) := by
  unfold winding checkItems
  rw [foldl_dir, List.filter_append, wSum_append, wSum_zero (List.filter _ (triItems inp.tris))]
  · omega
  · intro it hit
    exact (mem_triItems (List.mem_filter.mp hit).1).2.2.2

noncomputable def covers (q : P K) (t : P K × P K × P K) : Bool :=
  ((triOf t 1).filter (fun it => it.leftOf q)).length % 2 == 1

theorem coverage_eq_covers (tris : List (P K × P K × P K)) (q : P K) :
    coverage tris q = (tris.filter (covers q)).length := rfl

def retag (tag : Nat) (it : Item K) : Item K := { it with tri := tag }

theorem mkItem_retag (p q : P K) (e : Bool) (tag : Nat) :
    mkItem p q e tag = (mkItem p q e 1).map (retag tag) := by
  unfold mkItem
  by_cases h1 : p.y < q.y
  · rw [if_pos h1, if_pos h1]; rfl
  · rw [if_neg h1, if_neg h1]
    by_cases h2 : q.y < p.y
    · rw [if_pos h2, if_pos h2]; rfl
    · rw [if_neg h2, if_neg h2]; rfl

theorem triOf_retag (t : P K × P K × P K) (tag : Nat) : triOf t tag = (triOf t 1).map (retag tag) := by
  unfold triOf
  rw [mkItem_retag t.1 t.2.1 false tag, mkItem_retag t.2.1 t.2.2 false tag, mkItem_retag t.2.2 t.1 false tag]
  cases mkItem t.1 t.2.1 false 1 <;> cases mkItem t.2.1 t.2.2 false 1 <;> cases mkItem t.2.2 t.1 false 1 <;> rfl

theorem triOf_leftOf_length (t : P K × P K × P K) (tag : Nat) (q : P K) :
    ((triOf t tag).filter (fun it => it.leftOf q)).length
      = ((triOf t 1).filter (fun it => it.leftOf q)).length := by
  rw [triOf_retag, List.filter_map, List.length_map]
  rfl

theorem mem_triFlat {ts : List (P K × P K × P K)} {k : Nat} {it : Item K}
    (h : it ∈ (ts.zipIdx k).flatMap (fun ti => triOf ti.1 (ti.2 + 1))) : k + 1 ≤ it.tri := by
  obtain ⟨ti, hti, hit⟩ := List.mem_flatMap.mp h
  have h1 := List.le_snd_of_mem_zipIdx hti
  have h2 := (mem_triOf hit).2.1
  omega

theorem cnt_append (L M : List (Item K)) (i : Nat) : cnt (L ++ M) i = cnt L i + cnt M i :=
  List.countP_append

theorem cnt_filter_zero (L : List (Item K)) (p : Item K → Bool) (i : Nat) (h : ∀ it ∈ L, it.tri ≠ i + 1) :
    cnt (L.filter p) i = 0 :=
  List.countP_eq_zero.mpr fun it hit => by simpa using h it (List.mem_filter.mp hit).1

theorem fCount_link (q : P K) : ∀ (tris : List (P K × P K × P K)) (k : Nat) (pre : List (Item K)),
    (∀ it ∈ pre, it.tri ≤ k) →
    ((List.range' k tris.length).filter
        (oddAt ((pre ++ (tris.zipIdx k).flatMap (fun ti => triOf ti.1 (ti.2 + 1))).filter
          (fun it => it.leftOf q)))).length
      = (tris.filter (covers q)).length
  | [], k, pre, _ => by simp
  | t :: ts, k, pre, hpre => by
    have hpre' : ∀ it ∈ pre ++ triOf t (k + 1), it.tri ≤ k + 1 := by
      intro it hit
      rcases List.mem_append.mp hit with h | h
      · have := hpre it h; omega
      · have := (mem_triOf h).2.1; omega
    have ih := fCount_link q ts (k + 1) (pre ++ triOf t (k + 1)) hpre'
    have elist : pre ++ ((t :: ts).zipIdx k).flatMap (fun ti => triOf ti.1 (ti.2 + 1))
        = (pre ++ triOf t (k + 1)) ++ (ts.zipIdx (k + 1)).flatMap (fun ti => triOf ti.1 (ti.2 + 1)) := by
      rw [List.zipIdx_cons, List.flatMap_cons, List.append_assoc]
    rw [elist, List.length_cons, List.range'_succ, List.filter_cons, List.filter_cons]
    -- peel the first triangle: the tag `k + 1` occurs only among its own (at most three) items
    have hhead : oddAt (((pre ++ triOf t (k + 1)) ++ (ts.zipIdx (k + 1)).flatMap
        (fun ti => triOf ti.1 (ti.2 + 1))).filter (fun it => it.leftOf q)) k = covers q t := by
      unfold oddAt covers
      rw [List.filter_append, List.filter_append, cnt_append, cnt_append,
        cnt_filter_zero _ _ _ fun it h => by have := hpre it h; omega,
        cnt_filter_zero (List.flatMap _ _) _ _ fun it h => by have := mem_triFlat h; omega, Nat.zero_add, Nat.add_zero]
      unfold cnt
      rw [List.countP_eq_length.mpr fun it hit => by simpa using (mem_triOf (List.mem_filter.mp hit).1).2.1,
        triOf_leftOf_length]
      by_cases hh : ((triOf t 1).filter (fun it => it.leftOf q)).length % 2 = 1 <;> simp [hh]
    rw [hhead]
    by_cases hc : covers q t = true
    · rw [if_pos hc, if_pos hc, List.length_cons, List.length_cons, ih]
    · rw [if_neg hc, if_neg hc, ih]

theorem coverage_eq (inp : Input K) (q : P K) :
    coverage inp.tris q = fCount inp.tris.length ((checkItems inp).filter (fun it => it.leftOf q)) := by
  rw [coverage_eq_covers]
  unfold fCount checkItems
  rw [triItems_eq, List.range_eq_range']
  have := fCount_link q inp.tris 0 (edgeItems inp.edges)
    (fun it hit => by rw [(mem_edgeItems hit).2])
  rw [← this]

theorem fCount_nil (n : Nat) : fCount n ([] : List (Item K)) = 0 := by
  simp [fCount, oddAt_nil]

end Lyon.Slab
