/-
  Helper lemmas for C15.  The four operations of the `WithSvg` model stand in closed form first, in the shape of the
  reference (`moveTo`, `close` by definition; `drawOut` for the three drawing calls; `arc_curve_eq` for `arc`), and the
  nesting invariant and the simulation relation between the model and the SVG reference semantics
  (`Model/Path/SvgSpec.lean`) are read off them.  What each operation leaves for the implicit control point of a
  following smooth command (`smooth_*`) is proved from the definitions, by cases on the state.  Mathlib-free.
-/
import LyonVerif.Model.Path.SvgSpec
import LyonVerif.Lemmas.Trace

namespace Lyon.Svg
open Lyon.Path

variable {α ρ : Type}

/-- The nesting invariant: "the wrapped builder is inside a sub-path" (`b`) ⇔ `¬need_moveto`
⇔ `last_cmd ≤ Begin`; and then the path is not empty. -/
def Inv (s : St α) (b : Bool) : Prop :=
  s.needMoveTo = !b ∧ decide (s.lastCmd.code ≤ Verb.begin.code) = b ∧ (b = true → s.isEmpty = false)

theorem inv_init (zero : α) : Inv (St.init zero) false := by
  simp [Inv, St.init, Verb.code]

/-- `end_if_needed` read off the flag `last_cmd ≤ Begin` that both invariants (`Inv`, `Sim`) carry -/
theorem endIfNeeded_eq {s : St α} {b : Bool} (h : decide (s.lastCmd.code ≤ Verb.begin.code) = b) :
    endIfNeeded s = if b then [.end_ false] else [] := by
  subst h
  simp [endIfNeeded]

theorem endIfNeeded_nest {s : St α} {b : Bool} (h : Inv s b) :
    nestState b (endIfNeeded s) = some false := by
  rw [endIfNeeded_eq h.2.1]
  cases b <;> rfl

theorem moveTo_nest {s : St α} {b : Bool} (to : Pt α) (h : Inv s b) :
    nestState b (moveTo s to).2 = some true ∧ Inv (moveTo s to).1 true := by
  refine ⟨?_, by simp [Inv, moveTo, Verb.code]⟩
  exact nestState_append_of (endIfNeeded_nest h) (by simp [nestState])

theorem beginIfNeeded_lastCtrl (l : St α) (d : Pt α) :
    (beginIfNeeded l d).1.lastCtrl = l.lastCtrl := by
  unfold beginIfNeeded
  cases l.needMoveTo <;> cases l.isEmpty <;> simp [moveTo]

/-- the common shape of `line_to` / `quadratic_bezier_to` / `cubic_bezier_to`, in the form of the reference's `Spec.draw`:
inside a sub-path the edge call `e`, `current_position = to`, `last_cmd = v`, `last_ctrl = k`; on an empty path the
move-to that replaces the command; after a `close` a new sub-path at the old start first -/
def drawOut (s : St α) (to k : Pt α) (v : Verb) (e : Call (Pt α) Unit) : St α × Calls α :=
  if s.needMoveTo then
    if s.isEmpty then moveTo s to
    else ({ (moveTo s s.first).1 with cur := to, lastCmd := v, lastCtrl := k }, (moveTo s s.first).2 ++ [e])
  else ({ s with cur := to, lastCmd := v, lastCtrl := k }, [e])

/-- the three edge calls to `to`, each with the verb the adapter records for it -/
inductive IsEdge (to : Pt α) : Verb → Call (Pt α) Unit → Prop
  | line : IsEdge to .lineTo (.line to ())
  | quad (k : Pt α) : IsEdge to .quadraticTo (.quad k to ())
  | cubic (k1 k2 : Pt α) : IsEdge to .cubicTo (.cubic k1 k2 to ())

theorem IsEdge.verb_le {to : Pt α} {v : Verb} {e : Call (Pt α) Unit} (h : IsEdge to v e) :
    v.code ≤ Verb.begin.code := by
  cases h <;> decide

theorem IsEdge.nest {to : Pt α} {v : Verb} {e : Call (Pt α) Unit} (h : IsEdge to v e) :
    nestState true [e] = some true := by
  cases h <;> rfl

theorem lineTo_eq (l : St α) (to : Pt α) :
    lineTo l to = drawOut l to l.lastCtrl .lineTo (.line to ()) := by
  cases hn : l.needMoveTo <;> cases he : l.isEmpty <;> simp [lineTo, drawOut, beginIfNeeded, moveTo, hn, he]

theorem quadTo_eq (l : St α) (c to : Pt α) :
    quadTo l c to = drawOut l to c .quadraticTo (.quad c to ()) := by
  cases hn : l.needMoveTo <;> cases he : l.isEmpty <;> simp [quadTo, drawOut, beginIfNeeded, hn, he]

theorem cubicTo_eq (l : St α) (c1 c2 to : Pt α) :
    cubicTo l c1 c2 to = drawOut l to c2 .cubicTo (.cubic c1 c2 to ()) := by
  cases hn : l.needMoveTo <;> cases he : l.isEmpty <;> simp [cubicTo, drawOut, beginIfNeeded, hn, he]

theorem draw_nest {s : St α} {b : Bool} {to : Pt α} {v : Verb} {e : Call (Pt α) Unit} (k : Pt α)
    (h : Inv s b) (he : IsEdge to v e) :
    nestState b (drawOut s to k v e).2 = some true ∧ Inv (drawOut s to k v e).1 true := by
  have hv := decide_eq_true he.verb_le
  unfold drawOut
  split
  · split
    · exact moveTo_nest to h
    · exact ⟨nestState_append_of (moveTo_nest s.first h).1 he.nest, rfl, hv, fun _ => rfl⟩
  · obtain rfl : b = true := by cases b <;> simp_all [Inv]
    exact ⟨he.nest, h.1, hv, h.2.2⟩

theorem close_nest {s : St α} {b : Bool} (h : Inv s b) :
    nestState b (close s).2 = some false ∧ Inv (close s).1 false := by
  obtain ⟨h1, h2⟩ := h
  cases b
  · have h1' : s.needMoveTo = true := by simpa using h1
    simp [close, h1', nestState, Inv, h2]
  · have h1' : s.needMoveTo = false := by simpa using h1
    simp [close, h1', nestState, Inv, Verb.code]

theorem emitQuads_eq (l : St α) (qs : List (Pt α × Pt α)) :
    emitQuads l qs = ({ l with cur := lastTo l.cur qs }, quadCalls qs) := by
  induction qs generalizing l with
  | nil => simp [emitQuads, lastTo, quadCalls]
  | cons q r ih =>
    obtain ⟨c, t⟩ := q
    simp [emitQuads, lastTo, quadCalls, ih]

/-- `WithSvg::arc` past the early return, in one equation (the form of the reference's `Spec.arcOut`) -/
theorem arc_curve_eq (s : St α) (start : Pt α) (near : Bool) (quads : List (Pt α × Pt α)) :
    arc s (.curve start near quads) =
      if s.needMoveTo then
        ({ s with isEmpty := false, needMoveTo := false, first := start, cur := lastTo start quads,
                  lastCmd := .begin, lastCtrl := lastTo start quads },
         endIfNeeded s ++ [.begin start ()] ++ quadCalls quads)
      else
        ({ s with cur := lastTo (if near then start else s.cur) quads,
                  lastCtrl := lastTo (if near then start else s.cur) quads },
         (if near then [.line start ()] else []) ++ quadCalls quads) := by
  cases hn : s.needMoveTo <;> cases near <;>
    simp [arc, arcCurve, hn, emitQuads_eq, moveTo, endIfNeeded]

theorem nestState_quadCalls (qs : List (Pt α × Pt α)) : nestState true (quadCalls qs) = some true := by
  induction qs with
  | nil => rfl
  | cons q r ih => simpa [quadCalls, nestState] using ih

theorem arc_nest {s : St α} {b : Bool} (o : ArcOut α) (h : Inv s b) :
    ∃ b', nestState b (arc s o).2 = some b' ∧ Inv (arc s o).1 b' := by
  cases o with
  | skip => exact ⟨b, rfl, h⟩
  | curve start near quads =>
    rw [arc_curve_eq]
    obtain ⟨h1, h2, h3⟩ := h
    cases hn : s.needMoveTo
    · obtain rfl : b = true := by cases b <;> simp_all
      exact ⟨true, by cases near <;> simp [nestState, nestState_quadCalls], rfl, h2, h3⟩
    · exact ⟨true, nestState_append_of (moveTo_nest start ⟨h1, h2, h3⟩).1 (nestState_quadCalls quads),
        rfl, rfl, fun _ => rfl⟩

section
variable [Add α] [Sub α]

/-- every command is a `move_to`, a `close`, a drawing operation `drawOut` with one of
the three edge calls, or an `arc`; what holds of all of those holds of `step`.  This serves a
conclusion that does not mention the command (`step_nest`, `step_synced`).  Where it does, the 20
commands are walked again: `sim_step`, `C15.smooth_reflects_same_kind`, `step_connected` and
`runOk_of_endpoint` of `Lemmas/SvgGeoConcrete.lean`, beside the tables `froms` and `StepOk` there. -/
theorem step_shapes (g : Geo α ρ) (s : St α) (c : Cmd α ρ) {M : St α × Calls α → Prop}
    (hm : ∀ p, M (moveTo s p)) (hc : M (close s))
    (hd : ∀ to k v e, IsEdge to v e → M (drawOut s to k v e)) (hr : ∀ o, M (arc s o)) :
    M (step g s c) := by
  have hl : ∀ p, M (lineTo s p) := fun p => lineTo_eq s p ▸ hd p _ _ _ .line
  have hq : ∀ k p, M (quadTo s k p) := fun k p => quadTo_eq s k p ▸ hd p _ _ _ (.quad k)
  have hk : ∀ k1 k2 p, M (cubicTo s k1 k2 p) := fun k1 k2 p => cubicTo_eq s k1 k2 p ▸ hd p _ _ _ (.cubic k1 k2)
  have ha : ∀ p o, M (arcTo s p o) := fun p o => by
    cases o with
    | straight => exact hl p
    | arc o => exact hr o
  cases c with
  | close => exact hc
  | arcTo r to => exact ha _ _
  | relArcTo r v => exact ha _ _
  | arc r => exact hr _
  | moveTo to => exact hm _
  | relMoveTo v => exact hm _
  | lineTo to => exact hl _
  | relLineTo v => exact hl _
  | hLineTo x => exact hl _
  | relHLineTo x => exact hl _
  | vLineTo x => exact hl _
  | relVLineTo x => exact hl _
  | quadTo c to => exact hq _ _
  | relQuadTo c v => exact hq _ _
  | smoothQuadTo to => exact hq _ _
  | smoothRelQuadTo v => exact hq _ _
  | cubicTo c1 c2 to => exact hk _ _ _
  | relCubicTo c1 c2 v => exact hk _ _ _
  | smoothCubicTo c2 to => exact hk _ _ _
  | smoothRelCubicTo c2 v => exact hk _ _ _

theorem step_nest (g : Geo α ρ) {s : St α} {b : Bool} (c : Cmd α ρ) (h : Inv s b) :
    ∃ b', nestState b (step g s c).2 = some b' ∧ Inv (step g s c).1 b' :=
  step_shapes g s c (M := fun r => ∃ b', nestState b r.2 = some b' ∧ Inv r.1 b')
    (fun _ => ⟨true, moveTo_nest _ h⟩) ⟨false, close_nest h⟩
    (fun _ k _ _ he => ⟨true, draw_nest k h he⟩) (fun _ => arc_nest _ h)

theorem run_nest (g : Geo α ρ) (cmds : List (Cmd α ρ)) {s : St α} {b : Bool} (h : Inv s b) :
    ∃ b', nestState b (run g s cmds).2 = some b' ∧ Inv (run g s cmds).1 b' := by
  induction cmds generalizing s b with
  | nil => exact ⟨b, by simp [run, nestState], by simpa [run] using h⟩
  | cons c r ih =>
    obtain ⟨b1, h1, i1⟩ := step_nest g c h
    obtain ⟨b2, h2, i2⟩ := ih i1
    exact ⟨b2, by simpa [run] using nestState_append_of h1 h2, by simpa [run] using i2⟩

end

/-- what `last_cmd` / `last_ctrl` must say for the reference's "previous command".  After an arc
`last_cmd` may still name the curve that preceded the arc; what makes the next smooth command
reflect nothing is `last_ctrl = current_position` (lyon commit 059d9c0c). -/
def PrevRel (l : St α) : Prev α → Prop
  | .other => l.lastCmd ≠ .quadraticTo ∧ l.lastCmd ≠ .cubicTo
  | .quad c => l.lastCmd = .quadraticTo ∧ l.lastCtrl = c
  | .cubic c => l.lastCmd = .cubicTo ∧ l.lastCtrl = c
  | .arc => l.lastCtrl = l.cur

structure Sim (l : St α) (s : Spec α) : Prop where
  cur : l.cur = s.cur
  first : l.first = s.start
  nm : l.needMoveTo = !s.isOpen
  empty : l.isEmpty = s.fresh
  lc : decide (l.lastCmd.code ≤ Verb.begin.code) = s.isOpen
  prev : PrevRel l s.prev

theorem sim_init (zero : α) : Sim (St.init zero) (Spec.init zero) := by
  constructor <;> simp [St.init, Spec.init, Verb.code, PrevRel]

theorem sim_moveTo {l : St α} {s : Spec α} (p : Pt α) (h : Sim l s) :
    (moveTo l p).2 = (s.moveTo p).2 ∧ Sim (moveTo l p).1 (s.moveTo p).1 := by
  refine ⟨by simp [moveTo, Spec.moveTo, endIfNeeded_eq h.lc], ?_⟩
  constructor <;> simp [moveTo, Spec.moveTo, Verb.code, PrevRel]

/-- the three edge calls to `to`: the verb and control point the adapter records, what the reference remembers -/
inductive IsEdgeP (to : Pt α) : Verb → Pt α → Call (Pt α) Unit → Prev α → Prop
  | line (k : Pt α) : IsEdgeP to .lineTo k (.line to ()) .other
  | quad (k : Pt α) : IsEdgeP to .quadraticTo k (.quad k to ()) (.quad k)
  | cubic (k1 k2 : Pt α) : IsEdgeP to .cubicTo k2 (.cubic k1 k2 to ()) (.cubic k2)

theorem sim_draw {l : St α} {s : Spec α} (h : Sim l s) {to k : Pt α} {e : Call (Pt α) Unit}
    {pv : Prev α} {v : Verb} (he : IsEdgeP to v k e pv) :
    (drawOut l to k v e).2 = (s.draw to e pv).2 ∧ Sim (drawOut l to k v e).1 (s.draw to e pv).1 := by
  have hnm := h.nm
  have hem := h.empty
  have hm := sim_moveTo l.first h
  have hv : decide (v.code ≤ Verb.begin.code) = true := by cases he <;> rfl
  have hp : ∀ (f : Pt α) (nm em : Bool), PrevRel ⟨f, to, k, v, nm, em⟩ pv := by
    cases he <;> intros <;> simp [PrevRel]
  unfold drawOut Spec.draw
  cases ho : s.isOpen <;> rw [ho] at hnm <;> rw [hnm]
  · cases hf : s.fresh <;> rw [hf] at hem <;> rw [hem]
    · refine ⟨?_, rfl, h.first, rfl, rfl, hv, hp _ _ _⟩
      rw [hm.1, Spec.moveTo, ho, h.first]; rfl
    · exact sim_moveTo to h
  · exact ⟨rfl, rfl, h.first, rfl, h.empty, hv, hp _ _ _⟩

theorem sim_close {l : St α} {s : Spec α} (h : Sim l s) :
    (close l).2 = s.close.2 ∧ Sim (close l).1 s.close.1 := by
  have hnm := h.nm
  cases ho : s.isOpen
  · have hn : l.needMoveTo = true := by simpa [ho] using hnm
    refine ⟨by simp [close, Spec.close, hn, ho], ?_⟩
    have hlc := h.lc
    have hpo : PrevRel l .other := by
      rw [ho] at hlc
      cases hl : l.lastCmd <;> simp_all [Verb.code, PrevRel]
    constructor <;> simp [close, Spec.close, hn, ho, h.cur, h.first, h.empty, h.lc, hpo]
  · have hn : l.needMoveTo = false := by simpa [ho] using hnm
    refine ⟨by simp [close, Spec.close, hn, ho], ?_⟩
    constructor <;> simp [close, Spec.close, hn, ho, h.first, h.empty, Verb.code, PrevRel]

theorem sim_arc {l : St α} {s : Spec α} (h : Sim l s) (o : ArcOut α) :
    (arc l o).2 = (s.arcOut o).2 ∧ Sim (arc l o).1 (s.arcOut o).1 := by
  cases o with
  | skip => exact ⟨rfl, h.cur, h.first, h.nm, h.empty, h.lc, rfl⟩
  | curve start near quads =>
    rw [arc_curve_eq]
    have hnm := h.nm
    have hend := endIfNeeded_eq h.lc
    unfold Spec.arcOut
    cases ho : s.isOpen <;> rw [ho] at hnm hend <;> rw [hnm]
    · exact ⟨by rw [hend]; rfl, rfl, rfl, rfl, rfl, rfl, rfl⟩
    · exact ⟨by rw [h.cur]; rfl, by rw [h.cur]; rfl, h.first, rfl, h.empty, h.lc.trans ho, rfl⟩

section
variable [Add α] [Sub α]

/-- reflecting a point about itself: the only algebra the adapter relies on -/
theorem pt_refl (hα : ∀ a : α, a + (a - a) = a) (p : Pt α) : p + (p - p) = p := by
  obtain ⟨x, y⟩ := p
  show Pt.mk (x + (x - x)) (y + (y - y)) = Pt.mk x y
  rw [hα x, hα y]

theorem smooth_self (hα : ∀ a : α, a + (a - a) = a) (t : St α) (ht : t.lastCtrl = t.cur) :
    smoothCubicCtrl t = t.cur ∧ smoothQuadCtrl t = t.cur := by
  unfold smoothCubicCtrl smoothQuadCtrl
  cases hl : t.lastCmd <;> simp [ht, pt_refl hα]

theorem sim_smooth (hα : ∀ a : α, a + (a - a) = a) {l : St α} {s : Spec α} (h : Sim l s) :
    smoothCubicCtrl l = s.smoothCubic ∧ smoothQuadCtrl l = s.smoothQuad := by
  have hpr := h.prev
  have hc := h.cur
  unfold smoothCubicCtrl smoothQuadCtrl Spec.smoothCubic Spec.smoothQuad
  cases hv : s.prev with
  | arc =>
    rw [hv] at hpr
    exact hc ▸ smooth_self hα l hpr
  | other =>
    rw [hv] at hpr
    obtain ⟨h1, h2⟩ := hpr
    cases hl : l.lastCmd <;> simp_all
  | quad c =>
    rw [hv] at hpr
    simp [hpr.1, hpr.2, hc]
  | cubic c =>
    rw [hv] at hpr
    simp [hpr.1, hpr.2, hc]

theorem sim_step (hα : ∀ a : α, a + (a - a) = a) (g : Geo α ρ) {l : St α} {s : Spec α}
    (h : Sim l s) (c : Cmd α ρ) :
    (step g l c).2 = (s.step g c).2 ∧ Sim (step g l c).1 (s.step g c).1 := by
  obtain ⟨hsc, hsq⟩ := sim_smooth hα h
  -- the reference's current point IS the adapter's: then a relative command reads the same on both sides
  obtain ⟨cur, st, op, fr, pv⟩ := s
  obtain rfl : l.cur = cur := h.cur
  generalize hs : (⟨l.cur, st, op, fr, pv⟩ : Spec α) = s at *
  have hl : ∀ p, (lineTo l p).2 = (s.draw p (.line p ()) .other).2 ∧
      Sim (lineTo l p).1 (s.draw p (.line p ()) .other).1 := fun p => lineTo_eq l p ▸ sim_draw h (.line _)
  -- `k'`: the control point as the reference writes it (the implicit one of a smooth command: `hsq`, `hsc`)
  have hq : ∀ {k k'} p, k = k' → (quadTo l k p).2 = (s.draw p (.quad k' p ()) (.quad k')).2 ∧
      Sim (quadTo l k p).1 (s.draw p (.quad k' p ()) (.quad k')).1 :=
    fun p e => e ▸ quadTo_eq l _ p ▸ sim_draw h (.quad _)
  have hk : ∀ {k1 k1'} k2 p, k1 = k1' → (cubicTo l k1 k2 p).2 = (s.draw p (.cubic k1' k2 p ()) (.cubic k2)).2 ∧
      Sim (cubicTo l k1 k2 p).1 (s.draw p (.cubic k1' k2 p ()) (.cubic k2)).1 :=
    fun k2 p e => e ▸ cubicTo_eq l _ k2 p ▸ sim_draw h (.cubic _ k2)
  have ha : ∀ p o, (arcTo l p o).2 = (s.arcTo p o).2 ∧ Sim (arcTo l p o).1 (s.arcTo p o).1 := fun p o => by
    cases o with
    | straight => exact hl p
    | arc o => exact sim_arc h o
  subst hs
  cases c with
  | moveTo p => exact sim_moveTo p h
  | relMoveTo v => exact sim_moveTo _ h
  | close => exact sim_close h
  | lineTo p => exact hl _
  | relLineTo v => exact hl _
  | hLineTo x => exact hl _
  | relHLineTo x => exact hl _
  | vLineTo y => exact hl _
  | relVLineTo y => exact hl _
  | quadTo k p => exact hq _ rfl
  | relQuadTo k v => exact hq _ rfl
  | smoothQuadTo p => exact hq _ hsq
  | smoothRelQuadTo v => exact hq _ hsq
  | cubicTo k1 k2 p => exact hk _ _ rfl
  | relCubicTo k1 k2 v => exact hk _ _ rfl
  | smoothCubicTo k2 p => exact hk _ _ hsc
  | smoothRelCubicTo k2 v => exact hk _ _ hsc
  | arcTo r p => exact ha _ _
  | relArcTo r v => exact ha _ _
  | arc r => exact sim_arc h _

theorem sim_run (hα : ∀ a : α, a + (a - a) = a) (g : Geo α ρ) (cmds : List (Cmd α ρ))
    {l : St α} {s : Spec α} (h : Sim l s) :
    (run g l cmds).2 = (Spec.run g s cmds).2 ∧ Sim (run g l cmds).1 (Spec.run g s cmds).1 := by
  induction cmds generalizing l s with
  | nil => exact ⟨rfl, h⟩
  | cons c r ih =>
    obtain ⟨e1, s1⟩ := sim_step hα g h c
    obtain ⟨e2, s2⟩ := ih s1
    exact ⟨by simp [run, Spec.run, e1, e2], by simpa [run, Spec.run] using s2⟩

end

theorem arc_lastCtrl (s : St α) (o : ArcOut α) : (arc s o).1.lastCtrl = (arc s o).1.cur := by
  cases o <;> simp [arc]

section
variable [Add α] [Sub α]

theorem smooth_moveTo (s : St α) (p : Pt α) :
    smoothCubicCtrl (moveTo s p).1 = (moveTo s p).1.cur
      ∧ smoothQuadCtrl (moveTo s p).1 = (moveTo s p).1.cur := ⟨rfl, rfl⟩

/-- `close` of an open sub-path sets `last_cmd = Close`; otherwise it does nothing, and in a reachable
state (`hi`) `last_cmd` is then `Close` or `End` already -/
theorem smooth_close (s : St α) (hi : s.needMoveTo = true → Verb.begin.code < s.lastCmd.code) :
    smoothCubicCtrl (close s).1 = (close s).1.cur ∧ smoothQuadCtrl (close s).1 = (close s).1.cur := by
  cases hn : s.needMoveTo
  · simp [close, hn, smoothCubicCtrl, smoothQuadCtrl]
  · have := hi hn
    cases hl : s.lastCmd <;> simp_all [close, smoothCubicCtrl, smoothQuadCtrl, Verb.code]

theorem smooth_lineTo (s : St α) (p : Pt α) :
    smoothCubicCtrl (lineTo s p).1 = (lineTo s p).1.cur
      ∧ smoothQuadCtrl (lineTo s p).1 = (lineTo s p).1.cur := by
  cases hn : s.needMoveTo <;> cases he : s.isEmpty <;>
    simp [lineTo, beginIfNeeded, moveTo, hn, he, smoothCubicCtrl, smoothQuadCtrl]

theorem smooth_quadTo (s : St α) (k p : Pt α) :
    (¬(s.needMoveTo = true ∧ s.isEmpty = true) →
      smoothCubicCtrl (quadTo s k p).1 = (quadTo s k p).1.cur
      ∧ smoothQuadCtrl (quadTo s k p).1 = (quadTo s k p).1.cur + ((quadTo s k p).1.cur - k))
    ∧ ((s.needMoveTo = true ∧ s.isEmpty = true) →
      smoothCubicCtrl (quadTo s k p).1 = (quadTo s k p).1.cur
      ∧ smoothQuadCtrl (quadTo s k p).1 = (quadTo s k p).1.cur) := by
  cases hn : s.needMoveTo <;> cases he : s.isEmpty <;>
    simp [quadTo, beginIfNeeded, moveTo, hn, he, smoothCubicCtrl, smoothQuadCtrl]

theorem smooth_cubicTo (s : St α) (k1 k2 p : Pt α) :
    (¬(s.needMoveTo = true ∧ s.isEmpty = true) →
      smoothCubicCtrl (cubicTo s k1 k2 p).1
        = (cubicTo s k1 k2 p).1.cur + ((cubicTo s k1 k2 p).1.cur - k2)
      ∧ smoothQuadCtrl (cubicTo s k1 k2 p).1 = (cubicTo s k1 k2 p).1.cur)
    ∧ ((s.needMoveTo = true ∧ s.isEmpty = true) →
      smoothCubicCtrl (cubicTo s k1 k2 p).1 = (cubicTo s k1 k2 p).1.cur
      ∧ smoothQuadCtrl (cubicTo s k1 k2 p).1 = (cubicTo s k1 k2 p).1.cur) := by
  cases hn : s.needMoveTo <;> cases he : s.isEmpty <;>
    simp [cubicTo, beginIfNeeded, moveTo, hn, he, smoothCubicCtrl, smoothQuadCtrl]

theorem smooth_arcTo (hα : ∀ a : α, a + (a - a) = a) (s : St α) (p : Pt α) (o : SvgArcOut α) :
    smoothCubicCtrl (arcTo s p o).1 = (arcTo s p o).1.cur
      ∧ smoothQuadCtrl (arcTo s p o).1 = (arcTo s p o).1.cur := by
  cases o with
  | straight => exact smooth_lineTo s p
  | arc o => exact smooth_self hα _ (arc_lastCtrl s o)

end

end Lyon.Svg
