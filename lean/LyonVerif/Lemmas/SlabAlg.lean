/-
  Ordered-field facts behind the slab checker.  Inside a slab that no crossing ordinate cuts, the segments that
  span it keep their left-to-right order: two affine functions that change order meet in between (`affine_cross`,
  `order_cross`).  `sqDistSeg` is the least of a quadratic on `[0,1]` (`sqDistSeg_eq_at`, `quad_clamp_min`), so the
  band of a segment is closed under `lerp` (`lerpClosed_band`, on `Lemmas/Hull`); a trapezoid whose corners lie in a
  band lies in it (`band_quad`), and the bisecting test only accepts trapezoids inside the outline's band
  (`bandRec_sound`).
-/
import LyonVerif.Model.Slab
import LyonVerif.Lemmas.Hull

set_option linter.unusedSectionVars false

namespace Lyon.Slab
open Lyon

variable {K : Type} [Field K] [LinearOrder K] [IsStrictOrderedRing K]

noncomputable def Item.slope (it : Item K) : K := (it.b.x - it.a.x) / (it.b.y - it.a.y)

noncomputable def Item.icpt (it : Item K) : K := it.a.x - it.slope * it.a.y

theorem xAt_eq (it : Item K) (y : K) : it.xAt y = it.icpt + it.slope * y := by
  unfold Item.xAt Item.icpt Item.slope
  ring

theorem spans_iff (it : Item K) (y0 y1 : K) : it.spans y0 y1 = true ↔ it.a.y ≤ y0 ∧ y1 ≤ it.b.y := by
  unfold Item.spans
  simp

theorem leftOf_iff (it : Item K) (q : P K) :
    it.leftOf q = true ↔ it.a.y ≤ q.y ∧ q.y < it.b.y ∧ it.xAt q.y < q.x := by
  unfold Item.leftOf
  simp [and_assoc]

theorem crossY_parallel (i j : Item K) (h : i.slope = j.slope) : crossY i j = none := by
  unfold crossY
  split_ifs
  · rfl
  · unfold crossYLines
    simp only []
    rw [if_pos]
    rw [sc_beq]
    exact h

theorem crossY_self (i : Item K) : crossY i i = none := crossY_parallel i i rfl

theorem crossY_eq_some (i j : Item K) (y : K) (hs : i.slope ≠ j.slope)
    (hx : i.xAt y = j.xAt y)
    (h1 : i.a.y ≤ y) (h2 : y ≤ i.b.y) (h3 : j.a.y ≤ y) (h4 : y ≤ j.b.y) :
    crossY i j = some y := by
  have hy : (j.icpt - i.icpt) / (i.slope - j.slope) = y := by
    rw [div_eq_iff (sub_ne_zero.mpr hs)]
    rw [xAt_eq, xAt_eq] at hx
    linear_combination (-1 : K) * hx
  unfold crossY
  have hg : ¬ ((decide (i.b.y < j.a.y) || decide (j.b.y < i.a.y)) = true) := by
    simp only [Bool.or_eq_true, decide_eq_true_eq, not_or, not_lt]
    exact ⟨le_trans h3 h2, le_trans h1 h4⟩
  rw [if_neg hg]
  unfold crossYLines
  simp only []
  have hne : ¬ (((i.b.x - i.a.x) / (i.b.y - i.a.y) == (j.b.x - j.a.x) / (j.b.y - j.a.y)) = true) := by
    rw [sc_beq]; exact hs
  rw [if_neg hne]
  unfold Item.icpt Item.slope at hy
  rw [hy]
  simp [h1, h2, h3, h4]

theorem affine_cross {ci cj si sj u v : K} (h : ci + si * u < cj + sj * u)
    (hn : cj + sj * v ≤ ci + si * v) :
    si ≠ sj ∧ min u v ≤ (cj - ci) / (si - sj) ∧ (cj - ci) / (si - sj) ≤ max u v ∧
    ci + si * ((cj - ci) / (si - sj)) = cj + sj * ((cj - ci) / (si - sj)) := by
  have hs : si ≠ sj := by rintro rfl; linarith
  have hD : si - sj ≠ 0 := sub_ne_zero.mpr hs
  have hy : (si - sj) * ((cj - ci) / (si - sj)) = cj - ci := mul_div_cancel₀ _ hD
  generalize (cj - ci) / (si - sj) = y at hy ⊢
  -- the difference of the two functions changes sign between `u` and `v`, so `y` lies between them
  have h1 : 0 < (si - sj) * (y - u) := by linarith
  have h2 : 0 ≤ (si - sj) * (v - y) := by linarith
  refine ⟨hs, ?_, ?_, by linarith⟩ <;> rcases lt_or_gt_of_ne hD with hneg | hpos
  · exact (min_le_right u v).trans (sub_nonpos.mp (nonpos_of_mul_nonneg_right h2 hneg))
  · exact (min_le_left u v).trans (sub_pos.mp ((mul_pos_iff_of_pos_left hpos).mp h1)).le
  · exact (sub_neg.mp (neg_of_mul_pos_right h1 hneg.le)).le.trans (le_max_left u v)
  · exact (sub_nonneg.mp (nonneg_of_mul_nonneg_right h2 hpos)).trans (le_max_right u v)

theorem order_cross (i j : Item K) (y0 y1 u v : K)
    (hi0 : i.a.y ≤ y0) (hi1 : y1 ≤ i.b.y) (hj0 : j.a.y ≤ y0) (hj1 : y1 ≤ j.b.y)
    (hu0 : y0 < u) (hu1 : u < y1) (hv0 : y0 < v) (hv1 : v < y1)
    (h : i.xAt u < j.xAt u) (hn : j.xAt v ≤ i.xAt v) :
    ∃ y, y0 < y ∧ y < y1 ∧ crossY i j = some y ∧ crossY j i = some y := by
  rw [xAt_eq, xAt_eq] at h hn
  obtain ⟨hs, hlo, hhi, hmeet⟩ := affine_cross h hn
  have hy0 := lt_of_lt_of_le (lt_min hu0 hv0) hlo
  have hy1 := lt_of_le_of_lt hhi (max_lt hu1 hv1)
  have bi0 := (hi0.trans_lt hy0).le
  have bi1 := (hy1.trans_le hi1).le
  have bj0 := (hj0.trans_lt hy0).le
  have bj1 := (hy1.trans_le hj1).le
  exact ⟨_, hy0, hy1, crossY_eq_some i j _ hs (by rw [xAt_eq, xAt_eq]; exact hmeet) bi0 bi1 bj0 bj1,
    crossY_eq_some j i _ hs.symm (by rw [xAt_eq, xAt_eq]; exact hmeet.symm) bj0 bj1 bi0 bi1⟩

noncomputable def sqDistAt (p a b : P K) (t : K) : K :=
  (p.x - (a.x + (b.x - a.x) * t)) ^ 2 + (p.y - (a.y + (b.y - a.y) * t)) ^ 2

theorem sqDistAt_eq (p a b : P K) (t : K) :
    sqDistAt p a b t = (p - a).sqLen - 2 * t * (p - a).dot (b - a) + t * t * (b - a).sqLen := by
  simp only [sqDistAt, geom]; ring

/-- `d / l` clamped to `[0,1]`, with the tests in the order `sqDistSeg` makes them -/
noncomputable def clampParam (d l : K) : K :=
  if l = 0 then 0 else if d / l ≤ 0 then 0 else if 1 ≤ d / l then 1 else d / l

theorem clampParam_mem (d l : K) : 0 ≤ clampParam d l ∧ clampParam d l ≤ 1 := by
  unfold clampParam
  split_ifs
  · exact ⟨le_refl _, zero_le_one⟩
  · exact ⟨le_refl _, zero_le_one⟩
  · exact ⟨zero_le_one, le_refl _⟩
  · exact ⟨(not_le.mp ‹_›).le, (not_le.mp ‹_›).le⟩

theorem quad_clamp_min {w d l t : K} (hl : 0 ≤ l) (hd : l = 0 → d = 0) (h0 : 0 ≤ t) (h1 : t ≤ 1) :
    w - 2 * clampParam d l * d + clampParam d l * clampParam d l * l ≤ w - 2 * t * d + t * t * l := by
  unfold clampParam
  by_cases hz : l = 0
  · rw [if_pos hz, hd hz, hz]; simp
  · have hpos : 0 < l := lt_of_le_of_ne hl (Ne.symm hz)
    have hdl : d = d / l * l := (div_mul_cancel₀ d hz).symm
    rw [if_neg hz]
    generalize d / l = t0 at hdl ⊢
    subst hdl
    have B := mul_nonneg (mul_self_nonneg t) hl
    split_ifs with hc1 hc2
    · have A := mul_nonneg h0 (mul_nonneg (neg_nonneg.mpr hc1) hl)
      linear_combination 2 * A + B
    · have e1 : 0 ≤ (1 - t) * ((t0 - 1) * l) :=
        mul_nonneg (sub_nonneg.mpr h1) (mul_nonneg (sub_nonneg.mpr hc2) hl)
      have e2 : 0 ≤ (1 - t) * (1 - t) * l := mul_nonneg (mul_self_nonneg _) hl
      linear_combination 2 * e1 + e2
    · have e : 0 ≤ (t - t0) * (t - t0) * l := mul_nonneg (mul_self_nonneg _) hl
      linear_combination e

noncomputable def nearParam (p a b : P K) : K := clampParam ((p - a).dot (b - a)) (b - a).sqLen

theorem sqDistSeg_eq_at (p a b : P K) : sqDistSeg p a b = sqDistAt p a b (nearParam p a b) := by
  have e0 : sqDistAt p a b 0 = (p - a).sqLen := by simp only [sqDistAt, geom]; ring
  have e1 : sqDistAt p a b 1 = (p - b).sqLen := by simp only [sqDistAt, geom]; ring
  have et : ∀ t, sqDistAt p a b t = (p - (a + (b - a).smul t)).sqLen := fun t => by
    simp only [sqDistAt, geom]; ring
  unfold sqDistSeg nearParam clampParam
  simp only [apply_ite (sqDistAt p a b), e0, e1, sc_beq, sc_zero, sc_one]
  simp only [et]

theorem sqDistAt_lerp (p a b : P K) (t : K) : sqDistAt p a b t = (p - a.lerp b t).sqLen := by
  simp only [sqDistAt, geom, Nat.cast_one]; ring

theorem sqDistSeg_le_at (p a b : P K) (t : K) (h0 : 0 ≤ t) (h1 : t ≤ 1) :
    sqDistSeg p a b ≤ (p - a.lerp b t).sqLen := by
  rw [← sqDistAt_lerp, sqDistSeg_eq_at, sqDistAt_eq, sqDistAt_eq]
  refine quad_clamp_min (P.sqLen_nonneg _) (fun h => ?_) h0 h1
  simp only [geom] at h ⊢
  obtain ⟨hx, hy⟩ := mul_self_add_mul_self_eq_zero.mp h
  rw [hx, hy]; ring

theorem sqDistSeg_attained (p a b : P K) :
    ∃ t, 0 ≤ t ∧ t ≤ 1 ∧ sqDistSeg p a b = (p - a.lerp b t).sqLen :=
  ⟨_, (clampParam_mem _ _).1, (clampParam_mem _ _).2, (sqDistSeg_eq_at p a b).trans (sqDistAt_lerp p a b _)⟩

theorem sqDistSeg_le_iff (p a b : P K) (d : K) :
    sqDistSeg p a b ≤ d ↔ ∃ t, 0 ≤ t ∧ t ≤ 1 ∧ (p - a.lerp b t).sqLen ≤ d := by
  constructor
  · intro h
    obtain ⟨t, h0, h1, e⟩ := sqDistSeg_attained p a b
    exact ⟨t, h0, h1, e ▸ h⟩
  · rintro ⟨t, h0, h1, h⟩
    exact le_trans (sqDistSeg_le_at p a b t h0 h1) h

/-- the band of a segment is closed under `lerp`: the chord parameters combine by `Hull.lerp_mem`,
the two difference vectors by `Hull.sqLen_lerp_le` -/
theorem lerpClosed_band (a b : P K) (d : K) : Hull.LerpClosed fun p => sqDistSeg p a b ≤ d := by
  intro p1 p2 u h0 h1 hp1 hp2
  rw [sqDistSeg_le_iff] at hp1 hp2 ⊢
  obtain ⟨t1, h10, h11, e1⟩ := hp1
  obtain ⟨t2, h20, h21, e2⟩ := hp2
  obtain ⟨m0, m1⟩ := Hull.lerp_mem h0 h1 ⟨h10, h11⟩ ⟨h20, h21⟩
  refine ⟨_, m0, m1, ?_⟩
  have el : a.lerp b ((1 - u) * t1 + u * t2) = (a.lerp b t1).lerp (a.lerp b t2) u := by geom_ring
  rw [el, Hull.lerp_sub_lerp]
  exact Hull.sqLen_lerp_le _ _ d u h0 h1 e1 e2

theorem band_convex (a b : P K) (d : K) (p1 p2 p : P K) (lam : K) (h0 : 0 ≤ lam) (h1 : lam ≤ 1)
    (hx : p.x = (1 - lam) * p1.x + lam * p2.x) (hy : p.y = (1 - lam) * p1.y + lam * p2.y)
    (hp1 : sqDistSeg p1 a b ≤ d) (hp2 : sqDistSeg p2 a b ≤ d) : sqDistSeg p a b ≤ d := by
  have e : p = p1.lerp p2 lam := P.ext' (by simp only [geom, Nat.cast_one]; exact hx)
    (by simp only [geom, Nat.cast_one]; exact hy)
  exact e ▸ lerpClosed_band a b d p1 p2 lam h0 h1 hp1 hp2

/-- linear interpolation between the values `u0` at `y0` and `u1` at `y1` -/
noncomputable def lerpS (y0 y1 y u0 u1 : K) : K :=
  (1 - (y - y0) / (y1 - y0)) * u0 + (y - y0) / (y1 - y0) * u1

theorem xAt_lerp (it : Item K) (y0 y1 y : K) (h : y0 ≠ y1) :
    it.xAt y = lerpS y0 y1 y (it.xAt y0) (it.xAt y1) := by
  unfold lerpS
  rw [xAt_eq, xAt_eq, xAt_eq]
  have hd : y1 - y0 ≠ 0 := sub_ne_zero.mpr (Ne.symm h)
  have e : (y - y0) / (y1 - y0) * (y1 - y0) = y - y0 := div_mul_cancel₀ _ hd
  linear_combination (-it.slope) * e

theorem lerpS_mid (y0 y1 y l0 l1 r0 r1 : K) :
    lerpS y0 y1 y ((l0 + r0) / 2) ((l1 + r1) / 2) = (lerpS y0 y1 y l0 l1 + lerpS y0 y1 y r0 r1) / 2 := by
  unfold lerpS; ring

theorem lerpS_lower (y0 y1 y u0 u1 : K) (h : y0 ≠ y1) :
    lerpS y0 ((y0 + y1) / 2) y u0 ((u0 + u1) / 2) = lerpS y0 y1 y u0 u1 := by
  unfold lerpS
  have hd : y1 - y0 ≠ 0 := sub_ne_zero.mpr (Ne.symm h)
  have e : (y0 + y1) / 2 - y0 = (y1 - y0) / 2 := by ring
  rw [e]
  field_simp
  ring

theorem lerpS_upper (y0 y1 y u0 u1 : K) (h : y0 ≠ y1) :
    lerpS ((y0 + y1) / 2) y1 y ((u0 + u1) / 2) u1 = lerpS y0 y1 y u0 u1 := by
  unfold lerpS
  have hd : y1 - y0 ≠ 0 := sub_ne_zero.mpr (Ne.symm h)
  have e : y1 - (y0 + y1) / 2 = (y1 - y0) / 2 := by ring
  rw [e]
  field_simp
  ring

theorem band_between (a b : P K) (d xl xr : K) (q : P K) (hl : xl ≤ q.x) (hr : q.x ≤ xr)
    (hL : sqDistSeg ⟨xl, q.y⟩ a b ≤ d) (hR : sqDistSeg ⟨xr, q.y⟩ a b ≤ d) : sqDistSeg q a b ≤ d := by
  rcases eq_or_lt_of_le (le_trans hl hr) with heq | hw
  · -- degenerate: `q` is that point
    have e : q = ⟨xl, q.y⟩ := P.ext' (le_antisymm (heq ▸ hr) hl) rfl
    rw [e]; exact hL
  · have hw' : 0 < xr - xl := sub_pos.mpr hw
    refine band_convex a b d _ _ q ((q.x - xl) / (xr - xl)) (div_nonneg (sub_nonneg.mpr hl) hw'.le)
      ((div_le_one hw').mpr (by linarith)) ?_ ?_ hL hR
    · show q.x = (1 - (q.x - xl) / (xr - xl)) * xl + (q.x - xl) / (xr - xl) * xr
      linear_combination (-1 : K) * div_mul_cancel₀ (q.x - xl) hw'.ne'
    · show q.y = (1 - (q.x - xl) / (xr - xl)) * q.y + (q.x - xl) / (xr - xl) * q.y
      ring

/-- the two points of the slanted sides at `q`'s ordinate are in the band (each lies between two corners),
and `q` lies between them -/
theorem band_quad (a b : P K) (d : K) (y0 y1 l0 l1 r0 r1 : K) (q : P K) (hlt : y0 < y1)
    (hy0 : y0 ≤ q.y) (hy1 : q.y ≤ y1)
    (hl : lerpS y0 y1 q.y l0 l1 ≤ q.x) (hr : q.x ≤ lerpS y0 y1 q.y r0 r1)
    (hc : ∀ c ∈ quadCorners y0 y1 l0 l1 r0 r1, sqDistSeg c a b ≤ d) : sqDistSeg q a b ≤ d := by
  have hd : 0 < y1 - y0 := sub_pos.mpr hlt
  have ht0 : 0 ≤ (q.y - y0) / (y1 - y0) := div_nonneg (sub_nonneg.mpr hy0) hd.le
  have ht1 : (q.y - y0) / (y1 - y0) ≤ 1 := (div_le_one hd).mpr (by linarith)
  have hqy : q.y = (1 - (q.y - y0) / (y1 - y0)) * y0 + (q.y - y0) / (y1 - y0) * y1 := by
    linear_combination (-1 : K) * div_mul_cancel₀ (q.y - y0) hd.ne'
  simp only [quadCorners, List.mem_cons, List.mem_nil_iff, or_false, forall_eq_or_imp, forall_eq] at hc
  exact band_between a b d _ _ q hl hr (band_convex a b d _ _ _ _ ht0 ht1 rfl hqy hc.1 hc.2.2.1)
    (band_convex a b d _ _ _ _ ht0 ht1 rfl hqy hc.2.1 hc.2.2.2)

/-- the outline's tolerance band: within `d2` of some outline edge -/
def inBandOf (edges : List (P K × P K)) (d2 : K) (q : P K) : Prop :=
  ∃ e ∈ edges, sqDistSeg q e.1 e.2 ≤ d2

theorem bandCovers_iff (edges : List (P K × P K)) (d2 : K) (cs : List (P K)) :
    bandCovers edges d2 cs = true ↔ ∃ e ∈ edges, ∀ c ∈ cs, sqDistSeg c e.1 e.2 ≤ d2 := by
  unfold bandCovers
  simp [List.any_eq_true, List.all_eq_true]

theorem bandRec_sound (edges : List (P K × P K)) (d2 : K) (q : P K) :
    ∀ (depth : Nat) (y0 y1 l0 l1 r0 r1 : K), bandRec edges d2 depth y0 y1 l0 l1 r0 r1 = true →
      y0 < y1 → y0 ≤ q.y → q.y ≤ y1 →
      lerpS y0 y1 q.y l0 l1 ≤ q.x → q.x ≤ lerpS y0 y1 q.y r0 r1 → inBandOf edges d2 q := by
  have base : ∀ (y0 y1 l0 l1 r0 r1 : K), bandCovers edges d2 (quadCorners y0 y1 l0 l1 r0 r1) = true →
      y0 < y1 → y0 ≤ q.y → q.y ≤ y1 →
      lerpS y0 y1 q.y l0 l1 ≤ q.x → q.x ≤ lerpS y0 y1 q.y r0 r1 → inBandOf edges d2 q := by
    intro y0 y1 l0 l1 r0 r1 h hlt hy0 hy1 hl hr
    obtain ⟨e, he, hc⟩ := (bandCovers_iff _ _ _).mp h
    exact ⟨e, he, band_quad e.1 e.2 d2 y0 y1 l0 l1 r0 r1 q hlt hy0 hy1 hl hr hc⟩
  -- choosing the left or right part of a (half-)slab
  have side : ∀ (n : Nat) (ya yb la lb ra rb : K),
      (∀ (y0 y1 l0 l1 r0 r1 : K), bandRec edges d2 n y0 y1 l0 l1 r0 r1 = true →
        y0 < y1 → y0 ≤ q.y → q.y ≤ y1 →
        lerpS y0 y1 q.y l0 l1 ≤ q.x → q.x ≤ lerpS y0 y1 q.y r0 r1 → inBandOf edges d2 q) →
      bandRec edges d2 n ya yb la lb ((la + ra) / 2) ((lb + rb) / 2) = true →
      bandRec edges d2 n ya yb ((la + ra) / 2) ((lb + rb) / 2) ra rb = true →
      ya < yb → ya ≤ q.y → q.y ≤ yb →
      lerpS ya yb q.y la lb ≤ q.x → q.x ≤ lerpS ya yb q.y ra rb → inBandOf edges d2 q := by
    intro n ya yb la lb ra rb ih h1 h2 hlt hy0 hy1 hl hr
    have hm := lerpS_mid ya yb q.y la lb ra rb
    rcases le_total q.x ((lerpS ya yb q.y la lb + lerpS ya yb q.y ra rb) / 2) with hle | hge
    · exact ih ya yb la lb _ _ h1 hlt hy0 hy1 hl (by rw [hm]; exact hle)
    · exact ih ya yb _ _ ra rb h2 hlt hy0 hy1 (by rw [hm]; exact hge) hr
  intro depth
  induction depth with
  | zero =>
    intro y0 y1 l0 l1 r0 r1 h
    rw [bandRec] at h
    exact base y0 y1 l0 l1 r0 r1 h
  | succ n ih =>
    intro y0 y1 l0 l1 r0 r1 h hlt hy0 hy1 hl hr
    rw [bandRec] at h
    rw [sc_two_eq, Bool.or_eq_true, Bool.and_eq_true, Bool.and_eq_true, Bool.and_eq_true] at h
    rcases h with h | ⟨⟨⟨h1, h2⟩, h3⟩, h4⟩
    · exact base y0 y1 l0 l1 r0 r1 h hlt hy0 hy1 hl hr
    · have hne : y0 ≠ y1 := hlt.ne
      rcases le_total q.y ((y0 + y1) / 2) with hlo | hhi
      · refine side n y0 ((y0 + y1) / 2) l0 ((l0 + l1) / 2) r0 ((r0 + r1) / 2) ih h1 h2
          (by linarith) hy0 hlo ?_ ?_
        · rw [lerpS_lower _ _ _ _ _ hne]; exact hl
        · rw [lerpS_lower _ _ _ _ _ hne]; exact hr
      · refine side n ((y0 + y1) / 2) y1 ((l0 + l1) / 2) l1 ((r0 + r1) / 2) r1 ih h3 h4
          (by linarith) hhi hy1 ?_ ?_
        · rw [lerpS_upper _ _ _ _ _ hne]; exact hl
        · rw [lerpS_upper _ _ _ _ _ hne]; exact hr

end Lyon.Slab
