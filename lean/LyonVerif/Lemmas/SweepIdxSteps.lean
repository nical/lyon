/-
  Index validity at the operations of one event that have something of their own to show: the span operations
  (`emitTris`, `spanVertex`, `Spans::begin_span`, `Spans::end_span`), `splitEdge`, the pending edges
  (`sort_edges_below`, `merge_coincident_edges`, `handle_coincident_edges_below`: they touch no field that `Inv1`
  reads), `process_intersection` (every path of it only replaces one active edge by a record with the same `fromId`,
  and edits the queue), `handle_intersections`, the splice (new edges get `fromId = current vertex`),
  `sort_active_edges` and `recover_from_error` (the ids handed to `begin_span` are `fromId`s of active edges) preserve
  `Inv1 n` - on success and on failure.  `keeps_inv1` collects the leaf facts into the record from which the
  composite step functions follow (`Lemmas/SweepStepKeeps.lean`).

  Spec lemmas carry the bound `n` as an explicit argument and are passed to `mvcgen` as local
  hypotheses instantiated at `n` (a schematic `n` would be instantiated by `assumption` with
  whatever `Nat` is in scope).
-/
import LyonVerif.Lemmas.SweepIdxInv
import LyonVerif.Lemmas.SweepStepKeeps

set_option linter.unusedSectionVars false
set_option linter.unusedVariables false
set_option mvcgen.warning false

namespace Lyon.SweepIdx
open Lyon Lyon.Scalar Lyon.Mono Lyon.Sweep Lyon.EQ
open Std.Do

variable {α : Type} [Scalar α] [Wide α]

theorem Inv1.pushTris {n : Nat} {s : St α} (h : Inv1 n s) {tris : List Mono.Tri} (ht : TrisLt n tris) :
    Inv1 n { s with out := tris.foldl (fun o t => o.push (.tri t.1 t.2.1 t.2.2)) s.out } :=
  ⟨⟨h.1.nv, outOk_push_tris h.1.out tris ht, h.1.active, h.1.spans⟩, h.2⟩

theorem emitTris_spec (n : Nat) (tris : List Mono.Tri) (ht : TrisLt n tris) :
    ⦃fun s => ⌜Inv1 n s⌝⦄ (emitTris tris : SM α Unit) ⦃both (Inv1 n)⦄ := by
  unfold emitTris
  mvcgen
  exact Inv1.pushTris (by assumption) ht

theorem spans_set_ok {n : Nat} {spans : Array (Option (Adv α))} (h : ∀ t, some t ∈ spans → AdvOk n t)
    (k : Nat) (v : Option (Adv α)) (hv : ∀ t, v = some t → AdvOk n t) :
    ∀ t, some t ∈ spans.setIfInBounds k v → AdvOk n t :=
  fun t ht => all_set (P := fun o => ∀ t, o = some t → AdvOk n t) (fun _ ho t e => h t (e ▸ ho)) k v hv _ ht t rfl

theorem spanVertex_spec (n : Nat) (i : Int) (pos : P α) (id : Nat) (l : Bool) (hid : id < n) :
    ⦃fun s => ⌜Inv1 n s⌝⦄ (spanVertex i pos id l : SM α Unit) ⦃both (Inv1 n)⦄ := by
  unfold spanVertex
  mvcgen
  rename_i s h k _ t ht
  refine h.withSpans rfl rfl ?_ rfl rfl
  apply spans_set_ok h.1.spans
  intro t' e
  cases e
  exact adv_vertex_ok (h.1.spans t (mem_of_getD_eq_some ht)) pos id l hid

theorem beginSpan_spec (n : Nat) (i : Int) (pos : P α) (id : Nat) (hid : id < n) :
    ⦃fun s => ⌜Inv1 n s⌝⦄ (beginSpan i pos id : SM α Unit) ⦃both (Inv1 n)⦄ := by
  unfold beginSpan
  mvcgen
  rename_i s h _ _
  refine h.withSpans rfl rfl ?_ rfl rfl
  intro t ht
  simp only [Array.mem_append, Array.mem_push] at ht
  rcases ht with (ht | ht) | ht
  · exact h.1.spans t (mem_of_mem_extract ht)
  · cases ht
    exact adv_begin_ok _ pos id hid
  · exact h.1.spans t (mem_of_mem_extract ht)

theorem endSpan_spec (n : Nat) (i : Int) (pos : P α) (id : Nat) (hid : id < n) :
    ⦃fun s => ⌜Inv1 n s⌝⦄ (endSpan i pos id : SM α Unit) ⦃both (Inv1 n)⦄ := by
  unfold endSpan
  have h1 := emitTris_spec (α := α) n
  mvcgen [h1]
  all_goals
    rename_i s h k _ t ht b pooled
    have hb := adv_end_tris (h.1.spans t (mem_of_getD_eq_some ht)) pos id hid
  · exact hb
  · refine h.withSpans rfl rfl ?_ rfl rfl
    apply spans_set_ok h.1.spans
    intro t' e
    cases e

theorem splitEdge_spec (n : Nat) (ei : Nat) :
    ⦃fun s => ⌜Inv1 n s⌝⦄ (splitEdge ei : SM α Unit) ⦃both (Inv1 n)⦄ := by
  unfold splitEdge
  mvcgen
  rename_i s h hlt _ _ _ _ _ _ _
  refine h.frame rfl rfl rfl rfl ?_
  exact all_set h.1.active _ _ (h.1.active s.active[ei] (Array.getElem_mem hlt))

theorem keeps_inv1 (n : Nat) (L : Array Nat) : Keeps (Inv1 (α := α) n) (fun _ => Inv1 n) (· < n) L where
  fail := fun _ _ h => h
  cur := fun _ h => h.2
  act := fun _ h => h.1.active
  cov := fun _ c _ h => h.setCov c
  spanVertex := spanVertex_spec n
  beginSpan := beginSpan_spec n
  endSpan := endSpan_spec n
  cleanup := fun s h => h.withSpans rfl rfl (fun t ht => h.1.spans t (Array.mem_filter.mp ht).1) rfl rfl
  splitEdge := fun ei _ => splitEdge_spec n ei

theorem sortEdgesBelow_spec (n : Nat) :
    ⦃fun s => ⌜Inv1 n s⌝⦄ (sortEdgesBelow : SM α Unit) ⦃both (Inv1 n)⦄ := by
  unfold sortEdgesBelow
  mvcgen
  all_goals inv_frame

theorem mergeCoincidentEdges_spec (n : Nat) (a b : Nat) :
    ⦃fun s => ⌜Inv1 n s⌝⦄ (mergeCoincidentEdges a b : SM α Unit) ⦃both (Inv1 n)⦄ := by
  unfold mergeCoincidentEdges
  mvcgen
  all_goals inv_frame

theorem handleCoincidentEdgesBelow_spec (n : Nat) :
    ⦃fun s => ⌜Inv1 n s⌝⦄ (handleCoincidentEdgesBelow : SM α Unit) ⦃both (Inv1 n)⦄ := by
  unfold handleCoincidentEdgesBelow
  have h1 := mergeCoincidentEdges_spec (α := α) n
  mvcgen [h1] invariants
  · both (Inv1 n)
  with skip

theorem processIntersection_spec (n : Nat) (ta tb : Wide.W α) (aei : Nat) (eb0 : PendingEdge α) (belowSeg : Seg (Wide.W α)) :
    ⦃fun s => ⌜Inv1 n s⌝⦄ (processIntersection ta tb aei eb0 belowSeg : SM α (PendingEdge α)) ⦃both (Inv1 n)⦄ := by
  rw [processIntersection_eq]
  mvcgen
  all_goals apply Inv1.frame_set <;> first | assumption | rfl | exact (piAe_fields ..).2.2.2.1

theorem handleIntersectionsStep_spec (n : Nat) (skipS skipE : Nat) :
    ⦃fun s => ⌜Inv1 n s⌝⦄ (handleIntersectionsStep skipS skipE : SM α Unit) ⦃both (Inv1 n)⦄ :=
  handleIntersectionsStep_keeps skipS skipE fun bi eb x seg =>
    triple_conseq (processIntersection_spec n x.1 x.2.1 x.2.2 eb seg) (fun _ h => h.1)
      (fun r s h => by inv_frame) fun _ _ h => h

theorem Inv1.splice {n : Nat} {s : St α} (h : Inv1 n s) (a b : Nat) : Inv1 n (spliceAt s a b) :=
  h.frame rfl rfl rfl rfl (all_splice h.1.active (fun _ _ => h.2) _ _ _)

theorem Inv1.resorted {n : Nat} {s s' : St α} (h : Inv1 n s) (r : Resorted s s') : Inv1 n s' := by
  have e := r.same
  cases s; cases s'; cases e
  exact h.frame rfl rfl rfl rfl fun x hx => h.1.active x (r.active x hx)

/-- `sort_active_edges`: the new active list holds edges of the old one only, whatever the sort
does: the invariant never looks at the order -/
theorem sortActiveEdges_spec (n : Nat) :
    ⦃fun s => ⌜Inv1 n s⌝⦄ (sortActiveEdges : SM α Unit) ⦃both (Inv1 n)⦄ :=
  keeps_of_rel Resorted.refl sortActiveEdges_resorted fun _ _ h r => h.resorted r

/-- `recover_from_error`: the ids handed to `begin_span` are `fromId`s of active edges; a popped span
hands over triangles of ids `< n` -/
theorem recoverFromError_spec (n : Nat) :
    ⦃fun s => ⌜Inv1 n s⌝⦄ (recoverFromError : SM α Unit) ⦃both (Inv1 n)⦄ :=
  recoverFromError_keeps {
    toKeeps := keeps_inv1 n #[]
    sortActive := sortActiveEdges_spec n
    rearrange := fun _ _ _ h₁ ha h => h.frame rfl rfl rfl rfl fun e he => h₁.1.active e (ha e he)
    popSpan := fun s t ht h =>
      (h.withSpans (s' := { s with spans := s.spans.pop, cov := s.cov ||| (1 <<< 21) }) rfl rfl
        (fun t' ht' => h.1.spans t' (mem_of_mem_pop ht')) rfl rfl).pushTris
        (h.1.spans t (mem_of_getD_eq_some ht)).tess.tris }

end Lyon.SweepIdx
