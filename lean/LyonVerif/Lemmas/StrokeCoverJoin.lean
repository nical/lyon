/-
  C06b: the side points of a fixed-width join of the complete stroker model in closed form
  (ordered field, `sqrt` laws, every join kind, no fold): with `m = perp t0 − τ·t0 = perp t1 + τ·t1` the miter vector
  (`normal_closed`, `Lemmas/StrokeIdxClipGeo.lean`) the inner side gets the single vertex `j ± m·w/2`, the outer side keeps
  `j ∓ perp(t0)·w/2`, `j ∓ perp(t1)·w/2`, gets the single vertex `j ∓ m·w/2` (kept miter), or the two points shifted
  by `lamAt` half widths beyond the join (clipped `MiterClip`).
  The model has ONE no-fold branch (`joinSidesFw_front`): the inner side is the raw side with the miter vertex, the front
  side is `front_fix` of the raw side; and `front_fix` of a raw side is a `SideForm` whatever the join kind
  (`frontFix_form`: kept miter, clipped `MiterClip` by `clip_lam`, or untouched).  `jEP_closed` is these two, once per
  turn direction.
  Route.  The run theorems of C06b / C06c / C06f take joins through THIS file, which walks `joinSidesFw` of the complete
  model directly.  The join theorems of `Props/C06.lean` (`join_sides_nofold_left/right`, `front_side_cases`) and
  `C06e.miter_clip_join_left_partial` state the same branch structure for the component model `StrokeQuad.joinSidesT`;
  `C06c.complete_model_join_is_component_model` (`Lemmas/StrokeCoverBridge.lean`) links the two models, and nothing in
  the cover / reach proofs uses it: a change to the join model has to be repaired on both routes.  (Caps go one way:
  `cap_corner` is proved from `C06.cap_side_butt/square` through `C05c.clipSidePos_eq_capSide`.)
-/
import LyonVerif.Lemmas.StrokeCoverDesc
import LyonVerif.Lemmas.StrokeCoverClipJoin

set_option linter.unusedSectionVars false
set_option linter.unusedVariables false

namespace Lyon.C06b
open Lyon Scalar Lyon.Stroke Lyon.Stroke.Full Lyon.C05 Lyon.C05b Lyon.C05c Lyon.C06
open Lyon.StrokeQuad (lineIntersection)

section
variable {K : Type} [Field K] [LinearOrder K] [IsStrictOrderedRing K] [Transc K]

/-- the miter of the join between `p, j, n` is within the miter limit (`!miter_limit_is_exceeded`: the model's
own test; only meaningful for `Miter` / `MiterClip`) -/
def keptAt (e : Env K) (p j n : P K) : Prop :=
  (fwGeo (EP.mk' p e.hwFw nan e.o.join (.endpoint 0) false) (EP.mk' j e.hwFw nan e.o.join (.endpoint 0) false)
    (EP.mk' n e.hwFw nan e.o.join (.endpoint 0) false) e.o.miterLimit e.hwFw).unclipped = true

/-- the shift (in half widths) of the two-vertex side of the join at `pt i` beyond the join, read off the model's
own side points and clamped to `[0, |tan(θ/2)|]`: `0` for bevel-shaped joins, the clip shift for a clipped `MiterClip`.
Defined by reading the points, not by its formula, so that it needs no case split on the join kind and
`lamAt_nonneg` / `lamAt_le` hold by definition; its value is known only through `lamAt_of_forms` -/
noncomputable def lamAt (e : Env K) (pt : Nat → P K) (i : Nat) : K :=
  Max.max 0 (Min.min
    ((((jEP e pt i).pos.prev - (pt i + (perp (eT pt (i - 1))).smul e.hwFw)).dot (eT pt (i - 1))
      + ((jEP e pt i).neg.prev - (pt i - (perp (eT pt (i - 1))).smul e.hwFw)).dot (eT pt (i - 1))) / e.hwFw)
    |jtau pt (i - 1)|)

theorem lamAt_nonneg (e : Env K) (pt : Nat → P K) (i : Nat) : 0 ≤ lamAt e pt i := le_max_left _ _

theorem lamAt_le (e : Env K) (pt : Nat → P K) (i : Nat) : lamAt e pt (i + 1) ≤ |jtau pt i| := by
  unfold lamAt
  exact max_le (abs_nonneg _) (min_le_right _ _)

/-- the side points of the join at `pt (k+1)` in closed form, outer shift `lam` included -/
structure JClosed (e : Env K) (pt : Nat → P K) (k : Nat) (ps ns : Bool) (lam : K) : Prop where
  cpos : 0 < 1 + (eT pt k).dot (eT pt (k + 1))
  inner_pos : 0 ≤ (eT pt k).cross (eT pt (k + 1)) → ps = true
  inner_neg : (eT pt k).cross (eT pt (k + 1)) < 0 → ns = true
  bevel : (e.o.join = .bevel ∨ e.o.join = .round) → ¬ (ps = true ∧ ns = true)
  bevel0 : (e.o.join = .bevel ∨ e.o.join = .round) → lam = 0
  psingle : (jEP e pt (k + 1)).pos.single.isSome = ps
  nsingle : (jEP e pt (k + 1)).neg.single.isSome = ns
  posPrev : (jEP e pt (k + 1)).pos.prev
    = pt (k + 1) + (perp (eT pt k)).smul e.hwFw + (eT pt k).smul (e.hwFw * (if ps then 0 else lam))
  posNext : (jEP e pt (k + 1)).pos.next
    = pt (k + 1) + (perp (eT pt (k + 1))).smul e.hwFw + (eT pt (k + 1)).smul (e.hwFw * (if ps then 0 else -lam))
  negPrev : (jEP e pt (k + 1)).neg.prev
    = pt (k + 1) - (perp (eT pt k)).smul e.hwFw + (eT pt k).smul (e.hwFw * (if ns then 0 else lam))
  negNext : (jEP e pt (k + 1)).neg.next
    = pt (k + 1) - (perp (eT pt (k + 1))).smul e.hwFw + (eT pt (k + 1)).smul (e.hwFw * (if ns then 0 else -lam))
  sPosPrev : sPrev (jEP e pt (k + 1)).pos
    = pt (k + 1) + (perp (eT pt k)).smul e.hwFw + (eT pt k).smul (e.hwFw * (if ps then -jtau pt k else lam))
  sPosNext : sNext (jEP e pt (k + 1)).pos
    = pt (k + 1) + (perp (eT pt (k + 1))).smul e.hwFw + (eT pt (k + 1)).smul (e.hwFw * (if ps then jtau pt k else -lam))
  sNegPrev : sPrev (jEP e pt (k + 1)).neg
    = pt (k + 1) - (perp (eT pt k)).smul e.hwFw + (eT pt k).smul (e.hwFw * (if ns then jtau pt k else lam))
  sNegNext : sNext (jEP e pt (k + 1)).neg
    = pt (k + 1) - (perp (eT pt (k + 1))).smul e.hwFw + (eT pt (k + 1)).smul (e.hwFw * (if ns then -jtau pt k else -lam))

/-- one side `S` of a join with raw points `a` (`prev`) and `b` (`next`): it has the single vertex `m`, or none and its
two points are shifted by `hw·lam` beyond the join along the tangents -/
def SideForm (S : SideGeom K) (a b t0 t1 m : P K) (hw lam : K) : Prop :=
  (S.single = some m ∧ S.prev = a ∧ S.next = b)
  ∨ (S.single = none ∧ S.prev = a + t0.smul (hw * lam) ∧ S.next = b + t1.smul (hw * -lam))

theorem smul_zero_r (a v : P K) (w : K) : a + v.smul (w * 0) = a := by
  geom_ring

theorem side_closed (S : SideGeom K) (a b t0 t1 m : P K) (hw x y lam : K)
    (hm0 : m = a + t0.smul (hw * x)) (hm1 : m = b + t1.smul (hw * y)) (h : SideForm S a b t0 t1 m hw lam) :
    S.prev = a + t0.smul (hw * (if S.single.isSome then 0 else lam))
    ∧ S.next = b + t1.smul (hw * (if S.single.isSome then 0 else -lam))
    ∧ sPrev S = a + t0.smul (hw * (if S.single.isSome then x else lam))
    ∧ sNext S = b + t1.smul (hw * (if S.single.isSome then y else -lam)) := by
  rcases h with ⟨hs, hp, hn⟩ | ⟨hs, hp, hn⟩
  · simp only [sPrev, sNext, hs, Option.isSome_some, Option.getD_some, if_true, smul_zero_r]
    exact ⟨hp, hn, hm0, hm1⟩
  · simp only [sPrev, sNext, hs, Option.isSome_none, Option.getD_none, Bool.false_eq_true, if_false]
    exact ⟨hp, hn, hp, hn⟩

/-- `compute_join_side_positions_fixed_width` without fold (`g` is `fwGeo …`, given by `rfl`): the side `frontNeg` points
away from gets the miter vertex, the other one is `frontFix` of the raw side -/
theorem joinSidesFw_front (ix : Lyon.StrokeQuad.Ix K) (prev join next : EP K) (ml hw : K) (g : FwGeo K)
    (hg : g = fwGeo prev join next ml hw) (hfold : g.fold = false) :
    (g.frontNeg = true →
      (joinSidesFw ix prev join next ml hw).pos
          = { join.pos with prev := join.position + (perp g.pt).smul hw, next := join.position + (perp g.nt).smul hw,
                            single := some (join.position + g.normal.smul hw) }
      ∧ (joinSidesFw ix prev join next ml hw).neg
          = frontFix ix join.lineJoin g.unclipped
              { join.neg with prev := join.position - (perp g.pt).smul hw, next := join.position - (perp g.nt).smul hw }
              join.position g.frontNormal (join.position - g.normal.smul hw) (ml * hw))
    ∧ (g.frontNeg = false →
      (joinSidesFw ix prev join next ml hw).neg
          = { join.neg with prev := join.position - (perp g.pt).smul hw, next := join.position - (perp g.nt).smul hw,
                            single := some (join.position - g.normal.smul hw) }
      ∧ (joinSidesFw ix prev join next ml hw).pos
          = frontFix ix join.lineJoin g.unclipped
              { join.pos with prev := join.position + (perp g.pt).smul hw, next := join.position + (perp g.nt).smul hw }
              join.position g.frontNormal (join.position + g.normal.smul hw) (ml * hw)) := by
  subst hg
  unfold joinSidesFw
  simp only [hfold, Bool.false_eq_true, if_false]
  constructor <;> intro hf <;> simp [hf]

/-- **the front side of a join that does not fold, every join kind.**  `ε = ±1` the inner side, `N` the miter vector,
`F = −ε·N` the front normal, `a`, `b` the raw points of the front side (the side `−ε`), `U` lyon's "miter kept" test:
the side is a `SideForm` with a shift `0 ≤ lam ≤ |τ|`, `0` unless a `MiterClip` is clipped -/
theorem frontFix_form (eps : K) (heps : 0 ≤ eps)
    (hs0 : ∀ x : K, 0 ≤ x → 0 ≤ Transc.sqrt x) (hs : ∀ x : K, 0 ≤ x → Transc.sqrt x * Transc.sqrt x = x)
    (j t0 t1 N F a b m : P K) (hw ml ε τ : K) (lj : LineJoin) (U : Bool) (s : SideGeom K)
    (hε : ε * ε = 1) (hu0 : t0.sqLen = 1) (hu1 : t1.sqLen = 1)
    (hN0 : N = perp t0 - t0.smul τ) (hN1 : N = perp t1 + t1.smul τ) (hF : F = N.smul (-ε)) (hT0 : 0 ≤ ε * τ)
    (hclip : lj = .miterClip → 1 ≤ ml ∧ eps < hw) (hhw : 0 < hw)
    (hU : U = ((lj == .miter || lj == .miterClip) && !miterLimitIsExceeded F ml))
    (ha : a = j - (perp t0).smul (ε * hw)) (hb : b = j - (perp t1).smul (ε * hw))
    (hsp : s.prev = a) (hsn : s.next = b) (hss : s.single = none) :
    ∃ lam : K, 0 ≤ lam ∧ lam ≤ |τ|
      ∧ ((lj = .bevel ∨ lj = .round) → (frontFix (lineIntersection eps) lj U s j F m (ml * hw)).single = none)
      ∧ ((frontFix (lineIntersection eps) lj U s j F m (ml * hw)).single = none ∨ lam = 0)
      ∧ ((lj = .bevel ∨ lj = .round) → lam = 0)
      ∧ SideForm (frontFix (lineIntersection eps) lj U s j F m (ml * hw)) a b t0 t1 m hw lam := by
  have habs : ε * τ ≤ |τ| := by
    rcases mul_self_eq_one_iff.mp hε with rfl | rfl
    · rw [one_mul]; exact le_abs_self _
    · rw [neg_one_mul]; exact neg_le_abs _
  unfold frontFix
  cases hUv : U
  · by_cases hmc : lj = .miterClip
    · -- a clipped `MiterClip`: `clip_lam`
      obtain ⟨hml, hepsw⟩ := hclip hmc
      have hexc : F.sqLen > ml * ml * 4 := by
        rw [hUv, hmc] at hU
        exact lt_of_eq_of_lt (by ring) ((miter_limit_iff F ml).mp (by simpa using hU.symm))
      obtain ⟨lam, _, l0, l1, l2, l3⟩ := clip_lam eps heps hs0 hs j t0 t1 N F hw ml ε τ hε hu0 hu1 hN0 hN1 hF hT0 hexc
        hml hhw hepsw
      have hmul : hw * (lam / hw) = lam := by field_simp
      have hnb : ¬ (lj = .bevel ∨ lj = .round) := fun h => by rcases h with h | h <;> rw [h] at hmc <;> cases hmc
      refine ⟨lam / hw, div_nonneg l0 (le_of_lt hhw), ?_, fun h => absurd h hnb, ?_, fun h => absurd h hnb, ?_⟩
      · rw [div_le_iff₀ hhw, mul_comm]; exact le_trans l1 (mul_le_mul_of_nonneg_left habs (le_of_lt hhw))
      · rw [hmc]; exact Or.inl hss
      · rw [hmc]
        simp only [Bool.false_eq_true, if_false, beq_self_eq_true, if_true]
        refine Or.inr ⟨hss, ?_, ?_⟩
        · show j + (Lyon.StrokeQuad.clipIntersections (lineIntersection eps) (s.prev - j) (s.next - j) F (ml * hw)).1 = _
          rw [hsp, hsn, ha, hb, hmul]; exact l2
        · show j + (Lyon.StrokeQuad.clipIntersections (lineIntersection eps) (s.prev - j) (s.next - j) F (ml * hw)).2 = _
          rw [hsp, hsn, ha, hb, mul_neg, hmul]; exact l3.trans (by geom_ring)
    · -- nothing happens to the side
      have hne : (lj == Lyon.StrokeQuad.Join.miterClip) = false := by
        cases lj <;> simp at hmc ⊢
      simp only [Bool.false_eq_true, if_false, hne]
      exact ⟨0, le_refl _, abs_nonneg _, fun _ => hss, Or.inr rfl, fun _ => rfl,
        Or.inr ⟨hss, by rw [smul_zero_r]; exact hsp, by rw [neg_zero, smul_zero_r]; exact hsn⟩⟩
  · -- a kept miter: the single vertex
    simp only [if_true]
    refine ⟨0, le_refl _, abs_nonneg _, fun h => ?_, Or.inr rfl, fun _ => rfl, Or.inl ⟨rfl, hsp, hsn⟩⟩
    rw [hUv] at hU
    rcases h with h | h <;> rw [h] at hU <;> simp at hU

/-- the shift of a join whose `prev` points are as `side_closed` gives them for two `SideForm`s, at least one side with its
single vertex (and `lam = 0` if both), is what `lamAt` reads off the model's points -/
theorem lamAt_of_forms {e : Env K} {pt : Nat → P K} {k : Nat} (hhw : 0 < e.hwFw) (hu0 : (eT pt k).sqLen = 1)
    {lam : K} (hl0 : 0 ≤ lam) (hl1 : lam ≤ |jtau pt k|)
    (hp : (jEP e pt (k + 1)).pos.prev = pt (k + 1) + (perp (eT pt k)).smul e.hwFw
      + (eT pt k).smul (e.hwFw * (if (jEP e pt (k + 1)).pos.single.isSome then 0 else lam)))
    (hn : (jEP e pt (k + 1)).neg.prev = pt (k + 1) - (perp (eT pt k)).smul e.hwFw
      + (eT pt k).smul (e.hwFw * (if (jEP e pt (k + 1)).neg.single.isSome then 0 else lam)))
    (hone : (jEP e pt (k + 1)).pos.single.isSome = true ∨ (jEP e pt (k + 1)).neg.single.isSome = true)
    (hboth : (jEP e pt (k + 1)).pos.single = none ∨ (jEP e pt (k + 1)).neg.single = none ∨ lam = 0) :
    lamAt e pt (k + 1) = lam := by
  have hraw : (((jEP e pt (k + 1)).pos.prev - (pt (k + 1) + (perp (eT pt k)).smul e.hwFw)).dot (eT pt k)
      + ((jEP e pt (k + 1)).neg.prev - (pt (k + 1) - (perp (eT pt k)).smul e.hwFw)).dot (eT pt k)) / e.hwFw = lam := by
    rw [div_eq_iff (ne_of_gt hhw), hp, hn]
    have : (if (jEP e pt (k + 1)).pos.single.isSome then 0 else lam) + (if (jEP e pt (k + 1)).neg.single.isSome then 0 else lam)
        = lam := by
      cases hps : (jEP e pt (k + 1)).pos.single <;> cases hns : (jEP e pt (k + 1)).neg.single <;>
        simp_all
    simp only [geom] at hu0 ⊢
    linear_combination (e.hwFw * ((if (jEP e pt (k + 1)).pos.single.isSome then 0 else lam)
      + (if (jEP e pt (k + 1)).neg.single.isSome then 0 else lam))) * hu0 + e.hwFw * this
  unfold lamAt
  simp only [Nat.add_sub_cancel]
  rw [hraw, min_eq_left hl1, max_eq_right hl0]

/-- the two `SideForm`s are what `joinSidesFw_front` and `frontFix_form` deliver -/
theorem jclosed_of_sides {e : Env K} {pt : Nat → P K} {k : Nat} {lam : K} {N : P K}
    (hhw : 0 < e.hwFw) (hu0 : (eT pt k).sqLen = 1) (hl0 : 0 ≤ lam) (hl1 : lam ≤ |jtau pt k|)
    (hc : 0 < 1 + (eT pt k).dot (eT pt (k + 1)))
    (hN0 : N = perp (eT pt k) - (eT pt k).smul (jtau pt k))
    (hN1 : N = perp (eT pt (k + 1)) + (eT pt (k + 1)).smul (jtau pt k))
    (hp : SideForm (jEP e pt (k + 1)).pos (pt (k + 1) + (perp (eT pt k)).smul e.hwFw)
      (pt (k + 1) + (perp (eT pt (k + 1))).smul e.hwFw) (eT pt k) (eT pt (k + 1)) (pt (k + 1) + N.smul e.hwFw) e.hwFw lam)
    (hn : SideForm (jEP e pt (k + 1)).neg (pt (k + 1) - (perp (eT pt k)).smul e.hwFw)
      (pt (k + 1) - (perp (eT pt (k + 1))).smul e.hwFw) (eT pt k) (eT pt (k + 1)) (pt (k + 1) - N.smul e.hwFw) e.hwFw lam)
    (hip : 0 ≤ (eT pt k).cross (eT pt (k + 1)) → (jEP e pt (k + 1)).pos.single.isSome = true)
    (hin : (eT pt k).cross (eT pt (k + 1)) < 0 → (jEP e pt (k + 1)).neg.single.isSome = true)
    (hboth : (jEP e pt (k + 1)).pos.single = none ∨ (jEP e pt (k + 1)).neg.single = none ∨ lam = 0)
    (hb : (e.o.join = .bevel ∨ e.o.join = .round) →
      ¬ ((jEP e pt (k + 1)).pos.single.isSome = true ∧ (jEP e pt (k + 1)).neg.single.isSome = true) ∧ lam = 0) :
    JClosed e pt k (jEP e pt (k + 1)).pos.single.isSome (jEP e pt (k + 1)).neg.single.isSome (lamAt e pt (k + 1)) := by
  obtain ⟨pp, pn, spp, spn⟩ := side_closed _ _ _ _ _ _ _ (-jtau pt k) (jtau pt k) _
    (by rw [hN0]; geom_ring) (by rw [hN1]; geom_ring) hp
  obtain ⟨np, nn, snp, snn⟩ := side_closed _ _ _ _ _ _ _ (jtau pt k) (-jtau pt k) _
    (by rw [hN0]; geom_ring) (by rw [hN1]; geom_ring) hn
  rw [lamAt_of_forms hhw hu0 hl0 hl1 pp np ((le_or_gt 0 ((eT pt k).cross (eT pt (k + 1)))).imp hip hin) hboth]
  exact ⟨hc, hip, hin, fun h => (hb h).1, fun h => (hb h).2, rfl, rfl, pp, pn, np, nn, spp, spn, snp, snn⟩

/-- a miter whose squared length `1 + tan²(θ/2)` is at most `(2·miter_limit)²` is kept (lyon's test) -/
theorem keptAt_of_limit (e : Env K) (hs0 : ∀ x : K, 0 ≤ x → 0 ≤ Transc.sqrt x)
    (hs : ∀ x : K, 0 ≤ x → Transc.sqrt x * Transc.sqrt x = x) (p j n : P K)
    (hL0 : 0 < (j - p).sqLen) (hL1 : 0 < (n - j).sqLen)
    (hg : ¬ ((j - p).sdiv (len (j - p)) + (n - j).sdiv (len (n - j))).sqLen < normalEpsilon)
    (hjn : e.o.join = .miter ∨ e.o.join = .miterClip)
    (hlim : 1 + (((j - p).sdiv (len (j - p))).cross ((n - j).sdiv (len (n - j)))
        / (1 + ((j - p).sdiv (len (j - p))).dot ((n - j).sdiv (len (n - j)))))
        * (((j - p).sdiv (len (j - p))).cross ((n - j).sdiv (len (n - j)))
        / (1 + ((j - p).sdiv (len (j - p))).dot ((n - j).sdiv (len (n - j)))))
      ≤ e.o.miterLimit * e.o.miterLimit * 4) : keptAt e p j n := by
  have hu0 := (sdiv_unit hs0 hs _ hL0).2
  have hu1 := (sdiv_unit hs0 hs _ hL1).2
  obtain ⟨hc, hN0, hN1⟩ := normal_closed hs0 hs _ _ hu0 hu1 hg
  set t0 := (j - p).sdiv (len (j - p)) with ht0
  set t1 := (n - j).sdiv (len (n - j)) with ht1
  obtain ⟨τ, hτ⟩ : ∃ τ, τ = t0.cross t1 / (1 + t0.dot t1) := ⟨_, rfl⟩
  rw [← hτ] at hN0 hlim
  have hsq : (computeNormal t0 t1).sqLen = 1 + τ * τ := by
    rw [hN0]; simp only [perp, geom] at hu0 ⊢; linear_combination (1 + τ * τ) * hu0
  have hsqn : (-computeNormal t0 t1).sqLen = 1 + τ * τ := by
    rw [← hsq]; simp only [geom]; ring
  have hnot : ∀ v : P K, v.sqLen = 1 + τ * τ → miterLimitIsExceeded v e.o.miterLimit = false := by
    intro v hv
    refine Bool.eq_false_iff.mpr fun h => not_lt.mpr hlim ?_
    rw [← hv]; exact lt_of_eq_of_lt (by ring) ((miter_limit_iff v _).mp h)
  unfold keptAt fwGeo
  simp only [EP.mk']
  have hlj : (e.o.join == Lyon.StrokeQuad.Join.miter || e.o.join == Lyon.StrokeQuad.Join.miterClip) = true := by
    rcases hjn with h | h <;> rw [h] <;> rfl
  rw [hlj]
  simp only [Bool.true_and, Bool.not_eq_true', ← ht0, ← ht1]
  split_ifs
  · exact hnot _ hsqn
  · exact hnot _ hsq

/-- **the join at `pt (k+1)` in closed form, every join kind**: Bevel, Round (same side points), Miter (kept or beyond the limit),
MiterClip (kept or CLIPPED, `miter_limit ≥ 1`, `eps < w/2`, exact `Line::intersection`) -/
theorem jEP_closed (e : Env K) (eps : K) (hix : e.ix = lineIntersection eps) (heps : 0 ≤ eps)
    (hs0 : ∀ x : K, 0 ≤ x → 0 ≤ Transc.sqrt x) (hs : ∀ x : K, 0 ≤ x → Transc.sqrt x * Transc.sqrt x = x)
    (pt : Nat → P K) (k : Nat)
    (hj : e.o.join = .bevel ∨ e.o.join = .miter ∨ e.o.join = .miterClip ∨ e.o.join = .round)
    (hclip : e.o.join = .miterClip → 1 ≤ e.o.miterLimit ∧ eps < e.hwFw) (hhw : 0 < e.hwFw)
    (hL0 : 0 < (pt (k + 1) - pt k).sqLen) (hL1 : 0 < (pt (k + 1 + 1) - pt (k + 1)).sqLen)
    (hg : ¬ (eT pt k + eT pt (k + 1)).sqLen < normalEpsilon)
    (hnf : noFoldAt e (pt k) (pt (k + 1)) (pt (k + 1 + 1))) :
    JClosed e pt k (jEP e pt (k + 1)).pos.single.isSome (jEP e pt (k + 1)).neg.single.isSome (lamAt e pt (k + 1)) := by
  have hu0 : (eT pt k).sqLen = 1 := (sdiv_unit hs0 hs _ hL0).2
  have hu1 : (eT pt (k + 1)).sqLen = 1 := (sdiv_unit hs0 hs _ hL1).2
  obtain ⟨hc, hN0, hN1⟩ := normal_closed hs0 hs _ _ hu0 hu1 hg
  have hτd : jtau pt k = (eT pt k).cross (eT pt (k + 1)) / (1 + (eT pt k).dot (eT pt (k + 1))) := rfl
  rw [← hτd] at hN0 hN1
  have hcongr := fwGeo_congr (prev := linePt e (k, pt k)) (join := linePt e (k + 1, pt (k + 1)))
      (next := linePt e (k + 1 + 1, pt (k + 1 + 1)))
      (prev' := EP.mk' (pt k) e.hwFw nan e.o.join (.endpoint 0) false)
      (join' := EP.mk' (pt (k + 1)) e.hwFw nan e.o.join (.endpoint 0) false)
      (next' := EP.mk' (pt (k + 1 + 1)) e.hwFw nan e.o.join (.endpoint 0) false) e.o.miterLimit e.hwFw rfl rfl rfl rfl
  obtain ⟨hl, hr⟩ := joinSidesFw_front e.ix (linePt e (k, pt k)) (linePt e (k + 1, pt (k + 1)))
    (linePt e (k + 1 + 1, pt (k + 1 + 1))) e.o.miterLimit e.hwFw _ rfl (by rw [hcongr]; exact hnf)
  have hJ : jEP e pt (k + 1) = joinSidesFw e.ix (linePt e (k, pt k)) (linePt e (k + 1, pt (k + 1)))
      (linePt e (k + 1 + 1, pt (k + 1 + 1))) e.o.miterLimit e.hwFw := rfl
  rw [← hJ, hix] at hl hr
  have hsm : ∀ v : P K, -v = v.smul (-1) ∧ v = v.smul (- -1) := fun v => ⟨by geom_ring, by geom_ring⟩
  by_cases hx : (eT pt k).cross (eT pt (k + 1)) ≥ 0
  · -- left turn: the positive side is the inner one
    have hF := decide_eq_true (show (eT pt k).cross (eT pt (k + 1)) ≥ Scalar.zero by simpa [geom] using hx)
    obtain ⟨epos, eneg⟩ := hl hF
    obtain ⟨lam, l0, l1, lb, lz, lb0, lf⟩ := frontFix_form eps heps hs0 hs (pt (k + 1)) (eT pt k) (eT pt (k + 1)) _
      _ (pt (k + 1) - (perp (eT pt k)).smul e.hwFw)
      (pt (k + 1) - (perp (eT pt (k + 1))).smul e.hwFw)
      (pt (k + 1) - (computeNormal (eT pt k) (eT pt (k + 1))).smul e.hwFw) e.hwFw e.o.miterLimit 1 (jtau pt k) e.o.join _
      ⟨pt (k + 1) - (perp (eT pt k)).smul e.hwFw, pt (k + 1) - (perp (eT pt (k + 1))).smul e.hwFw, none, unset, unset⟩
      (by ring) hu0 hu1 hN0 hN1 ((if_pos hF).trans (hsm _).1) (by rw [one_mul, hτd]; exact div_nonneg hx (le_of_lt hc)) hclip hhw
      rfl (by rw [one_mul]) (by rw [one_mul]) rfl rfl rfl
    have hps : (jEP e pt (k + 1)).pos.single.isSome = true := by
      rw [epos]; rfl
    refine jclosed_of_sides hhw hu0 l0 l1 hc hN0 hN1
      (Or.inl ⟨congrArg SideGeom.single epos, congrArg SideGeom.prev epos, congrArg SideGeom.next epos⟩)
      (by rw [eneg]; exact lf)
      (fun _ => hps) (fun h => absurd hx (not_le.mpr h)) (Or.inr (by rw [eneg]; exact lz))
      (fun hb => ⟨fun hboth => ?_, lb0 hb⟩)
    have : (jEP e pt (k + 1)).neg.single = none := by rw [eneg]; exact lb hb
    rw [this] at hboth
    exact absurd hboth.2 (by simp)
  · -- right turn: the negative side is the inner one
    have hF := decide_eq_false (show ¬ (eT pt k).cross (eT pt (k + 1)) ≥ Scalar.zero by simpa [geom] using hx)
    obtain ⟨eneg, epos⟩ := hr hF
    have hτneg : jtau pt k < 0 := by rw [hτd]; exact div_neg_of_neg_of_pos (lt_of_not_ge hx) hc
    obtain ⟨lam, l0, l1, lb, lz, lb0, lf⟩ := frontFix_form eps heps hs0 hs (pt (k + 1)) (eT pt k) (eT pt (k + 1)) _
      _ (pt (k + 1) + (perp (eT pt k)).smul e.hwFw)
      (pt (k + 1) + (perp (eT pt (k + 1))).smul e.hwFw)
      (pt (k + 1) + (computeNormal (eT pt k) (eT pt (k + 1))).smul e.hwFw) e.hwFw e.o.miterLimit (-1) (jtau pt k) e.o.join _
      ⟨pt (k + 1) + (perp (eT pt k)).smul e.hwFw, pt (k + 1) + (perp (eT pt (k + 1))).smul e.hwFw, none, unset, unset⟩
      (by ring) hu0 hu1 hN0 hN1 ((if_neg (fun h => Bool.false_ne_true (hF.symm.trans h))).trans (hsm _).2) (by linarith) hclip hhw
      rfl (by geom_ring) (by geom_ring) rfl rfl rfl
    have hns : (jEP e pt (k + 1)).neg.single.isSome = true := by
      rw [eneg]; rfl
    refine jclosed_of_sides hhw hu0 l0 l1 hc hN0 hN1
      (by rw [epos]; exact lf)
      (Or.inl ⟨congrArg SideGeom.single eneg, congrArg SideGeom.prev eneg, congrArg SideGeom.next eneg⟩)
      (fun h => absurd h hx) (fun _ => hns) (by rw [epos]; exact lz.imp_right Or.inr)
      (fun hb => ⟨fun hboth => ?_, lb0 hb⟩)
    have : (jEP e pt (k + 1)).pos.single = none := by rw [epos]; exact lb hb
    rw [this] at hboth
    exact absurd hboth.1 (by simp)

end

end Lyon.C06b
