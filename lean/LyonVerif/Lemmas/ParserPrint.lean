/-
  The parser model on printed paths, for `Props/C17.lean`.  Core Lean only.

  The round trip: `Reads` (on a text that starts with a printed piece the sub-parser returns the
  value read back), one loop iteration on a printed call (`step_print`), the whole printed path
  (`loop_print_parse`); the shapes `<f32 as Debug>::fmt` prints are single valid tokens.
-/
import LyonVerif.Lemmas.Parser

namespace Lyon.Parser
open Lyon.Path

variable {ν : Type}

/-- the lexical half of what the round trip needs from the number printer `pn`
(`<f32 as Debug>::fmt`): printed numbers are tokens the parser accepts -/
structure TokenOK (pn : ν → List Char) : Prop where
  /-- a printed number is accepted by `f32::from_str` -/
  valid : ∀ x, validF32 (pn x) = true
  /-- it does not start with a separator -/
  head : ∀ x, ∃ c l, pn x = c :: l ∧ isSep c = false
  /-- followed by a space or the end of the text it is exactly one lexer token -/
  token : ∀ x rest, (rest = [] ∨ ∃ r, rest = ' ' :: r) → lexNumL (pn x ++ rest) = (pn x, rest)

/-- … and the numeric half: a printed number reads back as the same value -/
structure PrintOK (N : Num ν) (pn : ν → List Char) : Prop extends TokenOK pn where
  value : ∀ x, N.ofLexeme (pn x) = x

/-- the value read back from a printed number, and its action on points and calls -/
def rv (N : Num ν) (pn : ν → List Char) (x : ν) : ν := N.ofLexeme (pn x)
def rvPt (N : Num ν) (pn : ν → List Char) (p : Pt ν) : Pt ν := (rv N pn p.1, rv N pn p.2)
def rvCall (N : Num ν) (pn : ν → List Char) : PCall ν → PCall ν
  | Call.begin p a => Call.begin (rvPt N pn p) (a.map (rv N pn))
  | Call.line p a => Call.line (rvPt N pn p) (a.map (rv N pn))
  | Call.quad c p a => Call.quad (rvPt N pn c) (rvPt N pn p) (a.map (rv N pn))
  | Call.cubic c1 c2 p a =>
    Call.cubic (rvPt N pn c1) (rvPt N pn c2) (rvPt N pn p) (a.map (rv N pn))
  | Call.end_ b => Call.end_ b

/-- text that can follow a printed number: nothing, or something starting with a space -/
def Boundary (rest : List Char) : Prop := rest = [] ∨ ∃ r, rest = ' ' :: r

theorem Boundary.append {t rest : List Char} (ht : Boundary t) (hr : Boundary rest) :
    Boundary (t ++ rest) := by
  rcases ht with rfl | ⟨r, rfl⟩
  · exact hr
  · exact Or.inr ⟨r ++ rest, rfl⟩

/-- on a source that starts with `txt`, followed by a boundary, `m` returns `v` and leaves what
follows `txt` -/
def Reads {α} (m : PM α) (txt : List Char) (v : α) : Prop :=
  ∀ rest, Boundary rest → ∀ s : Src, s.inp = txt ++ rest → ∃ s', m s = .ok v s' ∧ s'.inp = rest

theorem Reads.pure {α} (a : α) : Reads (pure a : PM α) [] a :=
  fun _ _ s hs => ⟨s, rfl, hs⟩

theorem Reads.bind {α β} {m : PM α} {f : α → PM β} {t1 t2 : List Char} {a : α} {b : β}
    (h1 : Reads m t1 a) (h2 : Reads (f a) t2 b) (hb : Boundary t2) :
    Reads (m >>= f) (t1 ++ t2) b := by
  intro rest hr s hs
  obtain ⟨s1, e1, i1⟩ := h1 (t2 ++ rest) (hb.append hr) s (by rw [hs, List.append_assoc])
  obtain ⟨s2, e2, i2⟩ := h2 rest hr s1 i1
  exact ⟨s2, by rw [bind_of_ok e1]; exact e2, i2⟩

/-- the last parser of a block (`m >>= fun a => pure (g a)`) -/
theorem Reads.map {α β} {m : PM α} {g : α → β} {t : List Char} {a : α} (h : Reads m t a) :
    Reads (m >>= fun a => (Pure.pure (g a) : PM β)) t (g a) := by
  simpa using h.bind (Reads.pure (g a)) (.inl rfl)

theorem bnd_attrs (pn : ν → List Char) (a : List ν) : Boundary (printAttrs pn a) := by
  cases a with
  | nil => exact .inl rfl
  | cons y t => exact .inr ⟨_, rfl⟩

theorem bnd_pt (pn : ν → List Char) (p : Pt ν) (t : List Char) : Boundary (printPt pn p ++ t) :=
  Or.inr ⟨_, rfl⟩

section
variable (N : Num ν) (pn : ν → List Char) (hp : TokenOK pn)
include hp

theorem parseNumber_reads (x : ν) : Reads (parseNumber N) (' ' :: pn x) (rv N pn x) := by
  intro rest hb s hs
  obtain ⟨c, l, hcl, hsep⟩ := hp.head x
  have hskip : s.skipWs.inp = pn x ++ rest := by
    have : isSep ' ' = true := by decide
    simp [Src.skipWs, advWhile_inp, hs, hcl, this, hsep]
  have hl := lexNum_lexed s.skipWs
  rw [hskip, hp.token x rest hb] at hl
  refine ⟨(lexNum s.skipWs).2, ?_, hl.inp⟩
  unfold parseNumber
  simp only [hl.tok, hp.valid x, if_true, rv]

theorem parsePoint_reads (p cur : Pt ν) :
    Reads (parsePoint N false cur) (printPt pn p) (rvPt N pn p) := by
  unfold parsePoint
  exact (parseNumber_reads N pn hp p.1).bind (parseNumber_reads N pn hp p.2).map (.inr ⟨_, rfl⟩)

theorem parseAttrs_reads (a : List ν) :
    Reads (parseAttrs N a.length) (printAttrs pn a) (a.map (rv N pn)) := by
  induction a with
  | nil => exact Reads.pure _
  | cons x r ih =>
    unfold parseAttrs
    exact (parseNumber_reads N pn hp x).bind ih.map (bnd_attrs pn r)

theorem parseEndpoint_reads (p cur : Pt ν) (a : List ν) :
    Reads (parseEndpoint N a.length false cur) (printPt pn p ++ printAttrs pn a)
      (rvPt N pn p, a.map (rv N pn)) := by
  unfold parseEndpoint
  exact (parsePoint_reads N pn hp p cur).bind (parseAttrs_reads N pn hp a).map (bnd_attrs pn a)

end

theorem cur_of_inp {s : Src} {c : Char} {r : List Char} (h : s.inp = c :: r) : s.cur = c := by
  simp [Src.cur, h]

/-- every endpoint of the trace carries `na` attributes -/
def callAttrsOK (na : Nat) : PCall ν → Prop
  | .begin _ a => a.length = na
  | .line _ a => a.length = na
  | .quad _ _ a => a.length = na
  | .cubic _ _ _ a => a.length = na
  | .end_ _ => True

def AttrsLen (na : Nat) (tr : List (PCall ν)) : Prop := ∀ c ∈ tr, callAttrsOK na c

theorem step_edge_letter {N : Num ν} {na : Nat} {st : St ν} {s : Src} {c : Char} {r : List Char}
    {k : EdgeKind} (hs : s.inp = c :: r) (hc : c = k.upper) (hns : st.needStart = false)
    {o : EdgeOut ν} {s' : Src} (hcmd : edgeOf N na false st k s.adv = .ok o s') :
    step N na st s = .cont (o.2.after c) s' (emitAt s' o.1) := by
  have hal : c.isAlpha = true := by subst hc; cases k <;> rfl
  have hk : cmdKind c = .edge k ∧ c.isLower = false := by subst hc; cases k <;> exact ⟨rfl, rfl⟩
  simp only [step, cmdOf, afterCmd, cur_of_inp hs, hal, if_true, hns, Bool.false_and,
    Bool.false_eq_true, if_false, dispatchCmd_eq, hk.1, hk.2, runEdge, hcmd]

theorem step_print (N : Num ν) (pn : ν → List Char) (hp : TokenOK pn) (na : Nat) (st : St ν)
    (c : PCall ν) (hc : callAttrsOK na c) (hne : c ≠ .end_ false) (rest : List Char)
    (hb : Boundary rest) (X : Src) (hX : X.inp = printCall pn c ++ rest)
    (hst : (∀ p a, c ≠ .begin p a) → st.needStart = false) :
    ∃ st' s' em, X.skipWs.fin = false ∧ step N na st X.skipWs = .cont st' s' em ∧ s'.inp = rest ∧
      rest.length < X.inp.length ∧
      em.map Prod.snd = (match c with
        | .begin .. => if st.needEnd then [.end_ false] else []
        | _ => []) ++ [rvCall N pn c] ∧
      st'.needStart = (match c with | .end_ _ => true | _ => false) ∧
      st'.needEnd = (match c with | .begin .. => true | .end_ _ => false | _ => st.needEnd) := by
  -- after the separator the source stands on the command letter `l`, operands `ops` follow
  have start : ∀ (l : Char) (ops : List Char), isSep l = false → printCall pn c = ' ' :: l :: ops →
      X.skipWs.fin = false ∧ X.skipWs.inp = l :: (ops ++ rest) ∧ X.skipWs.cur = l ∧
      X.skipWs.adv.inp = ops ++ rest ∧ rest.length < X.inp.length := by
    intro l ops hl hpr
    have hsk : X.skipWs.inp = l :: (ops ++ rest) := by
      have : isSep ' ' = true := by decide
      simp [Src.skipWs, advWhile_inp, hX, hpr, this, hl]
    exact ⟨by simp [Src.fin, hsk], hsk, cur_of_inp hsk, by simp [adv_inp, hsk],
      by simp [hX, hpr]; omega⟩
  -- idea: the printer writes each call as ` X operands` with an explicit upper-case letter, so the
  -- iteration takes that letter's branch and the operand parsers read the printed numbers back one
  -- token at a time (`Reads`), each leaving what follows it
  cases c with
  | begin p a =>
    subst hc
    obtain ⟨hfin, hsk, hcur, hadv, hlt⟩ := start 'M' (printPt pn p ++ printAttrs pn a)
      (by decide) (by simp [printCall])
    obtain ⟨s', h1, hi⟩ := parseEndpoint_reads N pn hp p st.cur a rest hb _ hadv
    refine ⟨St.after { st with
        cur := rvPt N pn p, attrs := a.map (rv N pn), first := rvPt N pn p, needEnd := true,
        needStart := false } 'M', s',
      (if st.needEnd then emitAt X.skipWs.adv [.end_ false] else []) ++
        emitAt s' [.begin (rvPt N pn p) (a.map (rv N pn))], hfin, ?_, hi, hlt, ?_, rfl, rfl⟩
    · simp only [step, cmdOf, afterCmd, hcur, show Char.isAlpha 'M' = true from rfl, if_true,
        show isDrawingCmd 'M' = false from rfl, Bool.and_false, Bool.false_eq_true, if_false,
        dispatchCmd_eq, show cmdKind 'M' = .move from rfl, runMove,
        show Char.isLower 'M' = false from rfl, h1]
    · simp only [List.map_append, emitAt_snd, map_snd_closingIf, rvCall]
  | line p a =>
    subst hc
    obtain ⟨hfin, hsk, -, hadv, hlt⟩ := start 'L' (printPt pn p ++ printAttrs pn a)
      (by decide) (by simp [printCall])
    obtain ⟨s', h1, hi⟩ := ((parseEndpoint_reads N pn hp p st.cur a).map :
      Reads (cmdL N a.length false st) _ _) rest hb _ hadv
    refine ⟨_, s', _, hfin, step_edge_letter (k := .L) hsk rfl (hst nofun) h1, hi, hlt, ?_,
      hst nofun, rfl⟩
    simp only [emitAt_snd, rvCall, List.nil_append]
  | quad k p a =>
    subst hc
    obtain ⟨hfin, hsk, -, hadv, hlt⟩ := start 'Q'
      (printPt pn k ++ (printPt pn p ++ printAttrs pn a)) (by decide) (by simp [printCall])
    obtain ⟨s', h1, hi⟩ := ((parsePoint_reads N pn hp k st.cur).bind
      (parseEndpoint_reads N pn hp p st.cur a).map (bnd_pt pn p _) :
      Reads (cmdQ N a.length false st) _ _) rest hb _ hadv
    refine ⟨_, s', _, hfin, step_edge_letter (k := .Q) hsk rfl (hst nofun) h1, hi, hlt, ?_,
      hst nofun, rfl⟩
    simp only [emitAt_snd, rvCall, List.nil_append]
  | cubic k1 k2 p a =>
    subst hc
    obtain ⟨hfin, hsk, -, hadv, hlt⟩ := start 'C'
      (printPt pn k1 ++ (printPt pn k2 ++ (printPt pn p ++ printAttrs pn a))) (by decide)
      (by simp [printCall])
    obtain ⟨s', h1, hi⟩ := ((parsePoint_reads N pn hp k1 st.cur).bind
      ((parsePoint_reads N pn hp k2 st.cur).bind (parseEndpoint_reads N pn hp p st.cur a).map
        (bnd_pt pn p _)) (bnd_pt pn k2 _) : Reads (cmdC N a.length false st) _ _) rest hb _ hadv
    refine ⟨_, s', _, hfin, step_edge_letter (k := .C) hsk rfl (hst nofun) h1, hi, hlt, ?_,
      hst nofun, rfl⟩
    simp only [emitAt_snd, rvCall, List.nil_append]
  | end_ close =>
    cases close with
    | false => exact absurd rfl hne
    | true =>
      obtain ⟨hfin, hsk, hcur, hadv, hlt⟩ := start 'Z' [] (by decide) rfl
      refine ⟨{ st with cur := st.first, needEnd := false, needStart := true }.after 'Z',
        X.skipWs.adv, emitAt X.skipWs.adv [.end_ true], hfin, ?_, hadv, hlt, ?_, rfl, rfl⟩
      · simp only [step, cmdOf, afterCmd, hcur, show Char.isAlpha 'Z' = true from rfl, if_true,
          hst nofun, Bool.false_and, Bool.false_eq_true, if_false, dispatchCmd_eq,
          show cmdKind 'Z' = .close from rfl, runClose]
      · simp only [emitAt_snd, rvCall, List.nil_append]

theorem printCalls_boundary (pn : ν → List Char) (tr : List (PCall ν)) :
    Boundary (printCalls pn tr) := by
  induction tr with
  | nil => exact Or.inl rfl
  | cons c r ih =>
    cases c with
    | end_ b => cases b
                · simpa [printCalls, printCall] using ih
                · exact Or.inr ⟨_, by simp [printCalls, printCall]; rfl⟩
    | _ => exact Or.inr ⟨_, by simp [printCalls, printCall]; rfl⟩

/-- the printed text of a trace that is well nested from `inSub` parses back to the trace.  `inSub`:
the trace is inside a sub-path.  The parser may hold a sub-path open that the trace has already ended
with `end(false)`, which prints nothing: the parser's pending `end(false)` then comes first.
`stop = none`: the printer writes no stop character. -/
theorem loop_print_parse (N : Num ν) (pn : ν → List Char) (hp : TokenOK pn) (na : Nat) :
    ∀ (tr : List (PCall ν)) (inSub : Bool), wellNestedFrom inSub tr = true → AttrsLen na tr →
    ∀ (fuel : Nat) (st : St ν) (X : Src), X.inp = printCalls pn tr → X.inp.length < fuel →
      Good st → (inSub = true → st.needEnd = true) →
      (loop N na none fuel st X.skipWs).trace =
        (if !inSub && st.needEnd then [.end_ false] else []) ++ tr.map (rvCall N pn) ∧
      (loop N na none fuel st X.skipWs).outcome = .ok := by
  intro tr
  induction tr with
  | nil =>
    intro inSub hwn _ fuel st X hX hfuel hg h1
    have hin : inSub = false := by cases inSub <;> simp [wellNestedFrom] at hwn ⊢
    subst hin
    cases fuel with
    | zero => omega
    | succ fuel =>
      have hfin : X.skipWs.fin = true := by
        simp [Src.fin, Src.skipWs, advWhile_inp, hX, printCalls]
      rw [loop_succ]
      simp only [hfin, if_true]
      refine ⟨?_, trivial⟩
      simp only [Result.trace, closing_snd]
      cases st.needEnd <;> simp
  | cons c r ih =>
    intro inSub hwn hal fuel st X hX hfuel hg h1
    have halr : AttrsLen na r := fun d hd => hal d (List.mem_cons_of_mem _ hd)
    have hns0 : inSub = true → st.needStart = false := fun hi => by
      rw [show st.needStart = !st.needEnd from hg, h1 hi]; rfl
    by_cases hne : c = .end_ false
    · -- `end(false)` prints nothing
      subst hne
      cases inSub with
      | false => simp [wellNestedFrom] at hwn
      | true =>
        obtain ⟨ht, ho⟩ := ih false hwn halr fuel st X (by simpa [printCalls, printCall] using hX)
          hfuel hg nofun
        exact ⟨by rw [ht]; simp [h1 rfl, rvCall], ho⟩
    -- any other call: one iteration reads it back, then the rest
    obtain ⟨st', s', em, hfin, hstep, hi, hlen, hem, hns', hne'⟩ :=
      step_print N pn hp na st c (hal c (List.mem_cons_self ..)) hne _ (printCalls_boundary pn r) X hX
        (fun hb => hns0 (by
          cases c <;> cases inSub <;> first | rfl | exact absurd rfl (hb _ _)
                                            | simp [wellNestedFrom] at hwn))
    cases fuel with
    | zero => omega
    | succ fuel =>
    rw [loop_succ]
    simp only [hfin, Bool.false_eq_true, if_false, show ((none : Option Char) == some _) = false from rfl,
      hstep, trace_cons]
    have cont : ∀ inSub' : Bool, wellNestedFrom inSub' r = true → Good st' →
        (inSub' = true → st'.needEnd = true) →
        em.map Prod.snd ++ ((if !inSub' && st'.needEnd then [.end_ false] else []) ++ r.map (rvCall N pn))
          = (if !inSub && st.needEnd then [.end_ false] else []) ++ (c :: r).map (rvCall N pn) →
        (em.map Prod.snd ++ (loop N na none fuel st' s'.skipWs).trace =
          (if !inSub && st.needEnd then [.end_ false] else []) ++ (c :: r).map (rvCall N pn)) ∧
        (loop N na none fuel st' s'.skipWs).outcome = .ok := fun inSub' hw a1 a2 heq => by
      obtain ⟨ht, ho⟩ := ih inSub' hw halr fuel st' s' hi (by rw [hi]; omega) a1 a2
      exact ⟨by rw [ht, heq], ho⟩
    cases c with
    | begin p a =>
      cases inSub with
      | true => simp [wellNestedFrom] at hwn
      | false =>
        exact cont true hwn (by simp [Good, hns', hne']) (fun _ => hne') (by simp [hem])
    | end_ close =>
      cases inSub with
      | false => simp [wellNestedFrom] at hwn
      | true =>
        exact cont false hwn (by simp [Good, hns', hne']) nofun (by simp [hem, hne'])
    | _ =>
      cases inSub with
      | false => simp [wellNestedFrom] at hwn
      | true =>
        exact cont true hwn (by simp [Good, hns', hne', h1 rfl]) (fun _ => by rw [hne']; exact h1 rfl)
          (by simp [hem])

theorem rvCall_id (N : Num ν) (pn : ν → List Char) (hv : ∀ x, N.ofLexeme (pn x) = x)
    (c : PCall ν) : rvCall N pn c = c := by
  have h : rv N pn = id := funext hv
  cases c <;> simp [rvCall, rvPt, h]

set_option linter.unusedSimpArgs false

theorem digit_range {c : Char} (h : c.isDigit = true) : 48 ≤ c.toNat ∧ c.toNat ≤ 57 := by
  simp only [Char.isDigit, Bool.and_eq_true, decide_eq_true_eq] at h
  exact ⟨UInt32.le_iff_toNat_le.mp h.1, UInt32.le_iff_toNat_le.mp h.2⟩

theorem digit_numeric {c : Char} (h : c.isDigit = true) : isNumeric c = true := by
  simp [isNumeric, h]

theorem digit_not_sep {c : Char} (h : c.isDigit = true) : isSep c = false := by
  have r := digit_range h
  have hc : c ≠ ',' := by intro e; subst e; revert h; decide
  simp only [isSep, isWhite, isWhiteN, Bool.or_eq_false_iff, beq_eq_false_iff_ne, ne_eq]
  refine ⟨?_, hc⟩
  simp only [Bool.or_eq_false_iff, Bool.and_eq_false_iff, decide_eq_false_iff_not,
    beq_eq_false_iff_ne]
  omega

/-- a non-empty run of ASCII digits -/
def Digits (d : List Char) : Prop := d ≠ [] ∧ ∀ c ∈ d, c.isDigit = true

def StopsAt (p : Char → Bool) : List Char → Prop
  | [] => True
  | c :: _ => p c = false

theorem takeWhile_app (p : Char → Bool) (a b : List Char) (ha : ∀ c ∈ a, p c = true)
    (hb : StopsAt p b) : (a ++ b).takeWhile p = a ∧ (a ++ b).dropWhile p = b := by
  induction a with
  | nil =>
    cases b with
    | nil => simp
    | cons c r => simp only [StopsAt] at hb; simp [List.takeWhile, List.dropWhile, hb]
  | cons x r ih =>
    have hx := ha x (by simp)
    have := ih (fun c hc => ha c (by simp [hc]))
    simp [List.takeWhile, List.dropWhile, hx, this.1, this.2]

def signL (neg : Bool) : List Char := if neg then ['-'] else []
def fracL : Option (List Char) → List Char
  | none => []
  | some d => '.' :: d
def expL : Option (Bool × List Char) → List Char
  | none => []
  | some (n, d) => 'e' :: (signL n ++ d)

/-- `-? D+ (. D+)? (e -? D+)?` — covers everything `{:?}` prints for a finite `f32`
(`-? D+ . D+` and `-? D (. D+)? e -? D+`) -/
def debugText (neg : Bool) (d1 : List Char) (f : Option (List Char))
    (e : Option (Bool × List Char)) : List Char :=
  signL neg ++ (d1 ++ (fracL f ++ expL e))

structure ShapeOK (d1 : List Char) (f : Option (List Char)) (e : Option (Bool × List Char)) :
    Prop where
  int : Digits d1
  frac : ∀ d, f = some d → Digits d
  exp : ∀ n d, e = some (n, d) → Digits d

theorem digits_head {d : List Char} (h : Digits d) : ∃ c r, d = c :: r ∧ c.isDigit = true := by
  cases d with
  | nil => exact absurd rfl h.1
  | cons c r => exact ⟨c, r, rfl, h.2 c (by simp)⟩

theorem boundary_stops {rest : List Char} (hb : Boundary rest) (p : Char → Bool)
    (hp : p ' ' = false) : StopsAt p rest := by
  rcases hb with rfl | ⟨r, rfl⟩
  · trivial
  · exact hp

theorem lexMantL_sign_digits (neg : Bool) (d tail : List Char) (hd : Digits d)
    (ht : StopsAt isNumeric tail) :
    lexMantL (signL neg ++ (d ++ tail)) = (signL neg ++ d, tail) := by
  obtain ⟨c, r, rfl, hc⟩ := digits_head hd
  have hcm : (c == '-') = false := by
    cases h : (c == '-')
    · rfl
    · have : c = '-' := by simpa using h
      subst this; revert hc; decide
  have tw := takeWhile_app isNumeric (c :: r) tail (fun x hx => digit_numeric (hd.2 x hx)) ht
  cases neg
  · simp only [lexMantL, signL, Bool.false_eq_true, if_false, List.nil_append, List.cons_append,
      optL, hcm, digitsL]
    rw [← List.cons_append, tw.1, tw.2]
  · simp only [lexMantL, signL, if_true, List.cons_append, List.nil_append, optL,
      beq_self_eq_true, digitsL]
    rw [← List.cons_append, tw.1, tw.2]

theorem stops_exp (e : Option (Bool × List Char)) (rest : List Char) (hb : Boundary rest) :
    StopsAt isNumeric (expL e ++ rest) := by
  cases e with
  | some nd => exact (by decide : isNumeric 'e' = false)
  | none => exact boundary_stops hb isNumeric (by decide)

theorem stops_frac_exp (f : Option (List Char)) (e : Option (Bool × List Char)) (rest : List Char)
    (hb : Boundary rest) : StopsAt isNumeric (fracL f ++ (expL e ++ rest)) := by
  cases f with
  | some d => exact (by decide : isNumeric '.' = false)
  | none => exact stops_exp e rest hb

theorem lexFracL_frac (f : Option (List Char)) (e : Option (Bool × List Char)) (rest : List Char)
    (hf : ∀ d, f = some d → Digits d) (hb : Boundary rest) :
    lexFracL (fracL f ++ (expL e ++ rest)) = (fracL f, expL e ++ rest) := by
  cases f with
  | some d =>
    have hd := hf d rfl
    have tw := takeWhile_app isNumeric d (expL e ++ rest)
      (fun x hx => digit_numeric (hd.2 x hx)) (stops_exp e rest hb)
    simp only [fracL, List.cons_append, lexFracL, beq_self_eq_true, if_true, digitsL, tw.1, tw.2]
  | none =>
    cases e with
    | some nd =>
      obtain ⟨n, d⟩ := nd
      have : ('e' == '.') = false := by decide
      simp [fracL, expL, lexFracL, this]
    | none =>
      rcases hb with rfl | ⟨r, rfl⟩
      · simp [fracL, expL, lexFracL]
      · have : (' ' == '.') = false := by decide
        simp [fracL, expL, lexFracL, this]

theorem lexExpL_exp (e : Option (Bool × List Char)) (rest : List Char)
    (he : ∀ n d, e = some (n, d) → Digits d) (hb : Boundary rest) :
    lexExpL (expL e ++ rest) = (expL e, rest) := by
  cases e with
  | some nd =>
    obtain ⟨n, d⟩ := nd
    have hd := he n d rfl
    have hm := lexMantL_sign_digits n d rest hd (boundary_stops hb isNumeric (by decide))
    have : ('e' == 'e' || 'e' == 'E') = true := by decide
    simp only [expL, List.cons_append, lexExpL, this, if_true, List.append_assoc, hm]
  | none =>
    rcases hb with rfl | ⟨r, rfl⟩
    · simp [expL, lexExpL]
    · have : (' ' == 'e' || ' ' == 'E') = false := by decide
      simp [expL, lexExpL, this]

theorem lexNumL_debugText (neg : Bool) (d1 : List Char) (f : Option (List Char))
    (e : Option (Bool × List Char)) (h : ShapeOK d1 f e) (rest : List Char) (hb : Boundary rest) :
    lexNumL (debugText neg d1 f e ++ rest) = (debugText neg d1 f e, rest) := by
  have e1 : debugText neg d1 f e ++ rest = signL neg ++ (d1 ++ (fracL f ++ (expL e ++ rest))) := by
    simp [debugText, List.append_assoc]
  have hm := lexMantL_sign_digits neg d1 _ h.int (stops_frac_exp f e rest hb)
  have hf := lexFracL_frac f e rest h.frac hb
  have he := lexExpL_exp e rest h.exp hb
  rw [e1]
  simp only [lexNumL, hm, hf, he, debugText, List.append_assoc]

theorem stopsDigit_exp (e : Option (Bool × List Char)) : StopsAt Char.isDigit (expL e) := by
  cases e with
  | some nd => obtain ⟨n, d⟩ := nd; simp only [expL, StopsAt]; decide
  | none => trivial

theorem digit_not_sign {c : Char} (h : c.isDigit = true) : (c == '-' || c == '+') = false := by
  cases hc : (c == '-' || c == '+')
  · rfl
  · rcases (by simpa using hc : c = '-' ∨ c = '+') with e | e <;> (subst e; revert h; decide)

theorem validExp_expL (e : Option (Bool × List Char))
    (he : ∀ n d, e = some (n, d) → Digits d) : validExp (expL e) = true := by
  cases e with
  | none => rfl
  | some nd =>
    obtain ⟨n, d⟩ := nd
    have hd := he n d rfl
    obtain ⟨c, r, rfl, hc⟩ := digits_head hd
    have hall : (c :: r).all Char.isDigit = true := by
      simp only [List.all_eq_true]; exact hd.2
    have e1 : ('e' == 'e' || 'e' == 'E') = true := by decide
    cases n
    · simp only [expL, signL, Bool.false_eq_true, if_false, List.nil_append, validExp, e1,
        Bool.true_and, digit_not_sign hc]
      exact hall
    · have e2 : ('-' == '-' || '-' == '+') = true := by decide
      simp only [expL, signL, if_true, List.cons_append, List.nil_append, validExp, e1,
        Bool.true_and, e2]
      simp [hall]

theorem validF32_debugText (neg : Bool) (d1 : List Char) (f : Option (List Char))
    (e : Option (Bool × List Char)) (h : ShapeOK d1 f e) :
    validF32 (debugText neg d1 f e) = true := by
  obtain ⟨c, r, rfl, hc⟩ := digits_head h.int
  have hds : dropSign (debugText neg (c :: r) f e) = (c :: r) ++ (fracL f ++ expL e) := by
    cases neg
    · simp [debugText, signL, dropSign, digit_not_sign hc]
    · have : ('-' == '-' || '-' == '+') = true := by decide
      simp [debugText, signL, dropSign, this]
  have hdig : ∀ x ∈ c :: r, Char.isDigit x = true := h.int.2
  have hsm : splitMant ((c :: r) ++ (fracL f ++ expL e)) =
      (c :: r, (f.getD []), expL e) := by
    cases f with
    | some d =>
      have hd := h.frac d rfl
      have tw1 := takeWhile_app Char.isDigit (c :: r) ('.' :: (d ++ expL e)) hdig (by
        simp only [StopsAt]; decide)
      have tw2 := takeWhile_app Char.isDigit d (expL e) hd.2 (stopsDigit_exp e)
      simp only [splitMant, fracL, List.cons_append] at tw1 ⊢
      rw [tw1.1, tw1.2]
      simp [tw2.1, tw2.2, Option.getD]
    | none =>
      have tw1 := takeWhile_app Char.isDigit (c :: r) (expL e) hdig (stopsDigit_exp e)
      simp only [splitMant, fracL, List.nil_append] at tw1 ⊢
      rw [tw1.1, tw1.2]
      cases e with
      | none => simp [expL, Option.getD]
      | some nd =>
        obtain ⟨n, d⟩ := nd
        have : ('e' == '.') = false := by decide
        simp [expL, this, Option.getD]
  unfold validF32
  rw [hds, hsm]
  simp only [validExp_expL e h.exp, Bool.and_true, List.length_cons, decide_eq_true_eq]
  omega

theorem head_debugText (neg : Bool) (d1 : List Char) (f : Option (List Char))
    (e : Option (Bool × List Char)) (h : ShapeOK d1 f e) :
    ∃ c l, debugText neg d1 f e = c :: l ∧ isSep c = false := by
  obtain ⟨c, r, rfl, hc⟩ := digits_head h.int
  cases neg
  · exact ⟨c, r ++ (fracL f ++ expL e), by simp [debugText, signL], digit_not_sep hc⟩
  · exact ⟨'-', c :: r ++ (fracL f ++ expL e), by simp [debugText, signL], by decide⟩

theorem tokenOK_of_debugShape (pn : ν → List Char)
    (hshape : ∀ x, ∃ neg d1 f e, pn x = debugText neg d1 f e ∧ ShapeOK d1 f e) : TokenOK pn := by
  constructor
  · intro x; obtain ⟨neg, d1, f, e, hx, hs⟩ := hshape x; rw [hx]; exact validF32_debugText _ _ _ _ hs
  · intro x; obtain ⟨neg, d1, f, e, hx, hs⟩ := hshape x; rw [hx]; exact head_debugText _ _ _ _ hs
  · intro x rest hb
    obtain ⟨neg, d1, f, e, hx, hs⟩ := hshape x; rw [hx]
    exact lexNumL_debugText _ _ _ _ hs rest hb

end Lyon.Parser
