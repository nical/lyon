/-
  `CubicBezierSegment::line_segment_intersections_t` after the root finder: the bounding-box
  early-out and the filter `segFilter` (major-axis range test, second parameter
  `|p − from| / |to − from|`, end-point rejection), over an ordered field: a point
  `from + u·(to − from)` of the carrier line passes the range test iff `u ∈ [0,1]`, and the second
  parameter the code computes is that `u`.  Nothing here is about roots; the theorems are in
  `Props/C12d.lean`.  `segFilter` is shared with `Quad.lineSegmentIntersectionsT`, about which no
  theorem is stated: `mem_segFilter`, `seg_range_iff`, `seg_t2_eq` do not depend on the curve, a
  quadratic twin of `boxes_intersect_of_common_point` is what is missing.
-/
import LyonVerif.Lemmas.IxField
import LyonVerif.Props.C10
import LyonVerif.Lemmas.ClipBern

set_option linter.unusedSectionVars false

namespace Lyon.CubicRoots
open Lyon Scalar Lyon.Ix
variable {K : Type} [Field K] [LinearOrder K] [IsStrictOrderedRing K]

theorem ixMinMax_eq (a b : K) : ixMinMax a b = (Min.min a b, Max.max a b) := by
  unfold ixMinMax
  split_ifs with h
  · rw [min_eq_left h.le, max_eq_right h.le]
  · rw [min_eq_right (not_lt.mp h), max_eq_left (not_lt.mp h)]

theorem range1d (a b u : K) (hab : a ≠ b) :
    (a + u * (b - a) ≥ (ixMinMax a b).1 ∧ a + u * (b - a) ≤ (ixMinMax a b).2) ↔ (0 ≤ u ∧ u ≤ 1) := by
  rw [ixMinMax_eq, ge_iff_le, ← Hull.param_unit_iff hab, add_sub_cancel_left,
    mul_div_cancel_right₀ _ (sub_ne_zero.mpr (Ne.symm hab))]

theorem range1d_of_unit (a b u : K) (h0 : 0 ≤ u) (h1 : u ≤ 1) :
    (ixMinMax a b).1 ≤ a + u * (b - a) ∧ a + u * (b - a) ≤ (ixMinMax a b).2 := by
  rw [ixMinMax_eq, show a + u * (b - a) = (1 - u) * a + u * b by ring]
  exact Hull.lerp_mem h0 h1 ⟨min_le_left _ _, le_max_left _ _⟩ ⟨min_le_right _ _, le_max_right _ _⟩

theorem seg_sample_x (s : Seg K) (u : K) : (s.sample u).x = s.a.x + u * (s.b.x - s.a.x) := by
  simp only [geom, Nat.cast_one]; ring

theorem seg_sample_y (s : Seg K) (u : K) : (s.sample u).y = s.a.y + u * (s.b.y - s.a.y) := by
  simp only [geom, Nat.cast_one]; ring

theorem seg_in_box (s : Seg K) (u : K) (h0 : 0 ≤ u) (h1 : u ≤ 1) :
    s.ixBoundingBox.min.x ≤ (s.sample u).x ∧ (s.sample u).x ≤ s.ixBoundingBox.max.x
    ∧ s.ixBoundingBox.min.y ≤ (s.sample u).y ∧ (s.sample u).y ≤ s.ixBoundingBox.max.y := by
  rw [seg_sample_x, seg_sample_y]
  obtain ⟨a1, a2⟩ := range1d_of_unit s.a.x s.b.x u h0 h1
  obtain ⟨b1, b2⟩ := range1d_of_unit s.a.y s.b.y u h0 h1
  exact ⟨a1, a2, b1, b2⟩

/-- the early-out of `line_segment_intersections_t` is not taken when the curve (at a parameter of
`[0,1]`) and the segment (at a parameter of `[0,1]`) have a common point and `EPSILON > 0` (the clipper's closed test: `Clip.boxes_overlap_of_common`) -/
theorem boxes_intersect_of_common_point (ε : K) (hε : 0 < ε) (c : Cubic K) (s : Seg K) (t u : K)
    (ht0 : 0 ≤ t) (ht1 : t ≤ 1) (hu0 : 0 ≤ u) (hu1 : u ≤ 1) (hp : c.sample t = s.sample u) :
    (c.ixFastBoundingBox.inflate ε ε).intersects (s.ixBoundingBox.inflate ε ε) = true := by
  obtain ⟨c1, c2, c3, c4⟩ := Clip.cubic_in_fastBox c t ht0 ht1
  obtain ⟨s1, s2, s3, s4⟩ := seg_in_box s u hu0 hu1
  rw [hp] at c1 c2 c3 c4
  unfold IxBox.intersects IxBox.inflate
  simp only [Bool.and_eq_true, decide_eq_true_eq]
  have key : ∀ {lo hi x : K}, lo ≤ x → x ≤ hi → lo - ε < hi + ε := fun h1 h2 =>
    (sub_lt_self _ hε).trans_le ((h1.trans h2).trans (le_add_of_nonneg_right hε.le))
  exact ⟨⟨⟨key c1 s2, key s1 c2⟩, key c3 s4⟩, key s3 c4⟩

/-- a point of the carrier line is the segment's sample at its projection parameter -/
theorem carrier_param (s : Seg K) (p : P K) (hab : s.a ≠ s.b)
    (hon : s.toVector.cross (p - s.a) = 0) :
    p = s.sample ((p - s.a).dot s.toVector / s.toVector.sqLen) := by
  have hL' := (sqLen_pos hab).ne'
  have hL : s.toVector.sqLen ≠ 0 := by simpa only [geom] using hL'
  have hon' : (s.b.x - s.a.x) * (p.y - s.a.y) - (s.b.y - s.a.y) * (p.x - s.a.x) = 0 := by
    simpa only [geom] using hon
  have hu : (p - s.a).dot s.toVector / s.toVector.sqLen * s.toVector.sqLen = (p - s.a).dot s.toVector :=
    div_mul_cancel₀ _ hL
  set u := (p - s.a).dot s.toVector / s.toVector.sqLen
  have hu' : u * ((s.b.x - s.a.x) * (s.b.x - s.a.x) + (s.b.y - s.a.y) * (s.b.y - s.a.y))
      = (p.x - s.a.x) * (s.b.x - s.a.x) + (p.y - s.a.y) * (s.b.y - s.a.y) := by
    simpa only [geom] using hu
  apply P.ext'
  · rw [seg_sample_x]
    apply mul_right_cancel₀ hL'
    linear_combination (-(s.b.y - s.a.y)) * hon' - (s.b.x - s.a.x) * hu'
  · rw [seg_sample_y]
    apply mul_right_cancel₀ hL'
    linear_combination (s.b.x - s.a.x) * hon' - (s.b.y - s.a.y) * hu'

section filter
variable [Transc K]

theorem mem_segFilter (cx cy : K → K) (cs : K → P K) (s : Seg K) (ts : List K) (t u : K) :
    (t, u) ∈ segFilter cx cy cs s ts ↔
      t ∈ ts
      ∧ ((if |s.a.y - s.b.y| ≥ |s.a.x - s.b.x| then cy t else cx t)
            ≥ (if |s.a.y - s.b.y| ≥ |s.a.x - s.b.x| then s.ixBoundingRangeY else s.ixBoundingRangeX).1
          ∧ (if |s.a.y - s.b.y| ≥ |s.a.x - s.b.x| then cy t else cx t)
            ≤ (if |s.a.y - s.b.y| ≥ |s.a.x - s.b.x| then s.ixBoundingRangeY else s.ixBoundingRangeX).2)
      ∧ u = Transc.sqrt (cs t - s.a).sqLen / s.length
      ∧ ((t ≠ 0 ∧ t ≠ 1) ∨ (u ≠ 0 ∧ u ≠ 1)) := by
  unfold segFilter
  simp only [List.mem_filterMap, sc_abs, decide_eq_true_eq, Option.ite_none_right_eq_some,
    Option.some.injEq, Prod.mk.injEq]
  constructor
  · rintro ⟨t', ht', hr, he, rfl, rfl⟩
    exact ⟨ht', hr, rfl, by simpa [sc_beq, Scalar.zero, Scalar.one] using he⟩
  · rintro ⟨ht, hr, rfl, he⟩
    exact ⟨t, ht, hr, by simpa [sc_beq, Scalar.zero, Scalar.one] using he, rfl, rfl⟩

/-- a point `from + u·(to − from)` of the carrier line passes the major-axis range test iff
`u ∈ [0,1]` -/
theorem seg_range_iff (s : Seg K) (hab : s.a ≠ s.b) (p : P K) (u : K) (hp : p = s.sample u) :
    ((if |s.a.y - s.b.y| ≥ |s.a.x - s.b.x| then p.y else p.x)
        ≥ (if |s.a.y - s.b.y| ≥ |s.a.x - s.b.x| then s.ixBoundingRangeY else s.ixBoundingRangeX).1
      ∧ (if |s.a.y - s.b.y| ≥ |s.a.x - s.b.x| then p.y else p.x)
        ≤ (if |s.a.y - s.b.y| ≥ |s.a.x - s.b.x| then s.ixBoundingRangeY else s.ixBoundingRangeX).2)
    ↔ (0 ≤ u ∧ u ≤ 1) := by
  by_cases hv : |s.a.y - s.b.y| ≥ |s.a.x - s.b.x|
  · simp only [hv, if_true]
    have hy : s.a.y ≠ s.b.y := by
      intro h
      rw [h, sub_self, abs_zero] at hv
      have hx : s.a.x = s.b.x := sub_eq_zero.mp (abs_eq_zero.mp (le_antisymm hv (abs_nonneg _)))
      exact hab (P.ext' hx h)
    rw [hp, seg_sample_y]
    exact range1d s.a.y s.b.y u hy
  · simp only [hv, if_false]
    have hx : s.a.x ≠ s.b.x := by
      intro h
      apply hv
      rw [h, sub_self, abs_zero]
      exact abs_nonneg _
    rw [hp, seg_sample_x]
    exact range1d s.a.x s.b.x u hx

/-- the second parameter the code computes, `|p − from| / |to − from|`, is the carrier parameter
`u` of `p` when `u ≥ 0` -/
theorem seg_t2_eq (hs0 : ∀ x : K, 0 ≤ x → 0 ≤ Transc.sqrt x)
    (hsq : ∀ x : K, 0 ≤ x → Transc.sqrt x * Transc.sqrt x = x)
    (s : Seg K) (hab : s.a ≠ s.b) (p : P K) (u : K) (hp : p = s.sample u) (hu : 0 ≤ u) :
    Transc.sqrt (p - s.a).sqLen / s.length = u := by
  have hL : 0 < s.toVector.sqLen := by simpa only [geom] using sqLen_pos hab
  have e : (p - s.a).sqLen = u * u * s.toVector.sqLen := by
    rw [hp]; simp only [geom, Nat.cast_one]; ring
  rw [e, C10.sqrt_mul_sq hs0 hsq u _ hu hL.le]
  exact mul_div_cancel_right₀ u (sqrt_pos_of_pos hs0 hsq hL).ne'

end filter

end Lyon.CubicRoots
