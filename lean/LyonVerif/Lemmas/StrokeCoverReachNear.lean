/-
  C06b, reach, the plane geometry: the points within a given distance of a segment.
  * `NearSeg X t L r2 p`: `p` is within squared distance `r2` of the segment `X + t·x`, `0 ≤ x ≤ L`.
  * `nearSeg_tri`: the set of such points is convex, so a triangle whose corners are near is near (the squared
    distance of a convex combination: `Hull.comb3_sq_le`).
  * `near_pt`: a point `X ± perp(t)·hw + t·z` with `−D ≤ z ≤ L + D` is within `hw² + D²`.
-/
import LyonVerif.Lemmas.StrokeCoverGeo
import LyonVerif.Lemmas.Hull
import Mathlib.Tactic.Linarith
import Mathlib.Tactic.LinearCombination

set_option linter.unusedSectionVars false

namespace Lyon.C06b
open Lyon Scalar Lyon.Stroke Lyon.C06

section
variable {K : Type} [Field K] [LinearOrder K] [IsStrictOrderedRing K]

/-- `p` is within squared distance `r2` of the segment `{X + t·x : 0 ≤ x ≤ L}` -/
def NearSeg (X t : P K) (L r2 : K) (p : P K) : Prop :=
  ∃ x, 0 ≤ x ∧ x ≤ L ∧ (p - (X + t.smul x)).sqLen ≤ r2

theorem nearSeg_tri (X t : P K) (L r2 : K) (p1 p2 p3 q : P K)
    (h1 : NearSeg X t L r2 p1) (h2 : NearSeg X t L r2 p2) (h3 : NearSeg X t L r2 p3)
    (hq : InTri q (p1, p2, p3)) : NearSeg X t L r2 q := by
  obtain ⟨x1, a1, b1, c1⟩ := h1
  obtain ⟨x2, a2, b2, c2⟩ := h2
  obtain ⟨x3, a3, b3, c3⟩ := h3
  obtain ⟨l, m, n, hl, hm, hn, hs, hx, hy⟩ := hq
  simp only [] at hx hy
  refine ⟨l * x1 + m * x2 + n * x3, add_nonneg (add_nonneg (mul_nonneg hl a1) (mul_nonneg hm a2)) (mul_nonneg hn a3), ?_, ?_⟩
  · linear_combination l * b1 + m * b2 + n * b3 + L * hs
  · simp only [geom] at c1 c2 c3 ⊢
    have J := Hull.comb3_sq_le l m n (p1.x - (X.x + t.x * x1)) (p1.y - (X.y + t.y * x1)) (p2.x - (X.x + t.x * x2))
      (p2.y - (X.y + t.y * x2)) (p3.x - (X.x + t.x * x3)) (p3.y - (X.y + t.y * x3))
      (mul_nonneg hl hm) (mul_nonneg hl hn) (mul_nonneg hm hn)
    rw [hs, one_mul] at J
    have ex : q.x - (X.x + t.x * (l * x1 + m * x2 + n * x3))
        = l * (p1.x - (X.x + t.x * x1)) + m * (p2.x - (X.x + t.x * x2)) + n * (p3.x - (X.x + t.x * x3)) := by
      rw [hx]; linear_combination X.x * hs
    have ey : q.y - (X.y + t.y * (l * x1 + m * x2 + n * x3))
        = l * (p1.y - (X.y + t.y * x1)) + m * (p2.y - (X.y + t.y * x2)) + n * (p3.y - (X.y + t.y * x3)) := by
      rw [hy]; linear_combination X.y * hs
    rw [ex, ey]
    exact J.trans (by linear_combination l * c1 + m * c2 + n * c3 + r2 * hs)

theorem NearSeg.mono {X t : P K} {L r2 r2' : K} {p : P K} (h : NearSeg X t L r2 p) (hr : r2 ≤ r2') :
    NearSeg X t L r2' p := by
  obtain ⟨x, a, b, c⟩ := h
  exact ⟨x, a, b, le_trans c hr⟩

section
variable [Transc K]

theorem near_pt (X t : P K) (L hw c z D : K) (hL : 0 ≤ L) (hunit : t.sqLen = 1) (hc : c * c = hw * hw)
    (hz0 : -D ≤ z) (hz1 : z ≤ L + D) :
    NearSeg X t L (hw * hw + D * D) (bp X t z c) := by
  have hsq : ∀ x : K, (bp X t z c - (X + t.smul x)).sqLen = hw * hw + (z - x) * (z - x) := by
    intro x
    simp only [bp, perp, geom] at hunit ⊢
    linear_combination (c * c + (z - x) * (z - x)) * hunit + hc
  by_cases h0 : z < 0
  · refine ⟨0, le_refl _, hL, ?_⟩
    rw [hsq]; linarith [mul_self_le_mul_self (by linarith : (0 : K) ≤ 0 - z) (by linarith : 0 - z ≤ D)]
  · by_cases h1 : L < z
    · refine ⟨L, hL, le_refl _, ?_⟩
      rw [hsq]; linarith [mul_self_le_mul_self (by linarith : (0 : K) ≤ z - L) (by linarith : z - L ≤ D)]
    · refine ⟨z, not_lt.mp h0, not_lt.mp h1, ?_⟩
      rw [hsq]; linarith [mul_self_nonneg D]

end

end

end Lyon.C06b
