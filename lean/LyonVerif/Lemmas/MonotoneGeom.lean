/-
  C02 (`Props/C02c.lean`): geometry of the BASIC monotone tessellator over an ordered field.

  * `wind a b c = (a − b) × (c − b)`: twice the signed area of `(a, b, c)` in the emitted order.
  * orientation, for EVERY sequence: every emitted triangle has `wind ≥ 0` (`run_gInv`).
  * edge terms `E a b = b × a` (`wind a b c = E a b + E b c + E c a`), open-chain sums `chainE`,
    and the telescoping identities of the fan (`fanC_telescope`) and of the ear-cutting loop
    (`popLoop_area`).
  * the signed-area identity, for EVERY (position, side) sequence: state potential
    `G s = Σ wind(emitted triangles) ± wind-area(stack polygon)`.  Feeding `cur` adds exactly
    `wind(lastLeft, cur, lastRight)` — the area the polygon-so-far gains — plus a non-negative excess
    that is zero when no fan triangle is flipped by the winding test (`vertex_area`).  Along a run
    `G` plus the area still to come (`accFrom`: `polyAcc` over the not yet fed suffix of the sequence) never
    falls below its initial value, the shoelace area of the polygon (`accFrom_one`, `polyAcc_eq_shoelace`),
    and keeps it when no fan triangle is flipped; `end` leaves `Σ wind(triangles)` (`end_area`).
-/
import LyonVerif.Lemmas.MonotoneBasic
import LyonVerif.Lemmas.Field

set_option linter.unusedSectionVars false

namespace Lyon.C02c
open Lyon Lyon.Mono Lyon.C02

variable {K : Type} [Field K] [LinearOrder K] [IsStrictOrderedRing K]

/-- the quantity of lyon's own (commented-out) assertion in `push_triangle(a, b, c)`:
`(a − b) × (c − b)`, twice the signed area of `(a, b, c)` in the emitted order (positive =
counter-clockwise on a y-down screen). -/
noncomputable def wind (a b c : P K) : K := (a - b).cross (c - b)

theorem wind_swap (a b c : P K) : wind b a c = -wind a b c := by
  simp only [wind]; geom_ring

theorem wind_swap_bc (a b c : P K) : wind a c b = -wind a b c := by simp only [wind]; geom_ring

/-- `wind a b q` as a cross product of two of the three difference vectors: `_a` the two from `a`, `_b` and `_c` the
edge `a → b` with the one between `b` and `q`, `_d` the two towards `q` -/
theorem wind_cross_a (a b q : P K) : wind a b q = (q - a).cross (b - a) := by
  simp only [wind]; geom_ring

theorem wind_cross_b (a b q : P K) : wind a b q = (b - a).cross (b - q) := by
  simp only [wind]; geom_ring

theorem wind_cross_c (a b q : P K) : wind a b q = (q - b).cross (b - a) := by
  simp only [wind]; geom_ring

theorem wind_cross_d (a b q : P K) : wind a b q = (q - b).cross (q - a) := by
  simp only [wind]; geom_ring

/-- the vertex record carries the position registered for its id -/
def Good (pos : Nat → P K) (v : MV K) : Prop := v.pos = pos v.id

/-- `wind` of an emitted triangle at the registered positions -/
noncomputable def triW (pos : Nat → P K) (t : Tri) : K := wind (pos t.1) (pos t.2.1) (pos t.2.2)

/-- `+1` for a left chain, `−1` for a right chain -/
def sg (c : Bool) : K := if c then 1 else -1

theorem sg_not (c : Bool) : (sg (!c) : K) = -sg c := by cases c <;> simp [sg]

def TriWind (pos : Nat → P K) (t : Tri) : Prop := 0 ≤ triW pos t

theorem fanTri_cases (cur a b : MV K) :
    (fanTri cur a b = (a.id, b.id, cur.id) ∧ 0 ≤ wind a.pos b.pos cur.pos) ∨
    (fanTri cur a b = (b.id, a.id, cur.id) ∧ 0 < wind b.pos a.pos cur.pos) := by
  unfold fanTri
  by_cases h : Scalar.zero ≤ (a.pos - b.pos).cross (cur.pos - b.pos)
  · left
    rw [if_pos h]
    exact ⟨rfl, by simpa [wind, geom] using h⟩
  · right
    rw [if_neg h]
    refine ⟨rfl, ?_⟩
    rw [wind_swap]
    have : ¬ (0 ≤ wind a.pos b.pos cur.pos) := by simpa [wind, geom] using h
    linarith [not_le.mp this]

/-- lyon's ear test as a sign: the ear `(top, lp, cur)` is cut iff it is weakly convex on the side of `cur` -/
theorem earConvex_iff (cur lp top : MV K) :
    earConvex cur lp top = true ↔ 0 ≤ sg cur.left * wind top.pos lp.pos cur.pos := by
  unfold earConvex sg
  cases cur.left
  · simp only [Bool.false_eq_true, if_false, decide_eq_true_eq]
    rw [show -1 * wind top.pos lp.pos cur.pos = (cur.pos - lp.pos).cross (top.pos - lp.pos) by
      simp only [wind]; geom_ring]
    simp [geom]
  · simp only [if_true, decide_eq_true_eq, one_mul, wind_cross_a]
    simp [geom]

theorem earConvex_false (cur lp top : MV K) (h : earConvex cur lp top = false) :
    sg cur.left * wind top.pos lp.pos cur.pos < 0 := by
  rwa [← Bool.not_eq_true, earConvex_iff, not_le] at h

theorem earTri_cases (cur lp top : MV K) (h : earConvex cur lp top = true) :
    (cur.left = true ∧ earTri cur lp top = (top.id, lp.id, cur.id) ∧ 0 ≤ wind top.pos lp.pos cur.pos) ∨
    (cur.left = false ∧ earTri cur lp top = (lp.id, top.id, cur.id) ∧ 0 ≤ wind lp.pos top.pos cur.pos) := by
  have g := (earConvex_iff cur lp top).mp h
  unfold earTri
  cases hl : cur.left <;> simp only [hl, sg, Bool.false_eq_true, if_false, if_true, one_mul, neg_one_mul] at g ⊢
  · right; rw [wind_swap]; exact ⟨trivial, trivial, g⟩
  · left; exact ⟨trivial, trivial, g⟩

theorem fanTri_triW (pos : Nat → P K) (cur a b : MV K) (hc : Good pos cur) (ha : Good pos a) (hb : Good pos b) :
    triW pos (fanTri cur a b) = |wind a.pos b.pos cur.pos| := by
  unfold Good at hc ha hb
  rcases fanTri_cases cur a b with ⟨e, h⟩ | ⟨e, h⟩
  · rw [e]; simp only [triW]; rw [← hc, ← ha, ← hb, abs_of_nonneg h]
  · rw [e]; simp only [triW]; rw [← hc, ← ha, ← hb]
    rw [wind_swap] at h ⊢
    rw [abs_of_neg (by linarith)]

theorem earTri_triW (pos : Nat → P K) (cur lp top : MV K) (hc : Good pos cur) (hlp : Good pos lp)
    (ht : Good pos top) : triW pos (earTri cur lp top) = sg cur.left * wind top.pos lp.pos cur.pos := by
  unfold Good at hc hlp ht
  unfold earTri sg
  cases cur.left
  · simp only [Bool.false_eq_true, if_false, triW]
    rw [← hc, ← hlp, ← ht, wind_swap]; ring
  · simp only [if_true, triW]
    rw [← hc, ← hlp, ← ht]; ring

theorem fanTri_wind (pos : Nat → P K) (cur a b : MV K) (hc : Good pos cur) (ha : Good pos a) (hb : Good pos b) :
    TriWind pos (fanTri cur a b) := by
  unfold TriWind; rw [fanTri_triW pos cur a b hc ha hb]; exact abs_nonneg _

theorem fanTris_wind (pos : Nat → P K) (cur : MV K) (l : List (MV K)) (hc : Good pos cur)
    (hl : ∀ v ∈ l, Good pos v) : ∀ t ∈ fanTris cur l, TriWind pos t := by
  induction l with
  | nil => intro t ht; simp [fanTris] at ht
  | cons a r ih =>
    cases r with
    | nil => intro t ht; simp [fanTris] at ht
    | cons b r' =>
      exact List.forall_mem_cons.mpr ⟨fanTri_wind pos cur a b hc (hl a (by simp)) (hl b (by simp)),
        ih (fun v hv => hl v (List.mem_cons_of_mem _ hv))⟩

theorem earTri_wind (pos : Nat → P K) (cur lp top : MV K) (hc : Good pos cur) (hlp : Good pos lp)
    (ht : Good pos top) (h : earConvex cur lp top = true) : TriWind pos (earTri cur lp top) := by
  unfold TriWind; rw [earTri_triW pos cur lp top hc hlp ht]; exact (earConvex_iff cur lp top).mp h

theorem popLoop_wind (pos : Nat → P K) (cur lp : MV K) (st : List (MV K)) (hc : Good pos cur)
    (hlp : Good pos lp) (hst : ∀ v ∈ st, Good pos v) : ∀ t ∈ (popLoop cur lp st).2, TriWind pos t := by
  induction st generalizing lp with
  | nil => simp [popLoop]
  | cons top rest ih =>
    have htop := hst top (by simp)
    simp only [popLoop]
    split
    · rename_i hconv
      exact List.forall_mem_cons.mpr ⟨earTri_wind pos cur lp top hc hlp htop hconv,
        ih top htop (fun v hv => hst v (List.mem_cons_of_mem _ hv))⟩
    · simp

def GInv (pos : Nat → P K) (s : Basic K) : Prop :=
  (∀ v ∈ s.stack, Good pos v) ∧ Good pos s.previous ∧ ∀ t ∈ s.tris, TriWind pos t

theorem vertex_gInv (pos : Nat → P K) (s : Basic K) (cur : MV K) (h : GInv pos s) (hc : Good pos cur) :
    GInv pos (s.vertex cur) := by
  obtain ⟨hs, hp, ht⟩ := h
  unfold Basic.vertex
  split
  · refine ⟨?_, hc, ?_⟩
    · intro v hv
      simp only [List.mem_cons, List.not_mem_nil, or_false] at hv
      rcases hv with hv | hv <;> subst hv <;> assumption
    · intro t h
      rcases List.mem_append.mp h with g | g
      · exact ht t g
      · exact fanTris_wind pos cur _ hc (fun v hv => hs v (List.mem_reverse.mp hv)) t g
  · cases hst : s.stack with
    | nil =>
      refine ⟨?_, hc, ht⟩
      intro v hv
      simp only [List.mem_cons, List.not_mem_nil, or_false] at hv
      subst hv; exact hc
    | cons top rest =>
      rw [hst] at hs
      have sp := popLoop_wind pos cur top rest hc (hs top (by simp)) (fun v hv => hs v (List.mem_cons_of_mem _ hv))
      refine ⟨List.forall_mem_cons.mpr ⟨hc, fun v hv => hs v ((popLoop_suffix cur top rest).subset hv)⟩, hc, ?_⟩
      intro t h
      rcases List.mem_append.mp h with g | g
      · exact ht t g
      · exact sp t g

/-- position of vertex `i` of a fed sequence -/
def posOf (seq : List (P K × Bool)) (i : Nat) : P K :=
  match seq[i]? with
  | some v => v.1
  | none => ⟨0, 0⟩

theorem posOf_of_getElem? {seq : List (P K × Bool)} {i : Nat} {v : P K × Bool} (h : seq[i]? = some v) :
    posOf seq i = v.1 := by simp [posOf, h]

/-- edge term: `wind a b c = E a b + E b c + E c a`; a closed polygon's `wind`-area is the cyclic
sum of `E` over its edges (`= −Σ (x_i y_{i+1} − x_{i+1} y_i)`: lyon's y axis points down) -/
noncomputable def E (a b : P K) : K := b.cross a

theorem wind_eq (a b c : P K) : wind a b c = E a b + E b c + E c a := by
  simp only [wind, E]; geom_ring

theorem E_self (a : P K) : E a a = 0 := by simp only [E]; geom_ring
theorem E_anti (a b : P K) : E b a = -E a b := by simp only [E]; geom_ring

theorem wind_cyc (a b c : P K) : wind b c a = wind a b c := by rw [wind_eq, wind_eq]; ring
theorem wind_rev (a b c : P K) : wind c b a = -wind a b c := by
  rw [wind_eq, wind_eq, E_anti b c, E_anti a b, E_anti c a]; ring

/-- sum of the edge terms along an open chain, in list order -/
noncomputable def chainE : List (P K) → K
  | a :: b :: r => E a b + chainE (b :: r)
  | _ => 0

@[simp] theorem chainE_nil : chainE ([] : List (P K)) = 0 := rfl
@[simp] theorem chainE_single (a : P K) : chainE [a] = 0 := rfl
theorem chainE_cons2 (a b : P K) (r : List (P K)) : chainE (a :: b :: r) = E a b + chainE (b :: r) := rfl

theorem chainE_snoc2 (l : List (P K)) (a b : P K) : chainE (l ++ [a, b]) = chainE (l ++ [a]) + E a b := by
  induction l with
  | nil => simp [chainE]
  | cons x r ih =>
    cases r with
    | nil => simp [chainE]
    | cons y r' =>
      simp only [List.cons_append, chainE_cons2] at ih ⊢
      rw [ih]; ring

theorem chainE_append (l1 : List (P K)) (x : P K) (l2 : List (P K)) :
    chainE (l1 ++ x :: l2) = chainE (l1 ++ [x]) + chainE (x :: l2) := by
  induction l1 with
  | nil => simp
  | cons a r ih =>
    cases r with
    | nil => simp [chainE]
    | cons b r' =>
      simp only [List.cons_append, chainE_cons2] at ih ⊢
      rw [ih]; ring

theorem chainE_reverse (l : List (P K)) : chainE l.reverse = -chainE l := by
  induction l with
  | nil => simp
  | cons a r ih =>
    cases r with
    | nil => simp
    | cons b r' =>
      rw [List.reverse_cons, List.reverse_cons, List.append_assoc]
      show chainE (r'.reverse ++ [b, a]) = _
      rw [chainE_snoc2, ← List.reverse_cons, ih, chainE_cons2, E_anti a b]; ring

/-- chain sum of a TOP-FIRST list (the model's stack order), taken bottom to top -/
noncomputable def chainT (l : List (P K)) : K := chainE l.reverse

@[simp] theorem chainT_nil : chainT ([] : List (P K)) = 0 := rfl
@[simp] theorem chainT_single (a : P K) : chainT [a] = 0 := rfl
theorem chainT_cons2 (x y : P K) (r : List (P K)) : chainT (x :: y :: r) = chainT (y :: r) + E y x := by
  simp only [chainT, List.reverse_cons, List.append_assoc]
  exact chainE_snoc2 _ _ _

/-- sum of the `wind`s of a triangle list, each in its EMITTED vertex order -/
noncomputable def sumW (pos : Nat → P K) (l : List Tri) : K := (l.map (triW pos)).sum

@[simp] theorem sumW_nil (pos : Nat → P K) : sumW pos [] = 0 := rfl
@[simp] theorem sumW_cons (pos : Nat → P K) (t : Tri) (l : List Tri) : sumW pos (t :: l) = triW pos t + sumW pos l := by
  simp [sumW]
@[simp] theorem sumW_append (pos : Nat → P K) (a b : List Tri) : sumW pos (a ++ b) = sumW pos a + sumW pos b := by
  simp [sumW]
theorem sumW_perm (pos : Nat → P K) {x y : List Tri} (h : x.Perm y) : sumW pos x = sumW pos y :=
  (h.map (triW pos)).sum_eq

/-- fan sum over a BOTTOM-FIRST stack, every pair in the order `(a, b, cur)`; the side of the chain enters at the use
sites as the factor `sg c` (chain on the right: `−wind a b cur = wind b a cur`) -/
noncomputable def fanC (cur : P K) : List (P K) → K
  | a :: b :: r => wind a b cur + fanC cur (b :: r)
  | _ => 0

theorem fanC_telescope (cur a : P K) (l : List (P K)) :
    fanC cur (a :: l) = chainE (a :: l) + E ((a :: l).getLast (by simp)) cur + E cur a := by
  induction l generalizing a with
  | nil => simp [fanC, E_anti cur a]
  | cons b r ih =>
    simp only [fanC, chainE_cons2, ih b, List.getLast_cons_cons, wind_eq]
    rw [E_anti cur b]; ring

theorem fanC_telescope_ne (cur : P K) (L : List (P K)) (h : L ≠ []) :
    fanC cur L = chainE L + E (L.getLast h) cur + E cur (L.head h) := by
  cases L with
  | nil => exact absurd rfl h
  | cons a l => exact fanC_telescope cur a l

/-- every pair of the fan passes lyon's winding test in the canonical (side-determined) order; BOTTOM-FIRST, as
`fanTris` recurses (`FanLeT` of `MonotoneGeomValid.lean` is the same on the top-first stack: `fanLeT_canon`) -/
def FanCanon (c : Bool) (cur : P K) : List (P K) → Prop
  | a :: b :: r => 0 ≤ sg c * wind a b cur ∧ FanCanon c cur (b :: r)
  | _ => True

theorem fanTris_sumW (pos : Nat → P K) (c : Bool) (cur : MV K) (l : List (MV K)) (hc : Good pos cur)
    (hl : ∀ v ∈ l, Good pos v) :
    sg c * fanC cur.pos (l.map (·.pos)) ≤ sumW pos (fanTris cur l) ∧
      (FanCanon c cur.pos (l.map (·.pos)) → sumW pos (fanTris cur l) = sg c * fanC cur.pos (l.map (·.pos))) := by
  induction l with
  | nil => simp [fanTris, fanC]
  | cons a r ih =>
    cases r with
    | nil => simp [fanTris, fanC]
    | cons b r' =>
      have ih' := ih (fun v hv => hl v (List.mem_cons_of_mem _ hv))
      have e := fanTri_triW pos cur a b hc (hl a (by simp)) (hl b (by simp))
      simp only [fanTris, List.map_cons, fanC, sumW_cons, FanCanon] at ih' ⊢
      rw [e]
      have hab : |wind a.pos b.pos cur.pos| = |sg c * wind a.pos b.pos cur.pos| := by
        unfold sg; split
        · rw [one_mul]
        · rw [neg_one_mul, abs_neg]
      rw [hab]
      constructor
      · rw [mul_add]; linarith [ih'.1, le_abs_self (sg c * wind a.pos b.pos cur.pos)]
      · rintro ⟨h1, h2⟩
        rw [ih'.2 h2, mul_add, abs_of_nonneg h1]

/-- the ear-cutting loop telescopes: each cut ear `(top, lp, cur)` is exactly what the stack chain
loses — for EVERY input (the convexity test only decides how many ears are cut) -/
theorem popLoop_area (pos : Nat → P K) (cur lp : MV K) (st : List (MV K)) (hc : Good pos cur)
    (hlp : Good pos lp) (hst : ∀ v ∈ st, Good pos v) :
    sg cur.left * chainT (cur.pos :: lp.pos :: st.map (·.pos)) =
      sumW pos (popLoop cur lp st).2 + sg cur.left * chainT (cur.pos :: (popLoop cur lp st).1.map (·.pos)) := by
  induction st generalizing lp with
  | nil => simp [popLoop]
  | cons top rest ih =>
    have htop := hst top (by simp)
    have hrest : ∀ v ∈ rest, Good pos v := fun v hv => hst v (List.mem_cons_of_mem _ hv)
    simp only [popLoop]
    split
    · have := ih top htop hrest
      simp only [sumW_cons, earTri_triW pos cur lp top hc hlp htop]
      rw [add_assoc, ← this]
      simp only [List.map_cons, chainT_cons2, wind_eq]
      rw [E_anti cur.pos top.pos]; ring
    · simp

/-- position of the bottom of the stack -/
def botPos (s : Basic K) : P K := (s.stack.getLast?.map (·.pos)).getD s.previous.pos

/-- last vertex of the left / right chain fed so far (the apex counts for both) -/
def lastL (s : Basic K) : P K := if s.previous.left then s.previous.pos else botPos s
def lastR (s : Basic K) : P K := if s.previous.left then botPos s else s.previous.pos

/-- emitted area + signed area of the stack polygon (the part not yet triangulated) -/
noncomputable def G (pos : Nat → P K) (s : Basic K) : K :=
  sumW pos s.tris + sg s.previous.left * (chainT (s.stack.map (·.pos)) + E s.previous.pos (botPos s))

def BInv (pos : Nat → P K) (s : Basic K) : Prop :=
  (∃ rest, s.stack = s.previous :: rest) ∧ ∀ v ∈ s.stack, Good pos v

def NoFlip (s : Basic K) (cur : MV K) : Prop :=
  cur.left = s.previous.left ∨ FanCanon s.previous.left cur.pos (s.stack.reverse.map (·.pos))

theorem area_algebra (c : Bool) (prev bot cur : P K) :
    sg c * (E prev cur + E cur bot - E prev bot) =
      wind (if c then prev else bot) cur (if c then bot else prev) := by
  cases c
  · simp only [sg, Bool.false_eq_true, if_false, wind_eq]
    rw [E_anti cur bot, E_anti prev cur]; ring
  · simp only [sg, if_true, wind_eq]
    rw [E_anti prev bot]; ring

theorem vertex_area (pos : Nat → P K) (s : Basic K) (cur : MV K) (h : BInv pos s) (hc : Good pos cur) :
    BInv pos (s.vertex cur) ∧
    lastL (s.vertex cur) = (if cur.left then cur.pos else lastL s) ∧
    lastR (s.vertex cur) = (if cur.left then lastR s else cur.pos) ∧
    G pos s + wind (lastL s) cur.pos (lastR s) ≤ G pos (s.vertex cur) ∧
    (NoFlip s cur → G pos (s.vertex cur) = G pos s + wind (lastL s) cur.pos (lastR s)) := by
  obtain ⟨⟨rest, hst⟩, hgood⟩ := h
  have hprev : Good pos s.previous := hgood _ (by rw [hst]; simp)
  have hbot : botPos s = ((s.previous :: rest).getLast (by simp)).pos := by
    simp only [botPos, hst, List.getLast?_eq_some_getLast (l := s.previous :: rest) (by simp), Option.map_some,
      Option.getD_some]
  have halg := area_algebra s.previous.left s.previous.pos (botPos s) cur.pos
  by_cases hside : cur.left = s.previous.left
  · -- same side
    have hv := vertex_same s cur rest hside hst
    have hpl := popLoop_area pos cur s.previous rest hc hprev
      (fun v hv => hgood v (by rw [hst]; exact List.mem_cons_of_mem _ hv))
    have hgl := popLoop_getLast cur s.previous rest
    have hnn := popLoop_nonempty cur s.previous rest
    have hbot' : botPos (s.vertex cur) = botPos s := by
      simp only [botPos, hv, hst]
      rw [List.getLast?_cons_of_ne_nil hnn, hgl,
        List.getLast?_eq_some_getLast (l := s.previous :: rest) (by simp)]
      rfl
    -- the ears cut are exactly what the stack chain loses (`popLoop_area`); what the chain gains, the edges
    -- `prev → cur → bot` for `prev → bot`, is the triangle `(lastL, cur, lastR)` (`area_algebra`)
    have hG : G pos (s.vertex cur) = G pos s + wind (lastL s) cur.pos (lastR s) := by
      simp only [G, hbot']
      simp only [hv, sumW_append, List.map_cons]
      rw [← hside] at halg ⊢
      simp only [lastL, lastR, ← hside]
      rw [← halg, hst]
      simp only [List.map_cons]
      have e1 := chainT_cons2 cur.pos s.previous.pos (rest.map (·.pos))
      rw [e1] at hpl
      linear_combination -hpl
    refine ⟨⟨⟨_, by rw [hv]⟩, ?_⟩, ?_, ?_, le_of_eq hG.symm, fun _ => hG⟩
    · intro v hv'
      rw [hv] at hv'
      simp only [List.mem_cons] at hv'
      rcases hv' with e | e
      · exact e ▸ hc
      · exact hgood v (hst ▸ (popLoop_suffix cur s.previous rest).subset e)
    · simp only [lastL, hbot']; rw [hv]; simp only [← hside]
      cases cur.left <;> simp
    · simp only [lastR, hbot']; rw [hv]; simp only [← hside]
      cases cur.left <;> simp
  · -- changed side
    have hv := vertex_other s cur hside
    have hfan := fanTris_sumW pos s.previous.left cur s.stack.reverse hc
      (fun v hv => hgood v (List.mem_reverse.mp hv))
    have hrne : s.stack.reverse.map (·.pos) ≠ [] := by rw [hst]; simp
    have htel := fanC_telescope_ne cur.pos (s.stack.reverse.map (·.pos)) hrne
    have hlast : (s.stack.reverse.map (·.pos)).getLast hrne = s.previous.pos := by
      simp only [hst, List.reverse_cons, List.map_append, List.map_cons, List.map_nil]
      simp
    have hhead : (s.stack.reverse.map (·.pos)).head hrne = botPos s := by
      rw [hbot]
      simp only [hst, List.map_reverse]
      rw [List.head_reverse, List.getLast_map]
    have hch : chainE (s.stack.reverse.map (·.pos)) = chainT (s.stack.map (·.pos)) := by
      simp only [chainT, List.map_reverse]
    rw [hlast, hhead, hch] at htel
    have hbot' : botPos (s.vertex cur) = s.previous.pos := by simp [botPos, hv]
    have hGnew : G pos (s.vertex cur) = sumW pos s.tris + sumW pos (fanTris cur s.stack.reverse) := by
      simp only [G, hbot']
      simp only [hv, sumW_append, List.map_cons, List.map_nil, chainT_cons2, chainT_single]
      rw [E_anti cur.pos s.previous.pos]; ring
    have hcanon : sg s.previous.left * fanC cur.pos (s.stack.reverse.map (·.pos)) =
        sg s.previous.left * (chainT (s.stack.map (·.pos)) + E s.previous.pos (botPos s)) +
          wind (lastL s) cur.pos (lastR s) := by
      simp only [lastL, lastR]
      rw [← halg, htel]; ring
    refine ⟨⟨⟨_, by rw [hv]⟩, ?_⟩, ?_, ?_, ?_, ?_⟩
    · intro v hv'
      rw [hv] at hv'
      simp only [List.mem_cons, List.not_mem_nil, or_false] at hv'
      rcases hv' with e | e
      · exact e ▸ hc
      · exact e ▸ hprev
    · simp only [lastL, hbot']; rw [hv]
      revert hside; cases cur.left <;> cases s.previous.left <;> simp
    · simp only [lastR, hbot']; rw [hv]
      revert hside; cases cur.left <;> cases s.previous.left <;> simp
    · rw [hGnew]; simp only [G]
      linarith [hfan.1, hcanon]
    · intro hnf
      rcases hnf with e | e
      · exact absurd e hside
      · rw [hGnew]; simp only [G]
        rw [hfan.2 e, hcanon]; ring

/-- a state whose stack is `[previous, x]` (what a change of side leaves): the stack polygon is empty -/
theorem G_two (pos : Nat → P K) (s : Basic K) (x : MV K) (h : s.stack = [s.previous, x]) :
    G pos s = sumW pos s.tris := by
  simp only [G, botPos, h, List.map_cons, List.map_nil, chainT_cons2, chainT_single]
  simp only [List.getLast?_cons_cons, List.getLast?_singleton, Option.map_some, Option.getD_some]
  rw [E_anti s.previous.pos x.pos]; ring

theorem end_stack (s : Basic K) (pe : P K) (ide : Nat) :
    (s.vertex ⟨pe, ide, !s.previous.left⟩).stack = [(s.vertex ⟨pe, ide, !s.previous.left⟩).previous, s.previous] := by
  rw [vertex_other s _ (by cases s.previous.left <;> simp)]

/-- the inner `end`: `vertex_area` for the bottom vertex, the stack polygon is then a segment -/
theorem end_area (pos : Nat → P K) (s : Basic K) (pe : P K) (ide : Nat) (hpe : pos ide = pe) (h : BInv pos s) :
    G pos s + wind (lastL s) pe (lastR s) ≤ sumW pos (s.end_ pe ide).tris ∧
    (NoFlip s ⟨pe, ide, !s.previous.left⟩ → sumW pos (s.end_ pe ide).tris = G pos s + wind (lastL s) pe (lastR s)) := by
  obtain ⟨_, _, _, h4, h5⟩ := vertex_area pos s ⟨pe, ide, !s.previous.left⟩ h hpe.symm
  have hg := G_two pos _ _ (end_stack s pe ide)
  simp only [Basic.end_]
  rw [hg] at h4 h5
  exact ⟨h4, h5⟩

/-- area the polygon still gains when the remaining vertices (`vs`, then the bottom vertex `pe`)
are fed: each vertex `p` adds the triangle `(lastLeft, p, lastRight)` -/
noncomputable def polyAcc (lL lR : P K) : List (P K × Bool) → P K → K
  | [], pe => wind lL pe lR
  | (p, l) :: r, pe => wind lL p lR + polyAcc (if l then p else lL) (if l then lR else p) r pe

theorem begin_bInv (pos : Nat → P K) (p0 : P K) (h0 : pos 0 = p0) : BInv pos (Basic.begin p0 0) := by
  refine ⟨⟨[], rfl⟩, ?_⟩
  intro v hv
  simp only [Basic.begin, List.mem_singleton] at hv
  subst hv; exact h0.symm

theorem begin_G (pos : Nat → P K) (p0 : P K) : G pos (Basic.begin p0 0) = 0 := by
  simp [G, Basic.begin, botPos, sg, E_self]

theorem begin_lastL (p0 : P K) : lastL (Basic.begin p0 0) = p0 := by simp [lastL, Basic.begin]
theorem begin_lastR (p0 : P K) : lastR (Basic.begin p0 0) = p0 := by simp [lastR, Basic.begin, botPos]

def leftsOf (mids : List (P K × Bool)) : List (P K) := (mids.filter (fun v => v.2)).map (·.1)
def rightsOf (mids : List (P K × Bool)) : List (P K) := (mids.filter (fun v => !v.2)).map (·.1)

/-- the polygon as a closed vertex loop: apex, left chain downwards, bottom vertex, right chain
upwards (the side flags of the first and the last entry are ignored, as `begin`/`end` do) -/
def polygonOf (seq : List (P K × Bool)) : List (P K) :=
  match seq with
  | [] => []
  | [a] => [a.1]
  | (p0, _) :: rest =>
    p0 :: leftsOf (rest.take (rest.length - 1)) ++ [(rest.getLast?.map (·.1)).getD p0]
      ++ (rightsOf (rest.take (rest.length - 1))).reverse

/-- closed-polygon shoelace sum in lyon's orientation (y axis down):
`Σ E(q_i, q_{i+1}) = Σ (x_{i+1} y_i − x_i y_{i+1})`, twice the signed area -/
noncomputable def shoelaceW (l : List (P K)) : K :=
  match l with
  | [] => 0
  | a :: r => chainE (a :: r ++ [a])

theorem chainE_eq_sum (a z : P K) (r : List (P K)) :
    chainE (a :: r ++ [z]) = (((a :: r).zip (r ++ [z])).map (fun e => e.2.x * e.1.y - e.2.y * e.1.x)).sum := by
  induction r generalizing a with
  | nil => simp [chainE, E, geom]
  | cons b r' ih =>
    have := ih b
    simp only [List.cons_append, chainE_cons2, List.zip_cons_cons, List.map_cons, List.sum_cons] at this ⊢
    rw [this]
    simp [E, geom]

theorem shoelaceW_eq_sum (a : P K) (r : List (P K)) :
    shoelaceW (a :: r) = (((a :: r).zip (r ++ [a])).map (fun e => e.2.x * e.1.y - e.2.y * e.1.x)).sum :=
  chainE_eq_sum a a r

theorem polyAcc_eq (a b : P K) (mids : List (P K × Bool)) (pe : P K) :
    polyAcc a b mids pe =
      chainE (a :: leftsOf mids ++ [pe]) - chainE (b :: rightsOf mids ++ [pe]) - E a b := by
  induction mids generalizing a b with
  | nil => simp [polyAcc, leftsOf, rightsOf, chainE, wind_eq, E_anti b a, E_anti b pe]; ring
  | cons v r ih =>
    obtain ⟨p, l⟩ := v
    cases l
    · simp only [polyAcc, Bool.false_eq_true, if_false, ih, leftsOf, rightsOf, List.filter_cons, Bool.not_false,
        if_true, List.map_cons, List.cons_append, chainE_cons2, wind_eq]
      rw [E_anti b a, E_anti b p]; ring
    · simp only [polyAcc, if_true, ih, leftsOf, rightsOf, List.filter_cons, Bool.not_true, Bool.false_eq_true,
        if_false, List.map_cons, List.cons_append, chainE_cons2, wind_eq]
      rw [E_anti b a]; ring

theorem shoelace_chains (p0 pe : P K) (L R : List (P K)) :
    shoelaceW (p0 :: L ++ [pe] ++ R.reverse) = chainE (p0 :: L ++ [pe]) - chainE (p0 :: R ++ [pe]) := by
  show chainE (p0 :: (L ++ [pe] ++ R.reverse) ++ [p0]) = _
  have e : p0 :: (L ++ [pe] ++ R.reverse) ++ [p0] = (p0 :: L) ++ pe :: (R.reverse ++ [p0]) := by simp
  have e2 : pe :: (R.reverse ++ [p0]) = (p0 :: R ++ [pe]).reverse := by simp
  rw [e, chainE_append, e2, chainE_reverse]
  simp only [List.cons_append]; ring

theorem polyAcc_eq_shoelace (p0 : P K) (b0 : Bool) (v1 : P K × Bool) (rest : List (P K × Bool)) :
    polyAcc p0 p0 (List.take ((v1 :: rest).length - 1) (v1 :: rest)) (((v1 :: rest).getLast?.map (·.1)).getD p0) =
      shoelaceW (polygonOf ((p0, b0) :: v1 :: rest)) := by
  rw [polyAcc_eq, E_self]
  simp only [polygonOf]
  rw [shoelace_chains]; ring

theorem posOf_last (p0 : P K) (b0 : Bool) (v1 : P K × Bool) (rest : List (P K × Bool)) :
    posOf ((p0, b0) :: v1 :: rest) (v1 :: rest).length = ((v1 :: rest).getLast?.map (·.1)).getD p0 := by
  simp only [posOf, List.length_cons, List.getElem?_cons_succ]
  rw [List.getLast?_eq_getElem?]
  simp only [List.length_cons, Nat.add_sub_cancel]
  rw [List.getElem?_eq_getElem (by simp only [List.length_cons]; omega)]
  rfl

/-- the area the polygon still gains after `k` vertices: the middle vertices `k, k+1, …` and the bottom vertex -/
noncomputable def accFrom (seq : List (P K × Bool)) (k : Nat) (L R : P K) : K :=
  polyAcc L R (seq.drop k).dropLast (posOf seq (seq.length - 1))

theorem accFrom_step (seq : List (P K × Bool)) {k : Nat} {v : P K × Bool} (hv : seq[k]? = some v)
    (hk : k + 1 < seq.length) (L R : P K) :
    accFrom seq k L R = wind L v.1 R + accFrom seq (k + 1) (if v.2 then v.1 else L) (if v.2 then R else v.1) := by
  have hlt : k < seq.length := by omega
  have e : seq.drop k = v :: seq.drop (k + 1) := by
    rw [List.drop_eq_getElem_cons hlt]
    congr 1
    exact Option.some.inj ((List.getElem?_eq_getElem hlt).symm.trans hv)
  have hne : seq.drop (k + 1) ≠ [] := by
    intro h; have := congrArg List.length h; simp at this; omega
  obtain ⟨p, l⟩ := v
  simp only [accFrom, e, List.dropLast_cons_of_ne_nil hne, polyAcc]

theorem accFrom_last (seq : List (P K × Bool)) {k : Nat} (hk : k + 1 = seq.length) (L R : P K) :
    accFrom seq k L R = wind L (posOf seq k) R := by
  have e : (seq.drop k).dropLast = [] := by
    apply List.eq_nil_of_length_eq_zero
    simp; omega
  simp only [accFrom, e, polyAcc]
  rw [show seq.length - 1 = k by omega]

theorem accFrom_one (seq : List (P K × Bool)) (h2 : 2 ≤ seq.length) :
    accFrom seq 1 (posOf seq 0) (posOf seq 0) = shoelaceW (polygonOf seq) := by
  match seq, h2 with
  | (p0, b0) :: v1 :: rest, _ =>
    rw [← polyAcc_eq_shoelace p0 b0 v1 rest]
    have e : ((p0, b0) :: v1 :: rest).length - 1 = (v1 :: rest).length := by simp
    simp only [accFrom, List.drop_one, List.tail_cons, List.dropLast_eq_take, e, posOf_last]
    rfl

theorem run_gInv (seq : List (P K × Bool)) : ∀ t ∈ Basic.run seq, TriWind (posOf seq) t := by
  by_cases h2 : 2 ≤ seq.length
  · obtain ⟨s, v, hI, hv, e⟩ := basic_run_ind seq h2 (fun _ s => GInv (posOf seq) s)
      (fun v hv => by simp [GInv, Basic.begin, Good, posOf_of_getElem? hv])
      (fun k s v h _ _ hv => vertex_gInv _ s _ h (posOf_of_getElem? hv).symm)
    rw [e]
    exact (vertex_gInv _ s ⟨v.1, seq.length - 1, !s.previous.left⟩ hI (posOf_of_getElem? hv).symm).2.2
  · rw [(run_short seq h2).1]; simp

end Lyon.C02c
