/-
  Pure algebra behind the completeness theorems of `utils::cubic_polynomial_roots` (`Props/C12d.lean`):
  a cubic with three pairwise distinct roots IS `a (x − x₁)(x − x₂)(x − x₃)`, so it has no fourth root; for
  the depressed cubic `y³ + 3δ₀y − 2δ₁` the sign of `δ₀³ + δ₁²` counts the roots, through
  `−108 (δ₀³ + δ₁²) = ((y₀−y₁)(2y₀+y₁)(y₀+2y₁))²` for two distinct roots `y₀, y₁` (> 0: at most one root;
  three distinct roots: < 0; = 0 with `B³ = δ₁`: the roots are `2B` and the double root `−B`).  Also the bounds on three points of
  [0,1] behind `C12d.cubic_line_outside_regime_flat` (`unit_sym_bounds`, `unit_prod_dist_le`) and
  `increasing_triple_eq` for the order theorem of `Props/C12Real.lean`.
-/
import LyonVerif.Lemmas.IxField
import Mathlib.Tactic.Positivity
import Mathlib.Tactic.NormNum


namespace Lyon.CubicRoots
variable {K : Type} [Field K] [LinearOrder K] [IsStrictOrderedRing K]

/-- Vieta: a polynomial of degree ≤ 3 with three pairwise distinct roots has the coefficients of
`a (x−x₁)(x−x₂)(x−x₃)` (divided differences) -/
theorem cubic_vieta_of_three_roots (a b c d x1 x2 x3 : K)
    (h12 : x1 ≠ x2) (h13 : x1 ≠ x3) (h23 : x2 ≠ x3)
    (r1 : a * x1 ^ 3 + b * x1 ^ 2 + c * x1 + d = 0)
    (r2 : a * x2 ^ 3 + b * x2 ^ 2 + c * x2 + d = 0)
    (r3 : a * x3 ^ 3 + b * x3 ^ 2 + c * x3 + d = 0) :
    b = -(a * (x1 + x2 + x3)) ∧ c = a * (x1 * x2 + x1 * x3 + x2 * x3) ∧ d = -(a * (x1 * x2 * x3)) := by
  have e12 : a * (x1 ^ 2 + x1 * x2 + x2 ^ 2) + b * (x1 + x2) + c = 0 := by
    apply mul_left_cancel₀ (sub_ne_zero.mpr h12)
    linear_combination r1 - r2
  have e13 : a * (x1 ^ 2 + x1 * x3 + x3 ^ 2) + b * (x1 + x3) + c = 0 := by
    apply mul_left_cancel₀ (sub_ne_zero.mpr h13)
    linear_combination r1 - r3
  have eb : a * (x1 + x2 + x3) + b = 0 := by
    apply mul_left_cancel₀ (sub_ne_zero.mpr h23)
    linear_combination e12 - e13
  exact ⟨by linear_combination eb, by linear_combination e12 - (x1 + x2) * eb,
    by linear_combination r1 - x1 ^ 2 * eb - x1 * (e12 - (x1 + x2) * eb)⟩

theorem cubic_factor_of_three_roots (a b c d x1 x2 x3 : K)
    (h12 : x1 ≠ x2) (h13 : x1 ≠ x3) (h23 : x2 ≠ x3)
    (r1 : a * x1 ^ 3 + b * x1 ^ 2 + c * x1 + d = 0)
    (r2 : a * x2 ^ 3 + b * x2 ^ 2 + c * x2 + d = 0)
    (r3 : a * x3 ^ 3 + b * x3 ^ 2 + c * x3 + d = 0) (x : K) :
    a * x ^ 3 + b * x ^ 2 + c * x + d = a * ((x - x1) * (x - x2) * (x - x3)) := by
  obtain ⟨hb, hc, hd⟩ := cubic_vieta_of_three_roots a b c d x1 x2 x3 h12 h13 h23 r1 r2 r3
  rw [hb, hc, hd]; ring

/-- **a cubic has at most three roots**: if `x₁, x₂, x₃` are pairwise distinct roots of
`a x³ + b x² + c x + d` and `a ≠ 0`, every root is one of them. -/
theorem cubic_at_most_three_roots (a b c d x1 x2 x3 x : K) (ha : a ≠ 0)
    (h12 : x1 ≠ x2) (h13 : x1 ≠ x3) (h23 : x2 ≠ x3)
    (r1 : a * x1 ^ 3 + b * x1 ^ 2 + c * x1 + d = 0)
    (r2 : a * x2 ^ 3 + b * x2 ^ 2 + c * x2 + d = 0)
    (r3 : a * x3 ^ 3 + b * x3 ^ 2 + c * x3 + d = 0)
    (r : a * x ^ 3 + b * x ^ 2 + c * x + d = 0) : x = x1 ∨ x = x2 ∨ x = x3 := by
  rw [cubic_factor_of_three_roots a b c d x1 x2 x3 h12 h13 h23 r1 r2 r3 x] at r
  simpa only [mul_eq_zero, sub_eq_zero, ha, false_or, or_assoc] using r

theorem unit_sym_bounds {t1 t2 t3 : K} (a1 : 0 ≤ t1) (b1 : t1 ≤ 1) (a2 : 0 ≤ t2) (b2 : t2 ≤ 1)
    (a3 : 0 ≤ t3) (b3 : t3 ≤ 1) :
    |t1 + t2 + t3| ≤ 3 ∧ |t1 * t2 + t1 * t3 + t2 * t3| ≤ 3 ∧ |t1 * t2 * t3| ≤ 1 := by
  have p12 := mul_le_one₀ b1 a2 b2
  have p13 := mul_le_one₀ b1 a3 b3
  have p23 := mul_le_one₀ b2 a3 b3
  rw [abs_of_nonneg (add_nonneg (add_nonneg a1 a2) a3),
    abs_of_nonneg (add_nonneg (add_nonneg (mul_nonneg a1 a2) (mul_nonneg a1 a3)) (mul_nonneg a2 a3)),
    abs_of_nonneg (mul_nonneg (mul_nonneg a1 a2) a3)]
  exact ⟨by linear_combination b1 + b2 + b3, by linear_combination p12 + p13 + p23, mul_le_one₀ p12 a3 b3⟩

theorem unit_prod_dist_le {t t1 t2 t3 : K} (a : 0 ≤ t) (b : t ≤ 1) (a1 : 0 ≤ t1) (b1 : t1 ≤ 1)
    (a2 : 0 ≤ t2) (b2 : t2 ≤ 1) (a3 : 0 ≤ t3) (b3 : t3 ≤ 1) :
    |t - t1| * |t - t2| * |t - t3| ≤ 1 := by
  have bnd : ∀ y : K, 0 ≤ y → y ≤ 1 → |t - y| ≤ 1 := fun y h0 h1 =>
    abs_le.mpr ⟨by linear_combination a + h1, by linear_combination b + h0⟩
  exact mul_le_one₀ (mul_le_one₀ (bnd t1 a1 b1) (abs_nonneg _) (bnd t2 a2 b2)) (abs_nonneg _)
    (bnd t3 a3 b3)

/-- three increasing members of `{t₁ < t₂ < t₃}` are `t₁, t₂, t₃` -/
theorem increasing_triple_eq {t1 t2 t3 x1 x2 x3 : K} (h12 : t1 < t2) (h23 : t2 < t3)
    (o12 : x1 < x2) (o23 : x2 < x3) (m1 : x1 = t1 ∨ x1 = t2 ∨ x1 = t3)
    (m2 : x2 = t1 ∨ x2 = t2 ∨ x2 = t3) (m3 : x3 = t1 ∨ x3 = t2 ∨ x3 = t3) :
    x1 = t1 ∧ x2 = t2 ∧ x3 = t3 := by
  have u3 : x3 ≤ t3 := by rcases m3 with h | h | h <;> linarith
  have u2 : x2 ≤ t2 := by rcases m2 with h | h | h <;> linarith
  have e1 : x1 = t1 := by rcases m1 with h | h | h <;> first | exact h | linarith
  have e2 : x2 = t2 := by rcases m2 with h | h | h <;> first | exact h | linarith
  have e3 : x3 = t3 := by rcases m3 with h | h | h <;> first | exact h | linarith
  exact ⟨e1, e2, e3⟩

/-- non-vacuity: `x³ − 6x² + 11x − 6 = (x−1)(x−2)(x−3)` -/
example : (1:ℚ) * 1 ^ 3 + (-6) * 1 ^ 2 + 11 * 1 + (-6) = 0 ∧ (1:ℚ) * 2 ^ 3 + (-6) * 2 ^ 2 + 11 * 2 + (-6) = 0
    ∧ (1:ℚ) * 3 ^ 3 + (-6) * 3 ^ 2 + 11 * 3 + (-6) = 0 := by norm_num

/-- two distinct roots of the depressed cubic `y³ + 3δ₀ y − 2δ₁` determine `δ₀`, `δ₁`, and
`−108 (δ₀³ + δ₁²)` is the square of the product of the root differences (the third root is
`−y₀ − y₁`) -/
theorem depressed_disc_of_two_roots (d0 d1 y0 y1 : K) (hne : y0 ≠ y1)
    (r0 : y0 ^ 3 + 3 * d0 * y0 - 2 * d1 = 0) (r1 : y1 ^ 3 + 3 * d0 * y1 - 2 * d1 = 0) :
    -108 * (d0 ^ 3 + d1 ^ 2) = ((y0 - y1) * (2 * y0 + y1) * (y0 + 2 * y1)) ^ 2 := by
  have dne : y0 - y1 ≠ 0 := sub_ne_zero.mpr hne
  have e : y0 ^ 2 + y0 * y1 + y1 ^ 2 + 3 * d0 = 0 := by
    apply mul_left_cancel₀ dne
    linear_combination r0 - r1
  have h0 : d0 = -(y0 ^ 2 + y0 * y1 + y1 ^ 2) / 3 := by
    rw [eq_div_iff (three_ne_zero)]; linear_combination e
  have h1 : d1 = (y0 ^ 3 + 3 * d0 * y0) / 2 := by
    rw [eq_div_iff (two_ne_zero)]; linear_combination -r0
  rw [h1, h0]; field_simp; ring

theorem depressed_unique_root (d0 d1 y0 y1 : K) (hD : 0 < d0 ^ 3 + d1 ^ 2)
    (r0 : y0 ^ 3 + 3 * d0 * y0 - 2 * d1 = 0) (r1 : y1 ^ 3 + 3 * d0 * y1 - 2 * d1 = 0) : y0 = y1 := by
  by_contra hne
  linarith [(sq_nonneg _).trans (depressed_disc_of_two_roots d0 d1 y0 y1 hne r0 r1).ge]

/-- non-vacuity: `y³ + 3y − 4` (`δ₀ = 1`, `δ₁ = 2`, discriminant `5 > 0`) has the root `1` -/
example : (0:ℚ) < 1 ^ 3 + 2 ^ 2 ∧ (1:ℚ) ^ 3 + 3 * 1 * 1 - 2 * 2 = 0 := by norm_num

theorem depressed_three_roots_disc_neg (d0 d1 y0 y1 y2 : K)
    (h01 : y0 ≠ y1) (h02 : y0 ≠ y2) (h12 : y1 ≠ y2)
    (r0 : y0 ^ 3 + 3 * d0 * y0 - 2 * d1 = 0) (r1 : y1 ^ 3 + 3 * d0 * y1 - 2 * d1 = 0)
    (r2 : y2 ^ 3 + 3 * d0 * y2 - 2 * d1 = 0) : d0 ^ 3 + d1 ^ 2 < 0 := by
  have h := depressed_disc_of_two_roots d0 d1 y0 y1 h01 r0 r1
  have hs : y0 + y1 + y2 = 0 := by
    linear_combination (cubic_vieta_of_three_roots 1 0 (3 * d0) (-2 * d1) y0 y1 y2 h01 h02 h12
      (by linear_combination r0) (by linear_combination r1) (by linear_combination r2)).1
  -- the third root is `−y0 − y1`: the other two factors are root differences too
  rw [show 2 * y0 + y1 = y0 - y2 by linear_combination hs,
    show y0 + 2 * y1 = y1 - y2 by linear_combination hs] at h
  linarith [sq_pos_of_ne_zero (mul_ne_zero (mul_ne_zero (sub_ne_zero.mpr h01) (sub_ne_zero.mpr h02))
    (sub_ne_zero.mpr h12))]

/-- non-vacuity: `y³ − 7y + 6 = (y−1)(y−2)(y+3)`: `δ₀ = −7/3`, `δ₁ = −3` -/
example : (1:ℚ) ^ 3 + 3 * (-7/3) * 1 - 2 * (-3) = 0 ∧ (2:ℚ) ^ 3 + 3 * (-7/3) * 2 - 2 * (-3) = 0
    ∧ (-3:ℚ) ^ 3 + 3 * (-7/3) * (-3) - 2 * (-3) = 0 ∧ (-7/3 : ℚ) ^ 3 + (-3) ^ 2 < 0 := by norm_num

theorem cube_inj {x y : K} (h : x ^ 3 = y ^ 3) : x = y :=
  (Odd.strictMono_pow ⟨1, rfl⟩).injective h

/-- `δ₀³ + δ₁² = 0` and `B³ = δ₁`: then `δ₀ = −B²` and the depressed cubic is `(y − 2B)(y + B)²` -/
theorem depressed_factor_disc_zero (d0 d1 B y : K) (hD : d0 ^ 3 + d1 ^ 2 = 0) (hB : B ^ 3 = d1) :
    d0 = -B ^ 2 ∧ y ^ 3 + 3 * d0 * y - 2 * d1 = (y - 2 * B) * (y + B) ^ 2 := by
  have h0 : d0 = -B ^ 2 := by
    apply cube_inj
    rw [← hB] at hD
    linear_combination hD
  refine ⟨h0, ?_⟩
  rw [h0, ← hB]; ring

theorem depressed_roots_disc_zero (d0 d1 B y : K) (hD : d0 ^ 3 + d1 ^ 2 = 0) (hB : B ^ 3 = d1) :
    y ^ 3 + 3 * d0 * y - 2 * d1 = 0 ↔ (y = 2 * B ∨ y = -B) := by
  rw [(depressed_factor_disc_zero d0 d1 B y hD hB).2, mul_eq_zero, sub_eq_zero,
    pow_eq_zero_iff two_ne_zero, add_eq_zero_iff_eq_neg]

/-- non-vacuity: `y³ − 3y − 2 = (y − 2)(y + 1)²`: `δ₀ = −1`, `δ₁ = 1`, `B = 1` -/
example : (-1:ℚ) ^ 3 + 1 ^ 2 = 0 ∧ (1:ℚ) ^ 3 = 1 := by norm_num

/-- three numbers with elementary symmetric functions `e₁ = 0`, `e₂ = −3/4` that all solve
`4u³ − 3u = w` with `w² ≠ 1` (the three cosines at angles `2π/3` apart): the first two differ. -/
theorem sep_of_vieta (u0 u1 u2 w : K) (e1 : u0 + u1 + u2 = 0)
    (e2 : u0 * u1 + u0 * u2 + u1 * u2 = -3 / 4) (hw : 4 * u0 ^ 3 - 3 * u0 = w) (hw1 : w ^ 2 ≠ 1) :
    u0 ≠ u1 := by
  intro h
  apply hw1
  have hu2 : u2 = -2 * u0 := by linear_combination e1 + h
  rw [← h, hu2] at e2
  have hq : u0 ^ 2 = 1 / 4 := by linear_combination (-1 / 3 : K) * e2
  rw [← hw]
  have : (4 * u0 ^ 3 - 3 * u0) ^ 2 = u0 ^ 2 * (4 * u0 ^ 2 - 3) ^ 2 := by ring
  rw [this, hq]; norm_num

/-- non-vacuity: a rational triple of "cosines `2π/3` apart": `(−13/14, 1/7, 11/14)`, `w = −143/343` -/
example : (-13/14:ℚ) + 1/7 + 11/14 = 0 ∧ (-13/14:ℚ) * (1/7) + (-13/14) * (11/14) + (1/7) * (11/14) = -3/4
    ∧ 4 * (-13/14:ℚ) ^ 3 - 3 * (-13/14) = -143/343 ∧ (-143/343:ℚ) ^ 2 ≠ 1 := by norm_num

end Lyon.CubicRoots
