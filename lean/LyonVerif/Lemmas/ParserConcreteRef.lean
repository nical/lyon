/-
  C17c: a reference interpreter of path data in which an arc command denotes exactly what
  `crates/extra/src/parser.rs` does with it, and the proof that the parser's own builder calls —
  WITH their attributes, for EVERY text — are that interpreter applied to the command list read.

  * `ACmd`        — an `SvgPathBuilder` command (`SCmd`, raw operands, `Lemmas/ParserConcreteSvg`)
                    together with the attribute buffer after it (the values written after its end
                    point; for `Z` the previous command's).  Generic in `N : Num ν` like
                    `Lemmas/ParserConcreteSvg`; `Props/C17c.lean` instantiates it at `concreteNum`.
  * `loopACmds`/`parseACmds` — the commands of the completed iterations, each with the attribute
                    buffer `parse_attributes` left (`St.attrs` after the iteration).
  * `refStep`     — the reference: every command except `A`/`a` is the SVG reference semantics of
                    C15 (`Svg.Spec.step`) with the command's attributes attached to its call;
                    `A`/`a` is `refArc`:
                      - only inside an open sub-path (the parser rejects it elsewhere);
                      - `is_straight_line` ⇒ `line_to(to, attrs)`;
                      - otherwise one `quadratic_bezier_to(ctrl, to_i, prev*(1-t_i) + attrs*t_i)` per
                        piece of `svg_arc.to_arc().for_each_quadratic_bezier_with_t` (`Num.arc`),
                        NO connecting `line_to`/`move_to` to the arc's computed start point;
                      - current point := the `to` operand itself (not the last piece's end);
                      - no control point is remembered (a smooth command afterwards reflects nothing).
  * `loop_ref`    — whole parses, success or error.
-/
import LyonVerif.Lemmas.ParserConcreteSvg

set_option linter.unusedSectionVars false

namespace Lyon.Parser
open Lyon.Path Lyon.Svg

variable {ν : Type}

/-- a command with the attribute buffer after it: the values written after its end point (for `Z`
the previous command's) -/
abbrev ACmd (ν : Type) := SCmd ν × List ν

/-- reference state: the SVG reference state and the previous attribute buffer -/
structure RSt (ν : Type) where
  sp : Svg.Spec ν
  attrs : List ν

/-- the `SvgArc` operands the parser hands to lyon_geom -/
def arcArgsOf (s : RSt ν) (r : RawArc ν) (p : Svg.Pt ν) (a : List ν) : ArcArgs ν :=
  { from_ := ps s.sp.cur, rx := r.1, ry := r.2.1, rot := r.2.2.1, large := r.2.2.2.1,
    sweep := r.2.2.2.2, to := ps p, prevAttrs := s.attrs, attrs := a }

/-- what parser.rs does with an arc whose (absolute) target is `p` (`none => []`: the conversion
panicked; every theorem about `refArc` excludes that) -/
def refArc (N : Num ν) (s : RSt ν) (r : RawArc ν) (p : Svg.Pt ν) (a : List ν) :
    RSt ν × List (PCall ν) :=
  if s.sp.isOpen then
    ({ sp := { s.sp with cur := p, prev := .arc }, attrs := a },
     if N.arcStraight (arcArgsOf s r p a) then [.line (ps p) a]
     else
       match N.arc 0 (arcArgsOf s r p a) with
       | some qs => qs.map (fun q => Call.quad q.1 q.2.1 (interpAttrs N s.attrs a q.2.2))
       | none => [])
  else (s, [])

/-- the geometry parameter of `Svg.Spec.step` is not consulted for the commands path data can
express other than arcs -/
def noGeo : Svg.Geo ν (RawArc ν) := ⟨fun _ _ => .skip, fun _ _ _ => .straight⟩

section sim
variable [Add ν] [Sub ν]

/-- the reference interpreter, one command -/
def refStep (N : Num ν) (s : RSt ν) (c : ACmd ν) : RSt ν × List (PCall ν) :=
  match c.1 with
  | .arcTo r p => refArc N s r p c.2
  | .relArcTo r v => refArc N s r (s.sp.cur + v) c.2
  | cmd => ({ sp := (s.sp.step noGeo cmd).1, attrs := c.2 }, (s.sp.step noGeo cmd).2.map (attach c.2))

def refRun (N : Num ν) (s : RSt ν) : List (ACmd ν) → RSt ν × List (PCall ν)
  | [] => (s, [])
  | c :: r => ((refRun N (refStep N s c).1 r).1, (refStep N s c).2 ++ (refRun N (refStep N s c).1 r).2)

/-- end of the data: the open sub-path, if any, is ended (not closed) -/
def refEnd (s : RSt ν) : List (PCall ν) := if s.sp.isOpen then [.end_ false] else []

/-- the path a command list denotes -/
def refBuild (N : Num ν) (cmds : List (ACmd ν)) : List (PCall ν) :=
  (refRun N ⟨Svg.Spec.init N.zero, []⟩ cmds).2 ++ refEnd (refRun N ⟨Svg.Spec.init N.zero, []⟩ cmds).1

theorem refStep_notArc (N : Num ν) (s : RSt ν) (cmd : SCmd ν) (a : List ν) (h : cmd.isArc = false) :
    refStep N s (cmd, a) =
      ({ sp := (s.sp.step noGeo cmd).1, attrs := a }, (s.sp.step noGeo cmd).2.map (attach a)) := by
  cases cmd <;> first | rfl | (simp [Svg.Cmd.isArc] at h)

end sim

/-- the commands of the iterations of `Parser.loop` that complete, each with the attribute buffer
after it -/
def loopACmds (N : Num ν) (na : Nat) (stop : Option Char) : Nat → St ν → Src → List (ACmd ν)
  | 0, _, _ => []
  | fuel + 1, st, s =>
    if s.fin then []
    else if stop == some s.cur then []
    else
      match step N na st s with
      | .cont st' s' _ => (cmdAt N na st s, st'.attrs) :: loopACmds N na stop fuel st' s'.skipWs
      | .fail .. => []
      | .panic .. => []

def parseACmds (N : Num ν) (na : Nat) (stop : Option Char) (inp : List Char) : List (ACmd ν) :=
  loopACmds N na stop (inp.length + 1) (St.init N) (Src.new inp).skipWs

theorem loopACmds_step (N : Num ν) (na : Nat) (stop : Option Char) (fuel : Nat) (st : St ν)
    (x : Src) (hf : x.fin = false) (hs : (stop == some x.cur) = false) :
    loopACmds N na stop (fuel + 1) st x =
      match step N na st x with
      | .cont st' x' _ => (cmdAt N na st x, st'.attrs) :: loopACmds N na stop fuel st' x'.skipWs
      | .fail .. => []
      | .panic .. => [] := by
  simp only [loopACmds, hf, hs, Bool.false_eq_true, if_false]

theorem loopACmds_done (N : Num ν) (na : Nat) (stop : Option Char) (fuel : Nat) (st : St ν)
    (x : Src) (h : x.fin = true ∨ (stop == some x.cur) = true) :
    loopACmds N na stop (fuel + 1) st x = [] := by
  rcases h with h | h <;> simp [loopACmds, h]

/-- forgetting the attributes gives the command list of C17b -/
theorem loopACmds_fst (N : Num ν) (na : Nat) (stop : Option Char) (fuel : Nat) :
    ∀ (st : St ν) (x : Src),
      (loopACmds N na stop fuel st x).map Prod.fst = loopCmds N na stop fuel st x := by
  intro st x
  fun_induction loopCmds N na stop fuel st x <;> simp [loopACmds, *]

section sim
variable [Add ν] [Sub ν]

structure RelA (st : St ν) (rs : RSt ν) : Prop where
  rel : Rel st rs.sp
  attrs : rs.attrs = st.attrs

theorem ps_sp (p : Parser.Pt ν) : ps (sp p) = p := rfl

theorem refArc_open (N : Num ν) (s : RSt ν) (r : RawArc ν) (p : Svg.Pt ν) (a : List ν)
    (hop : s.sp.isOpen = true) :
    refArc N s r p a =
      (({ sp := { s.sp with cur := p, prev := .arc }, attrs := a } : RSt ν),
       if N.arcStraight (arcArgsOf s r p a) then [.line (ps p) a]
       else
         match N.arc 0 (arcArgsOf s r p a) with
         | some qs => qs.map (fun q => Call.quad q.1 q.2.1 (interpAttrs N s.attrs a q.2.2))
         | none => []) := by
  unfold refArc; rw [if_pos hop]

def ArcSim (N : Num ν) (rs : RSt ν) (r : RawArc ν) (p : Svg.Pt ν) (a : ArcArgs ν) :
    StepOut ν → Prop
  | .cont st' _ em =>
    em.map Prod.snd = (refArc N rs r p a.attrs).2 ∧ RelA st' (refArc N rs r p a.attrs).1 ∧
      st'.attrs = a.attrs
  | .fail .. => False
  | .panic .. => True

theorem arcEmit_ref {N : Num ν} (hpos : ∀ p q a, N.arc p a = N.arc q a) (na : Nat)
    (a : ArcArgs ν) (cmd : Char) (st : St ν) (x' : Src) (rs : RSt ν) (r : RawArc ν)
    (p : Svg.Pt ν) (hop : rs.sp.isOpen = true) (harg : arcArgsOf rs r p a.attrs = a)
    (hrel : RelA st rs) (hq : isQuadCmd cmd = false) (hc : isCubicCmd cmd = false) :
    ArcSim N rs r p a (arcEmit N na a cmd st x') := by
  have hto : p = sp a.to := by rw [← harg]; rfl
  have hpa : rs.attrs = a.prevAttrs := by rw [← harg]; rfl
  have hR : RelA ({ st with cur := a.to, attrs := a.attrs }.after cmd)
      ⟨{ rs.sp with cur := p, prev := .arc }, a.attrs⟩ := by
    refine ⟨⟨?_, ?_, ?_, hrel.rel.ns, ?_, ?_⟩, rfl⟩ <;>
      simp [St.after, hq, hc, pcOf, pqOf, hto, hrel.rel.start, hrel.rel.isOpen]
  unfold arcEmit
  split
  · rename_i hs
    simp only [ArcSim]
    rw [refArc_open N rs r p a.attrs hop, harg]
    simp only [hs, if_true, emitAt_snd]
    exact ⟨by rw [hto]; rfl, hR, rfl⟩
  · rename_i hs
    rw [hpos x'.inp.length 0 a]
    cases harc : N.arc 0 a with
    | none => trivial
    | some qs =>
      simp only
      split
      · trivial
      · simp only [ArcSim]
        rw [refArc_open N rs r p a.attrs hop, harg]
        simp only [hs, harc, emitAt_snd, hpa, if_false, Bool.false_eq_true]
        exact ⟨trivial, hR, rfl⟩

def StepRef (N : Num ν) (na : Nat) (st : St ν) (rs : RSt ν) (x : Src) : StepOut ν → Prop
  | .cont st' _ em =>
    em.map Prod.snd = (refStep N rs (cmdAt N na st x, st'.attrs)).2 ∧
      RelA st' (refStep N rs (cmdAt N na st x, st'.attrs)).1
  | .fail _ ne x' em =>
    (em ++ closing ne x').map Prod.snd = refEnd rs
  | .panic _ _ => True

theorem step_ref {N : Num ν} (ho : Ops N) (hpos : ∀ p q a, N.arc p a = N.arc q a) (na : Nat)
    {st : St ν} {rs : RSt ν} (hr : RelA st rs) (x : Src) :
    StepRef N na st rs x (step N na st x) := by
  have hsim := step_sim ho noGeo na hr.rel x
  by_cases harc : cmdKind (cmdOf st x) = .arc
  · revert hsim
    refine step_does (P := fun out => StepSim N noGeo na st rs.sp x out → StepRef N na st rs x out)
      N na st x (fun _ _ _ _ _ _ _ h => h) (fun k _ _ hk => by rw [harc] at hk; cases hk) ?_
      (fun _ _ hk => by rw [harc] at hk; cases hk) (fun hk => by rw [harc] at hk; cases hk)
    intro a x' _ hns heq _
    obtain ⟨hq, hc⟩ := noCurve (cmdKind_arc harc) rfl rfl rfl rfl
    have hop : rs.sp.isOpen = true := by rw [hr.rel.isOpen]; exact hr.rel.ns.needEnd hns
    obtain ⟨_, hrd, r, v, rfl, harg⟩ := cmdAArgs_sim N na _ st _ _ _ heq
    have hcmd : cmdAt N na st x =
        (if (cmdOf st x).isLower then .relArcTo r v else .arcTo r v) :=
      cmdAt_of (by rw [readCmd_eq, harc]; exact hrd)
    have hstep : ∀ at_ : List ν, refStep N rs (cmdAt N na st x, at_) =
        refArc N rs r (tgt (cmdOf st x).isLower rs.sp.cur v) at_ := by
      intro at_; rw [hcmd]; cases (cmdOf st x).isLower <;> rfl
    have hargs : arcArgsOf rs r (tgt (cmdOf st x).isLower rs.sp.cur v) a.attrs = a := by
      rw [harg]
      simp only [arcArgsOf, hr.attrs, hr.rel.cur, ← sp_rel ho, ps_sp]
    have := arcEmit_ref hpos na a (cmdOf st x) st x' rs r _ hop hargs hr hq hc
    cases hem : arcEmit N na a (cmdOf st x) st x' with
    | cont st' y em =>
      rw [hem] at this
      obtain ⟨h1, h2, h3⟩ := this
      simp only [StepRef]
      rw [hstep, h3]; exact ⟨h1, h2⟩
    | fail e ne y em => rw [hem] at this; exact this.elim
    | panic y em => trivial
  · have hnot := cmdAt_notArc N na st x harc
    cases hstep : step N na st x with
    | cont st' x' em =>
      rw [hstep] at hsim
      obtain ⟨hcalls, hrel⟩ := hsim hnot
      simp only [StepRef]
      rw [refStep_notArc N rs _ _ hnot]
      exact ⟨hcalls, hrel, rfl⟩
    | fail e ne x' em => rw [hstep] at hsim; exact hsim
    | panic x' em => trivial

/-- whole parses: the calls the parser sends — attributes included; success or error, the clean-up
`end(false)` included — are the reference interpreter on the command list read -/
theorem loop_ref {N : Num ν} (ho : Ops N) (hpos : ∀ p q a, N.arc p a = N.arc q a) (na : Nat)
    (stop : Option Char) (fuel : Nat) :
    ∀ (st : St ν) (x : Src) (rs : RSt ν), RelA st rs →
      (loop N na stop fuel st x).outcome ≠ .panic →
      (loop N na stop fuel st x).outcome ≠ .stuck →
      (loop N na stop fuel st x).trace =
        (refRun N rs (loopACmds N na stop fuel st x)).2 ++
          refEnd (refRun N rs (loopACmds N na stop fuel st x)).1 := by
  refine loop_rec (C := fun fuel st x r => ∀ rs : RSt ν, RelA st rs → r.outcome ≠ .panic →
    r.outcome ≠ .stuck → r.trace = (refRun N rs (loopACmds N na stop fuel st x)).2 ++
      refEnd (refRun N rs (loopACmds N na stop fuel st x)).1) N na stop ?_ ?_ ?_ ?_ ?_ fuel
  · intro st x rs _ _ h; exact absurd rfl h
  · intro fuel st x h rs hr _ _
    rw [loopACmds_done N na stop fuel st x h, Result.trace, closing_snd]
    simp [refRun, refEnd, hr.rel.isOpen]
  · intro fuel st x st' x' em hf hs hstep ih rs hr hp hst
    have hsim := step_ref ho hpos na hr x
    rw [hstep] at hsim
    rw [loopACmds_step N na stop fuel st x hf hs, hstep]
    simp only [trace_cons, refRun]
    rw [ih _ hsim.2 hp hst, hsim.1, List.append_assoc]
  · intro fuel st x e ne x' em hf hs hstep rs hr _ _
    have hsim := step_ref ho hpos na hr x
    rw [hstep] at hsim
    rw [loopACmds_step N na stop fuel st x hf hs, hstep]
    simpa [StepRef, refRun, Result.trace] using hsim
  · intro _ _ _ _ _ _ _ _ _ _ hp _; exact absurd rfl hp

theorem relA_init (N : Num ν) : RelA (St.init N) ⟨Svg.Spec.init N.zero, []⟩ :=
  ⟨rel_init N N.zero rfl, rfl⟩

end sim
end Lyon.Parser
