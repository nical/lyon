/-
  C06b: the cap corners of the complete stroker model in closed form (`tessellate_first_edge`,
  `tessellate_last_edge`: butt, square and round caps), also next to a join whose outer side is shifted.
-/
import LyonVerif.Lemmas.StrokeCoverDesc

set_option linter.unusedSectionVars false

namespace Lyon.C06b
open Lyon Scalar Lyon.Stroke Lyon.Stroke.Full Lyon.C05 Lyon.C05b Lyon.C05c Lyon.C06
open Lyon.StrokeQuad (lineIntersection)

section
variable {K : Type} [Field K] [LinearOrder K] [IsStrictOrderedRing K] [Transc K]

theorem clipSidePos_round (ix : Lyon.StrokeQuad.Ix K) (p q : P K) (hw : K) (sp other : P K) :
    clipSidePos ix .round p q hw sp other = sp := rfl

/-- **end cap**: the two vertices of `tessellate_last_edge` sit at `p ± perp(t)·w/2 + t·shift`
(`shift = 0` butt or round, `w/2` square), given that the `next` side points of the point before are
`q ± perp(t)·w/2 + t·ν`, `ν ≤ 0` (`ν < 0`: a clipped join next to the cap) -/
theorem endCap_closedG (e : Env K) (eps : K) (hix : e.ix = lineIntersection eps) (heps : 0 ≤ eps)
    (hs0 : ∀ x : K, 0 ≤ x → 0 ≤ Transc.sqrt x) (hs : ∀ x : K, 0 ≤ x → Transc.sqrt x * Transc.sqrt x = x)
    (pt : Nat → P K) (m : Nat)
    (hL : 0 < (pt (m + 1) - pt m).sqLen) (hlen : eps < eL pt m) (νp νn : K) (hνp : νp ≤ 0) (hνn : νn ≤ 0)
    (hprev : prevNext e pt (m + 1) = (pt m + (perp (eT pt m)).smul e.hwFw + (eT pt m).smul νp,
      pt m - (perp (eT pt m)).smul e.hwFw + (eT pt m).smul νn)) :
    endPos e pt (m + 1) = pt (m + 1) + (perp (eT pt m)).smul e.hwFw + (eT pt m).smul (capShift e.o.endCap e.hwFw)
    ∧ endNeg e pt (m + 1) = pt (m + 1) - (perp (eT pt m)).smul e.hwFw + (eT pt m).smul (capShift e.o.endCap e.hwFw) := by
  obtain ⟨_, hunit, hE⟩ := edge_eq hs0 hs pt m hL
  unfold endPos endNeg endN
  rw [hprev, hix]
  constructor
  · exact cap_corner eps heps _ (pt (m + 1)) (pt m) (eT pt m) e.hwFw e.hwFw (eL pt m) νp rfl hunit hE hνp hlen
  · show clipSidePos _ _ (pt (m + 1)) (pt m) e.hwFw (pt (m + 1) - (perp (eT pt m)).smul e.hwFw)
      (pt m - (perp (eT pt m)).smul e.hwFw + (eT pt m).smul νn) = _
    rw [sub_smul_eq, sub_smul_eq]
    exact cap_corner eps heps _ (pt (m + 1)) (pt m) (eT pt m) (-e.hwFw) e.hwFw (eL pt m) νn rfl hunit hE hνn hlen

/-- **start cap**: the two vertices of `tessellate_first_edge` sit at `p ± perp(t)·w/2 − t·shift`, given
that the `prev` side points of the second point are `q ± perp(t)·w/2 + t·μ`, `μ ≥ 0` (one `μ` per side): the end cap
of the reversed edge -/
theorem startCap_closedG (e : Env K) (eps : K) (hix : e.ix = lineIntersection eps) (heps : 0 ≤ eps)
    (hs0 : ∀ x : K, 0 ≤ x → 0 ≤ Transc.sqrt x) (hs : ∀ x : K, 0 ≤ x → Transc.sqrt x * Transc.sqrt x = x)
    (pt : Nat → P K) (n : Nat)
    (hL : 0 < (pt 1 - pt 0).sqLen) (hlen : eps < eL pt 0) (μ μn : K) (hμ : 0 ≤ μ) (hμn : 0 ≤ μn)
    (hsec : secondPrev e pt n = (pt 1 + (perp (eT pt 0)).smul e.hwFw + (eT pt 0).smul μ,
      pt 1 - (perp (eT pt 0)).smul e.hwFw + (eT pt 0).smul μn)) :
    startPos e pt n = pt 0 + (perp (eT pt 0)).smul e.hwFw + (eT pt 0).smul (-(capShift e.o.startCap e.hwFw))
    ∧ startNeg e pt n = pt 0 - (perp (eT pt 0)).smul e.hwFw + (eT pt 0).smul (-(capShift e.o.startCap e.hwFw)) := by
  obtain ⟨_, hunit, hE⟩ := edge_eq hs0 hs pt 0 hL
  unfold startPos startNeg
  rw [hsec, hix]
  constructor
  · exact cap_corner_start eps heps _ (pt 0) (pt 1) (eT pt 0) e.hwFw e.hwFw (eL pt 0) μ rfl hunit hE hμ hlen
  · show clipSidePos _ _ (pt 0) (pt 1) e.hwFw (pt 0 - (perp (eT pt 0)).smul e.hwFw)
      (pt 1 - (perp (eT pt 0)).smul e.hwFw + (eT pt 0).smul μn) = _
    rw [sub_smul_eq, sub_smul_eq]
    exact cap_corner_start eps heps _ (pt 0) (pt 1) (eT pt 0) (-e.hwFw) e.hwFw (eL pt 0) μn rfl hunit hE hμn hlen

end

end Lyon.C06b
