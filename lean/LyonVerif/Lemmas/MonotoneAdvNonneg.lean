/-
  C02 (`Props/C02c.lean`): no triangle of the ADVANCED monotone tessellator is flipped on a sorted
  sequence.

  * `convex_global`  — a chain `q 0 … q (len−1)` that is strictly sorted in sweep order and locally
    convex on side `c` at every interior vertex (`sg c · wind(q i, q (i+1), q (i+2)) ≥ 0`: exactly
    what lyon's `outward_turn` test lets through) is globally convex: `sg c · wind(q a, q b, q c) ≥ 0`
    for all `a ≤ b ≤ c`;
  * `chainTri_nonneg` — hence every triangle `flush_side` emits for such a chain has `wind ≥ 0`.

  Invariant `CInv` of a side's buffered chain: consistent bookkeeping (`prev`, `last` are the
  positions of the last two buffered ids), strictly sorted in sweep order, locally convex at every
  interior vertex.  It is what lyon's `outward_turn` test maintains: a vertex is buffered on a chain
  of ≥ 2 ids without a flush only when `(prev − last) × (pos − last) · sign ≥ 0`
  (the push case of `vertex_n`).  With `convex_global` every triangle `flush_side` emits has `wind ≥ 0`;
  the inner basic tessellator's triangles always have (`vertex_gInv`).  Hence `adv_run_nonneg`.
-/
import LyonVerif.Lemmas.MonotoneGeomValid
import LyonVerif.Lemmas.MonotoneAdvArea

set_option linter.unusedSectionVars false

namespace Lyon.C02c
open Lyon Lyon.Mono Lyon.C02

variable {K : Type} [Field K] [LinearOrder K] [IsStrictOrderedRing K]

theorem cross_add_right (a b c : P K) : a.cross (b + c) = a.cross b + a.cross c := by geom_ring
theorem cross_self (a : P K) : a.cross a = 0 := by geom_ring

/-- local weak convexity of a sweep-sorted chain is global: `wind (q a) (q b) (q c')` is the sum over the steps
`j ≥ b` of (direction `j`) × (chord `a → b`), and a later direction is weakly on side `c` of every earlier chord -/
theorem convex_global (c : Bool) (q : Nat → P K) (len : Nat)
    (hsort : ∀ i, i + 1 < len → After (q (i + 1)) (q i))
    (hconv : ∀ i, i + 2 < len → 0 ≤ sg c * wind (q i) (q (i + 1)) (q (i + 2))) :
    ∀ a b c', a ≤ b → b ≤ c' → c' < len → 0 ≤ sg c * wind (q a) (q b) (q c') := by
  have hd : ∀ i, i + 1 < len → Hv (q (i + 1) - q i) := fun i hi => after_hv (hsort i hi)
  have hloc : ∀ i, i + 2 < len → 0 ≤ sg c * (q (i + 2) - q (i + 1)).cross (q (i + 1) - q i) := by
    intro i hi
    rw [← wind_cross_c]; exact hconv i hi
  -- directions pairwise ordered
  have h1 : ∀ i n, i + n + 1 < len → 0 ≤ sg c * (q (i + n + 1) - q (i + n)).cross (q (i + 1) - q i) := by
    intro i n
    induction n with
    | zero => intro _; simp [cross_self]
    | succ n ih =>
      intro hlt
      have ih' := ih (by omega)
      have hl := hloc (i + n) (by omega)
      have hu := hd (i + n + 1) (by omega)
      have hv := hd (i + n) (by omega)
      have hw := hd i (by omega)
      rw [show i + (n + 1) + 1 = i + n + 1 + 1 by omega, show i + (n + 1) = i + n + 1 by omega]
      rw [show i + n + 2 = i + n + 1 + 1 by omega] at hl
      exact cross_trans_le_sg c hu hv hw hl ih'
  have h1' : ∀ i j, i ≤ j → j + 1 < len → 0 ≤ sg c * (q (j + 1) - q j).cross (q (i + 1) - q i) := by
    intro i j hij hj
    obtain ⟨n, rfl⟩ : ∃ n, j = i + n := ⟨j - i, by omega⟩
    exact h1 i n hj
  -- a later direction against a chord
  have h2 : ∀ a j, j + 1 < len → ∀ n, a + n ≤ j → 0 ≤ sg c * (q (j + 1) - q j).cross (q (a + n) - q a) := by
    intro a j hj n
    induction n with
    | zero => intro _; simp only [Nat.add_zero]; rw [show q a - q a = (⟨0, 0⟩ : P K) by geom_ring]; simp [geom]
    | succ n ih =>
      intro hle
      have e : q (a + (n + 1)) - q a = (q (a + n) - q a) + (q (a + n + 1) - q (a + n)) := by
        rw [show a + (n + 1) = a + n + 1 by omega]; geom_ring
      rw [e, cross_add_right, mul_add]
      exact add_nonneg (ih (by omega)) (h1' (a + n) j (by omega) hj)
  intro a b c' hab hbc hc
  obtain ⟨n, rfl⟩ : ∃ n, b = a + n := ⟨b - a, by omega⟩
  obtain ⟨m, rfl⟩ : ∃ m, c' = a + n + m := ⟨c' - (a + n), by omega⟩
  clear hbc
  induction m with
  | zero =>
    have : wind (q a) (q (a + n)) (q (a + n + 0)) = 0 := by simp only [wind, Nat.add_zero]; geom_ring
    rw [this]; simp
  | succ m ih =>
    have ih' := ih (by omega)
    have e : wind (q a) (q (a + n)) (q (a + n + (m + 1))) =
        wind (q a) (q (a + n)) (q (a + n + m)) + (q (a + n + m + 1) - q (a + n + m)).cross (q (a + n) - q a) := by
      rw [show a + n + (m + 1) = a + n + m + 1 by omega]
      simp only [wind]; geom_ring
    rw [e, mul_add]
    exact add_nonneg ih' (h2 a (a + n + m) (by omega) n (by omega))

theorem chainTri_nonneg (pos : Nat → P K) (ev : List Nat) (right : Bool)
    (hsort : ∀ i, i + 1 < ev.length → After (evPos pos ev (i + 1)) (evPos pos ev i))
    (hconv : ∀ i, i + 2 < ev.length → 0 ≤ sg (!right) * wind (evPos pos ev i) (evPos pos ev (i + 1)) (evPos pos ev (i + 2)))
    (t : Tri) (ht : ChainTri ev.toArray ev.length right t) : 0 ≤ triW pos t := by
  obtain ⟨a, b, c, hab, hbc, hc, h⟩ := ht
  have g := convex_global (!right) (evPos pos ev) ev.length hsort hconv a b c (by omega) (by omega) hc
  have ge := evPos_toArray pos ev
  cases right
  · simp only [Bool.false_eq_true, if_false] at h
    simp only [Bool.not_false, sg, if_true, one_mul] at g
    subst h
    simp only [triW, ge]; exact g
  · simp only [if_true] at h
    simp only [Bool.not_true, sg, Bool.false_eq_true, if_false, neg_one_mul] at g
    rcases h with h | h <;> subst h <;> simp only [triW, ge]
    · rw [wind_swap]; exact g
    · rw [wind_swap_bc]; exact g

structure CInv (pos : Nat → P K) (c : Bool) (s : SideEv K) : Prop where
  ne : s.events ≠ []
  last : s.events.getLast? = some s.last.id
  good : Good pos s.last
  prev : 2 ≤ s.events.length → s.prev = evPos pos s.events (s.events.length - 2)
  sorted : ∀ i, i + 1 < s.events.length → After (evPos pos s.events (i + 1)) (evPos pos s.events i)
  conv : ∀ i, i + 2 < s.events.length →
    0 ≤ sg c * wind (evPos pos s.events i) (evPos pos s.events (i + 1)) (evPos pos s.events (i + 2))

theorem CInv.congr {pos : Nat → P K} {c : Bool} {s s' : SideEv K} (h : CInv pos c s)
    (he : s'.events = s.events) (hp : s'.prev = s.prev) (hl : s'.last = s.last) : CInv pos c s' :=
  { ne := he ▸ h.ne, last := by rw [he, hl]; exact h.last, good := hl ▸ h.good,
    prev := by rw [he, hp]; exact h.prev, sorted := by rw [he]; exact h.sorted, conv := by rw [he]; exact h.conv }

/-- a chain of one id (a fresh or a restarted chain) -/
theorem CInv.single {pos : Nat → P K} {c : Bool} {s : SideEv K} (he : s.events = [s.last.id])
    (hg : Good pos s.last) : CInv pos c s :=
  { ne := by rw [he]; simp, last := by rw [he]; rfl, good := hg,
    prev := by rw [he]; intro h; simp at h, sorted := by rw [he]; intro i h; simp at h,
    conv := by rw [he]; intro i h; simp at h }

theorem CInv.push {pos : Nat → P K} {c : Bool} {s : SideEv K} (h : CInv pos c s) (v : MV K) (hv : Good pos v)
    (haft : After v.pos s.last.pos) (hturn : 2 ≤ s.events.length → 0 ≤ sg c * wind s.prev s.last.pos v.pos) :
    CInv pos c (s.push v) := by
  have hlen : 1 ≤ s.events.length := by
    cases hs : s.events with
    | nil => exact absurd hs h.ne
    | cons a r => simp
  have hq := evPos_append_left pos s.events v.id
  have hx : evPos pos (s.events ++ [v.id]) s.events.length = v.pos := by rw [evPos_append_length]; exact hv.symm
  have hla : evPos pos s.events (s.events.length - 1) = s.last.pos := by
    rw [evPos_last pos s.events s.last.id h.last]; exact h.good.symm
  refine { ne := by simp [SideEv.push], last := by simp [SideEv.push], good := hv, prev := ?_, sorted := ?_, conv := ?_ }
  · intro _
    simp only [SideEv.push, List.length_append, List.length_cons, List.length_nil]
    rw [show s.events.length + (0 + 1) - 2 = s.events.length - 1 by omega, hq _ (by omega), hla]
  · intro i hi
    simp only [SideEv.push, List.length_append, List.length_cons, List.length_nil] at hi ⊢
    by_cases e : i + 1 = s.events.length
    · rw [e, hx, hq i (by omega), show i = s.events.length - 1 by omega, hla]; exact haft
    · rw [hq i (by omega), hq (i + 1) (by omega)]; exact h.sorted i (by omega)
  · intro i hi
    simp only [SideEv.push, List.length_append, List.length_cons, List.length_nil] at hi ⊢
    by_cases e : i + 2 = s.events.length
    · rw [e, hx, hq i (by omega), hq (i + 1) (by omega)]
      have h2 : 2 ≤ s.events.length := by omega
      rw [show i = s.events.length - 2 by omega, ← h.prev h2,
        show s.events.length - 2 + 1 = s.events.length - 1 by omega, hla]
      exact hturn h2
    · rw [hq i (by omega), hq (i + 1) (by omega), hq (i + 2) (by omega)]; exact h.conv i (by omega)

theorem flush_tris_nonneg {pos : Nat → P K} {c : Bool} {s : SideEv K} (h : CInv pos c s) :
    ∀ t ∈ fanOf s (!c), TriWind pos t := by
  intro t ht
  have := chainTri_nonneg pos s.events (!c) h.sorted (by rw [Bool.not_not]; exact h.conv) t
    (flushLevels_ids _ _ _ t ht)
  exact this

theorem pushTris_gInv {pos : Nat → P K} {s : Basic K} (h : GInv pos s) (tr : List Tri)
    (htr : ∀ t ∈ tr, TriWind pos t) : GInv pos (s.pushTris tr) := by
  refine ⟨h.1, h.2.1, ?_⟩
  intro t ht
  rcases List.mem_append.mp ht with g | g
  · exact h.2.2 t g
  · exact htr t g

def N3 (pos : Nat → P K) (l : Bool) (x : Trip K) : Prop :=
  GInv pos x.1 ∧ CInv pos l x.2.1 ∧ CInv pos (!l) x.2.2

theorem outwardTurn_false {a : SideEv K} {p : P K} {l : Bool} (h : outwardTurn a p l false = false)
    (h2 : 2 ≤ a.events.length) : 0 ≤ sg l * wind a.prev a.last.pos p := by
  unfold outwardTurn at h
  have hd : decide (a.events.length ≥ 2) = true := by simpa using h2
  simp only [Bool.not_false, hd, Bool.and_self, if_true, decide_eq_false_iff_not] at h
  have e : (a.prev - a.last.pos).cross (p - a.last.pos) = wind a.prev a.last.pos p := rfl
  rw [e] at h
  cases l
  · simp only [Bool.false_eq_true, if_false, sg, neg_one_mul] at h ⊢
    have h' : ¬ (wind a.prev a.last.pos p * (-1 : K) < 0) := by simpa [geom] using h
    linarith [not_lt.mp h']
  · simp only [if_true, sg, one_mul] at h ⊢
    have h' : ¬ (wind a.prev a.last.pos p * (1 : K) < 0) := by simpa [geom] using h
    linarith [not_lt.mp h']

def NInv (pos : Nat → P K) (k : Nat) (st : Adv K) : Prop :=
  N3 pos true (st.tess, st.left, st.right) ∧ st.left.last.id < k ∧ st.right.last.id < k

/-- the walk form of `NInv`; `last.id < k` is carried because it turns the sortedness of the sequence into
`After p a.last.pos` when vertex `k` is pushed -/
def NS (pos : Nat → P K) (k : Nat) (l : Bool) (t : Basic K) (a b : SideEv K) : Prop :=
  N3 pos l (t, a, b) ∧ a.last.id < k ∧ b.last.id < k

theorem NS.symm {pos : Nat → P K} {k : Nat} {l : Bool} {t : Basic K} {a b : SideEv K} (h : NS pos k l t a b) :
    NS pos k (!l) t b a := ⟨⟨h.1.1, h.1.2.2, by rw [Bool.not_not]; exact h.1.2.1⟩, h.2.2, h.2.1⟩

/-- flush and forward of chain `a`: its fan is non-negatively oriented (`flush_tris_nonneg`), the inner
tessellator's new triangles always are -/
theorem NS.ff {pos : Nat → P K} {k : Nat} {l : Bool} {t : Basic K} {a b : SideEv K} (h : NS pos k l t a b)
    {a' b' : SideEv K} (ha : a'.events = [a.last.id] ∧ a'.last = a.last)
    (hb : b'.events = b.events ∧ b'.prev = b.prev ∧ b'.last = b.last) : NS pos k l (ffTess t a (!l)) a' b' := by
  obtain ⟨⟨hg, hca, hcb⟩, ia, ib⟩ := h
  refine ⟨⟨vertex_gInv pos _ _ (pushTris_gInv hg _ (flush_tris_nonneg hca)) hca.good, ?_, hcb.congr hb.1 hb.2.1 hb.2.2⟩,
    by rw [ha.2]; exact ia, by rw [hb.2.2]; exact ib⟩
  exact CInv.single (by rw [ha.1, ha.2]) (ha.2 ▸ hca.good)

theorem begin_n (pos : Nat → P K) (old : Adv K) (p0 : P K) (h0 : pos 0 = p0) : NInv pos 1 (Adv.begin old p0 0) := by
  refine ⟨⟨?_, ?_, ?_⟩, Nat.zero_lt_one, Nat.zero_lt_one⟩
  · refine ⟨?_, h0.symm, by simp [Adv.begin, Basic.begin]⟩
    intro v hv
    simp only [Adv.begin, Basic.begin, List.mem_singleton] at hv
    subst hv; exact h0.symm
  · exact CInv.single rfl h0.symm
  · exact CInv.single rfl h0.symm

theorem vertex_n (pos : Nat → P K) (st : Adv K) (p : P K) (k : Nat) (l : Bool) (h : NInv pos k st)
    (hp : pos k = p) (hsorted : ∀ j, j < k → After (pos k) (pos j)) : NInv pos (k + 1) (st.vertex p k l) := by
  refine vertex_walk (I := NS pos k) (I' := NS pos (k + 1)) NS.symm NS.symm st p k l (fun t a b h dx _ => ?_) h
  have hu : NS pos k l t (updSide a p l) b := by
    obtain ⟨⟨hg, ha, hb⟩, ia, ib⟩ := h
    cases l <;> exact ⟨⟨hg, ha.congr rfl rfl rfl, hb⟩, ia, ib⟩
  refine stepSides_ind (J := NS pos k l) (J' := NS pos (k + 1) l) t _ b dx p k l hu
    (fun t a b h hb _ => ff_opp NS.symm h (NS.ff · (flushSide_restart b l hb) ⟨rfl, rfl, rfl⟩))
    (fun t a b h ha _ => NS.ff h (flushSide_restart a (!l) ha) ⟨rfl, rfl, rfl⟩)
    (fun t' a' b' h hg => ?_)
  obtain ⟨⟨hg', ha, hb⟩, ia, ib⟩ := h
  refine ⟨⟨hg', ha.push ⟨p, k, l⟩ hp.symm ?_ (fun h2 => ?_), hb⟩, Nat.lt_succ_self k, by omega⟩
  · show After p a'.last.pos
    rw [ha.good, ← hp]; exact hsorted _ ia
  · have h2' : 2 ≤ a'.events.length := h2
    rcases hg with g | ⟨_, rfl, _, _, g⟩
    · omega
    · exact outwardTurn_false g h2

theorem end_n (pos : Nat → P K) (st : Adv K) (k : Nat) (pe : P K) (ide : Nat) (h : NInv pos k st) (hpe : pos ide = pe) :
    ∀ t ∈ (st.end_ pe ide).tris, TriWind pos t := by
  obtain ⟨t, a, b, hJ, _, _, hp⟩ := end_walk (J := NS pos k true) st pe ide h
    (fun t a b h ha _ => NS.ff h (flushSide_restart a false ha) ⟨rfl, rfl, rfl⟩)
    (fun t a b h hb _ => (NS.ff h.symm (flushSide_restart b true hb) (b' := a) ⟨rfl, rfl, rfl⟩).symm)
  intro x hx
  exact (vertex_gInv pos t ⟨pe, ide, !t.previous.left⟩ hJ.1.1 hpe.symm).2.2 x (hp.mem_iff.mp hx)

/-- positions strictly increasing in the sweep order `(y, x)` -/
def SweepSorted (seq : List (P K × Bool)) : Prop :=
  ∀ i, i < seq.length - 1 → After (posOf seq (i + 1)) (posOf seq i)

noncomputable instance (seq : List (P K × Bool)) : Decidable (SweepSorted seq) := by
  unfold SweepSorted; infer_instance

theorem adv_run_nonneg (seq : List (P K × Bool)) (hs : SweepSorted seq) :
    ∀ t ∈ Adv.run seq, TriWind (posOf seq) t := by
  by_cases h2 : 2 ≤ seq.length
  · obtain ⟨s, v, hI, hv, e⟩ := adv_run_ind seq h2 (fun k s => NInv (posOf seq) k s)
      (fun v hv => begin_n _ Adv.new _ (posOf_of_getElem? hv))
      (fun k s v h _ hk hv => vertex_n _ s _ k _ h (posOf_of_getElem? hv)
        (fun j hj => sorted_all (posOf seq) seq.length (fun i hi => hs i (by omega)) j k hj (by omega)))
    rw [e]
    exact end_n _ s _ _ _ hI (posOf_of_getElem? hv)
  · rw [(run_short seq h2).2]; simp

end Lyon.C02c
