/-
  SPAN / WINDING COHERENCE: `process_edges_above`, relative to the scanned state `s0`: it
  removes `spans_to_end` many spans and keeps the signatures of the active list.  A span index is a slot
  of `s0`, or the failure `mSpanIdx` is allowed: the no-panic analysis takes the second, a coherent `s0`
  gives the first (then nothing fails, and the number of spans removed is `cntIn`).
  The relations to the scanned state `s0` are named by where in the event they hold: `Fr` (frame: nothing
  the invariants read has changed), `SpA` (spans during the loops of edges Above), `RelS` (after the clean-up:
  same Signatures), `RelA` (after edges Above), `RelZ` (the same with the number `Z` of spans explicit; used
  through edges below), `RelU` (`RelZ` and the pending windings, for `update_active_edges`), `NewSt` (the new
  state after the splice), `EvDone` / `EvPost` (after the three steps / after `process_events`).
  The step functions are walked here, not drawn from
  the `Keeps` record of `SweepStepKeeps.lean`: a record carries ONE assertion through a function, and here
  the assertion changes inside it (`SpA D`, `RelS`, `RelZ Z`, `RelZ (Z+1)`, `RelU`, `EvDone`), the failure
  postcondition depends on the site (`Allowed A` under membership hypotheses), and the state is related to
  the scanned state `s0`.  Of the shared walks, `Safe` and `Coh` use `handleIntersectionsStep_keeps` and the
  control skeleton from `evRecover` upwards (`evRecover_keeps`, `tessellatorLoop_phases`, `tessellate*_cases`).
-/
import LyonVerif.Lemmas.SweepSafeCohInv
import LyonVerif.Lemmas.SweepSafeRecover

set_option linter.unusedSectionVars false
set_option mvcgen.warning false

namespace Lyon.SweepCoh
open Lyon Lyon.Scalar Lyon.Mono Lyon.Sweep Lyon.EQ Lyon.SweepSafe
open Std.Do

variable {α : Type} [Scalar α] [Wide α]

def someCount {γ : Type} (a : Array (Option γ)) : Nat := (a.toList.filter (·.isSome)).length

theorem someCount_set {γ : Type} (a : Array (Option γ)) (k : Nat) (t : γ) (v : Option γ) (hk : k < a.size)
    (h : a[k] = some t) : someCount (a.setIfInBounds k v) + 1 = someCount a + bi v.isSome := by
  unfold someCount
  rw [Array.toList_setIfInBounds]
  have hk' : k < a.toList.length := by simpa using hk
  have h' : a.toList[k] = some t := by simpa using h
  clear h hk
  generalize a.toList = l at hk' h'
  induction l generalizing k with
  | nil => simp at hk'
  | cons x l ih =>
    cases k with
    | zero =>
      simp only [List.getElem_cons_zero] at h'
      cases v <;> simp [List.set, List.filter, h', bi]
    | succ k =>
      simp only [List.getElem_cons_succ] at h'
      have := ih k (by simpa using hk') h'
      simp only [List.set, List.filter]
      split <;> simp_all <;> omega

theorem someCount_filter {γ : Type} (a : Array (Option γ)) : (a.filter (·.isSome)).size = someCount a := by
  unfold someCount
  rw [← Array.length_toList, Array.toList_filter]

theorem someCount_all {γ : Type} (a : Array (Option γ)) (h : ∀ k (hk : k < a.size), a[k] ≠ none) :
    someCount a = a.size := by
  unfold someCount
  rw [← Array.length_toList]
  congr 1
  rw [List.filter_eq_self]
  intro x hx
  rcases List.mem_iff_getElem.mp hx with ⟨k, hk, e⟩
  have := h k (by simpa using hk)
  cases x with
  | none => exact absurd (by simpa using e) this
  | some _ => rfl

variable {A : List String}

/-- the state agrees with `s0` on everything the invariants read -/
def Fr (s0 s : St α) : Prop :=
  s.spans = s0.spans ∧ s.active = s0.active ∧ s.rule = s0.rule ∧ s.tolerance = s0.tolerance

abbrev Slot (s0 : St α) (i : Int) : Prop := 0 ≤ i ∧ i < (s0.spans.size : Int)

/-- the state during the vertex / end-span loops of `process_edges_above`, relative to the scanned
state `s0`: same number of span slots, the ended ones are exactly `D` many -/
structure SpA (s0 : St α) (D : List Int) (s : St α) : Prop where
  live : SomeExcept D s.spans
  size : s.spans.size = s0.spans.size
  cnt : someCount s.spans + D.length = s0.spans.size
  act : s.active = s0.active
  rule : s.rule = s0.rule
  tol : s.tolerance = s0.tolerance

/-- `spans[i].tess().vertex(..)`: the index is a slot, or `mSpanIdx` is an allowed failure -/
theorem spanVertex_sp (s0 : St α) (D : List Int) (i : Int) (hV : mSpanIdx ∈ A ∨ Slot s0 i)
    (hD : i ∉ D) (pos : P α) (id : Nat) (l : Bool) :
    ⦃fun s => ⌜SpA s0 D s⌝⦄ (spanVertex i pos id l : SM α Unit) ⦃safePost A fun _ s => SpA s0 D s⦄ := by
  unfold spanVertex
  mvcgen
  · rename_i s h hk
    refine hV.elim allowed_panic fun hi => ?_
    rw [h.size, spanIdx_some hi.1 hi.2] at hk
    cases hk
  · rename_i s h k hk hd
    have hk' := spanIdx_lt hk
    exfalso
    rw [getD_eq hk'.1] at hd
    exact hD (hk'.2 ▸ h.live k hk'.1 hd)
  · rename_i s h k hk t ht
    have hk' := spanIdx_lt hk
    rw [getD_eq hk'.1] at ht
    exact ⟨someExcept_set h.live k _, by simp [h.size],
      by have := someCount_set _ k t (some (t.vertex pos id l)) hk'.1 ht; have := h.cnt; simp only [bi, Option.isSome_some, if_true] at *; omega,
      h.act, h.rule, h.tol⟩

/-- `Spans::end_span` on a span that has not been ended yet -/
theorem endSpan_sp (s0 : St α) (D : List Int) (i : Int) (hV : mSpanIdx ∈ A ∨ Slot s0 i)
    (hD : i ∉ D) (pos : P α) (id : Nat) :
    ⦃fun s => ⌜SpA s0 D s⌝⦄ (endSpan i pos id : SM α Unit) ⦃safePost A fun _ s => SpA s0 (i :: D) s⦄ := by
  unfold endSpan
  mvcgen [emitTris]
  · rename_i s h hk
    refine hV.elim allowed_panic fun hi => ?_
    rw [h.size, spanIdx_some hi.1 hi.2] at hk
    cases hk
  · rename_i s h k hk hd
    have hk' := spanIdx_lt hk
    exfalso
    rw [getD_eq hk'.1] at hd
    exact hD (hk'.2 ▸ h.live k hk'.1 hd)
  · rename_i s h k hk t ht b pooled _
    have hk' := spanIdx_lt hk
    rw [getD_eq hk'.1] at ht
    refine ⟨hk'.2 ▸ someExcept_kill h.live k, ?_, ?_, h.act, h.rule, h.tol⟩
    · show (s.spans.setIfInBounds k none).size = _
      rw [Array.size_setIfInBounds]; exact h.size
    · have := someCount_set _ k t none hk'.1 ht
      simp only [bi, Option.isSome_none, Bool.false_eq_true, if_false] at this
      have := h.cnt
      show someCount (s.spans.setIfInBounds k none) + (D.length + 1) = _
      omega

theorem ve_valid {s0 : St α} {scan : Scan} (hc : Coh s0) (hs : ScanSem s0 scan) (x : Int × Bool)
    (hx : x ∈ scan.vertexEvents) : Slot s0 x.1 := by
  rcases hs.ve x hx with ⟨h1, h2⟩ | ⟨h1, h2⟩ | ⟨hms, h1⟩
  · rw [h1]; exact hc.idx_ok h2
  · rw [h1]; exact hc.idx_ok h2
  · obtain ⟨hb, e, he, hm⟩ := hs.ms hms
    have hin := hc.merges _ e he hm
    have h0 := hc.idx_ok hin
    have hw : Wat s0 scan.aboveEnd = wstep s0.rule (Wat s0 scan.aboveStart) e := by
      rw [hb]; exact Wat_succ s0 _ e he
    have hin' : (Wat s0 scan.aboveEnd).isIn = true := by rw [hw]; simp [wstep, hm, hin]
    have hsi : (Wat s0 scan.aboveEnd).spanIndex = (Wat s0 scan.aboveStart).spanIndex + 1 := by
      rw [hw]; simp [wstep, hm]
    have h2 := hc.idx_ok hin'
    rcases h1 with h1 | h1 <;> (rw [h1]; constructor <;> omega)

theorem se_valid {s0 : St α} {scan : Scan} (hc : Coh s0) (hs : ScanSem s0 scan) (x : Int)
    (hx : x ∈ scan.spansToEnd) : Slot s0 x := by
  obtain ⟨k, _, _, h1, h2⟩ := hs.se x hx
  rw [h1]; exact hc.idx_ok h2

theorem filter_lt_eq_pref {l p q : List Int} {c : Int} (h : l.Pairwise (· < ·)) (e : l = p ++ c :: q) :
    l.filter (· < c) = p := by
  rw [e, List.pairwise_append] at h
  rw [e, List.filter_append, List.filter_cons]
  have h1 : ∀ x ∈ p, decide (x < c) = true := fun x hx => by simpa using h.2.2 x hx c (by simp)
  have h2 : ∀ x ∈ q, decide (x < c) = false := fun x hx => by
    have := (List.pairwise_cons.mp h.2.1).1 x hx
    simp; omega
  rw [List.filter_eq_self.mpr h1, List.filter_eq_nil_iff.mpr (fun x hx => by simp [h2 x hx])]
  simp

/-- the state during an event, relative to the scanned state `s0`: `Z` live spans; the active list has the
signatures of `s0`, except that a merge event has made a merge vertex of the edge at `above_start` -/
structure RelZ (s0 : St α) (scan : Scan) (Z : Nat) (s : St α) : Prop where
  live : SomeExcept [] s.spans
  size : s.spans.size = Z
  asize : s.active.size = s0.active.size
  sig : ∀ k, (scan.mergeEvent = true → k ≠ scan.aboveStart) →
    (s.active[k]?).map sigOf = (s0.active[k]?).map sigOf
  merged : scan.mergeEvent = true → (s.active[scan.aboveStart]?).map sigOf = some (true, 0)
  rule : s.rule = s0.rule
  tol : s.tolerance = s0.tolerance

theorem RelZ.safe {tol : α} {s0 : St α} {scan : Scan} {Z : Nat} {s : St α} (h : RelZ s0 scan Z s)
    (ht : s0.tolerance = tol) : Safe tol s := safe_iff.mpr ⟨h.live, h.tol.trans ht⟩

/-- the state after `process_edges_above`, relative to the scanned state `s0` -/
structure RelA (s0 : St α) (scan : Scan) (s : St α) : Prop where
  live : SomeExcept [] s.spans
  size : s.spans.size + cntIn s0 scan.aboveStart scan.aboveEnd = s0.spans.size
  asize : s.active.size = s0.active.size
  sig : ∀ k, (scan.mergeEvent = true → k ≠ scan.aboveStart) →
    (s.active[k]?).map sigOf = (s0.active[k]?).map sigOf
  merged : scan.mergeEvent = true → (s.active[scan.aboveStart]?).map sigOf = some (true, 0)
  rule : s.rule = s0.rule
  tol : s.tolerance = s0.tolerance

/-- between clean-up and the merge event: `Z` live spans, the active list's signatures are those of `s0` -/
structure RelS (s0 : St α) (Z : Nat) (s : St α) : Prop where
  live : SomeExcept [] s.spans
  size : s.spans.size = Z
  asize : s.active.size = s0.active.size
  sig : ∀ k : Nat, (s.active[k]?).map sigOf = (s0.active[k]?).map sigOf
  rule : s.rule = s0.rule
  tol : s.tolerance = s0.tolerance

theorem sig_set {a : Array (ActiveEdge α)} {i : Nat} {v e : ActiveEdge α} (h : a[i]? = some e)
    (hv : sigOf v = sigOf e) (k : Nat) : ((a.setIfInBounds i v)[k]?).map sigOf = (a[k]?).map sigOf := by
  rw [Array.getElem?_setIfInBounds]
  split
  · rename_i hk
    have hi : i < a.size := by rcases Array.getElem?_eq_some_iff.mp h with ⟨hh, _⟩; exact hh
    rw [← hk, h]
    simp [hi, hv]
  · rfl

theorem splitEdge_rel (s0 : St α) (Z : Nat) (ei : Nat) (hei : ei < s0.active.size) :
    ⦃fun s => ⌜RelS s0 Z s⌝⦄ (splitEdge ei : SM α Unit) ⦃safePost A fun _ s => RelS s0 Z s⦄ := by
  unfold splitEdge
  mvcgen
  · rename_i s h hlt _ _ _ _ _ _ _
    refine ⟨h.live, h.size, by simp [h.asize], fun k => ?_, h.rule, h.tol⟩
    rw [← h.sig k]
    exact sig_set (v := { s.active[ei] with to := s.curPos }) (Array.getElem?_eq_getElem hlt) rfl k
  · rename_i s h hlt
    exact absurd (h.asize ▸ hei) hlt

def AboveSlots (s0 : St α) (scan : Scan) : Prop :=
  (∀ x ∈ scan.vertexEvents, Slot s0 x.1) ∧ ∀ x ∈ scan.spansToEnd, Slot s0 x

/-- **`process_edges_above`** from the scanned state `s0` (up to coverage marks) with live spans:
`scan.spansToEnd.size` spans are removed, the active list keeps its signatures (except the merge vertex
created by a merge event).  The only failure is a span index that is no slot: `mSpanIdx` for the no-panic
analysis, excluded where `s0` is coherent (`ve_valid`, `se_valid`). -/
theorem processEdgesAbove_spec (s0 : St α) (scan : Scan) (hok : ScanOk s0 scan) (hl : SomeExcept [] s0.spans)
    (hV : mSpanIdx ∈ A ∨ AboveSlots s0 scan) :
    ⦃fun s => ⌜Fr s0 s⌝⦄ (processEdgesAbove scan : SM α Scan)
    ⦃safePost A fun sc s => sc = aboveResult scan ∧
      RelZ s0 scan (s0.spans.size - scan.spansToEnd.size) s ∧ scan.spansToEnd.size ≤ s0.spans.size⦄ := by
  unfold processEdgesAbove
  have h1 := fun (i : Int) (hi : mSpanIdx ∈ A ∨ Slot s0 i) =>
    spanVertex_sp (α := α) (A := A) s0 [] i hi (by simp)
  have h2 := fun (i : Int) (hi : mSpanIdx ∈ A ∨ Slot s0 i) =>
    endSpan_sp (α := α) (A := A) s0 (scan.spansToEnd.toList.filter (· < i)) i hi (by simp)
  have h3 := fun ei hei => splitEdge_rel (α := α) (A := A) s0 (s0.spans.size - scan.spansToEnd.size) ei hei
  mvcgen [h1, h2, h3] invariants
  · post⟨fun _ s => ⌜SpA s0 [] s⌝, fun f _ => ⌜Allowed A f⌝⟩
  · post⟨fun r s => ⌜SpA s0 r.1.prefix s⌝, fun f _ => ⌜Allowed A f⌝⟩
  · post⟨fun _ s => ⌜RelS s0 (s0.spans.size - scan.spansToEnd.size) s ∧ scan.spansToEnd.size ≤ s0.spans.size⌝,
      fun f _ => ⌜Allowed A f⌝⟩
  with skip
  case vc1 =>
    rename_i pref cur suff h _ _ _
    exact hV.imp id fun hv => hv.1 cur (Array.mem_toList_iff.mp (by rw [h]; simp))
  case vc5 =>
    rename_i s h
    obtain ⟨h1, h2, h3, h4⟩ := h
    refine ⟨h1 ▸ hl, by rw [h1], ?_, h2, h3, h4⟩
    rw [h1]
    simp only [List.length_nil, Nat.add_zero]
    apply someCount_all
    intro k hk e
    have := hl k hk e
    simp at this
  case vc6 =>
    rename_i pref cur suff h _ _ _
    exact hV.imp id fun hv => all_of_split hv.2 h
  case vc7 =>
    rename_i pref cur suff h _ s hs
    rw [filter_lt_eq_pref hok.ends_inc h]
    exact hs
  case vc8 =>
    rename_i pref cur suff h _ s1 hs1 _ s hs
    rw [filter_lt_eq_pref hok.ends_inc h] at hs
    refine ⟨someExcept_mono hs.live (by
      intro x hx
      rcases List.mem_cons.mp hx with h' | h'
      · simp [h']
      · simp [h']), hs.size, ?_, hs.act, hs.rule, hs.tol⟩
    have := hs.cnt
    simp only [List.length_cons, List.length_append, List.length_nil] at this ⊢
    omega
  case vc11 =>
    rename_i pref cur suff h _ _ _
    exact all_of_split hok.split_lt h
  -- clean-up: the live spans are those not ended
  case vc15 =>
    rename_i s h _
    have hc := h.cnt
    simp only [Array.length_toList] at hc
    refine ⟨⟨someExcept_filter, ?_, by show s.active.size = _; rw [h.act], ?_, h.rule, h.tol⟩, by omega⟩
    · show (Array.filter _ s.spans).size = _
      rw [someCount_filter]
      omega
    · intro k; show (s.active[k]?).map sigOf = _; rw [h.act]
  -- the merge event turns the edge at `above_start` into a merge vertex
  case vc16 =>
    rename_i hm s h hlt e e'
    obtain ⟨h, hle⟩ := h
    refine ⟨by simp [aboveResult, hm], ⟨h.live, h.size, by simp [h.asize], ?_, ?_, h.rule, h.tol⟩, hle⟩
    · intro k hk
      have hk' := hk hm
      rw [← h.sig k]
      show ((s.active.setIfInBounds scan.aboveStart _)[k]?).map sigOf = _
      rw [Array.getElem?_setIfInBounds]
      rw [if_neg (by intro e; exact hk' e.symm)]
    · intro _
      show ((s.active.setIfInBounds scan.aboveStart _)[scan.aboveStart]?).map sigOf = _
      rw [Array.getElem?_setIfInBounds]
      simp [hlt, sigOf]
      exact ⟨rfl, rfl⟩
  case vc17 =>
    rename_i hm s h hlt
    exact absurd (h.1.asize ▸ hok.merge_lt hm) hlt
  case vc18 =>
    rename_i hm s h
    obtain ⟨h, hle⟩ := h
    exact ⟨by simp [aboveResult, hm], ⟨h.live, h.size, h.asize, fun k _ => h.sig k, fun h' => absurd h' hm, h.rule, h.tol⟩, hle⟩
  all_goals first
    | (intro _ h; exact h)
    | exact (‹RelS s0 _ _ ∧ _›).1
    | exact And.intro ‹RelS s0 _ _› (‹RelS s0 _ _ ∧ _›).2

/-- `process_edges_above` on a coherent scanned state: NO failure at all; exactly
`cntIn s0 above_start above_end` spans are removed -/
theorem processEdgesAbove_rel (s0 : St α) (scan : Scan) (hok : ScanOk s0 scan) (hsem : ScanSem s0 scan)
    (hc : Coh s0) :
    ⦃fun s => ⌜Fr s0 s⌝⦄ (processEdgesAbove scan : SM α Scan)
    ⦃safePost A fun sc s => sc = aboveResult scan ∧ RelA s0 scan s⦄ :=
  safe_conseq fun s hs => ⟨_, _, hs,
    processEdgesAbove_spec s0 scan hok hc.live (Or.inr ⟨ve_valid hc hsem, se_valid hc hsem⟩),
    fun _ _ _ h => ⟨h.1, h.2.1.live, by rw [← hsem.se_count, h.2.1.size]; omega, h.2.1.asize, h.2.1.sig,
      h.2.1.merged, h.2.1.rule, h.2.1.tol⟩⟩

end Lyon.SweepCoh
