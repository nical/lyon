/-
  `ActiveSpan` + parameter range through `process_events` (every step of one event: the walks of
  `Lemmas/SweepStepKeeps.lean` at the record `keepsN_span`), `recover_from_error` (it rearranges the active list:
  `Sweep.recoverFromError_rearr`) and `initialize_events`.
-/
import LyonVerif.Lemmas.SweepSpanIx
import LyonVerif.Lemmas.SweepSafeCohScanSpec

set_option linter.unusedSectionVars false
set_option mvcgen.warning false

namespace Lyon.SweepSpan
open Lyon Lyon.Scalar Lyon.Sweep Lyon.EQ Lyon.SweepPos Lyon.SweepIdx
open Std.Do

section field
variable {K : Type} [Field K] [LinearOrder K] [IsStrictOrderedRing K]
variable [w : Wide K]

theorem mark_invN (L : Array Nat) (b : Nat) : ⦃fun s => ⌜InvN L s⌝⦄ (mark b : SM K Unit) ⦃keepsN L⦄ := by
  unfold mark
  mvcgen

theorem evBody_inv {M : w.W → Prop} (hw : SweepRep.WClosure (α := K) U M) (scan : Scan) :
    ⦃fun s => ⌜InvN scan.edgesToSplit s⌝⦄ (evBody scan : SM K (Option IErr)) ⦃keeps⦄ :=
  evBody_keeps scan (keepsN_span _) (fun _ h => h.1) (fun _ i hi h => h.1.mergeAt i hi) keeps_span
    sortEdgesBelow_inv handleCoincidentEdgesBelow_inv (handleIntersectionsStep_inv hw) fun _ a b h => h.spliceAt a b

/-- **one event keeps `ActiveSpan` and the parameter range**: scan, `process_edges_above` (with `split_edge`),
`process_edges_below` (with the split of `merge_coincident_edges`), `update_active_edges` (with
`handle_intersections`) - on success and on failure.  The scan only reads the state and promises that no edge
to split is a merge vertex; the coverage marks do not touch what the invariant reads. -/
theorem processEvents_inv {M : w.W → Prop} (hw : SweepRep.WClosure (α := K) U M) :
    ⦃fun s => ⌜Inv s⌝⦄ (processEvents : SM K (Option IErr)) ⦃keeps⦄ :=
  processEvents_keeps (S := fun scan => InvN scan.edgesToSplit) (fun _ _ hs h => ⟨h, SweepCoh.of_scan_nm hs⟩)
    (fun scan => (keepsN_span scan.edgesToSplit).cov) (evBody_inv hw) fun _ h => h

/-- **`recover_from_error` keeps `ActiveSpan` and the parameter range**: every active edge afterwards is one of
those before, the rest is span bookkeeping (`Rearr`) -/
theorem recoverFromError_inv : ⦃fun s => ⌜Inv s⌝⦄ (recoverFromError : SM K Unit) ⦃keeps⦄ :=
  keeps_of_rel Rearr.refl recoverFromError_rearr fun _ _ => Inv.rearr

/-- what the advance to the next vertex needs: the next vertex (the position of the current event of the queue)
is spanned by every active edge, and the edge records of its sibling events point down the sweep.  This is
where the ORDER of the index-linked event queue enters (not proved here) -/
def AdvOK (s : St K) : Prop :=
  (∀ e ∈ s.active, SpanA (s.q.position s.curEvent) e) ∧
  (∀ b ∈ s.below, (s.q.position s.curEvent).y ≤ b.to.y) ∧
  (∀ i ∈ s.q.siblings s.q.fuel s.curEvent, (s.q.ed i).isEdge = true → (s.q.position s.curEvent).y ≤ (s.q.ed i).to.y)

/-- **`initialize_events`, when the next vertex is spanned (`AdvOK`), keeps `ActiveSpan` and the parameter
range**; on failure (NaN position) the parameter range is kept -/
theorem initializeEvents_inv :
    ⦃fun s => ⌜Inv s ∧ AdvOK s⌝⦄ (initializeEvents : SM K Unit)
    ⦃post⟨fun _ s => ⌜Inv s⌝, fun _ s => ⌜UInv s⌝⟩⦄ := by
  unfold initializeEvents
  mvcgen
  all_goals
    have h := ‹Inv _ ∧ AdvOK _›
  all_goals first
    | exact h.1.2
    | skip
  obtain ⟨⟨⟨ha, hb⟩, hq, hua, hub, ho⟩, hA1, hA2, hA3⟩ := h
  refine ⟨⟨hA1, ?_⟩, hq, hua, ?_, ?_⟩
  · exact init_below_all _ _ _ _ hA3 _ hA2
  · exact init_below_all _ _ (fun b => U b.rangeEnd) _ (fun i hi he => (ed_U hq i).2) _ hub
  · intro pos recs hm r hr
    rcases Array.mem_push.mp hm with hm | hm
    · exact ho pos recs hm r hr
    · cases hm
      rcases List.mem_map.mp hr with ⟨i, _, rfl⟩
      exact ed_U hq i

end field

end Lyon.SweepSpan
