/-
  Real-analysis core of the quadratic arclength closed form (used by `Props/C10b.lean`).

  For `qP(t) = P(t) = a t² + b t + c` with `a > 0` and `b² ≤ 4ac` (a squared norm `|d1 + t·d2|²`), the
  function `qF` below — the primitive that `QuadraticBezierSegment::length` evaluates at 1 and 0 —
  satisfies `F' = 2·√P` wherever `G = 2√a√P + P' > 0`, which holds on `[0, ∞)` as soon as it holds
  at `0` (the code's "not a sharp turn" test); hence `∫ₓʸ 2√P = F(y) − F(x)`.
  At the end two further real-analysis helpers of `Props/C10b.lean`: `hasDerivAt_of_taylor`, `rpow_neg_half`.
-/
import Mathlib.Analysis.SpecialFunctions.Integrals.Basic
import Mathlib.Analysis.SpecialFunctions.Sqrt
import Mathlib.Analysis.SpecialFunctions.Pow.Real

namespace Lyon.ArcLen
open Real

/-- squared half-speed `a t² + b t + c` -/
def qP (a b c t : ℝ) : ℝ := a * t * t + b * t + c
def qdP (a b t : ℝ) : ℝ := 2 * a * t + b
noncomputable def qG (a b c t : ℝ) : ℝ := 2 * √a * √(qP a b c t) + qdP a b t
/-- the primitive of `2·√P` used by the closed form -/
noncomputable def qF (a b c t : ℝ) : ℝ :=
  qdP a b t / (2 * a) * √(qP a b c t) + (4 * a * c - b * b) / (4 * a * √a) * Real.log (qG a b c t)

theorem disc_id (a b c t : ℝ) : 4 * a * qP a b c t = qdP a b t * qdP a b t + (4 * a * c - b * b) := by
  unfold qP qdP; ring

theorem P_nonneg {a b c : ℝ} (ha : 0 < a) (hD : b * b ≤ 4 * a * c) (t : ℝ) : 0 ≤ qP a b c t := by
  have h := disc_id a b c t
  have : 0 ≤ 4 * a * qP a b c t := by rw [h]; linear_combination mul_self_nonneg (qdP a b t) + hD
  have h4 : 0 < 4 * a := mul_pos four_pos ha
  exact nonneg_of_mul_nonneg_right this h4

theorem G_sq {a b c : ℝ} (ha : 0 < a) (hD : b * b ≤ 4 * a * c) (t : ℝ) :
    (2 * √a * √(qP a b c t)) * (2 * √a * √(qP a b c t)) = qdP a b t * qdP a b t + (4 * a * c - b * b) := by
  rw [← disc_id]
  linear_combination (4 * (√(qP a b c t) * √(qP a b c t))) * Real.mul_self_sqrt ha.le
    + (4 * a) * Real.mul_self_sqrt (P_nonneg ha hD t)

/-- if `G(t) ≤ 0` then `2√a√P ≤ −P'`, so `4ac = b²` by `G_sq`, and `b ≤ P'(t) ≤ 0`; but then
`2√a√c = −b` (`G_sq` at `0`), i.e. `G(0) = 0` -/
theorem G_pos {a b c : ℝ} (ha : 0 < a) (hD : b * b ≤ 4 * a * c) (h0 : 0 < qG a b c 0) {t : ℝ} (ht : 0 ≤ t) :
    0 < qG a b c t := by
  have hS : ∀ s, 0 ≤ 2 * √a * √(qP a b c s) := fun s =>
    mul_nonneg (mul_nonneg zero_le_two (Real.sqrt_nonneg _)) (Real.sqrt_nonneg _)
  by_contra hcon
  unfold qG at h0 hcon
  have hsq := mul_self_le_mul_self (hS t) (by linear_combination not_lt.mp hcon : 2 * √a * √(qP a b c t) ≤ -qdP a b t)
  rw [G_sq ha hD] at hsq
  have hb : qdP a b 0 ≤ 0 := by
    have := mul_nonneg ha.le ht
    unfold qdP at hcon ⊢
    linarith [hS t]
  have h00 : 2 * √a * √(qP a b c 0) = -qdP a b 0 :=
    (mul_self_inj (hS 0) (neg_nonneg.mpr hb)).mp (by linarith [G_sq ha hD 0])
  linarith

theorem P_pos_of_G_pos {a b c t : ℝ} (ha : 0 < a) (hD : b * b ≤ 4 * a * c) (hG : 0 < qG a b c t) :
    0 < qP a b c t := by
  rcases (P_nonneg ha hD t).lt_or_eq with h | h
  · exact h
  · exfalso
    have hid := disc_id a b c t
    rw [← h] at hid
    have hd : qdP a b t = 0 := by
      have : qdP a b t * qdP a b t ≤ 0 := by linear_combination hD - hid
      exact mul_self_eq_zero.mp (le_antisymm this (mul_self_nonneg _))
    unfold qG at hG
    rw [← h, hd] at hG
    simp at hG

theorem hasDerivAt_P (a b c t : ℝ) : HasDerivAt (qP a b c) (qdP a b t) t := by
  have h1 : HasDerivAt (fun s : ℝ => s) 1 t := hasDerivAt_id t
  have h := ((((h1.const_mul a).fun_mul h1).fun_add (h1.const_mul b)).add_const c)
  refine h.congr_deriv ?_
  unfold qdP; ring

theorem hasDerivAt_dP (a b t : ℝ) : HasDerivAt (qdP a b) (2 * a) t := by
  have h1 : HasDerivAt (fun s : ℝ => s) 1 t := hasDerivAt_id t
  have h := ((h1.const_mul (2 * a)).add_const b)
  refine h.congr_deriv ?_
  ring

theorem hasDerivAt_F {a b c t : ℝ} (ha : 0 < a) (hD : b * b ≤ 4 * a * c) (hG : 0 < qG a b c t) :
    HasDerivAt (qF a b c) (2 * √(qP a b c t)) t := by
  have hP := P_pos_of_G_pos ha hD hG
  have hr : 0 < √a := Real.sqrt_pos.mpr ha
  have hrr : √a * √a = a := Real.mul_self_sqrt ha.le
  have hu : 0 < √(qP a b c t) := Real.sqrt_pos.mpr hP
  have huu : √(qP a b c t) * √(qP a b c t) = qP a b c t := Real.mul_self_sqrt hP.le
  have hid := disc_id a b c t
  have hs : HasDerivAt (fun s => √(qP a b c s)) (qdP a b t / (2 * √(qP a b c t))) t :=
    (hasDerivAt_P a b c t).sqrt hP.ne'
  have hd := hasDerivAt_dP a b t
  have hGd : HasDerivAt (qG a b c) (2 * √a * (qdP a b t / (2 * √(qP a b c t))) + 2 * a) t :=
    (hs.const_mul (2 * √a)).fun_add hd
  have hlog : HasDerivAt (fun s => Real.log (qG a b c s))
      ((2 * √a * (qdP a b t / (2 * √(qP a b c t))) + 2 * a) / qG a b c t) t := hGd.log hG.ne'
  have hF := ((hd.div_const (2 * a)).fun_mul hs).fun_add (hlog.const_mul ((4 * a * c - b * b) / (4 * a * √a)))
  refine hF.congr_deriv ?_
  have hG' : qG a b c t = 2 * √a * √(qP a b c t) + qdP a b t := rfl
  have hGne : 2 * √a * √(qP a b c t) + qdP a b t ≠ 0 := by rw [← hG']; exact hG.ne'
  rw [hG']
  set u := √(qP a b c t) with hudef
  set r := √a with hrdef
  set d := qdP a b t with hddef
  have hD' : 4 * a * c - b * b = 4 * a * (u * u) - d * d := by rw [huu]; linear_combination -hid
  rw [hD']
  have ha' : a = r * r := hrr.symm
  rw [ha']
  field_simp
  ring

theorem continuous_speed (a b c : ℝ) : Continuous fun t => 2 * √(qP a b c t) := by
  unfold qP; fun_prop

theorem integral_speed {a b c : ℝ} (ha : 0 < a) (hD : b * b ≤ 4 * a * c) (h0 : 0 < qG a b c 0)
    {x y : ℝ} (hx : 0 ≤ x) (hy : 0 ≤ y) :
    ∫ t in x..y, 2 * √(qP a b c t) = qF a b c y - qF a b c x := by
  refine intervalIntegral.integral_eq_sub_of_hasDerivAt (fun t ht => ?_) ((continuous_speed a b c).intervalIntegrable _ _)
  exact hasDerivAt_F ha hD (G_pos ha hD h0 ((le_min hx hy).trans ht.1))

theorem hasDerivAt_of_taylor (f : ℝ → ℝ) (t A D c₀ c₁ : ℝ)
    (hf : ∀ h, f (t + h) = A + D * h + (c₀ + c₁ * h) * (h * h)) : HasDerivAt f D t := by
  have e : f = fun s => A + D * (s - t) + (c₀ + c₁ * (s - t)) * ((s - t) * (s - t)) := by
    funext s
    have := hf (s - t)
    rwa [add_sub_cancel] at this
  rw [e]
  have h1 : HasDerivAt (fun s : ℝ => s - t) 1 t := (hasDerivAt_id t).sub_const t
  have h2 := (((h1.const_mul D).const_add A).fun_add
    (((h1.const_mul c₁).const_add c₀).fun_mul (h1.fun_mul h1)))
  refine h2.congr_deriv ?_
  simp

theorem rpow_neg_half {a : ℝ} (ha : 0 < a) : a ^ (-(1/2 : ℝ)) = (√a)⁻¹ := by
  rw [Real.rpow_neg ha.le, Real.sqrt_eq_rpow]

end Lyon.ArcLen
