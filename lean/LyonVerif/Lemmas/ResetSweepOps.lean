/-
  C08 on the sweep model: every step of the sweep (`Model/Tess/Sweep.lean`) maps related
  states to related states and returns the same value — `Sim (step …)`.

  Three kinds of steps:
  * the ones that touch the spans and the pool (`spanVertex`, `beginSpan`, `endSpan`, the span
    clean-up): proved by hand from `vertex_sim`, `begin_sim`, `end_sim` of `Lemmas/Reset.lean` —
    `beginSpan` is the point where a recycled tessellator with stale fields (or none at all, the
    pools may have different lengths) enters the picture;
  * the one that reads the number of spans (`scanActiveEdges`): `scan_congr`;
  * everything else neither reads nor writes `spans` / `pool` (and only ORs bits into `cov`):
    `sim_auto` walks through the `do` block.
-/
import LyonVerif.Lemmas.ResetSweepCore
import LyonVerif.Lemmas.SweepSpanStep


namespace Lyon.C08
open Lyon Lyon.Mono Lyon.Sweep Lyon.EQ

variable {α : Type} [Scalar α] [Wide α]

instance mark_sim (bit : Nat) : Sim (mark (α := α) bit) := sim_onlyCov (.mark bit)

instance emitTris_sim (tris : List Mono.Tri) : Sim (emitTris (α := α) tris) := by
  unfold emitTris
  refine sim_modify ?_
  rintro s _ ⟨sp, pl, c, rfl, h⟩
  exact ⟨sp, pl, c, rfl, h⟩

/-- the `while self.fill.spans.len() > (winding.span_index + 1) as usize { flush the last span; pop }`
loop of `recover_from_error` (the text of the loop in `Sweep.recoverFromError`): a span popped by the
recovery is flushed as it is (`tess.flush` without `end`), and its inner tessellator's triangles are
the same on both sides -/
theorem popSpans_sim (n : Nat) : Sim (forIn [0:n] PUnit.unit fun _ _ => do
    let s' ← get
    let last := s'.spans.size - 1
    match s'.spans.getD last none with
    | none => throw (.panic "dead span")
    | some t =>
      set { s' with spans := s'.spans.pop, cov := s'.cov ||| (1 <<< 21) }
      emitTris t.tess.tris
      pure (ForInStep.yield PUnit.unit) : SM α PUnit) := by
  refine sim_forIn_range _ _ fun x b => sim_get_bind fun s sp pl c hsp => ?_
  dsimp only [with3]
  rw [hsp.size]
  rcases hsp.getD_cases (s.spans.size - 1) with ⟨ha, hb⟩ | ⟨t, t', ha, hb, hk⟩ <;> rw [ha, hb]
  · exact sim_throw _
  · dsimp only
    rw [hk.1]
    exact sim_bind (sim_set ⟨_, pl, _, rfl, hsp.pop⟩) (fun _ => sim_bind (emitTris_sim _) (fun _ => sim_pure _))

/-! ### the decomposition tactic

`Sim2` is a class and the simulation lemma of a step function is declared as an instance, so that "the lemma of this
call" is found by instance resolution (`infer_instance`: tried last, on what is not a `bind`, `if`, `for`).
`popSpans_sim`, about a whole `for` loop, is tried by name before
a loop is decomposed (at default transparency: the loop inside `recoverFromError` is recognised up to unfolding).
`sim_step` applies one structural rule; after `let s ← get` the two sides are normalised so that they read the same
fields of the same `s` (the right-hand side's state is `with3 s sp pl c`). -/

macro "sim_step" : tactic => `(tactic| first
  | with_reducible assumption
  | with_reducible exact sim_pure _
  | with_reducible exact sim_throw _
  | (apply sim_set_with3; assumption)
  | ((with_reducible refine sim_modify ?_); intro s s' hs; obtain ⟨sp, pl, c, e, h⟩ := hs; subst e; exact ⟨sp, pl, _, rfl, h⟩)
  | ((with_reducible refine sim_get_bind ?_); intro s sp pl c hsp; dsimp only [with3]; try simp only [SpansSim.size hsp])
  | (with_reducible refine sim_bind ?_ ?_)
  | intro _
  | exact popSpans_sim _
  | (with_reducible refine sim_forIn_array _ _ ?_)
  | (with_reducible refine sim_forIn_range _ _ ?_)
  | (with_reducible apply sim_ite)
  | (with_reducible apply sim_dite)
  | infer_instance
  | split)

macro "sim_auto" : tactic => `(tactic| repeat' sim_step)

instance spanVertex_sim (i : Int) (pos : P α) (id : Nat) (l : Bool) : Sim (spanVertex i pos id l) := by
  unfold spanVertex
  refine sim_get_bind ?_
  intro s sp pl c hsp
  dsimp only [with3]
  rw [hsp.size]
  split
  · exact sim_throw _
  · rename_i k _
    rcases hsp.getD_cases k with ⟨ha, hb⟩ | ⟨t, t', ha, hb, hk⟩ <;> rw [ha, hb]
    · exact sim_throw _
    · dsimp only
      exact sim_set ⟨_, pl, c, rfl, hsp.setIfInBounds (x := some _) (y := some _) (vertex_sim t t' pos id l hk) k⟩

/-- **`Spans::begin_span` from any two pools**: one side may pop a recycled tessellator with stale
fields while the other one pops a different one, or finds its pool empty and builds a new one —
`begin` makes them `AdvSim`. -/
instance beginSpan_sim (i : Int) (pos : P α) (id : Nat) : Sim (beginSpan i pos id) := by
  unfold beginSpan
  refine sim_get_bind ?_
  intro s sp pl c hsp
  dsimp only [with3]
  rw [hsp.size]
  split
  · refine sim_set ⟨_, _, _, rfl, ?_⟩
    exact hsp.insert (x := some _) (y := some _) (begin_sim _ _ pos id) _
  · exact sim_throw _

instance endSpan_sim (i : Int) (pos : P α) (id : Nat) : Sim (endSpan i pos id) := by
  unfold endSpan
  refine sim_get_bind ?_
  intro s sp pl c hsp
  dsimp only [with3]
  rw [hsp.size]
  split
  · exact sim_throw _
  · rename_i k _
    rcases hsp.getD_cases k with ⟨ha, hb⟩ | ⟨t, t', ha, hb, hk⟩ <;> rw [ha, hb]
    · exact sim_throw _
    · dsimp only
      rw [end_sim t t' pos id hk]
      refine sim_bind (sim_set ⟨_, _, c, rfl, ?_⟩) (fun _ => emitTris_sim _)
      exact hsp.setIfInBounds (x := none) (y := none) trivial k

/-- `cleanup_spans` -/
instance cleanup_sim :
    Sim (modify fun (s : St α) => { s with spans := s.spans.filter (·.isSome) } : SM α PUnit) := by
  refine sim_modify ?_
  rintro s _ ⟨sp, pl, c, rfl, h⟩
  exact ⟨_, pl, c, rfl, h.filter⟩

/-! ### `scan_active_edges` reads the spans through their number only -/

theorem scan_congr' (s s2 : St α) (e1 : s2.curPos = s.curPos) (e2 : s2.active = s.active) (e3 : s2.tolerance = s.tolerance)
    (e4 : s2.rule = s.rule) (e5 : s2.below = s.below) (e6 : s2.spans.size = s.spans.size) :
    scanActiveEdges s2 = scanActiveEdges s := by
  unfold scanActiveEdges
  simp -zeta only [e1, e2, e3, e4, e5, e6]

theorem scan_congr (s : St α) (sp : Array (Option (Adv α))) (pl : List (Adv α)) (c : Nat) (h : sp.size = s.spans.size) :
    scanActiveEdges (with3 s sp pl c) = scanActiveEdges s :=
  scan_congr' s _ rfl rfl rfl rfl rfl h

instance splitEdge_sim (ei : Nat) : Sim (splitEdge (α := α) ei) := by
  unfold splitEdge
  sim_auto

instance processEdgesAbove_sim (scan : Scan) : Sim (processEdgesAbove (α := α) scan) := by
  unfold processEdgesAbove
  sim_auto

instance sortEdgesBelow_sim : Sim (sortEdgesBelow (α := α)) := by
  unfold sortEdgesBelow
  sim_auto

instance mergeCoincidentEdges_sim (a b : Nat) : Sim (mergeCoincidentEdges (α := α) a b) := by
  unfold mergeCoincidentEdges
  sim_auto

instance handleCoincidentEdgesBelow_sim : Sim (handleCoincidentEdgesBelow (α := α)) := by
  unfold handleCoincidentEdgesBelow
  sim_auto

instance splitEvent_sim (le : Nat) (ls : Int) : Sim (splitEvent (α := α) le ls) := by
  unfold splitEvent
  sim_auto

instance processEdgesBelow_sim (scan : Scan) : Sim (processEdgesBelow (α := α) scan) := by
  have h1 : Sim (belowSplit (α := α) scan) := by unfold belowSplit; sim_auto
  have h2 : Sim (belowSpans (α := α) scan) := by unfold belowSpans; sim_auto
  rw [processEdgesBelow_eq]
  sim_auto
end Lyon.C08
