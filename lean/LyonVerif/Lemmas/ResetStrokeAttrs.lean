/-
  C08, stroke tessellator: the length-driven model of `interpolated_attributes`
  (`Model/Tess/StrokeAttrBuffer.lean`, `BufCache.readB` / `attrsSeqB`) on a buffer and a store of the
  same attribute count is the tied model of `Model/Tess/StrokeAttrs.lean` (`AttrCache.read` /
  `attrsSeq`), which reads every vertex's own source.
-/
import LyonVerif.Model.Tess.ResetStrokeAttrs
import LyonVerif.Lemmas.StrokeAttrs


namespace Lyon.C08
open Lyon Lyon.Stroke Lyon.Stroke.Full

variable {α : Type} [Scalar α]

/-- the cache of `StrokeAttrs.lean` (tied by `fulle:32`) seen as a `BufCache` -/
def toBuf (c : AttrCache α) : BufCache α := ⟨c.valid, c.buf⟩

theorem readB_sized (c : AttrCache α) (store : Nat → List α) (n : Nat) (hs : ∀ id, (store id).length = n)
    (hc : c.buf.length = n) (s : Stroke.Src α) :
    (toBuf c).readB store true s = (some (c.read store true s).1, toBuf (c.read store true s).2) ∧
    (c.read store true s).2.buf.length = n := by
  unfold BufCache.readB AttrCache.read toBuf
  cases s with
  | endpoint id => simp [hc]
  | edge f t u =>
    have hl : (lerpAttributes (store f) (store t) u).length = n := by
      simp [lerpAttributes, hs]
    have ht : (lerpAttributes (store f) (store t) u).take n = lerpAttributes (store f) (store t) u :=
      List.take_of_length_le (by omega)
    simp [hc, hs, ht, hl]

theorem attrsSeqB_sized (store : Nat → List α) (n : Nat) (hs : ∀ id, (store id).length = n) :
    ∀ (verts : List (VData α)) (c : AttrCache α), c.buf.length = n →
      (attrsSeqB store (verts.map (·.src)) (toBuf c)).1 = some (attrsSeq store verts c) := by
  intro verts
  induction verts with
  | nil => intro c _; rfl
  | cons d ds ih =>
    intro c hc
    obtain ⟨h1, h2⟩ := readB_sized c store n hs hc d.src
    simp only [List.map_cons, attrsSeqB, attrsSeq, h1, ih _ h2, Option.map_some]

end Lyon.C08
