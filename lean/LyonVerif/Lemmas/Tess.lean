/-
  What a tessellator does to a geometry builder between `begin_geometry` and the terminator (C04).  It issues vertex
  and triangle calls only, so whatever those two calls keep is kept by the request runners `runQ` / `strokeEvents`
  (the second is the first on the concatenated events, `strokeEvents_eq`)
  and through the wrappers `invert` / `refuseAt` (`Sink.Preserves`); the recorded calls are accepted vertices and
  triangles with at most one refusal at the end (`QCalls`); a `BuffersBuilder` only grows behind the contents it was
  begun on (`Ext`), so `abort_geometry` restores them.  A whole call is `begin`, the requests under `?`, and one
  terminator chosen by the result (`tessellateImpl_eq`).
-/
import LyonVerif.Model.Tess.Skeleton

namespace Lyon.Tess

/-- `P` is kept by the two calls a tessellator may issue between `begin` and the terminator. -/
structure Sink.Preserves {σ : Type} (S : Sink σ) (P : σ → Prop) : Prop where
  vertex : ∀ s p, P s → P (S.vertex s p).1
  tri : ∀ s a b c, P s → P (S.tri s a b c)

theorem Sink.Preserves.invert {σ : Type} {S : Sink σ} {P : σ → Prop} (h : S.Preserves P) :
    S.invert.Preserves P :=
  ⟨fun s p hp => h.vertex s p hp, fun s a b c hp => h.tri s a c b hp⟩

theorem Sink.Preserves.refuseAt {σ : Type} {S : Sink σ} {P : σ → Prop} (h : S.Preserves P)
    (k : Nat) (e : GErr) : (S.refuseAt k e).Preserves (fun s => P s.1) := by
  refine ⟨fun s p hp => ?_, fun s a b c hp => h.tri s.1 a b c hp⟩
  simp only [Sink.refuseAt]
  split
  · exact hp
  · exact h.vertex s.1 p hp

theorem runQ_preserves {σ : Type} {S : Sink σ} {P : σ → Prop} (h : S.Preserves P)
    (core : List CReq) (s : σ) (ids : List Nat) (hp : P s) : P (runQ S core s ids).st := by
  fun_induction runQ S core s ids with
  | case1 => exact hp
  | case2 p r s ids s' i hv x ih => exact ih (by simpa [hv] using h.vertex s p hp)
  | case3 p r s ids s' e hv => simpa [hv] using h.vertex s p hp
  | case4 a b c r s ids x ih => exact ih (h.tri _ _ _ _ hp)

theorem runQ_append {σ : Type} (S : Sink σ) (a b : List CReq) (s : σ) (ids : List Nat) :
    runQ S (a ++ b) s ids =
      match (runQ S a s ids).err with
      | some _ => runQ S a s ids
      | none => { runQ S b (runQ S a s ids).st (runQ S a s ids).ids with
          calls := (runQ S a s ids).calls ++ (runQ S b (runQ S a s ids).st (runQ S a s ids).ids).calls } := by
  fun_induction runQ S a s ids with
  | case1 => simp
  | case2 p r s ids s' i hv x ih =>
    simp only [List.cons_append, runQ, hv, ih, x]
    cases he : (runQ S r s' (ids ++ [i])).err <;> simp [he]
  | case3 p r s ids s' e hv => simp [runQ, hv]
  | case4 x y z r s ids x' ih =>
    simp only [List.cons_append, runQ, ih, x']
    cases he : (runQ S r (S.tri s (resolve ids x) (resolve ids y) (resolve ids z)) ids).err <;> simp [he]

/-- `strokeEvents` is `runQ` on the concatenated events (the per-event latch check only decides
how many events are consumed). -/
theorem strokeEvents_eq {σ : Type} (S : Sink σ) : ∀ (evs : List (List CReq)) (s : σ) (ids : List Nat),
    (strokeEvents S evs s ids).calls = (runQ S evs.flatten s ids).calls ∧
    (strokeEvents S evs s ids).err = (runQ S evs.flatten s ids).err ∧
    (strokeEvents S evs s ids).st = (runQ S evs.flatten s ids).st := by
  intro evs
  induction evs with
  | nil => intro s ids; simp [strokeEvents, runQ]
  | cons ev rest ih =>
    intro s ids
    rw [List.flatten_cons, runQ_append]
    unfold strokeEvents
    dsimp only
    cases hx : (runQ S ev s ids).err with
    | some e => simp [hx]
    | none =>
      obtain ⟨i1, i2, i3⟩ := ih (runQ S ev s ids).st (runQ S ev s ids).ids
      simp [i1, i2, i3]

theorem strokeEvents_preserves {σ : Type} {S : Sink σ} {P : σ → Prop} (h : S.Preserves P) :
    ∀ (evs : List (List CReq)) (s : σ) (ids : List Nat), P s → P (strokeEvents S evs s ids).st := by
  intro evs s ids hp
  rw [(strokeEvents_eq S evs s ids).2.2]
  exact runQ_preserves h _ s ids hp

/-- `body` calls only, with at most one refusal, which is then the last call. -/
def QCalls (calls : List Call) (err : Option GErr) : Prop :=
  match err with
  | none => ∀ c ∈ calls, (∃ i, c = .vertex (.ok i)) ∨ (∃ a b d, c = .tri a b d)
  | some e => ∃ pre, calls = pre ++ [.vertex (.error e)] ∧
      ∀ c ∈ pre, (∃ i, c = .vertex (.ok i)) ∨ (∃ a b d, c = .tri a b d)

/-- the condition both branches of `QCalls` spell out: only accepted vertices and triangles -/
abbrev OkTri (l : List Call) : Prop :=
  ∀ c ∈ l, (∃ i, c = .vertex (.ok i)) ∨ (∃ a b d, c = .tri a b d)

theorem QCalls.append {pre calls : List Call} {err : Option GErr} (hpre : OkTri pre)
    (h : QCalls calls err) : QCalls (pre ++ calls) err := by
  cases err with
  | none => exact fun c hc => (List.mem_append.mp hc).elim (hpre c) (h c)
  | some e =>
    obtain ⟨p, hp, hall⟩ := h
    exact ⟨pre ++ p, by rw [hp, List.append_assoc],
      fun c hc => (List.mem_append.mp hc).elim (hpre c) (hall c)⟩

theorem runQ_calls {σ : Type} (S : Sink σ) (core : List CReq) (s : σ) (ids : List Nat) :
    QCalls (runQ S core s ids).calls (runQ S core s ids).err := by
  fun_induction runQ S core s ids with
  | case1 => simp [QCalls]
  | case2 p r s ids s' i hv x ih =>
    exact QCalls.append (pre := [.vertex (.ok i)])
      (fun c hc => List.mem_singleton.mp hc ▸ Or.inl ⟨i, rfl⟩) ih
  | case3 p r s ids s' e hv => exact ⟨[], by simp, by simp⟩
  | case4 a b c r s ids x ih =>
    exact QCalls.append (pre := [.tri (resolve ids a) (resolve ids b) (resolve ids c)])
      (fun c hc => List.mem_singleton.mp hc ▸ Or.inr ⟨_, _, _, rfl⟩) ih

theorem strokeEvents_calls {σ : Type} (S : Sink σ) :
    ∀ (evs : List (List CReq)) (s : σ) (ids : List Nat),
      QCalls (strokeEvents S evs s ids).calls (strokeEvents S evs s ids).err := by
  intro evs s ids
  rw [(strokeEvents_eq S evs s ids).1, (strokeEvents_eq S evs s ids).2.1]
  exact runQ_calls S _ s ids

/-- `b` is what `begin_geometry` on buffers `b0` followed by vertex / triangle calls leads to:
the bookkeeping points at the end of `b0` and `b0` is still a prefix of both vectors. -/
structure Ext (b0 : Buffers) (b : BB) : Prop where
  fv : b.firstVertex = b0.vertices.length
  fi : b.firstIndex = b0.indices.length
  vs : ∃ l, b.buf.vertices = b0.vertices ++ l
  is : ∃ l, b.buf.indices = b0.indices ++ l

theorem Ext.ofBegin (b : BB) (hv : b.buf.vertices.length < idxMod) (hi : b.buf.indices.length < idxMod) :
    Ext b.buf b.begin :=
  ⟨by simp [BB.begin, Nat.mod_eq_of_lt hv], by simp [BB.begin, Nat.mod_eq_of_lt hi],
   ⟨[], by simp [BB.begin]⟩, ⟨[], by simp [BB.begin]⟩⟩

/-- the payload is pushed, accepted or not: `add_*_vertex` checks the length after the push; an accepted
vertex gets its position as id -/
theorem bbSink_vertex (b : BB) (p : Nat) : bbSink.vertex b p =
    ({ b with buf := { b.buf with vertices := b.buf.vertices ++ [p] } },
     if b.buf.vertices.length + 1 > b.cfg.max then .error .tooManyVertices else .ok b.buf.vertices.length) := by
  simp only [bbSink, BB.addVertex, List.length_append, List.length_singleton]
  split <;> simp

theorem bbSink_preserves_ext (b0 : Buffers) : bbSink.Preserves (Ext b0) := by
  refine ⟨fun b p h => ?_, fun b x y z h => ?_⟩
  · obtain ⟨fv, fi, ⟨l, hl⟩, is⟩ := h
    rw [bbSink_vertex]
    exact ⟨fv, fi, ⟨l ++ [p], by simp [hl]⟩, is⟩
  · obtain ⟨fv, fi, vs, ⟨l, hl⟩⟩ := h
    exact ⟨fv, fi, vs, ⟨l ++ [b.conv x, b.conv y, b.conv z], by simp [bbSink, BB.addTriangle, hl]⟩⟩

theorem Ext.abort {b0 : Buffers} {b : BB} (h : Ext b0 b) : b.abort.buf = b0 := by
  obtain ⟨fv, fi, ⟨l, hl⟩, ⟨m, hm⟩⟩ := h
  cases b0 with
  | mk v i =>
    simp only [BB.abort, fv, fi, hl, hm]
    simp

/-- the three pieces of `tessellateImpl_eq`: the call's result (a refusal of the builder comes before the core's own
error), the terminator call that goes with it, and what that call does to the builder -/
def callResult (err : Option GErr) (coreErr : Option TErr) : Option TErr :=
  match err with
  | some e => some (.geometryBuilder e)
  | none => coreErr

def termOf : Option TErr → Call
  | none => .endG
  | some _ => .abort

def Sink.finish {σ : Type} (S : Sink σ) : Option TErr → σ → σ
  | none => S.endG
  | some _ => S.abort

theorem tessellateImpl_eq {σ : Type} (S : Sink σ) (core : List CReq) (coreErr : Option TErr) (s : σ) :
    tessellateImpl S true core coreErr s =
      ⟨S.finish (callResult (runQ S core (S.begin s) []).err coreErr) (runQ S core (S.begin s) []).st,
       .begin :: (runQ S core (S.begin s) []).calls ++
         [termOf (callResult (runQ S core (S.begin s) []).err coreErr)],
       callResult (runQ S core (S.begin s) []).err coreErr⟩ := by
  unfold tessellateImpl
  generalize runQ S core (S.begin s) [] = x
  obtain ⟨_, _, _, err⟩ := x
  cases err <;> cases coreErr <;> rfl

theorem termOf_spec (res : Option TErr) :
    (res = none ∧ termOf res = .endG) ∨ (res ≠ none ∧ termOf res = .abort) := by
  cases res <;> simp [termOf]

theorem termOf_isTerminator (res : Option TErr) : (termOf res).isTerminator = true := by
  cases res <;> rfl

end Lyon.Tess
