/-
  C02 (`Props/C02f.lean`, `Props/C02g.lean`): the cuts of the two monotone tessellators as `Tiles`
  steps on a region `chain ∧ Op` whose opposite side `Op` is any predicate that contains the tiles,
  stated with WEAK side conditions so that they serve every valid sweep sequence and both
  tessellators.

  * `TriIn pos t q` / `TriInC pos t q` — `q` strictly inside / in the closed triangle `t` (ids, in
    the EMITTED vertex order) at the registered positions; `earTri_in`, `fanTri_inW` — the emitted
    order is the positively oriented one;
  * one ear (`ear_tilesN`), convex in the WEAK sense `0 ≤ sg c · wind x y z`, which is what lyon's ear
    test (`cross ≥ 0`) guarantees.  Three collinear chain vertices pass the test and a zero-area
    triangle is emitted (`basic_collinear_zero_area_witness`); as point sets nothing happens then (the
    open triangle is empty, the chain keeps its inner side), and it is not a separate case: the turn
    lemmas hold at a weakly convex corner (`cross_trans_mix_sg`).  So the point-set theorems need no
    general-position hypothesis.  A non-degenerate ear may have vertices ON a line it is weakly
    beside, its interior is still strictly beside it (`inTriS_side_weak`);
  * the same-side step `popLoop` (`pop_tilesW`);
  * the change of side: the fan over a weakly positive stack (`FanLeT`: stack vertices may lie on
    the chord `bot → cur`; `fan_tilesW`, ears popped from the top), in lyon's emission order, cut
    off along the diagonal `top → cur` (`fan_step_tilesW`: a degenerate top fan triangle still
    covers the diagonal it lies on, `diag_closed`).
-/
import LyonVerif.Lemmas.MonotoneTileGeom

set_option linter.unusedSectionVars false

namespace Lyon.C02f
open Lyon Lyon.Mono Lyon.C02 Lyon.C02c

variable {K : Type} [Field K] [LinearOrder K] [IsStrictOrderedRing K]

theorem wind_self_mid (a b : P K) : wind a a b = 0 := by simp only [wind]; geom_ring

/-- `q` lies strictly inside the emitted triangle `t` (vertex ids in emitted order) -/
def TriIn (pos : Nat → P K) (t : Tri) (q : P K) : Prop := InTri (pos t.1) (pos t.2.1) (pos t.2.2) q

/-- `q` lies in the closed emitted triangle `t` -/
def TriInC (pos : Nat → P K) (t : Tri) (q : P K) : Prop := InTriC (pos t.1) (pos t.2.1) (pos t.2.2) q

theorem earTri_in (pos : Nat → P K) (cur lp top : MV K) (hc : Good pos cur) (hlp : Good pos lp)
    (ht : Good pos top) (q : P K) :
    (TriIn pos (earTri cur lp top) q ↔ InTriS cur.left top.pos lp.pos cur.pos q) ∧
    (InTriSC cur.left top.pos lp.pos cur.pos q → TriInC pos (earTri cur lp top) q) := by
  unfold Good at hc hlp ht
  unfold earTri TriIn TriInC
  cases cur.left
  · simp only [Bool.false_eq_true, if_false]
    rw [← hc, ← hlp, ← ht, inTriS_false, inTriSC_false]
    exact ⟨Iff.rfl, id⟩
  · simp only [if_true]
    rw [← hc, ← hlp, ← ht, inTriS_true, inTriSC_true]
    exact ⟨Iff.rfl, id⟩

/-- the fan triangles over a TOP-FIRST stack, top pair first -/
def fanTop {α : Type} [Scalar α] (cur : MV α) : List (MV α) → List Tri
  | y :: x :: r => fanTri cur x y :: fanTop cur (x :: r)
  | _ => []

theorem fanTris_snoc {α : Type} [Scalar α] (cur : MV α) (l : List (MV α)) (x y : MV α) :
    fanTris cur (l ++ [x, y]) = fanTris cur (l ++ [x]) ++ [fanTri cur x y] := by
  induction l with
  | nil => simp [fanTris]
  | cons a r ih =>
    cases r with
    | nil => simp [fanTris]
    | cons b r' =>
      simp only [List.cons_append, fanTris] at ih ⊢
      rw [ih]

/-- lyon emits the fan bottom pair first: the reverse of the pop order -/
theorem fanTris_reverse {α : Type} [Scalar α] (cur : MV α) (st : List (MV α)) :
    fanTris cur st.reverse = (fanTop cur st).reverse := by
  induction st with
  | nil => simp [fanTris, fanTop]
  | cons y r ih =>
    cases r with
    | nil => simp [fanTris, fanTop]
    | cons x r' =>
      rw [List.reverse_cons, List.reverse_cons, List.append_assoc]
      show fanTris cur (r'.reverse ++ [x, y]) = _
      rw [fanTris_snoc, ← List.reverse_cons, ih]
      simp [fanTop]

theorem last_le (l : List (P K)) (b : P K) (hs : l.Pairwise (fun a b => After a b)) (hl : l.getLast? = some b) :
    ∀ a ∈ l, AfterEq a b := rel_last hs hl

theorem sortedP_reverse (l : List (P K)) (hs : l.Pairwise (fun a b => After a b)) : SortedP l.reverse := by
  unfold SortedP
  rw [List.pairwise_reverse]
  exact hs

/-- a point `q` of the segment `y → d` lies in the closed triangle `(x, y, d)` when
that is weakly convex at `y`: the cut line of the fan is covered by the top fan triangle -/
theorem diag_closed (c : Bool) {x y d q : P K} (hyx : After y x) (hqy : AfterEq q y)
    (hdq : After d q) (hconv : 0 ≤ sg c * wind x y d) (h0 : wind y d q = 0) : InTriSC c x y d q := by
  rcases hqy with e | hqy
  · refine ⟨by rw [e, wind_self_right]; simp, by rw [h0]; simp, ?_⟩
    have : wind d x q = wind x y d := by rw [e, wind_cyc y d x, wind_cyc x y d]
    rw [this]; exact hconv
  have hu := after_hv hyx
  have hr := after_hv hqy
  have hr' := after_hv hdq
  have e1 := wind_cross_c x y q
  have e2 : wind y d q = (q - y).cross (d - q) := by simp only [wind]; geom_ring
  have e3 : wind d x q = (d - q).cross (y - x) := by
    have : wind d x q = (d - q).cross (y - x) - wind y d q := by simp only [wind]; geom_ring
    rw [this, h0, sub_zero]
  -- `q − y` and `d − q` are parallel; their cross products with `y − x` add up to `wind x y d`
  have hsum : sg c * wind x y d = sg c * (d - q).cross (y - x) + sg c * (q - y).cross (y - x) := by
    rw [bary_sum x y d q, h0, e1, e3]; ring
  rw [hsum] at hconv
  rw [e2] at h0
  refine ⟨?_, by rw [e2, h0]; simp, ?_⟩
  · rw [e1]
    by_contra hn
    have a1 : 0 < sg c * (y - x).cross (q - y) := by rw [cross_flip, mul_neg]; linarith [not_le.mp hn]
    have := cross_trans_mix_sg c hr' hu hr (Or.inl ⟨by linarith [not_le.mp hn], a1⟩)
    rw [cross_flip, h0] at this
    simp at this
  · rw [e3]
    by_contra hn
    have a1 : 0 < sg c * (y - x).cross (d - q) := by rw [cross_flip, mul_neg]; linarith [not_le.mp hn]
    have := cross_trans_mix_sg c hr hu hr' (Or.inl ⟨by linarith [not_le.mp hn], a1⟩)
    rw [h0] at this
    simp at this

/-- **one ear cut**: `y` sticks out of `x → z` weakly on side `c` (a collinear `y` included: then the open
ear is empty and the chain keeps its inner side); the closed ear that covers a point of the region is non-degenerate -/
theorem ear_tilesN (c : Bool) (A B : List (P K)) {x y z : P K} (Op : P K → Prop) (hyx : After y x) (hzy : After z y)
    (hconv : 0 ≤ sg c * wind x y z) (hA : SortedP (A ++ [x])) (hB : SortedP (z :: B))
    (hO : ∀ q, InTriS c x y z q → Op q) :
    Tiles (fun q => ChainIn c (A ++ x :: y :: z :: B) q ∧ Op q) (fun (_ : Unit) => InTriS c x y z)
      (fun _ q => InTriSC c x y z q ∧ 0 < sg c * wind x y z) [()] (fun q => ChainIn c (A ++ x :: z :: B) q ∧ Op q) := by
  refine ⟨?_, ?_, ?_, by simp, ?_⟩
  · intro _ _ q hq
    exact ⟨ear_chain_tri c A B hyx hzy q hq, hO q hq⟩
  · rintro q ⟨h1, h2⟩
    exact ⟨ear_chain_sub c A B hyx hzy hconv q h1, h2⟩
  · rintro _ _ q hq ⟨h1, _⟩
    exact ear_chain_apart c A B hyx hzy hA hB q hq h1
  · rintro q ⟨h1, h2⟩
    rcases ear_chain_cover c A B hyx hzy hconv q h1 with g | g
    · exact Or.inl ⟨g, h2⟩
    · exact Or.inr ⟨(), by simp, g⟩

/-- the same-side step with an arbitrary opposite side that contains every possible ear: every popped ear
passed lyon's test, which IS the weak convexity `ear_tilesN` asks for -/
theorem pop_tilesW (pos : Nat → P K) (cur : MV K) (B : List (P K)) (Op : P K → Prop)
    (hcur : Good pos cur) (hB : SortedP (cur.pos :: B)) (st : List (MV K)) (lp : MV K)
    (hgood : ∀ v ∈ lp :: st, Good pos v)
    (hsort : ((lp :: st).map (·.pos)).Pairwise (fun a b => After a b))
    (hcs : ∀ v ∈ lp :: st, After cur.pos v.pos)
    (hO : ∀ u ∈ lp :: st, ∀ w ∈ lp :: st, After w.pos u.pos → ∀ q, InTriS cur.left u.pos w.pos cur.pos q → Op q) :
    Tiles (fun q => ChainIn cur.left (((lp :: st).map (·.pos)).reverse ++ cur.pos :: B) q ∧ Op q)
      (TriIn pos) (TriInC pos) (popLoop cur lp st).2
      (fun q => ChainIn cur.left (((popLoop cur lp st).1.map (·.pos)).reverse ++ cur.pos :: B) q ∧ Op q) := by
  induction st generalizing lp with
  | nil =>
    simp only [popLoop]
    exact Tiles.refl _ _ _
  | cons top rest ih =>
    simp only [popLoop]
    split
    · rename_i hconvb
      have hsort' := List.Pairwise.of_cons hsort
      have ih' := ih top (fun v hv => hgood v (List.mem_cons_of_mem _ hv)) hsort'
        (fun v hv => hcs v (List.mem_cons_of_mem _ hv))
        (fun u hu w hw => hO u (List.mem_cons_of_mem _ hu) w (List.mem_cons_of_mem _ hw))
      have hyx : After lp.pos top.pos := List.rel_of_pairwise_cons hsort (by simp)
      have hA : SortedP ((rest.map (·.pos)).reverse ++ [top.pos]) := by
        have := sortedP_reverse _ hsort'
        simpa using this
      have hin := earTri_in pos cur lp top hcur (hgood lp (by simp)) (hgood top (by simp))
      have step := (ear_tilesN cur.left ((rest.map (·.pos)).reverse) B Op hyx (hcs lp (by simp))
        ((earConvex_iff cur lp top).mp hconvb) hA hB (hO top (by simp) lp (by simp) hyx)).map
        (fun _ => earTri cur lp top) (fun _ _ q => (hin q).1) (fun _ _ q g => (hin q).2 g.1)
      have e1 : ((lp :: top :: rest).map (·.pos)).reverse ++ cur.pos :: B =
          (rest.map (·.pos)).reverse ++ top.pos :: lp.pos :: cur.pos :: B := by simp
      have e2 : ((top :: rest).map (·.pos)).reverse ++ cur.pos :: B =
          (rest.map (·.pos)).reverse ++ top.pos :: cur.pos :: B := by simp
      rw [e1]
      rw [e2] at ih'
      exact step.trans ih'
    · exact Tiles.refl _ _ _

/-- a fan triangle over a weakly positive pair: the emitted order is the positively oriented one; a degenerate
one has no interior, whichever way `fanTri` orders it, and its closed triple lies on the common line -/
theorem fanTri_inW (pos : Nat → P K) (c : Bool) (cur a b : MV K) (hc : Good pos cur) (ha : Good pos a)
    (hb : Good pos b) (hpos : 0 ≤ sg c * wind a.pos b.pos cur.pos) (q : P K) :
    (TriIn pos (fanTri cur a b) q ↔ InTriS c a.pos b.pos cur.pos q) ∧
    (InTriSC c a.pos b.pos cur.pos q → TriInC pos (fanTri cur a b) q) := by
  unfold Good at hc ha hb
  -- the emitted order is that of a side `c'` on which the triple is weakly positive
  obtain ⟨c', h', e1, e2⟩ : ∃ c', 0 ≤ sg c' * wind a.pos b.pos cur.pos ∧
      (TriIn pos (fanTri cur a b) q ↔ InTriS c' a.pos b.pos cur.pos q) ∧
      (TriInC pos (fanTri cur a b) q ↔ InTriSC c' a.pos b.pos cur.pos q) := by
    rcases fanTri_cases cur a b with ⟨e, h⟩ | ⟨e, h⟩
    · refine ⟨true, by simpa [sg] using h, ?_⟩
      rw [e, inTriS_true, inTriSC_true, hc, ha, hb]; exact ⟨Iff.rfl, Iff.rfl⟩
    · refine ⟨false, by rw [wind_swap] at h; simp only [sg, Bool.false_eq_true, if_false]; linarith, ?_⟩
      rw [e, inTriS_false, inTriSC_false, hc, ha, hb]; exact ⟨Iff.rfl, Iff.rfl⟩
  rw [e1, e2]
  by_cases hcc : c' = c
  · rw [hcc]; exact ⟨Iff.rfl, id⟩
  · -- the other order: the triple is flat, there is no interior, and the closed triple is the common line
    have hn : c' = !c := Bool.eq_not_of_ne hcc
    rw [hn, sg_not] at h'
    have hs := bary_sum a.pos b.pos cur.pos q
    refine ⟨⟨fun h => ?_, fun h => ?_⟩, fun ⟨h1, h2, h3⟩ => ?_⟩
    · have := inTriS_pos h; rw [hn, sg_not] at this; linarith
    · have := inTriS_pos h; linarith
    · rw [hs, mul_add, mul_add] at hpos h'
      rw [hn]
      simp only [InTriSC, sg_not, neg_mul]
      exact ⟨by linarith, by linarith, by linarith⟩

/-- the fan alone: its triangles, popped from the top, cut the polygon between the stack (with `cur`) and the chord
`bot → cur` down to the empty sliver between the chord and itself (`fan_rest_empty`) -/
theorem fan_tilesW (pos : Nat → P K) (c : Bool) (cur bot : MV K) (O : List (P K)) (st : List (MV K))
    (hgood : ∀ v ∈ st, Good pos v) (hcur : Good pos cur) (hlast : st.getLast? = some bot)
    (hsort : (st.map (·.pos)).Pairwise (fun a b => After a b))
    (hcs : ∀ v ∈ st, After cur.pos v.pos)
    (hside : ∀ v ∈ st, v.pos = bot.pos ∨ 0 ≤ sg c * wind bot.pos v.pos cur.pos)
    (hfan : FanLeT c cur.pos (st.map (·.pos))) :
    Tiles (InPoly c ((st.map (·.pos)).reverse ++ [cur.pos]) (bot.pos :: cur.pos :: O)) (TriIn pos) (TriInC pos)
      (fanTop cur st) (InPoly c [bot.pos, cur.pos] (bot.pos :: cur.pos :: O)) := by
  induction st with
  | nil => simp at hlast
  | cons y r ih =>
    cases r with
    | nil =>
      simp only [List.getLast?_singleton, Option.some.injEq] at hlast
      subst hlast
      simp only [fanTop, List.map_cons, List.map_nil, List.reverse_cons, List.reverse_nil, List.nil_append,
        List.cons_append]
      exact Tiles.refl _ _ _
    | cons x r' =>
      have hlast' : (x :: r').getLast? = some bot := by rw [List.getLast?_cons_cons] at hlast; exact hlast
      have hsort' := List.Pairwise.of_cons hsort
      have ih' := ih (fun v hv => hgood v (List.mem_cons_of_mem _ hv)) hlast' hsort'
        (fun v hv => hcs v (List.mem_cons_of_mem _ hv)) (fun v hv => hside v (List.mem_cons_of_mem _ hv)) hfan.2
      have hyx : After y.pos x.pos := List.rel_of_pairwise_cons hsort (by simp)
      have hdy : After cur.pos y.pos := hcs y (by simp)
      have hxb : AfterEq x.pos bot.pos :=
        last_le ((x :: r').map (·.pos)) bot.pos hsort' (by rw [List.getLast?_map, hlast']; rfl) x.pos (by simp)
      -- the chord `bot → cur` has every stack vertex weakly on the stack's side
      have hch : ∀ v ∈ y :: x :: r', 0 ≤ sg (!c) * wind bot.pos cur.pos v.pos := by
        intro v hv
        rw [sg_not, wind_swap_bc, neg_mul_neg]
        rcases hside v hv with e | e
        · rw [e, wind_self_mid]; simp
        · exact e
      have hcb : After cur.pos bot.pos := after_trans_afterEq (after_trans hdy hyx) hxb
      have hA : SortedP ((r'.map (·.pos)).reverse ++ [x.pos]) := by
        have := sortedP_reverse _ hsort'
        simpa using this
      have hin := fanTri_inW pos c cur x y hcur (hgood x (by simp)) (hgood y (by simp)) hfan.1
      have step' := (ear_tilesN c ((r'.map (·.pos)).reverse) [] (ChainIn (!c) (bot.pos :: cur.pos :: O)) hyx hdy hfan.1 hA
        (by simp [SortedP]) (fun q hq => Or.inl ⟨⟨Or.inr (after_trans_afterEq (inTriS_after hyx hdy hq).1 hxb),
          (inTriS_after hyx hdy hq).2⟩, inTriS_side_weak hcb hq (hch x (by simp)) (hch y (by simp))
            (by rw [wind_self_right]; simp)⟩)).map
        (fun _ => fanTri cur x y) (fun _ _ q => (hin q).1) (fun _ _ q g => (hin q).2 g.1)
      have e1 : ((y :: x :: r').map (·.pos)).reverse ++ [cur.pos] =
          (r'.map (·.pos)).reverse ++ x.pos :: y.pos :: cur.pos :: [] := by simp
      have e2 : ((x :: r').map (·.pos)).reverse ++ [cur.pos] = (r'.map (·.pos)).reverse ++ x.pos :: cur.pos :: [] := by
        simp
      rw [e1]
      rw [e2] at ih'
      exact step'.trans ih'

/-- nothing lies strictly on both sides of the chord `bot → d` -/
theorem fan_rest_empty (c : Bool) (F' : List (P K)) {bot d : P K} (hO : SortedP (d :: F')) (q : P K) :
    ¬ InPoly c [bot, d] (bot :: d :: F') q := by
  rintro ⟨h1, h2⟩
  rcases h1 with ⟨⟨_, hdq⟩, hin⟩ | g
  · rcases h2 with ⟨_, hin'⟩ | g
    · rw [sg_not] at hin'; linarith
    · exact not_after_of_afterEq (chainIn_lower (!c) d F' q hO g) hdq
  · exact absurd g (chainIn_single c d q)

/-- the fan polygon `S' ++ [top, d]` over `bot → d` does not meet what lies beyond the diagonal `top → d` -/
theorem split_apart0 (c : Bool) (S' Fc F' : List (P K)) {top bot d : P K} (hS : SortedP (S' ++ [top]))
    (hFc : SortedP (top :: Fc)) (hO : SortedP (d :: F')) (q : P K)
    (hu : InPoly c (S' ++ top :: d :: []) (bot :: d :: F') q) : ¬ InPoly c (top :: Fc) (top :: d :: F') q := by
  rintro ⟨hp1, hp2⟩
  rcases (chainIn_append c S' top [d] q).mp hu.1 with g | g
  · exact not_after_of_afterEq (chainIn_lower c top Fc q hFc hp1) (chainIn_upper c _ q top hS (by simp) g)
  · exact fan_rest_empty c F' hO q ⟨g, hp2⟩

/-- what lies beyond the diagonal `top → d` is part of the polygon before the cut; the stack's top may lie on
the line `bot → d` -/
theorem split_sub_PW (c : Bool) (S' Fc F' : List (P K)) {top bot d : P K} (hdt : After d top)
    (htb : top = bot ∨ (After top bot ∧ 0 ≤ sg c * wind bot top d)) (q : P K)
    (h : InPoly c (top :: Fc) (top :: d :: F') q) : InPoly c (S' ++ top :: Fc) (bot :: d :: F') q := by
  refine ⟨(chainIn_append c S' top Fc q).mpr (Or.inr h.1), ?_⟩
  rcases htb with e | ⟨htb, hw⟩
  · rw [← e]; exact h.2
  rcases h.2 with ⟨⟨hqt, hdq⟩, hin⟩ | g
  · left
    refine ⟨⟨Or.inr (afterEq_trans_after hqt htb), hdq⟩, ?_⟩
    rw [sg_not] at hin ⊢
    have := turn_outerW c (after_trans hdt htb) hdt hdq hw (by linarith)
    linarith
  · exact Or.inr g

/-- **change of side** with an arbitrary continuation `Fc` of the stack's chain after the stack's top;
`hU`: a point of the diagonal's span that is strictly on the inner side of the diagonal `top → cur`
is on the inner side of that continuation.  Tile the fan polygon alone (`fan_tilesW`, reversed into emission order),
set the rest of the polygon beside it (`Tiles.frame`, disjoint by `split_apart0`), glue along the diagonal
(`Tiles.rebase`: `split_sub_PW` for `⊆`, `diag_closed` for the points on the diagonal) -/
theorem fan_step_tilesW (pos : Nat → P K) (c : Bool) (cur bot topv : MV K) (rest : List (MV K))
    (Fc F' : List (P K))
    (hgood : ∀ v ∈ topv :: rest, Good pos v) (hcur : Good pos cur)
    (hlast : (topv :: rest).getLast? = some bot)
    (hsort : ((topv :: rest).map (·.pos)).Pairwise (fun a b => After a b))
    (hcs : ∀ v ∈ topv :: rest, After cur.pos v.pos)
    (hside : ∀ v ∈ topv :: rest, v.pos = bot.pos ∨ 0 ≤ sg c * wind bot.pos v.pos cur.pos)
    (hfan : FanLeT c cur.pos ((topv :: rest).map (·.pos)))
    (hFc : SortedP (topv.pos :: Fc)) (hO : SortedP (cur.pos :: F'))
    (hU : ∀ q, Span topv.pos cur.pos q → 0 < sg c * wind topv.pos cur.pos q → ChainIn c (topv.pos :: Fc) q) :
    Tiles (InPoly c (((topv :: rest).map (·.pos)).reverse ++ Fc) (bot.pos :: cur.pos :: F'))
      (TriIn pos) (TriInC pos) (fanTris cur (topv :: rest).reverse)
      (InPoly c (topv.pos :: Fc) (topv.pos :: cur.pos :: F')) := by
  have hdt : After cur.pos topv.pos := hcs topv (by simp)
  have t1 := fan_tilesW pos c cur bot F' (topv :: rest) hgood hcur hlast hsort hcs hside hfan
  have t2 := t1.reverse
  rw [← fanTris_reverse] at t2
  have eS : ((topv :: rest).map (·.pos)).reverse = (rest.map (·.pos)).reverse ++ [topv.pos] := by simp
  have hS : SortedP ((rest.map (·.pos)).reverse ++ [topv.pos]) := by
    rw [← eS]; exact sortedP_reverse _ hsort
  rw [eS, List.append_assoc] at t2 ⊢
  simp only [List.singleton_append] at t2 ⊢
  have t3 := t2.frame (InPoly c (topv.pos :: Fc) (topv.pos :: cur.pos :: F'))
    (split_apart0 c _ Fc F' hS hFc hO)
  have htb : topv.pos = bot.pos ∨ (After topv.pos bot.pos ∧ 0 ≤ sg c * wind bot.pos topv.pos cur.pos) := by
    rcases hside topv (by simp) with e | e
    · exact Or.inl e
    · rcases last_le _ bot.pos hsort (by rw [List.getLast?_map, hlast]; rfl) topv.pos (by simp) with g | g
      · exact Or.inl g
      · exact Or.inr ⟨g, e⟩
  refine t3.rebase ?_ ?_ ?_
  · rintro q (g | g)
    · -- the fan polygon is part of the remaining polygon
      refine ⟨?_, g.2⟩
      have h1 := g.1
      rw [chainIn_append] at h1 ⊢
      rcases h1 with h1 | ⟨hsp, hin⟩ | h1
      · exact Or.inl h1
      · exact Or.inr (hU q hsp hin)
      · exact absurd h1 (chainIn_single c _ q)
    · exact split_sub_PW c _ Fc F' hdt htb q g
  · -- covering: the fan polygon, the new remaining polygon, or the diagonal
    rintro q ⟨h1, h2⟩
    rw [chainIn_append] at h1
    rcases h1 with g | g
    · exact Or.inl (Or.inl ⟨(chainIn_append c _ topv.pos [cur.pos] q).mpr (Or.inl g), h2⟩)
    rcases h2 with ⟨⟨hqb, hdq⟩, hin2⟩ | g2
    · have hqt := chainIn_lower c topv.pos Fc q hFc g
      rcases lt_trichotomy 0 (sg c * wind topv.pos cur.pos q) with t | t | t
      · exact Or.inl (Or.inl ⟨(chainIn_append c _ topv.pos [cur.pos] q).mpr (Or.inr (Or.inl ⟨⟨hqt, hdq⟩, t⟩)),
          Or.inl ⟨⟨hqb, hdq⟩, hin2⟩⟩)
      · right
        cases rest with
        | nil =>
          exfalso
          simp only [List.getLast?_singleton, Option.some.injEq] at hlast
          rw [← hlast, sg_not] at hin2
          linarith
        | cons xv r =>
          have htx : After topv.pos xv.pos := List.rel_of_pairwise_cons hsort (by simp)
          have hz : wind topv.pos cur.pos q = 0 :=
            (mul_eq_zero.mp t.symm).resolve_left (sg_ne_zero _)
          refine ⟨fanTri cur xv topv, ?_, ?_⟩
          · rw [fanTris_reverse]; simp [fanTop]
          · exact (fanTri_inW pos c cur xv topv hcur (hgood xv (by simp)) (hgood topv (by simp)) hfan.1 q).2
              (diag_closed c htx hqt hdq hfan.1 hz)
      · exact Or.inl (Or.inr ⟨g, Or.inl ⟨⟨hqt, hdq⟩, by rw [sg_not]; linarith⟩⟩)
    · exact Or.inl (Or.inr ⟨g, Or.inr g2⟩)
  · intro q
    constructor
    · intro h; exact Or.inr h
    · rintro (h | h)
      · exact absurd h (fan_rest_empty c F' hO q)
      · exact h

end Lyon.C02f
