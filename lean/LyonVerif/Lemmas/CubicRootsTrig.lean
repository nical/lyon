/-
  The trigonometric (three real roots) branch of `utils::cubic_polynomial_roots`
  (`Roots.cardano3` of `Model/Geom/Intersect.lean`), over an ordered field with `sqrt`, `cos`,
  `acos`, `π` as parameters (`Transc K`); the laws used (`CosLaws`) are discharged for Mathlib's real
  functions in `Props/C12Real.lean`, the property's theorems are in `Props/C12d.lean`.
  The three cosines at angles `2π/3` apart sum to `0`, their pairwise products to `−3/4`, and all three
  solve `4u³ − 3u = cos 3x`; so they are pairwise distinct unless `cos 3x = ±1` (`sep_of_vieta`), and with
  `m² = −δ₀`, `m³ = r`, `cos θ = δ₁/r` the values `2m·cos(θ/3 + 2kπ/3)` solve `y³ + 3δ₀y − 2δ₁ = 0`.
-/
import LyonVerif.Lemmas.IxField
import LyonVerif.Lemmas.CubicRootsAlg

set_option linter.unusedSectionVars false

namespace Lyon.CubicRoots
open Lyon Scalar Lyon.Ix
variable {K : Type} [Field K] [LinearOrder K] [IsStrictOrderedRing K] [Transc K]

/-- the laws of `cos`, `acos`, `π` used by the three-real-roots branch (no `sin` needed) -/
structure CosLaws (K : Type) [Field K] [LinearOrder K] [IsStrictOrderedRing K] [Transc K] : Prop where
  cos_add_sub : ∀ x y : K, Transc.cos (x + y) + Transc.cos (x - y) = 2 * Transc.cos x * Transc.cos y
  cos_zero : Transc.cos (0 : K) = 1
  cos_two_pi_div_three : Transc.cos (2 * Transc.pi / 3 : K) = -1 / 2
  cos_periodic : ∀ x : K, Transc.cos (x + 2 * Transc.pi) = Transc.cos x
  cos_acos : ∀ x : K, -1 ≤ x → x ≤ 1 → Transc.cos (Transc.acos x) = x

namespace CosLaws
variable (L : CosLaws K)
include L

theorem cos_double (x : K) : Transc.cos (x + x) = 2 * Transc.cos x ^ 2 - 1 := by
  have h := L.cos_add_sub x x
  rw [sub_self, L.cos_zero] at h
  linear_combination h

theorem cos_three_mul (x : K) : Transc.cos (3 * x) = 4 * Transc.cos x ^ 3 - 3 * Transc.cos x := by
  have h := L.cos_add_sub (x + x) x
  rw [show x + x + x = 3 * x by ring, show x + x - x = x by ring, L.cos_double] at h
  linear_combination h

theorem cos_four_pi_div_three : Transc.cos (4 * Transc.pi / 3 : K) = -1 / 2 := by
  have h := L.cos_double (2 * Transc.pi / 3 : K)
  rw [show (2 * Transc.pi / 3 + 2 * Transc.pi / 3 : K) = 4 * Transc.pi / 3 by ring,
    L.cos_two_pi_div_three] at h
  rw [h]; norm_num

theorem cos_sub_third (x : K) :
    Transc.cos (x - 2 * Transc.pi / 3) = Transc.cos (x + 4 * Transc.pi / 3) := by
  rw [← L.cos_periodic (x - 2 * Transc.pi / 3)]
  congr 1; ring

theorem thirds_sum (x : K) :
    Transc.cos x + Transc.cos (x + 2 * Transc.pi / 3) + Transc.cos (x + 4 * Transc.pi / 3) = 0 := by
  have h := L.cos_add_sub x (2 * Transc.pi / 3)
  rw [L.cos_sub_third, L.cos_two_pi_div_three] at h
  linear_combination h

theorem thirds_pairs (x : K) :
    Transc.cos x * Transc.cos (x + 2 * Transc.pi / 3) + Transc.cos x * Transc.cos (x + 4 * Transc.pi / 3)
      + Transc.cos (x + 2 * Transc.pi / 3) * Transc.cos (x + 4 * Transc.pi / 3) = -3 / 4 := by
  have hs := L.thirds_sum x
  have h := L.cos_add_sub (x + 2 * Transc.pi / 3) (x - 2 * Transc.pi / 3)
  rw [show x + 2 * Transc.pi / 3 + (x - 2 * Transc.pi / 3) = x + x by ring,
    show x + 2 * Transc.pi / 3 - (x - 2 * Transc.pi / 3) = 4 * Transc.pi / 3 by ring,
    L.cos_double, L.cos_four_pi_div_three, L.cos_sub_third] at h
  set c := Transc.cos x
  set u1 := Transc.cos (x + 2 * Transc.pi / 3)
  set u2 := Transc.cos (x + 4 * Transc.pi / 3)
  linear_combination (-1 / 2 : K) * h + c * hs

theorem thirds_triple (x : K) :
    4 * Transc.cos (x + 2 * Transc.pi / 3) ^ 3 - 3 * Transc.cos (x + 2 * Transc.pi / 3) = Transc.cos (3 * x)
    ∧ 4 * Transc.cos (x + 4 * Transc.pi / 3) ^ 3 - 3 * Transc.cos (x + 4 * Transc.pi / 3) = Transc.cos (3 * x) := by
  constructor
  · rw [← L.cos_three_mul, ← L.cos_periodic (3 * x)]; congr 1; ring
  · rw [← L.cos_three_mul, ← L.cos_periodic (3 * x), ← L.cos_periodic (3 * x + 2 * Transc.pi)]; congr 1; ring

theorem thirds_distinct (x : K) (hw : Transc.cos (3 * x) ^ 2 ≠ 1) :
    Transc.cos x ≠ Transc.cos (x + 2 * Transc.pi / 3)
    ∧ Transc.cos x ≠ Transc.cos (x + 4 * Transc.pi / 3)
    ∧ Transc.cos (x + 2 * Transc.pi / 3) ≠ Transc.cos (x + 4 * Transc.pi / 3) := by
  have e1 := L.thirds_sum x
  have e2 := L.thirds_pairs x
  have t0 := (L.cos_three_mul x).symm
  obtain ⟨t1, t2⟩ := L.thirds_triple x
  refine ⟨sep_of_vieta _ _ _ _ e1 e2 t0 hw, ?_, ?_⟩
  · exact sep_of_vieta (Transc.cos x) (Transc.cos (x + 4 * Transc.pi / 3))
      (Transc.cos (x + 2 * Transc.pi / 3)) _ (by linear_combination e1) (by linear_combination e2) t0 hw
  · exact sep_of_vieta (Transc.cos (x + 2 * Transc.pi / 3)) (Transc.cos (x + 4 * Transc.pi / 3))
      (Transc.cos x) _ (by linear_combination e1) (by linear_combination e2) t1 hw

end CosLaws

/-- In the branch `δ₀³ + δ₁² < 0` (as the code tests it): `δ₀ < 0`, the radicand `−δ₀·δ₀·δ₀` of the
code is positive, `m = sqrt(−δ₀)` and `r = sqrt(−δ₀³)` satisfy `m² = −δ₀`, `m³ = r > 0`, and the
argument `δ₁/r` of `acos` is strictly inside `(−1, 1)`. -/
theorem trig_regime (hs0 : ∀ x : K, 0 ≤ x → 0 ≤ Transc.sqrt x)
    (hsq : ∀ x : K, 0 ≤ x → Transc.sqrt x * Transc.sqrt x = x)
    (d0 d1 : K) (hD : d0 * d0 * d0 + d1 * d1 < 0) :
    d0 < 0 ∧ Transc.sqrt (-d0) * Transc.sqrt (-d0) = -d0 ∧ 0 < Transc.sqrt (-d0)
      ∧ Transc.sqrt (-d0) ^ 3 = Transc.sqrt (-d0 * d0 * d0) ∧ 0 < Transc.sqrt (-d0 * d0 * d0)
      ∧ -1 < d1 / Transc.sqrt (-d0 * d0 * d0) ∧ d1 / Transc.sqrt (-d0 * d0 * d0) < 1 := by
  have hd1 : 0 ≤ d1 * d1 := mul_self_nonneg d1
  have hneg : d0 < 0 := by
    by_contra h
    rw [not_lt] at h
    linarith [mul_nonneg (mul_nonneg h h) h]
  have hn : 0 < -d0 * d0 * d0 := by linarith
  have hm2 := hsq (-d0) (neg_nonneg.mpr hneg.le)
  have hmpos := sqrt_pos_of_pos hs0 hsq (neg_pos.mpr hneg)
  have hr2 := hsq _ hn.le
  have hrpos := sqrt_pos_of_pos hs0 hsq hn
  set m := Transc.sqrt (-d0)
  set r := Transc.sqrt (-d0 * d0 * d0)
  have hmr : m ^ 3 = r := (sqrt_eq_of_sq hs0 hsq (pow_pos hmpos 3).le
    (by linear_combination (m ^ 4 + m ^ 2 * (-d0) + d0 * d0) * hm2)).symm
  obtain ⟨hlo, hhi⟩ := abs_lt.mp (abs_lt_of_sq_lt_sq (a := d1) (by rw [pow_two, pow_two, hr2]; linarith) hrpos.le)
  refine ⟨hneg, hm2, hmpos, hmr, hrpos, ?_, ?_⟩
  · rw [lt_div_iff₀ hrpos]; linarith
  · rw [div_lt_one hrpos]; exact hhi

/-- non-vacuity: `y³ − 3y` (roots `0, ±√3`): `δ₀ = −1`, `δ₁ = 0` -/
example : (-1:ℚ) * (-1) * (-1) + 0 * 0 < 0 := by norm_num

/-- if `m² = −δ₀`, `m³ = r ≠ 0` and `cos 3φ = δ₁ / r` (`u = cos φ`, triple angle), then `2·m·u` is a root of
the depressed cubic -/
theorem trig_root (d0 d1 m r u : K) (hm : m * m = -d0) (hmr : m ^ 3 = r) (hr : r ≠ 0)
    (hu : 4 * u ^ 3 - 3 * u = d1 / r) : (2 * m * u) ^ 3 + 3 * d0 * (2 * m * u) - 2 * d1 = 0 := by
  have hr' : d1 / r * r = d1 := div_mul_cancel₀ _ hr
  linear_combination (6 * m * u) * hm + (2 * m ^ 3) * hu + (2 * (d1 / r)) * hmr + 2 * hr'

theorem frac13_eq : (Roots.frac13 : K) = 1 / 3 := by
  simp only [Roots.frac13, geom, Nat.cast_ofNat, Nat.cast_one]

theorem theta_eq (d0 d1 : K) : Roots.theta d0 d1 = Transc.acos (d1 / Transc.sqrt (-d0 * d0 * d0)) := rfl

/-- the list returned by the trigonometric branch: angles `θ/3`, `θ/3 + 2π/3`, `θ/3 + 4π/3`
(the model writes `(θ + 2π)·(1/3)`, `(θ + 4π)·(1/3)`: the same field elements) -/
theorem cardano3_eq (bn d0 d1 : K) :
    Roots.cardano3 bn d0 d1 =
      [2 * Transc.sqrt (-d0) * Transc.cos (Roots.theta d0 d1 / 3) - bn / 3,
       2 * Transc.sqrt (-d0) * Transc.cos (Roots.theta d0 d1 / 3 + 2 * Transc.pi / 3) - bn / 3,
       2 * Transc.sqrt (-d0) * Transc.cos (Roots.theta d0 d1 / 3 + 4 * Transc.pi / 3) - bn / 3] := by
  unfold Roots.cardano3 Roots.twoSqrt
  rw [frac13_eq, sc_two_eq, sc_four_eq]
  simp only [mul_one_div, add_div]

end Lyon.CubicRoots
