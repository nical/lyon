/-
  The geometry of `fill_circle`'s triangles, over an ordered field with `cos`, `sin`, `π` as parameters
  (`Transc K`).  The laws used are collected in `CircTrig` (discharged for Mathlib's real functions in
  `Props/C03Real.lean`); what concerns a single chord needs only the three of `TrigAdd`.  The arc flattening
  (C09) has a law structure of its own, `Flat.TrigLaws` (Lemmas/FlattenTolArc.lean: the same three laws, then
  parity, `cos` antitone on `[0, π]` and three laws of `acos`); there is no bridge between the two.

  The mid vertex of the model IS at the mid angle `(a0 + a1)·0.5`, so the leaf edges of a border call are the chords
  of a regular subdivision (`leafEdges_regular`) and the boundary of the circle mesh is the inscribed regular
  `4·2ⁿ`-gon `V k = c + r·(cos kδ, sin kδ)`, `δ = π/(2·2ⁿ)` (`mem_circleEdges_iff`).  A chord of half-angle `η` is at
  distance `r·cos η` from the centre (`chord_inner`), and a mesh of non-degenerate
  triangles with vertices on the circle lies in the disc (`Good.covered_in_disc`).
-/
import LyonVerif.Lemmas.CircleCoverMesh
import LyonVerif.Lemmas.TriAlgebra

set_option linter.unusedSectionVars false

namespace Lyon.C03c
open Lyon Lyon.Shapes Lyon.C03

variable {K : Type} [Field K] [LinearOrder K] [IsStrictOrderedRing K] [Transc K]

/-- the laws of `cos`, `sin`, `π` used by the circle theorems -/
structure CircTrig (K : Type) [Field K] [LinearOrder K] [IsStrictOrderedRing K] [Transc K] : Prop where
  cos_sq_add_sin_sq : ∀ x : K, Transc.cos x * Transc.cos x + Transc.sin x * Transc.sin x = 1
  cos_add : ∀ x y : K, Transc.cos (x + y) = Transc.cos x * Transc.cos y - Transc.sin x * Transc.sin y
  sin_add : ∀ x y : K, Transc.sin (x + y) = Transc.sin x * Transc.cos y + Transc.cos x * Transc.sin y
  sin_pos : ∀ x : K, 0 < x → x < Transc.pi → 0 < Transc.sin x
  pi_pos : (0 : K) < Transc.pi
  cos_pi_div_two : Transc.cos ((Transc.pi : K) / 2) = 0
  sin_le : ∀ x : K, 0 ≤ x → Transc.sin x ≤ x

/-- the three laws that the geometry of a chord needs: no `π`, no sign of `sin` -/
structure TrigAdd (K : Type) [Field K] [LinearOrder K] [IsStrictOrderedRing K] [Transc K] : Prop where
  cos_sq_add_sin_sq : ∀ x : K, Transc.cos x * Transc.cos x + Transc.sin x * Transc.sin x = 1
  cos_add : ∀ x y : K, Transc.cos (x + y) = Transc.cos x * Transc.cos y - Transc.sin x * Transc.sin y
  sin_add : ∀ x y : K, Transc.sin (x + y) = Transc.sin x * Transc.cos y + Transc.cos x * Transc.sin y

theorem CircTrig.toTrigAdd (L : CircTrig K) : TrigAdd K := ⟨L.cos_sq_add_sin_sq, L.cos_add, L.sin_add⟩

namespace TrigAdd
variable (T : TrigAdd K)
include T

theorem cos_sub (x y : K) :
    Transc.cos (x - y) = Transc.cos x * Transc.cos y + Transc.sin x * Transc.sin y := by
  have hc := T.cos_add (x - y) y
  have hs := T.sin_add (x - y) y
  have hp := T.cos_sq_add_sin_sq y
  rw [sub_add_cancel] at hc hs
  linear_combination (-Transc.cos y) * hc - Transc.sin y * hs - Transc.cos (x - y) * hp

theorem sin_sub (x y : K) :
    Transc.sin (x - y) = Transc.sin x * Transc.cos y - Transc.cos x * Transc.sin y := by
  have hc := T.cos_add (x - y) y
  have hs := T.sin_add (x - y) y
  have hp := T.cos_sq_add_sin_sq y
  rw [sub_add_cancel] at hc hs
  linear_combination (Transc.sin y) * hc - Transc.cos y * hs - Transc.sin (x - y) * hp

end TrigAdd

namespace CircTrig
variable (L : CircTrig K)
include L

theorem cos_zero : Transc.cos (0 : K) = 1 := by
  have := L.toTrigAdd.cos_sub 0 0
  rw [sub_zero] at this
  rw [this]; exact L.cos_sq_add_sin_sq 0

theorem sin_zero : Transc.sin (0 : K) = 0 := by
  have := L.toTrigAdd.sin_sub 0 0
  rw [sub_zero] at this
  rw [this]; ring

theorem sin_pi_div_two : Transc.sin ((Transc.pi : K) / 2) = 1 := by
  have hpos := L.sin_pos _ (half_pos L.pi_pos) (half_lt_self L.pi_pos)
  have hp := L.cos_sq_add_sin_sq ((Transc.pi : K) / 2)
  rw [L.cos_pi_div_two, mul_zero, zero_add] at hp
  rcases mul_self_eq_one_iff.1 hp with h | h
  · exact h
  · rw [h] at hpos
    exact absurd hpos (by norm_num)

theorem cos_pi : Transc.cos (Transc.pi : K) = -1 := by
  have := L.cos_add ((Transc.pi : K) / 2) ((Transc.pi : K) / 2)
  rw [add_halves, L.cos_pi_div_two, L.sin_pi_div_two] at this
  rw [this]; ring

theorem sin_pi : Transc.sin (Transc.pi : K) = 0 := by
  have := L.sin_add ((Transc.pi : K) / 2) ((Transc.pi : K) / 2)
  rw [add_halves, L.cos_pi_div_two, L.sin_pi_div_two] at this
  rw [this]; ring

theorem cos_three_pi_div_two : Transc.cos (3 * (Transc.pi : K) / 2) = 0 := by
  have e : 3 * (Transc.pi : K) / 2 = Transc.pi + Transc.pi / 2 := by ring
  rw [e, L.cos_add, L.cos_pi, L.sin_pi, L.cos_pi_div_two]; ring

theorem sin_three_pi_div_two : Transc.sin (3 * (Transc.pi : K) / 2) = -1 := by
  have e : 3 * (Transc.pi : K) / 2 = Transc.pi + Transc.pi / 2 := by ring
  rw [e, L.sin_add, L.cos_pi, L.sin_pi, L.sin_pi_div_two]; ring

theorem cos_two_pi : Transc.cos (2 * (Transc.pi : K)) = 1 := by
  rw [two_mul, L.cos_add, L.cos_pi, L.sin_pi]; ring

theorem sin_two_pi : Transc.sin (2 * (Transc.pi : K)) = 0 := by
  rw [two_mul, L.sin_add, L.cos_pi, L.sin_pi]; ring

theorem cos_pos (x : K) (h0 : -(Transc.pi / 2) < x) (h1 : x < (Transc.pi : K) / 2) : 0 < Transc.cos x := by
  have hp := L.sin_pos (x + Transc.pi / 2) (neg_lt_iff_pos_add.1 h0)
    ((add_lt_add_left h1 _).trans_eq (add_halves _))
  rwa [L.sin_add, L.cos_pi_div_two, L.sin_pi_div_two, mul_zero, zero_add, mul_one] at hp

end CircTrig

noncomputable section

theorem mid_eq (a0 a1 : K) : (a0 + a1) * Scalar.half = (a0 + a1) / 2 := by rw [sc_half_eq]; ring
theorem mid_mem {a0 a1 : K} (h : a0 < a1) : a0 < (a0 + a1) * Scalar.half ∧ (a0 + a1) * Scalar.half < a1 := by
  rw [mid_eq]
  exact ⟨by linear_combination (1 / 2) * h, by linear_combination (1 / 2) * h⟩
theorem ang_three_half : Scalar.ofSci 15 1 * (Transc.pi : K) = 3 * Transc.pi / 2 := by
  simp only [ofSci_eq]; norm_num; ring
theorem ang_two : Scalar.two * (Transc.pi : K) = 2 * Transc.pi := by simp
theorem ang_half : (Transc.pi : K) * Scalar.half = Transc.pi / 2 := by rw [sc_half_eq]; ring

/-! angles in quarter turns, so that comparisons are between numerals: `qt k = k·π/2` -/

def qt (k : Nat) : K := (k : K) * (Transc.pi / 2)

theorem qt_succ (k : Nat) : (qt (k + 1) : K) - qt k = Transc.pi / 2 := by
  simp only [qt]; push_cast; ring

theorem ang_qt : (Transc.pi : K) = qt 2 ∧ Scalar.ofSci 15 1 * (Transc.pi : K) = qt 3 ∧
    Scalar.two * (Transc.pi : K) = qt 4 ∧ (Scalar.zero : K) = qt 0 ∧ (Transc.pi : K) * Scalar.half = qt 1 := by
  simp only [qt, ang_three_half, ang_two, sc_zero_eq, ang_half]
  refine ⟨?_, ?_, ?_, ?_, ?_⟩ <;> push_cast <;> ring

theorem qt_arc (L : CircTrig K) (i : Nat) : (qt i : K) < qt (i + 1) ∧ (qt (i + 1) : K) < qt i + 2 * Transc.pi := by
  have hpi := L.pi_pos
  have hq := qt_succ (K := K) i
  exact ⟨by linear_combination (1 / 2) * hpi - hq, by linear_combination hq + (3 / 2) * hpi⟩

theorem pos_x (c : P K) (r a : K) : (pos c r a).x = c.x + Transc.cos a * r := rfl
theorem pos_y (c : P K) (r a : K) : (pos c r a).y = c.y + Transc.sin a * r := rfl

theorem pos_on_circle (T : TrigAdd K) (c : P K) (r a : K) : OnCircle c r (pos c r a) := by
  have := T.cos_sq_add_sin_sq a
  simp only [OnCircle, pos_x, pos_y]
  linear_combination (r * r) * this

theorem axisVerts_eq (L : CircTrig K) (c : P K) (r : K) :
    (axisVerts c r).getD 0 c = pos c r Transc.pi ∧
    (axisVerts c r).getD 1 c = pos c r (Scalar.ofSci 15 1 * Transc.pi) ∧
    (axisVerts c r).getD 2 c = pos c r (Scalar.two * Transc.pi) ∧
    (axisVerts c r).getD 2 c = pos c r Scalar.zero ∧
    (axisVerts c r).getD 3 c = pos c r (Transc.pi * Scalar.half) := by
  simp only [axisVerts, List.getD_cons_zero, List.getD_cons_succ]
  refine ⟨?_, ?_, ?_, ?_, ?_⟩
  · apply P.ext' <;> simp [pos_x, pos_y, L.cos_pi, L.sin_pi, geom]
  · apply P.ext' <;>
      simp only [pos_x, pos_y, ang_three_half, L.cos_three_pi_div_two, L.sin_three_pi_div_two] <;> simp [geom]
  · apply P.ext' <;> simp only [pos_x, pos_y, ang_two, L.cos_two_pi, L.sin_two_pi] <;> simp [geom]
  · apply P.ext' <;> simp only [pos_x, pos_y, sc_zero_eq, L.cos_zero, L.sin_zero] <;> simp [geom]
  · apply P.ext' <;> simp only [pos_x, pos_y, ang_half, L.cos_pi_div_two, L.sin_pi_div_two] <;> simp [geom]

/-- **the mid vertex is at the mid angle, recursively**: the leaf edges of a border call of depth `n`
between the angles `a0`, `a1` are the `2ⁿ` chords between consecutive angles `a0 + k·(a1 − a0)/2ⁿ` -/
theorem leafEdges_regular (c : P K) (r : K) (n : Nat) (a0 a1 : K) :
    leafEdges c r n a0 a1 (pos c r a0) (pos c r a1) =
      (List.range (2 ^ n)).map (fun k : Nat =>
        (pos c r (a0 + (k : K) * ((a1 - a0) / 2 ^ n)), pos c r (a0 + ((k : K) + 1) * ((a1 - a0) / 2 ^ n)))) := by
  induction n generalizing a0 a1 with
  | zero =>
    simp only [leafEdges, pow_zero, List.range_one, List.map_cons, List.map_nil, Nat.cast_zero]
    congr 3 <;> ring
  | succ n ih =>
    simp only [leafEdges]
    rw [ih, ih, mid_eq]
    -- both halves have the step `δ = (a1 − a0)/2ⁿ⁺¹`, and the mid angle is `a0 + 2ⁿ·δ`
    have hL : ((a0 + a1) / 2 - a0) / 2 ^ n = (a1 - a0) / 2 ^ (n + 1) := by
      rw [show (a0 + a1) / 2 - a0 = (a1 - a0) / 2 by ring, div_div, pow_succ']
    have hR : (a1 - (a0 + a1) / 2) / 2 ^ n = (a1 - a0) / 2 ^ (n + 1) := by
      rw [show a1 - (a0 + a1) / 2 = (a1 - a0) / 2 by ring, div_div, pow_succ']
    have hM : (a0 + a1) / 2 = a0 + 2 ^ n * ((a1 - a0) / 2 ^ (n + 1)) := by
      rw [← hL, mul_div_cancel₀ _ (pow_ne_zero n two_ne_zero)]; ring
    have h2 : 2 ^ (n + 1) = 2 ^ n + 2 ^ n := by rw [pow_succ]; ring
    rw [h2, List.range_add, List.map_append, List.map_map, hL, hR]
    congr 1
    apply List.map_congr_left
    intro k _
    simp only [Function.comp, Nat.cast_add, Nat.cast_pow, Nat.cast_ofNat]
    rw [hM]
    congr 2 <;> ring

/-- the `k`-th vertex of the regular `4·2ⁿ`-gon inscribed in the circle, first vertex at angle 0 -/
def regVert (c : P K) (r : K) (n k : Nat) : P K :=
  pos c r ((k : K) * ((Transc.pi : K) / (2 * 2 ^ n)))

def regSides (c : P K) (r : K) (n lo cnt : Nat) : List (P K × P K) :=
  (List.range cnt).map (fun j : Nat => (regVert c r n (lo + j), regVert c r n (lo + j + 1)))

theorem leafEdges_quadrant (c : P K) (r : K) (n q : Nat) :
    leafEdges c r n (qt q) (qt (q + 1)) (pos c r (qt q)) (pos c r (qt (q + 1))) = regSides c r n (q * 2 ^ n) (2 ^ n) := by
  rw [leafEdges_regular, regSides, qt_succ]
  apply List.map_congr_left
  intro k _
  have hne : (2 : K) ^ n ≠ 0 := pow_ne_zero _ two_ne_zero
  simp only [regVert, qt, Nat.cast_add, Nat.cast_mul, Nat.cast_pow, Nat.cast_ofNat, Nat.cast_one]
  congr 2
  · field_simp
  · field_simp; ring

/-- the leaf edges of quadrant `i`, with the end points at the angles -/
def qedges (c : P K) (r : K) (n i : Nat) : List (P K × P K) :=
  leafEdges c r n (qt i) (qt (i + 1)) (pos c r (qt i)) (pos c r (qt (i + 1)))

/-- the four border calls in quarter turns: the third, the fourth, the first and the second quadrant -/
theorem circleEdges_qt (L : CircTrig K) (c : P K) (r : K) (n : Nat) :
    circleEdges c r n = qedges c r n 2 ++ qedges c r n 3 ++ qedges c r n 0 ++ qedges c r n 1 := by
  obtain ⟨v0, v1, v2, v2', v3⟩ := axisVerts_eq L c r
  obtain ⟨a2, a3, a4, a0, a1⟩ := ang_qt (K := K)
  simp only [circleEdges, qedges]
  rw [v0, v1, v2', v3]
  nth_rewrite 1 [← v2', v2]
  rw [a3, a4, a1, a0, a2]

/-- **the boundary of the circle mesh IS the inscribed regular `4·2ⁿ`-gon**: the boundary edges,
in the order the four border calls produce them, are the sides `V k → V (k+1)` of the third, the
fourth, the first and the second quadrant; `V k = c + r·(cos kδ, sin kδ)`, `δ = π/(2·2ⁿ)` -/
theorem circleEdges_eq (L : CircTrig K) (c : P K) (r : K) (n : Nat) :
    circleEdges c r n = regSides c r n (2 * 2 ^ n) (2 ^ n) ++ regSides c r n (3 * 2 ^ n) (2 ^ n) ++
      regSides c r n (0 * 2 ^ n) (2 ^ n) ++ regSides c r n (1 * 2 ^ n) (2 ^ n) := by
  simp only [circleEdges_qt L, qedges, leafEdges_quadrant]

theorem mem_regSides (c : P K) (r : K) (n lo cnt : Nat) (e : P K × P K) :
    e ∈ regSides c r n lo cnt ↔ ∃ k, lo ≤ k ∧ k < lo + cnt ∧ e = (regVert c r n k, regVert c r n (k + 1)) := by
  simp only [regSides, List.mem_map, List.mem_range]
  constructor
  · rintro ⟨j, hj, rfl⟩
    exact ⟨lo + j, by omega, by omega, rfl⟩
  · rintro ⟨k, h1, h2, rfl⟩
    refine ⟨k - lo, by omega, ?_⟩
    have : lo + (k - lo) = k := by omega
    rw [this]

theorem mem_circleEdges_iff (L : CircTrig K) (c : P K) (r : K) (n : Nat) (e : P K × P K) :
    e ∈ circleEdges c r n ↔ ∃ k : Nat, k < 4 * 2 ^ n ∧ e = (regVert c r n k, regVert c r n (k + 1)) := by
  rw [circleEdges_eq L]
  simp only [List.mem_append, mem_regSides]
  constructor
  · rintro (((⟨k, _, h, rfl⟩ | ⟨k, _, h, rfl⟩) | ⟨k, _, h, rfl⟩) | ⟨k, _, h, rfl⟩) <;> exact ⟨k, by omega, rfl⟩
  · rintro ⟨k, hk, rfl⟩
    have hp : 0 < 2 ^ n := Nat.pos_of_ne_zero (by positivity)
    by_cases h1 : k < 1 * 2 ^ n
    · exact Or.inl (Or.inr ⟨k, by omega, by omega, rfl⟩)
    by_cases h2 : k < 2 * 2 ^ n
    · exact Or.inr ⟨k, by omega, by omega, rfl⟩
    by_cases h3 : k < 3 * 2 ^ n
    · exact Or.inl (Or.inl (Or.inl ⟨k, by omega, by omega, rfl⟩))
    · exact Or.inl (Or.inl (Or.inr ⟨k, by omega, by omega, rfl⟩))

theorem pos_add (T : TrigAdd K) (c : P K) (r μ η : K) :
    pos c r (μ + η) = ⟨c.x + (Transc.cos μ * Transc.cos η - Transc.sin μ * Transc.sin η) * r,
                       c.y + (Transc.sin μ * Transc.cos η + Transc.cos μ * Transc.sin η) * r⟩ := by
  apply P.ext'
  · rw [pos_x, T.cos_add]
  · rw [pos_y, T.sin_add]

theorem pos_sub (T : TrigAdd K) (c : P K) (r μ η : K) :
    pos c r (μ - η) = ⟨c.x + (Transc.cos μ * Transc.cos η + Transc.sin μ * Transc.sin η) * r,
                       c.y + (Transc.sin μ * Transc.cos η - Transc.cos μ * Transc.sin η) * r⟩ := by
  apply P.ext'
  · rw [pos_x, T.cos_sub]
  · rw [pos_y, T.sin_sub]

/-- the chord from angle `μ − η` to `μ + η` and a point `p`, as an identity.  The same chord appears as an
inequality in angle form (`Flat.unit_chord_core`, arc flattening) and in cone form (`ArcChk.unit_cone_sagitta`,
arc checker); none is derived from another. -/
theorem chord_cross (T : TrigAdd K) (c : P K) (r μ η : K) (p : P K) :
    (pos c r (μ + η) - pos c r (μ - η)).cross (p - pos c r (μ - η))
      = 2 * r * Transc.sin η * (r * Transc.cos η - (Transc.cos μ * (p.x - c.x) + Transc.sin μ * (p.y - c.y))) := by
  have hpy := T.cos_sq_add_sin_sq μ
  rw [pos_add T, pos_sub T]
  simp only [P.cross, P.sub_def]
  linear_combination (2 * r * Transc.sin η * (r * Transc.cos η)) * hpy

/-- **a point within `r·cos η` of the centre is on the inner side of the chord** from angle
`μ − η` to angle `μ + η` (`sin η ≥ 0`, `cos η ≥ 0`, `r ≥ 0`): the chord is at distance `r·cos η`. -/
theorem chord_inner (T : TrigAdd K) (c : P K) (r μ η : K) (p : P K) (hr : 0 ≤ r)
    (hs : 0 ≤ Transc.sin η) (hc : 0 ≤ Transc.cos η)
    (hp : (p - c).sqLen ≤ (r * Transc.cos η) * (r * Transc.cos η)) :
    Inner (pos c r (μ - η), pos c r (μ + η)) p := by
  simp only [Inner, chord_cross T]
  exact mul_nonneg (mul_nonneg (mul_nonneg zero_le_two hr) hs)
    (sub_nonneg.2 (Hull.unit_dot_le (T.cos_sq_add_sin_sq μ) (mul_nonneg hr hc) hp))

/-- …hence on the inner side of all leaf chords of a border call, `η = (a1 − a0)/2ⁿ⁺¹` their half-angle -/
theorem leafEdges_inner (T : TrigAdd K) (c : P K) (r : K) (n : Nat) (a0 a1 : K) (p : P K) (hr : 0 ≤ r)
    (hs : 0 ≤ Transc.sin ((a1 - a0) * Scalar.half ^ (n + 1))) (hc : 0 ≤ Transc.cos ((a1 - a0) * Scalar.half ^ (n + 1)))
    (hp : (p - c).sqLen ≤ (r * Transc.cos ((a1 - a0) * Scalar.half ^ (n + 1)))
      * (r * Transc.cos ((a1 - a0) * Scalar.half ^ (n + 1)))) :
    ∀ e ∈ leafEdges c r n a0 a1 (pos c r a0) (pos c r a1), Inner e p := by
  intro e he
  rw [leafEdges_regular, List.mem_map] at he
  obtain ⟨k, -, rfl⟩ := he
  have hne : (2 : K) ^ n ≠ 0 := pow_ne_zero _ two_ne_zero
  have hη : (a1 - a0) * Scalar.half ^ (n + 1) = (a1 - a0) / 2 ^ n / 2 := by
    rw [sc_half_eq, pow_succ, one_div, inv_pow]; field_simp
  have := chord_inner T c r (a0 + (2 * (k : K) + 1) * ((a1 - a0) * Scalar.half ^ (n + 1))) _ p hr hs hc hp
  rw [hη] at this
  rwa [show a0 + (2 * (k : K) + 1) * ((a1 - a0) / 2 ^ n / 2) - (a1 - a0) / 2 ^ n / 2 = a0 + (k : K) * ((a1 - a0) / 2 ^ n) by ring,
    show a0 + (2 * (k : K) + 1) * ((a1 - a0) / 2 ^ n / 2) + (a1 - a0) / 2 ^ n / 2 = a0 + ((k : K) + 1) * ((a1 - a0) / 2 ^ n) by ring]
    at this

/-- mesh invariant: every triangle has its vertices on the circle and non-zero area.  This index-buffer form
is the one `fill_circle_exact_tiling` states; proofs work with `GoodTri` on resolved triangles (`good_of_tris`). -/
def Good (c : P K) (r : K) (m : Mesh K) : Prop :=
  ∀ t ∈ m.tris, ∃ A B C : P K, m.verts[t.1]? = some A ∧ m.verts[t.2.1]? = some B ∧
    m.verts[t.2.2]? = some C ∧ OnCircle c r A ∧ OnCircle c r B ∧ OnCircle c r C ∧
    (B - A).cross (C - A) ≠ 0

def GoodTri (c : P K) (r : K) (T : Tri3 K) : Prop :=
  OnCircle c r T.1 ∧ OnCircle c r T.2.1 ∧ OnCircle c r T.2.2 ∧ (T.2.1 - T.1).cross (T.2.2 - T.1) ≠ 0

theorem good_of_tris {c d : P K} {r : K} {m : Mesh K} (hok : ∀ t ∈ m.tris, TriOK m.verts.length t)
    (h : ∀ T ∈ meshTris m d, GoodTri c r T) : Good c r m := fun t ht =>
  ⟨_, _, _, getElem?_getD _ d _ (hok t ht).2.2.2.1, getElem?_getD _ d _ (hok t ht).2.2.2.2.1,
    getElem?_getD _ d _ (hok t ht).2.2.2.2.2, h _ (List.mem_map_of_mem ht)⟩

theorem Good.covered_in_disc {c : P K} {r : K} {m : Mesh K} (hg : Good c r m) {p : P K}
    (hc : Covered m p) : (p - c).sqLen ≤ r * r := by
  obtain ⟨t, ht, A, B, C, hA, hB, hC, hin⟩ := hc
  obtain ⟨A', B', C', hA', hB', hC', oA, oB, oC, hD⟩ := hg t ht
  rw [hA] at hA'; rw [hB] at hB'; rw [hC] at hC'
  injection hA' with eA; injection hB' with eB; injection hC' with eC
  subst eA eB eC
  exact inTri_in_disc c r A B C p oA oB oC hD hin

end

end Lyon.C03c
