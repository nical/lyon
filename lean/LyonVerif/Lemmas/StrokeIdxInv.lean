/-
  Index validity for the complete stroker model `Lyon.Stroke.Full`: the window invariant.

  * `Cls`: a class of endpoints — which `(source, half width)` pairs occur (`C`, inherited by every
    vertex emitted for the endpoint) and which `(is_flattening_step, line_join)` pairs occur (`D`).
  * `SkipApart`, `Reg`: the two arithmetic facts the id logic of stroke.rs relies on that are NOT
    discrete (in exact arithmetic `SkipApart` holds, and `Reg` for fixed width without `MiterClip`, see
    `Lemmas/StrokeIdxField.lean`; `MiterClip` needs the link of `Lemmas/StrokeIdxClipLink.lean`; they are
    vacuous for polylines):
      - variable width: when `flattened_step` asks to skip a join (`replace_last`), the new point is
        not within merge distance of the point before the dropped join (it lies further along);
      - fixed width: `flattened_step` never asks to skip (`fixed_width_step_impl` ignores the answer
        and would connect vertex ids that were never assigned).
  * `InvC` / `Inv`: the window invariant — which stored vertex ids will be read before they are
    overwritten, and that those are valid.
  * buffer-level preservation lemmas: `setLast`, `push_first`, `push_second`, `commit`, `skip`.
-/
import LyonVerif.Lemmas.StrokeIdxBase

set_option linter.unusedSectionVars false
set_option linter.unusedVariables false

namespace Lyon.C05c
open Lyon Scalar Lyon.Stroke Lyon.Stroke.Full Lyon.C05 Lyon.C05b

section
variable {α : Type} [Scalar α]

/-- a class of endpoints -/
structure Cls (α : Type) where
  /-- admissible `(source, half width)` pairs -/
  C : Src α → α → Prop
  /-- admissible `(is_flattening_step, line_join)` pairs -/
  D : Bool → LineJoin → Prop
  /-- the fast path of a flattened curve forces `line_join = Miter` -/
  miter : ∀ f lj, D f lj → D f .miter

def Cls.F (c : Cls α) (e : EP α) : Prop := c.C e.src e.halfWidth ∧ c.D e.isFlat e.lineJoin

theorem Cls.F_upd {c : Cls α} {e e' : EP α} (h : c.F e) (u : Upd e e') : c.F e' := by
  obtain ⟨h1, h2⟩ := h
  refine ⟨by rw [u.src, u.hw]; exact h1, ?_⟩
  rcases u.lj with g | g
  · rw [u.flat, g]; exact h2
  · rw [u.flat, g]; exact c.miter _ _ h2

/-- a skipped join moves away: if `a, b` and `b, c` are kept apart and the path goes forward at `b`,
then `a, c` are apart as well (exact arithmetic: `|c-a|² = |b-a|² + 2 (b-a)·(c-b) + |c-b|²`) -/
def SkipApart (thr : α) : Prop :=
  ∀ a b c : P α, pointsAreTooClose thr a b = false → pointsAreTooClose thr b c = false →
    (b - a).dot (c - b) > zero → pointsAreTooClose thr a c = false

end

section
variable {α : Type} [Scalar α] [Transc α]

/-- Arithmetic regularity of a scalar type for the environment `e` and the endpoint class `c`.
`G position pos.next neg.next` is a relation every endpoint satisfies once it has been the middle
point of a step (or the first point after the second arrived); `flattened_step` reads it from its
`prev` argument. -/
structure Reg (e : Env α) (c : Cls α) (G : P α → P α → P α → Prop) : Prop where
  first : ∀ first next : EP α, GE G (firstEdgeSetup first next).1
  joinFw : ∀ (prev join next : EP α) (vhw : α), c.F join →
    GE G (joinSidesFw e.ix prev join next e.o.miterLimit vhw)
  flat : ∀ (prev join next : EP α) (d : VData α) (o : Out α), GE G (flattenedStep prev join next d o).join
  /-- fixed width: `flattened_step` never answers "skip" -/
  noskip : e.o.varWidth = false → ∀ (prev join next : EP α) (d : VData α) (o : Out α),
    GE G prev → c.F join → fastPath prev join next = true →
    (flattenedStep prev { join with lineJoin := .miter } next d o).skip = false
  /-- variable width: nothing is required of the side points; a skipped join moves away from the
  point before it (`SkipApart` suffices, see `reg_variable`; vacuous without flattening steps) -/
  vw : e.o.varWidth = true → (∀ a b c, G a b c) ∧
    (∀ prev join next : EP α, c.F join → fastPath prev join next = true →
      pointsAreTooClose e.thr prev.position join.position = false →
      pointsAreTooClose e.thr join.position next.position = false →
      pointsAreTooClose e.thr prev.position next.position = false)

/-- Which entries of the window carry ids that are read later (`n` = number of vertices so far):
* `count ≤ 2`: every point in the window is `Raw` (was never a join: fold flags `false`, its unset
  ids are never read), and the two points of a full pair are not within merge distance;
* `count = 3`: the second-newest point has been a join (`Good n`: its four ids are valid), the
  newest is `Raw` or `Good n` (the latter in `close`, which feeds the stored second endpoint again);
  `firsts = [f0, f1]`: the first endpoint (`Raw`) and the second one after its join (`Good n`),
  not within merge distance of each other (`close` relies on it: its second step is not merged). -/
structure InvC (thr : α) (c : Cls α) (G : P α → P α → P α → Prop)
    (buf : PointBuffer (EP α)) (fs : List (EP α)) (n : Nat) : Prop where
  wf : WF buf
  cls1 : ∀ y, buf.last = some y → c.F y
  cls2 : ∀ x y, buf.lastTwo = some (x, y) → c.F x
  clsF : ∀ f ∈ fs, c.F f
  geo : ∀ x y, buf.lastTwo = some (x, y) → GE G x
  one : buf.count ≤ 1 → ∀ y, buf.last = some y → Raw y.ids
  two : buf.count = 2 → ∀ x y, buf.lastTwo = some (x, y) →
    Raw x.ids ∧ Raw y.ids ∧ pointsAreTooClose thr x.position y.position = false
  three : 3 ≤ buf.count → ∀ x y, buf.lastTwo = some (x, y) → Good n x.ids ∧ (Raw y.ids ∨ Good n y.ids)
  firsts : 3 ≤ buf.count → ∃ f0 f1, fs = [f0, f1] ∧ Raw f0.ids ∧ Good n f1.ids
    ∧ pointsAreTooClose thr f0.position f1.position = false
  nofirsts : buf.count ≤ 2 → fs = []

def Inv (thr : α) (c : Cls α) (G : P α → P α → P α → Prop) (st : St α) : Prop :=
  InvC thr c G st.buf st.firsts st.out.nextId

variable {thr : α} {c : Cls α} {G : P α → P α → P α → Prop}

theorem InvC.new (d : EP α) (n : Nat) : InvC thr c G (PointBuffer.new d) [] n := by
  refine ⟨WF.new _, ?_, ?_, ?_, ?_, ?_, ?_, ?_, ?_, ?_⟩ <;>
    simp [PointBuffer.new, PointBuffer.last, PointBuffer.lastTwo]

theorem InvC.cleared' (buf : PointBuffer (EP α)) (n : Nat) : InvC thr c G buf.clear [] n := by
  refine ⟨wf_clear _, ?_, ?_, ?_, ?_, ?_, ?_, ?_, ?_, ?_⟩ <;>
    simp [PointBuffer.clear, PointBuffer.last, PointBuffer.lastTwo]

theorem InvC.cleared {buf : PointBuffer (EP α)} (h : WF buf) (n : Nat) : InvC thr c G buf.clear [] n :=
  InvC.cleared' buf n

theorem InvC.mono {buf : PointBuffer (EP α)} {firsts : List (EP α)} {n n' : Nat}
    (h : InvC thr c G buf firsts n) (hn : n ≤ n') : InvC thr c G buf firsts n' := by
  refine ⟨h.wf, h.cls1, h.cls2, h.clsF, h.geo, h.one, h.two, ?_, ?_, h.nofirsts⟩
  · intro h3 x y hxy
    obtain ⟨a, b⟩ := h.three h3 x y hxy
    exact ⟨a.mono hn, b.imp id (fun g => g.mono hn)⟩
  · intro h3
    obtain ⟨f0, f1, e, r0, g1, t⟩ := h.firsts h3
    exact ⟨f0, f1, e, r0, g1.mono hn, t⟩

theorem lastTwo_inj {β : Type} {b : PointBuffer β} {x y x' y' : β} (h : b.lastTwo = some (x, y))
    (h' : b.lastTwo = some (x', y')) : x' = x ∧ y' = y := by
  rw [h] at h'
  simp only [Option.some.injEq, Prod.mk.injEq] at h'
  exact ⟨h'.1.symm, h'.2.symm⟩

/-- `replace_last` with the same endpoint after a rewrite that keeps ids and fold flags (edge
attachment, the position fix-up of `close` when the window is full) -/
theorem InvC.setLast {buf : PointBuffer (EP α)} {firsts : List (EP α)} {n : Nat}
    (h : InvC thr c G buf firsts n) {y y' : EP α} (hl : buf.last = some y)
    (hF : c.F y') (hid : y'.ids = y.ids) (hpos : buf.count ≤ 2 → y'.position = y.position) :
    ∃ b', buf.replaceLast y' = some b' ∧ InvC thr c G b' firsts n ∧ b'.count = buf.count
      ∧ b'.last = some y' ∧ (∀ x z, buf.lastTwo = some (x, z) → b'.lastTwo = some (x, y')) := by
  have hc : 0 < buf.count := by
    by_contra hc
    rw [last_none (by omega)] at hl; cases hl
  obtain ⟨b', hb, hwf', hcnt', hlast', hlt'⟩ := h.wf.replaceLast hc y'
  refine ⟨b', hb, ?_, hcnt', hlast', hlt'⟩
  by_cases h2 : buf.count < 2
  · have hno : ∀ x z, b'.lastTwo = some (x, z) → False := fun x z hxz => by
      have := WF.lastTwo_count x z hxz; omega
    exact ⟨hwf', of_last hlast' hF, fun x z hxz => (hno x z hxz).elim, h.clsF, fun x z hxz => (hno x z hxz).elim,
      fun _ => of_last hlast' (by rw [hid]; exact h.one (by omega) y hl), fun _ => by omega, fun _ => by omega,
      fun _ => by omega, fun _ => h.nofirsts (by omega)⟩
  · obtain ⟨x0, z0, h0⟩ := h.wf.lastTwo_some (by omega)
    obtain rfl := (h.wf.lastTwo_snd h0 hl).symm
    have hp := hlt' x0 y h0
    exact ⟨hwf', of_last hlast' hF, of_lastTwo hp (h.cls2 _ _ h0), h.clsF, of_lastTwo hp (h.geo _ _ h0),
      fun _ => by omega,
      fun hc2 => of_lastTwo hp (by
        obtain ⟨a, b, t⟩ := h.two (by omega) _ _ h0
        exact ⟨a, by rw [hid]; exact b, by rw [hpos (by omega)]; exact t⟩),
      fun hc3 => of_lastTwo hp (by
        obtain ⟨a, b⟩ := h.three (by omega) _ _ h0
        exact ⟨a, by rw [hid]; exact b⟩),
      fun hc3 => h.firsts (by omega), fun hc2 => h.nofirsts (by omega)⟩

theorem InvC.push_first {buf : PointBuffer (EP α)} {firsts : List (EP α)} {n : Nat}
    (h : InvC thr c G buf firsts n) (h0 : buf.count = 0) {next : EP α} (hF : c.F next) (hr : Raw next.ids) :
    ∃ b', buf.push next = some b' ∧ InvC thr c G b' firsts n ∧ b'.count = 1 ∧ b'.last = some next := by
  obtain ⟨b', hb, hwf', hcnt', hlast', hlt'⟩ := h.wf.push next
  have hc1 : b'.count = 1 := by rw [hcnt', h0]; rfl
  refine ⟨b', hb, ⟨hwf', of_last hlast' hF, ?_, h.clsF, ?_, fun _ => of_last hlast' hr, ?_, ?_, ?_, ?_⟩, hc1, hlast'⟩
  · intro x z hxz; have := WF.lastTwo_count x z hxz; omega
  · intro x z hxz; have := WF.lastTwo_count x z hxz; omega
  · intro h2; omega
  · intro h3; omega
  · intro h3; omega
  · intro _; exact h.nofirsts (by omega)

/-- the second point arrives: the first point is rewritten (side points of the first edge), the
second is pushed -/
theorem InvC.push_second {buf : PointBuffer (EP α)} {firsts : List (EP α)} {n : Nat}
    (h : InvC thr c G buf firsts n) (h1 : buf.count = 1) {first first' next next' : EP α}
    (hl : buf.last = some first)
    (u1 : Upd first first') (id1 : first'.ids = first.ids) (g1 : GE G first')
    (hF : c.F next) (hr : Raw next.ids) (u2 : Upd next next') (id2 : next'.ids = next.ids)
    (hfar : pointsAreTooClose thr first.position next.position = false) :
    ∃ b1 b2, buf.replaceLast first' = some b1 ∧ b1.push next' = some b2
      ∧ InvC thr c G b2 firsts n ∧ b2.count = 2 ∧ b2.last = some next' := by
  obtain ⟨b1, hb1, hI1, hc1, hl1, _⟩ := h.setLast hl (Cls.F_upd (h.cls1 _ hl) u1) id1 (fun _ => u1.pos)
  obtain ⟨b2, hb2, hwf2, hc2, hl2, hlt2⟩ := hI1.wf.push next'
  have hcnt : b2.count = 2 := by rw [hc2, hc1, h1]; rfl
  have hxy := hlt2 first' hl1
  refine ⟨b1, b2, hb1, hb2, ⟨hwf2, of_last hl2 (Cls.F_upd hF u2), of_lastTwo hxy (Cls.F_upd (h.cls1 _ hl) u1), h.clsF,
    of_lastTwo hxy g1, ?_, fun _ => of_lastTwo hxy ⟨by rw [id1]; exact h.one (by omega) _ hl, by rw [id2]; exact hr,
      by rw [u1.pos, u2.pos]; exact hfar⟩, ?_, ?_, ?_⟩, hcnt, hl2⟩
  · intro h; omega
  · intro h3; omega
  · intro h3; omega
  · intro _; exact h.nofirsts (by omega)

/-- a join is committed: the middle point `join` is replaced by `j'` (all four ids valid), `firsts`
is set at the first join of the sub-path, `n'` is pushed -/
theorem InvC.commit {buf : PointBuffer (EP α)} {firsts : List (EP α)} {n m : Nat}
    (h : InvC thr c G buf firsts n) {prev join j' next n' : EP α}
    (hxy : buf.lastTwo = some (prev, join)) (hnm : n ≤ m)
    (uj : Upd join j') (gj : GE G j') (hg : Good m j'.ids)
    (hF : c.F next) (hn : Raw next.ids ∨ (3 ≤ buf.count ∧ Good n next.ids))
    (un : Upd next n') (idn : n'.ids = next.ids) :
    ∃ b1 b2, buf.replaceLast j' = some b1 ∧ b1.push n' = some b2
      ∧ InvC thr c G b2 (if buf.count == 2 then [prev, j'] else firsts) m
      ∧ b2.count = 3 ∧ b2.last = some n' := by
  have hc2 : 2 ≤ buf.count := WF.lastTwo_count _ _ hxy
  have hle := h.wf.count_le
  have hlast := h.wf.lastTwo_last _ _ hxy
  obtain ⟨b1, hb1, hwf1, hc1, hl1, hlt1⟩ := h.wf.replaceLast (by omega) j'
  obtain ⟨b2, hb2, hwf2, hcnt2, hl2, hlt2⟩ := hwf1.push n'
  have hc3 : b2.count = 3 := by rw [hcnt2, hc1]; omega
  have hFj : c.F j' := Cls.F_upd (h.cls1 _ hlast) uj
  have hjn := hlt2 j' hl1
  refine ⟨b1, b2, hb1, hb2, ⟨hwf2, of_last hl2 (Cls.F_upd hF un), of_lastTwo hjn hFj, ?_, of_lastTwo hjn gj, ?_, ?_,
    fun _ => of_lastTwo hjn ⟨hg, ?_⟩, ?_, ?_⟩, hc3, hl2⟩
  · intro f hf
    by_cases h2 : buf.count = 2
    · simp only [h2, beq_self_eq_true, if_true, List.mem_cons, List.mem_nil_iff, or_false] at hf
      rcases hf with rfl | rfl
      · exact h.cls2 _ _ hxy
      · exact hFj
    · have : (buf.count == 2) = false := by simpa using h2
      rw [this] at hf
      exact h.clsF f hf
  · intro h; omega
  · intro h; omega
  · rw [idn]
    exact hn.imp id (fun hn => hn.2.mono hnm)
  · intro _
    by_cases h2 : buf.count = 2
    · obtain ⟨rx, ry, rc⟩ := h.two h2 _ _ hxy
      simp only [h2, beq_self_eq_true, if_true]
      exact ⟨prev, j', rfl, rx, hg, by rw [uj.pos]; exact rc⟩
    · have hne : (buf.count == 2) = false := by simpa using h2
      obtain ⟨f0, f1, e, r0, g1, t⟩ := h.firsts (by omega)
      rw [hne]
      exact ⟨f0, f1, e, r0, g1.mono hnm, t⟩
  · intro h; omega

/-- a join is skipped (variable width, `flattened_step` answered `true`): the middle point is
dropped, the new point takes its place; no output -/
theorem InvC.skip {buf : PointBuffer (EP α)} {firsts : List (EP α)} {n : Nat}
    (h : InvC thr c G buf firsts n) {prev join next n' : EP α}
    (hxy : buf.lastTwo = some (prev, join))
    (hF : c.F next) (hn : Raw next.ids ∨ (3 ≤ buf.count ∧ Good n next.ids))
    (un : Upd next n') (idn : n'.ids = next.ids)
    (hfar : buf.count = 2 → pointsAreTooClose thr prev.position next.position = false) :
    ∃ b1, buf.replaceLast n' = some b1 ∧ InvC thr c G b1 firsts n
      ∧ b1.count = buf.count ∧ b1.last = some n' := by
  have hc2 : 2 ≤ buf.count := WF.lastTwo_count _ _ hxy
  have hle := h.wf.count_le
  obtain ⟨b1, hb1, hwf1, hc1, hl1, hlt1⟩ := h.wf.replaceLast (by omega) n'
  have hpn := hlt1 _ _ hxy
  refine ⟨b1, hb1, ⟨hwf1, of_last hl1 (Cls.F_upd hF un), of_lastTwo hpn (h.cls2 _ _ hxy), h.clsF,
    of_lastTwo hpn (h.geo _ _ hxy), ?_, fun h2 => of_lastTwo hpn ?_, fun h3 => of_lastTwo hpn ?_, ?_, ?_⟩, hc1, hl1⟩
  · intro h; omega
  · refine ⟨(h.two (by omega) _ _ hxy).1, ?_, by rw [un.pos]; exact hfar (by omega)⟩
    rw [idn]
    rcases hn with hn | ⟨h3, _⟩
    · exact hn
    · omega
  · rw [idn]
    exact ⟨(h.three (by omega) _ _ hxy).1, hn.imp id (fun hn => hn.2)⟩
  · intro h3; exact h.firsts (by omega)
  · intro h2; exact h.nofirsts (by omega)

end

end Lyon.C05c
