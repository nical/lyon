/-
  The per-input tolerance CERTIFICATE of a flattened quadratic or cubic evaluated in floats
  (Model/Geom/FlattenCert.lean; theorems in Props/C09b.lean, where `quad_chord_within_certificate` shows the
  certificate of one chord sound): the maxima computed by `flatCert` / `piecesCert` dominate every chord's and
  every piece's certificate (`flatCert_le`, `piecesCert_le`).
-/
import LyonVerif.Model.Geom.FlattenCert
import LyonVerif.Lemmas.Field
import LyonVerif.Lemmas.Flatten
import LyonVerif.Lemmas.FlattenChord
import LyonVerif.Lemmas.FlattenTolCubic

set_option linter.unusedSectionVars false

namespace Lyon.Flat
open Lyon Scalar

variable {K : Type} [Field K] [LinearOrder K] [IsStrictOrderedRing K]

theorem flatCert_le (q : Quad K) (tol b : K) (l : List (FlatSeg K)) (h : (q.flatCert tol l).2 ≤ b) :
    ∀ sg ∈ l, q.chordCertSq tol sg ≤ b :=
  le_of_listMax_le (q.chordCertSq tol) (fun l => (q.flatCert tol l).2) (fun _ _ => rfl) l b h

theorem piecesCert_le [Transc K] [FlatConst K] (tolF b : K) (qs : List (Quad K × K × K)) (r : Bool × K)
    (h : Cubic.piecesCert tolF qs = some r) (hb : r.2 ≤ b) :
    ∀ p ∈ qs, ∀ lq, p.1.forEachFlattenedWithT tolF = some lq → (p.1.flatCert tolF lq).2 ≤ b := by
  fun_induction Cubic.piecesCert tolF qs generalizing r with
  | case1 => intro p hp; cases hp
  | case2 q r0 r1 rest l rr hr hq ih =>
    cases h
    simp only [sc_max] at hb
    intro p hp lq hlq
    rcases List.mem_cons.mp hp with rfl | hp
    · rw [hq] at hlq
      cases hlq
      exact le_trans (le_max_left _ _) hb
    · exact ih rr hr (le_trans (le_max_right _ _) hb) p hp lq hlq
  | case3 => cases h

end Lyon.Flat
