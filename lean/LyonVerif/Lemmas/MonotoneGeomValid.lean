/-
  C02 (`Props/C02c.lean`): valid sweep sequences (strictly y-monotone simple polygons) and the
  orientation of the basic tessellator's fan triangles on them.

  * `After`, `Hv`, `cross_trans` — the sweep order `is_after` over a field; the direction vectors of the sweep form
    a cone (`hv_comb`), a multiple of one is one iff the factor is positive (`hv_smul_iff`), and
    `(u × w) v = (u × v) w + (v × w) u` (`cross_smul3`): so on this half-plane `u × v ≥ 0` is transitive, strictly
    as soon as one premise is strict (`cross_trans_mix`; `cross_trans`, `cross_trans_le`, and in the order of a
    side `cross_trans_sg`, `cross_trans_le_sg`, `cross_trans_mix_sg`, which is how the turn lemmas use it).
  * `SweepValid` (decidable) — positions strictly increasing in sweep order; and for every edge of
    one chain (two consecutive vertices of the same chain; the apex and the bottom vertex belong to
    both chains) every vertex of the other chain met in between lies strictly on its own side of
    that edge's line.
  * `VInv` — stack ids strictly decreasing, every id between the bottom of the stack and the next
    vertex is on the stack's side, the bottom is the last vertex of the other chain, and consecutive
    stack triples are strictly reflex (each failed lyon's ear test).  Preserved by every `vertex` call of a run, for
    every input (`vertex_vInv`; not stated for `end`, after which the state is discarded).
  * `valid_noFlip` — on a valid sequence, when the side changes, every fan triangle
    `(s_i, s_{i+1}, cur)` is STRICTLY positively oriented in the side-determined order, so lyon's
    winding test never swaps: base pair from `SweepValid` (edge `s_0 → cur` of the other chain),
    induction up the reflex stack with `cross_trans`.
  * `run_area` — the area facts for the executable entry point `Basic.run` (the function the
    correspondence check runs); strict orientation in general position: `run_strict`,
    `Lemmas/MonotoneIdsLt.lean`.
-/
import LyonVerif.Lemmas.MonotoneGeom
import LyonVerif.Lemmas.LexOrder

set_option linter.unusedSectionVars false

namespace Lyon.C02c
open Lyon Lyon.Mono Lyon.C02

variable {K : Type} [Field K] [LinearOrder K] [IsStrictOrderedRing K]

/-- `is_after(a, b)` of fill.rs over a field: `a` comes strictly after `b` in the sweep -/
def After (a b : P K) : Prop := b.y < a.y ∨ (a.y = b.y ∧ b.x < a.x)

/-- direction vectors of the sweep: downwards (y grows), or horizontal to the right -/
def Hv (v : P K) : Prop := 0 < v.y ∨ (v.y = 0 ∧ 0 < v.x)

theorem after_hv {a b : P K} (h : After a b) : Hv (a - b) := by
  rcases h with h | ⟨h1, h2⟩
  · left; simp only [geom]; linarith
  · right; simp only [geom]; exact ⟨by rw [h1]; ring, by linarith⟩

theorem after_iff (a b : P K) : After a b ↔ LexLt b a := (lexLt_iff_after a b).symm

theorem after_trans {a b c : P K} (h1 : After a b) (h2 : After b c) : After a c :=
  (after_iff a c).mpr (((after_iff b c).mp h2).trans ((after_iff a b).mp h1))

theorem after_irrefl (a : P K) : ¬ After a a := fun h => LexLt.irrefl a ((after_iff a a).mp h)

theorem sorted_all (q : Nat → P K) (len : Nat) (hsort : ∀ i, i + 1 < len → After (q (i + 1)) (q i)) :
    ∀ a b, a < b → b < len → After (q b) (q a) := by
  intro a b hab hb
  induction b with
  | zero => omega
  | succ b ih =>
    have h1 := hsort b hb
    by_cases e : a = b
    · rw [e]; exact h1
    · exact after_trans h1 (ih (by omega) (by omega))

theorem cross_flip (a b : P K) : a.cross b = -(b.cross a) := by geom_ring

/-- a multiple of a sweep direction is a sweep direction iff the factor is positive -/
theorem hv_smul_iff {v : P K} (hv : Hv v) (c : K) : Hv (v.smul c) ↔ 0 < c := by
  simp only [Hv, P.smul]
  rcases hv with h | ⟨h0, h⟩
  · constructor
    · rintro (g | ⟨g, gx⟩)
      · exact (pos_iff_pos_of_mul_pos g).mp h
      · rw [(mul_eq_zero.mp g).resolve_left h.ne', mul_zero] at gx
        exact absurd gx (lt_irrefl _)
    · exact fun hc => Or.inl (mul_pos h hc)
  · rw [h0]
    simp only [zero_mul, lt_self_iff_false, true_and, false_or]
    exact ⟨fun g => (pos_iff_pos_of_mul_pos g).mp h, fun hc => mul_pos h hc⟩

/-- the sweep directions form a cone -/
theorem hv_comb {u v : P K} {s t : K} (hu : Hv u) (hv : Hv v) (hs : 0 ≤ s) (ht : 0 ≤ t) (hst : 0 < s ∨ 0 < t) :
    Hv (u.smul s + v.smul t) := by
  have add : ∀ {a b : P K}, Hv a → Hv b → Hv (a + b) := by
    intro a b ha hb
    simp only [Hv, geom] at ha hb ⊢
    rcases ha with ha | ⟨ha0, ha⟩ <;> rcases hb with hb | ⟨hb0, hb⟩
    · exact Or.inl (by linarith)
    · exact Or.inl (by linarith)
    · exact Or.inl (by linarith)
    · exact Or.inr ⟨by linarith, by linarith⟩
  have zero : ∀ a : P K, a.smul 0 = ⟨0, 0⟩ := fun a => by simp [P.smul]
  have z1 : ∀ a : P K, a + ⟨0, 0⟩ = a := fun a => by simp [geom]
  have z2 : ∀ a : P K, (⟨0, 0⟩ : P K) + a = a := fun a => by simp [geom]
  rcases hs.lt_or_eq with hs' | hs' <;> rcases ht.lt_or_eq with ht' | ht'
  · exact add ((hv_smul_iff hu s).mpr hs') ((hv_smul_iff hv t).mpr ht')
  · rw [← ht', zero, z1]; exact (hv_smul_iff hu s).mpr hs'
  · rw [← hs', zero, z2]; exact (hv_smul_iff hv t).mpr ht'
  · rcases hst with g | g
    · exact absurd hs'.symm g.ne'
    · exact absurd ht'.symm g.ne'

theorem cross_smul3 (u v w : P K) : v.smul (u.cross w) = w.smul (u.cross v) + u.smul (v.cross w) := by
  simp only [P.smul, geom]; congr 1 <;> ring

/-- on the sweep's half-plane of directions `u × v ≥ 0` is transitive, strictly as soon as one premise is strict:
`(u × w) v = (u × v) w + (v × w) u` is a sweep direction (a cone), and it is a multiple of the sweep direction `v` -/
theorem cross_trans_mix {u v w : P K} (hu : Hv u) (hv : Hv v) (hw : Hv w) (h1 : 0 ≤ u.cross v) (h2 : 0 ≤ v.cross w)
    (h : 0 < u.cross v ∨ 0 < v.cross w) : 0 < u.cross w :=
  (hv_smul_iff hv _).mp (cross_smul3 u v w ▸ hv_comb hw hu h1 h2 h)

/-- on the sweep's half-plane of directions, `u × v > 0` ("v is further clockwise on screen than u")
is transitive -/
theorem cross_trans {u v w : P K} (hu : Hv u) (hv : Hv v) (hw : Hv w)
    (h1 : 0 < u.cross v) (h2 : 0 < v.cross w) : 0 < u.cross w :=
  cross_trans_mix hu hv hw h1.le h2.le (Or.inl h1)

theorem cross_trans_le {u v w : P K} (hu : Hv u) (hv : Hv v) (hw : Hv w)
    (h1 : 0 ≤ u.cross v) (h2 : 0 ≤ v.cross w) : 0 ≤ u.cross w := by
  by_contra hn
  have h3 : 0 < w.cross u := by rw [cross_flip]; linarith [not_le.mp hn]
  have := cross_trans_mix hw hu hv h3.le h1 (Or.inl h3)
  rw [cross_flip] at this; linarith

/-- in the order of side `c` (`sg c = +1` left, `−1` right): for a right chain the order of the directions is reversed -/
theorem sg_cross (c : Bool) (u v : P K) : sg c * u.cross v = if c then u.cross v else v.cross u := by
  cases c
  · simp only [sg, Bool.false_eq_true, if_false]; rw [cross_flip]; ring
  · simp [sg]

theorem cross_trans_mix_sg (c : Bool) {u v w : P K} (hu : Hv u) (hv : Hv v) (hw : Hv w)
    (h : (0 ≤ sg c * u.cross v ∧ 0 < sg c * v.cross w) ∨ (0 < sg c * u.cross v ∧ 0 ≤ sg c * v.cross w)) :
    0 < sg c * u.cross w := by
  simp only [sg_cross] at h ⊢
  cases c
  · simp only [Bool.false_eq_true, if_false] at h ⊢
    rcases h with ⟨h1, h2⟩ | ⟨h1, h2⟩
    · exact cross_trans_mix hw hv hu h2.le h1 (Or.inl h2)
    · exact cross_trans_mix hw hv hu h2 h1.le (Or.inr h1)
  · simp only [if_true] at h ⊢
    rcases h with ⟨h1, h2⟩ | ⟨h1, h2⟩
    · exact cross_trans_mix hu hv hw h1 h2.le (Or.inr h2)
    · exact cross_trans_mix hu hv hw h1.le h2 (Or.inl h1)

theorem cross_trans_sg (c : Bool) {u v w : P K} (hu : Hv u) (hv : Hv v) (hw : Hv w)
    (h1 : 0 < sg c * u.cross v) (h2 : 0 < sg c * v.cross w) : 0 < sg c * u.cross w :=
  cross_trans_mix_sg c hu hv hw (Or.inl ⟨h1.le, h2⟩)

theorem cross_trans_le_sg (c : Bool) {u v w : P K} (hu : Hv u) (hv : Hv v) (hw : Hv w)
    (h1 : 0 ≤ sg c * u.cross v) (h2 : 0 ≤ sg c * v.cross w) : 0 ≤ sg c * u.cross w := by
  simp only [sg_cross] at h1 h2 ⊢
  cases c
  · exact cross_trans_le hw hv hu h2 h1
  · exact cross_trans_le hu hv hw h1 h2

/-- `v` lies strictly on side `τ` (`true` = left) of the directed line `a → b` -/
def OnSide (τ : Bool) (a b v : P K) : Prop :=
  if τ then 0 < (b - a).cross (v - a) else (b - a).cross (v - a) < 0

theorem onSide_iff (τ : Bool) (a b v : P K) : OnSide τ a b v ↔ 0 < sg τ * wind a v b := by
  have e : (b - a).cross (v - a) = wind a v b := by simp only [wind]; geom_ring
  unfold OnSide sg
  cases τ
  · simp only [Bool.false_eq_true, if_false, e]; constructor <;> intro h <;> linarith
  · simp only [if_true, e, one_mul]

/-- side flag of entry `j` (out of range: `true`) -/
def sideAt (seq : List (P K × Bool)) (j : Nat) : Bool :=
  match seq[j]? with
  | some v => v.2
  | none => true

theorem sideAt_of_getElem? {seq : List (P K × Bool)} {i : Nat} {v : P K × Bool} (h : seq[i]? = some v) :
    sideAt seq i = v.2 := by simp [sideAt, h]

/-- entries `i < k` are consecutive vertices of chain `!τ` (the apex, index 0, and the bottom
vertex, index `length − 1`, belong to both chains) and everything strictly between them is on
chain `τ` -/
def RunBetween (seq : List (P K × Bool)) (τ : Bool) (i k : Nat) : Prop :=
  (∀ j, j < k → i < j → sideAt seq j = τ) ∧ (i = 0 ∨ sideAt seq i = !τ) ∧
    (k + 1 = seq.length ∨ sideAt seq k = !τ)

/-- **valid sweep sequence** of a strictly y-monotone simple polygon:
1. positions strictly increasing in the sweep order `(y, x)`;
2. for every edge `p_i → p_k` of one chain, every vertex of the other chain passed in between
   lies strictly on its own side of the line through that edge (left chain strictly left of the
   right chain at every vertex height). -/
def SweepValid (seq : List (P K × Bool)) : Prop :=
  (∀ i, i < seq.length - 1 → After (posOf seq (i + 1)) (posOf seq i)) ∧
  ∀ k, k < seq.length → ∀ i, i < k → ∀ τ : Bool, RunBetween seq τ i k →
    ∀ j, j < k → i < j → OnSide τ (posOf seq i) (posOf seq k) (posOf seq j)

noncomputable instance (a b : P K) : Decidable (After a b) := by unfold After; infer_instance
noncomputable instance (τ : Bool) (a b v : P K) : Decidable (OnSide τ a b v) := by unfold OnSide; infer_instance
noncomputable instance (seq : List (P K × Bool)) (τ : Bool) (i k : Nat) : Decidable (RunBetween seq τ i k) := by
  unfold RunBetween; infer_instance
noncomputable instance (seq : List (P K × Bool)) : Decidable (SweepValid seq) := by unfold SweepValid; infer_instance

/-- vertices `a`, `b` are not on a line with any third vertex -/
def NoCollinear3 (seq : List (P K × Bool)) (a b : Nat) : Prop :=
  ∀ c, c < seq.length → a ≠ b → b ≠ c → a ≠ c → wind (posOf seq a) (posOf seq b) (posOf seq c) ≠ 0

/-- general position: no three vertices on a line -/
def NoCollinear (seq : List (P K × Bool)) : Prop :=
  ∀ a, a < seq.length → ∀ b, b < seq.length → NoCollinear3 seq a b

noncomputable instance (seq : List (P K × Bool)) (a b : Nat) : Decidable (NoCollinear3 seq a b) := by
  unfold NoCollinear3; infer_instance
noncomputable instance (seq : List (P K × Bool)) : Decidable (NoCollinear seq) := by
  unfold NoCollinear; infer_instance

theorem valid_after {seq : List (P K × Bool)} (h : SweepValid seq) {i j : Nat} (hij : i < j) (hj : j < seq.length) :
    After (posOf seq j) (posOf seq i) :=
  sorted_all (posOf seq) seq.length (fun i hi => h.1 i (by omega)) i j hij hj

/-- clause 2 of `SweepValid` as the proofs use it: between two consecutive vertices `i < k` of chain `!τ` every vertex `j`
(of chain `τ`) is strictly on side `τ` of the edge `i → k` -/
theorem SweepValid.edge_side {seq : List (P K × Bool)} (h : SweepValid seq) {τ : Bool} {i j k : Nat} (hij : i < j)
    (hjk : j < k) (hk : k < seq.length) (hbet : ∀ m, i < m → m < k → sideAt seq m = τ)
    (hi : i = 0 ∨ sideAt seq i = !τ) (hkk : k + 1 = seq.length ∨ sideAt seq k = !τ) :
    0 < sg τ * wind (posOf seq i) (posOf seq j) (posOf seq k) :=
  (onSide_iff _ _ _ _).mp (h.2 k hk i (by omega) τ ⟨fun m h1 h2 => hbet m h2 h1, hi, hkk⟩ j hjk hij)

/-- the same seen from the edge's own chain `!τ`: `j` is strictly on the inner side of `i → k` -/
theorem SweepValid.edge_side_inner {seq : List (P K × Bool)} (h : SweepValid seq) {τ : Bool} {i j k : Nat} (hij : i < j)
    (hjk : j < k) (hk : k < seq.length) (hbet : ∀ m, i < m → m < k → sideAt seq m = τ)
    (hi : i = 0 ∨ sideAt seq i = !τ) (hkk : k + 1 = seq.length ∨ sideAt seq k = !τ) :
    0 < sg (!τ) * wind (posOf seq i) (posOf seq k) (posOf seq j) := by
  rw [sg_not, wind_swap_bc, neg_mul_neg]
  exact h.edge_side hij hjk hk hbet hi hkk

/-- TOP-FIRST stack positions: every consecutive triple `(x, y, z)` (oldest first) failed the ear
test on side `c`, strictly: `sg c · wind x y z < 0` -/
def ReflexT (c : Bool) : List (P K) → Prop
  | z :: y :: x :: r => sg c * wind x y z < 0 ∧ ReflexT c (y :: x :: r)
  | _ => True

theorem ReflexT.tail {c : Bool} {a : P K} {l : List (P K)} (h : ReflexT c (a :: l)) : ReflexT c l := by
  match l, h with
  | [], _ => trivial
  | [_], _ => trivial
  | _ :: _ :: _, h => exact h.2

/-- TOP-FIRST: every fan pair `(y, z)` (older, newer) is strictly positive in the order of side `c` -/
def FanPosT (c : Bool) (cur : P K) : List (P K) → Prop
  | z :: y :: r => 0 < sg c * wind y z cur ∧ FanPosT c cur (y :: r)
  | _ => True

/-- TOP-FIRST: every fan pair `(y, z)` (older, newer) is weakly positive in the order of side `c` -/
def FanLeT (c : Bool) (cur : P K) : List (P K) → Prop
  | z :: y :: r => 0 ≤ sg c * wind y z cur ∧ FanLeT c cur (y :: r)
  | _ => True

/-- one step up the stack: `cur` weakly inside of line `x → y`, strictly reflex turn at `y` ⟹ `cur`
STRICTLY inside of line `y → z` (one premise weak, one strict: `cross_trans_mix_sg`) -/
theorem fan_step (c : Bool) {x y z cur : P K} (hyx : After y x) (hzy : After z y) (hcy : After cur y)
    (h1 : 0 ≤ sg c * wind x y cur) (h2 : sg c * wind x y z < 0) : 0 < sg c * wind y z cur := by
  have e2 : wind x y z = -((y - x).cross (z - y)) := by simp only [wind]; geom_ring
  rw [wind_cross_c] at h1
  rw [e2, mul_neg, neg_lt_zero] at h2
  rw [wind_cross_a]
  exact cross_trans_mix_sg c (after_hv hcy) (after_hv hyx) (after_hv hzy) (Or.inl ⟨h1, h2⟩)

/-- all non-bottom stack vertices weakly on side `c` of the line `bot → cur`, stack sorted and reflex ⟹ every fan
pair weakly positive; only the bottom pair can be flat (every pair above it is strict by `fan_step`), so with the
stack vertices strictly on side `c` every fan pair is strictly positive -/
theorem fanPos (c : Bool) (cur bot : P K) (l : List (P K)) (hlast : l.getLast? = some bot)
    (hside : ∀ y ∈ l, y = bot ∨ 0 ≤ sg c * wind bot y cur)
    (hsort : l.Pairwise (fun a b => After a b)) (hcur : ∀ y ∈ l, After cur y) (hrefl : ReflexT c l) :
    FanLeT c cur l ∧ ((∀ y ∈ l, y = bot ∨ 0 < sg c * wind bot y cur) → FanPosT c cur l) := by
  induction l with
  | nil => exact ⟨trivial, fun _ => trivial⟩
  | cons z r ih =>
    cases r with
    | nil => exact ⟨trivial, fun _ => trivial⟩
    | cons y r' =>
      rw [List.getLast?_cons_cons] at hlast
      have hs' := List.Pairwise.of_cons hsort
      have ih' := ih hlast (fun a ha => hside a (List.mem_cons_of_mem _ ha)) hs'
        (fun a ha => hcur a (List.mem_cons_of_mem _ ha)) hrefl.tail
      have hzy : After z y := List.rel_of_pairwise_cons hsort (by simp)
      have key : 0 ≤ sg c * wind y z cur ∧ ((z = bot ∨ 0 < sg c * wind bot z cur) → 0 < sg c * wind y z cur) := by
        cases r' with
        | nil =>
          simp only [List.getLast?_singleton, Option.some.injEq] at hlast
          subst hlast
          have hne : z ≠ y := fun e => after_irrefl _ (e ▸ hzy)
          exact ⟨(hside z (by simp)).resolve_left hne, fun h => h.resolve_left hne⟩
        | cons x r'' =>
          have := fan_step c (List.rel_of_pairwise_cons hs' (by simp)) hzy (hcur y (by simp)) ih'.1.1 hrefl.1
          exact ⟨this.le, fun _ => this⟩
      exact ⟨⟨key.1, ih'.1⟩, fun hs => ⟨key.2 (hs z (by simp)), ih'.2 (fun a ha => hs a (List.mem_cons_of_mem _ ha))⟩⟩

theorem FanCanon_snoc (c : Bool) (cur : P K) (l : List (P K)) (y z : P K) :
    FanCanon c cur (l ++ [y, z]) ↔ FanCanon c cur (l ++ [y]) ∧ 0 ≤ sg c * wind y z cur := by
  induction l with
  | nil => simp [FanCanon]
  | cons a r ih =>
    cases r with
    | nil => simp [FanCanon]
    | cons b r' =>
      simp only [List.cons_append, FanCanon] at ih ⊢
      rw [ih, and_assoc]

theorem FanPosT.le (c : Bool) (cur : P K) : ∀ l : List (P K), FanPosT c cur l → FanLeT c cur l
  | [], _ => trivial
  | [_], _ => trivial
  | _ :: y :: r, h => ⟨h.1.le, FanPosT.le c cur (y :: r) h.2⟩

theorem fanLeT_canon (c : Bool) (cur : P K) (l : List (P K)) (h : FanLeT c cur l) :
    FanCanon c cur l.reverse := by
  induction l with
  | nil => trivial
  | cons z r ih =>
    cases r with
    | nil => trivial
    | cons y r' =>
      rw [List.reverse_cons, List.reverse_cons, List.append_assoc]
      show FanCanon c cur (r'.reverse ++ [y, z])
      rw [FanCanon_snoc, ← List.reverse_cons]
      exact ⟨ih h.2, h.1⟩

theorem popLoop_reflex (cur lp : MV K) (st : List (MV K))
    (h : ReflexT cur.left (lp.pos :: st.map (·.pos))) :
    ReflexT cur.left (cur.pos :: (popLoop cur lp st).1.map (·.pos)) := by
  induction st generalizing lp with
  | nil => simp [popLoop, ReflexT]
  | cons top rest ih =>
    simp only [popLoop]
    split
    · exact ih top h.tail
    · rename_i hconv
      have hf : earConvex cur lp top = false := by simpa using hconv
      exact ⟨earConvex_false cur lp top hf, h⟩

/-- in a pairwise related list every entry is the last one or related to it -/
theorem rel_last {β : Type} {R : β → β → Prop} {l : List β} {b : β} (h : l.Pairwise R) (hl : l.getLast? = some b) :
    ∀ a ∈ l, a = b ∨ R a b := by
  obtain ⟨ys, rfl⟩ := List.getLast?_eq_some_iff.mp hl
  intro a ha
  rcases List.mem_append.mp ha with g | g
  · exact Or.inr ((List.pairwise_append.mp h).2.2 a g b (by simp))
  · exact Or.inl (List.mem_singleton.mp g)

theorem pairwise_last (l : List (MV K)) (b : MV K) (h : l.Pairwise (fun a b => b.id < a.id))
    (hl : l.getLast? = some b) : ∀ a ∈ l, a.id = b.id ∨ b.id < a.id :=
  fun a ha => (rel_last h hl a ha).imp (congrArg _) id

/-- the stack invariant (`k` = number of vertices fed = id of the next one) -/
structure VInv (seq : List (P K × Bool)) (s : Basic K) (k : Nat) : Prop where
  top : ∃ rest, s.stack = s.previous :: rest
  good : ∀ v ∈ s.stack, Good (posOf seq) v
  dec : s.stack.Pairwise (fun a b => b.id < a.id)
  lt : ∀ v ∈ s.stack, v.id < k
  prevId : s.previous.id + 1 = k
  prevSide : s.previous.id = 0 ∨ sideAt seq s.previous.id = s.previous.left
  run : ∀ bot, s.stack.getLast? = some bot →
    (∀ j, j < k → bot.id < j → sideAt seq j = s.previous.left) ∧
      (bot.id = 0 ∨ sideAt seq bot.id = !s.previous.left)
  reflex : ReflexT s.previous.left (s.stack.map (·.pos))

theorem begin_vInv (seq : List (P K × Bool)) (p0 : P K) (h0 : posOf seq 0 = p0) :
    VInv seq (Basic.begin p0 0) 1 := by
  refine ⟨⟨[], rfl⟩, ?_, ?_, ?_, rfl, Or.inl rfl, ?_, ?_⟩
  · intro v hv
    simp only [Basic.begin, List.mem_singleton] at hv
    subst hv; exact h0.symm
  · simp [Basic.begin]
  · intro v hv
    simp only [Basic.begin, List.mem_singleton] at hv
    subst hv; exact Nat.zero_lt_one
  · intro bot hb
    simp only [Basic.begin, List.getLast?_singleton, Option.some.injEq] at hb
    subst hb
    exact ⟨fun j h1 h2 => by simp only at h2; omega, Or.inl rfl⟩
  · simp [Basic.begin, ReflexT]

theorem vertex_vInv (seq : List (P K × Bool)) (s : Basic K) (k : Nat) (cur : MV K) (h : VInv seq s k)
    (hid : cur.id = k) (hpos : Good (posOf seq) cur) (hsd : sideAt seq k = cur.left) :
    VInv seq (s.vertex cur) (k + 1) := by
  obtain ⟨rest, hst⟩ := h.top
  have hprevmem : s.previous ∈ s.stack := by rw [hst]; simp
  by_cases hside : cur.left = s.previous.left
  · have hv := vertex_same s cur rest hside hst
    have hsuf : (popLoop cur s.previous rest).1 <:+ s.stack := hst ▸ popLoop_suffix cur s.previous rest
    have hnn := popLoop_nonempty cur s.previous rest
    have hgl := popLoop_getLast cur s.previous rest
    rw [hv]
    refine ⟨⟨_, rfl⟩, ?_, ?_, ?_, by simp [hid], Or.inr (by simp only [hid]; exact hsd), ?_, ?_⟩
    · intro v hv'
      rcases List.mem_cons.mp hv' with e | e
      · exact e ▸ hpos
      · exact h.good v (hsuf.subset e)
    · refine List.Pairwise.cons ?_ (h.dec.sublist hsuf.sublist)
      intro a ha
      have := h.lt a (hsuf.subset ha)
      omega
    · intro v hv'
      rcases List.mem_cons.mp hv' with e | e
      · rw [e, hid]; omega
      · have := h.lt v (hsuf.subset e); omega
    · intro bot hb
      simp only at hb ⊢
      rw [List.getLast?_cons_of_ne_nil hnn, hgl, ← hst] at hb
      obtain ⟨r1, r2⟩ := h.run bot hb
      rw [hside]
      refine ⟨?_, r2⟩
      intro j hj1 hj2
      by_cases e : j = k
      · rw [e, hsd, hside]
      · exact r1 j (by omega) hj2
    -- the pop loop stops at the first failed ear test, so the triple under the new top is strictly reflex again
    · simp only [List.map_cons]
      apply popLoop_reflex
      have := h.reflex
      rw [hst] at this
      rw [hside]; exact this
  · have hopp : s.previous.left = !cur.left := Bool.eq_not_of_ne (Ne.symm hside)
    have hv := vertex_other s cur hside
    have hpid := h.prevId
    rw [hv]
    refine ⟨⟨_, rfl⟩, ?_, ?_, ?_, by simp [hid], Or.inr (by simp only [hid]; exact hsd), ?_, by simp [ReflexT]⟩
    · intro v hv'
      simp only [List.mem_cons, List.not_mem_nil, or_false] at hv'
      rcases hv' with e | e
      · exact e ▸ hpos
      · exact e ▸ h.good _ hprevmem
    · simp only [List.pairwise_cons, List.mem_singleton, forall_eq, List.not_mem_nil, false_imp_iff,
        implies_true, List.Pairwise.nil, and_true]
      omega
    · intro v hv'
      simp only [List.mem_cons, List.not_mem_nil, or_false] at hv'
      rcases hv' with e | e <;> rw [e] <;> omega
    · intro bot hb
      simp only [List.getLast?_cons_cons, List.getLast?_singleton, Option.some.injEq] at hb
      subst hb
      simp only
      refine ⟨?_, ?_⟩
      · intro j hj1 hj2
        have : j = k := by omega
        rw [this, hsd]
      · rcases h.prevSide with e | e
        · exact Or.inl e
        · right; rw [e, hopp]

/-- on a valid sequence every stack vertex above the bottom entry `bot` lies strictly on the stack's side of
`bot → p_k`, where vertex `k` is on the other chain or is the last one (`SweepValid.edge_side` at that edge) -/
theorem VInv.stack_side {seq : List (P K × Bool)} {s : Basic K} {k : Nat} (h : VInv seq s k) (hval : SweepValid seq)
    (hk : k < seq.length) (hsd : k + 1 = seq.length ∨ sideAt seq k = !s.previous.left) {bot v : MV K}
    (hb : s.stack.getLast? = some bot) (hv : v ∈ s.stack) (e : bot.id < v.id) :
    0 < sg s.previous.left * wind bot.pos v.pos (posOf seq k) := by
  obtain ⟨r1, r2⟩ := h.run bot hb
  rw [h.good bot (List.mem_of_getLast? hb), h.good v hv]
  exact hval.edge_side e (h.lt v hv) hk (fun m g1 g2 => r1 m g2 g1) r2 hsd

/-- **no flip on valid sequences**: when the side changes, every fan pair is strictly positive in
the order determined by the stack's side; hence lyon's winding test never swaps -/
theorem valid_noFlip (seq : List (P K × Bool)) (s : Basic K) (k : Nat) (cur : MV K) (hval : SweepValid seq)
    (h : VInv seq s k) (hk : k < seq.length) (hid : cur.id = k) (hpos : Good (posOf seq) cur)
    (hsd : k + 1 = seq.length ∨ sideAt seq k = cur.left) :
    NoFlip s cur ∧ (cur.left ≠ s.previous.left → FanPosT s.previous.left cur.pos (s.stack.map (·.pos))) := by
  by_cases hside : cur.left = s.previous.left
  · exact ⟨Or.inl hside, fun hn => absurd hside hn⟩
  · have hopp : cur.left = !s.previous.left := Bool.eq_not_of_ne hside
    obtain ⟨rest, hst⟩ := h.top
    have hne : s.stack ≠ [] := by rw [hst]; simp
    have hb : s.stack.getLast? = some (s.stack.getLast hne) := List.getLast?_eq_some_getLast hne
    generalize s.stack.getLast hne = bot at hb
    have hbmem : bot ∈ s.stack := List.mem_of_getLast? hb
    have hcp : cur.pos = posOf seq k := by rw [← hid]; exact hpos
    have hfp : FanPosT s.previous.left cur.pos (s.stack.map (·.pos)) := by
      have hs : ∀ y ∈ s.stack.map (·.pos), y = bot.pos ∨ 0 < sg s.previous.left * wind bot.pos y cur.pos := by
        intro y hy
        obtain ⟨v, hv, rfl⟩ := List.mem_map.mp hy
        rcases pairwise_last s.stack bot h.dec hb v hv with e | e
        · left
          show v.pos = bot.pos
          rw [h.good v hv, h.good bot hbmem, e]
        · right
          rw [hcp]
          exact h.stack_side hval hk (hsd.imp id (fun e => by rw [e, hopp])) hb hv e
      refine (fanPos s.previous.left cur.pos bot.pos _ ?_ (fun y hy => (hs y hy).imp id le_of_lt) ?_ ?_ ?_).2 hs
      · rw [List.getLast?_map, hb]; rfl
      · rw [List.pairwise_map]
        refine h.dec.imp_of_mem ?_
        intro a b ha hb' hlt
        rw [h.good a ha, h.good b hb']
        exact valid_after hval hlt (by have := h.lt a ha; omega)
      · intro y hy
        obtain ⟨v, hv, rfl⟩ := List.mem_map.mp hy
        show After cur.pos v.pos
        rw [h.good v hv, hcp]
        exact valid_after hval (h.lt v hv) hk
      · exact h.reflex
    refine ⟨Or.inr ?_, fun _ => hfp⟩
    rw [List.map_reverse]
    exact fanLeT_canon _ _ _ hfp.le

/-- the run-level statement: `Σ wind(emitted) ≥ shoelace(polygon)`, with equality on valid sequences; along the run
`G` plus the area still to come (`accFrom`) stays at least, on a valid sequence exactly, the polygon's area -/
theorem run_area (seq : List (P K × Bool)) (h2 : 2 ≤ seq.length) :
    shoelaceW (polygonOf seq) ≤ sumW (posOf seq) (Basic.run seq) ∧
      (SweepValid seq → sumW (posOf seq) (Basic.run seq) = shoelaceW (polygonOf seq)) := by
  obtain ⟨s, v, ⟨hb, hle, heq⟩, hv, e⟩ := basic_run_ind seq h2
    (fun k s => BInv (posOf seq) s ∧
      shoelaceW (polygonOf seq) ≤ G (posOf seq) s + accFrom seq k (lastL s) (lastR s) ∧
      (SweepValid seq → VInv seq s k ∧ G (posOf seq) s + accFrom seq k (lastL s) (lastR s) = shoelaceW (polygonOf seq)))
    (fun v hv => by
      have hp0 : posOf seq 0 = v.1 := posOf_of_getElem? hv
      have e : G (posOf seq) (Basic.begin v.1 0) + accFrom seq 1 (lastL (Basic.begin v.1 0)) (lastR (Basic.begin v.1 0)) =
          shoelaceW (polygonOf seq) := by
        rw [begin_G, begin_lastL, begin_lastR, zero_add, ← hp0, accFrom_one seq h2]
      exact ⟨begin_bInv _ _ hp0, e.ge, fun _ => ⟨begin_vInv _ _ hp0, e⟩⟩)
    (fun k s v ⟨hb, hle, heq⟩ _ hk hv => by
      have hp := posOf_of_getElem? hv
      obtain ⟨v1, v2, v3, v4, v5⟩ := vertex_area (posOf seq) s ⟨v.1, k, v.2⟩ hb hp.symm
      rw [accFrom_step seq hv hk] at hle heq
      refine ⟨v1, by rw [v2, v3]; linarith, fun hval => ?_⟩
      obtain ⟨hvi, e⟩ := heq hval
      have nf := (valid_noFlip seq s k ⟨v.1, k, v.2⟩ hval hvi (by omega) rfl hp.symm
        (Or.inr (sideAt_of_getElem? hv))).1
      exact ⟨vertex_vInv seq s k _ hvi rfl hp.symm (sideAt_of_getElem? hv), by rw [v2, v3, v5 nf]; linarith⟩)
  have hp := posOf_of_getElem? hv
  obtain ⟨e1, e2⟩ := end_area (posOf seq) s v.1 (seq.length - 1) hp hb
  rw [accFrom_last seq (by omega), hp] at hle heq
  rw [e]
  refine ⟨by linarith, fun hval => ?_⟩
  obtain ⟨hvi, e3⟩ := heq hval
  rw [e2 (valid_noFlip seq s _ ⟨v.1, seq.length - 1, !s.previous.left⟩ hval hvi (by omega) rfl hp.symm
    (Or.inl (by omega))).1, e3]

end Lyon.C02c
