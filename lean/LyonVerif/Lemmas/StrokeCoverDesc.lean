/-
  C06b: WHAT a fixed-width run of the complete stroker model emits, as positions (the description the emission proofs
  establish and the cover / reach proofs consume): `Emitted` (open polyline `pt 0 … pt n`), `EmittedC` (closed polygon) -
  the edge quads and the join triangles are there, and (`only`) every emitted triangle has its three vertices among the
  corners of one quad, among the vertices of one join, or among a join's / cap's vertices and the circle of radius `w/2`
  around its path point (the fans of round joins and caps; these alternatives are kept for every join and cap kind).
  `eL`, `eT`, `jtau`, `edge_eq`: the polyline by index (edge lengths, unit tangents, signed half-turn tangents).
  `jEP e pt i`: the endpoint record `compute_join_side_positions_fixed_width` produces for the join at `pt i` (the model
  function itself, applied to fresh endpoints at `pt (i-1)`, `pt i`, `pt (i+1)`); only its geometry (`EP.geo`) is used.
-/
import LyonVerif.Lemmas.StrokeIdxCount
import LyonVerif.Lemmas.StrokeIdxClipGeo
import LyonVerif.Lemmas.StrokeCapClip

set_option linter.unusedSectionVars false

namespace Lyon.C06b
open Lyon Scalar Lyon.Stroke Lyon.Stroke.Full Lyon.C05 Lyon.C05b Lyon.C05c

section
variable {K : Type} [Field K] [LinearOrder K] [IsStrictOrderedRing K]

/-- the vertex `id` of `o` was emitted at `p` -/
def PosAt (o : Out K) (id : Nat) (p : P K) : Prop := ∃ v, o.verts[id]? = some v ∧ v.position = p

/-- `o` contains a triangle (index triple) whose vertices were emitted at the three given positions -/
def EmTri (o : Out K) (T : P K × P K × P K) : Prop :=
  ∃ t ∈ o.tris, PosAt o t.1 T.1 ∧ PosAt o t.2.1 T.2.1 ∧ PosAt o t.2.2 T.2.2

/-- `o'` extends `o`: more vertices, more triangles, nothing changed -/
def Ext (o o' : Out K) : Prop := (∃ vs, o'.verts = o.verts ++ vs) ∧ (∃ ts, o'.tris = o.tris ++ ts)

theorem Ext.refl (o : Out K) : Ext o o := ⟨⟨[], by simp⟩, ⟨[], by simp⟩⟩

theorem Ext.trans {a b c : Out K} (h1 : Ext a b) (h2 : Ext b c) : Ext a c := by
  obtain ⟨⟨v1, e1⟩, ⟨t1, f1⟩⟩ := h1
  obtain ⟨⟨v2, e2⟩, ⟨t2, f2⟩⟩ := h2
  exact ⟨⟨v1 ++ v2, by rw [e2, e1, List.append_assoc]⟩, ⟨t1 ++ t2, by rw [f2, f1, List.append_assoc]⟩⟩

theorem Ext.len_le {o o' : Out K} (h : Ext o o') : o.verts.length ≤ o'.verts.length := by
  obtain ⟨⟨vs, e⟩, _⟩ := h; rw [e, List.length_append]; omega

theorem Ext.addTris (o : Out K) (t : List Stroke.Tri) : Ext o (o.addTris t) := ⟨⟨[], by simp [Out.addTris]⟩, ⟨t, rfl⟩⟩

theorem Ext.of_eq {o o' : Out K} (hv : o'.verts = o.verts) (ht : ∃ ts, o'.tris = o.tris ++ ts) : Ext o o' :=
  ⟨⟨[], by simp [hv]⟩, ht⟩

theorem posAt_lt {o : Out K} {id : Nat} {p : P K} (h : PosAt o id p) : id < o.verts.length := by
  obtain ⟨v, hv, _⟩ := h
  by_contra hge
  rw [List.getElem?_eq_none (by omega)] at hv; cases hv

theorem PosAt.ext {o o' : Out K} (h : Ext o o') {id : Nat} {p : P K} (hp : PosAt o id p) : PosAt o' id p := by
  obtain ⟨⟨vs, e⟩, _⟩ := h
  have hlt := posAt_lt hp
  obtain ⟨v, hv, hq⟩ := hp
  refine ⟨v, ?_, hq⟩
  rw [e, List.getElem?_append_left hlt]; exact hv

theorem EmTri.ext {o o' : Out K} (h : Ext o o') {T : P K × P K × P K} (hT : EmTri o T) : EmTri o' T := by
  obtain ⟨t, ht, h1, h2, h3⟩ := hT
  obtain ⟨ts, e⟩ := h.2
  exact ⟨t, by rw [e]; exact List.mem_append_left _ ht, h1.ext h, h2.ext h, h3.ext h⟩

/-- the three vertices of the index triple `t` were emitted at positions that all belong to `S` -/
def TriIn (o : Out K) (S : List (P K)) (t : Stroke.Tri) : Prop :=
  ∃ p1 p2 p3, PosAt o t.1 p1 ∧ PosAt o t.2.1 p2 ∧ PosAt o t.2.2 p3 ∧ p1 ∈ S ∧ p2 ∈ S ∧ p3 ∈ S

theorem TriIn.ext {o o' : Out K} (h : Ext o o') {S : List (P K)} {t : Stroke.Tri} (hT : TriIn o S t) : TriIn o' S t := by
  obtain ⟨p1, p2, p3, a, b, c, d⟩ := hT
  exact ⟨p1, p2, p3, a.ext h, b.ext h, c.ext h, d⟩

theorem TriIn.mono {o : Out K} {S S' : List (P K)} (hS : ∀ p ∈ S, p ∈ S') {t : Stroke.Tri} (hT : TriIn o S t) : TriIn o S' t := by
  obtain ⟨p1, p2, p3, a, b, c, d1, d2, d3⟩ := hT
  exact ⟨p1, p2, p3, a, b, c, hS _ d1, hS _ d2, hS _ d3⟩

/-- the three vertices of `t` were emitted at positions that belong to `S` or lie on the circle of squared radius
`r2` around `c` (the triangles of a round join's fan) -/
def TriFan (o : Out K) (S : List (P K)) (c : P K) (r2 : K) (t : Stroke.Tri) : Prop :=
  ∃ p1 p2 p3, PosAt o t.1 p1 ∧ PosAt o t.2.1 p2 ∧ PosAt o t.2.2 p3
    ∧ (p1 ∈ S ∨ (p1 - c).sqLen = r2) ∧ (p2 ∈ S ∨ (p2 - c).sqLen = r2) ∧ (p3 ∈ S ∨ (p3 - c).sqLen = r2)

theorem TriIn.toFan {o : Out K} {S : List (P K)} {t : Stroke.Tri} (hT : TriIn o S t) (c : P K) (r2 : K) : TriFan o S c r2 t := by
  obtain ⟨p1, p2, p3, a, b, c', d1, d2, d3⟩ := hT
  exact ⟨p1, p2, p3, a, b, c', Or.inl d1, Or.inl d2, Or.inl d3⟩

theorem TriFan.ext {o o' : Out K} (h : Ext o o') {S : List (P K)} {c : P K} {r2 : K} {t : Stroke.Tri}
    (hT : TriFan o S c r2 t) : TriFan o' S c r2 t := by
  obtain ⟨p1, p2, p3, a, b, c', d⟩ := hT
  exact ⟨p1, p2, p3, a.ext h, b.ext h, c'.ext h, d⟩

/-- the vertex a side is joined to on the previous / next edge: its single vertex, else `prev` / `next` -/
def sPrev (s : SideGeom K) : P K := s.single.getD s.prev
def sNext (s : SideGeom K) : P K := s.single.getD s.next

variable [Transc K]

/-- length of the edge `pt k → pt (k+1)` (`Vector::length`) -/
noncomputable def eL (pt : Nat → P K) (k : Nat) : K := len (pt (k + 1) - pt k)
/-- its unit tangent, as the model computes it (`edge / edge.length()`) -/
noncomputable def eT (pt : Nat → P K) (k : Nat) : P K := (pt (k + 1) - pt k).sdiv (len (pt (k + 1) - pt k))
/-- signed tangent of half the turn angle at `pt (k+1)`: `(t_k × t_{k+1}) / (1 + t_k · t_{k+1})` -/
noncomputable def jtau (pt : Nat → P K) (k : Nat) : K :=
  (eT pt k).cross (eT pt (k + 1)) / (1 + (eT pt k).dot (eT pt (k + 1)))

theorem sqLen_pos_of_len (hs : ∀ x : K, 0 ≤ x → Transc.sqrt x * Transc.sqrt x = x) {eps : K} (heps : 0 ≤ eps)
    (pt : Nat → P K) (i : Nat) (h1 : eps < eL pt i) : 0 < (pt (i + 1) - pt i).sqLen := by
  have h2 : eL pt i * eL pt i = (pt (i + 1) - pt i).sqLen := hs _ (P.sqLen_nonneg _)
  have hpos : 0 < eL pt i := lt_of_le_of_lt heps h1
  rw [← h2]; exact mul_pos hpos hpos

theorem edge_eq (hs0 : ∀ x : K, 0 ≤ x → 0 ≤ Transc.sqrt x) (hs : ∀ x : K, 0 ≤ x → Transc.sqrt x * Transc.sqrt x = x)
    (pt : Nat → P K) (k : Nat) (hL : 0 < (pt (k + 1) - pt k).sqLen) :
    0 < eL pt k ∧ (eT pt k).sqLen = 1 ∧ pt (k + 1) - pt k = (eT pt k).smul (eL pt k) := by
  obtain ⟨h1, h2⟩ := sdiv_unit hs0 hs _ hL
  exact ⟨h1, h2, sdiv_smul _ h1.ne'⟩

theorem next_pt {pt : Nat → P K} {k : Nat} (hd : pt (k + 1) - pt k = (eT pt k).smul (eL pt k)) :
    pt (k + 1) = pt k + (eT pt k).smul (eL pt k) := by
  rw [← hd]; geom_ring

/-- the hypothesis under which round joins are admitted: `cos² + sin² = 1` -/
def RoundOK (e : Env K) : Prop :=
  e.o.join ≠ .round ∨ ∀ x : K, Transc.cos x * Transc.cos x + Transc.sin x * Transc.sin x = 1

/-- a vertex position that is one of the join's own vertices or lies on the join's circle -/
def FanPt (S : List (P K)) (c : P K) (r2 : K) (p : P K) : Prop := p ∈ S ∨ (p - c).sqLen = r2

/-- the geometry of a side: `SidePoints` without the vertex ids -/
def sgeo (s : SideGeom K) : P K × P K × Option (P K) := (s.prev, s.next, s.single)
def EP.geo (j : EP K) : (P K × P K × Option (P K)) × (P K × P K × Option (P K)) := (sgeo j.pos, sgeo j.neg)

theorem geo_pos {x y : EP K} (h : EP.geo x = EP.geo y) :
    x.pos.prev = y.pos.prev ∧ x.pos.next = y.pos.next ∧ x.pos.single = y.pos.single := by
  simp only [EP.geo, sgeo, Prod.mk.injEq] at h; exact ⟨h.1.1, h.1.2.1, h.1.2.2⟩
theorem geo_neg {x y : EP K} (h : EP.geo x = EP.geo y) :
    x.neg.prev = y.neg.prev ∧ x.neg.next = y.neg.next ∧ x.neg.single = y.neg.single := by
  simp only [EP.geo, sgeo, Prod.mk.injEq] at h; exact ⟨h.2.1, h.2.2.1, h.2.2.2⟩

theorem geo_sPrev_pos {x y : EP K} (h : EP.geo x = EP.geo y) : sPrev x.pos = sPrev y.pos := by
  obtain ⟨a, b, c⟩ := geo_pos h; simp [sPrev, a, c]
theorem geo_sNext_pos {x y : EP K} (h : EP.geo x = EP.geo y) : sNext x.pos = sNext y.pos := by
  obtain ⟨a, b, c⟩ := geo_pos h; simp [sNext, b, c]
theorem geo_sPrev_neg {x y : EP K} (h : EP.geo x = EP.geo y) : sPrev x.neg = sPrev y.neg := by
  obtain ⟨a, b, c⟩ := geo_neg h; simp [sPrev, a, c]
theorem geo_sNext_neg {x y : EP K} (h : EP.geo x = EP.geo y) : sNext x.neg = sNext y.neg := by
  obtain ⟨a, b, c⟩ := geo_neg h; simp [sNext, b, c]

/-- the geometry `compute_join_side_positions_fixed_width` leaves depends on the three positions, the
join kind and the `single` fields it started from only -/
theorem joinSidesFw_geo_congr (ix : Lyon.StrokeQuad.Ix K) {prev join next prev' join' next' : EP K} (ml vhw : K)
    (h1 : prev.position = prev'.position) (h2 : join.position = join'.position)
    (h3 : join.lineJoin = join'.lineJoin) (h4 : next.position = next'.position)
    (h5 : join.pos.single = join'.pos.single) (h6 : join.neg.single = join'.neg.single) :
    EP.geo (joinSidesFw ix prev join next ml vhw) = EP.geo (joinSidesFw ix prev' join' next' ml vhw) := by
  have hg := fwGeo_congr (prev := prev) (join := join) (next := next) (prev' := prev') (join' := join')
    (next' := next') ml vhw h1 h2 h3 h4
  unfold joinSidesFw frontFix
  simp only [hg, h2, h3, h5, h6]
  -- only the `prev` / `next` / `single` fields are compared: the three tests decide everything else
  cases (fwGeo prev' join' next' ml vhw).fold <;> cases (fwGeo prev' join' next' ml vhw).frontNeg <;>
    cases (fwGeo prev' join' next' ml vhw).unclipped <;> cases (join'.lineJoin == Lyon.StrokeQuad.Join.miterClip) <;>
    simp only [EP.geo, sgeo, if_true, if_false, Bool.false_eq_true]

/-- the join at `pt i` as the model computes it from fresh endpoints -/
noncomputable def jEP (e : Env K) (pt : Nat → P K) (i : Nat) : EP K :=
  joinSidesFw e.ix (linePt e (i - 1, pt (i - 1))) (linePt e (i, pt i)) (linePt e (i + 1, pt (i + 1)))
    e.o.miterLimit e.hwFw

theorem joinSidesFw_hw (ix : Lyon.StrokeQuad.Ix K) (prev join next : EP K) (ml vhw : K) :
    (joinSidesFw ix prev join next ml vhw).halfWidth = join.halfWidth := by rw [joinSidesFw_eq]

theorem jEP_position (e : Env K) (pt : Nat → P K) (k : Nat) : (jEP e pt k).position = pt k := by
  unfold jEP; rw [joinSidesFw_eq]; rfl

theorem jEP_hw (e : Env K) (pt : Nat → P K) (k : Nat) : (jEP e pt k).halfWidth = e.hwFw :=
  joinSidesFw_hw e.ix _ _ _ e.o.miterLimit e.hwFw

/-- the two triangles of `add_edge_triangles` between two joins, as positions -/
def EmQuadJ (o : Out K) (J J' : EP K) : Prop :=
  EmTri o (sNext J.neg, sNext J.pos, sPrev J'.pos) ∧ EmTri o (sNext J.neg, sPrev J'.pos, sPrev J'.neg)

/-- the triangle of `tessellate_join` on the side that has two vertices, as positions -/
def EmJoin (o : Out K) (J : EP K) : Prop :=
  (J.pos.single.isSome = true → J.neg.single = none → EmTri o (J.neg.prev, sPrev J.pos, J.neg.next))
  ∧ (J.neg.single.isSome = true → J.pos.single = none → EmTri o (sPrev J.neg, J.pos.prev, J.pos.next))

theorem EmQuadJ.ext {o o' : Out K} (h : Ext o o') {J J' : EP K} (hq : EmQuadJ o J J') : EmQuadJ o' J J' :=
  ⟨hq.1.ext h, hq.2.ext h⟩
theorem EmJoin.ext {o o' : Out K} (h : Ext o o') {J : EP K} (hq : EmJoin o J) : EmJoin o' J :=
  ⟨fun a b => (hq.1 a b).ext h, fun a b => (hq.2 a b).ext h⟩

/-- the corners of the edge quad between two joins -/
def quadSet (J J' : EP K) : List (P K) := [sNext J.neg, sNext J.pos, sPrev J'.pos, sPrev J'.neg]
/-- the vertices of a join -/
def joinSet (J : EP K) : List (P K) := [sPrev J.neg, sNext J.neg, sPrev J.pos, sNext J.pos]

/-! `EmQuadJ`, `EmJoin`, `quadSet`, `joinSet` see the geometry `EP.geo` of a join record only (its positions, not its ids) -/
theorem emQuadJ_congr {o : Out K} {J J' G G' : EP K} (h : EP.geo J = EP.geo G) (h' : EP.geo J' = EP.geo G')
    (hq : EmQuadJ o G G') : EmQuadJ o J J' := by
  unfold EmQuadJ at hq ⊢
  rw [geo_sNext_neg h, geo_sNext_pos h, geo_sPrev_pos h', geo_sPrev_neg h']; exact hq

theorem emJoin_congr {o : Out K} {J G : EP K} (h : EP.geo J = EP.geo G) (hq : EmJoin o G) : EmJoin o J := by
  obtain ⟨g1, g2, g3⟩ := geo_pos h
  obtain ⟨g4, g5, g6⟩ := geo_neg h
  unfold EmJoin at hq ⊢
  rw [g1, g2, g3, g4, g5, g6, geo_sPrev_pos h, geo_sPrev_neg h]; exact hq

theorem quadSet_congr {J J' G G' : EP K} (h : EP.geo J = EP.geo G) (h' : EP.geo J' = EP.geo G') :
    quadSet J J' = quadSet G G' := by
  unfold quadSet
  rw [geo_sNext_neg h, geo_sNext_pos h, geo_sPrev_pos h', geo_sPrev_neg h']

theorem joinSet_congr {J G : EP K} (h : EP.geo J = EP.geo G) : joinSet J = joinSet G := by
  unfold joinSet
  rw [geo_sPrev_neg h, geo_sNext_neg h, geo_sPrev_pos h, geo_sNext_pos h]

/-- the first point of the sub-path after `line_to (pt 1)` -/
noncomputable def fPt (e : Env K) (pt : Nat → P K) : EP K := firstPt e 0 1 (pt 0) (pt 1)

/-- `(i, pt i)` for `i = k, …, k + m - 1`: the points the `line_to` events carry -/
def restPts (pt : Nat → P K) (k m : Nat) : List (Nat × P K) := (List.range' k m).map (fun i => (i, pt i))

theorem restPts_succ (pt : Nat → P K) (k m : Nat) : restPts pt k (m + 1) = (k, pt k) :: restPts pt (k + 1) m := by
  simp [restPts, List.range'_succ]

/-- a cap vertex: `position_on_path = c`, `half_width = hw`, `normal = (x - c) / hw` -/
noncomputable def capV (src : Src K) (c : P K) (hw adv : K) (side : Side) (x : P K) : VData K :=
  { baseVertex src c hw adv with side := side, normal := (x - c).sdiv hw }

theorem capV_position (src : Src K) (c : P K) (hw adv : K) (side : Side) (x : P K) (h : hw ≠ 0) :
    (capV src c hw adv side x).position = x := emit_position c x hw h

theorem Ext.grow (o : Out K) (vs : List (VData K)) (ts : List Stroke.Tri) : Ext o (o.grow vs ts) := ⟨⟨vs, rfl⟩, ⟨ts, rfl⟩⟩

theorem next_grow {o : Out K} (hn : o.nextId = o.verts.length) (vs : List (VData K)) (ts : List Stroke.Tri) :
    (o.grow vs ts).nextId = (o.grow vs ts).verts.length := by simp [Out.grow, hn]

/-- the `i`-th vertex of an appended block sits at id `o.nextId + i` -/
theorem posAt_grow {o : Out K} (hn : o.nextId = o.verts.length) {vs : List (VData K)} (ts : List Stroke.Tri) {i : Nat}
    {v : VData K} {p : P K} (h : vs[i]? = some v) (hp : v.position = p) : PosAt (o.grow vs ts) (o.nextId + i) p :=
  ⟨v, by
    show (o.verts ++ vs)[o.nextId + i]? = _
    rw [hn, List.getElem?_append_right (Nat.le_add_right _ _), Nat.add_sub_cancel_left]; exact h, hp⟩

/-- the two cap vertices of `tessellate_last_edge` / `tessellate_first_edge` / `close` -/
theorem posAt_grow2 {o : Out K} (hn : o.nextId = o.verts.length) (src : Src K) (c : P K) (hw adv : K) (hw0 : hw ≠ 0) (x y : P K)
    (ts : List Stroke.Tri) :
    PosAt (o.grow [capV src c hw adv .positive x, capV src c hw adv .negative y] ts) o.nextId x
    ∧ PosAt (o.grow [capV src c hw adv .positive x, capV src c hw adv .negative y] ts) (o.nextId + 1) y :=
  ⟨posAt_grow hn ts (i := 0) rfl (capV_position _ _ _ _ _ _ hw0),
   posAt_grow hn ts (i := 1) rfl (capV_position _ _ _ _ _ _ hw0)⟩

/-- side conditions under which a cap is followed: not round, or round with the law `cos² + sin² = 1` and an edge
direction `v` that normalises to a unit vector -/
def CapOK (cap : LineCap) (v : P K) : Prop :=
  cap ≠ .round ∨ ((∀ x : K, Transc.cos x * Transc.cos x + Transc.sin x * Transc.sin x = 1) ∧ (normalize v).sqLen = 1)

/-- `perp(tangent of the last edge) · w/2` -/
noncomputable def endN (e : Env K) (pt : Nat → P K) (n : Nat) : P K :=
  (perp (normalize (pt n - pt (n - 1)))).smul e.hwFw
/-- the `next` side points of the point before the last one (the `other` ends of the side lines the end cap clips) -/
noncomputable def prevNext (e : Env K) (pt : Nat → P K) (n : Nat) : P K × P K :=
  if n = 1 then ((fPt e pt).pos.next, (fPt e pt).neg.next) else ((jEP e pt (n - 1)).pos.next, (jEP e pt (n - 1)).neg.next)
/-- the two vertices of `tessellate_last_edge` -/
noncomputable def endPos (e : Env K) (pt : Nat → P K) (n : Nat) : P K :=
  clipSidePos e.ix e.o.endCap (pt n) (pt (n - 1)) e.hwFw (pt n + endN e pt n) (prevNext e pt n).1
noncomputable def endNeg (e : Env K) (pt : Nat → P K) (n : Nat) : P K :=
  clipSidePos e.ix e.o.endCap (pt n) (pt (n - 1)) e.hwFw (pt n - endN e pt n) (prevNext e pt n).2
/-- the `prev` side points of the second point -/
noncomputable def secondPrev (e : Env K) (pt : Nat → P K) (n : Nat) : P K × P K :=
  if n = 1 then (endPos e pt n, endNeg e pt n) else ((jEP e pt 1).pos.prev, (jEP e pt 1).neg.prev)
/-- the two vertices of `tessellate_first_edge` -/
noncomputable def startPos (e : Env K) (pt : Nat → P K) (n : Nat) : P K :=
  clipSidePos e.ix e.o.startCap (pt 0) (pt 1) e.hwFw (fPt e pt).pos.next (secondPrev e pt n).1
noncomputable def startNeg (e : Env K) (pt : Nat → P K) (n : Nat) : P K :=
  clipSidePos e.ix e.o.startCap (pt 0) (pt 1) e.hwFw (fPt e pt).neg.next (secondPrev e pt n).2

/-- **what the run emits**: for the polyline `pt 0 … pt n` the output contains, as index triples over
vertices emitted at exactly these positions, the edge quad of every edge (between the cap corners /
the joins' side points) and the join triangle of every join that has one -/
structure Emitted (e : Env K) (pt : Nat → P K) (n : Nat) (o : Out K) : Prop where
  quads : ∀ i, 1 ≤ i → i + 1 < n → EmQuadJ o (jEP e pt i) (jEP e pt (i + 1))
  joins : ∀ i, 1 ≤ i → i < n → EmJoin o (jEP e pt i)
  last : 2 ≤ n → EmTri o (sNext (jEP e pt (n - 1)).neg, sNext (jEP e pt (n - 1)).pos, endPos e pt n)
    ∧ EmTri o (sNext (jEP e pt (n - 1)).neg, endPos e pt n, endNeg e pt n)
  first : 2 ≤ n → EmTri o (startNeg e pt n, startPos e pt n, sPrev (jEP e pt 1).pos)
    ∧ EmTri o (startNeg e pt n, sPrev (jEP e pt 1).pos, sPrev (jEP e pt 1).neg)
  single : n = 1 → EmTri o (startNeg e pt n, startPos e pt n, endPos e pt n)
    ∧ EmTri o (startNeg e pt n, endPos e pt n, endNeg e pt n)
  /-- every emitted index triple has its three vertices among the corners of one quad, among the vertices of one join,
  or (fan alternatives, kept whatever the join / cap kind) among a join's or cap's vertices and the circle of radius
  `w/2` around its path point -/
  only : ∀ t ∈ o.tris,
    (∃ i, 1 ≤ i ∧ i + 1 < n ∧ TriIn o (quadSet (jEP e pt i) (jEP e pt (i + 1))) t)
    ∨ (∃ i, 1 ≤ i ∧ i < n ∧ TriIn o (joinSet (jEP e pt i)) t)
    ∨ (∃ i, 1 ≤ i ∧ i < n ∧ TriFan o (joinSet (jEP e pt i)) (pt i) (e.hwFw * e.hwFw) t)
    ∨ (2 ≤ n ∧ TriIn o [sNext (jEP e pt (n - 1)).neg, sNext (jEP e pt (n - 1)).pos, endPos e pt n, endNeg e pt n] t)
    ∨ (2 ≤ n ∧ TriIn o [startNeg e pt n, startPos e pt n, sPrev (jEP e pt 1).pos, sPrev (jEP e pt 1).neg] t)
    ∨ (n = 1 ∧ TriIn o [startNeg e pt n, startPos e pt n, endPos e pt n, endNeg e pt n] t)
    ∨ (1 ≤ n ∧ TriFan o [endPos e pt n, endNeg e pt n] (pt n) (e.hwFw * e.hwFw) t)
    ∨ (1 ≤ n ∧ TriFan o [startNeg e pt n, startPos e pt n] (pt 0) (e.hwFw * e.hwFw) t)

/-- **what the run emits for a closed polygon** with points `pt 0 … pt m` (`pt (m+1) = pt 0`,
`pt (m+2) = pt 1`): the edge quads between consecutive joins `1 … m+1`, the quad of the first edge between
the join at `pt (m+1) = pt 0` and the join at `pt 1`, the join triangles of the joins `1 … m+1`; `only` as for `Emitted` -/
structure EmittedC (e : Env K) (pt : Nat → P K) (m : Nat) (o : Out K) : Prop where
  quads : ∀ i, 1 ≤ i → i ≤ m → EmQuadJ o (jEP e pt i) (jEP e pt (i + 1))
  closing : EmQuadJ o (jEP e pt (m + 1)) (jEP e pt 1)
  joins : ∀ i, 1 ≤ i → i ≤ m + 1 → EmJoin o (jEP e pt i)
  only : ∀ t ∈ o.tris,
    (∃ i, 1 ≤ i ∧ i ≤ m ∧ TriIn o (quadSet (jEP e pt i) (jEP e pt (i + 1))) t)
    ∨ (∃ i, 1 ≤ i ∧ i ≤ m + 1 ∧ TriIn o (joinSet (jEP e pt i)) t)
    ∨ (∃ i, 1 ≤ i ∧ i ≤ m + 1 ∧ TriFan o (joinSet (jEP e pt i)) (pt i) (e.hwFw * e.hwFw) t)
    ∨ TriIn o (quadSet (jEP e pt (m + 1)) (jEP e pt 1)) t

end

section Run
variable {K : Type} [Field K] [LinearOrder K] [IsStrictOrderedRing K] [Transc K] [Asin K] [FlatConst K]

/-- the events of the open polyline `pt 0, …, pt n` (`n ≥ 1` edges); endpoint ids are the indices, as
`tessellate_fw` assigns them -/
def polyEvs (pt : Nat → P K) (n : Nat) : List (IdEv K) :=
  IdEv.begin 0 (pt 0) :: IdEv.line 1 (pt 1) :: (lineEvs (restPts pt 2 (n - 1)) ++ [IdEv.end_ false])

/-- the events of the closed polygon `pt 0, …, pt m` (`m ≥ 2`): `begin, line_to × m, end(true)` -/
def polyEvsC (pt : Nat → P K) (m : Nat) : List (IdEv K) :=
  IdEv.begin 0 (pt 0) :: IdEv.line 1 (pt 1) :: (lineEvs (restPts pt 2 (m - 1)) ++ [IdEv.end_ true])

end Run

end Lyon.C06b
