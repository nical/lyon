/-
  C13 — the numeric step of the angular-offset bound for quadratic pieces of
  `Props/C13e.lean`: `tan x ≤ 1.06·x` on `[0, π/8]` (`sin_le_mul_cos_real`, from Mathlib's
  `Real.sin_bound` and `1 − x²/2 ≤ cos x`), `4 sin δ ≥ 0.94·δ·(3 + cos δ)` on `[0, π/4]`
  (`rate_lower_real`, from `sin_gt_sub_cube` and `Real.cos_bound`), and hence
  `|θ'(t) − δ| ≤ 0.06·δ` for the angular velocity of `Props/C13d.lean` (`quad_rate_bounds_real`).
-/
import LyonVerif.Props.C13d


namespace Lyon.C13
open Lyon Scalar ArcConv

theorem pi_div_eight_le : Real.pi / 8 ≤ 3927 / 10000 := by
  have := Real.pi_lt_d4
  norm_num at this ⊢
  linarith

theorem sin_le_mul_cos_real (x : ℝ) (h0 : 0 ≤ x) (h1 : x ≤ Real.pi / 8) :
    Real.sin x ≤ 106 / 100 * x * Real.cos x := by
  have hx : x ≤ 3927 / 10000 := le_trans h1 pi_div_eight_le
  have hab : |x| ≤ 1 := by rw [abs_of_nonneg h0]; exact hx.trans (by norm_num)
  have hs := (abs_le.mp (Real.sin_bound hab)).2
  rw [abs_of_nonneg h0] at hs
  have hc := Real.one_sub_sq_div_two_le_cos (x := x)
  have hx2 : x ^ 2 ≤ 15422 / 100000 := by
    rw [sq]; exact (mul_self_le_mul_self h0 hx).trans (by norm_num)
  -- `0.3927² ≤ 0.15422`; the crude `x⁴ ≤ 0.15422² ≤ 0.15422` is all `hp` needs
  have hx4 : x ^ 4 ≤ 15422 / 100000 := by
    rw [show x ^ 4 = x ^ 2 * x ^ 2 by ring]
    exact (mul_le_mul hx2 hx2 (sq_nonneg x) (by norm_num)).trans (by norm_num)
  -- sin x ≤ x − x³/6 + x⁵/100 ≤ 1.06·x·(1 − x²/2) ≤ 1.06·x·cos x
  have key : x - x ^ 3 / 6 + x ^ 5 / 100 ≤ 106 / 100 * x * (1 - x ^ 2 / 2) := by
    have e : 106 / 100 * x * (1 - x ^ 2 / 2) - (x - x ^ 3 / 6 + x ^ 5 / 100)
        = x * (6 / 100 - (53 / 100 - 1 / 6) * x ^ 2 - x ^ 4 / 100) := by ring
    have hp : 0 ≤ 6 / 100 - (53 / 100 - 1 / 6) * x ^ 2 - x ^ 4 / 100 := by linarith only [hx2, hx4]
    linarith only [e, mul_nonneg h0 hp]
  have hmono : 106 / 100 * x * (1 - x ^ 2 / 2) ≤ 106 / 100 * x * Real.cos x :=
    mul_le_mul_of_nonneg_left hc (by positivity)
  linarith

theorem rate_lower_real (d : ℝ) (h0 : 0 ≤ d) (h1 : d ≤ Real.pi / 4) :
    94 / 100 * d * (3 + Real.cos d) ≤ 4 * Real.sin d := by
  rcases eq_or_lt_of_le h0 with h | hpos
  · rw [← h]; simp
  have hd : d ≤ 7854 / 10000 := by linarith only [h1, pi_div_eight_le]
  have hab : |d| ≤ 1 := by rw [abs_of_pos hpos]; exact hd.trans (by norm_num)
  have hs := Real.sin_gt_sub_cube hpos
  have hc := (abs_le.mp (Real.cos_bound hab)).2
  rw [abs_of_pos hpos] at hc
  have hd2 : d ^ 2 ≤ 6169 / 10000 := by
    rw [sq]; exact (mul_self_le_mul_self h0 hd).trans (by norm_num)
  -- `0.7854² ≤ 0.6169`; for `d⁴` the same crude bound again
  have hd4 : d ^ 4 ≤ 6169 / 10000 := by
    rw [show d ^ 4 = d ^ 2 * d ^ 2 by ring]
    exact (mul_le_mul hd2 hd2 (sq_nonneg d) (by norm_num)).trans (by norm_num)
  have hcos : 3 + Real.cos d ≤ 4 - d ^ 2 / 2 + d ^ 4 * (5 / 96) := by linarith only [hc]
  have step1 : 94 / 100 * d * (3 + Real.cos d) ≤ 94 / 100 * d * (4 - d ^ 2 / 2 + d ^ 4 * (5 / 96)) :=
    mul_le_mul_of_nonneg_left hcos (by positivity)
  have key : 94 / 100 * d * (4 - d ^ 2 / 2 + d ^ 4 * (5 / 96)) ≤ 4 * (d - d ^ 3 / 6) := by
    have e : 4 * (d - d ^ 3 / 6) - 94 / 100 * d * (4 - d ^ 2 / 2 + d ^ 4 * (5 / 96))
        = d * (24 / 100 - (2 / 3 - 47 / 100) * d ^ 2 - (94 / 100 * (5 / 96)) * d ^ 4) := by ring
    have hp : 0 ≤ 24 / 100 - (2 / 3 - 47 / 100) * d ^ 2 - (94 / 100 * (5 / 96)) * d ^ 4 := by
      linarith only [hd2, hd4]
    linarith only [e, mul_nonneg h0 hp]
  linarith only [hs, step1, key]

/-- the algebra of `quad_rate_bounds_real`, with `s, c, τ` the sine, cosine and tangent of `δ/2 ≥ 0` and
`w = t(1−t)`: numerator `N = 2τ(1 − 2s²w)` and denominator `D = 1 + (2sτw)²` of the angular velocity
satisfy `N ≤ 2τ ≤ 1.06·δ ≤ 1.06·δ·D` and, as `w ≤ 1/4`,
`0.94·δ·D ≤ 0.94·δ·(1 + s²τ²/4) ≤ 2τ(1 − s²/2) ≤ N`; the middle step is `hL` times `1 − s²/2`, after
multiplication by `c²`: `c²(1 + s²τ²/4) = (1 − s²/2)²`. -/
theorem quad_rate_algebra (s c τ w d : ℝ) (hu : c * c + s * s = 1) (htan : τ * c = s) (hcp : 0 < c)
    (hs0 : 0 ≤ s) (hd : 0 ≤ d) (hw0 : 0 ≤ w) (hw1 : w ≤ 1 / 4) (hU : 2 * τ ≤ 106 / 100 * d)
    (hL : 94 / 100 * d * (1 - s * s / 2) ≤ 2 * (s * c)) :
    94 / 100 * d * (1 + (2 * s * τ * w) ^ 2) ≤ 2 * τ * (1 - 2 * (s * s) * w)
    ∧ 2 * τ * (1 - 2 * (s * s) * w) ≤ 106 / 100 * d * (1 + (2 * s * τ * w) ^ 2) := by
  have hτ0 : 0 ≤ τ := nonneg_of_mul_nonneg_left (by rw [htan]; exact hs0) hcp
  have hss : 0 ≤ s * s := mul_self_nonneg s
  have hq0 : 0 ≤ 1 - s * s / 2 := by linarith [mul_self_nonneg c]
  constructor
  · have hN : 2 * τ * (1 - s * s / 2) ≤ 2 * τ * (1 - 2 * (s * s) * w) :=
      mul_le_mul_of_nonneg_left (by linarith [mul_le_mul_of_nonneg_left hw1 hss])
        (mul_nonneg zero_le_two hτ0)
    have hD : 1 + (2 * s * τ * w) ^ 2 ≤ 1 + s * s * (τ * τ) / 4 := by
      rw [show (2 * s * τ * w) ^ 2 = 4 * (s * s * (τ * τ)) * (w * w) by ring]
      linarith [mul_le_mul_of_nonneg_left (mul_self_le_mul_self hw0 hw1)
        (mul_nonneg hss (mul_self_nonneg τ))]
    have e1 : c * c * (94 / 100 * d * (1 + s * s * (τ * τ) / 4))
        = 94 / 100 * d * (1 - s * s / 2) * (1 - s * s / 2) := by
      have : (τ * c) * (τ * c) = s * s := by rw [htan]
      linear_combination (94 / 100 * d) * ((s * s / 4) * this + hu)
    have e2 : c * c * (2 * τ * (1 - s * s / 2)) = 2 * (s * c) * (1 - s * s / 2) := by
      linear_combination (2 * c * (1 - s * s / 2)) * htan
    have hlow : 94 / 100 * d * (1 + s * s * (τ * τ) / 4) ≤ 2 * τ * (1 - s * s / 2) := by
      refine le_of_mul_le_mul_left ?_ (mul_pos hcp hcp)
      rw [e1, e2]
      exact mul_le_mul_of_nonneg_right hL hq0
    exact ((mul_le_mul_of_nonneg_left hD (mul_nonneg (by norm_num) hd)).trans hlow).trans hN
  · have h1 : 2 * τ * (1 - 2 * (s * s) * w) ≤ 2 * τ :=
      mul_le_of_le_one_right (mul_nonneg zero_le_two hτ0)
        (sub_le_self _ (mul_nonneg (mul_nonneg zero_le_two hss) hw0))
    have h2 : 106 / 100 * d ≤ 106 / 100 * d * (1 + (2 * s * τ * w) ^ 2) :=
      le_mul_of_one_le_right (mul_nonneg (by norm_num) hd) (le_add_of_nonneg_right (sq_nonneg _))
    exact h1.trans (hU.trans h2)

theorem quad_rate_bounds_real (d t : ℝ) (h0 : 0 ≤ d) (h1 : d ≤ Real.pi / 4) (ht0 : 0 ≤ t) (ht1 : t ≤ 1) :
    |2 * Real.tan (d * Scalar.half) * (1 - 2 * (Real.sin (d / 2) * Real.sin (d / 2)) * (t * (1 - t)))
        / (1 + (2 * Real.sin (d / 2) * Real.tan (d * Scalar.half) * (t * (1 - t))) ^ 2) - d|
      ≤ 6 / 100 * d := by
  have hpi := Real.pi_pos
  obtain ⟨hu, hcos, hsin, htan, hcp, _⟩ := half_angle_real d (by rw [abs_of_nonneg h0]; exact h1)
  have hU := sin_le_mul_cos_real (d / 2) (by linarith only [h0]) (by linarith only [h1])
  have hL := rate_lower_real d h0 h1
  rw [hcos, hsin] at hL
  have hτU : 2 * Real.tan (d * Scalar.half) ≤ 106 / 100 * d := by
    have := le_of_mul_le_mul_right (htan.trans_le hU) hcp
    linarith only [this]
  obtain ⟨lo, hi⟩ := quad_rate_algebra _ _ _ (t * (1 - t)) d hu htan hcp
    (Real.sin_nonneg_of_nonneg_of_le_pi (by linarith only [h0]) (by linarith only [h1, hpi])) h0
    (mul_nonneg ht0 (sub_nonneg.2 ht1)) (by linarith only [mul_self_nonneg (t - 1 / 2)]) hτU
    (by linarith only [hL])
  have hD : 0 < 1 + (2 * Real.sin (d / 2) * Real.tan (d * Scalar.half) * (t * (1 - t))) ^ 2 := by
    positivity
  rw [abs_le]
  constructor
  · rw [le_sub_iff_add_le, le_div_iff₀ hD]; linarith only [lo]
  · rw [sub_le_iff_le_add, div_le_iff₀ hD]; linarith only [hi]

end Lyon.C13
