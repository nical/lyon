/-
  Helper lemmas for C19: the scans of the cursor search of `measure.rs`.
-/
import LyonVerif.Model.Algo.Measure
import LyonVerif.Lemmas.Field

set_option linter.unusedSectionVars false

namespace Lyon.Measure

/-! ### `partition_point`: the loop invariants hold for ANY predicate (no monotonicity needed) -/

theorem partPt_spec (pred : Nat → Bool) (first last : Nat) (fuel l r : Nat) (hlr : l ≤ r)
    (hf : r - l ≤ fuel) (hl : l = first ∨ pred (l - 1) = true) (hr : r = last ∨ pred r = false) :
    l ≤ partPt pred fuel l r ∧ partPt pred fuel l r ≤ r ∧
    (partPt pred fuel l r = first ∨ pred (partPt pred fuel l r - 1) = true) ∧
    (partPt pred fuel l r = last ∨ pred (partPt pred fuel l r) = false) := by
  fun_induction partPt pred fuel l r with
  | case1 l r =>
    obtain rfl : l = r := by omega
    exact ⟨le_refl _, le_refl _, hl, hr⟩
  | case2 fuel l r hlt hp ih =>
    have := ih (by omega) (by omega) (Or.inr (by simpa using hp)) hr
    exact ⟨by omega, this.2.1, this.2.2.1, this.2.2.2⟩
  | case3 fuel l r hlt hp ih =>
    have := ih (by omega) (by omega) hl (Or.inr (by simpa using hp))
    exact ⟨this.1, by omega, this.2.2.1, this.2.2.2⟩
  | case4 fuel l r hlt =>
    obtain rfl : l = r := by omega
    exact ⟨le_refl _, le_refl _, hl, hr⟩

section
variable {K : Type} [Field K] [LinearOrder K] [IsStrictOrderedRing K]

theorem partPt_bracket (es : List (Edge K)) (dist : K) (fuel l r : Nat) (hlr : l ≤ r) (hf : r - l ≤ fuel)
    (hl : dAt es (l - 1) < dist) :
    l ≤ partPt (ltPred es dist) fuel l r ∧ partPt (ltPred es dist) fuel l r ≤ r ∧
    dAt es (partPt (ltPred es dist) fuel l r - 1) < dist ∧
    (partPt (ltPred es dist) fuel l r = r ∨ dist ≤ dAt es (partPt (ltPred es dist) fuel l r)) := by
  obtain ⟨h1, h2, h3, h4⟩ := partPt_spec (ltPred es dist) l r fuel l r hlr hf (Or.inl rfl) (Or.inl rfl)
  refine ⟨h1, h2, ?_, h4.imp_right fun h => by simpa [ltPred] using h⟩
  rcases h3 with h3 | h3
  · rw [h3]; exact hl
  · simpa [ltPred] using h3

/-- `N`: an index at which the scan is bound to stop (`hN`); `c + fuel = N` says the fuel lasts exactly that far, so
the out-of-fuel branch (lyon's index panic) is not reached -/
theorem fwdLin_spec (es : List (Edge K)) (dist : K) (N : Nat) (hN : dist ≤ dAt es N) (fuel c : Nat)
    (hc : c + fuel = N) (hf : 1 ≤ fuel) (hlt : dAt es c < dist) :
    c < fwdLin es dist fuel c ∧ fwdLin es dist fuel c ≤ N ∧
    dAt es (fwdLin es dist fuel c - 1) < dist ∧ dist ≤ dAt es (fwdLin es dist fuel c) := by
  fun_induction fwdLin es dist fuel c with
  | case1 => omega
  | case2 fuel c h => exact ⟨by omega, by omega, by simpa using hlt, h⟩
  | case3 fuel c h ih =>
    have hn : 1 ≤ fuel := by
      rcases Nat.eq_zero_or_pos fuel with rfl | h0
      · exact absurd (show dist ≤ dAt es (c + 1) by rwa [show c + 1 = N by omega]) h
      · exact h0
    have := ih (by omega) hn (lt_of_not_ge h)
    exact ⟨by omega, this.2.1, this.2.2.1, this.2.2.2⟩

theorem bwdLin_spec (es : List (Edge K)) (dist : K) (c : Nat) (h : dist ≤ dAt es c) :
    bwdLin es dist (c + 1) ≤ c ∧
    (bwdLin es dist (c + 1) = 0 ∨ dAt es (bwdLin es dist (c + 1) - 1) < dist) ∧
    dist ≤ dAt es (bwdLin es dist (c + 1)) := by
  induction c with
  | zero => simp [bwdLin, h]
  | succ n ih =>
    unfold bwdLin
    by_cases hb : (n + 1 = 0 ∨ dAt es (n + 1 - 1) < dist)
    · rw [if_pos hb]
      exact ⟨le_refl _, hb.imp_left (by omega), h⟩
    · rw [if_neg hb]
      have := ih (by simpa using fun h' => hb (Or.inr h'))
      exact ⟨by omega, this.2.1, this.2.2⟩

theorem zeroScan_spec (es : List (Edge K)) (fuel c : Nat) (hc1 : 1 ≤ c) (hc : c < es.length)
    (hf : es.length - c ≤ fuel) (hz : dAt es (c - 1) = 0) :
    c ≤ zeroScan es fuel c ∧ zeroScan es fuel c < es.length ∧
    dAt es (zeroScan es fuel c - 1) = 0 ∧
    (zeroScan es fuel c + 1 = es.length ∨ dAt es (zeroScan es fuel c) ≠ 0) := by
  fun_induction zeroScan es fuel c with
  | case1 => omega
  | case2 fuel c h ih =>
    have hz' : dAt es c = 0 := by simpa [sc_beq] using h.2
    have := ih (by omega) h.1 (by omega) (by simpa using hz')
    exact ⟨by omega, this.2.1, this.2.2.1, this.2.2.2⟩
  | case3 fuel c h =>
    refine ⟨le_refl _, hc, hz, ?_⟩
    by_cases h1 : c + 1 < es.length
    · exact Or.inr fun h0 => h ⟨h1, by simpa [sc_beq] using h0⟩
    · exact Or.inl (by omega)

end

end Lyon.Measure
