/-
  Every output of `Clip.convexHull` is a valid hull of the cubic Bernstein polynomial with the
  given coefficients (`HullOK`): all four shapes (quadrilateral with one control point on each side,
  two triangles, quadrilateral with both control points on one side), flipped or not.
-/
import LyonVerif.Lemmas.ClipHull

set_option linter.unusedSectionVars false

namespace Lyon.Clip
open Lyon Scalar
variable {K : Type} [Field K] [LinearOrder K] [IsStrictOrderedRing K]

section
variable {d0 d1 d2 d3 A B : K}

theorem hullDist1_eq (d0 d1 d3 : K) : hullDist1 d0 d1 d3 = d1 - (2 * d0 + d3) / 3 := by
  simp only [hullDist1, ofNat_eq, Nat.cast_ofNat]

theorem hullDist2_eq (d0 d2 d3 : K) : hullDist2 d0 d2 d3 = d2 - (d0 + 2 * d3) / 3 := by
  simp only [hullDist2, ofNat_eq, Nat.cast_ofNat]

/-! The six edges between the control points `(i/3, d_i)`, in terms of the distances `A`, `B` of the
inner control points from the chord (`hullDist1`, `hullDist2`, which the algorithm tests): the line
through two control points is above the polynomial as soon as it is above the other two.  In each
proof the four goals are the gaps at `d0 … d3`, scaled by the edge's width; the two at the edge's
own ends vanish.  A line below is a line above the negated polynomial (`chainBelow_iff`). -/
section edges
variable (hA : d1 = (2 * d0 + d3) / 3 + A) (hB : d2 = (d0 + 2 * d3) / 3 + B)
include hA hB

theorem above_03 (h1 : A ≤ 0) (h2 : B ≤ 0) : EdgeAbove (bern d0 d1 d2 d3) ⟨0, d0⟩ ⟨1, d3⟩ := by
  subst hA hB
  apply edgeAbove_of_ctrl <;> dsimp only
  exacts [one_pos, le_of_eq (by ring), by linear_combination h1, by linear_combination h2,
    le_of_eq (by ring)]

theorem above_01 (h1 : 0 ≤ A) (h : B ≤ 2 * A) :
    EdgeAbove (bern d0 d1 d2 d3) ⟨0, d0⟩ ⟨1 / 3, d1⟩ := by
  subst hA hB
  apply edgeAbove_of_ctrl <;> dsimp only
  exacts [by norm_num, le_of_eq (by ring), le_of_eq (by ring), by linear_combination (1 / 3) * h,
    by linear_combination h1]

theorem above_13 (h1 : 0 ≤ A) (h : 2 * B ≤ A) :
    EdgeAbove (bern d0 d1 d2 d3) ⟨1 / 3, d1⟩ ⟨1, d3⟩ := by
  subst hA hB
  apply edgeAbove_of_ctrl <;> dsimp only
  exacts [by norm_num, by linear_combination h1, le_of_eq (by ring),
    by linear_combination (1 / 3) * h, le_of_eq (by ring)]

theorem above_02 (h2 : 0 ≤ B) (h : 2 * A ≤ B) :
    EdgeAbove (bern d0 d1 d2 d3) ⟨0, d0⟩ ⟨2 / 3, d2⟩ := by
  subst hA hB
  apply edgeAbove_of_ctrl <;> dsimp only
  exacts [by norm_num, le_of_eq (by ring), by linear_combination (1 / 3) * h, le_of_eq (by ring),
    by linear_combination h2]

theorem above_23 (h2 : 0 ≤ B) (h : A ≤ 2 * B) :
    EdgeAbove (bern d0 d1 d2 d3) ⟨2 / 3, d2⟩ ⟨1, d3⟩ := by
  subst hA hB
  apply edgeAbove_of_ctrl <;> dsimp only
  exacts [by norm_num, by linear_combination h2, by linear_combination (1 / 3) * h,
    le_of_eq (by ring), le_of_eq (by ring)]

theorem above_12 (ha : A ≤ 2 * B) (hb : B ≤ 2 * A) :
    EdgeAbove (bern d0 d1 d2 d3) ⟨1 / 3, d1⟩ ⟨2 / 3, d2⟩ := by
  subst hA hB
  apply edgeAbove_of_ctrl <;> dsimp only
  exacts [by norm_num, by linear_combination (1 / 3) * hb, le_of_eq (by ring), le_of_eq (by ring),
    by linear_combination (1 / 3) * ha]

end edges

variable (d0 d1 d2 d3)

theorem hullUnflipped_eq :
    hullUnflipped d0 d1 d2 d3 =
      if (d1 - (2 * d0 + d3) / 3) * (d2 - (d0 + 2 * d3) / 3) < 0 then
        ([⟨0, d0⟩, ⟨1 / 3, d1⟩, ⟨1, d3⟩], [⟨0, d0⟩, ⟨2 / 3, d2⟩, ⟨1, d3⟩])
      else if |d1 - (2 * d0 + d3) / 3| ≥ 2 * |d2 - (d0 + 2 * d3) / 3| then
        ([⟨0, d0⟩, ⟨1 / 3, d1⟩, ⟨1, d3⟩], [⟨0, d0⟩, ⟨1, d3⟩])
      else if |d2 - (d0 + 2 * d3) / 3| ≥ 2 * |d1 - (2 * d0 + d3) / 3| then
        ([⟨0, d0⟩, ⟨2 / 3, d2⟩, ⟨1, d3⟩], [⟨0, d0⟩, ⟨1, d3⟩])
      else ([⟨0, d0⟩, ⟨1 / 3, d1⟩, ⟨2 / 3, d2⟩, ⟨1, d3⟩], [⟨0, d0⟩, ⟨1, d3⟩]) := by
  unfold hullUnflipped
  rw [hullDist1_eq, hullDist2_eq]
  simp only [ofNat_eq, Nat.cast_ofNat, Nat.cast_zero, Nat.cast_one, sc_abs]

theorem hullUnflipped_neg :
    hullUnflipped (-d0) (-d1) (-d2) (-d3)
      = ((hullUnflipped d0 d1 d2 d3).1.map negY, (hullUnflipped d0 d1 d2 d3).2.map negY) := by
  have e1 : -d1 - (2 * -d0 + -d3) / 3 = -(d1 - (2 * d0 + d3) / 3) := by ring
  have e2 : -d2 - (-d0 + 2 * -d3) / 3 = -(d2 - (d0 + 2 * d3) / 3) := by ring
  rw [hullUnflipped_eq, hullUnflipped_eq, e1, e2, neg_mul_neg, abs_neg, abs_neg]
  split_ifs <;> rfl

/-- the branch "`p1` on top" (`A > 0`, or `A = 0 ≤ B`): all four shapes -/
theorem hullUnflipped_ok {A B : K} (hA : d1 = (2 * d0 + d3) / 3 + A) (hB : d2 = (d0 + 2 * d3) / 3 + B)
    (h1 : 0 ≤ A) (h10 : A = 0 → 0 ≤ B) :
    HullOK (bern d0 d1 d2 d3) (hullUnflipped d0 d1 d2 d3).1 (hullUnflipped d0 d1 d2 d3).2 := by
  have hA' : -d1 = (2 * -d0 + -d3) / 3 + -A := by rw [hA]; ring
  have hB' : -d2 = (-d0 + 2 * -d3) / 3 + -B := by rw [hB]; ring
  -- a chain below `bern d` is a chain above `bern (−d)`, reflected
  have below : ∀ {l : List (P K)}, List.IsChain (EdgeAbove (bern (-d0) (-d1) (-d2) (-d3))) (l.map negY) →
      List.IsChain (EdgeBelow (bern d0 d1 d2 d3)) l := fun h =>
    chainBelow_iff.mpr (by simpa only [← bern_neg] using h)
  rw [hullUnflipped_eq, sub_eq_of_eq_add' hA, sub_eq_of_eq_add' hB]
  by_cases hp : A * B < 0
  · rw [if_pos hp]
    have h2 : B ≤ 0 := not_lt.mp fun hc => not_le.mpr hp (mul_nonneg h1 hc.le)
    have e1 : B ≤ 2 * A := by linear_combination 2 * h1 + h2
    have e2 : 2 * B ≤ A := by linear_combination h1 + 2 * h2
    exact ⟨⟨_, _, [_], [_], rfl, rfl, rfl, rfl⟩,
      .cons_cons (above_01 hA hB h1 e1) (.cons_cons (above_13 hA hB h1 e2) (.singleton _)),
      below (.cons_cons (above_02 hA' hB' (neg_nonneg.mpr h2) (by linear_combination e1))
        (.cons_cons (above_23 hA' hB' (neg_nonneg.mpr h2) (by linear_combination e2)) (.singleton _)))⟩
  · rw [if_neg hp]
    have h2 : 0 ≤ B := not_lt.mp fun hc => h1.eq_or_lt.elim
      (fun h => not_le.mpr hc (h10 h.symm)) fun h => hp (mul_neg_of_pos_of_neg h hc)
    rw [abs_of_nonneg h1, abs_of_nonneg h2]
    have bot := below (l := [⟨0, d0⟩, ⟨1, d3⟩])
      (.cons_cons (above_03 hA' hB' (neg_nonpos.mpr h1) (neg_nonpos.mpr h2)) (.singleton _))
    by_cases ha : A ≥ 2 * B
    · rw [if_pos ha]
      exact ⟨⟨_, _, [_], [], rfl, rfl, rfl, rfl⟩, .cons_cons (above_01 hA hB h1 (by linear_combination 2 * ha + 3 * h2))
        (.cons_cons (above_13 hA hB h1 ha) (.singleton _)), bot⟩
    · rw [if_neg ha]
      by_cases hb : B ≥ 2 * A
      · rw [if_pos hb]
        exact ⟨⟨_, _, [_], [], rfl, rfl, rfl, rfl⟩, .cons_cons (above_02 hA hB h2 hb)
          (.cons_cons (above_23 hA hB h2 (by linear_combination 2 * hb + 3 * h1)) (.singleton _)), bot⟩
      · rw [if_neg hb]
        exact ⟨⟨_, _, [_, _], [], rfl, rfl, rfl, rfl⟩,
          .cons_cons (above_01 hA hB h1 (not_le.mp hb).le) (.cons_cons (above_12 hA hB (not_le.mp ha).le (not_le.mp hb).le)
            (.cons_cons (above_23 hA hB h2 (not_le.mp ha).le) (.singleton _))), bot⟩

/-- **every hull computed by `convex_hull_of_distance_curve` is a hull**: its `top` chain consists
of lines above, its `bottom` chain of lines below the cubic Bernstein polynomial of the four
distances, from `x = 0` to `x = 1` — in all branches, flipped or not.  The flipped branch is the
unflipped branch of the negated distances, reflected, with the two chains exchanged. -/
theorem convexHull_ok :
    HullOK (bern d0 d1 d2 d3) (convexHull d0 d1 d2 d3).1 (convexHull d0 d1 d2 d3).2 := by
  obtain ⟨A, hA⟩ : ∃ A, d1 = (2 * d0 + d3) / 3 + A := ⟨_, (add_sub_cancel _ _).symm⟩
  obtain ⟨B, hB⟩ : ∃ B, d2 = (d0 + 2 * d3) / 3 + B := ⟨_, (add_sub_cancel _ _).symm⟩
  unfold convexHull
  rw [hullDist1_eq, hullDist2_eq, sub_eq_of_eq_add' hA, sub_eq_of_eq_add' hB, sc_zero_eq]
  by_cases hflip : A < 0 ∨ ((A == (0 : K)) = true ∧ B < 0)
  · rw [if_pos hflip]
    have h := (hullUnflipped_ok (-d0) (-d1) (-d2) (-d3) (A := -A) (B := -B) (by rw [hA]; ring) (by rw [hB]; ring)
      (neg_nonneg.mpr (hflip.elim le_of_lt fun h => le_of_eq ((sc_beq _ _).mp h.1)))
      (fun h0 => neg_nonneg.mpr (hflip.elim (fun h => absurd (neg_eq_zero.mp h0) h.ne) fun h => h.2.le))).neg
    rw [hullUnflipped_neg] at h
    simpa only [bern_neg, neg_neg, List.map_map, Function.comp_def, negY_negY, List.map_id'] using h
  · rw [if_neg hflip]
    exact hullUnflipped_ok d0 d1 d2 d3 hA hB (not_lt.mp fun h => hflip (Or.inl h))
      fun h0 => not_lt.mp fun hc => hflip (Or.inr ⟨(sc_beq _ _).mpr h0, hc⟩)

end

end Lyon.Clip
