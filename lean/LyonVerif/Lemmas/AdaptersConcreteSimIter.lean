/-
  C16 with the concrete flatteners — similarities, iterator side: lyon_geom's `Flattened`
  iterators of the transformed curve at `s·tol` yield the transformed points of the iterators of
  the original curve at `tol`, pull for pull; hence `iterator::Transformed` then
  `iterator::Flattened` at `s·tol` = `Flattened` at `tol` then `Transformed`.

  The parameter RECORD of a mirrored quadratic is the negated one, so the iterators are related,
  not equal: `QTRel` / `QRel` / `CRel` (same count, same `t_at_iteration`, same counters).  All
  statements are over `FlatCommutes m s G` (`Lemmas/AdaptersConcreteSim.lean`) and hold for the
  curves whose quadratics are in `G`: the quadratics the iterators compute parameters for
  (`GenericItVisited`, `flatIterC_xf_visited`; for a cubic the approximations of the sub-ranges it
  walks through, `RangesIn`), or, asking more, those of all sub-ranges (`GenericIt`, `flatIterC_xf`).
-/
import LyonVerif.Lemmas.AdaptersConcreteSim

set_option linter.unusedSectionVars false

namespace Lyon.Adapt
open Lyon Lyon.Path Scalar Lyon.Flat

section field
variable {K : Type} [Field K] [LinearOrder K] [IsStrictOrderedRing K] [Transc K] [FlatConst K]

/-- the `t` iterators of a quadratic and of its image: related parameters (`PRel`), same position -/
def QTRel (a' a : QuadTIter K) : Prop := PRel a'.params a.params ∧ a'.i = a.i ∧ a'.done = a.done

theorem quadTIter_next_rel (a' a : QuadTIter K) (h : QTRel a' a) :
    a'.next.1 = a.next.1 ∧ QTRel a'.next.2 a.next.2 := by
  obtain ⟨⟨hc, ht⟩, hi, hd⟩ := h
  have hat : a'.atEnd = a.atEnd := by simp only [QuadTIter.atEnd, hc, hi]
  unfold QuadTIter.next
  rw [hd, hat]
  by_cases h1 : a.done = true
  · rw [if_pos h1, if_pos h1]; exact ⟨rfl, ⟨hc, ht⟩, hi, hd⟩
  · rw [if_neg h1, if_neg h1]
    by_cases h2 : a.atEnd = true
    · rw [if_pos h2, if_pos h2]; exact ⟨rfl, ⟨hc, ht⟩, hi, rfl⟩
    · rw [if_neg h2, if_neg h2]
      exact ⟨by simp only [ht, hi], ⟨hc, ht⟩, by simp only [hi], rfl⟩

/-- … and the point iterators: the curve of the first is the image of the second's -/
def QRel (m : Xf K) (a' a : QuadIter K) : Prop :=
  a'.curve = a.curve.transformed m ∧ PRel a'.params a.params ∧ a'.i = a.i ∧ a'.done = a.done

theorem quadIter_next_rel (m : Xf K) (a' a : QuadIter K) (h : QRel m a' a) :
    a'.next.1 = a.next.1.map m.apply ∧ QRel m a'.next.2 a.next.2 := by
  obtain ⟨hcv, ⟨hc, ht⟩, hi, hd⟩ := h
  have hat : a'.atEnd = a.atEnd := by simp only [QuadIter.atEnd, hc, hi]
  unfold QuadIter.next
  rw [hd, hat]
  by_cases h1 : a.done = true
  · rw [if_pos h1, if_pos h1]; exact ⟨rfl, hcv, ⟨hc, ht⟩, hi, hd⟩
  · rw [if_neg h1, if_neg h1]
    by_cases h2 : a.atEnd = true
    · rw [if_pos h2, if_pos h2]
      exact ⟨by simp [hcv, Quad.transformed], hcv, ⟨hc, ht⟩, hi, rfl⟩
    · rw [if_neg h2, if_neg h2]
      exact ⟨by simp [hcv, ht, hi, C10.quad_transformed_sample], hcv, ⟨hc, ht⟩, by simp only [hi], rfl⟩

theorem quadIter_collect_rel (m : Xf K) (f : ℕ) (a' a : QuadIter K) (h : QRel m a' a) :
    a'.collect f = (a.collect f).map m.apply ∧
    a'.collectDone f = (a.collectDone f).map (List.map m.apply) := by
  induction f generalizing a' a with
  | zero => exact ⟨rfl, rfl⟩
  | succ f ih =>
    obtain ⟨h1, h2⟩ := quadIter_next_rel m a' a h
    rw [QuadIter.collect, QuadIter.collect, QuadIter.collectDone, QuadIter.collectDone]
    cases hn : a.next with
    | mk o it =>
      cases hn' : a'.next with
      | mk o' it' =>
        rw [hn, hn'] at h1 h2
        simp only at h1 h2
        subst h1
        cases o with
        | none => exact ⟨rfl, rfl⟩
        | some p =>
          simp only [Option.map_some, (ih it' it h2).1, (ih it' it h2).2, List.map_cons, true_and]
          cases it.collectDone f <;> rfl

theorem lastOr_xf (m : Xf K) (c : Cubic K) (rem : ℕ) (tInner t : K) :
    CubicIter.lastOr (c.transformed m) rem tInner t = m.apply (CubicIter.lastOr c rem tInner t) := by
  unfold CubicIter.lastOr
  split
  · rfl
  · exact C10.cubic_transformed_sample c m t

/-- the sign test is symmetric for every quadratic approximation of a sub-range of the cubic
(the iterator approximates `[k·step, (k+1)·step]`, accumulated in the scalar type) -/
def CubicGenericAll (c : Cubic K) : Prop :=
  ∀ t0 t1 : K, ParabolaGeneric (parabolaFromOf (c.splitRange t0 t1).toQuadratic)
    (parabolaToOf (c.splitRange t0 t1).toQuadratic)

/-- the cubic iterators at tolerances `s·tol` and `tol`: image curve, related current quadratic,
same sub-range bookkeeping -/
def CRel (m : Xf K) (s : K) (a' a : CubicIter K) : Prop :=
  a'.curve = a.curve.transformed m ∧ QTRel a'.current a.current ∧ a'.remaining = a.remaining ∧
  a'.tolerance = s * a.tolerance ∧ a'.rangeStep = a.rangeStep ∧ a'.rangeStart = a.rangeStart

/-- the quadratic approximations the cubic iterator still has to make are in `G`: `n` more
sub-ranges of length `st` after the one that starts at `sa` (the range starts accumulated as the
iterator does) -/
def RangesIn (G : Quad K → Prop) (c : Cubic K) (st : K) : ℕ → K → Prop
  | 0, _ => True
  | n + 1, sa => G (c.splitRange (sa + st) (sa + st + st)).toQuadratic ∧ RangesIn G c st n (sa + st)

theorem RangesIn.of_all {G : Quad K → Prop} {c : Cubic K}
    (h : ∀ t0 t1, G (c.splitRange t0 t1).toQuadratic) (st : K) (n : ℕ) (sa : K) :
    RangesIn G c st n sa := by
  induction n generalizing sa with
  | zero => trivial
  | succ n ih => exact ⟨h _ _, ih _⟩

variable {m : Xf K} {s : K} {G : Quad K → Prop} (F : FlatCommutes m s G)
include F

theorem quadIter_new_rel (q : Quad K) (tol : K) (hg : G q) :
    QRel m (QuadIter.new (q.transformed m) (s * tol)) (QuadIter.new q tol) :=
  ⟨rfl, F.params q tol hg, rfl, rfl⟩

theorem cubicIter_next_rel (a' a : CubicIter K) (hr : CRel m s a' a)
    (hg : RangesIn G a.curve a.rangeStep a.remaining a.rangeStart) :
    a'.next.1 = a.next.1.map m.apply ∧ CRel m s a'.next.2 a.next.2 ∧
      RangesIn G a.next.2.curve a.next.2.rangeStep a.next.2.remaining a.next.2.rangeStart := by
  obtain ⟨cv', cur0', rem', tol', st', sa'⟩ := a'
  obtain ⟨cv, cur0, rem, tl, st, sa⟩ := a
  simp only [CRel] at hr
  obtain ⟨rfl, hcur, rfl, rfl, rfl, rfl⟩ := hr
  obtain ⟨hn1, hn2⟩ := quadTIter_next_rel cur0' cur0 hcur
  unfold CubicIter.next
  simp only
  cases hc : cur0.next with
  | mk o cur =>
    cases hc' : cur0'.next with
    | mk o' cur' =>
      rw [hc, hc'] at hn1 hn2
      simp only at hn1 hn2
      subst hn1
      cases o' with
      | some tInner =>
        exact ⟨by simp only [lastOr_xf, Option.map_some], ⟨rfl, hn2, rfl, rfl, rfl, rfl⟩, hg⟩
      | none =>
        cases rem' with
        | zero => exact ⟨rfl, ⟨rfl, hn2, rfl, rfl, rfl, rfl⟩, hg⟩
        | succ n =>
          simp only [Nat.succ_ne_zero, if_false, CubicIter.advance, cubic_splitRange_xf, toQuadratic_xf]
          have hq : QTRel
              (QuadTIter.new (((cv.splitRange (sa' + st') (sa' + st' + st')).toQuadratic).transformed m)
                (s * tl))
              (QuadTIter.new ((cv.splitRange (sa' + st') (sa' + st' + st')).toQuadratic) tl) :=
            ⟨F.params _ tl hg.1, rfl, rfl⟩
          obtain ⟨g1, g2⟩ := quadTIter_next_rel _ _ hq
          exact ⟨by simp only [g1, lastOr_xf, Option.map_some], ⟨rfl, g2, rfl, rfl, rfl, rfl⟩, hg.2⟩

theorem cubicIter_collect_rel (f : ℕ) (a' a : CubicIter K) (hr : CRel m s a' a)
    (hg : RangesIn G a.curve a.rangeStep a.remaining a.rangeStart) :
    a'.collect f = (a.collect f).map m.apply ∧
    a'.collectDone f = (a.collectDone f).map (List.map m.apply) := by
  induction f generalizing a' a with
  | zero => exact ⟨rfl, rfl⟩
  | succ f ih =>
    obtain ⟨h1, h2, h3⟩ := cubicIter_next_rel F a' a hr hg
    rw [CubicIter.collect, CubicIter.collect, CubicIter.collectDone, CubicIter.collectDone]
    cases hn : a.next with
    | mk o it =>
      cases hn' : a'.next with
      | mk o' it' =>
        rw [hn, hn'] at h1 h2
        rw [hn] at h3
        simp only at h1 h2 h3
        subst h1
        cases o with
        | none => exact ⟨rfl, rfl⟩
        | some p =>
          have := ih it' it h2 h3
          simp only [Option.map_some, this.1, this.2, List.map_cons, true_and]
          cases it.collectDone f <;> rfl

omit F in
/-- the quadratics the iterators compute parameters for, on the curve, are in `G`: for a cubic
the approximations of the `num_quadratics` sub-ranges of length `1 / num_quadratics` it walks
through -/
def GenericItVisited (G : Quad K → Prop) (tol : K) : Curve (P K) → Prop
  | .quad a c b => G ⟨a, c, b⟩
  | .cubic a c d b =>
    let cu : Cubic K := ⟨a, c, d, b⟩
    let nq := cu.numQuadraticsImpl (tol * FlatConst.value 4 1)
    G (cu.splitRange zero (one / nq)).toQuadratic ∧
    ∀ n, toI32 nq = some n → RangesIn G cu (one / nq) (n - 1) zero

theorem cubicIter_new_rel (tol : K) (c : Cubic K)
    (hg : GenericItVisited G tol (.cubic c.a c.c1 c.c2 c.b)) :
    (CubicIter.new (c.transformed m) (s * tol) = none ∧ CubicIter.new c tol = none) ∨
    ∃ a' a0, CubicIter.new (c.transformed m) (s * tol) = some a' ∧ CubicIter.new c tol = some a0 ∧
      CRel m s a' a0 ∧ RangesIn G a0.curve a0.rangeStep a0.remaining a0.rangeStart := by
  simp only [CubicIter.new, mul_assoc s tol, F.numQuads, cubic_splitRange_xf, toQuadratic_xf]
  cases hn : toI32 (c.numQuadraticsImpl (tol * FlatConst.value 4 1)) with
  | none => left; exact ⟨rfl, rfl⟩
  | some n =>
    right
    exact ⟨_, _, rfl, rfl, ⟨rfl, ⟨F.params _ _ hg.1, rfl, rfl⟩, rfl, rfl, rfl, rfl⟩, hg.2 n hn⟩

theorem itModel_quad_xf (fuel : ℕ) (tol : K) (a c b : P K) (hg : G ⟨a, c, b⟩) :
    (itModel fuel (s * tol)).quad (m.apply a) (m.apply c) (m.apply b)
      = ((itModel fuel tol).quad a c b).map m.apply ∧
    itOkQuad fuel (s * tol) (m.apply a) (m.apply c) (m.apply b) = itOkQuad fuel tol a c b := by
  have hr := quadIter_new_rel F ⟨a, c, b⟩ tol hg
  simp only [Quad.transformed] at hr
  exact ⟨(quadIter_collect_rel m fuel _ _ hr).1,
    by simp only [itOkQuad, (quadIter_collect_rel m fuel _ _ hr).2, Option.isSome_map]⟩

theorem itModel_cubic_xf (fuel : ℕ) (tol : K) (a c d b : P K)
    (hg : GenericItVisited G tol (.cubic a c d b)) :
    (itModel fuel (s * tol)).cubic (m.apply a) (m.apply c) (m.apply d) (m.apply b)
      = ((itModel fuel tol).cubic a c d b).map m.apply ∧
    itOkCubic fuel (s * tol) (m.apply a) (m.apply c) (m.apply d) (m.apply b)
      = itOkCubic fuel tol a c d b := by
  have h := cubicIter_new_rel F tol ⟨a, c, d, b⟩ hg
  simp only [Cubic.transformed] at h
  rcases h with ⟨h1, h2⟩ | ⟨a', a0, h1, h2, hr, hg'⟩
  · simp [itModel, itOkCubic, h1, h2]
  · refine ⟨?_, ?_⟩
    · simp only [itModel, h1, h2]
      exact (cubicIter_collect_rel F fuel a' a0 hr hg').1
    · simp only [itOkCubic, h1, h2, (cubicIter_collect_rel F fuel a' a0 hr hg').2,
        Option.isSome_map]

theorem itModel_on_xf (fuel : ℕ) (tol : K) (k : Curve (P K)) (hg : GenericItVisited G tol k) :
    (itModel fuel (s * tol)).on (k.map m.apply) = ((itModel fuel tol).on k).map m.apply ∧
    itOk fuel (s * tol) (k.map m.apply) = itOk fuel tol k := by
  cases k with
  | quad a c b => exact itModel_quad_xf F fuel tol a c b hg
  | cubic a c d b => exact itModel_cubic_xf F fuel tol a c d b hg

/-- `events.transformed(m).flattened(s·tol)` = `events.flattened(tol).transformed(m)`, event for
event (`none` iff `none`), when the quadratics the iterators compute parameters for, on every
curve of the stream, are in `G` -/
theorem flatIterC_xf_visited (fuel : ℕ) (tol : K) (evs : List (Event (P K)))
    (hg : ∀ k ∈ curvesOf evs, GenericItVisited G tol k) :
    flatIterC fuel (s * tol) (xfIter m.apply evs) = (flatIterC fuel tol evs).map (xfIter m.apply) := by
  refine guard_map _ ?_ (flatIter_map m.apply _ _ evs fun k hk =>
    (itModel_on_xf F fuel tol k (hg k hk)).1)
  rw [itOkEvents_eq, itOkEvents_eq, xfIter, curvesOf_map, List.all_map]
  exact all_congr_mem fun k hk => (itModel_on_xf F fuel tol k (hg k hk)).2

omit F in
/-- the quadratic approximations of ALL sub-ranges of a cubic are in `G`: more than the iterator
visits (a sub-range may start at a vertex of the curve, where the sign test is not symmetric); it
is what `CubicGenericAll` asks -/
def GenericIt (G : Quad K → Prop) : Curve (P K) → Prop
  | .quad a c b => G ⟨a, c, b⟩
  | .cubic a c d b => ∀ t0 t1, G ((⟨a, c, d, b⟩ : Cubic K).splitRange t0 t1).toQuadratic

omit F in
theorem GenericIt.visited {tol : K} {k : Curve (P K)} (h : GenericIt G k) :
    GenericItVisited G tol k := by
  cases k with
  | quad a c b => exact h
  | cubic a c d b => exact ⟨h _ _, fun n _ => RangesIn.of_all h _ _ _⟩

theorem flatIterC_xf (fuel : ℕ) (tol : K) (evs : List (Event (P K)))
    (hg : ∀ k ∈ curvesOf evs, GenericIt G k) :
    flatIterC fuel (s * tol) (xfIter m.apply evs) = (flatIterC fuel tol evs).map (xfIter m.apply) :=
  flatIterC_xf_visited F fuel tol evs fun k hk => (hg k hk).visited

end field

end Lyon.Adapt
