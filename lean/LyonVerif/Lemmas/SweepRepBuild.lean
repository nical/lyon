/-
  C07b - the records the queue builder stores (`Model/Tess/Sources.lean`: `EventQueueBuilder::{begin,
  line_segment, end, quadratic_bezier_segment, cubic_bezier_segment}`, `add_edge`, `vertex_event`,
  `vertex_event_on_curve`) and the event stream the entry points feed it (`Sweep.buildQueue`,
  `SweepCurves.buildQueue`):

  every stored record names only endpoint ids that were HANDED to the builder (`S`), and its
  `t`-range consists of parameters handed to the builder (`U`: `0`, `1` for line edges; the
  flattening parameters - or `1 - t` of them for a curve flattened from its end - for curves).

  No arithmetic law of the scalar type is used.
-/
import LyonVerif.Model.Tess.SweepCurves
import LyonVerif.Lemmas.SourcesCurve
import LyonVerif.Lemmas.SweepRepQueue

set_option linter.unusedSectionVars false

namespace Lyon.SweepRep
open Lyon Lyon.Scalar Lyon.EQ Lyon.Sources
open Lyon.Sweep (Entry SubPath reorientIn feedSub)

variable {α : Type} [Scalar α]
variable (S : Nat → Prop) (U : α → Prop)

/-- a builder record: ids handed to the builder, parameters handed to the builder.  `S` speaks of ONE id; the
`IdP` of `SInv` speaks of the pair `(from_id, to_id)` and is built from it at the end results (`S` of both ids and
membership of the pair among the stored records: `C07b.sweep_sources_wellformed`) -/
def RecOk (r : EdgeRec α) : Prop := S r.fromId ∧ S r.toId ∧ U r.t0 ∧ U r.t1

structure BldOk (b : Builder α) : Prop where
  prev : S b.prevId
  recs : ∀ r ∈ b.recs, RecOk S U r

variable {S U}

theorem addEdge_ok {a b : P α} {w : Int} {f t : Nat} {t0 t1 : α} {r : EdgeRec α} (hf : S f) (ht : S t)
    (h0 : U t0) (h1 : U t1) (h : addEdge a b w f t t0 t1 = some r) : RecOk S U r := by
  unfold addEdge at h
  split at h
  · cases h
  · split at h <;> (cases h; first | exact ⟨hf, ht, h1, h0⟩ | exact ⟨hf, ht, h0, h1⟩)

theorem vertexEvent_ok {p : P α} {id : Nat} (hid : S id) (hz : U (zero : α)) : RecOk S U (vertexEvent p id) :=
  ⟨hid, hid, hz, hz⟩

theorem vertexEventOnCurve_ok {p : P α} {t : α} {f g : Nat} (hf : S f) (hg : S g) (ht : U t) :
    RecOk S U (vertexEventOnCurve p t f g) := ⟨hf, hg, ht, ht⟩

theorem BldOk.pushRec {b : Builder α} (h : BldOk S U b) {r : EdgeRec α} (hr : RecOk S U r) : BldOk S U (b.pushRec r) :=
  ⟨h.prev, List.forall_mem_cons.2 ⟨hr, h.recs⟩⟩

theorem BldOk.pushEdge {b : Builder α} (h : BldOk S U b) {e : Option (EdgeRec α)} (he : ∀ r, e = some r → RecOk S U r) :
    BldOk S U (b.pushEdge e) := by
  cases e with
  | none => exact h
  | some r => exact ⟨h.prev, List.forall_mem_cons.2 ⟨he _ rfl, h.recs⟩⟩

theorem begin_ok {b : Builder α} (h : ∀ r ∈ b.recs, RecOk S U r) (p : P α) {id : Nat} (hid : S id) :
    BldOk S U (b.begin p id) := ⟨hid, h⟩

theorem lineSegment_ok {b : Builder α} (h : BldOk S U b) (p : P α) {toId : Nat} {t0 t1 : α} (hid : S toId)
    (hz : U (zero : α)) (h0 : U t0) (h1 : U t1) : BldOk S U (b.lineSegment p toId t0 t1) := by
  unfold Builder.lineSegment
  dsimp only
  split
  · exact h
  · have hb1 : BldOk S U (if (isAfter b.current p && decide (0 < b.nth) && isAfter b.current b.prev) = true
        then b.pushRec (vertexEvent b.current b.prevId) else b) := by
      split
      · exact h.pushRec (vertexEvent_ok h.prev hz)
      · exact h
    revert hb1
    generalize (if (isAfter b.current p && decide (0 < b.nth) && isAfter b.current b.prev) = true
        then b.pushRec (vertexEvent b.current b.prevId) else b) = b1
    intro hb1
    have hb2 : BldOk S U (if b1.nth = 0 then { b1 with second := p } else b1) := by
      split
      · exact ⟨hb1.prev, hb1.recs⟩
      · exact hb1
    revert hb2
    generalize (if b1.nth = 0 then { b1 with second := p } else b1) = b2
    intro hb2
    have hb3 := hb2.pushEdge (e := addEdge b.current p 1 b2.prevId toId t0 t1)
      (fun r hr => addEdge_ok hb2.prev hid h0 h1 hr)
    exact ⟨hid, hb3.recs⟩

theorem endTail_ok {b : Builder α} (h : BldOk S U b) (first : P α) {firstId : Nat} (hid : S firstId)
    (hz : U (zero : α)) : BldOk S U (b.endTail first firstId) := by
  unfold Builder.endTail
  dsimp only
  split
  · exact ⟨hid, (h.pushRec (vertexEvent_ok hid hz)).recs⟩
  · exact ⟨hid, h.recs⟩

theorem endSub_ok {b : Builder α} (h : BldOk S U b) (first : P α) {firstId : Nat} (hid : S firstId)
    (hz : U (zero : α)) (ho : U (one : α)) : BldOk S U (b.endSub first firstId) := by
  unfold Builder.endSub
  split
  · exact h
  · exact endTail_ok (lineSegment_ok h first hid hz hz ho) first hid hz

theorem curveSegment_ok {b : Builder α} (h : BldOk S U b) (dest : P α) {toId : Nat} (flat flatFlipped : List (Piece α))
    (hid : S toId) (hz : U (zero : α))
    (hU : ∀ l ∈ (if isAfter b.current dest then flatFlipped else flat),
      U (pieceT (isAfter b.current dest) l.t0) ∧ U (pieceT (isAfter b.current dest) l.t1)) :
    BldOk S U (b.curveSegment dest toId flat flatFlipped) := by
  obtain ⟨new, e, ⟨he, ho⟩, hp⟩ := curveSegment_recs b dest toId flat flatFlipped
  refine ⟨hp.elim (fun e => e.symm ▸ hid) (fun e => e.symm ▸ h.prev), fun r hr => ?_⟩
  rw [e] at hr
  rcases List.mem_append.1 hr with hr | hr
  · by_cases hre : r.isEdge = true
    · have : r ∈ new.filter (·.isEdge) := List.mem_filter.2 ⟨hr, hre⟩
      rw [he, List.mem_reverse, List.mem_map] at this
      obtain ⟨l, hl, rfl⟩ := this
      have hl' := hU l (List.mem_filter.1 hl).1
      unfold pieceRec
      split
      · exact ⟨h.prev, hid, hl'.2, hl'.1⟩
      · exact ⟨h.prev, hid, hl'.1, hl'.2⟩
    · rcases ho r hr (by simpa using hre) with ⟨l, hl, rfl⟩ | ⟨p, rfl⟩
      · exact vertexEventOnCurve_ok h.prev hid (hU l hl).1
      · exact vertexEvent_ok h.prev hz
  · exact h.recs r hr

theorem feedSub_ok (horizontal useIds : Bool) {b : Builder α} (h : ∀ r ∈ b.recs, RecOk S U r) (base : Nat) (pts : List (P α))
    (hz : U (zero : α)) (ho : U (one : α)) (hs : ∀ k < pts.length, S (if useIds then base + k else INVALID)) :
    ∀ r ∈ (feedSub horizontal useIds b base pts).recs, RecOk S U r := by
  unfold feedSub
  cases pts with
  | nil => exact h
  | cons p0 rest =>
    dsimp only
    have h0 : S (if useIds then base + 0 else INVALID) := hs 0 (by simp)
    have hb1 := begin_ok (S := S) (U := U) h (if horizontal then reorientIn p0 else p0) h0
    refine (endSub_ok (foldl_inv (BldOk S U) _ rest.zipIdx _ hb1 fun _ hb pk hpk => ?_) _ h0 hz ho).recs
    have := List.snd_lt_of_mem_zipIdx hpk
    exact lineSegment_ok hb _ (hs (pk.2 + 1) (by simp only [List.length_cons]; omega)) hz hz ho

/-- the endpoint ids `Sweep.buildQueue` hands to the queue builder, sub-path by sub-path -/
def handedFrom (entry : Entry) : Nat → List (SubPath α) → List Nat
  | _, [] => []
  | base, sp :: rest =>
    match sp.1 with
    | [] => handedFrom entry base rest
    | _ :: _ => List.range' base sp.1.length ++
        handedFrom entry (base + sp.1.length + (if entry == .ids && sp.2 then 1 else 0)) rest

/-- the endpoint ids handed out for this input: `base + k` for the `k`-th point of a sub-path; the
next sub-path starts after the last one (`FillBuilder`, `SimpleAttributeStore::add`) resp. one further
when the sub-path is closed (`Path::id_iter`: a closed sub-path stores its first point once more) -/
def handedOut (entry : Entry) (subs : List (SubPath α)) : List Nat := handedFrom entry 0 subs

/-- what an id of a record of this input can be -/
def IdOk (entry : Entry) (subs : List (SubPath α)) (x : Nat) : Prop :=
  if entry == .ids || entry == .builder then x ∈ handedOut entry subs else x = INVALID

theorem buildFold_ok (entry : Entry) (horizontal : Bool) (hz : U (zero : α)) (ho : U (one : α)) :
    ∀ (subs : List (SubPath α)) (acc : Builder α × Nat), (∀ r ∈ acc.1.recs, RecOk S U r) →
      (∀ x, (if entry == .ids || entry == .builder then x ∈ handedFrom entry acc.2 subs else x = INVALID) → S x) →
      ∀ r ∈ (subs.foldl (fun (acc : Builder α × Nat) (sp : SubPath α) =>
        match sp.1 with
        | [] => acc
        | pts =>
          (feedSub horizontal (entry == .ids || entry == .builder) acc.1 acc.2 pts,
            acc.2 + pts.length + (if entry == .ids && sp.2 then 1 else 0))) acc).1.recs, RecOk S U r := by
  intro subs
  induction subs with
  | nil => intro acc h _; exact h
  | cons sp rest ih =>
    intro acc h hS
    simp only [List.foldl_cons]
    cases hp : sp.1 with
    | nil =>
      dsimp only
      apply ih acc h
      intro x hx
      apply hS x
      simpa [handedFrom, hp] using hx
    | cons p0 ps =>
      dsimp only
      apply ih
      · dsimp only
        apply feedSub_ok horizontal _ h acc.2 (p0 :: ps) hz ho
        intro k hk
        apply hS
        cases hu : (entry == Entry.ids || entry == Entry.builder)
        · simp
        · simp only [if_true, handedFrom, hp]
          apply List.mem_append_left
          simp only [List.mem_range'_1]
          exact ⟨Nat.le_add_right _ _, Nat.add_lt_add_left hk _⟩
      · intro x hx
        apply hS x
        cases hu : (entry == Entry.ids || entry == Entry.builder)
        · simpa [hu] using hx
        · simp only [hu, if_true] at hx ⊢
          simp only [handedFrom, hp]
          exact List.mem_append_right _ hx

/-- **the records of `Sweep.buildQueue`**: ids handed out for this input (or `u32::MAX` everywhere for
the entry points without ids), ranges `0..1` / `1..0` / `0..0` -/
theorem buildQueue_recs (entry : Entry) (horizontal : Bool) (subs : List (SubPath α)) (hz : U (zero : α)) (ho : U (one : α)) :
    ∀ d ∈ (Sweep.buildQueue entry horizontal subs).edgeData,
      IdOk entry subs d.fromId ∧ IdOk entry subs d.toId ∧ U d.t0 ∧ U d.t1 := by
  have key := buildFold_ok (S := IdOk entry subs) (U := U) entry horizontal hz ho subs (Builder.init, 0)
    (by intro r hr; simp [Builder.init] at hr) (by intro x hx; exact hx)
  intro d hd
  unfold Sweep.buildQueue at hd
  dsimp only at hd
  rw [ofRecs_edgeData] at hd
  simp only [List.mem_toArray, List.mem_map, List.mem_reverse] at hd
  obtain ⟨r, hr, rfl⟩ := hd
  exact key r hr

section curves
open Lyon.SweepCurves (Cmd IdMode IdState Feed feedCmd feedAll idStep quadSegment cubicSegment)
variable [Transc α] [FlatConst α]

/-- an id of a record of a curved path: `u32::MAX`, or one of the endpoint ids the entry point handed out
(`SweepCurves.buildQueue` returns them in command order) -/
def CS (ids : Array Nat) (x : Nat) : Prop := x = INVALID ∨ x ∈ ids

theorem BldOk.mono {S S' : Nat → Prop} {U : α → Prop} {b : Builder α} (h : BldOk S U b) (hS : ∀ x, S x → S' x) :
    BldOk S' U b :=
  ⟨hS _ h.prev, fun r hr => ⟨hS _ (h.recs r hr).1, hS _ (h.recs r hr).2.1, (h.recs r hr).2.2⟩⟩

/-- the ids of the records are `u32::MAX` or ids handed out so far; from the first `begin` on so is the first id of
the sub-path -/
structure FeedOk (mode : IdMode) (f : Feed α) : Prop where
  bld : BldOk (CS f.endpointIds) (fun _ : α => True) f.bld
  first : mode = .none ∨ f.ids.first ∈ f.endpointIds

theorem idStep_none (s : IdState) (c : Cmd α) : (idStep IdMode.none s c).2 = INVALID := rfl

theorem idStep_end (mode : IdMode) (s : IdState) (close : Bool) (h : mode ≠ .none) :
    (idStep (α := α) mode s (.end_ close)).2 = s.first := by
  cases mode with
  | none => exact absurd rfl h
  | path k => rfl
  | builder => rfl

theorem idStep_begin_first (mode : IdMode) (s : IdState) (p : P α) (h : mode ≠ .none) :
    (idStep mode s (.begin p)).1.first = (idStep mode s (.begin p)).2 := by
  cases mode with
  | none => exact absurd rfl h
  | path k => rfl
  | builder => rfl

theorem idStep_edge_first (mode : IdMode) (s : IdState) (c : Cmd α) (hb : ∀ p, c ≠ .begin p) :
    (idStep mode s c).1.first = s.first := by
  cases mode with
  | none => rfl
  | path k => cases c <;> first | rfl | exact absurd rfl (hb _)
  | builder => cases c <;> first | rfl | exact absurd rfl (hb _)

theorem quadSegment_ok {S : Nat → Prop} {b b' : Builder α} (h : BldOk S (fun _ : α => True) b) (tol : α) (ctrl to : P α)
    {toId : Nat} (hid : S toId) (e : quadSegment b tol ctrl to toId = some b') : BldOk S (fun _ : α => True) b' := by
  unfold quadSegment at e
  dsimp only at e
  split at e
  · cases e
  · cases e
    exact curveSegment_ok h _ _ _ hid trivial fun _ _ => ⟨trivial, trivial⟩

theorem cubicSegment_ok {S : Nat → Prop} {b b' : Builder α} (h : BldOk S (fun _ : α => True) b) (tol : α) (c1 c2 to : P α)
    {toId : Nat} (hid : S toId) (e : cubicSegment b tol c1 c2 to toId = some b') : BldOk S (fun _ : α => True) b' := by
  unfold cubicSegment at e
  dsimp only at e
  split at e
  · cases e
  · cases e
    exact curveSegment_ok h _ _ _ hid trivial fun _ _ => ⟨trivial, trivial⟩

/-- a command list that does not start with an edge or `end` command (path events and builder calls
always start a sub-path with `begin`) -/
def startsWithBegin : List (Cmd α) → Bool
  | [] => true
  | .begin _ :: _ => true
  | _ => false

/-- one command keeps `FeedOk` (`begin` establishes the `first` clause, whatever came before) -/
theorem feedCmd_ok (mode : IdMode) (horizontal : Bool) (tol : α) (f f' : Feed α) (c : Cmd α)
    (hb : BldOk (CS f.endpointIds) (fun _ : α => True) f.bld)
    (hfirst : (∀ p, c ≠ .begin p) → mode = .none ∨ f.ids.first ∈ f.endpointIds)
    (h : feedCmd mode horizontal tol f c = some f') : FeedOk mode f' := by
  -- a command that pushes its id: the old records are still fine, the new id is the last one handed out
  have hb' : ∀ x, BldOk (CS (f.endpointIds.push x)) (fun _ : α => True) f.bld := fun x =>
    hb.mono fun _ hy => hy.imp id fun hy => Array.mem_push.mpr (Or.inl hy)
  have hx : ∀ x, CS (f.endpointIds.push x) x := fun x => Or.inr (Array.mem_push.mpr (Or.inr rfl))
  have hedge : ∀ x, (∀ p, c ≠ .begin p) → mode = .none ∨ (idStep mode f.ids c).1.first ∈ f.endpointIds.push x :=
    fun x hc => (hfirst hc).imp id fun hf => by
      rw [idStep_edge_first mode f.ids _ hc]
      exact Array.mem_push.mpr (Or.inl hf)
  cases c with
  | begin p =>
    simp only [feedCmd, Option.some.injEq] at h
    subst h
    refine ⟨begin_ok (hb' _).recs _ (hx _), ?_⟩
    by_cases hm : mode = .none
    · exact Or.inl hm
    · right
      show (idStep mode f.ids (.begin p)).1.first ∈ f.endpointIds.push _
      rw [idStep_begin_first mode f.ids p hm]
      exact Array.mem_push.mpr (Or.inr rfl)
  | line p =>
    simp only [feedCmd, Option.some.injEq] at h
    subst h
    exact ⟨lineSegment_ok (hb' _) _ (hx _) trivial trivial trivial,
      hedge _ fun _ hh => by cases hh⟩
  | quad c1 p =>
    simp only [feedCmd, Option.map_eq_some_iff] at h
    obtain ⟨b, hq, rfl⟩ := h
    exact ⟨quadSegment_ok (hb' _) tol _ _ (hx _) hq, hedge _ fun _ hh => by cases hh⟩
  | cubic c1 c2 p =>
    simp only [feedCmd, Option.map_eq_some_iff] at h
    obtain ⟨b, hq, rfl⟩ := h
    exact ⟨cubicSegment_ok (hb' _) tol _ _ _ (hx _) hq, hedge _ fun _ hh => by cases hh⟩
  | end_ cl =>
    simp only [feedCmd, Option.some.injEq] at h
    subst h
    have hf := hfirst (fun _ hh => by cases hh)
    have hid : CS f.endpointIds (idStep mode f.ids (.end_ cl : Cmd α)).2 := by
      by_cases hm : mode = .none
      · subst hm; exact Or.inl rfl
      · rw [idStep_end mode f.ids cl hm]
        exact Or.inr (hf.resolve_left hm)
    refine ⟨endSub_ok hb _ hid trivial trivial, hf.imp id fun hf => ?_⟩
    show (idStep mode f.ids (.end_ cl : Cmd α)).1.first ∈ f.endpointIds
    rw [idStep_edge_first mode f.ids _ (fun _ hh => by cases hh)]
    exact hf

/-- the whole command list; at the start of a path the `first` clause is not there yet and the list begins with `begin` -/
theorem feedAll_ok (mode : IdMode) (horizontal : Bool) (tol : α) :
    ∀ (cmds : List (Cmd α)) (f f' : Feed α), BldOk (CS f.endpointIds) (fun _ : α => True) f.bld →
      (startsWithBegin cmds = true ∨ mode = .none ∨ f.ids.first ∈ f.endpointIds) →
      feedAll mode horizontal tol cmds f = some f' → BldOk (CS f'.endpointIds) (fun _ : α => True) f'.bld
  | [], f, f', hb, _, h => by simp only [feedAll, Option.some.injEq] at h; subst h; exact hb
  | c :: cs, f, f', hb, hf, h => by
    simp only [feedAll] at h
    split at h
    · cases h
    · rename_i f1 h1
      have h1ok := feedCmd_ok mode horizontal tol f f1 c hb
        (fun hc => hf.resolve_left (by cases c <;> first | exact absurd rfl (hc _) | simp [startsWithBegin])) h1
      exact feedAll_ok mode horizontal tol cs f1 f' h1ok.bld (Or.inr h1ok.first) h

theorem curves_buildQueue_some {mode : IdMode} {horizontal : Bool} {tol : α} {cmds : List (Cmd α)} {q0 : Queue α}
    {ids : Array Nat} (h : SweepCurves.buildQueue mode horizontal tol cmds = some (q0, ids)) :
    ∃ f, feedAll mode horizontal tol cmds ⟨Builder.init, {}, ⟨zero, zero⟩, #[]⟩ = some f ∧
      q0 = Queue.ofRecs f.bld.recs.reverse ∧ ids = f.endpointIds := by
  unfold SweepCurves.buildQueue at h
  obtain ⟨f, hf, e⟩ := Option.map_eq_some_iff.mp h
  cases e
  exact ⟨f, hf, rfl, rfl⟩

theorem curves_buildQueue_qok {mode : IdMode} {horizontal : Bool} {tol : α} {cmds : List (Cmd α)} {q0 : Queue α}
    {ids : Array Nat} (h : SweepCurves.buildQueue mode horizontal tol cmds = some (q0, ids)) : QOk q0 := by
  obtain ⟨f, -, rfl, -⟩ := curves_buildQueue_some h
  exact qok_ofRecs _

/-- **the records of `SweepCurves.buildQueue`** name only `u32::MAX` or endpoint ids the entry point
handed out (returned in command order as the second component) -/
theorem curves_buildQueue_recs (mode : IdMode) (horizontal : Bool) (tol : α) (cmds : List (Cmd α))
    (hw : startsWithBegin cmds = true) (q0 : Queue α) (ids : Array Nat)
    (h : SweepCurves.buildQueue mode horizontal tol cmds = some (q0, ids)) :
    ∀ d ∈ q0.edgeData, CS ids d.fromId ∧ CS ids d.toId := by
  obtain ⟨ff, hf, rfl, rfl⟩ := curves_buildQueue_some h
  have hff := feedAll_ok mode horizontal tol cmds _ ff
    ⟨Or.inl rfl, by intro r hr; simp [Builder.init] at hr⟩ (Or.inl hw) hf
  intro d hd
  rw [ofRecs_edgeData] at hd
  simp only [List.mem_toArray, List.mem_map, List.mem_reverse] at hd
  obtain ⟨r, hr, rfl⟩ := hd
  have := hff.recs r hr
  exact ⟨this.1, this.2.1⟩

end curves

end Lyon.SweepRep
