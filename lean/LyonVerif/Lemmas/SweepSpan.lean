/-
  The sweep invariant `ActiveSpan` (ordered fields): every active edge spans the current vertex in y
  (`from.y ≤ cur.y ≤ to.y`; merge vertices exempt), every pending edge ends at or below it - and what it
  buys: under it the two split branches of the sweep (`split_edge`, coverage bit 5; the split of
  `merge_coincident_edges`, bit 7) compute parameters in `[0,1]`, so they keep every stored parameter
  in `[0,1]` (`UInv`).  Hoare triples on the leaf operations of an event, success and failure, and the record
  (`keepsN_span`) through which `Lemmas/SweepStepKeeps.lean` takes them through the composite step functions.
-/
import LyonVerif.Lemmas.SweepPosSplit
import LyonVerif.Lemmas.LexOrderTess
import LyonVerif.Lemmas.SweepSpanStep
import LyonVerif.Lemmas.SweepStepKeeps

set_option linter.unusedSectionVars false
set_option mvcgen.warning false

namespace Lyon.SweepSpan
open Lyon Lyon.Scalar Lyon.Sweep Lyon.EQ Lyon.SweepPos
open Std.Do

section field
variable {K : Type} [Field K] [LinearOrder K] [IsStrictOrderedRing K]

/-- a parameter in `[0,1]` -/
def U (t : K) : Prop := 0 ≤ t ∧ t ≤ 1

theorem U_zero : U (Scalar.zero : K) := by rw [C07.zero_K]; exact ⟨le_refl _, zero_le_one⟩

theorem remap_U {t s e : K} (ht : U t) (hs : U s) (he : U e) : U (Sources.remapT t s e) :=
  C07b.split_records_range 0 1 t s e ht hs he

variable [w : Wide K]

/-- one active edge spans the vertex `cur` in y (merge vertices exempt) -/
def SpanA (cur : P K) (e : ActiveEdge K) : Prop := e.isMerge = false → e.from_.y ≤ cur.y ∧ cur.y ≤ e.to.y

/-- **`ActiveSpan`**: every active edge starts at or above the current vertex and ends at or below it,
every pending edge ends at or below it -/
def ASpan (s : St K) : Prop :=
  (∀ e ∈ s.active, SpanA s.curPos e) ∧ (∀ b ∈ s.below, s.curPos.y ≤ b.to.y)

/-- every record listed with an emitted vertex has its parameters in `[0,1]` -/
def OutU (out : Array (Emit K)) : Prop :=
  ∀ pos recs, Emit.vertex pos recs ∈ out → ∀ r ∈ recs, U r.2.t0 ∧ U r.2.t1

/-- the records of a queue have their parameters in `[0,1]`: the first clause of `UInv` -/
def QU (q : Queue K) : Prop := ∀ d ∈ q.edgeData, U d.t0 ∧ U d.t1

/-- every stored parameter is in `[0,1]`: the records of the queue, the active and the pending edges, the
records already emitted -/
def UInv (s : St K) : Prop :=
  (∀ d ∈ s.q.edgeData, U d.t0 ∧ U d.t1) ∧ (∀ e ∈ s.active, U e.rangeEnd) ∧ (∀ b ∈ s.below, U b.rangeEnd) ∧ OutU s.out

def Inv (s : St K) : Prop := ASpan s ∧ UInv s

theorem ed_U {q : Queue K} (h : QU q) (i : Nat) : U (q.ed i).t0 ∧ U (q.ed i).t1 := by
  unfold Queue.ed Array.getD
  split
  · exact h _ (Array.getElem_mem _)
  · exact ⟨U_zero, U_zero⟩

abbrev keeps {β : Type} : PostCond β (.except Fail (.arg (St K) .pure)) :=
  post⟨fun _ s => ⌜Inv s⌝, fun _ s => ⌜Inv s⌝⟩

/-- the guard of the repaired `handle_coincident_edges_below` for the pair `below[aIdx], below[bIdx]` -/
def Guard (s : St K) (aIdx bIdx : Nat) : Prop :=
  ∀ a b, s.below[aIdx]? = some a → s.below[bIdx]? = some b →
    (comparePositions a.to b.to = .gt → endsWithin (a.to - s.curPos) (b.to - s.curPos)) ∧
    (comparePositions a.to b.to = .lt → endsWithin (b.to - s.curPos) (a.to - s.curPos))

open Lyon.SweepRep in
/-- **`merge_coincident_edges` under `ActiveSpan` and the guard**: the split parameter is in `[0,1]` -/
theorem mergeCoincidentEdges_inv (aIdx bIdx : Nat) (hab : aIdx < bIdx) :
    ⦃fun s => ⌜Inv s ∧ Guard s aIdx bIdx⌝⦄ (mergeCoincidentEdges aIdx bIdx : SM K Unit) ⦃keeps⦄ := by
  unfold mergeCoincidentEdges
  mvcgen
  -- index failure
  case vc3 => exact (by assumption : Inv _ ∧ _).1
  -- equal ends: the lower edge goes, no split
  case vc1 =>
    rename_i s h a b hb' ha' c lowerIdx upperIdx split lower upper below1 sp below hs
    obtain ⟨⟨⟨hA, hB⟩, hq, hua, hub, ho⟩, hg⟩ := h
    have hma : a ∈ s.below := Array.mem_of_getElem? ha'
    have hmb : b ∈ s.below := Array.mem_of_getElem? hb'
    have hup : upper = a ∨ upper = b := by
      show (if (upperIdx == aIdx) = true then a else b) = a ∨ (if (upperIdx == aIdx) = true then a else b) = b
      split <;> simp
    have hupm : upper ∈ s.below := by rcases hup with e | e <;> rw [e] <;> assumption
    refine ⟨⟨hA, ?_⟩, hq, hua, ?_, ho⟩
    · exact merge_below_all (upper := upper) (w := upper.winding + lower.winding) hB (hB upper hupm) _ _
    · exact merge_below_all (upper := upper) (w := upper.winding + lower.winding) hub (hub upper hupm) _ _
  -- the split branch (coverage bit 7): the guard puts the split parameter `t` in `[0,1]`
  case vc2 =>
    rename_i s h a b hb' ha' c lowerIdx upperIdx split lower upper below1 sp below hs src t tR d
    obtain ⟨⟨⟨hA, hB⟩, hq, hua, hub, ho⟩, hg⟩ := h
    have hma : a ∈ s.below := Array.mem_of_getElem? ha'
    have hmb : b ∈ s.below := Array.mem_of_getElem? hb'
    have hne : (bIdx == aIdx) = false := by simp; omega
    have hcases : (lower = a ∧ upper = b ∧ comparePositions a.to b.to = .gt) ∨
        (lower = b ∧ upper = a ∧ comparePositions a.to b.to = .lt) := by
      cases hc : comparePositions a.to b.to
      · right; simp +zetaDelta [hc, hne]
      · exfalso; simp +zetaDelta [hc] at hs
      · left; simp +zetaDelta [hc, hne]
    have hlm : lower ∈ s.below := by rcases hcases with e | e <;> rw [e.1] <;> assumption
    have hupm : upper ∈ s.below := by rcases hcases with e | e <;> rw [e.2.1] <;> assumption
    have ht : U t := by
      show U (Sources.splitT s.curPos lower.to upper.to)
      rcases hcases with ⟨e1, e2, e3⟩ | ⟨e1, e2, e3⟩
      · rw [e1, e2]
        exact merge_guard_unit _ _ _ ((hg a b ha' hb').1 e3) (hB _ hmb) ((lexCmp_gt_iff _ _).mp e3).le_y
      · rw [e1, e2]
        exact merge_guard_unit _ _ _ ((hg a b ha' hb').2 e3) (hB _ hma) ((lexCmp_lt_iff _ _).mp e3).le_y
    refine ⟨⟨hA, ?_⟩, ?_, hua, ?_, ho⟩
    · exact merge_below_all (upper := upper) (w := upper.winding + lower.winding) hB (hB upper hupm) _ _
    · show ∀ d' ∈ (s.q.insertSorted sp d s.curEvent).1.edgeData, _
      rw [insertSorted_edgeData]
      exact all_push hq _ ⟨remap_U ht (ed_U hq _).1 (hub _ hlm), hub _ hlm⟩
    · exact merge_below_all (upper := upper) (w := upper.winding + lower.winding) hub (hub upper hupm) _ _

/-- **`handle_coincident_edges_below` under `ActiveSpan`**: the guard it computes is the one the merge needs -/
theorem handleCoincidentEdgesBelow_inv :
    ⦃fun s => ⌜Inv s⌝⦄ (handleCoincidentEdgesBelow : SM K Unit) ⦃keeps⦄ := by
  unfold handleCoincidentEdgesBelow
  have h1 := fun (a b : Nat) (hab : a < b) => mergeCoincidentEdges_inv (K := K) a b hab
  mvcgen [h1] invariants
  · post⟨fun _ s => ⌜Inv s⌝, fun _ s => ⌜Inv s⌝⟩
  with skip
  case vc2 => omega
  case vc3 =>
    rename_i s hI a b hb' ha' aS bS close gt shortTo longTo v endsClose sv ew hc
    refine ⟨hI, ?_⟩
    intro a2 b2 ha2 hb2
    have ea : a2 = a := by rw [ha'] at ha2; exact (Option.some.inj ha2).symm
    have eb : b2 = b := by rw [hb'] at hb2; exact (Option.some.inj hb2).symm
    subst ea eb
    have hew : ew = true := by
      simp only [Bool.and_eq_true] at hc
      exact hc.2
    have hmod := (endsWithin_iff_model v sv).mp hew
    constructor
    · intro hgt
      have : gt = true := by simp +zetaDelta [hgt]
      simpa +zetaDelta [this] using hmod
    · intro hlt
      have : gt = false := by simp +zetaDelta [hlt]
      simpa +zetaDelta [this] using hmod

theorem Inv.frame {s s' : St K} (h : Inv s) (h1 : s'.q.edgeData = s.q.edgeData) (h2 : s'.active = s.active)
    (h3 : s'.below = s.below) (h4 : s'.curPos = s.curPos) (h5 : s'.out = s.out) : Inv s' := by
  obtain ⟨⟨ha, hb⟩, hq, hua, hub, ho⟩ := h
  exact ⟨⟨by rw [h2, h4]; exact ha, by rw [h3, h4]; exact hb⟩, by rw [h1]; exact hq, by rw [h2]; exact hua,
    by rw [h3]; exact hub, by rw [h5]; exact ho⟩

/-- the invariant reads the queue, the edges, the vertex and the emitted vertex records: it survives a
rearrangement of the active list and any span bookkeeping -/
theorem Inv.rearr {s s' : St K} (h : Inv s) (r : Rearr s s') : Inv s' := by
  obtain ⟨⟨ha, hb⟩, hq, hua, hub, ho⟩ := h
  refine ⟨⟨fun e he => r.curPos ▸ ha e (r.active e he), ?_⟩, ?_, fun e he => hua e (r.active e he), ?_,
    fun p recs hm => ho p recs (r.out p recs hm)⟩
  · rw [r.below, r.curPos]; exact hb
  · rw [r.q]; exact hq
  · rw [r.below]; exact hub

theorem mark_inv (b : Nat) : ⦃fun s => ⌜Inv s⌝⦄ (mark b : SM K Unit) ⦃keeps⦄ := by
  unfold mark
  mvcgen

theorem endSpan_inv (i : Int) (pos : P K) (id : Nat) :
    ⦃fun s => ⌜Inv s⌝⦄ (endSpan i pos id : SM K Unit) ⦃keeps⦄ :=
  keeps_of_rel SpanOp.refl (endSpan_spanOp · i pos id) fun _ _ h r => h.rearr r.1

open Lyon.SweepRep in
theorem sortEdgesBelow_inv : ⦃fun s => ⌜Inv s⌝⦄ (sortEdgesBelow : SM K Unit) ⦃keeps⦄ := by
  unfold sortEdgesBelow
  mvcgen
  · rename_i s h _ _ _ _
    obtain ⟨⟨ha, hb⟩, hq, hua, hub, ho⟩ := h
    exact ⟨⟨ha, all_insertionSort hb _⟩, hq, hua, all_insertionSort hub _, ho⟩

/-- the edges at the indices `L` are no merge vertices (true of `scan.edges_to_split`: the scan skips
merge vertices before it tests an edge) -/
def NM (s : St K) (L : Array Nat) : Prop := ∀ ei ∈ L, ∀ e, s.active[ei]? = some e → e.isMerge = false

def InvN (L : Array Nat) (s : St K) : Prop := Inv s ∧ NM s L

abbrev keepsN {β : Type} (L : Array Nat) : PostCond β (.except Fail (.arg (St K) .pure)) :=
  post⟨fun _ s => ⌜InvN L s⌝, fun _ s => ⌜Inv s⌝⟩

/-- **`split_edge` under `ActiveSpan`**: the parameter is in `[0,1]`, so every stored parameter stays in
`[0,1]`; the upper part ends at the vertex, the lower part is pending from it -/
theorem splitEdge_invN (L : Array Nat) (ei : Nat) :
    ⦃fun s => ⌜InvN L s ∧ ∀ e, s.active[ei]? = some e → e.isMerge = false⌝⦄ (splitEdge ei : SM K Unit) ⦃keepsN L⦄ := by
  unfold splitEdge
  mvcgen
  · rename_i s h hlt _ _ _ _ _ _ _
    obtain ⟨⟨⟨⟨ha, hb⟩, hq, hua, hub, ho⟩, hm⟩, hei⟩ := h
    have hmem : s.active[ei] ∈ s.active := Array.getElem_mem hlt
    have hnm : s.active[ei].isMerge = false := hei _ (by simp [hlt])
    have hsp := ha _ hmem hnm
    refine ⟨⟨⟨?_, ?_⟩, ?_, ?_, ?_, ho⟩, ?_⟩
    · exact all_set ha ei _ (fun _ => ⟨hsp.1, le_refl _⟩)
    · exact all_push hb _ hsp.2
    · show ∀ d ∈ (s.q.edgeData.push _), _
      refine all_push hq _ ⟨?_, (ed_U hq _).2⟩
      exact remap_U (splitTAtVertex_unit _ _ _ hsp.1 hsp.2) (ed_U hq _).1 (hua _ hmem)
    · exact all_set hua ei _ (show U s.active[ei].rangeEnd from hua _ hmem)
    · exact all_push hub _ (hua _ hmem)
    · -- the edge keeps its `is_merge` flag
      intro k hk e' he'
      have he2 : (s.active.setIfInBounds ei { s.active[ei] with «to» := s.curPos })[k]? = some e' := he'
      rw [Array.getElem?_setIfInBounds] at he2
      split at he2
      · cases he2; exact hnm
      · exact hm k hk e' he2
  · exact (‹InvN L _ ∧ _›).1.1

theorem InvN.spanOp {L : Array Nat} {s s' : St K} (h : InvN L s) (r : SpanOp s s') : InvN L s' :=
  ⟨h.1.rearr r.1, by unfold NM; rw [r.2]; exact h.2⟩

/-- **what `ActiveSpan` and the parameter range survive at the leaf operations of an event**, while the edges at
the indices `L` are known to be no merge vertices: span bookkeeping does not touch what they read, `split_edge`
is `splitEdge_invN` -/
theorem keepsN_span (L : Array Nat) : Keeps (InvN (K := K) L) (fun _ => Inv) (fun _ => True) L :=
  .ofSpanOp (fun _ _ => InvN.spanOp) (fun _ _ h => h.1) fun ei hei =>
    triple_conseq (splitEdge_invN L ei) (fun _ h => ⟨h, h.2 ei hei⟩) (fun _ _ h => h) fun _ _ h => h

/-- the same once the splits are done (no edge is split any more) -/
theorem keeps_span : Keeps (Inv (K := K)) (fun _ => Inv) (fun _ => True) #[] :=
  .ofSpanOp (fun _ _ h r => h.rearr r.1) (fun _ _ h => h) fun _ h => nomatch h

/-- the edge that becomes a merge vertex is exempt from `ActiveSpan` from then on -/
theorem Inv.mergeAt {s : St K} (h : Inv s) (i : Nat) (hi : i < s.active.size) : Inv (mergeAt s i hi) := by
  obtain ⟨⟨ha, hb⟩, hq, hua, hub, ho⟩ := h
  exact ⟨⟨all_set ha _ _ (fun hm => by cases hm), hb⟩, hq,
    all_set hua _ _ (show U s.active[i].rangeEnd from hua _ (Array.getElem_mem hi)), hub, ho⟩

/-- the pending edges become active edges that start at the current vertex -/
theorem Inv.spliceAt {s : St K} (h : Inv s) (a b : Nat) : Inv (spliceAt s a b) := by
  obtain ⟨⟨ha, hb⟩, hq, hua, hub, ho⟩ := h
  exact ⟨⟨all_splice ha (fun b hm _ => ⟨le_refl _, hb b hm⟩) _ _ _, all_empty⟩, hq,
    all_splice hua hub _ _ _, all_empty, ho⟩

end field

end Lyon.SweepSpan
