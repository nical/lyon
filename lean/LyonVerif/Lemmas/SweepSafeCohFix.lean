/-
  SPAN / WINDING COHERENCE, recovery: the merge-vertex fix-up of `sort_active_edges` (`swapBack`) on the
  signature list: the merge vertex is moved left into its prefix, to a place whose prefix winding is `in`;
  the new prefix is a permutation of the old one with the merge vertex, all its merge vertices lie inside
  (`MIn`), and the suffix stays (`swapBack_min`).  `sgA` are the signatures of an array of active edges.
-/
import LyonVerif.Lemmas.SweepSafeCohInv

set_option linter.unusedSectionVars false
set_option linter.unusedSimpArgs false

namespace Lyon.SweepCoh
open Lyon Lyon.Scalar Lyon.Mono Lyon.Sweep Lyon.EQ Lyon.SweepSafe

variable {α : Type} [Scalar α] [Wide α]

theorem decomp_pair {γ : Type} (l : List γ) (i : Nat) (hi : i + 1 < l.length) :
    ∃ A y x B, l = A ++ y :: x :: B ∧ A.length = i ∧ y = l[i] ∧ x = l[i + 1] := by
  refine ⟨l.take i, l[i], l[i + 1], l.drop (i + 2), ?_, by simp; omega, rfl, rfl⟩
  conv => lhs; rw [← List.take_append_drop i l]
  congr 1
  rw [List.drop_eq_getElem_cons (by omega), List.drop_eq_getElem_cons (by omega)]

theorem swap_app {γ : Type} (A B : List γ) (x y : γ) :
    ((A ++ y :: x :: B).set (A.length + 1) y).set A.length x = A ++ x :: y :: B := by
  induction A with
  | nil => simp
  | cons a A ih => simp [ih]

theorem gW_eq_snd {l : List (Bool × Int)} (hz : MZl l) {x : Bool × Int} (hx : x ∈ l) : gW x = x.2 := by
  unfold gW
  by_cases h : x.1 = true
  · simp [h, hz x hx h]
  · simp [h]

theorem sgA_swap (a : Array (ActiveEdge α)) (idx : Nat) (x y : ActiveEdge α) (A B : List (Bool × Int))
    (sy sx : Bool × Int) (h : sgA a = A ++ sy :: sx :: B) (hA : A.length + 1 = idx)
    (hx : sigOf x = sx) (hy : sigOf y = sy) :
    sgA ((a.setIfInBounds idx y).setIfInBounds (idx - 1) x) = A ++ sx :: sy :: B := by
  subst hA
  unfold sgA at h ⊢
  rw [Array.toList_setIfInBounds, Array.toList_setIfInBounds, List.map_set, List.map_set, h, hx, hy,
    Nat.add_sub_cancel]
  exact swap_app A B sx sy

/-- **the merge-vertex fix-up**: the merge vertex `sx` is moved into the prefix `A` so that all merge
vertices of the new prefix lie inside; the suffix is untouched -/
theorem swapBack_min (rule : Slab.Rule) : ∀ (f : Nat) (a : Array (ActiveEdge α)) (idx : Nat) (w : Int)
    (a' : Array (ActiveEdge α)) (A B : List (Bool × Int)) (sx : Bool × Int),
    swapBack rule f a idx w = .ok a' → sgA a = A ++ sx :: B → A.length = idx → sx.1 = true →
    MZl A → w = gsum A → MIn rule 0 A →
    ∃ A1, sgA a' = A1 ++ B ∧ A1.Perm (sx :: A) ∧ MIn rule 0 A1
  | 0, a, idx, w, a', A, B, sx, e, _, _, _, _, _, _ => by simp [swapBack] at e
  | f+1, a, idx, w, a', A, B, sx, e, hs, hA, hsx, hz, hw, hk => by
    simp only [swapBack] at e
    split at e
    · cases e
    · rename_i h0
      have hidx : idx ≠ 0 := by simpa using h0
      obtain ⟨A', sy, rfl⟩ : ∃ A' sy, A = A' ++ [sy] := by
        rcases List.eq_nil_or_concat A with h | ⟨A', sy, h⟩
        · rw [h] at hA; simp at hA; omega
        · exact ⟨A', sy, by rw [h]; simp⟩
      have hA' : A'.length + 1 = idx := by simpa using hA
      have hs' : sgA a = A' ++ sy :: sx :: B := by rw [hs]; simp
      split at e
      · rename_i x y hx hy
        have hsx' : sigOf x = sx := by
          have := sgA_getElem? a idx
          rw [hx, hs', List.getElem?_append_right (by omega), show idx - A'.length = 1 by omega] at this
          simpa using this.symm
        have hsy' : sigOf y = sy := by
          have := sgA_getElem? a (idx - 1)
          rw [hy, hs', List.getElem?_append_right (by omega), show idx - 1 - A'.length = 0 by omega] at this
          simpa using this.symm
        have hsw := sgA_swap a idx x y A' B sy sx hs' hA' hsx' hsy'
        have hw' : w - y.winding = gsum A' := by
          have : y.winding = gW sy := by rw [gW_eq_snd hz (by simp), ← hsy']; rfl
          rw [hw, gsum_append, gsum_cons, gsum_nil, this]; omega
        obtain ⟨hk1, hky, -⟩ := (MIn_append _ _ _).mp hk
        rw [Int.zero_add] at hky
        split at e
        · rename_i hin
          cases e
          refine ⟨A' ++ [sx, sy], by rw [hsw]; simp, by simp,
            (MIn_append _ _ _).mpr ⟨hk1, fun _ => ?_, fun h => ?_, trivial⟩⟩
          · rw [Int.zero_add, ← hw']; exact hin
          · rw [Int.zero_add, gW_merge hsx, Int.add_zero]; exact hky h
        · obtain ⟨A1, h1, h2, h3⟩ := swapBack_min rule f _ (idx - 1) _ a' A' (sy :: B) sx e hsw (by omega) hsx
            (fun z hzm => hz z (by simp [hzm])) hw' hk1
          refine ⟨A1 ++ [sy], by rw [h1]; simp, by simpa using h2.append_right [sy],
            (MIn_append _ _ _).mpr ⟨h3, fun h => ?_, trivial⟩⟩
          have : gsum A1 = gsum A' := by
            rw [show gsum A1 = _ from lsum_perm gW h2, lsum_cons, gW_merge hsx, Int.zero_add]; rfl
          rw [Int.zero_add, this]; exact hky h
      · cases e

end Lyon.SweepCoh
