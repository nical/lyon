/-
  `flush_side`'s fan as an ear sequence of the chain polygon (`Props/C02g.lean`, `Props/C02h.lean`).

  `q 0 … q (len−1)` is a chain on side `c`, strictly sorted and WEAKLY convex (`ConvexChainW`: what
  `outward_turn` maintains, collinear triples allowed).  At level `s` of the doubling loop the live
  vertices are the multiples of `s` below `len`; `polyAtC q c len s` is the region between that chain
  and its chord, closed on the chord side (`CSide`), so that the covering clause reaches the points of
  the chord itself.  A level cuts the ears at the odd multiples (`mains_tilesW`) and, if their number
  is odd, the last live vertex across the chord (`tail_stepW`), leaving `polyAtC q c len (2 s)`.
  A collinear ear is a zero-area triangle, an empty open tile, and the boundary case of weak convexity (`ear_tilesN`);
  the closed tiles of the covering clause are the non-degenerate ones (`TriInCN`: a point of the open region that a
  closed ear covers is strictly inside one of the ear's chain edges, `inTriSC_pos`).  `flush_fan_tilesW`: the whole
  loop tiles the chain polygon; the open fan triangles are strictly beyond the chord (`chainTri_beyond`), so the fan
  also tiles the OPEN chain polygon (`flush_fan_tilesO`).
  Suffixes: `W` weakly convex chain, region closed on its chord side; `O` the open chain polygon; `C` closed tile or
  side; `N` the covering tile is non-degenerate.
-/
import LyonVerif.Lemmas.MonotoneTileAdvSep

set_option linter.unusedSectionVars false
set_option linter.unusedSimpArgs false

namespace Lyon.C02f
open Lyon Lyon.Mono Lyon.C02 Lyon.C02c

section Geometry
variable {K : Type} [Field K] [LinearOrder K] [IsStrictOrderedRing K]

/-- `p₁, p₂` weakly on side `c` of the line `o → b`, `q` in the sweep range of `p₁ → p₂` strictly on
the other side of that line ⟹ `q` strictly on the inner side of `p₁ → p₂` -/
theorem seg_side (c : Bool) {o b p1 p2 q : P K} (hbo : After b o) (hq1 : AfterEq q p1) (hq2 : After p2 q)
    (h1 : 0 ≤ sg c * wind o p1 b) (h2 : 0 ≤ sg c * wind o p2 b) (hq : 0 < sg c * wind o b q) :
    0 < sg c * wind p1 p2 q := by
  rcases hq1 with e | hq1
  · exfalso
    rw [e, wind_swap_bc] at hq
    linarith
  -- `f p = (p − o) × (b − o)`: `f p₁, f p₂ ≤ 0 < f q` in the order of side `c`
  have a1 : 0 < sg c * (q - p1).cross (b - o) := by
    have : (q - p1).cross (b - o) = wind o b q + wind o p1 b := by simp only [wind]; geom_ring
    rw [this, mul_add]; linarith
  have a2 : 0 < sg c * (b - o).cross (p2 - q) := by
    have : (b - o).cross (p2 - q) = wind o b q + wind o p2 b := by simp only [wind]; geom_ring
    rw [this, mul_add]; linarith
  have ew : wind p1 p2 q = (q - p1).cross (p2 - q) := by simp only [wind]; geom_ring
  rw [ew]
  exact cross_trans_sg c (after_hv hq1) (after_hv hbo) (after_hv hq2) a1 a2

/-- the dual of `seg_side`: `p₁, p₂` weakly on side `c` of the line `o → b`, `q` in the sweep range of `p₁ → p₂`
strictly on side `c` of it ⟹ `q` strictly on side `c` of `o → b` (otherwise the direction `b − o` would lie weakly
between `q − p₁` and `p₂ − q` on the wrong side: `cross_trans_le_sg`) -/
theorem edge_side (c : Bool) {o b p1 p2 q : P K} (hbo : After b o) (hq1 : AfterEq q p1) (hq2 : After p2 q)
    (h1 : 0 ≤ sg c * wind o b p1) (h2 : 0 ≤ sg c * wind o b p2) (hq : 0 < sg c * wind p1 p2 q) :
    0 < sg c * wind o b q := by
  rcases hq1 with e | hq1
  · rw [e, wind_self_left] at hq; simp at hq
  by_contra hn
  have hn' := not_lt.mp hn
  have a1 : 0 ≤ sg (!c) * (q - p1).cross (b - o) := by
    have : (q - p1).cross (b - o) = wind o b q - wind o b p1 := by simp only [wind]; geom_ring
    rw [this, sg_not, neg_mul, mul_sub]; linarith
  have a2 : 0 ≤ sg (!c) * (b - o).cross (p2 - q) := by
    have : (b - o).cross (p2 - q) = wind o b q - wind o b p2 := by simp only [wind]; geom_ring
    rw [this, sg_not, neg_mul, mul_sub]; linarith
  have ew : wind p1 p2 q = (q - p1).cross (p2 - q) := by simp only [wind]; geom_ring
  have := cross_trans_le_sg (!c) (after_hv hq1) (after_hv hbo) (after_hv hq2) a1 a2
  rw [← ew, sg_not, neg_mul] at this
  linarith

/-- a sorted chain all of whose vertices lie weakly on side `c` of the line `o → b`: every point
between its first and last vertex that is strictly on the other side of the line is strictly on the
chain's inner side -/
theorem chain_side (c : Bool) {o b q : P K} (hbo : After b o) (hq : 0 < sg c * wind o b q) :
    ∀ (L : List (P K)) (a z : P K), SortedP L → L.head? = some a → L.getLast? = some z →
      (∀ v ∈ L, 0 ≤ sg c * wind o v b) → AfterEq q a → After z q → ChainIn c L q
  | [], _, _, _, h, _, _, _, _ => by simp at h
  | [x], a, z, _, h1, h2, _, g1, g2 => by
    simp only [List.head?_cons, Option.some.injEq] at h1
    simp only [List.getLast?_singleton, Option.some.injEq] at h2
    exfalso
    rw [← h1] at g1; rw [← h2] at g2
    exact not_after_of_afterEq g1 g2
  | x :: y :: r, a, z, hs, h1, h2, hv, g1, g2 => by
    simp only [List.head?_cons, Option.some.injEq] at h1
    rw [List.getLast?_cons_cons] at h2
    by_cases g : After y q
    · left
      rw [← h1] at g1
      exact ⟨⟨g1, g⟩, seg_side c hbo g1 g (hv x (by simp)) (hv y (by simp)) hq⟩
    · right
      exact chain_side c hbo hq (y :: r) y z (List.Pairwise.of_cons hs) rfl h2
        (fun v hv' => hv v (List.mem_cons_of_mem _ hv')) (afterEq_of_not_after g) g2

/-- in the sweep range of the chord `o → t` and at or beyond it (seen from a chain on side `c`) -/
def CSide (c : Bool) (o t q : P K) : Prop := Span o t q ∧ 0 ≤ sg (!c) * wind o t q

/-- the left-over triangle of a level, chain polygon closed on the chord side; weakly convex corner: a point of the
region that the closed triangle covers is strictly inside one of its chain edges, so the covering tile is non-degenerate -/
theorem tail_stepW (c : Bool) (C : List (P K)) {o b z : P K} (hC : (C ++ [b]).head? = some o)
    (hs : SortedP (C ++ [b])) (hbo : After b o) (hzb : After z b)
    (hconv : 0 ≤ sg c * wind o b z) (hv : ∀ v ∈ C ++ [b], 0 ≤ sg c * wind o v b) :
    Tiles (fun q => ChainIn c (C ++ [b, z]) q ∧ CSide c o z q) (fun (_ : Unit) => InTriS c o b z)
      (fun _ q => InTriSC c o b z q ∧ 0 < sg c * wind o b z) [()] (fun q => ChainIn c (C ++ [b]) q ∧ CSide c o b q) := by
  have hzo := after_trans hzb hbo
  have happ : ∀ q, ChainIn c (C ++ [b, z]) q ↔ ChainIn c (C ++ [b]) q ∨ (Span b z q ∧ 0 < sg c * wind b z q) := by
    intro q
    rw [chainIn_append c C b [z] q]
    constructor
    · rintro (h | h | h)
      · exact Or.inl h
      · exact Or.inr h
      · exact absurd h (chainIn_single c z q)
    · rintro (h | h)
      · exact Or.inl h
      · exact Or.inr (Or.inl h)
  have hlastb : (C ++ [b]).getLast? = some b := by simp
  refine ⟨?_, ?_, ?_, by simp, ?_⟩
  · intro _ _ q hq
    obtain ⟨hqo, hzq⟩ := inTriS_after hbo hzb hq
    refine ⟨(happ q).mpr ?_, ⟨Or.inr hqo, hzq⟩, by rw [sg_wind_swap]; exact hq.2.2.le⟩
    by_cases g : After b q
    · exact Or.inl (chain_side c hbo hq.1 (C ++ [b]) o b hs hC hlastb hv (Or.inr hqo) g)
    · exact Or.inr ⟨⟨afterEq_of_not_after g, hzq⟩, hq.2.1⟩
  · rintro q ⟨h1, ⟨hqo, hbq⟩, hin⟩
    refine ⟨(happ q).mpr (Or.inl h1), ⟨hqo, after_trans hzb hbq⟩, ?_⟩
    rw [sg_not] at hin ⊢
    by_contra hn
    have := turn_from_xW c hbo hzo hqo hconv (by linarith [not_le.mp hn])
    linarith
  · rintro _ _ q hq ⟨_, _, hin⟩
    have := hq.1
    rw [sg_not] at hin; linarith
  · rintro q ⟨h1, ⟨hqo, hzq⟩, hinz⟩
    have hzoq : 0 ≤ sg c * wind z o q := by rw [← sg_wind_swap]; simpa using hinz
    rcases (happ q).mp h1 with g | ⟨⟨hqb, _⟩, hin⟩
    · have hbq : After b q := chainIn_upper c (C ++ [b]) q b hs hlastb g
      by_cases t : sg c * wind o b q ≤ 0
      · left
        exact ⟨g, ⟨hqo, hbq⟩, by rw [sg_not]; linarith⟩
      · right
        have t' := (not_le.mp t).le
        have hT : InTriSC c o b z q := ⟨t', turn_cover_xyW c hbo hzb hbq hconv t', hzoq⟩
        exact ⟨(), by simp, hT, inTriSC_pos hT (Or.inl (not_le.mp t))⟩
    · right
      have hT : InTriSC c o b z q := ⟨turn_cover_yz_le c hbo hzb hqb hconv hin.le, hin.le, hzoq⟩
      exact ⟨(), by simp, hT, inTriSC_pos hT (Or.inr hin)⟩

def pts (q : Nat → P K) (s : Nat) (l : List Nat) : List (P K) := l.map (fun j => q (j * s))

def polyAtC (q : Nat → P K) (c : Bool) (len s : Nat) : P K → Prop :=
  fun x => ChainIn c (pts q s (List.range ((len - 1) / s + 1))) x ∧ CSide c (q 0) (q ((len - 1) / s * s)) x

structure ConvexChainW (q : Nat → P K) (c : Bool) (len : Nat) : Prop where
  sort : ∀ a b, a < b → b < len → After (q b) (q a)
  conv : ∀ a b d, a < b → b < d → d < len → 0 ≤ sg c * wind (q a) (q b) (q d)

variable {q : Nat → P K} {c : Bool} {len : Nat}

theorem ConvexChainW.sorted_pts (h : ConvexChainW q c len) (s : Nat) (hs : 1 ≤ s) (l : List Nat)
    (hl : l.Pairwise (· < ·)) (hb : ∀ j ∈ l, j * s < len) : SortedP (pts q s l) := by
  unfold SortedP pts
  rw [List.pairwise_map]
  refine hl.imp_of_mem ?_
  intro a b ha hb' hab
  exact h.sort _ _ (Nat.mul_lt_mul_of_pos_right hab (by omega)) (hb b hb')

theorem ConvexChainW.mid_side (h : ConvexChainW q c len) {p t : Nat} (hp : p ≤ t) (ht : t < len) :
    0 ≤ sg c * wind (q 0) (q p) (q t) := by
  by_cases h0 : p = 0
  · subst h0; rw [wind_self_mid]; simp
  by_cases h1 : p = t
  · subst h1; rw [wind_self_right]; simp
  · exact h.conv 0 p t (by omega) (by omega) ht

theorem ConvexChainW.chord_side (h : ConvexChainW q c len) {p t : Nat} (hp : p ≤ t) (ht : t < len) :
    0 ≤ sg (!c) * wind (q 0) (q t) (q p) := by
  have e : sg (!c) * wind (q 0) (q t) (q p) = sg c * wind (q 0) (q p) (q t) := by
    rw [sg_not, wind_swap_bc]; ring
  rw [e]; exact h.mid_side hp ht

/-- the chain after `n` ears of the level have been cut -/
def chainN (q : Nat → P K) (s m n : Nat) : List (P K) :=
  pts q (2 * s) (List.range (n + 1)) ++ pts q s (List.range' (2 * n + 1) (m - 2 * n))

theorem chainN_zero (s m : Nat) : chainN q s m 0 = pts q s (List.range (m + 1)) := by
  simp only [chainN, pts, List.range_one, List.map_cons, List.map_nil, Nat.zero_mul, Nat.mul_zero, Nat.zero_add,
    Nat.sub_zero, List.singleton_append]
  rw [List.range_eq_range', List.range'_succ]
  simp

theorem chainN_step (s m n : Nat) (hn : 2 * n + 2 ≤ m) :
    chainN q s m n = pts q (2 * s) (List.range n) ++ q (n * 2 * s) :: q (n * 2 * s + s) :: q (n * 2 * s + s + s) ::
        pts q s (List.range' (2 * n + 3) (m - 2 * n - 2)) ∧
    chainN q s m (n + 1) = pts q (2 * s) (List.range n) ++ q (n * 2 * s) :: q (n * 2 * s + s + s) ::
        pts q s (List.range' (2 * n + 3) (m - 2 * n - 2)) := by
  have e1 : n * (2 * s) = n * 2 * s := by ring
  have e2 : (2 * n + 1) * s = n * 2 * s + s := by ring
  have e3 : (2 * n + 1 + 1) * s = n * 2 * s + s + s := by ring
  have e4 : (n + 1) * (2 * s) = n * 2 * s + s + s := by ring
  obtain ⟨r, hr⟩ : ∃ r, m - 2 * n = r + 1 + 1 := ⟨m - 2 * n - 2, by omega⟩
  have hr2 : m - 2 * n - 2 = r := by omega
  have hr3 : m - 2 * (n + 1) = r := by omega
  constructor
  · simp only [chainN, pts]
    rw [List.range_succ, List.map_append, List.append_assoc, hr2, hr, List.range'_succ, List.range'_succ]
    simp only [List.map_cons, List.map_nil, List.singleton_append, e1, e2, e3]
  · simp only [chainN, pts]
    rw [List.range_succ, List.map_append, List.range_succ, List.map_append, List.append_assoc, List.append_assoc,
      hr2, hr3, show 2 * (n + 1) + 1 = 2 * n + 3 by ring]
    simp only [List.map_cons, List.map_nil, List.singleton_append, List.cons_append, List.nil_append, e1, e4]

theorem mains_tilesW (h : ConvexChainW q c len) (s m : Nat) (hs : 1 ≤ s) (hm : m * s < len) (n : Nat)
    (hn : 2 * n ≤ m) :
    Tiles (fun x => ChainIn c (pts q s (List.range (m + 1))) x ∧ CSide c (q 0) (q (m * s)) x)
      (fun i : Nat => InTriS c (q (i * 2 * s)) (q (i * 2 * s + s)) (q (i * 2 * s + s + s)))
      (fun i x => InTriSC c (q (i * 2 * s)) (q (i * 2 * s + s)) (q (i * 2 * s + s + s)) x ∧
        0 < sg c * wind (q (i * 2 * s)) (q (i * 2 * s + s)) (q (i * 2 * s + s + s)))
      (List.range n) (fun x => ChainIn c (chainN q s m n) x ∧ CSide c (q 0) (q (m * s)) x) := by
  induction n with
  | zero =>
    rw [chainN_zero]
    exact Tiles.refl _ _ _
  | succ n ih =>
    have ih' := ih (by omega)
    obtain ⟨e1, e2⟩ := chainN_step (q := q) s m n (by omega)
    rw [List.range_succ (n := n)]
    refine ih'.trans ?_
    rw [e1, e2]
    have hms : ∀ j, j ≤ m → j * s < len := fun j hj => lt_of_le_of_lt (Nat.mul_le_mul_right s hj) hm
    have hx : n * 2 * s < n * 2 * s + s := by omega
    have hz : n * 2 * s + s + s ≤ m * s := by
      have : (2 * n + 2) * s ≤ m * s := Nat.mul_le_mul_right s (by omega)
      have e : (2 * n + 2) * s = n * 2 * s + s + s := by ring
      omega
    have hyx : After (q (n * 2 * s + s)) (q (n * 2 * s)) := h.sort _ _ (by omega) (by omega)
    have hzy : After (q (n * 2 * s + s + s)) (q (n * 2 * s + s)) := h.sort _ _ (by omega) (by omega)
    have hconvw := h.conv (n * 2 * s) (n * 2 * s + s) (n * 2 * s + s + s) (by omega) (by omega) (by omega)
    have hA : SortedP (pts q (2 * s) (List.range n) ++ [q (n * 2 * s)]) := by
      have := h.sorted_pts (2 * s) (by omega) (List.range (n + 1)) (by
        rw [List.range_eq_range']; exact List.pairwise_lt_range') (by
        intro j hj
        have : j ≤ n := by have := List.mem_range.mp hj; omega
        have : j * (2 * s) ≤ n * (2 * s) := Nat.mul_le_mul_right _ this
        have e : n * (2 * s) = n * 2 * s := by ring
        omega)
      rw [List.range_succ] at this
      simpa [pts, Nat.mul_assoc] using this
    have hB : SortedP (q (n * 2 * s + s + s) :: pts q s (List.range' (2 * n + 3) (m - 2 * n - 2))) := by
      have := h.sorted_pts s hs (List.range' (2 * n + 2) (m - 2 * n - 2 + 1)) List.pairwise_lt_range' (by
        intro j hj
        have := List.mem_range'_1.mp hj
        exact hms j (by omega))
      rw [List.range'_succ] at this
      have e : (2 * n + 2) * s = n * 2 * s + s + s := by ring
      simpa [pts, e] using this
    have hxo : AfterEq (q (n * 2 * s)) (q 0) := by
      by_cases h0 : n * 2 * s = 0
      · rw [h0]; exact Or.inl rfl
      · exact Or.inr (h.sort _ _ (by omega) (by omega))
    have hzo : AfterEq (q (m * s)) (q (n * 2 * s + s + s)) := by
      by_cases h0 : n * 2 * s + s + s = m * s
      · rw [h0]; exact Or.inl rfl
      · exact Or.inr (h.sort _ _ (by omega) hm)
    have hO : ∀ x, InTriS c (q (n * 2 * s)) (q (n * 2 * s + s)) (q (n * 2 * s + s + s)) x → CSide c (q 0) (q (m * s)) x := by
      intro x hx'
      refine ⟨⟨Or.inr (after_trans_afterEq (inTriS_after hyx hzy hx').1 hxo),
        afterEq_trans_after hzo (inTriS_after hyx hzy hx').2⟩, ?_⟩
      exact inTriS_side_le hx' (h.chord_side (by omega) hm) (h.chord_side (p := n * 2 * s + s) (by omega) hm)
        (h.chord_side hz hm)
    exact (ear_tilesN c (pts q (2 * s) (List.range n)) (pts q s (List.range' (2 * n + 3) (m - 2 * n - 2)))
      (CSide c (q 0) (q (m * s))) hyx hzy hconvw hA hB hO).map (fun _ => n) (fun _ _ _ => Iff.rfl) (fun _ _ _ g => g)

def TriInCN (pos : Nat → P K) (t : Tri) (q : P K) : Prop := TriInC pos t q ∧ 0 < triW pos t

variable (pos : Nat → P K) (ev : Array Nat)

/-- a triangle whose first two ids are swapped on the right, as a point set (the ear `mainTri`) -/
theorem swapTri_in (right : Bool) (a b c : Nat) (x : P K) :
    (TriIn pos (if right then (b, a, c) else (a, b, c)) x ↔ InTriS (!right) (pos a) (pos b) (pos c) x) ∧
    (InTriSC (!right) (pos a) (pos b) (pos c) x ∧ 0 < sg (!right) * wind (pos a) (pos b) (pos c) →
      TriInCN pos (if right then (b, a, c) else (a, b, c)) x) := by
  cases right
  · simp [TriIn, TriInC, TriInCN, triW, sg, inTriS_true, inTriSC_true]
  · refine ⟨by simp [TriIn, inTriS_false], fun ⟨h1, h2⟩ => ⟨by simpa [TriInC, inTriSC_false] using h1, ?_⟩⟩
    simp only [if_true, triW]
    rw [wind_swap]
    simpa [sg] using h2

theorem extraTri_in (right : Bool) (b d : Nat) (x : P K) :
    (TriIn pos (extraTri ev right b d) x ↔
      InTriS (!right) (pos (ev.getD 0 0)) (pos (ev.getD b 0)) (pos (ev.getD d 0)) x) ∧
    (InTriSC (!right) (pos (ev.getD 0 0)) (pos (ev.getD b 0)) (pos (ev.getD d 0)) x ∧
      0 < sg (!right) * wind (pos (ev.getD 0 0)) (pos (ev.getD b 0)) (pos (ev.getD d 0)) →
      TriInCN pos (extraTri ev right b d) x) := by
  cases right
  · simp [extraTri, TriIn, TriInC, TriInCN, triW, sg, inTriS_true, inTriSC_true]
  · refine ⟨?_, fun ⟨h1, h2⟩ => ⟨?_, ?_⟩⟩
    · simp only [extraTri, if_true, Bool.not_true, TriIn, inTriS_false]
      exact (inTri_rot _ _ _ _).symm
    · simp only [extraTri, if_true, Bool.not_true, TriInC, inTriSC_false] at h1 ⊢
      exact (inTriC_rot _ _ _ _).mp h1
    · simp only [extraTri, if_true, triW]
      rw [wind_swap_bc]
      simpa [sg] using h2

theorem level_tilesW (right : Bool) (len step : Nat)
    (h : ConvexChainW (fun i => pos (ev.getD i 0)) (!right) len) (hs : 1 ≤ step) (hlt : step * 2 < len) :
    Tiles (polyAtC (fun i => pos (ev.getD i 0)) (!right) len step) (TriIn pos) (TriInCN pos)
      (flushLevel ev len step right) (polyAtC (fun i => pos (ev.getD i 0)) (!right) len (2 * step)) := by
  generalize hq : (fun i => pos (ev.getD i 0)) = q at h ⊢
  have hqa : ∀ i, pos (ev.getD i 0) = q i := fun i => by rw [← hq]
  obtain ⟨m, hm1, hm', _, hcase⟩ := flushLevel_eq ev len step right hs hlt
  have hmul : (len - 1) / step * step ≤ len - 1 := Nat.div_mul_le_self _ _
  have hm : (len - 1) / step * step < len := by omega
  -- the ears at the odd multiples
  have T1 := (mains_tilesW h step ((len - 1) / step) hs hm m (by rcases hcase with ⟨e, _⟩ | ⟨e, _⟩ <;> omega)).map
    (mainTri ev step right)
    (fun i _ x => by unfold mainTri; simp only [← hqa]; exact (swapTri_in pos right _ _ _ x).1)
    (fun i _ x => by unfold mainTri; simp only [← hqa]; exact (swapTri_in pos right _ _ _ x).2)
  unfold polyAtC
  rw [hm']
  rcases hcase with ⟨hm2, e⟩ | ⟨hm2, _, e⟩
  · -- even number of live steps: no left-over triangle
    rw [e]
    have ec : chainN q step ((len - 1) / step) m = pts q (2 * step) (List.range (m + 1)) := by
      simp only [chainN, hm2, Nat.sub_self, List.range'_zero, pts, List.map_nil, List.append_nil]
    have et : (len - 1) / step * step = m * (2 * step) := by rw [hm2]; ring
    rw [ec, et] at T1
    rw [et]
    exact T1
  · -- odd: the left-over triangle cuts the last live vertex off across the chord
    rw [e]
    have et : (len - 1) / step * step = m * (2 * step) + step := by rw [hm2]; ring
    have ec : chainN q step ((len - 1) / step) m =
        pts q (2 * step) (List.range m) ++ [q (m * (2 * step)), q (m * (2 * step) + step)] := by
      simp only [chainN, hm2, pts]
      rw [show 2 * m + 1 - 2 * m = 1 by omega, List.range_succ (n := m), List.map_append]
      simp only [List.range'_one, List.map_cons, List.map_nil, List.append_assoc, List.singleton_append]
      congr 3
      ring_nf
    rw [ec, et] at T1
    rw [et]
    refine T1.trans ?_
    have hb : m * (2 * step) < len := by omega
    have hz : m * (2 * step) + step < len := by omega
    have hCb : pts q (2 * step) (List.range m) ++ [q (m * (2 * step))] = pts q (2 * step) (List.range (m + 1)) := by
      simp only [pts]
      rw [List.range_succ (n := m), List.map_append]
      rfl
    have hsort : SortedP (pts q (2 * step) (List.range (m + 1))) :=
      h.sorted_pts (2 * step) (by omega) _ (by rw [List.range_eq_range']; exact List.pairwise_lt_range') (by
        intro j hj
        have : j ≤ m := by have := List.mem_range.mp hj; omega
        have : j * (2 * step) ≤ m * (2 * step) := Nat.mul_le_mul_right _ this
        omega)
    have tail := tail_stepW (!right) (pts q (2 * step) (List.range m)) (o := q 0)
      (b := q (m * (2 * step))) (z := q (m * (2 * step) + step))
      (by rw [hCb]; simp [pts, List.range_succ_eq_map])
      (by rw [hCb]; exact hsort)
      (h.sort _ _ (Nat.mul_pos (by omega) (by omega)) hb)
      (h.sort _ _ (by omega) hz)
      (h.conv 0 _ _ (Nat.mul_pos (by omega) (by omega)) (by omega) hz)
      (by
        rw [hCb]
        intro v hv
        simp only [pts, List.mem_map, List.mem_range] at hv
        obtain ⟨j, hj, rfl⟩ := hv
        exact h.mid_side (Nat.mul_le_mul_right _ (by omega)) hb)
    have tail' := tail.map (fun _ => extraTri ev right (m * (2 * step)) (m * (2 * step) + step))
      (fun _ _ x => by have := (extraTri_in pos ev right (m * (2 * step)) (m * (2 * step) + step) x).1
                       simpa only [hqa] using this)
      (fun _ _ x => by have := (extraTri_in pos ev right (m * (2 * step)) (m * (2 * step) + step) x).2
                       simpa only [hqa] using this)
    rw [hCb] at tail'
    exact tail'

theorem polyAtC_empty (q : Nat → P K) (c : Bool) (len step : Nat) (hs : 1 ≤ step) (hge : ¬ step * 2 < len) (x : P K) :
    ¬ polyAtC q c len step x := by
  unfold polyAtC
  have : (len - 1) / step = 0 ∨ (len - 1) / step = 1 := by
    have hm : (len - 1) / step < 2 := by rw [Nat.div_lt_iff_lt_mul (by omega)]; omega
    generalize (len - 1) / step = m at hm ⊢; omega
  rcases this with e | e
  · rw [e]
    rintro ⟨h1, _⟩
    simp only [pts, List.range_one, List.map_cons, List.map_nil] at h1
    exact chainIn_single _ _ x h1
  · rw [e]
    simp only [pts, List.range_succ, List.range_zero, List.nil_append, List.cons_append, List.map_cons, List.map_nil,
      Nat.zero_mul, Nat.one_mul]
    rintro ⟨h1, h2⟩
    rcases h1 with ⟨_, hin⟩ | g
    · have := h2.2
      rw [sg_not] at this; linarith
    · exact absurd g (chainIn_single c _ x)

theorem levels_tilesW (right : Bool) (len : Nat) (h : ConvexChainW (fun i => pos (ev.getD i 0)) (!right) len)
    (fuel step : Nat) (hs : 1 ≤ step) (hf : len ≤ step + fuel) :
    Tiles (polyAtC (fun i => pos (ev.getD i 0)) (!right) len step) (TriIn pos) (TriInCN pos)
      (flushLevels ev len right fuel step) (fun _ => False) := by
  fun_induction flushLevels ev len right fuel step with
  | case1 step =>
    exact (Tiles.refl _ _ _).rebase (fun _ g => g) (fun _ g => Or.inl g)
      (fun x => ⟨False.elim, polyAtC_empty _ _ len step hs (by omega) x⟩)
  | case2 fuel step hlt ih =>
    have t1 := level_tilesW pos ev right len step h hs hlt
    rw [Nat.mul_comm 2 step] at t1
    exact t1.trans (ih (by omega) (by omega))
  | case3 fuel step hge =>
    exact (Tiles.refl _ _ _).rebase (fun _ g => g) (fun _ g => Or.inl g)
      (fun x => ⟨False.elim, polyAtC_empty _ _ len step hs hge x⟩)

theorem polyAtC_one (q : Nat → P K) (c : Bool) (len : Nat) (hl : 1 ≤ len) :
    polyAtC q c len 1 = fun x => ChainIn c ((List.range len).map q) x ∧ CSide c (q 0) (q (len - 1)) x := by
  unfold polyAtC pts
  simp only [Nat.div_one, Nat.mul_one]
  rw [show len - 1 + 1 = len by omega]

/-- **`flush_side`'s fan is a triangulation of the chain polygon**: for a chain of `len` ids
(`ev`), strictly sorted and WEAKLY convex to its side, the triangles of the doubling loop lie in
the region between the chain and its chord `first → last` (closed on the chord side), are pairwise
interior-disjoint, and the closed non-degenerate ones cover that region. -/
theorem flush_fan_tilesW (right : Bool) (len : Nat) (hl : 1 ≤ len)
    (h : ConvexChainW (fun i => pos (ev.getD i 0)) (!right) len) :
    Tiles (fun x => ChainIn (!right) ((List.range len).map (fun i => pos (ev.getD i 0))) x ∧
        CSide (!right) (pos (ev.getD 0 0)) (pos (ev.getD (len - 1) 0)) x)
      (TriIn pos) (TriInCN pos) (flushLevels ev len right (len + 1) 1) (fun _ => False) := by
  -- the step doubles per level, so `len + 1` levels (the fuel lyon's loop is modelled with) exhaust the chain
  have := levels_tilesW pos ev right len h (len + 1) 1 (by omega) (by omega)
  rw [polyAtC_one _ _ _ hl] at this
  exact this

theorem chainTri_idx {ev : Array Nat} {len : Nat} {right : Bool} {t : Tri} (h : ChainTri ev len right t) :
    ∃ i j k, i < len ∧ j < len ∧ k < len ∧ t = (ev.getD i 0, ev.getD j 0, ev.getD k 0) := by
  obtain ⟨a, b, c, hab, hbc, hc, h⟩ := h
  cases right
  · exact ⟨a, b, c, by omega, by omega, hc, h⟩
  · rcases h with e | e
    · exact ⟨b, a, c, by omega, by omega, hc, e⟩
    · exact ⟨a, c, b, by omega, hc, by omega, e⟩

/-- all chain vertices weakly on a side of the line `o → z`: an open fan triangle is strictly on it -/
theorem chainTri_beyond {ev : Array Nat} {len : Nat} {right : Bool} {t : Tri} (ht : ChainTri ev len right t)
    {τ : Bool} {o z : P K} (hzo : After z o) (hv : ∀ p, p < len → 0 ≤ sg τ * wind o z (pos (ev.getD p 0)))
    {x : P K} (hx : TriIn pos t x) : 0 < sg τ * wind o z x := by
  obtain ⟨i, j, k, hi, hj, hk, rfl⟩ := chainTri_idx ht
  exact inTriS_side_weak hzo ((inTriS_true _ _ _ _).mpr hx) (hv i hi) (hv j hj) (hv k hk)

theorem inPoly_chord {c : Bool} {L : List (P K)} {o z x : P K} (h : InPoly c L [o, z] x) :
    Span o z x ∧ 0 < sg (!c) * wind o z x :=
  h.2.resolve_right (chainIn_single _ _ x)

theorem inPoly_chord_closed {c : Bool} {L : List (P K)} {o z x : P K} (h : InPoly c L [o, z] x) :
    ChainIn c L x ∧ CSide c o z x :=
  ⟨h.1, (inPoly_chord h).1, (inPoly_chord h).2.le⟩

/-- the same fan against the OPEN chain polygon: the open fan triangles are strictly beyond the chord -/
theorem flush_fan_tilesO (right : Bool) (len : Nat) (hl : 1 ≤ len)
    (h : ConvexChainW (fun i => pos (ev.getD i 0)) (!right) len) :
    Tiles (InPoly (!right) ((List.range len).map (fun i => pos (ev.getD i 0)))
        [pos (ev.getD 0 0), pos (ev.getD (len - 1) 0)])
      (TriIn pos) (TriInCN pos) (flushLevels ev len right (len + 1) 1) (fun _ => False) := by
  have T := flush_fan_tilesW pos ev right len hl h
  refine ⟨fun t ht x hx => ?_, fun _ => False.elim, fun _ _ _ _ g => g, T.disj,
    fun x hx => T.cover x (inPoly_chord_closed hx)⟩
  obtain ⟨h1, hsp, _⟩ := T.inside t ht x hx
  refine ⟨h1, Or.inl ⟨hsp, chainTri_beyond pos (flushLevels_ids ev len right t ht)
    (after_trans_afterEq hsp.2 hsp.1) (fun p hp => ?_) hx⟩⟩
  exact h.chord_side (by omega) (by omega)

end Geometry

end Lyon.C02f
