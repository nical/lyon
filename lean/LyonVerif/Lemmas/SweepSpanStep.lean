/-
  Part of the shared layer under `Lemmas/SweepStepKeeps.lean` (namespace `Lyon.Sweep`, every scalar type; it continues
  `Lemmas/SweepStep.lean`), not of the `ActiveSpan` files `SweepSpan{,Ix,Loop}.lean`:
  `handle_intersections`, `process_edges_below` and `tessellator_loop` cut into the pieces an invariant of the sweep
  meets once.  The search for the nearest cut of a pending
  edge with the active edges is a pure fold (`hiScan`), so an invariant walks the outer loop only and reads what it
  needs of the cut from the fold (`hiScan_ind`, `hiScan_cut`), or does not walk it at all
  (`handleIntersectionsStep_keeps`).  An `if` / `match` in the middle of a `do` block is a join point, and
  what follows it is walked once per way out of it: hence the split-event block, the span loop and one event with its
  retry as steps of their own (`processEdgesBelow_eq`, `tessellatorLoop_succ`).  The record array of the queue: an
  insertion pushes one record and touches no other (`insertSorted_edgeData`, `piQ_all`); the pending edges
  `initialize_events` creates (`init_below_all`).
-/
import LyonVerif.Lemmas.SweepStep
import LyonVerif.Lemmas.ListFold

set_option linter.unusedSectionVars false
set_option mvcgen.warning false

namespace Lyon.Sweep
open Lyon Lyon.Scalar Lyon.Mono Lyon.EQ
open Std.Do

variable {α : Type} [Scalar α] [Wide α]

/-- the loop state of the search: `(tb_min, nearest cut so far (ta, tb, active index), index)` -/
abbrev HiSt (α : Type) [Scalar α] [Wide α] := Wide.W α × Option (Wide.W α × Wide.W α × Nat) × Nat

/-- one step of the search for the pending edge `cur → ebTo` (the text is the model's) -/
def hiStep (cur ebTo : P α) (skipS skipE : Nat) (ae : ActiveEdge α) (r : HiSt α) : HiSt α :=
  if skipS ≤ r.2.2 ∧ r.2.2 < skipE then (r.1, r.2.1, r.2.2 + 1)
  else if (ae.isMerge || decide (Scalar.min cur.x ebTo.x > ae.maxX)) = true then (r.1, r.2.1, r.2.2 + 1)
  else if fmax cur.x ebTo.x < ae.minX then (r.1, r.2.1, r.2.2 + 1)
  else
    match Seg.intersectionT (⟨widenP ae.from_, widenP ae.to⟩ : Seg (Wide.W α)) ⟨widenP cur, widenP ebTo⟩ with
    | some t =>
      if t.2 < r.1 ∧ t.2 > zero ∧ t.1 > zero ∧ t.1 ≤ one then (t.2, some (t.1, t.2, r.2.2), r.2.2 + 1)
      else (r.1, r.2.1, r.2.2 + 1)
    | none => (r.1, r.2.1, r.2.2 + 1)

def hiScan (s : St α) (eb : PendingEdge α) (skipS skipE : Nat) : HiSt α :=
  s.active.foldl (fun r ae => hiStep s.curPos eb.to skipS skipE ae r) (one, none, 0)

theorem handleIntersectionsStep_eq (skipS skipE : Nat) :
    (handleIntersectionsStep skipS skipE : SM α Unit) = (do
      let s0 ← get
      for bi in [0:s0.below.size] do
        let s ← get
        match s.below[bi]? with
        | none => pure ()
        | some eb =>
          match (hiScan s eb skipS skipE).2.1 with
          | some r =>
            let eb' ← processIntersection r.1 r.2.1 r.2.2 eb ⟨widenP s.curPos, widenP eb.to⟩
            modify fun s => { s with below := s.below.setIfInBounds bi eb' }
          | none => pure ()) := by
  unfold handleIntersectionsStep
  refine bind_congr fun s0 => ?_
  refine congrArg (fun b => (forIn [:s0.below.size] PUnit.unit b >>= fun _ => pure () : SM α Unit)) ?_
  funext bi _
  refine bind_congr fun s => ?_
  cases s.below[bi]? with
  | none => rfl
  | some eb =>
    dsimp only
    refine Eq.trans (congrArg (fun x => x >>= _) (?_ : _ = (pure (hiScan s eb skipS skipE) : SM α _))) (pure_bind _ _)
    -- every leaf of the loop body is `pure (yield _)`
    unfold hiScan
    rw [← Array.forIn_pure_yield_eq_foldl]
    refine congrArg (forIn s.active (one, none, 0)) ?_
    funext ae r
    unfold hiStep
    split
    · rfl
    split
    · rfl
    split
    · rfl
    split <;> rename_i heq <;> rw [heq]
    dsimp only
    split <;> rfl

theorem hiScan_ind {s : St α} {eb : PendingEdge α} {skipS skipE : Nat} {Φ : Nat → HiSt α → Prop}
    (h0 : Φ 0 (one, none, 0)) (hkeep : ∀ i r, Φ i r → Φ (i + 1) (r.1, r.2.1, r.2.2 + 1))
    (hcut : ∀ (i : Fin s.active.size) r (t : Wide.W α × Wide.W α), Φ i r → ¬(skipS ≤ r.2.2 ∧ r.2.2 < skipE) →
      s.active[i].isMerge = false → t.2 < r.1 ∧ t.2 > zero ∧ t.1 > zero ∧ t.1 ≤ one →
      Φ (i + 1) (t.2, some (t.1, t.2, r.2.2), r.2.2 + 1)) :
    Φ s.active.size (hiScan s eb skipS skipE) := by
  refine Array.foldl_induction Φ h0 fun i r hr => ?_
  unfold hiStep
  split
  · exact hkeep i r hr
  split
  · exact hkeep i r hr
  split
  · exact hkeep i r hr
  split
  · split
    · rename_i hs hm _ _ _ _ hc
      simp only [Bool.or_eq_true, not_or, Bool.not_eq_true] at hm
      exact hcut i r _ hr hs hm.1 hc
    · exact hkeep i r hr
  · exact hkeep i r hr

/-- the cut found by the search of `handle_intersections`: it names an active edge that is no merge vertex, both
parameters passed the filter of the loop, and the parameter on the pending edge satisfies every `M` that holds of `1`
and is inherited downwards along `<` (the search keeps the least one) -/
theorem hiScan_cut {M : Wide.W α → Prop} (h1 : M one) (hlt : ∀ a b : Wide.W α, a < b → M b → M a)
    (s : St α) (eb : PendingEdge α) (skipS skipE : Nat) {x : Wide.W α × Wide.W α × Nat}
    (hx : (hiScan s eb skipS skipE).2.1 = some x) :
    (∃ h : x.2.2 < s.active.size, s.active[x.2.2].isMerge = false) ∧
      M x.2.1 ∧ x.2.1 > zero ∧ x.1 > zero ∧ x.1 ≤ one :=
  (hiScan_ind (s := s) (eb := eb) (skipS := skipS) (skipE := skipE)
    (Φ := fun i r => r.2.2 = i ∧ M r.1 ∧ ∀ x, r.2.1 = some x →
      (∃ h : x.2.2 < s.active.size, s.active[x.2.2].isMerge = false) ∧ M x.2.1 ∧ x.2.1 > zero ∧ x.1 > zero ∧ x.1 ≤ one)
    ⟨rfl, h1, fun _ h => nomatch h⟩ (fun i r h => ⟨by rw [h.1], h.2.1, h.2.2⟩)
    fun i r t h _ hm hc => by
      have hM := hlt _ _ hc.1 h.2.1
      refine ⟨by rw [h.1], hM, fun x hx => ?_⟩
      cases hx
      exact ⟨⟨h.1 ▸ i.2, by simp only [h.1]; exact hm⟩, hM, hc.2.1, hc.2.2.1, hc.2.2.2⟩).2.2 x hx

/-- `handle_intersections` for an assertion `I`: for every pending edge with a cut (`hiScan`), `process_intersection`
and the write-back of the pending edge it returns; the loop itself asks nothing of `I` -/
theorem handleIntersectionsStep_keeps {I : St α → Prop} {E : Fail → St α → Prop} (skipS skipE : Nat)
    (step : ∀ (bi : Nat) (eb : PendingEdge α) (x : Wide.W α × Wide.W α × Nat) (seg : Seg (Wide.W α)),
      ⦃fun s => ⌜I s ∧ s.below[bi]? = some eb ∧ (hiScan s eb skipS skipE).2.1 = some x⌝⦄
      (processIntersection x.1 x.2.1 x.2.2 eb seg : SM α (PendingEdge α))
      ⦃post⟨fun r s => ⌜I { s with below := s.below.setIfInBounds bi r }⌝, fun f s => ⌜E f s⌝⟩⦄) :
    ⦃fun s => ⌜I s⌝⦄ (handleIntersectionsStep skipS skipE : SM α Unit) ⦃ends I E⦄ := by
  rw [handleIntersectionsStep_eq]
  mvcgen [step] invariants
  · post⟨fun _ s => ⌜I s⌝, fun f s => ⌜E f s⌝⟩

theorem insertIntoSortedList_edgeData (q : Queue α) (idx : Nat) (p : P α) (after : Nat) :
    (q.insertIntoSortedList idx p after).edgeData = q.edgeData := by
  unfold Queue.insertIntoSortedList
  split <;> rfl

theorem insertSorted_edgeData (q : Queue α) (p : P α) (d : EdgeData α) (after : Nat) :
    (q.insertSorted p d after).1.edgeData = q.edgeData.push d := by
  unfold Queue.insertSorted
  rw [insertIntoSortedList_edgeData]
  rfl

theorem piQ_all {q0 : Queue α} {cur : P α} {curEvent : Nat} {ae0 : ActiveEdge α} {eb0 : PendingEdge α}
    {ta tb : Wide.W α} {ip : P α} {D : EdgeData α → Prop} (h0 : ∀ d ∈ q0.edgeData, D d)
    (hI : ∀ p d, PiIns q0 ae0 eb0 ta tb ip p d → D d)
    (hV : D ⟨Sources.nanPoint, piRtb q0 eb0 tb, piRtb q0 eb0 tb, 0, false, (q0.ed eb0.srcEdge).fromId,
      (q0.ed eb0.srcEdge).toId⟩) :
    ∀ d ∈ (piQ q0 cur curEvent ae0 eb0 ta tb ip).edgeData, D d := by
  refine piQ_ind (Φ := fun q => ∀ d ∈ q.edgeData, D d) h0 (fun q p d hq hd => ?_) (fun q i d hq hd => ?_) fun q hq => ?_
  · rw [insertSorted_edgeData]; exact all_push hq _ (hI p d hd)
  · exact all_push hq _ (hI ip d hd)
  · unfold Queue.vertexEventOnEdgeSorted
    rw [insertIntoSortedList_edgeData]
    exact all_push hq _ hV

/-- the split-event block of `process_edges_below` -/
def belowSplit (scan : Scan) : SM α Unit := do
  if scan.splitEvent then
    if scan.aboveStart == 0 then throw (.panic "subtract with overflow")
    splitEvent (scan.aboveStart - 1) scan.windingBefore.spanIndex

/-- the spans begun between the pending edges -/
def belowSpans (scan : Scan) : SM α Unit := do
  let s ← get
  let mut w := scan.windingBefore
  let mut first := true
  for pe in s.below do
    if !first && w.isIn then
      let s' ← get
      beginSpan w.spanIndex s'.curPos s'.curVertex
    w := w.update s.rule pe.winding
    first := false

theorem processEdgesBelow_eq (scan : Scan) : (processEdgesBelow scan : SM α Unit) = (do
    sortEdgesBelow
    handleCoincidentEdgesBelow
    belowSplit scan
    belowSpans scan) := by
  unfold processEdgesBelow belowSplit belowSpans
  refine bind_congr fun _ => bind_congr fun _ => ?_
  split
  · split
    · simp only [bind_assoc]
    · rfl
  · simp only [pure_bind]

/-- the pending edges `initialize_events` makes of the edge records of the sibling events: what holds of the old
pending edges and of each new one holds of all -/
theorem init_below_all (q : Queue α) (cur : P α) (Pb : PendingEdge α → Prop) (sibs : List Nat)
    (hs : ∀ i ∈ sibs, (q.ed i).isEdge = true →
      Pb ⟨(q.ed i).to, slope ((q.ed i).to - cur), i, (q.ed i).winding, (q.ed i).t1⟩) :
    ∀ (b : Array (PendingEdge α)), (∀ e ∈ b, Pb e) →
      ∀ e ∈ sibs.foldl (fun (b : Array (PendingEdge α)) i =>
        let e := q.ed i
        if e.isEdge then b.push ⟨e.to, slope (e.to - cur), i, e.winding, e.t1⟩ else b) b, Pb e :=
  fun b hb => foldl_inv (fun b => ∀ e ∈ b, Pb e) _ sibs b hb fun b hb i hi => by
    dsimp only
    split
    · exact all_push hb _ (hs i hi ‹_›)
    · exact hb

/-- one event with its single retry after `recover_from_error` -/
def evRecover : SM α Unit := do
  match ← processEvents with
  | none => pure ()
  | some _ =>
    recoverFromError
    match ← processEvents with
    | none => pure ()
    | some e =>
      mark 1
      throw (.err s!"Internal({e.toString})")

theorem tessellatorLoop_succ (f : Nat) : (tessellatorLoop (f + 1) : SM α Unit) = (do
    let s ← get
    if s.curEvent == INVALID then return
    initializeEvents
    evRecover
    let s ← get
    if s.q.fuelOut then throw .fuel
    set { s with curEvent := s.q.nextId s.curEvent }
    tessellatorLoop f) := by
  rw [tessellatorLoop]
  unfold evRecover
  refine bind_congr fun s => ?_
  split
  · rfl
  refine bind_congr fun _ => ?_
  simp only [bind_assoc]
  refine bind_congr fun r => ?_
  cases r with
  | none => simp only [pure_bind]
  | some e1 =>
    simp only [bind_assoc]
    refine bind_congr fun _ => ?_
    refine bind_congr fun r2 => ?_
    cases r2 with
    | none => simp only [pure_bind]
    | some e2 => rfl
end Lyon.Sweep
