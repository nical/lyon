/- Generic list folds. -/

namespace Lyon

theorem foldl_inv {β γ : Type} (I : β → Prop) (f : β → γ → β) : ∀ (l : List γ) (b : β), I b →
    (∀ b, I b → ∀ x ∈ l, I (f b x)) → I (l.foldl f b)
  | [], _, hb, _ => hb
  | x :: l, b, hb, h => foldl_inv I f l (f b x) (h b hb x (by simp)) fun b' hb' y hy => h b' hb' y (by simp [hy])

end Lyon
