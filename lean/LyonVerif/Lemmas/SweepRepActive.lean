/-
  C07b - `update_active_edges` preserves the record invariant: `process_intersection` (every
  branch), `handle_intersections` (whose own filter `0 < ta ≤ 1`, `0 < tb < tb_min ≤ 1` is what
  bounds the cut parameters - no hypothesis about `LineSegment::intersection_t` is needed), and the
  splice of the pending edges into the active list.

  `process_intersection`: all branches - intersection at the current position (`range.start` of
  the source record rewritten), the `next_after` fix-up, both `is_near` snaps, the two cut-off
  parts (straight or flipped), `insert_sibling`, the double-flip vertex event - create records
  whose id pair is copied from the source record of the edge and whose new range end is
  `remap_t_in_range(t, range.start .. range_end)` for the cut parameter `t` handed in by
  `handle_intersections`: `Closure U V` (the parameter satisfies `V` ⇒ the remapped value stays in
  `U`) is all that is needed (`handleIntersectionsStep_spec`, hypotheses `WClosure` about the wide type).
-/
import LyonVerif.Lemmas.SweepRepSteps

set_option linter.unusedSectionVars false
set_option linter.unusedVariables false
set_option mvcgen.warning false

namespace Lyon.SweepRep
open Lyon Lyon.Scalar Lyon.Mono Lyon.Sweep Lyon.EQ
open Std.Do

variable {α : Type} [Scalar α] [Wide α]
variable {IdP : Nat → Nat → Prop} {U : α → Prop}

/-- the parameter predicate `V` of the cut parameters makes `remap_t_in_range` stay inside `U` -/
structure Closure (U V : α → Prop) : Prop where
  remap : ∀ v s e, V v → U s → U e → U (Sources.remapT v s e)

theorem uc_remap {V : α → Prop} (hcl : Closure U V) {c : Nat} {v s e : α} (hv : V v) (hs : Uc U c s) (he : Uc U c e) :
    Uc U c (Sources.remapT v s e) := by
  rcases hs with t | hs
  · exact Or.inl t
  · rcases he with t | he
    · exact Or.inl t
    · exact Or.inr (hcl.remap v s e hv hs he)

variable (IdP U)
/-- `q'` is `q` after well-formed insertions of records satisfying `DOk` (at coverage `c`) -/
structure QExt (c : Nat) (q q' : Queue α) : Prop where
  qok : QOk q'
  le : q.edgeData.size ≤ q'.edgeData.size
  data : QData IdP U c q'
variable {IdP U}

theorem QExt.refl {c : Nat} {q : Queue α} (h : QOk q) (hd : QData IdP U c q) : QExt IdP U c q q := ⟨h, Nat.le_refl _, hd⟩

theorem QExt.link {c : Nat} {q q' : Queue α} (h : QExt IdP U c q q') (hq : QOk q) {x : Nat} (hx : Link q.events.size x) :
    Link q'.events.size x := by
  apply hx.mono
  rw [← hq.size, ← h.qok.size]; exact h.le

theorem QExt.insertSorted {c : Nat} {q q' : Queue α} (h : QExt IdP U c q q') (hq : QOk q) (p : P α) {d : EdgeData α}
    {after : Nat} (hd : DOk IdP (Uc U c) d) (ha : Link q.events.size after) :
    QExt IdP U c q (q'.insertSorted p d after).1 := by
  have := qok_insertSorted h.qok p d after (h.link hq ha)
  refine ⟨this.1, ?_, QData.push h.data this.2.2.1 hd⟩
  rw [this.2.2.1]; simp; exact Nat.le_succ_of_le h.le

theorem QExt.insertSibling {c : Nat} {q q' : Queue α} (h : QExt IdP U c q q') (sib : Nat) (p : P α) {d : EdgeData α}
    (hd : DOk IdP (Uc U c) d) : QExt IdP U c q (q'.insertSibling sib p d) := by
  have := qok_insertSibling h.qok sib p d
  refine ⟨this.1, ?_, QData.push h.data this.2.2 hd⟩
  rw [this.2.2]; simp; exact Nat.le_succ_of_le h.le

theorem QExt.vertexEvent {c : Nat} {q q' : Queue α} (h : QExt IdP U c q q') (hq : QOk q) (p : P α) {t : α} {f g after : Nat}
    (hd : DOk IdP (Uc U c) ⟨Sources.nanPoint, t, t, 0, false, f, g⟩) (ha : Link q.events.size after) :
    QExt IdP U c q (q'.vertexEventOnEdgeSorted p t f g after) := by
  have := qok_vertexEventOnEdgeSorted h.qok p t f g after (h.link hq ha)
  refine ⟨this.1, ?_, QData.push h.data this.2.2 hd⟩
  rw [this.2.2]; simp; exact Nat.le_succ_of_le h.le

theorem QExt.modifyT0 {c : Nat} {q q' : Queue α} (h : QExt IdP U c q q') (i : Nat) {r : α} (hr : Uc U c r) :
    QExt IdP U c q { q' with edgeData := q'.edgeData.modify i (fun d => { d with t0 := r }) } := by
  refine ⟨⟨by simp [h.qok.size], h.qok.links, h.qok.first⟩, by simpa using h.le, ?_⟩
  intro j hj
  have hj' : j < q'.edgeData.size := by simpa using hj
  simp only [Array.getElem_modify]
  split
  · exact ⟨(h.data j hj').1, hr, (h.data j hj').2.2⟩
  · exact h.data j hj'

/-- what `process_intersection` knows about its two edges (at any later coverage `c`) -/
structure PIFacts (IdP : Nat → Nat → Prop) (U : α → Prop) (s : St α) (ae0 : ActiveEdge α) (eb0 : PendingEdge α) (ra rb : α) (c : Nat) : Prop where
  A : AOk (Uc U c) s.q.edgeData.size ae0
  B : BOk (Uc U c) s.q.edgeData.size eb0
  Da : DOk IdP (Uc U c) (s.q.ed ae0.srcEdge)
  Db : DOk IdP (Uc U c) (s.q.ed eb0.srcEdge)
  ra : Uc U c ra
  rb : Uc U c rb
  cur : Link s.q.events.size s.curEvent
  q0 : QExt IdP U c s.q s.q
  qok : QOk s.q

/-- the common end of the state-writing branches of `process_intersection`: from the facts `PIFacts` about the two
edges at the final coverage `c`, any new queue `Q` that is a `QExt` of the old one, with new edges `AE`, `EB` that are
fine, gives `SInv` of the written state `s'` (`e1` .. `e6`: its fields) -/
theorem pi_final {V : α → Prop} (hcl : Closure U V) {s s' : St α} (h : SInv IdP U s) {aei : Nat} {ae0 AE : ActiveEdge α}
    (hget : s.active[aei]? = some ae0) {eb0 EB : PendingEdge α} (hB : BOk (Uc U s.cov) s.q.edgeData.size eb0)
    {ta tb : α} (hta : V ta) (htb : V tb) {Q : Queue α} {c : Nat} (hcov : CovLe s.cov c)
    (e1 : s'.q = Q) (e2 : s'.active = s.active.setIfInBounds aei AE) (e3 : s'.below = s.below) (e4 : s'.out = s.out)
    (e5 : s'.cov = c) (e6 : s'.curEvent = s.curEvent)
    (hF : PIFacts IdP U s ae0 eb0 (Sources.remapT ta (s.q.ed ae0.srcEdge).t0 ae0.rangeEnd)
        (Sources.remapT tb (s.q.ed eb0.srcEdge).t0 eb0.rangeEnd) c →
      QExt IdP U c s.q Q ∧ AOk (Uc U c) s.q.edgeData.size AE ∧ BOk (Uc U c) s.q.edgeData.size EB) :
    SInv IdP U s' ∧ BOk (Uc U c) Q.edgeData.size EB := by
  have hA := all_getElem? h.active hget
  have m : ∀ t, Uc U s.cov t → Uc U c t := fun _ => Uc.mono hcov
  have hDa := (h.data.ed hA.1).mono m
  have hDb := (h.data.ed hB.1).mono m
  obtain ⟨hQ, hAE, hEB⟩ := hF ⟨hA.mono m (Nat.le_refl _), hB.mono m (Nat.le_refl _), hDa, hDb,
    uc_remap hcl hta hDa.2.1 (m _ hA.2), uc_remap hcl htb hDb.2.1 (m _ hB.2), h.cur,
    QExt.refl h.qok (h.data.mono hcov), h.qok⟩
  refine ⟨?_, hEB.mono (fun _ x => x) hQ.le⟩
  apply h.grow (e1 ▸ hQ.qok) (e1 ▸ hQ.le) e6 (e5 ▸ hcov) (by rw [e1, e5]; exact hQ.data)
  · rw [e2, e1, e5]
    apply all_set
    · intro e he; exact (h.active e he).mono m hQ.le
    · exact hAE.mono (fun _ x => x) hQ.le
  · rw [e3, e1, e5]
    intro e he; exact (h.below e he).mono m hQ.le
  · rw [e4]; exact fun _ _ x => x

theorem PIFacts.dok {s : St α} {ae0 : ActiveEdge α} {eb0 : PendingEdge α} {ta tb : Wide.W α} {c : Nat}
    (f : PIFacts IdP U s ae0 eb0 (piRta s.q ae0 ta) (piRtb s.q eb0 tb) c) {ip p : P α} {d : EdgeData α}
    (hd : PiIns s.q ae0 eb0 ta tb ip p d) : DOk IdP (Uc U c) d := by
  cases hd
  · exact ⟨f.Da.1, f.ra, f.A.2⟩
  · exact ⟨f.Da.1, f.A.2, f.ra⟩
  · exact ⟨f.Db.1, f.rb, f.B.2⟩
  · exact ⟨f.Db.1, f.B.2, f.rb⟩

variable (IdP U)

theorem processIntersection_spec {V : α → Prop} (hcl : Closure U V) (ta tb : Wide.W α) (aei : Nat) (eb0 : PendingEdge α) (belowSeg : Seg (Wide.W α)) :
    ⦃fun s => ⌜SInv IdP U s ∧ BOk (Uc U s.cov) s.q.edgeData.size eb0 ∧ V (Wide.narrow ta) ∧ V (Wide.narrow tb)⌝⦄
    (processIntersection ta tb aei eb0 belowSeg : SM α (PendingEdge α))
    ⦃post⟨fun r s => ⌜SInv IdP U s ∧ BOk (Uc U s.cov) s.q.edgeData.size r⌝, fun _ s => ⌜SInv IdP U s⌝⟩⦄ := by
  rw [processIntersection_eq]
  mvcgen
  all_goals
    have hpre := ‹SInv IdP U _ ∧ BOk _ _ eb0 ∧ _›
  · exact hpre.1
  · exact pi_final hcl hpre.1 ‹_[aei]? = some _› hpre.2.1 hpre.2.2.1 hpre.2.2.2 (.or_right _ _)
      rfl rfl rfl rfl rfl rfl fun f => ⟨QExt.modifyT0 f.q0 _ f.ra, f.A, f.B⟩
  · exact hpre.1
  · refine pi_final hcl hpre.1 ‹_[aei]? = some _› hpre.2.1 hpre.2.2.1 hpre.2.2.2
      (CovLe.trans (covLe_piCov0 _ _ _ _ _ _) (covLe_piCov _ _ _ _ _ _ _ _ _)) rfl rfl rfl rfl rfl rfl fun f => ⟨?_, ?_, ?_⟩
    · exact piQ_ind f.q0 (fun q p d hq hd => hq.insertSorted f.qok p (f.dok hd) f.cur)
        (fun q i d hq hd => hq.insertSibling i _ (f.dok hd))
        (fun q hq => hq.vertexEvent f.qok _ ⟨f.Db.1, f.rb, f.rb⟩ f.cur)
    · rw [piAe_eq]; split
      · exact ⟨f.A.1, f.ra⟩
      · exact f.A
    · rw [piEb_eq]; split
      · exact ⟨f.B.1, f.rb⟩
      · exact f.B

/-- what the theorems need to know about the wide type (`f64`) of `handle_intersections`:
`M` = "at most one" is inherited downwards along `<`, and a parameter in `(0, 1]` narrows to a
parameter satisfying `V` -/
structure WClosure (V : α → Prop) (M : Wide.W α → Prop) : Prop where
  mOne : M (Scalar.one : Wide.W α)
  mLt : ∀ a b : Wide.W α, a < b → M b → M a
  mLe : ∀ a : Wide.W α, a ≤ Scalar.one → M a
  nar : ∀ w : Wide.W α, Scalar.zero < w → M w → V (Wide.narrow w)

theorem handleIntersectionsStep_spec {V : α → Prop} {M : Wide.W α → Prop} (hcl : Closure U V) (hw : WClosure V M)
    (skipS skipE : Nat) :
    ⦃fun s => ⌜SInv IdP U s⌝⦄ (handleIntersectionsStep skipS skipE : SM α Unit) ⦃keepsR IdP U⦄ :=
  handleIntersectionsStep_keeps skipS skipE fun bi eb x seg =>
    triple_conseq (processIntersection_spec IdP U hcl x.1 x.2.1 x.2.2 eb seg)
      -- the filter of the search bounds both parameters of the cut
      (fun s ⟨hS, hb, hx⟩ =>
        have hx := hiScan_cut hw.mOne hw.mLt _ _ _ _ hx
        ⟨hS, all_getElem? hS.below hb, hw.nar _ hx.2.2.2.1 (hw.mLe _ hx.2.2.2.2), hw.nar _ hx.2.2.1 hx.2.1⟩)
      -- the updated pending edge is stored
      (fun r s hI => hI.1.frame rfl rfl (.refl _) hI.1.active (all_set hI.1.below _ _ hI.2) fun _ _ x => x)
      fun _ _ h => h

variable {IdP U} in
theorem SInv.splice {s : St α} (h : SInv IdP U s) (a b : Nat) : SInv IdP U (spliceAt s a b) :=
  h.frame rfl rfl (.refl _) (all_splice h.active (fun b hb => ⟨(h.below b hb).1, (h.below b hb).2⟩) _ _ _)
    all_empty fun _ _ x => x

end Lyon.SweepRep
