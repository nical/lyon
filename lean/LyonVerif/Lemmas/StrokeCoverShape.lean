/-
  C06b: the EMISSION SHAPE of one fixed-width join of the complete stroker model (vocabulary: `Lemmas/StrokeCoverDesc.lean`).

  `fwJoin_shape`: a join of a fresh endpoint that does not fold (`fixed_width_step_impl`, `count > 1`)
  emits its base vertices exactly at the side points `compute_join_side_positions_fixed_width` stored
  (`single` if the side has a single vertex, else `prev` / `next`), the two triangles of
  `add_edge_triangles` between the previous point's `next` vertices and its own `prev` vertices
  (when the window is full), and the join triangle of `tessellate_join`.
  Its conclusion is the structure `JoinShape`, which `Lemmas/StrokeCoverLoop.lean` consumes.
  Before it, per model function: `baseVertices_*` (`add_join_base_vertices`), `edgeTris_eq` (`add_edge_triangles`),
  `arc_shape` (`tessellate_arc`), `roundCap_shape`, `roundJoinIf_shape`, `tessJoin_shape` - a fan only creates vertices
  on the circle around `position_on_path` and only triangles between such vertices and the two it was given
  (`FanGrow`; the fan lemmas compose by `FanGrow.trans`).  `arc_shape` walks `tessellate_arc` although `arc_eq`
  (`Lemmas/StrokeParts.lean`) is its effect equation, because it pairs the ids of the new triangles with positions.
-/
import LyonVerif.Lemmas.StrokeCoverDesc
import LyonVerif.Lemmas.StrokeIdxTris

set_option linter.unusedSectionVars false

namespace Lyon.C06b
open Lyon Scalar Lyon.Stroke Lyon.Stroke.Full Lyon.C05 Lyon.C05b Lyon.C05c

section
variable {K : Type} [Field K] [LinearOrder K] [IsStrictOrderedRing K] [Transc K]

theorem sideVerts_pos (j : Join K) (s : SideGeom K) (d : VData K)
    (hp : d.positionOnPath = j.position) (hh : d.halfWidth = j.halfWidth) (h0 : j.halfWidth ≠ 0) :
    ∃ v1 v2, (sideVerts j s d)[0]? = some v1 ∧ v1.position = sPrev s
      ∧ (sideVerts j s d)[(sideVerts j s d).length - 1]? = some v2 ∧ v2.position = sNext s := by
  have hpos : ∀ x : P K, ({ d with normal := joinNormal j x } : VData K).position = x := by
    intro x
    show d.positionOnPath + ((x - j.position).sdiv j.halfWidth).smul d.halfWidth = x
    rw [hp, hh]; exact emit_position _ _ _ h0
  unfold sideVerts sPrev sNext
  cases s.single with
  | some p => exact ⟨_, _, rfl, hpos p, rfl, hpos p⟩
  | none => exact ⟨_, _, rfl, hpos _, rfl, hpos _⟩

theorem baseVertices_pos (j : EP K) (d : VData K) (o : Out K)
    (hp : d.positionOnPath = j.position) (hh : d.halfWidth = j.halfWidth) (h0 : j.halfWidth ≠ 0)
    (hn : o.nextId = o.verts.length) :
    Ext o (baseVertices j d o).2
    ∧ (baseVertices j d o).2.nextId = (baseVertices j d o).2.verts.length
    ∧ PosAt (baseVertices j d o).2 (baseVertices j d o).1.neg.prevVertex (sPrev j.neg)
    ∧ PosAt (baseVertices j d o).2 (baseVertices j d o).1.neg.nextVertex (sNext j.neg)
    ∧ PosAt (baseVertices j d o).2 (baseVertices j d o).1.pos.prevVertex (sPrev j.pos)
    ∧ PosAt (baseVertices j d o).2 (baseVertices j d o).1.pos.nextVertex (sNext j.pos)
    ∧ (baseVertices j d o).1.pos.prev = j.pos.prev ∧ (baseVertices j d o).1.pos.next = j.pos.next
    ∧ (baseVertices j d o).1.pos.single = j.pos.single
    ∧ (baseVertices j d o).1.neg.prev = j.neg.prev ∧ (baseVertices j d o).1.neg.next = j.neg.next
    ∧ (baseVertices j d o).1.neg.single = j.neg.single := by
  rw [baseVertices_eq]
  rw [show baseVerts j.toJoin d = sideVerts j.toJoin j.neg { d with side := .negative }
    ++ sideVerts j.toJoin j.pos { d with side := .positive } from rfl]
  obtain ⟨a1, a2, ha1, pa1, ha2, pa2⟩ := sideVerts_pos j.toJoin j.neg { d with side := .negative } hp hh h0
  obtain ⟨b1, b2, hb1, pb1, hb2, pb2⟩ := sideVerts_pos j.toJoin j.pos { d with side := .positive } hp hh h0
  have hl : 0 < (sideVerts j.toJoin j.neg { d with side := .negative }).length := by
    rw [sideVerts_length]; split_ifs <;> omega
  refine ⟨Ext.grow _ _ _, next_grow hn _ _, ?_, ?_, ?_, ?_, rfl, rfl, rfl, rfl, rfl, rfl⟩
  · refine posAt_grow hn [] (i := 0) ?_ pa1
    rw [List.getElem?_append_left hl]; exact ha1
  · refine posAt_grow hn [] ?_ pa2
    rw [List.getElem?_append_left (by omega)]; exact ha2
  · refine posAt_grow hn [] ?_ pb1
    rw [List.getElem?_append_right (le_refl _), Nat.sub_self]; exact hb1
  · show PosAt _ (o.nextId + _ + _) _
    rw [Nat.add_assoc]
    refine posAt_grow hn [] ?_ pb2
    rw [List.getElem?_append_right (Nat.le_add_right _ _), Nat.add_sub_cancel_left]; exact hb2

/-- `add_edge_triangles` between two joins without folds whose relevant ids are pairwise distinct: the
two triangles `(p0.neg.next, p0.pos.next, p1.pos.prev)`, `(p0.neg.next, p1.pos.prev, p1.neg.prev)` -/
theorem edgeTris_eq (p0 p1 : JoinIds) (hf0 : p0.foldPos = false) (hg0 : p0.foldNeg = false)
    (hf1 : p1.foldPos = false) (hg1 : p1.foldNeg = false)
    (h1 : p0.negNext ≠ p1.posPrev) (h2 : p0.negNext ≠ p0.posNext) (h3 : p0.posNext ≠ p1.posPrev)
    (h4 : p0.negNext ≠ p1.negPrev) (h5 : p1.posPrev ≠ p1.negPrev) :
    addEdgeTriangles p0 p1 = [(p0.negNext, p0.posNext, p1.posPrev), (p0.negNext, p1.posPrev, p1.negPrev)] := by
  simp [addEdgeTriangles, edgeP0Neg, edgeP0Pos, edgeP1Neg, edgeP1Pos, edgeTri1, edgeTri2, hf0, hg0, hf1, hg1,
    h1, h2, h3, h4, h5]

/-- `add_edge_triangles` between a record whose `next` vertices sit at `A`, `B` and one whose `prev` vertices sit at `C`, `D`
(no folds, the ids distinct as `edgeTris_eq` asks): the two triangles of the quad, as positions, and nothing else -/
theorem quad_em {o : Out K} {L R : JoinIds} (hL1 : L.foldPos = false) (hL2 : L.foldNeg = false)
    (hR1 : R.foldPos = false) (hR2 : R.foldNeg = false)
    (h1 : L.negNext ≠ R.posPrev) (h2 : L.negNext ≠ L.posNext) (h3 : L.posNext ≠ R.posPrev)
    (h4 : L.negNext ≠ R.negPrev) (h5 : R.posPrev ≠ R.negPrev)
    {A B C D : P K} (hA : PosAt o L.negNext A) (hB : PosAt o L.posNext B) (hC : PosAt o R.posPrev C) (hD : PosAt o R.negPrev D)
    (hsub : ∀ t ∈ addEdgeTriangles L R, t ∈ o.tris) :
    (EmTri o (A, B, C) ∧ EmTri o (A, C, D)) ∧ ∀ t ∈ addEdgeTriangles L R, TriIn o [A, B, C, D] t := by
  have he := edgeTris_eq L R hL1 hL2 hR1 hR2 h1 h2 h3 h4 h5
  rw [he] at hsub ⊢
  refine ⟨⟨⟨(L.negNext, L.posNext, R.posPrev), hsub _ (by simp), hA, hB, hC⟩,
    ⟨(L.negNext, R.posPrev, R.negPrev), hsub _ (by simp), hA, hC, hD⟩⟩, fun t ht => ?_⟩
  simp only [List.mem_cons, List.mem_nil_iff, or_false] at ht
  rcases ht with rfl | rfl
  · exact ⟨_, _, _, hA, hB, hC, by simp, by simp, by simp⟩
  · exact ⟨_, _, _, hA, hC, hD, by simp, by simp, by simp⟩

theorem joinInterior_ids (i : JoinIds) (a b : Bool) : ∀ t ∈ joinInterior i a b,
    (t.1 = i.posPrev ∨ t.1 = i.posNext ∨ t.1 = i.negPrev ∨ t.1 = i.negNext)
    ∧ (t.2.1 = i.posPrev ∨ t.2.1 = i.posNext ∨ t.2.1 = i.negPrev ∨ t.2.1 = i.negNext)
    ∧ (t.2.2 = i.posPrev ∨ t.2.2 = i.posNext ∨ t.2.2 = i.negPrev ∨ t.2.2 = i.negNext) := by
  intro t ht
  unfold joinInterior at ht
  split_ifs at ht
  · cases a <;> cases b <;> simp at ht
    · obtain rfl := ht; simp
    · obtain rfl := ht; simp
    · rcases ht with rfl | rfl <;> simp
  · simp at ht

/-- what every fan-emitting function does to the output (the conclusion of the `_shape` lemmas): it only appends,
`nextId` stays the number of vertices, every new triangle is a `TriFan` -/
def FanGrow (o o' : Out K) (S : List (P K)) (c : P K) (r2 : K) : Prop :=
  Ext o o' ∧ o'.nextId = o'.verts.length ∧ ∃ ts, o'.tris = o.tris ++ ts ∧ ∀ t ∈ ts, TriFan o' S c r2 t

theorem FanGrow.refl {o : Out K} (hn : o.nextId = o.verts.length) (S : List (P K)) (c : P K) (r2 : K) : FanGrow o o S c r2 :=
  ⟨Ext.refl _, hn, [], by simp, by simp⟩

theorem FanGrow.trans {o o1 o2 : Out K} {S : List (P K)} {c : P K} {r2 : K} (h1 : FanGrow o o1 S c r2)
    (h2 : FanGrow o1 o2 S c r2) : FanGrow o o2 S c r2 := by
  obtain ⟨x1, _, ts1, e1, t1⟩ := h1
  obtain ⟨x2, n2, ts2, e2, t2⟩ := h2
  refine ⟨x1.trans x2, n2, ts1 ++ ts2, by rw [e2, e1, List.append_assoc], fun t ht => ?_⟩
  rcases List.mem_append.mp ht with h | h
  · exact (t1 t h).ext x2
  · exact t2 t h

/-- the step `tessellate_arc` and `tessellate_round_cap` share: a new vertex `d1` on the circle and the triangle
`(va, new, vb)`; the new vertex is then the end of the two sub-fans -/
theorem FanGrow.mid {o : Out K} (hn : o.nextId = o.verts.length) {S : List (P K)} {c : P K} {r2 : K} (d1 : VData K)
    (hpos : (d1.position - c).sqLen = r2) {va vb : Nat} {pa pb : P K}
    (hpa : PosAt o va pa) (hfa : FanPt S c r2 pa) (hpb : PosAt o vb pb) (hfb : FanPt S c r2 pb) :
    FanGrow o ((o.addVertex d1).addTri (va, o.nextId, vb)) S c r2
    ∧ PosAt ((o.addVertex d1).addTri (va, o.nextId, vb)) o.nextId d1.position := by
  have hx : Ext o ((o.addVertex d1).addTri (va, o.nextId, vb)) := Ext.grow o [d1] [(va, o.nextId, vb)]
  have hpv : PosAt ((o.addVertex d1).addTri (va, o.nextId, vb)) o.nextId d1.position := posAt_grow hn _ (i := 0) rfl rfl
  refine ⟨⟨hx, next_grow hn [d1] _, [(va, o.nextId, vb)], rfl, fun t ht => ?_⟩, hpv⟩
  rw [List.mem_singleton.mp ht]
  exact ⟨pa, d1.position, pb, hpa.ext hx, hpv, hpb.ext hx, hfa, Or.inr hpos, hfb⟩

/-- `tessellate_arc`: only vertices on the circle around `position_on_path` with radius `half_width`, only triangles
between such vertices and the two end vertices -/
theorem arc_shape (hcs : ∀ x : K, Transc.cos x * Transc.cos x + Transc.sin x * Transc.sin x = 1)
    (S : List (P K)) (c : P K) (hw : K) (n : Nat) :
    ∀ (a0 a1 : K) (va vb : Nat) (d : VData K) (o : Out K) (pa pb : P K),
      d.positionOnPath = c → d.halfWidth = hw → o.nextId = o.verts.length →
      PosAt o va pa → FanPt S c (hw * hw) pa → PosAt o vb pb → FanPt S c (hw * hw) pb →
      Ext o (tessellateArc a0 a1 va vb n d o)
      ∧ (tessellateArc a0 a1 va vb n d o).nextId = (tessellateArc a0 a1 va vb n d o).verts.length
      ∧ ∃ ts, (tessellateArc a0 a1 va vb n d o).tris = o.tris ++ ts
          ∧ ∀ t ∈ ts, TriFan (tessellateArc a0 a1 va vb n d o) S c (hw * hw) t := by
  induction n with
  | zero =>
    intro a0 a1 va vb d o pa pb _ _ hn _ _ _ _
    exact FanGrow.refl hn _ _ _
  | succ n ih =>
    intro a0 a1 va vb d o pa pb hc hh hn hpa hfa hpb hfb
    simp only [tessellateArc]
    set mid := (a0 + a1) * half with hmid
    set d1 : VData K := { d with normal := ⟨Transc.cos mid, Transc.sin mid⟩ } with hd1
    have hpos : (d1.position - c).sqLen = hw * hw := by
      show ((d.positionOnPath + (⟨Transc.cos mid, Transc.sin mid⟩ : P K).smul d.halfWidth) - c).sqLen = _
      rw [hc, hh]
      have := hcs mid
      simp only [geom]
      linear_combination (hw * hw) * this
    obtain ⟨g1, hpv⟩ := FanGrow.mid hn d1 hpos hpa hfa hpb hfb
    have g2 := ih a0 mid va o.nextId d1 _ pa d1.position hc hh g1.2.1 (hpa.ext g1.1) hfa hpv (Or.inr hpos)
    exact (g1.trans g2).trans (ih mid a1 o.nextId vb d1 _ d1.position pb hc hh g2.2.1
      (hpv.ext g2.1) (Or.inr hpos) ((hpb.ext g1.1).ext g2.1) hfb)

/-- `tessellate_round_cap`: the middle vertex and two fans; every new vertex on the circle around `center`
(`edgeNormal` normalises to a unit vector), only triangles between such vertices and the two given ones -/
theorem roundCap_shape (hcs : ∀ x : K, Transc.cos x * Transc.cos x + Transc.sin x * Transc.sin x = 1)
    (S : List (P K)) (center : P K) (radius : K) (sn en : P K) (va vb : Nat) (tol : K) (isStart : Bool)
    (d : VData K) (o : Out K) (pa pb : P K) (hunit : (normalize en).sqLen = 1)
    (hn : o.nextId = o.verts.length)
    (hpa : PosAt o va pa) (hfa : FanPt S center (radius * radius) pa)
    (hpb : PosAt o vb pb) (hfb : FanPt S center (radius * radius) pb) :
    Ext o (tessellateRoundCap center radius sn va vb en tol isStart d o)
    ∧ (tessellateRoundCap center radius sn va vb en tol isStart d o).nextId
        = (tessellateRoundCap center radius sn va vb en tol isStart d o).verts.length
    ∧ ∃ ts, (tessellateRoundCap center radius sn va vb en tol isStart d o).tris = o.tris ++ ts
        ∧ ∀ t ∈ ts, TriFan (tessellateRoundCap center radius sn va vb en tol isStart d o) S center (radius * radius) t := by
  unfold tessellateRoundCap
  split_ifs with hlt
  · exact FanGrow.refl hn _ _ _
  · unfold roundCapBody
    simp only []
    set d1 : VData K := { d with positionOnPath := center, halfWidth := radius, side := capFirstSide isStart en sn, normal := normalize en } with hd1
    have hpos : (d1.position - center).sqLen = radius * radius := by
      show ((center + (normalize en).smul radius) - center).sqLen = _
      simp only [geom] at hunit ⊢
      linear_combination (radius * radius) * hunit
    obtain ⟨g1, hpv⟩ := FanGrow.mid hn d1 hpos hpa hfa hpb hfb
    have g2 := arc_shape hcs S center radius
      (numSubdivisions (ArcConv.angleAngleTo (ArcConv.angleFromXAxis sn) (ArcConv.angleFromXAxis en)) radius tol)
      (ArcConv.angleFromXAxis sn)
      (ArcConv.angleFromXAxis sn + ArcConv.angleAngleTo (ArcConv.angleFromXAxis sn) (ArcConv.angleFromXAxis en))
      va o.nextId d1 _ pa d1.position rfl rfl g1.2.1 (hpa.ext g1.1) hfa hpv (Or.inr hpos)
    exact (g1.trans g2).trans (arc_shape hcs S center radius _ _ _
      o.nextId vb ({ d1 with side := (capFirstSide isStart en sn).opposite } : VData K) _ d1.position pb rfl rfl g2.2.1
      (hpv.ext g2.1) (Or.inr hpos) ((hpb.ext g1.1).ext g2.1) hfb)

/-- `if cap == Round { tessellate_round_cap(…) }` over the two cap vertices -/
theorem capIf_shape {o : Out K} (hn : o.nextId = o.verts.length) {cap : LineCap} (c : P K) (r : K) (sn en : P K) (va vb : Nat)
    (tol : K) (isStart : Bool) (d : VData K) (hc : CapOK cap en) {pa pb : P K} (hpa : PosAt o va pa) (hpb : PosAt o vb pb) :
    ∀ o', o' = (if cap == .round then tessellateRoundCap c r sn va vb en tol isStart d o else o) →
    FanGrow o o' [pa, pb] c (r * r) := by
  rintro o' rfl
  by_cases h : cap = .round
  · subst h
    obtain ⟨hcs, hunit⟩ := hc.resolve_left (fun h => h rfl)
    exact roundCap_shape hcs [pa, pb] c r sn en va vb tol isStart d o pa pb hunit hn hpa (Or.inl (by simp)) hpb (Or.inl (by simp))
  · rw [if_neg (by simpa using h)]
    exact FanGrow.refl hn _ _ _

/-- `tessellate_round_join` on one side (if requested): a fan over the side's two vertices -/
theorem roundJoinIf_shape (c : Bool)
    (hcs : c = true → ∀ x : K, Transc.cos x * Transc.cos x + Transc.sin x * Transc.sin x = 1) (j : Join K) (isNeg : Bool) (tol : K) (d : VData K) (o : Out K) (S : List (P K)) (pp pn : P K)
    (hpop : d.positionOnPath = j.position) (hhw : d.halfWidth = j.halfWidth) (hn : o.nextId = o.verts.length)
    (hP : PosAt o (if isNeg then j.neg else j.pos).prevVertex pp) (hpS : pp ∈ S)
    (hN : PosAt o (if isNeg then j.neg else j.pos).nextVertex pn) (hnS : pn ∈ S) :
    Ext o (roundJoinIf c j isNeg tol d o)
    ∧ (roundJoinIf c j isNeg tol d o).nextId = (roundJoinIf c j isNeg tol d o).verts.length
    ∧ ∃ ts, (roundJoinIf c j isNeg tol d o).tris = o.tris ++ ts
        ∧ ∀ t ∈ ts, TriFan (roundJoinIf c j isNeg tol d o) S j.position (j.halfWidth * j.halfWidth) t := by
  cases c with
  | false => exact FanGrow.refl hn _ _ _
  | true =>
    unfold roundJoinIf tessellateRoundJoin
    simp only [if_true]
    cases isNeg with
    | true =>
      simp only [if_true] at hP hN ⊢
      exact arc_shape (hcs rfl) S j.position j.halfWidth _ _ _ _ _ _ _ pn pp hpop hhw hn hN (Or.inl hnS) hP (Or.inl hpS)
    | false =>
      simp only [Bool.false_eq_true, if_false] at hP hN ⊢
      exact arc_shape (hcs rfl) S j.position j.halfWidth _ _ _ _ _ _ _ pp pn hpop hhw hn hP (Or.inl hpS) hN (Or.inl hnS)

/-- `tessellate_join`, any join kind: the interior triangles, then (round joins) fans over the sides that need a join -/
theorem tessJoin_shape (j : Join K)
    (hcs : j.round = true → ∀ x : K, Transc.cos x * Transc.cos x + Transc.sin x * Transc.sin x = 1) (tol : K) (d : VData K) (o : Out K) (S : List (P K)) (p1 p2 p3 p4 : P K)
    (hpop : d.positionOnPath = j.position) (hhw : d.halfWidth = j.halfWidth) (hn : o.nextId = o.verts.length)
    (h1 : PosAt o j.pos.prevVertex p1) (h2 : PosAt o j.pos.nextVertex p2)
    (h3 : PosAt o j.neg.prevVertex p3) (h4 : PosAt o j.neg.nextVertex p4)
    (m1 : p1 ∈ S) (m2 : p2 ∈ S) (m3 : p3 ∈ S) (m4 : p4 ∈ S) :
    Ext o (tessellateJoin j tol d o)
    ∧ (tessellateJoin j tol d o).nextId = (tessellateJoin j tol d o).verts.length
    ∧ ∃ ts, (tessellateJoin j tol d o).tris = o.tris ++ joinInterior j.ids (needsJoinPos j) (needsJoinNeg j) ++ ts
      ∧ ∀ t ∈ ts, TriFan (tessellateJoin j tol d o) S j.position (j.halfWidth * j.halfWidth) t := by
  unfold tessellateJoin
  set o1 := o.addTris (joinInterior j.ids (needsJoinPos j) (needsJoinNeg j)) with ho1
  have hx1 : Ext o o1 := Ext.addTris _ _
  have hn1 : o1.nextId = o1.verts.length := hn
  have hc1 : ∀ b : Bool, (b && j.round) = true → ∀ x : K, Transc.cos x * Transc.cos x + Transc.sin x * Transc.sin x = 1 := by
    intro b hb; simp only [Bool.and_eq_true] at hb; exact hcs hb.2
  have g2 := roundJoinIf_shape (needsJoinPos j && j.round) (hc1 _) j false tol d o1 S p1 p2 hpop hhw hn1
    (h1.ext hx1) m1 (h2.ext hx1) m2
  obtain ⟨x, n3, ts, e, t⟩ := FanGrow.trans g2 (roundJoinIf_shape (needsJoinNeg j && j.round) (hc1 _) j true tol d
    _ S p3 p4 hpop hhw g2.2.1 ((h3.ext hx1).ext g2.1) m3 ((h4.ext hx1).ext g2.1) m4)
  exact ⟨hx1.trans x, n3, ts, e, t⟩

/-- what one join leaves behind: the output `o'` extends the old one; the committed record `j2` is `j1` (the geometry
`compute_join_side_positions_fixed_width` computed) with its vertex ids, and these vertices were emitted at `j1`'s side
points; with a full window the two triangles of the edge quad from `prev`'s `next` vertices; the join triangle on the
side that has two vertices; every new triangle has its vertices in the quad's or the join's set or on the join's circle -/
structure JoinShape (st : St K) (prev j1 j2 : EP K) (o' : Out K) : Prop where
  ext : Ext st.out o'
  next : o'.nextId = o'.verts.length
  sides : Sides2 o'.nextId j2.ids
  pNegPrev : PosAt o' j2.neg.prevVertex (sPrev j1.neg)
  pNegNext : PosAt o' j2.neg.nextVertex (sNext j1.neg)
  pPosPrev : PosAt o' j2.pos.prevVertex (sPrev j1.pos)
  pPosNext : PosAt o' j2.pos.nextVertex (sNext j1.pos)
  gPos : j2.pos.prev = j1.pos.prev ∧ j2.pos.next = j1.pos.next ∧ j2.pos.single = j1.pos.single
  gNeg : j2.neg.prev = j1.neg.prev ∧ j2.neg.next = j1.neg.next ∧ j2.neg.single = j1.neg.single
  pos : j2.position = j1.position
  hw : j2.halfWidth = j1.halfWidth
  edge : st.buf.count > 2 →
    EmTri o' (sNext prev.neg, sNext prev.pos, sPrev j1.pos) ∧ EmTri o' (sNext prev.neg, sPrev j1.pos, sPrev j1.neg)
  joinNeg : j1.pos.single.isSome = true → j1.neg.single = none → EmTri o' (j1.neg.prev, sPrev j1.pos, j1.neg.next)
  joinPos : j1.neg.single.isSome = true → j1.pos.single = none → EmTri o' (sPrev j1.neg, j1.pos.prev, j1.pos.next)
  trisNew : ∃ ts, o'.tris = st.out.tris ++ ts ∧ ∀ t ∈ ts,
    (st.buf.count > 2 ∧ TriIn o' [sNext prev.neg, sNext prev.pos, sPrev j1.pos, sPrev j1.neg] t)
    ∨ TriIn o' [sPrev j1.neg, sNext j1.neg, sPrev j1.pos, sNext j1.pos] t
    ∨ TriFan o' [sPrev j1.neg, sNext j1.neg, sPrev j1.pos, sNext j1.pos] j1.position (j1.halfWidth * j1.halfWidth) t

theorem baseVertices_hw (j : EP K) (d : VData K) (o : Out K) :
    (baseVertices j d o).1.halfWidth = j.halfWidth ∧ (baseVertices j d o).1.foldPos = j.foldPos
    ∧ (baseVertices j d o).1.foldNeg = j.foldNeg := ⟨rfl, rfl, rfl⟩

/-- `G0`, `G1` are the caller's names for the previous and this join (`jEP e pt …` in the loop); `hG` ties `G1` to what
the model computes here, so that `JoinShape` comes out in the caller's terms -/
theorem fwJoin_shape {e : Env K} (hj : RoundOK e) (st : St K) (prev join next : EP K) (hf : Fresh e join)
    (hfp : join.foldPos = false) (hfn : join.foldNeg = false)
    (hnf : noFoldAt e prev.position join.position next.position)
    (hw0 : e.hwFw ≠ 0) (hn : st.out.nextId = st.out.verts.length)
    (G0 G1 : EP K) (hG : EP.geo (joinSidesFw e.ix prev join next e.o.miterLimit e.hwFw) = EP.geo G1)
    (hGp : G1.position = join.position) (hGw : G1.halfWidth = e.hwFw)
    (hprev : st.buf.count > 2 → Sides2 st.out.nextId prev.ids
      ∧ PosAt st.out prev.neg.nextVertex (sNext G0.neg) ∧ PosAt st.out prev.pos.nextVertex (sNext G0.pos)) :
    ∃ j2 o', fwJoin e st prev join next = (commitSt st prev j2 o', next) ∧ JoinShape st G0 G1 j2 o' := by
  obtain ⟨j1, hj1, hfw, -, s2, s3, hfold⟩ := fwJoin_fresh_nf st prev join next hf
  obtain ⟨f1, f2⟩ := hfold hnf
  have hhw1 : j1.halfWidth = join.halfWidth := by
    rw [hj1]; exact joinSidesFw_hw e.ix prev join next e.o.miterLimit join.halfWidth
  rw [← hf.hw, ← hj1] at hG
  have hdd : ∃ dd : VData K, dd = { baseVertex join.src join.position join.halfWidth nan with
      advancement := j1.advancement } := ⟨_, rfl⟩
  obtain ⟨dd, edd⟩ := hdd
  have hddp : dd.positionOnPath = j1.position := by rw [edd, s2]; rfl
  have hddh : dd.halfWidth = j1.halfWidth := by rw [edd, hhw1]; rfl
  have hj1w : j1.halfWidth ≠ 0 := by rw [hhw1, hf.hw]; exact hw0
  obtain ⟨i1, i2, i3, i4, i5, i6⟩ := baseVertices_ids j1 dd st.out (f1.trans hfp) (f2.trans hfn)
  obtain ⟨q1, q2, q3, q4, q5, q6, q7, q8, q9, q10, q11, q12⟩ := baseVertices_pos j1 dd st.out hddp hddh hj1w hn
  -- from here on the side points are named as the caller names them
  rw [geo_sPrev_neg hG] at q3; rw [geo_sNext_neg hG] at q4; rw [geo_sPrev_pos hG] at q5; rw [geo_sNext_pos hG] at q6
  rw [(geo_pos hG).1] at q7; rw [(geo_pos hG).2.1] at q8; rw [(geo_pos hG).2.2] at q9
  rw [(geo_neg hG).1] at q10; rw [(geo_neg hG).2.1] at q11; rw [(geo_neg hG).2.2] at q12
  obtain ⟨_, b2, b3⟩ := baseVertices_verts j1 dd st.out
  obtain ⟨hhw2, hfp2, hfn2⟩ := baseVertices_hw j1 dd st.out
  generalize hj2 : (baseVertices j1 dd st.out).1 = j2 at i1 i2 i3 i6 q3 q4 q5 q6 q7 q8 q9 q10 q11 q12 b2 b3 hfp2 hfn2 hhw2
  generalize ho1 : (baseVertices j1 dd st.out).2 = o1 at i1 i4 i5 q1 q2 q3 q4 q5 q6
  -- the edge triangles, then `tessellate_join`
  obtain ⟨o1', ho1'⟩ : ∃ o1' : Out K, o1' = (if st.buf.count > 2 then o1.addTris (addEdgeTriangles prev.ids j2.ids) else o1) :=
    ⟨_, rfl⟩
  have hx1' : Ext o1 o1' := by rw [ho1']; split_ifs; exact Ext.addTris _ _; exact Ext.refl _
  have hn1' : o1'.nextId = o1'.verts.length := by rw [ho1']; split_ifs <;> exact q2
  have ht1' : o1'.tris = o1.tris ++ (if st.buf.count > 2 then addEdgeTriangles prev.ids j2.ids else []) := by
    rw [ho1']; split_ifs <;> simp [Out.addTris]
  have hround : j2.toJoin.round = true → ∀ x : K, Transc.cos x * Transc.cos x + Transc.sin x * Transc.sin x = 1 := by
    intro hr
    rcases hj with h | h
    · exfalso
      have : (j2.lineJoin == Lyon.StrokeQuad.Join.round) = true := hr
      rw [b3, s3] at this
      exact h (eq_of_beq this)
    · exact h
  obtain ⟨hxj, hnj, ts, ets, tfan⟩ := tessJoin_shape j2.toJoin hround e.o.tolerance dd o1'
    [sPrev G1.neg, sNext G1.neg, sPrev G1.pos, sNext G1.pos] (sPrev G1.pos) (sNext G1.pos) (sPrev G1.neg) (sNext G1.neg)
    (by show dd.positionOnPath = j2.position; rw [b2]; exact hddp) (by show dd.halfWidth = j2.halfWidth; rw [hhw2]; exact hddh)
    hn1' (q5.ext hx1') (q6.ext hx1') (q3.ext hx1') (q4.ext hx1') (by simp) (by simp) (by simp) (by simp)
  have hedge : edgeAndJoin e.o.tolerance st.buf.count prev j2 dd o1 = tessellateJoin j2.toJoin e.o.tolerance dd o1' := by
    rw [ho1']; rfl
  generalize ho' : edgeAndJoin e.o.tolerance st.buf.count prev j2 dd o1 = o' at hedge
  rw [← hedge] at hxj hnj ets tfan
  have hext1 : Ext o1 o' := hx1'.trans hxj
  have t1 : o'.tris = o1.tris ++ (if st.buf.count > 2 then addEdgeTriangles prev.ids j2.ids else [])
      ++ joinInterior j2.ids (needsJoinPos j2.toJoin) (needsJoinNeg j2.toJoin) ++ ts := by
    rw [ets, ht1']; rfl
  have hle : o1.nextId ≤ o'.nextId := by rw [hnj, q2]; exact hext1.len_le
  have hfp2' : j2.foldPos = false := by rw [hfp2]; exact f1.trans hfp
  have hfn2' : j2.foldNeg = false := by rw [hfn2]; exact f2.trans hfn
  -- with a full window the quad of the edge, from the previous point's `next` vertices
  have hquad : st.buf.count > 2 →
      (EmTri o' (sNext G0.neg, sNext G0.pos, sPrev G1.pos) ∧ EmTri o' (sNext G0.neg, sPrev G1.pos, sPrev G1.neg))
      ∧ ∀ t ∈ addEdgeTriangles prev.ids j2.ids, TriIn o' [sNext G0.neg, sNext G0.pos, sPrev G1.pos, sPrev G1.neg] t := by
    intro h3
    obtain ⟨⟨p1, p2, pg, p4, p5⟩, pa, pb⟩ := hprev h3
    obtain ⟨r1, r2, rg, r4, r5⟩ := i1
    obtain ⟨g1, g2, g3, g4⟩ := pg
    have hi2 : st.out.nextId ≤ j2.ids.posPrev := i2
    have hi3 : st.out.nextId ≤ j2.ids.negPrev := i3
    exact quad_em (L := prev.ids) (R := j2.ids) p1 p2 r1 r2 (by omega) p4 (by omega) (by omega) r5
      (pa.ext (q1.trans hext1)) (pb.ext (q1.trans hext1)) (q5.ext hext1) (q3.ext hext1)
      (fun t ht => by rw [t1, if_pos h3]; simp [ht])
  refine ⟨j2, o', ?_, ?_⟩
  · rw [hfw]
    subst ho' ho1 hj2
    rw [edd]; rfl
  · refine ⟨q1.trans hext1, hnj, i1.mono hle, q3.ext hext1, q4.ext hext1, q5.ext hext1,
      q6.ext hext1, ⟨q7, q8, q9⟩, ⟨q10, q11, q12⟩, b2.trans (s2.trans hGp.symm), hhw2.trans (hhw1.trans (hf.hw.trans hGw.symm)), ?_, ?_, ?_, ?_⟩
    · exact fun h3 => (hquad h3).1
    · intro hps hns
      have hnp : needsJoinPos j2.toJoin = false := by
        show (j2.pos.single.isNone && !j2.foldNeg) = false
        rw [q9]
        cases h : G1.pos.single with
        | none => rw [h] at hps; cases hps
        | some v => rfl
      have hnn : needsJoinNeg j2.toJoin = true := by
        show (j2.neg.single.isNone && !j2.foldPos) = true
        rw [q12, hns, hfp2']; rfl
      have hmem : (j2.ids.negPrev, j2.ids.posPrev, j2.ids.negNext) ∈ o'.tris := by
        rw [t1, hnp, hnn]
        have : j2.ids.foldPos = false := hfp2'
        have : j2.ids.foldNeg = false := hfn2'
        simp [joinInterior, *]
      refine ⟨_, hmem, ?_, q5.ext hext1, ?_⟩
      · have : PosAt o' j2.neg.prevVertex G1.neg.prev := by simpa [sPrev, hns] using q3.ext hext1
        exact this
      · have : PosAt o' j2.neg.nextVertex G1.neg.next := by simpa [sNext, hns] using q4.ext hext1
        exact this
    · intro hns hps
      have hnn : needsJoinNeg j2.toJoin = false := by
        show (j2.neg.single.isNone && !j2.foldPos) = false
        rw [q12]
        cases h : G1.neg.single with
        | none => rw [h] at hns; cases hns
        | some v => rfl
      have hnp : needsJoinPos j2.toJoin = true := by
        show (j2.pos.single.isNone && !j2.foldNeg) = true
        rw [q9, hps, hfn2']; rfl
      have hmem : (j2.ids.negPrev, j2.ids.posPrev, j2.ids.posNext) ∈ o'.tris := by
        rw [t1, hnp, hnn]
        have : j2.ids.foldPos = false := hfp2'
        have : j2.ids.foldNeg = false := hfn2'
        simp [joinInterior, *]
      refine ⟨_, hmem, q3.ext hext1, ?_, ?_⟩
      · have : PosAt o' j2.pos.prevVertex G1.pos.prev := by simpa [sPrev, hps] using q5.ext hext1
        exact this
      · have : PosAt o' j2.pos.nextVertex G1.pos.next := by simpa [sNext, hps] using q6.ext hext1
        exact this
    · refine ⟨(if st.buf.count > 2 then addEdgeTriangles prev.ids j2.ids else [])
          ++ joinInterior j2.ids (needsJoinPos j2.toJoin) (needsJoinNeg j2.toJoin) ++ ts,
        by rw [t1, i4]; simp [List.append_assoc], ?_⟩
      intro t ht
      rcases List.mem_append.mp ht with ht | ht
      swap
      · right; right
        have := tfan t ht
        rw [show j2.toJoin.position = G1.position from b2.trans (s2.trans hGp.symm),
          show j2.toJoin.halfWidth = G1.halfWidth from hhw2.trans (hhw1.trans (hf.hw.trans hGw.symm))] at this
        exact this
      rcases List.mem_append.mp ht with ht | ht
      · left
        by_cases h3 : st.buf.count > 2
        · rw [if_pos h3] at ht; exact ⟨h3, (hquad h3).2 t ht⟩
        · rw [if_neg h3] at ht; simp at ht
      · right; left
        obtain ⟨c1, c2, c3⟩ := joinInterior_ids _ _ _ t ht
        have hP : ∀ id, (id = j2.ids.posPrev ∨ id = j2.ids.posNext ∨ id = j2.ids.negPrev ∨ id = j2.ids.negNext) →
            ∃ p, PosAt o' id p ∧ p ∈ [sPrev G1.neg, sNext G1.neg, sPrev G1.pos, sNext G1.pos] := by
          intro id hid
          rcases hid with rfl | rfl | rfl | rfl
          · exact ⟨_, q5.ext hext1, by simp⟩
          · exact ⟨_, q6.ext hext1, by simp⟩
          · exact ⟨_, q3.ext hext1, by simp⟩
          · exact ⟨_, q4.ext hext1, by simp⟩
        obtain ⟨p1, a1, m1⟩ := hP _ c1
        obtain ⟨p2, a2, m2⟩ := hP _ c2
        obtain ⟨p3, a3, m3⟩ := hP _ c3
        exact ⟨p1, p2, p3, a1, a2, a3, m1, m2, m3⟩

end

end Lyon.C06b
