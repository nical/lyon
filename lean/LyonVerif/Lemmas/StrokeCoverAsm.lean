/-
  C06b: assembly.  `CoverHyp`: the standing hypotheses on the environment.  The regime predicate `Regime` (the `+ 1` of
  its length clause: a point that an edge hands over to its neighbour lies up to `1 + |tan(θ/2)|` half widths inside the
  neighbour's band, and the neighbour's own far corner needs its `|tan|`), the corner shifts of every edge quad as
  functions of the edge index, and `edge_quads`: in the regime the run emits, for every edge `k`, the two triangles
  over `pt k ∓ n + t·hw·a`, `pt (k+1) ± n + t·hw·b` with the shifts `sA0 sA1 sB0 sB1` (`cornerList`, `quadSet_*`).
  `edge_cover_of`: a point of an edge's rectangle lies in the edge's trapezoid (`Trap`) or, beyond its end / start
  line, in the join triangle or the neighbouring trapezoid (`end_corner_len`, `start_corner_len` on `JointData`); an end that
  is a cap has nothing beyond its line.  `edge_cover`: open polylines.  Last section: the event list of the public
  entry point (`polyPath`, `assignIds_polyPath`).
  Conventions.  `JClosed`, `JointData`, `jtau` name a join by its INCOMING edge `k` (the join sits at `pt (k+1)`); `jEP`,
  `lamAt`, `psAt`, `tauAbs` by its point.  The number of edges `n` enters `sB0`, `cornerList`, `Trap`, `outK` only to
  recognise the edge that ends in the cap; `n = 0` says "no edge ends in a cap" and is what closed polygons use (their
  edge indices start at 1, since `jEP e pt i` reads `pt (i - 1)`).
-/
import LyonVerif.Lemmas.StrokeCoverJoin
import LyonVerif.Lemmas.StrokeCoverCap
import LyonVerif.Lemmas.StrokeCoverEdge

set_option linter.unusedSectionVars false

namespace Lyon.C06b
open Lyon Scalar Lyon.Stroke Lyon.Stroke.Full Lyon.C05 Lyon.C05b Lyon.C05c Lyon.C06
open Lyon.StrokeQuad (lineIntersection)

section
variable {K : Type} [Field K] [LinearOrder K] [IsStrictOrderedRing K] [Transc K]

/-- how far a cap moves the side points along the edge, in half widths: 1 (square), 0 (butt) -/
def capU (cap : LineCap) : K :=
  match cap with
  | .square => 1
  | _ => 0

theorem capShift_eq (cap : LineCap) (hw : K) : capShift cap hw = hw * capU cap := by
  cases cap <;> simp [capShift, capU]

theorem capU_nonneg (cap : LineCap) : (0 : K) ≤ capU cap := by
  cases cap <;> simp [capU]

theorem capU_eq_zero {cap : LineCap} (h : cap ≠ .square) : (capU cap : K) = 0 := by
  cases cap
  · rfl
  · exact absurd rfl h
  · rfl

/-- the positive / negative side of the join at `pt i` has a single vertex -/
noncomputable def psAt (e : Env K) (pt : Nat → P K) (i : Nat) : Bool := (jEP e pt i).pos.single.isSome
noncomputable def nsAt (e : Env K) (pt : Nat → P K) (i : Nat) : Bool := (jEP e pt i).neg.single.isSome

/-- shift (in half widths, along the edge) of the start corners of edge `k`: negative / positive side -/
noncomputable def sA0 (e : Env K) (pt : Nat → P K) (k : Nat) : K :=
  if k = 0 then -capU e.o.startCap else (if nsAt e pt k then -jtau pt (k - 1) else -lamAt e pt k)
noncomputable def sA1 (e : Env K) (pt : Nat → P K) (k : Nat) : K :=
  if k = 0 then -capU e.o.startCap else (if psAt e pt k then jtau pt (k - 1) else -lamAt e pt k)
/-- shift of the end corners of edge `k` of a polyline with `n` edges -/
noncomputable def sB0 (e : Env K) (pt : Nat → P K) (n k : Nat) : K :=
  if k + 1 = n then capU e.o.endCap else (if nsAt e pt (k + 1) then jtau pt k else lamAt e pt (k + 1))
noncomputable def sB1 (e : Env K) (pt : Nat → P K) (n k : Nat) : K :=
  if k + 1 = n then capU e.o.endCap else (if psAt e pt (k + 1) then -jtau pt k else lamAt e pt (k + 1))

/-- `|tan(turn/2)|` at the point `i` of a polyline with `n` edges; `0` at the two ends -/
noncomputable def tauAbs (pt : Nat → P K) (n i : Nat) : K := if i = 0 ∨ n ≤ i then 0 else |jtau pt (i - 1)|

/-- **the no-fold regime** of the open polyline `pt 0 … pt n` (`n` edges) for the stroke environment `e`
(line width `2·e.hwFw`, `Line::intersection` guard `eps`): a conjunction of finitely many comparisons
of numbers the model computes from the input —
* no point is merged with its predecessor (`points_are_too_close`, the model's own test);
* every edge is longer than the determinant guard `eps` of `Line::intersection`;
* at every interior point the first guard of `compute_normal` is not taken (`|t0 + t1|² ≥ 1e-4`: no U-turn)
  and the fold test of `compute_join_side_positions_fixed_width` (the model's own) answers "no fold";
* every edge is at least `w/2 · (|tan(θ_a/2)| + |tan(θ_b/2)| + 1)` long, `θ_a`, `θ_b` the turn angles at
  its two ends (`0` at a cap): neighbouring joins do not interact. -/
def Regime (e : Env K) (eps : K) (pt : Nat → P K) (n : Nat) : Prop :=
  (∀ i, i < n → pointsAreTooClose e.thr (pt i) (pt (i + 1)) = false)
  ∧ (∀ i, i < n → eps < eL pt i)
  ∧ (∀ i, i < n - 1 → ¬ (eT pt i + eT pt (i + 1)).sqLen < normalEpsilon)
  ∧ (∀ i, i < n - 1 → noFoldAt e (pt i) (pt (i + 1)) (pt (i + 1 + 1)))
  ∧ (∀ i, i < n → e.hwFw * (tauAbs pt n i + tauAbs pt n (i + 1) + 1) ≤ eL pt i)

noncomputable instance (e : Env K) (eps : K) (pt : Nat → P K) (n : Nat) : Decidable (Regime e eps pt n) := by
  unfold Regime noFoldAt; infer_instance

section
variable {e : Env K} {eps : K} {pt : Nat → P K} {n : Nat} (hr : Regime e eps pt n)
include hr

theorem Regime.far : ∀ i, i < n → pointsAreTooClose e.thr (pt i) (pt (i + 1)) = false := hr.1
theorem Regime.long : ∀ i, i < n → eps < eL pt i := hr.2.1
theorem Regime.noUturn : ∀ i, i < n - 1 → ¬ (eT pt i + eT pt (i + 1)).sqLen < normalEpsilon := hr.2.2.1
theorem Regime.noFold : ∀ i, i < n - 1 → noFoldAt e (pt i) (pt (i + 1)) (pt (i + 1 + 1)) := hr.2.2.2.1
theorem Regime.room : ∀ i, i < n → e.hwFw * (tauAbs pt n i + tauAbs pt n (i + 1) + 1) ≤ eL pt i := hr.2.2.2.2
end

/-- the standing hypotheses on the environment: exact arithmetic with the `sqrt` laws, the exact
`Line::intersection` with guard `eps`, fixed positive width, Bevel, Miter or MiterClip join (any miter limit `≥ 1`)
or Round join, butt, square or round caps (Round join / cap: with the law `cos² + sin² = 1`) -/
structure CoverHyp (e : Env K) (eps : K) : Prop where
  sqrt_nonneg : ∀ x : K, 0 ≤ x → 0 ≤ Transc.sqrt x
  sqrt_sq : ∀ x : K, 0 ≤ x → Transc.sqrt x * Transc.sqrt x = x
  ix_eq : e.ix = lineIntersection eps
  eps_nonneg : 0 ≤ eps
  fw : e.o.varWidth = false
  join : e.o.join = .bevel ∨ e.o.join = .miter ∨ e.o.join = .miterClip
    ∨ (e.o.join = .round ∧ ∀ x : K, Transc.cos x * Transc.cos x + Transc.sin x * Transc.sin x = 1)
  /-- only for `MiterClip`: `miter_limit ≥ 1` (lyon's `with_miter_limit` asserts it) and the intersection guard below `w/2` -/
  clip : e.o.join = .miterClip → 1 ≤ e.o.miterLimit ∧ eps < e.hwFw
  /-- a round cap needs the law `cos² + sin² = 1` (it places the arc vertices on the circle) -/
  scap : e.o.startCap ≠ .round ∨ ∀ x : K, Transc.cos x * Transc.cos x + Transc.sin x * Transc.sin x = 1
  ecap : e.o.endCap ≠ .round ∨ ∀ x : K, Transc.cos x * Transc.cos x + Transc.sin x * Transc.sin x = 1
  hw : 0 < e.hwFw

theorem CoverHyp.join4 {e : Env K} {eps : K} (h : CoverHyp e eps) :
    e.o.join = .bevel ∨ e.o.join = .miter ∨ e.o.join = .miterClip ∨ e.o.join = .round := by
  rcases h.join with a | a | a | ⟨a, _⟩
  · exact Or.inl a
  · exact Or.inr (Or.inl a)
  · exact Or.inr (Or.inr (Or.inl a))
  · exact Or.inr (Or.inr (Or.inr a))

theorem CoverHyp.roundOK {e : Env K} {eps : K} (h : CoverHyp e eps) : RoundOK e := by
  rcases h.join with a | a | a | ⟨_, a⟩
  · exact Or.inl (by rw [a]; decide)
  · exact Or.inl (by rw [a]; decide)
  · exact Or.inl (by rw [a]; decide)
  · exact Or.inr a

theorem regime_sq {e : Env K} {eps : K} (h : CoverHyp e eps) {pt : Nat → P K} {n : Nat} (hr : Regime e eps pt n)
    (i : Nat) (hi : i < n) : 0 < (pt (i + 1) - pt i).sqLen :=
  sqLen_pos_of_len h.sqrt_sq h.eps_nonneg pt i (hr.long i hi)

theorem regime_jclosed {e : Env K} {eps : K} (h : CoverHyp e eps) {pt : Nat → P K} {n : Nat} (hr : Regime e eps pt n)
    (k : Nat) (hk : k + 1 < n) : JClosed e pt k (psAt e pt (k + 1)) (nsAt e pt (k + 1)) (lamAt e pt (k + 1)) :=
  jEP_closed e eps h.ix_eq h.eps_nonneg h.sqrt_nonneg h.sqrt_sq pt k h.join4 h.clip h.hw
    (regime_sq h hr k (by omega)) (regime_sq h hr (k + 1) hk)
    (hr.noUturn k (by omega)) (hr.noFold k (by omega))

/-- the four corners of the quad of edge `k` in the order of `quadSet` (start −, start +, end +, end −), by the shifts -/
noncomputable def cornerList (e : Env K) (pt : Nat → P K) (n k : Nat) : List (P K) :=
  [pt k - (perp (eT pt k)).smul e.hwFw + (eT pt k).smul (e.hwFw * sA0 e pt k),
   pt k + (perp (eT pt k)).smul e.hwFw + (eT pt k).smul (e.hwFw * sA1 e pt k),
   pt (k + 1) + (perp (eT pt k)).smul e.hwFw + (eT pt k).smul (e.hwFw * sB1 e pt n k),
   pt (k + 1) - (perp (eT pt k)).smul e.hwFw + (eT pt k).smul (e.hwFw * sB0 e pt n k)]

/-- the two triangles of edge `k`'s quad are emitted.  Stated over ANY four points that make up `cornerList`, not over
named corners, so that the equations `quadSet_* : … = cornerList …` rewrite straight into it (`edgeQuad_of_corners`) -/
def EdgeQuad (E : P K × P K × P K → Prop) (e : Env K) (pt : Nat → P K) (n k : Nat) : Prop :=
  ∀ a b c d, [a, b, c, d] = cornerList e pt n k → E (a, b, c) ∧ E (a, c, d)

/-- `hn`: the edge is not the last of `n`, so `sB0`, `sB1` take no cap branch (`n = 0`: closed polygons) -/
theorem quadSet_in {e : Env K} {pt : Nat → P K} {n : Nat} (i : Nat) (hn : ¬ i + 1 + 1 = n)
    (Ja : JClosed e pt i (psAt e pt (i + 1)) (nsAt e pt (i + 1)) (lamAt e pt (i + 1)))
    (Jb : JClosed e pt (i + 1) (psAt e pt (i + 1 + 1)) (nsAt e pt (i + 1 + 1)) (lamAt e pt (i + 1 + 1))) :
    quadSet (jEP e pt (i + 1)) (jEP e pt (i + 1 + 1)) = cornerList e pt n (i + 1) := by
  unfold quadSet cornerList
  rw [Ja.sNegNext, Ja.sPosNext, Jb.sPosPrev, Jb.sNegPrev]
  simp only [sA0, sA1, sB0, sB1, if_neg (Nat.succ_ne_zero i), if_neg hn, Nat.add_sub_cancel]

theorem quadSet_inner {e : Env K} {eps : K} (h : CoverHyp e eps) {pt : Nat → P K} {n : Nat} (hr : Regime e eps pt n)
    (i : Nat) (hi : i + 1 + 1 < n) : quadSet (jEP e pt (i + 1)) (jEP e pt (i + 1 + 1)) = cornerList e pt n (i + 1) :=
  quadSet_in i (by omega) (regime_jclosed h hr i (by omega)) (regime_jclosed h hr (i + 1) hi)

theorem quadSet_last {e : Env K} {eps : K} (h : CoverHyp e eps) {pt : Nat → P K} (k : Nat)
    (hr : Regime e eps pt (k + 1 + 1)) :
    [sNext (jEP e pt (k + 1 + 1 - 1)).neg, sNext (jEP e pt (k + 1 + 1 - 1)).pos, endPos e pt (k + 1 + 1), endNeg e pt (k + 1 + 1)]
      = cornerList e pt (k + 1 + 1) (k + 1) := by
  have Ja := regime_jclosed h hr k (by omega)
  have hidx : k + 1 + 1 - 1 = k + 1 := rfl
  rw [hidx]
  have hnp : ∀ b : Bool, e.hwFw * (if b then 0 else -lamAt e pt (k + 1)) ≤ 0 := by
    intro b
    have : (if b then (0 : K) else -lamAt e pt (k + 1)) ≤ 0 := by
      split_ifs
      · exact le_refl _
      · have := lamAt_nonneg e pt (k + 1); linarith
    exact mul_nonpos_of_nonneg_of_nonpos (le_of_lt h.hw) this
  have hprev : prevNext e pt (k + 1 + 1)
      = (pt (k + 1) + (perp (eT pt (k + 1))).smul e.hwFw
          + (eT pt (k + 1)).smul (e.hwFw * (if psAt e pt (k + 1) then 0 else -lamAt e pt (k + 1))),
         pt (k + 1) - (perp (eT pt (k + 1))).smul e.hwFw
          + (eT pt (k + 1)).smul (e.hwFw * (if nsAt e pt (k + 1) then 0 else -lamAt e pt (k + 1)))) := by
    unfold prevNext; rw [if_neg (by omega)]
    show ((jEP e pt (k + 1)).pos.next, (jEP e pt (k + 1)).neg.next) = _
    rw [Ja.posNext, Ja.negNext]
  obtain ⟨c1, c2⟩ := endCap_closedG e eps h.ix_eq h.eps_nonneg h.sqrt_nonneg h.sqrt_sq pt (k + 1)
    (regime_sq h hr _ (by omega)) (hr.long _ (by omega)) _ _ (hnp _) (hnp _) hprev
  unfold cornerList
  rw [Ja.sNegNext, Ja.sPosNext, c1, c2, capShift_eq]
  simp only [sA0, sA1, sB0, sB1, if_true, if_neg (Nat.succ_ne_zero k), Nat.add_sub_cancel]

theorem quadSet_first {e : Env K} {eps : K} (h : CoverHyp e eps) {pt : Nat → P K} {n : Nat} (hr : Regime e eps pt n)
    (hn : 2 ≤ n) :
    [startNeg e pt n, startPos e pt n, sPrev (jEP e pt 1).pos, sPrev (jEP e pt 1).neg] = cornerList e pt n 0 := by
  have J := regime_jclosed h hr 0 (by omega)
  have hnn : ∀ b : Bool, (0 : K) ≤ e.hwFw * (if b then 0 else lamAt e pt (0 + 1)) := by
    intro b; apply mul_nonneg (le_of_lt h.hw); split_ifs
    · exact le_refl _
    · exact lamAt_nonneg _ _ _
  have hsec : secondPrev e pt n = (pt 1 + (perp (eT pt 0)).smul e.hwFw
        + (eT pt 0).smul (e.hwFw * (if psAt e pt (0 + 1) then 0 else lamAt e pt (0 + 1))),
      pt 1 - (perp (eT pt 0)).smul e.hwFw
        + (eT pt 0).smul (e.hwFw * (if nsAt e pt (0 + 1) then 0 else lamAt e pt (0 + 1)))) := by
    unfold secondPrev; rw [if_neg (by omega), J.posPrev, J.negPrev]
  obtain ⟨d1, d2⟩ := startCap_closedG e eps h.ix_eq h.eps_nonneg h.sqrt_nonneg h.sqrt_sq pt n
    (regime_sq h hr 0 (by omega)) (hr.long 0 (by omega)) _ _ (hnn _) (hnn _) hsec
  unfold cornerList
  rw [d1, d2, J.sPosPrev, J.sNegPrev, capShift_eq]
  have hb : ¬ (0 + 1 = n) := by omega
  have e1 : e.hwFw * -capU e.o.startCap = -(e.hwFw * capU e.o.startCap) := by ring
  simp only [sA0, sA1, sB0, sB1, if_true, if_neg hb, e1]

theorem quadSet_single {e : Env K} {eps : K} (h : CoverHyp e eps) {pt : Nat → P K} (hr : Regime e eps pt 1) :
    [startNeg e pt 1, startPos e pt 1, endPos e pt 1, endNeg e pt 1] = cornerList e pt 1 0 := by
  have hz : ∀ a v : P K, a + v.smul 0 = a := by
    intro a v; geom_ring
  have hprev : prevNext e pt (0 + 1) = (pt 0 + (perp (eT pt 0)).smul e.hwFw + (eT pt 0).smul 0,
      pt 0 - (perp (eT pt 0)).smul e.hwFw + (eT pt 0).smul 0) := by
    rw [hz, hz]; rfl
  obtain ⟨c1, c2⟩ := endCap_closedG e eps h.ix_eq h.eps_nonneg h.sqrt_nonneg h.sqrt_sq pt 0
    (regime_sq h hr 0 (by omega)) (hr.long 0 (by omega)) 0 0 (le_refl 0) (le_refl 0) hprev
  have hμ : (0 : K) ≤ capShift e.o.endCap e.hwFw := by
    rw [capShift_eq]; exact mul_nonneg (le_of_lt h.hw) (capU_nonneg _)
  have hsec : secondPrev e pt 1 = (pt 1 + (perp (eT pt 0)).smul e.hwFw + (eT pt 0).smul (capShift e.o.endCap e.hwFw),
      pt 1 - (perp (eT pt 0)).smul e.hwFw + (eT pt 0).smul (capShift e.o.endCap e.hwFw)) := by
    unfold secondPrev; rw [if_pos rfl, c1, c2]
  obtain ⟨d1, d2⟩ := startCap_closedG e eps h.ix_eq h.eps_nonneg h.sqrt_nonneg h.sqrt_sq pt 1
    (regime_sq h hr 0 (by omega)) (hr.long 0 (by omega)) _ _ hμ hμ hsec
  unfold cornerList
  rw [d1, d2, c1, c2, capShift_eq, capShift_eq]
  have e1 : e.hwFw * -capU e.o.startCap = -(e.hwFw * capU e.o.startCap) := by ring
  simp only [sA0, sA1, sB0, sB1, if_true, e1]

theorem edgeQuad_of_corners {E : P K × P K × P K → Prop} {e : Env K} {pt : Nat → P K} {n k : Nat} {a b c d : P K}
    (hl : [a, b, c, d] = cornerList e pt n k) (h : E (a, b, c) ∧ E (a, c, d)) : EdgeQuad E e pt n k := by
  intro a' b' c' d' hl'
  obtain ⟨rfl, rfl, rfl, rfl⟩ : a' = a ∧ b' = b ∧ c' = c ∧ d' = d := by simpa using hl'.trans hl.symm
  exact h

theorem edge_quads {e : Env K} {eps : K} (h : CoverHyp e eps) {pt : Nat → P K} {n : Nat} (hr : Regime e eps pt n)
    {o : Out K} (hE : Emitted e pt n o) (k : Nat) (hk : k < n) : EdgeQuad (EmTri o) e pt n k := by
  by_cases hn1 : n = 1
  · subst hn1
    obtain rfl : k = 0 := by omega
    exact edgeQuad_of_corners (quadSet_single h hr) (hE.single rfl)
  · have hn2 : 2 ≤ n := by omega
    rcases Nat.eq_zero_or_pos k with rfl | hkpos
    · exact edgeQuad_of_corners (quadSet_first h hr hn2) (hE.first hn2)
    · obtain ⟨k', rfl⟩ : ∃ k', k = k' + 1 := ⟨k - 1, by omega⟩
      by_cases hlast : k' + 1 + 1 = n
      · subst hlast
        exact edgeQuad_of_corners (quadSet_last h k' hr) (hE.last hn2)
      · exact edgeQuad_of_corners (quadSet_inner h hr k' (by omega)) (hE.quads (k' + 1) (by omega) (by omega))

/-- what the cover argument needs to know about the join at `pt (k+1)`: the side `ε` of the inside of the turn,
`c = cos`, `σ = |sin|`, `τ = |tan(θ/2)|`, `lam ∈ [0, τ]` the outer shift in half widths (`τ` iff the miter is kept);
the start line of the next trapezoid in these terms (`loNext`; the end line of the previous one mirrors it:
`sB_eq_neg_sA`); the join triangle is covered -/
structure JointData (E : P K × P K × P K → Prop) (e : Env K) (pt : Nat → P K) (k : Nat) (ε c σ τ lam : K) : Prop where
  hε : ε * ε = 1
  hτ : σ = τ * (1 + c)
  hcs : c * c + σ * σ = 1
  hc : 0 < 1 + c
  hσ : 0 ≤ σ
  hl : 0 ≤ lam ∧ lam ≤ τ
  hrot : eT pt (k + 1) = (eT pt k).smul c + (perp (eT pt k)).smul (ε * σ)
  tabs : τ = |jtau pt k|
  loNext : ∀ y, ((1 - ε * y) * sA0 e pt (k + 1) + (1 + ε * y) * sA1 e pt (k + 1)) / 2 = (τ * (1 + y) - lam * (1 - y)) / 2
  tri : lam < τ → ∀ q, InTri q (bp (pt (k + 1)) (eT pt k) (e.hwFw * lam) (ε * e.hwFw * -1),
      bp (pt (k + 1)) (eT pt k) (e.hwFw * -τ) (ε * e.hwFw * 1),
      bp (pt (k + 1)) (eT pt (k + 1)) (e.hwFw * -lam) (ε * e.hwFw * -1)) → Cov E q

theorem joint_data_of {e : Env K} {pt : Nat → P K} {o : Out K} (k : Nat)
    (J : JClosed e pt k (psAt e pt (k + 1)) (nsAt e pt (k + 1)) (lamAt e pt (k + 1)))
    (hu0 : (eT pt k).sqLen = 1) (hu1 : (eT pt (k + 1)).sqLen = 1) (hjoin : EmJoin o (jEP e pt (k + 1))) :
    ∃ ε c σ τ lam : K, JointData (EmTri o) e pt k ε c σ τ lam := by
  have hrot := rot_of_unit (eT pt k) (eT pt (k + 1)) hu0
  have hcs := cs_unit (eT pt k) (eT pt (k + 1)) hu0 hu1
  have hc := J.cpos
  have htau : jtau pt k * (1 + (eT pt k).dot (eT pt (k + 1))) = (eT pt k).cross (eT pt (k + 1)) := by
    unfold jtau; exact div_mul_cancel₀ _ (ne_of_gt hc)
  obtain ⟨j1, j2⟩ := hjoin
  have hL0 := lamAt_nonneg e pt (k + 1)
  have hL1 := lamAt_le e pt k
  generalize hLdef : lamAt e pt (k + 1) = L at J hL0 hL1
  generalize hps : psAt e pt (k + 1) = ps at J
  generalize hns : nsAt e pt (k + 1) = ns at J
  have hps' : (jEP e pt (k + 1)).pos.single.isSome = ps := hps
  have hns' : (jEP e pt (k + 1)).neg.single.isSome = ns := hns
  -- the witnesses: `ε = 1` at a left turn, `−1` at a right turn (the two halves below mirror each other); `c = t0·t1`,
  -- `σ = ε·(t0 × t1)`, `τ = ε·jtau`; the outer shift is `τ` if the outer side has its single vertex (kept miter), else `lamAt`
  by_cases hx : 0 ≤ (eT pt k).cross (eT pt (k + 1))
  · -- a left turn: the inside is the positive side
    have hpt : ps = true := J.inner_pos hx
    subst hpt
    have htau0 : 0 ≤ jtau pt k := by unfold jtau; exact div_nonneg hx (le_of_lt hc)
    rw [abs_of_nonneg htau0] at hL1
    refine ⟨1, (eT pt k).dot (eT pt (k + 1)), (eT pt k).cross (eT pt (k + 1)), jtau pt k, if ns then jtau pt k else L,
      by ring, htau.symm, hcs, hc, hx, by cases ns <;> simp [htau0, hL0, hL1], by rw [one_mul]; exact hrot,
      (abs_of_nonneg htau0).symm, ?_, ?_⟩
    · intro y; simp only [sA0, sA1, if_neg (Nat.succ_ne_zero k), Nat.add_sub_cancel]; rw [hps, hns, hLdef]
      cases ns <;> simp only [Bool.false_eq_true, if_false, if_true] <;> ring
    · intro hk0 q hq
      have hnf : ns = false := by
        cases ns
        · rfl
        · simp at hk0
      subst hnf
      simp only [Bool.false_eq_true, if_false, one_mul, mul_neg_one, mul_one] at hq
      have hnone : (jEP e pt (k + 1)).neg.single = none := Option.not_isSome_iff_eq_none.mp (by rw [hns']; exact Bool.false_ne_true)
      have ht := j1 hps' hnone
      rw [J.negPrev, J.sPosPrev, J.negNext] at ht
      simp only [Bool.false_eq_true, if_false, if_true] at ht
      rw [bp_mp, bp_pp, bp_mp] at ht
      exact ⟨_, ht, hq⟩
  · -- a right turn: the inside is the negative side
    have hx' : (eT pt k).cross (eT pt (k + 1)) < 0 := lt_of_not_ge hx
    have hnt : ns = true := J.inner_neg hx'
    subst hnt
    have htau0 : jtau pt k < 0 := by unfold jtau; exact div_neg_of_neg_of_pos hx' hc
    rw [abs_of_neg htau0] at hL1
    refine ⟨-1, (eT pt k).dot (eT pt (k + 1)), -(eT pt k).cross (eT pt (k + 1)), -jtau pt k, if ps then -jtau pt k else L,
      by ring, by linear_combination htau, by linear_combination hcs, hc, by linarith,
      by cases ps <;> simp [le_of_lt htau0, hL0, hL1],
      by rw [show (-1 : K) * -(eT pt k).cross (eT pt (k + 1)) = (eT pt k).cross (eT pt (k + 1)) by ring]; exact hrot,
      (abs_of_neg htau0).symm, ?_, ?_⟩
    · intro y; simp only [sA0, sA1, if_neg (Nat.succ_ne_zero k), Nat.add_sub_cancel]; rw [hps, hns, hLdef]
      cases ps <;> simp only [Bool.false_eq_true, if_false, if_true] <;> ring
    · intro hk0 q hq
      have hpf : ps = false := by
        cases ps
        · rfl
        · simp at hk0
      subst hpf
      simp only [Bool.false_eq_true, if_false, neg_mul, one_mul, mul_neg_one, mul_one, neg_neg] at hq
      have hnone : (jEP e pt (k + 1)).pos.single = none := Option.not_isSome_iff_eq_none.mp (by rw [hps']; exact Bool.false_ne_true)
      have ht := j2 hns' hnone
      rw [J.sNegPrev, J.posPrev, J.posNext] at ht
      simp only [Bool.false_eq_true, if_false, if_true] at ht
      rw [bp_mp, bp_pp, bp_pp] at ht
      exact ⟨_, ht, inTri_swap12 hq⟩

theorem joint_data {e : Env K} {eps : K} (h : CoverHyp e eps) {pt : Nat → P K} {n : Nat} (hr : Regime e eps pt n)
    {o : Out K} (hE : Emitted e pt n o) (k : Nat) (hk : k + 1 < n) :
    ∃ ε c σ τ lam : K, JointData (EmTri o) e pt k ε c σ τ lam :=
  joint_data_of k (regime_jclosed h hr k hk)
    (edge_eq h.sqrt_nonneg h.sqrt_sq pt k (regime_sq h hr k (by omega))).2.1
    (edge_eq h.sqrt_nonneg h.sqrt_sq pt (k + 1) (regime_sq h hr (k + 1) hk)).2.1
    (hE.joins (k + 1) (by omega) hk)

theorem tauAbs_nonneg (pt : Nat → P K) (n i : Nat) : 0 ≤ tauAbs pt n i := by
  unfold tauAbs; split_ifs
  · exact le_refl _
  · exact abs_nonneg _

theorem tauAbs_mid (pt : Nat → P K) (n k : Nat) (hk : k + 1 < n) : tauAbs pt n (k + 1) = |jtau pt k| := by
  unfold tauAbs; rw [if_neg (by omega)]; rfl

theorem sA_abs_le (e : Env K) (pt : Nat → P K) (k : Nat) :
    |sA0 e pt (k + 1)| ≤ |jtau pt k| ∧ |sA1 e pt (k + 1)| ≤ |jtau pt k| := by
  have hl : |-lamAt e pt (k + 1)| ≤ |jtau pt k| := by
    rw [abs_neg, abs_of_nonneg (lamAt_nonneg e pt (k + 1))]; exact lamAt_le e pt k
  simp only [sA0, sA1, if_neg (Nat.succ_ne_zero k), Nat.add_sub_cancel]
  constructor <;> split_ifs
  · exact le_of_eq (abs_neg _)
  · exact hl
  · exact le_refl _
  · exact hl

theorem sB0_inner {e : Env K} {pt : Nat → P K} {n k : Nat} (h : k + 1 ≠ n) : sB0 e pt n k = sB0 e pt 0 k := by
  simp only [sB0, if_neg h, if_neg (Nat.succ_ne_zero k)]

theorem sB1_inner {e : Env K} {pt : Nat → P K} {n k : Nat} (h : k + 1 ≠ n) : sB1 e pt n k = sB1 e pt 0 k := by
  simp only [sB1, if_neg h, if_neg (Nat.succ_ne_zero k)]

theorem sB_eq_neg_sA (e : Env K) (pt : Nat → P K) (k : Nat) :
    sB0 e pt 0 k = -sA0 e pt (k + 1) ∧ sB1 e pt 0 k = -sA1 e pt (k + 1) := by
  simp only [sA0, sA1, sB0, sB1, if_neg (Nat.succ_ne_zero k), Nat.add_sub_cancel]
  constructor <;> split_ifs <;> simp only [neg_neg]

theorem sB_abs_le (e : Env K) (pt : Nat → P K) {n k : Nat} (hnl : k + 1 ≠ n) :
    |sB0 e pt n k| ≤ |jtau pt k| ∧ |sB1 e pt n k| ≤ |jtau pt k| := by
  rw [sB0_inner hnl, sB1_inner hnl, (sB_eq_neg_sA e pt k).1, (sB_eq_neg_sA e pt k).2, abs_neg, abs_neg]
  exact sA_abs_le e pt k

theorem shift_bounds (e : Env K) (pt : Nat → P K) (n k : Nat) (hk : k < n) :
    sA0 e pt k ≤ tauAbs pt n k ∧ sA1 e pt k ≤ tauAbs pt n k
    ∧ -tauAbs pt n (k + 1) ≤ sB0 e pt n k ∧ -tauAbs pt n (k + 1) ≤ sB1 e pt n k := by
  have hA : sA0 e pt k ≤ tauAbs pt n k ∧ sA1 e pt k ≤ tauAbs pt n k := by
    rcases Nat.eq_zero_or_pos k with h0 | hpos
    · subst h0
      have : (0 : K) ≤ capU e.o.startCap := capU_nonneg _
      simp only [sA0, sA1, tauAbs, if_true, true_or]
      constructor <;> linarith
    · obtain ⟨k', rfl⟩ : ∃ k', k = k' + 1 := ⟨k - 1, by omega⟩
      rw [tauAbs_mid pt n k' hk]
      exact ⟨(abs_le.mp (sA_abs_le e pt k').1).2, (abs_le.mp (sA_abs_le e pt k').2).2⟩
  have hB : -tauAbs pt n (k + 1) ≤ sB0 e pt n k ∧ -tauAbs pt n (k + 1) ≤ sB1 e pt n k := by
    by_cases hl : k + 1 = n
    · have : (0 : K) ≤ capU e.o.endCap := capU_nonneg _
      have ht : tauAbs pt n (k + 1) = 0 := by unfold tauAbs; rw [if_pos (Or.inr (by omega))]
      simp only [sB0, sB1, if_pos hl, ht]
      constructor <;> linarith
    · rw [tauAbs_mid pt n k (by omega)]
      exact ⟨(abs_le.mp (sB_abs_le e pt hl).1).1, (abs_le.mp (sB_abs_le e pt hl).2).1⟩
  exact ⟨hA.1, hA.2, hB.1, hB.2⟩

theorem bandPoint_edge {pt : Nat → P K} {k : Nat} (hd : pt (k + 1) - pt k = (eT pt k).smul (eL pt k)) (hw s u : K) :
    bandPoint (pt k) (pt (k + 1)) ((perp (eT pt k)).smul hw) s u
      = pt k + (eT pt k).smul (eL pt k * s) + (perp (eT pt k)).smul (hw * u) := by
  unfold bandPoint; rw [hd]; geom_ring

/-- the quad of edge `k` covers its trapezoid and the parts of the band within `hw·(1 + T0)` after its start and
`hw·(1 + T1)` before its end (what `trap_cov` concludes, in the coordinates of the polyline; `n`: see `sB0`) -/
def Trap (E : P K × P K × P K → Prop) (e : Env K) (pt : Nat → P K) (n k : Nat) (T0 T1 : K) : Prop :=
  ∀ x y : K, -1 ≤ y → y ≤ 1 →
    (e.hwFw * ((1 - y) * sA0 e pt k + (1 + y) * sA1 e pt k) / 2 ≤ x ∨ eL pt k - e.hwFw * (1 + T1) ≤ x) →
    (x ≤ eL pt k + e.hwFw * ((1 - y) * sB0 e pt n k + (1 + y) * sB1 e pt n k) / 2 ∨ x ≤ e.hwFw * (1 + T0)) →
    Cov E (pt k + (eT pt k).smul x + (perp (eT pt k)).smul (e.hwFw * y))

theorem trap_of_quad {E : P K × P K × P K → Prop} {e : Env K} {pt : Nat → P K} {n k : Nat} {T0 T1 : K}
    (hw : 0 < e.hwFw) (hedge : 0 < eL pt k ∧ (eT pt k).sqLen = 1 ∧ pt (k + 1) - pt k = (eT pt k).smul (eL pt k))
    (hQ : EdgeQuad E e pt n k)
    (hb : sA0 e pt k ≤ T0 ∧ sA1 e pt k ≤ T0 ∧ -T1 ≤ sB0 e pt n k ∧ -T1 ≤ sB1 e pt n k)
    (hlen : e.hwFw * (T0 + T1 + 1) ≤ eL pt k) : Trap E e pt n k T0 T1 :=
  fun x y hy hy1 hlo hhi =>
    trap_cov E (pt k) (pt (k + 1)) (eT pt k) (eL pt k) e.hwFw _ _ _ _ _ _ x y hw hedge.2.2 (hQ _ _ _ _ rfl).1 (hQ _ _ _ _ rfl).2
      hb.1 hb.2.1 hb.2.2.1 hb.2.2.2 hlen hy hy1 hlo hhi

/-- the end of edge `k` is a cap (the end line is not before `pt (k+1)`) or a join whose data is known and whose
outgoing trapezoid is covered -/
def EndOK (E : P K × P K × P K → Prop) (e : Env K) (pt : Nat → P K) (n k : Nat) : Prop :=
  (0 ≤ sB0 e pt n k ∧ 0 ≤ sB1 e pt n k)
  ∨ (k + 1 ≠ n ∧ ∃ ε c σ τ lam T1 : K, JointData E e pt k ε c σ τ lam ∧ Trap E e pt n (k + 1) τ T1)

/-- the mirror image at the start of edge `k`: a cap, or the join at `pt k` with the incoming trapezoid of edge `k - 1` -/
def StartOK (E : P K × P K × P K → Prop) (e : Env K) (pt : Nat → P K) (n k : Nat) : Prop :=
  (sA0 e pt k ≤ 0 ∧ sA1 e pt k ≤ 0)
  ∨ (∃ k', k = k' + 1 ∧ k' + 1 ≠ n ∧ pt (k' + 1) - pt k' = (eT pt k').smul (eL pt k')
      ∧ ∃ ε c σ τ lam T0 : K, JointData E e pt k' ε c σ τ lam ∧ Trap E e pt n k' T0 τ)

/-- **every point of the rectangle of an edge is covered**, whatever its two ends are (a cap, or a join with its data and
the neighbouring trapezoid): the local form of the cover theorem, with open polylines (`edge_cover`) and closed polygons
(`edge_cover_in`, `Lemmas/StrokeCoverClosedAsm.lean`) as instances -/
theorem edge_cover_of {E : P K × P K × P K → Prop} {e : Env K} {pt : Nat → P K} {n k : Nat} {T0 T1 : K}
    (hw : 0 < e.hwFw) (hedge : 0 < eL pt k ∧ (eT pt k).sqLen = 1 ∧ pt (k + 1) - pt k = (eT pt k).smul (eL pt k))
    (hT : Trap E e pt n k T0 T1) (hS : StartOK E e pt n k) (hE : EndOK E e pt n k)
    (s u : K) (hs : 0 ≤ s) (hs1 : s ≤ 1) (hu : -1 ≤ u) (hu1 : u ≤ 1) :
    Cov E (bandPoint (pt k) (pt (k + 1)) ((perp (eT pt k)).smul e.hwFw) s u) := by
  obtain ⟨hL, _, hd⟩ := hedge
  rw [bandPoint_edge hd]
  have hx0 : 0 ≤ eL pt k * s := mul_nonneg (le_of_lt hL) hs
  have hxL : eL pt k * s ≤ eL pt k := mul_le_of_le_one_right (le_of_lt hL) hs1
  generalize eL pt k * s = x at hx0 hxL
  have hw' := le_of_lt hw
  by_cases hlo : e.hwFw * ((1 - u) * sA0 e pt k + (1 + u) * sA1 e pt k) / 2 ≤ x
  · by_cases hhi : x ≤ eL pt k + e.hwFw * ((1 - u) * sB0 e pt n k + (1 + u) * sB1 e pt n k) / 2
    · exact hT x u hu hu1 (Or.inl hlo) (Or.inl hhi)
    · rcases hE with ⟨b0, b1⟩ | ⟨hnl, ε, c, σ, τ, lam, T1', D, hN⟩
      · -- a cap: the end line is not before the end of the rectangle
        exfalso; apply hhi
        have := mul_nonneg hw' (add_nonneg (mul_nonneg (by linarith : (0 : K) ≤ 1 - u) b0)
          (mul_nonneg (by linarith : (0 : K) ≤ 1 + u) b1))
        linarith
      · -- a join: the point seen from the join, `x − L ≤ 0` along the edge
        rw [sB0_inner hnl, sB1_inner hnl, (sB_eq_neg_sA e pt k).1, (sB_eq_neg_sA e pt k).2] at hhi
        show Cov E (bp (pt k) (eT pt k) x (e.hwFw * u))
        rw [bp_congr (pt k) (eT pt k) (by ring : x = eL pt k + (x - eL pt k)) rfl, ← bp_shift, ← next_pt hd]
        exact end_corner_len E _ _ _ _ ε c σ τ lam _ _ hw D.hε D.hτ D.hcs D.hc D.hσ D.hl D.hrot D.loNext D.tri
          (fun x' y' h1 h2 h3 h4 => hN x' y' h1 h2 (Or.inl h3) (Or.inr h4)) (x - eL pt k) u hu hu1 (by linarith)
          (by linarith [lt_of_not_ge hhi])
  · rcases hS with ⟨a0, a1⟩ | ⟨k', rfl, hnl, hd', ε, c, σ, τ, lam, T0', D, hP⟩
    · exfalso; apply hlo
      have := mul_nonneg hw' (add_nonneg (mul_nonneg (by linarith : (0 : K) ≤ 1 - u) (neg_nonneg.mpr a0))
        (mul_nonneg (by linarith : (0 : K) ≤ 1 + u) (neg_nonneg.mpr a1)))
      linarith
    · refine start_corner_len E _ (eT pt k') _ _ ε c σ τ lam _ _ hw D.hε D.hτ D.hcs D.hc D.hσ D.hl D.hrot D.loNext D.tri
        (fun x' y' h1 h2 h3 h4 => ?_) x u hu hu1 hx0 (lt_of_not_ge hlo)
      -- the far part of the previous trapezoid, seen from its own start
      rw [next_pt hd', bp_shift]
      refine hP _ y' h1 h2 (Or.inr (by linarith)) (Or.inl ?_)
      rw [sB0_inner hnl, sB1_inner hnl, (sB_eq_neg_sA e pt k').1, (sB_eq_neg_sA e pt k').2]; linarith

theorem trap_open {e : Env K} {eps : K} (h : CoverHyp e eps) {pt : Nat → P K} {n : Nat} (hr : Regime e eps pt n)
    {o : Out K} (hE : Emitted e pt n o) (k : Nat) (hk : k < n) :
    Trap (EmTri o) e pt n k (tauAbs pt n k) (tauAbs pt n (k + 1)) :=
  trap_of_quad h.hw (edge_eq h.sqrt_nonneg h.sqrt_sq pt k (regime_sq h hr k hk)) (edge_quads h hr hE k hk)
    (shift_bounds e pt n k hk) (hr.room k hk)

/-- a covered point in the terms of the end results: an index triple of the output, its three vertices, and the
positions read back from them -/
theorem Cov.read {o : Out K} {q : P K} (h : Cov (EmTri o) q) :
    ∃ t ∈ o.tris, ∃ v1 v2 v3 : VData K, o.verts[t.1]? = some v1 ∧ o.verts[t.2.1]? = some v2 ∧ o.verts[t.2.2]? = some v3
      ∧ InTri q (v1.read.position, v2.read.position, v3.read.position) := by
  obtain ⟨⟨_, _, _⟩, ⟨t, ht, ⟨v1, e1, rfl⟩, ⟨v2, e2, rfl⟩, ⟨v3, e3, rfl⟩⟩, hin⟩ := h
  exact ⟨t, ht, v1, v2, v3, e1, e2, e3, hin⟩

/-- **every point of every edge's rectangle lies in an emitted triangle** (`edge_cover_of`: the first and the last
edge have a cap at one end, every other end is a join) -/
theorem edge_cover {e : Env K} {eps : K} (h : CoverHyp e eps) {pt : Nat → P K} {n : Nat} (hr : Regime e eps pt n)
    {o : Out K} (hE : Emitted e pt n o) (k : Nat) (hk : k < n) (s u : K)
    (hs : 0 ≤ s) (hs1 : s ≤ 1) (hu : -1 ≤ u) (hu1 : u ≤ 1) :
    Cov (EmTri o) (bandPoint (pt k) (pt (k + 1)) ((perp (eT pt k)).smul e.hwFw) s u) := by
  refine edge_cover_of h.hw (edge_eq h.sqrt_nonneg h.sqrt_sq pt k (regime_sq h hr k hk)) (trap_open h hr hE k hk)
    ?_ ?_ s u hs hs1 hu hu1
  · rcases Nat.eq_zero_or_pos k with rfl | hpos
    · left; simp only [sA0, sA1, if_true]
      have := capU_nonneg (K := K) e.o.startCap
      constructor <;> linarith
    · obtain ⟨k', rfl⟩ : ∃ k', k = k' + 1 := ⟨k - 1, by omega⟩
      obtain ⟨ε, c, σ, τ, lam, D⟩ := joint_data h hr hE k' hk
      refine Or.inr ⟨k', rfl, by omega, (edge_eq h.sqrt_nonneg h.sqrt_sq pt k' (regime_sq h hr k' (by omega))).2.2,
        ε, c, σ, τ, lam, tauAbs pt n k', D, ?_⟩
      rw [D.tabs, ← tauAbs_mid pt n k' hk]
      exact trap_open h hr hE k' (by omega)
  · by_cases hl : k + 1 = n
    · left; simp only [sB0, sB1, if_pos hl]
      exact ⟨capU_nonneg _, capU_nonneg _⟩
    · have hk1 : k + 1 < n := by omega
      obtain ⟨ε, c, σ, τ, lam, D⟩ := joint_data h hr hE k hk1
      refine Or.inr ⟨hl, ε, c, σ, τ, lam, tauAbs pt n (k + 1 + 1), D, ?_⟩
      rw [D.tabs, ← tauAbs_mid pt n k hk1]
      exact trap_open h hr hE (k + 1) hk1

end

section Run
variable {K : Type} [Field K] [LinearOrder K] [IsStrictOrderedRing K] [Transc K] [Asin K] [FlatConst K]

/-- the path `begin (pt 0), line_to (pt 1), …, line_to (pt n), end(false)` as `StrokeTessellator::tessellate` sees it -/
def polyPath (pt : Nat → P K) (n : Nat) : List (PathEv K) :=
  PathEv.begin (pt 0) :: ((List.range' 1 n).map (fun i => PathEv.line (pt i)) ++ [PathEv.end_ false])

theorem assignIds_lines (pt : Nat → P K) (m : Nat) : ∀ k : Nat,
    assignIds ((List.range' k m).map (fun i => PathEv.line (pt i)) ++ [PathEv.end_ false]) k
      = lineEvs (restPts pt k m) ++ [IdEv.end_ false] := by
  induction m with
  | zero => intro k; simp [assignIds, lineEvs, restPts]
  | succ m ih =>
    intro k
    rw [List.range'_succ, restPts_succ]
    simp only [List.map_cons, List.cons_append, assignIds, lineEvs]
    rw [ih (k + 1)]
    rfl

theorem assignIds_polyPath (pt : Nat → P K) (n : Nat) (hn : 1 ≤ n) : assignIds (polyPath pt n) 0 = polyEvs pt n := by
  obtain ⟨m, rfl⟩ : ∃ m, n = m + 1 := ⟨n - 1, by omega⟩
  unfold polyPath polyEvs
  rw [List.range'_succ]
  simp only [List.map_cons, List.cons_append, assignIds, Nat.add_sub_cancel]
  rw [assignIds_lines pt m 2]

theorem tessellateIds_out2 {e : Env K} {store : Nat → List K} {evs : List (IdEv K)} {out : Out K}
    (h : tessellateIds e store evs = some out) : out = (runEvents e store evs).st.out := by
  unfold tessellateIds at h
  simp only [] at h
  split_ifs at h
  simp only [Option.some.injEq] at h
  exact h.symm

end Run

end Lyon.C06b
