/-
  C06c: reach for closed polygons — every emitted triangle stays within `w/2·√(1 + M²)` of the segment
  of an edge, `M = outK e pt 0 k` the largest outward shift of that edge's quad corners (`0` with a Bevel or Round join,
  at most `|tan(θ/2)|` with a Miter or MiterClip join).
-/
import LyonVerif.Lemmas.StrokeCoverClosedAsm
import LyonVerif.Lemmas.StrokeCoverReach


namespace Lyon.C06b
open Lyon Scalar Lyon.Stroke Lyon.Stroke.Full Lyon.C05 Lyon.C05b Lyon.C05c Lyon.C06
open Lyon.StrokeQuad (lineIntersection)

section
variable {K : Type} [Field K] [LinearOrder K] [IsStrictOrderedRing K] [Transc K]

theorem corners_near_in {e : Env K} {eps : K} (h : CoverHyp e eps) {pt : Nat → P K} (i : Nat)
    (hsq : 0 < (pt (i + 1 + 1) - pt (i + 1)).sqLen)
    (hlen : e.hwFw * (|jtau pt i| + |jtau pt (i + 1)| + 1) ≤ eL pt (i + 1)) :
    ∀ p ∈ cornerList e pt 0 (i + 1), NearSeg (pt (i + 1)) (eT pt (i + 1)) (eL pt (i + 1)) (reachSq e pt 0 (i + 1)) p :=
  corners_near_of h.hw (edge_eq h.sqrt_nonneg h.sqrt_sq pt (i + 1) hsq) (inner_bounds e pt i)
    (abs_nonneg _) (abs_nonneg _) hlen

theorem joinSet_near_in {e : Env K} {eps : K} (h : CoverHyp e eps) {pt : Nat → P K} (i : Nat)
    (hsq : 0 < (pt (i + 1 + 1) - pt (i + 1)).sqLen) (hsq1 : 0 < (pt (i + 1 + 1 + 1) - pt (i + 1 + 1)).sqLen)
    (hlen : e.hwFw * (|jtau pt i| + |jtau pt (i + 1)| + 1) ≤ eL pt (i + 1))
    (J : JClosed e pt (i + 1) (psAt e pt (i + 1 + 1)) (nsAt e pt (i + 1 + 1)) (lamAt e pt (i + 1 + 1))) :
    ∀ p ∈ joinSet (jEP e pt (i + 1 + 1)), NearSeg (pt (i + 1)) (eT pt (i + 1)) (eL pt (i + 1)) (reachSq e pt 0 (i + 1)) p :=
  joinSet_near_of h.hw (Nat.succ_ne_zero _) J (edge_eq h.sqrt_nonneg h.sqrt_sq pt (i + 1) hsq)
    (edge_eq h.sqrt_nonneg h.sqrt_sq pt (i + 1 + 1) hsq1).2.1 (corners_near_in h i hsq hlen)

theorem tri_reach_closed {e : Env K} {eps : K} (h : CoverHyp e eps) {pt : Nat → P K} {m : Nat}
    (hper : ∀ i, pt (i + (m + 1)) = pt i) (hr : RegimeC e eps pt m) {o : Out K} (hE : EmittedC e pt m o)
    (t : Stroke.Tri) (ht : t ∈ o.tris) :
    ∃ k, TriWithin o t (NearSeg (pt (k + 1)) (eT pt (k + 1)) (eL pt (k + 1)) (reachSq e pt 0 (k + 1))) := by
  obtain ⟨hsq, hjc, hlen⟩ := regimeC_all h hper hr
  have g : EP.geo (jEP e pt (m + 1 + 1)) = EP.geo (jEP e pt 1) := jEP_per hper e 0
  have hquad : ∀ i, ∀ t, TriIn o (quadSet (jEP e pt (i + 1)) (jEP e pt (i + 1 + 1))) t →
      TriWithin o t (NearSeg (pt (i + 1)) (eT pt (i + 1)) (eL pt (i + 1)) (reachSq e pt 0 (i + 1))) := by
    intro i t hT
    rw [quadSet_in (n := 0) i (Nat.succ_ne_zero _) (hjc i) (hjc (i + 1))] at hT
    exact triIn_near hT _ _ _ _ (corners_near_in h i (hsq (i + 1)) (hlen i))
  -- a triangle of the join at `pt i` (join triangle or fan of a round join) goes to the edge that ends there: one
  -- period later for the join at `pt 1`
  have hJ : ∀ i, 1 ≤ i → ∀ t, TriFan o (joinSet (jEP e pt i)) (pt i) (e.hwFw * e.hwFw) t →
      ∃ k, TriWithin o t (NearSeg (pt (k + 1)) (eT pt (k + 1)) (eL pt (k + 1)) (reachSq e pt 0 (k + 1))) := by
    have near := fun i' => joinSet_near_in h i' (hsq (i' + 1)) (hsq (i' + 1 + 1)) (hlen i') (hjc (i' + 1))
    have circ := fun i' => circle_near h 0 (i' + 1) (hsq (i' + 1))
    intro i h1 t hT
    by_cases hi1 : i = 1
    · subst hi1
      have gp : pt (m + 1 + 1) = pt 1 := by
        rw [show m + 1 + 1 = 1 + (m + 1) by omega]; exact hper 1
      rw [← joinSet_congr g, ← gp] at hT
      exact ⟨m, triFan_near hT _ _ _ _ (near m) (circ m)⟩
    · obtain ⟨i', rfl⟩ : ∃ i', i = i' + 1 + 1 := ⟨i - 2, by omega⟩
      exact ⟨i', triFan_near hT _ _ _ _ (near i') (circ i')⟩
  rcases hE.only t ht with ⟨i, h1, h2, hT⟩ | ⟨i, h1, h2, hT⟩ | ⟨i, h1, h2, hT⟩ | hT
  · obtain ⟨i', rfl⟩ : ∃ i', i = i' + 1 := ⟨i - 1, by omega⟩
    exact ⟨i', hquad i' t hT⟩
  · exact hJ i h1 t (hT.toFan _ _)
  · exact hJ i h1 t hT
  · rw [← quadSet_congr rfl g] at hT
    exact ⟨m, hquad m t hT⟩

theorem outK_in_le (e : Env K) (pt : Nat → P K) (i : Nat) :
    outK e pt 0 (i + 1) ≤ Max.max |jtau pt i| |jtau pt (i + 1)| := by
  obtain ⟨a0, a1⟩ := sA_abs_le e pt i
  obtain ⟨b0, b1⟩ := sB_abs_le e pt (Nat.succ_ne_zero (i + 1) : i + 1 + 1 ≠ 0)
  exact outK_le_of e pt 0 (i + 1) (abs_nonneg _) (neg_le.mp (abs_le.mp a0).1) (neg_le.mp (abs_le.mp a1).1)
    (abs_le.mp b0).2 (abs_le.mp b1).2

theorem outK_in_bevel {e : Env K} {pt : Nat → P K} (i : Nat) (hb : e.o.join = .bevel ∨ e.o.join = .round)
    (Ja : JClosed e pt i (psAt e pt (i + 1)) (nsAt e pt (i + 1)) (lamAt e pt (i + 1)))
    (Jb : JClosed e pt (i + 1) (psAt e pt (i + 1 + 1)) (nsAt e pt (i + 1 + 1)) (lamAt e pt (i + 1 + 1))) :
    outK e pt 0 (i + 1) = 0 := by
  obtain ⟨a1, a2, _⟩ := bevel_shifts (n := 0) Ja hb (Nat.succ_ne_zero _)
  obtain ⟨_, _, b1, b2⟩ := bevel_shifts (n := 0) Jb hb (Nat.succ_ne_zero _)
  exact le_antisymm (max_le (le_refl _) (max_le a1 (max_le a2 (max_le b1 b2)))) (outK_bounds e pt 0 (i + 1)).1

/-- closed polygon, Bevel or Round join: the reach is exactly `w/2`, no corner of any quad is shifted outwards -/
theorem reachSq_in_bevel {e : Env K} {eps : K} (h : CoverHyp e eps) {pt : Nat → P K} {m : Nat}
    (hper : ∀ i, pt (i + (m + 1)) = pt i) (hr : RegimeC e eps pt m) (hb : e.o.join = .bevel ∨ e.o.join = .round) (k : Nat) :
    reachSq e pt 0 (k + 1) = e.hwFw * e.hwFw := by
  obtain ⟨_, hjc, _⟩ := regimeC_all h hper hr
  unfold reachSq
  rw [outK_in_bevel k hb (hjc k) (hjc (k + 1))]; ring

end

end Lyon.C06b
