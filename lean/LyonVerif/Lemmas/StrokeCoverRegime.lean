/-
  C06b / C06c: where the emission proofs and the regimes meet.  In the regime `Regime` (open polyline) resp. `RegimeC`
  (closed polygon) the run of the complete model has the emission shape `Emitted` resp. `EmittedC`: the regime contains
  the hypotheses of `run_emittedG` / `run_emitted_closed` (no merged points, no folding join, unit edge directions for
  round caps).
-/
import LyonVerif.Lemmas.StrokeCoverClosed
import LyonVerif.Lemmas.StrokeCoverClosedAsm


namespace Lyon.C06b
open Lyon Scalar Lyon.Stroke Lyon.Stroke.Full Lyon.C05 Lyon.C05b Lyon.C05c Lyon.C06
open Lyon.StrokeQuad (lineIntersection)

section Run
variable {K : Type} [Field K] [LinearOrder K] [IsStrictOrderedRing K] [Transc K] [Asin K] [FlatConst K]

theorem regime_emitted {e : Env K} {eps : K} (h : CoverHyp e eps) (store : Nat → List K) {pt : Nat → P K} {n : Nat}
    (hn : 1 ≤ n) (hr : Regime e eps pt n) : Emitted e pt n (runEvents e store (polyEvs pt n)).st.out := by
  have hu0 : (normalize (pt 0 - pt 1)).sqLen = 1 := by
    obtain ⟨_, hunit, _⟩ := edge_eq h.sqrt_nonneg h.sqrt_sq pt 0 (regime_sq h hr 0 (by omega))
    have ht : normalize (pt (0 + 1) - pt 0) = eT pt 0 := rfl
    have hswap : normalize (pt 0 - pt (0 + 1)) = (eT pt 0).smul (-1) := by rw [normalize_swap, ht]
    show (normalize (pt 0 - pt (0 + 1))).sqLen = 1
    rw [hswap]; simp only [geom] at hunit ⊢; linear_combination hunit
  have hun : (normalize (pt n - pt (n - 1))).sqLen = 1 := by
    obtain ⟨n', rfl⟩ : ∃ n', n = n' + 1 := ⟨n - 1, by omega⟩
    obtain ⟨_, hunit, _⟩ := edge_eq h.sqrt_nonneg h.sqrt_sq pt n' (regime_sq h hr n' (by omega))
    exact hunit
  have hs : CapOK e.o.startCap (pt 0 - pt 1) := by
    rcases h.scap with a | a
    · exact Or.inl a
    · exact Or.inr ⟨a, hu0⟩
  have he : CapOK e.o.endCap (pt n - pt (n - 1)) := by
    rcases h.ecap with a | a
    · exact Or.inl a
    · exact Or.inr ⟨a, hun⟩
  refine run_emittedG e store h.fw h.roundOK (ne_of_gt h.hw) pt n hn hs he hr.far ?_
  · intro i h1 h2
    obtain ⟨i', rfl⟩ : ∃ i', i = i' + 1 := ⟨i - 1, by omega⟩
    exact hr.noFold i' (by omega)

theorem regimeC_emitted {e : Env K} {eps : K} (h : CoverHyp e eps) (store : Nat → List K) {pt : Nat → P K} {m : Nat}
    (hper : ∀ i, pt (i + (m + 1)) = pt i) (hm : 2 ≤ m) (hr : RegimeC e eps pt m) :
    EmittedC e pt m (runEvents e store (polyEvsC pt m)).st.out := by
  obtain ⟨a1, _, _, a4, _⟩ := regimeC_ext hper hr
  refine run_emitted_closed e store h.fw h.roundOK (ne_of_gt h.hw) pt m hm ?_ ?_ (fun i _ => a1 i) ?_
  · have := hper 0; simpa using this
  · have := hper 1; rw [show 1 + (m + 1) = m + 1 + 1 by omega] at this; exact this
  · intro i h1 h2
    obtain ⟨i', rfl⟩ : ∃ i', i = i' + 1 := ⟨i - 1, by omega⟩
    exact a4 i'

end Run

end Lyon.C06b
