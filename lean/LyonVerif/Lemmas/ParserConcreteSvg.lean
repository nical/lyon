/-
  C17b (the parser with its concrete arc handling, against C15): the parser's own interpretation
  of path data IS the SVG reference semantics of C15 (`Model/Path/SvgSpec.lean`), applied to the
  command list read from the text.  Everything here is generic in `N : Num ν`; `Props/C17b.lean`
  instantiates it at `concreteNum`.

  `PathParser` does not produce a command list and does not drive an `SvgPathBuilder`: it resolves
  relative coordinates, `H`/`V`, smooth control points and `Z` itself and calls a plain
  `PathBuilder`.  To compare it with `WithSvg` / the SVG rules we read the command list off the
  text with the parser's OWN tokenizer and control flow:

  * `readCmd N na cmd`   — the operands of one command as RAW values (no `+ current_position`),
                            packed into the `SvgPathBuilder` command `Svg.Cmd` the letter stands for
                            (`l 1 2` ↦ `relLineTo ⟨1,2⟩`, `S…` ↦ `smoothCubicTo`, `a…` ↦ `relArcTo`);
                            the custom attributes are read and dropped (`WithSvg` has none).
  * `loopCmds`/`parseCmds` — the commands of the iterations of `parse_path` that complete
                            (the iteration structure is `Parser.step`'s, by definition).
  * `eraseCall`          — a builder call without its attributes; `attach a` puts `a` back on.

  `step_sim`: one completed iteration whose command is not an arc sends exactly the calls
  `Svg.Spec.step` prescribes for the command read, and keeps the relation `Rel` between parser
  state and reference state.  `loop_sim`: whole parses, success or error (the clean-up `end(false)`
  is the reference semantics' "end the open sub-path").  `parseCmds_noArc`: a text that contains
  neither `a` nor `A` makes the parser read no arc command — the syntactic sufficient condition for
  the hypothesis `hno` of `parse_is_svg_semantics`.

  The readers test the command letter like the parser does: `rdOf k` / `readCmd_eq` over the
  classification `cmdKind` of `Lemmas/Parser.lean`.
-/
import LyonVerif.Lemmas.Parser
import LyonVerif.Model.Path.SvgSpec

set_option linter.unusedSectionVars false

namespace Lyon.Parser
open Lyon.Path Lyon.Svg

variable {ν : Type}

/-- raw operands of an arc command: `rx ry x-axis-rotation(degrees) large-arc sweep` -/
abbrev RawArc (ν : Type) := ν × ν × ν × Bool × Bool
/-- the `SvgPathBuilder` commands path data stands for -/
abbrev SCmd (ν : Type) := Svg.Cmd ν (RawArc ν)

/-- a point of the parser (a pair) as a point of the SVG model (a record) -/
def sp (p : Parser.Pt ν) : Svg.Pt ν := ⟨p.1, p.2⟩

/-- a builder call without its custom attributes -/
def eraseCall : PCall ν → Call (Svg.Pt ν) Unit
  | .begin p _ => .begin (sp p) ()
  | .line p _ => .line (sp p) ()
  | .quad c p _ => .quad (sp c) (sp p) ()
  | .cubic c1 c2 p _ => .cubic (sp c1) (sp c2) (sp p) ()
  | .end_ b => .end_ b

/-- … and back -/
def ps (p : Svg.Pt ν) : Parser.Pt ν := (p.x, p.y)

/-- a reference call with attributes attached -/
def attach (a : List ν) : Call (Svg.Pt ν) Unit → PCall ν
  | .begin p _ => .begin (ps p) a
  | .line p _ => .line (ps p) a
  | .quad c p _ => .quad (ps c) (ps p) a
  | .cubic c1 c2 p _ => .cubic (ps c1) (ps c2) (ps p) a
  | .end_ b => .end_ b

theorem erase_attach (a : List ν) (c : Call (Svg.Pt ν) Unit) : eraseCall (attach a c) = c := by
  cases c <;> rfl

/-- a coordinate pair as written -/
def rawPoint (N : Num ν) : PM (Svg.Pt ν) := do
  let x ← parseNumber N
  let y ← parseNumber N
  pure ⟨x, y⟩

/-- a coordinate pair as written, then `na` attribute values (dropped) -/
def rdEnd (N : Num ν) (na : Nat) : PM (Svg.Pt ν) := do
  let p ← rawPoint N
  let _ ← parseAttrs N na
  pure p

def rdL (N : Num ν) (na : Nat) (rel : Bool) : PM (SCmd ν) := do
  let p ← rdEnd N na
  pure (if rel then .relLineTo p else .lineTo p)

def rdH (N : Num ν) (na : Nat) (rel : Bool) : PM (SCmd ν) := do
  let x ← parseNumber N
  let _ ← parseAttrs N na
  pure (if rel then .relHLineTo x else .hLineTo x)

def rdV (N : Num ν) (na : Nat) (rel : Bool) : PM (SCmd ν) := do
  let y ← parseNumber N
  let _ ← parseAttrs N na
  pure (if rel then .relVLineTo y else .vLineTo y)

def rdQ (N : Num ν) (na : Nat) (rel : Bool) : PM (SCmd ν) := do
  let c ← rawPoint N
  let p ← rdEnd N na
  pure (if rel then .relQuadTo c p else .quadTo c p)

def rdT (N : Num ν) (na : Nat) (rel : Bool) : PM (SCmd ν) := do
  let p ← rdEnd N na
  pure (if rel then .smoothRelQuadTo p else .smoothQuadTo p)

def rdC (N : Num ν) (na : Nat) (rel : Bool) : PM (SCmd ν) := do
  let c1 ← rawPoint N
  let c2 ← rawPoint N
  let p ← rdEnd N na
  pure (if rel then .relCubicTo c1 c2 p else .cubicTo c1 c2 p)

def rdS (N : Num ν) (na : Nat) (rel : Bool) : PM (SCmd ν) := do
  let c2 ← rawPoint N
  let p ← rdEnd N na
  pure (if rel then .smoothRelCubicTo c2 p else .smoothCubicTo c2 p)

def rdA (N : Num ν) (na : Nat) (rel : Bool) : PM (SCmd ν) := do
  let rx ← parseNumber N
  let ry ← parseNumber N
  let rot ← parseNumber N
  let large ← parseFlag
  let sweep ← parseFlag
  let p ← rdEnd N na
  pure (if rel then .relArcTo (rx, ry, rot, large, sweep) p
        else .arcTo (rx, ry, rot, large, sweep) p)

def rdM (N : Num ν) (na : Nat) (rel : Bool) : PM (SCmd ν) := do
  let p ← rdEnd N na
  pure (if rel then .relMoveTo p else .moveTo p)

/-- the reader of an edge command — same dispatch as `edgeCmd` -/
def readEdge (N : Num ν) (na : Nat) (cmd : Char) : Option (PM (SCmd ν)) :=
  if cmd == 'l' || cmd == 'L' then some (rdL N na cmd.isLower)
  else if cmd == 'h' || cmd == 'H' then some (rdH N na cmd.isLower)
  else if cmd == 'v' || cmd == 'V' then some (rdV N na cmd.isLower)
  else if cmd == 'q' || cmd == 'Q' then some (rdQ N na cmd.isLower)
  else if cmd == 't' || cmd == 'T' then some (rdT N na cmd.isLower)
  else if cmd == 'c' || cmd == 'C' then some (rdC N na cmd.isLower)
  else if cmd == 's' || cmd == 'S' then some (rdS N na cmd.isLower)
  else none

/-- the command a letter and the text after it stand for — same dispatch as `dispatchCmd`.  The last
`pure .close` also answers a letter that is no command; `step` fails on those, and only the commands
of completed iterations are used (`loopCmds`). -/
def readCmd (N : Num ν) (na : Nat) (cmd : Char) : PM (SCmd ν) :=
  match readEdge N na cmd with
  | some m => m
  | none =>
    if cmd == 'a' || cmd == 'A' then rdA N na cmd.isLower
    else if cmd == 'm' || cmd == 'M' then rdM N na cmd.isLower
    else pure .close

/-- the command of the iteration that starts at `s` in state `st` (`.close` stands in where the
reader fails: a completed iteration's reader succeeds, `cmdAt_of`) -/
def cmdAt (N : Num ν) (na : Nat) (st : St ν) (s : Src) : SCmd ν :=
  match readCmd N na (cmdOf st s) (afterCmd s) with
  | .ok c _ => c
  | .err _ _ => .close

/-- the commands of the iterations of `Parser.loop` that complete -/
def loopCmds (N : Num ν) (na : Nat) (stop : Option Char) : Nat → St ν → Src → List (SCmd ν)
  | 0, _, _ => []
  | fuel + 1, st, s =>
    if s.fin then []
    else if stop == some s.cur then []
    else
      match step N na st s with
      | .cont st' s' _ => cmdAt N na st s :: loopCmds N na stop fuel st' s'.skipWs
      | .fail .. => []
      | .panic .. => []

/-- the command list `PathParser::parse` reads from `inp` before it returns -/
def parseCmds (N : Num ν) (na : Nat) (stop : Option Char) (inp : List Char) : List (SCmd ν) :=
  loopCmds N na stop (inp.length + 1) (St.init N) (Src.new inp).skipWs

def rdOf (N : Num ν) (na : Nat) (rel : Bool) : EdgeKind → PM (SCmd ν)
  | .L => rdL N na rel
  | .H => rdH N na rel
  | .V => rdV N na rel
  | .Q => rdQ N na rel
  | .T => rdT N na rel
  | .C => rdC N na rel
  | .S => rdS N na rel

theorem readCmd_eq (N : Num ν) (na : Nat) (cmd : Char) :
    readCmd N na cmd =
      match cmdKind cmd with
      | .edge k => rdOf N na cmd.isLower k
      | .arc => rdA N na cmd.isLower
      | .move => rdM N na cmd.isLower
      | _ => pure .close := by
  have e : readEdge N na cmd = (edgeKind cmd).map (rdOf N na cmd.isLower) := by
    simp only [readEdge, edgeKind, find?_cons_ite, List.find?_nil, apply_ite (Option.map _),
      Option.map_some, Option.map_none, rdOf, EdgeKind.lower, EdgeKind.upper]
  unfold readCmd cmdKind
  rw [e]
  cases edgeKind cmd with
  | some k => rfl
  | none =>
    simp only [Option.map_none]
    split
    · rfl
    split
    · rfl
    by_cases hz : (cmd == 'z' || cmd == 'Z') = true
    · rw [if_pos hz]
    · rw [if_neg hz]

theorem cmdAt_of {N : Num ν} {na : Nat} {st : St ν} {x x' : Src} {c : SCmd ν}
    (hc : readCmd N na (cmdOf st x) (afterCmd x) = .ok c x') : cmdAt N na st x = c := by
  unfold cmdAt; rw [hc]

theorem loopCmds_step (N : Num ν) (na : Nat) (stop : Option Char) (fuel : Nat) (st : St ν)
    (x : Src) (hf : x.fin = false) (hs : (stop == some x.cur) = false) :
    loopCmds N na stop (fuel + 1) st x =
      match step N na st x with
      | .cont st' x' _ => cmdAt N na st x :: loopCmds N na stop fuel st' x'.skipWs
      | .fail .. => []
      | .panic .. => [] := by
  simp only [loopCmds, hf, hs, Bool.false_eq_true, if_false]

theorem loopCmds_done (N : Num ν) (na : Nat) (stop : Option Char) (fuel : Nat) (st : St ν)
    (x : Src) (h : x.fin = true ∨ (stop == some x.cur) = true) :
    loopCmds N na stop (fuel + 1) st x = [] := by
  rcases h with h | h <;> simp [loopCmds, h]

/-- wherever `m` succeeds, `r` succeeds at the same place with a related value -/
def Sim {α β} (R : α → β → Prop) (m : PM α) (r : PM β) : Prop :=
  ∀ x a x', m x = .ok a x' → ∃ b, r x = .ok b x' ∧ R a b

theorem Sim.pure {α β} {R : α → β → Prop} {a : α} {b : β} (h : R a b) :
    Sim R (pure a : PM α) (pure b : PM β) :=
  fun _ _ _ e => by obtain ⟨rfl, rfl⟩ := pure_ok_iff.1 e; exact ⟨b, rfl, h⟩

theorem Sim.bind {α β γ δ} {R : α → β → Prop} {Q : γ → δ → Prop} {m : PM α} {r : PM β}
    {f : α → PM γ} {g : β → PM δ} (h1 : Sim R m r) (h2 : ∀ a b, R a b → Sim Q (f a) (g b)) :
    Sim Q (m >>= f) (r >>= g) := by
  intro x c x' e
  obtain ⟨a, x1, e1, e2⟩ := bind_ok_iff.1 e
  obtain ⟨b, eb, hab⟩ := h1 _ _ _ e1
  obtain ⟨d, ed, hcd⟩ := h2 a b hab _ _ _ e2
  exact ⟨d, by rw [bind_of_ok eb]; exact ed, hcd⟩

/-- both sides start with the same sub-parser -/
theorem Sim.seq {α γ δ} {Q : γ → δ → Prop} {m : PM α} {f : α → PM γ} {g : α → PM δ}
    (h : ∀ a, Sim Q (f a) (g a)) : Sim Q (m >>= f) (m >>= g) :=
  Sim.bind (R := Eq) (fun _ a _ e => ⟨a, e, rfl⟩) fun a _ e => e ▸ h a

theorem parsePoint_sim (N : Num ν) (rel : Bool) (cur : Parser.Pt ν) :
    Sim (fun p v => p = (relX N rel cur v.x, relY N rel cur v.y)) (parsePoint N rel cur)
      (rawPoint N) :=
  Sim.seq fun _ => Sim.seq fun _ => Sim.pure rfl

theorem parseEndpoint_sim (N : Num ν) (na : Nat) (rel : Bool) (cur : Parser.Pt ν) :
    Sim (fun e v => e.1 = (relX N rel cur v.x, relY N rel cur v.y)) (parseEndpoint N na rel cur)
      (rdEnd N na) :=
  (parsePoint_sim N rel cur).bind fun _ _ h => Sim.seq fun _ => Sim.pure h

section sim
variable [Add ν] [Sub ν]

/-- `N.add`/`N.sub` are the `+`/`-` the reference semantics uses; `+` commutes (the parser
computes `x + current.x`, `WithSvg` and the SVG rule `current.x + x`) -/
structure Ops (N : Num ν) : Prop where
  add : ∀ a b, N.add a b = a + b
  sub : ∀ a b, N.sub a b = a - b
  comm : ∀ a b : ν, a + b = b + a

/-- the control point the parser remembers for `S`/`s`, read off the reference state's `prev` -/
def pcOf : Svg.Prev ν → Option (Parser.Pt ν)
  | .cubic c => some (c.x, c.y)
  | _ => none

/-- … and for `T`/`t` -/
def pqOf : Svg.Prev ν → Option (Parser.Pt ν)
  | .quad c => some (c.x, c.y)
  | _ => none

/-- the simulation relation between the parser's state and the state of the SVG reference
semantics: same current point and sub-path start, a sub-path is open iff `need_end`, the remembered
control points are those of `prev` -/
structure Rel (st : St ν) (s : Svg.Spec ν) : Prop where
  cur : s.cur = sp st.cur
  start : s.start = sp st.first
  isOpen : s.isOpen = st.needEnd
  ns : Good st
  pc : st.prevCubic = pcOf s.prev
  pq : st.prevQuad = pqOf s.prev

/-- where a coordinate pair `v` points: relative to the current point `c` if `rel` -/
def tgt (rel : Bool) (c v : Svg.Pt ν) : Svg.Pt ν := if rel then c + v else v

theorem sp_rel {N : Num ν} (ho : Ops N) (rel : Bool) (cur : Parser.Pt ν) (v : Svg.Pt ν) :
    sp (relX N rel cur v.x, relY N rel cur v.y) = tgt rel (sp cur) v := by
  cases rel
  · rfl
  · show (⟨N.add v.x cur.1, N.add v.y cur.2⟩ : Svg.Pt ν) = ⟨cur.1 + v.x, cur.2 + v.y⟩
    rw [ho.add, ho.add, ho.comm v.x, ho.comm v.y]

theorem sp_relH {N : Num ν} (ho : Ops N) (rel : Bool) (cur : Parser.Pt ν) (x : ν) :
    sp (relX N rel cur x, cur.2) = if rel then ⟨(sp cur).x + x, (sp cur).y⟩ else ⟨x, (sp cur).y⟩ := by
  cases rel
  · rfl
  · show (⟨N.add x cur.1, cur.2⟩ : Svg.Pt ν) = ⟨cur.1 + x, cur.2⟩
    rw [ho.add, ho.comm]

theorem sp_relV {N : Num ν} (ho : Ops N) (rel : Bool) (cur : Parser.Pt ν) (y : ν) :
    sp (cur.1, relY N rel cur y) = if rel then ⟨(sp cur).x, (sp cur).y + y⟩ else ⟨(sp cur).x, y⟩ := by
  cases rel
  · rfl
  · show (⟨cur.1, N.add y cur.2⟩ : Svg.Pt ν) = ⟨cur.1, cur.2 + y⟩
    rw [ho.add, ho.comm]

theorem sp_smooth_cubic {N : Num ν} (ho : Ops N) {st : St ν} {s : Svg.Spec ν} (hr : Rel st s) :
    sp (smoothCtrl N st.cur st.prevCubic) = s.smoothCubic := by
  unfold Svg.Spec.smoothCubic
  rw [hr.pc, hr.cur]
  cases s.prev <;> simp [pcOf, smoothCtrl, sp, ho.add, ho.sub] <;> rfl

theorem sp_smooth_quad {N : Num ν} (ho : Ops N) {st : St ν} {s : Svg.Spec ν} (hr : Rel st s) :
    sp (smoothCtrl N st.cur st.prevQuad) = s.smoothQuad := by
  unfold Svg.Spec.smoothQuad
  rw [hr.pq, hr.cur]
  cases s.prev <;> simp [pqOf, smoothCtrl, sp, ho.add, ho.sub] <;> rfl

/-- `Rel` of a state followed by the bookkeeping `after` (`St.after` touches only the remembered
control points and the implicit command; stated so that no proof has to compare `o.after cmd` with `o`) -/
theorem rel_after {o : St ν} {s' : Svg.Spec ν} (cmd : Char) (hcur : s'.cur = sp o.cur)
    (hstart : s'.start = sp o.first) (hopen : s'.isOpen = o.needEnd) (hg : o.needStart = !o.needEnd)
    (hpc : (if isCubicCmd cmd then o.prevCubic else none) = pcOf s'.prev)
    (hpq : (if isQuadCmd cmd then o.prevQuad else none) = pqOf s'.prev) : Rel (o.after cmd) s' := by
  unfold St.after; exact ⟨hcur, hstart, hopen, hg, hpc, hpq⟩

/-- an edge drawn inside an open sub-path: the reference emits just that edge (`a`: the attributes
the parser's call carries), and the states stay related if the parser's new state `o.after cmd`
remembers the control point the reference remembers -/
theorem draw_sim {st o : St ν} {s : Svg.Spec ν} (hr : Rel st s) (hop : s.isOpen = true) (cmd : Char)
    {calls : List (PCall ν)} {to : Svg.Pt ν} {edge : Call (Svg.Pt ν) Unit} {prev : Svg.Prev ν}
    {a : List ν} {g : Svg.Geo ν (RawArc ν)} {c : SCmd ν} (hs : s.step g c = s.draw to edge prev)
    (hcalls : calls = [attach a edge]) (hcur : sp o.cur = to) (hf : o.first = st.first)
    (hne : o.needEnd = st.needEnd) (hns : o.needStart = st.needStart)
    (hpc : (if isCubicCmd cmd then o.prevCubic else none) = pcOf prev)
    (hpq : (if isQuadCmd cmd then o.prevQuad else none) = pqOf prev) :
    calls = (s.step g c).2.map (attach a) ∧ Rel (o.after cmd) (s.step g c).1 := by
  simp only [hs, Svg.Spec.draw, hop, if_true, List.map_cons, List.map_nil]
  exact ⟨hcalls, rel_after cmd hcur.symm (by rw [hf]; exact hr.start) (by rw [hne, ← hr.isOpen, hop])
    (by rw [hns, hne]; exact hr.ns) hpc hpq⟩

/-- wherever the parser's branch of an edge command succeeds, the reader succeeds at the same place
with a command whose reference step emits the same calls (the parser's carry the new attribute
buffer) and leads to a related state -/
theorem edgeOf_sim {N : Num ν} (ho : Ops N) (g : Svg.Geo ν (RawArc ν)) (na : Nat) (rel : Bool)
    {cmd : Char} {k : EdgeKind} (hl : cmd = k.lower ∨ cmd = k.upper) {st : St ν} {s : Svg.Spec ν}
    (hr : Rel st s) (hop : s.isOpen = true) :
    Sim (fun o c => o.1 = (s.step g c).2.map (attach o.2.attrs) ∧ Rel (o.2.after cmd) (s.step g c).1)
      (edgeOf N na rel st k) (rdOf N na rel k) := by
  obtain ⟨-, hq, hc⟩ := edgeKind_letter hl
  have pe := parseEndpoint_sim N na rel st.cur
  have pp := parsePoint_sim N rel st.cur
  cases k <;> simp only [EdgeKind.quad, EdgeKind.cubic] at hq hc
  · refine pe.bind fun e v hev => Sim.pure ?_
    have hs : s.step g (if rel then .relLineTo v else .lineTo v)
        = s.draw (sp e.1) (.line (sp e.1) ()) .other := by
      rw [hev, sp_rel ho, ← hr.cur]; cases rel <;> rfl
    exact draw_sim hr hop cmd hs rfl rfl rfl rfl rfl (by simp [hc, pcOf]) (by simp [hq, pqOf])
  · refine Sim.seq fun v => Sim.seq fun a => Sim.pure ?_
    have hs : s.step g (if rel then .relHLineTo v else .hLineTo v)
        = s.draw (sp (relX N rel st.cur v, st.cur.2)) (.line (sp (relX N rel st.cur v, st.cur.2)) ())
            .other := by
      rw [sp_relH ho, ← hr.cur]; cases rel <;> rfl
    exact draw_sim hr hop cmd hs rfl rfl rfl rfl rfl (by simp [hc, pcOf]) (by simp [hq, pqOf])
  · refine Sim.seq fun v => Sim.seq fun a => Sim.pure ?_
    have hs : s.step g (if rel then .relVLineTo v else .vLineTo v)
        = s.draw (sp (st.cur.1, relY N rel st.cur v)) (.line (sp (st.cur.1, relY N rel st.cur v)) ())
            .other := by
      rw [sp_relV ho, ← hr.cur]; cases rel <;> rfl
    exact draw_sim hr hop cmd hs rfl rfl rfl rfl rfl (by simp [hc, pcOf]) (by simp [hq, pqOf])
  · refine pp.bind fun c w hcw => pe.bind fun e v hev => Sim.pure ?_
    have hs : s.step g (if rel then .relQuadTo w v else .quadTo w v)
        = s.draw (sp e.1) (.quad (sp c) (sp e.1) ()) (.quad (sp c)) := by
      rw [hev, hcw, sp_rel ho, sp_rel ho, ← hr.cur]; cases rel <;> rfl
    exact draw_sim hr hop cmd hs rfl rfl rfl rfl rfl (by simp [hc, pcOf]) (by simp [hq, pqOf, sp])
  · refine pe.bind fun e v hev => Sim.pure ?_
    have hs : s.step g (if rel then .smoothRelQuadTo v else .smoothQuadTo v)
        = s.draw (sp e.1) (.quad (sp (smoothCtrl N st.cur st.prevQuad)) (sp e.1) ())
            (.quad (sp (smoothCtrl N st.cur st.prevQuad))) := by
      rw [hev, sp_smooth_quad ho hr, sp_rel ho, ← hr.cur]; cases rel <;> rfl
    exact draw_sim hr hop cmd hs rfl rfl rfl rfl rfl (by simp [hc, pcOf]) (by simp [hq, pqOf, sp])
  · refine pp.bind fun c1 w1 hcw1 => pp.bind fun c2 w2 hcw2 => pe.bind fun e v hev => Sim.pure ?_
    have hs : s.step g (if rel then .relCubicTo w1 w2 v else .cubicTo w1 w2 v)
        = s.draw (sp e.1) (.cubic (sp c1) (sp c2) (sp e.1) ()) (.cubic (sp c2)) := by
      rw [hev, hcw1, hcw2, sp_rel ho, sp_rel ho, sp_rel ho, ← hr.cur]; cases rel <;> rfl
    exact draw_sim hr hop cmd hs rfl rfl rfl rfl rfl (by simp [hc, pcOf, sp]) (by simp [hq, pqOf])
  · refine pp.bind fun c2 w2 hcw2 => pe.bind fun e v hev => Sim.pure ?_
    have hs : s.step g (if rel then .smoothRelCubicTo w2 v else .smoothCubicTo w2 v)
        = s.draw (sp e.1) (.cubic (sp (smoothCtrl N st.cur st.prevCubic)) (sp c2) (sp e.1) ())
            (.cubic (sp c2)) := by
      rw [hev, hcw2, sp_smooth_cubic ho hr, sp_rel ho, sp_rel ho, ← hr.cur]; cases rel <;> rfl
    exact draw_sim hr hop cmd hs rfl rfl rfl rfl rfl (by simp [hc, pcOf, sp]) (by simp [hq, pqOf])

theorem simM {N : Num ν} (ho : Ops N) (g : Svg.Geo ν (RawArc ν)) (na : Nat) (rel : Bool)
    (cmd : Char) (hq : isQuadCmd cmd = false) (hc : isCubicCmd cmd = false) {st : St ν}
    {s : Svg.Spec ν} (hr : Rel st s) (x : Src) (e : Parser.Pt ν × List ν) (x' : Src)
    (h : parseEndpoint N na rel st.cur x = .ok e x') :
    ∃ c, rdM N na rel x = .ok c x' ∧
      (if st.needEnd then [Call.end_ false] else []) ++ [.begin e.1 e.2] = (s.step g c).2.map (attach e.2) ∧
      Rel ({ st with cur := e.1, attrs := e.2, first := e.1, needEnd := true,
                     needStart := false }.after cmd) (s.step g c).1 := by
  obtain ⟨v, hv, hev⟩ := parseEndpoint_sim N na rel st.cur _ _ _ h
  have this : s.step g (if rel then .relMoveTo v else .moveTo v) = s.moveTo (sp e.1) := by
    rw [hev, sp_rel ho, ← hr.cur]; cases rel <;> rfl
  refine ⟨if rel then .relMoveTo v else .moveTo v, by simp only [rdM, bind_of_ok hv]; rfl,
    ?_, ?_⟩ <;> rw [this]
  · simp only [Svg.Spec.moveTo, hr.isOpen]; cases st.needEnd <;> rfl
  · constructor <;> simp [St.after, hq, hc, pcOf, pqOf, Svg.Spec.moveTo, Good]

theorem cmdAArgs_sim (N : Num ν) (na : Nat) (rel : Bool) (st : St ν) :
    Sim (fun a c => ∃ (r : RawArc ν) (v : Svg.Pt ν), c = (if rel then .relArcTo r v else .arcTo r v) ∧
      a = { from_ := st.cur, rx := r.1, ry := r.2.1, rot := r.2.2.1, large := r.2.2.2.1,
            sweep := r.2.2.2.2, to := (relX N rel st.cur v.x, relY N rel st.cur v.y),
            prevAttrs := st.attrs, attrs := a.attrs })
      (cmdAArgs N na rel st) (rdA N na rel) :=
  Sim.seq fun rx => Sim.seq fun ry => Sim.seq fun rot => Sim.seq fun lg => Sim.seq fun sw =>
    (parseEndpoint_sim N na rel st.cur).bind fun _ v hev =>
      Sim.pure ⟨(rx, ry, rot, lg, sw), v, rfl, by rw [← hev]⟩

theorem noCurve {cmd a b : Char} (h : cmd = a ∨ cmd = b) (h1 : isQuadCmd a = false)
    (h2 : isQuadCmd b = false) (h3 : isCubicCmd a = false) (h4 : isCubicCmd b = false) :
    isQuadCmd cmd = false ∧ isCubicCmd cmd = false := by
  rcases h with h | h <;> rw [h] <;> exact ⟨‹_›, ‹_›⟩

/-- what the reference semantics adds at the end of the data -/
def specEnd (s : Svg.Spec ν) : List (Call (Svg.Pt ν) Unit) := if s.isOpen then [.end_ false] else []

def StepSim (N : Num ν) (g : Svg.Geo ν (RawArc ν)) (na : Nat) (st : St ν) (s : Svg.Spec ν)
    (x : Src) : StepOut ν → Prop
  | .cont st' _ em =>
    (cmdAt N na st x).isArc = false →
      em.map Prod.snd = (s.step g (cmdAt N na st x)).2.map (attach st'.attrs) ∧
        Rel st' (s.step g (cmdAt N na st x)).1
  | .fail _ ne x' em =>
    (em ++ closing ne x').map Prod.snd = if s.isOpen then [.end_ false] else []
  | .panic _ _ => True

/-- one completed iteration whose command is not an arc sends the calls `Svg.Spec.step` prescribes
for the command read, each with the new attribute buffer attached, and keeps `Rel`; one that fails
sends what ends the open sub-path -/
theorem step_sim {N : Num ν} (ho : Ops N) (g : Svg.Geo ν (RawArc ν)) (na : Nat) {st : St ν}
    {s : Svg.Spec ν} (hr : Rel st s) (x : Src) : StepSim N g na st s x (step N na st x) := by
  have hop : st.needStart = false → s.isOpen = true := fun hns => by
    rw [hr.isOpen]; exact hr.ns.needEnd hns
  refine step_does N na st x ?_ ?_ ?_ ?_ ?_
  · intro e ne x' em _ _ hf
    show (em ++ closing ne x').map Prod.snd = _
    rw [List.map_append, closing_snd, failCalls_eq hf, hr.isOpen]
  · intro k o x' hk hns heq _
    obtain ⟨c, hc, hcalls, hrel⟩ := edgeOf_sim ho g na _ (cmdKind_edge hk) hr (hop hns) _ _ _ heq
    rw [cmdAt_of (by rw [readCmd_eq, hk]; exact hc), emitAt_snd]
    exact ⟨hcalls, hrel⟩
  · intro a x' hk _ heq
    obtain ⟨_, hc, r, v, rfl, _⟩ := cmdAArgs_sim N na _ st _ _ _ heq
    have hisarc : (cmdAt N na st x).isArc = true := by
      rw [cmdAt_of (by rw [readCmd_eq, hk]; exact hc)]; cases (cmdOf st x).isLower <;> rfl
    exact arcEmit_cases N na a _ st x' (fun _ _ h => by rw [hisarc] at h; cases h) fun _ => trivial
  · intro e x' hk heq _
    obtain ⟨hq, hc⟩ := noCurve (cmdKind_move hk) rfl rfl rfl rfl
    obtain ⟨c, hcr, hcalls, hrel⟩ := simM ho g na _ _ hq hc hr _ e x' heq
    rw [cmdAt_of (by rw [readCmd_eq, hk]; exact hcr), List.map_append, emitAt_snd,
      map_snd_closingIf]
    exact ⟨hcalls, hrel⟩
  · intro hk hns _
    obtain ⟨hq, hc⟩ := noCurve (cmdKind_close hk) rfl rfl rfl rfl
    rw [cmdAt_of (c := .close) (x' := afterCmd x) (by rw [readCmd_eq, hk]; rfl)]
    refine ⟨by simp [emitAt_snd, Svg.Spec.step, Svg.Spec.close, hop hns, attach], ?_⟩
    constructor <;>
      simp [Svg.Spec.step, Svg.Spec.close, hop hns, St.after, hq, hc, pcOf, pqOf, hr.start, Good]

/-- whole parses: if the parse neither panics nor runs out of fuel and reads no arc command, the
calls it sends (attributes erased; the clean-up `end(false)` included) are those of the SVG
reference semantics on the command list read, ended if a sub-path is open -/
theorem loop_sim {N : Num ν} (ho : Ops N) (g : Svg.Geo ν (RawArc ν)) (na : Nat)
    (stop : Option Char) (fuel : Nat) :
    ∀ (st : St ν) (x : Src) (s : Svg.Spec ν), Rel st s →
      (∀ c ∈ loopCmds N na stop fuel st x, c.isArc = false) →
      (loop N na stop fuel st x).outcome ≠ .panic →
      (loop N na stop fuel st x).outcome ≠ .stuck →
      (loop N na stop fuel st x).trace.map eraseCall =
        (Svg.Spec.run g s (loopCmds N na stop fuel st x)).2 ++
          specEnd (Svg.Spec.run g s (loopCmds N na stop fuel st x)).1 := by
  refine loop_rec (C := fun fuel st x r => ∀ s : Svg.Spec ν, Rel st s →
    (∀ c ∈ loopCmds N na stop fuel st x, c.isArc = false) → r.outcome ≠ .panic →
    r.outcome ≠ .stuck → r.trace.map eraseCall = (Svg.Spec.run g s (loopCmds N na stop fuel st x)).2 ++
      specEnd (Svg.Spec.run g s (loopCmds N na stop fuel st x)).1) N na stop ?_ ?_ ?_ ?_ ?_ fuel
  · intro st x s _ _ _ h; exact absurd rfl h
  · intro fuel st x h s hr _ _ _
    rw [loopCmds_done N na stop fuel st x h, Result.trace, closing_snd]
    cases hn : st.needEnd <;> simp [Svg.Spec.run, specEnd, hr.isOpen, hn, eraseCall]
  · intro fuel st x st' x' em hf hs hstep ih s hr hno hp hst
    have hsim := step_sim ho g na hr x
    rw [loopCmds_step N na stop fuel st x hf hs, hstep] at hno ⊢
    rw [hstep] at hsim
    obtain ⟨hcalls, hrel⟩ := hsim (hno _ (List.mem_cons_self ..))
    replace hcalls : (em.map Prod.snd).map eraseCall = (s.step g (cmdAt N na st x)).2 := by
      rw [hcalls, List.map_map]; exact (List.map_congr_left fun c _ => erase_attach _ c).trans (List.map_id _)
    have := ih _ hrel (fun c hc => hno c (List.mem_cons_of_mem _ hc)) hp hst
    simp only [trace_cons, Svg.Spec.run]
    rw [List.map_append, this, hcalls, List.append_assoc]
  · intro fuel st x e ne x' em hf hs hstep s hr _ _ _
    have hsim := step_sim ho g na hr x
    rw [hstep] at hsim
    rw [loopCmds_step N na stop fuel st x hf hs, hstep]
    show ((em ++ closing ne x').map Prod.snd).map eraseCall = _
    simp only [StepSim] at hsim
    rw [hsim]
    cases hop : s.isOpen <;> simp [Svg.Spec.run, specEnd, eraseCall, hop]
  · intro _ _ _ _ _ _ _ _ _ _ _ hp _; exact absurd rfl hp

theorem rel_init (N : Num ν) (zero : ν) (hz : N.zero = zero) :
    Rel (St.init N) (Svg.Spec.init zero) := by
  constructor <;> simp [St.init, Svg.Spec.init, sp, hz, pcOf, pqOf, Good]

end sim

/-! ### a text that contains neither `a` nor `A` makes the parser read no arc command

The implicit command is never `a`/`A` (it is `M` at the start and afterwards `nextImplicit` of an
executed command), and the remaining input is a suffix of the text. -/

theorem rdOf_notArc {N : Num ν} {na : Nat} {rel : Bool} {k : EdgeKind} {x : Src} {c : SCmd ν}
    {x' : Src} (h : rdOf N na rel k x = .ok c x') : c.isArc = false := by
  cases k <;> simp only [rdOf, rdL, rdH, rdV, rdQ, rdT, rdC, rdS, bind_ok_iff, pure_ok_iff] at h
  · obtain ⟨_, _, _, rfl, _⟩ := h; cases rel <;> rfl
  · obtain ⟨_, _, _, _, _, _, rfl, _⟩ := h; cases rel <;> rfl
  · obtain ⟨_, _, _, _, _, _, rfl, _⟩ := h; cases rel <;> rfl
  · obtain ⟨_, _, _, _, _, _, rfl, _⟩ := h; cases rel <;> rfl
  · obtain ⟨_, _, _, rfl, _⟩ := h; cases rel <;> rfl
  · obtain ⟨_, _, _, _, _, _, _, _, _, rfl, _⟩ := h; cases rel <;> rfl
  · obtain ⟨_, _, _, _, _, _, rfl, _⟩ := h; cases rel <;> rfl

theorem cmdAt_notArc (N : Num ν) (na : Nat) (st : St ν) (x : Src)
    (ha : cmdKind (cmdOf st x) ≠ .arc) : (cmdAt N na st x).isArc = false := by
  unfold cmdAt
  split
  · rename_i c y heq
    rw [readCmd_eq] at heq
    cases hk : cmdKind (cmdOf st x) <;> rw [hk] at heq
    · exact rdOf_notArc heq
    · exact absurd hk ha
    · simp only [rdM, bind_ok_iff, pure_ok_iff] at heq
      obtain ⟨_, _, _, rfl, _⟩ := heq; cases (cmdOf st x).isLower <;> rfl
    · cases (pure_ok_iff.1 heq).1; rfl
    · cases (pure_ok_iff.1 heq).1; rfl
  · rfl

theorem nextImplicit_notArc (c : Char) (h : cmdKind c ≠ .arc) : cmdKind (nextImplicit c) ≠ .arc := by
  unfold nextImplicit
  split
  · nofun
  split
  · nofun
  split
  · nofun
  split
  · nofun
  · exact h

theorem cur_mem {x : Src} (h : ¬x.fin = true) : x.cur ∈ x.inp := by
  cases hx : x.inp with
  | nil => simp [Src.fin, hx] at h
  | cons a r => simp [Src.cur, hx]

theorem reach_mem {x y : Src} (h : Reach x y) {c : Char} (hc : c ∈ y.inp) : c ∈ x.inp := by
  obtain ⟨n, rfl⟩ := h
  exact List.mem_of_mem_drop (advN_inp n x ▸ hc)

theorem loopCmds_noArc (N : Num ν) (na : Nat) (stop : Option Char) (fuel : Nat) :
    ∀ (st : St ν) (x : Src), cmdKind st.implicit ≠ .arc → (∀ d ∈ x.inp, cmdKind d ≠ .arc) →
      ∀ c ∈ loopCmds N na stop fuel st x, c.isArc = false := by
  intro st x
  fun_induction loopCmds N na stop fuel st x with
  | case4 fuel st x hf _ st' x' em hstep ih =>
    intro hi hx c hc
    have hcmd : cmdKind (cmdOf st x) ≠ .arc := by
      unfold cmdOf; split
      · exact hx _ (cur_mem hf)
      · exact hi
    have hk := step_keeps N na st x
    have hpos := step_pos N na st x
    rw [hstep] at hk hpos
    rcases List.mem_cons.1 hc with rfl | hc
    · exact cmdAt_notArc N na st x hcmd
    · exact ih (hk.1 ▸ nextImplicit_notArc _ hcmd)
        (fun d hd => hx d (reach_mem (hpos.trans (skipWs_reach x')) hd)) c hc
  | _ => exact fun _ _ _ hc => nomatch hc

theorem parseCmds_noArc (N : Num ν) (na : Nat) (stop : Option Char) (inp : List Char)
    (ha : 'a' ∉ inp) (hA : 'A' ∉ inp) : ∀ c ∈ parseCmds N na stop inp, c.isArc = false :=
  loopCmds_noArc N na stop _ (St.init N) _ nofun fun d hd h =>
    have hd : d ∈ inp := reach_mem (skipWs_reach (Src.new inp)) hd
    (cmdKind_arc h).elim (fun e => ha (e ▸ hd)) fun e => hA (e ▸ hd)

end Lyon.Parser
