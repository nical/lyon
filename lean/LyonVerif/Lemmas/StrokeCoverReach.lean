/-
  C06b: reach.  Every emitted triangle stays within `w/2 · √(1 + M²)` of the segment of its edge,
  `M` the largest OUTWARD shift (in half widths) of that edge's quad corners: `0` for bevel-shaped joins
  and butt / round caps, `1` for a square cap, `|tan(θ/2)|` for a kept miter (`√(1+tan²) = 1/cos(θ/2)`, the
  miter length), `lamAt ≤ |tan(θ/2)|` for a clipped `MiterClip`; the fans of round joins and round caps stay on the
  circle of radius `w/2` around the path point, which is within the reach of the edge that ends (starts) there.
  (`NearSeg`: `Lemmas/StrokeCoverReachNear.lean`.)
-/
import LyonVerif.Lemmas.StrokeCoverAsm
import LyonVerif.Lemmas.StrokeCoverReachNear

set_option linter.unusedSectionVars false

namespace Lyon.C06b
open Lyon Scalar Lyon.Stroke Lyon.Stroke.Full Lyon.C05 Lyon.C05b Lyon.C05c Lyon.C06
open Lyon.StrokeQuad (lineIntersection)

section
variable {K : Type} [Field K] [LinearOrder K] [IsStrictOrderedRing K]

section Asm
variable [Transc K]

/-- the largest OUTWARD shift (half widths) of the corners of edge `k`'s quad: `0` (bevel-shaped joins, butt
caps), `1` (square cap), `|tan(θ/2)|` (kept miter) -/
noncomputable def outK (e : Env K) (pt : Nat → P K) (n k : Nat) : K :=
  Max.max 0 (Max.max (-sA0 e pt k) (Max.max (-sA1 e pt k) (Max.max (sB0 e pt n k) (sB1 e pt n k))))

/-- squared reach of edge `k`: `(w/2)² · (1 + outK²)` -/
noncomputable def reachSq (e : Env K) (pt : Nat → P K) (n k : Nat) : K :=
  e.hwFw * e.hwFw + (e.hwFw * outK e pt n k) * (e.hwFw * outK e pt n k)

theorem outK_bounds (e : Env K) (pt : Nat → P K) (n k : Nat) :
    0 ≤ outK e pt n k ∧ -outK e pt n k ≤ sA0 e pt k ∧ -outK e pt n k ≤ sA1 e pt k
    ∧ sB0 e pt n k ≤ outK e pt n k ∧ sB1 e pt n k ≤ outK e pt n k := by
  unfold outK
  refine ⟨le_max_left _ _, ?_, ?_, ?_, ?_⟩
  · exact neg_le.mp (le_trans (le_max_left _ _) (le_max_right _ _))
  · exact neg_le.mp (le_trans (le_trans (le_max_left _ _) (le_max_right _ _)) (le_max_right _ _))
  · exact le_trans (le_trans (le_trans (le_max_left _ _) (le_max_right _ _)) (le_max_right _ _)) (le_max_right _ _)
  · exact le_trans (le_trans (le_trans (le_max_right _ _) (le_max_right _ _)) (le_max_right _ _)) (le_max_right _ _)

/-- the one way `outK` is bounded: `A ≥ 0` bounds the two start shifts, `B` the two end shifts -/
theorem outK_le_of (e : Env K) (pt : Nat → P K) (n k : Nat) {A B : K} (hA : 0 ≤ A)
    (hA0 : -sA0 e pt k ≤ A) (hA1 : -sA1 e pt k ≤ A) (hB0 : sB0 e pt n k ≤ B) (hB1 : sB1 e pt n k ≤ B) :
    outK e pt n k ≤ Max.max A B :=
  max_le (le_trans hA (le_max_left _ _)) (max_le (le_trans hA0 (le_max_left _ _))
    (max_le (le_trans hA1 (le_max_left _ _)) (max_le (le_trans hB0 (le_max_right _ _)) (le_trans hB1 (le_max_right _ _)))))

theorem reachSq_le (e : Env K) (pt : Nat → P K) (n k : Nat) {M : K} (hM : outK e pt n k ≤ M) :
    reachSq e pt n k ≤ e.hwFw * e.hwFw * (1 + M ^ 2) := by
  have h := mul_le_mul_of_nonneg_left (mul_self_le_mul_self (outK_bounds e pt n k).1 hM) (mul_self_nonneg e.hwFw)
  unfold reachSq
  rw [pow_two]; linarith

/-- the four corners of edge `k`'s quad are within the reach of the edge's segment: their shifts stay between
the bounds `T0`, `−T1` of `trap_cov` on the inside and `outK` on the outside -/
theorem corners_near_of {e : Env K} {pt : Nat → P K} {n k : Nat} {T0 T1 : K} (hw : 0 < e.hwFw)
    (hedge : 0 < eL pt k ∧ (eT pt k).sqLen = 1 ∧ pt (k + 1) - pt k = (eT pt k).smul (eL pt k))
    (hb : sA0 e pt k ≤ T0 ∧ sA1 e pt k ≤ T0 ∧ -T1 ≤ sB0 e pt n k ∧ -T1 ≤ sB1 e pt n k)
    (t0 : 0 ≤ T0) (t1 : 0 ≤ T1) (hlen : e.hwFw * (T0 + T1 + 1) ≤ eL pt k) :
    ∀ p ∈ cornerList e pt n k, NearSeg (pt k) (eT pt k) (eL pt k) (reachSq e pt n k) p := by
  obtain ⟨hL, hunit, hd⟩ := hedge
  obtain ⟨o0, o1, o2, o3, o4⟩ := outK_bounds e pt n k
  obtain ⟨b1, b2, b3, b4⟩ := hb
  have hw' := le_of_lt hw
  have hD : 0 ≤ e.hwFw * outK e pt n k := mul_nonneg hw' o0
  have hwT0 : e.hwFw * T0 ≤ eL pt k := by linarith [mul_nonneg hw' t1]
  have hwT1 : e.hwFw * T1 ≤ eL pt k := by linarith [mul_nonneg hw' t0]
  intro p hp
  simp only [cornerList, List.mem_cons, List.mem_nil_iff, or_false] at hp
  rcases hp with rfl | rfl | rfl | rfl
  · rw [bp_mp]
    refine near_pt _ _ _ e.hwFw _ _ _ (le_of_lt hL) hunit (by ring) ?_ ?_
    · linarith only [mul_le_mul_of_nonneg_left o1 hw']
    · linarith only [mul_le_mul_of_nonneg_left b1 hw', hwT0, hD]
  · rw [bp_pp]
    refine near_pt _ _ _ e.hwFw _ _ _ (le_of_lt hL) hunit rfl ?_ ?_
    · linarith only [mul_le_mul_of_nonneg_left o2 hw']
    · linarith only [mul_le_mul_of_nonneg_left b2 hw', hwT0, hD]
  · rw [next_pt hd, bp_pp, bp_shift]
    refine near_pt _ _ _ e.hwFw _ _ _ (le_of_lt hL) hunit rfl ?_ ?_
    · linarith only [mul_le_mul_of_nonneg_left b4 hw', hwT1, hD]
    · linarith only [mul_le_mul_of_nonneg_left o4 hw']
  · rw [next_pt hd, bp_mp, bp_shift]
    refine near_pt _ _ _ e.hwFw _ _ _ (le_of_lt hL) hunit (by ring) ?_ ?_
    · linarith only [mul_le_mul_of_nonneg_left b3 hw', hwT1, hD]
    · linarith only [mul_le_mul_of_nonneg_left o3 hw']

theorem corners_near {e : Env K} {eps : K} (h : CoverHyp e eps) {pt : Nat → P K} {n : Nat} (hr : Regime e eps pt n)
    (k : Nat) (hk : k < n) :
    ∀ p ∈ cornerList e pt n k, NearSeg (pt k) (eT pt k) (eL pt k) (reachSq e pt n k) p :=
  corners_near_of h.hw (edge_eq h.sqrt_nonneg h.sqrt_sq pt k (regime_sq h hr k hk)) (shift_bounds e pt n k hk)
    (tauAbs_nonneg pt n k) (tauAbs_nonneg pt n (k + 1)) (hr.room k hk)

/-- the conclusion of the reach theorems for one index triple `t` of `o`: its three vertices exist, and the triangle of
the positions read back from them lies in `N` -/
def TriWithin (o : Out K) (t : Stroke.Tri) (N : P K → Prop) : Prop :=
  ∃ v1 v2 v3 : VData K, o.verts[t.1]? = some v1 ∧ o.verts[t.2.1]? = some v2 ∧ o.verts[t.2.2]? = some v3
    ∧ ∀ q, InTri q (v1.read.position, v2.read.position, v3.read.position) → N q

/-- a triangle all of whose corners satisfy `Q`, a property of points near a segment, stays near it (`TriIn`: `Q` is
membership in a corner list; `TriFan`: membership or lying on the circle) -/
theorem tri_near_of {o : Out K} {t : Stroke.Tri} {Q : P K → Prop}
    (hT : ∃ p1 p2 p3, PosAt o t.1 p1 ∧ PosAt o t.2.1 p2 ∧ PosAt o t.2.2 p3 ∧ Q p1 ∧ Q p2 ∧ Q p3)
    (X tv : P K) (L r2 : K) (hQ : ∀ p, Q p → NearSeg X tv L r2 p) :
    TriWithin o t (NearSeg X tv L r2) := by
  obtain ⟨_, _, _, ⟨v1, e1, rfl⟩, ⟨v2, e2, rfl⟩, ⟨v3, e3, rfl⟩, m1, m2, m3⟩ := hT
  exact ⟨v1, v2, v3, e1, e2, e3, fun q hq => nearSeg_tri X tv L r2 _ _ _ q (hQ _ m1) (hQ _ m2) (hQ _ m3) hq⟩

theorem triIn_near {o : Out K} {S : List (P K)} {t : Stroke.Tri} (hT : TriIn o S t) (X tv : P K) (L r2 : K)
    (hS : ∀ p ∈ S, NearSeg X tv L r2 p) :
    TriWithin o t (NearSeg X tv L r2) :=
  tri_near_of (Q := fun p => p ∈ S) hT X tv L r2 hS

theorem triFan_near {o : Out K} {S : List (P K)} {c : P K} {r : K} {t : Stroke.Tri} (hT : TriFan o S c r t)
    (X tv : P K) (L r2 : K) (hS : ∀ p ∈ S, NearSeg X tv L r2 p)
    (hc : ∀ p : P K, (p - c).sqLen = r → NearSeg X tv L r2 p) :
    TriWithin o t (NearSeg X tv L r2) :=
  tri_near_of (Q := fun p => p ∈ S ∨ (p - c).sqLen = r) hT X tv L r2 (fun p hp => hp.elim (hS p) (hc p))

theorem circle_near_at {e : Env K} {pt : Nat → P K} (n k : Nat) (x : K) (hx0 : 0 ≤ x) (hx1 : x ≤ eL pt k) (c : P K)
    (hc : c = pt k + (eT pt k).smul x) :
    ∀ p : P K, (p - c).sqLen = e.hwFw * e.hwFw → NearSeg (pt k) (eT pt k) (eL pt k) (reachSq e pt n k) p := by
  intro p hp
  refine ⟨x, hx0, hx1, ?_⟩
  rw [← hc, hp]
  unfold reachSq
  linarith [mul_self_nonneg (e.hwFw * outK e pt n k)]

theorem circle_near {e : Env K} {eps : K} (h : CoverHyp e eps) {pt : Nat → P K} (n k : Nat)
    (hL : 0 < (pt (k + 1) - pt k).sqLen) :
    ∀ p : P K, (p - pt (k + 1)).sqLen = e.hwFw * e.hwFw → NearSeg (pt k) (eT pt k) (eL pt k) (reachSq e pt n k) p := by
  obtain ⟨hLe, _, hd⟩ := edge_eq h.sqrt_nonneg h.sqrt_sq pt k hL
  exact circle_near_at n k (eL pt k) (le_of_lt hLe) (le_refl _) _ (next_pt hd)

theorem circle_near_start {e : Env K} {eps : K} (h : CoverHyp e eps) {pt : Nat → P K} (n : Nat)
    (hL : 0 < (pt (0 + 1) - pt 0).sqLen) :
    ∀ p : P K, (p - pt 0).sqLen = e.hwFw * e.hwFw → NearSeg (pt 0) (eT pt 0) (eL pt 0) (reachSq e pt n 0) p :=
  circle_near_at n 0 0 (le_refl _) (le_of_lt (edge_eq h.sqrt_nonneg h.sqrt_sq pt 0 hL).1) _ (by geom_ring)

/-- the vertices of the join at `pt (k+1)` are within the reach of the edge `k` that ends there: the two `prev`
vertices are end corners of edge `k`, a `next` vertex is one of these or lies on an outer offset line of the next
edge, at most `hw·outK` before the join -/
theorem joinSet_near_of {e : Env K} {pt : Nat → P K} {n k : Nat} (hw : 0 < e.hwFw) (hnl : k + 1 ≠ n)
    (J : JClosed e pt k (psAt e pt (k + 1)) (nsAt e pt (k + 1)) (lamAt e pt (k + 1)))
    (hedge : 0 < eL pt k ∧ (eT pt k).sqLen = 1 ∧ pt (k + 1) - pt k = (eT pt k).smul (eL pt k))
    (hunit1 : (eT pt (k + 1)).sqLen = 1)
    (hc : ∀ p ∈ cornerList e pt n k, NearSeg (pt k) (eT pt k) (eL pt k) (reachSq e pt n k) p) :
    ∀ p ∈ joinSet (jEP e pt (k + 1)), NearSeg (pt k) (eT pt k) (eL pt k) (reachSq e pt n k) p := by
  obtain ⟨hL, hunit, hd⟩ := hedge
  have hpn : NearSeg (pt k) (eT pt k) (eL pt k) (reachSq e pt n k) (sPrev (jEP e pt (k + 1)).neg) := by
    apply hc
    rw [J.sNegPrev]
    simp only [cornerList, sB0, if_neg hnl, List.mem_cons, List.mem_nil_iff, or_false]
    right; right; right; trivial
  have hpp : NearSeg (pt k) (eT pt k) (eL pt k) (reachSq e pt n k) (sPrev (jEP e pt (k + 1)).pos) := by
    apply hc
    rw [J.sPosPrev]
    simp only [cornerList, sB1, if_neg hnl, List.mem_cons, List.mem_nil_iff, or_false]
    right; right; left; trivial
  obtain ⟨o0, _, _, o3, o4⟩ := outK_bounds e pt n k
  have hL0 := lamAt_nonneg e pt (k + 1)
  have hround : ∀ c : K, c * c = e.hwFw * e.hwFw → lamAt e pt (k + 1) ≤ outK e pt n k →
      NearSeg (pt k) (eT pt k) (eL pt k) (reachSq e pt n k)
        (bp (pt (k + 1)) (eT pt (k + 1)) (e.hwFw * -lamAt e pt (k + 1)) c) := by
    intro c hcc hle
    refine ⟨eL pt k, le_of_lt hL, le_refl _, ?_⟩
    rw [← next_pt hd, bp_sub_sqLen _ _ _ _ hunit1, hcc]
    unfold reachSq
    have := mul_self_le_mul_self (mul_nonneg (le_of_lt hw) hL0)
      (mul_le_mul_of_nonneg_left hle (le_of_lt hw))
    linarith
  intro p hp
  simp only [joinSet, List.mem_cons, List.mem_nil_iff, or_false] at hp
  rcases hp with rfl | rfl | rfl | rfl
  · exact hpn
  · cases hns : (jEP e pt (k + 1)).neg.single with
    | some v =>
      have : sNext (jEP e pt (k + 1)).neg = sPrev (jEP e pt (k + 1)).neg := by simp [sNext, sPrev, hns]
      rw [this]; exact hpn
    | none =>
      have hnsf : nsAt e pt (k + 1) = false := by
        have := J.nsingle; rw [hns] at this; exact this.symm
      have hsb : sB0 e pt n k = lamAt e pt (k + 1) := by simp only [sB0, if_neg hnl, hnsf, Bool.false_eq_true, if_false]
      have : sNext (jEP e pt (k + 1)).neg
          = bp (pt (k + 1)) (eT pt (k + 1)) (e.hwFw * -lamAt e pt (k + 1)) (-e.hwFw) := by
        simp only [sNext, hns, Option.getD_none, J.negNext, hnsf, Bool.false_eq_true, if_false, bp_mp]
      rw [this]; exact hround _ (by ring) (hsb ▸ o3)
  · exact hpp
  · cases hps : (jEP e pt (k + 1)).pos.single with
    | some v =>
      have : sNext (jEP e pt (k + 1)).pos = sPrev (jEP e pt (k + 1)).pos := by simp [sNext, sPrev, hps]
      rw [this]; exact hpp
    | none =>
      have hpsf : psAt e pt (k + 1) = false := by
        have := J.psingle; rw [hps] at this; exact this.symm
      have hsb : sB1 e pt n k = lamAt e pt (k + 1) := by simp only [sB1, if_neg hnl, hpsf, Bool.false_eq_true, if_false]
      have : sNext (jEP e pt (k + 1)).pos
          = bp (pt (k + 1)) (eT pt (k + 1)) (e.hwFw * -lamAt e pt (k + 1)) e.hwFw := by
        simp only [sNext, hps, Option.getD_none, J.posNext, hpsf, Bool.false_eq_true, if_false, bp_pp]
      rw [this]; exact hround _ rfl (hsb ▸ o4)

theorem joinSet_near {e : Env K} {eps : K} (h : CoverHyp e eps) {pt : Nat → P K} {n : Nat} (hr : Regime e eps pt n)
    (k : Nat) (hk : k + 1 < n) :
    ∀ p ∈ joinSet (jEP e pt (k + 1)), NearSeg (pt k) (eT pt k) (eL pt k) (reachSq e pt n k) p :=
  joinSet_near_of h.hw (by omega) (regime_jclosed h hr k hk)
    (edge_eq h.sqrt_nonneg h.sqrt_sq pt k (regime_sq h hr k (by omega)))
    (edge_eq h.sqrt_nonneg h.sqrt_sq pt (k + 1) (regime_sq h hr (k + 1) hk)).2.1 (corners_near h hr k (by omega))

theorem tri_reach {e : Env K} {eps : K} (h : CoverHyp e eps) {pt : Nat → P K} {n : Nat} (hr : Regime e eps pt n)
    {o : Out K} (hE : Emitted e pt n o) (t : Stroke.Tri) (ht : t ∈ o.tris) :
    ∃ k, k < n ∧ TriWithin o t (NearSeg (pt k) (eT pt k) (eL pt k) (reachSq e pt n k)) := by
  -- one case per alternative of `Emitted.only`; each names the edge whose segment the triangle is near: a quad its own
  -- edge, a join (triangle or fan) the edge that ENDS there, a cap fan the first / last edge.  A triangle with corners
  -- in a list of near points is near (`triIn_near`), with corners in the list or on the circle (`triFan_near`).
  rcases hE.only t ht with ⟨i, h1, h2, hT⟩ | ⟨i, h1, h2, hT⟩ | ⟨i, h1, h2, hT⟩ | ⟨h2, hT⟩ | ⟨h2, hT⟩ | ⟨h1, hT⟩
    | ⟨h1, hT⟩ | ⟨h1, hT⟩
  rotate_right 2
  · -- the fan of a round end cap
    obtain ⟨k, rfl⟩ : ∃ k, n = k + 1 := ⟨n - 1, by omega⟩
    have hmem : ∀ p ∈ [endPos e pt (k + 1), endNeg e pt (k + 1)], p ∈ cornerList e pt (k + 1) k := by
      intro p hp
      rcases Nat.eq_zero_or_pos k with h0 | hpos
      · subst h0
        rw [← quadSet_single h hr]
        simp only [List.mem_cons, List.mem_nil_iff, or_false] at hp ⊢
        tauto
      · obtain ⟨k', rfl⟩ : ∃ k', k = k' + 1 := ⟨k - 1, by omega⟩
        rw [← quadSet_last h k' hr]
        simp only [List.mem_cons, List.mem_nil_iff, or_false] at hp ⊢
        tauto
    exact ⟨k, by omega, triFan_near hT _ _ _ _ (fun p hp => corners_near h hr k (by omega) p (hmem p hp))
      (circle_near h (k + 1) k (regime_sq h hr k (by omega)))⟩
  · -- the fan of a round start cap
    have hmem : ∀ p ∈ [startNeg e pt n, startPos e pt n], p ∈ cornerList e pt n 0 := by
      intro p hp
      by_cases hn1 : n = 1
      · subst hn1
        rw [← quadSet_single h hr]
        simp only [List.mem_cons, List.mem_nil_iff, or_false] at hp ⊢
        tauto
      · rw [← quadSet_first h hr (by omega)]
        simp only [List.mem_cons, List.mem_nil_iff, or_false] at hp ⊢
        tauto
    exact ⟨0, by omega, triFan_near hT _ _ _ _ (fun p hp => corners_near h hr 0 (by omega) p (hmem p hp))
      (circle_near_start h n (regime_sq h hr 0 (by omega)))⟩
  · -- an inner quad
    obtain ⟨i', rfl⟩ : ∃ i', i = i' + 1 := ⟨i - 1, by omega⟩
    rw [quadSet_inner h hr i' h2] at hT
    exact ⟨i' + 1, by omega, triIn_near hT _ _ _ _ (corners_near h hr (i' + 1) (by omega))⟩
  · -- a join triangle, then the fan of a round join
    obtain ⟨i', rfl⟩ : ∃ i', i = i' + 1 := ⟨i - 1, by omega⟩
    exact ⟨i', by omega, triIn_near hT _ _ _ _ (joinSet_near h hr i' h2)⟩
  · obtain ⟨i', rfl⟩ : ∃ i', i = i' + 1 := ⟨i - 1, by omega⟩
    exact ⟨i', by omega, triFan_near hT _ _ _ _ (joinSet_near h hr i' h2)
      (circle_near h n i' (regime_sq h hr i' (by omega)))⟩
  · -- the quads of the last, the first, the only edge
    obtain ⟨k, rfl⟩ : ∃ k, n = k + 1 + 1 := ⟨n - 2, by omega⟩
    rw [quadSet_last h k hr] at hT
    exact ⟨k + 1, by omega, triIn_near hT _ _ _ _ (corners_near h hr (k + 1) (by omega))⟩
  · rw [quadSet_first h hr h2] at hT
    exact ⟨0, by omega, triIn_near hT _ _ _ _ (corners_near h hr 0 (by omega))⟩
  · subst h1
    rw [quadSet_single h hr] at hT
    exact ⟨0, by omega, triIn_near hT _ _ _ _ (corners_near h hr 0 (by omega))⟩

/-- a bevel-shaped join shifts no corner of the two adjacent quads outwards -/
theorem bevel_shifts {e : Env K} {pt : Nat → P K} {n k : Nat}
    (J : JClosed e pt k (psAt e pt (k + 1)) (nsAt e pt (k + 1)) (lamAt e pt (k + 1)))
    (hb : e.o.join = .bevel ∨ e.o.join = .round) (hnl : k + 1 ≠ n) :
    -sA0 e pt (k + 1) ≤ 0 ∧ -sA1 e pt (k + 1) ≤ 0 ∧ sB0 e pt n k ≤ 0 ∧ sB1 e pt n k ≤ 0 := by
  have hnb := J.bevel hb
  have hl0 := J.bevel0 hb
  have hc := J.cpos
  -- the single vertex sits on the inner side only: `jtau ≤ 0` if the negative, `0 ≤ jtau` if the positive side has it
  have hn : nsAt e pt (k + 1) = true → jtau pt k ≤ 0 := fun hns =>
    not_lt.mp fun hpos => hnb ⟨J.inner_pos (le_of_lt ((div_pos_iff_of_pos_right hc).mp hpos)), hns⟩
  have hp : psAt e pt (k + 1) = true → 0 ≤ jtau pt k := fun hps =>
    not_lt.mp fun hneg => hnb ⟨hps, J.inner_neg (neg_of_div_neg_left hneg (le_of_lt hc))⟩
  simp only [sA0, sA1, sB0, sB1, if_neg (Nat.succ_ne_zero k), if_neg hnl, Nat.add_sub_cancel, hl0]
  refine ⟨?_, ?_, ?_, ?_⟩ <;> split_ifs with hh
  · rw [neg_neg]; exact hn hh
  · rw [neg_zero, neg_zero]
  · rw [neg_nonpos]; exact hp hh
  · rw [neg_zero, neg_zero]
  · exact hn hh
  · exact le_refl _
  · rw [neg_nonpos]; exact hp hh
  · exact le_refl _

/-- **Bevel join: reach factor 1** except at a square cap: the only outward shift of an edge's quad is the
cap's (`1` half width for a square cap, `0` for a butt cap) -/
theorem outK_bevel {e : Env K} {eps : K} (h : CoverHyp e eps) {pt : Nat → P K} {n : Nat} (hr : Regime e eps pt n)
    (hb : e.o.join = .bevel ∨ e.o.join = .round) (k : Nat) (hk : k < n) :
    outK e pt n k ≤ Max.max (if k = 0 then capU e.o.startCap else 0) (if k + 1 = n then capU e.o.endCap else 0) := by
  have hs0 : (0 : K) ≤ capU e.o.startCap := capU_nonneg _
  have hA : (0 : K) ≤ (if k = 0 then capU e.o.startCap else 0) := by split_ifs <;> simp [hs0]
  have hstart : -sA0 e pt k ≤ (if k = 0 then capU e.o.startCap else 0) ∧ -sA1 e pt k ≤ (if k = 0 then capU e.o.startCap else 0) := by
    rcases Nat.eq_zero_or_pos k with h0 | hpos
    · subst h0; simp [sA0, sA1]
    · obtain ⟨k', rfl⟩ : ∃ k', k = k' + 1 := ⟨k - 1, by omega⟩
      obtain ⟨b1, b2, _⟩ := bevel_shifts (n := n) (regime_jclosed h hr k' hk) hb (by omega)
      rw [if_neg (Nat.succ_ne_zero k')]
      exact ⟨b1, b2⟩
  have hend : sB0 e pt n k ≤ (if k + 1 = n then capU e.o.endCap else 0) ∧ sB1 e pt n k ≤ (if k + 1 = n then capU e.o.endCap else 0) := by
    by_cases hl : k + 1 = n
    · simp [sB0, sB1, hl]
    · obtain ⟨_, _, b3, b4⟩ := bevel_shifts (regime_jclosed h hr k (by omega)) hb hl
      rw [if_neg hl]
      exact ⟨b3, b4⟩
  exact outK_le_of e pt n k hA hstart.1 hstart.2 hend.1 hend.2

/-- in general the outward shift is at most the cap's or the half-turn tangent at that end (`√(1+tan²)` is
the miter length `1/cos(θ/2)`) -/
theorem outK_le (e : Env K) (pt : Nat → P K) (n k : Nat) (hk : k < n) :
    outK e pt n k ≤ Max.max (if k = 0 then capU e.o.startCap else tauAbs pt n k)
      (if k + 1 = n then capU e.o.endCap else tauAbs pt n (k + 1)) := by
  have hs0 : (0 : K) ≤ capU e.o.startCap := capU_nonneg _
  have he0 : (0 : K) ≤ capU e.o.endCap := capU_nonneg _
  have t0 := tauAbs_nonneg pt n k
  have t1 := tauAbs_nonneg pt n (k + 1)
  have hA : (0 : K) ≤ (if k = 0 then capU e.o.startCap else tauAbs pt n k) := by split_ifs <;> assumption
  have hstart : -sA0 e pt k ≤ (if k = 0 then capU e.o.startCap else tauAbs pt n k)
      ∧ -sA1 e pt k ≤ (if k = 0 then capU e.o.startCap else tauAbs pt n k) := by
    rcases Nat.eq_zero_or_pos k with h0 | hpos
    · subst h0; simp [sA0, sA1]
    · obtain ⟨k', rfl⟩ : ∃ k', k = k' + 1 := ⟨k - 1, by omega⟩
      rw [tauAbs_mid pt n k' hk]
      exact ⟨neg_le.mp (abs_le.mp (sA_abs_le e pt k').1).1, neg_le.mp (abs_le.mp (sA_abs_le e pt k').2).1⟩
  have hend : sB0 e pt n k ≤ (if k + 1 = n then capU e.o.endCap else tauAbs pt n (k + 1))
      ∧ sB1 e pt n k ≤ (if k + 1 = n then capU e.o.endCap else tauAbs pt n (k + 1)) := by
    by_cases hl : k + 1 = n
    · simp [sB0, sB1, hl]
    · rw [tauAbs_mid pt n k (by omega), if_neg hl]
      exact ⟨(abs_le.mp (sB_abs_le e pt hl).1).2, (abs_le.mp (sB_abs_le e pt hl).2).2⟩
  exact outK_le_of e pt n k hA hstart.1 hstart.2 hend.1 hend.2

end Asm

end

end Lyon.C06b
