/-
  Index validity, the loop: `process_events` (from the record `keeps_inv1`), `initialize_events` (the one
  step that emits a vertex: `Inv0 → InvEv`, the new vertex becomes the current one), `tessellator_loop`
  (`Inv0` between events, `InvEv` inside one; the bound `n` of the step lemmas is re-read from the state at
  every event: `lift_spec`), the conversion of a Hoare triple into a statement about `(m.run.run s).2`
  (`run_of_triple`: the state reached, whatever the outcome), the final flush of the spans
  left over, `tessellate_impl` and `tessellate`.
-/
import LyonVerif.Lemmas.SweepIdxSteps

set_option linter.unusedSectionVars false
set_option linter.unusedVariables false
set_option mvcgen.warning false

namespace Lyon.SweepIdx
open Lyon Lyon.Scalar Lyon.Mono Lyon.Sweep Lyon.EQ
open Std.Do

variable {α : Type} [Scalar α] [Wide α]

/-- the invariant between events: `Inv` at the state's own vertex count -/
def Inv0 (s : St α) : Prop := Inv s.nverts s

/-- the invariant during an event -/
def InvEv (s : St α) : Prop := Inv1 s.nverts s

theorem InvEv.inv0 {s : St α} (h : InvEv s) : Inv0 s := h.1

theorem Inv0.frame {s s' : St α} (h : Inv0 s) (h1 : s'.nverts = s.nverts) (h2 : s'.out = s.out)
    (h3 : s'.spans = s.spans) (h4 : s'.active = s.active) : Inv0 s' := by
  unfold Inv0 at h ⊢
  rw [h1]
  exact ⟨h1, h2 ▸ h.out, h4 ▸ h.active, h3 ▸ h.spans⟩

theorem Inv0.push_vertex {s s' : St α} {pos : P α} {recs : List (P α × EdgeData α)} (h : Inv0 s)
    (h1 : s'.nverts = s.nverts + 1) (h2 : s'.out = s.out.push (.vertex pos recs))
    (h3 : s'.spans = s.spans) (h4 : s'.active = s.active) (h5 : s'.curVertex = s.nverts) : InvEv s' := by
  unfold Inv0 at h
  unfold InvEv
  rw [h1]
  refine ⟨⟨h1, h2 ▸ outOk_push_vertex h.out _ _, ?_, ?_⟩, by rw [h5]; exact Nat.lt_succ_self _⟩
  · intro e he
    rw [h4] at he
    exact Nat.lt_succ_of_lt (h.active e he)
  · intro t ht
    rw [h3] at ht
    exact (h.spans t ht).mono (Nat.le_succ _)

theorem initializeEvents_spec :
    ⦃fun s => ⌜Inv0 s⌝⦄ (initializeEvents : SM α Unit)
    ⦃ends InvEv fun _ => Inv0⦄ := by
  unfold initializeEvents
  mvcgen
  · apply Inv0.frame
    case h => assumption
    all_goals rfl
  · apply Inv0.push_vertex
    case h => assumption
    all_goals rfl

theorem processEvents_spec (n : Nat) :
    ⦃fun s => ⌜Inv1 n s⌝⦄ (processEvents : SM α (Option IErr)) ⦃both (Inv1 n)⦄ :=
  processEvents_keeps (S := fun _ => Inv1 n) (fun _ _ _ h => h) (fun _ _ c _ h => h.setCov c) (fun scan =>
    evBody_keeps scan (keeps_inv1 n _) (fun _ h => h)
      (fun s i hi h => h.frame rfl rfl rfl rfl (all_set h.1.active _ _ h.2)) (keeps_inv1 n #[])
      (sortEdgesBelow_spec n) (handleCoincidentEdgesBelow_spec n) (handleIntersectionsStep_spec n)
      fun _ a b h => h.splice a b) fun _ h => h

/-- a step that keeps `Inv1 n` for every fixed `n` keeps `InvEv`, whose bound is the state's own vertex count -/
theorem lift_spec {β : Type} {x : SM α β} (h : ∀ n, ⦃fun s => ⌜Inv1 n s⌝⦄ x ⦃both (Inv1 n)⦄) :
    ⦃fun s => ⌜InvEv s⌝⦄ x ⦃both InvEv⦄ := by
  intro s hs
  have h1 := h s.nverts s hs
  refine (wp x).mono _ _ ?_ s h1
  have key : ∀ s' : St α, Inv1 s.nverts s' → InvEv s' := by
    intro s' h'
    unfold InvEv
    rw [h'.1.nv]; exact h'
  exact ⟨fun a s' hs' => key s' hs', fun e s' hs' => key s' hs', trivial⟩

theorem tessellatorLoop_spec : ∀ f : Nat,
    ⦃fun s => ⌜Inv0 s⌝⦄ (tessellatorLoop f : SM α Unit) ⦃both Inv0⦄ :=
  tessellatorLoop_phases (I := fun _ => Inv0) (J := fun _ => InvEv) (J' := fun _ => InvEv) (E := fun _ => Inv0) (fun _ h => h) (fun _ _ h => h.inv0)
    (fun _ _ h _ => h) (fun _ s hs => initializeEvents_spec s hs.1)
    (fun _ => triple_conseq (evRecover_keeps (E := fun _ => InvEv) (lift_spec processEvents_spec)
      (lift_spec recoverFromError_spec) fun s _ h => Inv1.setCov (n := s.nverts) h _)
      (fun _ h => h) (fun _ _ h => h) fun _ _ h => h.inv0)
    fun _ _ h => h.inv0.frame rfl rfl rfl rfl

theorem run_of_triple {β : Type} {x : SM α β} {P I : St α → Prop}
    (h : ⦃fun s => ⌜P s⌝⦄ x ⦃both I⦄) (s : St α) (hs : P s) : I (x.run.run s).2 := by
  have h1 := h s hs
  rw [wp_run] at h1
  revert h1
  rcases (x.run.run s : Except Fail β × St α) with ⟨_ | _, _⟩ <;> exact id

theorem tessellatorLoop_run (f : Nat) (s0 : St α) (h0 : Inv0 s0) :
    Inv0 ((tessellatorLoop f).run.run s0).2 :=
  run_of_triple (tessellatorLoop_spec f) s0 h0

theorem tessellateImpl_outOk (q : Queue α) (rule : Slab.Rule) (horizontal : Bool) (tol : α) (handleIx : Bool) :
    ∃ n, OutOk (tessellateImpl q rule horizontal tol handleIx).2.1 n := by
  refine tessellateImpl_cases (fun r => ∃ n, OutOk r.2.1 n) _ _ _ _ _ ⟨0, outOk_empty⟩ fun r s hr => ?_
  have h1 : Inv0 s := by
    have := tessellatorLoop_run (4 * q.events.size * q.events.size + 1000) (SweepCoh.initSt q rule horizontal tol handleIx)
      ⟨rfl, outOk_empty, by intro e he; simp [SweepCoh.initSt] at he, by intro t ht; simp [SweepCoh.initSt] at ht⟩
    rwa [hr] at this
  refine ⟨s.nverts, ?_⟩
  cases r with
  | error f => exact h1.out
  | ok u =>
    exact flushLeftover_ind (Φ := fun o => OutOk o _) h1.out
      fun t _ ht ih => outOk_push_tris ih _ (h1.spans t ht).tess.tris

theorem tessellate_outOk (entry : Entry) (rule : Slab.Rule) (horizontal : Bool) (tol : α) (handleIx : Bool)
    (subs : List (SubPath α)) : ∃ n, OutOk (tessellate entry rule horizontal tol handleIx subs).2.1 n :=
  tessellate_cases (fun r => ∃ n, OutOk r.2.1 n) _ _ _ _ _ _ ⟨0, outOk_empty⟩ (tessellateImpl_outOk _ _ _ _ _)

end Lyon.SweepIdx
