/-
  C16 with the concrete flatteners — whole-path lemmas:

  * `cbOk` / `itOk`: lyon_geom flattens a curve without a panic (within the fuel); the guards of
    the `…C` adapters say this of every curve met (`cbOkRun_eq`, `itOkEvents_eq`, `cbOkEvents_eq`).
  * `cbPoints F`: the `line.to`s of a callback flattener as an iterator flattener.
  * `run_map`: if the flattener of the target space, on the image under a point map `g` of a
    curve met, returns the image of what the flattener of the source space returns (same `t`s),
    then `Flattened` after `Transformed` = `Transformed` after `Flattened`, call for call —
    generic in the flatteners and the point map; `flatAttrIter_map` for `for_each_flattened`,
    `flatIter_map` for `iterator::Flattened`.

  Core Lean only.

  The files `Lemmas/AdaptersConcrete*.lean`, by suffix:
    Path     this file: the guards as statements about the curves met; the adapters under a map.
    Laws     what is assumed of `sqrt`, `ceil`, `to_u32`, `powf`, `EPSILON` (structures), and
             `IncrFrom` (strictly increasing from a bound) with its lemmas.
    Iter     iterator side: a `Flattened` iterator that finishes ends with `to`; `itTot`.
    Cb       callback side: the callbacks are a chain ending with `(to, 1)`; `cbTot`, `noCubic`,
             `cubicSampleOk`.
    Agree    quadratic: callback form and iterator yield the same points; cubic: they differ.
    T, TC    the `t.end`s reported for a quadratic (T) / a cubic (TC) increase strictly to 1.
    Sim      similarities and mirror images commute with flattening, callback side and builder.
    SimIter  the same for the `Flattened` iterators.
    Ex       instances over an arbitrary ordered field and over ℚ for the non-vacuity examples.
    Real     the assumed laws hold together over ℝ with the genuine functions; cubic examples.
    Kernel   flattenings computed in the kernel over ℚ, the t-theorems applied to them.
  Constants of the model that recur in them (`Model/Geom/Flatten.lean`): a cubic is cut into
  quadratics at `tol * FlatConst.value 4 1` (`tolerance * 0.4`) and those are flattened at
  `tol * FlatConst.value 6 1` (`tolerance * 0.6`); `432` is the constant of `num_quadratics_impl`,
  `(|3·(c1 − c2) + to − from|² / (432·tol²))^(1/6)`; the `fuel` of an `itModel` bounds the `next`
  calls on one curve (the examples need 2: the point `to`, then `None`; 3 for the cubic example).
-/
import LyonVerif.Model.Path.AdaptersConcrete
import LyonVerif.Lemmas.Adapters

set_option linter.unusedSectionVars false

namespace Lyon.Adapt
open Lyon Lyon.Path Scalar

theorem guard_map {β γ : Type} {c c' : Bool} {a : β} {a' : γ} (f : β → γ) (hc : c' = c)
    (ha : a' = f a) :
    (if c' = true then some a' else none) = (if c = true then some a else none).map f := by
  subst hc ha; cases c' <;> rfl

section concrete
variable {α : Type} [Scalar α] [Transc α] [FlatConst α]

theorem flatBuilderC_some {tol : α} {o : P α} {n : Nat} {prog out : List (Call (P α) (List α))}
    (h : flatBuilderC tol o n prog = some out) :
    cbOkRun tol o prog = true ∧ flatBuilder (cbModel tol) o n prog = out := by
  unfold flatBuilderC at h
  split at h
  · exact ⟨‹_›, Option.some.inj h⟩
  · cases h

theorem flatIterC_some {fuel : Nat} {tol : α} {evs out : List (Event (P α))}
    (h : flatIterC fuel tol evs = some out) :
    itOkEvents fuel tol evs = true ∧ flatIter (itModel fuel tol) evs = out := by
  unfold flatIterC at h
  split at h
  · exact ⟨‹_›, Option.some.inj h⟩
  · cases h

end concrete

section generic
variable {π π' α : Type} [Scalar α]

/-- the points a callback flattener emits (`line.to` of every callback) -/
def cbPoints (F : Flattener π α) : IterFlattener π where
  quad a c b := (F.quad a c b).map (·.b)
  cubic a c d b := (F.cubic a c d b).map (·.b)

/-- image of one callback under a point map: the points move, `t.end` stays -/
def mapSeg (g : π → π') (s : FSeg π α) : FSeg π' α := ⟨g s.a, g s.b, s.t⟩

theorem emitLines_mapSeg (g : π → π') (segs : List (FSeg π α)) (prev a : List α) :
    emitLines (segs.map (mapSeg g)) prev a = (emitLines segs prev a).map (mapCall g) := by
  simp [emitLines, mapSeg, mapCall, Function.comp_def]

theorem run_map (g : π → π') (F : Flattener π α) (F' : Flattener π' α) (s : FlatB π α)
    (prog : List (Call π (List α)))
    (h : ∀ k ∈ curvesMet s.cur prog, F'.on (k.map g) = (F.on k).map (mapSeg g)) :
    FlatB.run F' ⟨g s.cur, s.prev⟩ (prog.map (mapCall g)) = (FlatB.run F s prog).map (mapCall g) := by
  induction prog generalizing s with
  | nil => rfl
  | cons c r ih =>
    cases c with
    | begin p a => simpa [FlatB.run, FlatB.step, mapCall] using ih ⟨p, a⟩ h
    | line p a => simpa [FlatB.run, FlatB.step, mapCall] using ih ⟨p, a⟩ h
    | end_ cl => simpa [FlatB.run, FlatB.step, mapCall] using ih s h
    | quad k p a =>
      simp only [curvesMet, List.forall_mem_cons, Curve.map, Flattener.on] at h
      have := ih ⟨p, a⟩ h.2
      simp only [List.map_cons, mapCall, FlatB.run, FlatB.step, List.map_append, h.1,
        emitLines_mapSeg] at this ⊢
      rw [this]
    | cubic k1 k2 p a =>
      simp only [curvesMet, List.forall_mem_cons, Curve.map, Flattener.on] at h
      have := ih ⟨p, a⟩ h.2
      simp only [List.map_cons, mapCall, FlatB.run, FlatB.step, List.map_append, h.1,
        emitLines_mapSeg] at this ⊢
      rw [this]

/-- a point map on endpoints that carry attributes (the attributes stay) -/
def mapAP (g : π → π') (p : AP π α) : AP π' α := (g p.1, p.2)

theorem linesA_mapSeg (g : π → π') (fa ta ca : List α) (segs : List (FSeg π α)) :
    linesA fa ta ca (segs.map (mapSeg g)) = (linesA fa ta ca segs).map (mapEvent (mapAP g)) := by
  induction segs generalizing ca with
  | nil => rfl
  | cons s r ih => simp [linesA, mapSeg, mapEvent, mapAP, ih]

theorem mapEvent_fst_mapAP (g : π → π') (aevs : List (Event (AP π α))) :
    (aevs.map (mapEvent (mapAP g))).map (mapEvent Prod.fst)
      = (aevs.map (mapEvent Prod.fst)).map (mapEvent g) := by
  simp only [List.map_map]
  congr 1; funext e
  cases e <;> rfl

theorem flatAttrIter_map (g : π → π') (F : Flattener π α) (F' : Flattener π' α)
    (aevs : List (Event (AP π α)))
    (h : ∀ k ∈ curvesOf (aevs.map (mapEvent Prod.fst)), F'.on (k.map g) = (F.on k).map (mapSeg g)) :
    flatAttrIter F' (aevs.map (mapEvent (mapAP g)))
      = (flatAttrIter F aevs).map (mapEvent (mapAP g)) := by
  induction aevs with
  | nil => rfl
  | cons e r ih =>
    cases e with
    | quad a c b =>
      simp only [List.map_cons, mapEvent, curvesOf, List.forall_mem_cons, Curve.map, Flattener.on] at h
      simp [flatAttrIter, mapEvent, mapAP, ih h.2, h.1, linesA_mapSeg]
    | cubic a c d b =>
      simp only [List.map_cons, mapEvent, curvesOf, List.forall_mem_cons, Curve.map, Flattener.on] at h
      simp [flatAttrIter, mapEvent, mapAP, ih h.2, h.1, linesA_mapSeg]
    | _ =>
      simp only [List.map_cons, mapEvent, curvesOf] at h
      simp [flatAttrIter, mapEvent, ih h]

theorem chain_map (g : π → π') (a : π) (l : List π) :
    chain (g a) (l.map g) = (chain a l).map (mapEvent g) := by
  induction l generalizing a with
  | nil => rfl
  | cons p r ih => simp [chain, mapEvent, ih]

theorem flatIter_map (g : π → π') (G : IterFlattener π) (G' : IterFlattener π')
    (evs : List (Event π)) (h : ∀ k ∈ curvesOf evs, G'.on (k.map g) = (G.on k).map g) :
    flatIter G' (evs.map (mapEvent g)) = (flatIter G evs).map (mapEvent g) := by
  induction evs with
  | nil => rfl
  | cons e r ih =>
    cases e with
    | quad a c b =>
      simp only [curvesOf, List.forall_mem_cons, Curve.map, IterFlattener.on] at h
      simp [flatIter, mapEvent, ih h.2, h.1, chain_map]
    | cubic a c d b =>
      simp only [curvesOf, List.forall_mem_cons, Curve.map, IterFlattener.on] at h
      simp [flatIter, mapEvent, ih h.2, h.1, chain_map]
    | _ => simp [flatIter, mapEvent, ih h]

end generic

section any
variable {α : Type} [Scalar α] [Transc α] [FlatConst α]

/-- lyon_geom's callback flattener does not panic on the curve -/
def cbOk (tol : α) : Curve (P α) → Bool
  | .quad a c b => cbOkQuad tol a c b
  | .cubic a c d b => cbOkCubic tol a c d b

/-- the curve's iterator is created without a panic and finishes within the fuel -/
def itOk (fuel : Nat) (tol : α) : Curve (P α) → Bool
  | .quad a c b => itOkQuad fuel tol a c b
  | .cubic a c d b => itOkCubic fuel tol a c d b

theorem cbOkRun_eq {A : Type} (tol : α) (cur : P α) (prog : List (Call (P α) A)) :
    cbOkRun tol cur prog = (curvesMet cur prog).all (cbOk tol) := by
  induction prog generalizing cur with
  | nil => rfl
  | cons c r ih => cases c <;> simp [cbOkRun, curvesMet, cbOk, ih]

theorem cbOkEvents_eq (tol : α) (aevs : List (Event (AP (P α) α))) :
    cbOkEvents tol aevs = (curvesOf (aevs.map (mapEvent Prod.fst))).all (cbOk tol) := by
  induction aevs with
  | nil => rfl
  | cons e r ih => cases e <;> simp [cbOkEvents, curvesOf, mapEvent, cbOk, ih]

theorem itOkEvents_eq (fuel : Nat) (tol : α) (evs : List (Event (P α))) :
    itOkEvents fuel tol evs = (curvesOf evs).all (itOk fuel tol) := by
  induction evs with
  | nil => rfl
  | cons e r ih => cases e <;> simp [itOkEvents, curvesOf, itOk, ih]

end any

end Lyon.Adapt
