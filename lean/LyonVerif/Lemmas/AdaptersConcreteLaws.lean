/-
  C16 with the concrete flatteners — what the theorems assume of the functions that are not field
  arithmetic (`sqrt`, `ceil`, `to_u32`, `powf`, `EPSILON`, the constant `0.39`), one structure per
  group of users, and `flatParams_count_int` (the segment count of a quadratic is an integer;
  the cast lemmas on such counts are `Flat.count_eq_of_toU32`, `Flat.numQuadratics_cast`,
  `Lemmas/FlattenTolCubic.lean`).
  Also `IncrFrom lo l` ("strictly increasing, all above `lo`"), in which the t-theorems of
  `…T.lean`, `…TC.lean` are stated, with its lemmas (bounds, append, affine image).
  `Lemmas/AdaptersConcreteEx.lean`, `…Real.lean`, `…Kernel.lean` show them satisfiable (ℚ, ℝ).
-/
import LyonVerif.Model.Path.AdaptersConcrete
import LyonVerif.Lemmas.Flatten

set_option linter.unusedSectionVars false

namespace Lyon.Adapt
open Lyon Lyon.Path Scalar Lyon.Flat

section field
variable {K : Type} [Field K] [LinearOrder K] [IsStrictOrderedRing K] [Transc K] [FlatConst K]

/-- what the agreement of the two quadratic entry points needs of the non-field functions:
`to_u32` is exact on natural numbers, `ceil` is integer-valued, `0 ≤ S::EPSILON < 1` -/
structure CountLaws (K : Type) [Field K] [LinearOrder K] [IsStrictOrderedRing K] [Transc K]
    [FlatConst K] : Prop where
  toNat_natCast : ∀ n : ℕ, Transc.toNat ((n : ℕ) : K) = n
  ceil_int : ∀ x : K, ∃ z : ℤ, Transc.ceil x = (z : K)
  eps_nonneg : (0 : K) ≤ FlatConst.epsilon
  eps_lt_one : (FlatConst.epsilon : K) < 1

theorem flatParams_count_int (L : CountLaws K) (q : Quad K) (tol : K) :
    ∃ z : ℤ, (FlatParams.new q tol).count = (z : K) := by
  have hz : ∃ z : ℤ, (zero : K) = (z : K) := ⟨0, by simp⟩
  unfold FlatParams.new
  split
  · exact hz
  · unfold FlatParams.general
    split
    · exact hz
    · simp only [FlatParams.generalCore, FlatParams.fixCount]
      split
      · exact L.ceil_int _
      · exact hz

/-- the laws of `sqrt` and of the constant `0.39` that C09's monotonicity theorems use -/
structure SqrtLaws (K : Type) [Field K] [LinearOrder K] [IsStrictOrderedRing K] [Transc K]
    [FlatConst K] : Prop where
  sqrt_nonneg : ∀ x : K, 0 ≤ Transc.sqrt x
  sqrt_mono : ∀ x y : K, 0 ≤ x → x ≤ y → Transc.sqrt x ≤ Transc.sqrt y
  b_lt_one : (FlatConst.value 39 2 : K) < 1

/-- `CountLaws` and the upper bound of `ceil` -/
structure CeilLaws (K : Type) [Field K] [LinearOrder K] [IsStrictOrderedRing K] [Transc K]
    [FlatConst K] : Prop extends CountLaws K where
  ceil_lt : ∀ x : K, Transc.ceil x < x + 1

/-- strictly increasing, starting above `t` -/
def IncrFrom (t : K) : List K → Prop
  | [] => True
  | x :: r => t < x ∧ IncrFrom x r

theorem incrFrom_bounds (t : K) (l : List K) (h : IncrFrom t l) : ∀ x ∈ l, t < x := by
  induction l generalizing t with
  | nil => intro x hx; cases hx
  | cons y r ih =>
    intro x hx
    rcases List.mem_cons.mp hx with rfl | hx'
    · exact h.1
    · exact lt_trans h.1 (ih y h.2 x hx')

theorem incrFrom_le_getLastD (t : K) (l : List K) (h : IncrFrom t l) : t ≤ l.getLastD t := by
  induction l generalizing t with
  | nil => simp
  | cons y r ih =>
    rw [List.getLastD_cons]
    exact le_trans (le_of_lt h.1) (ih y h.2)

theorem incrFrom_le_last (t : K) (l : List K) (h : IncrFrom t l) :
    ∀ x ∈ l, x ≤ l.getLastD t := by
  induction l generalizing t with
  | nil => intro x hx; cases hx
  | cons y r ih =>
    intro x hx
    rw [List.getLastD_cons]
    rcases List.mem_cons.mp hx with rfl | hx'
    · exact incrFrom_le_getLastD x r h.2
    · exact ih y h.2 x hx'

theorem incrFrom_range (l : List K) (hi : IncrFrom 0 l) (hl : l.getLastD 0 = 1) :
    ∀ x ∈ l, 0 < x ∧ x ≤ 1 := fun x hx =>
  ⟨incrFrom_bounds 0 l hi x hx, hl ▸ incrFrom_le_last 0 l hi x hx⟩

theorem incrFrom_append (t u : K) (A B : List K) (hA : IncrFrom t A) (hu : A.getLastD t = u)
    (hB : IncrFrom u B) : IncrFrom t (A ++ B) ∧ (A ++ B).getLastD t = B.getLastD u := by
  induction A generalizing t with
  | nil =>
    simp only [List.getLastD_nil] at hu
    subst hu
    exact ⟨hB, rfl⟩
  | cons x r ih =>
    rw [List.getLastD_cons] at hu
    obtain ⟨h1, h2⟩ := ih x hA.2 hu
    exact ⟨⟨hA.1, h1⟩, by rw [List.cons_append, List.getLastD_cons]; exact h2⟩

theorem incrFrom_map_affine (t len r0 : K) (hlen : 0 < len) (l : List K) (h : IncrFrom t l) :
    IncrFrom (t * len + r0) (l.map fun x => x * len + r0)
      ∧ (l.map fun x => x * len + r0).getLastD (t * len + r0) = l.getLastD t * len + r0 := by
  induction l generalizing t with
  | nil => exact ⟨trivial, rfl⟩
  | cons x r ih =>
    obtain ⟨h1, h2⟩ := ih x h.2
    refine ⟨⟨?_, h1⟩, ?_⟩
    · have := mul_lt_mul_of_pos_right h.1 hlen
      linarith
    · rw [List.map_cons, List.getLastD_cons, List.getLastD_cons]; exact h2

/-- `CountLaws`, `x ≤ ceil x` and the sixth root (C09b's cubic tolerance theorems) -/
structure CubicLaws (K : Type) [Field K] [LinearOrder K] [IsStrictOrderedRing K] [Transc K]
    [FlatConst K] : Prop extends CountLaws K where
  le_ceil : ∀ x : K, x ≤ Transc.ceil x
  pow_sixth : ∀ y : K, 0 ≤ y →
    0 ≤ Transc.pow y (1 / 6) ∧ y ≤ (Transc.pow y (1 / 6)) ^ 6

/-- the law of `sqrt` the similarity statement needs -/
def SqrtScales (K : Type) [Field K] [LinearOrder K] [IsStrictOrderedRing K] [Transc K] : Prop :=
  ∀ s x : K, 0 ≤ s → 0 ≤ x → Transc.sqrt (s * s * x) = s * Transc.sqrt x

end field

end Lyon.Adapt
