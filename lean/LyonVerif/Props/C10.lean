/-
  C10 — curve operations are consistent with evaluation.

  All statements are about the model functions of `Model/Geom/Basic.lean` (the same `def`s the
  correspondence check runs at `Float32`/`Float` against lyon) instantiated at an arbitrary
  linearly ordered field `K`.  They hold for *all* control points and *all* parameters — they
  are polynomial identities, so no range restriction on `t`, `u`, `a`, `b` is needed.
  The identities, and the device they are proved with (`coord`, `ext_coord`: one polynomial identity
  for both coordinates), are also the library of Bézier identities that C09, C11, C12 and C16 import.

  What is not a theorem here: anything about IEEE rounding (covered by the oracle with a
  forward-error envelope).  Additivity of `length` is proved here for line segments
  (`seg_length_additive`); for quadratics it is in `Props/C10b.lean` (over ℝ, where lyon evaluates
  its closed form: `quad_length_additive`, and at `split(0)`, `split(1)` in every branch:
  `quad_length_additive_ends`); the quadrature branch of quadratics and the approximate lengths of
  cubics and arcs are checked by the oracle within tolerance — named gap.
-/
import LyonVerif.Model.Geom.Basic
import LyonVerif.Lemmas.Field
import LyonVerif.Lemmas.Hull

set_option linter.unusedSectionVars false

geom_all Lyon.Seg
geom_all Lyon.Quad
geom_all Lyon.Cubic
geom_all Lyon.Arc

namespace Lyon.C10
open Lyon Scalar

variable {K : Type} [Field K] [LinearOrder K] [IsStrictOrderedRing K]

/-! The two coordinates of almost every identity below are the same polynomial identity in the
coordinates of the control points.  It is proved once, for the coordinate `coord i`: unfold the
operations down to the coordinates of the control points, then `ring`. -/

def coord (i : Bool) (p : P K) : K := bif i then p.y else p.x

theorem ext_coord {a b : P K} (h : ∀ i, coord i a = coord i b) : a = b := P.ext' (h false) (h true)

theorem coord_add (i : Bool) (a b : P K) : coord i (a + b) = coord i a + coord i b := by cases i <;> rfl
theorem coord_sub (i : Bool) (a b : P K) : coord i (a - b) = coord i a - coord i b := by cases i <;> rfl
theorem coord_smul (i : Bool) (a : P K) (s : K) : coord i (a.smul s) = coord i a * s := by cases i <;> rfl
theorem coord_sdiv (i : Bool) (a : P K) (s : K) : coord i (a.sdiv s) = coord i a / s := by cases i <;> rfl
theorem coord_lerp (i : Bool) (a b : P K) (t : K) :
    coord i (a.lerp b t) = (1 - t) * coord i a + t * coord i b := by
  cases i <;> simp [coord, P.lerp]
theorem coord_vlerp (i : Bool) (a b : P K) (t : K) :
    coord i (a.vlerp b t) = coord i a * (1 - t) + coord i b * t := by
  cases i <;> simp [coord, P.vlerp]

theorem coord_apply (i : Bool) (m : Xf K) (p : P K) :
    coord i (m.apply p) = coord false p * coord i ⟨m.m11, m.m12⟩ + coord true p * coord i ⟨m.m21, m.m22⟩
      + coord i ⟨m.m31, m.m32⟩ := by
  cases i <;> rfl

theorem lerp_ends (a b : P K) : a.lerp b 0 = a ∧ a.lerp b 1 = b := by
  constructor <;> refine ext_coord fun i => ?_ <;> simp only [coord_lerp] <;> ring

theorem seg_split_left (s : Seg K) (t u : K) : (s.split t).1.sample u = s.sample (t * u) :=
  ext_coord fun i => by
    simp only [Seg.split, Seg.sample, coord_lerp]
    ring
theorem seg_split_right (s : Seg K) (t u : K) :
    (s.split t).2.sample u = s.sample (t + (1 - t) * u) :=
  ext_coord fun i => by
    simp only [Seg.split, Seg.sample, coord_lerp]
    ring
theorem seg_before_after_eq_split (s : Seg K) (t : K) :
    s.beforeSplit t = (s.split t).1 ∧ s.afterSplit t = (s.split t).2 := ⟨rfl, rfl⟩
theorem seg_split_range_sample (s : Seg K) (a b u : K) :
    (s.splitRange a b).sample u = s.sample (a + (b - a) * u) :=
  ext_coord fun i => by
    simp only [Seg.splitRange, Seg.sample, coord_lerp]
    ring
theorem seg_flip_sample (s : Seg K) (u : K) : s.flip.sample u = s.sample (1 - u) :=
  ext_coord fun i => by
    simp only [Seg.flip, Seg.sample, coord_lerp]
    ring
theorem seg_xy_components (s : Seg K) (t : K) : s.x t = (s.sample t).x ∧ s.y t = (s.sample t).y := by
  constructor <;> geom_ring
theorem seg_transformed_sample (s : Seg K) (m : Xf K) (t : K) :
    (s.transformed m).sample t = m.apply (s.sample t) :=
  ext_coord fun i => by
    simp only [Seg.transformed, Seg.sample, coord_apply, coord_lerp]
    ring
theorem seg_derivative_slope (s : Seg K) (t h : K) :
    s.sample (t + h) = s.sample t + s.toVector.smul h :=
  ext_coord fun i => by
    simp only [Seg.sample, Seg.toVector, coord_add, coord_sub, coord_smul, coord_lerp]
    ring

theorem quad_split_left (q : Quad K) (t u : K) : (q.split t).1.sample u = q.sample (t * u) :=
  ext_coord fun i => by
    simp only [Quad.split, Quad.sample, coord_add, coord_smul, coord_lerp, ofNat_eq, Nat.cast_ofNat, Nat.cast_one]
    ring
theorem quad_split_right (q : Quad K) (t u : K) :
    (q.split t).2.sample u = q.sample (t + (1 - t) * u) :=
  ext_coord fun i => by
    simp only [Quad.split, Quad.sample, coord_add, coord_smul, coord_lerp, ofNat_eq, Nat.cast_ofNat, Nat.cast_one]
    ring
theorem quad_sample_ends (q : Quad K) : q.sample 0 = q.a ∧ q.sample 1 = q.b := by
  constructor <;> refine ext_coord fun i => ?_ <;>
    simp only [Quad.sample, coord_add, coord_smul, ofNat_eq, Nat.cast_ofNat, Nat.cast_one] <;> ring
theorem quad_before_after_eq_split (q : Quad K) (t : K) :
    q.beforeSplit t = (q.split t).1 ∧ q.afterSplit t = (q.split t).2 := ⟨rfl, rfl⟩
theorem quad_split_range_sample (q : Quad K) (a b u : K) :
    (q.splitRange a b).sample u = q.sample (a + (b - a) * u) :=
  ext_coord fun i => by
    simp only [Quad.splitRange, Quad.sample, coord_add, coord_sub, coord_smul, coord_vlerp, ofNat_eq, Nat.cast_ofNat, Nat.cast_one]
    ring
theorem quad_flip_sample (q : Quad K) (u : K) : q.flip.sample u = q.sample (1 - u) :=
  Hull.quad_flip_sample q u
theorem quad_xy_components (q : Quad K) (t : K) : q.x t = (q.sample t).x ∧ q.y t = (q.sample t).y := by
  constructor <;> geom_ring
theorem quad_dxdy_components (q : Quad K) (t : K) :
    q.dx t = (q.derivative t).x ∧ q.dy t = (q.derivative t).y := by
  constructor <;> geom_ring
theorem quad_to_cubic_sample (q : Quad K) (t : K) : q.toCubic.sample t = q.sample t :=
  ext_coord fun i => by
    simp only [Quad.toCubic, Cubic.sample, Quad.sample, coord_add, coord_smul, coord_sdiv, ofNat_eq, Nat.cast_ofNat, Nat.cast_one]
    ring
theorem quad_to_quadratic_to_cubic (q : Quad K) : q.toCubic.toQuadratic = q := by
  cases q with | mk a c b =>
  simp only [Quad.toCubic, Cubic.toQuadratic, Quad.mk.injEq]
  refine ⟨trivial, ?_, trivial⟩
  geom_ring
theorem quad_transformed_sample (q : Quad K) (m : Xf K) (t : K) :
    (q.transformed m).sample t = m.apply (q.sample t) :=
  ext_coord fun i => by
    simp only [Quad.transformed, Quad.sample, coord_apply, coord_add, coord_smul, ofNat_eq, Nat.cast_ofNat, Nat.cast_one]
    ring
theorem quad_baseline (q : Quad K) : q.baseline.sample 0 = q.sample 0 ∧ q.baseline.sample 1 = q.sample 1 := by
  rw [(quad_sample_ends q).1, (quad_sample_ends q).2]; exact lerp_ends q.a q.b
/-- `derivative` is the slope of the sampled curve: exact second-order Taylor expansion with the
explicit (constant) remainder `h²·(from − 2·ctrl + to)`. -/
theorem quad_derivative_slope (q : Quad K) (t h : K) :
    q.sample (t + h) = q.sample t + (q.derivative t).smul h
      + ((q.a - q.c.smul 2) + q.b).smul (h * h) :=
  ext_coord fun i => by
    simp only [Quad.sample, Quad.derivative, Quad.dc0, Quad.dc1, Quad.dc2, coord_add, coord_sub, coord_smul, ofNat_eq, Nat.cast_ofNat, Nat.cast_one]
    ring

theorem cubic_split_left (c : Cubic K) (t u : K) : (c.split t).1.sample u = c.sample (t * u) :=
  ext_coord fun i => by
    simp only [Cubic.split, Cubic.sample, coord_add, coord_sub, coord_smul, ofNat_eq, Nat.cast_ofNat, Nat.cast_one]
    ring
theorem cubic_split_right (c : Cubic K) (t u : K) :
    (c.split t).2.sample u = c.sample (t + (1 - t) * u) :=
  ext_coord fun i => by
    simp only [Cubic.split, Cubic.sample, coord_add, coord_sub, coord_smul, ofNat_eq, Nat.cast_ofNat, Nat.cast_one]
    ring
theorem cubic_before_after_eq_split (c : Cubic K) (t : K) :
    c.beforeSplit t = (c.split t).1 ∧ c.afterSplit t = (c.split t).2 := ⟨rfl, rfl⟩
theorem cubic_split_range_sample (c : Cubic K) (a b u : K) :
    (c.splitRange a b).sample u = c.sample (a + (b - a) * u) :=
  ext_coord fun i => by
    simp only [Cubic.splitRange, Cubic.sample, Quad.sample, coord_add, coord_sub, coord_smul, ofNat_eq, Nat.cast_ofNat, Nat.cast_one]
    ring
theorem cubic_flip_sample (c : Cubic K) (u : K) : c.flip.sample u = c.sample (1 - u) :=
  ext_coord fun i => by
    simp only [Cubic.flip, Cubic.sample, coord_add, coord_smul, ofNat_eq, Nat.cast_ofNat, Nat.cast_one]
    ring
theorem cubic_xy_components (c : Cubic K) (t : K) : c.x t = (c.sample t).x ∧ c.y t = (c.sample t).y := by
  constructor <;> geom_ring
theorem cubic_dxdy_components (c : Cubic K) (t : K) :
    c.dx t = (c.derivative t).x ∧ c.dy t = (c.derivative t).y := by
  constructor <;> geom_ring
theorem cubic_transformed_sample (c : Cubic K) (m : Xf K) (t : K) :
    (c.transformed m).sample t = m.apply (c.sample t) :=
  ext_coord fun i => by
    simp only [Cubic.transformed, Cubic.sample, coord_apply, coord_add, coord_smul, ofNat_eq, Nat.cast_ofNat, Nat.cast_one]
    ring
theorem cubic_sample_zero (c : Cubic K) : c.sample 0 = c.a := by
  geom_ring
theorem cubic_sample_one (c : Cubic K) : c.sample 1 = c.b := by
  geom_ring
theorem cubic_baseline (c : Cubic K) : c.baseline.sample 0 = c.sample 0 ∧ c.baseline.sample 1 = c.sample 1 := by
  rw [cubic_sample_zero, cubic_sample_one]; exact lerp_ends c.a c.b
/-- `derivative` is the slope of the sampled curve: exact Taylor expansion; the remainder is
`h²·(R₂ + h·R₃)` with `R₃ = to − 3·ctrl2 + 3·ctrl1 − from` and
`R₂ = 3(1−t)·(from − 2 ctrl1 + ctrl2) + 3t·(ctrl1 − 2 ctrl2 + to)`. -/
theorem cubic_derivative_slope (c : Cubic K) (t h : K) :
    c.sample (t + h) = c.sample t + (c.derivative t).smul h
      + ((((c.a - c.c1.smul 2) + c.c2).smul (3 * (1 - t)) + ((c.c1 - c.c2.smul 2) + c.b).smul (3 * t))
          + (((c.b - c.c2.smul 3) + c.c1.smul 3) - c.a).smul h).smul (h * h) :=
  ext_coord fun i => by
    simp only [Cubic.sample, Cubic.derivative, Cubic.dc0, Cubic.dc1, Cubic.dc2, Cubic.dc3, coord_add, coord_sub, coord_smul, ofNat_eq, Nat.cast_ofNat, Nat.cast_one]
    ring

/-! Elliptic arcs: `sin`/`cos` are arbitrary functions (`[Transc K]` is a parameter), so the
statements hold for every "ellipse function of the angle": they are identities on angles. -/

section arc
variable [Transc K]

theorem arc_angle_split_left (a : Arc K) (t u : K) : (a.split t).1.getAngle u = a.getAngle (t * u) := by
  geom_ring
theorem arc_angle_split_right (a : Arc K) (t u : K) :
    (a.split t).2.getAngle u = a.getAngle (t + (1 - t) * u) := by
  geom_ring
theorem arc_sample_of_angle (a b : Arc K) (t u : K) (hc : a.center = b.center) (hr : a.radii = b.radii)
    (hx : a.xrot = b.xrot) (h : a.getAngle t = b.getAngle u) : a.sample t = b.sample u := by
  simp only [Arc.sample, hc, hr, hx, h]
theorem arc_split_left (a : Arc K) (t u : K) : (a.split t).1.sample u = a.sample (t * u) :=
  arc_sample_of_angle _ _ _ _ rfl rfl rfl (arc_angle_split_left a t u)
theorem arc_split_right (a : Arc K) (t u : K) : (a.split t).2.sample u = a.sample (t + (1 - t) * u) :=
  arc_sample_of_angle _ _ _ _ rfl rfl rfl (arc_angle_split_right a t u)
theorem arc_before_after_eq_split (a : Arc K) (t : K) :
    a.beforeSplit t = (a.split t).1 ∧ a.afterSplit t = (a.split t).2 := ⟨rfl, rfl⟩
theorem arc_split_range_sample (a : Arc K) (x y u : K) :
    (a.splitRange x y).sample u = a.sample (x + (y - x) * u) :=
  arc_sample_of_angle _ _ _ _ rfl rfl rfl (by geom_ring)
theorem arc_flip_sample (a : Arc K) (u : K) : a.flip.sample u = a.sample (1 - u) :=
  arc_sample_of_angle _ _ _ _ rfl rfl rfl (by geom_ring)
end arc

/-! Squared lengths need no square root: these hold exactly over any field. -/

theorem seg_sqLength_split_left (s : Seg K) (t : K) :
    (s.split t).1.sqLength = t * t * s.sqLength := by
  geom_ring
theorem seg_sqLength_split_right (s : Seg K) (t : K) :
    (s.split t).2.sqLength = (1 - t) * (1 - t) * s.sqLength := by
  geom_ring
theorem seg_sqLength_flip (s : Seg K) : s.flip.sqLength = s.sqLength := by
  geom_ring
theorem seg_sqLength_split_range (s : Seg K) (a b : K) :
    (s.splitRange a b).sqLength = (b - a) * (b - a) * s.sqLength := by
  geom_ring

/-! Length of line segments: `sqrt` is a parameter; the two laws used are hypotheses (satisfied by `Real.sqrt`). -/

/-- `sqrt (k² L) = k sqrt L` for `k, L ≥ 0`, from the two laws -/
theorem sqrt_mul_sq [Transc K] (hs0 : ∀ x : K, 0 ≤ x → 0 ≤ Transc.sqrt x)
    (hsq : ∀ x : K, 0 ≤ x → Transc.sqrt x * Transc.sqrt x = x) (k L : K) (hk : 0 ≤ k) (hL : 0 ≤ L) :
    Transc.sqrt (k * k * L) = k * Transc.sqrt L :=
  sqrt_eq_of_sq hs0 hsq (mul_nonneg hk (hs0 L hL)) (by rw [mul_mul_mul_comm, hsq L hL])

theorem seg_length_additive [Transc K] (hs0 : ∀ x : K, 0 ≤ x → 0 ≤ Transc.sqrt x)
    (hsq : ∀ x : K, 0 ≤ x → Transc.sqrt x * Transc.sqrt x = x)
    (s : Seg K) (t : K) (h0 : 0 ≤ t) (h1 : t ≤ 1) :
    (s.split t).1.length + (s.split t).2.length = s.length := by
  have hL : 0 ≤ s.sqLength := P.sqLen_nonneg _
  have e1 : (s.split t).1.length = t * s.length :=
    (congrArg Transc.sqrt (seg_sqLength_split_left s t)).trans (sqrt_mul_sq hs0 hsq t _ h0 hL)
  have e2 : (s.split t).2.length = (1 - t) * s.length :=
    (congrArg Transc.sqrt (seg_sqLength_split_right s t)).trans (sqrt_mul_sq hs0 hsq (1 - t) _ (sub_nonneg.2 h1) hL)
  rw [e1, e2]; ring

/-- non-vacuity of `seg_length_additive`'s premises: a concrete parameter in range. -/
example : (0:ℚ) ≤ 1/4 ∧ (1/4:ℚ) ≤ 1 := by norm_num

end Lyon.C10
