/-
  C18 — curved paths and a geometric statement.

  * `hit_test_curved_is_flattened`  the hit test of a path WITH curves
                                (`Model/Algo/WindingCurves.lean`: bounding-range early-out, then
                                lyon_geom's callback flattening) is the polygonal hit test of the
                                flattened outline, provided the early-out is conservative
                                (`Conservative`: every flattened point of a curve lies inside the
                                curve's `fast_bounding_range_y`);
  * `winding_horizontal_const`  two points of one row with no edge crossing point between them
                                have the same winding number.
-/
import LyonVerif.Props.C18
import LyonVerif.Model.Algo.WindingCurves

set_option linter.unusedSectionVars false

namespace Lyon.C18
open Lyon Lyon.Winding

variable {K : Type} [Field K] [LinearOrder K] [IsStrictOrderedRing K]

/-- the edge `a → b` does not cross the row of `q` at an abscissa in `(q.x, q'.x]` -/
def NoCrossBetween (q q' : P K) (a b : P K) : Prop :=
  ((a.y ≤ q.y ∧ q.y < b.y) ∨ (b.y ≤ q.y ∧ q.y < a.y)) →
    ¬ (q.x < xline a b q.y ∧ xline a b q.y ≤ q'.x)

theorem segSpec_row_const (q q' a b : P K) (hy : q.y = q'.y) (hx : q.x ≤ q'.x)
    (h : NoCrossBetween q q' a b) : segSpec q a b = segSpec q' a b := by
  rw [segSpec_eq, segSpec_eq, ← hy]
  by_cases hr : InRow q.y a b
  · have : xline a b q.y ≤ q.x ↔ xline a b q.y ≤ q'.x :=
      ⟨fun h1 => h1.trans hx, fun h2 => not_lt.mp fun h3 => h (hr.updown.imp And.right And.right) ⟨h3, h2⟩⟩
    simp only [this]
  · simp [hr]

/-- **The winding number is constant along a row between crossings**: two points of the same row
(`q` left of `q'`) such that no edge crosses the row at an abscissa in `(q.x, q'.x]` have equal
winding numbers — for any edge list (polygonal outline or flattened curved outline). -/
theorem winding_horizontal_const (q q' : P K) (es : List (P K × P K)) (hy : q.y = q'.y) (hx : q.x ≤ q'.x)
    (h : ∀ e ∈ es, NoCrossBetween q q' e.1 e.2) : windingAt q es = windingAt q' es := by
  rw [windingAt_eq_sum, windingAt_eq_sum]
  exact edgeSum_congr fun e he => by
    rw [testSegment_spec, testSegment_spec]
    exact segSpec_row_const q q' e.1 e.2 hy hx (h e he)

/-- non-vacuity: the unit square's edges, `q = (1/4, 1/2)`, `q' = (3/4, 1/2)` — both inside, no
crossing in `(1/4, 3/4]`. -/
example : ∀ e ∈ subEdges [(⟨0, 0⟩ : P ℚ), ⟨1, 0⟩, ⟨1, 1⟩, ⟨0, 1⟩],
    NoCrossBetween (⟨1/4, 1/2⟩ : P ℚ) ⟨3/4, 1/2⟩ e.1 e.2 := by
  intro e he
  simp only [subEdges, subEdgesFrom, List.mem_cons, List.not_mem_nil, or_false] at he
  rcases he with rfl | rfl | rfl | rfl <;> (unfold NoCrossBetween xline; norm_num)

section curved
variable [Transc K] [FlatConst K]

/-- `fast_bounding_range_y` of an event (for a `Line`, its own ordinate range — never consulted) -/
noncomputable def segRangeY (cur : P K) : CSeg K → K × K
  | .line t => (min cur.y t.y, max cur.y t.y)
  | .quad c t => quadFastRangeY (⟨cur, c, t⟩ : Quad K)
  | .cubic c1 c2 t => cubicFastRangeY (⟨cur, c1, c2, t⟩ : Cubic K)

/-- the early-out of one event is conservative: every end point of its flattening lies in the
event's `fast_bounding_range_y` (true in exact arithmetic whenever the flattening parameters stay
in `[0,1]`: a Bézier point is a convex combination of the control points) -/
def ConservativeSeg (tol : K) (cur : P K) (s : CSeg K) : Prop :=
  ∀ lf, segEdgesFlat tol cur s = some lf → ∀ e ∈ lf,
    ((segRangeY cur s).1 ≤ e.1.y ∧ e.1.y ≤ (segRangeY cur s).2) ∧
    ((segRangeY cur s).1 ≤ e.2.y ∧ e.2.y ≤ (segRangeY cur s).2)

def ConservativeSegs (tol : K) : P K → List (CSeg K) → Prop
  | _, [] => True
  | cur, s :: r => ConservativeSeg tol cur s ∧ ConservativeSegs tol s.to r

/-- hypothesis of `hit_test_curved_is_flattened` -/
def Conservative (tol : K) (path : List (CSub K)) : Prop :=
  ∀ s ∈ path, ConservativeSegs tol s.first s.segs

theorem testSegment_outside_range (q a b : P K) (lo hi : K) (ha : lo ≤ a.y ∧ a.y ≤ hi) (hb : lo ≤ b.y ∧ b.y ≤ hi)
    (hq : q.y < lo ∨ hi < q.y) : testSegment q a b = 0 := by
  rw [testSegment_spec, segSpec_eq, if_neg]
  rintro ⟨⟨h1, h2⟩, _⟩
  rcases hq with h | h
  · exact absurd (lt_of_lt_of_le h (le_min ha.1 hb.1)) (not_lt.mpr h1)
  · exact absurd (lt_of_le_of_lt (max_le ha.2 hb.2) h) (not_lt.mpr h2.le)

theorem skipRange_iff (q : P K) (r : K × K) : skipRange q r = true ↔ (q.y < r.1 ∨ r.2 < q.y) := by
  simp [skipRange]

/-- the segments `oc` tested with the early-outs contribute what the flattened ones `of` do, whenever those exist -/
def Contrib (q : P K) (oc of : Option (List (P K × P K))) : Prop :=
  ∀ lf, of = some lf → ∃ lc, oc = some lc ∧ edgeSum (testSegment q) lc = edgeSum (testSegment q) lf

theorem contrib_refl (q : P K) (o : Option (List (P K × P K))) : Contrib q o o := fun lf hf => ⟨lf, hf, rfl⟩

/-- the early-out: segments inside a range that the row of `q` misses contribute nothing -/
theorem contrib_skip {q : P K} {r : K × K} {of : Option (List (P K × P K))} (hs : skipRange q r = true)
    (hc : ∀ lf, of = some lf → ∀ e ∈ lf, (r.1 ≤ e.1.y ∧ e.1.y ≤ r.2) ∧ (r.1 ≤ e.2.y ∧ e.2.y ≤ r.2)) :
    Contrib q (some []) of := fun lf hf =>
  ⟨[], rfl, (edgeSum_eq_zero _ fun e he => testSegment_outside_range q e.1 e.2 _ _ (hc lf hf e he).1
    (hc lf hf e he).2 ((skipRange_iff q r).mp hs)).symm⟩

/-- the shape of `subEdgesC`/`subEdgesFlat` and of `pathEdgesC`/`pathEdgesFlat` at a `cons` -/
theorem contrib_append {q : P K} {c1 f1 c2 f2 : Option (List (P K × P K))} :
    Contrib q c1 f1 → Contrib q c2 f2 →
      Contrib q (match c1, c2 with | some a, some b => some (a ++ b) | _, _ => none)
        (match f1, f2 with | some a, some b => some (a ++ b) | _, _ => none) := by
  intro h1 h2 lf hf
  cases f1 with
  | none => simp at hf
  | some a =>
    cases f2 with
    | none => simp at hf
    | some b =>
      obtain ⟨a', rfl, ha⟩ := h1 a rfl
      obtain ⟨b', rfl, hb⟩ := h2 b rfl
      rw [Option.some.injEq] at hf
      exact ⟨a' ++ b', rfl, by rw [← hf, edgeSum_append, edgeSum_append, ha, hb]⟩

theorem segEdges_contrib (q : P K) (tol : K) (cur : P K) (s : CSeg K) (hc : ConservativeSeg tol cur s) :
    Contrib q (segEdges q tol cur s) (segEdgesFlat tol cur s) := by
  cases s with
  | line t => exact contrib_refl q _
  | quad c t | cubic c1 c2 t =>
    simp only [segEdges]
    split
    · exact contrib_skip ‹_› hc
    · exact contrib_refl q _

theorem subEdges_contrib (q : P K) (tol : K) (first : P K) :
    ∀ (segs : List (CSeg K)) (cur : P K), ConservativeSegs tol cur segs →
      Contrib q (subEdgesC q tol first cur segs) (subEdgesFlat tol first cur segs)
  | [], _, _ => contrib_refl q _
  | s :: r, cur, hc => contrib_append (segEdges_contrib q tol cur s hc.1) (subEdges_contrib q tol first r s.to hc.2)

theorem pathEdges_contrib (q : P K) (tol : K) :
    ∀ (path : List (CSub K)), Conservative tol path → Contrib q (pathEdgesC q tol path) (pathEdgesFlat tol path)
  | [], _ => contrib_refl q _
  | s :: r, hc => contrib_append (subEdges_contrib q tol s.first s.segs s.first (hc s List.mem_cons_self))
      (pathEdges_contrib q tol r fun s' hs' => hc s' (List.mem_cons_of_mem _ hs'))

/-- **The curved hit test is the polygonal hit test of the flattened outline.**  Whenever the
flattening of the path does not panic and every curve's bounding-range early-out is conservative,
`path_winding_number_at_position` on the curved path returns the winding number of the flattened
outline, and so do both fill rules of `hit_test_path`: the early-out never changes the result. -/
theorem hit_test_curved_is_flattened (q : P K) (tol : K) (path : List (CSub K)) (hc : Conservative tol path)
    (lf : List (P K × P K)) (hf : pathEdgesFlat tol path = some lf) :
    windingAtC q tol path = some (windingAt q lf) ∧
    ∀ evenOdd, hitTestC evenOdd q tol path = hitTestFlat evenOdd q tol path := by
  obtain ⟨lc, hlc, hcc⟩ := pathEdges_contrib q tol path hc lf hf
  have hw : windingAtC q tol path = some (windingAt q lf) := by
    simp only [windingAtC, hlc, Option.map_some, windingAt_eq_sum, hcc]
  refine ⟨hw, fun eo => ?_⟩
  simp only [hitTestC, hw, hitTestFlat, hf, Option.map_some]

/-- non-vacuity: a path without curve events is conservative (nothing is ever skipped) -/
example (tol : K) (a b c : P K) : Conservative tol [⟨a, [.line b, .line c]⟩] := by
  intro s hs
  simp only [List.mem_singleton] at hs
  subst hs
  refine ⟨?_, ?_, trivial⟩ <;>
  · intro lf hlf e he
    simp only [segEdgesFlat, Option.some.injEq] at hlf
    subst hlf
    simp only [List.mem_singleton] at he
    subst he
    simp [segRangeY]

end curved

end Lyon.C18
