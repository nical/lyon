/-
  C09: the convex-hull checker is monotone in its radius (so the driver's bucket search is minimal), and the
  exact checker for flattened arcs is sound.

  * `chk_hull_mono`, `chk_hull_quad_mono`, `chk_hull_cubic_mono`: the convex-hull checker is monotone in
    the squared radius `r2` — so the driver's search for the least accepted factor
    (`Drive/FlatChkIO.lean hullBucket`: `find?` over the increasing factors) returns the MINIMAL one and
    every larger factor is accepted as well (`bucket_search_minimal`).
  * `chk_arc_sound(_rat)`: the exact, trigonometry-free checker for flattened ARCS
    (Model/Geom/FlattenCertArc.lean): the ellipse is `A(unit circle)`, `A(p) = center + Rot(c,s)(rx·p.x,
    ry·p.y)` with `c² + s² = 1` exactly; acceptance ⟹ the emitted segments are chained exactly with
    strictly increasing parameter ranges from 0 to 1, every emitted vertex is within `eps` of the
    ellipse point `A(advice)` (`arc_advice_on_ellipse`: which satisfies the implicit equation), and
    EVERY ellipse point `A(Q)`, `Q` a unit vector in the cone of the two advice points of a segment (the
    short arc between them), is within `kt + eps` of that emitted segment (`kt` is a free number; the driver
    passes `kt = k·tol + eps`, so its accepted verdict means within `k·tol + 2·eps`). The `_rat` form states
    the last clause only.
-/
import LyonVerif.Lemmas.FlattenFrame
import LyonVerif.Props.C09c

set_option linter.unusedSectionVars false
set_option linter.unusedVariables false

namespace Lyon.C09
open Lyon Scalar Lyon.Flat Lyon.FlatChk Lyon.ArcChk

attribute [-instance] Lyon.instScalarRat

variable {K : Type} [Field K] [LinearOrder K] [IsStrictOrderedRing K]

theorem pts_near_mono (pts : List (P K)) (r2 r3 : K) (h : r2 ≤ r3) (sg : FlatSeg K)
    (hp : ptsNear pts r2 sg = true) : ptsNear pts r3 sg = true := by
  simp only [ptsNear, List.all_eq_true, decide_eq_true_eq] at hp ⊢
  exact fun p hpm => le_trans (hp p hpm) h

theorem chord_hull_mono (ctrl : K → K → List (P K)) (r2 r3 : K) (h : r2 ≤ r3) (ms : List Nat)
    (cands : List (FlatSeg K)) (sg : FlatSeg K) (hp : chordHullOK ctrl r2 ms cands sg = true) :
    chordHullOK ctrl r3 ms cands sg = true := by
  simp only [chordHullOK, rangeCovered, List.any_eq_true, List.all_eq_true, Bool.and_eq_true,
    decide_eq_true_eq, List.mem_range] at hp ⊢
  obtain ⟨m, hm, hpos, hcov⟩ := hp
  refine ⟨m, hm, hpos, ?_⟩
  intro j hj
  obtain ⟨c, hc, hn⟩ := hcov j hj
  exact ⟨c, hc, pts_near_mono _ r2 r3 h c hn⟩

theorem hull_all_mono (ctrl : K → K → List (P K)) (r2 r3 : K) (h : r2 ≤ r3) (ms : List Nat) (w : Nat)
    (all l : List (FlatSeg K)) (i : Nat) (hp : hullAll ctrl r2 ms w all l i = true) :
    hullAll ctrl r3 ms w all l i = true := by
  induction l generalizing i with
  | nil => rfl
  | cons sg r ih =>
    simp only [hullAll, Bool.and_eq_true] at hp ⊢
    exact ⟨chord_hull_mono ctrl r2 r3 h ms _ sg hp.1, ih (i + 1) hp.2⟩

/-- acceptance with `r2` implies acceptance with every larger `r3`. -/
theorem chk_hull_mono (sample : K → P K) (ctrl : K → K → List (P K)) (p0 p1 : P K) (r2 r3 : K) (h : r2 ≤ r3)
    (ms : List Nat) (w : Nat) (l : List (FlatSeg K)) (hp : chkHull sample ctrl p0 p1 r2 ms w l = true) :
    chkHull sample ctrl p0 p1 r3 ms w l = true := by
  simp only [chkHull, Bool.and_eq_true] at hp ⊢
  refine ⟨⟨hp.1.1, ?_⟩, hull_all_mono ctrl r2 r3 h ms w l l 0 hp.2⟩
  have hv := hp.1.2
  simp only [vtxNear, List.all_eq_true, decide_eq_true_eq] at hv ⊢
  exact fun sg hsg => le_trans (hv sg hsg) h

theorem chk_hull_quad_mono (q : Quad K) (r2 r3 : K) (h : r2 ≤ r3) (ms : List Nat) (w : Nat) (l : List (FlatSeg K))
    (hp : chkHullQuad q r2 ms w l = true) : chkHullQuad q r3 ms w l = true :=
  chk_hull_mono _ _ _ _ r2 r3 h ms w l hp

theorem chk_hull_cubic_mono (c : Cubic K) (r2 r3 : K) (h : r2 ≤ r3) (ms : List Nat) (w : Nat) (l : List (FlatSeg K))
    (hp : chkHullCubic c r2 ms w l = true) : chkHullCubic c r3 ms w l = true :=
  chk_hull_mono _ _ _ _ r2 r3 h ms w l hp

/-- the driver's search `(List.range n).find? (fun b => accept (r b))` over
squared radii `r` increasing in the index: the index found is accepted, no smaller index is, and — by
monotonicity of the checker — every larger index is accepted too. -/
theorem bucket_search_minimal (accept : K → Bool) (hmono : ∀ a b : K, a ≤ b → accept a = true → accept b = true)
    (r : Nat → K) (hr : ∀ i j : Nat, i ≤ j → r i ≤ r j) (n b : Nat)
    (h : (List.range n).find? (fun i => accept (r i)) = some b) :
    accept (r b) = true ∧ (∀ j : Nat, j < b → accept (r j) = false) ∧ (∀ j : Nat, b ≤ j → accept (r j) = true) := by
  obtain ⟨h1, _, hlt⟩ := List.find?_range_eq_some.mp h
  exact ⟨h1, fun j hj => by simpa using hlt j hj, fun j hj => hmono _ _ (hr b j hj) h1⟩

/-- non-vacuity of `bucket_search_minimal` / `chk_hull_mono`: a threshold test is monotone -/
example : (∀ a b : ℚ, a ≤ b → decide ((3 : ℚ) ≤ a) = true → decide ((3 : ℚ) ≤ b) = true)
    ∧ (List.range 6).find? (fun (i : Nat) => decide ((3 : ℚ) ≤ ((i : ℚ) + 1))) = some 2 := by
  refine ⟨fun a b h ha => by simp only [decide_eq_true_eq] at ha ⊢; linarith, ?_⟩
  simp only [List.range, List.range.loop, List.find?]
  norm_num

/-- if `chkArc f R kt eps p0 pe l` accepts (the driver passes `kt = k·tol + eps`, Drive/FlatChkIO.lean) then the segments are
chained exactly from `(p0, 0)` to `(pe, 1)` with strictly increasing ranges, every emitted end point is
within `eps` of the image of its advice point (a point of the ellipse), and for every segment EVERY
point `A(Q)` of the ellipse with `Q` a unit vector in the cone spanned by the segment's advice points
(`ν·Q = λ·pa + μ·pb`, `λ, μ ≥ 0`, `ν > 0`: the short arc between them) is within `kt + eps` of the
emitted segment. The checker's sagitta test `|pb − pa|² ≤ 4τ(2 − τ)`, `τ = min(kt/R, 1)`, is what
`unit_cone_sagitta` asks for (why it is the exact test: `sagitta_test_exact` below). That consecutive segments
have the same advice point (`adviceChain`) is tested by the checker and not used here. -/
theorem chk_arc_sound (f : Frame K) (R kt eps : K) (p0 pe : P K) (l : List (ArcSeg K))
    (h : chkArc f R kt eps p0 pe l = true) :
    (l ≠ [] ∧ Chain p0 0 (l.map (·.sg)) ∧ lastPt p0 (l.map (·.sg)) = pe ∧ lastT 0 (l.map (·.sg)) = 1
      ∧ ∀ x ∈ l, 0 ≤ x.sg.t0 ∧ x.sg.t0 < x.sg.t1 ∧ x.sg.t1 ≤ 1)
    ∧ (∀ x ∈ l, x.pa.sqLen = 1 ∧ x.pb.sqLen = 1 ∧ (x.sg.a - f.map x.pa).sqLen ≤ eps * eps
        ∧ (x.sg.b - f.map x.pb).sqLen ≤ eps * eps)
    ∧ ∀ x ∈ l, ∀ (Q : P K) (lam mu nu : K), Q.sqLen = 1 → 0 ≤ lam → 0 ≤ mu → 0 < nu →
        nu * Q.x = lam * x.pa.x + mu * x.pb.x → nu * Q.y = lam * x.pa.y + mu * x.pb.y →
        ∃ s : K, 0 ≤ s ∧ s ≤ 1 ∧ (f.map Q - x.sg.a.lerp x.sg.b s).sqLen ≤ (kt + eps) * (kt + eps) := by
  simp only [chkArc, Bool.and_eq_true, decide_eq_true_eq, sc_zero, sc_one, sc_beq, List.all_eq_true] at h
  obtain ⟨⟨⟨⟨⟨⟨⟨⟨he, hkt⟩, hR⟩, hrx⟩, hry⟩, hcs⟩, hch⟩, _⟩, hall⟩ := h
  obtain ⟨hne, hchain, hlp, hlt, hrange⟩ := chainOK_range p0 0 pe 1 _ hch
  have hseg : ∀ x ∈ l, x.pa.sqLen = 1 ∧ x.pb.sqLen = 1 ∧ (x.sg.a - f.map x.pa).sqLen ≤ eps * eps
      ∧ (x.sg.b - f.map x.pb).sqLen ≤ eps * eps
      ∧ (x.pb - x.pa).sqLen ≤ 4 * tau R kt * (2 - tau R kt) := by
    intro x hx
    have := hall x hx
    simp only [segOK, Bool.and_eq_true, decide_eq_true_eq, sc_beq, sc_one, sc_four, sc_two] at this
    exact ⟨this.1.1.1.1, this.1.1.1.2, this.1.1.2, this.1.2, this.2⟩
  refine ⟨⟨fun hnil => hne (by rw [hnil]; rfl), hchain, hlp, hlt,
    fun x hx => hrange _ (List.mem_map.mpr ⟨x, hx, rfl⟩)⟩, ?_, ?_⟩
  · intro x hx
    obtain ⟨a, b, c, d, _⟩ := hseg x hx
    exact ⟨a, b, c, d⟩
  · intro x hx Q lam mu nu hq hl hm hn hxx hyy
    obtain ⟨ha1, hb1, hva, hvb, hL⟩ := hseg x hx
    -- τ = min(kt/R, 1): 0 ≤ τ ≤ 1 and R·τ ≤ kt
    have hτ : 0 ≤ tau R kt ∧ tau R kt ≤ 1 ∧ R * tau R kt ≤ kt := by
      simp only [tau, sc_one]
      split_ifs with hle
      · refine ⟨div_nonneg hkt (le_of_lt hR), by rw [div_le_one hR]; exact hle, ?_⟩
        rw [mul_div_cancel₀ _ (ne_of_gt hR)]
      · exact ⟨zero_le_one, le_refl _, by rw [mul_one]; exact le_of_lt (not_le.mp hle)⟩
    obtain ⟨s, hs0, hs1, hd⟩ := unit_cone_sagitta x.pa x.pb Q lam mu nu (tau R kt) ha1 hb1 hq hl hm hn hxx hyy
      hτ.1 hτ.2.1 hL
    refine ⟨s, hs0, hs1, ?_⟩
    have h1 : (f.map Q - (f.map x.pa).lerp (f.map x.pb) s).sqLen ≤ kt * kt := by
      refine le_trans (frame_map_near f R hcs hrx hry Q x.pa x.pb s) ?_
      have hRτ0 : 0 ≤ R * tau R kt := mul_nonneg (le_of_lt hR) hτ.1
      calc R * R * (Q - x.pa.lerp x.pb s).sqLen ≤ R * R * (tau R kt * tau R kt) :=
            mul_le_mul_of_nonneg_left hd (mul_self_nonneg R)
        _ = (R * tau R kt) * (R * tau R kt) := by ring
        _ ≤ kt * kt := mul_self_le_mul_self hRτ0 hτ.2.2
    exact sq_dist_triangle _ _ _ kt eps hkt he h1
      (lerp_shift (f.map x.pa) (f.map x.pb) x.sg.a x.sg.b (eps * eps) s hs0 hs1 hva hvb)

/-- the advice points supplied as half-angle tangents are on the unit circle, and their images satisfy
the implicit equation of the ellipse in the arc's frame -/
theorem arc_advice_on_ellipse (f : Frame K) (hc : f.c * f.c + f.s * f.s = 1) (hrx : f.rx ≠ 0) (hry : f.ry ≠ 0)
    (u : K) (flip : Bool) :
    (unitPt u flip).sqLen = 1
    ∧ ((f.c * ((f.map (unitPt u flip)).x - f.center.x) + f.s * ((f.map (unitPt u flip)).y - f.center.y)) / f.rx) ^ 2
      + ((-f.s * ((f.map (unitPt u flip)).x - f.center.x) + f.c * ((f.map (unitPt u flip)).y - f.center.y)) / f.ry) ^ 2 = 1 :=
  ⟨unit_pt_on_circle u flip, frame_map_on_ellipse f hc hrx hry _ (unit_pt_on_circle u flip)⟩

/-- the sagitta test is the exact one for a circle: for unit vectors `P0, P1` and `0 ≤ τ ≤ 1` the
middle of the chord is at distance `√(1 − L²/4)` from the centre, and `L² ≤ 4τ(2−τ)` says exactly that
this is at least `1 − τ` -/
theorem sagitta_test_exact (L2 τ : K) (ht0 : 0 ≤ τ) (ht1 : τ ≤ 1) :
    L2 ≤ 4 * τ * (2 - τ) ↔ (1 - τ) * (1 - τ) ≤ 1 - L2 / 4 := by
  constructor <;> intro h
  · linear_combination (1 / 4 : K) * h
  · linear_combination 4 * h

theorem chk_arc_sound_rat (f : Frame ℚ) (R kt eps : ℚ) (p0 pe : P ℚ) (l : List (ArcSeg ℚ))
    (h : @chkArc ℚ instScalarRat f R kt eps p0 pe l = true) :
    ∀ x ∈ l, ∀ (Q : P ℚ) (lam mu nu : ℚ), Q.sqLen = 1 → 0 ≤ lam → 0 ≤ mu → 0 < nu →
        nu * Q.x = lam * x.pa.x + mu * x.pb.x → nu * Q.y = lam * x.pa.y + mu * x.pb.y →
        ∃ s : ℚ, 0 ≤ s ∧ s ≤ 1 ∧ (f.map Q - x.sg.a.lerp x.sg.b s).sqLen ≤ (kt + eps) * (kt + eps) := by
  rw [ratScalar_eq_fieldScalar_c09] at h
  exact (chk_arc_sound f R kt eps p0 pe l h).2.2

/-- non-vacuity: the arc of the circle of radius 5 around the origin from `(5,0)` to `(3,4)` emitted as ONE
chord, advice points `(1,0)` and `(3/5,4/5)` (`L² = 4/5`), `kt = 1` (`τ = 1/5`, `4τ(2−τ) = 36/25`), `eps = 0`:
accepted; the example after it is a unit vector in the cone of the advice points, `Q = (4/5,3/5)` with
`5·Q = 7/4·(1,0) + 15/4·(3/5,4/5)`: an instance of the hypotheses about `Q` -/
example : chkArc (⟨⟨0,0⟩, 5, 5, 1, 0⟩ : Frame ℚ) 5 1 0 ⟨5,0⟩ ⟨3,4⟩
    [⟨⟨⟨5,0⟩,⟨3,4⟩,0,1⟩, ⟨1,0⟩, ⟨3/5,4/5⟩⟩] = true := by
  decide +kernel

example : ((⟨4/5,3/5⟩ : P ℚ).sqLen = 1) ∧ (0:ℚ) ≤ 7/4 ∧ (0:ℚ) ≤ 15/4 ∧ (0:ℚ) < 5
    ∧ (5:ℚ) * (4/5) = 7/4 * 1 + 15/4 * (3/5) ∧ (5:ℚ) * (3/5) = 7/4 * 0 + 15/4 * (4/5) := by
  simp only [P.sqLen]; norm_num

end Lyon.C09
