/-
  C05c — index validity and per-vertex data of the COMPLETE stroker model `Lyon.Stroke.Full`
  (`Model/Tess/StrokeFull.lean`: every `add_stroke_vertex` and every `add_triangle` of
  `StrokeBuilderImpl`, in emission order; tied bit-exactly to lyon through the `full` / `fulle`
  families of the C05 check, whose drivers call `tessellateFw` / `tessellateIds`, i.e. `runEvents`).

  The statements are about `(runEvents e store evs).st.out`: the output recorded so far for EVERY
  outcome (also when a flattening loop panicked: the output up to that event), for every event list
  (any order of begin / line_to / quadratic / cubic / end(close); the path iterator's contract
  "begin first" is not assumed), every `StrokeOptions` record (no `miter_limit ≥ 1`, no positivity).

  `VSteps C o o'` (`Lemmas/StrokeFull.lean`): `o'` is reached from `o` by `add_stroke_vertex` and
  `add_triangle` calls in which every triangle has three pairwise distinct ids that have been handed
  out.  `Out` keeps vertices and triangles in two lists, so this says what was appended, not in which
  order (`VSteps.exists_grow`; `mesh_of_vsteps` is its reading for a whole run).  In particular
  `VertexId::INVALID` (`u32::MAX`, the default of `SidePoints::{prev,next}_vertex`) never reaches
  `add_triangle`.

  The id logic of stroke.rs is NOT purely discrete.  Two places rely on arithmetic
  (`Lemmas/StrokeIdxInv.lean`, `Reg`):
    (R1) fixed width: `fixed_width_step_impl` ignores `flattened_step`'s "skip this join" answer and
         goes on to connect the join's vertex ids — which `flattened_step` did not assign when it
         answered "skip".  Valid ids need: in fixed-width mode `flattened_step` never answers skip.
    (R2) variable width: a skipped join is dropped from the window (`replace_last`); `close` later
         relies on the first two kept points not being within merge distance of each other.  Needs:
         the point that replaces a skipped join is not within merge distance of the point before.
  Both hold in exact arithmetic, (R1) by a symmetry argument that `MiterClip` joins break.  Hence:

    * `stroke_indices_valid_of_reg`   any scalar type, given (R1), (R2) as hypotheses (`Reg`)
    * `stroke_indices_valid_polyline` any scalar type (floats included), no hypothesis: polylines
                                      (all joins, caps, miter limits, fixed / variable width)
    * `stroke_indices_valid_variable` any scalar type, variable width, curves: given `SkipApart`
    * `stroke_indices_valid_partial`  ordered fields, ALL events, all options EXCEPT the combination
                                      fixed width + `LineJoin::MiterClip` (+ curves; polylines with
                                      MiterClip are covered by the polyline theorem)
  Further sections: the finished mesh, the entry points the tie drives, per-vertex data
  (`stroke_vertex_sides_partial`, `stroke_mesh_partial`); side labels at the emission sites;
  counts and shapes (`stroke_polyline_vertex_count`, `stroke_polyline_triangle_count`,
  `closed_subpath_no_caps`, single-point and zero-length sub-paths); interpolated attributes with
  lyon's cached buffer (`stroke_attributes_consistent`: every vertex, empty caps included, after /repo fix
  f1c9127a of finding C05-empty-cap-stale-attributes); non-vacuity examples and kernel-evaluated instances.

  `VertexOK e store ids s hw` (`Lemmas/StrokeIdxCls.lean`) is what every emitted vertex satisfies:
  its source names an endpoint / an edge between two endpoint ids of the input, its half width is
  the source's (own or interpolated width), and is `line_width * 0.5` when the width is fixed.
-/
import LyonVerif.Lemmas.StrokeIdxCls
import LyonVerif.Lemmas.StrokeIdxField
import LyonVerif.Lemmas.StrokeIdxCount
import LyonVerif.Lemmas.StrokeIdxTris
import LyonVerif.Lemmas.StrokeAttrs
import LyonVerif.Lemmas.StrokePoly

set_option linter.unusedSectionVars false

namespace Lyon.C05c
open Lyon Scalar Lyon.Stroke Lyon.Stroke.Full Lyon.C05 Lyon.C05b

section Mesh
variable {α : Type} {C : Src α → α → Prop}

/-- a run of valid emissions from the empty output: ids are positions in the vertex list, every
triangle has three distinct valid ids, every vertex is of the class, and `VertexId::INVALID` is
not used as long as ids fit `u32` at all -/
theorem mesh_of_vsteps {o : Out α} (h : VSteps C (Out.empty 0) o) :
    o.nextId = o.verts.length
    ∧ (∀ t ∈ o.tris, Tri.Distinct t ∧ Tri.Below t o.verts.length)
    ∧ (∀ d ∈ o.verts, C d.src d.halfWidth)
    ∧ (o.verts.length ≤ unset → ∀ t ∈ o.tris, t.1 ≠ unset ∧ t.2.1 ≠ unset ∧ t.2.2 ≠ unset) := by
  obtain ⟨vs, ts, rfl, hv, ht⟩ := VSteps.exists_grow h
  simp only [Out.grow, Out.empty, Nat.zero_add, List.nil_append] at ht ⊢
  refine ⟨trivial, ht, hv, fun hle t htm => ?_⟩
  obtain ⟨_, h1, h2, h3⟩ := ht t htm
  exact ⟨by omega, by omega, by omega⟩

end Mesh

section Generic
variable {α : Type} [Scalar α] [Transc α] [Asin α] [FlatConst α]

/-- **General form** (any scalar type).  If the scalar arithmetic is regular for the environment
(`Reg`: (R1), (R2) of the header) and the events feed endpoints of the class `c` (`EvOK`), then the
output of the stroker is valid (`VSteps`): every triangle refers to three distinct vertices of the
output; every vertex carries a `(source, half width)` pair of the class. -/
theorem stroke_indices_valid_of_reg {e : Env α} {c : Cls α} {G : P α → P α → P α → Prop}
    (hreg : Reg e c G) (store : Nat → List α) {K : Nat → Prop} (hk : K unset)
    (evs : List (IdEv α)) (hev : ∀ ev ∈ evs, EvOK e store c K ev) :
    VSteps c.C (Out.empty 0) (runEvents e store evs).st.out :=
  (runEvents_spec hreg store hk evs hev).steps

/-- **Polylines, every scalar type** (floats included), no hypothesis: for every sequence of
begin / line_to / end(close) events, all joins, caps, miter limits, tolerances, fixed and variable
width, the emission sequence is valid; every vertex is `VertexOK`. -/
theorem stroke_indices_valid_polyline (e : Env α) (store : Nat → List α) (evs : List (IdEv α))
    (hp : IsPolyline evs) :
    VSteps (VertexOK e store (evIds evs)) (Out.empty 0) (runEvents e store evs).st.out :=
  stroke_indices_valid_of_reg (reg_polyline e _ (fun _ _ h => h)) store (K := fun id => id ∈ evIds evs ∨ id = unset)
    (Or.inr rfl) evs (evOK_std e store evs (fun f _ => f = false) (fun _ _ h => h) rfl (Or.inr hp))

/-- **Variable width, every scalar type**, all events (curves included): the only arithmetic fact
needed is `SkipApart` for the merge threshold. -/
theorem stroke_indices_valid_variable (e : Env α) (store : Nat → List α) (evs : List (IdEv α))
    (hvw : e.o.varWidth = true) (hap : SkipApart e.thr) :
    VSteps (VertexOK e store (evIds evs)) (Out.empty 0) (runEvents e store evs).st.out :=
  stroke_indices_valid_of_reg (reg_variable e _ hvw hap) store
    (K := fun id => id ∈ evIds evs ∨ id = unset) (Or.inr rfl) evs
    (evOK_std e store evs (fun _ _ => True) (fun _ _ h => h) trivial (Or.inl fun _ => trivial))

end Generic

section Field
variable {K : Type} [Field K] [LinearOrder K] [IsStrictOrderedRing K] [Transc K] [Asin K] [FlatConst K]

/-- **Ordered fields (exact arithmetic), ALL event sequences** (lines, quadratics, cubics, open /
closed / empty / single-point / repeated-point sub-paths, events in any order), all caps, miter
limits, tolerances, attribute stores; variable width with every join, fixed width with `Miter`,
`Round`, `Bevel` joins.  `sqrt`, `sin`, `cos`, `asin`, `acos`, `is_nan`, the curve flattening and the
line intersection are arbitrary functions: no law is assumed.

`_partial`: the combination fixed width + `LineJoin::MiterClip` is missing (for polylines it is
covered by `stroke_indices_valid_polyline`); `stroke_indices_valid_of_reg` reduces it to (R1). -/
theorem stroke_indices_valid_partial (e : Env K) (store : Nat → List K) (evs : List (IdEv K))
    (h : e.o.varWidth = true ∨ e.o.join ≠ .miterClip) :
    VSteps (VertexOK e store (evIds evs)) (Out.empty 0) (runEvents e store evs).st.out := by
  rcases Bool.eq_false_or_eq_true e.o.varWidth with hvw | hvw
  · exact stroke_indices_valid_variable e store evs hvw (skipApart_field e.thr)
  · have hj : e.o.join ≠ .miterClip := h.resolve_left (hvw ▸ Bool.false_ne_true)
    exact stroke_indices_valid_of_reg (reg_field_fixed e _ (fun _ _ h => h) hvw) store
      (K := fun id => id ∈ evIds evs ∨ id = unset) (Or.inr rfl) evs
      (evOK_std e store evs NoClip noClip_miter hj (Or.inl fun _ => hj))

end Field

section Entry
variable {α : Type} [Scalar α] [Transc α] [Asin α] [FlatConst α]

theorem tessellateIds_out {e : Env α} {store : Nat → List α} {evs : List (IdEv α)} {out : Out α}
    (h : tessellateIds e store evs = some out) : out = (runEvents e store evs).st.out := by
  unfold tessellateIds at h
  simp only [] at h
  split_ifs at h
  simp only [Option.some.injEq] at h
  exact h.symm

/-- no curve events (path events of `StrokeTessellator::tessellate`) -/
def IsPolylineP (evs : List (PathEv α)) : Prop :=
  ∀ ev ∈ evs, match ev with
    | .quad _ _ => False
    | .cubic _ _ _ => False
    | _ => True

theorem assignIds_polyline : ∀ (evs : List (PathEv α)) (n : Nat), IsPolylineP evs → IsPolyline (assignIds evs n) := by
  intro evs
  induction evs with
  | nil => intro n _ ev hev; simp [assignIds] at hev
  | cons x xs ih =>
    intro n hp ev hev
    have hx := hp x (by simp)
    have hxs : IsPolylineP xs := fun ev hev => hp ev (by simp [hev])
    cases x with
    | quad c p => exact absurd hx (by simp)
    | cubic c1 c2 p => exact absurd hx (by simp)
    | _ =>
      -- `begin`, `line`, `end`: the head stays an event of the same kind
      simp only [assignIds, List.mem_cons] at hev
      rcases hev with rfl | hev
      · trivial
      · exact ih _ hxs ev hev

/-- **`stroke_indices_valid` for the public entry point `StrokeTessellator::tessellate`** (what the
`full` family of the tie calls) on polylines, every scalar type: whatever it returns is a valid
emission sequence. -/
theorem stroke_indices_valid_tessellate_polyline (e : Env α) (evs : List (PathEv α)) (hp : IsPolylineP evs)
    (out : Out α) (h : tessellateFw e evs = some out) :
    VSteps (VertexOK { e with o := { e.o with varWidth := false } } (fun _ => []) (evIds (assignIds evs 0)))
      (Out.empty 0) out := by
  unfold tessellateFw at h
  rw [tessellateIds_out h]
  exact stroke_indices_valid_polyline _ _ _ (assignIds_polyline evs 0 hp)

/-- on polylines no flattening loop runs, so the entry points never report a panic: the hypothesis
`tessellateIds … = some out` of the entry-point theorems holds for every polyline -/
theorem tessellateIds_polyline_some (e : Env α) (store : Nat → List α) (evs : List (IdEv α))
    (hp : IsPolyline evs) : tessellateIds e store evs = some (runEvents e store evs).st.out := by
  have hpk : (runEvents e store evs).panicked = false :=
    foldl_inv (fun r : Run α => r.panicked = false) _ evs _ rfl fun r h ev hev => by
      show (if r.panicked = true then r else runEvent e store r ev).panicked = false
      rw [if_neg (by simp [h])]
      have := hp ev hev
      cases ev with
      | begin id p => exact h
      | line id p => exact h
      | quad c id p => exact absurd this (by simp)
      | cubic c1 c2 id p => exact absurd this (by simp)
      | end_ cl => exact h
  unfold tessellateIds
  simp [hpk]

/-- the same for `tessellate_with_ids` / the `StrokeBuilder` interface (`fulle` family), fixed or
variable width -/
theorem stroke_indices_valid_tessellateIds_polyline (e : Env α) (store : Nat → List α) (evs : List (IdEv α))
    (hp : IsPolyline evs) (out : Out α) (h : tessellateIds e store evs = some out) :
    VSteps (VertexOK e store (evIds evs)) (Out.empty 0) out := by
  rw [tessellateIds_out h]
  exact stroke_indices_valid_polyline e store evs hp

/-- **per-vertex data and the finished mesh, polylines, every scalar type.**  Ids are positions
in the vertex list; every triangle has three distinct valid ids; no `VertexId::INVALID`; every
vertex's source names an endpoint of the input (`SrcOK`), its half width is that endpoint's
(`HwOK`; `line_width * 0.5` with a fixed width), its `position` accessor is
`position_on_path + normal * half_width` and its `line_width` accessor `half_width * 2`.

`_partial`: the normal and the advancement of a vertex are numeric and not covered; the side label is
covered at the emission sites (`join_base_vertices_sides`, `flattened_step_sides`: the ids stored for a
side point to vertices labelled with that side), not as a geometric statement (which side of the path
a vertex lies on: oracle clause `stroke/side`). -/
theorem stroke_vertex_sides_partial (e : Env α) (store : Nat → List α) (evs : List (IdEv α))
    (hp : IsPolyline evs) :
    let o := (runEvents e store evs).st.out
    o.nextId = o.verts.length
    ∧ (∀ t ∈ o.tris, Tri.Distinct t ∧ Tri.Below t o.verts.length)
    ∧ (o.verts.length ≤ unset → ∀ t ∈ o.tris, t.1 ≠ unset ∧ t.2.1 ≠ unset ∧ t.2.2 ≠ unset)
    ∧ ∀ d ∈ o.verts, VertexOK e store (evIds evs) d.src d.halfWidth
        ∧ d.read.position = d.positionOnPath + d.normal.smul d.halfWidth
        ∧ d.read.lineWidth = d.halfWidth * two
        ∧ d.read.src = d.src := by
  obtain ⟨a, b, c, d⟩ := mesh_of_vsteps (stroke_indices_valid_polyline e store evs hp)
  exact ⟨a, b, d, fun v hv => ⟨c v hv, rfl, rfl, rfl⟩⟩

end Entry

section FieldMesh
variable {K : Type} [Field K] [LinearOrder K] [IsStrictOrderedRing K] [Transc K] [Asin K] [FlatConst K]

/-- the finished mesh and the per-vertex data over an ordered field, all events (see
`stroke_indices_valid_partial` for the one excluded option combination) -/
theorem stroke_mesh_partial (e : Env K) (store : Nat → List K) (evs : List (IdEv K))
    (h : e.o.varWidth = true ∨ e.o.join ≠ .miterClip) :
    let o := (runEvents e store evs).st.out
    o.nextId = o.verts.length
    ∧ (∀ t ∈ o.tris, Tri.Distinct t ∧ Tri.Below t o.verts.length)
    ∧ (o.verts.length ≤ unset → ∀ t ∈ o.tris, t.1 ≠ unset ∧ t.2.1 ≠ unset ∧ t.2.2 ≠ unset)
    ∧ ∀ d ∈ o.verts, VertexOK e store (evIds evs) d.src d.halfWidth
        ∧ d.read.position = d.positionOnPath + d.normal.smul d.halfWidth := by
  obtain ⟨a, b, c, d⟩ := mesh_of_vsteps (stroke_indices_valid_partial e store evs h)
  exact ⟨a, b, d, fun v hv => ⟨c v hv, rfl⟩⟩

/-- whatever `tessellate_with_ids` returns over an ordered field is a valid emission sequence -/
theorem stroke_indices_valid_tessellateIds_partial (e : Env K) (store : Nat → List K) (evs : List (IdEv K))
    (h : e.o.varWidth = true ∨ e.o.join ≠ .miterClip) (out : Out K) (ho : tessellateIds e store evs = some out) :
    VSteps (VertexOK e store (evIds evs)) (Out.empty 0) out := by
  rw [tessellateIds_out ho]
  exact stroke_indices_valid_partial e store evs h

end FieldMesh

section Sides
variable {α : Type} [Scalar α] [Transc α]

/-- **side labels as assigned**: the two `add_join_base_vertices` calls of a step emit a block of
vertices labelled `Side::Negative` followed by a block labelled `Side::Positive`, and the ids the
join stores for its negative / positive side (`side_points[s].{prev,next}_vertex`, the ids
`add_edge_triangles` and `tessellate_join` connect) point into the block with the matching label —
for every join state, every scalar type -/
theorem join_base_vertices_sides (j : EP α) (d : VData α) (o : Out α) :
    ∃ nb pb : List (VData α),
      (baseVertices j d o).2.verts = o.verts ++ nb ++ pb
      ∧ (∀ v ∈ nb, v.side = Side.negative) ∧ (∀ v ∈ pb, v.side = Side.positive)
      ∧ o.nextId ≤ (baseVertices j d o).1.neg.prevVertex
      ∧ (baseVertices j d o).1.neg.prevVertex ≤ (baseVertices j d o).1.neg.nextVertex
      ∧ (baseVertices j d o).1.neg.nextVertex < o.nextId + nb.length
      ∧ o.nextId + nb.length ≤ (baseVertices j d o).1.pos.prevVertex
      ∧ (baseVertices j d o).1.pos.prevVertex ≤ (baseVertices j d o).1.pos.nextVertex
      ∧ (baseVertices j d o).1.pos.nextVertex < o.nextId + nb.length + pb.length := by
  have hn := sideVerts_length j.toJoin j.neg { d with side := .negative }
  have hp := sideVerts_length j.toJoin j.pos { d with side := .positive }
  refine ⟨sideVerts j.toJoin j.neg { d with side := .negative }, sideVerts j.toJoin j.pos { d with side := .positive }, ?_⟩
  rw [baseVertices_eq]
  refine ⟨(List.append_assoc _ _ _).symm, fun v hv => by obtain ⟨n, rfl⟩ := sideVerts_mem hv; rfl,
    fun v hv => by obtain ⟨n, rfl⟩ := sideVerts_mem hv; rfl, ?_⟩
  dsimp only
  split_ifs at hn hp <;> omega

/-- the same for the fast path of a flattened curve: `flattened_step` emits the positive vertex, then
the negative one, and stores their ids on the matching sides -/
theorem flattened_step_sides (prev join next : EP α) (d : VData α) (o : Out α)
    (h : (flattenedStep prev join next d o).skip = false) :
    ∃ vp vn : VData α, (flattenedStep prev join next d o).out.verts = o.verts ++ [vp, vn]
      ∧ vp.side = Side.positive ∧ vn.side = Side.negative
      ∧ (flattenedStep prev join next d o).join.pos.prevVertex = o.nextId
      ∧ (flattenedStep prev join next d o).join.pos.nextVertex = o.nextId
      ∧ (flattenedStep prev join next d o).join.neg.prevVertex = o.nextId + 1
      ∧ (flattenedStep prev join next d o).join.neg.nextVertex = o.nextId + 1 := by
  obtain ⟨jAdv, nAdv, p0, p1, nrm, c, dc, e⟩ := flattenedStep_shape prev join next d o
  rw [e] at h ⊢
  by_cases hc : c
  · rw [if_pos hc] at h; simp at h
  · rw [if_neg hc]
    exact ⟨{ d with advancement := jAdv, normal := nrm, side := .positive },
      { d with advancement := jAdv, normal := -nrm, side := .negative },
      by simp [Out.addVertex], rfl, rfl, rfl, rfl, rfl, rfl⟩

end Sides

section Counts
variable {α : Type} [Scalar α] [Transc α] [Asin α] [FlatConst α]

/-- **vertex count of an open polyline.**  Fixed line width; a sub-path
`begin p0, line_to p1, line_to …, end(false)` with `n ≥ 2` points none of which is merged
(`NoMerge`: consecutive points are not within the merge threshold); join kind Miter, MiterClip or
Bevel; butt or square caps.  The stroker emits exactly

    `4 + Σ over the n-2 interior joins of (4 if the join folds | 2 if its miter is kept | 3 otherwise)`

vertices: 2 + 2 at the two ends (a butt / square cap adds no vertex of its own), per join the inner
(back) vertex and one or two outer vertices, or 2 + 2 when the join folds back on itself
(`joinVertsFw` reads the decisions off `compute_join_side_positions_fixed_width`). -/
theorem stroke_polyline_vertex_count (e : Env α) (store : Nat → List α) (hfw : e.o.varWidth = false)
    (hj : e.o.join ≠ .round) (hs : e.o.startCap ≠ .round) (he : e.o.endCap ≠ .round)
    (i0 i1 : Nat) (p0 p1 : P α) (rest : List (Nat × P α))
    (hm : NoMerge e.thr (p0 :: p1 :: rest.map (·.2))) :
    (runEvents e store (IdEv.begin i0 p0 :: IdEv.line i1 p1 :: (lineEvs rest ++ [IdEv.end_ false]))).st.out.verts.length
      = 4 + joinCostFw e (p0 :: p1 :: rest.map (·.2)) :=
  polyline_vertex_count e store hfw hj hs he i0 i1 p0 p1 rest hm

/-- **triangle count of an open polyline.**  Under the hypotheses of
`stroke_polyline_vertex_count` and if no join folds (`NoFoldFw`), the stroke is a triangle strip:
two triangles per edge and one more per join whose miter is not kept, i.e.

    `triangles = vertices - 2 = 2 + Σ over the joins of (2 if the miter is kept | 3 otherwise)`
                `= 2·(n - 1) + #{joins whose miter is not kept}`. -/
theorem stroke_polyline_triangle_count (e : Env α) (store : Nat → List α) (hfw : e.o.varWidth = false)
    (hj : e.o.join ≠ .round) (hs : e.o.startCap ≠ .round) (he : e.o.endCap ≠ .round)
    (i0 i1 : Nat) (p0 p1 : P α) (rest : List (Nat × P α))
    (hm : NoMerge e.thr (p0 :: p1 :: rest.map (·.2))) (hnf : NoFoldFw e (p0 :: p1 :: rest.map (·.2))) :
    (runEvents e store (IdEv.begin i0 p0 :: IdEv.line i1 p1 :: (lineEvs rest ++ [IdEv.end_ false]))).st.out.tris.length
      = 2 + joinCostFw e (p0 :: p1 :: rest.map (·.2)) := by
  have h1 := polyline_euler e store hfw hj hs he i0 i1 p0 p1 rest hm hnf
  have h2 := stroke_polyline_vertex_count e store hfw hj hs he i0 i1 p0 p1 rest hm
  omega

/-- bounds: between 2 and 4 vertices per interior join -/
theorem joinCostFw_bounds (e : Env α) : ∀ pts : List (P α),
    2 * (pts.length - 2) ≤ joinCostFw e pts ∧ joinCostFw e pts ≤ 4 * (pts.length - 2)
  | [] => by simp [joinCostFw]
  | [_] => by simp [joinCostFw]
  | [_, _] => by simp [joinCostFw]
  | a :: b :: c :: rest => by
    have ih := joinCostFw_bounds e (b :: c :: rest)
    have hr := joinVertsFw_range e a b c
    simp only [joinCostFw, List.length_cons] at ih ⊢
    omega

/-- a single segment (`n = 2`): exactly the 4 end vertices, whatever the (non-round) caps -/
theorem stroke_segment_vertex_count (e : Env α) (store : Nat → List α) (hfw : e.o.varWidth = false)
    (hj : e.o.join ≠ .round) (hs : e.o.startCap ≠ .round) (he : e.o.endCap ≠ .round)
    (i0 i1 : Nat) (p0 p1 : P α) (hm : pointsAreTooClose e.thr p0 p1 = false) :
    (runEvents e store [IdEv.begin i0 p0, IdEv.line i1 p1, IdEv.end_ false]).st.out.verts.length = 4 := by
  have := stroke_polyline_vertex_count e store hfw hj hs he i0 i1 p0 p1 [] ⟨hm, trivial⟩
  simpa [lineEvs, joinCostFw] using this

/-- **closed sub-paths produce no caps**: `end(true)` on a full window (at least three kept points)
is `close`, which does not look at the cap options at all — the same state closed under any two
option records gives the same result (`tessellate_last_edge`, `tessellate_first_edge`,
`tessellate_empty_cap` are not reached) -/
theorem closed_subpath_no_caps (e e' : Env α) (step : StepFn α) (st : St α) (h3 : st.buf.count > 2) :
    endSub e step st true = endSub e' step st true
    ∧ (endSub e step st true).out = (close step { st with mayNeedEmptyCap := st.mayNeedEmptyCap || (true && st.buf.count == 1) }).out := by
  have h1 : (st.mayNeedEmptyCap || (true && st.buf.count == 1)) = st.mayNeedEmptyCap := by
    rw [beq_false_of_ne (by omega : st.buf.count ≠ 1)]; simp
  rw [h1, endSub_closed e step st h3, endSub_closed e' step st h3]
  exact ⟨rfl, rfl⟩

/-- `begin i p, end(closed)` at the start of a tessellation is `endSub` on the one-point window that `begin` leaves -/
theorem single_point_run (e : Env α) (store : Nat → List α) (i : Nat) (p : P α) (closed : Bool) :
    ∃ st1 : St α, (runEvents e store [IdEv.begin i p, IdEv.end_ closed]).st = endSub e e.step st1 closed
      ∧ runFrom e store ⟨St.new, unset, nanP, false⟩ [IdEv.begin i p] = ⟨st1, i, p, false⟩ ∧ st1.buf.count = 1
      ∧ st1.buf.last = some (EP.mk' p (e.hwOf store i) zero e.o.join (.endpoint i) false)
      ∧ st1.out = Out.empty 0 ∧ st1.mayNeedEmptyCap = false := by
  obtain ⟨st1, e1, _, hc1, hl1, _, ho, hm⟩ := run_begin e store _ idle_new i p
  refine ⟨st1, ?_, e1, hc1, hl1, ho, hm⟩
  rw [runEvents_eq_runFrom, show [IdEv.begin i p, IdEv.end_ closed] = [IdEv.begin i p] ++ [IdEv.end_ closed] from rfl,
    runFrom_append, e1]
  rfl

/-- **a single-point open sub-path** (`begin p, end(false)`) emits nothing -/
theorem stroke_single_point_open (e : Env α) (store : Nat → List α) (i : Nat) (p : P α) :
    (runEvents e store [IdEv.begin i p, IdEv.end_ false]).st.out = Out.empty 0 := by
  obtain ⟨st1, h1, _, hc1, _, ho, hm⟩ := single_point_run e store i p false
  rw [h1, (endSub_one e _ hc1 false).1, hm, ho]; rfl

/-- **a single-point closed sub-path** (`begin p, end(true)`): `may_need_empty_cap` is set and the
documented empty cap is emitted — a square (4 vertices, 2 triangles) for `LineCap::Square`, a disc
fan for `LineCap::Round`, nothing for `LineCap::Butt` -/
theorem stroke_single_point_closed (e : Env α) (store : Nat → List α) (i : Nat) (p : P α) :
    (runEvents e store [IdEv.begin i p, IdEv.end_ true]).st.out
      = match e.o.startCap with
        | .square => tessellateEmptySquareCap p (baseVertex (.endpoint i) p (e.hwOf store i) zero) (Out.empty 0)
        | .round => tessellateEmptyRoundCap p e.o.tolerance (baseVertex (.endpoint i) p (e.hwOf store i) zero) (Out.empty 0)
        | .butt => Out.empty 0 := by
  obtain ⟨st1, h1, _, hc1, hl1, ho, _⟩ := single_point_run e store i p true
  rw [h1, (endSub_one e _ hc1 true).1, Bool.or_true, if_pos rfl]
  unfold emptyCap
  rw [get_zero_of_last hc1, hl1, ho]
  cases e.o.startCap <;> rfl

/-- the square empty cap: 4 vertices and 2 triangles -/
theorem stroke_single_point_closed_square (e : Env α) (store : Nat → List α) (i : Nat) (p : P α)
    (hc : e.o.startCap = .square) :
    (runEvents e store [IdEv.begin i p, IdEv.end_ true]).st.out.verts.length = 4
    ∧ (runEvents e store [IdEv.begin i p, IdEv.end_ true]).st.out.tris = [(0, 1, 2), (0, 2, 3)] := by
  rw [stroke_single_point_closed, hc]
  simp [tessellateEmptySquareCap, Out.empty, Out.addVertex, Out.addTri]

/-- **a zero-length segment** (`begin p, line_to q, end(false)` with `q` within the merge threshold of
`p`): the second point is merged, `may_need_empty_cap` is set, and `end` emits the same empty cap as
for a closed single point -/
theorem stroke_zero_length_segment (e : Env α) (store : Nat → List α) (i j : Nat) (p q : P α)
    (hq : pointsAreTooClose e.thr p q = true) :
    (runEvents e store [IdEv.begin i p, IdEv.line j q, IdEv.end_ false]).st.out
      = (runEvents e store [IdEv.begin i p, IdEv.end_ true]).st.out := by
  obtain ⟨st1, h2, e1, hc1, hl1, _, _⟩ := single_point_run e store i p true
  rw [h2, (endSub_one e _ hc1 true).1, Bool.or_true, if_pos rfl]
  -- the merged `line_to` only sets the flag
  have h1 : (runEvents e store [IdEv.begin i p, IdEv.line j q, IdEv.end_ false]).st
      = endSub e e.step { st1 with mayNeedEmptyCap := st1.mayNeedEmptyCap || st1.buf.count == 1 } false := by
    rw [runEvents_eq_runFrom, show [IdEv.begin i p, IdEv.line j q, IdEv.end_ false]
      = [IdEv.begin i p] ++ [IdEv.line j q, IdEv.end_ false] from rfl, runFrom_append, e1]
    show endSub e e.step (e.step st1 (EP.mk' q (e.hwOf store j) nan e.o.join (.endpoint j) false)).1 false = _
    rw [step_merged_eq e st1 _ (by rw [tooClose_eq hl1]; exact hq)]
  rw [h1, (endSub_one e _ (st := { st1 with mayNeedEmptyCap := st1.mayNeedEmptyCap || st1.buf.count == 1 }) hc1 false).1]
  simp only [hc1, beq_self_eq_true, Bool.or_true, Bool.or_false, if_true]
  rfl

end Counts

section Attrs
variable {α : Type} [Scalar α]

/-- a vertex read through an invalid cache reports the attributes of its source (as does one whose emission site
reset `buffer_is_valid`: `attrCache_read_reset`, `Lemmas/StrokeAttrs.lean`) -/
theorem attrCache_read_invalid (buf : List α) (store : Nat → List α) (reset : Bool) (s : Src α) :
    ((⟨false, buf⟩ : AttrCache α).read store reset s).1 = interpolatedAttributes store s := by
  unfold AttrCache.read
  cases s <;> cases reset <;> simp [interpolatedAttributes]

/-- a second read of the same source WITHOUT a reset in between (a later vertex of the same emission
site) returns the same attributes: resetting once per site is the same as resetting per vertex -/
theorem attrCache_read_again (c : AttrCache α) (store : Nat → List α) (s : Src α) :
    ((c.read store true s).2.read store false s).1 = interpolatedAttributes store s := by
  unfold AttrCache.read
  cases s <;> simp [interpolatedAttributes]

/-- **attributes are consistent, for EVERY vertex** (empty caps included, since /repo fix f1c9127a):
the sequence of attribute lists the vertex constructor reads is, vertex by vertex, the attributes
of the vertex's source — the endpoint's own, or the two endpoints' interpolated at `t` -/
theorem stroke_attributes_consistent (store : Nat → List α) :
    ∀ (verts : List (VData α)) (c : AttrCache α),
      attrsSeq store verts c = verts.map (fun d => interpolatedAttributes store d.src) :=
  attrsSeq_eq_map store

/-- the same, vertex by vertex -/
theorem stroke_attributes_consistent_get (store : Nat → List α) (verts : List (VData α)) (c : AttrCache α)
    (i : Nat) (d : VData α) (h : verts[i]? = some d) :
    (attrsSeq store verts c)[i]? = some (interpolatedAttributes store d.src) := by
  rw [stroke_attributes_consistent, List.getElem?_map, h]; rfl

/- Witness of the defect that /repo commit f1c9127a repairs (finding `C05-empty-cap-stale-attributes`): without that
   commit `tessellate_empty_cap` does not reset the cache, i.e. its vertices are read with `reset = false`.
   With `store 3 = [1]`, `store 4 = [2]`, `store 5 = [7]`, an edge vertex `Edge{3,4,t=1/2}` followed by
   an empty-cap vertex with source `Endpoint 5`:
     `(⟨false, []⟩.read store true (.edge 3 4 (1/2)))       = ([3/2], ⟨true, [3/2]⟩)`
     `(⟨true, [3/2]⟩.read store false (.endpoint 5)).1      = [3/2]`   -- stale, not `[7]`
   On lyon: thorough tier, seed 20260929, case 946223 (endpoint 5 reported 0.7478 instead of 1.7198). -/

end Attrs

section AttrsRun
variable {α : Type} [Scalar α] [Transc α] [Asin α] [FlatConst α]

/-- for the whole run: what the vertex constructor reads is the sources' attributes -/
theorem stroke_run_attributes (e : Env α) (store : Nat → List α) (evs : List (IdEv α)) :
    runAttrs e store evs
      = (runEvents e store evs).st.out.verts.map (fun d => interpolatedAttributes store d.src) :=
  stroke_attributes_consistent store _ _

end AttrsRun

section Examples
variable {α : Type} [Scalar α] [Transc α] [Asin α] [FlatConst α]

/-- hypothesis of `stroke_indices_valid_polyline` -/
example (p q r : P α) : IsPolyline [IdEv.begin 0 p, .line 1 q, .line 2 r, .end_ true] := by
  intro ev hev
  simp only [List.mem_cons, List.mem_nil_iff, or_false] at hev
  rcases hev with rfl | rfl | rfl | rfl <;> trivial

/-- hypothesis of `mesh_of_vsteps` -/
example : VSteps (fun (_ : Src α) (_ : α) => True) (Out.empty 0) (Out.empty 0) := VSteps.refl _

/-- hypotheses of `stroke_indices_valid_of_reg` (`Reg`, `EvOK`): the polyline instance -/
example (e : Env α) (store : Nat → List α) (p q : P α) :
    Reg e (stdCls e store (evIds [IdEv.begin 0 p, .line 1 q, .end_ false]) (fun f _ => f = false) (fun _ _ h => h))
      (fun _ _ _ => True)
    ∧ ∀ ev ∈ [IdEv.begin 0 p, .line 1 q, .end_ false],
        EvOK e store (stdCls e store (evIds [IdEv.begin 0 p, .line 1 q, .end_ false]) (fun f _ => f = false) (fun _ _ h => h))
          (fun id => id ∈ evIds [IdEv.begin 0 p, .line 1 q, .end_ false] ∨ id = unset) ev :=
  ⟨reg_polyline _ _ (fun _ _ h => h), evOK_std e store _ _ _ rfl (Or.inr (by
    intro ev hev
    simp only [List.mem_cons, List.mem_nil_iff, or_false] at hev
    rcases hev with rfl | rfl | rfl <;> trivial))⟩

end Examples

section ExamplesQ
open Lyon.C05b (toyTransc)
attribute [local instance] toyTransc

/-- toy instances so that the kernel can run the complete model on rationals (`asin` and the
flattening constants are not reached on polylines) -/
@[instance_reducible] noncomputable def toyAsin : Asin ℚ := ⟨id⟩
@[instance_reducible] noncomputable def toyFlat : FlatConst ℚ := ⟨1 / 10000, fun m e => (m : ℚ) / 10 ^ e, 1 / 5⟩
attribute [local instance] toyAsin toyFlat

/-- hypothesis `SkipApart` of `stroke_indices_valid_variable`: holds for every threshold over `ℚ` -/
example (thr : ℚ) : SkipApart thr := skipApart_field thr

noncomputable def exOpts (j : LineJoin) (vw : Bool) : Opts ℚ := ⟨1 / 10, 1, 4, j, .butt, .butt, vw, 0⟩
noncomputable def exEnv (j : LineJoin) (vw : Bool) : Env ℚ := Env.new (exOpts j vw) (fun _ _ _ _ => none)

/-- hypothesis of `stroke_indices_valid_partial` / `stroke_mesh_partial` -/
example : (exEnv .bevel false).o.varWidth = true ∨ (exEnv .bevel false).o.join ≠ .miterClip :=
  Or.inr (by decide)
example : (exEnv .miterClip true).o.varWidth = true ∨ (exEnv .miterClip true).o.join ≠ .miterClip :=
  Or.inl rfl

theorem exPoly_noMerge : NoMerge (exEnv .bevel false).thr [⟨0, 0⟩, ⟨10, 0⟩, ⟨10, 10⟩] := by decide +kernel

/-- hypotheses of `stroke_polyline_vertex_count` (`NoMerge`, non-round join and caps) on the
right-angle polyline; the join keeps neither a fold nor a miter: 3 vertices -/
example : NoMerge (exEnv .bevel false).thr [⟨0, 0⟩, ⟨10, 0⟩, ⟨10, 10⟩] := exPoly_noMerge

example : (exEnv .bevel false).o.join ≠ .round ∧ (exEnv .bevel false).o.startCap ≠ .round
    ∧ (exEnv .bevel false).o.endCap ≠ .round := by decide

example : joinCostFw (exEnv .bevel false) [⟨0, 0⟩, ⟨10, 0⟩, ⟨10, 10⟩] = 3
    ∧ joinCostFw (exEnv .miter false) [⟨0, 0⟩, ⟨10, 0⟩, ⟨10, 10⟩] = 2
    ∧ joinCostFw (exEnv .bevel false) [⟨0, 0⟩, ⟨10, 0⟩, ⟨0, 0⟩] = 4 := by
  decide +kernel

/-- … so the theorem gives `4 + 3 = 7` vertices, as the kernel computed above -/
example : (runEvents (exEnv .bevel false) (fun _ => [])
    (IdEv.begin 0 ⟨0, 0⟩ :: IdEv.line 1 ⟨10, 0⟩ :: (lineEvs [(2, ⟨10, 10⟩)] ++ [IdEv.end_ false]))).st.out.verts.length = 7 := by
  rw [stroke_polyline_vertex_count _ _ rfl (by decide) (by decide) (by decide)]
  · decide +kernel
  · exact exPoly_noMerge

/-- hypothesis `NoFoldFw` of `stroke_polyline_triangle_count`: the right-angle join does not fold;
the theorem then gives `2 + 3 = 5` triangles, as the kernel computes below -/
example : NoFoldFw (exEnv .bevel false) [⟨0, 0⟩, ⟨10, 0⟩, ⟨10, 10⟩] := by
  refine ⟨?_, trivial⟩
  unfold noFoldAt
  decide +kernel

/-- hypothesis of `flattened_step_sides` (the join is not skipped) on a straight flattened step -/
example : (flattenedStep (EP.mk' (⟨0, 0⟩ : P ℚ) 1 0 .miter (.endpoint 0) false)
    (EP.mk' ⟨10, 0⟩ 1 0 .miter (.edge 0 1 (1 / 2)) true) (EP.mk' ⟨20, 0⟩ 1 0 .miter (.endpoint 1) false)
    (baseVertex (.edge 0 1 (1 / 2)) ⟨10, 0⟩ 1 0) (Out.empty 0)).skip = false := by
  decide +kernel

/-- hypothesis of `stroke_zero_length_segment`: a point within the merge threshold -/
example : pointsAreTooClose (exEnv .bevel false).thr ⟨0, 0⟩ ⟨1 / 1000, 0⟩ = true := by decide +kernel

/-- hypothesis of `closed_subpath_no_caps`: a full window -/
example : (runEvents (exEnv .bevel false) (fun _ => [])
    [.begin 0 ⟨0, 0⟩, .line 1 ⟨10, 0⟩, .line 2 ⟨10, 10⟩]).st.buf.count > 2 := by
  decide +kernel

/-- the complete model run by the kernel: an open right-angle polyline, fixed width 1, bevel join,
butt caps: 7 vertices (join: 1 inner + 2 outer; 2 + 2 at the ends), 5 triangles, all over valid ids
(the same input at `Float` gives the same lists: `#eval`) -/
example :
    (tessellateFw (exEnv .bevel false) [.begin ⟨0, 0⟩, .line ⟨10, 0⟩, .line ⟨10, 10⟩, .end_ false]).map
      (fun o => (o.verts.length, o.tris))
    = some (7, [(0, 2, 1), (1, 2, 3), (1, 3, 4), (6, 5, 2), (6, 2, 0)]) := by
  decide +kernel

/-- a closed square: no caps, 3 vertices per join and the two re-created vertices of `close` -/
example :
    (tessellateFw (exEnv .bevel false)
      [.begin ⟨0, 0⟩, .line ⟨10, 0⟩, .line ⟨10, 10⟩, .line ⟨0, 10⟩, .end_ true]).map
      (fun o => (o.verts.length, o.tris))
    = some (14, [(0, 2, 1), (1, 2, 5), (1, 5, 3), (3, 5, 4), (4, 5, 8), (4, 8, 6), (6, 8, 7), (7, 8, 11),
        (7, 11, 9), (9, 11, 10), (13, 12, 2), (13, 2, 0)]) := by
  decide +kernel

end ExamplesQ

end Lyon.C05c
