/-
  C09, part e — the VIOLATION certificate of the exact arc checker (`Lyon.ArcChk.arcViol`,
  Model/Geom/FlattenCertArc.lean): `chk_arc_violation_sound(_rat)`.

  The driver takes, for a chord that fails the sagitta test, the unit point `q` whose half-angle tangent
  is the mean of the two advice tangents; the checker verifies with exact rationals that `q` is on the
  unit circle, that it lies in the cone of the two advice points (cross products), and that the ellipse
  point `A(q)` is farther than `√r2` from EVERY emitted segment. Then `A(q)` is a point of the arc
  between the two advice points (a non-negative combination of them, the form `chk_arc_sound` covers)
  that is farther than `√r2` from the whole polyline: a certified failing input for `r2 = (tol + 2·eps)²`.
-/
import LyonVerif.Lemmas.FlattenFrame
import LyonVerif.Props.C09c


namespace Lyon.C09
open Lyon Scalar Lyon.Flat Lyon.FlatChk Lyon.ArcChk

attribute [-instance] Lyon.instScalarRat

variable {K : Type} [Field K] [LinearOrder K] [IsStrictOrderedRing K]

theorem in_cone_coeffs (p0 p1 q : P K) (h : inCone p0 p1 q = true) :
    ∃ lam mu : K, 0 ≤ lam ∧ 0 ≤ mu ∧ q.x = lam * p0.x + mu * p1.x ∧ q.y = lam * p0.y + mu * p1.y := by
  simp only [inCone, Bool.or_eq_true, Bool.and_eq_true, decide_eq_true_eq, sc_zero] at h
  -- Cramer's rule; numerators and denominator have the same sign in either case of the test
  obtain ⟨hd, hl, hm⟩ : p0.cross p1 ≠ 0 ∧ 0 ≤ q.cross p1 / p0.cross p1 ∧ 0 ≤ p0.cross q / p0.cross p1 := by
    rcases h with ⟨⟨h1, h2⟩, h3⟩ | ⟨⟨h1, h2⟩, h3⟩
    · exact ⟨h1.ne', div_nonneg h3 h1.le, div_nonneg h2 h1.le⟩
    · exact ⟨h1.ne, div_nonneg_of_nonpos h3 h1.le, div_nonneg_of_nonpos h2 h1.le⟩
  refine ⟨_, _, hl, hm, ?_, ?_⟩ <;>
    rw [div_mul_eq_mul_div, div_mul_eq_mul_div, ← add_div, eq_div_iff hd] <;>
    simp only [P.cross] <;> ring

/-- if `arcViol f r2 x q l` holds then `q` is a unit vector, a
non-negative combination of the advice points of the segment `x` (so `A(q)` is a point of the arc
between them — the points `chk_arc_sound` speaks about, with `ν = 1`), and `A(q)` is farther than `√r2`
from every point of every emitted segment. -/
theorem chk_arc_violation_sound (f : Frame K) (r2 : K) (x : ArcSeg K) (q : P K) (l : List (ArcSeg K))
    (h : arcViol f r2 x q l = true) :
    q.sqLen = 1
    ∧ (∃ lam mu : K, 0 ≤ lam ∧ 0 ≤ mu ∧ (1 : K) * q.x = lam * x.pa.x + mu * x.pb.x
        ∧ (1 : K) * q.y = lam * x.pa.y + mu * x.pb.y)
    ∧ ∀ y ∈ l, ∀ s : K, 0 ≤ s → s ≤ 1 → r2 < (f.map q - y.sg.a.lerp y.sg.b s).sqLen := by
  simp only [arcViol, Bool.and_eq_true, sc_beq, sc_one] at h
  obtain ⟨⟨hq, hc⟩, hf⟩ := h
  obtain ⟨lam, mu, hl, hm, hx, hy⟩ := in_cone_coeffs x.pa x.pb q hc
  refine ⟨hq, ⟨lam, mu, hl, hm, by rw [one_mul]; exact hx, by rw [one_mul]; exact hy⟩, ?_⟩
  intro y hy' s hs0 hs1
  exact far_from_sound (f.map q) r2 _ hf y.sg (List.mem_map.mpr ⟨y, hy', rfl⟩) s hs0 hs1

theorem chk_arc_violation_sound_rat (f : Frame ℚ) (r2 : ℚ) (x : ArcSeg ℚ) (q : P ℚ) (l : List (ArcSeg ℚ))
    (h : @arcViol ℚ instScalarRat f r2 x q l = true) :
    q.sqLen = 1
    ∧ (∃ lam mu : ℚ, 0 ≤ lam ∧ 0 ≤ mu ∧ (1 : ℚ) * q.x = lam * x.pa.x + mu * x.pb.x
        ∧ (1 : ℚ) * q.y = lam * x.pa.y + mu * x.pb.y)
    ∧ ∀ y ∈ l, ∀ s : ℚ, 0 ≤ s → s ≤ 1 → r2 < (f.map q - y.sg.a.lerp y.sg.b s).sqLen := by
  rw [ratScalar_eq_fieldScalar_c09] at h
  exact chk_arc_violation_sound f r2 x q l h

/-- the averaged half-angle tangent gives a unit point (whatever the tangents) -/
theorem mid_advice_on_circle (ua ub : K) (flip : Bool) : (unitPt ((ua + ub) / 2) flip).sqLen = 1 :=
  unit_pt_on_circle _ _

/-- non-vacuity: the circle of radius 5 around the origin, the quarter from `(5,0)` to `(0,5)`
emitted as ONE chord; `q = (3/5,4/5)` (half-angle tangent `1/2`, the mean of `0` and `1`) is in the cone
of `(1,0)` and `(0,1)`, and `A(q) = (3,4)` is farther than `1` from the chord (`|3+4−5|/√2 = √2`) -/
example : arcViol (⟨⟨0,0⟩, 5, 5, 1, 0⟩ : Frame ℚ) 1 ⟨⟨⟨5,0⟩,⟨0,5⟩,0,1⟩, ⟨1,0⟩, ⟨0,1⟩⟩
    (unitPt ((0 + 1) / 2) false) [⟨⟨⟨5,0⟩,⟨0,5⟩,0,1⟩, ⟨1,0⟩, ⟨0,1⟩⟩] = true := by
  decide +kernel

end Lyon.C09
