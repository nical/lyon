/-
  C12 — intersection queries are exact for segments and sound for curves.

  All statements are about the model functions of `Model/Geom/Intersect.lean` (the same `def`s
  the correspondence check runs at `Float32`/`Float` against lyon) instantiated at an arbitrary
  linearly ordered field `K`; `Float::signum` is instantiated by the sign function of the field
  (`Lemmas/IxField.lean`), lyon's `EPSILON`/`epsilon_for` and `sqrt`/`pow`/`acos`/`cos` are
  parameters whose laws are stated as hypotheses where used.
-/
import LyonVerif.Model.Geom.Intersect
import LyonVerif.Lemmas.IxField
import LyonVerif.Props.C10
import LyonVerif.Lemmas.Quadratic

geom_all Lyon.IxTri
geom_all Lyon.Quad
geom_all Lyon.LineEq
geom_all Lyon.Roots
geom_all Lyon.Cubic

set_option linter.unusedSectionVars false
set_option linter.unusedVariables false

namespace Lyon.C12
open Lyon Scalar Lyon.Ix
variable {K : Type} [Field K] [LinearOrder K] [IsStrictOrderedRing K]

/-- **Segment × segment, exact.**  `intersection_t` returns `(t, u)` iff none of the four endpoint
pairs coincide (the code's `==` tests), the segments are not parallel, both parameters are in the
closed unit interval (the code tests `t < 0 || t > |v1×v2|` on the undivided numerators, i.e.
non-strict bounds: touching at an endpoint of ONE segment counts) and they denote the same point. -/
theorem seg_intersection_iff (s o : Seg K) (t u : K) :
    s.intersectionT o = some (t, u) ↔
      ¬ (s.b = o.b ∨ s.a = o.a ∨ s.a = o.b ∨ s.b = o.a)
      ∧ s.toVector.cross o.toVector ≠ 0
      ∧ 0 ≤ t ∧ t ≤ 1 ∧ 0 ≤ u ∧ u ≤ 1
      ∧ s.sample t = o.sample u := by
  unfold Seg.intersectionT
  rw [Option.ite_none_left_eq_some, Option.ite_none_left_eq_some, Option.ite_none_left_eq_some,
    sharesEndpoint_iff, sc_beq_zero, Option.some.injEq, Prod.mk.injEq]
  refine and_congr_right fun _ => and_congr_right fun hd => ?_
  have hpos : 0 < |s.ixDet o| := abs_pos.mpr hd
  -- the code's test on the undivided numerators is the range test on the quotients, which are
  -- Cramer's solution of "same point"
  rw [sample_eq_iff s o t u hd, ← signed_div _ _ hd, ← signed_div _ _ hd, sc_zero_eq, sc_abs, ← or_assoc, not_or,
    range_iff _ _ hpos, range_iff _ _ hpos]
  constructor
  · rintro ⟨⟨⟨h1, h2⟩, h3, h4⟩, rfl, rfl⟩; exact ⟨h1, h2, h3, h4, rfl, rfl⟩
  · rintro ⟨h1, h2, h3, h4, rfl, rfl⟩; exact ⟨⟨⟨h1, h2⟩, h3, h4⟩, rfl, rfl⟩

theorem unit_diagonals_intersectionT :
    (⟨⟨0, 0⟩, ⟨1, 1⟩⟩ : Seg ℚ).intersectionT ⟨⟨0, 1⟩, ⟨1, 0⟩⟩ = some (1/2, 1/2) := by
  rw [seg_intersection_iff]
  refine ⟨by simp [P.mk.injEq], by simp only [geom]; norm_num, by norm_num, by norm_num, by norm_num, by norm_num, ?_⟩
  simp only [geom, P.mk.injEq]; norm_num

/-- non-vacuity: the crossing diagonals of the unit square -/
example : (⟨⟨0, 0⟩, ⟨1, 1⟩⟩ : Seg ℚ).intersectionT ⟨⟨0, 1⟩, ⟨1, 0⟩⟩ = some (1/2, 1/2) :=
  unit_diagonals_intersectionT

/-- the reported parameters are the only pair of parameters (in or out of range) at which the two
carrier lines meet: uniqueness of `(t, u)`. -/
theorem seg_intersection_unique (s o : Seg K) (t u t' u' : K)
    (h : s.intersectionT o = some (t, u)) (h' : s.sample t' = o.sample u') : t' = t ∧ u' = u := by
  obtain ⟨_, hd, _, _, _, _, hs⟩ := (seg_intersection_iff s o t u).mp h
  exact sample_eq_unique hd hs h'

/-- parallel (in particular collinear / overlapping) segments report none -/
theorem seg_parallel_none (s o : Seg K) (h : s.toVector.cross o.toVector = 0) :
    s.intersectionT o = none :=
  Option.eq_none_iff_forall_ne_some.mpr fun ⟨t, u⟩ hr => ((seg_intersection_iff s o t u).mp hr).2.1 h

/-- segments with a common endpoint report none (even when they also cross elsewhere, which for
non-parallel segments cannot happen) -/
theorem seg_shared_endpoint_none (s o : Seg K) (h : s.b = o.b ∨ s.a = o.a ∨ s.a = o.b ∨ s.b = o.a) :
    s.intersectionT o = none :=
  Option.eq_none_iff_forall_ne_some.mpr fun ⟨t, u⟩ hr => ((seg_intersection_iff s o t u).mp hr).1 h

/-- overlapping segments (two different parameter pairs denote common points) report none -/
theorem seg_overlap_none (s o : Seg K) (t u t' u' : K) (h1 : s.sample t = o.sample u)
    (h2 : s.sample t' = o.sample u') (hne : t ≠ t' ∨ u ≠ u') : s.intersectionT o = none :=
  Option.eq_none_iff_forall_ne_some.mpr fun ⟨t0, u0⟩ hr => by
    obtain ⟨a1, a2⟩ := seg_intersection_unique s o t0 u0 t u hr h1
    obtain ⟨b1, b2⟩ := seg_intersection_unique s o t0 u0 t' u' hr h2
    exact hne.elim (fun h => h (a1.trans b1.symm)) fun h => h (a2.trans b2.symm)

/-- non-vacuity of `seg_overlap_none`: `(0,0)–(2,0)` and `(1,0)–(3,0)` overlap on `[1,2]×{0}` -/
example : (⟨⟨0, 0⟩, ⟨2, 0⟩⟩ : Seg ℚ).sample (1/2) = (⟨⟨1, 0⟩, ⟨3, 0⟩⟩ : Seg ℚ).sample 0
    ∧ (⟨⟨0, 0⟩, ⟨2, 0⟩⟩ : Seg ℚ).sample 1 = (⟨⟨1, 0⟩, ⟨3, 0⟩⟩ : Seg ℚ).sample (1/2) ∧ (1/2 : ℚ) ≠ 1 := by
  refine ⟨?_, ?_, by norm_num⟩ <;> (simp only [geom, P.mk.injEq]; norm_num)

/-- `intersects` ⇔ some pair of parameters in `[0,1]²` denotes a common point, the segments are
not parallel and share no endpoint. -/
theorem seg_intersects_iff (s o : Seg K) :
    s.intersects o = true ↔
      ¬ (s.b = o.b ∨ s.a = o.a ∨ s.a = o.b ∨ s.b = o.a) ∧ s.toVector.cross o.toVector ≠ 0
      ∧ ∃ t u, 0 ≤ t ∧ t ≤ 1 ∧ 0 ≤ u ∧ u ≤ 1 ∧ s.sample t = o.sample u := by
  unfold Seg.intersects
  rw [Option.isSome_iff_exists]
  constructor
  · rintro ⟨⟨t, u⟩, h⟩
    obtain ⟨h1, h2, h3⟩ := (seg_intersection_iff s o t u).mp h
    exact ⟨h1, h2, t, u, h3⟩
  · rintro ⟨h1, h2, t, u, h3⟩
    exact ⟨(t, u), (seg_intersection_iff s o t u).mpr ⟨h1, h2, h3⟩⟩

/-- **The property's wording, literally**: two segments are reported as intersecting exactly when
they share no endpoint (the code's four `==` tests) and cross at a single point, i.e. exactly one
pair of parameters in `[0,1]²` denotes a common point.  (Parallel overlapping segments have
several such pairs or none; a unique common point of parallel segments is a common endpoint.) -/
theorem seg_intersects_iff_unique_crossing (s o : Seg K) :
    s.intersects o = true ↔
      ¬ (s.b = o.b ∨ s.a = o.a ∨ s.a = o.b ∨ s.b = o.a)
      ∧ ∃! p : K × K, 0 ≤ p.1 ∧ p.1 ≤ 1 ∧ 0 ≤ p.2 ∧ p.2 ≤ 1 ∧ s.sample p.1 = o.sample p.2 := by
  rw [seg_intersects_iff]
  constructor
  · rintro ⟨hsh, hd, t, u, h0, h1, h2, h3, hs⟩
    refine ⟨hsh, (t, u), ⟨h0, h1, h2, h3, hs⟩, ?_⟩
    rintro ⟨t', u'⟩ ⟨_, _, _, _, hs'⟩
    exact Prod.ext_iff.mpr (sample_eq_unique hd hs hs')
  · rintro ⟨hsh, ⟨t, u⟩, ⟨h0, h1, h2, h3, hs⟩, huniq⟩
    simp only at h0 h1 h2 h3 hs
    refine ⟨hsh, ?_, t, u, h0, h1, h2, h3, hs⟩
    intro hd
    have hx := congrArg P.x hs
    have hy := congrArg P.y hs
    simp only [geom, Nat.cast_one] at hx hy hd
    obtain ⟨s0, s1⟩ : s.sample 0 = s.a ∧ s.sample 1 = s.b := C10.lerp_ends s.a s.b
    obtain ⟨o0, o1⟩ : o.sample 0 = o.a ∧ o.sample 1 = o.b := C10.lerp_ends o.a o.b
    -- not at a corner of the parameter square: that would be a shared endpoint
    have hnc : ¬ ((t = 0 ∨ t = 1) ∧ (u = 0 ∨ u = 1)) := by
      rintro ⟨ht | ht, hu | hu⟩
      · rw [ht, hu, s0, o0] at hs; exact hsh (Or.inr (Or.inl hs))
      · rw [ht, hu, s0, o1] at hs; exact hsh (Or.inr (Or.inr (Or.inl hs)))
      · rw [ht, hu, s1, o0] at hs; exact hsh (Or.inr (Or.inr (Or.inr hs)))
      · rw [ht, hu, s1, o1] at hs; exact hsh (Or.inl hs)
    -- every solution in the square is `(t, u)`
    have second : ∀ t2 u2 : K, 0 ≤ t2 → t2 ≤ 1 → 0 ≤ u2 → u2 ≤ 1 → s.sample t2 = o.sample u2 →
        t2 = t ∧ u2 = u :=
      fun t2 u2 a1 a2 a3 a4 hs2 => Prod.mk.inj (huniq (t2, u2) ⟨a1, a2, a3, a4, hs2⟩)
    by_cases hv1 : s.a = s.b
    · -- `s` is a point: every parameter of `s` denotes it
      have hc : ∀ t2 : K, s.sample t2 = s.sample t := by
        intro t2; apply P.ext' <;> (simp only [geom, Nat.cast_one, hv1]; ring)
      have e0 := (second 0 u le_rfl zero_le_one h2 h3 ((hc 0).trans hs)).1
      have e1 := (second 1 u zero_le_one le_rfl h2 h3 ((hc 1).trans hs)).1
      exact zero_ne_one (e0.trans e1.symm)
    -- `s` proper and parallel to `o`: slide along the common direction
    have hn1 := sqLen_pos hv1
    set α := (s.b.x - s.a.x) * (o.b.x - o.a.x) + (s.b.y - s.a.y) * (o.b.y - o.a.y) with hα
    set β := (s.b.x - s.a.x) * (s.b.x - s.a.x) + (s.b.y - s.a.y) * (s.b.y - s.a.y) with hβ
    obtain ⟨ε, hε, b1, b2, b3, b4⟩ := exists_other t u α β hn1 h0 h1 h2 h3 hnc
    have hs2 : s.sample (t + ε * α) = o.sample (u + ε * β) := by
      apply P.ext' <;> simp only [geom, Nat.cast_one] <;> rw [hα, hβ]
      · linear_combination hx + (ε * (s.b.y - s.a.y)) * hd
      · linear_combination hy - (ε * (s.b.x - s.a.x)) * hd
    exact mul_ne_zero hε hn1.ne' (by linear_combination (second _ _ b1 b2 b3 b4 hs2).2)

/-- non-vacuity: the diagonals of the unit square cross exactly at `(1/2, 1/2)` and share no
endpoint -/
example : (⟨⟨0, 0⟩, ⟨1, 1⟩⟩ : Seg ℚ).intersects ⟨⟨0, 1⟩, ⟨1, 0⟩⟩ = true := by
  unfold Seg.intersects
  rw [unit_diagonals_intersectionT]; rfl

/-- `intersection` is the point at the reported parameter, and it lies on both segments -/
theorem seg_intersection_point (s o : Seg K) (p : P K) (h : s.intersection o = some p) :
    ∃ t u, s.intersectionT o = some (t, u) ∧ p = s.sample t ∧ p = o.sample u := by
  unfold Seg.intersection at h
  cases hr : s.intersectionT o with
  | none => rw [hr] at h; cases h
  | some r =>
    obtain ⟨t, u⟩ := r
    rw [hr] at h
    simp only [Option.some.injEq] at h
    refine ⟨t, u, rfl, h.symm, ?_⟩
    rw [← h]
    exact ((seg_intersection_iff s o t u).mp hr).2.2.2.2.2.2

/-- **`line_intersection_t` exact**: `some t` iff the segment is not parallel to the line, `t` is in
the closed unit interval and the point at `t` lies on the line. -/
theorem seg_line_intersection_iff (s : Seg K) (l : Line K) (t : K) :
    s.lineIntersectionT l = some t ↔
      s.toVector.cross l.vector ≠ 0 ∧ 0 ≤ t ∧ t ≤ 1 ∧ l.vector.cross (s.sample t - l.point) = 0 := by
  have e : l.vector.cross (s.sample t - l.point) = (l.point - s.a).cross l.vector - t * s.lineDet l := by
    simp only [geom, Nat.cast_one]; ring
  unfold Seg.lineIntersectionT
  rw [Option.ite_none_left_eq_some, Option.ite_none_left_eq_some, sc_beq_zero, Option.some.injEq]
  refine and_congr_right fun hd => ?_
  rw [e, sub_eq_zero, ← div_eq_iff hd, ← signed_div _ _ hd, sc_zero_eq, sc_abs, range_iff _ _ (abs_pos.mpr hd)]
  constructor
  · rintro ⟨⟨h1, h2⟩, rfl⟩; exact ⟨h1, h2, rfl⟩
  · rintro ⟨h1, h2, rfl⟩; exact ⟨⟨h1, h2⟩, rfl⟩

/-- non-vacuity: the segment (0,0)–(2,2) meets the vertical line x = 1 at t = 1/2 -/
example : (⟨⟨0, 0⟩, ⟨2, 2⟩⟩ : Seg ℚ).lineIntersectionT ⟨⟨1, 5⟩, ⟨0, 1⟩⟩ = some (1/2) := by
  rw [seg_line_intersection_iff]
  refine ⟨by simp only [geom]; norm_num, by norm_num, by norm_num, ?_⟩
  simp only [geom, Nat.cast_one]; norm_num

/-- **`Line::intersection` lies on both lines** (`cross(vector, p - point) = 0` for both), for any
non-negative `EPSILON`; it reports none exactly when `|det| ≤ EPSILON`. -/
theorem line_intersection_on_both [Eps K] (heps : (0:K) ≤ Eps.epsilon) (l o : Line K) (p : P K)
    (h : l.intersection o = some p) :
    l.vector.cross (p - l.point) = 0 ∧ o.vector.cross (p - o.point) = 0 := by
  unfold Line.intersection at h
  split at h
  · cases h
  · rename_i hdet
    simp only [Option.some.injEq] at h
    have hd : l.det o ≠ 0 := by
      intro h0
      apply hdet
      rw [h0, sc_abs, abs_zero]; exact heps
    have hd' : l.vector.x * o.vector.y - l.vector.y * o.vector.x ≠ 0 := by
      simpa only [geom] using hd
    subst h
    obtain ⟨Dinv, hD1, hD2⟩ := one_div_spec hd'
    simp only [geom, Nat.cast_one, hD1]
    constructor
    · linear_combination (l.vector.x * l.point.y - l.vector.y * l.point.x) * hD2
    · linear_combination (o.vector.x * o.point.y - o.vector.y * o.point.x) * hD2

/-- non-vacuity: lyon's `EPSILON` values (1e-4, 1e-8) are non-negative -/
example : (0:ℚ) ≤ 1 / 10000 := by norm_num

theorem line_intersection_none_iff [Eps K] (l o : Line K) :
    l.intersection o = none ↔ |l.vector.cross o.vector| ≤ Eps.epsilon := by
  unfold Line.intersection
  split
  · rename_i h; simpa [Line.det, sc_abs] using h
  · rename_i h; simpa [Line.det, sc_abs] using h

/-- **`contains_point` ⇔ strictly inside a non-degenerate triangle**: `p` is a convex combination
of the three vertices with strictly positive weights. -/
theorem triangle_contains_iff (t : IxTri K) (p : P K) :
    t.containsPoint p = true ↔
      t.det ≠ 0 ∧ ∃ wa wb wc : K, 0 < wa ∧ 0 < wb ∧ 0 < wc ∧ wa + wb + wc = 1
        ∧ p.x = wa * t.a.x + wb * t.b.x + wc * t.c.x ∧ p.y = wa * t.a.y + wb * t.b.y + wc * t.c.y := by
  unfold IxTri.containsPoint
  by_cases hd0 : (t.det == (Scalar.zero : K)) = true
  · have : t.det = 0 := (sc_beq_zero _).mp hd0
    rw [if_pos hd0]
    constructor
    · intro h; cases h
    · rintro ⟨h, _⟩; exact absurd this h
  · rw [if_neg hd0]
    have hd : t.det ≠ 0 := fun h => hd0 ((sc_beq_zero _).mpr h)
    simp only [Bool.and_eq_true, decide_eq_true_eq, sc_zero_eq, gt_iff_lt]
    have hd' : (t.b.x - t.a.x) * (t.c.y - t.a.y) - (t.b.y - t.a.y) * (t.c.x - t.a.x) ≠ 0 := by
      simpa only [geom] using hd
    obtain ⟨Dinv, hD1, hD2⟩ := one_div_spec hd'
    constructor
    · rintro ⟨⟨ha, hb⟩, hc⟩
      refine ⟨hd, t.baryC p, t.baryB p, t.baryA p, hc, hb, ha, ?_, ?_, ?_⟩
      · simp only [IxTri.baryC, geom, Nat.cast_one]; ring
      · simp only [IxTri.baryC, IxTri.baryA, IxTri.baryB, IxTri.det, geom, Nat.cast_one, hD1]
        linear_combination (-(p.x - t.a.x)) * hD2
      · simp only [IxTri.baryC, IxTri.baryA, IxTri.baryB, IxTri.det, geom, Nat.cast_one, hD1]
        linear_combination (-(p.y - t.a.y)) * hD2
    · rintro ⟨_, wa, wb, wc, ha, hb, hc, hsum, hx, hy⟩
      have hwa : wa = 1 - wb - wc := by linear_combination hsum
      have eA : t.baryA p = wc := by
        simp only [IxTri.baryA, IxTri.det, geom, Nat.cast_one, hx, hy, hwa, hD1]
        linear_combination wc * hD2
      have eB : t.baryB p = wb := by
        simp only [IxTri.baryB, IxTri.det, geom, Nat.cast_one, hx, hy, hwa, hD1]
        linear_combination wb * hD2
      have eC : t.baryC p = wa := by
        unfold IxTri.baryC
        rw [eA, eB]
        simp only [geom, Nat.cast_one]
        linear_combination -hsum
      rw [eA, eB, eC]
      exact ⟨⟨hc, hb⟩, ha⟩

example : (⟨⟨0, 0⟩, ⟨1, 0⟩, ⟨0, 1⟩⟩ : IxTri ℚ).containsPoint ⟨1/5, 1/5⟩ = true := by
  rw [triangle_contains_iff]
  refine ⟨by simp only [geom]; norm_num, 3/5, 1/5, 1/5, by norm_num, by norm_num, by norm_num, by norm_num, by norm_num, by norm_num⟩

/-! ### Quadratic Bézier × line

`sqrt` is a parameter; the laws used are hypotheses (`Real.sqrt` satisfies them). -/

section quad
variable [Transc K]

theorem inUnit_iff (t : K) : inUnit t = true ↔ 0 ≤ t ∧ t ≤ 1 := by
  unfold inUnit
  simp [Scalar.zero, Scalar.one]

/-- the polynomial the code solves is the (normalised) line equation evaluated along the curve -/
theorem quad_line_poly (q : Quad K) (e : LineEq K) (t : K) :
    q.liA e * t * t + q.liB e * t + q.liC e = e.a * (q.sample t).x + e.b * (q.sample t).y + e.c := by
  simp only [geom, Nat.cast_one, Nat.cast_ofNat]; ring

/-- the normalised equation vanishes exactly on the line, when `sqrt` of the (positive) squared
length of the direction is non-zero -/
theorem line_equation_iff (l : Line K) (p : P K)
    (hs : Transc.sqrt (-l.vector.y * -l.vector.y + l.vector.x * l.vector.x) ≠ 0) :
    l.equation.a * p.x + l.equation.b * p.y + l.equation.c = 0 ↔ l.vector.cross (p - l.point) = 0 := by
  obtain ⟨Dinv, hD1, hD2⟩ := one_div_spec hs
  simp only [geom, Nat.cast_one, hD1]
  constructor
  · intro h
    apply mul_left_cancel₀ (left_ne_zero_of_mul_eq_one hD2)
    linear_combination h
  · intro h
    linear_combination Dinv * h

/-- the argument of `sqrt` in `LineEquation::new` is positive for a non-zero direction -/
theorem dir_sqLen_pos {x y : K} (h : ¬ (x = 0 ∧ y = 0)) : 0 < -y * -y + x * x :=
  (add_nonneg (mul_self_nonneg _) (mul_self_nonneg _)).lt_of_ne' fun h0 =>
    h ⟨(mul_self_add_mul_self_eq_zero.mp h0).2, neg_eq_zero.mp (mul_self_add_mul_self_eq_zero.mp h0).1⟩

theorem qDelta_eq (a b c : K) : Quad.qDelta a b c = b * b - 4 * a * c := by
  simp only [geom, Nat.cast_ofNat]

/-- `r = sgn b · sqrt Δ` is a square root of the discriminant: `Quad.solve` computes the quadratic formula
with THIS `r` -/
theorem qR_sq (hsq : ∀ x : K, 0 ≤ x → Transc.sqrt x * Transc.sqrt x = x) (a b c : K)
    (hd : 0 ≤ Quad.qDelta a b c) :
    (Sgn.signum b * Transc.sqrt (Quad.qDelta a b c)) * (Sgn.signum b * Transc.sqrt (Quad.qDelta a b c))
      = b * b - 4 * a * c := by
  linear_combination (Transc.sqrt (Quad.qDelta a b c) * Transc.sqrt (Quad.qDelta a b c)) * sgn_sq b
    + hsq _ hd + qDelta_eq a b c

theorem qT1_eq (a b c : K) :
    Quad.qT1 a b c = (-b - Sgn.signum b * Transc.sqrt (Quad.qDelta a b c)) / (2 * a) := by
  unfold Quad.qT1
  simp only [geom, Nat.cast_ofNat]
  ring

/-- `t₂ = c/(a·t₁)` is the other value of the formula (Vieta: the two multiply to `c/a`) -/
theorem qT2_eq (hsq : ∀ x : K, 0 ≤ x → Transc.sqrt x * Transc.sqrt x = x) (a b c : K) (ha : a ≠ 0)
    (hd : 0 ≤ Quad.qDelta a b c) (h1 : Quad.qT1 a b c ≠ 0) :
    Quad.qT2 a b c = (-b + Sgn.signum b * Transc.sqrt (Quad.qDelta a b c)) / (2 * a) :=
  quadratic_second_root ha (qR_sq hsq a b c hd) (mul_ne_zero ha h1)
    (by rw [qT1_eq]; field_simp; ring)

theorem quad_root_iff (hsq : ∀ x : K, 0 ≤ x → Transc.sqrt x * Transc.sqrt x = x) (a b c t : K) (ha : a ≠ 0)
    (hd : 0 ≤ Quad.qDelta a b c) :
    a * t * t + b * t + c = 0 ↔ t = Quad.qT1 a b c
      ∨ t = (-b + Sgn.signum b * Transc.sqrt (Quad.qDelta a b c)) / (2 * a) :=
  qT1_eq a b c ▸ quadratic_roots_iff ha (qR_sq hsq a b c hd)

theorem mem_qPush (x y t : K) : t ∈ Quad.qPush x y ↔ inUnit t = true ∧ (t = x ∨ t = y) := by
  unfold Quad.qPush
  simp only [List.mem_append, List.mem_ite_nil_right, List.mem_singleton, Bool.and_eq_true,
    Bool.not_eq_true']
  constructor
  · rintro (⟨h, rfl⟩ | ⟨⟨h, _⟩, rfl⟩)
    exacts [⟨h, .inl rfl⟩, ⟨h, .inr rfl⟩]
  · rintro ⟨h, rfl | rfl⟩
    · exact .inl ⟨h, rfl⟩
    · by_cases e : x = t
      · exact .inl ⟨e ▸ h, e.symm⟩
      · exact .inr ⟨⟨h, Bool.eq_false_iff.mpr (mt (sc_beq x t).mp e)⟩, rfl⟩

/-- what the quadratic branch (`a ≠ 0`) returns: nothing for a negative discriminant; `t₁` alone if it
is zero (then `t₂ = c/(a·0)`); else those of `t₁`, `t₂ = c/(a t₁)` that lie in `[0,1]` -/
theorem mem_solve_quadratic (a b c t : K) (ha : a ≠ 0) :
    t ∈ Quad.solve a b c ↔ 0 ≤ Quad.qDelta a b c
      ∧ (if Quad.qT1 a b c = 0 then t = 0
         else inUnit t = true ∧ (t = Quad.qT1 a b c ∨ t = Quad.qT2 a b c)) := by
  unfold Quad.solve
  rw [if_neg (mt (sc_beq_zero a).mp ha), sc_zero_eq]
  by_cases hd : Quad.qDelta a b c ≥ 0
  · rw [if_pos hd, and_iff_right hd]
    by_cases h10 : Quad.qT1 a b c = 0
    · rw [if_pos ((sc_beq _ _).mpr h10), if_pos h10, List.mem_singleton, h10]
    · rw [if_neg (mt (sc_beq _ _).mp h10), if_neg h10]
      split_ifs
      · rw [mem_qPush, or_comm]
      · rw [mem_qPush]
  · rw [if_neg hd]
    exact ⟨fun h => absurd h List.not_mem_nil, fun h => absurd h.1 hd⟩

/-- **The linear branch (`a = 0`, `b ≠ 0`)**: the single candidate is `-c / b`, the solution of
`b·t + c = 0`; it is returned iff it lies in `[0,1]`. -/
theorem quad_solve_linear (b c : K) (hb : b ≠ 0) :
    Quad.solve 0 b c = if 0 ≤ -c / b ∧ -c / b ≤ 1 then [-c / b] else [] := by
  unfold Quad.solve
  rw [if_pos ((sc_beq_zero _).mpr rfl), if_neg (mt (sc_beq_zero b).mp hb)]
  simp only [inUnit_iff]

/-- degenerate branch `a = 0`, `b = 0` (the curve's distance to the line is constant: it misses
the line or lies inside it — no isolated crossing exists): nothing is returned -/
theorem quad_solve_degenerate (c : K) : Quad.solve 0 0 c = [] := by
  unfold Quad.solve
  have h0 : ((0:K) == (Scalar.zero : K)) = true := (sc_beq_zero _).mpr rfl
  rw [if_pos h0, if_pos h0]

/-- soundness of the root computation, quadratic branch (`a ≠ 0`) -/
theorem quad_solve_sound_quadratic (hsq : ∀ x : K, 0 ≤ x → Transc.sqrt x * Transc.sqrt x = x) (a b c : K)
    (ha : a ≠ 0) (t : K) (ht : t ∈ Quad.solve a b c) :
    0 ≤ t ∧ t ≤ 1 ∧ a * t * t + b * t + c = 0 := by
  obtain ⟨hd, h⟩ := (mem_solve_quadratic a b c t ha).mp ht
  have r1 := (quad_root_iff hsq a b c _ ha hd).mpr (Or.inl rfl)
  split_ifs at h with h10
  · rw [h10] at r1
    rw [h]; exact ⟨le_refl _, zero_le_one, r1⟩
  · obtain ⟨hu, rfl | rfl⟩ := h
    · exact ⟨((inUnit_iff _).mp hu).1, ((inUnit_iff _).mp hu).2, r1⟩
    · exact ⟨((inUnit_iff _).mp hu).1, ((inUnit_iff _).mp hu).2,
        (quad_root_iff hsq a b c _ ha hd).mpr (Or.inr (qT2_eq hsq a b c ha hd h10))⟩

/-- non-vacuity of the premises of `quad_solve_sound_quadratic` / `quad_solve_complete_quadratic`: `t² − t` has
`a = 1 ≠ 0`, discriminant `1 ≥ 0` and the roots `0`, `1` in range (the `sqrt` laws are those of
`Real.sqrt` on non-negative arguments). -/
example : (1:ℚ) ≠ 0 ∧ (0:ℚ) ≤ (-1) * (-1) - 4 * 1 * 0 ∧ (1:ℚ) * 1 * 1 + (-1) * 1 + 0 = 0 := by norm_num

/-- **Soundness of the root computation, all branches.**  Every returned `t` is in `[0, 1]` and
is a root of `a t² + b t + c`. -/
theorem quad_solve_sound (hsq : ∀ x : K, 0 ≤ x → Transc.sqrt x * Transc.sqrt x = x) (a b c : K)
    (t : K) (ht : t ∈ Quad.solve a b c) : 0 ≤ t ∧ t ≤ 1 ∧ a * t * t + b * t + c = 0 := by
  by_cases ha : a = 0
  · subst ha
    by_cases hb : b = 0
    · subst hb; rw [quad_solve_degenerate] at ht; cases ht
    · rw [quad_solve_linear b c hb] at ht
      split at ht
      · rename_i hu
        rw [List.mem_singleton] at ht
        subst ht
        refine ⟨hu.1, hu.2, ?_⟩
        rw [zero_mul, zero_mul, zero_add, mul_div_cancel₀ _ hb]; ring
      · cases ht
  · exact quad_solve_sound_quadratic hsq a b c ha t ht

theorem quad_lineIntersectionsT_eq (q : Quad K) (l : Line K) :
    q.lineIntersectionsT l = if l.vector.x = 0 ∧ l.vector.y = 0 then []
      else Quad.solve (q.liA l.equation) (q.liB l.equation) (q.liC l.equation) := by
  unfold Quad.lineIntersectionsT
  simp only [Bool.and_eq_true, sc_beq_zero]

/-- **Soundness of `line_intersections_t` (full strength, all branches)**: every returned
parameter is in `[0,1]` and its point lies on the line. -/
theorem quad_line_roots_sound
    (hsq : ∀ x : K, 0 ≤ x → Transc.sqrt x * Transc.sqrt x = x)
    (hs0 : ∀ x : K, 0 < x → Transc.sqrt x ≠ 0)
    (q : Quad K) (l : Line K) (t : K) (ht : t ∈ q.lineIntersectionsT l) :
    0 ≤ t ∧ t ≤ 1 ∧ l.vector.cross (q.sample t - l.point) = 0 := by
  rw [quad_lineIntersectionsT_eq] at ht
  split_ifs at ht with hv
  · cases ht
  · obtain ⟨h0, h1, hr⟩ := quad_solve_sound hsq _ _ _ t ht
    rw [quad_line_poly] at hr
    exact ⟨h0, h1, (line_equation_iff l _ (hs0 _ (dir_sqLen_pos hv))).mp hr⟩

/-- completeness, quadratic branch (`a ≠ 0`): every root in `[0,1]` is returned -/
theorem quad_solve_complete_quadratic (hsq : ∀ x : K, 0 ≤ x → Transc.sqrt x * Transc.sqrt x = x)
    (hs0 : ∀ x : K, 0 ≤ x → 0 ≤ Transc.sqrt x) (a b c t : K) (ha : a ≠ 0)
    (h0 : 0 ≤ t) (h1 : t ≤ 1) (hroot : a * t * t + b * t + c = 0) : t ∈ Quad.solve a b c := by
  rw [mem_solve_quadratic a b c t ha]
  have hΔ' : Quad.qDelta a b c = (2 * a * t + b) * (2 * a * t + b) := by
    rw [qDelta_eq]; linear_combination (-4 * a) * hroot
  have hd : 0 ≤ Quad.qDelta a b c := hΔ' ▸ mul_self_nonneg _
  refine ⟨hd, ?_⟩
  have hr := (quad_root_iff hsq a b c t ha hd).mp hroot
  split_ifs with h10
  · -- `t₁ = 0`: `−b = sgn b · sqrt Δ` forces `b = 0`, so the other value of the formula is `0` too
    have e := qT1_eq a b c
    rw [h10, eq_comm, div_eq_zero_iff, or_iff_left (mul_ne_zero two_ne_zero ha)] at e
    have hr0 := hs0 _ hd
    have hb : b = 0 := by
      rcases lt_or_ge b 0 with hb | hb
      · rw [sgn_neg hb] at e; linarith
      · rw [sgn_nonneg hb] at e; linarith
    rcases hr with h | h
    · exact h.trans h10
    · rw [h]; exact div_eq_zero_iff.mpr (Or.inl (by linear_combination (-1 : K) * e - 2 * hb))
  · exact ⟨(inUnit_iff t).mpr ⟨h0, h1⟩, hr.imp_right fun h => h.trans (qT2_eq hsq a b c ha hd h10).symm⟩

/-- **Completeness of the root computation, all branches**: unless `a = b = 0` (constant distance:
no isolated crossing), every root in `[0,1]` is returned. -/
theorem quad_solve_complete (hsq : ∀ x : K, 0 ≤ x → Transc.sqrt x * Transc.sqrt x = x)
    (hs0 : ∀ x : K, 0 ≤ x → 0 ≤ Transc.sqrt x) (a b c t : K) (hab : ¬ (a = 0 ∧ b = 0))
    (h0 : 0 ≤ t) (h1 : t ≤ 1) (hroot : a * t * t + b * t + c = 0) : t ∈ Quad.solve a b c := by
  by_cases ha : a = 0
  · subst ha
    have hb : b ≠ 0 := fun h => hab ⟨rfl, h⟩
    have ht : t = -c / b := by
      rw [eq_div_iff hb]; linear_combination hroot
    rw [quad_solve_linear b c hb, ← ht, if_pos ⟨h0, h1⟩]
    exact List.mem_singleton.mpr rfl
  · exact quad_solve_complete_quadratic hsq hs0 a b c t ha h0 h1 hroot

/-- **Completeness of `line_intersections_t` (all branches)**: a parameter in `[0,1]` whose point
lies on the line is returned, unless the curve keeps a constant distance to the line. -/
theorem quad_line_roots_complete (hsq : ∀ x : K, 0 ≤ x → Transc.sqrt x * Transc.sqrt x = x)
    (hs0 : ∀ x : K, 0 ≤ x → 0 ≤ Transc.sqrt x) (hs1 : ∀ x : K, 0 < x → Transc.sqrt x ≠ 0)
    (q : Quad K) (l : Line K) (hv : ¬ (l.vector.x = 0 ∧ l.vector.y = 0))
    (ha : ¬ (q.liA l.equation = 0 ∧ q.liB l.equation = 0)) (t : K) (h0 : 0 ≤ t) (h1 : t ≤ 1)
    (hon : l.vector.cross (q.sample t - l.point) = 0) : t ∈ q.lineIntersectionsT l := by
  rw [quad_lineIntersectionsT_eq, if_neg hv]
  apply quad_solve_complete hsq hs0 _ _ _ t ha h0 h1
  rw [quad_line_poly]
  exact (line_equation_iff l _ (hs1 _ (dir_sqLen_pos hv))).mpr hon

/-- discriminant-zero case of the quadratic branch: every returned parameter is the double root
`−b/(2a)` (that it is returned once — the code's `t1 != t2` test removes the copy — is not stated here) -/
theorem quad_solve_double_root (hsq : ∀ x : K, 0 ≤ x → Transc.sqrt x * Transc.sqrt x = x)
    (hs0 : ∀ x : K, 0 ≤ x → 0 ≤ Transc.sqrt x) (a b c : K) (ha : a ≠ 0)
    (hd : Quad.qDelta a b c = 0) (t : K) (ht : t ∈ Quad.solve a b c) : t = -b / (2 * a) := by
  obtain ⟨_, _, hr⟩ := quad_solve_sound hsq a b c t ht
  rw [qDelta_eq] at hd
  have h2 : (2 * a * t + b) * (2 * a * t + b) = 0 := by linear_combination (4 * a) * hr + hd
  have h3 : 2 * a * t + b = 0 := mul_self_eq_zero.mp h2
  rw [eq_div_iff (mul_ne_zero two_ne_zero ha)]
  linear_combination h3

/- Former witnesses of the linear-branch sign defect (repaired by lyon commit 37d6f3b8, "t = -c/b"):
   parabola (0,0) (1,1) (2,0) against the vertical line x = -1/2 returned [1/4], whose point
   (1/2, 3/8) is not on the line; against x = 1/2 it returned [] although t = 1/4 is a crossing.
   `quad_solve_sound`/`quad_solve_complete` cover the repaired branch. -/

end quad

end Lyon.C12

namespace Lyon.C12d
variable {K : Type} [Field K] [LinearOrder K] [IsStrictOrderedRing K] [Transc K] [Eps K]

/-- a coefficient that passes the code's non-zero test `¬ |a| < ε` (`ε > 0`) is non-zero -/
theorem regime_ne_zero (e a : K) (he : 0 < e) (ha : ¬ |a| < e) : a ≠ 0 := by
  intro h; apply ha; rw [h, abs_zero]; exact he

/-- the raw cubic is `a` times the normalised one -/
theorem normalised (a b c d x : K) (ha : a ≠ 0) :
    a * x ^ 3 + b * x ^ 2 + c * x + d = a * (x ^ 3 + b / a * x ^ 2 + c / a * x + d / a) := by
  field_simp

end Lyon.C12d

namespace Lyon.C12
open Lyon Scalar Lyon.Ix
variable {K : Type} [Field K] [LinearOrder K] [IsStrictOrderedRing K]

/-! ### `cubic_polynomial_roots` and cubic × line: the first steps

Here: the linear and quadratic sub-branches (taken when `|a| < epsilon`) return roots of the
TRUNCATED polynomial, hence of the cubic when `a = 0`; the first value of the one-real-root Cardano
branch is a root (`cubic_roots_sound_partial_cardano`, since lyon commit 7006df58).  The optional
"repeated root" value, the trigonometric branch (`acos`, `cos` laws) and completeness are in
`Props/C12d.lean`: its `cubic_roots_sound_or_repeated` speaks of every value returned when
`¬ |a| < ε` and has `cubic_roots_sound_partial_cardano` as its head lemma, so `_partial` in the names
here does not mean that the rest is unproved.  Former defects of this function (`cardano-double-root-eps`,
`cardano-cancellation`) are recorded as fixed findings with their witnesses. -/

section cubic
variable [Transc K] [Eps K]

theorem cubic_roots_sound_partial_linear (e a b c d x : K) (he : 0 < e) (ha : |a| < e) (hb : |b| < e)
    (hx : x ∈ Roots.rootsWith e a b c d) : c * x + d = 0 ∧ a * x * x * x + b * x * x + c * x + d = a * x * x * x + b * x * x := by
  unfold Roots.rootsWith at hx
  rw [if_pos (by rw [sc_abs]; exact ha), if_pos (by rw [sc_abs]; exact hb)] at hx
  by_cases hc : Scalar.abs c < e
  · rw [if_pos hc] at hx; cases hx
  · rw [if_neg hc, List.mem_singleton] at hx
    have hc0 : c ≠ 0 := C12d.regime_ne_zero e c he hc
    have h1 : c * x + d = 0 := by
      rw [hx]; field_simp; ring
    exact ⟨h1, by linear_combination h1⟩

theorem rootsWith_quadratic (e a b c d : K) (ha : |a| < e) (hb : ¬ |b| < e) (hΔ : 0 < Roots.qdelta b c d) :
    Roots.rootsWith e a b c d = [(-c - Transc.sqrt (Roots.qdelta b c d)) / (2 * b),
      (-c + Transc.sqrt (Roots.qdelta b c d)) / (2 * b)] := by
  unfold Roots.rootsWith Roots.quadratic
  rw [if_pos (by rw [sc_abs]; exact ha), if_neg (by rw [sc_abs]; exact hb),
    if_pos (by rw [sc_zero_eq]; exact hΔ), sc_two_eq]

theorem cubic_roots_sound_partial_quadratic (hsq : ∀ x : K, 0 ≤ x → Transc.sqrt x * Transc.sqrt x = x)
    (e a b c d x : K) (he : 0 < e) (ha : |a| < e) (hb : ¬ |b| < e) (hΔ : 0 < Roots.qdelta b c d)
    (hx : x ∈ Roots.rootsWith e a b c d) :
    b * x * x + c * x + d = 0 ∧ a * x * x * x + b * x * x + c * x + d = a * x * x * x := by
  rw [rootsWith_quadratic e a b c d ha hb hΔ, List.mem_cons, List.mem_singleton] at hx
  have hb0 := C12d.regime_ne_zero e b he hb
  have hΔe : Roots.qdelta b c d = c * c - 4 * b * d := by simp only [geom, Nat.cast_ofNat]
  have key := (quadratic_roots_iff hb0 ((hsq _ hΔ.le).trans hΔe)).mpr hx
  exact ⟨key, by linear_combination key⟩

/-! #### The repaired Cardano branch (one real root), lyon commit 7006df58

With `s·t = −δ0` holding by construction, the first value pushed in the branch `δ0³ + δ1² ≥ 0`
is a root.  Laws used (hypotheses): `sqrt x ≥ 0` and `sqrt x · sqrt x = x` for `x ≥ 0`;
`(pow x (1/3))³ = x` for `x ≥ 0` (so that `signum x · pow |x| (1/3)` is a cube root of `x`). -/

/-- Cardano's identity with the product relation: if `O·B = −δ0`, `B³ = δ1 + ρ` and
`ρ² = δ0³ + δ1²`, then `y = B + O` solves the depressed cubic `y³ + 3δ0·y − 2δ1 = 0`. -/
theorem cardano_alg (B O d0 d1 ρ : K) (hB : B ≠ 0) (h1 : O * B = -d0) (h2 : B ^ 3 = d1 + ρ)
    (h3 : ρ * ρ = d0 ^ 3 + d1 * d1) : (B + O) ^ 3 + 3 * d0 * (B + O) - 2 * d1 = 0 := by
  apply mul_left_cancel₀ (pow_ne_zero 3 hB)
  linear_combination (B ^ 3 + ρ - d1) * h2 + h3
    + ((O * B + d0) ^ 2 - 3 * (O * B + d0) * d0 + 3 * d0 ^ 2 + 3 * B ^ 3 * (B + O)) * h1

/-- `x.signum() * |x|.powf(1/3)` cubes back to `x` -/
theorem cbrtS_cube (hpow : ∀ x : K, 0 ≤ x → Transc.pow x (Roots.frac13 : K) ^ 3 = x) (x : K) :
    Roots.cbrtS x ^ 3 = x := by
  unfold Roots.cbrtS
  rw [sc_abs, mul_pow, hpow _ (abs_nonneg x)]
  have h := sgn_sq x
  have h2 := sgn_mul_abs x
  calc Sgn.signum x ^ 3 * |x| = (Sgn.signum x * Sgn.signum x) * (Sgn.signum x * |x|) := by ring
    _ = x := by rw [h, h2, one_mul]

theorem delta01_eq (d0 d1 : K) : Roots.delta01 d0 d1 = d0 ^ 3 + d1 ^ 2 := by
  unfold Roots.delta01; ring

/-- what the code's two cube roots satisfy when `Δ = δ₀³ + δ₁² ≥ 0`: with `B = cBig` (the cube root
that does not cancel) and `O = cOther = −δ₀/B` (`0` when `B = 0`, which happens only for `δ₀ = δ₁ = 0`):
`B³ = δ₁ + ρ`, `O³ = δ₁ − ρ`, `ρ² = Δ`, `O·B = −δ₀`. -/
theorem cBig_spec (hs0 : ∀ x : K, 0 ≤ x → 0 ≤ Transc.sqrt x)
    (hsq : ∀ x : K, 0 ≤ x → Transc.sqrt x * Transc.sqrt x = x)
    (hpow : ∀ x : K, 0 ≤ x → Transc.pow x (Roots.frac13 : K) ^ 3 = x)
    (d0 d1 : K) (hΔ : 0 ≤ Roots.delta01 d0 d1) :
    ∃ ρ : K, ρ * ρ = d0 ^ 3 + d1 ^ 2 ∧ Roots.cBig d0 d1 ^ 3 = d1 + ρ
      ∧ Roots.cOther d0 d1 ^ 3 = d1 - ρ ∧ Roots.cOther d0 d1 * Roots.cBig d0 d1 = -d0 := by
  have hr := hsq _ hΔ
  have hr0 := hs0 _ hΔ
  have hΔe := delta01_eq d0 d1
  obtain ⟨ρ, hρ, hB3, hzero⟩ : ∃ ρ : K, ρ * ρ = d0 ^ 3 + d1 ^ 2 ∧ Roots.cBig d0 d1 ^ 3 = d1 + ρ
      ∧ (d1 + ρ = 0 → d1 = 0 ∧ ρ = 0) := by
    unfold Roots.cBig
    by_cases h : d1 ≥ (Scalar.zero : K)
    · rw [if_pos h]
      rw [sc_zero_eq] at h
      refine ⟨Transc.sqrt (Roots.delta01 d0 d1), by rw [hr, hΔe], cbrtS_cube hpow _, ?_⟩
      intro h0; constructor <;> linarith
    · rw [if_neg h]
      rw [sc_zero_eq, ge_iff_le, not_le] at h
      refine ⟨-Transc.sqrt (Roots.delta01 d0 d1), by rw [neg_mul_neg, hr, hΔe], ?_, ?_⟩
      · rw [cbrtS_cube hpow]; ring
      · intro h0; exfalso; linarith
  refine ⟨ρ, hρ, hB3, ?_⟩
  by_cases hB : Roots.cBig d0 d1 = 0
  · -- `B = 0`: `δ₁ + ρ = 0`, so `δ₁ = ρ = 0` and `δ₀³ = 0`; the code sets `O = 0`
    have hO : Roots.cOther d0 d1 = 0 := by
      unfold Roots.cOther; rw [if_pos ((sc_beq_zero _).mpr hB)]; exact sc_zero_eq
    rw [hB] at hB3
    obtain ⟨e1, e2⟩ := hzero (by rw [← hB3]; ring)
    rw [e1, e2] at hρ
    have e0 : d0 = 0 := pow_eq_zero_iff three_ne_zero |>.mp (by linear_combination -hρ)
    rw [hO, hB, e0, e1, e2]
    exact ⟨by ring, by ring⟩
  · have hOB : Roots.cOther d0 d1 * Roots.cBig d0 d1 = -d0 := by
      unfold Roots.cOther
      rw [if_neg (fun h => hB ((sc_beq_zero _).mp h))]
      exact div_mul_cancel₀ _ hB
    refine ⟨?_, hOB⟩
    -- `B³·O³ = (O·B)³ = −δ₀³ = δ₁² − ρ² = B³·(δ₁ − ρ)`
    apply mul_left_cancel₀ (pow_ne_zero 3 hB)
    linear_combination ((Roots.cOther d0 d1 * Roots.cBig d0 d1) ^ 2 - (Roots.cOther d0 d1 * Roots.cBig d0 d1) * d0
      + d0 ^ 2) * hOB + hρ - (d1 - ρ) * hB3

/-- `s`, `t` are `B`, `O` in the order the sign of `δ₁` decides -/
theorem cS_cT_cases (d0 d1 : K) :
    (Roots.cS d0 d1 = Roots.cBig d0 d1 ∧ Roots.cT d0 d1 = Roots.cOther d0 d1)
    ∨ (Roots.cS d0 d1 = Roots.cOther d0 d1 ∧ Roots.cT d0 d1 = Roots.cBig d0 d1) := by
  unfold Roots.cS Roots.cT
  by_cases h : d1 ≥ (Scalar.zero : K)
  · left; rw [if_pos h, if_pos h]; exact ⟨rfl, rfl⟩
  · right; rw [if_neg h, if_neg h]; exact ⟨rfl, rfl⟩

/-- **the pair `(s, t)` of the branch `Δ ≥ 0`**, symmetrically: product `−δ₀`, cubes `δ₁ ± √Δ` in some order -/
theorem cardano_pair (hs0 : ∀ x : K, 0 ≤ x → 0 ≤ Transc.sqrt x)
    (hsq : ∀ x : K, 0 ≤ x → Transc.sqrt x * Transc.sqrt x = x)
    (hpow : ∀ x : K, 0 ≤ x → Transc.pow x (Roots.frac13 : K) ^ 3 = x)
    (d0 d1 : K) (hΔ : 0 ≤ Roots.delta01 d0 d1) :
    Roots.cS d0 d1 * Roots.cT d0 d1 = -d0 ∧ Roots.cS d0 d1 ^ 3 + Roots.cT d0 d1 ^ 3 = 2 * d1
      ∧ (Roots.cS d0 d1 ^ 3 - Roots.cT d0 d1 ^ 3) ^ 2 = 4 * Roots.delta01 d0 d1 := by
  obtain ⟨ρ, hρ, hB3, hO3, hOB⟩ := cBig_spec hs0 hsq hpow d0 d1 hΔ
  rw [delta01_eq]
  rcases cS_cT_cases d0 d1 with ⟨e1, e2⟩ | ⟨e1, e2⟩ <;> rw [e1, e2, hB3, hO3] <;>
    exact ⟨by linear_combination hOB, by ring, by linear_combination 4 * hρ⟩

/-- `s + t` of the repaired code solves the depressed cubic: `(s+t)³ = s³ + t³ + 3st(s+t)` -/
theorem cardano_sum_root (hs0 : ∀ x : K, 0 ≤ x → 0 ≤ Transc.sqrt x)
    (hsq : ∀ x : K, 0 ≤ x → Transc.sqrt x * Transc.sqrt x = x)
    (hpow : ∀ x : K, 0 ≤ x → Transc.pow x (Roots.frac13 : K) ^ 3 = x)
    (d0 d1 : K) (hΔ : 0 ≤ Roots.delta01 d0 d1) :
    (Roots.cS d0 d1 + Roots.cT d0 d1) ^ 3 + 3 * d0 * (Roots.cS d0 d1 + Roots.cT d0 d1) - 2 * d1 = 0 := by
  obtain ⟨hst, hsum, _⟩ := cardano_pair hs0 hsq hpow d0 d1 hΔ
  linear_combination hsum + 3 * (Roots.cS d0 d1 + Roots.cT d0 d1) * hst

/-- substitution `x = y − bn/3`: the normalised cubic in `x` is the depressed cubic in `y` -/
theorem depressed_eq (bn cn dn y : K) :
    (-bn * Roots.frac13 + y) ^ 3 + bn * (-bn * Roots.frac13 + y) ^ 2 + cn * (-bn * Roots.frac13 + y) + dn
      = y ^ 3 + 3 * Roots.delta0 bn cn * y - 2 * Roots.delta1 bn cn dn := by
  simp only [geom, Nat.cast_ofNat, Nat.cast_one]
  ring

/-- **Soundness of the repaired one-real-root branch (partial)**: when `|a| ≥ ε` and
`δ0³ + δ1² ≥ 0`, the FIRST value returned by `cubic_polynomial_roots` is a root of
`a x³ + b x² + c x + d`.  Partial: the optional second value (the "repeated root", exact only when
`s = t`) and the trigonometric branch (`acos`/`cos` laws) are not covered by THIS theorem; they are
`C12d.cardano_repeated_root_iff` and `C12d.cubic_roots_trig_iff`. -/
theorem cubic_roots_sound_partial_cardano (hs0 : ∀ x : K, 0 ≤ x → 0 ≤ Transc.sqrt x)
    (hsq : ∀ x : K, 0 ≤ x → Transc.sqrt x * Transc.sqrt x = x)
    (hpow : ∀ x : K, 0 ≤ x → Transc.pow x (Roots.frac13 : K) ^ 3 = x)
    (e a b c d : K) (he : 0 < e) (ha : ¬ |a| < e)
    (hΔ : 0 ≤ Roots.delta01 (Roots.delta0 (b / a) (c / a)) (Roots.delta1 (b / a) (c / a) (d / a))) :
    ∃ x rest, Roots.rootsWith e a b c d = x :: rest ∧ a * x ^ 3 + b * x ^ 2 + c * x + d = 0 := by
  have ha0 := C12d.regime_ne_zero e a he ha
  unfold Roots.rootsWith
  rw [if_neg (by rw [sc_abs]; exact ha)]
  unfold Roots.cardano
  rw [if_pos (by rw [sc_zero_eq]; exact hΔ)]
  unfold Roots.cardano1
  refine ⟨_, _, List.singleton_append, ?_⟩
  rw [C12d.normalised a b c d _ ha0, depressed_eq, cardano_sum_root hs0 hsq hpow _ _ hΔ, mul_zero]

/-- non-vacuity: `x³ − 1` has `δ0 = 0`, `δ1 = 1/2`, `δ0³ + δ1² = 1/4 ≥ 0` -/
example : (0:ℚ) ≤ 0 * 0 * 0 + (1/2) * (1/2) := by norm_num

/-- the polynomial handed to the root finder vanishes exactly at the parameters whose point lies
on the line (no normalisation here: `cross(vector, p - point)` itself) -/
theorem cubic_line_poly (c : Cubic K) (l : Line K) (t : K) :
    c.liCoefA l * t * t * t + c.liCoefB l * t * t + c.liCoefC l * t + c.liCoefD l
      = -(l.vector.cross (c.sample t - l.point)) := by
  simp only [geom, Nat.cast_one, Nat.cast_ofNat]; ring

/-- every parameter returned by the cubic × line query is in `[0,1]` (range only; that its point is
on the line, the optional value of the branch `Δ > 0` excepted, is
`C12d.cubic_line_reported_on_line_or_near`, in the regime `¬ |A| < ε`) -/
theorem cubic_line_roots_in_range (c : Cubic K) (l : Line K) (t : K) (ht : t ∈ c.lineIntersectionsT l) :
    0 ≤ t ∧ t ≤ 1 := by
  unfold Cubic.lineIntersectionsT at ht
  split at ht
  · cases ht
  · split at ht
    · cases ht
    · unfold Cubic.lineRoots at ht
      exact (inUnit_iff t).mp (List.mem_filter.mp ht).2

/-- in a field every length is finite: the query is "normalise, then solve", with the single
exception of a zero length -/
theorem cubic_line_unfold (hfin : ∀ x : K, Transc.isFinite x = true) (c : Cubic K) (l : Line K) :
    c.lineIntersectionsT l = if Cubic.lineLen l = 0 then [] else c.lineRoots (Cubic.unitLine l) := by
  unfold Cubic.lineIntersectionsT
  by_cases h : Cubic.lineLen l = 0
  · rw [if_pos ((sc_beq_zero _).mpr h), if_pos h]
  · rw [if_neg (fun hh => h ((sc_beq_zero _).mp hh)), if_neg h, hfin]
    simp

theorem unitLine_cross (l : Line K) (w : P K) :
    (Cubic.unitLine l).vector.cross w = l.vector.cross w / Cubic.lineLen l := by
  simp only [Cubic.unitLine, P.cross, P.sdiv]
  ring

/-- for a non-zero length the polynomial solved for the normalised line vanishes exactly at the
parameters whose point lies on the ORIGINAL line -/
theorem cubic_line_unit_on_line (c : Cubic K) (l : Line K) (t : K) (h : Cubic.lineLen l ≠ 0) :
    c.liCoefA (Cubic.unitLine l) * t * t * t + c.liCoefB (Cubic.unitLine l) * t * t
        + c.liCoefC (Cubic.unitLine l) * t + c.liCoefD (Cubic.unitLine l) = 0
      ↔ l.vector.cross (c.sample t - l.point) = 0 := by
  rw [cubic_line_poly, neg_eq_zero]
  show (Cubic.unitLine l).vector.cross (c.sample t - l.point) = 0 ↔ _
  rw [unitLine_cross, div_eq_zero_iff, or_iff_left h]

/-- a zero direction vector does not define a line: nothing is returned -/
theorem cubic_line_zero_vector_none (hsq : ∀ x : K, 0 ≤ x → Transc.sqrt x * Transc.sqrt x = x)
    (c : Cubic K) (l : Line K) (hx : l.vector.x = 0) (hy : l.vector.y = 0) :
    c.lineIntersectionsT l = [] := by
  have h0 : Cubic.lineLen l = 0 := by
    unfold Cubic.lineLen
    have e : l.vector.sqLen = 0 := by simp only [P.sqLen, hx, hy]; ring
    rw [e]
    exact mul_self_eq_zero.mp (hsq 0 (le_refl _))
  unfold Cubic.lineIntersectionsT
  rw [if_pos ((sc_beq_zero _).mpr h0)]

/-- **The result does not depend on the (positive) length of the line's direction vector**
(true since lyon commit ba950a71; before it every line with `|vector|² < EPSILON` got the answer
"no intersection": witness cubic (0,0) (1,2) (2,-2) (3,0), line through (3/2,0) with vector
(0,1/200), crossing at t = 1/2). -/
theorem cubic_line_scale_invariant (hs0 : ∀ x : K, 0 ≤ x → 0 ≤ Transc.sqrt x)
    (hsq : ∀ x : K, 0 ≤ x → Transc.sqrt x * Transc.sqrt x = x)
    (hfin : ∀ x : K, Transc.isFinite x = true) (c : Cubic K) (l : Line K) (k : K) (hk : 0 < k) :
    c.lineIntersectionsT ⟨l.point, l.vector.smul k⟩ = c.lineIntersectionsT l := by
  have e1 : (l.vector.smul k).sqLen = k * k * l.vector.sqLen := by
    simp only [P.sqLen, P.smul]; ring
  have hlen : Cubic.lineLen ⟨l.point, l.vector.smul k⟩ = k * Cubic.lineLen l := by
    unfold Cubic.lineLen
    rw [e1]
    exact C10.sqrt_mul_sq hs0 hsq k _ hk.le (P.sqLen_nonneg _)
  rw [cubic_line_unfold hfin, cubic_line_unfold hfin, hlen]
  by_cases h0 : Cubic.lineLen l = 0
  · rw [if_pos h0, if_pos (by rw [h0, mul_zero])]
  · rw [if_neg h0, if_neg (mul_ne_zero hk.ne' h0)]
    have eu : Cubic.unitLine ⟨l.point, l.vector.smul k⟩ = Cubic.unitLine l := by
      unfold Cubic.unitLine
      rw [hlen]
      simp only [P.smul, P.sdiv, Line.mk.injEq, P.mk.injEq, true_and]
      have hk' := hk.ne'
      constructor <;> field_simp
    rw [eu]

/-- non-vacuity: `k = 1/200 > 0` (the former witness's scaling) -/
example : (0:ℚ) < 1 / 200 := by norm_num

end cubic

end Lyon.C12
