/-
  C05e — PROGRAMS on one `StrokeBuilder` (`Model/Tess/StrokeBuilderProg.lean`): several sub-paths, the
  shape helpers (add_rectangle with its thin-rectangle fallback, add_polygon, add_line_segment,
  add_point; circle / ellipse / rounded rectangle arrive as the begin / curve / end calls lyon_path
  expands them to) and the option setters (set_line_join, set_start_cap, set_end_cap,
  set_miter_limit; also inside a sub-path) on the object `StrokeTessellator::builder` /
  `builder_with_attributes` returns.  The definitions are the ones the `prog` family of the C05 check
  executes and compares bit for bit with lyon (`tessellateProg` = `runProg`).

  What a program adds to the single event list of `Props/C05c.lean` / `C05d.lean` is state that
  SURVIVES between calls: `builder.options` (the setters; the thin rectangle widens `line_width` by
  `d` and replaces the caps for ONE segment, then restores), the endpoint id counter, the whole
  `StrokeBuilderImpl`.  The statements:

  *   index validity (`VSteps`, see `Props/C05c.lean`: every triangle has three distinct ids that
      `add_stroke_vertex` has returned; `VertexId::INVALID` never reaches `add_triangle`) for whole
      programs, whatever options are in force for which call:
        * `prog_indices_valid_polyline`  every scalar type (floats included), every program without
                                         curve calls: all helpers, all setters, thin rectangles
        * `prog_indices_valid_variable`  every scalar type, variable width, curves: given `SkipApart`
        * `prog_indices_valid_partial`   ordered fields, ALL programs (curves included) unless the
                                         width is fixed AND `MiterClip` is the builder's join or the
                                         argument of a `set_line_join` call
      and with them the per-vertex clause `ProgVertexOK`: the source of every vertex names an endpoint
      the program created (or an edge between two), and - fixed width - ITS HALF WIDTH IS HALF THE LINE
      WIDTH THAT WAS IN FORCE WHEN THAT ENDPOINT WAS CREATED: the widened width for the two endpoints
      of a thin rectangle, the configured width for every other endpoint, in particular for every
      sub-path AFTER a thin rectangle (`prog_half_width`, `prog_half_width_no_rect`).
  *   bookkeeping: ids are consecutive (`prog_ids_consecutive`, `prog_ids_nodup`: the item a source
      names is unique), the thin rectangle restores the options (`thin_rectangle_restores_options`),
      tolerance / variable_line_width never change (`prog_options_fixed_fields`).
  *   a program without rectangle and setter calls is an ordinary event list:
      `prog_plain_eq_runEvents` (so every theorem of C05c / C05d applies to it, `MiterClip` + curves
      included: `prog_plain_indices_valid_sqrt`).
  *   non-vacuity examples and a kernel-evaluated program (thin rectangle, then a polyline).
-/
import LyonVerif.Lemmas.StrokeProg
import LyonVerif.Props.C05d

set_option linter.unusedSectionVars false

namespace Lyon.C05e
open Lyon Scalar Lyon.Stroke Lyon.Stroke.Full Lyon.Stroke.Prog Lyon.C05 Lyon.C05b Lyon.C05c

section Generic
variable {α : Type} [Scalar α] [Transc α] [Asin α] [FlatConst α]

/-- **Polyline programs, every scalar type** (floats included), no hypothesis on the numbers: for
every sequence of begin / line_to / end calls (in any order), add_rectangle (thin or not, both
windings), add_polygon, add_line_segment, add_point and setter calls on one builder, all joins, caps,
miter limits, fixed and variable width: the emission sequence is valid and every vertex is
`ProgVertexOK`. -/
theorem prog_indices_valid_polyline (o : Opts α) (ix : Lyon.StrokeQuad.Ix α) (cmds : List (Cmd α))
    (hp : IsPolyProg cmds) :
    VSteps (ProgVertexOK (expand ⟨o, 0⟩ cmds)) (Out.empty 0) (runProg o ix cmds).st.out := by
  have h := runItems_spec (c := clsOf (ProgVertexOK (expand ⟨o, 0⟩ cmds)) (fun f _ => f = false) (fun _ _ h => h))
    (G := fun _ _ _ => True) (Env.new o ix) (storeOf (expand ⟨o, 0⟩ cmds)) (K := ProgId (expand ⟨o, 0⟩ cmds))
    (Or.inl rfl) (expand ⟨o, 0⟩ cmds)
    (fun it hit => ⟨reg_poly_cls _ _, evOK_prog _ _ _ _ _ it hit rfl (Or.inr (expand_poly cmds hp _ it hit))⟩)
  exact h.steps

/-- **Variable width, every scalar type**, all programs (curves included): the only arithmetic fact
needed is `SkipApart` for the merge threshold (computed once, when the builder is created). -/
theorem prog_indices_valid_variable (o : Opts α) (ix : Lyon.StrokeQuad.Ix α) (cmds : List (Cmd α))
    (hvw : o.varWidth = true) (hap : SkipApart (Env.new o ix).thr) :
    VSteps (ProgVertexOK (expand ⟨o, 0⟩ cmds)) (Out.empty 0) (runProg o ix cmds).st.out := by
  have h := runItems_spec (c := clsOf (ProgVertexOK (expand ⟨o, 0⟩ cmds)) (fun _ _ => True) (fun _ _ h => h))
    (G := fun _ _ _ => True) (Env.new o ix) (storeOf (expand ⟨o, 0⟩ cmds)) (K := ProgId (expand ⟨o, 0⟩ cmds))
    (Or.inl rfl) (expand ⟨o, 0⟩ cmds)
    (fun it hit => ⟨reg_variable_cls (envOf (Env.new o ix) it) _
        (by show it.o.varWidth = true; rw [(expand_opts cmds ⟨o, 0⟩ it hit).2.1]; exact hvw) hap,
      evOK_prog _ _ _ _ _ it hit trivial (Or.inl fun _ => trivial)⟩)
  exact h.steps

end Generic

section Field
variable {K : Type} [Field K] [LinearOrder K] [IsStrictOrderedRing K] [Transc K] [Asin K] [FlatConst K]

/-- **Ordered fields (exact arithmetic), ALL programs** (lines, quadratics, cubics, every helper,
every setter, thin rectangles; open / closed / empty / single-point sub-paths; calls in any order),
all caps, miter limits, tolerances; variable width with every join, fixed width as long as
`MiterClip` is neither the builder's join nor set by a `set_line_join` call.  `sqrt`, the
trigonometric functions, `asin`, `is_nan`, the curve flattening and the line intersection are
arbitrary functions.

`_partial`: fixed width + `LineJoin::MiterClip` + curves + option changes is missing (without
rectangle and setter calls it is `prog_plain_indices_valid_sqrt`; for polyline programs
`prog_indices_valid_polyline`): the linked window invariant of `Lemmas/StrokeIdxRun.lean`, `StrokeIdxClipRun.lean` ties
the side points to `line_width`, which a thin rectangle changes. -/
theorem prog_indices_valid_partial (o : Opts K) (ix : Lyon.StrokeQuad.Ix K) (cmds : List (Cmd K))
    (h : o.varWidth = true ∨ (o.join ≠ .miterClip ∧ Cmd.setJoin .miterClip ∉ cmds)) :
    VSteps (ProgVertexOK (expand ⟨o, 0⟩ cmds)) (Out.empty 0) (runProg o ix cmds).st.out := by
  rcases Bool.eq_false_or_eq_true o.varWidth with hvw | hvw
  · exact prog_indices_valid_variable o ix cmds hvw (skipApart_field _)
  · have hj : o.join ≠ .miterClip ∧ Cmd.setJoin .miterClip ∉ cmds := by
      rcases h with h | h
      · rw [hvw] at h; cases h
      · exact h
    have hjoin : ∀ it ∈ expand ⟨o, 0⟩ cmds, it.o.join ≠ .miterClip := by
      intro it hit hc
      rcases expand_join cmds ⟨o, 0⟩ it hit with h1 | h1
      · exact hj.1 (h1 ▸ hc)
      · exact hj.2 (hc ▸ h1)
    have hr := runItems_spec (c := clsOf (ProgVertexOK (expand ⟨o, 0⟩ cmds)) NoClip noClip_miter)
      (G := Sym) (Env.new o ix) (storeOf (expand ⟨o, 0⟩ cmds)) (K := ProgId (expand ⟨o, 0⟩ cmds))
      (Or.inl rfl) (expand ⟨o, 0⟩ cmds)
      (fun it hit => ⟨reg_field_fixed_cls (envOf (Env.new o ix) it) _
          (by show it.o.varWidth = false; rw [(expand_opts cmds ⟨o, 0⟩ it hit).2.1]; exact hvw),
        evOK_prog _ _ _ _ _ it hit (hjoin it hit) (Or.inl fun _ => hjoin it hit)⟩)
    exact hr.steps

end Field

section Widths
variable {α : Type} [Scalar α] [Transc α]

/-- **the half width of every vertex of a fixed-width program** is half the configured line width,
or - only for a vertex whose source is one of the two endpoints of a thin rectangle - half of
`line_width + d` of that rectangle.  (`hC` is what `prog_indices_valid_*` + `mesh_of_vsteps` give
for every vertex.) -/
theorem prog_half_width (o : Opts α) (cmds : List (Cmd α)) (hfw : o.varWidth = false)
    (s : Src α) (hw : α) (hC : ProgVertexOK (expand ⟨o, 0⟩ cmds) s hw) :
    hw = o.lineWidth * half
    ∨ ∃ mn mx positive a, Cmd.rect mn mx positive a ∈ cmds ∧ hw = (o.lineWidth + (thinSegment mn mx).2.2) * half := by
  obtain ⟨_, it, hit, _, hhw⟩ := hC
  obtain ⟨_, hv, _, hl⟩ := expand_opts cmds ⟨o, 0⟩ it hit
  have hw' := hhw (hv.trans hfw)
  rcases hl with hl | ⟨_, mn, mx, positive, a, hc, hl⟩
  · exact Or.inl (by rw [hw', hl])
  · exact Or.inr ⟨mn, mx, positive, a, hc, by rw [hw', hl]⟩

/-- without `add_rectangle` calls every vertex of a fixed-width program carries half the configured
line width, whatever the setters did in between -/
theorem prog_half_width_no_rect (o : Opts α) (cmds : List (Cmd α)) (hfw : o.varWidth = false)
    (hnr : ∀ mn mx positive a, Cmd.rect mn mx positive a ∉ cmds)
    (s : Src α) (hw : α) (hC : ProgVertexOK (expand ⟨o, 0⟩ cmds) s hw) : hw = o.lineWidth * half := by
  rcases prog_half_width o cmds hfw s hw hC with h | ⟨mn, mx, positive, a, hc, _⟩
  · exact h
  · exact absurd hc (hnr mn mx positive a)

end Widths

section Mesh
variable {K : Type} [Field K] [LinearOrder K] [IsStrictOrderedRing K] [Transc K] [Asin K] [FlatConst K]

/-- the finished mesh of a program and its per-vertex data (exact arithmetic): ids are positions in
the vertex list; every triangle has three distinct valid ids; no `VertexId::INVALID`; every vertex is
`ProgVertexOK` and `position = position_on_path + normal * half_width`.  `_partial` as
`prog_indices_valid_partial`. -/
theorem prog_mesh_partial (o : Opts K) (ix : Lyon.StrokeQuad.Ix K) (cmds : List (Cmd K))
    (h : o.varWidth = true ∨ (o.join ≠ .miterClip ∧ Cmd.setJoin .miterClip ∉ cmds)) :
    let out := (runProg o ix cmds).st.out
    out.nextId = out.verts.length
    ∧ (∀ t ∈ out.tris, Tri.Distinct t ∧ Tri.Below t out.verts.length)
    ∧ (out.verts.length ≤ unset → ∀ t ∈ out.tris, t.1 ≠ unset ∧ t.2.1 ≠ unset ∧ t.2.2 ≠ unset)
    ∧ ∀ d ∈ out.verts, ProgVertexOK (expand ⟨o, 0⟩ cmds) d.src d.halfWidth
        ∧ d.read.position = d.positionOnPath + d.normal.smul d.halfWidth := by
  obtain ⟨a, b, c, d⟩ := mesh_of_vsteps (prog_indices_valid_partial o ix cmds h)
  exact ⟨a, b, d, fun v hv => ⟨c v hv, rfl⟩⟩

/-- whatever `build()` returns after a program is a valid emission sequence -/
theorem prog_indices_valid_tessellateProg_partial (o : Opts K) (ix : Lyon.StrokeQuad.Ix K) (cmds : List (Cmd K))
    (h : o.varWidth = true ∨ (o.join ≠ .miterClip ∧ Cmd.setJoin .miterClip ∉ cmds)) (out : Out K)
    (ho : tessellateProg o ix cmds = some out) :
    VSteps (ProgVertexOK (expand ⟨o, 0⟩ cmds)) (Out.empty 0) out := by
  have : out = (runProg o ix cmds).st.out := by
    unfold tessellateProg at ho
    simp only [] at ho
    split_ifs at ho
    exact (Option.some.inj ho).symm
  rw [this]
  exact prog_indices_valid_partial o ix cmds h

end Mesh

section Book
variable {α : Type} [Scalar α]

/-- on a fresh builder the k-th endpoint a program creates has id k -/
theorem prog_ids_consecutive (o : Opts α) (cmds : List (Cmd α)) :
    idsOf (expand ⟨o, 0⟩ cmds) = List.range (finalBSt ⟨o, 0⟩ cmds).nextId := by
  rw [expand_ids, List.range_eq_range']
  simp

/-- no two endpoint events of a program share an id: the item a vertex source names is unique -/
theorem prog_ids_nodup (o : Opts α) (cmds : List (Cmd α)) : (idsOf (expand ⟨o, 0⟩ cmds)).Nodup := by
  rw [prog_ids_consecutive]
  exact List.nodup_range

/-- `approximate_thin_rectangle` restores the options: after `add_rectangle` - thin or not - the
builder's options are what they were -/
theorem thin_rectangle_restores_options (s : BSt α) (mn mx : P α) (positive : Bool) (a : List α) :
    (expandCmd s (.rect mn mx positive a)).1.o = s.o := by
  simp only [expandCmd]
  split_ifs <;> rfl

/-- tolerance, `variable_line_width` (and its attribute index) are the same for every call -/
theorem prog_options_fixed_fields (o : Opts α) (cmds : List (Cmd α)) : ∀ it ∈ expand ⟨o, 0⟩ cmds,
    it.o.tolerance = o.tolerance ∧ it.o.varWidth = o.varWidth ∧ it.o.varIdx = o.varIdx := by
  intro it hit
  obtain ⟨a, b, c, _⟩ := expand_opts cmds ⟨o, 0⟩ it hit
  exact ⟨a, b, c⟩

end Book

section Plain
variable {α : Type} [Scalar α]

/-- no `add_rectangle`, no setter call: begin / line_to / curves / end, add_polygon,
add_line_segment, add_point only -/
def IsPlain (cmds : List (Cmd α)) : Prop :=
  ∀ c ∈ cmds, match c with
    | .rect _ _ _ _ => False
    | .setJoin _ => False
    | .setStartCap _ => False
    | .setEndCap _ => False
    | .setMiterLimit _ => False
    | _ => True

theorem expand_plain (cmds : List (Cmd α)) (hp : IsPlain cmds) (s : BSt α) : ∀ it ∈ expand s cmds, it.o = s.o := by
  refine expand_forall (Q := fun s' => s'.o = s.o) cmds s ?_ rfl
  intro s' c hc hq
  have hcp := hp c hc
  constructor
  · cases c with
    | rect mn mx positive a => exact hcp.elim
    | setJoin j => exact hcp.elim
    | setStartCap cp => exact hcp.elim
    | setEndCap cp => exact hcp.elim
    | setMiterLimit ml => exact hcp.elim
    | _ => simp only [expandCmd]; exact hq
  · intro it hit
    rcases expandCmd_item_opts s' c it hit with h | ⟨mn, mx, positive, a, rfl, _, _⟩
    · rw [h]; exact hq
    · exact hcp.elim

variable [Transc α] [Asin α] [FlatConst α]

theorem runItems_const (e0 : Env α) (store : Nat → List α) (its : List (Item α))
    (h : ∀ it ∈ its, it.o = e0.o) : runItems e0 store its = runEvents e0 store (evsOf its) := by
  unfold runItems runEvents evsOf
  rw [List.foldl_map]
  generalize (⟨St.new, unset, nanP, false⟩ : Run α) = r0
  induction its generalizing r0 with
  | nil => rfl
  | cons it l ih =>
    simp only [List.foldl_cons]
    have he : ({ e0 with o := it.o } : Env α) = e0 := by rw [h it (by simp)]
    rw [he]
    exact ih (fun x hx => h x (by simp [hx])) _

/-- **a program without rectangle and setter calls is an event list**: the builder runs
`Full.runEvents` on the events the calls expand to, with ids 0, 1, 2, … -/
theorem prog_plain_eq_runEvents (o : Opts α) (ix : Lyon.StrokeQuad.Ix α) (cmds : List (Cmd α)) (hp : IsPlain cmds) :
    runProg o ix cmds
      = runEvents (Env.new o ix) (storeOf (expand ⟨o, 0⟩ cmds)) (evsOf (expand ⟨o, 0⟩ cmds)) :=
  runItems_const _ _ _ (fun it hit => expand_plain cmds hp ⟨o, 0⟩ it hit)

end Plain

section PlainField
variable {K : Type} [Field K] [LinearOrder K] [IsStrictOrderedRing K] [Transc K] [Asin K] [FlatConst K]
open Lyon.C05d

/-- … so the all-joins theorem of C05d applies: fixed width + `MiterClip` + curves included, under
`ClipHyp` for that combination only -/
theorem prog_plain_indices_valid_sqrt (o : Opts K) (ix : Lyon.StrokeQuad.Ix K) (cmds : List (Cmd K)) (hp : IsPlain cmds)
    (eps : K) (h : o.varWidth = false → o.join = .miterClip → ClipHyp (Env.new o ix) eps) :
    VSteps (VertexOK (Env.new o ix) (storeOf (expand ⟨o, 0⟩ cmds)) (evIds (evsOf (expand ⟨o, 0⟩ cmds))))
      (Out.empty 0) (runProg o ix cmds).st.out := by
  rw [prog_plain_eq_runEvents o ix cmds hp]
  exact stroke_indices_valid_sqrt _ _ _ eps h

end PlainField

section Examples
variable {α : Type} [Scalar α]

/-- hypothesis of `prog_indices_valid_polyline`: a thin rectangle, a setter, a polyline, a polygon -/
example (p q r : P α) : IsPolyProg [Cmd.rect p q true [], .setJoin .round, .begin p [], .line q [], .line r [],
    .end_ true, .polygon [p, q, r] false []] := by
  intro c hc
  simp only [List.mem_cons, List.mem_nil_iff, or_false] at hc
  rcases hc with rfl | rfl | rfl | rfl | rfl | rfl | rfl <;> trivial

/-- hypothesis of `prog_plain_eq_runEvents` -/
example (p q r : P α) : IsPlain [Cmd.begin p [], .quad q r [], .end_ false, .segment p q [], .point r []] := by
  intro c hc
  simp only [List.mem_cons, List.mem_nil_iff, or_false] at hc
  rcases hc with rfl | rfl | rfl | rfl | rfl <;> trivial

/-- hypothesis of `prog_half_width_no_rect` -/
example (p q : P α) : ∀ mn mx positive a, Cmd.rect mn mx positive a ∉ [Cmd.begin p [], .line q [], .end_ false] := by
  intro mn mx positive a h
  simp at h

end Examples

section ExamplesQ
open Lyon.C05b (toyTransc)
attribute [local instance] toyTransc Lyon.C05c.toyAsin Lyon.C05c.toyFlat

/-- hypothesis `SkipApart` of `prog_indices_valid_variable` over `ℚ` -/
example (o : Opts ℚ) (ix : Lyon.StrokeQuad.Ix ℚ) : SkipApart (Env.new o ix).thr := skipApart_field _

noncomputable def exO (j : LineJoin) : Opts ℚ := ⟨1 / 10, 2, 4, j, .butt, .butt, false, 0⟩

/-- hypothesis of `prog_indices_valid_partial` / `prog_mesh_partial` -/
example : (exO .miter).varWidth = true ∨ ((exO .miter).join ≠ .miterClip
    ∧ Cmd.setJoin .miterClip ∉ [Cmd.rect (⟨0, 0⟩ : P ℚ) ⟨100, 1⟩ true [], .setJoin .bevel]) :=
  Or.inr ⟨by decide, by simp⟩

/-- the rectangle `(0,0)-(100,1)` is thin for a miter stroke of width 2: it becomes the segment
`(1/2, 1/2) → (199/2, 1/2)` stroked `d = 1/2` wider -/
example : rectIsThin (exO .miter) (⟨0, 0⟩ : P ℚ) ⟨100, 1⟩ = true
    ∧ (let t := thinSegment (⟨0, 0⟩ : P ℚ) ⟨100, 1⟩
       (t.1.x, t.1.y, t.2.1.x, t.2.1.y, t.2.2) = (1 / 2, 1 / 2, 199 / 2, 1 / 2, 1 / 2)) := by
  constructor <;> decide +kernel

/-- **a thin rectangle, then a polyline on the same builder, run by the kernel**: a thin rectangle (line width
2, thickness 1: stroked with width 5/2, i.e. half width 5/4, square caps), then an open right-angle
polyline ON THE SAME BUILDER.  The four vertices of the rectangle's segment carry half width 5/4,
the six vertices of the polyline the configured 1: `vertex.half_width` is re-assigned at every emission site (the join at
endpoint 3 comes first, `fixed_width_step_impl`; then the last point 4 and the first point 2, `end_with_caps`) -/
example :
    (tessellateProg (exO .miter) (fun _ _ _ _ => none)
      [.rect ⟨0, 0⟩ ⟨100, 1⟩ true [], .begin ⟨0, 10⟩ [], .line ⟨10, 10⟩ [], .line ⟨10, 20⟩ [], .end_ false]).map
      (fun o => (o.verts.map (fun d => (srcTo d.src, d.halfWidth)), o.tris.length))
    = some ([(1, 5 / 4), (1, 5 / 4), (0, 5 / 4), (0, 5 / 4),
             (3, 1), (3, 1), (4, 1), (4, 1), (2, 1), (2, 1)], 6) := by
  decide +kernel

end ExamplesQ

end Lyon.C05e
