/-
  C13c — the Bézier sentence of the property for the end-point form, the direction of the pieces,
  and the second Hausdorff direction.  All over ℝ with Mathlib's functions (instance of
  `Props/C13.lean`), no hypothesis about a transcendental function.

  End-point form: with `svg_arc_beziers_real` (`Props/C13Real.lean`: non-empty, from `from` to `to`) the property's
  sentence about the Bézier sequences is a theorem for `SvgArc::for_each_quadratic_bezier(_with_t)` /
  `for_each_cubic_bezier` too.  Direction: both pieces are tangent cubics `tanFrame δ α` with `α` between `0` and
  `tan(δ/2)` (`Lemmas/SvgArcRealDir.lean`), so the cross products `P_i × P_j` (`i < j`) of the control points all
  have the sign of the step, and the Bernstein basis is totally positive.  Second Hausdorff direction: intermediate
  value theorem on the ray through the arc point.  Together with `arc_quads_near_ellipse_real` /
  `arc_cubics_near_ellipse_real`: for `0 < |sweep| ≤ 2π` the Hausdorff distance between the arc and each of its
  Bézier sequences is at most `0.0032·max(rx, ry)` resp. `0.002·max(rx, ry)`.
-/
import LyonVerif.Props.C13b
import LyonVerif.Props.C13Real


namespace Lyon.C13
open Lyon Scalar ArcConv

/-- for a non-degenerate `SvgArc` (the function's own test,
any `S::EPSILON ≥ 0`) the sequences of `SvgArc::for_each_quadratic_bezier(_with_t)` and
`for_each_cubic_bezier` stay within `0.32 %` resp. `0.2 %` of the larger radius of the ellipse `E` of
`from_svg_arc a` — centre `center a`, radii `(rx a, ry a)` (the given ones, scaled by `√rf` if too
small), the given x-rotation —, which passes through `a.from` and `a.to`. -/
theorem svg_arc_beziers_near_ellipse_real [Eps ℝ] (heps : 0 ≤ (Eps.eps : ℝ)) (a : SvgArc ℝ)
    (hs : isStraightLine a = false) (t : ℝ) (ht0 : 0 ≤ t) (ht1 : t ≤ 1) :
    (∀ x ∈ svgQuadsWithT a, ∃ u : P ℝ, u.x * u.x + u.y * u.y = 1
        ∧ sqDist (x.1.sample t) (ellMap (fromSvgArc a) u)
          ≤ (Max.max |rx a| |ry a| * (32 / 10000)) * (Max.max |rx a| |ry a| * (32 / 10000)))
    ∧ (∀ x ∈ svgCubics a, ∃ u : P ℝ, u.x * u.x + u.y * u.y = 1
        ∧ sqDist (x.sample t) (ellMap (fromSvgArc a) u)
          ≤ (Max.max |rx a| |ry a| * (2 / 1000)) * (Max.max |rx a| |ry a| * (2 / 1000)))
    ∧ (∃ u : P ℝ, u.x * u.x + u.y * u.y = 1 ∧ ellMap (fromSvgArc a) u = a.from_)
    ∧ (∃ u : P ℝ, u.x * u.x + u.y * u.y = 1 ∧ ellMap (fromSvgArc a) u = a.to) := by
  obtain ⟨hQ, hC⟩ := svgBeziers_of_not_straight a hs
  obtain ⟨⟨e0, e1⟩, _⟩ := svg_arc_real heps a hs
  refine ⟨?_, ?_, ?_, ?_⟩
  · intro x hx
    rw [hQ] at hx
    exact arc_quads_near_ellipse_real (fromSvgArc a) x hx t ht0 ht1
  · intro x hx
    rw [hC] at hx
    exact arc_cubics_near_ellipse_real (fromSvgArc a) x hx t ht0 ht1
  · exact ⟨⟨Real.cos ((fromSvgArc a).getAngle 0), Real.sin ((fromSvgArc a).getAngle 0)⟩,
      exactTrig_real.cos_sq_add_sin_sq _, e0⟩
  · exact ⟨⟨Real.cos ((fromSvgArc a).getAngle 1), Real.sin ((fromSvgArc a).getAngle 1)⟩,
      exactTrig_real.cos_sq_add_sin_sq _, e1⟩

/-- a degenerate end-point arc (a radius within `S::EPSILON` of 0,
or `from = to`) is replaced by ONE quadratic and ONE cubic, all of whose points lie on the segment
`from → to` (at the parameters `t²` resp. `t²(3 − 2t)`). -/
theorem svg_arc_beziers_straight_real [Eps ℝ] (a : SvgArc ℝ) (hs : isStraightLine a = true)
    (t : ℝ) (ht0 : 0 ≤ t) (ht1 : t ≤ 1) :
    (∀ x ∈ svgQuadsWithT a, ∃ s : ℝ, 0 ≤ s ∧ s ≤ 1
        ∧ x.1.sample t = ⟨a.from_.x + s * (a.to.x - a.from_.x), a.from_.y + s * (a.to.y - a.from_.y)⟩)
    ∧ (∀ x ∈ svgCubics a, ∃ s : ℝ, 0 ≤ s ∧ s ≤ 1
        ∧ x.sample t = ⟨a.from_.x + s * (a.to.x - a.from_.x), a.from_.y + s * (a.to.y - a.from_.y)⟩) := by
  obtain ⟨hQ, hC⟩ := svgBeziers_of_straight a hs
  constructor
  · intro x hx
    rw [hQ, List.mem_singleton] at hx
    subst hx
    refine ⟨t * t, by positivity, by nlinarith, ?_⟩
    apply P.ext' <;> · simp only [Quad.sample, geom, Nat.cast_ofNat, Nat.cast_one]; ring
  · intro x hx
    rw [hC, List.mem_singleton] at hx
    subst hx
    refine ⟨t * t * (3 - 2 * t), by nlinarith [mul_self_nonneg t], ?_, ?_⟩
    · nlinarith [mul_nonneg (mul_self_nonneg (1 - t)) (by linarith : 0 ≤ 1 + 2 * t)]
    · apply P.ext' <;> · simp only [Cubic.sample, geom, Nat.cast_ofNat, Nat.cast_one]; ring

/-- about its centre the arc turns in the direction `rx·ry·signum(sweep)`:
for parameters `s₁ ≤ s₂` at most half a turn apart,
`rx·ry·signum(sweep) · ((arc.sample s₁ − c) × (arc.sample s₂ − c)) ≥ 0`
(the cross product is `rx·ry·sin(sweep·(s₂ − s₁))`, whose sign is that of the sweep only up to half a turn). -/
theorem arc_direction_real (arc : Arc ℝ) (s1 s2 : ℝ) (h12 : s1 ≤ s2)
    (hhalf : |arc.sweep| * (s2 - s1) ≤ Real.pi) :
    0 ≤ (arc.radii.x * arc.radii.y * signum arc.sweep)
      * (arc.sample s1 - arc.center).cross (arc.sample s2 - arc.center) := by
  rw [← pointAt_getAngle, ← pointAt_getAngle, pointAt_eq_ellMap, pointAt_eq_ellMap, ellMap_cross]
  have hsin : (⟨Real.cos (arc.getAngle s1), Real.sin (arc.getAngle s1)⟩ : P ℝ).cross
      ⟨Real.cos (arc.getAngle s2), Real.sin (arc.getAngle s2)⟩ = Real.sin (arc.sweep * (s2 - s1)) := by
    have := Real.sin_sub (arc.getAngle s2) (arc.getAngle s1)
    rw [show arc.getAngle s2 - arc.getAngle s1 = arc.sweep * (s2 - s1) by simp only [Arc.getAngle]; ring] at this
    rw [this]; simp only [geom]; ring
  rw [hsin]
  have hσ := signum_eq arc.sweep
  have hd : 0 ≤ s2 - s1 := by linarith
  have habs : signum arc.sweep * arc.sweep = |arc.sweep| := by
    linear_combination |arc.sweep| * signum_mul_self arc.sweep - signum arc.sweep * abs_mul_signum arc.sweep
  have h0 : 0 ≤ signum arc.sweep * (arc.sweep * (s2 - s1)) := by
    rw [← mul_assoc, habs]; exact mul_nonneg (abs_nonneg _) hd
  have hle : |arc.sweep * (s2 - s1)| ≤ Real.pi := by
    rw [abs_mul, abs_of_nonneg hd]; exact hhalf
  exact scaled_dir_nonneg _ _ _ (sign_mul_sin_nonneg (signum arc.sweep) (arc.sweep * (s2 - s1)) hσ h0 hle)

/-- for EVERY real arc and every emitted quadratic and cubic,
the polar angle about the centre moves monotonically in the direction of the arc
(`arc_direction_real`): for `0 ≤ t₁ ≤ t₂ ≤ 1`
`rx·ry·signum(sweep) · ((B(t₁) − c) × (B(t₂) − c)) ≥ 0`.
In particular (`t₁ = 0`, `t₂ = 1`) each piece stays in the angular sector between its end points. -/
theorem arc_beziers_direction_real (arc : Arc ℝ) (t1 t2 : ℝ) (ht0 : 0 ≤ t1) (ht : t1 ≤ t2) (ht1 : t2 ≤ 1) :
    (∀ x ∈ quadsWithT arc, 0 ≤ (arc.radii.x * arc.radii.y * signum arc.sweep)
        * (x.1.sample t1 - arc.center).cross (x.1.sample t2 - arc.center))
    ∧ (∀ x ∈ cubics arc, 0 ≤ (arc.radii.x * arc.radii.y * signum arc.sweep)
        * (x.sample t1 - arc.center).cross (x.sample t2 - arc.center)) := by
  obtain ⟨hq, hc, b1, b2⟩ := emitted_pieces_real arc
  obtain ⟨g1, g2⟩ := step_sign_real arc
  have hσ := signum_eq arc.sweep
  constructor
  · intro x hxm
    obtain ⟨a1, e⟩ := hq x hxm
    rw [e, quadAt_sample_real, quadAt_sample_real]
    exact (quadFrame_piece _ b1).travels arc a1 _ t1 t2 hσ g1 ht0 ht ht1
  · intro x hxm
    obtain ⟨a1, e⟩ := hc x hxm
    rw [e, cubicAt_sample_real, cubicAt_sample_real]
    exact (cubicFrame_piece _ b2).travels arc a1 _ t1 t2 hσ g2 ht0 ht ht1

/-- every point of the arc between the end points of a quadratic
piece (step `|δ| ≤ 45°`; angle `a₁ + u·δ`, `u ∈ [0,1]`) is within `0.32 %` of the larger radius of a
point of the piece. -/
theorem quad_piece_covers_arc_real (arc : Arc ℝ) (a1 d u : ℝ) (hd : |d| ≤ Real.pi / 4)
    (hu0 : 0 ≤ u) (hu1 : u ≤ 1) :
    ∃ t : ℝ, 0 ≤ t ∧ t ≤ 1 ∧ sqDist (pointAt arc (a1 + u * d)) ((quadAt arc a1 d).sample t)
      ≤ (Max.max |arc.radii.x| |arc.radii.y| * (32 / 10000)) * (Max.max |arc.radii.x| |arc.radii.y| * (32 / 10000)) := by
  simp only [quadAt_sample_real]
  exact (quadFrame_piece d hd).covers arc a1 _ u (hd.trans (by linarith only [Real.pi_pos])) le_rfl (by norm_num)
    (by norm_num) (by norm_num) hu0 hu1

/-- the same for a cubic piece (step `|δ| ≤ 90°`), `0.2 %`. -/
theorem cubic_piece_covers_arc_real (arc : Arc ℝ) (a1 d u : ℝ) (hd : |d| ≤ Real.pi / 2)
    (hu0 : 0 ≤ u) (hu1 : u ≤ 1) :
    ∃ t : ℝ, 0 ≤ t ∧ t ≤ 1 ∧ sqDist (pointAt arc (a1 + u * d)) ((cubicAt arc a1 d).sample t)
      ≤ (Max.max |arc.radii.x| |arc.radii.y| * (2 / 1000)) * (Max.max |arc.radii.x| |arc.radii.y| * (2 / 1000)) := by
  simp only [cubicAt_sample_real]
  exact (cubicFrame_piece d hd).covers arc a1 _ u hd (by norm_num) le_rfl (by norm_num) (by norm_num) hu0 hu1

/-- the second Hausdorff direction for the emitted sequences: for every
real arc with `0 < |sweep| ≤ 2π` every point `arc.sample s`, `s ∈ [0,1]`, is within `0.32 %` of the
larger radius of a point of an emitted quadratic and within `0.2 %` of a point of an emitted cubic.
(Beyond `2π` the sequences cover one turn only: open finding C13-bezier-sweep-clamped; every point
of the arc is still on the covered ellipse, but not at its own parameter.) -/
theorem arc_within_beziers_real (arc : Arc ℝ) (hsw : |arc.sweep| ≤ 2 * Real.pi) (hne : arc.sweep ≠ 0)
    (s : ℝ) (hs0 : 0 ≤ s) (hs1 : s ≤ 1) :
    (∃ x ∈ quadsWithT arc, ∃ t : ℝ, 0 ≤ t ∧ t ≤ 1 ∧ sqDist (arc.sample s) (x.1.sample t)
        ≤ (Max.max |arc.radii.x| |arc.radii.y| * (32 / 10000)) * (Max.max |arc.radii.x| |arc.radii.y| * (32 / 10000)))
    ∧ (∃ x ∈ cubics arc, ∃ t : ℝ, 0 ≤ t ∧ t ≤ 1 ∧ sqDist (arc.sample s) (x.sample t)
        ≤ (Max.max |arc.radii.x| |arc.radii.y| * (2 / 1000)) * (Max.max |arc.radii.x| |arc.radii.y| * (2 / 1000))) := by
  obtain ⟨_, _, nq, nc⟩ := nSteps_pos_real arc hne
  obtain ⟨c1, c2⟩ := cast_faithful_real arc
  obtain ⟨b1, b2⟩ := step_bounds_real arc
  constructor
  · obtain ⟨j, u, hj, u0, u1, hang⟩ := arc_angle_in_piece arc (nStepsQ arc) (nQ arc) nq c1 hsw s hs0 hs1
    obtain ⟨t, t0, t1, hd⟩ := quad_piece_covers_arc_real arc (angleAt arc (stepQ arc) j) (stepQ arc) u b1 u0 u1
    refine ⟨_, List.mem_of_getElem? (quads_get arc j hj), t, t0, t1, ?_⟩
    rw [quadPiece_eq_quadAt, hang]; exact hd
  · obtain ⟨j, u, hj, u0, u1, hang⟩ := arc_angle_in_piece arc (nStepsC arc) (nC arc) nc c2 hsw s hs0 hs1
    obtain ⟨t, t0, t1, hd⟩ := cubic_piece_covers_arc_real arc (angleAt arc (stepC arc) j) (stepC arc) u b2 u0 u1
    refine ⟨_, List.mem_of_getElem? (cubics_get arc j hj), t, t0, t1, ?_⟩
    rw [cubicPiece_eq_cubicAt, hang]; exact hd

/-- `svg_arc_beziers_near_ellipse_real` applies to the example arc of `Props/C13.lean` -/
example : ∃ u : P ℝ, u.x * u.x + u.y * u.y = 1 ∧ ellMap (fromSvgArc exampleArc) u = exampleArc.to :=
  (svg_arc_beziers_near_ellipse_real exampleEps_nonneg exampleArc exampleArc_not_straight
    (1 / 2) (by norm_num) (by norm_num)).2.2.2

/-- a degenerate end-point arc (zero radius) -/
example : isStraightLine (⟨⟨0, 0⟩, ⟨1, 0⟩, ⟨0, 1⟩, 0, false, true⟩ : SvgArc ℝ) = true := by
  simp only [isStraightLine, Bool.or_eq_true, decide_eq_true_eq, sc_abs]
  left; left
  show |(0 : ℝ)| ≤ 1 / 100000000
  norm_num

/-- hypotheses of `arc_direction_real` / `arc_within_beziers_real`: a clockwise three-quarter turn -/
example : |(⟨⟨1, 2⟩, ⟨3, 1⟩, 1, -(3 * Real.pi / 2), 1 / 3⟩ : Arc ℝ).sweep| ≤ 2 * Real.pi
    ∧ (⟨⟨1, 2⟩, ⟨3, 1⟩, 1, -(3 * Real.pi / 2), 1 / 3⟩ : Arc ℝ).sweep ≠ 0
    ∧ |(⟨⟨1, 2⟩, ⟨3, 1⟩, 1, -(3 * Real.pi / 2), 1 / 3⟩ : Arc ℝ).sweep| * (1 / 2 - 0) ≤ Real.pi := by
  have hpi := Real.pi_pos
  refine ⟨?_, ?_, ?_⟩
  · show |(-(3 * Real.pi / 2))| ≤ 2 * Real.pi
    rw [abs_neg, abs_of_pos (by positivity)]; linarith
  · show -(3 * Real.pi / 2) ≠ 0
    intro h; linarith
  · show |(-(3 * Real.pi / 2))| * (1 / 2 - 0) ≤ Real.pi
    rw [abs_neg, abs_of_pos (by positivity)]; linarith

end Lyon.C13
