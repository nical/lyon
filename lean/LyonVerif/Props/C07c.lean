/-
  C07c - the split parameter of `split_edge` (coverage bit 5) and of the split of `merge_coincident_edges` (bit 7),
  the two branches `Props/C07b.lean` excludes as `Tainted`.  Finding `C07-split-parameter-beyond-edge-end`: a genuine
  defect of lyon, reachable end to end, repaired by lyon 96af7b62, which the model mirrors.

  1. The two end-to-end witnesses of the finding (ordinary closed polygons, default tolerance `0.1`): complete runs of
     `tessellate` over exact rationals, evaluated by the kernel.  Each states the value of `Sources.splitT` on the data
     of the witness (beyond the end of the edge; the unrepaired code stored it, and the real tessellator agreed with
     the model) and what the run of the repaired code does:
     * `coincident_merge_parameter_beyond_end_witness`: two triangles sharing the apex `(0,0)`; the edges
       `(0,0) → (100, 1/64)` and `(0,0) → (128, 15/1024)` pass the angle and distance tests of
       `handle_coincident_edges_below`; the second ends EARLIER IN SWEEP ORDER but 28 further in x, so that
       `Sources.splitT = 32/25` (the unrepaired code listed `Edge{0 → 1, t = 1.28}` at the vertex `(128, 15/1024)`).
       The guard `endsWithin` rejects the merge (bit 7 is not set), the vertex lists its own endpoint only, and every
       emitted parameter of the run is in `[0,1]`.
     * `edge_split_parameter_beyond_end_witness`: the flat edge `B = (-10,-1) → (-1/100, 1/1000)` passes `0.02`
       left of the vertex `V = (0,0)`, which lies `0.01` beyond B's end in x, and is split there:
       `Sources.splitT = 1000/999` (with it the crossing of the sliver `V → B.to` with another edge listed
       `Edge{4 → 5, t = 1250375/1249749}`), `Sources.splitTAtVertex = 1000/1001` (the parameter at V's own y); the
       crossing lists `t = 1251625/1252251`, and every emitted parameter of the run is in `[0,1]`.
  2. What the tests of the code confine - `split_edge_parameter_bound`: for an edge accepted by
     `is_edge_connecting` that starts at or above the current vertex, the x-parameter `Sources.splitT` is within
     `threshold/|dx|` of `[0,1]` (`split_parameter_x_overshoot`), not inside.
  3. The repair, about the model's own definitions (`Sources.splitTAtVertex`, used by `Sweep.splitEdge`; the
     Boolean `endsWithin` of `Sweep.handleCoincidentEdgesBelow`, `SweepPos.endsWithin_iff_model`):
     `split_edge_flat_parameter_unit` (edges flatter than 45 degrees: in `[0,1]` unconditionally),
     `split_edge_fixed_parameter_unit` (all edges that span the current vertex in y),
     `split_edge_fixed_agrees` (`splitTAtVertex` is `splitT` wherever that is in `[0,1]`),
     `merge_guard_parameter_unit` (under the guard the split parameter of `merge_coincident_edges` is in `[0,1]`),
     `fixed_split_record_range`.

  The `Tainted` restriction of `Props/C07b.lean`'s range theorems is not dropped for whole runs here: the y-branch
  hypotheses of 3. are the sweep invariant `ActiveSpan` of `Props/C07d.lean`; what is proved of it and what is open
  is said once, in the header of `Props/C07e.lean`.  The position clause: `Props/C07.lean`.
-/
import LyonVerif.Lemmas.SweepPosSplit

set_option linter.unusedVariables false

namespace Lyon.C07c
open Lyon Lyon.Scalar Lyon.Sweep Lyon.EQ Lyon.SweepRep Lyon.C07b Lyon.SweepPos

/-! ## 1. end-to-end witnesses (complete model runs, exact rationals, kernel-evaluated) -/

section witnesses
attribute [local instance 2000] Lyon.instScalarRat

def pr (x y : Rat) : P Rat := ⟨x, y⟩

/-- `(from_id, to_id, range.start, range.end)` of the records emitted by a run, vertex by vertex: `C07b.idPairs`
and `C07b.ranges` in one list -/
def sources (out : Array (Emit Rat)) : List (List (Nat × Nat × Rat × Rat)) :=
  out.toList.filterMap fun e =>
    match e with
    | .vertex _ recs => some (recs.map fun r => (r.2.fromId, r.2.toId, r.2.t0, r.2.t1))
    | .tri _ _ _ => none

/-- the positions of the emitted vertices -/
def positions (out : Array (Emit Rat)) : List (Rat × Rat) :=
  out.toList.filterMap fun e =>
    match e with
    | .vertex p _ => some (p.x, p.y)
    | .tri _ _ _ => none

/-- two triangles sharing the apex `(0,0)` (ids `0 1 2` and `4 5 6`) -/
def mergeInput : List (SubPath Rat) :=
  [([pr 0 0, pr 100 (1/64), pr 50 (-30)], true), ([pr 0 0, pr 128 (15/1024), pr 70 40], true)]

/-- four triangles: edge A `0 → 1`, edge B `4 → 5`, the vertex V `8`, the crossing edge C `12 → 13` -/
def splitInput : List (SubPath Rat) :=
  [([pr (-12) (-1), pr (594/100) (1/2), pr (-12) 3], true),
   ([pr (-10) (-1), pr (-1/100) (1/1000), pr (-3) 5], true),
   ([pr 0 0, pr 3 (-4), pr 4 (-4)], true),
   ([pr (-5) (1/10000), pr 5 (9/10000), pr 0 8], true)]

/-- every `range.start` / `range.end` of every record emitted by a run is in `[0,1]` -/
def allUnit (out : Array (Emit Rat)) : Bool :=
  (sources out).all fun v => v.all fun r => decide (0 ≤ r.2.2.1) && decide (r.2.2.1 ≤ 1) && decide (0 ≤ r.2.2.2) && decide (r.2.2.2 ≤ 1)

/-- The run on `mergeInput`, evaluated ONCE: one kernel evaluation of the whole conjunction shares the run between
the conjuncts (a `decide` per conjunct would repeat it). -/
theorem mergeRun :
    let r := tessellate .ids .nonZero false (1/10 : Rat) true mergeInput
    r.2.2.testBit 5 = false ∧ r.1.isNone = true ∧ r.2.2.testBit 7 = false ∧
    (positions r.2.1)[3]? = some (128, 15/1024) ∧
    (sources r.2.1)[3]? = some [(5, 6, 0, 1)] ∧ allUnit r.2.1 = true := by
  decide +kernel

/-- the run on `splitInput`, evaluated once -/
theorem splitRun :
    let r := tessellate .ids .nonZero false (1/10 : Rat) true splitInput
    r.1.isNone = true ∧ r.2.2.testBit 5 = true ∧ r.2.2.testBit 8 = true ∧
    (sources r.2.1)[7]? = some [(4, 5, 1251625/1252251, 1), (12, 13, 4999/10008, 1)] ∧ allUnit r.2.1 = true := by
  decide +kernel

/-- Finding `C07-split-parameter-beyond-edge-end`, part a.  `Sources.splitT`, the parameter
`merge_coincident_edges` computes, is `32/25` for the end `(128, 15/1024)` on the edge `(0,0) → (100, 1/64)`.  The
complete modelled `FillTessellator` (`tessellate_with_ids`, non-zero, vertical sweep, tolerance `1/10`, exact
rationals) on `mergeInput`: the run succeeds, does NOT take the split branch of `merge_coincident_edges` (bit 7), the
vertex at `(128, 15/1024)` lists its endpoint record `5 → 6` only, and every emitted parameter is in `[0,1]`. -/
theorem coincident_merge_parameter_beyond_end_witness :
    Sources.splitT (pr 0 0) (pr 100 (1/64)) (pr 128 (15/1024)) = 32/25 ∧
    (let r := tessellate .ids .nonZero false (1/10 : Rat) true mergeInput
     r.1.isNone = true ∧ r.2.2.testBit 7 = false ∧
     (positions r.2.1)[3]? = some (128, 15/1024) ∧
     (sources r.2.1)[3]? = some [(5, 6, 0, 1)] ∧ allUnit r.2.1 = true) :=
  ⟨by decide +kernel, mergeRun.2⟩

/-- Part b.  For the edge `B` and the vertex `V` the x-parameter `Sources.splitT` is `1000/999`, the parameter
`split_edge` uses, `Sources.splitTAtVertex`, is `1000/1001`.  The complete run on `splitInput` succeeds, takes
`split_edge` (bit 5) and `process_intersection` (bit 8), the eighth emitted vertex - the crossing of the sliver
`V → B.to` with the edge `12 → 13` - lists the record `4 → 5` with `range.start = 1251625/1252251 < 1`, and every
emitted parameter is in `[0,1]`. -/
theorem edge_split_parameter_beyond_end_witness :
    Sources.splitT (pr (-10) (-1)) (pr (-1/100) (1/1000)) (pr 0 0) = 1000/999 ∧
    Sources.splitTAtVertex (pr (-10) (-1)) (pr (-1/100) (1/1000)) (pr 0 0) = 1000/1001 ∧
    (let r := tessellate .ids .nonZero false (1/10 : Rat) true splitInput
     r.1.isNone = true ∧ r.2.2.testBit 5 = true ∧ r.2.2.testBit 8 = true ∧
     (sources r.2.1)[7]? = some [(4, 5, 1251625/1252251, 1), (12, 13, 4999/10008, 1)] ∧ allUnit r.2.1 = true) :=
  ⟨by decide +kernel, by decide +kernel, splitRun⟩

/-- the merge input does not taint its run (so the range theorems of `Props/C07b.lean` apply to it: the example
below applies `sweep_records_range_partial`, the witnesses running on `Rat`); the split input takes `split_edge` and is `Tainted` in the sense of `Props/C07b.lean` - its parameters are
in `[0,1]` by evaluation (above), not by `sweep_records_unit_partial` -/
theorem witness_runs_tainted :
    ¬ Tainted (tessellate .ids .nonZero false (1/10 : Rat) true mergeInput).2.2 ∧
    Tainted (tessellate .ids .nonZero false (1/10 : Rat) true splitInput).2.2 :=
  ⟨fun h => h.elim (fun h => Bool.noConfusion (mergeRun.1.symm.trans h))
    (fun h => Bool.noConfusion (mergeRun.2.2.1.symm.trans h)), Or.inl splitRun.2.1⟩

/-- `sweep_records_range_partial` applied to the merge run (hypotheses discharged) -/
example (d : EdgeData Rat)
    (hd : Emitted (tessellate .ids .nonZero false (1/10 : Rat) true mergeInput).2.1 d) :
    (0 ≤ d.t0 ∧ d.t0 ≤ 1) ∧ (0 ≤ d.t1 ∧ d.t1 ≤ 1) := by
  refine sweep_records_range_partial (fun t : Rat => 0 ≤ t ∧ t ≤ 1) (fun v : Rat => 0 ≤ v ∧ v ≤ 1) (fun w : Rat => w ≤ 1)
    closure_rat wclosure_rat ?_ ?_ _ _ _ _ _ _ d hd witness_runs_tainted.1
  · show (0 : Rat) ≤ ((0 : Nat) : Rat) ∧ ((0 : Nat) : Rat) ≤ 1
    simp
  · show (0 : Rat) ≤ ((1 : Nat) : Rat) ∧ ((1 : Nat) : Rat) ≤ 1
    simp

end witnesses

/-! ## 2. what the tests of the code confine; 3. the repair -/

section field
variable {K : Type} [Field K] [LinearOrder K] [IsStrictOrderedRing K]

/-- for an edge flatter than 45 degrees (the split point is located along
x), a point whose x lies between the smaller x of the edge and `thr` beyond the larger one has its split
parameter in `[-thr/|dx|, 1 + thr/|dx|]` -/
theorem split_parameter_x_overshoot (a b c : P K) (thr : K) (h : |b.y - a.y| < |b.x - a.x|)
    (hmin : Min.min a.x b.x ≤ c.x) (hmax : c.x ≤ Max.max a.x b.x + thr) (hthr : 0 ≤ thr) :
    -(thr / |b.x - a.x|) ≤ Sources.splitT a b c ∧ Sources.splitT a b c ≤ 1 + thr / |b.x - a.x| :=
  splitT_x_overshoot a b c thr h hmin hmax hthr

/-- `Sources.splitT`, the parameter `split_edge` computed before lyon 96af7b62, for an edge that `is_edge_connecting`
pushed to `edges_to_split`, when the edge is not degenerate and starts at or above the current vertex: in
`[0,1]` if the edge is at least as steep as 45 degrees; within `threshold/|dx|` of `[0,1]` otherwise, where
`threshold = max(tolerance/2, |x|·2·EPSILON)`.  (`is_edge_connecting` itself gives `y ≤ to.y` and
`min_x ≤ x ≤ max_x + threshold`: `isEdgeConnecting_split_facts`.) -/
theorem split_edge_parameter_bound [w : Wide K] (cur : P K) (tol : K) (e : ActiveEdge K) (c : Bool)
    (h : isEdgeConnecting cur tol e = .ok (c, true)) (hne : e.from_ ≠ e.to) (hfrom : e.from_.y ≤ cur.y)
    (hthr : 0 ≤ onEdgeThreshold tol cur.x) :
    (¬ |e.to.y - e.from_.y| < |e.to.x - e.from_.x| →
      0 ≤ Sources.splitT e.from_ e.to cur ∧ Sources.splitT e.from_ e.to cur ≤ 1) ∧
    (|e.to.y - e.from_.y| < |e.to.x - e.from_.x| →
      -(onEdgeThreshold tol cur.x / |e.to.x - e.from_.x|) ≤ Sources.splitT e.from_ e.to cur ∧
      Sources.splitT e.from_ e.to cur ≤ 1 + onEdgeThreshold tol cur.x / |e.to.x - e.from_.x|) :=
  have ⟨h1, h2, h3⟩ := isEdgeConnecting_split_facts cur tol e c h
  splitT_bound e.from_ e.to cur _ hfrom h3 h1 h2 hthr

/-- the parameter `split_edge` computes (`Sources.splitTAtVertex`, the model's own function) for an edge flatter
than 45 degrees - the branch in which the defect lived - is in `[0,1]` UNCONDITIONALLY: wherever the vertex is,
whatever the edge -/
theorem split_edge_flat_parameter_unit (a b c : P K) (hb : |b.y - a.y| < |b.x - a.x|) :
    0 ≤ Sources.splitTAtVertex a b c ∧ Sources.splitTAtVertex a b c ≤ 1 := splitTAtVertex_unit_flat a b c hb

/-- the parameter of `split_edge` (`Sources.splitTAtVertex`) is in `[0,1]` for every non-degenerate edge that spans the current vertex in y,
wherever the vertex is in x -/
theorem split_edge_fixed_parameter_unit (a b c : P K) (hne : a ≠ b) (hya : a.y ≤ c.y) (hyb : c.y ≤ b.y) :
    0 ≤ Sources.splitTAtVertex a b c ∧ Sources.splitTAtVertex a b c ≤ 1 := splitTAtVertex_unit a b c hya hyb

/-- `splitTAtVertex` is `splitT` wherever that is in `[0,1]` -/
theorem split_edge_fixed_agrees (a b c : P K) (h : 0 ≤ Sources.splitT a b c ∧ Sources.splitT a b c ≤ 1) :
    Sources.splitTAtVertex a b c = Sources.splitT a b c := by
  rw [splitTAtVertex_def]
  unfold Sources.splitT at h ⊢
  by_cases hb : |b.y - a.y| < |b.x - a.x|
  · have hb' : Scalar.abs (b.y - a.y) < Scalar.abs (b.x - a.x) := hb
    rw [if_pos hb'] at h ⊢
    rw [if_pos hb, if_pos h]
  · have hb' : ¬ Scalar.abs (b.y - a.y) < Scalar.abs (b.x - a.x) := hb
    rw [if_neg hb'] at h ⊢
    rw [if_neg hb]

/-- under the guard of `handle_coincident_edges_below`
(`endsWithin (long_to - from) (short_to - from)`; it IS the Boolean the model computes:
`SweepPos.endsWithin_iff_model`) the split parameter of `merge_coincident_edges` is in `[0,1]` -/
theorem merge_guard_parameter_unit (cur long short : P K) (hne : cur ≠ long)
    (hg : endsWithin (long - cur) (short - cur)) (hy0 : cur.y ≤ short.y) (hy1 : short.y ≤ long.y) :
    0 ≤ Sources.splitT cur long short ∧ Sources.splitT cur long short ≤ 1 :=
  merge_guard_unit cur long short hg hy0 hy1

/-- with a parameter in `[0,1]` the record `split_edge` pushes keeps the range discipline of `Props/C07b.lean`
(`split_records_range`) -/
theorem fixed_split_record_range (lo hi s e : K) (a b c : P K) (hne : a ≠ b) (hya : a.y ≤ c.y) (hyb : c.y ≤ b.y)
    (hs : lo ≤ s ∧ s ≤ hi) (he : lo ≤ e ∧ e ≤ hi) :
    lo ≤ Sources.remapT (Sources.splitTAtVertex a b c) s e ∧ Sources.remapT (Sources.splitTAtVertex a b c) s e ≤ hi :=
  C07b.split_records_range lo hi _ s e (splitTAtVertex_unit a b c hya hyb) hs he

end field

/-! ### non-vacuity of 2. and 3. (the numbers of the two witnesses, over `ℚ` as an ordered field) -/

section examples
attribute [local instance 3000] Lyon.fieldScalar

/-- the hypotheses of `split_parameter_x_overshoot` / `splitT_bound` hold for the edge B and the vertex V of
`splitInput` with the threshold `1/20`, and the parameter is `1000/999`: above `1`, below the bound
`1 + (1/20)/(999/100)` -/
example :
    let a : P ℚ := ⟨-10, -1⟩
    let b : P ℚ := ⟨-1/100, 1/1000⟩
    let c : P ℚ := ⟨0, 0⟩
    |b.y - a.y| < |b.x - a.x| ∧ Min.min a.x b.x ≤ c.x ∧ c.x ≤ Max.max a.x b.x + 1/20 ∧ a.y ≤ c.y ∧ c.y ≤ b.y ∧
    Sources.splitT a b c = 1000/999 := by
  refine ⟨by norm_num [abs_of_pos], by norm_num, by norm_num, by norm_num, by norm_num, ?_⟩
  rw [splitT_x _ _ _ (by norm_num [abs_of_pos])]
  norm_num

/-- ... and the repaired parameter for the same data is the y-parameter `1000/1001` -/
example : Sources.splitTAtVertex (⟨-10, -1⟩ : P ℚ) ⟨-1/100, 1/1000⟩ ⟨0, 0⟩ = 1000/1001 := by
  have hb : |(1/1000 : ℚ) - (-1)| < |(-1/100 : ℚ) - (-10)| := by norm_num [abs_of_pos]
  rw [splitTAtVertex_def, if_pos hb, solveTForX_eq _ _ _ (by norm_num), solveTForY_eq _ _ _ (by norm_num)]
  norm_num

/-- the guard rejects the merge of `mergeInput` (the end `(128, 15/1024)` reaches beyond `(100, 1/64)` in x) and
accepts an ordinary pair of coincident edges -/
example : ¬ endsWithin ((⟨100, 1/64⟩ : P ℚ) - ⟨0, 0⟩) ((⟨128, 15/1024⟩ : P ℚ) - ⟨0, 0⟩) := by
  intro h
  rcases h with h | ⟨_, h⟩
  · have h' : |(100 : ℚ) - 0| ≤ |(1/64 : ℚ) - 0| := h
    norm_num [abs_of_pos] at h'
  · have h' : |(128 : ℚ) - 0| ≤ |(100 : ℚ) - 0| := h
    norm_num [abs_of_pos] at h'

example : endsWithin ((⟨100, 1/64⟩ : P ℚ) - ⟨0, 0⟩) ((⟨64, 1/100⟩ : P ℚ) - ⟨0, 0⟩) ∧
    (0 : ℚ) ≤ 1/100 ∧ (1/100 : ℚ) ≤ 1/64 ∧ (⟨0, 0⟩ : P ℚ) ≠ ⟨100, 1/64⟩ := by
  refine ⟨Or.inr ⟨?_, ?_⟩, by norm_num, by norm_num, ?_⟩
  · show (0 : ℚ) ≤ (64 - 0) * (100 - 0)
    norm_num
  · show |(64 : ℚ) - 0| ≤ |(100 : ℚ) - 0|
    norm_num [abs_of_pos]
  · intro h
    have := congrArg P.x h
    norm_num at this

end examples

end Lyon.C07c
