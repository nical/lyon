/-
  C06b / C06c / C06f (through the two), non-vacuity: the environment the concrete instances over `ℝ` share (C06d, C06e and
  C06g build their own).  `exEnvJ lj`: tolerance 0.1,
  width 2 (`w/2 = 1`), miter limit 4, join `lj`, butt start cap, square end cap, fixed width, exact `Line::intersection`
  with guard `1e-8`; `exHypJ`: it satisfies the standing hypotheses `CoverHyp` (real `sqrt`, `cos² + sin² = 1`);
  `exPt`: the 3-4-5 polyline `(0,0) → (12,16) → (32,16) → (44,32)` of `Props/C06b.lean`.
-/
import LyonVerif.Lemmas.StrokeCoverAsm
import Mathlib.Analysis.SpecialFunctions.Sqrt


namespace Lyon.C06b
open Lyon Scalar Lyon.Stroke Lyon.Stroke.Full Lyon.C05 Lyon.C05b Lyon.C05c Lyon.C06
open Lyon.StrokeQuad (lineIntersection)

section Real
attribute [local instance] Lyon.C05.realTransc
@[instance_reducible] noncomputable def realAsin : Asin ℝ := ⟨id⟩
@[instance_reducible] noncomputable def realFlat : FlatConst ℝ := ⟨1 / 10000, fun m e => (m : ℝ) / 10 ^ e, 1 / 5⟩
attribute [local instance] realAsin realFlat

/-- the example polyline -/
noncomputable def exPt : Nat → P ℝ
  | 0 => ⟨0, 0⟩
  | 1 => ⟨12, 16⟩
  | 2 => ⟨32, 16⟩
  | _ => ⟨44, 32⟩

/-- tolerance 0.1, width 2, miter limit 4, join `lj`, butt / square caps, fixed width -/
noncomputable def exEnvJ (lj : LineJoin) : Env ℝ :=
  Env.new ⟨1 / 10, 2, 4, lj, .butt, .square, false, 0⟩ (lineIntersection (1 / 10 ^ 8))
/-- … with the Bevel join -/
noncomputable abbrev exEnv : Env ℝ := exEnvJ .bevel

theorem len_of_sq (v : P ℝ) (L : ℝ) (hL : 0 ≤ L) (h : v.sqLen = L ^ 2) : len v = L := by
  show Real.sqrt _ = L
  rw [h]; exact Real.sqrt_sq hL

/-- width 2: `w/2 = 1` -/
theorem two_half : (2 : ℝ) * half = 1 := by
  rw [show (half : ℝ) = 1 / 2 from sc_half]; norm_num

/-- `cos² + sin² = 1`, the one law of the real `Transc` instance that Round joins and caps use -/
theorem exTrig (x : ℝ) : Transc.cos x * Transc.cos x + Transc.sin x * Transc.sin x = 1 := by
  show Real.cos x * Real.cos x + Real.sin x * Real.sin x = 1
  rw [← sq, ← sq]; exact Real.cos_sq_add_sin_sq x

theorem exHypJ (lj : LineJoin) (hlj : lj = .bevel ∨ lj = .miter ∨ lj = .miterClip ∨ lj = .round) : CoverHyp (exEnvJ lj) (1 / 10 ^ 8) where
  sqrt_nonneg := fun x _ => Real.sqrt_nonneg x
  sqrt_sq := fun x hx => Real.mul_self_sqrt hx
  ix_eq := rfl
  eps_nonneg := by positivity
  fw := rfl
  join := by
    rcases hlj with h | h | h | h
    · exact Or.inl h
    · exact Or.inr (Or.inl h)
    · exact Or.inr (Or.inr (Or.inl h))
    · exact Or.inr (Or.inr (Or.inr ⟨h, exTrig⟩))
  clip := fun _ => by
    constructor
    · show (1 : ℝ) ≤ 4; norm_num
    · show (1 / 10 ^ 8 : ℝ) < 2 * half
      rw [two_half]; norm_num
  scap := Or.inl (by show Lyon.StrokeQuad.Cap.butt ≠ .round; decide)
  ecap := Or.inl (by show Lyon.StrokeQuad.Cap.square ≠ .round; decide)
  hw := by
    show (0 : ℝ) < 2 * half
    rw [two_half]; exact one_pos

theorem exHyp : CoverHyp exEnv (1 / 10 ^ 8) := exHypJ _ (Or.inl rfl)

end Real

end Lyon.C06b
