/-
  C08 — the STROKE tessellator on the complete stroker model (`Model/Tess/StrokeFull.lean`, tied by
  family `full:32` of C05), composed with the reset prologues of `stroke.rs`
  (`Model/Tess/ResetStroke.lean`).

  The object holds an attribute buffer and the builder's attribute store, nothing else; a call
  resets the store before `StrokeBuilderImpl::new` sees it, the whole builder state is created inside
  the call, and in this model the buffer a call leaves behind is an input of the call (`StrokeCall.scribble`:
  nothing reads it later; `Props/C08e.lean` models the buffer itself).  Hence (`stroke_full_call_fresh`,
  `stroke_history_fresh_full`): the complete output `Out` — every `add_stroke_vertex` with all accessors and
  its source, every `add_triangle`; the interpolated attributes are not part of `Out`, see `Props/C08e.lean` —
  of a call after ANY history equals that of a new tessellator.  The theorem is about the FULL tied model
  and not about an abstract core.
-/
import LyonVerif.Model.Tess.ResetStroke
import LyonVerif.Lemmas.Reset

set_option linter.unusedSectionVars false

namespace Lyon.C08
open Lyon Lyon.Reset Lyon.Stroke.Full
open Lyon.StrokeQuad (Ix)

variable {α : Type} [Scalar α] [Transc α] [Asin α] [FlatConst α]

/-- `SimpleAttributeStore::reset(n)` forgets the store: data, ids and attribute count -/
theorem store_reset_fresh (s : Store α) (n : Nat) : s.reset n = (Store.new 0 : Store α).reset n := rfl

/-- the ids handed out and the attributes read back after a reset do not depend on the old store -/
theorem store_feed_fresh (s : Store α) (n : Nat) (attrs : List (List α)) :
    storeFeed (s.reset n) attrs = storeFeed ((Store.new 0 : Store α).reset n) attrs := rfl

/-- the stale store is really there before the reset -/
theorem store_stale_witness :
    let used : Store Int' := ((Store.new 2 : Store Int').add [⟨5⟩, ⟨6⟩]).1
    storeGet used 0 = [⟨5⟩, ⟨6⟩] ∧ storeGet (used.reset 2) 0 = [] := by decide

/-- **One call of a used `StrokeTessellator` = the same call of a new one**, on the full model:
every entry point, every option set, every path (lines and curves), fixed or variable width, any
attribute vectors. -/
theorem stroke_full_call_fresh (ix : Ix α) (t : StrokeT α) (c : StrokeCall α) :
    (strokeFullCall ix t c).2 = (strokeFullCall ix StrokeT.new c).2 := by
  unfold strokeFullCall
  cases c.entry <;> rfl

theorem strokeObj_stateless (ix : Ix α) : Stateless (strokeObj ix) :=
  .of_fresh (stroke_full_call_fresh ix)

/-- **After every history** (any calls, any entry points, builders dropped without `build`,
whatever they left in the buffer and the store) the next call's complete output is a new
tessellator's. -/
theorem stroke_history_fresh_full (ix : Ix α) (t0 : StrokeT α) (hist : List (StrokeCall α)) (c : StrokeCall α) :
    ((strokeObj ix).call ((strokeObj ix).run t0 hist) c).2 = ((strokeObj ix).call StrokeT.new c).2 :=
  strokeObj_stateless ix _ _ c

theorem stroke_history_outputs_full (ix : Ix α) (t0 : StrokeT α) (hist : List (StrokeCall α)) :
    (strokeObj ix).outputs t0 hist = hist.map (fun c => ((strokeObj ix).call StrokeT.new c).2) :=
  (strokeObj_stateless ix).outputs StrokeT.new hist t0

end Lyon.C08
