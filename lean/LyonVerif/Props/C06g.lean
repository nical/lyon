/-
  C06g — the LOWER half of the round clause for one fan of `tessellate_arc` (round joins and round caps are made of
  such fans).

  `round_fan_covers_inner_sector`: for `tessellate_arc a0 a1 va vb n` around the centre `c` with radius `w/2`
  (start / end vertex at `c + w/2·(cos a0, sin a0)`, `c + w/2·(cos a1, sin a1)`), every point of the circular sector
  of radius `w/2 − tol` between the directions `a0` and `a1` lies in the triangle (centre, start, end) or in a
  triangle the fan emits — provided the sagitta `w/2·(1 − cos((a1 − a0)/2^(n+1)))` of one of the `2^n` chords is at most
  `tol`.  `round_fan_covers_inner_sector_tol` discharges that proviso through `C06.sagitta_within_tolerance` (half chord
  angle at most `acos((r − tol)/r)`, which is what `round_subdivision_enough` provides for the depth lyon chooses).
  Laws of `sin` / `cos` (hypotheses): `cos² + sin² = 1`, the two addition formulas, `sin`, `cos` positive on
  `(0, (a1 − a0)/2]` (an arc of less than half a turn); all hold over the reals (example below).

  Lemmas: `Lemmas/StrokeCoverRoundLow.lean` (`arc_covers_sides`: the cover by half-planes, on the chord lemmas of
  `Lemmas/CircleCoverTrig.lean` - `tessellate_arc` is the recursion of `fill_border_radius`).
  ORIENTATION.  The statements are for `a0 < a1` and the COUNTER-CLOCKWISE sector from `a0` to `a1`.  The model calls
  `tessellate_arc` the other way round at a round join: `tessellateRoundJoin` (`Model/Tess/StrokeParts.lean`) makes
  `diff ≥ 0` on the negative side and calls `tessellateArc endAngle startAngle`, `diff ≤ 0` on the positive side and calls
  `tessellateArc startAngle endAngle` (`adjustDiff`) - `a0 ≥ a1` at both call sites; a round cap's two fans run either way,
  by the sign of `angle_to`.  So these theorems are about the function `tessellate_arc`, and cannot be instantiated at
  a round join of the model as they stand: the clockwise mirror image (same proof with the signs of the half-planes
  exchanged) is not stated.
  NOT done here either: that the two fans of a round cap cover the half disc exactly (it needs laws that tie
  `angle_from_x_axis` / `angle_to` to the edge normals, and the bookkeeping of the two cap fans of a run).
-/
import LyonVerif.Lemmas.StrokeCoverRoundLow
import Mathlib.Analysis.SpecialFunctions.Trigonometric.Basic
import Mathlib.Analysis.SpecialFunctions.Trigonometric.Inverse


namespace Lyon.C06g
open Lyon Scalar Lyon.Stroke Lyon.Stroke.Full Lyon.C05 Lyon.C05b Lyon.C05c Lyon.C06 Lyon.C06b

section
variable {K : Type} [Field K] [LinearOrder K] [IsStrictOrderedRing K] [Transc K]

/-- **the fan of `tessellate_arc` covers the sector of radius `w/2 − tol`** (sagitta of one chord at most `tol`) -/
theorem round_fan_covers_inner_sector
    (hpy : ∀ x : K, Transc.cos x * Transc.cos x + Transc.sin x * Transc.sin x = 1)
    (hac : ∀ x y : K, Transc.cos (x + y) = Transc.cos x * Transc.cos y - Transc.sin x * Transc.sin y)
    (has : ∀ x y : K, Transc.sin (x + y) = Transc.sin x * Transc.cos y + Transc.cos x * Transc.sin y)
    (c : P K) (hw : K) (hhw : 0 < hw) (n : Nat) (a0 a1 : K) (va vb : Nat) (d : VData K) (o : Out K)
    (h01 : a0 < a1) (hpos : ∀ x : K, 0 < x → x ≤ (a1 - a0) * half → 0 < Transc.sin x ∧ 0 < Transc.cos x)
    (hc : d.positionOnPath = c) (hhd : d.halfWidth = hw) (hn : o.nextId = o.verts.length)
    (hpa : PosAt o va (c + (uv a0).smul hw)) (hpb : PosAt o vb (c + (uv a1).smul hw))
    (tol : K) (hsag : hw * (1 - Transc.cos ((a1 - a0) * half ^ (n + 1))) ≤ tol)
    (w : P K) (ρ : K) (hwu : w.sqLen = 1) (h1 : 0 ≤ (uv a0).cross w) (h2 : 0 ≤ w.cross (uv a1))
    (hρ0 : 0 ≤ ρ) (hρ : ρ ≤ hw - tol) :
    InTri (c + w.smul ρ) (c, c + (uv a0).smul hw, c + (uv a1).smul hw)
    ∨ CoveredBy (tessellateArc a0 a1 va vb n d o) (c + w.smul ρ) := by
  replace hρ : ρ ≤ hw * Transc.cos ((a1 - a0) * half ^ (n + 1)) := by linarith only [hρ, hsag]
  have hh : (half : K) = 1 / 2 := sc_half
  have hcirc : ∀ x : K, ((c + (uv x).smul hw) - c).sqLen = hw * hw := by
    intro x; have := hpy x; simp only [uv, geom]; linear_combination (hw * hw) * this
  -- the half-angle of a leaf chord is in `(0, (a1 − a0)/2]`
  have hhalf : (half : K) ^ (n + 1) ≤ half := by
    rw [hh, pow_succ]
    exact mul_le_of_le_one_left (by norm_num) (pow_le_one₀ (by norm_num) (by norm_num))
  obtain ⟨hS, hC⟩ := hpos ((a1 - a0) * half ^ (n + 1)) (mul_pos (sub_pos.2 h01) (by rw [hh]; positivity))
    (mul_le_mul_of_nonneg_left hhalf (sub_pos.2 h01).le)
  by_cases hout : ((c + (uv a1).smul hw) - (c + (uv a0).smul hw)).cross ((c + w.smul ρ) - (c + (uv a0).smul hw)) < 0
  · refine Or.inr (arc_covers_sides hpy c hw n a0 a1 va vb d o _ _ hc hhd hn hpa (hcirc a0) hpb (hcirc a1) _ hout
      (C03c.leafEdges_inner ⟨hpy, hac, has⟩ c hw n a0 a1 _ hhw.le hS.le hC.le ?_))
    have : ((c + w.smul ρ) - c).sqLen = ρ * ρ := by simp only [geom] at hwu ⊢; linear_combination (ρ * ρ) * hwu
    rw [this]
    exact mul_self_le_mul_self hρ0 hρ
  · -- not beyond the chord and between the two radii: in the triangle (centre, start, end)
    left
    obtain ⟨hS2, hC2⟩ := hpos ((a1 - a0) * half) (by rw [hh]; linarith only [h01]) (le_refl _)
    have hD : 0 < (uv a0).cross (uv a1) := by
      have e : a1 = a0 + ((a1 - a0) * half + (a1 - a0) * half) := by rw [hh]; ring
      have : (uv a0).cross (uv a1) = Transc.sin ((a1 - a0) * half + (a1 - a0) * half) := by
        conv_lhs => rw [e]
        simp only [uv, geom]; rw [hac, has]
        linear_combination (Transc.sin ((a1 - a0) * half + (a1 - a0) * half)) * hpy a0
      rw [this, has]
      linarith [mul_pos hS2 hC2]
    refine inTri_of_sides _ _ _ _ ?_ (not_lt.1 hout) ?_ ?_
    · have : ((c + (uv a0).smul hw) - c).cross ((c + w.smul ρ) - c) = hw * ρ * (uv a0).cross w := by
        simp only [geom]; ring
      rw [this]; exact mul_nonneg (mul_nonneg hhw.le hρ0) h1
    · have : (c - (c + (uv a1).smul hw)).cross ((c + w.smul ρ) - (c + (uv a1).smul hw)) = hw * ρ * w.cross (uv a1) := by
        simp only [geom]; ring
      rw [this]; exact mul_nonneg (mul_nonneg hhw.le hρ0) h2
    · have : ((c + (uv a0).smul hw) - c).cross ((c + w.smul ρ) - c)
          + ((c + (uv a1).smul hw) - (c + (uv a0).smul hw)).cross ((c + w.smul ρ) - (c + (uv a0).smul hw))
          + (c - (c + (uv a1).smul hw)).cross ((c + w.smul ρ) - (c + (uv a1).smul hw))
          = hw * hw * (uv a0).cross (uv a1) := by simp only [geom]; ring
      rw [this]; exact mul_pos (mul_pos hhw hhw) hD

/-- … with the proviso discharged by `sagitta_within_tolerance`: half the chord angle is at most
`acos((w/2 − tol)/(w/2))` -/
theorem round_fan_covers_inner_sector_tol
    (hpy : ∀ x : K, Transc.cos x * Transc.cos x + Transc.sin x * Transc.sin x = 1)
    (hac : ∀ x y : K, Transc.cos (x + y) = Transc.cos x * Transc.cos y - Transc.sin x * Transc.sin y)
    (has : ∀ x y : K, Transc.sin (x + y) = Transc.sin x * Transc.cos y + Transc.cos x * Transc.sin y)
    (hanti : ∀ x y : K, 0 ≤ x → x ≤ y → y ≤ Transc.pi → Transc.cos y ≤ Transc.cos x)
    (hacos : ∀ x : K, -1 ≤ x → x ≤ 1 → Transc.cos (Transc.acos x) = x ∧ 0 ≤ Transc.acos x ∧ Transc.acos x ≤ Transc.pi)
    (c : P K) (hw : K) (hhw : 0 < hw) (n : Nat) (a0 a1 : K) (va vb : Nat) (d : VData K) (o : Out K)
    (h01 : a0 < a1) (hpos : ∀ x : K, 0 < x → x ≤ (a1 - a0) * half → 0 < Transc.sin x ∧ 0 < Transc.cos x)
    (hc : d.positionOnPath = c) (hhd : d.halfWidth = hw) (hn : o.nextId = o.verts.length)
    (hpa : PosAt o va (c + (uv a0).smul hw)) (hpb : PosAt o vb (c + (uv a1).smul hw))
    (tol : K) (ht0 : 0 ≤ tol) (htr : tol ≤ hw)
    (hstep : (a1 - a0) * half ^ (n + 1) ≤ Transc.acos ((hw - tol) / hw))
    (w : P K) (ρ : K) (hwu : w.sqLen = 1) (h1 : 0 ≤ (uv a0).cross w) (h2 : 0 ≤ w.cross (uv a1))
    (hρ0 : 0 ≤ ρ) (hρ : ρ ≤ hw - tol) :
    InTri (c + w.smul ρ) (c, c + (uv a0).smul hw, c + (uv a1).smul hw)
    ∨ CoveredBy (tessellateArc a0 a1 va vb n d o) (c + w.smul ρ) := by
  have hh : (half : K) = 1 / 2 := sc_half
  have hstep0 : 0 ≤ (a1 - a0) * half ^ (n + 1) := by
    apply mul_nonneg (by linarith); rw [hh]; positivity
  exact round_fan_covers_inner_sector hpy hac has c hw hhw n a0 a1 va vb d o h01 hpos hc hhd hn hpa hpb tol
    (sagitta_within_tolerance hw tol _ hhw ht0 htr hanti hacos hstep0 hstep) w ρ hwu h1 h2 hρ0 hρ

end

/-! ### non-vacuity over the reals: a quarter-turn fan of depth 3 around the origin, radius 1 -/

section Real
attribute [local instance] Lyon.C05.realTransc

noncomputable def exD (x : ℝ) : VData ℝ := ⟨⟨0, 0⟩, 1, uv x, 0, .negative, .endpoint 0⟩
noncomputable def exO : Out ℝ := ((Out.empty 0).addVertex (exD 0)).addVertex (exD (Real.pi / 2))

example (w : P ℝ) (ρ : ℝ) (hwu : w.sqLen = 1) (h1 : 0 ≤ (uv (0 : ℝ)).cross w) (h2 : 0 ≤ w.cross (uv (Real.pi / 2)))
    (hρ0 : 0 ≤ ρ) (hρ : ρ ≤ 1 - (1 - Real.cos (Real.pi / 2 * half ^ (3 + 1)))) :
    InTri ((⟨0, 0⟩ : P ℝ) + w.smul ρ) (⟨0, 0⟩, (⟨0, 0⟩ : P ℝ) + (uv (0 : ℝ)).smul 1, (⟨0, 0⟩ : P ℝ) + (uv (Real.pi / 2)).smul 1)
    ∨ CoveredBy (tessellateArc 0 (Real.pi / 2) 0 1 3 (exD 0) exO) ((⟨0, 0⟩ : P ℝ) + w.smul ρ) := by
  have hh : (half : ℝ) = 1 / 2 := sc_half
  refine round_fan_covers_inner_sector (K := ℝ)
    (fun x => by show Real.cos x * Real.cos x + Real.sin x * Real.sin x = 1
                 rw [← sq, ← sq]; exact Real.cos_sq_add_sin_sq x)
    (fun x y => Real.cos_add x y) (fun x y => Real.sin_add x y)
    ⟨0, 0⟩ 1 one_pos 3 0 (Real.pi / 2) 0 1 (exD 0) exO (by positivity) ?_ rfl rfl rfl ?_ ?_
    (1 - Real.cos (Real.pi / 2 * half ^ (3 + 1))) ?_ w ρ hwu h1 h2 hρ0 hρ
  · intro x hx0 hx
    rw [hh] at hx
    have hpi := Real.pi_pos
    exact ⟨Real.sin_pos_of_pos_of_lt_pi hx0 (by linarith), Real.cos_pos_of_mem_Ioo ⟨by linarith, by linarith⟩⟩
  · refine ⟨exD 0, rfl, ?_⟩
    show (⟨0, 0⟩ : P ℝ) + (uv (0 : ℝ)).smul 1 = _
    rfl
  · refine ⟨exD (Real.pi / 2), rfl, ?_⟩
    show (⟨0, 0⟩ : P ℝ) + (uv (Real.pi / 2)).smul 1 = _
    rfl
  · show (1 : ℝ) * (1 - Real.cos ((Real.pi / 2 - 0) * half ^ (3 + 1))) ≤ _
    rw [sub_zero, one_mul]

end Real

/-! ### non-vacuity of `round_fan_covers_inner_sector_tol`: the same fan, `acos` the real `arccos`,
`tol = 1 − cos(π/32)` (the sagitta of one of the 8 chords) -/

section Real2

@[instance_reducible] noncomputable def realTranscA : Transc ℝ := { Lyon.C05.realTransc with acos := Real.arccos }
attribute [local instance] realTranscA

noncomputable def exDA (x : ℝ) : VData ℝ := ⟨⟨0, 0⟩, 1, uv x, 0, .negative, .endpoint 0⟩
noncomputable def exOA : Out ℝ := ((Out.empty 0).addVertex (exDA 0)).addVertex (exDA (Real.pi / 2))

example (w : P ℝ) (ρ : ℝ) (hwu : w.sqLen = 1) (h1 : 0 ≤ (uv (0 : ℝ)).cross w) (h2 : 0 ≤ w.cross (uv (Real.pi / 2)))
    (hρ0 : 0 ≤ ρ) (hρ : ρ ≤ 1 - (1 - Real.cos (Real.pi / 32))) :
    InTri ((⟨0, 0⟩ : P ℝ) + w.smul ρ) (⟨0, 0⟩, (⟨0, 0⟩ : P ℝ) + (uv (0 : ℝ)).smul 1, (⟨0, 0⟩ : P ℝ) + (uv (Real.pi / 2)).smul 1)
    ∨ CoveredBy (tessellateArc 0 (Real.pi / 2) 0 1 3 (exDA 0) exOA) ((⟨0, 0⟩ : P ℝ) + w.smul ρ) := by
  have hh : (half : ℝ) = 1 / 2 := sc_half
  have hpi := Real.pi_pos
  have hc0 : 0 ≤ Real.cos (Real.pi / 32) := Real.cos_nonneg_of_mem_Icc ⟨by linarith, by linarith⟩
  have hc1 : Real.cos (Real.pi / 32) ≤ 1 := Real.cos_le_one _
  refine round_fan_covers_inner_sector_tol (K := ℝ)
    (fun x => by
      show Real.cos x * Real.cos x + Real.sin x * Real.sin x = 1
      rw [← sq, ← sq]; exact Real.cos_sq_add_sin_sq x)
    (fun x y => Real.cos_add x y) (fun x y => Real.sin_add x y)
    (fun x y hx hxy hy => Real.cos_le_cos_of_nonneg_of_le_pi hx hy hxy)
    (fun x hx0 hx1 => ⟨Real.cos_arccos hx0 hx1, Real.arccos_nonneg x, Real.arccos_le_pi x⟩)
    ⟨0, 0⟩ 1 one_pos 3 0 (Real.pi / 2) 0 1 (exDA 0) exOA (by positivity) ?_ rfl rfl rfl ?_ ?_
    (1 - Real.cos (Real.pi / 32)) (by linarith) (by linarith) ?_ w ρ hwu h1 h2 hρ0 hρ
  · intro x hx0 hx
    rw [hh] at hx
    exact ⟨Real.sin_pos_of_pos_of_lt_pi hx0 (by linarith), Real.cos_pos_of_mem_Ioo ⟨by linarith, by linarith⟩⟩
  · refine ⟨exDA 0, rfl, ?_⟩
    show (⟨0, 0⟩ : P ℝ) + (uv (0 : ℝ)).smul 1 = _
    rfl
  · refine ⟨exDA (Real.pi / 2), rfl, ?_⟩
    show (⟨0, 0⟩ : P ℝ) + (uv (Real.pi / 2)).smul 1 = _
    rfl
  · show (Real.pi / 2 - 0) * half ^ (3 + 1) ≤ Real.arccos ((1 - (1 - Real.cos (Real.pi / 32))) / 1)
    have e : (1 - (1 - Real.cos (Real.pi / 32))) / 1 = Real.cos (Real.pi / 32) := by ring
    rw [e, Real.arccos_cos (by linarith) (by linarith), hh]
    apply le_of_eq; ring

end Real2

end Lyon.C06g
