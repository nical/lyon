/-
  C03 — `tessellate_circle` is an EXACT TILING of the inscribed regular polygon: cover and inside
  (`Props/C03c.lean`), no overlap, no degenerate triangle, the counts.

  No overlap (`Lemmas/CircleCoverDisjoint.lean`, `CircleCoverTiles.lean`, `CircleCoverFull.lean`): a chord `a → b` separates
  triangles with vertices on the arc `[a, b]` from triangles with vertices on the complementary arc `[b, a + 2π]`
  (`side_eq`: the side function is `4r²·sin η·sin((θ−a)/2)·sin((θ−b)/2)`); a `fill_border_radius` call tiles its cap, two
  caps and half of the square tile a half turn, two half turns close up (`circle_full`).  `meshTris m c` is the index buffer
  resolved to point triples, in emission order; `Disj`: no common strictly interior point.
-/
import LyonVerif.Lemmas.CircleCoverFull
import LyonVerif.Props.C03Real

set_option warn.classDefReducibility false

namespace Lyon.C03c
open Lyon Lyon.Shapes Lyon.C03

section
variable {K : Type} [Field K] [LinearOrder K] [IsStrictOrderedRing K] [Transc K]

/-- **The triangles `fill_circle` emits do not overlap**: no point of the plane is strictly inside
two of them (`meshTris m c` lists them as point triples in emission order). -/
theorem circle_tris_disjoint (L : CircTrig K) (c : P K) (r tol : K) (m : Mesh K)
    (h : fillCircle c r tol = some m) :
    (meshTris m c).Pairwise Disj ∧ (meshTris m c).length = m.tris.length :=
  ⟨circle_meshTris c r tol m h ▸ (circle_full L c _ (fillCircle_eq h).1 _).disj, by simp [meshTris]⟩

/-- the same by positions in the index buffer: triangles number `i < j` share no interior point -/
theorem circle_tris_disjoint_get (L : CircTrig K) (c : P K) (r tol : K) (m : Mesh K)
    (h : fillCircle c r tol = some m) (i j : Nat) (hij : i < j) (hj : j < m.tris.length) (p : P K) :
    ¬ (StrictIn (ptsOf m.verts c (m.tris[i]'(by omega))) p ∧ StrictIn (ptsOf m.verts c (m.tris[j]'hj)) p) := by
  have hp := (circle_tris_disjoint L c r tol m h).1
  rw [List.pairwise_iff_getElem] at hp
  have hl : (meshTris m c).length = m.tris.length := by simp [meshTris]
  have := hp i j (by omega) (by omega) hij p
  simpa [meshTris] using this

/-- **`fill_circle` tiles the inscribed regular polygon exactly.**  With `n = circleRecursions |r| tol`
and `V k = c + |r|·(cos kδ, sin kδ)`, `δ = π/(2·2ⁿ)`:
1. (cover + inside) a point lies in an emitted closed triangle iff it is on the inner side of all
   `4·2ⁿ` sides `V k → V (k+1)`;
2. (no overlap) no point is strictly inside two emitted triangles;
3. (no degenerate triangle) every triangle has non-zero area, its vertices on the circle, three
   pairwise distinct valid ids;
4. (counts) `4·2ⁿ` vertices — all the `V k` —, `4·2ⁿ − 2` triangles. -/
theorem fill_circle_exact_tiling (L : CircTrig K) (c : P K) (r tol : K) (m : Mesh K)
    (h : fillCircle c r tol = some m) :
    (∀ p : P K, Covered m p ↔
      ∀ k : Nat, k < 4 * 2 ^ circleRecursions (Scalar.abs r) tol →
        Inner (regVert c (Scalar.abs r) (circleRecursions (Scalar.abs r) tol) k,
               regVert c (Scalar.abs r) (circleRecursions (Scalar.abs r) tol) (k + 1)) p) ∧
    (meshTris m c).Pairwise Disj ∧
    (Good c (Scalar.abs r) m ∧ ∀ t ∈ m.tris, TriOK m.verts.length t) ∧
    (m.verts.length = 4 * 2 ^ circleRecursions (Scalar.abs r) tol ∧
     m.tris.length + 2 = 4 * 2 ^ circleRecursions (Scalar.abs r) tol ∧
     ∀ k : Nat, k ≤ 4 * 2 ^ circleRecursions (Scalar.abs r) tol →
       regVert c (Scalar.abs r) (circleRecursions (Scalar.abs r) tol) k ∈ m.verts) :=
  ⟨fun p => circle_tris_union_eq_polygon L c r tol m h p,
   (circle_tris_disjoint L c r tol m h).1,
   ⟨circle_good L c r tol m h, circle_tris_distinct c r tol m h⟩,
   ⟨(circle_counts c r tol m h).1, (circle_counts c r tol m h).2,
    (circle_polygon_vertices_emitted L c r tol m h).2.1⟩⟩

end

attribute [local instance] realTransc

/-- **no two triangles of `tessellate_circle` overlap** (model over ℝ, Mathlib's functions) -/
theorem circle_tris_disjoint_real (c : P ℝ) (r tol : ℝ) (m : Mesh ℝ) (h : fillCircle c r tol = some m) :
    (meshTris m c).Pairwise Disj :=
  (circle_tris_disjoint real_circTrig c r tol m h).1

/-- **`tessellate_circle` is an exact tiling of the inscribed regular `4·2ⁿ`-gon** (model over ℝ):
cover + inside + no overlap + no degenerate triangle + counts; together with
`fill_circle_within_tolerance_real` (that polygon contains every point farther than the tolerance
inside the circle and lies in the disc). -/
theorem fill_circle_exact_tiling_real (c : P ℝ) (r tol : ℝ) (m : Mesh ℝ) (h : fillCircle c r tol = some m) :
    (∀ p : P ℝ, Covered m p ↔
      ∀ k : Nat, k < 4 * 2 ^ circleRecursions |r| tol →
        Inner (regVert c |r| (circleRecursions |r| tol) k, regVert c |r| (circleRecursions |r| tol) (k + 1)) p) ∧
    (meshTris m c).Pairwise Disj ∧
    (Good c |r| m ∧ ∀ t ∈ m.tris, TriOK m.verts.length t) ∧
    (m.verts.length = 4 * 2 ^ circleRecursions |r| tol ∧ m.tris.length + 2 = 4 * 2 ^ circleRecursions |r| tol ∧
     ∀ k : Nat, k ≤ 4 * 2 ^ circleRecursions |r| tol → regVert c |r| (circleRecursions |r| tol) k ∈ m.verts) :=
  fill_circle_exact_tiling real_circTrig c r tol m h

/-- non-vacuity: the hypothesis is satisfiable for every `r ≠ 0`, `tol > 0` -/
example : ∃ m, fillCircle (⟨0, 0⟩ : P ℝ) 100 (1 / 100) = some m :=
  (fill_circle_within_tolerance_real ⟨0, 0⟩ 100 (1 / 100) (by norm_num) (by norm_num)).imp fun _ h => h.1

/-- `Disj` is not vacuous: a point strictly inside a triangle exists -/
example : StrictIn ((⟨0, 0⟩, ⟨4, 0⟩, ⟨0, 4⟩) : Tri3 ℚ) ⟨1, 1⟩ := by
  left; simp [geom]; norm_num

end Lyon.C03c
