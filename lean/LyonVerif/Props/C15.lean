/-
  C15 — SVG-style builder (`WithSvg`): any command sequence gives a well-formed path with SVG
  semantics.

  All statements are about `Model/Path/Svg.lean` (the `def`s the driver runs at `Float32` against
  the real `WithSvg` on every check), for EVERY finite command sequence, every operand, and every
  arc geometry `g : Geo α ρ` (the arc → quadratics conversion is a parameter).

  The wrapped builder sees `(begin edge* end)*`, and never a call out of place before `build` either; the events
  those calls denote are a well-formed path; the individual SVG rules, as equations on single steps; the smooth
  control point is the reflection iff the previous command was a curve of the same kind, else the current point —
  for EVERY previous command, arcs included (`smooth_reflects_same_kind`); and for EVERY sequence the calls are
  exactly those of the SVG reference semantics of `Model/Path/SvgSpec.lean` (`svg_semantics`).

  The model mirrors lyon after commit 059d9c0c ("WithSvg::arc resets last_ctrl …", repair of finding
  `C15-smooth-after-arc`: the last two failed for a smooth command directly after an arc; `smooth_after_arc_repaired`
  is that input).
  The only algebra needed is `hα : ∀ a, a + (a - a) = a` (reflecting the current point about
  itself): true in ℤ, in every additive group, and for finite IEEE numbers.

  The numeric geometry of arcs (`Geo`: start point, pieces, end point) is a parameter here; `Props/C15b.lean`
  instantiates it with the concrete geometry over ℝ (finding `C15-elliptic-arc-start-angle`, repaired by lyon commit
  20bcfb88, lived there).  Not covered by theorems: IEEE rounding of `cur + v`.
-/
import LyonVerif.Lemmas.Svg


namespace Lyon.C15
open Lyon.Path Lyon.Svg

variable {α ρ : Type} [Add α] [Sub α]

/-- For every finite command sequence followed by `build`, the calls received by the wrapped
builder are `(begin edge* end)*`. -/
theorem svg_trace_wellnested (g : Geo α ρ) (zero : α) (cmds : List (Cmd α ρ)) :
    WellNested (runBuild g zero cmds) := by
  obtain ⟨b, hn, hi⟩ := run_nest g cmds (inv_init zero)
  have := nestState_append_of hn (endIfNeeded_nest hi)
  exact (wellNestedFrom_iff_nestState false _).2 this

/-- Before `build`, too, no call is ever out of place (so `build` "at any point" is safe), and the
adapter's `need_moveto` flag / `last_cmd` say whether the wrapped builder is inside a sub-path. -/
theorem svg_trace_prefix_valid (g : Geo α ρ) (zero : α) (cmds : List (Cmd α ρ)) :
    ∃ b, nestState false (run g (St.init zero) cmds).2 = some b ∧
      (run g (St.init zero) cmds).1.needMoveTo = !b ∧
      decide ((run g (St.init zero) cmds).1.lastCmd.code ≤ Verb.begin.code) = b := by
  obtain ⟨b, hn, hi⟩ := run_nest g cmds (inv_init zero)
  exact ⟨b, hn, hi.1, hi.2.1⟩

/-- The path events denoted by the calls (`Trace.specEvents`) form a well-formed path: every
edge starts where the previous one ended, every `End` names the sub-path's first point. -/
theorem svg_path_wellformed [DecidableEq α] (g : Geo α ρ) (zero : α) (cmds : List (Cmd α ρ)) :
    WellFormed (specEvents (runBuild g zero cmds)) :=
  specEvents_wellFormed _ (svg_trace_wellnested g zero cmds)

/-- Each relative command is its absolute form at `current + v` (all operands offset). -/
theorem relative_is_offset (g : Geo α ρ) (s : St α) (a b v : Pt α) (r : ρ) :
    step g s (.relMoveTo v) = step g s (.moveTo (s.cur + v)) ∧
    step g s (.relLineTo v) = step g s (.lineTo (s.cur + v)) ∧
    step g s (.relQuadTo a v) = step g s (.quadTo (s.cur + a) (s.cur + v)) ∧
    step g s (.relCubicTo a b v) = step g s (.cubicTo (s.cur + a) (s.cur + b) (s.cur + v)) ∧
    step g s (.smoothRelQuadTo v) = step g s (.smoothQuadTo (s.cur + v)) ∧
    step g s (.smoothRelCubicTo b v) = step g s (.smoothCubicTo (s.cur + b) (s.cur + v)) ∧
    step g s (.relArcTo r v) = step g s (.arcTo r (s.cur + v)) :=
  ⟨rfl, rfl, rfl, rfl, rfl, rfl, rfl⟩

/-- `H`/`h`/`V`/`v` are lines that keep the other coordinate of the current point. -/
theorem hv_lines (g : Geo α ρ) (s : St α) (t : α) :
    step g s (.hLineTo t) = step g s (.lineTo ⟨t, s.cur.y⟩) ∧
    step g s (.relHLineTo t) = step g s (.lineTo ⟨s.cur.x + t, s.cur.y⟩) ∧
    step g s (.vLineTo t) = step g s (.lineTo ⟨s.cur.x, t⟩) ∧
    step g s (.relVLineTo t) = step g s (.lineTo ⟨s.cur.x, s.cur.y + t⟩) :=
  ⟨rfl, rfl, rfl, rfl⟩

/-- Inside a sub-path, `close` ends it closed and the current point returns to the sub-path's
start; a second `close` does nothing. -/
theorem close_returns_to_start (g : Geo α ρ) (s : St α) (h : s.needMoveTo = false) :
    (step g s .close).2 = [.end_ true] ∧ (step g s .close).1.cur = s.first ∧
      (step g s .close).1.first = s.first ∧
      step g (step g s .close).1 .close = ((step g s .close).1, []) := by
  simp [step, close, h]

/-- States reached by command sequences: an open sub-path means the path is not empty. -/
theorem reachable_open_nonempty (g : Geo α ρ) (zero : α) (cmds : List (Cmd α ρ)) :
    (run g (St.init zero) cmds).1.needMoveTo = false →
      (run g (St.init zero) cmds).1.isEmpty = false :=
  fun hn => by
    obtain ⟨b, _, h1, _, h3⟩ := run_nest g cmds (inv_init zero)
    cases b with
    | false => rw [hn] at h1; exact Bool.noConfusion h1
    | true => exact h3 rfl

/-- A drawing command issued while no sub-path is open (`need_moveto`).
* On an empty path (nothing started yet) it is *replaced* by `move_to(to)`: the path then starts
  at the command's target.  This is lyon's documented convention (`SvgPathBuilder::line_to`);
  SVG has no rule here (path data must start with a move-to).
* Otherwise (after a `close`) a new sub-path is begun at the previous sub-path's start — the SVG
  rule "the next subpath starts at the same initial point as the current subpath" — and the
  edge is drawn from there. -/
theorem implicit_move_to (g : Geo α ρ) (s : St α) (hn : s.needMoveTo = true) (c1 c2 p : Pt α) :
    (s.isEmpty = true →
      step g s (.lineTo p) = moveTo s p ∧ step g s (.quadTo c1 p) = moveTo s p ∧
      step g s (.cubicTo c1 c2 p) = moveTo s p) ∧
    (s.isEmpty = false →
      (step g s (.lineTo p)).2 = endIfNeeded s ++ [.begin s.first (), .line p ()] ∧
      (step g s (.quadTo c1 p)).2 = endIfNeeded s ++ [.begin s.first (), .quad c1 p ()] ∧
      (step g s (.cubicTo c1 c2 p)).2 = endIfNeeded s ++ [.begin s.first (), .cubic c1 c2 p ()]) := by
  constructor <;> intro he <;>
    simp [step, lineTo, quadTo, cubicTo, beginIfNeeded, hn, he, moveTo]

/-- … at the very beginning: the path starts at the target, nothing else is emitted. -/
theorem implicit_move_to_first (g : Geo α ρ) (zero : α) (p : Pt α) :
    (step g (St.init zero) (.lineTo p)).2 = [.begin p ()] ∧
      (step g (St.init zero) (.lineTo p)).1.cur = p ∧
      (step g (St.init zero) (.lineTo p)).1.first = p := by
  simp [step, lineTo, beginIfNeeded, St.init, moveTo, endIfNeeded, Verb.code]

/-- … after a `close` of an open sub-path of a non-empty path: begin at that sub-path's start. -/
theorem implicit_move_to_after_close (g : Geo α ρ) (s : St α) (hn : s.needMoveTo = false)
    (he : s.isEmpty = false) (p : Pt α) :
    (step g (step g s .close).1 (.lineTo p)).2 = [.begin s.first (), .line p ()] ∧
      (step g (step g s .close).1 (.lineTo p)).1.cur = p := by
  simp [step, close, hn, he, lineTo, beginIfNeeded, moveTo, endIfNeeded, Verb.code]

/-- second control point (absolute) if `c` is a cubic-kind command (`C c S s`) -/
def cubicKind (s : St α) : Cmd α ρ → Option (Pt α)
  | .cubicTo _ c2 _ => some c2
  | .relCubicTo _ c2 _ => some (s.cur + c2)
  | .smoothCubicTo c2 _ => some c2
  | .smoothRelCubicTo c2 _ => some (s.cur + c2)
  | _ => none

/-- control point (absolute) if `c` is a quadratic-kind command (`Q q T t`) -/
def quadKind (s : St α) : Cmd α ρ → Option (Pt α)
  | .quadTo c _ => some c
  | .relQuadTo c _ => some (s.cur + c)
  | .smoothQuadTo _ => some (smoothQuadCtrl s)
  | .smoothRelQuadTo _ => some (smoothQuadCtrl s)
  | _ => none

/-- what SVG prescribes for the implicit control point of the NEXT smooth command, given the
previous command's kind (`k = some ctrl` if it was a curve of the same kind) -/
def reflected (cur : Pt α) : Option (Pt α) → Pt α
  | some k => cur + (cur - k)
  | none => cur

/-- The implicit control point of a smooth command is `current + (current − ctrl)`
(= `2·current − ctrl`, see `reflection_is_2c_minus_ctrl`) iff the previous command `c` was a
curve of the same kind, with `ctrl` that command's (second) control point; otherwise — after a
move, line, close, curve of the other kind, or ARC — it is the current point.
First part: `c` was actually drawn, i.e. it is not the first command of an empty path (which is
replaced by a move-to: then the control point is the current point, second part).
`hi` is the reachable-state invariant of `svg_trace_prefix_valid` (`need_moveto` ⇒ `last_cmd` is
`Close`/`End`); `hα` see the file header. -/
theorem smooth_reflects_same_kind (hα : ∀ a : α, a + (a - a) = a) (g : Geo α ρ) (s : St α)
    (c : Cmd α ρ) (hi : s.needMoveTo = true → Verb.begin.code < s.lastCmd.code) :
    (¬(s.needMoveTo = true ∧ s.isEmpty = true) →
      smoothCubicCtrl (step g s c).1 = reflected (step g s c).1.cur (cubicKind s c) ∧
      smoothQuadCtrl (step g s c).1 = reflected (step g s c).1.cur (quadKind s c)) ∧
    ((s.needMoveTo = true ∧ s.isEmpty = true) →
      smoothCubicCtrl (step g s c).1 = (step g s c).1.cur ∧
      smoothQuadCtrl (step g s c).1 = (step g s c).1.cur) := by
  -- commands after which nothing is reflected, drawn or not
  have both : ∀ {A : Prop} (P : Prop), A → (¬P → A) ∧ (P → A) := fun _ h => ⟨fun _ => h, fun _ => h⟩
  cases c with
  | moveTo p => exact both _ (smooth_moveTo s p)
  | relMoveTo v => exact both _ (smooth_moveTo s _)
  | close => exact both _ (smooth_close s hi)
  | lineTo p => exact both _ (smooth_lineTo s p)
  | relLineTo v => exact both _ (smooth_lineTo s _)
  | hLineTo x => exact both _ (smooth_lineTo s _)
  | relHLineTo x => exact both _ (smooth_lineTo s _)
  | vLineTo y => exact both _ (smooth_lineTo s _)
  | relVLineTo y => exact both _ (smooth_lineTo s _)
  | arcTo r p => exact both _ (smooth_arcTo hα s p _)
  | relArcTo r v => exact both _ (smooth_arcTo hα s _ _)
  | arc r => exact both _ (smooth_self hα _ (arc_lastCtrl s _))
  | quadTo k p => exact smooth_quadTo s k p
  | relQuadTo k v => exact smooth_quadTo s _ _
  | smoothQuadTo p => exact smooth_quadTo s _ p
  | smoothRelQuadTo v => exact smooth_quadTo s _ _
  | cubicTo k1 k2 p => exact smooth_cubicTo s k1 k2 p
  | relCubicTo k1 k2 v => exact smooth_cubicTo s _ _ _
  | smoothCubicTo k2 p => exact smooth_cubicTo s _ k2 p
  | smoothRelCubicTo k2 v => exact smooth_cubicTo s _ _ _

/-- `current + (current − ctrl)` is `2·current − ctrl` (over the integers, the lattice the tie
runs on). -/
theorem reflection_is_2c_minus_ctrl (cur k : Pt Int) :
    reflected cur (some k) = ⟨2 * cur.x - k.x, 2 * cur.y - k.y⟩ := by
  show (⟨cur.x + (cur.x - k.x), cur.y + (cur.y - k.y)⟩ : Pt Int) = _
  congr 1 <;> omega

/-- a toy arc geometry: every `arc_to` is one quadratic starting at the current point -/
def wGeo : Geo Int Unit where
  center _ _ := .skip
  endpoint _ cur to := .arc (.curve cur true [(⟨15, 5⟩, to)])

/-- `M0,0 C0,10 10,10 10,0 A… 20,0 S30,10 30,0` -/
def wCmds : List (Cmd Int Unit) :=
  [.moveTo ⟨0, 0⟩, .cubicTo ⟨0, 10⟩ ⟨10, 10⟩ ⟨10, 0⟩, .arcTo () ⟨20, 0⟩,
   .smoothCubicTo ⟨30, 10⟩ ⟨30, 0⟩]

/-
  The input of finding `C15-smooth-after-arc`: before lyon commit 059d9c0c `arc` overwrote `last_ctrl` with the
  position where the arc started and left `last_cmd` at `CubicTo`, so the smooth cubic reflected (10,0) about (20,0)
  and the calls differed from those of the reference.
-/
theorem smooth_after_arc_repaired :
    (run wGeo (St.init 0) (wCmds.take 3)).1.cur = ⟨20, 0⟩ ∧
    (run wGeo (St.init 0) (wCmds.take 3)).1.lastCmd = .cubicTo ∧
    smoothCubicCtrl (run wGeo (St.init 0) (wCmds.take 3)).1 = ⟨20, 0⟩ ∧
    runBuild wGeo 0 wCmds =
      [.begin ⟨0, 0⟩ (), .cubic ⟨0, 10⟩ ⟨10, 10⟩ ⟨10, 0⟩ (), .line ⟨10, 0⟩ (),
       .quad ⟨15, 5⟩ ⟨20, 0⟩ (), .cubic ⟨20, 0⟩ ⟨30, 10⟩ ⟨30, 0⟩ (), .end_ false] := by
  decide

/-- For EVERY command sequence, the calls received by the wrapped builder (including those of
`build`) are exactly the ones the SVG reference semantics prescribes, and the current point
agrees. -/
theorem svg_semantics (hα : ∀ a : α, a + (a - a) = a) (g : Geo α ρ) (zero : α)
    (cmds : List (Cmd α ρ)) :
    runBuild g zero cmds = specBuild g zero cmds ∧
      (run g (St.init zero) cmds).1.cur = (Spec.run g (Spec.init zero) cmds).1.cur := by
  obtain ⟨e, s⟩ := sim_run hα g cmds (sim_init zero)
  exact ⟨by simp [runBuild, specBuild, e, endIfNeeded_eq s.lc], s.cur⟩

/-- the algebraic hypothesis `hα` holds on the integers -/
example : ∀ a : Int, a + (a - a) = a := by intro a; omega

/-- relative, smooth, H/V, close, draw-after-close, arc and smooth-after-arc commands -/
def exCmds : List (Cmd Int Unit) :=
  [.lineTo ⟨1, 0⟩, .relCubicTo ⟨0, 3⟩ ⟨3, 3⟩ ⟨3, 0⟩, .smoothCubicTo ⟨7, 5⟩ ⟨9, 1⟩, .hLineTo 2,
   .close, .relQuadTo ⟨1, 1⟩ ⟨2, 0⟩, .smoothRelQuadTo ⟨2, 0⟩, .arcTo () ⟨0, 0⟩,
   .smoothQuadTo ⟨5, 5⟩]

example : runBuild wGeo 0 exCmds = specBuild wGeo 0 exCmds := by decide

example : runBuild wGeo 0 exCmds =
    [.begin ⟨1, 0⟩ (), .cubic ⟨1, 3⟩ ⟨4, 3⟩ ⟨4, 0⟩ (), .cubic ⟨4, -3⟩ ⟨7, 5⟩ ⟨9, 1⟩ (),
     .line ⟨2, 1⟩ (), .end_ true, .begin ⟨1, 0⟩ (), .quad ⟨2, 1⟩ ⟨3, 0⟩ (), .quad ⟨4, -1⟩ ⟨5, 0⟩ (),
     .line ⟨5, 0⟩ (), .quad ⟨15, 5⟩ ⟨0, 0⟩ (), .quad ⟨0, 0⟩ ⟨5, 5⟩ (), .end_ false] := by decide

/-- hypotheses of `close_returns_to_start` / `implicit_move_to_after_close` -/
example : (run wGeo (St.init 0) (exCmds.take 4)).1.needMoveTo = false ∧
    (run wGeo (St.init 0) (exCmds.take 4)).1.isEmpty = false := by decide

/-- hypothesis of `implicit_move_to` (both cases) -/
example : (St.init (0 : Int)).needMoveTo = true ∧ (St.init (0 : Int)).isEmpty = true ∧
    (run wGeo (St.init 0) (exCmds.take 5)).1.needMoveTo = true ∧
    (run wGeo (St.init 0) (exCmds.take 5)).1.isEmpty = false := by decide

/-- hypotheses of `smooth_reflects_same_kind` -/
example :
    ((run wGeo (St.init 0) (exCmds.take 1)).1.needMoveTo = true →
      Verb.begin.code < (run wGeo (St.init 0) (exCmds.take 1)).1.lastCmd.code) ∧
    ¬((run wGeo (St.init 0) (exCmds.take 1)).1.needMoveTo = true ∧
      (run wGeo (St.init 0) (exCmds.take 1)).1.isEmpty = true) := by decide

end Lyon.C15
