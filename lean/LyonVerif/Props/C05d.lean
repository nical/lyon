/-
  C05d — index validity of the COMPLETE stroker model for ALL joins, `LineJoin::MiterClip` with a
  fixed width and curves included (the combination `Props/C05c.lean` leaves out), and the
  numeric clauses that are exact-arithmetic facts.

  §1  `stroke_indices_valid_sqrt`: over every ordered field, for ALL event lists (lines, quadratics,
      cubics, open / closed / empty / single-point sub-paths, any order of events), all joins, caps,
      fixed and variable width, every emitted triangle has — at the moment `add_triangle` is called —
      three pairwise distinct ids returned by an earlier `add_stroke_vertex` (`VertexId::INVALID`
      never reaches `add_triangle`; `Out` keeps vertices and triangles in two lists, so between two
      outputs this says: every triangle of an appended block is proper and below the `nextId` reached at
      the end of the block, `VSteps.exists_grow`), GIVEN, for the combination fixed width + `MiterClip` only, the
      hypotheses `ClipHyp` (`Lemmas/StrokeIdxClipLink.lean`): the `sqrt` laws, the exact
      `Line::intersection` with determinant guard `eps ≥ 0`, `line_width ≥ 0`, `miter_limit ≥ 1`,
      merge threshold `> 0` (`line_width > 2·eps` is not among them: when the guard fires the side point stays
      where it is, `clip_fallback`; /repo fix ede203df of finding C05-miter-clip-unscaled-fallback).  Every other transcendental function, `is_nan`, the curve flattening
      stay arbitrary.  The proof is the LINKED window invariant of `Lemmas/StrokeIdxRun.lean`, `StrokeIdxClipRun.lean`:
      the clipped front side point of a `MiterClip` join lies behind the join along the next edge, so
      the two dot products `flattened_step` tests add up to `≥ 2·|prev_edge|²`.
      `miter_limit ≥ 1` is needed: below 1 the real tessellator does hand `VertexId::INVALID` to
      `add_triangle` (seen on random curve strokes with `options.miter_limit` in (0.05, 1) set through
      the public field; `with_miter_limit` asserts `≥ 1`; outside the property: an observation).
  §2  numeric clauses: advancement of a fixed-width polyline, reach of a single segment.
-/
import LyonVerif.Lemmas.StrokeIdxClipLink
import LyonVerif.Lemmas.StrokePoly
import LyonVerif.Lemmas.StrokeAdvEmits
import LyonVerif.Lemmas.StrokeSegReach
import LyonVerif.Lemmas.StrokeAdvMerge
import LyonVerif.Props.C05c

set_option linter.unusedSectionVars false
set_option linter.unusedVariables false

namespace Lyon.C05d
open Lyon Scalar Lyon.Stroke Lyon.Stroke.Full Lyon.C05 Lyon.C05b Lyon.C05c
open Lyon.StrokeQuad (lineIntersection)

/-! ## §1 index validity for all joins -/

section Field
variable {K : Type} [Field K] [LinearOrder K] [IsStrictOrderedRing K] [Transc K] [Asin K] [FlatConst K]

/-- **Fixed width + `MiterClip`, all event lists** (curves included) over an ordered field under
`ClipHyp`: the emission sequence is valid -/
theorem stroke_indices_valid_miter_clip (e : Env K) (store : Nat → List K) (evs : List (IdEv K)) (eps : K)
    (hfw : e.o.varWidth = false) (h : ClipHyp e eps) :
    VSteps (VertexOK e store (evIds evs)) (Out.empty 0) (runEvents e store evs).st.out :=
  (runEvents_specL (linkReg_field h store (evIds evs) hfw) hfw store
    (K := fun id => id ∈ evIds evs ∨ id = unset) (Or.inr rfl) evs
    (evOK_std e store evs _ _ trivial (Or.inl fun _ => trivial))).base.steps

/-- **`stroke_indices_valid`, every join, every width mode, every event list**, over an ordered field
(exact arithmetic).  `ClipHyp` is asked for only when the width is fixed and the join is `MiterClip`;
in every other case no law of any function is assumed (`stroke_indices_valid_partial`). -/
theorem stroke_indices_valid_sqrt (e : Env K) (store : Nat → List K) (evs : List (IdEv K)) (eps : K)
    (h : e.o.varWidth = false → e.o.join = .miterClip → ClipHyp e eps) :
    VSteps (VertexOK e store (evIds evs)) (Out.empty 0) (runEvents e store evs).st.out := by
  rcases Bool.eq_false_or_eq_true e.o.varWidth with hvw | hvw
  · exact stroke_indices_valid_partial e store evs (Or.inl hvw)
  · by_cases hj : e.o.join = .miterClip
    · exact stroke_indices_valid_miter_clip e store evs eps hvw (h hvw hj)
    · exact stroke_indices_valid_partial e store evs (Or.inr hj)

/-- **`stroke_indices_valid_full`**: the statement of `stroke_indices_valid_sqrt` with the hypotheses
spelled out.  Ordered field, ANY event list, ANY option record with `line_width ≥ 0` and
`miter_limit ≥ 1` (the property's own preconditions, needed for fixed width + `MiterClip` only),
the two `sqrt` laws, the exact `Line::intersection` with any determinant guard `eps ≥ 0`, a positive
merge threshold: every triangle, when it is emitted, has three distinct ids returned before
(in the sense of the header: `VSteps` between two outputs). -/
theorem stroke_indices_valid_full (e : Env K) (store : Nat → List K) (evs : List (IdEv K)) (eps : K)
    (hs0 : ∀ x : K, 0 ≤ x → 0 ≤ Transc.sqrt x) (hs : ∀ x : K, 0 ≤ x → Transc.sqrt x * Transc.sqrt x = x)
    (hix : e.ix = lineIntersection eps) (heps : 0 ≤ eps) (hw : 0 ≤ e.o.lineWidth) (hml : 1 ≤ e.o.miterLimit)
    (hthr : 0 < e.thr) :
    VSteps (VertexOK e store (evIds evs)) (Out.empty 0) (runEvents e store evs).st.out :=
  stroke_indices_valid_sqrt e store evs eps (fun _ _ => ⟨hs0, hs, hix, heps, hw, hml, hthr⟩)

/-- the finished mesh and the per-vertex data, all joins: ids are positions in the vertex list; every
triangle has three distinct valid ids; no `VertexId::INVALID`; every vertex's source names an
endpoint / an edge of the input, its half width is the source's, `position = position_on_path +
normal · half_width` -/
theorem stroke_mesh_sqrt (e : Env K) (store : Nat → List K) (evs : List (IdEv K)) (eps : K)
    (h : e.o.varWidth = false → e.o.join = .miterClip → ClipHyp e eps) :
    let o := (runEvents e store evs).st.out
    o.nextId = o.verts.length
    ∧ (∀ t ∈ o.tris, Tri.Distinct t ∧ Tri.Below t o.verts.length)
    ∧ (o.verts.length ≤ unset → ∀ t ∈ o.tris, t.1 ≠ unset ∧ t.2.1 ≠ unset ∧ t.2.2 ≠ unset)
    ∧ ∀ d ∈ o.verts, VertexOK e store (evIds evs) d.src d.halfWidth
        ∧ d.read.position = d.positionOnPath + d.normal.smul d.halfWidth := by
  obtain ⟨a, b, c, d⟩ := mesh_of_vsteps (stroke_indices_valid_sqrt e store evs eps h)
  exact ⟨a, b, d, fun v hv => ⟨c v hv, rfl⟩⟩

/-- whatever `tessellate_with_ids` / the `StrokeBuilder` interface returns is a valid emission
sequence, all joins -/
theorem stroke_indices_valid_tessellateIds_sqrt (e : Env K) (store : Nat → List K) (evs : List (IdEv K)) (eps : K)
    (h : e.o.varWidth = false → e.o.join = .miterClip → ClipHyp e eps) (out : Out K)
    (ho : tessellateIds e store evs = some out) :
    VSteps (VertexOK e store (evIds evs)) (Out.empty 0) out := by
  rw [tessellateIds_out ho]
  exact stroke_indices_valid_sqrt e store evs eps h

/-- `ClipHyp` for the environment the tessellator builds (`Env.new`): the merge threshold needs no
hypothesis -/
theorem clipHyp_new (o : Opts K) (eps : K)
    (hs0 : ∀ x : K, 0 ≤ x → 0 ≤ Transc.sqrt x) (hs : ∀ x : K, 0 ≤ x → Transc.sqrt x * Transc.sqrt x = x)
    (heps : 0 ≤ eps) (hw : 0 ≤ o.lineWidth) (hml : 1 ≤ o.miterLimit) :
    ClipHyp (Env.new o (lineIntersection eps)) eps :=
  ⟨hs0, hs, rfl, heps, hw, hml, merge_threshold_pos _ _⟩

/-- **the public entry point `StrokeTessellator::tessellate`** (`tessellate_fw`: fixed width) with the
environment it builds, all joins, all paths: whatever it returns is a valid emission sequence, given
the `sqrt` laws, `line_width ≥ 0`, `miter_limit ≥ 1` -/
theorem stroke_indices_valid_tessellate_sqrt (o : Opts K) (eps : K) (evs : List (PathEv K))
    (hs0 : ∀ x : K, 0 ≤ x → 0 ≤ Transc.sqrt x) (hs : ∀ x : K, 0 ≤ x → Transc.sqrt x * Transc.sqrt x = x)
    (heps : 0 ≤ eps) (hw : 0 ≤ o.lineWidth) (hml : 1 ≤ o.miterLimit)
    (out : Out K) (ho : tessellateFw (Env.new o (lineIntersection eps)) evs = some out) :
    VSteps (VertexOK { Env.new o (lineIntersection eps) with o := { o with varWidth := false } }
      (fun _ => []) (evIds (assignIds evs 0))) (Out.empty 0) out := by
  unfold tessellateFw at ho
  rw [tessellateIds_out ho]
  refine stroke_indices_valid_sqrt _ _ _ eps (fun _ _ => ?_)
  exact ⟨hs0, hs, rfl, heps, hw, hml, merge_threshold_pos _ _⟩

end Field

section Real
open Lyon.StrokeQuad (clipIntersections)

attribute [local instance] realTransc
@[instance_reducible] noncomputable def realAsin : Asin ℝ := ⟨id⟩
@[instance_reducible] noncomputable def realFlat : FlatConst ℝ := ⟨1 / 10000, fun m e => (m : ℝ) / 10 ^ e, 1 / 5⟩
attribute [local instance] realAsin realFlat

/-- options of a fixed-width `MiterClip` stroke: tolerance 0.1, width 1, miter limit 4 -/
noncomputable def exOptsR : Opts ℝ := ⟨1 / 10, 1, 4, .miterClip, .butt, .round, false, 0⟩

/-- `ClipHyp` holds over `ℝ` (`Real.sqrt`, lyon's `1e-8` determinant guard) -/
theorem clipHyp_real : ClipHyp (Env.new exOptsR (lineIntersection (1 / 10 ^ 8))) (1 / 10 ^ 8 : ℝ) :=
  clipHyp_new exOptsR _ (fun x _ => Real.sqrt_nonneg x) (fun x hx => Real.mul_self_sqrt hx)
    (by positivity) (by norm_num [exOptsR]) (by norm_num [exOptsR])

/-- … so a closed `MiterClip` path with a line, a quadratic and a cubic has a valid emission
sequence (whatever `sin`, `cos`, `acos`, the flattening constants … are) -/
example (store : Nat → List ℝ) :
    let evs : List (IdEv ℝ) := [.begin 0 ⟨0, 0⟩, .line 1 ⟨10, 0⟩, .quad ⟨12, 1⟩ 2 ⟨0, 2⟩,
      .cubic ⟨-3, 5⟩ ⟨4, 4⟩ 3 ⟨1, -7⟩, .end_ true]
    VSteps (VertexOK (Env.new exOptsR (lineIntersection (1 / 10 ^ 8))) store (evIds evs)) (Out.empty 0)
      (runEvents (Env.new exOptsR (lineIntersection (1 / 10 ^ 8))) store evs).st.out :=
  stroke_indices_valid_sqrt _ store _ (1 / 10 ^ 8) (fun _ _ => clipHyp_real)

/-- the clipped branch is not vacuous: at the 5-12-13 turn `(12/13, 5/13) → (−12/13, 5/13)` (a left
turn of about 135°) the miter normal has `|n|² = 169/25 > 4 = (2·miter_limit)²` for `miter_limit = 1`,
the hypotheses of `clip_front` hold and the clipped point lies behind the unclipped one -/
example (a : P ℝ) : ∃ lam : ℝ, lam ≤ 0 ∧
    (clipIntersections (lineIntersection (1 / 10 ^ 8)) a
        ⟨-(-1 * (1 / 2) * (5 / 13)), -1 * (1 / 2) * (-12 / 13)⟩
        ((computeNormal (⟨12 / 13, 5 / 13⟩ : P ℝ) ⟨-12 / 13, 5 / 13⟩).smul (-1)) (1 * (1 / 2))).2
      = ⟨-(-1 * (1 / 2) * (5 / 13)) + lam * (-12 / 13), -1 * (1 / 2) * (-12 / 13) + lam * (5 / 13)⟩ := by
  have hpt : (⟨12 / 13, 5 / 13⟩ : P ℝ).sqLen = 1 := by simp only [geom]; norm_num
  have hnt : (⟨-12 / 13, 5 / 13⟩ : P ℝ).sqLen = 1 := by simp only [geom]; norm_num
  have hnn : (0 : ℝ) ≤ ((⟨12 / 13, 5 / 13⟩ : P ℝ) + ⟨-12 / 13, 5 / 13⟩).sqLen := by simp only [geom]; norm_num
  have hg : ¬ ((⟨12 / 13, 5 / 13⟩ : P ℝ) + ⟨-12 / 13, 5 / 13⟩).sqLen < normalEpsilon := by
    rw [normalEpsilon_eq]; simp only [geom]; norm_num
  have h3 := (compute_normal_miter (K := ℝ) ⟨12 / 13, 5 / 13⟩ ⟨-12 / 13, 5 / 13⟩ hpt hnt hg
    (Real.sqrt_nonneg _) (Real.mul_self_sqrt hnn)).2.2
  have hex : (computeNormal (⟨12 / 13, 5 / 13⟩ : P ℝ) ⟨-12 / 13, 5 / 13⟩).sqLen > 1 * 1 * 4 := by
    have e : (1 : ℝ) + (⟨12 / 13, 5 / 13⟩ : P ℝ).dot ⟨-12 / 13, 5 / 13⟩ = 50 / 169 := by
      simp only [geom]; norm_num
    rw [e] at h3
    linarith
  obtain ⟨lam, h0, h⟩ := clip_front (fun x _ => Real.sqrt_nonneg x) (fun x hx => Real.mul_self_sqrt hx)
    (1 / 10 ^ 8) (1 / 2) 1 (by positivity) (by norm_num) (le_refl _) ⟨12 / 13, 5 / 13⟩ ⟨-12 / 13, 5 / 13⟩
    hpt hnt a (-1) (by norm_num) (by simp only [geom]; norm_num) hex
  refine ⟨lam, h0, ?_⟩
  have eb : (perp (⟨-12 / 13, 5 / 13⟩ : P ℝ)).smul (-1 * (1 / 2))
      = ⟨-(-1 * (1 / 2) * (5 / 13)), -1 * (1 / 2) * (-12 / 13)⟩ := by
    apply P.ext' <;> simp only [perp, geom] <;> ring
  rw [eb] at h; rw [h]; apply P.ext' <;> simp only [geom] <;> ring

/-- the guard branch is not vacuous either: with a half width of `1e-9` the determinant `1e-9·(N·nt)`
is within lyon's `1e-8` guard, `Line::intersection` answers `None` and the side point stays put -/
example (a : P ℝ) (k : ℝ) :
    (clipIntersections (lineIntersection (1 / 10 ^ 8)) a
        ⟨-(1 / 10 ^ 9 * (0 : ℝ)), 1 / 10 ^ 9 * 1⟩ ⟨2, 0⟩ k).2 = ⟨-(1 / 10 ^ 9 * (0 : ℝ)), 1 / 10 ^ 9 * 1⟩ :=
  clip_fallback (1 / 10 ^ 8) a ⟨2, 0⟩ ⟨1, 0⟩ (1 / 10 ^ 9) k (by
    show |(1 / 10 ^ 9 : ℝ) * (2 * 1 + 0 * 0)| ≤ 1 / 10 ^ 8
    rw [abs_of_nonneg (by positivity)]; norm_num)

end Real

/-! ## §2 numeric clauses that are exact facts about the model's bookkeeping -/

section Advancement
variable {α : Type} [Scalar α] [Transc α] [Asin α] [FlatConst α]

/-- **advancement of a fixed-width polyline, every scalar type** (floats included: the sums are
the model's own additions in the model's order, tied bit for bit to lyon).  Sub-path
`begin p0, line_to p1, line_to …, end(false)` at the start of a tessellation, no merged points, join
Miter / MiterClip / Bevel, butt or square caps (the proof does not use `hj`, `hs`, `he`: the statement holds for
every join and cap), `is_nan(NaN) = true`: every emitted vertex names an
endpoint `k` of the input, sits on it (`position_on_path = p_k`) and reports the advancement
`advTable`'s entry `k`: `0` at the first point, `a_{k-1} + |p_k − p_{k-1}|` at the `k`-th, i.e. the
sum of the lengths of the first `k` edges; the vertices of the last point report the total length.

`_partial`: merged points, closed sub-paths, later sub-paths (which start at the previous sub-path's
end advancement) and curves are not covered here.  `Props/C05f.lean` (`stroke_polyline_advancement_open`,
`stroke_path_advancement_partial`) does without the hypotheses on join and caps and covers later
sub-paths, `Props/C05g.lean` merged points, `Props/C05h.lean` closed sub-paths; curves are explored by
the oracle clause `stroke/advancement-arc-length`. -/
theorem stroke_polyline_advancement_partial (e : Env α) (store : Nat → List α) (hfw : e.o.varWidth = false)
    (hj : e.o.join ≠ .round) (hs : e.o.startCap ≠ .round) (he : e.o.endCap ≠ .round)
    (hnan : Transc.isNaN (nan : α) = true)
    (i0 i1 : Nat) (p0 p1 : P α) (rest : List (Nat × P α))
    (hm : NoMerge e.thr (p0 :: p1 :: rest.map (·.2))) :
    ∀ v ∈ (runEvents e store (IdEv.begin i0 p0 :: IdEv.line i1 p1 :: (lineEvs rest ++ [IdEv.end_ false]))).st.out.verts,
      ∃ t ∈ advTable zero ((i0, p0) :: (i1, p1) :: rest),
        v.src = .endpoint t.1 ∧ v.positionOnPath = t.2.1 ∧ v.advancement = t.2.2 :=
  polyline_advancement e store hfw hnan i0 i1 p0 p1 rest hm

end Advancement

section AdvField
variable {K : Type} [Field K] [LinearOrder K] [IsStrictOrderedRing K] [Transc K]

/-- with `sqrt ≥ 0` the advancements of the table start at `a` and never decrease along the path -/
theorem advTable_ge (hs0 : ∀ x : K, 0 ≤ x → 0 ≤ Transc.sqrt x) :
    ∀ (pts : List (Nat × P K)) (a : K), ∀ t ∈ advTable a pts, a ≤ t.2.2 := by
  intro pts
  induction pts with
  | nil => intro a t ht; simp [advTable] at ht
  | cons q r ih =>
    intro a t ht
    cases r with
    | nil => simp [advTable] at ht; subst ht; exact le_refl _
    | cons q' r' =>
      simp only [advTable, List.mem_cons] at ht
      rcases ht with rfl | ht
      · exact le_refl _
      · have h1 := ih (a + len (q'.2 - q.2)) t ht
        exact le_trans (le_add_of_nonneg_right (len_nonneg hs0 _)) h1

/-- **monotone**: the advancements along the path are non-decreasing (`0 ≤ length`) -/
theorem advTable_sorted (hs0 : ∀ x : K, 0 ≤ x → 0 ≤ Transc.sqrt x) :
    ∀ (pts : List (Nat × P K)) (a : K), ((advTable a pts).map (·.2.2)).Pairwise (· ≤ ·) := by
  intro pts
  induction pts with
  | nil => intro a; simp [advTable]
  | cons q r ih =>
    intro a
    cases r with
    | nil => simp [advTable]
    | cons q' r' =>
      simp only [advTable, List.map_cons, List.pairwise_cons]
      refine ⟨?_, ih _⟩
      intro x hx
      simp only [List.mem_map] at hx
      obtain ⟨t, ht, rfl⟩ := hx
      have h1 := advTable_ge hs0 _ _ t ht
      exact le_trans (le_add_of_nonneg_right (len_nonneg hs0 _)) h1

end AdvField

section AdvExample
open Lyon.C05b (toyTransc)

/-- `toyTransc` with an `is_nan` that recognises the field's stand-in for NaN (`0/0 = 0`) -/
@[instance_reducible] def toyNaN : Transc ℚ := { toyTransc with isNaN := fun x => decide (x = 0) }
attribute [local instance] toyNaN toyAsin toyFlat

/-- hypotheses of `stroke_polyline_advancement_partial`: `is_nan(NaN) = true`, and `NoMerge` on the
3-4-5 polyline `(0,0) → (3,4) → (3,10)` (advancements `0, 5, 11`) -/
example : Transc.isNaN (nan : ℚ) = true := by
  show decide ((nan : ℚ) = 0) = true
  simp [nan, geom]

example : NoMerge (Env.new (⟨1 / 10, 1, 4, .miterClip, .butt, .square, false, 0⟩ : Opts ℚ) (fun _ _ _ _ => none)).thr
    [⟨0, 0⟩, ⟨3, 4⟩, ⟨3, 10⟩] := by
  decide +kernel

example : (advTable (0 : ℚ) [(0, ⟨0, 0⟩), (1, ⟨3, 4⟩), (2, ⟨3, 10⟩)]).map (·.2.2) = [0, 5, 11] := by
  decide +kernel

end AdvExample

section Segment
variable {K : Type} [Field K] [LinearOrder K] [IsStrictOrderedRing K] [Transc K] [Asin K] [FlatConst K]

/-- **reach of a single-segment stroke**, exact arithmetic.  Fixed width `2·hw` with `hw > 0`, butt
or square caps (start and end cap independently), `Line::intersection` with determinant guard `eps`,
the `sqrt` laws, an edge longer than `eps`: every vertex that `begin p0, line_to p1, end(false)` emits
sits on one of the two endpoints, at squared distance exactly `hw²` (butt) or `2·hw²` (square: `√2·hw`)
from it, according to the cap at that end.  (The four corners are `p ± perp(t)·hw (± t·hw)`:
`Lemmas/StrokeSegReach.lean`, using `Lyon.C06.cap_side_butt / cap_side_square`.) -/
theorem stroke_segment_reach (e : Env K) (eps : K) (hix : e.ix = lineIntersection eps) (heps : 0 ≤ eps)
    (hs0 : ∀ x : K, 0 ≤ x → 0 ≤ Transc.sqrt x) (hs : ∀ x : K, 0 ≤ x → Transc.sqrt x * Transc.sqrt x = x)
    (store : Nat → List K) (hfw : e.o.varWidth = false)
    (hsc : e.o.startCap ≠ .round) (hec : e.o.endCap ≠ .round)
    (i0 i1 : Nat) (p0 p1 : P K) (hfar : pointsAreTooClose e.thr p0 p1 = false)
    (hlen : eps < len (p1 - p0)) (hhw : 0 < e.hwFw) :
    ∀ v ∈ (runEvents e store [IdEv.begin i0 p0, IdEv.line i1 p1, IdEv.end_ false]).st.out.verts,
      (v.positionOnPath = p1 ∧ (v.read.position - p1).sqLen = capReachSq e.o.endCap e.hwFw)
      ∨ (v.positionOnPath = p0 ∧ (v.read.position - p0).sqLen = capReachSq e.o.startCap e.hwFw) :=
  segment_reach e eps hix heps hs0 hs store hfw hsc hec i0 i1 p0 p1 hfar hlen hhw

end Segment

section SegmentReal
attribute [local instance] realTransc realAsin realFlat

/-- the hypotheses of `stroke_segment_reach` hold over `ℝ` for the segment `(0,0) → (3,4)` (length 5),
width 1, butt start cap, square end cap: its end vertices are `√2/2` from `(3,4)`, its start
vertices `1/2` from `(0,0)` -/
example (store : Nat → List ℝ) :
    let e : Env ℝ := Env.new ⟨1 / 10, 1, 4, .miter, .butt, .square, false, 0⟩ (lineIntersection (1 / 10 ^ 8))
    ∀ v ∈ (runEvents e store [IdEv.begin 0 ⟨0, 0⟩, IdEv.line 1 ⟨3, 4⟩, IdEv.end_ false]).st.out.verts,
      (v.positionOnPath = ⟨3, 4⟩ ∧ (v.read.position - ⟨3, 4⟩).sqLen = capReachSq .square e.hwFw)
      ∨ (v.positionOnPath = ⟨0, 0⟩ ∧ (v.read.position - ⟨0, 0⟩).sqLen = capReachSq .butt e.hwFw) := by
  intro e
  have h5 : len ((⟨3, 4⟩ : P ℝ) - ⟨0, 0⟩) = 5 := by
    show Real.sqrt _ = 5
    rw [show ((⟨3, 4⟩ : P ℝ) - ⟨0, 0⟩).sqLen = 5 ^ 2 by simp only [geom]; norm_num]
    exact Real.sqrt_sq (by norm_num)
  refine stroke_segment_reach e (1 / 10 ^ 8) rfl (by positivity) (fun x _ => Real.sqrt_nonneg x)
    (fun x hx => Real.mul_self_sqrt hx) store rfl (by decide) (by decide) 0 1 ⟨0, 0⟩ ⟨3, 4⟩ ?_ ?_ ?_
  · simp [e, pointsAreTooClose, Env.new, squareMergeThreshold, geom]
    norm_num
  · rw [h5]; norm_num
  · show (0 : ℝ) < 1 * half
    have : (half : ℝ) = 1 / 2 := sc_half
    rw [this]; norm_num

end SegmentReal

end Lyon.C05d
