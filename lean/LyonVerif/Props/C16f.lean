/-
  C16f — the iterator-side adapters on ARBITRARY event lists (partial streams).

  `iterator::Transformed`, `iterator::Flattened` and `for_each_flattened` are adapters over any
  `Iterator<Item = PathEvent>`: a stream from which events were taken before the adapter was
  attached (`let mut it = path.iter(); it.next(); it.transformed(&m)`), or filtered upstream
  (`skip`, `filter(is_edge)`, `take`, `chain`).  The statements below carry NO well-formedness
  hypothesis on the event list; the driver family `ip` runs exactly these definitions
  (`xfIter`, `flatIter`, `flatAttrIter`) on the event lists of the harness' partial streams.
-/
import LyonVerif.Props.C16
import LyonVerif.Model.Path.AdaptersHelpers


namespace Lyon.C16
open Lyon Lyon.Path Lyon.Adapt

variable {π π' : Type}

/-- `iterator::Transformed` is a per-event map, for EVERY event list (no well-formedness, no
`Begin` required at the start): the output is the list of `event.transformed(g)`; it has the same
length and its i-th event is the transform of the i-th input event alone. -/
theorem transform_iter_is_map (g : π → π') (evs : List (Event π)) :
    xfIter g evs = evs.map (mapEvent g) ∧
    (xfIter g evs).length = evs.length ∧
    ∀ i : Nat, (xfIter g evs)[i]? = (evs[i]?).map (mapEvent g) :=
  ⟨rfl, by simp [xfIter], fun i => by simp [xfIter]⟩

theorem isEdge_mapEvent (g : π → π') (e : Event π) :
    Event.isEdge (mapEvent g e) = Event.isEdge e := by
  cases e with
  | end_ l f cl => cases cl <;> rfl
  | _ => rfl

/-- Attaching the adapter to a partial stream gives the same part of the adapted stream: after
`k` events were taken out (`next()` k times, `skip(k)`), a sub-range (`skip(k).take(j)`), the
edges only (`filter(|e| e.is_edge())`), two streams chained. -/
theorem transform_iter_partial (g : π → π') (evs evs2 : List (Event π)) (k j : Nat) :
    xfIter g (evs.drop k) = (xfIter g evs).drop k ∧
    xfIter g ((evs.drop k).take j) = ((xfIter g evs).drop k).take j ∧
    xfIter g (evs.filter Event.isEdge) = (xfIter g evs).filter Event.isEdge ∧
    xfIter g (evs ++ evs2) = xfIter g evs ++ xfIter g evs2 := by
  refine ⟨by simp [xfIter, List.map_drop], by simp [xfIter, List.map_drop, List.map_take], ?_,
    by simp [xfIter]⟩
  simp only [xfIter, List.filter_map]
  congr 1
  apply List.filter_congr
  intro e _
  simp [Function.comp, isEdge_mapEvent]

/-- `iterator::Flattened` on ANY event list is the concatenation of the per-event flattenings:
each curve event is replaced by the flattening of that event's own `from / ctrl / to`, every
other event passes through; no state is carried from one event to the next. -/
theorem flatten_iter_is_flatmap (G : IterFlattener π) (evs : List (Event π)) :
    flatIter G evs = evs.flatMap (flatEvent G) := by
  induction evs with
  | nil => rfl
  | cons e r ih => cases e <;> simp [flatIter, flatEvent, ih]

/-- hence it distributes over chained streams, and a prefix of whole events taken out before
the adapter is attached removes exactly their flattenings -/
theorem flatten_iter_partial (G : IterFlattener π) (evs evs2 : List (Event π)) (k : Nat) :
    flatIter G (evs ++ evs2) = flatIter G evs ++ flatIter G evs2 ∧
    flatIter G evs = flatIter G (evs.take k) ++ flatIter G (evs.drop k) := by
  have app : ∀ a b : List (Event π), flatIter G (a ++ b) = flatIter G a ++ flatIter G b := by
    intro a b
    simp [flatten_iter_is_flatmap]
  exact ⟨app _ _, by rw [← app, List.take_append_drop]⟩

section
variable {α : Type} [Scalar α]

/-- `for_each_flattened` on ANY event list (with attributes), event by event -/
theorem flatten_attr_iter_is_flatmap (F : Flattener π α) (evs : List (Event (AP π α))) :
    flatAttrIter F evs = evs.flatMap (flatAttrEvent F) := by
  induction evs with
  | nil => rfl
  | cons e r ih => cases e <;> simp [flatAttrIter, flatAttrEvent, ih]

end

/-- both nesting orders on ANY event list, event by event -/
theorem nesting_iter_is_flatmap (G : IterFlattener π) (G' : IterFlattener π') (g : π → π')
    (evs : List (Event π)) :
    flatIter G' (xfIter g evs) = evs.flatMap (fun e => flatEvent G' (mapEvent g e)) ∧
    xfIter g (flatIter G evs) = evs.flatMap (fun e => (flatEvent G e).map (mapEvent g)) := by
  constructor
  · simp [flatten_iter_is_flatmap, xfIter, List.flatMap_map]
  · simp [flatten_iter_is_flatmap, xfIter, List.map_flatMap]

/-- a partial stream: the events of a closed sub-path after its `Begin` was taken out; the
adapter transforms `from` of the first edge and `first` of the `End` like every other point
(an adapter that took them from a state set by `Begin` would yield the origin there) -/
example : xfIter (fun p : Int × Int => (p.1 + 10, p.2 + 20))
      [.line (0, 0) (4, 0), .quad (4, 0) (5, 5) (0, 4), .end_ (0, 4) (0, 0) true]
    = [.line (10, 20) (14, 20), .quad (14, 20) (15, 25) (10, 24),
       .end_ (10, 24) (10, 20) true] := by decide

end Lyon.C16
