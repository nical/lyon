/-
  C08 — the STROKE tessellator, attribute-carrying entry points, INCLUDING the attribute buffer.

  `Props/C08c.lean` (`stroke_full_call_fresh`) compares the complete output of the stroker model
  (`Out`: every vertex with all accessors and its source, every triangle) on a used and on a new
  `StrokeTessellator`; the object's attribute BUFFER never reaches that model, and the values of
  `StrokeVertex::interpolated_attributes()` are not part of `Out`.  The code reads the buffer's LENGTH
  (`for i in 0..self.0.buffer.len()`), which is exactly what the stored seeds C05-r3-2 / C08-r3-1
  break (a scratch buffer that is only grown, never cleared).  `Model/Tess/ResetStrokeAttrs.lean` (on
  top of `StrokeAttrBuffer.lean`) hands the buffer — as the prologue of each entry point leaves it — to a model of
  `interpolated_attributes` that loops over `buffer.len()`, and adds the attributes every vertex
  constructor reads to the output.  Theorems:

  * `stroke_full_call_fresh_attrs`      one call of any entry point (`tessellate`, `tessellate_path`,
      `tessellate_with_ids` with n attributes, `builder`, `builder_with_attributes(n)`, dropped builders)
      on a used object — any buffer of any length, any store — = the same call on a new one: complete
      output AND the interpolated attributes of every vertex AND whether a read goes out of bounds.
  * `stroke_history_fresh_full_attrs`, `stroke_history_outputs_full_attrs`   after every history.
  * `stroke_attrs_buffer_sized`         with the buffer the prologue builds (n zeros) and a store whose
      slices have n entries, the length-driven reads never go out of bounds and are the attributes
      of `Full.attrsSeq` — the model family `fulle:32` of C05 ties — i.e. `interpolatedAttributes` of
      every vertex's source.
  * `stroke_buffer_length_observable_witness`   the length IS observable: with the grow-only prologue
      of the stored seeds, a 1-attribute call after a 3-attribute call reads out of bounds, the real
      prologue does not.

  Tie: the buffer-level definitions (`Model/Tess/StrokeAttrBuffer.lean`) are run by the checker family
  `chk_stroke_attrs` of this check against ONE reused real `StrokeTessellator` whose calls change the
  attribute count; the stroker that produces the vertices is C05's tie (`full:32` / `fulle:32`).
-/
import LyonVerif.Props.C08c
import LyonVerif.Lemmas.ResetStrokeAttrs

set_option linter.unusedSectionVars false

namespace Lyon.C08
open Lyon Lyon.Reset Lyon.Stroke Lyon.Stroke.Full
open Lyon.StrokeQuad (Ix)

variable {α : Type} [Scalar α]

/-- **`clear()` + `push(0.0)` × n forgets the buffer**: what `StrokeBuilderImpl::new` borrows does not
depend on what the object's buffer held — contents or LENGTH -/
theorem stroke_prologue_buffer_fresh (old old' : List α) (e : StrokeEntry) :
    prologueBuffer old e = prologueBuffer old' e := by
  cases e <;> rfl

theorem prologueBuffer_length (old : List α) (e : StrokeEntry) :
    (prologueBuffer old e).length = match e with | .events => 0 | .withIds n => n | .builder n => n | .builderDropped n => n := by
  cases e <;> simp [prologueBuffer, clearPush]

/-- **On the buffer the prologue builds the length-driven reads are the tied ones**: a buffer of
`n` entries (any contents) and a store with `n` attributes per endpoint — no read goes out of
bounds, and every vertex constructor reads the attributes of its vertex's source
(`interpolatedAttributes`: the endpoint's own, or the two endpoints' interpolated at `t`), which is
also what `Full.attrsSeq` — the model family `fulle:32` of C05 ties — computes. -/
theorem stroke_attrs_buffer_sized (store : Nat → List α) (n : Nat) (hs : ∀ id, (store id).length = n)
    (verts : List (VData α)) (buf : List α) (hb : buf.length = n) :
    (attrsSeqB store (verts.map (·.src)) ⟨false, buf⟩).1 = some (attrsSeq store verts ⟨false, buf⟩) ∧
    attrsSeq store verts ⟨false, buf⟩ = verts.map (fun d => interpolatedAttributes store d.src) :=
  ⟨attrsSeqB_sized store n hs verts ⟨false, buf⟩ hb, C05c.attrsSeq_eq_map store verts _⟩

example : ∃ (store : Nat → List Int') (buf : List Int'), (∀ id, (store id).length = 2) ∧ buf.length = 2 :=
  ⟨fun id => [⟨id⟩, ⟨7⟩], [⟨5⟩, ⟨6⟩], fun _ => rfl, rfl⟩

/-- **The buffer's length is observable** — what the stored seeds C05-r3-2 / C08-r3-1 exploit: after a
call with 3 attributes a grow-only prologue leaves 3 entries for a call with 1 attribute, and the
read of an `Edge` vertex indexes past the end of the store's slices; the real prologue
(`clear` + `push`) leaves 1 entry and the read succeeds. -/
theorem stroke_buffer_length_observable_witness :
    let store : Nat → List Int' := fun id => [⟨(id : Int) * 10⟩]
    let after3 : List Int' := clearPush [] 3
    ((⟨false, growOnly after3 1⟩ : BufCache Int').readB store true (.edge 1 2 ⟨1⟩)).1 = none ∧
    ((⟨false, prologueBuffer after3 (.withIds 1)⟩ : BufCache Int').readB store true (.edge 1 2 ⟨1⟩)).1 = some [⟨20⟩] := by
  decide

section
variable [Transc α] [Asin α] [FlatConst α]

theorem callStore_fresh (t : StrokeT α) (c : StrokeCall α) : callStore t c = callStore StrokeT.new c := by
  unfold callStore
  cases c.entry <;> rfl

theorem strokeFullCallB_snd (ix : Ix α) (t : StrokeT α) (c : StrokeCall α) :
    (strokeFullCallB ix t c).2 =
      (strokeFullCall ix t c).2.bind fun out =>
        (attrsSeqB (callStore t c) (out.verts.map (·.src)) ⟨false, prologueBuffer t.attribBuffer c.entry⟩).1.map fun l => (out, l) := by
  cases h : (strokeFullCall ix t c).2 <;> simp [strokeFullCallB, h]

/-- **One call of a used `StrokeTessellator` = the same call of a new one, attribute buffer
included**: the complete output of the full stroker model, the attributes every vertex constructor
reads through the object's own buffer (length-driven loop), and whether a read goes out of bounds —
for every entry point, every option set, every path, fixed or variable width, any attribute
vectors, and WHATEVER the object's buffer (any length) and builder store held. -/
theorem stroke_full_call_fresh_attrs (ix : Ix α) (t : StrokeT α) (c : StrokeCall α) :
    (strokeFullCallB ix t c).2 = (strokeFullCallB ix StrokeT.new c).2 := by
  rw [strokeFullCallB_snd, strokeFullCallB_snd, stroke_full_call_fresh ix t c, callStore_fresh t c,
    stroke_prologue_buffer_fresh t.attribBuffer StrokeT.new.attribBuffer]

theorem strokeObjB_stateless (ix : Ix α) : Stateless (strokeObjB ix) :=
  .of_fresh (stroke_full_call_fresh_attrs ix)

/-- **After every history** (any calls, any entry points, any attribute counts — growing or
shrinking —, builders dropped without `build`, whatever they left in the buffer and the store) the
next call's complete output and interpolated attributes are a new tessellator's. -/
theorem stroke_history_fresh_full_attrs (ix : Ix α) (t0 : StrokeT α) (hist : List (StrokeCall α)) (c : StrokeCall α) :
    ((strokeObjB ix).call ((strokeObjB ix).run t0 hist) c).2 = ((strokeObjB ix).call StrokeT.new c).2 :=
  strokeObjB_stateless ix _ _ c

theorem stroke_history_outputs_full_attrs (ix : Ix α) (t0 : StrokeT α) (hist : List (StrokeCall α)) :
    (strokeObjB ix).outputs t0 hist = hist.map (fun c => ((strokeObjB ix).call StrokeT.new c).2) :=
  (strokeObjB_stateless ix).outputs StrokeT.new hist t0

end

end Lyon.C08
