/-
  C02 — triangles tile the interior; the monotone stage cuts n boundary vertices into n−2
  triangles with three distinct vertices each.

  Component theorems about the model of `monotone.rs` (`Model/Tess/Monotone.lean`, tied to the
  crate-private Rust code through hook H2 on every run).  They hold for EVERY (position, side)
  sequence — the geometry only decides which triangles, never how many — and for every scalar
  type (`[Scalar α]` arbitrary: floats included, no field axioms used).

  Whole-fill tiling (coverage ≤ 1 everywhere, = 1 on the interior) is decided per explored input
  by the slab checker (`Props/Slab.lean`), not by a theorem about the sweep.

  This file counts for the basic tessellator.  `basic_stack_nonempty` and `basic_count` are stated for
  `List.foldl Basic.vertex` over ARBITRARY vertex records (the count needs no ids; their induction is
  `foldl_countInv`); the statements about ids are over `feed` / `Basic.run`, which assign the ids 0, 1, 2, …
  (`feed_walk`, `basic_run_ind`).  The two-level scheme of
  `AdvancedMonotoneTessellator` also emits n−2 triangles: `adv_count` (`Props/C02c.lean`).  On a valid
  sweep sequence over an ordered field the triangles tile the monotone piece as point sets:
  `basic_tiling` (`Props/C02f.lean`), `adv_tiling_all` (`Props/C02h.lean`).
-/
import LyonVerif.Lemmas.MonotoneBasic


namespace Lyon.C02
open Lyon Lyon.Mono

variable {α : Type} [Scalar α]

/-- **The stack never underflows**: in every reachable state the stack is non-empty, so the
`self.stack.len() - 1` of the Rust code cannot wrap and `pop().unwrap()` cannot fail. -/
theorem basic_stack_nonempty (p0 : P α) (vs : List (MV α)) :
    (vs.foldl Basic.vertex (Basic.begin p0 0)).stack ≠ [] :=
  (foldl_countInv vs _ 1 (begin_countInv p0 0)).1

/-- **n − 2 triangles**: for every begin / vertex* / end sequence with n vertices in total, on any
sides and positions, the basic monotone tessellator emits exactly n − 2 triangles. -/
theorem basic_count (p0 : P α) (vs : List (MV α)) (pe : P α) (ide : Nat) :
    ((vs.foldl Basic.vertex (Basic.begin p0 0)).end_ pe ide).tris.length = (vs.length + 2) - 2 := by
  have h := foldl_countInv vs (Basic.begin p0 0) 1 (begin_countInv p0 0)
  rw [end_count _ pe ide _ h]
  omega

/-- the count of `basic_count` for two middle vertices, as arithmetic; no run is evaluated (`basic_count` is
unconditional, so it has no hypotheses to instantiate). -/
example : (2 + 2) - 2 = 2 := rfl

/-- stack ids pairwise distinct, all ids seen so far are `< k` -/
def IdInv (s : Basic α) (k : Nat) : Prop :=
  (s.stack.map (·.id)).Nodup ∧ (∀ v ∈ s.stack, v.id < k) ∧ s.previous.id < k
    ∧ (s.stack ≠ [] → s.previous.id ∈ s.stack.map (·.id) ∨ True) ∧ ∀ t ∈ s.tris, TriDistinct t

/-- **three distinct vertices per triangle**: feeding vertices with the distinct ids 0, 1, 2, …
(what the fill does — each sweep vertex gets a fresh id), every triangle the basic monotone
tessellator emits, including those emitted by `end`, references three pairwise distinct ids. -/
theorem ids_distinct (p0 : P α) (vs : List (P α × Bool)) (pe : P α) :
    ∀ t ∈ ((feed (Basic.begin p0 0) 1 vs).end_ pe (1 + vs.length)).tris, TriDistinct t := by
  have h := feed_walk (I := fun k s => DInv s k) vs _ 1 (fun i _ s' h' => vertex_dInv s' _ _ rfl h') (begin_dInv p0)
  have h' := vertex_dInv _ ⟨pe, 1 + vs.length, !(feed (Basic.begin p0 0) 1 vs).previous.left⟩ _ rfl h
  intro t ht
  simp only [Basic.end_] at ht
  exact h'.2.2.2 t ht

/-- **n − 2 triangles, for the executable entry point**: `Basic.run` on any sequence of `n ≥ 2`
(position, side) pairs returns exactly `n − 2` triangles. -/
theorem run_count (seq : List (P α × Bool)) (h : 2 ≤ seq.length) :
    (Basic.run seq).length = seq.length - 2 := by
  obtain ⟨s, v, hI, _, e⟩ := basic_run_ind seq h (fun k s => CountInv s k) (fun v _ => begin_countInv v.1 0)
    (fun k s v h _ _ _ => vertex_countInv s _ k h)
  rw [e, end_count s _ _ _ hI]; omega

/-- **three distinct ids, for the executable entry point**. -/
theorem run_ids_distinct (seq : List (P α × Bool)) : ∀ t ∈ Basic.run seq, TriDistinct t := by
  by_cases h2 : 2 ≤ seq.length
  · obtain ⟨s, v, hI, _, e⟩ := basic_run_ind seq h2 (fun k s => DInv s k) (fun v _ => begin_dInv v.1)
      (fun k s v h _ _ _ => vertex_dInv s _ k rfl h)
    rw [e]
    exact (vertex_dInv s ⟨v.1, seq.length - 1, !s.previous.left⟩ _ rfl hI).2.2.2
  · rw [(run_short seq h2).1]; simp

/-- `TriDistinct` holds of a literal triple of distinct ids; no run is evaluated. -/
example : TriDistinct ((0, 1, 2) : Tri) := by simp [TriDistinct]

end Lyon.C02
