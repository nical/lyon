/-
  Theorems about the sweep-line model (`Model/Tess/Sweep.lean`, `Model/Tess/EventQueue.lean`).
  The model is tied bit-exactly to `FillTessellator` by family `sweep:32` of the C01 check.  Here:
  facts about its discrete skeleton, for every input, over any linearly ordered field.
  Statements about whole runs are in `Props/SweepIdx.lean`, `Props/C01b.lean`, `Props/C07b.lean`.

  * `compare_total`           — `fill::compare_positions` is a strict total order on points:
                                `eq` exactly on equal points, `lt`/`gt` swap with the arguments,
                                `lt` is transitive; `compare_gt_iff_isAfter`: `is_after` is its `>`.
  * `winding_prefix`          — `WindingState::update` folded over the windings of the first `k`
                                active edges: `number` is their sum, `is_in` is the fill rule of
                                that sum, and `span_index + 1` counts the prefixes that are `in`
                                (the spans to the left).
  * `merge_sort_sorted_perm`  — the event queue's sort, at the level of what the linked lists
                                enumerate (`EQ.Spec.sort`: list of sibling groups): the groups
                                enumerate a permutation of the pushed events `0 … n-1`, group
                                positions are strictly increasing in `compare_positions` order, and
                                ALL events of one position sit in one group.
                                The statement is about the list-level specification; that the
                                pointer-level `Queue.sort` (arrays `events`/`next_event`/
                                `next_sibling`, mirrored line by line) enumerates exactly
                                `Spec.sort` is CHECKED on every explored case by the driver
                                (`unmodelled sort-spec-mismatch` otherwise), not proved: the
                                separation argument for the in-place pointer updates is not done.
-/
import LyonVerif.Lemmas.Sweep


namespace Lyon.SweepProps
open Lyon Lyon.EQ Lyon.Sweep Lyon.EQ.Spec

variable {K : Type} [Field K] [LinearOrder K] [IsStrictOrderedRing K]

/-- **`compare_positions` is a strict total order**: `Equal` exactly on equal points, swapping the
arguments swaps `Less`/`Greater`, `Less` is irreflexive and transitive, and any two points are
comparable. -/
theorem compare_total (a b c : P K) :
    (comparePositions a b = .eq ↔ a = b) ∧
    (comparePositions a b = .lt ↔ comparePositions b a = .gt) ∧
    comparePositions a a ≠ .lt ∧
    (comparePositions a b = .lt → comparePositions b c = .lt → comparePositions a c = .lt) ∧
    (comparePositions a b = .lt ∨ comparePositions a b = .eq ∨ comparePositions a b = .gt) := by
  simp only [comparePositions_eq]
  refine ⟨lexCmp_eq_iff a b, ?_, ?_, ?_, ?_⟩
  · rw [lexCmp_lt_iff, lexCmp_gt_iff]
  · rw [Ne, lexCmp_lt_iff]; exact LexLt.irrefl a
  · simp only [lexCmp_lt_iff]; exact LexLt.trans
  · rw [lexCmp_lt_iff, lexCmp_eq_iff, lexCmp_gt_iff]; exact LexLt.total a b

/-- `is_after(a, b)` is the `Greater` of `compare_positions(a, b)` -/
theorem compare_gt_iff_isAfter (a b : P K) :
    comparePositions a b = .gt ↔ Sources.isAfter a b = true :=
  (lexCmp_gt_iff a b).trans (Sources.isAfter_lexLt a b).symm

example : comparePositions (⟨1, 2⟩ : P ℚ) ⟨5, 2⟩ = .lt := by
  rw [comparePositions_eq, lexCmp_lt_iff]; right; constructor <;> norm_num

/-- **winding bookkeeping of the scan**: after `update` over the windings `ws` of the edges left of
the current point, `number` is their sum, `is_in` is the fill rule applied to it, and `span_index`
(which starts at `-1`) is the number of `in` prefixes minus one, i.e. the index of the span the
point is in when `is_in` holds. -/
theorem winding_prefix (rule : Slab.Rule) (ws : List Int) :
    (windingAfter rule ws).number = ws.sum ∧
    (windingAfter rule ws).isIn = rule.isIn ws.sum ∧
    (windingAfter rule ws).spanIndex + 1 = inPrefixes rule 0 ws := by
  have h := foldl_update rule ws WindingState.new
  simp only [WindingState.new, zero_add] at h
  obtain ⟨h1, h2, h3⟩ := h
  unfold windingAfter
  simp only [WindingState.new]
  refine ⟨h1, ?_, by rw [h3]; ring⟩
  by_cases hws : ws = []
  · subst hws; cases rule <;> rfl
  · exact h2 hws

example : (windingAfter .nonZero [1, 1, -1, -1]).spanIndex = 2 := by decide
example : (windingAfter .evenOdd [1, 1, -1, -1]).spanIndex = 1 := by decide

/-- **The event queue's sort** (list-level specification of `EventQueue::sort` /
`merge_sort` / `merge`): for `n` pushed events with positions `pos`, the sibling groups it produces
enumerate a permutation of the events `0 … n-1`; along the list the group positions are strictly
increasing in `compare_positions` order; every group is non-empty and holds events of ONE position
— hence all events of equal position are in the same group. -/
theorem merge_sort_sorted_perm (pos : Nat → P K) (n : Nat) :
    (Spec.sort pos n).flatten.Perm (List.range n) ∧
    (Spec.sort pos n).Pairwise (fun g h => comparePositions (key pos g) (key pos h) = .lt) ∧
    (∀ g ∈ Spec.sort pos n, g ≠ [] ∧ ∀ i ∈ g, comparePositions (pos i) (key pos g) = .eq) ∧
    (∀ g ∈ Spec.sort pos n, ∀ h ∈ Spec.sort pos n, ∀ i ∈ g, ∀ j ∈ h, pos i = pos j → g = h) := by
  unfold Spec.sort
  by_cases hn : n = 0
  · subst hn; simp
  · simp only [hn, ↓reduceIte]
    obtain ⟨hp, hs, ho⟩ := mergeSortG_spec pos 0 n (Nat.pos_of_ne_zero hn)
    refine ⟨by simpa [List.range_eq_range'] using hp, ?_, ?_, ?_⟩
    · exact hs.imp (fun h => (lexCmp_lt_iff _ _).mpr h)
    · intro g hg; exact ⟨(ho g hg).1, fun i hi => (lexCmp_eq_iff _ _).mpr ((ho g hg).2 i hi)⟩
    · intro g hg h hh i hi j hj hij
      -- along a strictly sorted list equal keys are keys of the same member
      have hk := hs.imp (S := fun g h => key pos g = key pos h → g = h) fun hlt e => (LexLt.irrefl _ (e ▸ hlt)).elim
      have : Std.Symm fun g h : List Nat => key pos g = key pos h → g = h := ⟨fun _ _ f e => (f e.symm).symm⟩
      exact hk.forall_of_forall (fun _ _ _ => rfl) hg hh (by rw [← (ho g hg).2 i hi, ← (ho h hh).2 j hj, hij])

example : (Spec.sort (fun i => (⟨(i : ℚ), 0⟩ : P ℚ)) 3).flatten.Perm (List.range 3) :=
  (merge_sort_sorted_perm _ 3).1

end Lyon.SweepProps
