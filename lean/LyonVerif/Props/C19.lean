/-
  C19 — measuring, sampling, walking and splitting by distance are mutually consistent.

  The statements are about the model functions of `Model/Algo/Measure.lean` (and, in
  `Props/C19w.lean`, `Model/Algo/Walk.lean`) — the same `def`s the correspondence check runs at
  `Float32` against `lyon_algorithms::{measure, walk, length}` — instantiated at an arbitrary linearly
  ordered field `K`.  The 1-D core (edge table = list of cumulative distances, cursor search,
  parameter interpolation, the `add_segment` pieces of `split_range`) is proved for ALL tables /
  cursors / distances / query histories; the 2-D claims (`sample_at_distance`,
  `sample_tangent_is_edge_direction`) are about `from.lerp(to, t)` and `to - from`, the expressions
  `sample_impl` evaluates on a line segment.
  What is not a theorem: IEEE rounding (oracle allowance);
  for curved segments (in the model and in the tie, flattening from C09) the theorems that read the
  table against the event lengths (`init1_inv`, coherence, the split lengths) are stated for straight
  entries or polyline paths.  For EVERY measured path, curves included: the table is non-decreasing
  (`initTable_mono_all`, so the cursor theorems apply) and `sample_impl` never reaches
  `unreachable!()` (`sample_never_panics_all`); `sample_never_panics` keeps its polyline hypothesis in
  its statement and does not use it.
  The edge table `initialize` builds is in `Props/C19t.lean`, the walker in `Props/C19w.lean`; this
  file holds the sampler (cursor, parameter, split, length).
-/
import LyonVerif.Props.C19t
import LyonVerif.Lemmas.Measure
import LyonVerif.Lemmas.Trace
import Mathlib.Tactic.NormNum
import Mathlib.Tactic.IntervalCases
import Mathlib.Algebra.Order.Field.Rat

set_option linter.unusedSectionVars false

geom_all Lyon.Measure

namespace Lyon.C19
open Lyon Lyon.Measure Scalar

variable {K : Type} [Field K] [LinearOrder K] [IsStrictOrderedRing K]

theorem length_eq (es : List (Edge K)) (h : 0 < es.length) : length es = dAt es (es.length - 1) := by
  rw [length_eq_last, prevD, if_neg (by omega)]

/-- The search part of `move_cursor` (reached when `dist ≠ 0` and the cursor is out of bounds):
whichever of the four scans runs, the new cursor brackets `dist`, strictly on the left.
No monotonicity of the table is needed for this. -/
theorem search_in_bounds (es : List (Edge K)) (c : Nat) (dist : K) (linF linB : Bool)
    (h0 : dAt es 0 = 0) (hc : c < es.length) (hpos : 0 < dist) (hlen : dist ≤ length es)
    (hnb : ¬ inBounds es c dist) :
    1 ≤ (if dAt es c < dist then searchFwd linF es c dist else searchBwd linB es c dist) ∧
    (if dAt es c < dist then searchFwd linF es c dist else searchBwd linB es c dist) < es.length ∧
    dAt es ((if dAt es c < dist then searchFwd linF es c dist else searchBwd linB es c dist) - 1) < dist ∧
    dist ≤ dAt es (if dAt es c < dist then searchFwd linF es c dist else searchBwd linB es c dist) := by
  rw [length_eq es (by omega)] at hlen
  -- an entry that is not below `dist` is not the first one
  have pos : ∀ p, dist ≤ dAt es p → 1 ≤ p := fun p h => Nat.pos_of_ne_zero fun h' => by
    rw [h', h0] at h
    exact absurd hpos (not_lt.mpr h)
  by_cases hlt : dAt es c < dist
  · rw [if_pos hlt]
    have hcl : c ≠ es.length - 1 := by
      intro h
      rw [← h] at hlen
      exact absurd hlt (not_lt.mpr hlen)
    cases linF with
    | true =>
      simp only [searchFwd, if_true]
      have := fwdLin_spec es dist (es.length - 1) hlen (es.length - c - 1) c (by omega) (by omega) hlt
      exact ⟨by omega, by omega, this.2.2.1, this.2.2.2⟩
    | false =>
      simp only [searchFwd, Bool.false_eq_true, if_false]
      -- the table's last entry is not below `dist`, so the search stops before `es.length`
      obtain ⟨h1, h2, h3, h4⟩ := partPt_bracket es dist es.length (c + 1) es.length (by omega) (by omega)
        (by simpa using hlt)
      have hne : partPt (ltPred es dist) es.length (c + 1) es.length ≠ es.length := by
        intro h
        rw [h] at h3
        exact absurd h3 (not_lt.mpr hlen)
      exact ⟨by omega, by omega, h3, h4.resolve_left hne⟩
  · rw [if_neg hlt]
    have hle : dist ≤ dAt es c := not_lt.mp hlt
    have hc1 := pos c hle
    have hprev : dist < dAt es (c - 1) := by
      by_contra h
      exact hnb ⟨by omega, not_lt.mp h, hle⟩
    cases linB with
    | true =>
      simp only [searchBwd, if_true]
      have := bwdLin_spec es dist (c - 1) (le_of_lt hprev)
      rw [show c - 1 + 1 = c by omega] at this
      obtain ⟨h1, h2, h3⟩ := this
      have := pos _ h3
      exact ⟨this, by omega, h2.resolve_left (by omega), h3⟩
    | false =>
      simp only [searchBwd, Bool.false_eq_true, if_false]
      obtain ⟨h1, h2, h3, h4⟩ := partPt_bracket es dist (c + 1) 0 c (by omega) (by omega)
        (by rw [h0]; exact hpos)
      have h4' : dist ≤ dAt es (partPt (ltPred es dist) (c + 1) 0 c) := 
        h4.elim (fun h => by rw [h]; exact hle) id
      exact ⟨pos _ h4', by omega, h3, h4'⟩

/-- The `dist == 0.0` branch: on a non-decreasing table starting at 0 with positive
length, the scan rests on an entry `p ≥ 1` with `edges[p-1].distance = 0 < edges[p].distance`. -/
theorem zero_cursor (es : List (Edge K)) (h0 : dAt es 0 = 0) (hmono : Mono es) (hL : 0 < length es) :
    1 ≤ zeroScan es es.length 1 ∧ zeroScan es es.length 1 < es.length ∧
    dAt es (zeroScan es es.length 1 - 1) = 0 ∧ 0 < dAt es (zeroScan es es.length 1) := by
  have hlen1 : 1 < es.length := by
    by_contra h
    rw [length_eq_last, prevD] at hL
    split at hL
    · exact lt_irrefl _ hL
    · rw [show es.length - 1 = 0 by omega, h0] at hL
      exact lt_irrefl _ hL
  obtain ⟨s1, s2, s3, s4⟩ := zeroScan_spec es es.length 1 (le_refl _) hlen1 (by omega) (by simpa using h0)
  refine ⟨s1, s2, s3, ?_⟩
  rcases s4 with s4 | s4
  · have : zeroScan es es.length 1 = es.length - 1 := by omega
    rw [this, ← length_eq es (by omega)]
    exact hL
  · have := hmono 0 (zeroScan es es.length 1) (by omega) s2
    rw [h0] at this
    exact lt_of_le_of_ne this (Ne.symm s4)

/-- What one `move_cursor` does, in one walk through its three branches (`dist == 0`, cursor still
in bounds, search): the new cursor is in range, brackets `dist`, and rests on an entry of positive
length if the old one was the initial cursor or did so. -/
theorem moveCursorWith_spec (es : List (Edge K)) (c : Nat) (dist : K) (linF linB : Bool)
    (h0 : dAt es 0 = 0) (hmono : Mono es) (hc : c < es.length) (hL : 0 < length es)
    (hd0 : 0 ≤ dist) (hd1 : dist ≤ length es) :
    1 ≤ moveCursorWith linF linB es c dist ∧ moveCursorWith linF linB es c dist < es.length ∧
    dAt es (moveCursorWith linF linB es c dist - 1) ≤ dist ∧
    dist ≤ dAt es (moveCursorWith linF linB es c dist) ∧
    ((c = 0 ∨ dAt es (c - 1) < dAt es c) →
      dAt es (moveCursorWith linF linB es c dist - 1) < dAt es (moveCursorWith linF linB es c dist)) := by
  unfold moveCursorWith
  by_cases hz : dist = 0
  · rw [if_pos (by rw [sc_beq]; simpa using hz)]
    obtain ⟨z1, z2, z3, z4⟩ := zero_cursor es h0 hmono hL
    exact ⟨z1, z2, by rw [z3, hz], by rw [hz]; exact le_of_lt z4, fun _ => by rw [z3]; exact z4⟩
  · rw [if_neg (by rw [sc_beq]; simpa using hz)]
    by_cases hib : inBounds es c dist
    · rw [if_pos hib]
      exact ⟨Nat.one_le_iff_ne_zero.mpr hib.1, hc, hib.2.1, hib.2.2, fun hg => hg.resolve_left hib.1⟩
    · rw [if_neg hib]
      have := search_in_bounds es c dist linF linB h0 hc (lt_of_le_of_ne hd0 (Ne.symm hz)) hd1 hib
      exact ⟨this.1, this.2.1, le_of_lt this.2.2.1, this.2.2.2,
        fun _ => lt_of_lt_of_le this.2.2.1 this.2.2.2⟩

/-- For every non-decreasing table starting at 0 with positive
length, every prior cursor and every `dist ∈ [0, length]`, the new cursor `c'` satisfies
`1 ≤ c' < len` and `edges[c'-1].distance ≤ dist ≤ edges[c'].distance` — whichever search branch
is taken (`linF`, `linB` are arbitrary: the float heuristic only selects them). -/
theorem move_cursor_in_bounds (es : List (Edge K)) (c : Nat) (dist : K) (linF linB : Bool)
    (h0 : dAt es 0 = 0) (hmono : Mono es) (hc : c < es.length) (hL : 0 < length es)
    (hd0 : 0 ≤ dist) (hd1 : dist ≤ length es) :
    1 ≤ moveCursorWith linF linB es c dist ∧ moveCursorWith linF linB es c dist < es.length ∧
    dAt es (moveCursorWith linF linB es c dist - 1) ≤ dist ∧
    dist ≤ dAt es (moveCursorWith linF linB es c dist) :=
  have h := moveCursorWith_spec es c dist linF linB h0 hmono hc hL hd0 hd1
  ⟨h.1, h.2.1, h.2.2.1, h.2.2.2.1⟩

/-- the cursor as it really moves (heuristic-selected branches) is an instance -/
theorem move_cursor_in_bounds_heuristic (es : List (Edge K)) (c : Nat) (dist : K)
    (h0 : dAt es 0 = 0) (hmono : Mono es) (hc : c < es.length) (hL : 0 < length es)
    (hd0 : 0 ≤ dist) (hd1 : dist ≤ length es) :
    1 ≤ moveCursor es c dist ∧ moveCursor es c dist < es.length ∧
    dAt es (moveCursor es c dist - 1) ≤ dist ∧ dist ≤ dAt es (moveCursor es c dist) :=
  move_cursor_in_bounds es c dist _ _ h0 hmono hc hL hd0 hd1

/-- on a non-decreasing table a strict bracket determines the cursor -/
theorem cursor_unique (es : List (Edge K)) (hmono : Mono es) (dist : K) (c k : Nat)
    (hc1 : 1 ≤ c) (hc : c < es.length) (h1 : dAt es (c - 1) ≤ dist) (h2 : dist ≤ dAt es c)
    (hk1 : 1 ≤ k) (hk : k < es.length) (hlt : dAt es (k - 1) < dist) (hlt' : dist < dAt es k) :
    c = k := by
  by_contra hne
  rcases Nat.lt_or_gt_of_ne hne with h | h
  · have := hmono c (k - 1) (by omega) (by omega)
    exact absurd (lt_of_le_of_lt (le_trans h2 this) hlt) (lt_irrefl _)
  · have := hmono k (c - 1) (by omega) (by omega)
    exact absurd (lt_of_lt_of_le hlt' (le_trans this h1)) (lt_irrefl _)

/-- Where the table is strictly increasing around
`dist` (`edges[k-1].distance < dist < edges[k].distance`), the cursor after `move_cursor(dist)` is
`k` — for every previous cursor (i.e. every query history) and every choice of search branch. -/
theorem cursor_history_independent (es : List (Edge K)) (c : Nat) (dist : K) (linF linB : Bool)
    (h0 : dAt es 0 = 0) (hmono : Mono es) (hc : c < es.length) (hL : 0 < length es)
    (hd0 : 0 ≤ dist) (hd1 : dist ≤ length es)
    (k : Nat) (hk1 : 1 ≤ k) (hk : k < es.length) (hlt : dAt es (k - 1) < dist) (hlt' : dist < dAt es k) :
    moveCursorWith linF linB es c dist = k := by
  have := move_cursor_in_bounds es c dist linF linB h0 hmono hc hL hd0 hd1
  exact cursor_unique es hmono dist _ k this.1 this.2.1 this.2.2.1 this.2.2.2 hk1 hk hlt hlt'

/-- The result of `sample_impl` (position, tangent, attributes,
or panic) does not depend on the cursor left behind by previous queries, at every distance whose
clamped value lies strictly inside a table interval. -/
theorem sample_history_independent [Transc K] (m : M K) (c1 c2 : Nat) (normalized : Bool) (d : K)
    (h0 : dAt m.edges 0 = 0) (hmono : Mono m.edges)
    (hc1 : c1 < m.edges.length) (hc2 : c2 < m.edges.length)
    (hd0 : 0 ≤ clampDist normalized (length m.edges) d)
    (hd1 : clampDist normalized (length m.edges) d ≤ length m.edges)
    (k : Nat) (hk1 : 1 ≤ k) (hk : k < m.edges.length)
    (hlt : dAt m.edges (k - 1) < clampDist normalized (length m.edges) d)
    (hlt' : clampDist normalized (length m.edges) d < dAt m.edges k) :
    (sampleImpl m c1 normalized d).2 = (sampleImpl m c2 normalized d).2 ∧
    (sampleImpl m c1 normalized d).1 = (sampleImpl m c2 normalized d).1 := by
  have hL : 0 < length m.edges := by
    have a := hmono 0 (k - 1) (by omega) (by omega)
    rw [h0] at a
    exact lt_of_lt_of_le (lt_of_le_of_lt a hlt) hd1
  have hz : ¬ ((length m.edges == (Scalar.zero : K)) = true) := by
    rw [sc_beq]
    have : length m.edges ≠ 0 := ne_of_gt hL
    simpa using this
  unfold sampleImpl
  rw [if_neg hz, if_neg hz]
  show _ ∧ moveCursor m.edges c1 _ = moveCursor m.edges c2 _
  unfold moveCursor
  rw [cursor_history_independent m.edges c1 _ _ _ h0 hmono hc1 hL hd0 hd1 k hk1 hk hlt hlt',
    cursor_history_independent m.edges c2 _ _ _ h0 hmono hc2 hL hd0 hd1 k hk1 hk hlt hlt']
  exact ⟨rfl, rfl⟩

/-- With the cursor in bounds on an entry of positive length, `t(dist)` lies
between the parameters of the two table entries (so in `[0, 1]`). -/
theorem t_in_range (es : List (Edge K)) (c : Nat) (dist : K)
    (h1 : dAt es (c - 1) ≤ dist) (h2 : dist ≤ dAt es c) (hpos : dAt es (c - 1) < dAt es c)
    (htb : tBegin es c ≤ (eAt es c).t) :
    tBegin es c ≤ tParam es c dist ∧ tParam es c dist ≤ (eAt es c).t := by
  unfold tParam
  have hden : 0 < dAt es c - dAt es (c - 1) := sub_pos.mpr hpos
  have hr0 : 0 ≤ (dist - dAt es (c - 1)) / (dAt es c - dAt es (c - 1)) :=
    div_nonneg (sub_nonneg.mpr h1) (le_of_lt hden)
  have hr1 : (dist - dAt es (c - 1)) / (dAt es c - dAt es (c - 1)) ≤ 1 :=
    (div_le_one hden).mpr (sub_le_sub_right h2 _)
  have hw : 0 ≤ (eAt es c).t - tBegin es c := sub_nonneg.mpr htb
  exact ⟨le_add_of_nonneg_right (mul_nonneg hw hr0),
    by linear_combination mul_le_mul_of_nonneg_left hr1 hw⟩

/-- On a polyline entry (`t_begin = 0`, `t_end = 1`) the parameter
is the arclength fraction: walking `t · (edge length)` from the entry's start distance gives `dist`. -/
theorem sample_at_distance_1d (es : List (Edge K)) (c : Nat) (dist : K)
    (hpos : dAt es (c - 1) < dAt es c) (htb : tBegin es c = 0) (hte : (eAt es c).t = 1) :
    dAt es (c - 1) + tParam es c dist * (dAt es c - dAt es (c - 1)) = dist := by
  unfold tParam
  rw [htb, hte]
  have hden : dAt es c - dAt es (c - 1) ≠ 0 := ne_of_gt (sub_pos.mpr hpos)
  field_simp
  ring

/-- The sampled position `from.lerp(to, t)` lies on the edge at distance
`dist − edges[c-1].distance` from the edge's start (squared form: no square root needed), given
that the table entry's length is the edge's length. -/
theorem sample_at_distance (es : List (Edge K)) (c : Nat) (dist : K) (f g : P K)
    (hpos : dAt es (c - 1) < dAt es c) (htb : tBegin es c = 0) (hte : (eAt es c).t = 1)
    (hlen : (dAt es c - dAt es (c - 1)) * (dAt es c - dAt es (c - 1)) = (g - f).sqLen) :
    ((f.lerp g (tParam es c dist)) - f).sqLen
      = (dist - dAt es (c - 1)) * (dist - dAt es (c - 1)) := by
  have h := sample_at_distance_1d es c dist hpos htb hte
  have e : ((f.lerp g (tParam es c dist)) - f).sqLen
      = tParam es c dist * tParam es c dist * (g - f).sqLen := by
    geom_ring
  rw [e, ← hlen]
  rw [show dist - dAt es (c - 1) = tParam es c dist * (dAt es c - dAt es (c - 1)) by
    linear_combination (-1 : K) * h]
  ring

/-- 1-D length of what one `add_segment` call emits: the parameter range times the event's length -/
def pieceLen (l : List K) (p : Piece K) : K :=
  match p.range with
  | some (a, b) => (b - a) * evLen l p.seg
  | none => evLen l p.seg

def piecesLen (l : List K) (ps : List (Piece K)) : K := (ps.map (pieceLen l)).sum

theorem sum_range_evLen (l : List K) (n a : Nat) :
    ((List.range' a n).map (evLen l)).sum = pre l (a + n) - pre l a := by
  induction n generalizing a with
  | zero => simp
  | succ n ih =>
    rw [List.range'_succ, List.map_cons, List.sum_cons, ih (a + 1), pre_succ l a]
    have : a + 1 + n = a + (n + 1) := by omega
    rw [this]
    ring

set_option linter.unusedVariables false in
/-- With both cursors in bounds on straight entries of positive length at which the table agrees
with the event lengths (the entries in between may belong to curves), the pieces `split_range`
hands to `add_segment` for the clamped range `s..e` have total length `e − s`. -/
theorem split_pieces_length_at (es : List (Edge K)) (l : List K) (p1 p2 : Nat) (s e : K)
    (c1 : dAt es p1 = pre l ((eAt es p1).index + 1)) (c1' : dAt es (p1 - 1) = pre l (eAt es p1).index)
    (c2 : dAt es p2 = pre l ((eAt es p2).index + 1)) (c2' : dAt es (p2 - 1) = pre l (eAt es p2).index)
    (h1 : 1 ≤ p1) (h1' : p1 < es.length) (h2 : 1 ≤ p2) (h2' : p2 < es.length)
    (hg1 : dAt es (p1 - 1) < dAt es p1) (hg2 : dAt es (p2 - 1) < dAt es p2)
    (ht1 : tBegin es p1 = 0) (ht1' : (eAt es p1).t = 1)
    (ht2 : tBegin es p2 = 0) (ht2' : (eAt es p2).t = 1)
    (hidx : (eAt es p1).index ≤ (eAt es p2).index)
    (hsame : (eAt es p1).index = (eAt es p2).index → p1 = p2) :
    piecesLen l (splitPieces es p1 p2 s e) = e - s := by
  have a1 := sample_at_distance_1d es p1 s hg1 ht1 ht1'
  have a2 := sample_at_distance_1d es p2 e hg2 ht2 ht2'
  have l1 : evLen l (eAt es p1).index = dAt es p1 - dAt es (p1 - 1) := by
    have := pre_succ l (eAt es p1).index
    rw [c1, c1', this]; ring
  have l2 : evLen l (eAt es p2).index = dAt es p2 - dAt es (p2 - 1) := by
    have := pre_succ l (eAt es p2).index
    rw [c2, c2', this]; ring
  unfold splitPieces
  by_cases hs : (eAt es p1).index = (eAt es p2).index
  · rw [if_pos hs]
    have hp := hsame hs
    subst hp
    simp only [piecesLen, List.map_cons, List.map_nil, List.sum_cons, List.sum_nil, pieceLen, l1]
    linear_combination a2 - a1
  · rw [if_neg hs]
    have hlt : (eAt es p1).index + 1 ≤ (eAt es p2).index := by omega
    simp only [piecesLen, List.map_cons, List.map_append, List.map_map, List.map_nil, List.sum_cons,
      List.sum_append, List.sum_nil]
    have hmid : (List.map (pieceLen l ∘ fun i => (⟨i, none⟩ : Piece K))
        (List.range' ((eAt es p1).index + 1) ((eAt es p2).index - ((eAt es p1).index + 1)))).sum
        = dAt es (p2 - 1) - dAt es p1 := by
      have : (pieceLen l ∘ fun i => (⟨i, none⟩ : Piece K)) = evLen l := by
        funext i; simp [pieceLen]
      rw [this, sum_range_evLen, c1, c2']
      have : (eAt es p1).index + 1 + ((eAt es p2).index - ((eAt es p1).index + 1)) = (eAt es p2).index := by
        omega
      rw [this]
    rw [hmid]
    simp only [pieceLen, l1, l2]
    rw [sc_zero_eq, sc_one_eq]
    linear_combination a2 - a1

/-- `split_pieces_length_at` for a table coherent everywhere (polyline tables: `init1_coherent`) -/
theorem split_pieces_length (es : List (Edge K)) (l : List K) (p1 p2 : Nat) (s e : K)
    (hco : Coherent es l)
    (h1 : 1 ≤ p1) (h1' : p1 < es.length) (h2 : 1 ≤ p2) (h2' : p2 < es.length)
    (hg1 : dAt es (p1 - 1) < dAt es p1) (hg2 : dAt es (p2 - 1) < dAt es p2)
    (ht1 : tBegin es p1 = 0) (ht1' : (eAt es p1).t = 1)
    (ht2 : tBegin es p2 = 0) (ht2' : (eAt es p2).t = 1)
    (hidx : (eAt es p1).index ≤ (eAt es p2).index)
    (hsame : (eAt es p1).index = (eAt es p2).index → p1 = p2) :
    piecesLen l (splitPieces es p1 p2 s e) = e - s :=
  split_pieces_length_at es l p1 p2 s e (hco p1 h1 h1').1 (hco p1 h1 h1').2 (hco p2 h2 h2').1
    (hco p2 h2 h2').2 h1 h1' h2 h2' hg1 hg2 ht1 ht1' ht2 ht2' hidx hsame

/-- The pieces for `a..b` and `b..c` add up to those for `a..c`
(1-D model; the cursor found for `b` as an end may differ from the one found for it as a start). -/
theorem split_lengths_add (es : List (Edge K)) (l : List K) (pa pb pb' pc : Nat) (a b c : K)
    (hco : Coherent es l)
    (hpoly : ∀ p, 1 ≤ p → p < es.length → tBegin es p = 0 ∧ (eAt es p).t = 1)
    (hinj : ∀ p q, 1 ≤ p → p ≤ q → q < es.length →
      (eAt es p).index ≤ (eAt es q).index ∧ ((eAt es p).index = (eAt es q).index → p = q))
    (ha : 1 ≤ pa) (hab : pa ≤ pb) (hab' : pa ≤ pc) (hb' : 1 ≤ pb') (hbc : pb' ≤ pc) (hc : pc < es.length)
    (hb : pb < es.length)
    (ga : dAt es (pa - 1) < dAt es pa) (gb : dAt es (pb - 1) < dAt es pb)
    (gb' : dAt es (pb' - 1) < dAt es pb') (gc : dAt es (pc - 1) < dAt es pc) :
    piecesLen l (splitPieces es pa pb a b) + piecesLen l (splitPieces es pb' pc b c)
      = piecesLen l (splitPieces es pa pc a c) := by
  have key : ∀ p q s e, 1 ≤ p → p ≤ q → q < es.length → dAt es (p - 1) < dAt es p →
      dAt es (q - 1) < dAt es q → piecesLen l (splitPieces es p q s e) = e - s :=
    fun p q s e hp hpq hq gp gq =>
      split_pieces_length es l p q s e hco hp (by omega) (by omega) hq gp gq
        (hpoly p hp (by omega)).1 (hpoly p hp (by omega)).2 (hpoly q (by omega) hq).1
        (hpoly q (by omega) hq).2 (hinj p q hp hpq hq).1 (hinj p q hp hpq hq).2
  rw [key pa pb a b ha hab hb ga gb, key pb' pc b c hb' hbc hc gb' gc, key pa pc a c ha hab' hc ga gc]
  ring

/-- every `add_segment` leaves the output builder inside a sub-path -/
theorem addSegments_nest (m : M K) : ∀ (ps : List (Piece K)) (inSub : Bool),
    Path.nestState true (addSegments m ps inSub) = some true := by
  intro ps
  induction ps with
  | nil => intro _; simp [addSegments, Path.nestState]
  | cons p r ih =>
    intro inSub
    unfold addSegments
    rw [Path.nestState_append]
    have h1 : Path.nestState true (addSegment m p inSub).1 = some true := by
      unfold addSegment
      cases toSegment (evAt m p.seg) with
      | none => simp [Path.nestState]
      | some q =>
        obtain ⟨sg, af, at_⟩ := q
        simp only [segCalls]
        generalize applyRange p.range sg = sg'
        cases inSub <;> cases sg' <;> simp [SegW.edgeCall, Path.nestState]
    rw [h1]
    exact ih _

/-- Whatever the path, the cursor, the sample type and the range:
the calls `split_range` makes on its output builder form `(begin edge* end)*`. -/
theorem split_trace_wellnested [Transc K] (m : M K) (c : Nat) (normalized : Bool) (a b : K) :
    ∀ calls, (splitRange m c normalized a b).2 = .ok calls → Path.WellNested calls := by
  intro calls h
  unfold splitRange at h
  split at h
  · split at h
    · simp only [splitTail] at h
      injection h with h
      subst h
      show Path.wellNestedFrom false _ = true
      rw [Path.wellNestedFrom_iff_nestState]
      simp only [Path.nestState]
      rw [Path.nestState_append, addSegments_nest]
      simp [Path.nestState]
    · cases h
  · injection h with h
    subst h
    show Path.wellNestedFrom false _ = true
    rfl

/-- The measured length (last table entry) is the sum of the lengths of the
edges, whatever `Begin`/`End` events lie in between. -/
theorem length_is_fold (steps : List (Step K)) : length (init1 (Scalar.zero : K) 0 steps) = total steps := by
  rw [length_eq_last, sc_zero_eq, init1_last, zero_add]

theorem vlen_flip [Transc K] (p q : P K) : vlen (p - q) = vlen (q - p) := by
  unfold vlen
  congr 1
  simp only [geom]
  ring

/-- on polyline events `approx_length`'s loop never looks at its tolerance (`tol'`), so it agrees
with the table's steps at any other tolerance `tol` -/
theorem approxLengthFrom_eq [Transc K] [FlatConst K] (tol : K) (evs : List (Ev K)) :
    (∀ e ∈ evs, e.isPoly = true) → ∀ (tol' l : K),
    approxLengthFrom tol' l evs = l + total (evs.map (stepOf tol)) := by
  induction evs with
  | nil => intro _ tol' l; simp [approxLengthFrom, total]
  | cons e r ih =>
    intro hpoly tol' l
    have he := hpoly e (by simp)
    have ih := ih (fun e' h => hpoly e' (List.mem_cons_of_mem _ h))
    cases e with
    | begin p a => simp only [approxLengthFrom, ih, total, List.map_cons, stepOf, stepLen, List.sum_cons]; ring
    | line f g af at_ =>
      simp only [approxLengthFrom, ih, total, List.map_cons, stepOf, stepLen, List.sum_cons]
      rw [vlen_flip g f]; ring
    | quad f c g af at_ => simp [Ev.isPoly] at he
    | cubic f c1 c2 g af at_ => simp [Ev.isPoly] at he
    | end_ la fi al af cl =>
      cases cl with
      | true =>
        simp only [approxLengthFrom, ih, total, List.map_cons, stepOf, stepLen, List.sum_cons]
        rw [vlen_flip fi la]; ring
      | false => simp only [approxLengthFrom, ih, total, List.map_cons, stepOf, stepLen, List.sum_cons]; ring

/-- the measured length is `approximate_length` on polyline paths (same sum of `sqrt`s) -/
theorem length_eq_approx_length [Transc K] [FlatConst K] (tol tol' : K) (evs : List (Ev K))
    (hpoly : ∀ e ∈ evs, e.isPoly = true) :
    length (initTable tol evs) = approxLength tol' evs := by
  unfold initTable approxLength
  rw [length_is_fold, approxLengthFrom_eq tol evs hpoly]
  rw [sc_zero_eq]; ring

theorem total_append (a b : List (Step K)) : total (a ++ b) = total a + total b := by
  simp [total]

theorem flattenEvs_isPoly [Transc K] [FlatConst K] (tol : K) (evs : List (Ev K)) :
    ∀ e ∈ flattenEvs tol evs, e.isPoly = true := by
  induction evs with
  | nil => intro e h; simp [flattenEvs] at h
  | cons e r ih =>
    intro e' h
    cases e with
    | quad | cubic =>
      simp only [flattenEvs, List.mem_append, List.mem_map] at h
      rcases h with ⟨sg, _, h⟩ | h
      · rw [← h]; rfl
      · exact ih e' h
    | _ =>
      simp only [flattenEvs, List.mem_cons] at h
      rcases h with h | h
      · rw [h]; rfl
      · exact ih e' h

theorem total_flat_lines [Transc K] [FlatConst K] (tol' : K) (af at_ : List K) (L : List (FlatSeg K)) :
    total ((L.map (fun s => Ev.line s.a s.b af at_)).map (stepOf tol'))
      = ((L.map (fun s => (vlen (s.b - s.a), s.t1))).map Prod.fst).sum := by
  induction L with
  | nil => simp [total]
  | cons s r ih =>
    simp only [total, List.map_cons, List.sum_cons, stepOf, stepLen] at ih ⊢
    rw [ih, vlen_flip]

/-- the table of a path and the table of its flattening carry the same total length -/
theorem total_flatten [Transc K] [FlatConst K] (tol tol' : K) (evs : List (Ev K)) :
    total (evs.map (stepOf tol)) = total ((flattenEvs tol evs).map (stepOf tol')) := by
  induction evs with
  | nil => simp [flattenEvs]
  | cons e r ih =>
    cases e with
    | quad | cubic =>
      simp only [flattenEvs, List.map_cons, List.map_append]
      rw [total_append, ← ih, total_flat_lines]
      simp only [total, List.map_cons, List.sum_cons, stepOf, stepLen, flatEntries]
    | end_ l f al af cl =>
      cases cl <;> (simp only [flattenEvs, List.map_cons, total, List.sum_cons, stepOf] at ih ⊢; rw [ih])
    | _ => simp only [flattenEvs, List.map_cons, total, List.sum_cons, stepOf] at ih ⊢; rw [ih]

/-- For ANY path (curves included): the measured length
(`PathMeasurements::length`, last table entry) equals `approximate_length` of the flattened
events — the path in which every curve is replaced by the lines `for_each_flattened_with_t`
emits at the measuring tolerance. -/
theorem length_eq_approx_length_flattened [Transc K] [FlatConst K] (tol tol' : K) (evs : List (Ev K)) :
    length (initTable tol evs) = approxLength tol' (flattenEvs tol evs) := by
  unfold initTable approxLength
  rw [length_is_fold, approxLengthFrom_eq tol' (flattenEvs tol evs) (flattenEvs_isPoly tol evs),
    ← total_flatten]
  rw [sc_zero_eq]; ring

/-- on an event `to_segment` turns into a segment, `sample_impl` reports `segment.sample(t)`,
`segment.derivative(t).normalize()` and the attributes interpolated by `t` -/
theorem sample_on_edge [Transc K] (m : M K) (c : Nat) (t : K) (sg : SegW K) (af at_ : List K)
    (h : toSegment (evAt m (eAt m.edges c).index) = some (sg, af, at_)) :
    sampleOn m c t = .ok (sg.sample t) (normalize (sg.derivative t)) (interp af at_ t) := by
  simp [sampleOn, h]

/-- When the cursor rests on a straight edge `f → g` (a
`Line`, or a closing `End`), the reported tangent is `(g − f) / |g − f|` whatever `t` is — the
normalised direction of that edge; with the square-root law it has length 1. -/
theorem sample_tangent_is_edge_direction [Transc K] (m : M K) (c : Nat) (t : K) (f g : P K)
    (af at_ : List K)
    (h : toSegment (evAt m (eAt m.edges c).index) = some (.line ⟨f, g⟩, af, at_)) :
    (∃ pos attrs, sampleOn m c t = .ok pos ((g - f).sdiv (vlen (g - f))) attrs) ∧
    ((vlen (g - f)) * (vlen (g - f)) = (g - f).sqLen → (g - f).sqLen ≠ 0 →
      ((g - f).sdiv (vlen (g - f))).sqLen = 1) :=
  ⟨⟨_, _, by rw [sample_on_edge m c t _ af at_ h]; rfl⟩, fun hs hne => sdiv_sqLen _ hs hne⟩

/-- The reported attributes are, component by component, the linear
interpolation `from[i]·(1−t) + to[i]·t` of the attributes of the two endpoints of the segment the
cursor rests on, at the segment parameter `t`. -/
theorem sample_attributes_linear [Transc K] (m : M K) (c : Nat) (t : K) (sg : SegW K) (af at_ : List K)
    (h : toSegment (evAt m (eAt m.edges c).index) = some (sg, af, at_)) :
    (∃ pos tan, sampleOn m c t = .ok pos tan (interp af at_ t)) ∧
    (∀ i (hi : i < af.length) (hj : i < at_.length),
      (interp af at_ t)[i]? = some (af[i] * (1 - t) + at_[i] * t)) := by
  constructor
  · exact ⟨_, _, sample_on_edge m c t sg af at_ h⟩
  · intro i hi hj
    simp [interp, hi, hj]

set_option linter.unusedVariables false in
/-- the table of a measured path satisfies the hypotheses of the cursor theorems: if `sqrt` is
non-negative and the path starts with `Begin`, the table is non-decreasing and starts at 0 -/
theorem initTable_mono_zero [Transc K] [FlatConst K] (tol : K) (hsqrt : ∀ x : K, 0 ≤ Transc.sqrt x)
    (p : P K) (a : List K) (evs : List (Ev K)) (hpoly : ∀ e ∈ evs, e.isPoly = true) :
    Mono (initTable tol (.begin p a :: evs)) ∧ dAt (initTable tol (.begin p a :: evs)) 0 = 0 :=
  ⟨initTable_mono_all tol hsqrt _, by simp [initTable, init1, stepOf, dAt, eAt]⟩

/-- an entry of the table belongs to a straight event (`Begin`, `Line`, closing `End`) -/
def StraightAt (steps : List (Step K)) (p : Nat) : Prop :=
  (steps.getD (eAt (init1 (0 : K) 0 steps) p).index .skip).isPoly = true

theorem straight_entry_facts (steps : List (Step K)) (p : Nat) (hp1 : 1 ≤ p)
    (hp : p < (init1 (0 : K) 0 steps).length) (hs : StraightAt steps p) :
    dAt (init1 (0 : K) 0 steps) p = pre (steps.map stepLen) ((eAt (init1 (0 : K) 0 steps) p).index + 1) ∧
    dAt (init1 (0 : K) 0 steps) (p - 1) = pre (steps.map stepLen) (eAt (init1 (0 : K) 0 steps) p).index ∧
    tBegin (init1 (0 : K) 0 steps) p = 0 ∧ (eAt (init1 (0 : K) 0 steps) p).t = 1 := by
  obtain ⟨_, hrest⟩ := init1_inv_mixed steps (0 : K) 0 p hp
  obtain ⟨h2, h3, h4⟩ := hrest (by simpa [StraightAt] using hs)
  have hp0 : p ≠ 0 := by omega
  simp only [hp0, if_false, Nat.sub_zero, zero_add] at h2 h3
  refine ⟨h2, h3, ?_, h4⟩
  have := (init1_index_adjacent_mixed steps (0 : K) 0 (p - 1) (by omega)).2
  have e : p - 1 + 1 = p := by omega
  rw [e] at this
  have := this (Or.inr (by simpa [StraightAt] using hs))
  unfold tBegin
  rw [if_neg (ne_of_lt this)]
  simp

theorem split_pieces_length_curved (steps : List (Step K)) (p1 p2 : Nat) (s e : K)
    (h1 : 1 ≤ p1) (h12 : p1 ≤ p2) (h2' : p2 < (init1 (0 : K) 0 steps).length)
    (s1 : StraightAt steps p1) (s2 : StraightAt steps p2)
    (hg1 : dAt (init1 (0 : K) 0 steps) (p1 - 1) < dAt (init1 (0 : K) 0 steps) p1)
    (hg2 : dAt (init1 (0 : K) 0 steps) (p2 - 1) < dAt (init1 (0 : K) 0 steps) p2) :
    piecesLen (steps.map stepLen) (splitPieces (init1 (0 : K) 0 steps) p1 p2 s e) = e - s := by
  obtain ⟨a1, a2, a3, a4⟩ := straight_entry_facts steps p1 h1 (by omega) s1
  obtain ⟨b1, b2, b3, b4⟩ := straight_entry_facts steps p2 (by omega) h2' s2
  have hi := init1_index_mixed steps (0 : K) 0 p1 p2 h12 h2'
  exact split_pieces_length_at _ _ p1 p2 s e a1 a2 b1 b2 h1 (by omega) (by omega) h2' hg1 hg2
    a3 a4 b3 b4 hi.1 (hi.2 (by simpa [StraightAt] using s1))

/-- `split_lengths_add` on paths with curves (`split_lengths_add_measured` for curved tables, as
far as the 1-D length of a piece is defined): for the table `initialize` builds from ANY event
sequence — curves contribute the entries of their flattening and count with its total length —
the pieces for `a..b` and `b..c` add up to those for `a..c` whenever the cut points `a`, `b`, `c`
fall on straight edges (of positive length); the ranges may contain any number of curves.
(A cut INSIDE a curve has no 1-D length in this model: the piece is the sub-curve `split_range(t0..t1)`
of C10, whose arclength is not linear in `t`; that case is covered by the oracle only.) -/
theorem split_lengths_add_curved (steps : List (Step K)) (pa pb pb' pc : Nat) (a b c : K)
    (ha : 1 ≤ pa) (hab : pa ≤ pb) (hab' : pa ≤ pc) (hb' : 1 ≤ pb') (hbc : pb' ≤ pc)
    (hc : pc < (init1 (0 : K) 0 steps).length) (hb : pb < (init1 (0 : K) 0 steps).length)
    (sa : StraightAt steps pa) (sb : StraightAt steps pb) (sb' : StraightAt steps pb')
    (sc : StraightAt steps pc)
    (ga : dAt (init1 (0 : K) 0 steps) (pa - 1) < dAt (init1 (0 : K) 0 steps) pa)
    (gb : dAt (init1 (0 : K) 0 steps) (pb - 1) < dAt (init1 (0 : K) 0 steps) pb)
    (gb' : dAt (init1 (0 : K) 0 steps) (pb' - 1) < dAt (init1 (0 : K) 0 steps) pb')
    (gc : dAt (init1 (0 : K) 0 steps) (pc - 1) < dAt (init1 (0 : K) 0 steps) pc) :
    piecesLen (steps.map stepLen) (splitPieces (init1 (0 : K) 0 steps) pa pb a b)
      + piecesLen (steps.map stepLen) (splitPieces (init1 (0 : K) 0 steps) pb' pc b c)
      = piecesLen (steps.map stepLen) (splitPieces (init1 (0 : K) 0 steps) pa pc a c) := by
  rw [split_pieces_length_curved steps pa pb a b ha hab hb sa sb ga gb,
    split_pieces_length_curved steps pb' pc b c hb' hbc hc sb' sc gb' gc,
    split_pieces_length_curved steps pa pc a c ha hab' hc sa sc ga gc]
  ring

/-- `split_lengths_add` for measured paths: for the table `initialize` builds from ANY polyline
event sequence, the only hypotheses left are about the cursors: they are ordered, and they rest on entries of
positive length (this much `cursor_history_on_positive_edges` provides after any history). -/
theorem split_lengths_add_measured (steps : List (Step K)) (hpoly : ∀ st ∈ steps, st.isPoly = true)
    (pa pb pb' pc : Nat) (a b c : K)
    (ha : 1 ≤ pa) (hab : pa ≤ pb) (hab' : pa ≤ pc) (hb' : 1 ≤ pb') (hbc : pb' ≤ pc)
    (hc : pc < (init1 (0 : K) 0 steps).length) (hb : pb < (init1 (0 : K) 0 steps).length)
    (ga : dAt (init1 (0 : K) 0 steps) (pa - 1) < dAt (init1 (0 : K) 0 steps) pa)
    (gb : dAt (init1 (0 : K) 0 steps) (pb - 1) < dAt (init1 (0 : K) 0 steps) pb)
    (gb' : dAt (init1 (0 : K) 0 steps) (pb' - 1) < dAt (init1 (0 : K) 0 steps) pb')
    (gc : dAt (init1 (0 : K) 0 steps) (pc - 1) < dAt (init1 (0 : K) 0 steps) pc) :
    piecesLen (steps.map stepLen) (splitPieces (init1 (0 : K) 0 steps) pa pb a b)
      + piecesLen (steps.map stepLen) (splitPieces (init1 (0 : K) 0 steps) pb' pc b c)
      = piecesLen (steps.map stepLen) (splitPieces (init1 (0 : K) 0 steps) pa pc a c) :=
  split_lengths_add _ _ pa pb pb' pc a b c (init1_coherent steps hpoly).1
    (fun p h1 hp => (straight_entry_facts steps p h1 hp (getD_isPoly steps hpoly _)).2.2)
    (fun p q _ hpq hq => init1_index_strict steps hpoly 0 0 p q hpq hq)
    ha hab hab' hb' hbc hc hb ga gb gb' gc

/-! ### the cursor always rests on an edge that can be sampled

  The model mirrors /repo after commit 72673fa5 ("fix: PathSampler::move_cursor(0.0) rests on the
  first edge with a non-zero length"; DESIGN.md §7, finding
  C19-sample-zero-single-point-subpath-panic & co.).  With `cursor = 1` set unconditionally,
  `begin(0,0) end(false); begin(1,0) line_to(2,0) end(false)`, whose table is
  `[Begin@0: 0, Begin@2: 0, Line@3: 1]`, has `sample(0.0)` put the cursor on entry 1, a `Begin` entry,
  where the segment dispatch falls through to `unreachable!()`, and a zero-length first edge
  (`begin(0,0) line_to(0,0) line_to(1,0)`) gives `t = 0/0`.  The harness keeps both inputs as fixed
  cases.  -/

/-- a cursor is *good* if it is the initial one or rests on an entry of positive length -/
def GoodCursor (es : List (Edge K)) (c : Nat) : Prop := c = 0 ∨ dAt es (c - 1) < dAt es c

/-- On every non-decreasing table starting at 0 with positive length
(i.e. whenever the path has an edge of positive length), after a query at any `dist ∈ [0, length]`
from a good cursor the cursor rests on an entry of positive length — whatever the search branches. -/
theorem cursor_on_positive_edge (es : List (Edge K)) (c : Nat) (dist : K) (linF linB : Bool)
    (h0 : dAt es 0 = 0) (hmono : Mono es) (hL : 0 < length es) (hc : c < es.length)
    (hd0 : 0 ≤ dist) (hd1 : dist ≤ length es) (hgood : GoodCursor es c) :
    dAt es (moveCursorWith linF linB es c dist - 1) < dAt es (moveCursorWith linF linB es c dist) :=
  (moveCursorWith_spec es c dist linF linB h0 hmono hc hL hd0 hd1).2.2.2.2 hgood

/-- the cursors visited by a whole query history (distances already clamped), with arbitrary
branch selections per query -/
noncomputable def cursorsAfter (es : List (Edge K)) : Nat → List (K × Bool × Bool) → List Nat
  | _, [] => []
  | c, (d, lf, lb) :: r => moveCursorWith lf lb es c d :: cursorsAfter es (moveCursorWith lf lb es c d) r

/-- `cursor_on_positive_edge` along a history: after every query of any sequence on one sampler, the
cursor is in range and rests on an entry of positive length -/
theorem cursor_history_on_positive_edges (es : List (Edge K))
    (h0 : dAt es 0 = 0) (hmono : Mono es) (hL : 0 < length es) :
    ∀ (qs : List (K × Bool × Bool)) (c : Nat), c < es.length → GoodCursor es c →
      (∀ q ∈ qs, 0 ≤ q.1 ∧ q.1 ≤ length es) →
      ∀ c' ∈ cursorsAfter es c qs, 1 ≤ c' ∧ c' < es.length ∧ dAt es (c' - 1) < dAt es c' := by
  intro qs
  induction qs with
  | nil => intro c _ _ _ c' h; simp [cursorsAfter] at h
  | cons q r ih =>
    intro c hc hg hq c' hmem
    obtain ⟨d, lf, lb⟩ := q
    have hd := hq (d, lf, lb) (by simp)
    have hb := move_cursor_in_bounds es c d lf lb h0 hmono hc hL hd.1 hd.2
    have hp := cursor_on_positive_edge es c d lf lb h0 hmono hL hc hd.1 hd.2 hg
    simp only [cursorsAfter, List.mem_cons] at hmem
    rcases hmem with e | e
    · rw [e]; exact ⟨hb.1, hb.2.1, hp⟩
    · exact ih _ hb.2.1 (Or.inr hp) (fun q hq' => hq q (List.mem_cons_of_mem _ hq')) c' e

theorem clampDist_bounds (normalized : Bool) (len x : K) (hlen : 0 ≤ len) :
    0 ≤ clampDist normalized len x ∧ clampDist normalized len x ≤ len := by
  simp only [clampDist, sc_max, sc_min, sc_zero_eq]
  exact ⟨le_min (le_max_right _ _) hlen, min_le_right _ _⟩

/-- in the table `initialize` builds from ANY event list, curves included, an entry of positive
length belongs to an event that `to_segment` turns into a segment (a `Line`, a curve, or a closing
`End`) — never `Begin` -/
theorem positive_gap_is_segment_all [Transc K] [FlatConst K] (tol : K) (evs : List (Ev K))
    (k : Nat) (hk1 : 1 ≤ k) (hk : k < (initTable tol evs).length)
    (hgap : dAt (initTable tol evs) (k - 1) < dAt (initTable tol evs) k) :
    ∃ seg, toSegment (evs.getD (eAt (initTable tol evs) k).index
      (.end_ ⟨Scalar.zero, Scalar.zero⟩ ⟨Scalar.zero, Scalar.zero⟩ [] [] false)) = some seg := by
  unfold initTable at hk hgap ⊢
  obtain ⟨j, st, hj, hs, hne, hm, -⟩ := init1_entry (evs.map (stepOf tol)) _ 0 k hk
  rw [hj, Nat.zero_add]
  rw [List.getElem?_map] at hs
  cases he : evs[j]? with
  | none => rw [he] at hs; cases hs
  | some e =>
    rw [he] at hs
    obtain rfl : stepOf tol e = st := by simpa using hs
    rw [List.getD_eq_getElem?_getD, he]
    cases e with
    | begin p a =>
      have := hm rfl
      rw [prevD, if_neg (by omega)] at this
      rw [this] at hgap; exact absurd hgap (lt_irrefl _)
    | line f g af at_ => exact ⟨_, rfl⟩
    | quad f c g af at_ => exact ⟨_, rfl⟩
    | cubic f c1 c2 g af at_ => exact ⟨_, rfl⟩
    | end_ l f al af cl =>
      cases cl with
      | true => exact ⟨_, rfl⟩
      | false => exact absurd rfl hne

set_option linter.unusedVariables false in
/-- `positive_gap_is_segment_all` under its polyline hypothesis -/
theorem positive_gap_is_segment [Transc K] [FlatConst K] (tol : K) (evs : List (Ev K))
    (hpoly : ∀ e ∈ evs, e.isPoly = true) (k : Nat) (hk1 : 1 ≤ k)
    (hk : k < (initTable tol evs).length)
    (hgap : dAt (initTable tol evs) (k - 1) < dAt (initTable tol evs) k) :
    ∃ seg, toSegment (evs.getD (eAt (initTable tol evs) k).index
      (.end_ ⟨Scalar.zero, Scalar.zero⟩ ⟨Scalar.zero, Scalar.zero⟩ [] [] false)) = some seg :=
  positive_gap_is_segment_all tol evs k hk1 hk hgap

theorem moveCursor_zero (es : List (Edge K)) (c : Nat) : moveCursor es c 0 = zeroScan es es.length 1 := by
  unfold moveCursor moveCursorWith
  have : ((0 : K) == (Scalar.zero : K)) = true := by rw [sc_beq]; simp
  rw [if_pos this]

/-- sampling never reaches `unreachable!()` on ANY measured path, curves included: an entry of positive
length never belongs to a `Begin` or an open `End` (`positive_gap_is_segment_all`) -/
theorem sample_never_panics_all [Transc K] [FlatConst K] (tol : K) (m : M K)
    (hm : m.edges = initTable tol m.evs) (c : Nat)
    (normalized : Bool) (d : K)
    (h0 : dAt m.edges 0 = 0) (hmono : Mono m.edges) (hc : c < m.edges.length)
    (hgood : GoodCursor m.edges c) :
    (sampleImpl m c normalized d).2 ≠ .panic ∧
    ((length m.edges ≠ 0) →
      dAt m.edges ((sampleImpl m c normalized d).1 - 1) < dAt m.edges (sampleImpl m c normalized d).1) := by
  have hnn : 0 ≤ length m.edges := by
    rw [length_eq _ (by omega)]
    have := hmono 0 (m.edges.length - 1) (by omega) (by omega)
    rwa [h0] at this
  unfold sampleImpl
  by_cases hz : (length m.edges == (Scalar.zero : K)) = true
  · rw [if_pos hz]
    refine ⟨?_, fun h => absurd (by rw [sc_beq] at hz; simpa using hz) h⟩
    unfold sampleZeroLength
    split <;> simp
  · rw [if_neg hz]
    have hne : length m.edges ≠ 0 := by
      intro h; apply hz; rw [sc_beq]; simpa using h
    have hL : 0 < length m.edges := lt_of_le_of_ne hnn (Ne.symm hne)
    obtain ⟨b0, b1⟩ := clampDist_bounds normalized (length m.edges) d hnn
    have hb := move_cursor_in_bounds_heuristic m.edges c _ h0 hmono hc hL b0 b1
    have hp := cursor_on_positive_edge m.edges c (clampDist normalized (length m.edges) d)
      (heurFwd m.edges c (clampDist normalized (length m.edges) d))
      (heurBwd m.edges c (clampDist normalized (length m.edges) d)) h0 hmono hL hc b0 b1 hgood
    refine ⟨?_, fun _ => hp⟩
    have hp' : dAt (initTable tol m.evs) (moveCursor m.edges c (clampDist normalized (length m.edges) d) - 1)
        < dAt (initTable tol m.evs) (moveCursor m.edges c (clampDist normalized (length m.edges) d)) := by
      rw [← hm]; exact hp
    obtain ⟨seg, hseg⟩ := positive_gap_is_segment_all tol m.evs _ hb.1 (by rw [← hm]; exact hb.2.1) hp'
    obtain ⟨sg, af, at_⟩ := seg
    rw [← hm] at hseg
    simp only [sampleOn, evAt]
    rw [hseg]
    simp

set_option linter.unusedVariables false in
/-- For a sampler over a measured path (`edges = initialize(events)`,
non-decreasing table starting at 0), from any good cursor — hence, by
`cursor_history_on_positive_edges`, after any history — `sample_impl` at ANY distance and sample
type returns a sample: it never reaches `unreachable!()`, and the entry it interpolates on has
positive length (no division by a zero edge length, also for `dist = 0`). -/
theorem sample_never_panics [Transc K] [FlatConst K] (tol : K) (m : M K)
    (hm : m.edges = initTable tol m.evs) (hpoly : ∀ e ∈ m.evs, e.isPoly = true) (c : Nat)
    (normalized : Bool) (d : K)
    (h0 : dAt m.edges 0 = 0) (hmono : Mono m.edges) (hc : c < m.edges.length)
    (hgood : GoodCursor m.edges c) :
    (sampleImpl m c normalized d).2 ≠ .panic ∧
    ((length m.edges ≠ 0) →
      dAt m.edges ((sampleImpl m c normalized d).1 - 1) < dAt m.edges (sampleImpl m c normalized d).1) :=
  sample_never_panics_all tol m hm c normalized d h0 hmono hc hgood

/-- `sample_history_independent` at distance 0: the `dist == 0.0` branch does not
look at the previous cursor at all. -/
theorem sample_at_zero_history_independent [Transc K] (m : M K) (c1 c2 : Nat) (normalized : Bool)
    (d : K) (hd : clampDist normalized (length m.edges) d = 0) :
    (sampleImpl m c1 normalized d).2 = (sampleImpl m c2 normalized d).2 := by
  unfold sampleImpl
  by_cases hz : (length m.edges == (Scalar.zero : K)) = true
  · rw [if_pos hz, if_pos hz]
  · rw [if_neg hz, if_neg hz, hd, moveCursor_zero, moveCursor_zero]

section Examples

/-- table of `begin(0,0) line_to(1,0) line_to(1,2) end(false)`: distances 0, 1, 3 -/
noncomputable def exTable : List (Edge ℚ) := [⟨0, 0, 1⟩, ⟨1, 1, 1⟩, ⟨3, 2, 1⟩]

theorem exTable_dAt : dAt exTable 0 = 0 ∧ dAt exTable 1 = 1 ∧ dAt exTable 2 = 3 := by
  simp [exTable, dAt, eAt]

theorem exTable_mono : Mono exTable := by
  intro i j hij hj
  have hj' : j < 3 := by simpa [exTable] using hj
  obtain ⟨a0, a1, a2⟩ := exTable_dAt
  interval_cases j <;> interval_cases i <;> simp_all

/-- hypotheses of `move_cursor_in_bounds`, `cursor_history_independent`,
`sample_history_independent`, `cursor_on_positive_edge`, `sample_never_panics`: a monotone table starting at 0
with positive length, a cursor in range, `dist = 2` strictly inside the last entry. -/
example : dAt exTable 0 = 0 ∧ Mono exTable ∧ (1 : Nat) < exTable.length ∧ 0 < length exTable ∧
    (0 : ℚ) ≤ 2 ∧ (2 : ℚ) ≤ length exTable ∧ dAt exTable (2 - 1) < 2 ∧ (2 : ℚ) < dAt exTable 2 ∧
    dAt exTable 0 < dAt exTable 1 ∧ GoodCursor exTable 0 := by
  obtain ⟨a0, a1, a2⟩ := exTable_dAt
  have hl : length exTable = 3 := by rw [length_eq _ (by simp [exTable])]; simpa [exTable] using a2
  refine ⟨a0, exTable_mono, by simp [exTable], by rw [hl]; norm_num, by norm_num, by rw [hl]; norm_num,
    by rw [a1]; norm_num, by rw [a2]; norm_num, by rw [a0, a1]; norm_num, Or.inl rfl⟩

/-- and the conclusion is not trivial there: from cursor 0, by binary search, the cursor becomes 2 -/
example : moveCursorWith false false exTable 0 (2 : ℚ) = 2 := by
  obtain ⟨a0, a1, a2⟩ := exTable_dAt
  have hl : length exTable = 3 := by rw [length_eq _ (by simp [exTable])]; simpa [exTable] using a2
  exact cursor_history_independent exTable 0 2 false false a0 exTable_mono (by simp [exTable])
    (by rw [hl]; norm_num) (by norm_num) (by rw [hl]; norm_num) 2 (by norm_num) (by simp [exTable])
    (by rw [a1]; norm_num) (by rw [a2]; norm_num)

/-- hypotheses of `t_in_range` / `sample_at_distance_1d` / `split_pieces_length` on that table:
polyline entries (`t_begin = 0`, `t = 1`), positive gaps, coherence with the event lengths 0, 1, 2 -/
example : tBegin exTable 2 = 0 ∧ (eAt exTable 2).t = 1 ∧ dAt exTable (2 - 1) < dAt exTable 2 ∧
    tBegin exTable 2 ≤ (eAt exTable 2).t ∧ Coherent exTable [0, 1, 2] := by
  obtain ⟨a0, a1, a2⟩ := exTable_dAt
  refine ⟨by simp [tBegin, exTable, eAt], by simp [exTable, eAt], by rw [a1, a2]; norm_num,
    by simp [tBegin, exTable, eAt], ?_⟩
  intro k hk1 hk
  have hk' : k < 3 := by simpa [exTable] using hk
  interval_cases k
  · simp [exTable, dAt, eAt, pre]
  · simp [exTable, dAt, eAt, pre]; norm_num

/-- hypothesis `hm` of `sample_never_panics`: every sampler the model builds satisfies it by definition -/
example [Transc ℚ] [FlatConst ℚ] (tol : ℚ) (cmds : List (Cmd ℚ)) :
    (Measure.mk 0 tol cmds).edges
      = initTable (Scalar.max tol (Scalar.ofSci 1 4)) (Measure.mk 0 tol cmds).evs := rfl

/-- hypotheses of `split_pieces_length_curved` / `split_lengths_add_curved`: a path
`begin, line (1), quadratic flattened into two lines (1 + 1), line (2)`; the cursors 1 and 4 rest on
the two straight edges, the curve's two entries (2, 3) lie in between -/
noncomputable def exCurvedSteps : List (Step ℚ) := [.mark, .add 1, .many [(1, 1/2), (1, 1)], .add 2]

example : (init1 (0 : ℚ) 0 exCurvedSteps).length = 5 ∧ StraightAt exCurvedSteps 1 ∧
    StraightAt exCurvedSteps 4 ∧ ¬ StraightAt exCurvedSteps 2 ∧
    dAt (init1 (0 : ℚ) 0 exCurvedSteps) (1 - 1) < dAt (init1 (0 : ℚ) 0 exCurvedSteps) 1 ∧
    dAt (init1 (0 : ℚ) 0 exCurvedSteps) (4 - 1) < dAt (init1 (0 : ℚ) 0 exCurvedSteps) 4 := by
  have o : (Scalar.one : ℚ) = 1 := sc_one_eq
  have hT : init1 (0 : ℚ) 0 exCurvedSteps
      = [⟨0, 0, 1⟩, ⟨1, 1, 1⟩, ⟨2, 2, 1/2⟩, ⟨3, 2, 1⟩, ⟨5, 3, 1⟩] := by
    simp [exCurvedSteps, init1, pushMany, sumMany, o]
    norm_num
  refine ⟨by rw [hT]; rfl, ?_, ?_, ?_, ?_, ?_⟩
  · unfold StraightAt; rw [hT]; simp [eAt, exCurvedSteps, Step.isPoly]
  · unfold StraightAt; rw [hT]; simp [eAt, exCurvedSteps, Step.isPoly]
  · unfold StraightAt; rw [hT]; simp [eAt, exCurvedSteps, Step.isPoly]
  · rw [hT]; simp [dAt, eAt]
  · rw [hT]; simp [dAt, eAt]; norm_num

end Examples

end Lyon.C19
