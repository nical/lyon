/-
  C06c — CLOSED sub-paths: the triangles the complete stroker model emits for a closed polygon cover the
  rectangle of every edge (the closing edge included) and stay within the reach of the path.  No caps.

  `Props/C06b.lean` treats open polylines.  Here the run is `begin p_0, line_to p_1, …, line_to p_m, end(true)`
  (`m ≥ 2`, i.e. at least three points), which goes through `StrokeBuilderImpl::close`: two more steps through
  the first two points, the two vertices `close` re-creates at the first point, the quad of the first edge.
  `pt` is continued periodically (`pt (i + (m+1)) = pt i`), so that edge and join indices need no wrap-around.

  * `stroke_polygon_emission_shape` (`Lemmas/StrokeCoverClosed.lean`): the run emits the edge quad of every edge
    (between the side points of the joins at its two ends), the join triangle of every join that has one
    (`m + 1` joins: every point is a join), and every emitted triangle has its vertices among the corners of one quad,
    the vertices of one join or on a join's circle (`EmittedC.only`).
  * `stroke_polygon_covers_rectangles` (`Lemmas/StrokeCoverClosedAsm.lean`): in the
    regime `RegimeC` (one period: no merged points, no U-turn, the model's fold test, every edge at least
    `w/2·(|tan(θ_a/2)| + |tan(θ_b/2)| + 1)` long) every point of every edge's rectangle lies in an emitted
    triangle.
  * `stroke_polygon_reach` (`Lemmas/StrokeCoverClosedReach.lean`): every emitted triangle stays within
    `w/2·√(1 + M²)` of the segment of an edge; `M = 0` with a Bevel join (`stroke_polygon_reach_bevel`: factor 1),
    `M ≤ |tan(θ/2)|` with a Miter join (`stroke_polygon_reach_factor`: the miter length).
  * `complete_model_join_is_component_model` (`Lemmas/StrokeCoverBridge.lean`): for EVERY scalar type (floats
    included) the join geometry of the complete model (`StrokeFull.joinSidesFw`) on an endpoint as `begin` /
    `line_to` create it equals the component model `StrokeQuad.joinSidesT` field by field — so the component
    theorems of `Props/C06.lean` (`join_sides_nofold_left/right`, `front_side_cases`, …) are statements about the
    complete model, all joins (`MiterClip` and the fold branch included).
  Same hypotheses `CoverHyp` as C06b (exact arithmetic, `sqrt` laws, every join kind; the caps are not used).
-/
import LyonVerif.Lemmas.StrokeCoverClosedReach
import LyonVerif.Lemmas.StrokeCoverRegime
import LyonVerif.Lemmas.StrokeCoverFold
import LyonVerif.Props.C06Ex
import LyonVerif.Lemmas.StrokeCoverBridge
import Mathlib.Analysis.SpecialFunctions.Sqrt
import Mathlib.Tactic.IntervalCases

set_option linter.unusedSectionVars false
set_option linter.unusedVariables false

namespace Lyon.C06c
open Lyon Scalar Lyon.Stroke Lyon.Stroke.Full Lyon.C05 Lyon.C05b Lyon.C05c Lyon.C06 Lyon.C06b
open Lyon.StrokeQuad (lineIntersection)

section
variable {K : Type} [Field K] [LinearOrder K] [IsStrictOrderedRing K] [Transc K] [Asin K] [FlatConst K]

/-- **emission shape of the complete model on a closed polygon**: any ordered field, every `sqrt` -/
theorem stroke_polygon_emission_shape (e : Env K) (store : Nat → List K) (hfw : e.o.varWidth = false)
    (hj : e.o.join ≠ .round) (hw0 : e.hwFw ≠ 0)
    (pt : Nat → P K) (m : Nat) (hm : 2 ≤ m) (hp0 : pt (m + 1) = pt 0) (hp1 : pt (m + 1 + 1) = pt 1)
    (hfar : ∀ i, i ≤ m + 1 → pointsAreTooClose e.thr (pt i) (pt (i + 1)) = false)
    (hnf : ∀ i, 1 ≤ i → i ≤ m + 1 → noFoldAt e (pt (i - 1)) (pt i) (pt (i + 1))) :
    EmittedC e pt m (runEvents e store (polyEvsC pt m)).st.out :=
  run_emitted_closed e store hfw (Or.inl hj) hw0 pt m hm hp0 hp1 hfar hnf

/-- **`stroke_polygon_covers_rectangles`.**  Complete stroker model, CLOSED polygon `pt 0 … pt m` (`m ≥ 2`;
`pt` continued `(m+1)`-periodically), fixed width, Bevel, Miter, MiterClip or Round join (`CoverHyp`, as in
`Props/C06b.lean`), exact arithmetic, regime `RegimeC`:
for EVERY edge `pt k → pt (k+1)` (any `k`; `k = m` is the closing edge) and every point
`q = p_k + s·(p_{k+1} − p_k) + u·perp(t_k)·w/2` of its rectangle the output contains an index triple whose three
vertices exist and whose emitted positions span a triangle containing `q`. -/
theorem stroke_polygon_covers_rectangles (e : Env K) (eps : K) (h : CoverHyp e eps) (store : Nat → List K)
    (pt : Nat → P K) (m : Nat) (hm : 2 ≤ m) (hper : ∀ i, pt (i + (m + 1)) = pt i) (hr : RegimeC e eps pt m)
    (k : Nat) (s u : K) (hs : 0 ≤ s) (hs1 : s ≤ 1) (hu : -1 ≤ u) (hu1 : u ≤ 1) :
    ∃ t ∈ (runEvents e store (polyEvsC pt m)).st.out.tris, ∃ v1 v2 v3 : VData K,
      (runEvents e store (polyEvsC pt m)).st.out.verts[t.1]? = some v1
      ∧ (runEvents e store (polyEvsC pt m)).st.out.verts[t.2.1]? = some v2
      ∧ (runEvents e store (polyEvsC pt m)).st.out.verts[t.2.2]? = some v3
      ∧ InTri (bandPoint (pt k) (pt (k + 1)) ((perp (eT pt k)).smul e.hwFw) s u)
          (v1.read.position, v2.read.position, v3.read.position) :=
  (edge_cover_closed h hper hr (regimeC_emitted h store hper hm hr) hm k s u hs hs1 hu hu1).read

/-- **`stroke_polygon_reach`**: every index triple the closed run emits has three existing vertices, and every
point of the triangle they span lies within `reachSq e pt 0 (k+1) = (w/2)²·(1 + outK²)` (squared) of the
segment of the edge `pt (k+1) → pt (k+2)` for some `k` -/
theorem stroke_polygon_reach (e : Env K) (eps : K) (h : CoverHyp e eps) (store : Nat → List K)
    (pt : Nat → P K) (m : Nat) (hm : 2 ≤ m) (hper : ∀ i, pt (i + (m + 1)) = pt i) (hr : RegimeC e eps pt m)
    (t : Stroke.Tri) (ht : t ∈ (runEvents e store (polyEvsC pt m)).st.out.tris) :
    ∃ k, ∃ v1 v2 v3 : VData K,
      (runEvents e store (polyEvsC pt m)).st.out.verts[t.1]? = some v1
      ∧ (runEvents e store (polyEvsC pt m)).st.out.verts[t.2.1]? = some v2
      ∧ (runEvents e store (polyEvsC pt m)).st.out.verts[t.2.2]? = some v3
      ∧ ∀ q, InTri q (v1.read.position, v2.read.position, v3.read.position) →
          NearSeg (pt (k + 1)) (eT pt (k + 1)) (eL pt (k + 1)) (reachSq e pt 0 (k + 1)) q :=
  tri_reach_closed h hper hr (regimeC_emitted h store hper hm hr) t ht

/-- with a Bevel join the reach is exactly `w/2` (factor 1): no corner of any quad is shifted outwards -/
theorem stroke_polygon_reach_bevel (e : Env K) (eps : K) (h : CoverHyp e eps) (pt : Nat → P K) (m : Nat)
    (hper : ∀ i, pt (i + (m + 1)) = pt i) (hr : RegimeC e eps pt m) (hb : e.o.join = .bevel) (k : Nat) :
    reachSq e pt 0 (k + 1) = e.hwFw * e.hwFw :=
  reachSq_in_bevel h hper hr (Or.inl hb) k

/-- in general (Miter) at most the miter length at the edge's ends: `(w/2)²·(1 + max(|tan(θ_a/2)|, |tan(θ_b/2)|)²)` -/
theorem stroke_polygon_reach_factor (e : Env K) (eps : K) (h : CoverHyp e eps) (pt : Nat → P K) (k : Nat) :
    reachSq e pt 0 (k + 1) ≤ e.hwFw * e.hwFw * (1 + (Max.max |jtau pt k| |jtau pt (k + 1)|) ^ 2) :=
  reachSq_le e pt _ _ (outK_in_le e pt k)

end

section Bridge
variable {α : Type} [Scalar α] [Transc α]
open Lyon.StrokeQuad (joinSidesT)

/-- **the complete model's join geometry is the component model of `Props/C06.lean`**, every scalar type, every
join kind, fold branch included: `compute_join_side_positions_fixed_width` as `StrokeBuilderImpl` runs it on a
fresh endpoint (`single_vertex = None`, `fold = [false, false]`) computes exactly `StrokeQuad.joinSidesT` of the
unit tangents, edge lengths, join position, half width, miter limit and join kind. -/
theorem complete_model_join_is_component_model (ix : Lyon.StrokeQuad.Ix α) (prev join next : EP α) (ml hw : α)
    (hps : join.pos.single = none) (hns : join.neg.single = none)
    (hfp : join.foldPos = false) (hfn : join.foldNeg = false) :
    let g := fwGeo prev join next ml hw
    let s := joinSidesT ix g.pt g.nt g.pl g.nl join.position hw ml join.lineJoin
    let J := joinSidesFw ix prev join next ml hw
    J.pos.prev = s.pos.prev ∧ J.pos.next = s.pos.next ∧ J.pos.single = s.pos.single
    ∧ J.neg.prev = s.neg.prev ∧ J.neg.next = s.neg.next ∧ J.neg.single = s.neg.single
    ∧ J.foldPos = s.foldPos ∧ J.foldNeg = s.foldNeg := by
  intro g s J
  have hs := joinSidesT_fwGeo ix prev join next ml hw g rfl
  have hJ : J = joinSidesFw ix prev join next ml hw := rfl
  change joinSidesT ix g.pt g.nt g.pl g.nl join.position hw ml join.lineJoin = _ at hs
  rw [show s = _ from hs, hJ]
  unfold joinSidesFw
  simp only [show fwGeo prev join next ml hw = g from rfl]
  by_cases hfold : g.fold = true
  · rw [if_pos hfold, if_pos hfold]
    simp only [hps, hns, hfp, hfn, Bool.false_or, and_self]
  · rw [if_neg hfold, if_neg hfold]
    by_cases hfr : g.frontNeg = true
    · rw [if_pos hfr, if_pos hfr]
      obtain ⟨f1, f2, f3⟩ := frontFix_eq_frontSide ix join.lineJoin g.unclipped
        { join.neg with prev := join.position - (perp g.pt).smul hw, next := join.position - (perp g.nt).smul hw }
        join.position g.frontNormal (join.position - g.normal.smul hw) (ml * hw) none hns
      exact ⟨rfl, rfl, rfl, f1, f2, f3, hfp, hfn⟩
    · rw [if_neg hfr, if_neg hfr]
      obtain ⟨f1, f2, f3⟩ := frontFix_eq_frontSide ix join.lineJoin g.unclipped
        { join.pos with prev := join.position + (perp g.pt).smul hw, next := join.position + (perp g.nt).smul hw }
        join.position g.frontNormal (join.position + g.normal.smul hw) (ml * hw) none hps
      exact ⟨f1, f2, f3, rfl, rfl, rfl, hfp, hfn⟩

/-- the hypotheses hold for the endpoints `begin` / `line_to` create -/
example (ix : Lyon.StrokeQuad.Ix α) (e : Env α) (p j n : P α) :
    (joinSidesFw ix (linePt e (0, p)) (linePt e (1, j)) (linePt e (2, n)) e.o.miterLimit e.hwFw).foldPos
      = (joinSidesT ix (fwGeo (linePt e (0, p)) (linePt e (1, j)) (linePt e (2, n)) e.o.miterLimit e.hwFw).pt
          (fwGeo (linePt e (0, p)) (linePt e (1, j)) (linePt e (2, n)) e.o.miterLimit e.hwFw).nt
          (fwGeo (linePt e (0, p)) (linePt e (1, j)) (linePt e (2, n)) e.o.miterLimit e.hwFw).pl
          (fwGeo (linePt e (0, p)) (linePt e (1, j)) (linePt e (2, n)) e.o.miterLimit e.hwFw).nl j e.hwFw e.o.miterLimit
          e.o.join).foldPos :=
  (complete_model_join_is_component_model ix _ _ _ _ _ rfl rfl rfl rfl).2.2.2.2.2.2.1

end Bridge

/-! ### non-vacuity: the square `(0,0) (10,0) (10,10) (0,10)`, width 2, over `ℝ` -/

section Real
attribute [local instance] Lyon.C05.realTransc Lyon.C06b.realAsin Lyon.C06b.realFlat

/-- the square, continued periodically -/
noncomputable def exSq (i : Nat) : P ℝ :=
  match i % 4 with
  | 0 => ⟨0, 0⟩
  | 1 => ⟨10, 0⟩
  | 2 => ⟨10, 10⟩
  | _ => ⟨0, 10⟩

theorem exSq_per (i : Nat) : exSq (i + (3 + 1)) = exSq i := by
  unfold exSq; rw [Nat.add_mod_right]

theorem exSq_L (i : Nat) (hi : i < 6) : eL exSq i = 10 := by
  interval_cases i <;>
    exact len_of_sq _ 10 (by norm_num) (by simp only [exSq, geom]; norm_num)

theorem exSq_T (i : Nat) (hi : i < 6) :
    eT exSq i = (match i % 4 with | 0 => ⟨1, 0⟩ | 1 => ⟨0, 1⟩ | 2 => ⟨-1, 0⟩ | _ => ⟨0, -1⟩ : P ℝ) := by
  have hl : len (exSq (i + 1) - exSq i) = 10 := exSq_L i hi
  unfold eT; rw [hl]
  interval_cases i <;> (apply P.ext' <;> simp only [exSq, geom] <;> norm_num)

theorem exSq_tau (i : Nat) (hi : i < 5) : jtau exSq i = 1 := by
  unfold jtau
  rw [exSq_T i (by omega), exSq_T (i + 1) (by omega)]
  interval_cases i <;> (simp only [geom]; norm_num)

theorem exSqRegime (lj : LineJoin) : RegimeC (exEnvJ lj) (1 / 10 ^ 8) exSq 3 := by
  have hhw : (exEnvJ lj).hwFw = 1 := two_half
  refine ⟨?_, ?_, ?_, ?_, ?_⟩
  · intro i hi
    interval_cases i <;>
      (simp [exEnvJ, exSq, pointsAreTooClose, Env.new, squareMergeThreshold, geom]; norm_num)
  · intro i hi
    rw [exSq_L i (by omega)]; norm_num
  · intro i hi
    rw [exSq_T i (by omega), exSq_T (i + 1) (by omega), normalEpsilon_eq]
    interval_cases i <;> (simp only [geom]; norm_num)
  · intro i hi
    apply noFoldAt_of_dot_nonneg
    have h1 : (exSq (i + 1 + 1) - exSq (i + 1)).sdiv (len (exSq (i + 1 + 1) - exSq (i + 1))) = eT exSq (i + 1) := rfl
    have h0 : (exSq (i + 1) - exSq i).sdiv (len (exSq (i + 1) - exSq i)) = eT exSq i := rfl
    rw [h1, h0, exSq_T i (by omega), exSq_T (i + 1) (by omega)]
    interval_cases i <;> (simp only [geom]; norm_num)
  · intro i hi
    rw [hhw, exSq_tau i (by omega), exSq_tau (i + 1) (by omega), exSq_L (i + 1) (by omega)]
    norm_num

/-- … so every point of every edge's rectangle — the closing edge `(0,10) → (0,0)` (`k = 3`) included — lies in a
triangle the complete model emits, with every join kind -/
example (lj : LineJoin) (hlj : lj = .bevel ∨ lj = .miter ∨ lj = .miterClip ∨ lj = .round) (store : Nat → List ℝ) (s u : ℝ)
    (hs : 0 ≤ s) (hs1 : s ≤ 1) (hu : -1 ≤ u) (hu1 : u ≤ 1) :
    ∃ t ∈ (runEvents (exEnvJ lj) store (polyEvsC exSq 3)).st.out.tris, ∃ v1 v2 v3 : VData ℝ,
      (runEvents (exEnvJ lj) store (polyEvsC exSq 3)).st.out.verts[t.1]? = some v1
      ∧ (runEvents (exEnvJ lj) store (polyEvsC exSq 3)).st.out.verts[t.2.1]? = some v2
      ∧ (runEvents (exEnvJ lj) store (polyEvsC exSq 3)).st.out.verts[t.2.2]? = some v3
      ∧ InTri (bandPoint (exSq 3) (exSq (3 + 1)) ((perp (eT exSq 3)).smul (exEnvJ lj).hwFw) s u)
          (v1.read.position, v2.read.position, v3.read.position) :=
  stroke_polygon_covers_rectangles (exEnvJ lj) _ (exHypJ lj hlj) store exSq 3 (by norm_num) exSq_per (exSqRegime lj)
    3 s u hs hs1 hu hu1

/-- … and every emitted triangle stays within the reach; with the Bevel join the squared reach is `(w/2)² = 1` -/
example (store : Nat → List ℝ) (t : Stroke.Tri) (ht : t ∈ (runEvents (exEnvJ .bevel) store (polyEvsC exSq 3)).st.out.tris) :
    ∃ k, ∃ v1 v2 v3 : VData ℝ,
      (runEvents (exEnvJ .bevel) store (polyEvsC exSq 3)).st.out.verts[t.1]? = some v1
      ∧ (runEvents (exEnvJ .bevel) store (polyEvsC exSq 3)).st.out.verts[t.2.1]? = some v2
      ∧ (runEvents (exEnvJ .bevel) store (polyEvsC exSq 3)).st.out.verts[t.2.2]? = some v3
      ∧ ∀ q, InTri q (v1.read.position, v2.read.position, v3.read.position) →
          NearSeg (exSq (k + 1)) (eT exSq (k + 1)) (eL exSq (k + 1)) ((exEnvJ .bevel).hwFw * (exEnvJ .bevel).hwFw) q := by
  obtain ⟨k, v1, v2, v3, a, b, c, d⟩ := stroke_polygon_reach (exEnvJ .bevel) _ (exHypJ _ (Or.inl rfl)) store exSq 3
    (by norm_num) exSq_per (exSqRegime _) t ht
  refine ⟨k, v1, v2, v3, a, b, c, ?_⟩
  rw [← stroke_polygon_reach_bevel (exEnvJ .bevel) _ (exHypJ _ (Or.inl rfl)) exSq 3 exSq_per (exSqRegime _) rfl k]
  exact d

/-- the square has the emission shape (`regimeC_emitted`: the regime contains the hypotheses of
`stroke_polygon_emission_shape`) -/
example (store : Nat → List ℝ) : EmittedC (exEnvJ .miter) exSq 3 (runEvents (exEnvJ .miter) store (polyEvsC exSq 3)).st.out :=
  regimeC_emitted (exHypJ _ (Or.inr (Or.inl rfl))) store exSq_per (by norm_num) (exSqRegime _)

example : reachSq (exEnvJ .miter) exSq 0 (1 + 1) ≤ (exEnvJ .miter).hwFw * (exEnvJ .miter).hwFw * (1 + 1 ^ 2) := by
  have := stroke_polygon_reach_factor (exEnvJ .miter) _ (exHypJ _ (Or.inr (Or.inl rfl))) exSq 1
  rw [exSq_tau 1 (by norm_num), exSq_tau (1 + 1) (by norm_num)] at this
  simpa using this

end Real

end Lyon.C06c
