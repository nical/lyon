/-
  C09, part c — PROOF-GRADE per-input verdicts for the within-tolerance clause of quadratic and cubic
  flattening: soundness of the exact checker `Lyon.FlatChk.chkFlat` / `chkFlatCubic`
  (Model/Geom/FlattenCertExact.lean) that `model_c09` runs, on exact rationals, on the segments the
  REAL `for_each_flattened_with_t` emitted (harness family `chk_flat`).

  * `chk_flat_sound`: for every quadratic `q`, numbers `tol k eps` and segment list `l` over any
    ordered field: if `chkFlat q tol k eps l` accepts then
      - the segments are chained from `(q.a, 0)` to `(q.b, 1)`: each starts exactly where the previous
        one ended, the parameter ranges abut, are strictly increasing and lie in `[0,1]`;
      - both end points of every segment are within `eps` of the curve point at the segment's own
        parameters (every vertex within `eps` of the curve);
      - EVERY curve point `q.sample t`, `t ∈ [0,1]`, is within `k·tol + eps` of an emitted segment.
    Nothing is assumed about where `l` comes from — no flattening model is involved.
  * `chk_flat_sound_rat`: the same for the executable instance `Scalar ℚ` of Model/RatScalar.lean
    (`ratScalar_eq_fieldScalar_c09`: it IS the field instance at `ℚ`).
  * `chk_flat_cubic_sound(_rat)`: cubic `c`, lyon's quadratic pieces with their ranges and segments:
    acceptance ⟹ the ranges tile `[0,1]`, and every point of the cubic is within
    `k·tolq + k·tolc + 2·eps` of an emitted segment (`tolq = 0.6·tol`, `tolc = 0.4·tol` as lyon
    computes them; through `cubic_piece_deviation`, the `432` of `num_quadratics_impl`).
  * `hairpin_chord_bound` (= `FlatChk.dev_core`): the bound `devSq` of one chord is sound, also for a chord
    whose perpendicular foot leaves the chord; `hairpin_tighter_than_parametric`: `devSq` is never above the
    parametric bound `|Δ²dd|²/16` that the float certificate of Props/C09b.lean falls back to.
  * `chk_hull_quad_sound(_rat)`, `chk_hull_cubic_sound(_rat)`: the second, CONVEX-HULL certificate
    (`chkHull`): every sub-range of every emitted segment's parameter range has all its control points
    (`split_range`, exact) within `√r2` of ONE emitted segment (its own or a neighbour) ⟹ every curve
    point is within `√r2` of the polyline AS EMITTED (no allowance for the rounding of the vertices,
    cubics directly — without the 0.4/0.6 split and its triangle inequality —, hairpins whose overshoot
    runs along a neighbouring segment included). Used for the inputs the chord certificate leaves
    undecided.
  * `chk_flat_violation_sound(_rat)`: the converse certificate `farFrom (q.sample t) r2 l`: the curve
    point at the concrete parameter `t` is farther than `√r2` from EVERY point of EVERY emitted
    segment — a certified failing input when `r2 = (tol + eps)²`.
-/
import LyonVerif.Lemmas.FlattenCertExactList
import LyonVerif.Lemmas.FlattenCertExactHull
import LyonVerif.Lemmas.RatField


namespace Lyon.C09
open Lyon Scalar Lyon.Flat Lyon.FlatChk

-- In this file every `Scalar` instance is the ordered-field one; the executable rational instance
-- is only referred to by name (`ratScalar_eq_fieldScalar_c09`).
attribute [-instance] Lyon.instScalarRat

variable {K : Type} [Field K] [LinearOrder K] [IsStrictOrderedRing K]

/-- (translation validation of one flattened quadratic, any ordered field). -/
theorem chk_flat_sound (q : Quad K) (tol k eps : K) (l : List (FlatSeg K))
    (h : chkFlat q tol k eps l = true) :
    (l ≠ [] ∧ Chain q.a 0 l ∧ lastPt q.a l = q.b ∧ lastT 0 l = 1
      ∧ ∀ sg ∈ l, 0 ≤ sg.t0 ∧ sg.t0 < sg.t1 ∧ sg.t1 ≤ 1)
    ∧ (∀ sg ∈ l, (sg.a - q.sample sg.t0).sqLen ≤ eps * eps ∧ (sg.b - q.sample sg.t1).sqLen ≤ eps * eps)
    ∧ ∀ t : K, 0 ≤ t → t ≤ 1 → ∃ sg ∈ l, ∃ s2 : K, 0 ≤ s2 ∧ s2 ≤ 1 ∧
        (q.sample t - sg.a.lerp sg.b s2).sqLen ≤ (k * tol + eps) * (k * tol + eps) := by
  simp only [chkFlat, Bool.and_eq_true, decide_eq_true_eq, sc_zero, sc_one] at h
  obtain ⟨⟨⟨⟨he, hkt⟩, hch⟩, hv⟩, hd⟩ := h
  have hst := chainOK_range q.a 0 q.b 1 l hch
  have hvs := flatVtxSq_le q _ l hv
  refine ⟨hst, hvs, fun t ht0 ht1 => ?_⟩
  obtain ⟨sg, hsg, s, hs0, hs1, rfl⟩ := chain_cover q.a 0 1 l hst.2.1 hst.1 hst.2.2.2.1 t ht0 ht1
  obtain ⟨s2, h1, h2, h3⟩ := seg_sound q sg (k * tol) eps hkt he (flatDevSq_le q _ l hd sg hsg)
    (hvs sg hsg).1 (hvs sg hsg).2 s hs0 hs1
  exact ⟨sg, hsg, s2, h1, h2, h3⟩

/-- (certified failing input) if `farFrom (q.sample t) r2 l` holds, the
curve point at parameter `t` is farther than `√r2` from every point of every emitted segment. -/
theorem chk_flat_violation_sound (q : Quad K) (t r2 : K) (l : List (FlatSeg K))
    (h : farFrom (q.sample t) r2 l = true) :
    ∀ sg ∈ l, ∀ s : K, 0 ≤ s → s ≤ 1 → r2 < (q.sample t - sg.a.lerp sg.b s).sqLen :=
  far_from_sound (q.sample t) r2 l h

/-- the two certificates exclude each other: an accepted input has no certified violation at the
radius `(k·tol + eps)²` -/
theorem chk_flat_exclusive (q : Quad K) (tol k eps t : K) (l : List (FlatSeg K))
    (h : chkFlat q tol k eps l = true) (ht0 : 0 ≤ t) (ht1 : t ≤ 1) :
    farFrom (q.sample t) ((k * tol + eps) * (k * tol + eps)) l = false := by
  by_contra hf
  rw [Bool.not_eq_false] at hf
  obtain ⟨sg, hsg, s2, h0, h1, h2⟩ := (chk_flat_sound q tol k eps l h).2.2 t ht0 ht1
  exact absurd h2 (not_le.mpr (far_from_sound _ _ l hf sg hsg s2 h0 h1))

/-- the deviation bound of one chord, for all three kinds of chords
(degenerate, perpendicular, hairpin): every point `lerp(A,B,s) − s(1−s)·dd` of the curve over the
chord is within `√devSq` of the chord `AB` — for a hairpin chord (`|dd·v| > |v|²`) `devSq` is
`max(perpSq, hairEndSq)`: the perpendicular bound where the foot is on the chord, the distance to the
nearer end point where it is not. -/
theorem hairpin_chord_bound (A B dd : P K) (s : K) (hs0 : 0 ≤ s) (hs1 : s ≤ 1) :
    ∃ s2 : K, 0 ≤ s2 ∧ s2 ≤ 1 ∧
      ((A.lerp B s + dd.smul (-(s * (1 - s)))) - A.lerp B s2).sqLen ≤ devSq (B - A) dd :=
  dev_core A B dd s hs0 hs1

/-- on a hairpin chord the bound is `max(perpSq, hairEndSq)` (what the checker evaluates) -/
theorem hairpin_chord_bound_eq (v dd : P K) (hv : 0 < v.sqLen) (hk : v.sqLen < |dd.dot v|) :
    devSq v dd = Max.max (perpSq v dd) (hairEndSq v dd) :=
  devSq_hairpin hv hk

/-- the exact bound is never above the parametric bound
`|dd|²/16` (the fallback `Quad.chordParamSq`, Model/Geom/FlattenCert.lean, of the float certificate of
Props/C09b.lean) — so every
input the parametric certificate accepts is accepted by the exact checker. -/
theorem hairpin_tighter_than_parametric (v dd : P K) : devSq v dd ≤ dd.sqLen / 16 := by
  by_cases hv : 0 < v.sqLen
  · have hperp : perpSq v dd ≤ dd.sqLen / 16 := by
      rw [perpSq_eq, div_le_div_iff₀ (by positivity) (by norm_num)]
      linear_combination (-16 : K) * lagrange dd v + 16 * mul_self_nonneg (dd.dot v)
    by_cases hk : |dd.dot v| ≤ v.sqLen
    · rw [devSq_perp hv hk]; exact hperp
    · have hlag : dd.sqLen = (|dd.dot v| * |dd.dot v| + dd.cross v * dd.cross v) / v.sqLen := by
        rw [eq_div_iff (ne_of_gt hv), abs_mul_abs_self]; exact lagrange dd v
      rw [devSq_hairpin hv (not_le.mp hk)]
      refine max_le hperp ?_
      rw [hairEndSq_eq, hlag]
      exact hair_end_le _ _ _ _ hv (not_le.mp hk) (mul_self_nonneg _) (hairW_eq v dd)
  · rw [devSq_degenerate dd hv]

/-- (translation validation of one flattened cubic, any ordered field): if
`chkFlatCubic c tolq tolc k eps ps` accepts the pieces `ps` (lyon's quadratics with their ranges on
the cubic and their emitted segments) then the ranges tile `[0,1]` in order, each piece satisfies
`chk_flat_sound`, and every point of the cubic is within `k·tolq + k·tolc + 2·eps` of a segment. -/
theorem chk_flat_cubic_sound (c : Cubic K) (tolq tolc k eps : K) (ps : List (Piece K))
    (h : chkFlatCubic c tolq tolc k eps ps = true) :
    (∀ pc ∈ ps, 0 ≤ pc.t0 ∧ pc.t0 < pc.t1 ∧ pc.t1 ≤ 1 ∧ chkFlat pc.q tolq k eps pc.l = true)
    ∧ ∀ t : K, 0 ≤ t → t ≤ 1 → ∃ pc ∈ ps, ∃ sg ∈ pc.l, ∃ s : K, 0 ≤ s ∧ s ≤ 1 ∧
        (c.sample t - sg.a.lerp sg.b s).sqLen
          ≤ (k * tolq + k * tolc + 2 * eps) * (k * tolq + k * tolc + 2 * eps) := by
  obtain ⟨he, hkq, hkc, hr, hpc⟩ := chkFlatCubic_spec c tolq tolc k eps ps h
  obtain ⟨hne, hchain, _, hlt, hrng⟩ := chainOK_range c.a 0 c.b 1 _ hr
  refine ⟨fun pc hp => ?_, fun t ht0 ht1 => ?_⟩
  · obtain ⟨r1, r2, r3⟩ := hrng _ (List.mem_map.mpr ⟨pc, hp, rfl⟩)
    exact ⟨r1, r2, r3, (hpc pc hp).2.2⟩
  · -- the piece whose range contains `t`, and the local parameter `u`
    obtain ⟨_, hsg, u, hu0, hu1, rfl⟩ := chain_cover c.a 0 1 _ hchain hne hlt t ht0 ht1
    obtain ⟨pc, hp, rfl⟩ := List.mem_map.mp hsg
    obtain ⟨hctrl, hdev, hchk⟩ := hpc pc hp
    -- cubic → emitted quadratic → emitted segment
    obtain ⟨sg, hsg, s, hs0, hs1, h3⟩ := (chk_flat_sound pc.q tolq k eps pc.l hchk).2.2 u hu0 hu1
    refine ⟨pc, hp, sg, hsg, s, hs0, hs1, ?_⟩
    rw [show k * tolq + k * tolc + 2 * eps = (k * tolc + eps) + (k * tolq + eps) by ring]
    exact sq_dist_triangle _ _ _ _ _ (add_nonneg hkc he) (add_nonneg hkq he)
      (piece_near c pc _ eps u hkc he hctrl hdev hu0 hu1) h3

/-- every vertex of an accepted cubic flattening is within `k·tolc + 2·eps` of the cubic, at the
parameter `T0 + u·(T1 − T0)` its piece and local parameter name -/
theorem chk_flat_cubic_vertices (c : Cubic K) (tolq tolc k eps : K) (ps : List (Piece K))
    (h : chkFlatCubic c tolq tolc k eps ps = true) :
    ∀ pc ∈ ps, ∀ sg ∈ pc.l,
      (sg.b - c.sample (pc.t0 + sg.t1 * (pc.t1 - pc.t0))).sqLen
        ≤ (k * tolc + 2 * eps) * (k * tolc + 2 * eps) := by
  intro pc hp sg hsg
  obtain ⟨he, _, hkc, _, hpc⟩ := chkFlatCubic_spec c tolq tolc k eps ps h
  obtain ⟨hctrl, hdev, hchk⟩ := hpc pc hp
  obtain ⟨⟨_, _, _, _, hrng⟩, hv, _⟩ := chk_flat_sound pc.q tolq k eps pc.l hchk
  obtain ⟨u0, ult, u1⟩ := hrng sg hsg
  rw [sqLen_sub_comm, show k * tolc + 2 * eps = (k * tolc + eps) + eps by ring]
  exact sq_dist_triangle _ _ _ _ eps (add_nonneg hkc he) he
    (piece_near c pc _ eps sg.t1 hkc he hctrl hdev (u0.trans ult.le) u1)
    (by rw [sqLen_sub_comm]; exact (hv sg hsg).2)

/-- certified failing input for a cubic: the point of the cubic at the concrete parameter `t` is
farther than `√r2` from every point of every emitted segment of every piece -/
theorem chk_flat_cubic_violation_sound (c : Cubic K) (t r2 : K) (ps : List (Piece K))
    (h : farFrom (c.sample t) r2 (allSegs ps) = true) :
    ∀ pc ∈ ps, ∀ sg ∈ pc.l, ∀ s : K, 0 ≤ s → s ≤ 1 → r2 < (c.sample t - sg.a.lerp sg.b s).sqLen := by
  intro pc hp sg hsg
  exact far_from_sound (c.sample t) r2 _ h sg (by
    simp only [allSegs, List.mem_flatMap]; exact ⟨pc, hp, hsg⟩)

/-- if `chkHullQuad q r2 ms w l` accepts the segments `l` then they are
chained exactly from `(q.a, 0)` to `(q.b, 1)` with strictly increasing ranges in `[0,1]`, every
emitted end point is within `√r2` of the curve point at its parameter, and EVERY curve point is within
`√r2` of an emitted segment — for every list `ms` of subdivision counts and every window `w`. -/
theorem chk_hull_quad_sound (q : Quad K) (r2 : K) (ms : List Nat) (w : Nat) (l : List (FlatSeg K))
    (h : chkHullQuad q r2 ms w l = true) :
    (l ≠ [] ∧ Chain q.a 0 l ∧ lastPt q.a l = q.b ∧ lastT 0 l = 1
      ∧ ∀ sg ∈ l, 0 ≤ sg.t0 ∧ sg.t0 < sg.t1 ∧ sg.t1 ≤ 1)
    ∧ (∀ sg ∈ l, (sg.b - q.sample sg.t1).sqLen ≤ r2)
    ∧ ∀ t : K, 0 ≤ t → t ≤ 1 → ∃ sg ∈ l, ∃ s2 : K, 0 ≤ s2 ∧ s2 ≤ 1 ∧
        (q.sample t - sg.a.lerp sg.b s2).sqLen ≤ r2 :=
  hull_sound q.sample (quadCtrl q) (quad_hull_law q) q.a q.b r2 ms w l h

/-- the same for a cubic and the segments of `for_each_flattened_with_t`
with their parameter ranges on the cubic — directly, without the quadratic pieces. -/
theorem chk_hull_cubic_sound (c : Cubic K) (r2 : K) (ms : List Nat) (w : Nat) (l : List (FlatSeg K))
    (h : chkHullCubic c r2 ms w l = true) :
    (l ≠ [] ∧ Chain c.a 0 l ∧ lastPt c.a l = c.b ∧ lastT 0 l = 1
      ∧ ∀ sg ∈ l, 0 ≤ sg.t0 ∧ sg.t0 < sg.t1 ∧ sg.t1 ≤ 1)
    ∧ (∀ sg ∈ l, (sg.b - c.sample sg.t1).sqLen ≤ r2)
    ∧ ∀ t : K, 0 ≤ t → t ≤ 1 → ∃ sg ∈ l, ∃ s2 : K, 0 ≤ s2 ∧ s2 ≤ 1 ∧
        (c.sample t - sg.a.lerp sg.b s2).sqLen ≤ r2 :=
  hull_sound c.sample (cubicCtrl c) (cubic_hull_law c) c.a c.b r2 ms w l h

/-- the convex-hull property the certificate rests on: a point of a cubic (quadratic) over a
sub-range is within `√d` of a segment if the control points of `split_range` of that sub-range are -/
theorem bezier_sub_range_in_band (c : Cubic K) (q : Quad K) (a b : P K) (d τ0 τ1 u : K) (h0 : 0 ≤ u) (h1 : u ≤ 1) :
    ((∀ p ∈ cubicCtrl c τ0 τ1, Slab.sqDistSeg p a b ≤ d) → Slab.sqDistSeg (c.sample (τ0 + u * (τ1 - τ0))) a b ≤ d)
    ∧ ((∀ p ∈ quadCtrl q τ0 τ1, Slab.sqDistSeg p a b ≤ d) → Slab.sqDistSeg (q.sample (τ0 + u * (τ1 - τ0))) a b ≤ d) :=
  ⟨cubic_hull_law c a b d τ0 τ1 u h0 h1, quad_hull_law q a b d τ0 τ1 u h0 h1⟩

/-- **The rational instance the executable runs is the field instance at `ℚ`**: `chkFlat` /
`chkFlatCubic` / `farFrom` as compiled into `model_c09` (Model/RatScalar.lean) are the functions the
theorems above speak about. -/
theorem ratScalar_eq_fieldScalar_c09 : (instScalarRat : Scalar ℚ) = fieldScalar :=
  instScalarRat_eq_fieldScalar

theorem chk_flat_sound_rat (q : Quad ℚ) (tol k eps : ℚ) (l : List (FlatSeg ℚ))
    (h : @chkFlat ℚ instScalarRat q tol k eps l = true) :
    (l ≠ [] ∧ Chain q.a 0 l ∧ lastPt q.a l = q.b ∧ lastT 0 l = 1
      ∧ ∀ sg ∈ l, 0 ≤ sg.t0 ∧ sg.t0 < sg.t1 ∧ sg.t1 ≤ 1)
    ∧ (∀ sg ∈ l, (sg.a - q.sample sg.t0).sqLen ≤ eps * eps ∧ (sg.b - q.sample sg.t1).sqLen ≤ eps * eps)
    ∧ ∀ t : ℚ, 0 ≤ t → t ≤ 1 → ∃ sg ∈ l, ∃ s2 : ℚ, 0 ≤ s2 ∧ s2 ≤ 1 ∧
        (q.sample t - sg.a.lerp sg.b s2).sqLen ≤ (k * tol + eps) * (k * tol + eps) := by
  rw [ratScalar_eq_fieldScalar_c09] at h
  exact chk_flat_sound q tol k eps l h

theorem chk_flat_cubic_sound_rat (c : Cubic ℚ) (tolq tolc k eps : ℚ) (ps : List (Piece ℚ))
    (h : @chkFlatCubic ℚ instScalarRat c tolq tolc k eps ps = true) :
    (∀ pc ∈ ps, 0 ≤ pc.t0 ∧ pc.t0 < pc.t1 ∧ pc.t1 ≤ 1 ∧ chkFlat pc.q tolq k eps pc.l = true)
    ∧ ∀ t : ℚ, 0 ≤ t → t ≤ 1 → ∃ pc ∈ ps, ∃ sg ∈ pc.l, ∃ s : ℚ, 0 ≤ s ∧ s ≤ 1 ∧
        (c.sample t - sg.a.lerp sg.b s).sqLen
          ≤ (k * tolq + k * tolc + 2 * eps) * (k * tolq + k * tolc + 2 * eps) := by
  rw [ratScalar_eq_fieldScalar_c09] at h
  exact chk_flat_cubic_sound c tolq tolc k eps ps h

theorem chk_hull_quad_sound_rat (q : Quad ℚ) (r2 : ℚ) (ms : List Nat) (w : Nat) (l : List (FlatSeg ℚ))
    (h : @chkHullQuad ℚ instScalarRat q r2 ms w l = true) :
    (l ≠ [] ∧ Chain q.a 0 l ∧ lastPt q.a l = q.b ∧ lastT 0 l = 1
      ∧ ∀ sg ∈ l, 0 ≤ sg.t0 ∧ sg.t0 < sg.t1 ∧ sg.t1 ≤ 1)
    ∧ (∀ sg ∈ l, (sg.b - q.sample sg.t1).sqLen ≤ r2)
    ∧ ∀ t : ℚ, 0 ≤ t → t ≤ 1 → ∃ sg ∈ l, ∃ s2 : ℚ, 0 ≤ s2 ∧ s2 ≤ 1 ∧
        (q.sample t - sg.a.lerp sg.b s2).sqLen ≤ r2 := by
  rw [ratScalar_eq_fieldScalar_c09] at h
  exact chk_hull_quad_sound q r2 ms w l h

theorem chk_hull_cubic_sound_rat (c : Cubic ℚ) (r2 : ℚ) (ms : List Nat) (w : Nat) (l : List (FlatSeg ℚ))
    (h : @chkHullCubic ℚ instScalarRat c r2 ms w l = true) :
    (l ≠ [] ∧ Chain c.a 0 l ∧ lastPt c.a l = c.b ∧ lastT 0 l = 1
      ∧ ∀ sg ∈ l, 0 ≤ sg.t0 ∧ sg.t0 < sg.t1 ∧ sg.t1 ≤ 1)
    ∧ (∀ sg ∈ l, (sg.b - c.sample sg.t1).sqLen ≤ r2)
    ∧ ∀ t : ℚ, 0 ≤ t → t ≤ 1 → ∃ sg ∈ l, ∃ s2 : ℚ, 0 ≤ s2 ∧ s2 ≤ 1 ∧
        (c.sample t - sg.a.lerp sg.b s2).sqLen ≤ r2 := by
  rw [ratScalar_eq_fieldScalar_c09] at h
  exact chk_hull_cubic_sound c r2 ms w l h

theorem chk_flat_violation_sound_rat (q : Quad ℚ) (t r2 : ℚ) (l : List (FlatSeg ℚ))
    (h : @farFrom ℚ instScalarRat (@Quad.sample ℚ instScalarRat q t) r2 l = true) :
    ∀ sg ∈ l, ∀ s : ℚ, 0 ≤ s → s ≤ 1 → r2 < (q.sample t - sg.a.lerp sg.b s).sqLen := by
  rw [ratScalar_eq_fieldScalar_c09] at h
  exact chk_flat_violation_sound q t r2 l h

theorem chk_flat_cubic_violation_sound_rat (c : Cubic ℚ) (t r2 : ℚ) (ps : List (Piece ℚ))
    (h : @farFrom ℚ instScalarRat (@Cubic.sample ℚ instScalarRat c t) r2 (allSegs ps) = true) :
    ∀ pc ∈ ps, ∀ sg ∈ pc.l, ∀ s : ℚ, 0 ≤ s → s ≤ 1 → r2 < (c.sample t - sg.a.lerp sg.b s).sqLen := by
  rw [ratScalar_eq_fieldScalar_c09] at h
  exact chk_flat_cubic_violation_sound c t r2 ps h

section driver
variable {α : Type} [Scalar α]

/-- the driver (Drive/FlatChkIO.lean) computes every segment's bound once and folds the maximum:
that IS `flatDevSq` (every scalar type, in particular the executable `ℚ`) -/
theorem flat_dev_sq_eq_foldr (q : Quad α) (l : List (FlatSeg α)) :
    flatDevSq q l = (l.map (segDevSq q)).foldr Scalar.max Scalar.zero := by
  induction l with
  | nil => rfl
  | cons sg r ih => simp only [flatDevSq, List.map_cons, List.foldr_cons, ih]

end driver

section examples

/-- `chk_flat_sound(_rat)`: `from (0,0) ctrl (1,1) to (2,0)` cut at `t = 1/2` (chords
`(0,0)→(1,1/2)→(2,0)`), tolerance `1/8`, `k = 1`, `eps = 0` is ACCEPTED (both chords perpendicular,
squared deviation bound `1/80 ≤ 1/64`) — for the field instance and for the executable one -/
example : chkFlat (⟨⟨0,0⟩,⟨1,1⟩,⟨2,0⟩⟩ : Quad ℚ) (1/8) 1 0
    [⟨⟨0,0⟩,⟨1,1/2⟩,0,1/2⟩, ⟨⟨1,1/2⟩,⟨2,0⟩,1/2,1⟩] = true := by
  decide +kernel

example : @chkFlat ℚ instScalarRat (⟨⟨0,0⟩,⟨1,1⟩,⟨2,0⟩⟩ : Quad ℚ) (1/8) 1 0
    [⟨⟨0,0⟩,⟨1,1/2⟩,0,1/2⟩, ⟨⟨1,1/2⟩,⟨2,0⟩,1/2,1⟩] = true := by
  decide +kernel

/-- a rounded vertex: the middle vertex moved by `(0, 1/1000)` is accepted with `eps = 1/1000` and
`k = 1` (the deviation is measured from the EXACT chord, `eps` carries the vertex) and rejected
with `eps = 0` -/
example : chkFlat (⟨⟨0,0⟩,⟨1,1⟩,⟨2,0⟩⟩ : Quad ℚ) (1/8) 1 (1/1000)
    [⟨⟨0,0⟩,⟨1,501/1000⟩,0,1/2⟩, ⟨⟨1,501/1000⟩,⟨2,0⟩,1/2,1⟩] = true
  ∧ chkFlat (⟨⟨0,0⟩,⟨1,1⟩,⟨2,0⟩⟩ : Quad ℚ) (1/8) 1 0
    [⟨⟨0,0⟩,⟨1,501/1000⟩,0,1/2⟩, ⟨⟨1,501/1000⟩,⟨2,0⟩,1/2,1⟩] = false := by
  decide +kernel

/-- `hairpin_chord_bound(_eq)`, `hairpin_tighter_than_parametric`: the chord `v = (1,0)` with
`dd = (3,1)` is a hairpin chord (`κ = 3`): `devSq = 25/144` where the parametric bound is `10/16`;
with `dd = (3/2,1)` (`κ = 3/2 ≤ 2`) the end-point stretch is so short that the perpendicular bound
`1/16` is the maximum (parametric: `13/64`) -/
example : (0:ℚ) < (⟨1,0⟩ : P ℚ).sqLen ∧ (⟨1,0⟩ : P ℚ).sqLen < |(⟨3,1⟩ : P ℚ).dot ⟨1,0⟩|
    ∧ devSq (⟨1,0⟩ : P ℚ) ⟨3,1⟩ = 25 / 144 ∧ (⟨3,1⟩ : P ℚ).sqLen / 16 = 10 / 16
    ∧ devSq (⟨1,0⟩ : P ℚ) ⟨3/2,1⟩ = 1 / 16 := by
  decide +kernel

/-- `chk_flat_violation_sound(_rat)` / `chk_flat_exclusive`: the witness of the collinear-overshoot
finding, `from (0,0) ctrl (1000,0) to (1/100,0)` emitted as ONE segment: the curve point at `t = 1/2`
(`x = 500.0025`) is farther than `1/10` from it -/
example : farFrom ((⟨⟨0,0⟩,⟨1000,0⟩,⟨1/100,0⟩⟩ : Quad ℚ).sample (1/2)) ((1/10) * (1/10))
    [⟨⟨0,0⟩,⟨1/100,0⟩,0,1⟩] = true := by
  decide +kernel

/-- `chk_flat_cubic_sound(_rat)`, `chk_flat_cubic_vertices`: the cubic `(0,0) (1,3) (3,3) (4,0)` as
ONE piece `(0,0) (2,9/2) (4,0)` over `[0,1]` (its exact `to_quadratic`; `|D|² = 4`, piece deviation
`4/432 ≤ (1/5)²`) flattened into two chords at `u = 1/2` (bound `81/580 ≤ (2/5)²`) is accepted with
`tolq = 2/5`, `tolc = 1/5`, `k = 1`, `eps = 0` -/
example : chkFlatCubic (⟨⟨0,0⟩,⟨1,3⟩,⟨3,3⟩,⟨4,0⟩⟩ : Cubic ℚ) (2/5) (1/5) 1 0
    [⟨⟨⟨0,0⟩,⟨2,9/2⟩,⟨4,0⟩⟩, 0, 1, [⟨⟨0,0⟩,⟨2,9/4⟩,0,1/2⟩, ⟨⟨2,9/4⟩,⟨4,0⟩,1/2,1⟩]⟩] = true := by
  decide +kernel

/-- `chk_flat_cubic_violation_sound(_rat)`: the same cubic emitted as the single segment
`(0,0)→(4,0)`: its point at `t = 1/2`, `(2, 9/4)`, is farther than `2` from it -/
example : farFrom ((⟨⟨0,0⟩,⟨1,3⟩,⟨3,3⟩,⟨4,0⟩⟩ : Cubic ℚ).sample (1/2)) (2 * 2)
    (allSegs [⟨⟨⟨0,0⟩,⟨2,9/2⟩,⟨4,0⟩⟩, 0, 1, [⟨⟨0,0⟩,⟨4,0⟩,0,1⟩]⟩]) = true := by
  decide +kernel

/-- the `_rat` theorems' hypotheses, for the executable instance: the same three inputs -/
example : @farFrom ℚ instScalarRat (@Quad.sample ℚ instScalarRat (⟨⟨0,0⟩,⟨1000,0⟩,⟨1/100,0⟩⟩ : Quad ℚ) (1/2))
    ((1/10) * (1/10)) [⟨⟨0,0⟩,⟨1/100,0⟩,0,1⟩] = true := by
  decide +kernel

example : @chkFlatCubic ℚ instScalarRat (⟨⟨0,0⟩,⟨1,3⟩,⟨3,3⟩,⟨4,0⟩⟩ : Cubic ℚ) (2/5) (1/5) 1 0
    [⟨⟨⟨0,0⟩,⟨2,9/2⟩,⟨4,0⟩⟩, 0, 1, [⟨⟨0,0⟩,⟨2,9/4⟩,0,1/2⟩, ⟨⟨2,9/4⟩,⟨4,0⟩,1/2,1⟩]⟩] = true := by
  decide +kernel

example : @farFrom ℚ instScalarRat (@Cubic.sample ℚ instScalarRat (⟨⟨0,0⟩,⟨1,3⟩,⟨3,3⟩,⟨4,0⟩⟩ : Cubic ℚ) (1/2)) (2 * 2)
    (allSegs [⟨⟨⟨0,0⟩,⟨2,9/2⟩,⟨4,0⟩⟩, 0, 1, [⟨⟨0,0⟩,⟨4,0⟩,0,1⟩]⟩]) = true := by
  decide +kernel

/-- `chk_hull_quad_sound(_rat)`: the quadratic `(0,0) (1,1/10) (2,0)` emitted as ONE segment, one
sub-range (`ms = [1]`), no neighbours, `r2 = (1/8)²`: accepted (the control point is `1/10` from the
chord); its point at `t = 1/2`, `(1, 1/20)`, is exactly `1/20` from the segment, so for `r2 = (1/25)²` the
same segment has a certified violation there (for `r2 = (1/20)²` it has none: the test is strict) -/
example : chkHullQuad (⟨⟨0,0⟩,⟨1,1/10⟩,⟨2,0⟩⟩ : Quad ℚ) ((1/8) * (1/8)) [1] 0 [⟨⟨0,0⟩,⟨2,0⟩,0,1⟩] = true
    ∧ farFrom ((⟨⟨0,0⟩,⟨1,1/10⟩,⟨2,0⟩⟩ : Quad ℚ).sample (1/2)) ((1/25) * (1/25)) [⟨⟨0,0⟩,⟨2,0⟩,0,1⟩] = true := by
  decide +kernel

/-- `chk_hull_cubic_sound(_rat)`: the cubic `(0,0) (1,1/10) (2,1/10) (3,0)` emitted as ONE segment,
`ms = [1]`, `r2 = (1/8)²`: accepted -/
example : chkHullCubic (⟨⟨0,0⟩,⟨1,1/10⟩,⟨2,1/10⟩,⟨3,0⟩⟩ : Cubic ℚ) ((1/8) * (1/8)) [1] 0
    [⟨⟨0,0⟩,⟨3,0⟩,0,1⟩] = true := by
  decide +kernel

example : @chkHullCubic ℚ instScalarRat (⟨⟨0,0⟩,⟨1,1/10⟩,⟨2,1/10⟩,⟨3,0⟩⟩ : Cubic ℚ) ((1/8) * (1/8)) [1] 0
    [⟨⟨0,0⟩,⟨3,0⟩,0,1⟩] = true := by
  decide +kernel

end examples

end Lyon.C09
