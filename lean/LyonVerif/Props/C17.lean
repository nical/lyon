/-
  C17 — the path-syntax parser is total, protocol-safe and round-trips printed paths.

  All statements are about `Lyon.Parser.parse` (`Model/Parser.lean`), the function the
  correspondence check runs against `lyon_extra::parser::PathParser::parse` on every run
  (`Drive/C17.lean`, `harness/src/bin/c17.rs`).  The model mirrors the code after the two
  repairs made for this property, 00996849 (`need_start` starts `true`) and c7c34442 (the column
  after a leading newline); the header of `Model/Parser.lean` has the witnesses of both defects.

  The theorems quantify over EVERY input `List Char`, every attribute count, every stop
  character and every instance `N : Num ν` of the numeric parameters (value of a lexeme, `+`, `-`,
  `is_straight_line`, the arc → quadratics conversion).

  Helper lemmas: `Lemmas/Parser.lean`, `Lemmas/ParserPrint.lean`.
-/
import LyonVerif.Lemmas.ParserPrint

namespace Lyon.C17
open Lyon.Parser Lyon.Path

variable {ν : Type}

/-- the loop fuel `length + 1` supplied by `parse` never runs out — every
iteration of the command loop consumes a character or returns.  (The model function itself is
total by structural recursion; this says its "out of fuel" outcome is unreachable.) -/
theorem parse_total (N : Num ν) (na : Nat) (stop : Option Char) (inp : List Char) :
    (parse N na stop inp).outcome ≠ .stuck :=
  (loop_spec N na stop _ _ _ (inv_init N na)).1 (by
    have := skipWs_len_le (Src.new inp)
    simp only [Src.len, Src.new] at this ⊢
    omega)

/-- if the arc conversion of `lyon_geom` does not panic, neither does the
parser — for every input, attribute count and stop character. -/
theorem parse_no_panic (N : Num ν) (na : Nat) (stop : Option Char) (inp : List Char)
    (harc : ∀ pos a, N.arc pos a ≠ none) : (parse N na stop inp).outcome ≠ .panic :=
  (loop_spec N na stop _ _ _ (inv_init N na)).2.2 harc

/-- the parser returns `Ok` or `Err`. -/
theorem parse_result_shape (N : Num ν) (na : Nat) (stop : Option Char) (inp : List Char)
    (harc : ∀ pos a, N.arc pos a ≠ none) : (parse N na stop inp).closed := by
  have h1 := parse_total N na stop inp
  have h2 := parse_no_panic N na stop inp harc
  unfold Result.closed
  cases h : (parse N na stop inp).outcome with
  | ok => exact Or.inl rfl
  | err e => exact Or.inr ⟨e, rfl⟩
  | panic => exact absurd h h2
  | stuck => exact absurd h h1

/-- an error carries the `line`/`col` the source had after some number
`n` of `advance_one` steps from `Source::new(input)`.  `position_tracks` says what these two
numbers are; which `n` it is (the offending token's first character) is not part of the statement. -/
theorem parse_error_position (N : Num ν) (na : Nat) (stop : Option Char)
    (inp : List Char) (e : Err) (h : (parse N na stop inp).outcome = .err e) :
    ∃ n, e.line = (advN n (Src.new inp)).line ∧ e.col = (advN n (Src.new inp)).col := by
  unfold parse at h
  obtain ⟨t, ⟨n, rfl⟩, hl, hc⟩ :=
    ErrAt.mono (skipWs_reach (Src.new inp)) ((loop_pos N na stop _ _ _).2 e h)
  exact ⟨n, hl, hc⟩

/-- after `n` steps (`n < length`) the source stands on character `n`;
`line` = number of newlines among characters `0..n` (inclusive);
`col`  = offset since the last newline: `n` if characters `0..n` contain no newline, and `t - 1`
if the last newline, at index `j`, is followed by `t` further characters up to `n = j + t`
(the newline itself has column -1, the character after it column 0). -/
theorem position_tracks (inp : List Char) (n : Nat) (hn : n < inp.length) :
    (advN n (Src.new inp)).inp = inp.drop n ∧
    (advN n (Src.new inp)).line = nlCount (inp.take (n + 1)) ∧
    ((∀ c ∈ inp.take (n + 1), c ≠ '\n') → (advN n (Src.new inp)).col = n) ∧
    (∀ j t, j + t = n → (inp.drop j).head? = some '\n' →
      (∀ c ∈ (inp.drop (j + 1)).take t, c ≠ '\n') →
      (advN n (Src.new inp)).col = (t : Int) - 1) := by
  rw [advN_new inp n hn]
  refine ⟨rfl, rfl, fun h => ?_, ?_⟩
  · show colOf _ = _
    rw [colOf, colStep_plain _ h, List.length_take]; omega
  · rintro j t rfl hnl hrest
    -- the prefix is: `j` characters, the newline, `t` characters without newline
    have e : inp.take (j + t + 1) = inp.take j ++ '\n' :: (inp.drop (j + 1)).take t := by
      rw [Nat.add_assoc, List.take_add]
      cases hd : inp.drop j with
      | nil => rw [hd] at hnl; cases hnl
      | cons a r =>
        rw [hd] at hnl; cases hnl
        rw [show inp.drop (j + 1) = r by rw [← List.drop_drop, hd]; rfl, List.take_succ_cons]
    show colOf _ = _
    rw [e, colOf, List.foldl_append, List.foldl_cons, show colStep _ '\n' = -1 from rfl,
      colStep_plain _ hrest, List.length_take, List.length_drop]
    omega

/-- once the input is exhausted the position no longer changes: errors at end of input carry
the position of the last character -/
theorem position_at_end (s : Src) (k : Nat) (h : s.inp.length ≤ 1) :
    (advN k s).line = s.line ∧ (advN k s).col = s.col := by
  induction k generalizing s with
  | zero => exact ⟨rfl, rfl⟩
  | succ k ih =>
    have hadv : s.adv.line = s.line ∧ s.adv.col = s.col ∧ s.adv.inp.length ≤ 1 := by
      unfold Src.adv
      cases hs : s.inp with
      | nil => simp [hs]
      | cons c r =>
        cases r with
        | nil => simp [nextLine, nextCol]
        | cons d t => simp [hs] at h
    obtain ⟨h1, h2⟩ := ih s.adv hadv.2.2
    simp only [advN]; rw [h1, h2]; exact ⟨hadv.1, hadv.2.1⟩

/-- for every input string — success or error — the calls sent to
the builder, including the clean-up `end(false)`, are `(begin edge* end)*`. -/
theorem parse_trace_wellnested (N : Num ν) (na : Nat) (stop : Option Char)
    (inp : List Char) (hc : (parse N na stop inp).closed) :
    WellNested (parse N na stop inp).trace := by
  obtain ⟨b, hb, hcl⟩ := (loop_spec N na stop _ _ (Src.new inp).skipWs (inv_init N na)).2.1
  rw [hcl hc] at hb
  exact (wellNestedFrom_iff_nestState _ _).2 hb

/-- no call is ever out of place — also should the arc conversion
panic (no hypothesis on `N`). -/
theorem parse_trace_prefix_safe (N : Num ν) (na : Nat) (stop : Option Char)
    (inp : List Char) : ∃ b, nestState false (parse N na stop inp).trace = some b :=
  (loop_spec N na stop _ _ (Src.new inp).skipWs (inv_init N na)).2.1.imp fun _ h => h.1

/-- if the first character that is not a separator is an ASCII letter other
than `m`/`M` (and not the stop character), the input is rejected — with `MissingMoveTo` for a
drawing/close command, `Command` for an unknown letter, at that character's position — and the
builder has not been called at all. -/
theorem missing_move_to (N : Num ν) (na : Nat) (stop : Option Char) (inp : List Char)
    (hne : (Src.new inp).skipWs.inp ≠ [])
    (hstop : stop ≠ some (Src.new inp).skipWs.cur)
    (halpha : (Src.new inp).skipWs.cur.isAlpha = true)
    (hm : (Src.new inp).skipWs.cur ≠ 'm') (hM : (Src.new inp).skipWs.cur ≠ 'M') :
    (parse N na stop inp).trace = [] ∧
    ((parse N na stop inp).outcome =
        .err (.missingMoveTo (Src.new inp).skipWs.cur (Src.new inp).skipWs.line
          (Src.new inp).skipWs.col) ∨
     (parse N na stop inp).outcome =
        .err (.command (Src.new inp).skipWs.cur (Src.new inp).skipWs.line
          (Src.new inp).skipWs.col)) := by
  generalize hs : (Src.new inp).skipWs = s at *
  unfold parse
  rw [hs, loop_succ]
  have hf : s.fin = false := List.isEmpty_eq_false_iff.2 hne
  have hst : (stop == some s.cur) = false := beq_eq_false_iff_ne.2 hstop
  simp only [hf, hst, Bool.false_eq_true, if_false]
  have hcmd : cmdOf (St.init N) s = s.cur := by simp [cmdOf, halpha]
  unfold step
  rw [hcmd]
  by_cases hd : isDrawingCmd s.cur = true
  · simp [St.init, hd, Result.trace, closing]
  · rw [dispatchCmd_eq]
    have hother : cmdKind s.cur = .other := by
      cases hk : cmdKind s.cur with
      | move => exact ((cmdKind_move hk).elim hm hM).elim
      | other => rfl
      | _ => exact absurd (cmdKind_drawing (by rw [hk]; trivial)) hd
    simp [hd, hother, St.init, Result.trace, closing]

/-- the same inside the path: once a sub-path has been closed, a drawing/close command is
rejected with `MissingMoveTo` at the command's position -/
theorem missing_move_to_after_close (N : Num ν) (na : Nat) (st : St ν) (s : Src)
    (hns : st.needStart = true) (hd : isDrawingCmd (cmdOf st s) = true) :
    step N na st s =
      .fail (.missingMoveTo (cmdOf st s) s.line s.col) st.needEnd (afterCmd s) [] := by
  simp [step, hns, hd]

/-- the structural half of the round trip, with NO hypothesis on numeric
values: if printed numbers are tokens (`TokenOK`), then for every well-nested call
list with `na` attributes per endpoint the text `impl Debug for PathSlice` prints is accepted by
`parse` (result `Ok`), and the calls it sends are the original calls with every number replaced
by the value read back from its printed form (`rvCall`): same commands, same structure, same
`close` flags. -/
theorem print_is_parseable (N : Num ν) (pn : ν → List Char) (ht : TokenOK pn) (na : Nat)
    (tr : List (PCall ν)) (hwn : WellNested tr) (hal : AttrsLen na tr) :
    (parse N na none (printCalls pn tr)).outcome = .ok ∧
    (parse N na none (printCalls pn tr)).trace = tr.map (rvCall N pn) := by
  have h := loop_print_parse N pn ht na tr false hwn hal ((printCalls pn tr).length + 1)
    (St.init N) (Src.new (printCalls pn tr)) rfl (by simp [Src.new])
    rfl (fun h => by cases h)
  exact ⟨h.2, h.1⟩

/-- `print_is_parseable` for every printer with the `{:?}` number shape
`-? D+ (. D+)? (e -? D+)?` — no other hypothesis. -/
theorem print_is_parseable_debug_shape (N : Num ν) (pn : ν → List Char)
    (hshape : ∀ x, ∃ neg d1 f e, pn x = debugText neg d1 f e ∧ ShapeOK d1 f e) (na : Nat)
    (tr : List (PCall ν)) (hwn : WellNested tr) (hal : AttrsLen na tr) :
    (parse N na none (printCalls pn tr)).outcome = .ok :=
  (print_is_parseable N pn (tokenOK_of_debugShape pn hshape) na tr hwn hal).1

/-- take any stored path — represented by the well-nested builder calls
that created it, every endpoint carrying `na` custom attributes — print it as
`impl Debug for PathSlice` does (`printCalls`, the text between the quotes) and parse the text
with `na` attributes: the parser succeeds and sends exactly the same calls (same points, same
attributes, same `close` flags) to the output builder.

Hypothesis `PrintOK` on the number printer `pn`: `TokenOK`, and a printed number reads back as the
same value.  `printOK_of_debug_shape` discharges all of it except the value law for every printer
whose output has the shape `-? D+ (. D+)? (e -? D+)?`. -/
theorem print_parse_roundtrip (N : Num ν) (pn : ν → List Char) (hp : PrintOK N pn) (na : Nat)
    (tr : List (PCall ν)) (hwn : WellNested tr) (hal : AttrsLen na tr) :
    (parse N na none (printCalls pn tr)).trace = tr ∧
    (parse N na none (printCalls pn tr)).outcome = .ok := by
  have h := print_is_parseable N pn hp.toTokenOK na tr hwn hal
  rw [List.map_congr_left fun c _ => rvCall_id N pn hp.value c, List.map_id'] at h
  exact ⟨h.2, h.1⟩

/-- what `<f32 as Debug>::fmt` prints for a finite value is
`-? D+ . D+` or `-? D (. D+)? e -? D+` (checked on every printed number by the harness' oracle
clause `roundtrip/debug-shape`); every printer of the more general shape
`-? D+ (. D+)? (e -? D+)?` (ASCII digits) is `TokenOK`.  So the only thing the round trip assumes
about the printer beyond its shape is `parseNum (printNum x) = x`. -/
theorem printOK_of_debug_shape (N : Num ν) (pn : ν → List Char)
    (hshape : ∀ x, ∃ neg d1 f e, pn x = debugText neg d1 f e ∧ ShapeOK d1 f e)
    (hval : ∀ x, N.ofLexeme (pn x) = x) : PrintOK N pn :=
  { toTokenOK := tokenOK_of_debugShape pn hshape, value := hval }

/-- the round trip with the shape hypothesis instead of `PrintOK` -/
theorem print_parse_roundtrip_debug_shape (N : Num ν) (pn : ν → List Char)
    (hshape : ∀ x, ∃ neg d1 f e, pn x = debugText neg d1 f e ∧ ShapeOK d1 f e)
    (hval : ∀ x, N.ofLexeme (pn x) = x) (na : Nat)
    (tr : List (PCall ν)) (hwn : WellNested tr) (hal : AttrsLen na tr) :
    (parse N na none (printCalls pn tr)).trace = tr ∧
    (parse N na none (printCalls pn tr)).outcome = .ok :=
  print_parse_roundtrip N pn (printOK_of_debug_shape N pn hshape hval) na tr hwn hal

/-- the command of an iteration is the current character if it is an
ASCII letter, otherwise the implicit command; after an iteration with command `cmd` that
completes, the implicit command is `l` after `m`, `L` after `M`, `m` after `z`, `M` after `Z`,
and `cmd` itself otherwise (so `M 0 0 1 1 2 2` continues with implicit `L`, `m … ` with `l`,
and any other command repeats).  The parse starts with implicit `M`. -/
theorem implicit_command_rule (N : Num ν) (na : Nat) (st st' : St ν) (s s' : Src)
    (em : List (Emit ν)) (h : step N na st s = .cont st' s' em) :
    cmdOf st s = (if s.cur.isAlpha then s.cur else st.implicit) ∧
    st'.implicit = nextImplicit (cmdOf st s) ∧
    nextImplicit 'm' = 'l' ∧ nextImplicit 'M' = 'L' ∧ nextImplicit 'z' = 'm' ∧
    nextImplicit 'Z' = 'M' ∧
    (∀ c, c ≠ 'm' → c ≠ 'M' → c ≠ 'z' → c ≠ 'Z' → nextImplicit c = c) ∧
    (St.init N).implicit = 'M' := by
  have hk := step_keeps N na st s
  rw [h] at hk
  refine ⟨rfl, hk.1, by decide, by decide, by decide, by decide, ?_, rfl⟩
  intro c h1 h2 h3 h4
  simp [nextImplicit, h1, h2, h3, h4]

/-- relative commands add the current position (`current_position` before the command) to each
coordinate pair; absolute commands do not -/
theorem relative_rule (N : Num ν) (cur : Pt ν) (x y : ν) :
    relX N true cur x = N.add x cur.1 ∧ relY N true cur y = N.add y cur.2 ∧
    relX N false cur x = x ∧ relY N false cur y = y := ⟨rfl, rfl, rfl, rfl⟩

/-- The SVG rule (mirror of C15's): `S`/`s` draws a cubic whose first
control point is the reflection `cur + (cur - prev)` of the remembered second control point
about the current position, or the current position itself if nothing is remembered; it then
remembers its own second control point. -/
theorem parser_smooth_reflects (N : Num ν) (na : Nat) (st st' : St ν) (s s' : Src)
    (em : List (Emit ν)) (hc : cmdOf st s = 'S' ∨ cmdOf st s = 's')
    (h : step N na st s = .cont st' s' em) :
    (∃ c2 p a, em.map Prod.snd = [.cubic (smoothCtrl N st.cur st.prevCubic) c2 p a] ∧
      st'.prevCubic = some c2 ∧ st'.cur = p) ∧
    (∀ cur k : Pt ν, smoothCtrl N cur (some k) =
      (N.add cur.1 (N.sub cur.1 k.1), N.add cur.2 (N.sub cur.2 k.2))) ∧
    (∀ cur : Pt ν, smoothCtrl N cur none = cur) := by
  refine ⟨?_, fun _ _ => rfl, fun _ => rfl⟩
  obtain ⟨hk, -, hcub⟩ := edgeKind_letter (k := .S) hc.symm
  obtain ⟨o, ho, hem, rfl⟩ := step_edge_ok hk h
  simp only [edgeOf, cmdS, bind_ok_iff, pure_ok_iff] at ho
  obtain ⟨c2, _, _, e, _, _, rfl, _⟩ := ho
  exact ⟨c2, e.1, e.2, hem, by simp [St.after, hcub, EdgeKind.cubic], rfl⟩

/-- the same for `T`/`t` and quadratic curves; the remembered point is the reflected control
point itself -/
theorem parser_smooth_quad_reflects (N : Num ν) (na : Nat) (st st' : St ν) (s s' : Src)
    (em : List (Emit ν)) (hc : cmdOf st s = 'T' ∨ cmdOf st s = 't')
    (h : step N na st s = .cont st' s' em) :
    ∃ p a, em.map Prod.snd = [.quad (smoothCtrl N st.cur st.prevQuad) p a] ∧
      st'.prevQuad = some (smoothCtrl N st.cur st.prevQuad) ∧ st'.cur = p := by
  obtain ⟨hk, hq, -⟩ := edgeKind_letter (k := .T) hc.symm
  obtain ⟨o, ho, hem, rfl⟩ := step_edge_ok hk h
  simp only [edgeOf, cmdT, bind_ok_iff, pure_ok_iff] at ho
  obtain ⟨e, _, _, rfl, _⟩ := ho
  exact ⟨e.1, e.2, hem, by simp [St.after, hq, EdgeKind.quad], rfl⟩

/-- what is remembered: `C`/`c` remembers its second control point, `Q`/`q` its control point -/
theorem parser_ctrl_recorded (N : Num ν) (na : Nat) (st st' : St ν) (s s' : Src)
    (em : List (Emit ν)) (h : step N na st s = .cont st' s' em) :
    ((cmdOf st s = 'C' ∨ cmdOf st s = 'c') →
      ∃ c1 c2 p a, em.map Prod.snd = [.cubic c1 c2 p a] ∧ st'.prevCubic = some c2 ∧
        st'.cur = p) ∧
    ((cmdOf st s = 'Q' ∨ cmdOf st s = 'q') →
      ∃ c p a, em.map Prod.snd = [.quad c p a] ∧ st'.prevQuad = some c ∧ st'.cur = p) := by
  constructor
  · intro hc
    obtain ⟨hk, -, hcub⟩ := edgeKind_letter (k := .C) hc.symm
    obtain ⟨o, ho, hem, rfl⟩ := step_edge_ok hk h
    simp only [edgeOf, cmdC, bind_ok_iff, pure_ok_iff] at ho
    obtain ⟨c1, _, _, c2, _, _, e, _, _, rfl, _⟩ := ho
    exact ⟨c1, c2, e.1, e.2, hem, by simp [St.after, hcub, EdgeKind.cubic], rfl⟩
  · intro hc
    obtain ⟨hk, hq, -⟩ := edgeKind_letter (k := .Q) hc.symm
    obtain ⟨o, ho, hem, rfl⟩ := step_edge_ok hk h
    simp only [edgeOf, cmdQ, bind_ok_iff, pure_ok_iff] at ho
    obtain ⟨c, _, _, e, _, _, rfl, _⟩ := ho
    exact ⟨c, e.1, e.2, hem, by simp [St.after, hq, EdgeKind.quad], rfl⟩

/-- … and what is forgotten: any command other than `C c S s` clears the remembered cubic control
point, any command other than `Q q T t` the quadratic one (so a smooth command after anything
else — a line, an arc, a move-to, a curve of the other degree — starts at the current
position). -/
theorem parser_ctrl_forgotten (N : Num ν) (na : Nat) (st st' : St ν) (s s' : Src)
    (em : List (Emit ν)) (h : step N na st s = .cont st' s' em) :
    (isCubicCmd (cmdOf st s) = false → st'.prevCubic = none) ∧
    (isQuadCmd (cmdOf st s) = false → st'.prevQuad = none) := by
  have hk := step_keeps N na st s
  rw [h] at hk
  exact hk.2

/-- a trivial numeric instance: all values are `()`; every arc is one quadratic segment -/
def unitNum : Num Unit where
  zero := ()
  one := ()
  add := fun _ _ => ()
  sub := fun _ _ => ()
  mul := fun _ _ => ()
  ofLexeme := fun _ => ()
  arcStraight := fun _ => false
  arc := fun _ _ => some [(((), ()), ((), ()), ())]

/-- the arc hypothesis of `parse_no_panic` holds for `unitNum` -/
example : ∀ pos a, unitNum.arc pos a ≠ none := by intro pos a; simp [unitNum]

/-- the inputs that witnessed the `need_start` defect (header of `Model/Parser.lean`) are rejected without any builder
call; a leading newline resets the column -/
example : (parse unitNum 0 none ['L', ' ', '1', ' ', '1']).outcome =
      .err (.missingMoveTo 'L' 0 0) ∧
    (parse unitNum 0 none ['L', ' ', '1', ' ', '1']).trace = [] ∧
    (parse unitNum 0 none ['Z']).outcome = .err (.missingMoveTo 'Z' 0 0) ∧
    (parse unitNum 0 none ['H', ' ', '3']).outcome = .err (.missingMoveTo 'H' 0 0) ∧
    (parse unitNum 1 none "A1 1 0 0 0 5 5 7".toList).outcome = .err (.missingMoveTo 'A' 0 0) ∧
    (parse unitNum 0 none ['\n', 'x']).outcome = .err (.command 'x' 1 0) := by
  decide +kernel

/-- `missing_move_to`: `" L 1 1"` satisfies its hypotheses -/
example : (Src.new [' ', 'L', ' ', '1', ' ', '1']).skipWs.inp ≠ [] ∧
    (Src.new [' ', 'L', ' ', '1', ' ', '1']).skipWs.cur.isAlpha = true ∧
    (Src.new [' ', 'L', ' ', '1', ' ', '1']).skipWs.cur ≠ 'm' := by decide

/-- a successful parse with its trace; an error with an open sub-path is closed by the clean-up -/
example : (parse unitNum 0 none "M 0 0 L 1 1 Z".toList).trace =
      [.begin ((), ()) [], .line ((), ()) [], .end_ true] ∧
    (parse unitNum 0 none "M 0 0 L 1 x".toList).trace = [.begin ((), ()) [], .end_ false] ∧
    (parse unitNum 0 none "M 0 0 L 1 x".toList).outcome = .err (.number [] 0 10) := by
  decide +kernel

/-- integer-valued numbers (digits before any `.`/`e` only): enough to watch the automaton -/
def intOfLexeme (l : List Char) : Int :=
  if l.head? = some '-' then
    -(((l.drop 1).takeWhile Char.isDigit).foldl (fun a c => a * 10 + (c.toNat - 48)) 0 : Nat)
  else ((l.takeWhile Char.isDigit).foldl (fun a c => a * 10 + (c.toNat - 48)) 0 : Nat)

def intNum : Num Int where
  zero := 0
  one := 1
  add := (· + ·)
  sub := (· - ·)
  mul := (· * ·)
  ofLexeme := intOfLexeme
  arcStraight := fun _ => true
  arc := fun _ _ => some []

/-- implicit repetition (`M` then implicit `L`; `m` then implicit relative `l`), relative
coordinates, `H`/`V`, close returning to the sub-path start, smooth reflection:
`S` after `C 1 2 3 4 5 6` starts at `(5,6) + ((5,6) - (3,4)) = (7,8)`; `T` after a line starts at
the current point; a second `T` reflects the first one's control point. -/
example :
    (parse intNum 0 none "M 0 0 1 1 2 2".toList).trace =
      [.begin (0, 0) [], .line (1, 1) [], .line (2, 2) [], .end_ false] ∧
    (parse intNum 0 none "m 1 1 2 2 3 3".toList).trace =
      [.begin (1, 1) [], .line (3, 3) [], .line (6, 6) [], .end_ false] ∧
    (parse intNum 1 none "M 5 5 9 h 2 8 V 1 7 z l 1 1 6".toList).outcome =
      .err (.missingMoveTo 'l' 0 22) ∧
    (parse intNum 1 none "M 5 5 9 h 2 8 V 1 7 z".toList).trace =
      [.begin (5, 5) [9], .line (7, 5) [8], .line (7, 1) [7], .end_ true] ∧
    (parse intNum 0 none "M0 0C1 2 3 4 5 6S9 9 10 10".toList).trace =
      [.begin (0, 0) [], .cubic (1, 2) (3, 4) (5, 6) [], .cubic (7, 8) (9, 9) (10, 10) [],
       .end_ false] ∧
    (parse intNum 0 none "M0 0L4 4T6 4T8 4".toList).trace =
      [.begin (0, 0) [], .line (4, 4) [], .quad (4, 4) (6, 4) [], .quad (8, 4) (8, 4) [],
       .end_ false] := by
  decide +kernel

/-- a two-valued number type whose printer has the `{:?}` shapes: `true ↦ "1.5"`,
`false ↦ "-2e-7"` -/
def boolNum : Num Bool where
  zero := false
  one := true
  add := fun a _ => a
  sub := fun a _ => a
  mul := fun a _ => a
  ofLexeme := fun l => l == ['1', '.', '5']
  arcStraight := fun _ => true
  arc := fun _ _ => some []

def boolPrint : Bool → List Char
  | true => ['1', '.', '5']
  | false => ['-', '2', 'e', '-', '7']

/-- the hypotheses of `printOK_of_debug_shape` / `print_parse_roundtrip_debug_shape` hold for it -/
theorem printOK_example : PrintOK boolNum boolPrint := by
  apply printOK_of_debug_shape
  · intro x
    cases x
    · refine ⟨true, ['2'], none, some (true, ['7']), rfl, ⟨⟨by simp, by decide⟩, ?_, ?_⟩⟩
      · intro d h; cases h
      · intro n d h; cases h; exact ⟨by simp, by decide⟩
    · refine ⟨false, ['1'], some ['5'], none, rfl, ⟨⟨by simp, by decide⟩, ?_, ?_⟩⟩
      · intro d h; cases h; exact ⟨by simp, by decide⟩
      · intro n d h; cases h
  · intro x; cases x <;> decide

/-- `print_parse_roundtrip`: a path with two sub-paths and one attribute satisfies its
hypotheses -/
example : WellNested ([.begin (true, false) [true], .line (false, false) [false], .end_ false,
      .begin (true, true) [false], .quad (false, true) (true, true) [true], .end_ true] :
      List (PCall Bool)) ∧
    AttrsLen 1 ([.begin (true, false) [true], .line (false, false) [false], .end_ false,
      .begin (true, true) [false], .quad (false, true) (true, true) [true], .end_ true] :
      List (PCall Bool)) := by
  refine ⟨by decide, ?_⟩
  intro c hc
  simp only [List.mem_cons, List.mem_nil_iff, or_false] at hc
  rcases hc with rfl | rfl | rfl | rfl | rfl | rfl <;> simp [callAttrsOK]

end Lyon.C17
