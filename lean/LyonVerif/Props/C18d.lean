/-
  C18 (part d) — reversing a path negates its signed area and its winding number, at the level of the
  stored points (not only of an abstract edge list).

  `Path::reversed` keeps the points and reverses their order (and the order of the sub-paths): the closed
  outline of the reversed list is a rotation of the flipped outline, with a different first point, hence
  a different implicit closing edge and different relative vectors inside `approximate_signed_area`.
  `subEdges_reverse_sum` (Lemmas/EdgeSum.lean) says that this negates the sum of any antisymmetric edge
  function; here it is applied to the shoelace term (`subArea_reverse`, `pathArea_reversed`; the reported winding
  direction flips whenever the area is non-zero) and to `test_segment` (`windingAt_path_reversed`; the hit test
  agrees under either fill rule).  For ALL polygonal sub-paths, all paths and all query points, over any linearly
  ordered field.
-/
import LyonVerif.Props.C18


namespace Lyon.C18
open Lyon Lyon.Winding
variable {K : Type} [Field K] [LinearOrder K] [IsStrictOrderedRing K]

theorem subEdges_reverse_shoelace (pts : List (P K)) :
    shoelace (subEdges pts.reverse) = - shoelace (subEdges pts) :=
  subEdges_reverse_sum cr (fun a b => cr_antisymm a b) pts

theorem subArea_reverse (pts : List (P K)) : subArea pts.reverse = - subArea pts := by
  rw [subArea_shoelace, subArea_shoelace, subEdges_reverse_shoelace]; ring

theorem computeWinding_reverse (pts : List (P K)) (h : subArea pts ≠ 0) :
    computeWinding pts.reverse = !computeWinding pts := by
  -- as propositions: `0 < -A ↔ ¬ 0 < A`, which is `A < 0 ↔ A ≤ 0`
  rw [Bool.eq_iff_iff, Bool.not_eq_true', ← Bool.not_eq_true, computeWinding_iff, computeWinding_iff,
    subArea_reverse, neg_pos, not_lt]
  exact ⟨le_of_lt, fun h' => lt_of_le_of_ne h' h⟩

theorem pathArea_eq_sum (subs : List (List (P K))) : pathArea subs = (subs.map subArea).sum := by
  rw [pathArea, foldl_add]; simp

/-- **reversing a path** (sub-paths in opposite order, each with its points reversed, as
`Path::reversed` does) **negates its signed area** -/
theorem pathArea_reversed (subs : List (List (P K))) :
    pathArea (subs.reverse.map List.reverse) = - pathArea subs := by
  rw [pathArea_eq_sum, pathArea_eq_sum]
  exact sum_reversed_path subArea subArea_reverse subs

/-- non-vacuity of the hypothesis of `computeWinding_reverse`: the unit square has non-zero area -/
example : subArea ([⟨0, 0⟩, ⟨1, 0⟩, ⟨1, 1⟩, ⟨0, 1⟩] : List (P ℚ)) ≠ 0 := by
  rw [subArea_shoelace]
  simp [subEdges, subEdgesFrom, shoelace]

/-- crossing sum of an edge list -/
noncomputable def wsum (q : P K) (es : List (P K × P K)) : Int := (es.map (fun e => testSegment q e.1 e.2)).sum

theorem subEdges_reverse_winding (q : P K) (pts : List (P K)) :
    wsum q (subEdges pts.reverse) = - wsum q (subEdges pts) :=
  subEdges_reverse_sum (testSegment q) (fun a b => testSegment_flip q a b) pts

theorem windingAt_pathEdges (q : P K) (subs : List (List (P K))) :
    windingAt q (pathEdges subs) = (subs.map (fun s => wsum q (subEdges s))).sum := by
  rw [windingAt_eq_sum]
  unfold pathEdges
  induction subs with
  | nil => rfl
  | cons s r ih => rw [List.flatMap_cons, edgeSum_append, ih]; rfl

/-- **`path_winding_number_at_position` of the reversed path** (sub-paths in opposite order, each
with its points reversed) **is the negation**, for every query point -/
theorem windingAt_path_reversed (q : P K) (subs : List (List (P K))) :
    windingAt q (pathEdges (subs.reverse.map List.reverse)) = - windingAt q (pathEdges subs) := by
  rw [windingAt_pathEdges, windingAt_pathEdges]
  exact sum_reversed_path (fun s => wsum q (subEdges s)) (subEdges_reverse_winding q) subs

theorem hitTest_path_reversed (evenOdd : Bool) (q : P K) (subs : List (List (P K))) :
    hitTest evenOdd q (subs.reverse.map List.reverse) = hitTest evenOdd q subs := by
  unfold hitTest
  rw [windingAt_path_reversed]
  unfold hitRule
  generalize windingAt q (pathEdges subs) = w
  have key : ∀ x : Int, (-x != 0) = (x != 0) := fun x =>
    Bool.eq_iff_iff.mpr (by rw [bne_iff_ne, bne_iff_ne, neg_ne_zero])
  cases evenOdd
  · simpa using key w
  · simpa [Int.neg_tmod] using key (w.tmod 2)

end Lyon.C18
