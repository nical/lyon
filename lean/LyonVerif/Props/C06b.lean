/-
  C06b — the triangles the COMPLETE stroker model emits cover the rectangle of every segment.

  `Props/C06.lean` proves the component algebra (quad covers trapezoid, miter vector, cap clipping);
  `Props/C05c.lean` / `C05d.lean` prove index validity of the complete model `Model/Tess/StrokeFull.lean`
  (tied bit for bit to lyon by the families `full`, `fulle` of C05 and `fullmesh` of C06; `stroke2` of C06 runs the
  component model `StrokeQuad.stroke2`).  This file
  joins the two: a theorem about the OUTPUT of the complete model.

  * `stroke_polyline_emission_shape` (`Lemmas/StrokeCover{Shape,Loop,Run}.lean`): on an open fixed-width
    polyline without merged points and folding joins, non-round join and caps, the run
    `begin, line_to …, end(false)` emits — as index triples over vertices emitted at exactly these
    positions — the two triangles of `add_edge_triangles` of every edge, between the cap corners
    (`tessellate_first_edge` / `tessellate_last_edge`) and the side points
    `compute_join_side_positions_fixed_width` stored, and the triangle of `tessellate_join` of every
    join that has one.  Any scalar field; no law of `sqrt` needed.
  * `stroke_polyline_covers_rectangles`: over an ordered field with the `sqrt` laws and the exact
    `Line::intersection` (`CoverHyp`: every join kind and every cap, Round with the law `cos² + sin² = 1`; the
    MiterClip and Round instances are spelled out in `Props/C06f.lean`), in the no-fold regime `Regime` (a
    decidable conjunction of comparisons of numbers the model computes): for every segment `k` and
    every point `q = p_k + s·(p_{k+1} − p_k) + u·n_k`, `0 ≤ s ≤ 1`, `|u| ≤ 1`, `n_k = perp(t_k)·w/2`, the
    output contains an index triple whose three emitted vertex positions span a triangle containing `q`.
    (`Lemmas/StrokeCoverGeo.lean`, `StrokeCoverEdge.lean`: corner lemmas; `StrokeCoverJoin.lean`: the side
    points in closed form; `StrokeCoverAsm.lean`: assembly.)
  * `stroke_polyline_covers_tessellate`: the same for what `StrokeTessellator::tessellate`
    (`tessellateFw`) returns on the path `begin p0, line_to p1, …, end(false)`.
  * `stroke_polyline_reach` (`Lemmas/StrokeCoverReach.lean`): the emission shape is exhaustive (`Emitted.only`:
    the run emits no other index triple), and every emitted triangle stays within `w/2·√(1 + M²)` of the
    SEGMENT of its edge, `M` the largest outward shift of the edge's quad corners in half widths:
    `stroke_reach_factor_bevel` (Bevel: `M = 0`, or `1` on an edge with a square cap: factors 1, √2),
    `stroke_reach_factor` (Miter: `M ≤ |tan(θ/2)|`, i.e. the miter length `1/cos(θ/2)`).
  * non-vacuity: `exRegime` — the 3-4-5 polyline `(0,0) (12,16) (32,16) (44,32)`, width 2, over `ℝ` with the
    real square root satisfies every hypothesis; the theorems are instantiated on it.
  Closed sub-paths: `Props/C06c.lean`.  NOT covered (left to the slab checker on real output): variable width,
  curves, merged points, the fold regime, rounding.
-/
import LyonVerif.Lemmas.StrokeCoverReach
import LyonVerif.Lemmas.StrokeCoverFold
import LyonVerif.Lemmas.StrokeCoverRegime
import LyonVerif.Props.C06Ex
import Mathlib.Analysis.SpecialFunctions.Sqrt
import Mathlib.Tactic.IntervalCases

set_option linter.unusedSectionVars false
set_option linter.unusedVariables false

namespace Lyon.C06b
open Lyon Scalar Lyon.Stroke Lyon.Stroke.Full Lyon.C05 Lyon.C05b Lyon.C05c Lyon.C06
open Lyon.StrokeQuad (lineIntersection)

section
variable {K : Type} [Field K] [LinearOrder K] [IsStrictOrderedRing K] [Transc K] [Asin K] [FlatConst K]

/-- **emission shape of the complete model** (see `Emitted`): any ordered field, every `sqrt` -/
theorem stroke_polyline_emission_shape (e : Env K) (store : Nat → List K) (hfw : e.o.varWidth = false)
    (hj : e.o.join ≠ .round) (hs : e.o.startCap ≠ .round) (he : e.o.endCap ≠ .round) (hw0 : e.hwFw ≠ 0)
    (pt : Nat → P K) (n : Nat) (hn : 1 ≤ n)
    (hfar : ∀ i, i < n → pointsAreTooClose e.thr (pt i) (pt (i + 1)) = false)
    (hnf : ∀ i, 1 ≤ i → i < n → noFoldAt e (pt (i - 1)) (pt i) (pt (i + 1))) :
    Emitted e pt n (runEvents e store (polyEvs pt n)).st.out :=
  run_emitted e store hfw (Or.inl hj) hs he hw0 pt n hn hfar hnf

/-- **`stroke_polyline_covers_rectangles`.**  Complete stroker model, open polyline `pt 0 … pt n`
(`n ≥ 1` edges), fixed width `w = 2·e.hwFw > 0`, Bevel, Miter or MiterClip join (any miter limit; `≥ 1` and
`eps < w/2` for MiterClip: `CoverHyp.clip`; kept AND clipped miters) or Round join, butt, square or round
caps (independently; Round join / cap: with the law `cos² + sin² = 1`, see `Props/C06f.lean`), exact arithmetic (`sqrt x ≥ 0`, `sqrt x² = x`; `Line::intersection` with guard
`eps ≥ 0`), in the no-fold regime `Regime e eps pt n`:
for every segment `k < n` and every point `q = p_k + s·(p_{k+1} − p_k) + u·perp(t_k)·w/2` of its
rectangle (`0 ≤ s ≤ 1`, `−1 ≤ u ≤ 1`) the output contains an index triple `t` whose three vertices
exist and whose emitted positions (`StrokeVertex::position`) span a triangle containing `q`. -/
theorem stroke_polyline_covers_rectangles (e : Env K) (eps : K) (h : CoverHyp e eps) (store : Nat → List K)
    (pt : Nat → P K) (n : Nat) (hn : 1 ≤ n) (hr : Regime e eps pt n)
    (k : Nat) (hk : k < n) (s u : K) (hs : 0 ≤ s) (hs1 : s ≤ 1) (hu : -1 ≤ u) (hu1 : u ≤ 1) :
    ∃ t ∈ (runEvents e store (polyEvs pt n)).st.out.tris, ∃ v1 v2 v3 : VData K,
      (runEvents e store (polyEvs pt n)).st.out.verts[t.1]? = some v1
      ∧ (runEvents e store (polyEvs pt n)).st.out.verts[t.2.1]? = some v2
      ∧ (runEvents e store (polyEvs pt n)).st.out.verts[t.2.2]? = some v3
      ∧ InTri (bandPoint (pt k) (pt (k + 1)) ((perp (eT pt k)).smul e.hwFw) s u)
          (v1.read.position, v2.read.position, v3.read.position) :=
  (edge_cover h hr (regime_emitted h store hn hr) k hk s u hs hs1 hu hu1).read

/-- **`stroke_polyline_reach`** (the other half of the property, same regime).  EVERY index triple the run
emits has three existing vertices (`Emitted.only`: corners of one edge quad, vertices of one join, or points of the
circle of a round join / cap), and
every point of the triangle they span lies within `w/2 · √(1 + M_k²)` of the SEGMENT `p_k p_{k+1}` of some edge
`k` (`NearSeg`: there is `x ∈ [0, |p_{k+1} − p_k|]` with `|q − (p_k + t_k·x)|² ≤ reachSq`), where
`reachSq = (w/2)²·(1 + outK²)` and `outK` is the largest outward shift of that edge's quad corners in half
widths: see `stroke_reach_factor_bevel` (`0` resp. the cap's `1` for a square cap: factors 1 and √2) and
`stroke_reach_factor` (at most `|tan(θ/2)|` at a join: the miter length `1/cos(θ/2)`). -/
theorem stroke_polyline_reach (e : Env K) (eps : K) (h : CoverHyp e eps) (store : Nat → List K)
    (pt : Nat → P K) (n : Nat) (hn : 1 ≤ n) (hr : Regime e eps pt n)
    (t : Stroke.Tri) (ht : t ∈ (runEvents e store (polyEvs pt n)).st.out.tris) :
    ∃ k, k < n ∧ ∃ v1 v2 v3 : VData K,
      (runEvents e store (polyEvs pt n)).st.out.verts[t.1]? = some v1
      ∧ (runEvents e store (polyEvs pt n)).st.out.verts[t.2.1]? = some v2
      ∧ (runEvents e store (polyEvs pt n)).st.out.verts[t.2.2]? = some v3
      ∧ ∀ q, InTri q (v1.read.position, v2.read.position, v3.read.position) →
          NearSeg (pt k) (eT pt k) (eL pt k) (reachSq e pt n k) q :=
  tri_reach h hr (regime_emitted h store hn hr) t ht

/-- the reach factor with a Bevel join: `reachSq ≤ (w/2)²·(1 + c²)`, `c = 1` if the edge carries a square cap,
else `0` — factor 1 along the path, √2 at a square cap -/
theorem stroke_reach_factor_bevel (e : Env K) (eps : K) (h : CoverHyp e eps) (pt : Nat → P K) (n : Nat)
    (hr : Regime e eps pt n) (hb : e.o.join = .bevel) (k : Nat) (hk : k < n) :
    reachSq e pt n k ≤ e.hwFw * e.hwFw * (1 + (Max.max (if k = 0 then capU e.o.startCap else 0)
      (if k + 1 = n then capU e.o.endCap else 0)) ^ 2) :=
  reachSq_le e pt _ _ (outK_bevel h hr (Or.inl hb) k hk)

/-- the reach factor in general (Miter joins): at most the miter length at the edge's ends —
`reachSq ≤ (w/2)²·(1 + m²)`, `m` the larger of `|tan(θ/2)|` at the two ends (`1` resp. `0` for a square
resp. butt cap there); `1 + tan²(θ/2) = 1/cos²(θ/2)` -/
theorem stroke_reach_factor (e : Env K) (eps : K) (h : CoverHyp e eps) (pt : Nat → P K) (n : Nat)
    (k : Nat) (hk : k < n) :
    reachSq e pt n k ≤ e.hwFw * e.hwFw * (1 + (Max.max (if k = 0 then capU e.o.startCap else tauAbs pt n k)
      (if k + 1 = n then capU e.o.endCap else tauAbs pt n (k + 1))) ^ 2) :=
  reachSq_le e pt _ _ (outK_le e pt n k hk)

/-- **no join folds in the regime**: the model's own fold test (one conjunct of `Regime`) is implied by the
others — `RegimeCore` (no merged points, edges longer than `eps`, no U-turn, every edge at least
`w/2·(|tan(θ_a/2)| + |tan(θ_b/2)| + 1)` long) is the whole regime.  (`compute_join_side_positions_fixed_width`
folds only if the front miter point lies beyond both neighbouring edges or the miter vector vanishes.) -/
theorem regime_core_suffices (e : Env K) (eps : K) (h : CoverHyp e eps) (pt : Nat → P K) (n : Nat)
    (hr : RegimeCore e eps pt n) : Regime e eps pt n :=
  regime_of_core h.sqrt_nonneg h.sqrt_sq h.eps_nonneg h.hw hr

/-- **the public entry point**: whatever `StrokeTessellator::tessellate` (`tessellate_fw`) returns on the
path `begin p_0, line_to p_1, …, line_to p_n, end(false)` covers every segment's rectangle.  `e` is the
environment with the fixed-width flag forced, as `tessellate_fw` does. -/
theorem stroke_polyline_covers_tessellate (e : Env K) (eps : K)
    (h : CoverHyp { e with o := { e.o with varWidth := false } } eps)
    (pt : Nat → P K) (n : Nat) (hn : 1 ≤ n) (hr : Regime { e with o := { e.o with varWidth := false } } eps pt n)
    (out : Out K) (ho : tessellateFw e (polyPath pt n) = some out)
    (k : Nat) (hk : k < n) (s u : K) (hs : 0 ≤ s) (hs1 : s ≤ 1) (hu : -1 ≤ u) (hu1 : u ≤ 1) :
    ∃ t ∈ out.tris, ∃ v1 v2 v3 : VData K,
      out.verts[t.1]? = some v1 ∧ out.verts[t.2.1]? = some v2 ∧ out.verts[t.2.2]? = some v3
      ∧ InTri (bandPoint (pt k) (pt (k + 1)) ((perp (eT pt k)).smul (e.o.lineWidth * half)) s u)
          (v1.read.position, v2.read.position, v3.read.position) := by
  unfold tessellateFw at ho
  rw [assignIds_polyPath pt n hn] at ho
  rw [tessellateIds_out2 ho]
  exact stroke_polyline_covers_rectangles _ eps h _ pt n hn hr k hk s u hs hs1 hu hu1

end

/-! ### non-vacuity: a concrete polyline over `ℝ` in the regime, evaluated through the model

Width 2 (`w/2 = 1`), 3-4-5 directions: `(0,0) → (12,16) → (32,16) → (44,32)`: three edges of length 20
with unit tangents `(3/5, 4/5)`, `(1, 0)`, `(3/5, 4/5)`; a right turn then a left turn, both with
`cos = 3/5`, `|tan(θ/2)| = 1/2`; Bevel join, butt start cap, square end cap. -/

section Real
attribute [local instance] Lyon.C05.realTransc
attribute [local instance] realAsin realFlat

theorem exL0 : eL exPt 0 = 20 := len_of_sq _ 20 (by norm_num) (by simp only [exPt, geom]; norm_num)
theorem exL1 : eL exPt 1 = 20 := len_of_sq _ 20 (by norm_num) (by simp only [exPt, geom]; norm_num)
theorem exL2 : eL exPt 2 = 20 := len_of_sq _ 20 (by norm_num) (by simp only [exPt, geom]; norm_num)

theorem exT0 : eT exPt 0 = ⟨3 / 5, 4 / 5⟩ := by
  have : len (exPt (0 + 1) - exPt 0) = 20 := exL0
  unfold eT; rw [this]; apply P.ext' <;> simp only [exPt, geom] <;> norm_num
theorem exT1 : eT exPt 1 = ⟨1, 0⟩ := by
  have : len (exPt (1 + 1) - exPt 1) = 20 := exL1
  unfold eT; rw [this]; apply P.ext' <;> simp only [exPt, geom] <;> norm_num
theorem exT2 : eT exPt 2 = ⟨3 / 5, 4 / 5⟩ := by
  have : len (exPt (2 + 1) - exPt 2) = 20 := exL2
  unfold eT; rw [this]; apply P.ext' <;> simp only [exPt, geom] <;> norm_num

theorem exTau0 : jtau exPt 0 = -1 / 2 := by
  unfold jtau; rw [exT0, exT1]; simp only [geom]; norm_num
theorem exTau1 : jtau exPt 1 = 1 / 2 := by
  unfold jtau; rw [exT1, exT2]; simp only [geom]; norm_num

theorem exRegimeJ (lj : LineJoin) : Regime (exEnvJ lj) (1 / 10 ^ 8) exPt 3 := by
  have hhw : (exEnvJ lj).hwFw = 1 := two_half
  -- the model's fold test follows from the other clauses (`regime_of_core`)
  refine regime_of_core (fun x _ => Real.sqrt_nonneg x) (fun x hx => Real.mul_self_sqrt hx) (by positivity)
    (by rw [hhw]; norm_num) ⟨?_, ?_, ?_, ?_⟩
  · intro i hi
    interval_cases i <;>
      (simp [exEnvJ, exPt, pointsAreTooClose, Env.new, squareMergeThreshold, geom]; norm_num)
  · intro i hi
    interval_cases i
    · rw [exL0]; norm_num
    · rw [exL1]; norm_num
    · rw [exL2]; norm_num
  · intro i hi
    interval_cases i
    · rw [exT0, exT1, normalEpsilon_eq]; simp only [geom]; norm_num
    · rw [exT1, exT2, normalEpsilon_eq]; simp only [geom]; norm_num
  · intro i hi
    rw [hhw]
    interval_cases i
    · simp only [tauAbs]; norm_num; rw [exL0, exTau0]; norm_num [abs_of_neg]
    · simp only [tauAbs]; norm_num; rw [exL1, exTau0, exTau1]; norm_num [abs_of_neg, abs_of_pos]
    · simp only [tauAbs]; norm_num; rw [exL2, exTau1]; norm_num [abs_of_pos]

theorem exRegime : Regime exEnv (1 / 10 ^ 8) exPt 3 := exRegimeJ _

/-- … so every point of the three rectangles lies in a triangle the complete model emits, e.g. the
point `s = 1`, `u = −1` of the first edge: the corner of its rectangle at the join `(12,16)` on the INSIDE of
the right turn, which lies OUTSIDE that edge's own quad (the inner side is shortened to the miter point) -/
example (store : Nat → List ℝ) :
    ∃ t ∈ (runEvents exEnv store (polyEvs exPt 3)).st.out.tris, ∃ v1 v2 v3 : VData ℝ,
      (runEvents exEnv store (polyEvs exPt 3)).st.out.verts[t.1]? = some v1
      ∧ (runEvents exEnv store (polyEvs exPt 3)).st.out.verts[t.2.1]? = some v2
      ∧ (runEvents exEnv store (polyEvs exPt 3)).st.out.verts[t.2.2]? = some v3
      ∧ InTri (bandPoint (exPt 0) (exPt 1) ((perp (eT exPt 0)).smul exEnv.hwFw) 1 (-1))
          (v1.read.position, v2.read.position, v3.read.position) :=
  stroke_polyline_covers_rectangles exEnv _ exHyp store exPt 3 (by norm_num) exRegime 0 (by norm_num) 1 (-1)
    (by norm_num) (by norm_num) (by norm_num) (by norm_num)

/-- … and every triangle of that stroke stays within the reach of its edge's segment; with the Bevel join
of `exEnv` the squared reach of the middle edge is at most `(w/2)² = 1` (factor 1), that of the last edge
(square cap) at most `2` (factor √2) -/
example (store : Nat → List ℝ) (t : Stroke.Tri) (ht : t ∈ (runEvents exEnv store (polyEvs exPt 3)).st.out.tris) :
    ∃ k, k < 3 ∧ ∃ v1 v2 v3 : VData ℝ,
      (runEvents exEnv store (polyEvs exPt 3)).st.out.verts[t.1]? = some v1
      ∧ (runEvents exEnv store (polyEvs exPt 3)).st.out.verts[t.2.1]? = some v2
      ∧ (runEvents exEnv store (polyEvs exPt 3)).st.out.verts[t.2.2]? = some v3
      ∧ ∀ q, InTri q (v1.read.position, v2.read.position, v3.read.position) →
          NearSeg (exPt k) (eT exPt k) (eL exPt k) (reachSq exEnv exPt 3 k) q :=
  stroke_polyline_reach exEnv _ exHyp store exPt 3 (by norm_num) exRegime t ht

example : reachSq exEnv exPt 3 1 ≤ exEnv.hwFw * exEnv.hwFw * (1 + 0 ^ 2)
    ∧ reachSq exEnv exPt 3 2 ≤ exEnv.hwFw * exEnv.hwFw * (1 + 1 ^ 2) := by
  constructor
  · have := stroke_reach_factor_bevel exEnv _ exHyp exPt 3 exRegime rfl 1 (by norm_num)
    simpa using this
  · have := stroke_reach_factor_bevel exEnv _ exHyp exPt 3 exRegime rfl 2 (by norm_num)
    simpa [exEnvJ, Env.new, capU] using this

/-- the Miter join (limit 4; both miters are kept: `|normal|² = 5/4 ≤ 64`): the same polyline is in the regime
and covered; the reach of the middle edge is at most the miter length, `(w/2)²·(1 + (1/2)²)` -/
example (store : Nat → List ℝ) (s u : ℝ) (hs : 0 ≤ s) (hs1 : s ≤ 1) (hu : -1 ≤ u) (hu1 : u ≤ 1) :
    ∃ t ∈ (runEvents (exEnvJ .miter) store (polyEvs exPt 3)).st.out.tris, ∃ v1 v2 v3 : VData ℝ,
      (runEvents (exEnvJ .miter) store (polyEvs exPt 3)).st.out.verts[t.1]? = some v1
      ∧ (runEvents (exEnvJ .miter) store (polyEvs exPt 3)).st.out.verts[t.2.1]? = some v2
      ∧ (runEvents (exEnvJ .miter) store (polyEvs exPt 3)).st.out.verts[t.2.2]? = some v3
      ∧ InTri (bandPoint (exPt 1) (exPt 2) ((perp (eT exPt 1)).smul (exEnvJ .miter).hwFw) s u)
          (v1.read.position, v2.read.position, v3.read.position) :=
  stroke_polyline_covers_rectangles (exEnvJ .miter) _ (exHypJ _ (Or.inr (Or.inl rfl))) store exPt 3 (by norm_num) (exRegimeJ _)
    1 (by norm_num) s u hs hs1 hu hu1

example : reachSq (exEnvJ .miter) exPt 3 1 ≤ (exEnvJ .miter).hwFw * (exEnvJ .miter).hwFw * (1 + (1 / 2) ^ 2) := by
  have := stroke_reach_factor (exEnvJ .miter) _ (exHypJ _ (Or.inr (Or.inl rfl))) exPt 3 1 (by norm_num)
  have e1 : tauAbs exPt 3 1 = 1 / 2 := by
    simp only [tauAbs]; norm_num; rw [exTau0]; norm_num [abs_of_neg]
  have e2 : tauAbs exPt 3 (1 + 1) = 1 / 2 := by
    simp only [tauAbs]; norm_num; rw [exTau1]; norm_num [abs_of_pos]
  rw [e1, e2] at this
  simpa using this

/-- `LineJoin::MiterClip` (miter limit 4: both miters of this polyline are kept) -/
example (store : Nat → List ℝ) (s u : ℝ) (hs : 0 ≤ s) (hs1 : s ≤ 1) (hu : -1 ≤ u) (hu1 : u ≤ 1) :
    ∃ t ∈ (runEvents (exEnvJ .miterClip) store (polyEvs exPt 3)).st.out.tris, ∃ v1 v2 v3 : VData ℝ,
      (runEvents (exEnvJ .miterClip) store (polyEvs exPt 3)).st.out.verts[t.1]? = some v1
      ∧ (runEvents (exEnvJ .miterClip) store (polyEvs exPt 3)).st.out.verts[t.2.1]? = some v2
      ∧ (runEvents (exEnvJ .miterClip) store (polyEvs exPt 3)).st.out.verts[t.2.2]? = some v3
      ∧ InTri (bandPoint (exPt 0) (exPt 1) ((perp (eT exPt 0)).smul (exEnvJ .miterClip).hwFw) s u)
          (v1.read.position, v2.read.position, v3.read.position) :=
  stroke_polyline_covers_rectangles (exEnvJ .miterClip) _ (exHypJ _ (Or.inr (Or.inr (Or.inl rfl)))) store exPt 3 (by norm_num)
    (exRegimeJ _) 0 (by norm_num) s u hs hs1 hu hu1

/-- the hypotheses of `stroke_polyline_emission_shape` hold for the example (they are part of `exRegime`) -/
example (store : Nat → List ℝ) : Emitted exEnv exPt 3 (runEvents exEnv store (polyEvs exPt 3)).st.out :=
  stroke_polyline_emission_shape exEnv store rfl (by decide) (by decide) (by decide) (ne_of_gt exHyp.hw) exPt 3
    (by norm_num) exRegime.far
    (fun i h1 h2 => by
      obtain ⟨i', rfl⟩ : ∃ i', i = i' + 1 := ⟨i - 1, by omega⟩
      exact exRegime.noFold i' (by omega))

/-- the regime without the fold test, and the fold test it implies -/
example : RegimeCore exEnv (1 / 10 ^ 8) exPt 3 ∧ Regime exEnv (1 / 10 ^ 8) exPt 3 :=
  have hc : RegimeCore exEnv (1 / 10 ^ 8) exPt 3 := ⟨exRegime.far, exRegime.long, exRegime.noUturn, exRegime.room⟩
  ⟨hc, regime_core_suffices exEnv _ exHyp exPt 3 hc⟩

/-- the public entry point on the example path: whatever `tessellate` returns covers the rectangles -/
example (out : Out ℝ) (ho : tessellateFw exEnv (polyPath exPt 3) = some out) :
    ∃ t ∈ out.tris, ∃ v1 v2 v3 : VData ℝ,
      out.verts[t.1]? = some v1 ∧ out.verts[t.2.1]? = some v2 ∧ out.verts[t.2.2]? = some v3
      ∧ InTri (bandPoint (exPt 2) (exPt 3) ((perp (eT exPt 2)).smul (exEnv.o.lineWidth * half)) (1 / 2) (1 / 3))
          (v1.read.position, v2.read.position, v3.read.position) :=
  stroke_polyline_covers_tessellate exEnv _ exHyp exPt 3 (by norm_num) exRegime out ho 2 (by norm_num) (1 / 2) (1 / 3)
    (by norm_num) (by norm_num) (by norm_num) (by norm_num)

end Real

end Lyon.C06b
