/-
  C02 (part d) — the triangles of a fill as the CALLER reads them out of his buffers.

  The tiling statement of C02 is about the triangles "produced for a fill".  A caller of
  `FillTessellator` does not see vertex ids: he finds positions in `VertexBuffers.vertices` and
  numbers in `VertexBuffers.indices`, written by a `BuffersBuilder` that may have been handed buffers
  which already hold geometry, for an index type of his choice.  The theorems here are about the
  executable models the `bufidx` family of the C02 check runs against the real `BuffersBuilder`
  (`Model/Tess/GeomBuilder.lean`, `Model/Tess/Skeleton.lean`, shared with C04):

  * `fill_triangles_independent_of_prior_contents` — for every index configuration, every prior
    buffer contents `B` and every well-scoped request sequence of the fill core (in particular the
    modelled sweep's: `Lyon.SweepIdx.sweep_protocol_indices`): if prior and new vertices together
    fit the index type (`|B| + #vertices ≤ MAX`), the call succeeds, `B` is an untouched prefix,
    every new stored index names a vertex of THIS fill, and the list of triangles RESOLVED THROUGH
    THE BUFFER (index → vertex payload) is the very list obtained from the same fill into empty
    buffers.  So a whole-fill tiling verdict does not depend on what the buffers held before.
  * `fill_beyond_index_range_refused` — the other side of the fit hypothesis, for every `B` whose
    size itself still fits: when `|B| + #vertices > MAX` the call returns `TooManyVertices` and the
    buffers are exactly `B` again (no triangle with a wrapped index can be left behind).
  * `limit_counts_prior_vertices_witness` — why the limit has to count the vertices that were in the
    buffers before `begin_geometry`: ids are absolute positions, and `as u16` of an id ≥ 65536 names
    a PRIOR vertex (conv 65536 = 0).
-/
import LyonVerif.Lemmas.C04Spec

set_option linter.unusedSimpArgs false

namespace Lyon.C02d
open Lyon Lyon.Tess Lyon.C04

/-- The triangles a caller reads: the index slice resolved through the vertex buffer
(`none` = the index names no vertex of the buffer). -/
def resolved (vs : List Nat) (is : List Nat) : List (Option Nat) := is.map (fun i => vs[i]?)

theorem resolved_shift (Bv vs : List Nat) (is : List Nat) :
    resolved (Bv ++ vs) (is.map (· + Bv.length)) = resolved vs is := by
  simp only [resolved, List.map_map]
  apply List.map_congr_left
  intro i _
  simp only [Function.comp]
  rw [List.getElem?_append_right (by omega)]
  congr 1
  omega

/-- **Prior buffer contents do not change the triangles of a fill** (see the file header). -/
theorem fill_triangles_independent_of_prior_contents (B : Buffers) (cfg : IdxCfg) (core : List CReq)
    (hw : wellScoped 0 core = true)
    (hfit : B.vertices.length + nVerts core ≤ cfg.max) (hm1 : cfg.max ≤ cfg.modulus) (hm2 : cfg.max ≤ idxMod) :
    let o0 := tessellateImpl bbSink true core none (BB.new ⟨[], []⟩ cfg)
    let oB := tessellateImpl bbSink true core none (BB.new B cfg)
    oB.result = none ∧
    oB.st.buf.vertices.take B.vertices.length = B.vertices ∧
    oB.st.buf.indices.take B.indices.length = B.indices ∧
    (∀ i ∈ oB.st.buf.indices.drop B.indices.length, B.vertices.length ≤ i ∧ i < oB.st.buf.vertices.length) ∧
    resolved oB.st.buf.vertices (oB.st.buf.indices.drop B.indices.length)
      = resolved o0.st.buf.vertices o0.st.buf.indices := by
  obtain ⟨r0, s0⟩ := tessellateImpl_fit ⟨[], []⟩ cfg core hw (by simp at hfit ⊢; omega) hm1 hm2
  obtain ⟨rB, sB⟩ := tessellateImpl_fit B cfg core hw hfit hm1 hm2
  simp only [r0, rB, s0, sB, List.take_left', List.drop_left', List.nil_append, List.length_nil, true_and]
  refine ⟨fun i hi => ?_, ?_⟩
  · -- a new index is `|B| + a` for a corner ordinal `a`, and ordinals stay below the number of vertices
    obtain ⟨a, ha, rfl⟩ := List.mem_map.mp hi
    have := corners_lt core 0 hw a ha
    simp only [List.length_append, payloads_length]; omega
  · have := resolved_shift B.vertices (payloads core) (corners core)
    simpa [Nat.add_comm] using this

example : let core := [CReq.v 0, .v 1, .v 2, .v 3, .t 0 1 2, .t 0 2 3]
    let B : Buffers := ⟨[7, 7, 7], [1, 0, 2]⟩
    wellScoped 0 core = true ∧ B.vertices.length + nVerts core ≤ IndexTy.u16.cfg.max ∧
    IndexTy.u16.cfg.max ≤ IndexTy.u16.cfg.modulus ∧ IndexTy.u16.cfg.max ≤ idxMod ∧
    (tessellateImpl bbSink true core none (BB.new B IndexTy.u16.cfg)).st.buf = ⟨[7, 7, 7, 0, 1, 2, 3], [1, 0, 2, 3, 4, 5, 3, 5, 6]⟩ ∧
    resolved [7, 7, 7, 0, 1, 2, 3] [3, 4, 5, 3, 5, 6] = resolved [0, 1, 2, 3] [0, 1, 2, 0, 2, 3] := by decide

/-- **A fill that would pass the index type's range is refused as a whole**: for every index
configuration, every prior contents `B` (itself within the range, fewer than 2^32 indices) and
every request sequence: if prior and new vertices together exceed `MaxIndex::MAX`, the call returns
`TooManyVertices` and the buffers are exactly `B` — no triangle whose index wrapped around onto a
prior vertex is ever left in the caller's buffers. -/
theorem fill_beyond_index_range_refused (B : Buffers) (cfg : IdxCfg) (core : List CReq)
    (hB : B.vertices.length ≤ cfg.max) (hm2 : cfg.max < idxMod) (hi : B.indices.length < idxMod)
    (hover : B.vertices.length + nVerts core > cfg.max) :
    let oB := tessellateImpl bbSink true core none (BB.new B cfg)
    oB.result = some (.geometryBuilder .tooManyVertices) ∧ oB.st.buf = B := by
  have herr := runQ_refused core (bbSink.begin (BB.new B cfg)) [] (by simpa [bbSink, BB.begin, BB.new] using hB)
    (by simpa [bbSink, BB.begin, BB.new] using hover)
  have hres : (tessellateImpl bbSink true core none (BB.new B cfg)).result = some (.geometryBuilder .tooManyVertices) := by
    simp [tessellateImpl, herr]
  exact ⟨hres, tessellateImpl_failed B cfg true core none (by omega) hi (by rw [hres]; simp)⟩

example : let core := [CReq.v 0, .v 1, .v 2, .t 0 1 2]
    let B : Buffers := ⟨[7, 7, 7], [1, 0, 2]⟩
    let cfg : IdxCfg := ⟨5, 8⟩
    B.vertices.length ≤ cfg.max ∧ cfg.max < idxMod ∧ B.indices.length < idxMod ∧
    B.vertices.length + nVerts core > cfg.max ∧
    (tessellateImpl bbSink true core none (BB.new B cfg)).result = some (.geometryBuilder .tooManyVertices) ∧
    (tessellateImpl bbSink true core none (BB.new B cfg)).st.buf = B := by decide

/-- **Why the limit counts the prior vertices**: vertex ids are absolute positions in
`VertexBuffers.vertices` and `add_triangle` stores `id as u16`.  An id past the range does not
name the vertex it was handed out for: 65536 is stored as 0, 65540 as 4 — vertices that were in
the buffers before this fill.  (A check of `len - first_vertex` against `MAX` would accept such
ids whenever the buffers were not empty at `begin_geometry`.) -/
theorem limit_counts_prior_vertices_witness :
    (BB.new ⟨[], []⟩ IndexTy.u16.cfg).conv 65536 = 0 ∧ (BB.new ⟨[], []⟩ IndexTy.u16.cfg).conv 65540 = 4 ∧
    (BB.new ⟨[], []⟩ IndexTy.u16.cfg).conv 65534 = 65534 := by decide

end Lyon.C02d
