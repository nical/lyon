/-
  C11 over ℝ: the hypotheses of the arc theorems of `Props/C11.lean` discharged for the real
  trigonometric functions of Mathlib.

  `arc_box_contains` (any ordered field, trigonometry as parameters) takes `AngleLaws` and, per
  coordinate, the hypothesis that the coordinate of `Arc.sample` is monotone on parameter ranges
  avoiding the angles `x_ext_angle + kπ` (resp. `y_ext_angle + kπ`).  Here `Transc ℝ` is
  instantiated with `Real.sin/cos/tan/sqrt/π` and C's `fmod`, `Atan ℝ` with `Real.arctan` (and
  `atan(y/0) = ±π/2` for the IEEE quotient), and both hypotheses are *proved*, by the argument of the
  Béziers: the derivative of a coordinate `C + P cos θ + Q sin θ` along the arc vanishes at
  `θ₀ = −arctan((ry/rx) tan φ)` (resp. the y angle) and then only at `θ₀ + kπ`, so strictly between
  those angles it keeps its sign (`signConst_of_no_zero`) and the coordinate is monotone
  (`monoOn_of_hasDerivAt`).
  Result: `arc_box_contains_real` — for real arcs with positive radii, `cos φ ≠ 0` and
  `0 < |sweep| ≤ 2π` the exact bounding box contains the arc, no hypothesis about trigonometry left.
  (`cos φ = 0` is excluded because Mathlib's `tan (π/2) = 0` is not what `tanf` returns; a float
  `x_rotation` is never exactly `π/2`.)
-/
import LyonVerif.Props.C11
import Mathlib.Analysis.SpecialFunctions.Trigonometric.Arctan
import Mathlib.Analysis.Real.Pi.Bounds

set_option linter.unusedVariables false
set_option linter.style.haveILetI false
set_option warn.classDefReducibility false

namespace Lyon.C11
open Lyon Real

/-- C's `fmod`: `x − y·trunc(x/y)` -/
noncomputable def realFmod (x y : ℝ) : ℝ :=
  if 0 ≤ x / y then x - y * (⌊x / y⌋ : ℝ) else x - y * (⌈x / y⌉ : ℝ)

/-- `Transc ℝ` with Mathlib's real functions (fields the arc code does not use are placeholders) -/
noncomputable def realTransc : Transc ℝ where
  sqrt := Real.sqrt
  cbrt := fun _ => 0
  sin := Real.sin
  cos := Real.cos
  tan := Real.tan
  acos := Real.arccos
  atan2 := fun _ _ => 0
  pow := fun _ _ => 0
  log2 := fun _ => 0
  ln := Real.log
  floor := fun x => (⌊x⌋ : ℝ)
  ceil := fun x => (⌈x⌉ : ℝ)
  toNat := fun x => ⌊x⌋.toNat
  fmod := realFmod
  eps := 0
  pi := Real.pi
  isNaN := fun _ => false
  isFinite := fun _ => true

/-- `Atan ℝ`: `Real.arctan`, and the IEEE quotient form with `y / 0 = ±∞` -/
noncomputable def realAtan : Atan ℝ where
  atan := Real.arctan
  atanQuot := fun y x =>
    if x = 0 then (if 0 < y then π / 2 else if y < 0 then -(π / 2) else 0) else Real.arctan (y / x)

attribute [local instance] realTransc realAtan

/-- **`AngleLaws` holds for the real functions**: C's `fmod` by `2π` stays in `(−2π, 2π)` and differs
from its argument by a multiple of `2π` -/
theorem real_angle_laws : AngleLaws ℝ := by
  have hτ : (0 : ℝ) < π + π := by have := Real.pi_pos; linarith
  refine angleLaws_of_fmod Real.pi_gt_three Real.pi_lt_four fun x => ?_
  show (-(π + π) < realFmod x (π + π) ∧ realFmod x (π + π) < π + π) ∧ ∃ k : ℤ, realFmod x (π + π) = x + k * (π + π)
  unfold realFmod
  split_ifs with hq
  · have h1 := (le_div_iff₀ hτ).1 (Int.floor_le (x / (π + π)))
    have h2 := (div_lt_iff₀ hτ).1 (Int.lt_floor_add_one (x / (π + π)))
    exact ⟨⟨by linarith, by linarith⟩, -⌊x / (π + π)⌋, by push_cast; ring⟩
  · have h1 := (div_le_iff₀ hτ).1 (Int.le_ceil (x / (π + π)))
    have h2 := (lt_div_iff₀ hτ).1 (sub_lt_iff_lt_add.2 (Int.ceil_lt_add_one (x / (π + π))))
    exact ⟨⟨by linarith, by linarith⟩, -⌈x / (π + π)⌉, by push_cast; ring⟩

theorem real_positive_spec (x : ℝ) :
    0 ≤ Arc.positive x ∧ Arc.positive x < π + π ∧ ∃ k : ℤ, Arc.positive x = x + k * (π + π) :=
  ⟨(real_angle_laws.range x).1, (real_angle_laws.range x).2, real_angle_laws.cong x⟩

/-- a continuous function without a zero strictly inside `[lo,hi]` keeps its sign on `[lo,hi]` -/
theorem signConst_of_no_zero {g : ℝ → ℝ} (hg : Continuous g) {lo hi : ℝ}
    (h : ∀ x, lo < x → x < hi → g x ≠ 0) : SignConst g lo hi := by
  by_contra hc
  unfold SignConst at hc
  push Not at hc
  obtain ⟨⟨x, x0, x1, hx⟩, ⟨y, y0, y1, hy⟩⟩ := hc
  -- `g x < 0 < g y`: a zero strictly between `x` and `y`
  obtain ⟨z, hz, ez⟩ := intermediate_value_uIcc (f := g) (a := x) (b := y) hg.continuousOn
    (Set.mem_uIcc.2 (Or.inl ⟨hx.le, hy.le⟩))
  have hzx : x ≠ z := fun e => by rw [e, ez] at hx; exact lt_irrefl _ hx
  have hzy : z ≠ y := fun e => by rw [← e, ez] at hy; exact lt_irrefl _ hy
  rcases Set.mem_uIcc.1 hz with ⟨a, b⟩ | ⟨a, b⟩
  · exact h z (x0.trans_lt (lt_of_le_of_ne a hzx)) ((lt_of_le_of_ne b hzy).trans_le y1) ez
  · exact h z (y0.trans_lt (lt_of_le_of_ne a hzy.symm)) ((lt_of_le_of_ne b hzx.symm).trans_le x1) ez

/-- the analytic counterpart of `monoOn_of_simpson`, on the mean value theorem -/
theorem monoOn_of_hasDerivAt {f g : ℝ → ℝ} (hd : ∀ x, HasDerivAt f (g x) x) {lo hi : ℝ}
    (h : SignConst g lo hi) : MonoOn f lo hi := by
  have hc : ContinuousOn f (Set.Icc lo hi) := fun x _ => (hd x).continuousAt.continuousWithinAt
  have hi' : ∀ x ∈ interior (Set.Icc lo hi), lo ≤ x ∧ x ≤ hi := fun x hx => Set.mem_Icc.1 (interior_subset hx)
  refine h.imp (fun h s u a b c => ?_) (fun h s u a b c => ?_)
  · exact monotoneOn_of_hasDerivWithinAt_nonneg (convex_Icc lo hi) hc (fun x _ => (hd x).hasDerivWithinAt)
      (fun x hx => h x (hi' x hx).1 (hi' x hx).2) ⟨a, b.trans c⟩ ⟨a.trans b, c⟩ b
  · exact antitoneOn_of_hasDerivWithinAt_nonpos (convex_Icc lo hi) hc (fun x _ => (hd x).hasDerivWithinAt)
      (fun x hx => h x (hi' x hx).1 (hi' x hx).2) ⟨a, b.trans c⟩ ⟨a.trans b, c⟩ b

/-- **The characterisation used by `arc_box_contains`, proved for sinusoids.**  If `θ₀` is a
critical angle of `θ ↦ C + P cos θ + Q sin θ`, this function of the arc parameter is monotone on
every parameter range whose interior avoids the angles `θ₀ + k·2π` and `(π + θ₀) + k·2π`. -/
theorem sinusoid_mono_param (C P Q θ0 start sweep lo hi : ℝ) (h0 : -P * sin θ0 + Q * cos θ0 = 0)
    (hsw : sweep ≠ 0) (hlh : lo ≤ hi)
    (hfree : ∀ s, lo < s → s < hi → ∀ k : ℤ,
      ¬ (start + sweep * s = θ0 + k * (π + π) ∨ start + sweep * s = (π + θ0) + k * (π + π))) :
    MonoOn (fun s => C + (P * cos (start + sweep * s) + Q * sin (start + sweep * s))) lo hi := by
  have hd : ∀ s, HasDerivAt (fun s => C + (P * cos (start + sweep * s) + Q * sin (start + sweep * s)))
      (sweep * (-P * sin (start + sweep * s) + Q * cos (start + sweep * s))) s := fun s => by
    have hθ : HasDerivAt (fun s => start + sweep * s) sweep s := by
      simpa using ((hasDerivAt_id s).const_mul sweep).const_add start
    exact (((hθ.cos.const_mul P).add (hθ.sin.const_mul Q)).const_add C).congr_deriv (by ring)
  refine monoOn_of_hasDerivAt hd ?_
  by_cases hPQ : P = 0 ∧ Q = 0
  · exact Or.inl fun x _ _ => by simp only [hPQ.1, hPQ.2, neg_zero, zero_mul, add_zero, mul_zero, le_refl]
  · -- the derivative vanishes at `θ₀`; another zero `θ` strictly inside forces `sin (θ − θ₀) = 0`, i.e. `θ = θ₀ + jπ`
    refine signConst_of_no_zero (by fun_prop) fun s p q e => ?_
    have e' := (mul_eq_zero.1 e).resolve_left hsw
    have hs : sin (start + sweep * s - θ0) = 0 := by
      by_contra hne
      refine hPQ ⟨(mul_eq_zero.1 (?_ : P * sin (start + sweep * s - θ0) = 0)).resolve_right hne,
        (mul_eq_zero.1 (?_ : Q * sin (start + sweep * s - θ0) = 0)).resolve_right hne⟩
      · rw [Real.sin_sub]; linear_combination cos (start + sweep * s) * h0 - cos θ0 * e'
      · rw [Real.sin_sub]; linear_combination sin (start + sweep * s) * h0 - sin θ0 * e'
    obtain ⟨j, hj⟩ := Real.sin_eq_zero_iff.1 hs
    obtain ⟨m, hm | hm⟩ := Int.even_or_odd' j
    · exact hfree s p q m (Or.inl (by rw [hm] at hj; push_cast at hj; linarith))
    · exact hfree s p q m (Or.inr (by rw [hm] at hj; push_cast at hj; linarith))

/-- `x_ext_angle` is a critical angle of the x-coordinate of the rotated ellipse (`cos φ ≠ 0`) -/
theorem x_ext_angle_critical (arc : Arc ℝ) (hrx : arc.radii.x ≠ 0) (hc : cos arc.xrot ≠ 0) :
    -(arc.radii.x * cos arc.xrot) * sin arc.xExtAngle + (-(arc.radii.y * sin arc.xrot)) * cos arc.xExtAngle = 0 := by
  show -(arc.radii.x * cos arc.xrot) * sin (-(arctan (arc.radii.y * tan arc.xrot / arc.radii.x)))
    + (-(arc.radii.y * sin arc.xrot)) * cos (-(arctan (arc.radii.y * tan arc.xrot / arc.radii.x))) = 0
  rw [Real.sin_neg, Real.cos_neg, Real.sin_arctan, Real.cos_arctan]
  have hs : 0 < √(1 + (arc.radii.y * tan arc.xrot / arc.radii.x) ^ 2) :=
    Real.sqrt_pos.2 (by positivity)
  have ht := Real.tan_mul_cos hc
  field_simp
  linear_combination (arc.radii.y) * ht

/-- `y_ext_angle` is a critical angle of the y-coordinate (`cos φ ≠ 0`, positive radii) -/
theorem y_ext_angle_critical (arc : Arc ℝ) (hrx : 0 < arc.radii.x) (hry : 0 < arc.radii.y)
    (hc : cos arc.xrot ≠ 0) :
    -(arc.radii.x * sin arc.xrot) * sin arc.yExtAngle + (arc.radii.y * cos arc.xrot) * cos arc.yExtAngle = 0 := by
  show -(arc.radii.x * sin arc.xrot) * sin (Atan.atanQuot arc.radii.y (tan arc.xrot * arc.radii.x))
    + (arc.radii.y * cos arc.xrot) * cos (Atan.atanQuot arc.radii.y (tan arc.xrot * arc.radii.x)) = 0
  show -(arc.radii.x * sin arc.xrot) * sin (if tan arc.xrot * arc.radii.x = 0 then
        (if 0 < arc.radii.y then π / 2 else if arc.radii.y < 0 then -(π / 2) else 0)
        else arctan (arc.radii.y / (tan arc.xrot * arc.radii.x)))
    + (arc.radii.y * cos arc.xrot) * cos (if tan arc.xrot * arc.radii.x = 0 then
        (if 0 < arc.radii.y then π / 2 else if arc.radii.y < 0 then -(π / 2) else 0)
        else arctan (arc.radii.y / (tan arc.xrot * arc.radii.x))) = 0
  have ht := Real.tan_mul_cos hc
  by_cases hz : tan arc.xrot * arc.radii.x = 0
  · rw [if_pos hz, if_pos hry, Real.sin_pi_div_two, Real.cos_pi_div_two]
    have htan : tan arc.xrot = 0 := (mul_eq_zero.1 hz).resolve_right (ne_of_gt hrx)
    have hsin : sin arc.xrot = 0 := by rw [← ht, htan, zero_mul]
    rw [hsin]; ring
  · rw [if_neg hz, Real.sin_arctan, Real.cos_arctan]
    have hs : 0 < √(1 + (arc.radii.y / (tan arc.xrot * arc.radii.x)) ^ 2) := Real.sqrt_pos.2 (by positivity)
    have htan : tan arc.xrot ≠ 0 := fun h => hz (by rw [h, zero_mul])
    have hrx' : arc.radii.x ≠ 0 := ne_of_gt hrx
    field_simp
    linear_combination (arc.radii.y) * ht

/-- **The exact bounding box of a real arc contains the arc** — both sweep signs, any rotation
with `cos φ ≠ 0`, positive radii, `0 < |sweep| ≤ 2π`; trigonometry is Mathlib's, nothing assumed. -/
theorem arc_box_contains_real (arc : Arc ℝ) (hrx : 0 < arc.radii.x) (hry : 0 < arc.radii.y)
    (hc : cos arc.xrot ≠ 0) (hs : arc.sweep ≠ 0) (hb : |arc.sweep| ≤ π + π)
    (t : ℝ) (h0 : 0 ≤ t) (h1 : t ≤ 1) : Box.Contains arc.boundingBox (arc.sample t) := by
  refine arc_box_contains real_angle_laws arc hs hb ?_ ?_ t h0 h1
  · intro lo hi _ hlh _ hfree
    have e : ∀ s, (arc.sample s).x = arc.center.x + ((arc.radii.x * cos arc.xrot) * cos (arc.start + arc.sweep * s)
        + (-(arc.radii.y * sin arc.xrot)) * sin (arc.start + arc.sweep * s)) := by
      intro s
      show arc.center.x + (arc.radii.x * cos (arc.start + arc.sweep * s) * cos arc.xrot
        - arc.radii.y * sin (arc.start + arc.sweep * s) * sin arc.xrot) = _
      ring
    exact (sinusoid_mono_param arc.center.x (arc.radii.x * cos arc.xrot) (-(arc.radii.y * sin arc.xrot))
      arc.xExtAngle arc.start arc.sweep lo hi (x_ext_angle_critical arc (ne_of_gt hrx) hc) hs hlh hfree).congr e
  · intro lo hi _ hlh _ hfree
    have e : ∀ s, (arc.sample s).y = arc.center.y + ((arc.radii.x * sin arc.xrot) * cos (arc.start + arc.sweep * s)
        + (arc.radii.y * cos arc.xrot) * sin (arc.start + arc.sweep * s)) := by
      intro s
      show arc.center.y + (arc.radii.y * sin (arc.start + arc.sweep * s) * cos arc.xrot
        + arc.radii.x * cos (arc.start + arc.sweep * s) * sin arc.xrot) = _
      ring
    exact (sinusoid_mono_param arc.center.y (arc.radii.x * sin arc.xrot) (arc.radii.y * cos arc.xrot)
      arc.yExtAngle arc.start arc.sweep lo hi (y_ext_angle_critical arc hrx hry hc) hs hlh hfree).congr e

/-- … and the fast box contains every real arc (`|cos|, |sin| ≤ 1` are facts here) -/
theorem arc_fast_box_contains_real (arc : Arc ℝ) (t : ℝ) :
    Box.Contains arc.fastBoundingBox (arc.sample t) :=
  arc_fast_box_contains arc t (Real.abs_cos_le_one _) (Real.abs_sin_le_one _)

/-- non-vacuity of `arc_box_contains_real`: an unrotated arc of sweep −2 satisfying all side conditions -/
example : (0:ℝ) < 2 ∧ (0:ℝ) < 1 ∧ cos (0:ℝ) ≠ 0 ∧ (-2:ℝ) ≠ 0 ∧ |(-2:ℝ)| ≤ π + π := by
  refine ⟨by norm_num, by norm_num, by rw [Real.cos_zero]; norm_num, by norm_num, ?_⟩
  rw [abs_of_neg (by norm_num)]; have := Real.pi_gt_three; linarith

end Lyon.C11
