/-
  INDEX VALIDITY OF THE MODELLED SWEEP (C01 / C04), for every input.

  `Model/Tess/Sweep.lean` is the statement-by-statement model of `FillTessellator` that family
  `sweep:32` of the C01 check ties bit for bit to the real code (complete emission sequence).
  The theorems below are about that model: for EVERY list of polygonal sub-paths, every fill rule,
  orientation, tolerance, `handle_intersections` flag and entry point, and for every scalar type
  with `Scalar` / `Wide` instances (no arithmetic law is used: `f32` with its NaNs, an ordered
  field, anything) —

  * `sweep_indices_valid`        every `.tri a b c` in the emission sequence names only vertices
                                 emitted strictly before it: `a, b, c <` number of `.vertex`
                                 emissions before that position.  Whatever the outcome (`ok`,
                                 `Err`, `panic`, `unmodelled`, out of fuel): the prefix emitted
                                 before a failure is what the geometry builder has seen.
  * `sweep_impl_indices_valid`   the same for `tessellate_impl` on ANY event queue (sorted or not,
                                 well-linked or not, with ids or not) — so also for
  * `sweep_curves_indices_valid` the curved-input entry points (`Model/Tess/SweepCurves.lean`:
                                 flattening feeds the same `tessellate_impl`).
  * `sweep_protocol_indices`     the emission sequence, read as a request sequence of the C04
                                 skeleton (`toReqs`: vertex ↦ `v ordinal`, triangle ↦ `t a b c`),
                                 is `wellScoped` — the hypothesis of C04's index theorems; hence
  * `sweep_ids_fresh`            C04's `ids_fresh_fill` for the concrete sweep: for every geometry
                                 builder and every fault position the fill skeleton driven by the
                                 modelled sweep issues only triangles whose ids were returned
                                 since `begin_geometry`;
  * `sweep_success_indices_valid` C04's `fill_success_indices_valid` for the concrete sweep: into a
                                 `BuffersBuilder` with prior contents, on `Ok` every new index
                                 points at a new vertex;
  * `sweep_offset_shift`         C04's `offset_shift` for the concrete sweep.

  How: an invariant on the sweep state (`Lemmas/SweepIdxInv.lean`: every id held by an active
  edge, by a live span's monotone tessellator — stacks, side chains, recorded triangles — and the
  current vertex is below the number of vertices emitted; the output emitted so far is valid),
  shown to be preserved by every step function on success AND on failure (Hoare triples in
  `Std.Do`, `Lemmas/SweepIdx{Steps,Loop}.lean`; the monotone stage in
  `Lemmas/SweepIdxMono.lean`), lifted through the fuel-bounded loop.

  Not proved: that the three ids of a triangle are pairwise distinct.  No violation occurs in
  the correspondence runs, but it is not a consequence of a discrete
  invariant for an arbitrary `Scalar`: `scan_active_edges` decides "the current point is on this
  edge" twice with two different tests (`edgeBefore`, `isEdgeConnecting`), and when they disagree a
  span could be handed the same vertex as a left and as a right vertex; excluding that needs
  the order laws of the scalar type and the geometry of the sweep.
-/
import LyonVerif.Lemmas.SweepIdxLoop
import LyonVerif.Lemmas.SweepIdxZ
import LyonVerif.Model.Tess.SweepCurves
import LyonVerif.Props.C04

set_option linter.unusedSectionVars false

namespace Lyon.SweepIdx
open Lyon Lyon.Scalar Lyon.Mono Lyon.Sweep Lyon.EQ Lyon.Tess

variable {α : Type} [Scalar α] [Wide α]

/-- number of `.vertex` emissions strictly before position `i` -/
def vertsBefore (out : Array (Emit α)) (i : Nat) : Nat := nVerts (out.toList.take i)

/-- the index property of an emission sequence, positionally -/
def IndicesValid (out : Array (Emit α)) : Prop :=
  ∀ (i a b c : Nat), out[i]? = some (.tri a b c) →
    a < vertsBefore out i ∧ b < vertsBefore out i ∧ c < vertsBefore out i

theorem indicesValid_of_outOk {out : Array (Emit α)} {n : Nat} (h : OutOk out n) : IndicesValid out := by
  intro i a b c hi
  have := validFrom_getElem 0 out.toList h.1 i a b c (by simpa using hi)
  simpa [vertsBefore] using this

/-- In the emission sequence of the modelled `FillTessellator`, for every
input, every triangle names only vertices emitted strictly before it — whatever the outcome. -/
theorem sweep_indices_valid (entry : Entry) (rule : Slab.Rule) (horizontal : Bool) (tol : α)
    (handleIx : Bool) (subs : List (SubPath α)) :
    IndicesValid (tessellate entry rule horizontal tol handleIx subs).2.1 := by
  obtain ⟨n, h⟩ := tessellate_outOk entry rule horizontal tol handleIx subs
  exact indicesValid_of_outOk h

/-- The same for `tessellate_impl` started on ANY event queue. -/
theorem sweep_impl_indices_valid (q : Queue α) (rule : Slab.Rule) (horizontal : Bool) (tol : α)
    (handleIx : Bool) : IndicesValid (tessellateImpl q rule horizontal tol handleIx).2.1 := by
  obtain ⟨n, h⟩ := tessellateImpl_outOk q rule horizontal tol handleIx
  exact indicesValid_of_outOk h

/-- The curved-input entry points (flattening feeds the same `tessellate_impl`). -/
theorem sweep_curves_indices_valid [Transc α] [FlatConst α] (mode : SweepCurves.IdMode) (rule : Slab.Rule) (horizontal : Bool) (tol : α)
    (handleIx : Bool) (cmds : List (SweepCurves.Cmd α)) :
    IndicesValid (SweepCurves.tessellate mode rule horizontal tol handleIx cmds).1.2.1 :=
  curves_tessellate_cases (fun r => IndicesValid r.1.2.1) mode rule horizontal tol handleIx cmds
    (indicesValid_of_outOk outOk_empty) (fun _ => indicesValid_of_outOk outOk_empty)
    fun _ _ _ => sweep_impl_indices_valid _ _ _ _ _

/-- all triangle ids are below the total number of vertices emitted (the geometry builder hands
out the ids `0, 1, 2, …` in order, so every id names a vertex that exists) -/
theorem sweep_indices_lt_total (entry : Entry) (rule : Slab.Rule) (horizontal : Bool) (tol : α)
    (handleIx : Bool) (subs : List (SubPath α)) (a b c : Nat)
    (h : Emit.tri a b c ∈ (tessellate entry rule horizontal tol handleIx subs).2.1) :
    a < nVerts (tessellate entry rule horizontal tol handleIx subs).2.1.toList ∧
    b < nVerts (tessellate entry rule horizontal tol handleIx subs).2.1.toList ∧
    c < nVerts (tessellate entry rule horizontal tol handleIx subs).2.1.toList := by
  obtain ⟨n, hn⟩ := tessellate_outOk entry rule horizontal tol handleIx subs
  exact outOk_mem hn h

/-- the emission sequence as requests of the C04 skeleton: the `k`-th vertex is `v k` (payload =
its ordinal), a triangle names its corners by ordinal — exactly the ids the model emits -/
def toReqsFrom : Nat → List (Emit α) → List CReq
  | _, [] => []
  | k, .vertex _ _ :: r => .v k :: toReqsFrom (k + 1) r
  | k, .tri a b c :: r => .t a b c :: toReqsFrom k r

def toReqs (out : Array (Emit α)) : List CReq := toReqsFrom 0 out.toList

theorem wellScoped_toReqsFrom : ∀ (n k : Nat) (l : List (Emit α)), ValidFrom n l →
    C04.wellScoped n (toReqsFrom k l) = true
  | n, k, [], _ => rfl
  | n, k, .vertex _ _ :: r, h => by
    simp only [toReqsFrom, C04.wellScoped]
    exact wellScoped_toReqsFrom (n + 1) (k + 1) r h
  | n, k, .tri a b c :: r, h => by
    simp only [toReqsFrom, C04.wellScoped, Bool.and_eq_true, decide_eq_true_eq]
    exact ⟨⟨⟨h.1.1, h.1.2.1⟩, h.1.2.2⟩, wellScoped_toReqsFrom n k r h.2⟩

theorem nVerts_toReqsFrom : ∀ (k : Nat) (l : List (Emit α)), Tess.nVerts (toReqsFrom k l) = nVerts l
  | k, [] => rfl
  | k, .vertex _ _ :: r => by simp only [toReqsFrom, Tess.nVerts, nVerts, nVerts_toReqsFrom (k + 1) r]
  | k, .tri _ _ _ :: r => by simp only [toReqsFrom, Tess.nVerts, nVerts, nVerts_toReqsFrom k r]

theorem wellScoped_of_outOk {out : Array (Emit α)} {n : Nat} (h : OutOk out n) :
    C04.wellScoped 0 (toReqs out) = true := wellScoped_toReqsFrom 0 0 _ h.1

/-- **C04 hypothesis discharged for the concrete sweep**: the request sequence of the modelled
sweep is well scoped (the hypothesis `hw` of `C04.ids_fresh_fill`, `C04.fill_success_indices_valid`,
`C04.offset_shift`), for every input and every outcome. -/
theorem sweep_protocol_indices (entry : Entry) (rule : Slab.Rule) (horizontal : Bool) (tol : α)
    (handleIx : Bool) (subs : List (SubPath α)) :
    C04.wellScoped 0 (toReqs (tessellate entry rule horizontal tol handleIx subs).2.1) = true := by
  obtain ⟨n, h⟩ := tessellate_outOk entry rule horizontal tol handleIx subs
  exact wellScoped_of_outOk h

/-- **`ids_fresh` for the modelled sweep**: whatever geometry builder `S` the fill skeleton
(`Tess.tessellateImpl`, C04) drives with the requests of the modelled sweep, whatever error the
loop ends with and wherever the builder refuses a vertex, every triangle call uses ids returned
since `begin_geometry`. -/
theorem sweep_ids_fresh {σ : Type} (S : Sink σ) (coreErr : Option TErr) (s : σ)
    (entry : Entry) (rule : Slab.Rule) (horizontal : Bool) (tol : α) (handleIx : Bool)
    (subs : List (SubPath α)) :
    C04.idsFresh [] (Tess.tessellateImpl S true
      (toReqs (tessellate entry rule horizontal tol handleIx subs).2.1) coreErr s).trace = true :=
  C04.ids_fresh_fill S _ coreErr s (sweep_protocol_indices entry rule horizontal tol handleIx subs)

/-- **Success gives valid indices, for the modelled sweep**: `C04.fill_success_indices_valid`
with its well-scopedness hypothesis discharged. -/
theorem sweep_success_indices_valid (b : BB) (entry : Entry) (rule : Slab.Rule) (horizontal : Bool) (tol : α)
    (handleIx : Bool) (subs : List (SubPath α))
    (hv : b.buf.vertices.length < idxMod)
    (hw1 : (Tess.tessellateImpl bbSink true (toReqs (tessellate entry rule horizontal tol handleIx subs).2.1) none b
      ).st.buf.vertices.length + b.vertexOffset ≤ idxMod)
    (hw2 : (Tess.tessellateImpl bbSink true (toReqs (tessellate entry rule horizontal tol handleIx subs).2.1) none b
      ).st.buf.vertices.length + b.vertexOffset ≤ b.cfg.modulus)
    (hok : (Tess.tessellateImpl bbSink true (toReqs (tessellate entry rule horizontal tol handleIx subs).2.1) none b
      ).result = none) :
    let f := (Tess.tessellateImpl bbSink true (toReqs (tessellate entry rule horizontal tol handleIx subs).2.1) none b
      ).st.buf
    ∃ vs is, f.vertices = b.buf.vertices ++ vs ∧ f.indices = b.buf.indices ++ is ∧
      ∀ i ∈ is, b.buf.vertices.length + b.vertexOffset ≤ i ∧ i < f.vertices.length + b.vertexOffset :=
  C04.fill_success_indices_valid b _ (sweep_protocol_indices entry rule horizontal tol handleIx subs) hv hw1 hw2 hok

/-- **Prior contents only shift the output, for the modelled sweep**: `C04.offset_shift` with its
well-scopedness hypothesis discharged (the vertex count is the number of `.vertex` emissions). -/
theorem sweep_offset_shift (B : Buffers) (cfg : IdxCfg) (entry : Entry) (rule : Slab.Rule) (horizontal : Bool)
    (tol : α) (handleIx : Bool) (subs : List (SubPath α))
    (hfit : B.vertices.length + nVerts (tessellate entry rule horizontal tol handleIx subs).2.1.toList ≤ cfg.max)
    (hm1 : cfg.max ≤ cfg.modulus) (hm2 : cfg.max ≤ idxMod) :
    let core := toReqs (tessellate entry rule horizontal tol handleIx subs).2.1
    let o0 := Tess.tessellateImpl bbSink true core none (BB.new ⟨[], []⟩ cfg)
    let oB := Tess.tessellateImpl bbSink true core none (BB.new B cfg)
    o0.result = none ∧ oB.result = none ∧
    oB.st.buf.vertices = B.vertices ++ o0.st.buf.vertices ∧
    oB.st.buf.indices = B.indices ++ o0.st.buf.indices.map (· + B.vertices.length) :=
  C04.offset_shift B cfg _ (sweep_protocol_indices entry rule horizontal tol handleIx subs)
    (by rw [toReqs, nVerts_toReqsFrom]; exact hfit) hm1 hm2

/-- a triangle through `tessellate(path_events)`: three vertices, one triangle -/
example :
    let r := tessellate .events .nonZero false (⟨1⟩ : Z) true [([pz 0 0, pz 4 1, pz 1 4], true)]
    outcome r = "ok" ∧ toReqs r.2.1 = [.v 0, .v 1, .v 2, .t 1 0 2] := by decide +kernel

/-- two polygons (one concave) through the `FillBuilder`, horizontal sweep: vertices and triangles
interleave, every triangle names earlier vertices only -/
example :
    let r := tessellate .builder .nonZero true (⟨1⟩ : Z) true
      [([pz 0 0, pz 40 0, pz 40 40, pz 20 10, pz 0 40], true), ([pz 100 0, pz 140 10, pz 110 40], true)]
    outcome r = "ok" ∧
    toReqs r.2.1 = [.v 0, .v 1, .v 2, .v 3, .v 4, .t 1 0 2, .t 1 2 4, .t 2 3 4, .v 5, .v 6, .v 7, .t 5 6 7] ∧
    C04.wellScoped 0 (toReqs r.2.1) = true := by decide +kernel

/-- a run that FAILS after output was emitted (`PositionIsNaN` at the fifth event): the prefix the
geometry builder has seen is covered by `sweep_indices_valid` too -/
example :
    let r := tessellate .events .nonZero false (⟨1⟩ : Z) true
      [([pz 0 0, pz 40 10, pz 10 40], true), ([pz 100 100, pz 777777 110, pz 110 140], true)]
    outcome r = "UnsupportedParamater(PositionIsNaN)" ∧
    toReqs r.2.1 = [.v 0, .v 1, .v 2, .t 1 0 2, .v 3] := by decide +kernel

/-- the property is not trivially true: a triangle before its vertices violates it, and a
well-formed sequence satisfies it -/
example : ¬ IndicesValid (#[.vertex (pz 0 0) [], .tri 0 1 0, .vertex (pz 1 1) []] : Array (Emit Z)) := by
  intro h
  have := (h 1 0 1 0 rfl).2.1
  simp [vertsBefore, nVerts] at this

example : IndicesValid (#[.vertex (pz 0 0) [], .vertex (pz 1 1) [], .tri 0 1 0] : Array (Emit Z)) :=
  indicesValid_of_outOk (n := 2) ⟨⟨⟨by omega, by omega, by omega⟩, trivial⟩, rfl⟩

/-- the state invariant is satisfiable with a live span: after `begin_span` + one vertex -/
example :
    let t : Adv Z := (Adv.begin Adv.new (pz 0 0) 0).vertex (pz 1 1) 1 true
    AdvOk 2 t ∧ ¬ AdvOk 1 t := by
  refine ⟨adv_vertex_ok (adv_begin_ok _ _ _ (by omega)) _ _ _ (by omega), ?_⟩
  intro h
  have := h.left.last
  revert this
  decide +kernel

end Lyon.SweepIdx
