/-
  C11, path level (continuation of Props/C11.lean): the box `lyon_algorithms::aabb::bounding_box`
  returns for a path, as a function of the path's events the way `Path::iter` yields them
  (`Model/Algo/Aabb.lean`: builder calls → events → fold).

  For every event list `Path::iter` can yield the returned box IS the union of the exact boxes of the
  path's pieces — the segments from their `from` points, closing edges included, although the code
  never reads the `from` of a line nor the closing edge (`path_box_is_union`) — and is touched on all
  four sides (`path_box_touched`); `Path::reversed` gets the same box (`path_box_reversed`).

  The union characterisation is what makes the box independent of the HISTORY of the path (order
  of the events, direction of the segments): a fold step that looks at what was accumulated before
  (such as skipping a curve whose control polygon seems to be covered already) is only correct if
  it still yields this union.

  How the two equalities are proved: the two folds are walked forward together with the state of
  `Iter` (current and first point), and their accumulators satisfy an equation at every step
  (`tight_fold_eq_seg_fold`: equal, because the box read so far contains the current and the first
  point; `rev_fold_inv`: the forward fold is the fold over the reversed events joined with the
  current point).  For the fold, `Path::reversed` is a map on the events (`reversedGo_toPEv`); the
  order in which it emits them does not matter (`aabb_fold_perm`).

  The event language used here (`PCmd`, `FEv`, `events`, `reversed` of `Model/Algo/Aabb.lean`, which the C11
  driver runs; `WF`, `CmdsOk`, `Ended` below) stands beside the trace language of `Model/Path/Trace.lean`
  (`Path.Call`, `Path.Event`, `specEvents`, `WellNested`, `Path.WellFormed`) and `reverseEvents` of
  `Lemmas/PathReversed.lean`, on which C14–C17 and C19 rest.  The two say the same thing (`CmdsOk false` is
  `WellNested`; `Path.WellFormed` is `WF none` together with `Ended false`) but no map between them is stated,
  and the iterator state is `(current, first)` here, `(first, current)` in `Path.specFrom`.
-/
import LyonVerif.Props.C11
import LyonVerif.Model.Algo.Aabb

set_option linter.unusedSectionVars false

namespace Lyon.C11

open Lyon Lyon.PathBox

variable {K : Type} [Field K] [LinearOrder K] [IsStrictOrderedRing K] [Transc K]

/-- the state of `Iter`: (current endpoint, first endpoint of the sub-path); `none` before the
first `Begin`.  Every segment starts at the current endpoint, `End` reports the current and the
first endpoint. -/
def WF : Option (P K × P K) → List (FEv K) → Prop
  | _, [] => True
  | _, FEv.begin p :: r => WF (some (p, p)) r
  | some (cur, first), FEv.line f p :: r => f = cur ∧ WF (some (p, first)) r
  | some (cur, first), FEv.quad f _ p :: r => f = cur ∧ WF (some (p, first)) r
  | some (cur, first), FEv.cubic f _ _ p :: r => f = cur ∧ WF (some (p, first)) r
  | some (cur, first), FEv.end_ l f _ :: r => l = cur ∧ f = first ∧ WF (some (cur, first)) r
  | none, FEv.line _ _ :: _ => False
  | none, FEv.quad _ _ _ :: _ => False
  | none, FEv.cubic _ _ _ _ :: _ => False
  | none, FEv.end_ _ _ _ :: _ => False

/-- the point of the piece of the path an event stands for, at parameter `t` (a non-closing `End`
stands for the endpoint the sub-path stops at) -/
noncomputable def evPoint : FEv K → K → P K
  | .begin p, _ => p
  | .line f p, t => Seg.sample ⟨f, p⟩ t
  | .quad f c p, t => Quad.sample ⟨f, c, p⟩ t
  | .cubic f c1 c2 p, t => Cubic.sample ⟨f, c1, c2, p⟩ t
  | .end_ l f true, t => Seg.sample ⟨l, f⟩ t
  | .end_ l _ false, _ => l

theorem eventsFrom_wf (cmds : List (PCmd K)) : ∀ cur first : P K,
    WF (some (cur, first)) (eventsFrom cur first cmds) := by
  induction cmds with
  | nil => intro _ _; trivial
  | cons c r ih =>
    intro cur first
    cases c with
    | begin p => exact ih p p
    | lineTo p => exact ⟨rfl, ih p first⟩
    | quadTo c p => exact ⟨rfl, ih p first⟩
    | cubicTo c1 c2 p => exact ⟨rfl, ih p first⟩
    | end_ close => exact ⟨rfl, rfl, ih cur first⟩

/-- **What the tie runs is what the theorems are about**: the events of any sequence of builder
calls that starts with `begin` (lyon's builder refuses anything else) form a list as `Path::iter`
yields it. -/
theorem events_wellFormed (p : P K) (r : List (PCmd K)) : WF none (events (PCmd.begin p :: r)) :=
  eventsFrom_wf r p p

theorem join_eq (a b : Box K) : PathBox.join a b = boxJoin a b := by
  simp only [PathBox.join, boxJoin, P.pmin, P.pmax, emin_eq, emax_eq]

theorem unionBoxes_cons (b : Box K) (r : List (Box K)) : unionBoxes (b :: r) = r.foldl boxJoin b := by
  have : (PathBox.join : Box K → Box K → Box K) = boxJoin := by
    funext a b; exact join_eq a b
  simp only [unionBoxes, this]

theorem seg_box_eq_join (a b : P K) : Seg.boundingBox ⟨a, b⟩ = boxJoin ⟨a, a⟩ ⟨b, b⟩ := (seg_box ⟨a, b⟩).1

theorem join_seg_absorb {A : Box K} {a b : P K} (ha : Box.Contains A a) (hb : Box.Contains A b) :
    boxJoin A (Seg.boundingBox ⟨a, b⟩) = A := by
  rw [seg_box_eq_join]
  exact (join_absorb (join_le (a := ⟨a, a⟩) (b := ⟨b, b⟩) ha hb)).1

/-- **the `from` points and the closing edges are covered although the fold never reads them**: walked
along a well-formed list from a box `A` that contains the current and the first point, the fold of
`aabb::bounding_box` and the join of the exact boxes of the pieces stay EQUAL — the `from` of a line and
both ends of a closing edge are in the box already, a curve's exact box is read by both and contains the
curve's end point; and the end point of every sub-path lies in the result -/
theorem tight_fold_eq_seg_fold (evs : List (FEv K)) : ∀ (A : Box K) (st : Option (P K × P K)), WF st evs →
    (∀ cur first, st = some (cur, first) → Box.Contains A cur ∧ Box.Contains A first) →
    (evs.map toPEv).foldl Aabb.tightStep A = (evs.filterMap segBox).foldl boxJoin A ∧
    ∀ e ∈ evs, ∀ l f c, e = FEv.end_ l f c → Box.Contains ((evs.map toPEv).foldl Aabb.tightStep A) l := by
  induction evs with
  | nil => intro A st _ _; exact ⟨rfl, fun e h => by cases h⟩
  | cons e r ih =>
    intro A st hw hst
    simp only [List.map_cons, List.foldl_cons, tightStep_eq]
    cases e with
    | begin p =>
      obtain ⟨i1, i2⟩ := ih (boxJoin A ⟨p, p⟩) (some (p, p)) hw fun _ _ h => by
        cases h; exact ⟨join_inside_right A _, join_inside_right A _⟩
      exact ⟨i1, List.forall_mem_cons.2 ⟨fun _ _ _ h => (nomatch h), i2⟩⟩
    | line f p =>
      obtain _ | ⟨cur, first⟩ := st
      · exact hw.elim
      · obtain ⟨rfl, hw⟩ := hw
        obtain ⟨hc, hf⟩ := hst _ _ rfl
        obtain ⟨i1, i2⟩ := ih (boxJoin A ⟨p, p⟩) (some (p, first)) hw fun _ _ h => by
          cases h; exact ⟨join_inside_right A _, contains_mono (join_inside_left A _) hf⟩
        refine ⟨?_, List.forall_mem_cons.2 ⟨fun _ _ _ h => (nomatch h), i2⟩⟩
        -- the segment's box is `f ⊔ p`, and `f` is in `A` already
        rw [List.filterMap_cons_some (by rfl : segBox (FEv.line f p) = some (Seg.boundingBox ⟨f, p⟩)),
          List.foldl_cons, seg_box_eq_join, ← join_assoc, (join_absorb (Y := ⟨f, f⟩) hc).1]
        exact i1
    | quad f c p =>
      obtain _ | ⟨cur, first⟩ := st
      · exact hw.elim
      · obtain ⟨rfl, hw⟩ := hw
        obtain ⟨i1, i2⟩ := ih (boxJoin A (Quad.boundingBox ⟨f, c, p⟩)) (some (p, first)) hw fun _ _ h => by
          cases h
          exact ⟨contains_mono (join_inside_right A _) (quad_box_contains_ends ⟨f, c, p⟩).2,
            contains_mono (join_inside_left A _) (hst _ _ rfl).2⟩
        exact ⟨i1, List.forall_mem_cons.2 ⟨fun _ _ _ h => (nomatch h), i2⟩⟩
    | cubic f c1 c2 p =>
      obtain _ | ⟨cur, first⟩ := st
      · exact hw.elim
      · obtain ⟨rfl, hw⟩ := hw
        obtain ⟨i1, i2⟩ := ih (boxJoin A (Cubic.boundingBox ⟨f, c1, c2, p⟩)) (some (p, first)) hw fun _ _ h => by
          cases h
          exact ⟨contains_mono (join_inside_right A _) (cubic_box_contains_ends ⟨f, c1, c2, p⟩).2,
            contains_mono (join_inside_left A _) (hst _ _ rfl).2⟩
        exact ⟨i1, List.forall_mem_cons.2 ⟨fun _ _ _ h => (nomatch h), i2⟩⟩
    | end_ l0 f0 c0 =>
      obtain _ | ⟨cur, first⟩ := st
      · exact hw.elim
      · obtain ⟨rfl, rfl, hw⟩ := hw
        obtain ⟨hc, hf⟩ := hst _ _ rfl
        obtain ⟨i1, i2⟩ := ih A _ hw hst
        refine ⟨?_, List.forall_mem_cons.2 ⟨fun _ _ _ h => ?_, i2⟩⟩
        · cases c0 with
          | false => exact i1
          | true =>
            rw [List.filterMap_cons_some (by rfl : segBox (FEv.end_ l0 f0 true) = some (Seg.boundingBox ⟨l0, f0⟩)),
              List.foldl_cons, join_seg_absorb hc hf]
            exact i1
        · cases h; exact contains_mono (aabb_fold_bounds A _).1.1 hc

theorem segBox_contains (hsq : ∀ d : K, 0 ≤ d → Transc.sqrt d * Transc.sqrt d = d)
    (hs0 : ∀ d : K, 0 ≤ d → 0 ≤ Transc.sqrt d) (e : FEv K) (y : Box K) (hy : segBox e = some y)
    (t : K) (h0 : 0 ≤ t) (h1 : t ≤ 1) : Box.Contains y (evPoint e t) := by
  cases e with
  | begin p => cases hy; exact ⟨le_refl _, le_refl _, le_refl _, le_refl _⟩
  | line f p => cases hy; exact (seg_box ⟨f, p⟩).2 t h0 h1
  | quad f c p => cases hy; exact quad_box_contains _ t h0 h1
  | cubic f c1 c2 p => cases hy; exact cubic_box_contains hsq hs0 _ t h0 h1
  | end_ l f c =>
    cases c with
    | false => cases hy
    | true => cases hy; exact (seg_box ⟨l, f⟩).2 t h0 h1

theorem segUnion_begin (p : P K) (l : List (FEv K)) :
    segUnion (FEv.begin p :: l) = (l.filterMap segBox).foldl boxJoin ⟨p, p⟩ := by
  unfold segUnion
  rw [List.filterMap_cons]
  exact unionBoxes_cons _ _

theorem segUnion_bounds (p : P K) (l : List (FEv K)) :
    (∀ e ∈ FEv.begin p :: l, ∀ y, segBox e = some y → Box.Inside y (segUnion (FEv.begin p :: l))) ∧
    ∀ X, (∀ e ∈ FEv.begin p :: l, ∀ y, segBox e = some y → Box.Inside y X) →
      Box.Inside (segUnion (FEv.begin p :: l)) X := by
  rw [segUnion_begin]
  obtain ⟨j1, j2⟩ := foldl_join_inside (l.filterMap segBox) ⟨p, p⟩
  refine ⟨fun e he y hy => ?_, fun X h => ?_⟩
  · rcases List.mem_cons.1 he with rfl | he
    · cases hy; exact j1
    · exact j2 y (List.mem_filterMap.2 ⟨e, he, hy⟩)
  · refine foldl_join_least X _ _ (h _ List.mem_cons_self _ rfl) fun y hy => ?_
    obtain ⟨e, he, hy⟩ := List.mem_filterMap.1 hy
    exact h e (List.mem_cons_of_mem _ he) y hy

/-- **`aabb::bounding_box` of a path is the union of the exact boxes of its segments, and contains
every point of every segment.**  For every event list `Path::iter` can yield (`WF none`; it then
starts with a `Begin` at some `p0`) whose first point is finite (`hfin`: `−big ≤ p0.x < big`, `−big ≤ p0.y ≤ big`;
`big` = `f32::MAX`, the start value of the fold; strict in `x` only, which is enough to keep the
code's empty-path test `min == (MAX, MAX)` from firing): the returned box equals the componentwise min / max over the exact
boxes of the `Begin` points, of every `Line` / `Quadratic` / `Cubic` taken from its `from` point
and of every closing edge — pieces of which the code reads only the `to` point, resp. nothing —
and every point of every piece, for every `t ∈ [0,1]`, lies in it (the `sqrt` laws are used for
the cubics only, as in `cubic_box_contains`). -/
theorem path_box_is_union (hsq : ∀ d : K, 0 ≤ d → Transc.sqrt d * Transc.sqrt d = d)
    (hs0 : ∀ d : K, 0 ≤ d → 0 ≤ Transc.sqrt d) (big : K) (p0 : P K) (r : List (FEv K))
    (hw : WF none (FEv.begin p0 :: r))
    (hfin : -big ≤ p0.x ∧ p0.x < big ∧ -big ≤ p0.y ∧ p0.y ≤ big) :
    pathBox big (FEv.begin p0 :: r) = segUnion (FEv.begin p0 :: r) ∧
    (∀ e ∈ FEv.begin p0 :: r, ∀ t, 0 ≤ t → t ≤ 1 →
      Box.Contains (pathBox big (FEv.begin p0 :: r)) (evPoint e t)) := by
  -- the fold is not at the sentinel, and its first step replaces the start box by the point `p0`
  have hA : pathBox big (FEv.begin p0 :: r) = (r.map toPEv).foldl Aabb.tightStep ⟨p0, p0⟩ := by
    unfold pathBox Aabb.boundingBox Aabb.finish
    rw [if_neg (aabb_not_sentinel big _ (PEv.begin p0) (by simp [toPEv]) _ p0 rfl rfl hfin.2.1)]
    simp only [List.map_cons, List.foldl_cons, tightStep_eq, toPEv, tightBox]
    rw [(join_absorb (X := ⟨p0, p0⟩) (Y := Aabb.start big) ⟨hfin.2.1.le, hfin.1, hfin.2.2.2, hfin.2.2.1⟩).2]
  obtain ⟨e1, e2⟩ := tight_fold_eq_seg_fold r ⟨p0, p0⟩ (some (p0, p0)) hw fun _ _ h => by
    cases h; exact ⟨inside_refl _, inside_refl _⟩
  have hU : pathBox big (FEv.begin p0 :: r) = segUnion (FEv.begin p0 :: r) := by rw [hA, e1, segUnion_begin]
  refine ⟨hU, fun e he t h0 h1 => ?_⟩
  cases hs : segBox e with
  | some y => exact contains_mono (hU ▸ (segUnion_bounds p0 r).1 e he y hs) (segBox_contains hsq hs0 e y hs t h0 h1)
  | none =>
    -- only a non-closing `End` has no piece; it stands for the point the sub-path stops at
    cases e with
    | end_ l f c =>
      cases c with
      | true => cases hs
      | false => rw [hA]; exact e2 _ ((List.mem_cons.1 he).resolve_left (by simp)) l f false rfl
    | _ => cases hs

theorem seg_sides_touched (a b : P K) : SidesTouched (Seg.boundingBox ⟨a, b⟩) (Seg.sample ⟨a, b⟩) := by
  obtain ⟨h1, h2, h3, h4⟩ := seg_box_touched (⟨a, b⟩ : Seg K)
  -- a side through an end point is touched at `t = 0` or `t = 1`
  have pick : ∀ (ψ : P K → K) (v : K), v = ψ a ∨ v = ψ b →
      ∃ t, 0 ≤ t ∧ t ≤ 1 ∧ ψ (Seg.sample ⟨a, b⟩ t) = v := fun ψ v h =>
    h.elim (fun h => ⟨0, le_rfl, zero_le_one, (congrArg ψ (C10.lerp_ends a b).1).trans h.symm⟩)
      (fun h => ⟨1, zero_le_one, le_rfl, (congrArg ψ (C10.lerp_ends a b).2).trans h.symm⟩)
  exact ⟨pick P.x _ h1, pick P.x _ h2, pick P.y _ h3, pick P.y _ h4⟩

theorem segBox_touched (e : FEv K) (y : Box K) (hy : segBox e = some y) : SidesTouched y (evPoint e) := by
  cases e with
  | begin p =>
    cases hy
    exact ⟨⟨0, le_refl _, zero_le_one, rfl⟩, ⟨0, le_refl _, zero_le_one, rfl⟩,
      ⟨0, le_refl _, zero_le_one, rfl⟩, ⟨0, le_refl _, zero_le_one, rfl⟩⟩
  | line f p => cases hy; exact seg_sides_touched f p
  | quad f c p => cases hy; exact quad_sides_touched _
  | cubic f c1 c2 p => cases hy; exact cubic_sides_touched _
  | end_ l f c =>
    cases c with
    | false => cases hy
    | true => cases hy; exact seg_sides_touched l f

/-- **The path's box is touched on all four sides**: under the hypotheses of `path_box_is_union`
each side of `aabb::bounding_box` passes through a point of a piece of the
path — the box cannot be made smaller. -/
theorem path_box_touched (hsq : ∀ d : K, 0 ≤ d → Transc.sqrt d * Transc.sqrt d = d)
    (hs0 : ∀ d : K, 0 ≤ d → 0 ≤ Transc.sqrt d) (big : K) (p0 : P K) (r : List (FEv K))
    (hw : WF none (FEv.begin p0 :: r))
    (hfin : -big ≤ p0.x ∧ p0.x < big ∧ -big ≤ p0.y ∧ p0.y ≤ big) :
    (∃ e ∈ FEv.begin p0 :: r, ∃ t, 0 ≤ t ∧ t ≤ 1 ∧ (evPoint e t).x = (pathBox big (FEv.begin p0 :: r)).min.x) ∧
    (∃ e ∈ FEv.begin p0 :: r, ∃ t, 0 ≤ t ∧ t ≤ 1 ∧ (evPoint e t).x = (pathBox big (FEv.begin p0 :: r)).max.x) ∧
    (∃ e ∈ FEv.begin p0 :: r, ∃ t, 0 ≤ t ∧ t ≤ 1 ∧ (evPoint e t).y = (pathBox big (FEv.begin p0 :: r)).min.y) ∧
    (∃ e ∈ FEv.begin p0 :: r, ∃ t, 0 ≤ t ∧ t ≤ 1 ∧ (evPoint e t).y = (pathBox big (FEv.begin p0 :: r)).max.y) := by
  rw [(path_box_is_union hsq hs0 big p0 r hw hfin).1, segUnion_begin]
  -- a side `φ` of the join is that side of one of the joined boxes, where a piece touches it
  have side : ∀ (φ : Box K → K) (ψ : P K → K),
      (∀ a b, φ (boxJoin a b) = φ a ∨ φ (boxJoin a b) = φ b) →
      (∀ y f, SidesTouched y f → ∃ t, 0 ≤ t ∧ t ≤ 1 ∧ ψ (f t) = φ y) →
      ∃ e ∈ FEv.begin p0 :: r, ∃ t, 0 ≤ t ∧ t ≤ 1 ∧
        ψ (evPoint e t) = φ ((r.filterMap segBox).foldl boxJoin ⟨p0, p0⟩) := by
    intro φ ψ hφ hψ
    obtain ⟨x, m, ex⟩ := foldl_join_attains φ hφ (r.filterMap segBox) ⟨p0, p0⟩
    obtain ⟨e, he, hy⟩ := List.mem_filterMap.1 (show x ∈ (FEv.begin p0 :: r).filterMap segBox from m)
    obtain ⟨t, h0, h1, ht⟩ := hψ x _ (segBox_touched e x hy)
    exact ⟨e, he, t, h0, h1, ht.trans ex.symm⟩
  exact ⟨side (·.min.x) P.x (fun _ _ => min_choice _ _) (fun _ _ h => h.1),
    side (·.max.x) P.x (fun _ _ => max_choice _ _) (fun _ _ h => h.2.1),
    side (·.min.y) P.y (fun _ _ => min_choice _ _) (fun _ _ h => h.2.2.1),
    side (·.max.y) P.y (fun _ _ => max_choice _ _) (fun _ _ h => h.2.2.2)⟩

/-- two boxes that are each touched by, and each contain, a curve resp. the same curve traversed
backwards are equal -/
theorem box_eq_of_same_points (B1 B2 : Box K) (f1 f2 : K → P K) (h : ∀ t, f1 t = f2 (1 - t))
    (c1 : ∀ t, 0 ≤ t → t ≤ 1 → Box.Contains B1 (f1 t)) (c2 : ∀ t, 0 ≤ t → t ≤ 1 → Box.Contains B2 (f2 t))
    (t1 : SidesTouched B1 f1) (t2 : SidesTouched B2 f2) : B1 = B2 :=
  inside_antisymm
    (inside_of_touched t1 fun t h0 h1 => h t ▸ c2 (1 - t) (sub_nonneg.2 h1) (sub_le_self _ h0))
    (inside_of_touched t2 fun t h0 h1 => by
      have e := h (1 - t)
      rw [sub_sub_cancel] at e
      exact e ▸ c1 (1 - t) (sub_nonneg.2 h1) (sub_le_self _ h0))

/-- **The exact box of a quadratic does not depend on the direction it is drawn in** (what
`Path::reversed` does to the segment) -/
theorem quad_box_reverse (a c b : P K) :
    Quad.boundingBox (⟨b, c, a⟩ : Quad K) = Quad.boundingBox (⟨a, c, b⟩ : Quad K) :=
  box_eq_of_same_points _ _ (⟨b, c, a⟩ : Quad K).sample (⟨a, c, b⟩ : Quad K).sample (C10.quad_flip_sample ⟨a, c, b⟩)
    (fun t h0 h1 => quad_box_contains _ t h0 h1) (fun t h0 h1 => quad_box_contains _ t h0 h1)
    (quad_sides_touched _) (quad_sides_touched _)

/-- **The exact box of a cubic does not depend on the direction it is drawn in** -/
theorem cubic_box_reverse (hsq : ∀ d : K, 0 ≤ d → Transc.sqrt d * Transc.sqrt d = d)
    (hs0 : ∀ d : K, 0 ≤ d → 0 ≤ Transc.sqrt d) (a c1 c2 b : P K) :
    Cubic.boundingBox (⟨b, c2, c1, a⟩ : Cubic K) = Cubic.boundingBox (⟨a, c1, c2, b⟩ : Cubic K) :=
  box_eq_of_same_points _ _ (⟨b, c2, c1, a⟩ : Cubic K).sample (⟨a, c1, c2, b⟩ : Cubic K).sample
    (C10.cubic_flip_sample ⟨a, c1, c2, b⟩)
    (fun t h0 h1 => cubic_box_contains hsq hs0 _ t h0 h1) (fun t h0 h1 => cubic_box_contains hsq hs0 _ t h0 h1)
    (cubic_sides_touched _) (cubic_sides_touched _)

/-- **The box depends on the pieces only, not on the history**: two paths (event lists as
`Path::iter` yields them, finite first points) whose pieces have the same exact boxes — in any
order, any multiplicity — get the same box from `aabb::bounding_box`. -/
theorem path_box_eq_of_same_pieces (hsq : ∀ d : K, 0 ≤ d → Transc.sqrt d * Transc.sqrt d = d)
    (hs0 : ∀ d : K, 0 ≤ d → 0 ≤ Transc.sqrt d) (big : K) (p0 q0 : P K) (r s : List (FEv K))
    (hw1 : WF none (FEv.begin p0 :: r)) (hw2 : WF none (FEv.begin q0 :: s))
    (hf1 : -big ≤ p0.x ∧ p0.x < big ∧ -big ≤ p0.y ∧ p0.y ≤ big)
    (hf2 : -big ≤ q0.x ∧ q0.x < big ∧ -big ≤ q0.y ∧ q0.y ≤ big)
    (same : ∀ y, y ∈ (FEv.begin p0 :: r).filterMap segBox ↔ y ∈ (FEv.begin q0 :: s).filterMap segBox) :
    pathBox big (FEv.begin p0 :: r) = pathBox big (FEv.begin q0 :: s) := by
  rw [(path_box_is_union hsq hs0 big p0 r hw1 hf1).1, (path_box_is_union hsq hs0 big q0 s hw2 hf2).1]
  -- a union lies in any union that has all its pieces' boxes among its own
  have key : ∀ (p q : P K) (l m : List (FEv K)),
      (∀ y, y ∈ (FEv.begin p :: l).filterMap segBox → y ∈ (FEv.begin q :: m).filterMap segBox) →
      Box.Inside (segUnion (FEv.begin p :: l)) (segUnion (FEv.begin q :: m)) := by
    intro p q l m h
    refine (segUnion_bounds p l).2 _ fun e he y hy => ?_
    obtain ⟨e', he', hy'⟩ := List.mem_filterMap.1 (h y (List.mem_filterMap.2 ⟨e, he, hy⟩))
    exact (segUnion_bounds q m).1 e' he' y hy'
  exact inside_antisymm (key p0 q0 r s (fun y => (same y).1)) (key q0 p0 s r (fun y => (same y).2))

/-- lyon's builder protocol on the event list: `Begin` only outside a sub-path, segments and `End`
only inside one, and the last sub-path is ended (`open` = inside a sub-path) -/
def Ended : Bool → List (FEv K) → Prop
  | false, [] => True
  | true, [] => False
  | false, FEv.begin _ :: r => Ended true r
  | true, FEv.begin _ :: _ => False
  | true, FEv.line _ _ :: r => Ended true r
  | true, FEv.quad _ _ _ :: r => Ended true r
  | true, FEv.cubic _ _ _ _ :: r => Ended true r
  | true, FEv.end_ _ _ _ :: r => Ended false r
  | false, FEv.line _ _ :: _ => False
  | false, FEv.quad _ _ _ :: _ => False
  | false, FEv.cubic _ _ _ _ :: _ => False
  | false, FEv.end_ _ _ _ :: _ => False

/-- lyon's builder protocol on the calls: `begin` only outside a sub-path, `*_to` and `end` only
inside one, the last sub-path ended (what `path::Builder` with its validator accepts) -/
def CmdsOk : Bool → List (PCmd K) → Prop
  | false, [] => True
  | true, [] => False
  | false, PCmd.begin _ :: r => CmdsOk true r
  | true, PCmd.begin _ :: _ => False
  | true, PCmd.lineTo _ :: r => CmdsOk true r
  | true, PCmd.quadTo _ _ :: r => CmdsOk true r
  | true, PCmd.cubicTo _ _ _ :: r => CmdsOk true r
  | true, PCmd.end_ _ :: r => CmdsOk false r
  | false, PCmd.lineTo _ :: _ => False
  | false, PCmd.quadTo _ _ :: _ => False
  | false, PCmd.cubicTo _ _ _ :: _ => False
  | false, PCmd.end_ _ :: _ => False

theorem events_ended (cmds : List (PCmd K)) : ∀ (open_ : Bool) (cur first : P K),
    CmdsOk open_ cmds → Ended open_ (eventsFrom cur first cmds) := by
  induction cmds with
  | nil => intro o _ _ h; cases o <;> simp_all [CmdsOk, Ended, eventsFrom]
  | cons c r ih =>
    intro o cur first h
    cases c <;> cases o <;> simp only [CmdsOk] at h <;> first
      | exact h.elim
      | (simp only [eventsFrom, Ended]; exact ih _ _ _ h)

/-- what the fold reads of the event `Reversed::next` makes of an event: the segment backwards, a
`Begin` at the `last` of an `End`; the `End` it makes of a `Begin` is not read -/
def revPEv : FEv K → PEv K
  | .begin _ => .end_
  | .line f p => .line p f
  | .quad f c p => .quad p c f
  | .cubic f c1 c2 p => .cubic p c2 c1 f
  | .end_ l _ _ => .begin l

theorem reversedGo_toPEv (l : List (FEv K)) : ∀ (first : P K) (close : Bool),
    (reversedGo first close l).map toPEv = l.map revPEv := by
  induction l with
  | nil => intro _ _; rfl
  | cons a r ih => intro first close; cases a <;> simp only [reversedGo, List.map_cons, toPEv, revPEv, ih]

/-- the fold over the reversed path is the fold over the per-event images, in the path's own order
(the order does not matter: `aabb_fold_perm`) -/
theorem reversed_fold (b0 : Box K) (evs : List (FEv K)) :
    ((reversed evs).map toPEv).foldl Aabb.tightStep b0 = (evs.map revPEv).foldl Aabb.tightStep b0 := by
  rw [reversed, reversedGo_toPEv]
  exact aabb_fold_perm b0 _ _ ((List.reverse_perm evs).map revPEv)

/-- **every point the forward fold relies on is recorded by the NEXT event of the reversed path**:
walked along a list that follows the builder protocol, the two folds satisfy an equation at every
step.  Inside a sub-path the forward fold `A` has read the current point (as a `Begin` or a `to`), the
fold `B` over the reversed images reads it with the next event (as its `from`, or as the `last` of the
`End`): `A = B ⊔ cur`; between sub-paths `A = B`.  A curve's box contains both its end points and does
not depend on the direction. -/
theorem rev_fold_inv (hsq : ∀ d : K, 0 ≤ d → Transc.sqrt d * Transc.sqrt d = d)
    (hs0 : ∀ d : K, 0 ≤ d → 0 ≤ Transc.sqrt d) (evs : List (FEv K)) :
    ∀ (A B : Box K) (st : Option (P K × P K)) (o : Bool), WF st evs → Ended o evs →
    (o = false → A = B) → (o = true → ∀ cur first, st = some (cur, first) → A = boxJoin B ⟨cur, cur⟩) →
    (evs.map toPEv).foldl Aabb.tightStep A = (evs.map revPEv).foldl Aabb.tightStep B := by
  induction evs with
  | nil => intro A B st o _ he h _; cases o; exacts [h rfl, he.elim]
  | cons e r ih =>
    intro A B st o hw he hc ho
    simp only [List.map_cons, List.foldl_cons, tightStep_eq]
    cases e with
    | begin p =>
      cases o with
      | true => exact he.elim
      | false =>
        exact ih _ _ _ true hw he (fun h => by cases h) fun _ cur first h => by cases h; rw [hc rfl]; rfl
    | end_ l f c =>
      cases o with
      | false => exact he.elim
      | true =>
        obtain _ | ⟨cur, first⟩ := st
        · exact hw.elim
        · obtain ⟨rfl, rfl, hw⟩ := hw
          exact ih _ _ _ false hw he (fun _ => ho rfl _ _ rfl) fun h => by cases h
    | line f p =>
      cases o with
      | false => exact he.elim
      | true =>
        obtain _ | ⟨cur, first⟩ := st
        · exact hw.elim
        · obtain ⟨rfl, hw⟩ := hw
          exact ih _ _ _ true hw he (fun h => by cases h) fun _ _ _ h => by cases h; rw [ho rfl _ _ rfl]; rfl
    | quad f c p =>
      cases o with
      | false => exact he.elim
      | true =>
        obtain _ | ⟨cur, first⟩ := st
        · exact hw.elim
        · obtain ⟨rfl, hw⟩ := hw
          refine ih _ _ _ true hw he (fun h => by cases h) fun _ _ _ h => ?_
          cases h
          have ends := quad_box_contains_ends (⟨f, c, p⟩ : Quad K)
          simp only [tightBox, revPEv, toPEv]
          -- `(B ⊔ f) ⊔ X = (B ⊔ X) ⊔ p`: the box `X` of the curve absorbs both end points
          rw [ho rfl _ _ rfl, quad_box_reverse f c p, join_assoc, join_assoc, (join_absorb (Y := ⟨f, f⟩) ends.1).2,
            (join_absorb (Y := ⟨p, p⟩) ends.2).1]
    | cubic f c1 c2 p =>
      cases o with
      | false => exact he.elim
      | true =>
        obtain _ | ⟨cur, first⟩ := st
        · exact hw.elim
        · obtain ⟨rfl, hw⟩ := hw
          refine ih _ _ _ true hw he (fun h => by cases h) fun _ _ _ h => ?_
          cases h
          have ends := cubic_box_contains_ends (⟨f, c1, c2, p⟩ : Cubic K)
          simp only [tightBox, revPEv, toPEv]
          rw [ho rfl _ _ rfl, cubic_box_reverse hsq hs0 f c1 c2 p, join_assoc, join_assoc,
            (join_absorb (Y := ⟨f, f⟩) ends.1).2, (join_absorb (Y := ⟨p, p⟩) ends.2).1]

/-- **`aabb::bounding_box` of `Path::reversed` is the box of the path** — for every event list
`Path::iter` can yield for a path built through lyon's builder (`WF`, `Ended`): the reversed path
traverses every segment backwards and emits the events in the opposite order (each sub-path begins
at its former last endpoint), the fold reads other fields of other events in another order, and
the result is the same box.  No finiteness hypothesis: both folds start from the same sentinel.
(The `sqrt` laws are used for the cubics only.) -/
theorem path_box_reversed (hsq : ∀ d : K, 0 ≤ d → Transc.sqrt d * Transc.sqrt d = d)
    (hs0 : ∀ d : K, 0 ≤ d → 0 ≤ Transc.sqrt d) (big : K) (evs : List (FEv K))
    (hw : WF none evs) (he : Ended false evs) :
    pathBox big (reversed evs) = pathBox big evs := by
  unfold pathBox Aabb.boundingBox
  rw [reversed_fold, rev_fold_inv hsq hs0 evs _ _ none false hw he (fun _ => rfl) fun h => by cases h]

/-- **A flat curve that is the unique extreme of its path counts**: the modelled fold gives
`M 0 0 L 10 5 Q 15 5 20 5 Z` (a closed path whose last segment is an exactly horizontal quadratic
reaching beyond everything drawn before; nothing after it mentions `(20,5)` again) the box
`(0,0)-(20,5)` — evaluated on the model itself over ℚ. -/
theorem path_box_flat_curve_instance : @pathBox ℚ _ toyTransc 1000
      [FEv.begin ⟨0, 0⟩, FEv.line ⟨0, 0⟩ ⟨10, 5⟩, FEv.quad ⟨10, 5⟩ ⟨15, 5⟩ ⟨20, 5⟩, FEv.end_ ⟨20, 5⟩ ⟨0, 0⟩ true]
    = ⟨⟨0, 0⟩, ⟨20, 5⟩⟩ := by
  let _ := toyTransc
  simp only [pathBox, List.map, toPEv, Aabb.boundingBox, List.foldl, Aabb.tightStep, Aabb.start, Aabb.finish,
    Quad.boundingBox, Quad.boundingRangeX, Quad.boundingRangeY, Box.ofRanges, Quad1.range, Quad1.minT, Quad1.maxT,
    Quad1.localExt, Quad1.div, Quad1.extT, Quad1.endMin, Quad1.endMax, Quad1.ev, P.pmin, P.pmax, emin_eq, emax_eq]
  norm_num [Scalar.two, Scalar.one, Scalar.zero]
  show P.beq _ _ = false
  simp [P.beq]

/-- a well-formed, closed path with a FLAT (exactly horizontal) quadratic as its last segment — the
shape for which a fold step that consults the box accumulated so far goes wrong — satisfies the
hypotheses of `path_box_is_union` / `path_box_touched` (with `big = 1000`) -/
example : WF (K := ℚ) none
      [FEv.begin ⟨0, 0⟩, FEv.line ⟨0, 0⟩ ⟨10, 5⟩, FEv.quad ⟨10, 5⟩ ⟨15, 5⟩ ⟨20, 5⟩, FEv.end_ ⟨20, 5⟩ ⟨0, 0⟩ true] ∧
    (-(1000:ℚ) ≤ 0 ∧ (0:ℚ) < 1000 ∧ -(1000:ℚ) ≤ 0 ∧ (0:ℚ) ≤ 1000) := by
  refine ⟨by simp [WF], by norm_num⟩

/-- … and follows the builder protocol (`path_box_reversed`) -/
example : Ended (K := ℚ) false
      [FEv.begin ⟨0, 0⟩, FEv.line ⟨0, 0⟩ ⟨10, 5⟩, FEv.quad ⟨10, 5⟩ ⟨15, 5⟩ ⟨20, 5⟩, FEv.end_ ⟨20, 5⟩ ⟨0, 0⟩ true] := by
  simp [Ended]

/-- that list is what `Path::iter` yields for the builder calls `M 0 0 L 10 5 Q 15 5 20 5 Z` -/
example : events (α := ℚ) [PCmd.begin ⟨0, 0⟩, PCmd.lineTo ⟨10, 5⟩, PCmd.quadTo ⟨15, 5⟩ ⟨20, 5⟩, PCmd.end_ true] =
    [FEv.begin ⟨0, 0⟩, FEv.line ⟨0, 0⟩ ⟨10, 5⟩, FEv.quad ⟨10, 5⟩ ⟨15, 5⟩ ⟨20, 5⟩, FEv.end_ ⟨20, 5⟩ ⟨0, 0⟩ true] := by
  simp [events, eventsFrom]

/-- `path_box_eq_of_same_pieces`: two different histories with the same pieces (a sub-path order
swap) -/
example : ∀ y : Box ℚ,
    y ∈ ([FEv.begin ⟨0, 0⟩, FEv.end_ ⟨0, 0⟩ ⟨0, 0⟩ false, FEv.begin ⟨1, 2⟩, FEv.end_ ⟨1, 2⟩ ⟨1, 2⟩ false] :
        List (FEv ℚ)).filterMap (@segBox ℚ _ toyTransc) ↔
    y ∈ ([FEv.begin ⟨1, 2⟩, FEv.end_ ⟨1, 2⟩ ⟨1, 2⟩ false, FEv.begin ⟨0, 0⟩, FEv.end_ ⟨0, 0⟩ ⟨0, 0⟩ false] :
        List (FEv ℚ)).filterMap (@segBox ℚ _ toyTransc) := by
  intro y
  simp [List.filterMap_cons, segBox, or_comm]

/-- `box_eq_of_same_points`: a parameter and its mirror image are both in range -/
example : (0:ℚ) ≤ 1 - 1/3 ∧ (1:ℚ) - 1/3 ≤ 1 := by norm_num

end Lyon.C11
