/-
  C16b — the adapters with the CONCRETE curve flatteners of lyon_geom.

  `Props/C16.lean` states the flattening clauses for an arbitrary flattener `F` / `G` under the
  hypotheses `EndsAtTo`, `ChainedToEnd`, `IterEndsAtTo`.  Here the flatteners are the ones the
  adapters really call — `cbModel tol` (`for_each_flattened_with_t`, callback form) and
  `itModel fuel tol` (the `Flattened` iterators) of `Model/Path/AdaptersConcrete.lean`, i.e. the
  model of `Model/Geom/Flatten.lean` that C09 is about and that the `e2e` family of the C16 tie
  runs bit for bit against the real adapters.  The run-level theorems behind `Props/C16.lean` ask
  the flattener's properties only of the curves the adapter meets (`keeps_run_on`,
  `flatRun_events_on`, `specRun_attrEvents_on`, … over `curvesMet` / `curvesOf`); the guard of a
  `…C` adapter says that lyon_geom is fine on each of them (`cbOkRun_eq`, `itOkEvents_eq`), and
  there C09's theorems (`quad_flat_connected`, `quad_flat_ranges`, `cubic_flat_connected`) and,
  for the iterators, `quadIter_ends`, `cubicIter_ends` (whole runs,
  `Lemmas/AdaptersConcreteIter.lean`; C09 has the single steps `quad_iter_final`,
  `cubic_iter_last_point`) give the properties (`cbModel_on_chained`, `itModel_on_ends`).
  Separately, the hypotheses as `Props/C16.lean` states them, for ALL curves, hold of the
  totalised flatteners `cbTot`, `itTot` (`cbTot_endsAtTo`, `cbTot_chainedToEnd`,
  `itTot_iterEndsAtTo`): that shows them satisfiable by lyon_geom's flatteners; the `…_concrete`
  theorems do not go through `cbTot` / `itTot`.

  The `…C` adapters are `none` when lyon_geom panics on a curve or a curve iterator is still
  running after `fuel` pulls (`Model/Path/AdaptersConcrete.lean`); the theorems of this file read
  "`flat…C … = some out` → the property holds of `out`" (the similarity / reflection theorems of
  `Props/C16c.lean`, `C16e`, `C16g` are equations between the two `Option`s, `none` iff `none`).

  Scalar types:
  * iterator side (`iterator::Flattened`): EVERY scalar type `α` whose `==` accepts `1 == 1`
    (`Float32` included) — `iter_flatten_keeps_endpoints_concrete`, `flatIter_wellformed_concrete`,
    `nesting_orders_iter_concrete`;
  * builder side, programs without `cubic_bezier_to`: every such scalar type
    (`flatten_keeps_endpoints_concrete_quads`);
  * builder side with cubics, `for_each_flattened`, interpolation: ordered fields (C09's cubic
    callback statement uses `sample 1 = to`, the interpolation is field arithmetic); the endpoints
    alone for every scalar type under the per-curve hypothesis `sample 1 = to`:
    `flatten_keeps_endpoints_concrete_any`.

  `flatten_commutes_builder_iter_concrete` holds for programs WITHOUT cubics (and needs the
  integer laws `CountLaws` of `ceil`/`to_u32`/`EPSILON`): for a cubic the two lyon_geom entry
  points yield different points — `cubic_builder_iter_differ` (exact difference; an observation,
  the property does not ask the flattening stages to agree point for point).
-/
import LyonVerif.Props.C16
import LyonVerif.Lemmas.AdaptersConcreteIter
import LyonVerif.Lemmas.AdaptersConcreteCb
import LyonVerif.Lemmas.AdaptersConcreteAgree
import LyonVerif.Lemmas.AdaptersConcreteEx
import LyonVerif.Lemmas.AdaptersConcreteReal


namespace Lyon.C16
open Lyon Lyon.Path Lyon.Adapt Scalar

section any
variable {α : Type} [Scalar α] [Transc α] [FlatConst α]

/-- `IterEndsAtTo` for lyon_geom's `Flattened` iterators (every curve whose iterator finishes
within the fuel; `itTot` = `itModel` there) — every scalar type with `1 == 1` -/
theorem itTot_iterEndsAtTo (hone : ((one : α) == one) = true) (fuel : Nat) (tol : α) :
    IterEndsAtTo (itTot fuel tol) := by
  constructor
  · intro a c b
    by_cases h : itOkQuad fuel tol a c b = true
    · simpa [itTot, h] using itModel_quad_ends fuel tol a c b h
    · exact ⟨[], by simp [itTot, h]⟩
  · intro a c d b
    by_cases h : itOkCubic fuel tol a c d b = true
    · simpa [itTot, h] using itModel_cubic_ends hone fuel tol a c d b h
    · exact ⟨[], by simp [itTot, h]⟩

/-- the concrete iterators themselves: a finished curve iterator has yielded `… ++ [to]` -/
theorem itModel_ends_at_to (hone : ((one : α) == one) = true) (fuel : Nat) (tol : α) :
    (∀ a c b, itOkQuad fuel tol a c b = true → ∃ l, (itModel fuel tol).quad a c b = l ++ [b]) ∧
    (∀ a c d b, itOkCubic fuel tol a c d b = true → ∃ l, (itModel fuel tol).cubic a c d b = l ++ [b]) :=
  ⟨fun a c b h => itModel_quad_ends fuel tol a c b h,
   fun a c d b h => itModel_cubic_ends hone fuel tol a c d b h⟩

theorem flatten_keeps_endpoints_concrete_any (hone : ((one : α) == one) = true) (tol : α)
    (o : P α) (n : Nat) (prog out : List (Call (P α) (List α)))
    (hs : cubicSampleOk o prog) (h : flatBuilderC tol o n prog = some out) :
    List.Sublist (endpoints prog) (endpoints out) ∧
    out.filter Call.isMark = prog.filter Call.isMark := by
  obtain ⟨hok, rfl⟩ := flatBuilderC_some h
  rw [cbOkRun_eq, List.all_eq_true] at hok
  refine ⟨keeps_run_on hone _ _ prog fun k hk => ?_, marks_flatRun _ _ prog⟩
  cases k with
  | quad a c b => exact cbModel_quad_ends tol a c b (hok _ hk)
  | cubic a c d b =>
    exact cbModel_cubic_ends_any hone tol a c d b ((cubicSampleOk_iff o prog).1 hs _ hk) (hok _ hk)

end any

section field
variable {K : Type} [Field K] [LinearOrder K] [IsStrictOrderedRing K] [Transc K] [FlatConst K]

/-- `EndsAtTo` for lyon_geom's callback flatteners (C09 `quad_flat_connected/ranges`,
`cubic_flat_connected`) -/
theorem cbTot_endsAtTo (tol : K) : EndsAtTo (cbTot tol) :=
  ⟨fun a c b => (cbTot_on_chained tol (.quad a c b)).1,
   fun a c d b => (cbTot_on_chained tol (.cubic a c d b)).1⟩

/-- `ChainedToEnd` for them (C09 clause `connected`) -/
theorem cbTot_chainedToEnd (tol : K) : ChainedToEnd (cbTot tol) :=
  ⟨cbTot_endsAtTo tol, fun a c b => (cbTot_on_chained tol (.quad a c b)).2,
   fun a c d b => (cbTot_on_chained tol (.cubic a c d b)).2⟩

/-- the concrete callback flatteners themselves, on every curve lyon_geom does not panic on -/
theorem cbModel_ends_at_to (tol : K) :
    (∀ a c b, cbOkQuad tol a c b = true → ∃ l x, (cbModel tol).quad a c b = l ++ [⟨x, b, 1⟩]) ∧
    (∀ a c d b, cbOkCubic tol a c d b = true →
      ∃ l x, (cbModel tol).cubic a c d b = l ++ [⟨x, b, 1⟩]) := by
  refine ⟨fun a c b h => ?_, fun a c d b h => cbModel_cubic_ends tol a c d b h⟩
  obtain ⟨l, x, hl⟩ := cbModel_quad_ends tol a c b h
  exact ⟨l, x, by rw [hl, sc_one_eq]⟩

/-- `Flattened::new(inner, tol)` with lyon_geom's own
flattener, for EVERY program, tolerance and attribute count: if lyon_geom does not panic, the
calls `inner` receives contain every original endpoint, exactly, in order, with its original
attributes, and the sub-path marks unchanged (over a field `cubicSampleOk` holds). -/
theorem flatten_keeps_endpoints_concrete (tol : K) (o : P K) (n : Nat)
    (prog out : List (Call (P K) (List K))) (h : flatBuilderC tol o n prog = some out) :
    List.Sublist (endpoints prog) (endpoints out) ∧
    out.filter Call.isMark = prog.filter Call.isMark :=
  flatten_keeps_endpoints_concrete_any (by rw [sc_beq]) tol o n prog out (cubicSampleOk_field o prog) h

end field

section any
variable {α : Type} [Scalar α] [Transc α] [FlatConst α]

/-- the builder-side statement for EVERY scalar type with `1 == 1` (so also in `Float32`
arithmetic, where "exactly" is not a triviality), for programs without `cubic_bezier_to`:
the quadratic callback flattener's last callback is `(to, 1.0)` by construction, and
`t.end == 1.0` then selects the call's own attributes. -/
theorem flatten_keeps_endpoints_concrete_quads (hone : ((one : α) == one) = true) (tol : α)
    (o : P α) (n : Nat) (prog out : List (Call (P α) (List α))) (hnc : noCubic prog = true)
    (h : flatBuilderC tol o n prog = some out) :
    List.Sublist (endpoints prog) (endpoints out) ∧
    out.filter Call.isMark = prog.filter Call.isMark :=
  flatten_keeps_endpoints_concrete_any hone tol o n prog out
    ((cubicSampleOk_iff o prog).2 fun k hk => by
      cases k with
      | quad a c b => trivial
      | cubic a c d b => exact absurd rfl (noCubic_curves o prog hnc _ hk a c d b)) h

/-- `events.flattened(tol)` with lyon_geom's own
`Flattened` iterators keeps every endpoint the stream visits, exactly and in order — every
scalar type with `1 == 1`, every event stream, quadratics AND cubics (repair e20d2048). -/
theorem iter_flatten_keeps_endpoints_concrete (hone : ((one : α) == one) = true) (fuel : Nat)
    (tol : α) (evs out : List (Event (P α))) (h : flatIterC fuel tol evs = some out) :
    List.Sublist (eventEndpoints evs) (eventEndpoints out) := by
  obtain ⟨hok, rfl⟩ := flatIterC_some h
  rw [itOkEvents_eq, List.all_eq_true] at hok
  exact iter_keeps_on _ evs fun k hk => itModel_on_ends hone fuel tol k (hok k hk)

/-- `iterator::Flattened` over lyon_geom's own iterators maps
a well-formed event stream to a well-formed one (every line starts where the previous one
ended, `End` names the last and the first point) — every scalar type with `1 == 1`; equality of
points is the structural one (`instBEqOfDecidableEq`, classical for `Float32`; NOT the IEEE `==`
of `P.instBEq`, for which a NaN coordinate is not equal to itself). -/
theorem flatIter_wellformed_concrete [DecidableEq (P α)] (hone : ((one : α) == one) = true)
    (fuel : Nat) (tol : α) (evs out : List (Event (P α)))
    (hw : @WellFormed (P α) instBEqOfDecidableEq evs)
    (h : flatIterC fuel tol evs = some out) : @WellFormed (P α) instBEqOfDecidableEq out := by
  obtain ⟨hok, rfl⟩ := flatIterC_some h
  rw [itOkEvents_eq, List.all_eq_true] at hok
  exact wellFormedFrom_flatIter_on _ evs (fun k hk => itModel_on_ends hone fuel tol k (hok k hk))
    none hw

end any

section field
variable {K : Type} [Field K] [LinearOrder K] [IsStrictOrderedRing K] [Transc K] [FlatConst K]

/-- flatten (tolerance
`tol`, in the source space) then transform by the affine map `m`, and transform then flatten
(tolerance `tol2`, in the target space), with lyon_geom's own flattener on both routes: both
keep every original endpoint — transformed by `m`, with its original attributes, in order.
(The inserted points differ: the tolerance is applied in different spaces; see
`flatten_transform_similarity_concrete`, `Props/C16c.lean`, for when they coincide.) -/
theorem nesting_orders_concrete (m : Xf K) (tol tol2 : K) (o o2 : P K) (n : Nat)
    (prog out1 out2 : List (Call (P K) (List K)))
    (h1 : flatBuilderC tol o n prog = some out1)
    (h2 : flatBuilderC tol2 o2 n (xfBuilder m.apply prog) = some out2) :
    List.Sublist ((endpoints prog).map fun e => (m.apply e.1, e.2))
      (endpoints (xfBuilder m.apply out1)) ∧
    List.Sublist ((endpoints prog).map fun e => (m.apply e.1, e.2)) (endpoints out2) := by
  constructor
  · rw [xfBuilder, endpoints_map]
    exact (flatten_keeps_endpoints_concrete tol o n prog out1 h1).1.map _
  · have := (flatten_keeps_endpoints_concrete tol2 o2 n _ out2 h2).1
    rwa [xfBuilder, endpoints_map] at this

end field

section any
variable {α : Type} [Scalar α] [Transc α] [FlatConst α]

/-- the same for the iterator-side adapters, every scalar type with `1 == 1`, every point map -/
theorem nesting_orders_iter_concrete (hone : ((one : α) == one) = true) (g : P α → P α)
    (fuel : Nat) (tol tol2 : α) (evs out1 out2 : List (Event (P α)))
    (h1 : flatIterC fuel tol evs = some out1)
    (h2 : flatIterC fuel tol2 (xfIter g evs) = some out2) :
    List.Sublist ((eventEndpoints evs).map g) (eventEndpoints (xfIter g out1)) ∧
    List.Sublist ((eventEndpoints evs).map g) (eventEndpoints out2) := by
  constructor
  · rw [xfIter, eventEndpoints_map]
    exact (iter_flatten_keeps_endpoints_concrete hone fuel tol evs out1 h1).map _
  · have := iter_flatten_keeps_endpoints_concrete hone fuel tol2 _ out2 h2
    rwa [xfIter, eventEndpoints_map] at this

end any

section field
variable {K : Type} [Field K] [LinearOrder K] [IsStrictOrderedRing K] [Transc K] [FlatConst K]

/-- with lyon_geom's own flattener, for every program whose
endpoints carry `n` attributes, what `Flattened` hands down IS the reference flattening: for a
curve from an endpoint with attributes `a_from` to one with `a_to` it emits, for each callback
`(line.to, t.end)` of `for_each_flattened_with_t(tol)` on the curve from the TRUE current
endpoint, the call `line_to(line.to, (1−t)·a_from + t·a_to)` (`interp_is_lerp`); the last
callback has `t = 1` and carries exactly `a_to` (`flatten_keeps_endpoints_concrete`). -/
theorem flatten_attr_interp_concrete (tol : K) (o : P K) (n : Nat)
    (prog out : List (Call (P K) (List K))) (hlen : attrsLen n prog = true)
    (h : flatBuilderC tol o n prog = some out) :
    out = flatSpec (cbModel tol) o n prog := by
  obtain ⟨-, rfl⟩ := flatBuilderC_some h
  exact flatten_attr_interp (cbModel tol) o n prog hlen

/-- builder-side `Flattened` = `for_each_flattened` over the stored, unflattened path,
ATTRIBUTES INCLUDED, with lyon_geom's own flattener, for every well-nested program (cubics
included: both sides call the same callback form): if the builder side does not panic, neither
does `for_each_flattened`, and it yields exactly what `iter_with_attributes` shows of the path
built through `Flattened`. -/
theorem flatten_commutes_with_attributes_concrete (tol : K) (o : P K) (n : Nat)
    (prog out : List (Call (P K) (List K))) (hn : WellNested prog) (hlen : attrsLen n prog = true)
    (h : flatBuilderC tol o n prog = some out) :
    flatAttrIterC tol (attrEvents prog) = some (attrEvents out) := by
  obtain ⟨hok, rfl⟩ := flatBuilderC_some h
  -- `for_each_flattened` meets on the stored path the curves the builder met
  have hev : cbOkEvents tol (attrEvents prog) = true := by
    rw [cbOkEvents_eq, curvesOf_attrEvents o prog hn, ← cbOkRun_eq, hok]
  rw [cbOkRun_eq, List.all_eq_true] at hok
  simp only [flatAttrIterC, hev, if_true, Option.some.injEq]
  rw [flatten_attr_interp (cbModel tol) o n prog hlen]
  exact (specRun_attrEvents_on (cbModel tol) n none _ prog hn hlen (by intro f c h; cases h)
    fun k hk => cbModel_on_chained tol k (hok k hk)).symm

/-- with lyon_geom's own flatteners, flattening
while building and flattening while iterating give the same path (positions): for every
well-nested program WITHOUT `cubic_bezier_to`, the events denoted by what `Flattened` hands
down are exactly what `path.iter().flattened(tol)` yields over the unflattened path.
Needs `CountLaws` (the count is an integer that `to_u32` converts exactly, `0 ≤ EPSILON < 1`):
the callback form loops `for _ in 1..count`, the iterator stops at `i >= count − EPSILON`.
For cubics the statement is FALSE of lyon (`cubic_builder_iter_differ`). -/
theorem flatten_commutes_builder_iter_concrete (L : CountLaws K) (fuel : Nat) (tol : K)
    (o : P K) (n : Nat) (prog out : List (Call (P K) (List K))) (evs : List (Event (P K)))
    (hn : WellNested prog) (hnc : noCubic prog = true)
    (h1 : flatBuilderC tol o n prog = some out)
    (h2 : flatIterC fuel tol (specEvents prog) = some evs) :
    specEvents out = evs := by
  obtain ⟨hcb, rfl⟩ := flatBuilderC_some h1
  obtain ⟨hit, rfl⟩ := flatIterC_some h2
  rw [cbOkRun_eq, List.all_eq_true] at hcb
  rw [itOkEvents_eq, specEvents, ← curvesMet_spec none prog hn o (by simp), List.all_eq_true] at hit
  refine flatRun_events_on _ _ none prog hn (FlatB.init o n) (by simp) fun k hk => ?_
  cases k with
  | quad a c b =>
    obtain ⟨l, x, hl⟩ := cbModel_quad_ends tol a c b (hcb _ hk)
    exact ⟨⟨l, x, _, hl⟩, quad_iter_eq_callback L fuel tol a c b (hcb _ hk) (hit _ hk)⟩
  | cubic a c d b => exact absurd rfl (noCubic_curves o prog hnc _ hk a c d b)

end field

section cubic
variable {K : Type} [Field K] [LinearOrder K] [IsStrictOrderedRing K]

/-- an observation, not a violation of C16: for a cubic, sub-range
`[t0, t1]` and inner parameter `t`, the point `iterator::Flattened` emits (lyon_geom's cubic
`Flattened` samples the CUBIC at `t0 + t·(t1−t0)`) minus the point `builder::Flattened` emits
(`for_each_flattened_with_t` flattens the QUADRATIC approximation of the sub-range) is
`½·t(1−t)(1−2t)·(t1−t0)³·(P3 − 3P2 + 3P1 − P0)`. -/
theorem cubic_builder_iter_differ (c : Cubic K) (t0 t1 t : K) :
    c.sample (t0 + t * (t1 - t0)) - (c.splitRange t0 t1).toQuadratic.sample t
      = (((c.b - c.c2.smul 3) + c.c1.smul 3) - c.a).smul
          (1 / 2 * (t * (1 - t) * (1 - 2 * t)) * ((t1 - t0) * (t1 - t0) * (t1 - t0))) :=
  cubic_iter_vs_callback_point c t0 t1 t

end cubic

/-! ## Non-vacuity of the hypotheses

On `ℚ`, with the toy `sqrt`/`ceil`/`to_u32` of `Lemmas/Flatten.lean` (`toyTransc`, `toyConst`)
resp. the genuine `ceil`/`floor` (`ratCeilTransc`), on the program
`begin (0,0) [1]; quadratic_bezier_to (1,1/8) (2,0) [3]; line_to (3,0) [4]; end(close)` at
tolerance `1/10` (the quadratic is accepted by `is_linear`: one callback).  The last two
examples are over `ℝ` with the genuine `sqrt`/`ceil`/`floor` (`Lemmas/AdaptersConcreteReal.lean`). -/

section Examples
open Lyon.Flat
attribute [local instance 2000] fieldScalar

/-- hypotheses of `flatten_keeps_endpoints_concrete`, `flatten_attr_interp_concrete`,
`flatten_commutes_with_attributes_concrete` -/
example : (∃ out, @flatBuilderC ℚ _ toyTransc toyConst (1 / 10) ⟨0, 0⟩ 1 exProg = some out)
    ∧ attrsLen 1 (exProg (K := ℚ)) = true ∧ WellNested (exProg (K := ℚ)) :=
  ⟨exBuilderOk toyTransc toyConst, by simp [exProg, attrsLen], by simp [exProg, WellNested, wellNestedFrom]⟩

/-- hypotheses of `flatten_keeps_endpoints_concrete_quads` -/
example : (((one : ℚ)) == one) = true ∧ noCubic (exProg (K := ℚ)) = true
    ∧ ∃ out, @flatBuilderC ℚ _ toyTransc toyConst (1 / 10) ⟨0, 0⟩ 1 exProg = some out :=
  ⟨exOne, by simp [exProg, noCubic], exBuilderOk toyTransc toyConst⟩

/-- hypotheses of `iter_flatten_keeps_endpoints_concrete` and `flatIter_wellformed_concrete` -/
example : (((one : ℚ)) == one) = true
    ∧ (∃ out, @flatIterC ℚ _ toyTransc toyConst 2 (1 / 10) (specEvents exProg) = some out)
    ∧ @WellFormed (P ℚ) (@instBEqOfDecidableEq _ (Classical.decEq _)) (specEvents exProg) := by
  refine ⟨exOne, exIterOk toyTransc toyConst (by show (0 : ℚ) - 1 / 10000 ≤ 1; norm_num), ?_⟩
  let _ : DecidableEq (P ℚ) := Classical.decEq _
  simp [exProg, specEvents, specFrom, WellFormed, wellFormedFrom]

/-- hypotheses of `nesting_orders_concrete`: scale by 2 and translate by (1,1); the transformed
quadratic `(1,1) (3,5/4) (5,1)` is flattened at tolerance `1/5` -/
example : (∃ out1, @flatBuilderC ℚ _ toyTransc toyConst (1 / 10) ⟨0, 0⟩ 1 exProg = some out1)
    ∧ ∃ out2, @flatBuilderC ℚ _ toyTransc toyConst (1 / 5) ⟨0, 0⟩ 1
        (xfBuilder (Xf.apply ⟨2, 0, 0, 2, 1, 1⟩) exProg) = some out2 := by
  refine ⟨exBuilderOk toyTransc toyConst, _, if_pos ?_⟩
  have e : xfBuilder (Xf.apply (⟨2, 0, 0, 2, 1, 1⟩ : Xf ℚ)) exProg
      = [.begin ⟨1, 1⟩ [1], .quad ⟨3, 5 / 4⟩ ⟨5, 1⟩ [3], .line ⟨7, 1⟩ [4], .end_ true] := by
    simp only [xfBuilder, exProg, List.map_cons, List.map_nil, mapCall, Xf.apply]
    norm_num
  rw [e]
  simp only [cbOkRun, Bool.and_eq_true, and_true]
  exact @cbOkQuad_of_isLinear ℚ _ _ _ toyTransc toyConst _ _ _ _ exLinear2

/-- hypotheses of `nesting_orders_iter_concrete` (the identity as point map) -/
example : (∃ out1, @flatIterC ℚ _ toyTransc toyConst 2 (1 / 10) (specEvents exProg) = some out1)
    ∧ ∃ out2, @flatIterC ℚ _ toyTransc toyConst 2 (1 / 10) (xfIter id (specEvents exProg)) = some out2 := by
  have h := exIterOk toyTransc toyConst (by show (0 : ℚ) - 1 / 10000 ≤ 1; norm_num)
  refine ⟨h, ?_⟩
  have e : xfIter id (specEvents (exProg (K := ℚ))) = specEvents (exProg (K := ℚ)) := by
    simp [xfIter, exProg, specEvents, specFrom, mapEvent]
  rw [e]; exact h

/-- hypotheses of `flatten_commutes_builder_iter_concrete` -/
example : @CountLaws ℚ _ _ _ ratCeilTransc toyConst ∧ WellNested (exProg (K := ℚ))
    ∧ noCubic (exProg (K := ℚ)) = true
    ∧ (∃ out, @flatBuilderC ℚ _ ratCeilTransc toyConst (1 / 10) ⟨0, 0⟩ 1 exProg = some out)
    ∧ ∃ evs, @flatIterC ℚ _ ratCeilTransc toyConst 2 (1 / 10) (specEvents exProg) = some evs :=
  ⟨ratCeil_countLaws, by simp [exProg, WellNested, wellNestedFrom], by simp [exProg, noCubic],
   exBuilderOk ratCeilTransc toyConst,
   exIterOk ratCeilTransc toyConst (by show (0 : ℚ) - 1 / 10000 ≤ 1; norm_num)⟩

/-- the hypotheses on single curves (`cbModel_ends_at_to`, `itModel_ends_at_to`), quadratic and
cubic, over ℝ with the genuine `sqrt`/`ceil`/`floor` -/
example : @cbOkQuad ℝ _ exRealTransc exRealConst (1 / 10) ⟨0, 0⟩ ⟨1, 1 / 8⟩ ⟨2, 0⟩ = true
    ∧ @cbOkCubic ℝ _ exRealTransc exRealConst (1 / 10) ⟨0, 0⟩ ⟨0, 0⟩ ⟨0, 0⟩ ⟨0, 0⟩ = true
    ∧ @itOkCubic ℝ _ exRealTransc exRealConst 3 (1 / 10) ⟨0, 0⟩ ⟨0, 0⟩ ⟨0, 0⟩ ⟨0, 0⟩ = true
    ∧ (((one : ℝ)) == one) = true :=
  ⟨@cbOkQuad_of_isLinear ℝ _ _ _ exRealTransc exRealConst _ _ _ _ exLinear, exCbOkCubic,
   exItOkCubic, exOne⟩

/-- A program WITH A CUBIC (and two attributes), over `ℝ`, on which neither the builder-side nor the
iterator-side adapter panics: hypotheses of `flatten_keeps_endpoints_concrete`,
`flatten_attr_interp_concrete`, `flatten_commutes_with_attributes_concrete`,
`iter_flatten_keeps_endpoints_concrete`, `flatIter_wellformed_concrete` -/
example : (∃ out, @flatBuilderC ℝ _ exRealTransc exRealConst (1 / 10) ⟨0, 0⟩ 2 exProgC = some out)
    ∧ (∃ out, @flatIterC ℝ _ exRealTransc exRealConst 3 (1 / 10) (specEvents exProgC) = some out)
    ∧ attrsLen 2 exProgC = true ∧ WellNested exProgC
    ∧ @WellFormed (P ℝ) (@instBEqOfDecidableEq _ (Classical.decEq _)) (specEvents exProgC) := by
  refine ⟨exBuilderOkC, exIterOkC, by simp [exProgC, attrsLen],
    by simp [exProgC, WellNested, wellNestedFrom], ?_⟩
  let _ : DecidableEq (P ℝ) := Classical.decEq _
  simp [exProgC, specEvents, specFrom, WellFormed, wellFormedFrom]

end Examples

end Lyon.C16
