/-
  C12 over ℝ: `cubic_polynomial_roots` and the cubic × line / segment queries are complete for
  transversal crossings — no law of `sqrt`/`pow`/`cos`/`acos` left as a hypothesis.

  The `Transc` parameters of the model instantiated with Mathlib's real functions (`Real.sqrt`,
  `Real.cos`, `Real.arccos`, `x ^ y` = `Real.rpow`, `Real.pi`; every real is finite), `signum` =
  the sign function of the field, lyon's `epsilon_for` / `EPSILON` an arbitrary positive function /
  constant (`[Eps ℝ]` with positivity hypotheses; `realEps64` below is the f64 table).

  The laws hold (`real_cosLaws`, `real_sqrt_nonneg`, `real_sqrt_mul_self`, `real_cbrt_pow`), so the theorems of
  `Props/C12d.lean` for the regime `¬ |a| < ε` have their instances here without law hypotheses (not repeated:
  the `_exact_degree` variants, the truncated branches, `cardano_repeated_value` / `_root_iff`); specific to ℝ is the ORDER of the three
  values for Δ < 0 (largest, smallest, middle: `cos` is strictly decreasing on `[0, π]`), hence of three
  crossings (`cubic_line_crossings_order_real`).  Non-vacuity, evaluated: the cubic (0,−9) (1,13) (2,−13) (3,9)
  crosses the x-axis at t = 1/4, 1/2, 3/4; with the f64 `epsilon_for` table the query returns `[3/4, 1/4, 1/2]`.

  Not covered: rounding (tie + oracle), and cubics whose leading coefficient fails the code's
  test (`0 < |a| < ε`: the code solves the truncated polynomial).
-/
import LyonVerif.Props.C12d
import Mathlib.Analysis.SpecialFunctions.Trigonometric.Inverse
import Mathlib.Analysis.SpecialFunctions.Pow.Real

set_option linter.unusedVariables false
set_option warn.classDefReducibility false

namespace Lyon.C12Real
open Lyon Scalar Lyon.Ix Lyon.C12 Lyon.C12d Lyon.CubicRoots

/-- `Transc ℝ` with Mathlib's real functions (fields the intersection queries do not use are
placeholders) -/
noncomputable def realTransc : Transc ℝ where
  sqrt := Real.sqrt
  cbrt := fun _ => 0
  sin := Real.sin
  cos := Real.cos
  tan := Real.tan
  acos := Real.arccos
  atan2 := fun _ _ => 0
  pow := fun x y => x ^ y
  log2 := fun _ => 0
  ln := Real.log
  floor := fun x => (⌊x⌋ : ℝ)
  ceil := fun x => (⌈x⌉ : ℝ)
  toNat := fun x => ⌊x⌋.toNat
  fmod := fun x _ => x
  eps := 0
  pi := Real.pi
  isNaN := fun _ => false
  isFinite := fun _ => true

attribute [local instance] realTransc

theorem real_sqrt_nonneg : ∀ x : ℝ, 0 ≤ x → 0 ≤ Transc.sqrt x := fun x _ => Real.sqrt_nonneg x

theorem real_sqrt_mul_self : ∀ x : ℝ, 0 ≤ x → Transc.sqrt x * Transc.sqrt x = x :=
  fun x hx => Real.mul_self_sqrt hx

theorem real_cbrt_pow : ∀ x : ℝ, 0 ≤ x → Transc.pow x (Roots.frac13 : ℝ) ^ 3 = x := by
  intro x hx
  rw [frac13_eq]
  show (x ^ (1 / 3 : ℝ)) ^ 3 = x
  rw [← Real.rpow_natCast, ← Real.rpow_mul hx]
  norm_num

theorem real_finite : ∀ x : ℝ, Transc.isFinite x = true := fun _ => rfl

/-- **the cosine laws hold for the real functions** -/
theorem real_cosLaws : CosLaws ℝ where
  cos_add_sub := fun x y => by
    show Real.cos (x + y) + Real.cos (x - y) = 2 * Real.cos x * Real.cos y
    rw [Real.cos_add, Real.cos_sub]; ring
  cos_zero := Real.cos_zero
  cos_two_pi_div_three := by
    show Real.cos (2 * Real.pi / 3) = -1 / 2
    rw [show 2 * Real.pi / 3 = Real.pi - Real.pi / 3 by ring, Real.cos_pi_sub, Real.cos_pi_div_three]
    norm_num
  cos_periodic := fun x => Real.cos_add_two_pi x
  cos_acos := fun x h1 h2 => Real.cos_arccos h1 h2

section general
variable [Eps ℝ]

/-- the discriminant expression the code computes, `δ₀³ + δ₁²` of the normalised cubic -/
noncomputable def disc (a b c d : ℝ) : ℝ :=
  Roots.delta01 (Roots.delta0 (b / a) (c / a)) (Roots.delta1 (b / a) (c / a) (d / a))

/-- **Δ < 0 (three real roots): the result is exactly the set of real roots**, three pairwise
distinct values. -/
theorem cubic_polynomial_roots_trig_iff_real (heps : ∀ r : ℝ, 0 < Eps.epsilonFor r) (a b c d : ℝ)
    (ha : ¬ |a| < Roots.eps a b c d) (hΔ : disc a b c d < 0) :
    (∀ x : ℝ, x ∈ Roots.cubicPolynomialRoots a b c d ↔ a * x ^ 3 + b * x ^ 2 + c * x + d = 0)
    ∧ (Roots.cubicPolynomialRoots a b c d).length = 3 ∧ (Roots.cubicPolynomialRoots a b c d).Nodup := by
  unfold Roots.cubicPolynomialRoots
  refine ⟨fun x => cubic_roots_trig_iff real_cosLaws real_sqrt_nonneg real_sqrt_mul_self _ a b c d x
    (heps _) ha hΔ, ?_⟩
  obtain ⟨x1, x2, x3, hl, d12, d13, d23, _⟩ := cubic_roots_trig_distinct real_cosLaws real_sqrt_nonneg
    real_sqrt_mul_self (Roots.eps a b c d) a b c d (heps _) ha hΔ
  rw [hl]
  exact ⟨rfl, by simp [d12, d13, d23]⟩

/-- **Completeness over ℝ**: for every real cubic whose leading coefficient passes the code's
non-zero test (`¬ |a| < ε`, `ε = epsilon_for(max |coefficient|)`) and whose discriminant expression
is non-zero, the returned list contains EVERY real root. -/
theorem cubic_polynomial_roots_complete_real (heps : ∀ r : ℝ, 0 < Eps.epsilonFor r) (a b c d x : ℝ)
    (ha : ¬ |a| < Roots.eps a b c d) (hΔ : disc a b c d ≠ 0)
    (hx : a * x ^ 3 + b * x ^ 2 + c * x + d = 0) : x ∈ Roots.cubicPolynomialRoots a b c d :=
  cubic_roots_complete real_cosLaws real_sqrt_nonneg real_sqrt_mul_self real_cbrt_pow _ a b c d x
    (heps _) ha hΔ hx

/-- **Completeness for simple roots over ℝ, every discriminant**: every real root at which the
derivative does not vanish is returned. -/
theorem cubic_polynomial_roots_simple_complete_real (heps : ∀ r : ℝ, 0 < Eps.epsilonFor r)
    (a b c d x : ℝ) (ha : ¬ |a| < Roots.eps a b c d)
    (hx : a * x ^ 3 + b * x ^ 2 + c * x + d = 0) (hsimple : 3 * a * x ^ 2 + 2 * b * x + c ≠ 0) :
    x ∈ Roots.cubicPolynomialRoots a b c d :=
  cubic_roots_simple_complete real_cosLaws real_sqrt_nonneg real_sqrt_mul_self real_cbrt_pow _ a b c d x
    (heps _) ha hx hsimple

/-- **The repeated-root branch, exactly** (Δ = 0): `s = t`; the real roots are `x₁ = −bn/3 + 2s`
and the double root `x₂ = −bn/3 − s` (derivative zero there); the code returns `x₁`, and `x₂` iff
`|s + t| ≥ ε'` (`ε' = epsilon_for(max |normalised coefficient|)`): a double root closer than `3ε'/2`
to the simple root is not reported (for `s = 0` it IS the simple root: triple root). -/
theorem cubic_polynomial_roots_repeated_real (heps : ∀ r : ℝ, 0 < Eps.epsilonFor r) (a b c d : ℝ)
    (ha : ¬ |a| < Roots.eps a b c d) (hΔ : disc a b c d = 0) (s t : ℝ)
    (hs : s = Roots.cS (Roots.delta0 (b / a) (c / a)) (Roots.delta1 (b / a) (c / a) (d / a)))
    (ht : t = Roots.cT (Roots.delta0 (b / a) (c / a)) (Roots.delta1 (b / a) (c / a) (d / a))) :
    s = t
    ∧ Roots.cubicPolynomialRoots a b c d
        = (-(b / a) / 3 + (s + t)) ::
          (if Roots.epsN (b / a) (c / a) (d / a) ≤ |s + t| then [-(b / a) / 3 - (s + t) / 2] else [])
    ∧ (∀ x : ℝ, a * x ^ 3 + b * x ^ 2 + c * x + d = 0
        ↔ (x = -(b / a) / 3 + (s + t) ∨ x = -(b / a) / 3 - (s + t) / 2))
    ∧ 3 * a * (-(b / a) / 3 - (s + t) / 2) ^ 2 + 2 * b * (-(b / a) / 3 - (s + t) / 2) + c = 0 := by
  have ha0 := regime_ne_zero _ a (heps _) ha
  have hst : s = t := by
    rw [hs, ht]
    exact (cardano_s_eq_t_iff real_sqrt_nonneg real_sqrt_mul_self real_cbrt_pow _ _ (le_of_eq hΔ.symm)).mpr hΔ
  have hz := cubic_roots_disc_zero real_sqrt_nonneg real_sqrt_mul_self real_cbrt_pow a b c d ha0 hΔ s t hs ht
  refine ⟨hst, ?_, fun x => (hz x).1, (hz _).2 rfl⟩
  unfold Roots.cubicPolynomialRoots
  rw [cubic_roots_cardano_shape _ a b c d ha (le_of_eq hΔ.symm), ← hs, ← ht, hst, sub_self, abs_zero]
  have hε : 0 < Roots.epsN (b / a) (c / a) (d / a) := heps _
  simp only [hε, true_and]

/-- **Soundness over ℝ, every discriminant**: every returned value is a real root, except the
optional value of the branch Δ > 0 (`|s − t| < ε'`), which is not. -/
theorem cubic_polynomial_roots_sound_real (heps : ∀ r : ℝ, 0 < Eps.epsilonFor r) (a b c d x : ℝ)
    (ha : ¬ |a| < Roots.eps a b c d) (hx : x ∈ Roots.cubicPolynomialRoots a b c d) :
    a * x ^ 3 + b * x ^ 2 + c * x + d = 0
    ∨ (0 < disc a b c d
        ∧ x = -(b / a) / 3 - (Roots.cS (Roots.delta0 (b / a) (c / a)) (Roots.delta1 (b / a) (c / a) (d / a))
              + Roots.cT (Roots.delta0 (b / a) (c / a)) (Roots.delta1 (b / a) (c / a) (d / a))) / 2
        ∧ |Roots.cS (Roots.delta0 (b / a) (c / a)) (Roots.delta1 (b / a) (c / a) (d / a))
              - Roots.cT (Roots.delta0 (b / a) (c / a)) (Roots.delta1 (b / a) (c / a) (d / a))|
              < Roots.epsN (b / a) (c / a) (d / a)
        ∧ a * x ^ 3 + b * x ^ 2 + c * x + d ≠ 0) :=
  cubic_roots_sound_or_repeated real_cosLaws real_sqrt_nonneg real_sqrt_mul_self real_cbrt_pow _ a b c d x
    (heps _) ha hx

/-- **The regime in which the code's branch decisions are exact** (leading coefficient passes the
non-zero test; for Δ > 0 the repeated-root test fails; for Δ = 0 the double root is either the
simple root or at least `ε'` … away in `|s + t|`): there the returned list is EXACTLY the set of
real roots of `a x³ + b x² + c x + d`. -/
theorem cubic_polynomial_roots_exact_real (heps : ∀ r : ℝ, 0 < Eps.epsilonFor r) (a b c d : ℝ)
    (ha : ¬ |a| < Roots.eps a b c d) (s t : ℝ)
    (hs : s = Roots.cS (Roots.delta0 (b / a) (c / a)) (Roots.delta1 (b / a) (c / a) (d / a)))
    (ht : t = Roots.cT (Roots.delta0 (b / a) (c / a)) (Roots.delta1 (b / a) (c / a) (d / a)))
    (hpos : 0 < disc a b c d →
      ¬ (|s - t| < Roots.epsN (b / a) (c / a) (d / a) ∧ Roots.epsN (b / a) (c / a) (d / a) ≤ |s + t|))
    (hzero : disc a b c d = 0 → (s + t = 0 ∨ Roots.epsN (b / a) (c / a) (d / a) ≤ |s + t|)) (x : ℝ) :
    x ∈ Roots.cubicPolynomialRoots a b c d ↔ a * x ^ 3 + b * x ^ 2 + c * x + d = 0 :=
  cubic_roots_exact_regime_iff real_cosLaws real_sqrt_nonneg real_sqrt_mul_self real_cbrt_pow _ a b c d
    (heps _) ha (heps _) s t hs ht hpos hzero x

/-- **The order of the three values** (Δ < 0): `cubic_polynomial_roots` returns the largest root
first, then the smallest, then the middle one (`cos` is strictly decreasing on `[0, π]` and
`θ = arccos(·) ∈ (0, π)`). -/
theorem cubic_roots_trig_order_real (a b c d : ℝ)
    (ha : ¬ |a| < Roots.eps a b c d) (hΔ : disc a b c d < 0) :
    ∃ x1 x2 x3 : ℝ, Roots.cubicPolynomialRoots a b c d = [x1, x2, x3] ∧ x2 < x3 ∧ x3 < x1 := by
  unfold Roots.cubicPolynomialRoots
  obtain ⟨m, r, θ, hm, _, _, _, hlo, hhi, hθ, hl⟩ :=
    cardano_trig_form real_sqrt_nonneg real_sqrt_mul_self _ _ _ hΔ
  rw [rootsWith_regime _ a b c d ha, hl]
  have hθ0 : 0 < θ := hθ ▸ Real.arccos_pos.mpr hhi
  have hθ1 : θ < Real.pi := hθ ▸ Real.arccos_lt_pi.mpr hlo
  have hpi := Real.pi_pos
  have e2 : Transc.cos (θ / 3 + 4 * Transc.pi / 3) = Real.cos (2 * Real.pi / 3 - θ / 3) := by
    show Real.cos (θ / 3 + 4 * Real.pi / 3) = _
    rw [← Real.cos_two_pi_sub]; congr 1; ring
  have c1 : Real.cos (2 * Real.pi / 3 - θ / 3) < Real.cos (θ / 3) :=
    Real.cos_lt_cos_of_nonneg_of_le_pi (by linarith only [hθ0]) (by linarith only [hθ0, hpi])
      (by linarith only [hθ1])
  have c2 : Real.cos (θ / 3 + 2 * Real.pi / 3) < Real.cos (2 * Real.pi / 3 - θ / 3) :=
    Real.cos_lt_cos_of_nonneg_of_le_pi (by linarith only [hθ1, hpi]) (by linarith only [hθ1, hpi])
      (by linarith only [hθ0])
  refine ⟨_, _, _, rfl, ?_, ?_⟩
  · rw [e2]
    exact sub_lt_sub_right (mul_lt_mul_of_pos_left c2 (mul_pos two_pos hm)) _
  · rw [e2]
    exact sub_lt_sub_right (mul_lt_mul_of_pos_left c1 (mul_pos two_pos hm)) _

/-- **A line that crosses a cubic transversally is reported there** (ℝ; every number of crossings):
non-zero direction, leading coefficient of the composed polynomial passing the code's test; `t ∈ [0,1]`
with the curve point on the line and the tangent not parallel to the line. -/
theorem cubic_line_transversal_crossing_reported_real (heps : ∀ r : ℝ, 0 < Eps.epsilonFor r)
    (c : Cubic ℝ) (l : Line ℝ) (hv : l.vector.x ≠ 0 ∨ l.vector.y ≠ 0)
    (hA : ¬ |c.liCoefA (Cubic.unitLine l)| < Roots.eps (c.liCoefA (Cubic.unitLine l))
      (c.liCoefB (Cubic.unitLine l)) (c.liCoefC (Cubic.unitLine l)) (c.liCoefD (Cubic.unitLine l)))
    (t : ℝ) (h0 : 0 ≤ t) (h1 : t ≤ 1) (hon : l.vector.cross (c.sample t - l.point) = 0)
    (htr : l.vector.cross (c.derivative t) ≠ 0) : t ∈ c.lineIntersectionsT l :=
  cubic_line_transversal_crossing_reported real_cosLaws real_sqrt_nonneg real_sqrt_mul_self real_cbrt_pow
    real_finite heps c l hv hA t h0 h1 hon htr

/-- **Soundness of the line query over ℝ**: every reported parameter is in `[0,1]` and its curve
point is on the line, except the optional value of the branch Δ > 0, whose signed distance to the
line is `(9/8)·A·(s+t)·(s−t)²` with `|s − t| < ε'`. -/
theorem cubic_line_reported_on_line_or_near_real (heps : ∀ r : ℝ, 0 < Eps.epsilonFor r)
    (c : Cubic ℝ) (l : Line ℝ) (hv : l.vector.x ≠ 0 ∨ l.vector.y ≠ 0)
    (hA : ¬ |c.liCoefA (Cubic.unitLine l)| < Roots.eps (c.liCoefA (Cubic.unitLine l))
      (c.liCoefB (Cubic.unitLine l)) (c.liCoefC (Cubic.unitLine l)) (c.liCoefD (Cubic.unitLine l)))
    (t : ℝ) (ht : t ∈ c.lineIntersectionsT l) :
    0 ≤ t ∧ t ≤ 1 ∧
    (l.vector.cross (c.sample t - l.point) = 0
      ∨ ∃ s' t' : ℝ, |s' - t'| < Roots.epsN (c.liCoefB (Cubic.unitLine l) / c.liCoefA (Cubic.unitLine l))
            (c.liCoefC (Cubic.unitLine l) / c.liCoefA (Cubic.unitLine l))
            (c.liCoefD (Cubic.unitLine l) / c.liCoefA (Cubic.unitLine l))
          ∧ (Cubic.unitLine l).vector.cross (c.sample t - l.point)
              = (9 / 8) * c.liCoefA (Cubic.unitLine l) * (s' + t') * (s' - t') ^ 2) :=
  cubic_line_reported_on_line_or_near real_cosLaws real_sqrt_nonneg real_sqrt_mul_self real_cbrt_pow
    real_finite heps c l hv hA t ht

/-- **Outside the regime over ℝ**: three crossings in `[0,1]` with `|A| < ε`: the whole curve piece
is within `ε` of the line (no crossing is "well separated" from the line's other points). -/
theorem cubic_line_outside_regime_flat_real (c : Cubic ℝ) (l : Line ℝ)
    (hv : l.vector.x ≠ 0 ∨ l.vector.y ≠ 0)
    (hA : |c.liCoefA (Cubic.unitLine l)| < Roots.eps (c.liCoefA (Cubic.unitLine l))
      (c.liCoefB (Cubic.unitLine l)) (c.liCoefC (Cubic.unitLine l)) (c.liCoefD (Cubic.unitLine l)))
    (t1 t2 t3 : ℝ) (h01 : 0 ≤ t1) (h12 : t1 < t2) (h23 : t2 < t3) (h31 : t3 ≤ 1)
    (on1 : l.vector.cross (c.sample t1 - l.point) = 0)
    (on2 : l.vector.cross (c.sample t2 - l.point) = 0)
    (on3 : l.vector.cross (c.sample t3 - l.point) = 0) (t : ℝ) (h0 : 0 ≤ t) (h1 : t ≤ 1) :
    |(Cubic.unitLine l).vector.cross (c.sample t - l.point)| < Roots.eps (c.liCoefA (Cubic.unitLine l))
      (c.liCoefB (Cubic.unitLine l)) (c.liCoefC (Cubic.unitLine l)) (c.liCoefD (Cubic.unitLine l)) :=
  (cubic_line_outside_regime_flat real_sqrt_mul_self c l hv _ hA t1 t2 t3 h01 h12 h23 h31 on1 on2 on3
    t h0 h1).1

/-- **The property's wording, ℝ**: if a line crosses a cubic Bézier at three parameters
`t₁ < t₂ < t₃` of `[0,1]` (three distinct roots of the composed cubic: all simple, the crossings are
transversal), `line_intersections_t` returns a duplicate-free list of length three whose members
are exactly `t₁, t₂, t₃`. -/
theorem cubic_line_crossings_reported_real (heps : ∀ r : ℝ, 0 < Eps.epsilonFor r)
    (c : Cubic ℝ) (l : Line ℝ) (hv : l.vector.x ≠ 0 ∨ l.vector.y ≠ 0)
    (hA : ¬ |c.liCoefA (Cubic.unitLine l)| < Roots.eps (c.liCoefA (Cubic.unitLine l))
      (c.liCoefB (Cubic.unitLine l)) (c.liCoefC (Cubic.unitLine l)) (c.liCoefD (Cubic.unitLine l)))
    (t1 t2 t3 : ℝ) (h01 : 0 ≤ t1) (h12 : t1 < t2) (h23 : t2 < t3) (h31 : t3 ≤ 1)
    (on1 : l.vector.cross (c.sample t1 - l.point) = 0)
    (on2 : l.vector.cross (c.sample t2 - l.point) = 0)
    (on3 : l.vector.cross (c.sample t3 - l.point) = 0) :
    (∀ t : ℝ, t ∈ c.lineIntersectionsT l ↔ (t = t1 ∨ t = t2 ∨ t = t3))
    ∧ (c.lineIntersectionsT l).length = 3 ∧ (c.lineIntersectionsT l).Nodup := by
  obtain ⟨h1, h2, h3, _⟩ := cubic_line_crossings_reported real_cosLaws real_sqrt_nonneg real_sqrt_mul_self
    real_finite heps c l hv hA t1 t2 t3 h01 h12 h23 h31 on1 on2 on3
  exact ⟨h1, h2, h3⟩

/-- **… and in which order**: the list is `[t₃, t₁, t₂]` (largest, smallest, middle: the angles
`θ/3`, `θ/3 + 2π/3`, `θ/3 + 4π/3`). -/
theorem cubic_line_crossings_order_real (heps : ∀ r : ℝ, 0 < Eps.epsilonFor r)
    (c : Cubic ℝ) (l : Line ℝ) (hv : l.vector.x ≠ 0 ∨ l.vector.y ≠ 0)
    (hA : ¬ |c.liCoefA (Cubic.unitLine l)| < Roots.eps (c.liCoefA (Cubic.unitLine l))
      (c.liCoefB (Cubic.unitLine l)) (c.liCoefC (Cubic.unitLine l)) (c.liCoefD (Cubic.unitLine l)))
    (t1 t2 t3 : ℝ) (h01 : 0 ≤ t1) (h12 : t1 < t2) (h23 : t2 < t3) (h31 : t3 ≤ 1)
    (on1 : l.vector.cross (c.sample t1 - l.point) = 0)
    (on2 : l.vector.cross (c.sample t2 - l.point) = 0)
    (on3 : l.vector.cross (c.sample t3 - l.point) = 0) :
    c.lineIntersectionsT l = [t3, t1, t2] := by
  obtain ⟨hmem, hlen, _, hlist⟩ := cubic_line_crossings_reported real_cosLaws real_sqrt_nonneg
    real_sqrt_mul_self real_finite heps c l hv hA t1 t2 t3 h01 h12 h23 h31 on1 on2 on3
  set A := c.liCoefA (Cubic.unitLine l)
  set B := c.liCoefB (Cubic.unitLine l)
  set C := c.liCoefC (Cubic.unitLine l)
  set D := c.liCoefD (Cubic.unitLine l)
  -- for Δ ≥ 0 the root finder returns at most two values
  have hΔ : disc A B C D < 0 := by
    by_contra hn
    rw [hlist, Roots.cubicPolynomialRoots, cubic_roots_cardano_shape _ A B C D hA (not_lt.mp hn)] at hlen
    split at hlen <;> simp at hlen
  obtain ⟨x1, x2, x3, hl, o1, o2⟩ := cubic_roots_trig_order_real A B C D hA hΔ
  rw [hlist, hl] at hmem ⊢
  obtain ⟨e2, e3, e1⟩ := increasing_triple_eq h12 h23 o1 o2 ((hmem x2).mp (by simp))
    ((hmem x3).mp (by simp)) ((hmem x1).mp (by simp))
  rw [e1, e2, e3]

/-- **Segment version, one crossing**: the curve at `t ∈ (0,1)` meets the non-degenerate segment
at `u ∈ [0,1]` transversally: `(t, u)` is reported by `line_segment_intersections_t`. -/
theorem cubic_segment_transversal_crossing_reported_real (heps : ∀ r : ℝ, 0 < Eps.epsilonFor r)
    (hE : 0 < (Eps.epsilon : ℝ)) (c : Cubic ℝ) (s : Seg ℝ) (hab : s.a ≠ s.b)
    (hA : ¬ |c.liCoefA (Cubic.unitLine s.toLine)| < Roots.eps (c.liCoefA (Cubic.unitLine s.toLine))
      (c.liCoefB (Cubic.unitLine s.toLine)) (c.liCoefC (Cubic.unitLine s.toLine))
      (c.liCoefD (Cubic.unitLine s.toLine)))
    (t u : ℝ) (ht0 : 0 < t) (ht1 : t < 1) (hu0 : 0 ≤ u) (hu1 : u ≤ 1) (hp : c.sample t = s.sample u)
    (htr : s.toVector.cross (c.derivative t) ≠ 0) : (t, u) ∈ c.lineSegmentIntersectionsT s :=
  cubic_segment_transversal_crossing_reported real_cosLaws real_sqrt_nonneg real_sqrt_mul_self real_cbrt_pow
    real_finite heps hE c s hab hA t u ht0 ht1 hu0 hu1 hp htr

/-- **Segment version, three crossings of the carrier line** at `0 < t₁ < t₂ < t₃ < 1`: the answer
of `line_segment_intersections_t` is exactly the set of pairs `(tᵢ, u)`, `u ∈ [0,1]`,
`curve(tᵢ) = segment(u)`. -/
theorem cubic_segment_crossings_reported_real (heps : ∀ r : ℝ, 0 < Eps.epsilonFor r)
    (hE : 0 < (Eps.epsilon : ℝ)) (c : Cubic ℝ) (s : Seg ℝ) (hab : s.a ≠ s.b)
    (hA : ¬ |c.liCoefA (Cubic.unitLine s.toLine)| < Roots.eps (c.liCoefA (Cubic.unitLine s.toLine))
      (c.liCoefB (Cubic.unitLine s.toLine)) (c.liCoefC (Cubic.unitLine s.toLine))
      (c.liCoefD (Cubic.unitLine s.toLine)))
    (t1 t2 t3 : ℝ) (h01 : 0 < t1) (h12 : t1 < t2) (h23 : t2 < t3) (h31 : t3 < 1)
    (on1 : s.toVector.cross (c.sample t1 - s.a) = 0)
    (on2 : s.toVector.cross (c.sample t2 - s.a) = 0)
    (on3 : s.toVector.cross (c.sample t3 - s.a) = 0) (t u : ℝ) :
    (t, u) ∈ c.lineSegmentIntersectionsT s ↔
      ((t = t1 ∨ t = t2 ∨ t = t3) ∧ 0 ≤ u ∧ u ≤ 1 ∧ c.sample t = s.sample u) :=
  cubic_segment_crossings_reported real_cosLaws real_sqrt_nonneg real_sqrt_mul_self real_finite heps hE c s
    hab hA t1 t2 t3 h01 h12 h23 h31 on1 on2 on3 t u

end general

/-! ### non-vacuity: a concrete cubic and line with three crossings, evaluated -/

section concrete

/-- lyon's `impl Scalar for f64` on real arguments: `EPSILON = 1e-8` and the `epsilon_for` table
(`reference.abs() as i64` = floor of the absolute value) -/
noncomputable def realEps64 : Eps ℝ where
  epsilon := 1 / 10 ^ 8
  epsilonFor r :=
    if Transc.toNat |r| ≤ 65535 then 1 / 10 ^ 8
    else if Transc.toNat |r| ≤ 8388607 then 1 / 10 ^ 5
    else if Transc.toNat |r| ≤ 4294967295 then 1 / 10 ^ 3
    else 1 / 10

attribute [local instance] realEps64

theorem realEps64_pos : ∀ r : ℝ, 0 < (Eps.epsilonFor r : ℝ) := by
  intro r
  show 0 < (if Transc.toNat |r| ≤ 65535 then (1 / 10 ^ 8 : ℝ) else if Transc.toNat |r| ≤ 8388607 then 1 / 10 ^ 5
    else if Transc.toNat |r| ≤ 4294967295 then 1 / 10 ^ 3 else 1 / 10)
  split_ifs <;> norm_num

theorem realEps64_le : ∀ r : ℝ, (Eps.epsilonFor r : ℝ) ≤ 1 / 10 := by
  intro r
  show (if Transc.toNat |r| ≤ 65535 then (1 / 10 ^ 8 : ℝ) else if Transc.toNat |r| ≤ 8388607 then 1 / 10 ^ 5
    else if Transc.toNat |r| ≤ 4294967295 then 1 / 10 ^ 3 else 1 / 10) ≤ 1 / 10
  split_ifs <;> norm_num

theorem realEps64_epsilon_pos : 0 < (Eps.epsilon : ℝ) := by
  show (0:ℝ) < 1 / 10 ^ 8
  norm_num

/-- the leading coefficient `1` passes the f64 non-zero test whatever the other coefficients -/
theorem one_regime (b c d : ℝ) : ¬ |(1:ℝ)| < Roots.eps 1 b c d := by
  rw [not_lt, abs_one]
  exact le_trans (realEps64_le _) (by norm_num)

/-- non-vacuity, Δ < 0: `x³ − 7x + 6 = (x − 1)(x − 2)(x + 3)`: `Δ = −100/27`; the three roots are
returned -/
example : (1:ℝ) ∈ Roots.cubicPolynomialRoots 1 0 (-7) 6 ∧ (2:ℝ) ∈ Roots.cubicPolynomialRoots 1 0 (-7) 6
    ∧ (-3:ℝ) ∈ Roots.cubicPolynomialRoots 1 0 (-7) 6 := by
  have hΔ : disc 1 0 (-7) 6 < 0 := by
    simp only [disc, geom, Nat.cast_ofNat]; norm_num
  obtain ⟨h, _, _⟩ := cubic_polynomial_roots_trig_iff_real realEps64_pos 1 0 (-7) 6 (one_regime _ _ _) hΔ
  refine ⟨(h 1).mpr (by norm_num), (h 2).mpr (by norm_num), (h (-3)).mpr (by norm_num)⟩

/-- non-vacuity, Δ > 0: `x³ − 1`: `Δ = 1/4`; the real root `1` is returned -/
example : (1:ℝ) ∈ Roots.cubicPolynomialRoots 1 0 0 (-1) := by
  have hΔ : disc 1 0 0 (-1) ≠ 0 := by
    simp only [disc, geom, Nat.cast_ofNat]; norm_num
  exact cubic_polynomial_roots_complete_real realEps64_pos 1 0 0 (-1) 1 (one_regime _ _ _) hΔ (by norm_num)

/-- non-vacuity, Δ = 0: `x³ − 3x − 2 = (x − 2)(x + 1)²`; the simple root `2` is returned (it is
simple: the derivative there is `9`) -/
example : disc 1 0 (-3) (-2) = 0 ∧ (2:ℝ) ∈ Roots.cubicPolynomialRoots 1 0 (-3) (-2) := by
  constructor
  · simp only [disc, geom, Nat.cast_ofNat]; norm_num
  · exact cubic_polynomial_roots_simple_complete_real realEps64_pos 1 0 (-3) (-2) 2 (one_regime _ _ _)
      (by norm_num) (by norm_num)

/-- the cubic (0,−9) (1,13) (2,−13) (3,9): `x(t) = 3t`, `y(t) = 96 (t − 1/4)(t − 1/2)(t − 3/4)` -/
def exCubic : Cubic ℝ := ⟨⟨0, -9⟩, ⟨1, 13⟩, ⟨2, -13⟩, ⟨3, 9⟩⟩
/-- the x-axis -/
def exLine : Line ℝ := ⟨⟨0, 0⟩, ⟨1, 0⟩⟩
/-- the part `[0,1]` of the x-axis -/
def exSeg : Seg ℝ := ⟨⟨0, 0⟩, ⟨1, 0⟩⟩

theorem exLine_unit : Cubic.unitLine exLine = exLine := by
  unfold Cubic.unitLine Cubic.lineLen exLine
  have : Transc.sqrt ((⟨1, 0⟩ : P ℝ).sqLen) = 1 := by
    show Real.sqrt (1 * 1 + 0 * 0) = 1
    norm_num
  rw [this]
  simp [P.sdiv]

theorem exSeg_toLine : exSeg.toLine = exLine := by
  unfold Seg.toLine exSeg exLine
  simp [P.sub_def]

theorem ex_sample (t : ℝ) : exCubic.sample t = ⟨3 * t, 96 * ((t - 1 / 4) * (t - 1 / 2) * (t - 3 / 4))⟩ := by
  apply P.ext' <;> simp only [exCubic, geom, Nat.cast_one, Nat.cast_ofNat] <;> ring

theorem ex_regime : ¬ |exCubic.liCoefA (Cubic.unitLine exLine)| < Roots.eps (exCubic.liCoefA (Cubic.unitLine exLine))
    (exCubic.liCoefB (Cubic.unitLine exLine)) (exCubic.liCoefC (Cubic.unitLine exLine))
    (exCubic.liCoefD (Cubic.unitLine exLine)) := by
  rw [exLine_unit, not_lt]
  have hA : exCubic.liCoefA exLine = -96 := by
    simp only [exCubic, exLine, geom, Nat.cast_ofNat]; norm_num
  rw [hA]
  refine le_trans (realEps64_le _) ?_
  norm_num

theorem ex_on (t : ℝ) (h : t = 1 / 4 ∨ t = 1 / 2 ∨ t = 3 / 4) :
    exLine.vector.cross (exCubic.sample t - exLine.point) = 0 := by
  rw [ex_sample]
  rcases h with h | h | h <;> rw [h] <;> simp only [exLine, geom] <;> norm_num

theorem realEps64_ge : ∀ r : ℝ, 1 / 10 ^ 8 ≤ (Eps.epsilonFor r : ℝ) := by
  intro r
  show 1 / 10 ^ 8 ≤ (if Transc.toNat |r| ≤ 65535 then (1 / 10 ^ 8 : ℝ) else if Transc.toNat |r| ≤ 8388607 then 1 / 10 ^ 5
    else if Transc.toNat |r| ≤ 4294967295 then 1 / 10 ^ 3 else 1 / 10)
  split_ifs <;> norm_num

/-- the same cubic flattened by `10⁻¹¹` in `y`: three crossings of the x-axis, but the leading
coefficient `96·10⁻¹¹` fails the f64 non-zero test (`ε = 10⁻⁸`) -/
noncomputable def flatCubic : Cubic ℝ :=
  ⟨⟨0, -9 / 10 ^ 11⟩, ⟨1, 13 / 10 ^ 11⟩, ⟨2, -13 / 10 ^ 11⟩, ⟨3, 9 / 10 ^ 11⟩⟩

/-- non-vacuity of `cubic_line_outside_regime_flat_real`: its hypotheses hold for `flatCubic` and the
x-axis (crossings at `1/4, 1/2, 3/4`, `|A| = 96·10⁻¹¹ < 10⁻⁸ ≤ ε`); so the whole curve is within `ε` of
the axis -/
example (t : ℝ) (h0 : 0 ≤ t) (h1 : t ≤ 1) :
    |(Cubic.unitLine exLine).vector.cross (flatCubic.sample t - exLine.point)|
      < Roots.eps (flatCubic.liCoefA (Cubic.unitLine exLine)) (flatCubic.liCoefB (Cubic.unitLine exLine))
          (flatCubic.liCoefC (Cubic.unitLine exLine)) (flatCubic.liCoefD (Cubic.unitLine exLine)) := by
  have hs : ∀ t : ℝ, flatCubic.sample t = ⟨3 * t, 96 / 10 ^ 11 * ((t - 1 / 4) * (t - 1 / 2) * (t - 3 / 4))⟩ := by
    intro t
    apply P.ext' <;> simp only [flatCubic, geom, Nat.cast_one, Nat.cast_ofNat] <;> ring
  have on : ∀ t : ℝ, (t = 1 / 4 ∨ t = 1 / 2 ∨ t = 3 / 4) →
      exLine.vector.cross (flatCubic.sample t - exLine.point) = 0 := by
    intro t h
    rw [hs]
    rcases h with h | h | h <;> rw [h] <;> simp only [exLine, geom] <;> norm_num
  apply cubic_line_outside_regime_flat_real flatCubic exLine (Or.inl (by simp [exLine])) _
    (1 / 4) (1 / 2) (3 / 4) (by norm_num) (by norm_num) (by norm_num) (by norm_num)
    (on _ (Or.inl rfl)) (on _ (Or.inr (Or.inl rfl))) (on _ (Or.inr (Or.inr rfl))) t h0 h1
  rw [exLine_unit]
  have hA : flatCubic.liCoefA exLine = -96 / 10 ^ 11 := by
    simp only [flatCubic, exLine, geom, Nat.cast_ofNat]; norm_num
  rw [hA]
  refine lt_of_lt_of_le ?_ (realEps64_ge _)
  rw [abs_of_neg (by norm_num)]; norm_num

/-- **A concrete cubic and line with three crossings, evaluated**: the cubic (0,−9) (1,13) (2,−13)
(3,9) crosses the x-axis at `t = 1/4, 1/2, 3/4`; over ℝ with the f64 `epsilon_for` table the model
of `line_intersections_t` returns exactly `[3/4, 1/4, 1/2]`.  (The same model `#eval`uated at `Float` returns
`[0.75, 0.25 + 1 ulp, 0.5 − 1 ulp]`, at `Float32` `[0.75, 0.25 − 2 ulp, 0.5]` — same order; the tie
compares such outputs with lyon bit for bit on every run.) -/
theorem three_crossings_evaluated_real : exCubic.lineIntersectionsT exLine = [3 / 4, 1 / 4, 1 / 2] :=
  cubic_line_crossings_order_real realEps64_pos exCubic exLine (Or.inl (by simp [exLine])) ex_regime
    (1 / 4) (1 / 2) (3 / 4) (by norm_num) (by norm_num) (by norm_num) (by norm_num)
    (ex_on _ (Or.inl rfl)) (ex_on _ (Or.inr (Or.inl rfl))) (ex_on _ (Or.inr (Or.inr rfl)))

/-- non-vacuity of `cubic_line_reported_on_line_or_near_real`: its hypotheses hold for `exCubic` and
the x-axis; `3/4` is reported, so it is in `[0,1]` and on the line (or the near-miss value) -/
example : (0:ℝ) ≤ 3 / 4 ∧ (3 / 4 : ℝ) ≤ 1 := by
  obtain ⟨h0, h1, _⟩ := cubic_line_reported_on_line_or_near_real realEps64_pos exCubic exLine
    (Or.inl (by simp [exLine])) ex_regime (3 / 4) (by rw [three_crossings_evaluated_real]; simp)
  exact ⟨h0, h1⟩

/-- non-vacuity of the transversality hypothesis: at `t = 1/2` the tangent `(3, −6)` is not parallel
to the x-axis -/
example : exLine.vector.cross (exCubic.derivative (1 / 2)) ≠ 0 := by
  simp only [exCubic, exLine, geom, Nat.cast_ofNat]; norm_num

/-- **… and against the segment `[0,1]` of the x-axis**: of the three crossings of the carrier
line (at `x = 3/4, 3/2, 9/4`) only the first lies on the segment; `line_segment_intersections_t`
returns exactly the pair `(1/4, 3/4)`. -/
theorem segment_crossing_evaluated_real (t u : ℝ) :
    (t, u) ∈ exCubic.lineSegmentIntersectionsT exSeg ↔ (t = 1 / 4 ∧ u = 3 / 4) := by
  have hab : exSeg.a ≠ exSeg.b := by
    intro h
    have := congrArg P.x h
    simp [exSeg] at this
  have hon : ∀ t : ℝ, (t = 1 / 4 ∨ t = 1 / 2 ∨ t = 3 / 4) → exSeg.toVector.cross (exCubic.sample t - exSeg.a) = 0 := by
    intro t h
    have := ex_on t h
    rw [← exSeg_toLine] at this
    exact this
  rw [cubic_segment_crossings_reported_real realEps64_pos realEps64_epsilon_pos exCubic exSeg hab
    (by rw [exSeg_toLine]; exact ex_regime) (1 / 4) (1 / 2) (3 / 4) (by norm_num) (by norm_num) (by norm_num)
    (by norm_num) (hon _ (Or.inl rfl)) (hon _ (Or.inr (Or.inl rfl))) (hon _ (Or.inr (Or.inr rfl))) t u]
  have hs : exSeg.sample u = ⟨u, 0⟩ := by
    apply P.ext' <;> simp only [exSeg, geom, Nat.cast_one] <;> ring
  rw [ex_sample, hs]
  constructor
  · rintro ⟨ht, hu0, hu1, hp⟩
    have hx : 3 * t = u := congrArg P.x hp
    rcases ht with h | h | h
    · exact ⟨h, by rw [← hx, h]; norm_num⟩
    · exfalso; rw [h] at hx; linarith
    · exfalso; rw [h] at hx; linarith
  · rintro ⟨ht, hu⟩
    refine ⟨Or.inl ht, by rw [hu]; norm_num, by rw [hu]; norm_num, ?_⟩
    rw [ht, hu]
    apply P.ext' <;> norm_num

end concrete

end Lyon.C12Real
