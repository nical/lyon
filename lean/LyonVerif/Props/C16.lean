/-
  C16 — flatten / transform adapters commute with building; attributes interpolate in t.

  All statements are about `Model/Path/Adapters.lean` — the definitions the driver runs at
  `Float32` against the real adapters on every check (lyon_geom's curve flattener is a parameter
  there: the tie feeds what the real flattener returned for each curve; C09 is about it).  They hold for EVERY builder program of any length, every point type,
  every point map and every curve flattener `F : Flattener π K` / `G : IterFlattener π`
  (hypotheses on the flattener, where needed, are stated: it ends at `(to, 1)`).

  Not covered here: the distance between the flattened and the original path (C09's statement
  about the flattener, a parameter in this file; `Props/C16c.lean` and `Props/C16e.lean` have it
  per curve for lyon_geom's own flattener) and IEEE rounding of the interpolation.
-/
import LyonVerif.Lemmas.Adapters
import LyonVerif.Lemmas.AdaptersStored
import LyonVerif.Lemmas.AdaptersField
import LyonVerif.Lemmas.Field
import LyonVerif.Model.Geom.Basic
import LyonVerif.Model.RatScalar

set_option linter.unusedSectionVars false
set_option linter.unusedVariables false

namespace Lyon.C16
open Lyon Lyon.Path Lyon.Adapt

variable {π π' : Type}

/-- Transforming while building = transforming while iterating needs no hypothesis at all (any
program, any point types). -/
theorem transform_commutes_builder_iter {A : Type} (g : π → π') (prog : List (Call π A)) :
    specEvents (xfBuilder g prog) = xfIter g (specEvents prog) := by
  simpa [specEvents, xfBuilder, xfIter] using specFrom_map g none prog

/-- Transforming while building (`builder::Transformed`), while iterating
(`iterator::Transformed` / `PathEvent::transformed`) or after storing (`Path::transformed`) gives
the same events, for EVERY point map `g` (in particular `Xf.apply m` for every affine map `m`)
and every program: the events of the transformed program are the transformed events of the
program, and a path stored from a valid program, transformed in place (no `points[…]` of the
walk outside the storage: `applyTransform` is `some`) and iterated, yields exactly those. -/
theorem transform_commutes {S : Type} [Inhabited S] (g : Pt S → Pt S) (n : Nat)
    (prog : List (Call (Pt S) (List S))) (hn : WellNested prog) (ha : attrsOk n prog = true) :
    -- builder side = iterator side
    specEvents (xfBuilder g prog) = xfIter g (specEvents prog) ∧
    -- stored = iterator side (and the stored route reads/writes nothing outside the storage)
    (buildWithAttributes n prog).bind (fun p => (applyTransform g p).bind PathData.iter)
      = some (xfIter g (specEvents prog)) := by
  refine ⟨transform_commutes_builder_iter g prog, ?_⟩
  rw [buildWithAttributes_emit n prog ha]
  simpa [xfIter] using stored_transform_iter g n prog hn ha

/-- Stored route at the level of the storage itself: building a path and transforming it in
place gives, slot for slot, the path built through `builder::Transformed` — positions, control
points, attribute slots and the copy of the first endpoint that `end(true)` stores (transformed
by `apply_transform` since lyon commit f78412c3; before it that slot stayed untransformed and
this statement was false for every program with a closed sub-path).  Hence every view
(`iter`, `iter_with_attributes`, `id_iter` + stores, `reversed`, `first/last_endpoint`) of the
transformed path is the view of the transformed program. -/
theorem transform_commutes_stored {S : Type} [Inhabited S] (g : Pt S → Pt S) (n : Nat)
    (prog : List (Call (Pt S) (List S))) (hn : WellNested prog) (ha : attrsOk n prog = true) :
    (buildWithAttributes n prog).bind (applyTransform g)
      = buildWithAttributes n (xfBuilder g prog) ∧
    ((buildWithAttributes n prog).bind (applyTransform g)).isSome = true := by
  have hb := buildWithAttributes_emit n (xfBuilder g prog)
    (by simpa [xfBuilder, attrsOk_map] using ha)
  rw [buildWithAttributes_emit n prog ha, hb]
  simp [xfBuilder, stored_transform g n prog hn ha]

/-- `transform_commutes_builder_iter` for the affine maps of `euclid::Transform2D`, over any
ordered field -/
theorem transform_commutes_affine {K A : Type} [Field K] [LinearOrder K] [IsStrictOrderedRing K]
    (m : Xf K) (prog : List (Call (P K) A)) :
    specEvents (xfBuilder m.apply prog) = xfIter m.apply (specEvents prog) :=
  transform_commutes_builder_iter m.apply prog

/-- attributes are not touched by a transform -/
theorem transform_keeps_attributes {A : Type} (g : π → π') (prog : List (Call π A)) :
    (endpoints (xfBuilder g prog)).map (·.2) = (endpoints prog).map (·.2) := by
  simp [xfBuilder, endpoints_map]

section
variable {α : Type} [Scalar α]

/-- The output of every flattening adapter consists of begin / line / end only. -/
theorem flatten_only_lines (F : Flattener π α) (G : IterFlattener π) (o : π) (n : Nat)
    (prog : List (Call π (List α))) (evs : List (Event π)) (aevs : List (Event (AP π α))) :
    (∀ c ∈ flatBuilder F o n prog, Call.isFlat c = true) ∧
    (∀ e ∈ flatIter G evs, Event.isFlat e = true) ∧
    (∀ e ∈ flatAttrIter F aevs, Event.isFlat e = true) :=
  ⟨isFlat_flatRun F _ prog, isFlat_flatIter G evs, isFlat_flatAttrIter F aevs⟩

/-- Adapters map well-nested call sequences to well-nested ones (after every prefix:
`flatten_prefix_valid`). -/
theorem flatten_wellnested {π' : Type} (F : Flattener π α) (o : π) (n : Nat) (g : π → π')
    (prog : List (Call π (List α))) (h : WellNested prog) :
    WellNested (flatBuilder F o n prog) ∧
    WellNested (xfBuilder g prog) ∧
    WellNested (noAttrBuilder (B := α) prog) ∧
    WellNested (xfBuilder g (flatBuilder F o n prog)) ∧
    WellNested (flatBuilder F o n (xfBuilder id prog)) := by
  have h0 := (wellNestedFrom_iff_nestState false prog).1 h
  have hf := nestState_flatRun F (FlatB.init o n) false false prog h0
  refine ⟨(wellNestedFrom_iff_nestState _ _).2 hf, (wellNestedFrom_iff_nestState _ _).2 ?_,
    (wellNestedFrom_iff_nestState _ _).2 ?_, (wellNestedFrom_iff_nestState _ _).2 ?_,
    (wellNestedFrom_iff_nestState _ _).2 ?_⟩
  · simpa [xfBuilder, nestState_map] using h0
  · simpa [noAttrBuilder, nestState_noAttr] using h0
  · simpa [xfBuilder, nestState_map, flatBuilder] using hf
  · apply nestState_flatRun
    simpa [xfBuilder, nestState_map] using h0

/-- The builder-side `Flattened` leaves the wrapped builder in the protocol state the program
was in, after every prefix that had no call out of place. -/
theorem flatten_prefix_valid (F : Flattener π α) (o : π) (n : Nat) (b : Bool)
    (prog : List (Call π (List α))) (h : nestState false prog = some b) :
    nestState false (flatBuilder F o n prog) = some b :=
  nestState_flatRun F _ false b prog h

end

section Field
variable {K : Type} [Field K] [LinearOrder K] [IsStrictOrderedRing K]

/-- the hypothesis on the curve flattener (C09: `for_each_flattened_with_t` ends with the
segment reaching `to` at `t = 1`) -/
def EndsAtTo (F : Flattener π K) : Prop :=
  (∀ a c b, ∃ l x, F.quad a c b = l ++ [⟨x, b, 1⟩]) ∧
  (∀ a c d b, ∃ l x, F.cubic a c d b = l ++ [⟨x, b, 1⟩])

/-- … and on the curve iterators (`Flattened::next` ends with `to`) -/
def IterEndsAtTo (G : IterFlattener π) : Prop :=
  (∀ a c b, ∃ l, G.quad a c b = l ++ [b]) ∧ (∀ a c d b, ∃ l, G.cubic a c d b = l ++ [b])

/-- the hypotheses speak of the fields `quad` / `cubic`; the run lemmas of `Lemmas/Adapters.lean`
ask the same of `F.on k` / `G.on k` for the curves `k` met -/
theorem EndsAtTo.on {F : Flattener π K} (hF : EndsAtTo F) (k : Curve π) :
    ∃ l x, F.on k = l ++ [⟨x, k.to, 1⟩] := by
  cases k with
  | quad a c b => exact hF.1 a c b
  | cubic a c d b => exact hF.2 a c d b

theorem IterEndsAtTo.on {G : IterFlattener π} (hG : IterEndsAtTo G) (k : Curve π) :
    ∃ l, G.on k = l ++ [k.to] := by
  cases k with
  | quad a c b => exact hG.1 a c b
  | cubic a c d b => exact hG.2 a c d b

/-- Builder-side flattening keeps every original endpoint, exactly and in order, carrying its
original attributes (the endpoint list of the program is a subsequence of the endpoint list of
the output — everything else in the output is an inserted point), and forwards the sub-path
marks (`begin`, `end(close)`) unchanged.  Holds for every program, well nested or not. -/
theorem flatten_keeps_endpoints (F : Flattener π K) (hF : EndsAtTo F) (o : π) (n : Nat)
    (prog : List (Call π (List K))) :
    List.Sublist (endpoints prog) (endpoints (flatBuilder F o n prog)) ∧
    (flatBuilder F o n prog).filter Call.isMark = prog.filter Call.isMark :=
  ⟨keeps_run_on (by rw [sc_beq]) F _ prog fun k _ => by rw [sc_one_eq]; exact hF.on k,
   marks_flatRun F _ prog⟩

/-- Iterator-side flattening (`iterator::Flattened`) keeps every endpoint the stream visits,
exactly and in order. -/
theorem iter_flatten_keeps_endpoints (G : IterFlattener π) (hG : IterEndsAtTo G)
    (evs : List (Event π)) :
    List.Sublist (eventEndpoints evs) (eventEndpoints (flatIter G evs)) :=
  iter_keeps_on G evs fun k _ => hG.on k

/-- the model's interpolation is the linear interpolation `(1−t)·a_from + t·a_to`, component
by component (both the builder-side and the `for_each_flattened` expression) -/
theorem interp_is_lerp (fromA toA : List K) (t : K) :
    interp fromA toA t = List.zipWith (fun f g => (1 - t) * f + t * g) fromA toA ∧
    interpI fromA toA t = List.zipWith (fun f g => (1 - t) * f + t * g) fromA toA := by
  rw [← interp_eq_interpI, and_self]
  simp only [interp]
  congr 1; funext f g
  show f * (((1 : ℕ) : K) - t) + g * t = _
  push_cast; ring

/-- One `quadratic_bezier_to` in a state whose `prev_attributes` ARE the attributes of the
current endpoint: every point emitted carries `(1−t)·a_from + t·a_to` (`interp`) for the `t` the
flattener reported. -/
theorem flatten_step_interp (F : Flattener π K) (s : FlatB π K) (c p : π) (a : List K)
    (h : s.prev.length = a.length) :
    (s.step F (.quad c p a)).2
      = (F.quad s.cur c p).map fun g => Call.line g.b (interp s.prev a g.t) := by
  simp [FlatB.step, emitLines_eq_specLines _ _ _ h, specLines]

/-- For EVERY program whose endpoints carry `n` attributes — curves that
are the first edge of their sub-path included — the builder-side adapter's output IS the
reference flattening `flatSpec`, in which every point inserted for a curve from an endpoint with
attributes `a_from` to one with `a_to` carries `interp a_from a_to t = (1−t)·a_from + t·a_to`
(`interp_is_lerp`) for the `t` the flattener reported. -/
theorem flatten_attr_interp (F : Flattener π K) (o : π) (n : Nat)
    (prog : List (Call π (List K))) (hlen : attrsLen n prog = true) :
    flatBuilder F o n prog = flatSpec F o n prog :=
  run_eq_specRun F n _ prog hlen (by simp [FlatB.init])

/-- … and the reference flattening right after `begin` interpolates from the begin point's
attributes: `begin p [a_from]; quad → q [a_to]` emits `interp a_from a_to t` at every reported
`t` (lyon as of commit babe4617). -/
theorem flatten_attr_interp_first_curve (F : Flattener π K) (o p c q : π) (n : Nat)
    (a b : List K) (ha : a.length = n) (hb : b.length = n) :
    flatBuilder F o n [.begin p a, .quad c q b]
      = .begin p a :: (F.quad p c q).map fun g => Call.line g.b (interp a b g.t) := by
  rw [flatten_attr_interp F o n _ (by simp [attrsLen, ha, hb])]
  simp [flatSpec, FlatB.specRun, FlatB.specStep, specLines]

theorem eventEndpoints_linesA_lerp (fa ta ca : List K) (segs : List (FSeg π K)) :
    eventEndpoints (linesA fa ta ca segs)
      = segs.map fun s => (s.b, List.zipWith (fun f g => (1 - s.t) * f + s.t * g) fa ta) := by
  rw [eventEndpoints_linesA]
  congr 1; funext s
  rw [(interp_is_lerp fa ta s.t).2]

/-- The iterator-side `for_each_flattened` is right for EVERY curve (first edge of a sub-path or
not): the endpoints of the lines emitted for a curve event from `(a, fa)` to `(b, ta)` are the
flattener's points, each carrying `(1−t)·fa + t·ta` for the `t` the flattener reported (that the
last one is `(b, ta)` itself when the flattener ends at `(b, 1)`:
`for_each_flattened_keeps_endpoint`). -/
theorem for_each_flattened_attr_interp (F : Flattener π K) (a b : AP π K) (c : AP π K)
    (r : List (Event (AP π K))) :
    flatAttrIter F (.quad a c b :: r) = linesA a.2 b.2 a.2 (F.quad a.1 c.1 b.1) ++ flatAttrIter F r ∧
    eventEndpoints (linesA a.2 b.2 a.2 (F.quad a.1 c.1 b.1))
      = (F.quad a.1 c.1 b.1).map
          fun s => (s.b, List.zipWith (fun f g => (1 - s.t) * f + s.t * g) a.2 b.2) :=
  ⟨rfl, eventEndpoints_linesA_lerp _ _ _ _⟩

theorem for_each_flattened_attr_interp_cubic (F : Flattener π K) (a b : AP π K) (c d : AP π K)
    (r : List (Event (AP π K))) :
    flatAttrIter F (.cubic a c d b :: r)
      = linesA a.2 b.2 a.2 (F.cubic a.1 c.1 d.1 b.1) ++ flatAttrIter F r ∧
    eventEndpoints (linesA a.2 b.2 a.2 (F.cubic a.1 c.1 d.1 b.1))
      = (F.cubic a.1 c.1 d.1 b.1).map
          fun s => (s.b, List.zipWith (fun f g => (1 - s.t) * f + s.t * g) a.2 b.2) :=
  ⟨rfl, eventEndpoints_linesA_lerp _ _ _ _⟩

/-- `for_each_flattened` keeps the endpoint of every curve with its attributes: the last line
emitted for a curve ending in `(b, ta)` ends in `(b, ta)`. -/
theorem for_each_flattened_keeps_endpoint (fa ta ca : List K) (h : fa.length = ta.length)
    (l : List (FSeg π K)) (x b : π) :
    eventEndpoints (linesA fa ta ca (l ++ [⟨x, b, 1⟩]))
      = eventEndpoints (linesA fa ta ca l) ++ [(b, ta)] := by
  have h1 : interpI fa ta 1 = ta := by
    rw [← interp_eq_interpI, interp_one fa ta h]
  simp [eventEndpoints_linesA, h1]

/-- Flattening at build time and flattening at iteration time give the same path: for every
well-nested program, the events denoted by what the builder-side `Flattened` hands down are
exactly what `iterator::Flattened` yields over the events of the unflattened program — provided
the two lyon_geom entry points agree on the points (`G` yields the `line.to`s of `F`) and `F`
ends at `to`.  (Positions only: the events carry no attributes.) -/
theorem flatten_commutes_builder_iter (F : Flattener π K) (G : IterFlattener π) (hF : EndsAtTo F)
    (hq : ∀ a c b, G.quad a c b = (F.quad a c b).map (·.b))
    (hc : ∀ a c d b, G.cubic a c d b = (F.cubic a c d b).map (·.b))
    (o : π) (n : Nat) (prog : List (Call π (List K))) (h : WellNested prog) :
    specEvents (flatBuilder F o n prog) = flatIter G (specEvents prog) :=
  flatRun_events_on F G none prog h _ (by intro f c h; cases h) fun k _ => by
    obtain ⟨l, x, e⟩ := hF.on k
    exact ⟨⟨l, x, _, e⟩, by cases k with | quad a c b => exact hq a c b | cubic a c d b => exact hc a c d b⟩

/-- the hypothesis on the callback flattener for the whole-stream statement: the segments of a
curve form a chain starting at `from` (C09 `connected`) and end with `(to, t = 1)` -/
def ChainedToEnd (F : Flattener π K) : Prop :=
  EndsAtTo F ∧ (∀ a c b, Chained a (F.quad a c b)) ∧ (∀ a c d b, Chained a (F.cubic a c d b))

/-- Flattening while building and `for_each_flattened` over the stored, unflattened path give the
same stream INCLUDING attributes: for every well-nested program with `n` attributes, what
`iter_with_attributes` shows of the path built through `Flattened` is exactly what
`iter_with_attributes().for_each_flattened` yields for the path built without it (same
tolerance, i.e. same flattener `F`, which is chained and ends at `(to, 1)`). -/
theorem flatten_commutes_with_attributes (F : Flattener π K) (hF : ChainedToEnd F) (o : π) (n : Nat)
    (prog : List (Call π (List K))) (hn : WellNested prog) (hlen : attrsLen n prog = true) :
    attrEvents (flatBuilder F o n prog) = flatAttrIter F (attrEvents prog) := by
  rw [flatten_attr_interp F o n prog hlen]
  exact specRun_attrEvents_on F n none _ prog hn hlen (by intro f c h; cases h) fun k _ =>
    ⟨hF.1.on k, by cases k with | quad a c b => exact hF.2.1 a c b | cubic a c d b => exact hF.2.2 a c d b⟩

/-- `iterator::Flattened` maps a well-formed event stream (every edge starts where the previous
one ended, `End` names the last and first point) to a well-formed one, when the curve iterators
end at `to`.  (In f32 this needed lyon commit e20d2048 for cubics.) -/
theorem flatIter_wellformed [DecidableEq π] (G : IterFlattener π) (hG : IterEndsAtTo G)
    (evs : List (Event π)) (h : WellFormed evs) : WellFormed (flatIter G evs) :=
  wellFormedFrom_flatIter_on G evs (fun k _ => hG.on k) none h

/-- `Flattened<Transformed<_>>` (flatten, then transform: `b.transformed(g).flattened(tol)`) and
`Transformed<Flattened<_>>` (transform, then flatten) both keep every original endpoint —
transformed, with its original attributes, in order.  The two flatteners may differ (the curve
is flattened in different spaces, so the INSERTED points differ in number and position; the
property allows that). -/
theorem nesting_orders {π' : Type} (F : Flattener π K) (F' : Flattener π' K) (hF : EndsAtTo F)
    (hF' : EndsAtTo F') (g : π → π') (o : π) (o' : π') (n : Nat) (prog : List (Call π (List K))) :
    List.Sublist ((endpoints prog).map fun e => (g e.1, e.2))
      (endpoints (xfBuilder g (flatBuilder F o n prog))) ∧
    List.Sublist ((endpoints prog).map fun e => (g e.1, e.2))
      (endpoints (flatBuilder F' o' n (xfBuilder g prog))) := by
  constructor
  · rw [xfBuilder, endpoints_map]
    exact (flatten_keeps_endpoints F hF o n prog).1.map _
  · have := (flatten_keeps_endpoints F' hF' o' n (xfBuilder g prog)).1
    rwa [xfBuilder, endpoints_map] at this

/-- the same for the iterator-side adapters -/
theorem nesting_orders_iter {π' : Type} (G : IterFlattener π) (G' : IterFlattener π')
    (hG : IterEndsAtTo G) (hG' : IterEndsAtTo G') (g : π → π') (evs : List (Event π)) :
    List.Sublist ((eventEndpoints evs).map g) (eventEndpoints (xfIter g (flatIter G evs))) ∧
    List.Sublist ((eventEndpoints evs).map g) (eventEndpoints (flatIter G' (xfIter g evs))) := by
  constructor
  · rw [xfIter, eventEndpoints_map]
    exact (iter_flatten_keeps_endpoints G hG evs).map _
  · have := iter_flatten_keeps_endpoints G' hG' (xfIter g evs)
    rwa [xfIter, eventEndpoints_map] at this

end Field

/-! ## A curve directly after `begin` (builder side)

Evaluated on the model itself, over `ℚ`, with a two-segment flattener (midpoint at `t = 1/2`,
then the end point at `t = 1`).  Positions are integers (irrelevant here).  `Flattened::begin`
copies the attributes into `prev_attributes` (lyon commit babe4617, finding
`C16-flattened-begin-prev-attributes`: without the copy the first program below yields `10` and
the second `207/2` at the inserted point).  The same programs run as corpus/witness cases `wit`
in the harness. -/

/-- a flattener with one inserted point at `t = 1/2` -/
def midFlattener : Flattener Int Rat where
  quad a _ b := [⟨a, (a + b) / 2, 1/2⟩, ⟨(a + b) / 2, b, 1⟩]
  cubic a _ _ b := [⟨a, (a + b) / 2, 1/2⟩, ⟨(a + b) / 2, b, 1⟩]

theorem flatten_attr_interp_repaired :
    flatBuilder midFlattener 0 1 [.begin 0 [10], .quad 3 10 [20], .end_ false]
      = [.begin 0 [10], .line 5 [15], .line 10 [20], .end_ false] ∧
    flatBuilder midFlattener 0 1
        [.begin 0 [1], .line 4 [7], .end_ false, .begin 0 [100], .cubic 1 2 10 [200], .end_ true]
      = [.begin 0 [1], .line 4 [7], .end_ false, .begin 0 [100], .line 5 [150], .line 10 [200],
         .end_ true] := by
  decide +kernel

section Examples

/-- `EndsAtTo` / `IterEndsAtTo` are satisfiable (a flattener with an inserted point) -/
def qFlattener : Flattener Int Rat where
  quad a _ b := [⟨a, a, 1/2⟩, ⟨a, b, 1⟩]
  cubic a _ _ b := [⟨a, a, 1/3⟩, ⟨a, a, 2/3⟩, ⟨a, b, 1⟩]

example : EndsAtTo qFlattener :=
  ⟨fun a _ b => ⟨[⟨a, a, 1/2⟩], a, rfl⟩, fun a _ _ b => ⟨[⟨a, a, 1/3⟩, ⟨a, a, 2/3⟩], a, rfl⟩⟩

example : IterEndsAtTo (π := Int) ⟨fun a _ b => [a, b], fun a _ _ b => [a, a, b]⟩ :=
  ⟨fun a _ b => ⟨[a], rfl⟩, fun a _ _ b => ⟨[a, a], rfl⟩⟩

/-- the hypotheses of `flatten_commutes_builder_iter` together: an iterator flattener that yields
the `line.to`s of a callback flattener ending at `to` -/
example : ∃ G : IterFlattener Int, EndsAtTo qFlattener ∧
    (∀ a c b, G.quad a c b = (qFlattener.quad a c b).map (·.b)) ∧
    (∀ a c d b, G.cubic a c d b = (qFlattener.cubic a c d b).map (·.b)) :=
  ⟨⟨fun a _ b => [a, b], fun a _ _ b => [a, a, b]⟩,
   ⟨fun a _ b => ⟨[⟨a, a, 1/2⟩], a, rfl⟩, fun a _ _ b => ⟨[⟨a, a, 1/3⟩, ⟨a, a, 2/3⟩], a, rfl⟩⟩,
   fun _ _ _ => rfl, fun _ _ _ _ => rfl⟩

/-- `ChainedToEnd` is satisfiable (a chained flattener with inserted points) -/
example : ChainedToEnd midFlattener :=
  ⟨⟨fun a _ b => ⟨[⟨a, (a + b) / 2, 1/2⟩], (a + b) / 2, rfl⟩,
    fun a _ _ b => ⟨[⟨a, (a + b) / 2, 1/2⟩], (a + b) / 2, rfl⟩⟩,
   fun a _ b => ⟨rfl, rfl, trivial⟩, fun a _ _ b => ⟨rfl, rfl, trivial⟩⟩

/-- hypothesis of `flatten_attr_interp` on a program with a curve as FIRST edge and two
attributes -/
example : attrsLen 2 ([.begin (0:Int) [1, 2], .quad 2 3 [5, 6], .line 1 [3, 4], .end_ true]
      : List (Call Int (List Rat))) = true := by decide

/-- hypotheses of `transform_commutes` -/
example : WellNested ([.begin ((0:Int), (0:Int)) [1], .cubic (1, 1) (2, 2) (3, 0) [2], .end_ true]
      : List (Call (Pt Int) (List Int))) ∧
    attrsOk 1 ([.begin ((0:Int), (0:Int)) [1], .cubic (1, 1) (2, 2) (3, 0) [2], .end_ true]
      : List (Call (Pt Int) (List Int))) = true := by decide

/-- `transform_commutes_stored` computed on that (closed) program, translated by (10, 20): the
last two slots are the copy of the first endpoint stored by `end(true)` — transformed — and its
attribute — untouched -/
example : ((buildWithAttributes 1 ([.begin ((0:Int), (0:Int)) [1], .cubic (1, 1) (2, 2) (3, 0) [2],
        .end_ true] : List (Call (Pt Int) (List Int)))).bind
      (applyTransform fun p => (p.1 + 10, p.2 + 20))).map (·.points)
    = some [(10, 20), (1, 0), (11, 21), (12, 22), (13, 20), (2, 0), (10, 20), (1, 0)] := by decide

end Examples

end Lyon.C16
