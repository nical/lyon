/-
  C20 — hatch segments and dots lie exactly on the even-odd interior, at the set spacing.

  All statements are about the model of `crates/algorithms/src/hatching.rs` in
  `Model/Algo/Hatch.lean` — the very `def`s the correspondence check runs at `Float32` against
  `Hatcher::{hatch_path, dot_path}` — instantiated at an arbitrary linearly ordered field `K`.
  They hold for every edge list / event stream, every builder (any state type `σ`, any
  `add_segment` / `next_offset`), every fuel.

  Frame: `EventsBuilder` rotates the path by the angle (`rot c s`), `hatch` sweeps rows `y' = y`
  of that rotated frame and maps the end points back with `rot ci si` (`Rotation::new(-angle)`).
  `HSeg.xa`, `HSeg.xb` are the rotated-frame abscissae (`prev_x`, `x` of `hatch_line`) from
  which `position` and `u` are computed (`segment_fields`).  The even-odd theorems stay in the rotated frame (abscissae
  `s.xa < x < s.xb` against the rotated outline `buildEvents (cos a) (sin a) …`); no theorem composes them with
  `segment_fields`, `row_perpendicular` and `rot_inverse` into a statement about world points of the original path
  (it would need `cos (−a) = cos a`, `sin (−a) = −sin a` and `c² + s² = 1` as hypotheses: `mkCfg` takes `cos (−a)`,
  `sin (−a)` from `Transc`).

  What is *not* a theorem here: IEEE rounding (oracle, with a rounding allowance), the flattening
  of curved input (property C09; the oracle uses lyon's own flattening as the outline), and
  termination of the `while y < …` loops when `y + offset` rounds back to `y` (the model has
  fuel; the driver prints `fuel` if it runs out — never seen on generated inputs).

  Two defects were found through this check and repaired in /repo; the model mirrors the repaired code:
  * 9b281594 `fix: Hatcher produces no output for a path without edges instead of panicking`.
    Before: `hatch` took `events.edges.first().unwrap()` unguarded; the model returned `none`
    (= panic), with `hatchPath o nan B fuel [] b0 = none` and
    `hatchPath … [.begin ⟨0,0⟩, .close] b0 = none` as witnesses (`Path::new()`, `M 0 0 Z`; harness class
    `empty-path-unwrap`).  Now: `hatch_total`, `empty_path_no_output`.
  * 6b2eb1e7 `fix: HatchesToDots divides by the segment's u-extent instead of normalizing`.
    Before: `ab = (b.position − a.position).normalize()`; a segment with `a.u < b.u` whose ends
    round to one `f32` position gave `0/0` and dots at `(NaN, NaN)` (corpus/C20/dot-nan-position,
    class `zero-length-segment-normalize`; rounding only).  Now: `dot_on_segment` (no `sqrt`, no `c² + s² = 1`),
    `dot_position_between`.
-/
import LyonVerif.Model.Algo.Hatch
import LyonVerif.Lemmas.Field
import LyonVerif.Lemmas.Hatch
import LyonVerif.Lemmas.ListFold

set_option linter.unusedSectionVars false
set_option linter.unusedSimpArgs false

namespace Lyon.C20
open Lyon Lyon.Hatch Scalar

variable {K : Type} [Field K] [LinearOrder K] [IsStrictOrderedRing K] [Transc K] {σ : Type}

/-- `build` sorts: the edge list handed to `hatch` is ordered by `from.y`. -/
theorem events_sorted (c s : K) (evs : List (PEv K)) :
    (buildEvents c s evs).Pairwise (fun e f => e.a.y ≤ f.a.y) :=
  events_sorted_aux _

/-- `add_edge` orients every edge downward: `from.y ≤ to.y`. -/
theorem events_oriented (c s : K) (evs : List (PEv K)) :
    ∀ e ∈ buildEvents c s evs, e.a.y ≤ e.b.y := by
  have hadd : ∀ (l : List (Seg K)) (a b : P K), (∀ e ∈ l, e.a.y ≤ e.b.y) →
      ∀ e ∈ addEdge c s l a b, e.a.y ≤ e.b.y := by
    intro l a b hl e he
    unfold addEdge at he
    split at he
    · exact hl e he
    · rcases List.mem_append.mp he with h1 | h1
      · exact hl e h1
      · rw [List.mem_singleton] at h1; subst h1; exact orient_le _ _
  intro e he
  refine foldl_inv (fun b : EB K => ∀ e ∈ b.edges, e.a.y ≤ e.b.y) (EB.step c s) evs _ (by simp)
    (fun b hb ev _ => ?_) e ((isort_perm _ _).mem_iff.mp he)
  cases ev with
  | begin p => exact hb
  | line p => exact hadd _ _ _ hb
  | close => exact hadd _ _ _ hb

/-- When row `y` is hatched, the edges `hatch_line` counts (those of the
lazily pruned, sorted active list that it does not skip) are exactly — as a multiset — the edges
of the whole event list with `from.y ≤ y < to.y`: `update_sweep_line`'s `retain` never drops an
edge that still spans a later row, ended edges are skipped, and no edge that is not yet in the
list spans the row. -/
theorem active_is_spanning (cfg : Cfg K) (B : Builder σ K) (fuel : Nat) (edges : List (Seg K))
    (b0 : σ) (hsorted : edges.Pairwise (fun e f => e.a.y ≤ f.a.y)) (st : St σ K)
    (h : hatch cfg B fuel edges b0 = some st) (r : Row K) (hr : r ∈ st.rows) :
    (r.active.filter (fun e => !decide (e.b.y ≤ r.y))).Perm
      (edges.filter (fun e => decide (e.a.y ≤ r.y ∧ r.y < e.b.y))) :=
  (hatch_rows cfg B fuel edges b0 hsorted st h r hr).perm

/-- the same for `hatch_path`: the event list built from the path is sorted -/
theorem active_is_spanning_path (o : Options K) (nan : P K) (B : Builder σ K) (fuel : Nat)
    (evs : List (PEv K)) (b0 : σ) (st : St σ K)
    (h : hatchPath o nan B fuel evs b0 = some st) (r : Row K) (hr : r ∈ st.rows) :
    (r.active.filter (fun e => !decide (e.b.y ≤ r.y))).Perm
      ((buildEvents (Transc.cos o.angle) (Transc.sin o.angle) evs).filter
        (fun e => decide (e.a.y ≤ r.y ∧ r.y < e.b.y))) :=
  active_is_spanning _ B fuel _ b0 (events_sorted _ _ _) st h r hr

theorem row_segments (cfg : Cfg K) (B : Builder σ K) (fuel : Nat) (edges : List (Seg K))
    (b0 : σ) (hsorted : edges.Pairwise (fun e f => e.a.y ≤ f.a.y)) (st : St σ K)
    (h : hatch cfg B fuel edges b0 = some st) (r : Row K) (hr : r ∈ st.rows) :
    r.segs = lineLoop cfg r.y r.idx r.active false cfg.nan.x cfg.nan ∧
    r.active.Pairwise (fun e f => solveX e r.y ≤ solveX f r.y) :=
  ⟨(hatch_rows cfg B fuel edges b0 hsorted st h r hr).segs_eq,
   (hatch_rows cfg B fuel edges b0 hsorted st h r hr).sorted⟩

/-- Exactly what the code does.  For a hatched row `y` and every abscissa
`x` that is not a crossing: `x` lies strictly inside an emitted segment iff an odd number of
spanning edges cross the row left of `x` *and* some spanning edge crosses it right of `x`
(an unpaired last crossing — possible only for an edge list that is not a union of closed
polylines — opens no segment). -/
theorem row_is_evenodd (cfg : Cfg K) (B : Builder σ K) (fuel : Nat) (edges : List (Seg K))
    (b0 : σ) (hsorted : edges.Pairwise (fun e f => e.a.y ≤ f.a.y)) (st : St σ K)
    (h : hatch cfg B fuel edges b0 = some st) (r : Row K) (hr : r ∈ st.rows) (x : K)
    (hx : ∀ e ∈ edges, e.a.y ≤ r.y → r.y < e.b.y → solveX e r.y ≠ x) :
    (∃ s ∈ r.segs, s.xa < x ∧ x < s.xb) ↔
      (crossingsLeft edges x r.y % 2 = 1 ∧
        ∃ e ∈ edges, e.a.y ≤ r.y ∧ r.y < e.b.y ∧ x < solveX e r.y) := by
  have hri := hatch_rows cfg B fuel edges b0 hsorted st h r hr
  obtain ⟨h1, h2, h3, _, h5⟩ := row_core cfg edges r hri x hx
  rw [hri.segs_eq, (lineLoop_intervals cfg r.y r.idx x r.active cfg.nan.x cfg.nan).1,
    inPairs_parity x _ h1 h2, h3, h5]

/-- Closed outlines.  When the row is crossed an even number of times (every
union of closed polylines: `closed_even_crossings`), `x` lies strictly inside an emitted segment
iff the even-odd crossing count at `(x, y)` is odd. -/
theorem row_is_evenodd_closed (cfg : Cfg K) (B : Builder σ K) (fuel : Nat) (edges : List (Seg K))
    (b0 : σ) (hsorted : edges.Pairwise (fun e f => e.a.y ≤ f.a.y)) (st : St σ K)
    (h : hatch cfg B fuel edges b0 = some st) (r : Row K) (hr : r ∈ st.rows) (x : K)
    (hx : ∀ e ∈ edges, e.a.y ≤ r.y → r.y < e.b.y → solveX e r.y ≠ x)
    (heven : spanCount edges r.y % 2 = 0) :
    (∃ s ∈ r.segs, s.xa < x ∧ x < s.xb) ↔ crossingsLeft edges x r.y % 2 = 1 := by
  have hri := hatch_rows cfg B fuel edges b0 hsorted st h r hr
  obtain ⟨h1, h2, h3, h4, _⟩ := row_core cfg edges r hri x hx
  rw [hri.segs_eq, (lineLoop_intervals cfg r.y r.idx x r.active cfg.nan.x cfg.nan).1,
    inPairs_parity_even x _ h1 h2 (by rw [h4]; exact heven), h3]

/-- The edge list built from a well-formed path (a sequence of closed
sub-paths `begin p₀, line_to p₁ … pₙ, end` — `end` always adds the closing edge) is crossed by
every row an even number of times, whatever the rotation: zero-length edges are dropped and each
remaining edge spans the row iff its two ends fall on different sides of it. -/
theorem closed_even_crossings (c s y : K) (sps : List (P K × List (P K))) :
    spanCount (buildEvents c s (pathEvents sps)) y % 2 = 0 :=
  closed_even c s y sps

/-- `hatch_path` on a well-formed path: on every hatched row, a point that
is not on the outline lies strictly inside an emitted segment iff the even-odd crossing count of
the (rotated) outline at that point is odd. -/
theorem row_is_evenodd_path (o : Options K) (nan : P K) (B : Builder σ K) (fuel : Nat)
    (sps : List (P K × List (P K))) (b0 : σ) (st : St σ K)
    (h : hatchPath o nan B fuel (pathEvents sps) b0 = some st) (r : Row K) (hr : r ∈ st.rows) (x : K)
    (hx : ∀ e ∈ buildEvents (Transc.cos o.angle) (Transc.sin o.angle) (pathEvents sps),
      e.a.y ≤ r.y → r.y < e.b.y → solveX e r.y ≠ x) :
    (∃ s ∈ r.segs, s.xa < x ∧ x < s.xb) ↔
      crossingsLeft (buildEvents (Transc.cos o.angle) (Transc.sin o.angle) (pathEvents sps)) x r.y % 2 = 1 :=
  row_is_evenodd_closed _ B fuel _ b0 (events_sorted _ _ _) st h r hr x hx
    (closed_even_crossings _ _ _ sps)

/-- every emitted segment joins the crossings of two spanning edges of the event list, left end
first, and all its fields are the ones `hatch_line` computes from those two abscissae -/
theorem segment_ends (cfg : Cfg K) (B : Builder σ K) (fuel : Nat) (edges : List (Seg K))
    (b0 : σ) (hsorted : edges.Pairwise (fun e f => e.a.y ≤ f.a.y)) (st : St σ K)
    (h : hatch cfg B fuel edges b0 = some st) (r : Row K) (hr : r ∈ st.rows)
    (s : HSeg K) (hs : s ∈ r.segs) :
    (∃ e ∈ edges, e.a.y ≤ r.y ∧ r.y < e.b.y ∧ s.xa = solveX e r.y) ∧
    (∃ e ∈ edges, e.a.y ≤ r.y ∧ r.y < e.b.y ∧ s.xb = solveX e r.y) ∧
    s = mkSeg cfg r.y r.idx s.xa s.xb s.ta s.tb := by
  have hri := hatch_rows cfg B fuel edges b0 hsorted st h r hr
  rw [hri.segs_eq] at hs
  -- the loop starts outside, so the left end is not the pending `px`
  obtain ⟨h1, h2, h3⟩ := lineLoop_ends cfg r.y r.idx r.active false _ _ s hs
  exact ⟨(mem_crossings_iff hri _).mp (h1.resolve_left (by simp)), (mem_crossings_iff hri _).mp h2, h3⟩

/-- `a` is the left end point: for every emitted segment
`prev_x ≤ x`, hence `a.u ≤ b.u` (the active list is sorted by crossing abscissa when the
`inside` flag is toggled along it). -/
theorem segment_left_right (cfg : Cfg K) (B : Builder σ K) (fuel : Nat) (edges : List (Seg K))
    (b0 : σ) (hsorted : edges.Pairwise (fun e f => e.a.y ≤ f.a.y)) (st : St σ K)
    (h : hatch cfg B fuel edges b0 = some st) (r : Row K) (hr : r ∈ st.rows)
    (s : HSeg K) (hs : s ∈ r.segs) : s.xa ≤ s.xb ∧ s.ua ≤ s.ub := by
  have hri := hatch_rows cfg B fuel edges b0 hsorted st h r hr
  rw [hri.segs_eq] at hs
  have hx := lineLoop_ordered cfg r.y r.idx r.active false _ _ hri.sorted (fun hi => by simp at hi) s hs
  have hm := (lineLoop_ends cfg r.y r.idx r.active false _ _ s hs).2.2
  refine ⟨hx, ?_⟩
  have h1 : s.ua = s.xa - cfg.uvo.x := by rw [hm]; rfl
  have h2 : s.ub = s.xb - cfg.uvo.x := by rw [hm]; rfl
  rw [h1, h2]
  exact sub_le_sub_right hx _

/-- A horizontal edge has the finite sort key `from.x`
(`solve_t_for_y` returns 0 when `dy = 0`) and is never among the counted edges of any row, so it
never flips `inside`. -/
theorem horizontal_edge_skipped (cfg : Cfg K) (B : Builder σ K) (fuel : Nat) (edges : List (Seg K))
    (b0 : σ) (hsorted : edges.Pairwise (fun e f => e.a.y ≤ f.a.y)) (st : St σ K)
    (h : hatch cfg B fuel edges b0 = some st) (r : Row K) (hr : r ∈ st.rows) (e : Seg K)
    (hh : e.a.y = e.b.y) :
    solveX e r.y = e.a.x ∧ e ∉ r.active.filter (fun e => !decide (e.b.y ≤ r.y)) := by
  constructor
  · simp only [solveX, Seg.solveTForY, Seg.x, hh, sub_self]
    have : ((0:K) == (Scalar.zero : K)) = true := by
      rw [sc_beq]; simp
    simp only [this, if_true]
    show e.a.x * (Scalar.one - Scalar.zero) + e.b.x * Scalar.zero = e.a.x
    simp
  · intro hin
    have := (active_is_spanning cfg B fuel edges b0 hsorted st h r hr).mem_iff.mp hin
    rw [List.mem_filter] at this
    have hsp : e.a.y ≤ r.y ∧ r.y < e.b.y := by simpa using this.2
    rw [hh] at hsp
    exact absurd (lt_of_le_of_lt hsp.1 hsp.2) (lt_irrefl _)

/-- `st.offs` are the values `next_offset` returned (newest first; the call
for row `k` is made with argument `k`, the first one before any row), `st.rows` the hatched rows.
Row `k` lies at `first.from.y + offset₀ + … + offset_k`; rows are numbered 0,1,2,… with one
`next_offset` call after each; every offset after the first and before the newest is positive;
when the loop returned early the newest offset is the first non-positive one (the first offset,
`next_offset(0)`, is never tested). -/
theorem rows_at_offsets (cfg : Cfg K) (B : Builder σ K) (fuel : Nat) (e0 : Seg K)
    (es : List (Seg K)) (b0 : σ) (st : St σ K) (h : hatch cfg B fuel (e0 :: es) b0 = some st) :
    st.offs.length = st.rows.length + 1 ∧
    (∀ r ∈ st.rows, r.idx < st.rows.length ∧
      r.y = e0.a.y + (st.offs.drop (st.rows.length - r.idx)).sum) ∧
    (st.stop = false → ∀ o ∈ st.offs.dropLast, 0 < o) ∧
    (st.stop = true → (∀ o ∈ st.offs.tail.dropLast, 0 < o) ∧ ∀ o ∈ st.offs.head?, o ≤ 0) := by
  have hi := hatch_off cfg B fuel e0 es b0 st h
  refine ⟨by rw [hi.len, hi.nrows], ?_, hi.pos, fun hs => ⟨(hi.stopped hs).1, (hi.stopped hs).2.2⟩⟩
  rw [hi.nrows]
  exact hi.rows

/-- … and the loop runs to the end: if `hatch` neither returned early (non-positive offset) nor
ran out of fuel, the position the next row would have is at or below the lower end of every edge
(`y ≥ y_max`), i.e. every row `first.from.y + Σ offsets` above `y_max` was hatched. -/
theorem rows_run_to_ymax (cfg : Cfg K) (B : Builder σ K) (fuel : Nat) (edges : List (Seg K))
    (b0 : σ) (st : St σ K) (h : hatch cfg B fuel edges b0 = some st)
    (hs : st.stop = false) (hf : st.fuelOut = false) : ∀ e ∈ edges, e.b.y ≤ st.y :=
  hatch_runs_to_ymax cfg B fuel edges b0 st h hs hf

theorem segment_fields (cfg : Cfg K) (y : K) (row : Nat) (px x : K) (pt t : P K) :
    (mkSeg cfg y row px x pt t).pa = rot cfg.ci cfg.si ⟨px, y⟩ ∧
    (mkSeg cfg y row px x pt t).pb = rot cfg.ci cfg.si ⟨x, y⟩ ∧
    (mkSeg cfg y row px x pt t).ua = px - cfg.uvo.x ∧
    (mkSeg cfg y row px x pt t).ub = x - cfg.uvo.x ∧
    (mkSeg cfg y row px x pt t).v = y - cfg.uvo.y ∧
    (mkSeg cfg y row px x pt t).row = row := ⟨rfl, rfl, rfl, rfl, rfl, rfl⟩

/-- With `(c, s)` the cosine / sine of the output rotation
(`Rotation::new(-angle)`, `c² + s² = 1`), both end points `(X, Y)` of every segment of the row
hatched at `y` satisfy `−s·X + c·Y = y`, and `c·X + s·Y` is the abscissa: the rows are parallel
lines with unit normal `(−s, c)`, i.e. perpendicular to the direction they are stacked in, and a
distance `y₂ − y₁` apart. -/
theorem row_perpendicular (cfg : Cfg K) (hcs : cfg.ci * cfg.ci + cfg.si * cfg.si = 1)
    (y : K) (row : Nat) (px x : K) (pt t : P K) :
    let sg := mkSeg cfg y row px x pt t
    (-cfg.si * sg.pa.x + cfg.ci * sg.pa.y = y) ∧ (-cfg.si * sg.pb.x + cfg.ci * sg.pb.y = y) ∧
    (cfg.ci * sg.pa.x + cfg.si * sg.pa.y = px) ∧ (cfg.ci * sg.pb.x + cfg.si * sg.pb.y = x) := by
  simp only [mkSeg, rot]
  refine ⟨?_, ?_, ?_, ?_⟩
  · linear_combination y * hcs
  · linear_combination y * hcs
  · linear_combination px * hcs
  · linear_combination x * hcs

/-- the output rotation undoes the rotation of the events (`cos(−a) = cos a`, `sin(−a) = −sin a`):
a point of the rotated frame is mapped back to the world point it came from -/
theorem rot_inverse (c s : K) (hcs : c * c + s * s = 1) (p : P K) :
    rot c (-s) (rot c s p) = p := by
  cases p with | mk x y =>
  simp only [rot, P.mk.injEq]
  constructor
  · linear_combination x * hcs
  · linear_combination y * hcs

/-- Every dot `HatchesToDots::add_segment` derives from a hatch segment lies
between the segment's ends in the `u` coordinate (`a.u ≤ u < b.u`), carries the segment's `v` and
row, and sits at `a.position + ((b.position − a.position) / (b.u − a.u)) · (u − a.u)`.
Hypotheses: the pattern's first column offset is non-negative, an alignment is positive, and
`fmod` has the sign / magnitude laws of C's `fmod`. -/
theorem dots_in_segment (hf : FmodLaws K) (pat : DotPat K) (fuel : Nat) (s : HSeg K) (col : Nat)
    (h0 : 0 ≤ pat.firstCol s.row) (hal : ∀ d ∈ pat.align s.row, 0 < d)
    (d : Dot K) (hd : d ∈ dotsOfSeg pat fuel s col) :
    s.ua ≤ d.u ∧ d.u < s.ub ∧ d.v = s.v ∧ d.row = s.row ∧ col ≤ d.col ∧
    d.pos = s.pa + ((s.pb - s.pa).sdiv (s.ub - s.ua)).smul (d.u - s.ua) := by
  unfold dotsOfSeg at hd
  obtain ⟨u, h1, h2, h3, h4, h5, h6, h7⟩ := dotLoop_mem pat s _ fuel col _ d hd
  have hu : 0 ≤ u := le_trans (alignU_nonneg hf _ _ _ h0 hal) h1
  refine ⟨?_, ?_, h5, h6, h7, ?_⟩
  · rw [h3]; exact le_add_of_nonneg_right hu
  · rw [h3]; exact h2
  · rw [h4, h3]
    have : s.ua + u - s.ua = u := by ring
    rw [this]

/-- The position of every dot is the convex combination
`a.position + t · (b.position − a.position)` of the segment's end points with
`t = (u − a.u)/(b.u − a.u)` and `0 ≤ t < 1`: the denominator is positive for every segment that
receives a dot, so no `0/0` can arise (what the former `normalize()` did on segments whose ends
round to one position). -/
theorem dot_position_between (hf : FmodLaws K) (pat : DotPat K) (fuel : Nat) (s : HSeg K) (col : Nat)
    (h0 : 0 ≤ pat.firstCol s.row) (hal : ∀ d ∈ pat.align s.row, 0 < d)
    (d : Dot K) (hd : d ∈ dotsOfSeg pat fuel s col) :
    0 < s.ub - s.ua ∧ 0 ≤ (d.u - s.ua) / (s.ub - s.ua) ∧ (d.u - s.ua) / (s.ub - s.ua) < 1 ∧
    d.pos = s.pa + (s.pb - s.pa).smul ((d.u - s.ua) / (s.ub - s.ua)) := by
  obtain ⟨h1, h2, _, _, _, h6⟩ := dots_in_segment hf pat fuel s col h0 hal d hd
  have hpos : 0 < s.ub - s.ua := by linarith
  exact ⟨hpos, div_nonneg (by linarith) hpos.le, (div_lt_one hpos).mpr (by linarith), by rw [h6, sdiv_smul]⟩

/-- For a segment produced by `hatch_line` (`mkSeg`) that position is the
point of the row line whose rotated-frame abscissa `w` satisfies `prev_x ≤ w < x`: the dot lies on
the hatch segment, on the row, at `u = w − uv_origin'.x`.  (No hypothesis on the rotation or on
`sqrt`: `b.position − a.position = (x − prev_x)·(c, s)` and `b.u − a.u = x − prev_x`.) -/
theorem dot_on_segment (hf : FmodLaws K) (cfg : Cfg K)
    (y : K) (row : Nat) (px x : K) (pt t : P K)
    (pat : DotPat K) (fuel : Nat) (col : Nat)
    (h0 : 0 ≤ pat.firstCol row) (hal : ∀ d ∈ pat.align row, 0 < d)
    (d : Dot K) (hd : d ∈ dotsOfSeg pat fuel (mkSeg cfg y row px x pt t) col) :
    ∃ w, px ≤ w ∧ w < x ∧ d.pos = rot cfg.ci cfg.si ⟨w, y⟩ ∧ d.u = w - cfg.uvo.x := by
  obtain ⟨h1, h2, _, _, _, h6⟩ := dots_in_segment hf pat fuel _ col h0 hal d hd
  simp only [mkSeg] at h1 h2 h6
  refine ⟨d.u + cfg.uvo.x, by linarith, by linarith, ?_, by ring⟩
  have hlt : px < x := by linarith
  have hne : x - cfg.uvo.x - (px - cfg.uvo.x) ≠ 0 := by
    have : x - cfg.uvo.x - (px - cfg.uvo.x) = x - px := by ring
    rw [this]; exact ne_of_gt (sub_pos.mpr hlt)
  rw [h6]
  simp only [rot, P.sdiv, P.smul, P.add_def, P.sub_def]
  apply P.ext' <;> simp only <;> field_simp <;> ring

/-- `hatch_path` on a well-formed path with quadratic / cubic
segments: the curves are replaced by the polyline `for_each_flattened_with_t` emits (model of
property C09, `Model/Geom/Flatten.lean`); the resulting stream is again a sequence of closed
sub-paths, so on every hatched row a point that is not on the flattened outline lies strictly
inside an emitted segment iff the even-odd crossing count of the (rotated) flattened outline at
that point is odd.  How far the flattened outline is from the curve is C09's statement. -/
theorem row_is_evenodd_curved [FlatConst K] (o : Options K) (tol : K) (nan : P K) (B : Builder σ K)
    (fuel : Nat) (csps : List (P K × List (CSeg K))) (b0 : σ) (st : St σ K)
    (h : hatchPathCurved o tol nan B fuel (cpathEvents csps) b0 = some st) :
    ∃ sps, flattenEvents tol (cpathEvents csps) ⟨Scalar.zero, Scalar.zero⟩ = some (pathEvents sps) ∧
      hatchPath o nan B fuel (pathEvents sps) b0 = some st ∧
      ∀ r ∈ st.rows, ∀ x : K,
        (∀ e ∈ buildEvents (Transc.cos o.angle) (Transc.sin o.angle) (pathEvents sps),
          e.a.y ≤ r.y → r.y < e.b.y → solveX e r.y ≠ x) →
        ((∃ s ∈ r.segs, s.xa < x ∧ x < s.xb) ↔
          crossingsLeft (buildEvents (Transc.cos o.angle) (Transc.sin o.angle) (pathEvents sps)) x r.y % 2 = 1) := by
  unfold hatchPathCurved at h
  split at h
  · simp at h
  · rename_i pe hpe
    obtain ⟨sps, rfl⟩ := flatten_closed tol csps _ pe hpe
    exact ⟨sps, hpe, h, fun r hr x hx => row_is_evenodd_path o nan B fuel sps b0 st h r hr x hx⟩

/-- `hatch` returns for every edge list: the only partial operation,
`events.edges.first().unwrap()`, sits behind `if events.edges.is_empty() { return; }`
(model: `none` = the unwrap of `None`). -/
theorem hatch_total (cfg : Cfg K) (B : Builder σ K) (fuel : Nat) (edges : List (Seg K)) (b0 : σ) :
    (hatch cfg B fuel edges b0).isSome = true := by
  cases edges with
  | nil => rw [hatch_nil]; rfl
  | cons e0 es => rw [hatch_cons]; rfl

/-- On an edge list without edges `hatch` returns without a single
builder call: the builder state is the initial one, no offset was asked for, no row hatched.
An empty path and a path whose edges are all zero-length (`M 0 0 Z`) give such an edge list. -/
theorem empty_path_no_output (cfg : Cfg K) (B : Builder σ K) (fuel : Nat) (b0 : σ) :
    ∃ st, hatch cfg B fuel [] b0 = some st ∧ st.b = b0 ∧ st.offs = [] ∧ st.rows = [] :=
  ⟨emptySt b0, rfl, rfl, rfl, rfl⟩

/-- … through `hatch_path`, for the empty event stream and for a single-point sub-path -/
theorem empty_path_no_output_path (o : Options K) (nan : P K) (B : Builder σ K) (fuel : Nat) (b0 : σ) :
    hatchPath o nan B fuel [] b0 = some (emptySt b0) ∧
    hatchPath o nan B fuel [.begin ⟨0, 0⟩, .close] b0 = some (emptySt b0) := by
  constructor
  · rfl
  · have hbeq : ((⟨0, 0⟩ : P K) == (⟨0, 0⟩ : P K)) = true := by
      show P.beq _ _ = true
      simp [P.beq, sc_beq]
    simp [hatchPath, buildEvents, EB.step, addEdge, hbeq, isort, hatch_nil]

/-- conversely, the builder is called (at least `next_offset(0)`) whenever there is an edge -/
theorem nonempty_calls_builder (cfg : Cfg K) (B : Builder σ K) (fuel : Nat) (e0 : Seg K)
    (es : List (Seg K)) (b0 : σ) (st : St σ K) (h : hatch cfg B fuel (e0 :: es) b0 = some st) :
    st.offs ≠ [] := by
  have := (hatch_off cfg B fuel e0 es b0 st h).len
  intro hnil
  simp [hnil] at this

/-! ### Non-vacuity: concrete instances of the hypotheses (over `ℚ`)

`Transc ℚ` with a `fmod` that is exact on `[0, m)`; the other functions are not used by the
statements below. -/

section Examples

noncomputable instance exTransc : Transc ℚ :=
  { sqrt := id, cbrt := id, sin := id, cos := id, tan := id, acos := id, atan2 := fun a _ => a,
    pow := fun a _ => a, log2 := id, ln := id, floor := id, ceil := id, toNat := fun _ => 0,
    fmod := fun a m => if 0 ≤ a ∧ a < m then a else 0,
    eps := 0, pi := 3, isNaN := fun _ => false, isFinite := fun _ => true }

/-- the `fmod` laws used by the dot theorems are satisfiable -/
theorem exFmodLaws : FmodLaws ℚ := by
  intro a m hm
  show (0 ≤ a → 0 ≤ (if 0 ≤ a ∧ a < m then a else 0) ∧ (if 0 ≤ a ∧ a < m then a else 0) < m) ∧
    (a < 0 → -m < (if 0 ≤ a ∧ a < m then a else 0) ∧ (if 0 ≤ a ∧ a < m then a else 0) ≤ 0)
  constructor
  · intro ha
    by_cases h : a < m
    · simp [ha, h]
    · simp [h, hm]
  · intro ha
    have : ¬ (0 ≤ a ∧ a < m) := fun h => absurd h.1 (not_le.mpr ha)
    simp [this, hm]

/-- identity rotation (angle 0), tangents off -/
noncomputable def exCfg : Cfg ℚ := { ci := 1, si := 0, uvo := ⟨0, 0⟩, ct := false, nan := ⟨0, 0⟩ }
/-- the two vertical sides of the square (0,0)–(2,2) -/
noncomputable def exEdges : List (Seg ℚ) := [⟨⟨0, 0⟩, ⟨0, 2⟩⟩, ⟨⟨2, 0⟩, ⟨2, 2⟩⟩]

/-- hypotheses of `active_is_spanning`, `row_segments`, `row_is_evenodd(_closed)`, `segment_ends`,
`segment_left_right`, `horizontal_edge_skipped`, `rows_at_offsets`, `nonempty_calls_builder`: a sorted edge list on which `hatch` with a regular
pattern of interval 1 returns and records the row `y = 1`, whose single segment is `(0, 2)`; the
abscissa `x = 1` is not a crossing, is crossed-left once (odd) and lies inside the segment. -/
example : exEdges.Pairwise (fun e f => e.a.y ≤ f.a.y) ∧
    ∃ st, hatch exCfg (regularHatch (1:ℚ)) 2 exEdges [] = some st ∧ st.stop = false ∧
    ∃ r ∈ st.rows, r.y = 1 ∧
      (∀ e ∈ exEdges, e.a.y ≤ (1:ℚ) → (1:ℚ) < e.b.y → solveX e 1 ≠ 1) ∧
      spanCount exEdges (1:ℚ) % 2 = 0 ∧ crossingsLeft exEdges 1 (1:ℚ) % 2 = 1 ∧
      ∃ s ∈ r.segs, s.xa < 1 ∧ 1 < s.xb := by
  refine ⟨by decide +kernel, _, rfl, ?_⟩
  decide +kernel

/-- hypothesis `c² + s² = 1` of `row_perpendicular` / `rot_inverse`: the identity and a proper
rotation -/
example : exCfg.ci * exCfg.ci + exCfg.si * exCfg.si = 1 := by norm_num [exCfg]
example : ((3:ℚ)/5) * (3/5) + (4/5) * (4/5) = 1 := by norm_num

/-- hypotheses of `dots_in_segment` / `dot_position_between` / `dot_on_segment`: `RegularDotPattern` with column interval
1/2 on the segment `(0, 2)` of row `y = 1` yields (among others) a dot at `u = 1/2` -/
example : (0:ℚ) ≤ (regularDots (1/2 : ℚ) 1).firstCol 0 ∧
    (∀ d ∈ (regularDots (1/2 : ℚ) 1).align 0, (0:ℚ) < d) ∧
    ∃ d ∈ dotsOfSeg (regularDots (1/2 : ℚ) 1) 4 (mkSeg exCfg 1 0 0 2 ⟨0, 0⟩ ⟨0, 0⟩) 0, d.u = 1/2 := by
  decide +kernel

/-- hypotheses of `closed_even_crossings` / `row_is_evenodd_path`: the unit square as a
well-formed path; its event list at angle 0 has four edges minus nothing, two of which span
`y = 1/2` -/
example : spanCount (buildEvents (1:ℚ) 0 (pathEvents [(⟨0, 0⟩, [⟨1, 0⟩, ⟨1, 1⟩, ⟨0, 1⟩])])) (1/2) = 2 := by
  decide +kernel

/-- hypothesis of `row_is_evenodd_curved`: on a well-formed stream whose flattening does not
panic (here: a triangle given with `line_to`s, any flattening constants) `hatch_path` returns -/
example [FlatConst ℚ] (o : Options ℚ) (B : Builder Unit ℚ) :
    ∃ st, hatchPathCurved o (1/10) ⟨0, 0⟩ B 3
      (cpathEvents [(⟨0, 0⟩, [.line ⟨4, 0⟩, .line ⟨0, 4⟩])]) () = some st := by
  have hf : flattenEvents (1/10 : ℚ) (cpathEvents [(⟨0, 0⟩, [.line ⟨4, 0⟩, .line ⟨0, 4⟩])])
      ⟨Scalar.zero, Scalar.zero⟩ = some (pathEvents [(⟨0, 0⟩, [⟨4, 0⟩, ⟨0, 4⟩])]) := by
    simp [cpathEvents, csubpathEvents, CSeg.toEv, flattenEvents, pathEvents, subpathEvents]
  unfold hatchPathCurved
  rw [hf]
  exact Option.isSome_iff_exists.mp (hatch_total _ B 3 _ ())

end Examples

end Lyon.C20
