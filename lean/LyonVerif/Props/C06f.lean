/-
  C06f — named instances of the cover and reach theorems: `LineJoin::MiterClip` at ANY miter limit `≥ 1` (clipped joins
  included), `LineJoin::Round`, round caps; open and closed.

  The general theorems `C06b.stroke_polyline_covers_rectangles`, `C06b.stroke_polyline_reach`,
  `C06c.stroke_polygon_covers_rectangles`, `C06c.stroke_polygon_reach` already hold for every join kind and every cap
  kind: `CoverHyp` admits them all (`CoverHyp.clip`: `miter_limit ≥ 1` and `eps < w/2` for MiterClip; Round joins and
  caps with the law `cos² + sin² = 1`), and the regimes `Regime`, `RegimeCore`, `RegimeC` do not ask that no miter is
  clipped.  `stroke_polygon_covers_rectangles_miterclip`, `stroke_polyline_covers_rectangles_round`,
  `stroke_polygon_covers_rectangles_round`, `stroke_polyline_covers_rectangles_round_caps` and
  `stroke_reach_factor_miterclip` are the general theorem again, with a hypothesis that only names the case and that the
  proof does not use: cite the general one.
  What this file adds: `clipped_join_closed_form` (what the model does at a join, clipped ones included), the reach
  factor of Round joins (as for Bevel), `stroke_polygon_round_within_half_width` and `stroke_polyline_within_half_width`
  (Bevel / Round joins, butt / round caps: NO emitted triangle has a point farther than `w/2` from the path), and the
  examples, each run through the theorems: a polyline whose join IS clipped (`miter_limit = 1`, 5-12-13 turn), Round
  joins, round caps.
  The lower half of the round/round clause (the fans of round joins / caps cover the `(w/2 − tolerance)`-neighbourhood
  of the join / end point) is proved for one fan of `tessellate_arc` in `Props/C06g.lean`, not for whole runs.
-/
import LyonVerif.Props.C06b
import LyonVerif.Props.C06c
import Mathlib.Analysis.SpecialFunctions.Sqrt
import Mathlib.Tactic.IntervalCases

set_option linter.unusedSectionVars false
set_option linter.unusedVariables false

namespace Lyon.C06f
open Lyon Scalar Lyon.Stroke Lyon.Stroke.Full Lyon.C05 Lyon.C05b Lyon.C05c Lyon.C06 Lyon.C06b Lyon.C06c
open Lyon.StrokeQuad (lineIntersection)

section
variable {K : Type} [Field K] [LinearOrder K] [IsStrictOrderedRing K] [Transc K] [Asin K] [FlatConst K]

/-- **MiterClip, open polylines, any miter limit `≥ 1`**: every point of every segment's rectangle lies in an
emitted triangle -/
theorem stroke_polyline_covers_rectangles_miterclip (e : Env K) (eps : K) (h : CoverHyp e eps)
    (hmc : e.o.join = .miterClip) (store : Nat → List K)
    (pt : Nat → P K) (n : Nat) (hn : 1 ≤ n) (hr : Regime e eps pt n)
    (k : Nat) (hk : k < n) (s u : K) (hs : 0 ≤ s) (hs1 : s ≤ 1) (hu : -1 ≤ u) (hu1 : u ≤ 1) :
    1 ≤ e.o.miterLimit ∧
    ∃ t ∈ (runEvents e store (polyEvs pt n)).st.out.tris, ∃ v1 v2 v3 : VData K,
      (runEvents e store (polyEvs pt n)).st.out.verts[t.1]? = some v1
      ∧ (runEvents e store (polyEvs pt n)).st.out.verts[t.2.1]? = some v2
      ∧ (runEvents e store (polyEvs pt n)).st.out.verts[t.2.2]? = some v3
      ∧ InTri (bandPoint (pt k) (pt (k + 1)) ((perp (eT pt k)).smul e.hwFw) s u)
          (v1.read.position, v2.read.position, v3.read.position) :=
  ⟨(h.clip hmc).1, stroke_polyline_covers_rectangles e eps h store pt n hn hr k hk s u hs hs1 hu hu1⟩

theorem stroke_polygon_covers_rectangles_miterclip (e : Env K) (eps : K) (h : CoverHyp e eps)
    (hmc : e.o.join = .miterClip) (store : Nat → List K)
    (pt : Nat → P K) (m : Nat) (hm : 2 ≤ m) (hper : ∀ i, pt (i + (m + 1)) = pt i) (hr : RegimeC e eps pt m)
    (k : Nat) (s u : K) (hs : 0 ≤ s) (hs1 : s ≤ 1) (hu : -1 ≤ u) (hu1 : u ≤ 1) :
    ∃ t ∈ (runEvents e store (polyEvsC pt m)).st.out.tris, ∃ v1 v2 v3 : VData K,
      (runEvents e store (polyEvsC pt m)).st.out.verts[t.1]? = some v1
      ∧ (runEvents e store (polyEvsC pt m)).st.out.verts[t.2.1]? = some v2
      ∧ (runEvents e store (polyEvsC pt m)).st.out.verts[t.2.2]? = some v3
      ∧ InTri (bandPoint (pt k) (pt (k + 1)) ((perp (eT pt k)).smul e.hwFw) s u)
          (v1.read.position, v2.read.position, v3.read.position) :=
  stroke_polygon_covers_rectangles e eps h store pt m hm hper hr k s u hs hs1 hu hu1

/-- **what the complete model does at a join of a polyline in the regime, every join kind, clipped or not**: the side
points in closed form with the outer shift `lamAt ∈ [0, |tan(θ/2)|]` (`JClosed`) -/
theorem clipped_join_closed_form (e : Env K) (eps : K) (h : CoverHyp e eps) (pt : Nat → P K) (n : Nat)
    (hr : Regime e eps pt n) (k : Nat) (hk : k + 1 < n) :
    JClosed e pt k (psAt e pt (k + 1)) (nsAt e pt (k + 1)) (lamAt e pt (k + 1))
    ∧ 0 ≤ lamAt e pt (k + 1) ∧ lamAt e pt (k + 1) ≤ |jtau pt k| :=
  ⟨regime_jclosed h hr k hk, lamAt_nonneg _ _ _, lamAt_le _ _ _⟩

/-- the reach of a MiterClip stroke: as for Miter, at most the miter length at the edge's ends (a clipped corner lies
between the bevel corner and the miter tip) -/
theorem stroke_reach_factor_miterclip (e : Env K) (eps : K) (h : CoverHyp e eps) (pt : Nat → P K) (n : Nat)
    (k : Nat) (hk : k < n) :
    reachSq e pt n k ≤ e.hwFw * e.hwFw * (1 + (Max.max (if k = 0 then capU e.o.startCap else tauAbs pt n k)
      (if k + 1 = n then capU e.o.endCap else tauAbs pt n (k + 1))) ^ 2) :=
  stroke_reach_factor e eps h pt n k hk

/-! ### `LineJoin::Round` (butt / square caps)

`tessellate_round_join` emits the triangle (pivot, start, end) — the Bevel join's triangle — and a fan whose new
vertices all lie on the circle of radius `w/2` around the path point (`arc_shape`, `tessJoin_shape`; law of `sin`,
`cos` used: `cos² + sin² = 1`, carried by `CoverHyp.join`).  So the cover theorems hold as for Bevel, and the fan stays
within `w/2` of the path point. -/

/-- **Round join, open polylines**: every point of every segment's rectangle lies in an emitted triangle -/
theorem stroke_polyline_covers_rectangles_round (e : Env K) (eps : K) (h : CoverHyp e eps)
    (hrd : e.o.join = .round) (store : Nat → List K)
    (pt : Nat → P K) (n : Nat) (hn : 1 ≤ n) (hr : Regime e eps pt n)
    (k : Nat) (hk : k < n) (s u : K) (hs : 0 ≤ s) (hs1 : s ≤ 1) (hu : -1 ≤ u) (hu1 : u ≤ 1) :
    ∃ t ∈ (runEvents e store (polyEvs pt n)).st.out.tris, ∃ v1 v2 v3 : VData K,
      (runEvents e store (polyEvs pt n)).st.out.verts[t.1]? = some v1
      ∧ (runEvents e store (polyEvs pt n)).st.out.verts[t.2.1]? = some v2
      ∧ (runEvents e store (polyEvs pt n)).st.out.verts[t.2.2]? = some v3
      ∧ InTri (bandPoint (pt k) (pt (k + 1)) ((perp (eT pt k)).smul e.hwFw) s u)
          (v1.read.position, v2.read.position, v3.read.position) :=
  stroke_polyline_covers_rectangles e eps h store pt n hn hr k hk s u hs hs1 hu hu1

theorem stroke_polygon_covers_rectangles_round (e : Env K) (eps : K) (h : CoverHyp e eps)
    (hrd : e.o.join = .round) (store : Nat → List K)
    (pt : Nat → P K) (m : Nat) (hm : 2 ≤ m) (hper : ∀ i, pt (i + (m + 1)) = pt i) (hr : RegimeC e eps pt m)
    (k : Nat) (s u : K) (hs : 0 ≤ s) (hs1 : s ≤ 1) (hu : -1 ≤ u) (hu1 : u ≤ 1) :
    ∃ t ∈ (runEvents e store (polyEvsC pt m)).st.out.tris, ∃ v1 v2 v3 : VData K,
      (runEvents e store (polyEvsC pt m)).st.out.verts[t.1]? = some v1
      ∧ (runEvents e store (polyEvsC pt m)).st.out.verts[t.2.1]? = some v2
      ∧ (runEvents e store (polyEvsC pt m)).st.out.verts[t.2.2]? = some v3
      ∧ InTri (bandPoint (pt k) (pt (k + 1)) ((perp (eT pt k)).smul e.hwFw) s u)
          (v1.read.position, v2.read.position, v3.read.position) :=
  stroke_polygon_covers_rectangles e eps h store pt m hm hper hr k s u hs hs1 hu hu1

/-- the reach factor with a Round join: as for Bevel, `reachSq ≤ (w/2)²·(1 + c²)`, `c = 1` if the edge carries a
square cap, else `0` -/
theorem stroke_reach_factor_round (e : Env K) (eps : K) (h : CoverHyp e eps) (pt : Nat → P K) (n : Nat)
    (hr : Regime e eps pt n) (hrd : e.o.join = .round) (k : Nat) (hk : k < n) :
    reachSq e pt n k ≤ e.hwFw * e.hwFw * (1 + (Max.max (if k = 0 then capU e.o.startCap else 0)
      (if k + 1 = n then capU e.o.endCap else 0)) ^ 2) :=
  reachSq_le e pt _ _ (outK_bevel h hr (Or.inr hrd) k hk)

/-- **Round join, closed polygons: nothing farther than `w/2` from the path.**  Every emitted triangle (edge
quads, join triangles, the fans of the round joins) lies within distance `w/2` of one segment of the polygon. -/
theorem stroke_polygon_round_within_half_width (e : Env K) (eps : K) (h : CoverHyp e eps)
    (hrd : e.o.join = .round) (store : Nat → List K)
    (pt : Nat → P K) (m : Nat) (hm : 2 ≤ m) (hper : ∀ i, pt (i + (m + 1)) = pt i) (hr : RegimeC e eps pt m)
    (t : Stroke.Tri) (ht : t ∈ (runEvents e store (polyEvsC pt m)).st.out.tris) :
    ∃ k, ∃ v1 v2 v3 : VData K,
      (runEvents e store (polyEvsC pt m)).st.out.verts[t.1]? = some v1
      ∧ (runEvents e store (polyEvsC pt m)).st.out.verts[t.2.1]? = some v2
      ∧ (runEvents e store (polyEvsC pt m)).st.out.verts[t.2.2]? = some v3
      ∧ ∀ q, InTri q (v1.read.position, v2.read.position, v3.read.position) →
          NearSeg (pt (k + 1)) (eT pt (k + 1)) (eL pt (k + 1)) (e.hwFw * e.hwFw) q := by
  obtain ⟨k, v1, v2, v3, a, b, c, d⟩ := stroke_polygon_reach e eps h store pt m hm hper hr t ht
  rw [reachSq_in_bevel h hper hr (Or.inr hrd) k] at d
  exact ⟨k, v1, v2, v3, a, b, c, d⟩

/-- **emission shape with Round joins** (`Emitted`): besides the edge quads and the join triangles the output holds
only fan triangles whose vertices are vertices of the join or lie on the circle of radius `w/2` around the path point -/
theorem stroke_polyline_emission_shape_round (e : Env K) (store : Nat → List K) (hfw : e.o.varWidth = false)
    (hcs : ∀ x : K, Transc.cos x * Transc.cos x + Transc.sin x * Transc.sin x = 1)
    (hs : e.o.startCap ≠ .round) (he : e.o.endCap ≠ .round) (hw0 : e.hwFw ≠ 0)
    (pt : Nat → P K) (n : Nat) (hn : 1 ≤ n)
    (hfar : ∀ i, i < n → pointsAreTooClose e.thr (pt i) (pt (i + 1)) = false)
    (hnf : ∀ i, 1 ≤ i → i < n → noFoldAt e (pt (i - 1)) (pt i) (pt (i + 1))) :
    Emitted e pt n (runEvents e store (polyEvs pt n)).st.out :=
  run_emitted e store hfw (Or.inr hcs) hs he hw0 pt n hn hfar hnf

/-! ### round caps

`tessellate_last_edge` / `tessellate_first_edge` with a round cap emit the same two vertices as a butt cap (no clip
line: `clipSidePos_round`) and then `tessellate_round_cap`: the middle vertex `p ± normalize(edge)·w/2` and two fans, all
new vertices on the circle of radius `w/2` around the end point (`roundCap_shape`; `Emitted.only` has the two cap-fan
alternatives).  `CoverHyp.scap` / `ecap` admit round caps with the law `cos² + sin² = 1`. -/

/-- **round caps (any admitted join), open polylines**: every point of every segment's rectangle lies in an emitted
triangle -/
theorem stroke_polyline_covers_rectangles_round_caps (e : Env K) (eps : K) (h : CoverHyp e eps)
    (hsc : e.o.startCap = .round) (hec : e.o.endCap = .round) (store : Nat → List K)
    (pt : Nat → P K) (n : Nat) (hn : 1 ≤ n) (hr : Regime e eps pt n)
    (k : Nat) (hk : k < n) (s u : K) (hs : 0 ≤ s) (hs1 : s ≤ 1) (hu : -1 ≤ u) (hu1 : u ≤ 1) :
    ∃ t ∈ (runEvents e store (polyEvs pt n)).st.out.tris, ∃ v1 v2 v3 : VData K,
      (runEvents e store (polyEvs pt n)).st.out.verts[t.1]? = some v1
      ∧ (runEvents e store (polyEvs pt n)).st.out.verts[t.2.1]? = some v2
      ∧ (runEvents e store (polyEvs pt n)).st.out.verts[t.2.2]? = some v3
      ∧ InTri (bandPoint (pt k) (pt (k + 1)) ((perp (eT pt k)).smul e.hwFw) s u)
          (v1.read.position, v2.read.position, v3.read.position) :=
  stroke_polyline_covers_rectangles e eps h store pt n hn hr k hk s u hs hs1 hu hu1

/-- **Bevel or Round join, butt or round caps, open polylines: nothing farther than `w/2` from the path.**  Every
emitted triangle (edge quads, join triangles, the fans of round joins and of round caps) lies within distance `w/2`
of the segment of one edge. -/
theorem stroke_polyline_within_half_width (e : Env K) (eps : K) (h : CoverHyp e eps)
    (hj : e.o.join = .bevel ∨ e.o.join = .round) (hsc : e.o.startCap ≠ .square) (hec : e.o.endCap ≠ .square)
    (store : Nat → List K) (pt : Nat → P K) (n : Nat) (hn : 1 ≤ n) (hr : Regime e eps pt n)
    (t : Stroke.Tri) (ht : t ∈ (runEvents e store (polyEvs pt n)).st.out.tris) :
    ∃ k, k < n ∧ ∃ v1 v2 v3 : VData K,
      (runEvents e store (polyEvs pt n)).st.out.verts[t.1]? = some v1
      ∧ (runEvents e store (polyEvs pt n)).st.out.verts[t.2.1]? = some v2
      ∧ (runEvents e store (polyEvs pt n)).st.out.verts[t.2.2]? = some v3
      ∧ ∀ q, InTri q (v1.read.position, v2.read.position, v3.read.position) →
          NearSeg (pt k) (eT pt k) (eL pt k) (e.hwFw * e.hwFw) q := by
  obtain ⟨k, hk, v1, v2, v3, a, b, c, d⟩ := stroke_polyline_reach e eps h store pt n hn hr t ht
  refine ⟨k, hk, v1, v2, v3, a, b, c, ?_⟩
  have h1 := outK_bevel h hr hj k hk
  rw [capU_eq_zero hsc, capU_eq_zero hec] at h1
  have h0 := (outK_bounds e pt n k).1
  have hz : outK e pt n k = 0 := by
    apply le_antisymm _ h0
    refine le_trans h1 ?_
    split_ifs <;> simp
  have : reachSq e pt n k = e.hwFw * e.hwFw := by
    unfold reachSq; rw [hz]; ring
  rw [this] at d
  exact d

end

/-! ### non-vacuity: a polyline whose `MiterClip` join IS clipped

`(0,0) → (24,10) → (0,20)`: two edges of length 26 with unit tangents `(12/13, 5/13)`, `(−12/13, 5/13)` (a left turn of
about 135°, `tan(θ/2) = 12/5`, `|normal|² = 169/25`); width 2, `miter_limit = 1`: `169/25 > 4 = (2·miter_limit)²`, clipped. -/

section Real
attribute [local instance] Lyon.C05.realTransc Lyon.C06b.realAsin Lyon.C06b.realFlat

noncomputable def exPtC : Nat → P ℝ
  | 0 => ⟨0, 0⟩
  | 1 => ⟨24, 10⟩
  | _ => ⟨0, 20⟩

/-- tolerance 0.1, width 2, miter limit 1, MiterClip, butt / square caps -/
noncomputable def exEnvC : Env ℝ :=
  Env.new ⟨1 / 10, 2, 1, .miterClip, .butt, .square, false, 0⟩ (lineIntersection (1 / 10 ^ 8))

theorem exHypC : CoverHyp exEnvC (1 / 10 ^ 8) where
  sqrt_nonneg := fun x _ => Real.sqrt_nonneg x
  sqrt_sq := fun x hx => Real.mul_self_sqrt hx
  ix_eq := rfl
  eps_nonneg := by positivity
  fw := rfl
  join := Or.inr (Or.inr (Or.inl rfl))
  clip := fun _ => by
    constructor
    · show (1 : ℝ) ≤ 1; norm_num
    · show (1 / 10 ^ 8 : ℝ) < 2 * half
      rw [two_half]; norm_num
  scap := Or.inl (by show Lyon.StrokeQuad.Cap.butt ≠ .round; decide)
  ecap := Or.inl (by show Lyon.StrokeQuad.Cap.square ≠ .round; decide)
  hw := by
    show (0 : ℝ) < 2 * half
    rw [two_half]; exact one_pos

theorem exCL0 : eL exPtC 0 = 26 := len_of_sq _ 26 (by norm_num) (by simp only [exPtC, geom]; norm_num)
theorem exCL1 : eL exPtC 1 = 26 := len_of_sq _ 26 (by norm_num) (by simp only [exPtC, geom]; norm_num)
theorem exCT0 : eT exPtC 0 = ⟨12 / 13, 5 / 13⟩ := by
  have : len (exPtC (0 + 1) - exPtC 0) = 26 := exCL0
  unfold eT; rw [this]; apply P.ext' <;> simp only [exPtC, geom] <;> norm_num
theorem exCT1 : eT exPtC 1 = ⟨-12 / 13, 5 / 13⟩ := by
  have : len (exPtC (1 + 1) - exPtC 1) = 26 := exCL1
  unfold eT; rw [this]; apply P.ext' <;> simp only [exPtC, geom] <;> norm_num
theorem exCTau : jtau exPtC 0 = 12 / 5 := by
  unfold jtau; rw [exCT0, exCT1]; simp only [geom]; norm_num

/-- the polyline is in the regime (the fold test follows from the lengths: `regime_core_suffices`) -/
theorem exRegimeC : Regime exEnvC (1 / 10 ^ 8) exPtC 2 := by
  have hhw : exEnvC.hwFw = 1 := two_half
  apply regime_core_suffices exEnvC _ exHypC
  refine ⟨?_, ?_, ?_, ?_⟩
  · intro i hi
    interval_cases i <;>
      (simp [exEnvC, exPtC, pointsAreTooClose, Env.new, squareMergeThreshold, geom]; norm_num)
  · intro i hi
    interval_cases i
    · rw [exCL0]; norm_num
    · rw [exCL1]; norm_num
  · intro i hi
    interval_cases i
    rw [exCT0, exCT1, normalEpsilon_eq]; simp only [geom]; norm_num
  · intro i hi
    rw [hhw]
    interval_cases i
    · simp only [tauAbs]; norm_num; rw [exCL0, exCTau]; norm_num [abs_of_pos]
    · simp only [tauAbs]; norm_num; rw [exCL1, exCTau]; norm_num [abs_of_pos]

/-- the join at `(24,10)` is CLIPPED: the model's `miter_limit_is_exceeded` answers yes (`keptAt` fails) -/
theorem exClipped : ¬ keptAt exEnvC (exPtC 0) (exPtC 1) (exPtC 2) := by
  have hs0 : ∀ x : ℝ, 0 ≤ x → 0 ≤ Transc.sqrt x := fun x _ => Real.sqrt_nonneg x
  have hs : ∀ x : ℝ, 0 ≤ x → Transc.sqrt x * Transc.sqrt x = x := fun x hx => Real.mul_self_sqrt hx
  have hu0 : (⟨12 / 13, 5 / 13⟩ : P ℝ).sqLen = 1 := by simp only [geom]; norm_num
  have hu1 : (⟨-12 / 13, 5 / 13⟩ : P ℝ).sqLen = 1 := by simp only [geom]; norm_num
  have hg : ¬ ((⟨12 / 13, 5 / 13⟩ : P ℝ) + ⟨-12 / 13, 5 / 13⟩).sqLen < normalEpsilon := by
    rw [normalEpsilon_eq]; simp only [geom]; norm_num
  obtain ⟨_, hN0, _⟩ := normal_closed hs0 hs _ _ hu0 hu1 hg
  have hτ : (⟨12 / 13, 5 / 13⟩ : P ℝ).cross ⟨-12 / 13, 5 / 13⟩ / (1 + (⟨12 / 13, 5 / 13⟩ : P ℝ).dot ⟨-12 / 13, 5 / 13⟩) = 12 / 5 := by
    simp only [geom]; norm_num
  rw [hτ] at hN0
  have hN : computeNormal (⟨12 / 13, 5 / 13⟩ : P ℝ) ⟨-12 / 13, 5 / 13⟩ = ⟨-13 / 5, 0⟩ := by
    rw [hN0]; apply P.ext' <;> simp only [perp, geom] <;> norm_num
  have h0 : (exPtC 1 - exPtC 0).sdiv (len (exPtC 1 - exPtC 0)) = ⟨12 / 13, 5 / 13⟩ := exCT0
  have h1 : (exPtC 2 - exPtC 1).sdiv (len (exPtC 2 - exPtC 1)) = ⟨-12 / 13, 5 / 13⟩ := exCT1
  unfold keptAt fwGeo
  simp only [EP.mk', h0, h1, hN]
  simp [miterLimitIsExceeded, exEnvC, Env.new, geom]
  norm_num

/-- every point of both rectangles — e.g. the corner at the join on the inside of the turn — is covered -/
example (store : Nat → List ℝ) (s u : ℝ) (hs : 0 ≤ s) (hs1 : s ≤ 1) (hu : -1 ≤ u) (hu1 : u ≤ 1) :
    ∃ t ∈ (runEvents exEnvC store (polyEvs exPtC 2)).st.out.tris, ∃ v1 v2 v3 : VData ℝ,
      (runEvents exEnvC store (polyEvs exPtC 2)).st.out.verts[t.1]? = some v1
      ∧ (runEvents exEnvC store (polyEvs exPtC 2)).st.out.verts[t.2.1]? = some v2
      ∧ (runEvents exEnvC store (polyEvs exPtC 2)).st.out.verts[t.2.2]? = some v3
      ∧ InTri (bandPoint (exPtC 0) (exPtC 1) ((perp (eT exPtC 0)).smul exEnvC.hwFw) s u)
          (v1.read.position, v2.read.position, v3.read.position) :=
  (stroke_polyline_covers_rectangles_miterclip exEnvC _ exHypC rfl store exPtC 2 (by norm_num) exRegimeC 0 (by norm_num)
    s u hs hs1 hu hu1).2

/-- and every triangle stays within the reach of its edge -/
example (store : Nat → List ℝ) (t : Stroke.Tri) (ht : t ∈ (runEvents exEnvC store (polyEvs exPtC 2)).st.out.tris) :
    ∃ k, k < 2 ∧ ∃ v1 v2 v3 : VData ℝ,
      (runEvents exEnvC store (polyEvs exPtC 2)).st.out.verts[t.1]? = some v1
      ∧ (runEvents exEnvC store (polyEvs exPtC 2)).st.out.verts[t.2.1]? = some v2
      ∧ (runEvents exEnvC store (polyEvs exPtC 2)).st.out.verts[t.2.2]? = some v3
      ∧ ∀ q, InTri q (v1.read.position, v2.read.position, v3.read.position) →
          NearSeg (exPtC k) (eT exPtC k) (eL exPtC k) (reachSq exEnvC exPtC 2 k) q :=
  stroke_polyline_reach exEnvC _ exHypC store exPtC 2 (by norm_num) exRegimeC t ht

/-! ### non-vacuity: Round joins on the polyline `exPt` and the square `exSq` -/

example (store : Nat → List ℝ) (s u : ℝ) (hs : 0 ≤ s) (hs1 : s ≤ 1) (hu : -1 ≤ u) (hu1 : u ≤ 1) :
    ∃ t ∈ (runEvents (exEnvJ .round) store (polyEvs exPt 3)).st.out.tris, ∃ v1 v2 v3 : VData ℝ,
      (runEvents (exEnvJ .round) store (polyEvs exPt 3)).st.out.verts[t.1]? = some v1
      ∧ (runEvents (exEnvJ .round) store (polyEvs exPt 3)).st.out.verts[t.2.1]? = some v2
      ∧ (runEvents (exEnvJ .round) store (polyEvs exPt 3)).st.out.verts[t.2.2]? = some v3
      ∧ InTri (bandPoint (exPt 1) (exPt (1 + 1)) ((perp (eT exPt 1)).smul (exEnvJ .round).hwFw) s u)
          (v1.read.position, v2.read.position, v3.read.position) :=
  stroke_polyline_covers_rectangles_round (exEnvJ .round) _ (exHypJ _ (Or.inr (Or.inr (Or.inr rfl)))) rfl store exPt 3
    (by norm_num) (exRegimeJ _) 1 (by norm_num) s u hs hs1 hu hu1

example : reachSq (exEnvJ .round) exPt 3 1
    ≤ (exEnvJ .round).hwFw * (exEnvJ .round).hwFw * (1 + (Max.max (0 : ℝ) 0) ^ 2) := by
  have := stroke_reach_factor_round (exEnvJ .round) _ (exHypJ _ (Or.inr (Or.inr (Or.inr rfl)))) exPt 3 (exRegimeJ _) rfl 1
    (by norm_num)
  simpa using this

example (store : Nat → List ℝ) (t : Stroke.Tri)
    (ht : t ∈ (runEvents (exEnvJ .round) store (polyEvsC exSq 3)).st.out.tris) :
    ∃ k, ∃ v1 v2 v3 : VData ℝ,
      (runEvents (exEnvJ .round) store (polyEvsC exSq 3)).st.out.verts[t.1]? = some v1
      ∧ (runEvents (exEnvJ .round) store (polyEvsC exSq 3)).st.out.verts[t.2.1]? = some v2
      ∧ (runEvents (exEnvJ .round) store (polyEvsC exSq 3)).st.out.verts[t.2.2]? = some v3
      ∧ ∀ q, InTri q (v1.read.position, v2.read.position, v3.read.position) →
          NearSeg (exSq (k + 1)) (eT exSq (k + 1)) (eL exSq (k + 1))
            ((exEnvJ .round).hwFw * (exEnvJ .round).hwFw) q :=
  stroke_polygon_round_within_half_width (exEnvJ .round) _ (exHypJ _ (Or.inr (Or.inr (Or.inr rfl)))) rfl store exSq 3
    (by norm_num) exSq_per (exSqRegime _) t ht

example (store : Nat → List ℝ) (s u : ℝ) (hs : 0 ≤ s) (hs1 : s ≤ 1) (hu : -1 ≤ u) (hu1 : u ≤ 1) :
    ∃ t ∈ (runEvents (exEnvJ .round) store (polyEvsC exSq 3)).st.out.tris, ∃ v1 v2 v3 : VData ℝ,
      (runEvents (exEnvJ .round) store (polyEvsC exSq 3)).st.out.verts[t.1]? = some v1
      ∧ (runEvents (exEnvJ .round) store (polyEvsC exSq 3)).st.out.verts[t.2.1]? = some v2
      ∧ (runEvents (exEnvJ .round) store (polyEvsC exSq 3)).st.out.verts[t.2.2]? = some v3
      ∧ InTri (bandPoint (exSq 2) (exSq (2 + 1)) ((perp (eT exSq 2)).smul (exEnvJ .round).hwFw) s u)
          (v1.read.position, v2.read.position, v3.read.position) :=
  stroke_polygon_covers_rectangles_round (exEnvJ .round) _ (exHypJ _ (Or.inr (Or.inr (Or.inr rfl)))) rfl store exSq 3
    (by norm_num) exSq_per (exSqRegime _) 2 s u hs hs1 hu hu1

/-- the hypotheses of `stroke_polyline_emission_shape_round` hold for the example -/
example (store : Nat → List ℝ) : Emitted (exEnvJ .round) exPt 3 (runEvents (exEnvJ .round) store (polyEvs exPt 3)).st.out :=
  stroke_polyline_emission_shape_round (exEnvJ .round) store rfl
    exTrig
    (by decide) (by decide)
    (ne_of_gt (exHypJ .round (Or.inr (Or.inr (Or.inr rfl)))).hw) exPt 3 (by norm_num) (exRegimeJ _).1
    (fun i h1 h2 => by
      obtain ⟨i', rfl⟩ : ∃ i', i = i' + 1 := ⟨i - 1, by omega⟩
      exact (exRegimeJ _).noFold i' (by omega))

/-! ### non-vacuity: Round join AND round caps on the polyline `exPt` -/

/-- tolerance 0.1, width 2, Round join, round caps, fixed width -/
noncomputable def exEnvR : Env ℝ :=
  Env.new ⟨1 / 10, 2, 4, .round, .round, .round, false, 0⟩ (lineIntersection (1 / 10 ^ 8))

theorem exHypR : CoverHyp exEnvR (1 / 10 ^ 8) where
  sqrt_nonneg := fun x _ => Real.sqrt_nonneg x
  sqrt_sq := fun x hx => Real.mul_self_sqrt hx
  ix_eq := rfl
  eps_nonneg := by positivity
  fw := rfl
  join := Or.inr (Or.inr (Or.inr ⟨rfl, exTrig⟩))
  clip := fun h => by cases h
  scap := Or.inr exTrig
  ecap := Or.inr exTrig
  hw := by
    show (0 : ℝ) < 2 * half
    rw [two_half]; exact one_pos

/-- the 3-4-5 polyline is in the regime of the round / round configuration: the regime does not look at the caps, it
is that of `exEnvJ .round` (`Regime` reads `e` through `e.thr`, `e.hwFw`, the join kind and the miter limit only,
which agree by unfolding) -/
theorem exRegimeR : Regime exEnvR (1 / 10 ^ 8) exPt 3 := exRegimeJ .round

/-- round join, round caps: the rectangles are covered … -/
example (store : Nat → List ℝ) (s u : ℝ) (hs : 0 ≤ s) (hs1 : s ≤ 1) (hu : -1 ≤ u) (hu1 : u ≤ 1) :
    ∃ t ∈ (runEvents exEnvR store (polyEvs exPt 3)).st.out.tris, ∃ v1 v2 v3 : VData ℝ,
      (runEvents exEnvR store (polyEvs exPt 3)).st.out.verts[t.1]? = some v1
      ∧ (runEvents exEnvR store (polyEvs exPt 3)).st.out.verts[t.2.1]? = some v2
      ∧ (runEvents exEnvR store (polyEvs exPt 3)).st.out.verts[t.2.2]? = some v3
      ∧ InTri (bandPoint (exPt 2) (exPt (2 + 1)) ((perp (eT exPt 2)).smul exEnvR.hwFw) s u)
          (v1.read.position, v2.read.position, v3.read.position) :=
  stroke_polyline_covers_rectangles_round_caps exEnvR _ exHypR rfl rfl store exPt 3 (by norm_num) exRegimeR 2 (by norm_num)
    s u hs hs1 hu hu1

/-- … and no triangle has a point farther than `w/2 = 1` from the path -/
example (store : Nat → List ℝ) (t : Stroke.Tri) (ht : t ∈ (runEvents exEnvR store (polyEvs exPt 3)).st.out.tris) :
    ∃ k, k < 3 ∧ ∃ v1 v2 v3 : VData ℝ,
      (runEvents exEnvR store (polyEvs exPt 3)).st.out.verts[t.1]? = some v1
      ∧ (runEvents exEnvR store (polyEvs exPt 3)).st.out.verts[t.2.1]? = some v2
      ∧ (runEvents exEnvR store (polyEvs exPt 3)).st.out.verts[t.2.2]? = some v3
      ∧ ∀ q, InTri q (v1.read.position, v2.read.position, v3.read.position) →
          NearSeg (exPt k) (eT exPt k) (eL exPt k) (exEnvR.hwFw * exEnvR.hwFw) q :=
  stroke_polyline_within_half_width exEnvR _ exHypR (Or.inr rfl) (by decide) (by decide) store exPt 3 (by norm_num)
    exRegimeR t ht

end Real

end Lyon.C06f
