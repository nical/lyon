/-
  C08 — the STROKE tessellator as the object family `stroke_reuse:32` runs it
  (`Model/Tess/ResetStrokeFull.lean`: `strokeCallF` / `strokeObjF`): the complete stroker model
  (`StrokeFull.lean`), the `StrokeBuilder` programs (`StrokeBuilderProg.lean`), the prologues of every
  entry point on the object's attribute buffer and recycled attribute store, the length-driven
  `interpolated_attributes` (`StrokeAttrBuffer.lean`), refused vertices, dropped builders and the
  rejected `tessellate_rectangle`.

  * `stroke_object_call_fresh`          one call on a used object (ANY buffer of any length, ANY store)
      = the same call on `StrokeT.new`: outcome, every vertex with all accessors, the attributes every
      vertex constructor reads, every triangle.
  * `stroke_history_fresh_full_object`  after EVERY history of such calls.
  * `stroke_history_outputs_full_object` the outputs of a whole history, call by call.
  * `stroke_object_store_recycled`      what the builder entry points make of the recycled store does
      not depend on what it held.
  * `stroke_object_fw_is_attrs_call`    on the calls both models can express (`tessellate` without a
      fault) the object model IS `strokeFullCallB` of `Props/C08e.lean`.

  How the model differs from that of `Props/C08c.lean` + `Props/C08e.lean` (`stroke_history_fresh_full_attrs`):
  those are about `strokeFullCallB`, whose call is a list of plain path events with ids 0, 1, 2, …
  stroked with ONE option record; it is not run by any model family.  Here the call is what the entry
  points really receive — the caller's endpoint ids and store for `tessellate_with_ids` /
  `tessellate_path`, a PROGRAM for the builders (several sub-paths, shape helpers incl. the thin
  rectangle with its temporarily widened options, option setters between and inside sub-paths; the
  attribute store fed by `SimpleAttributeStore::add` into the recycled store and read back by `get`),
  a refused vertex (once, twice, from then on: emitted prefix, `Err`, one refused call), a vertex
  constructor that panics (the call unwinds), a dropped builder, a rejected call — and this exact
  definition is executed by the C08 model driver over whole histories against one real reused
  `StrokeTessellator` (family `stroke_reuse:32`, bit for bit).  Every path from the object's
  fields to the stroker goes through `reset(n)` / `clear()` / a local `Vec`.
-/
import LyonVerif.Model.Tess.ResetStrokeFull
import LyonVerif.Lemmas.Reset
import LyonVerif.Props.C08e


namespace Lyon.C08
open Lyon Lyon.Reset Lyon.Stroke Lyon.Stroke.Full
open Lyon.StrokeQuad (Ix)

variable {α : Type} [Scalar α]

/-- **`reset(n)` + the `add`s of the program forget the recycled store**: data, ids, attribute count -/
theorem stroke_object_store_recycled (s s' : Store α) (o : Opts α) (n : Nat) (d : Bool) (cmds : List (Prog.Cmd α)) :
    storeAfterF s (.prog o n d cmds) = storeAfterF s' (.prog o n d cmds) := rfl

theorem storeFnF_fresh (s s' : Store α) (b : BodyF α) : storeFnF s b = storeFnF s' b := by
  cases b <;> rfl

section
variable [Transc α] [Asin α] [FlatConst α]

theorem coreOutF_fresh (ix : Ix α) (s s' : Store α) (b : BodyF α) : coreOutF ix s b = coreOutF ix s' b := by
  cases b <;> rfl

theorem strokeCallF_snd (ix : Ix α) (t : StrokeT α) (c : CallF α) :
    (strokeCallF ix t c).2 =
      match c.body with
      | .rejected => OutF.panic
      | body => (finishF c (storeFnF t.store body) (prologueBuffer t.attribBuffer body.entry)
                  (coreOutF ix t.store body)).1 := by
  unfold strokeCallF
  cases c.body <;> rfl

/-- **One call of a used `StrokeTessellator` = the same call of a new one**, on the object model of
family `stroke_reuse:32`: every entry point (`tessellate`, `tessellate_polygon`, `tessellate_path`,
`tessellate_with_ids` with or without a store, `builder`, `builder_with_attributes(n)` with any
program, built or dropped, `tessellate_rectangle` / `_circle` / `_ellipse`, the rejected rectangle),
every option set, fixed or variable width, any attribute count, a geometry builder that refuses any
vertex — WHATEVER the object's attribute buffer (any length) and builder store held: the outcome,
every vertex, the attributes every vertex constructor reads, every triangle. -/
theorem stroke_object_call_fresh (ix : Ix α) (t : StrokeT α) (c : CallF α) :
    (strokeCallF ix t c).2 = (strokeCallF ix StrokeT.new c).2 := by
  rw [strokeCallF_snd, strokeCallF_snd]
  cases hb : c.body <;>
    simp only [storeFnF_fresh t.store (StrokeT.new : StrokeT α).store,
      coreOutF_fresh ix t.store (StrokeT.new : StrokeT α).store,
      stroke_prologue_buffer_fresh t.attribBuffer (StrokeT.new : StrokeT α).attribBuffer]

theorem strokeObjF_stateless (ix : Ix α) : Stateless (strokeObjF ix) :=
  .of_fresh (stroke_object_call_fresh ix)

/-- **After every history** of calls on the object — any entry points, programs, attribute counts
growing or shrinking, refused vertices, dropped builders, rejected calls, whatever they left in the
buffer and the store — the next call's complete output (outcome, vertices, interpolated attributes,
triangles) is a new tessellator's. -/
theorem stroke_history_fresh_full_object (ix : Ix α) (t0 : StrokeT α) (hist : List (CallF α)) (c : CallF α) :
    ((strokeObjF ix).call ((strokeObjF ix).run t0 hist) c).2 = ((strokeObjF ix).call StrokeT.new c).2 :=
  strokeObjF_stateless ix _ _ c

/-- every call of every history equals the call on a fresh object -/
theorem stroke_history_outputs_full_object (ix : Ix α) (t0 : StrokeT α) (hist : List (CallF α)) :
    (strokeObjF ix).outputs t0 hist = hist.map (fun c => ((strokeObjF ix).call StrokeT.new c).2) :=
  (strokeObjF_stateless ix).outputs StrokeT.new hist t0

/-- **The object model extends `strokeFullCallB`** (`Props/C08e.lean`): on an un-faulted `tessellate`
call — the calls both can express — its output is the output of `strokeFullCallB`. -/
theorem stroke_object_fw_is_attrs_call (ix : Ix α) (t : StrokeT α) (o : Opts α) (evs : List (PathEv α))
    (attrs : List (List α)) (scribble : List α) :
    (strokeCallF ix t ⟨.fw o evs, none, none⟩).2 =
      match (strokeFullCallB ix t ⟨.events, evs, attrs, o, scribble⟩).2 with
      | none => OutF.panic
      | some (out, l) => ⟨.ok, out.verts, l, out.tris, 0⟩ := by
  simp only [strokeCallF, finishF, coreOutF, strokeFullCallB, strokeFullCall, callStore, storeFnF,
    BodyF.entry, BodyF.isDropped, cutVerts, cutTris, wasRefused, ctorPanics]
  cases h : tessellateFw (Env.new o ix) evs with
  | none => rfl
  | some out =>
    simp only []
    cases h2 : (attrsSeqB (fun _ => []) (List.map (fun x => x.src) out.verts)
        ⟨false, prologueBuffer t.attribBuffer StrokeEntry.events⟩).1 <;> simp

end

end Lyon.C08
