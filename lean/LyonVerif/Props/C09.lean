/-
  C09 — flattening yields a connected polyline from start to end within the tolerance.

  All statements are about the model of `Model/Geom/Flatten.lean` — the same `def`s the
  correspondence check runs at `Float32`/`Float` against lyon on every run — which mirrors the code
  as repaired by the `fix:` commits e20d2048, 6805acc4, 99a81005, d50cea5f, 3251fd3d, 014eb9a5.
  Helper lemmas (loop invariants) are in `Lemmas/Flatten.lean`.

  * Structure (`…_connected`; `quad_flat_ranges`, for arc and cubic the ranges are part of `…_connected`;
    `quad_…` and `arc_flat_vertices_on_curve`, the cubic has `cubic_iter_point_is_sample` for the iterator only):
    the quadratic and arc statements
    hold for EVERY scalar type (`Float32` included: they only move values around), for every
    curve, tolerance and segment count / fuel; the cubic callback ones are over an arbitrary
    ordered field (they use `sample 0 = from`, `sample 1 = to`).
  * Iterators end exactly at the end point, for every scalar type: `quad_iter_final`,
    `cubic_iter_last_point`, `arc_iter_last_point` (repairs e20d2048 / 6805acc4).
  * Parameters: `inv_integral_strict_mono`, `tAt_strict_mono`, `general_signs`, `tAt_zero`,
    `tAt_count`: 0 = t₀ < t₁ < … < t_count = 1 in exact arithmetic (`sqrt` is a parameter), for parameters
    that satisfy the sign and inverse hypotheses of these theorems; that `FlatParams.new` produces such
    parameters is not stated.
  * Tolerance clause:
      - `is_linear_sound`: whenever the repaired `is_linear` accepts, EVERY point of the curve is
        within the tolerance of the single emitted segment (hull argument). Full strength.
      - `quad_flat_within_tolerance_of_params`: every emitted chord whose parameter step Δ
        satisfies Δ⁴·|P0−2P1+P2|² ≤ 16·tol² keeps the curve within the tolerance (exact
        chord-deviation identity). NAMED GAP: that the steps produced by Levien's integral
        estimate satisfy this bound is not proved (it holds only approximately: oracle finding
        `approx-integral`).
      - `collinear_overshoot_witness` (residual defect, narrow): control points exactly collinear
        (`cross = 0`, e.g. `from == to`) with the control point outside the baseline: the code's
        parameters are NaN, the count falls back to 0, one segment is emitted and the curve is
        thousands of tolerances away. `collinear_overshoot_partial`: by how much the chord `from → to`
        of any quadratic misses the curve.
  * `chord_deviation`, `cubic_quad_deviation` with their extremal factors: exact identities.
-/
import LyonVerif.Model.Geom.Flatten
import LyonVerif.Lemmas.Field
import LyonVerif.Lemmas.Flatten
import LyonVerif.Lemmas.FlattenChord
import LyonVerif.Lemmas.FlattenTolCubic
import LyonVerif.Lemmas.FlattenTolQuad

set_option linter.unusedSectionVars false
set_option linter.unusedVariables false

namespace Lyon.C09
open Lyon Scalar Lyon.Flat

/-! ## Quadratic Bézier: structure, for every scalar type -/

section quad_any
variable {α : Type} [Scalar α] [Transc α] [FlatConst α]

/-- **flat_connected (quadratic)**: whatever the tolerance and the count, the emitted segments
start exactly at `from`, each begins where the previous one ended, and the last one ends exactly
at `to`. Holds for every scalar type. -/
theorem quad_flat_connected (q : Quad α) (tol : α) (l : List (FlatSeg α))
    (h : q.forEachFlattenedWithT tol = some l) :
    l ≠ [] ∧ Chain q.a zero l ∧ lastPt q.a l = q.b := by
  obtain ⟨h1, h2, h3, _, _⟩ := quad_flat_structure q tol l h
  exact ⟨h1, h2, h3⟩

/-- **flat_ranges (quadratic)**: the ranges start at 0, abut, and end at exactly 1. -/
theorem quad_flat_ranges (q : Quad α) (tol : α) (l : List (FlatSeg α))
    (h : q.forEachFlattenedWithT tol = some l) :
    Chain q.a zero l ∧ lastT zero l = one := by
  obtain ⟨_, h2, _, h4, _⟩ := quad_flat_structure q tol l h
  exact ⟨h2, h4⟩

/-- **flat_vertices_on_curve (quadratic)**: every interior vertex is `sample` of its parameter. -/
theorem quad_flat_vertices_on_curve (q : Quad α) (tol : α) (l : List (FlatSeg α))
    (h : q.forEachFlattenedWithT tol = some l) : InteriorOn q.sample l :=
  (quad_flat_structure q tol l h).2.2.2.2

/-- the number of segments is `max(count, 1)` -/
theorem quad_flat_count (q : Quad α) (p : FlatParams α) (c : Nat) :
    (q.flatWith p c).length = max c 1 := by
  have := (quad_loop_structure q p (c - 1) one q.a zero).2.2.2.2
  simp only [Quad.flatWith, this]; omega

/-- the point iterator (`flattened()`): the point it yields when its guard `i ≥ count − ε` fires
is the stored end point, and it then stops. -/
theorem quad_iter_final (s : QuadIter α) (hd : s.done = false) (he : s.atEnd = true) :
    s.next = (some s.curve.b, { s with done := true }) ∧ (s.next.2).next.1 = none := by
  simp [QuadIter.next, hd, he]

/-- the parameter iterator (`flattened_t()`) ends with exactly 1 -/
theorem quad_titer_final (s : QuadTIter α) (hd : s.done = false) (he : s.atEnd = true) :
    s.next = (some one, { s with done := true }) ∧ (s.next.2).next.1 = none := by
  simp [QuadTIter.next, hd, he]

/-- before the guard fires both iterators use the same `t_at_iteration` as the callback form -/
theorem quad_iter_step (s : QuadIter α) (hd : s.done = false) (he : s.atEnd = false) :
    s.next.1 = some (s.curve.sample (s.params.tAt s.i)) := by
  simp [QuadIter.next, hd, he]

/-- (every scalar type; repair e20d2048) when the last sub-curve's
parameter iterator yields its final `1`, the cubic iterator yields the stored end point `to`
itself — on the path where the sub-curve was already running … -/
theorem cubic_iter_last_point (s : CubicIter α) (t : α) (cur : QuadTIter α)
    (h : s.current.next = (some t, cur)) (hr : s.remaining = 0) (ht : (t == one) = true) :
    s.next.1 = some s.curve.b := by
  simp [CubicIter.next, h, CubicIter.lastOr, hr, ht]

/-- … and on the path where `next` has just started the last sub-curve (`remaining = 1` before
the call) and that sub-curve consists of the single parameter `1`. -/
theorem cubic_iter_last_point_advance (s : CubicIter α) (cur : QuadTIter α)
    (h : s.current.next = (none, cur)) (hr : s.remaining = 1)
    (ht : ((((QuadTIter.new ((s.curve.splitRange (s.rangeStart + s.rangeStep)
        (s.rangeStart + s.rangeStep + s.rangeStep)).toQuadratic) s.tolerance).next.1).getD one) == one) = true) :
    s.next.1 = some s.curve.b := by
  simp [CubicIter.next, h, hr, CubicIter.advance, CubicIter.lastOr, ht]

/-- every other point of the cubic iterator is `curve.sample(range_start + t·range_step)` -/
theorem cubic_iter_point_is_sample (s : CubicIter α) (t : α) (cur : QuadTIter α)
    (h : s.current.next = (some t, cur)) (hn : ¬ (s.remaining = 0 ∧ (t == one) = true)) :
    s.next.1 = some (s.curve.sample (s.rangeStart + t * s.rangeStep)) := by
  simp only [CubicIter.next, h, CubicIter.lastOr, if_neg hn]

end quad_any

/-! ## Arc: structure, for every scalar type and every fuel -/

section arc_any
variable {α : Type} [Scalar α] [Transc α] [FlatConst α]

/-- **flat_connected / flat_ranges (arc)**: starts at `from()`, chained, ends at `to()` with
parameter exactly 1 — for every tolerance and however long the loop runs. -/
theorem arc_flat_connected (a : Arc α) (tol : α) (fuel : Nat) :
    a.forEachFlattenedWithT tol fuel ≠ []
    ∧ Chain a.fromPt zero (a.forEachFlattenedWithT tol fuel)
    ∧ lastPt a.fromPt (a.forEachFlattenedWithT tol fuel) = a.toPt
    ∧ lastT zero (a.forEachFlattenedWithT tol fuel) = one := by
  obtain ⟨h1, h2, h3, h4⟩ := arc_loop_structure a tol fuel a zero a.fromPt
  exact ⟨h4, h1, h2, h3⟩

/-- (every scalar type; repair 6805acc4) after any number of `next`
calls the iterator still holds the ORIGINAL arc's `to()`, and that is the point it yields when
its guard `step ≥ 1` fires. -/
theorem arc_iter_last_point (a : Arc α) (tol : α) (n : Nat) :
    (arcIterRun n (ArcIter.new a tol)).to = a.toPt
    ∧ ((arcIterRun n (ArcIter.new a tol)).done = false →
        one ≤ (arcIterRun n (ArcIter.new a tol)).arc.flatteningStep (arcIterRun n (ArcIter.new a tol)).tolerance →
        (arcIterRun n (ArcIter.new a tol)).next.1 = some a.toPt) := by
  have hto : (arcIterRun n (ArcIter.new a tol)).to = a.toPt := by
    rw [arc_iter_run_to]; rfl
  refine ⟨hto, fun hd he => ?_⟩
  simp [ArcIter.next, ArcIter.step, hd, he, hto]

end arc_any

variable {K : Type} [Field K] [LinearOrder K] [IsStrictOrderedRing K]

/-- over the parameter range `[t0, t0+Δ]` the curve differs from its chord,
at relative position `s`, by exactly `−s(1−s)Δ²·(P0 − 2P1 + P2)`. Hence the (parametric)
deviation of a chord is at most `Δ²/4·|P0 − 2P1 + P2|`, attained at `s = 1/2`. -/
theorem chord_deviation (q : Quad K) (t0 d s : K) :
    q.sample (t0 + s * d) - (q.sample t0).lerp (q.sample (t0 + d)) s
      = ((q.a - q.c.smul 2) + q.b).smul (-(s * (1 - s) * (d * d))) := by
  -- `quad_chord_point` over the range `[t0, t0 + d]`, the chord point moved to the left
  have h := quad_chord_point q t0 (t0 + d) s
  rw [add_sub_cancel_left] at h
  rw [h, Flat.smul_smul, Quad.secondDiff, sc_two_eq]
  generalize (q.sample t0).lerp (q.sample (t0 + d)) s = L
  generalize (q.a - q.c.smul 2) + q.b = V
  apply P.ext' <;> simp only [P.add_def, P.sub_def, P.smul] <;> ring

/-- `s(1−s) ≤ 1/4`: the factor of `chord_deviation` is maximal at the middle of the chord -/
theorem chord_deviation_factor (s : K) : s * (1 - s) ≤ 1 / 4 := Hull.chord_factor s

/-- a cubic differs from its `to_quadratic` approximation, at the same
parameter, by exactly `½·t(1−t)(1−2t)·(P3 − 3P2 + 3P1 − P0)`. -/
theorem cubic_quad_deviation (c : Cubic K) (t : K) :
    c.sample t - c.toQuadratic.sample t
      = (((c.b - c.c2.smul 3) + c.c1.smul 3) - c.a).smul (1 / 2 * (t * (1 - t) * (1 - 2 * t))) :=
  cubic_toQuadratic_dev c t

/-- `|t(1−t)(1−2t)| ≤ √3/18` on [0,1], squared: `(t(1−t)(1−2t))² ≤ 1/108` — so the constant
`√3/36` of `to_quadratic_error` (and `3/1296 = 1/432` of `is_quadratic`, the `432` of
`num_quadratics_impl`) is the right one. -/
theorem cubic_quad_deviation_factor (t : K) (h0 : 0 ≤ t) (h1 : t ≤ 1) :
    (t * (1 - t) * (1 - 2 * t)) ^ 2 ≤ 1 / 108 :=
  cubic_factor t h0 h1

example : (0:ℚ) ≤ 1/3 ∧ (1/3:ℚ) ≤ 1 := by norm_num

section cubic
variable [Transc K] [FlatConst K]

/-- **flat_connected / flat_ranges (cubic, callback with t)**: the segments start exactly at
`from`, are chained in points and parameters, end exactly at `to` with parameter exactly 1 —
for every cubic, tolerance and number of quadratics. -/
theorem cubic_flat_connected (c : Cubic K) (tol : K) (l : List (FlatSeg K))
    (h : c.forEachFlattenedWithT tol = some l) :
    l ≠ [] ∧ Chain c.a 0 l ∧ lastPt c.a l = c.b ∧ lastT 0 l = 1 :=
  cubic_flat_tiles c tol l h

/-- the quadratics of `for_each_quadratic_bezier_with_t` tile [0,1]: each runs from `sample t0`
to `sample t1`, consecutive ones share parameter and point, the last ends at parameter 1 -/
theorem cubic_quads_tile (c : Cubic K) (step : K) (n : Nat) :
    QuadChain c zero (c.quadsLoop step n zero) ∧ lastR1 zero (c.quadsLoop step n zero) = one
    ∧ (c.quadsLoop step n zero).length = n + 1 :=
  cubic_quads_structure c step n zero

/-- **flat_vertices_on_curve (arc)**: every interior vertex is `sample` of its parameter. -/
theorem arc_flat_vertices_on_curve (a : Arc K) (tol : K) (fuel : Nat) :
    InteriorOn a.sample (a.forEachFlattenedWithT tol fuel) :=
  interiorOn_of_ends _ _ fun sg hsg => (arc_flat_ends_on a tol fuel sg hsg).2

end cubic

/-! ### Parameters strictly increase (exact arithmetic; `sqrt` a parameter) -/

section mono
variable [Transc K] [FlatConst K]

/-- `approx_parabola_inv_integral` is strictly increasing, given
that `sqrt` is non-negative and monotone on non-negative arguments and `0 ≤ b < 1` for the
constant `b = 0.39`. -/
theorem inv_integral_strict_mono
    (hs0 : ∀ x : K, 0 ≤ Transc.sqrt x)
    (hsm : ∀ x y : K, 0 ≤ x → x ≤ y → Transc.sqrt x ≤ Transc.sqrt y)
    (hb : (FlatConst.value 39 2 : K) < 1)
    (x y : K) (hxy : x < y) :
    approxParabolaInvIntegral x < approxParabolaInvIntegral y := by
  -- `f x = x · g x` with `g x = 1 − b + √(b² + x²/4) ≥ 1 − b > 0` even and non-decreasing in `|x|`
  refine mul_strict_mono_of_sq_mono
    (fun z => one - FlatConst.value 39 2 + Transc.sqrt (FlatConst.value 39 2 * FlatConst.value 39 2 + half * half * z * z))
    (fun z => ?_) (fun u v huv => ?_) hxy
  · rw [sc_one_eq]; linear_combination hb + hs0 (FlatConst.value 39 2 * FlatConst.value 39 2 + half * half * z * z)
  · have hq : (0 : K) ≤ half * half := mul_self_nonneg _
    have h1 : (0 : K) ≤ FlatConst.value 39 2 * FlatConst.value 39 2 + half * half * u * u := by
      rw [mul_assoc]; exact add_nonneg (mul_self_nonneg _) (mul_nonneg hq (mul_self_nonneg u))
    have h2 : (FlatConst.value 39 2 * FlatConst.value 39 2 + half * half * u * u : K)
        ≤ FlatConst.value 39 2 * FlatConst.value 39 2 + half * half * v * v := by
      rw [mul_assoc, mul_assoc (half * half)]; linear_combination mul_le_mul_of_nonneg_left huv hq
    linear_combination hsm _ _ h1 h2

/-- `t_at_iteration` is strictly increasing in the iteration number when
the step and the normalising factor have the same sign (as `diff/count` and `1/(inv(to) − inv(from))` have:
`general_signs`; neither theorem is instantiated at `FlatParams.new`). -/
theorem tAt_strict_mono
    (hs0 : ∀ x : K, 0 ≤ Transc.sqrt x)
    (hsm : ∀ x y : K, 0 ≤ x → x ≤ y → Transc.sqrt x ≤ Transc.sqrt y)
    (hb : (FlatConst.value 39 2 : K) < 1)
    (p : FlatParams K) (i j : K) (hij : i < j)
    (hsign : (0 < p.integralStep ∧ 0 < p.divInvIntegralDiff) ∨ (p.integralStep < 0 ∧ p.divInvIntegralDiff < 0)) :
    p.tAt i < p.tAt j := by
  simp only [FlatParams.tAt]
  rcases hsign with ⟨h1, h2⟩ | ⟨h1, h2⟩
  · have := inv_integral_strict_mono hs0 hsm hb (p.integralFrom + p.integralStep * i)
      (p.integralFrom + p.integralStep * j) (by linear_combination mul_lt_mul_of_pos_left hij h1)
    exact mul_lt_mul_of_pos_right (sub_lt_sub_right this _) h2
  · have := inv_integral_strict_mono hs0 hsm hb (p.integralFrom + p.integralStep * j)
      (p.integralFrom + p.integralStep * i) (by linear_combination mul_lt_mul_of_neg_left hij h1)
    exact mul_lt_mul_of_neg_right (sub_lt_sub_right this _) h2

/-- the signs `tAt_strict_mono` asks for are those `FlatteningParameters::new` produces:
with `diff = integral_to − integral_from ≠ 0` and a positive count, `step = diff/count` and
`1/(inv(to) − inv(from))` both have the sign of `diff`. -/
theorem general_signs
    (hs0 : ∀ x : K, 0 ≤ Transc.sqrt x)
    (hsm : ∀ x y : K, 0 ≤ x → x ≤ y → Transc.sqrt x ≤ Transc.sqrt y)
    (hb : (FlatConst.value 39 2 : K) < 1)
    (i0 i1 count : K) (hc : 0 < count) (hd : i0 ≠ i1) :
    (0 < (i1 - i0) / count ∧ 0 < 1 / (approxParabolaInvIntegral i1 - approxParabolaInvIntegral i0))
    ∨ ((i1 - i0) / count < 0 ∧ 1 / (approxParabolaInvIntegral i1 - approxParabolaInvIntegral i0) < 0) := by
  rcases lt_or_gt_of_ne hd with h | h
  · left
    have := inv_integral_strict_mono hs0 hsm hb i0 i1 h
    exact ⟨div_pos (sub_pos.mpr h) hc, one_div_pos.mpr (sub_pos.mpr this)⟩
  · right
    have := inv_integral_strict_mono hs0 hsm hb i1 i0 h
    exact ⟨div_neg_of_neg_of_pos (sub_neg.mpr h) hc, one_div_neg.mpr (sub_neg.mpr this)⟩

/-- non-vacuity of the hypotheses of `inv_integral_strict_mono` / `tAt_strict_mono` /
`general_signs`: `x ↦ max x 0` is a non-negative monotone "sqrt" on ℚ, `0.39 < 1`, and concrete
parameters with step and factor of the same sign -/
example : (∀ x : ℚ, 0 ≤ Max.max x 0) ∧ (∀ x y : ℚ, 0 ≤ x → x ≤ y → Max.max x 0 ≤ Max.max y 0) ∧ ((39:ℚ) / 100 < 1) :=
  ⟨fun x => le_max_right _ _, fun x y _ h => max_le_max h le_rfl, by norm_num⟩
example : let p : FlatParams ℚ := ⟨4, -1, 1/2, -2, 1/4⟩
    (0 < p.integralStep ∧ 0 < p.divInvIntegralDiff) ∧ ((1:ℚ) < 2) := by
  constructor
  · constructor <;> norm_num
  · norm_num
example : (0:ℚ) < 4 ∧ (-1:ℚ) ≠ 1 := by norm_num

/-- `t_at_iteration(0) = 0` (the stored `inv_integral_from` being `inv(integral_from)`) -/
theorem tAt_zero (p : FlatParams K)
    (hinv : p.invIntegralFrom = approxParabolaInvIntegral p.integralFrom) : p.tAt 0 = 0 := by
  simp [FlatParams.tAt, hinv]

/-- `t_at_iteration(count) = 1` when `step·count = integral_to − integral_from` and the
normalising factor is the inverse of `inv(to) − inv(from) ≠ 0` -/
theorem tAt_count (p : FlatParams K) (i1 : K)
    (hstep : p.integralFrom + p.integralStep * p.count = i1)
    (hinv : p.invIntegralFrom = approxParabolaInvIntegral p.integralFrom)
    (hdiv : p.divInvIntegralDiff = 1 / (approxParabolaInvIntegral i1 - approxParabolaInvIntegral p.integralFrom))
    (hne : approxParabolaInvIntegral i1 ≠ approxParabolaInvIntegral p.integralFrom) :
    p.tAt p.count = 1 := by
  simp only [FlatParams.tAt, hstep, hinv, hdiv]
  field_simp [sub_ne_zero.mpr hne]

end mono

section tolerance
variable [Transc K] [FlatConst K]

/-- (repair 014eb9a5) if `is_linear` accepts, every point `Q(t)`, `t ∈ [0,1]`,
of the curve is within `tolerance` of the baseline segment — the single segment that is then
emitted. Hull argument: with `p` the baseline point closest to the control point and
`S = (1−t)²·from + 2t(1−t)·p + t²·to` (a point of the segment),
`Q(t) − S = 2t(1−t)·(ctrl − p)` and `|ctrl − p| ≤ 2·tolerance`, `2t(1−t) ≤ ½`. -/
theorem is_linear_sound (q : Quad K) (tol t : K) (h : q.isLinear tol = true) (ht0 : 0 ≤ t) (ht1 : t ≤ 1) :
    ∃ s, 0 ≤ s ∧ s ≤ 1 ∧ (q.sample t - q.a.lerp q.b s).sqLen ≤ tol * tol := by
  have h := of_decide_eq_true h
  simp only [segSqDist, segClosestPoint] at h
  set u : K := Scalar.min (Scalar.max ((q.c - q.a).dot (q.b - q.a) / (q.b - q.a).dot (q.b - q.a)) zero) one with hu
  have hu0 : 0 ≤ u := by
    simp only [hu, sc_min, sc_max, sc_zero, sc_one]
    exact le_min (le_max_right _ _) zero_le_one
  have hu1 : u ≤ 1 := by
    simp only [hu, sc_min, sc_one]
    exact min_le_right _ _
  have hw0 : 0 ≤ 2 * (t * (1 - t)) := mul_nonneg (by norm_num) (mul_nonneg ht0 (sub_nonneg.mpr ht1))
  refine ⟨2 * (t * (1 - t)) * u + t * t, add_nonneg (mul_nonneg hw0 hu0) (mul_self_nonneg t), ?_, ?_⟩
  · -- `2t(1−t) + t² = 1 − (1−t)²`
    linear_combination mul_le_mul_of_nonneg_left hu1 hw0 + mul_self_nonneg (1 - t)
  · -- the squared distance is `(2t(1−t))²·|closest − ctrl|²`, and `|closest − ctrl|² ≤ 4·tol²`
    have hD : (q.a + (q.b - q.a).smul u - q.c).sqLen ≤ tol * tol * 4 := (sc_four (K := K)) ▸ h
    have e : (q.sample t - q.a.lerp q.b (2 * (t * (1 - t)) * u + t * t)).sqLen
        = (2 * (t * (1 - t))) ^ 2 * (q.a + (q.b - q.a).smul u - q.c).sqLen := by
      simp only [geom, Nat.cast_ofNat, Nat.cast_one]
      ring
    rw [e]
    linear_combination (1 / 4 : K) * hD + 4 * chord_weight_le t _ ht0 ht1 (P.sqLen_nonneg (q.a + (q.b - q.a).smul u - q.c))

/-- non-vacuity of `is_linear_sound`: a quadratic the repaired `is_linear` accepts -/
example : (⟨⟨0, 0⟩, ⟨1, 1 / 8⟩, ⟨2, 0⟩⟩ : Quad ℚ).isLinear (1 / 10) = true := by
  decide +kernel

/-- for every emitted segment `[t0,t1]` of a quadratic's
flattening whose parameter step satisfies `(t1−t0)⁴·|P0−2P1+P2|² ≤ 16·tol²`, every curve point
over that range is within `tol` of the emitted segment (at the same relative position `s`).
The emitted segment's end points are exactly `Q(t0)`, `Q(t1)` (`quad_flat_ends_on`), the deviation
is exactly `−s(1−s)Δ²·(P0−2P1+P2)` (`chord_deviation`) and `s(1−s) ≤ ¼`.
Named gap: that the steps chosen through Levien's integral estimate satisfy the bound. -/
theorem quad_flat_within_tolerance_of_params (q : Quad K) (tol : K) (l : List (FlatSeg K))
    (h : q.forEachFlattenedWithT tol = some l) (sg : FlatSeg K) (hs : sg ∈ l)
    (hstep : (sg.t1 - sg.t0) ^ 4 * ((q.a - q.c.smul 2) + q.b).sqLen ≤ 16 * (tol * tol))
    (s : K) (hs0 : 0 ≤ s) (hs1 : s ≤ 1) :
    (q.sample (sg.t0 + s * (sg.t1 - sg.t0)) - sg.a.lerp sg.b s).sqLen ≤ tol * tol := by
  obtain ⟨ha, hb⟩ := quad_flat_ends_on q tol l h sg hs
  rw [ha, hb, quad_chord_point]
  refine (param_dev _ _ _ s hs0 hs1).trans ?_
  rw [sqLen_smul, Quad.secondDiff, sc_two_eq]
  linear_combination (1 / 16 : K) * hstep

/-- non-vacuity of the step hypothesis: parameter step 1/4 on `from (0,0) ctrl (1,1) to (2,0)`
(`|P0−2P1+P2|² = 4`) with tolerance 1/10: `(1/4)⁴·4 = 1/64 ≤ 16/100` -/
example : ((1:ℚ) / 4) ^ 4 * 4 ≤ 16 * (1 / 10 * (1 / 10)) := by norm_num

/-- (residual defect after 014eb9a5 + 3251fd3d; narrow: control
points exactly collinear, control point outside the baseline — includes every `from == to`):
`from (0,0) ctrl (1000,0) to (1/100,0)`, tolerance `1/10`. `is_linear` rejects, but
`cross = 0`, the code's parameters are NaN and the count falls back to 0 (explicit branch of
`FlatParams.general`): exactly one segment `from → to` is emitted, while the curve point at
`t = 1/2` is `(500 + 1/400, 0)`, more than 4999 tolerances beyond the segment's far end. -/
theorem collinear_overshoot_witness :
    let q : Quad ℚ := ⟨⟨0, 0⟩, ⟨1000, 0⟩, ⟨1 / 100, 0⟩⟩
    q.isLinear (1 / 10) = false
    ∧ (∀ (T : Transc ℚ) (F : FlatConst ℚ), (FlatParams.new q (1 / 10)).count = 0)
    ∧ (∀ (T : Transc ℚ) (F : FlatConst ℚ) (p : FlatParams ℚ), q.flatWith p 0 = [⟨q.a, q.b, zero, one⟩])
    ∧ q.sample (1 / 2) = ⟨500 + 1 / 400, 0⟩
    ∧ (500 + 1 / 400 : ℚ) - 1 / 100 > 4999 * (1 / 10) := by
  have hlin : (⟨⟨0, 0⟩, ⟨1000, 0⟩, ⟨1 / 100, 0⟩⟩ : Quad ℚ).isLinear (1 / 10) = false := by
    simp only [Quad.isLinear, segSqDist, segClosestPoint, geom]
    norm_num
  have hcross : FlatParams.flatCross (⟨⟨0, 0⟩, ⟨1000, 0⟩, ⟨1 / 100, 0⟩⟩ : Quad ℚ) = 0 := by
    simp only [FlatParams.flatCross, geom]; norm_num
  refine ⟨hlin, ?_, ?_, ?_, by norm_num⟩
  · intro T F
    have hb : (FlatParams.flatCross (⟨⟨0, 0⟩, ⟨1000, 0⟩, ⟨1 / 100, 0⟩⟩ : Quad ℚ) == (0:ℚ)) = true :=
      (sc_beq _ _).mpr hcross
    simp only [FlatParams.new, hlin, FlatParams.general, hb, if_true, FlatParams.linear, sc_zero,
      Bool.false_eq_true, if_false]
  · intro T F p
    simp [Quad.flatWith, Quad.flatLoop]
  · apply P.ext' <;> simp only [geom] <;> norm_num

/-- the chord `from → to` of ANY quadratic (no collinearity is assumed) misses the curve at `s` by exactly
`−s(1−s)·(P0 − 2P1 + P2)`: `chord_deviation` at `t0 = 0, Δ = 1`. In the residual case of
`collinear_overshoot_witness` that chord is the one emitted segment, which therefore misses the curve by
`|P0 − 2P1 + P2|/4` at `s = ½`; the structural clauses (`quad_flat_connected`, `quad_flat_ranges`) hold there,
and the tolerance clause when the control point lies within `2·tolerance` of the baseline (`is_linear_sound`). -/
theorem collinear_overshoot_partial (q : Quad K) (s : K) :
    q.sample s - q.a.lerp q.b s = ((q.a - q.c.smul 2) + q.b).smul (-(s * (1 - s))) := by
  have h := chord_deviation q 0 1 s
  simp only [zero_add, mul_one, (C10.quad_sample_ends q).1, (C10.quad_sample_ends q).2] at h
  exact h

/-- the hypothesis `… = some l` of the structural theorems is satisfiable on a concrete curve
(toy instances of the non-field functions) -/
example : ∃ l, @Quad.forEachFlattenedWithT ℚ _ toyTransc toyConst ⟨⟨0, 0⟩, ⟨1000, 0⟩, ⟨1 / 100, 0⟩⟩ (1 / 10) = some l := by
  refine ⟨[⟨⟨0, 0⟩, ⟨1 / 100, 0⟩, zero, one⟩], ?_⟩
  have hc := collinear_overshoot_witness.2.1 toyTransc toyConst
  simp only [Quad.forEachFlattenedWithT, toU32, hc]
  norm_num [toyTransc, Quad.flatWith, ofNat_eq]
  have h0 : @Transc.toNat ℚ toyTransc 0 - 1 = 0 := rfl
  rw [h0]
  simp [Quad.flatLoop]

end tolerance

end Lyon.C09
