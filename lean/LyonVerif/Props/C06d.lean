/-
  C06d — `LineJoin::MiterClip`.

  * Joins whose miter stays within the limit are tessellated exactly like `Miter` joins.  The regimes of
    `Props/C06b.lean` / `C06c.lean` do not ask which case holds (`keptAt` is not part of them): `stroke_polyline_covers_rectangles`,
    `stroke_polyline_reach`, `stroke_polygon_covers_rectangles`, `stroke_polygon_reach` hold for `MiterClip`, kept or clipped.
  * CLIPPED joins (miter limit exceeded; the two theorems are stated and proved in `Lemmas/StrokeCoverClipJoin.lean`,
    where `clip_lam` uses them; this file holds their instance over `ℝ`): `miter_clip_side_points_partial` gives the two front side points
    `get_clip_intersections` computes, in closed form: on the two outer offset lines, `lam` beyond the end of the
    incoming edge resp. before the start of the outgoing one, `lam·|tan(θ/2)| = w/2·(miter_limit·|normal| − 1)`, both ON
    the clip line (distance `miter_limit·w/2` from the join along the miter direction: the reach of the clipped join
    in that direction), at squared distance `(w/2)² + lam²` from the join; `miter_clip_between_partial`: for
    `1 ≤ miter_limit·|normal|` and `miter_limit ≤ |normal|` (implied by lyon's test `|normal|² > 4·miter_limit²` and
    `miter_limit ≥ 1`) `0 ≤ lam ≤ w/2·|tan(θ/2)|`: the clipped corner lies between the bevel corner and the miter tip.
    `_partial`: these two statements are about one join; cover and reach of whole polylines with clipped `MiterClip`
    joins are `Props/C06f.lean`.  Through `C06c.complete_model_join_is_component_model` the statement about
    `StrokeQuad.clipSide` is a statement about the complete model's `compute_join_side_positions_fixed_width`.
-/
import LyonVerif.Lemmas.StrokeCoverClipJoin
import Mathlib.Analysis.SpecialFunctions.Sqrt


namespace Lyon.C06d
open Lyon Scalar Lyon.Stroke Lyon.Stroke.Full Lyon.C06b
open Lyon.StrokeQuad (Ix clipIntersections lineIntersection clipSide Side2)

/-! ### non-vacuity: the 5-12-13 left turn `(12/13, 5/13) → (−12/13, 5/13)` (about 135°), `tan(θ/2) = 12/5`, front
normal `(13/5, 0)`, `|normal|² = 169/25 > 4 = (2·miter_limit)²` for `miter_limit = 1`: clipped -/

section Real
attribute [local instance] Lyon.C05.realTransc

example (j : P ℝ) : ∃ lam : ℝ, lam * (12 / 5) = 1 / 2 * (1 * Transc.sqrt (⟨13 / 5, 0⟩ : P ℝ).sqLen - 1)
    ∧ (clipSide (lineIntersection (1 / 10 ^ 8))
        ⟨j - (perp (⟨12 / 13, 5 / 13⟩ : P ℝ)).smul (1 * (1 / 2)), j - (perp (⟨-12 / 13, 5 / 13⟩ : P ℝ)).smul (1 * (1 / 2)), none⟩
        j ⟨13 / 5, 0⟩ (1 * (1 / 2))).prev
      = j - (perp (⟨12 / 13, 5 / 13⟩ : P ℝ)).smul (1 * (1 / 2)) + (⟨12 / 13, 5 / 13⟩ : P ℝ).smul lam := by
  have hsq : (0 : ℝ) < (⟨13 / 5, 0⟩ : P ℝ).sqLen := by simp only [geom]; norm_num
  obtain ⟨lam, h1, h2, _⟩ := miter_clip_side_points_partial (K := ℝ) (1 / 10 ^ 8) (by positivity) j ⟨12 / 13, 5 / 13⟩
    ⟨-12 / 13, 5 / 13⟩ ⟨13 / 5, 0⟩ (1 / 2) 1 1 (12 / 5) (by norm_num) (by simp only [geom]; norm_num)
    (by simp only [geom]; norm_num) (by norm_num) (by norm_num) (by simp only [geom]; norm_num)
    (by simp only [geom]; norm_num) (by simp only [perp, geom]; norm_num) (by simp only [perp, geom]; norm_num)
    (Real.sqrt_pos.mpr hsq) (Real.mul_self_sqrt (le_of_lt hsq)) (by norm_num)
  exact ⟨lam, h1, h2⟩

example : (0 : ℝ) ≤ 1 / 3 ∧ (1 / 3 : ℝ) ≤ 1 / 2 * (12 / 5) ∧ (1 / 2 : ℝ) * (1 / 2) ≤ 1 / 2 * (1 / 2) + 1 / 3 * (1 / 3)
    ∧ (1 / 2 : ℝ) * (1 / 2) + 1 / 3 * (1 / 3) ≤ 1 / 2 * (1 / 2) * (1 + 12 / 5 * (12 / 5)) :=
  miter_clip_between_partial (1 / 2) 1 (12 / 5) (13 / 5) (1 / 3) (by norm_num) (by norm_num) (by norm_num) (by norm_num)
    (by norm_num) (by norm_num) (by norm_num)

end Real

end Lyon.C06d
