/-
  C04 — geometry-builder protocol, index validity and all-or-nothing output on error.

  The theorems are about the executable models `Model/Tess/GeomBuilder.lean` (a line-by-line model
  of `geometry_builder.rs`) and `Model/Tess/Skeleton.lean` (the control flow by which `fill.rs`,
  `stroke.rs` and `basic_shapes.rs` drive a builder, with the numeric core abstracted to the
  request sequence it issues).  They quantify over EVERY builder (`Sink σ`, any state type, any
  behaviour — hence every fault position), every request sequence of the core, every prior buffer
  content, every index configuration.  The same definitions are run by `model_c04` against the
  real code for every fault position k of every generated input (fault enumeration).

  Vocabulary (defined in `Lemmas/C04Spec.lean`): `Protocol tr res` — `tr = begin · body · term`, body
  only vertex/triangle calls, `term = end` iff `res = Ok`, `term = abort` iff `res` is an error, and
  the first refused vertex's error is `res`; `firstRefusal`; `idsFresh`; `wellScoped`; `beforeKth k`
  (requests strictly before the k-th vertex request); `tieSink inv k e` (real `BuffersBuilder`,
  optionally `InvertWinding`, behind the injector that refuses the k-th vertex).

  The models mirror the code after two repairs: lyon 34f2f5da (`fill_rectangle` and `fill_circle` abort the
  geometry when the builder refuses a vertex; before it the fast paths left through `?` without `abort_geometry`)
  and lyon 85d83d35 (the stroker stops emitting geometry once a builder error is latched; before it the real
  stroker went on after a refusal and passed `VertexId::INVALID` to `add_triangle`).
-/
import LyonVerif.Lemmas.C04Spec

set_option linter.unusedVariables false
set_option linter.unusedSimpArgs false

namespace Lyon.C04
open Lyon Lyon.Tess

/-- **Fill** (`tessellate_impl`, hence `tessellate*`, `FillBuilder::build`, `tessellate_ellipse`):
for every builder, every core behaviour, and whether or not the core itself fails, the builder sees
`begin · (vertex|triangle)* · end` and the call returns `Ok`, or `begin · (vertex|triangle)* · abort`
and the call returns the error — one begin, one terminator, nothing after it; a refused vertex is
the last body call and its error is what is returned. -/
theorem skeleton_trace_fill {σ : Type} (S : Sink σ) (core : List CReq) (coreErr : Option TErr) (s : σ) :
    Protocol (tessellateImpl S true core coreErr s).trace (tessellateImpl S true core coreErr s).result := by
  rw [tessellateImpl_eq]
  exact protocol_of_calls _ _ (runQ_calls S core (S.begin s) []) _ _ (fun e he => by rw [he]; rfl)
    (termOf_spec _)

/-- A rejected tolerance returns before `begin_geometry`: the builder is not touched at all. -/
theorem fill_bad_tolerance {σ : Type} (S : Sink σ) (core : List CReq) (coreErr : Option TErr) (s : σ) :
    (tessellateImpl S false core coreErr s).trace = [] ∧ (tessellateImpl S false core coreErr s).st = s ∧
    (tessellateImpl S false core coreErr s).result = some (.unsupported 1) := by
  simp [tessellateImpl]

/-- **Stroke** (`StrokeBuilderImpl::new … build`, all `tessellate*` entry points and the
`StrokeBuilder` path-builder interface): `begin` (in the constructor), body calls, then `end` and
`Ok` — or, if a vertex is refused, that refusal is the last body call (`step`, `fixed_width_step`,
`end` do nothing once the error is latched), followed by exactly one `abort`, and the call returns
that error. -/
theorem skeleton_trace_stroke {σ : Type} (S : Sink σ) (events : List (List CReq)) (s : σ) :
    Protocol (strokeRun S events s).trace (strokeRun S events s).result := by
  obtain ⟨h1, h2, _⟩ := strokeRun_eq S events s
  rw [h1, h2]
  exact skeleton_trace_fill S events.flatten none s

/-- What `Protocol` means in counts: exactly one `begin`, and it is the first call; exactly one
terminator, and it is the last call. -/
theorem protocol_counts (tr : List Call) (res : Option TErr) (h : Protocol tr res) :
    (tr.filter fun c => decide (c = Call.begin)).length = 1 ∧ tr.head? = some .begin ∧
    (tr.filter Call.isTerminator).length = 1 ∧
    ∃ t, tr.getLast? = some t ∧ t.isTerminator = true ∧ (t = .endG ↔ res = none) := by
  obtain ⟨body, term, rfl, hb, hterm⟩ := h.shape
  have h1 : body.filter (fun c => decide (c = Call.begin)) = [] :=
    List.filter_eq_nil_iff.mpr fun c hc => by have := hb c hc; cases c <;> simp_all [Call.isBody]
  have h2 : body.filter Call.isTerminator = [] :=
    List.filter_eq_nil_iff.mpr fun c hc => by have := hb c hc; cases c <;> simp_all [Call.isBody, Call.isTerminator]
  rcases hterm with ⟨hr, rfl⟩ | ⟨hr, rfl⟩ <;>
    exact ⟨by simp [List.filter_cons, List.filter_append, h1], rfl,
      by simp [List.filter_cons, List.filter_append, h2, Call.isTerminator], _, by rw [List.getLast?_append]; rfl, rfl,
      by simp [hr]⟩

/-- **`BuffersBuilder`, abort**: for all prior buffer contents (any builder state `b` whose buffers
hold fewer than 2^32 vertices and indices — `first_vertex`/`first_index` are `u32`), all offsets and
index types, and ALL sequences of vertex / triangle calls after `begin_geometry` — accepted or
refused, with any ids — `abort_geometry` leaves exactly the contents present at `begin_geometry`. -/
theorem buffers_abort_restores (b : BB) (ops : List Op) (hops : ∀ o ∈ ops, Op.isBody o = true)
    (hv : b.buf.vertices.length < idxMod) (hi : b.buf.indices.length < idxMod) :
    ((bbSink.exec ops b.begin).1.abort).buf = b.buf := by
  rw [bb_exec_body ops _ hops]
  simp [BB.abort, BB.begin, Nat.mod_eq_of_lt hv, Nat.mod_eq_of_lt hi]

/-- The `u32` bookkeeping is what the hypothesis of `buffers_abort_restores` is about: a builder
whose `first_vertex` does not point at the end of the prior contents loses them on abort.
(Stated on the model with a stale `first_vertex`, which is what `len as u32` produces past 2^32.) -/
theorem buffers_abort_needs_bookkeeping :
    (BB.abort { buf := ⟨[7, 8, 9], []⟩, firstVertex := 1, firstIndex := 0, vertexOffset := 0,
                cfg := IndexTy.u32.cfg }).buf.vertices = [7] := by decide

/-- **Fill, all-or-nothing**: with a `BuffersBuilder` (plain or winding-inverted) as output, for
every fault position `k` (injected refusal) and for the builder's own overflow, every core
behaviour and every core failure: if `tessellate_impl` returns an error the caller's buffers are
exactly what they were; if it returns `Ok` the old contents are a prefix of the new.  (`n`: the injector's count of
vertex calls so far, any value.) -/
theorem fill_all_or_nothing (inv : Bool) (k : Nat) (e : GErr) (b : BB) (n : Nat) (tolOk : Bool)
    (core : List CReq) (coreErr : Option TErr)
    (hv : b.buf.vertices.length < idxMod) (hi : b.buf.indices.length < idxMod) :
    let o := tessellateImpl (tieSink inv k e) tolOk core coreErr (b, n)
    (o.result ≠ none → o.st.1.buf = b.buf) ∧
    (o.result = none → ∃ vs is, o.st.1.buf.vertices = b.buf.vertices ++ vs ∧
        o.st.1.buf.indices = b.buf.indices ++ is) := by
  cases tolOk with
  | false => simp [tessellateImpl]
  | true =>
    have hx : Ext b.buf (runQ (tieSink inv k e) core ((tieSink inv k e).begin (b, n)) []).st.1 :=
      runQ_preserves (tieSink_preserves inv k e b.buf) core _ []
        (by rw [tieSink_begin]; exact Ext.ofBegin b hv hi)
    rw [tessellateImpl_eq]
    cases callResult _ coreErr with
    | some r => exact ⟨fun _ => by rw [Sink.finish, tieSink_abort]; exact hx.abort, fun h => absurd h (by simp)⟩
    | none => exact ⟨fun h => absurd rfl h, fun _ => by rw [Sink.finish, tieSink_endG]; exact
        ⟨_, _, hx.vs.choose_spec, hx.is.choose_spec⟩⟩

/-- **Stroke, all-or-nothing**: the same for the stroke skeleton, for every fault position and for
the builder's own overflow. -/
theorem stroke_all_or_nothing (inv : Bool) (k : Nat) (e : GErr) (b : BB) (n : Nat)
    (events : List (List CReq))
    (hv : b.buf.vertices.length < idxMod) (hi : b.buf.indices.length < idxMod) :
    let o := strokeRun (tieSink inv k e) events (b, n)
    (o.result ≠ none → o.st.1.buf = b.buf) ∧
    (o.result = none → ∃ vs is, o.st.1.buf.vertices = b.buf.vertices ++ vs ∧
        o.st.1.buf.indices = b.buf.indices ++ is) := by
  intro o
  obtain ⟨_, h2, h3⟩ := strokeRun_eq (tieSink inv k e) events (b, n)
  simp only [o, h2, h3]
  exact fill_all_or_nothing inv k e b n true events.flatten none hv hi

/-- **One call**: `add_fill_vertex` / `add_stroke_vertex` always push the vertex, and return
`TooManyVertices` exactly when the new length exceeds `MaxIndex::MAX`; otherwise the id is the
position of the vertex in the buffer. -/
theorem too_many_vertices (b : BB) (p : Nat) :
    (b.addVertex p).1.buf.vertices = b.buf.vertices ++ [p] ∧
    (b.addVertex p).2 =
      if b.buf.vertices.length + 1 > b.cfg.max then .error .tooManyVertices else .ok b.buf.vertices.length := by
  rw [show b.addVertex p = _ from bbSink_vertex b p]
  exact ⟨rfl, rfl⟩

/-- **A run of calls**: the call at which the vertex count exceeds the maximum — and every later
one — returns the error; all earlier ones return consecutive ids. -/
theorem too_many_vertices_seq (ps : List Nat) : ∀ b : BB,
    (bbSink.exec (ps.map Op.vertex) b).2 =
      (List.range ps.length).map fun j =>
        Call.vertex (if b.buf.vertices.length + j + 1 > b.cfg.max then .error .tooManyVertices
                     else .ok (b.buf.vertices.length + j)) := by
  induction ps with
  | nil => intro b; simp [Sink.exec]
  | cons p ps ih =>
    intro b
    simp only [List.map_cons, Sink.exec, List.length_cons, List.range_succ_eq_map, List.map_map, bbSink_vertex, ih,
      List.length_append, List.length_nil, Nat.zero_add, Nat.add_zero, List.cons.injEq, true_and]
    apply List.map_congr_left
    intro j _
    simp only [Function.comp, Nat.succ_eq_add_one]
    rw [show b.buf.vertices.length + 1 + j = b.buf.vertices.length + (j + 1) by omega]

/-- **The `MaxIndex` table** of `geometry_builder.rs`, in declaration order
(u8 i8 u16 i16 u32 i32 u64 i64 usize isize). -/
theorem max_index_table :
    IndexTy.all.map IndexTy.max =
      [255, 127, 65535, 32767, 4294967295, 2147483647, 4294967295, 4294967295, 4294967295, 4294967295] := by
  decide

/-- For each of the ten index types every id the builder hands out (`< MAX`) is representable:
`MAX` does not exceed the largest value of the type, the `as` cast does not truncate, and the id
fits `VertexId(u32)`. -/
theorem max_index_fits (t : IndexTy) :
    t.max ≤ t.maxValue ∧ t.max < t.modulus ∧ t.max ≤ 4294967295 := by
  cases t <;> decide

/-- Per index type: with `MAX` vertices in the buffer the next vertex is refused, with fewer it is
accepted and gets the next position as id. -/
theorem too_many_vertices_table (t : IndexTy) (b : BB) (p : Nat) (hc : b.cfg = t.cfg) :
    (b.buf.vertices.length ≥ t.max → (b.addVertex p).2 = .error .tooManyVertices) ∧
    (b.buf.vertices.length < t.max → (b.addVertex p).2 = .ok b.buf.vertices.length) := by
  have h := (too_many_vertices b p).2
  have hm : b.cfg.max = t.max := by rw [hc]; rfl
  rw [hm] at h
  constructor
  · intro hge; rw [h, if_pos (by omega)]
  · intro hlt; rw [h, if_neg (by omega)]

example : (BB.addVertex (BB.new ⟨List.replicate 255 0, []⟩ IndexTy.u8.cfg) 1).2 = .error .tooManyVertices :=
  (too_many_vertices_table .u8 _ 1 rfl).1
    (by simp only [BB.new, List.length_replicate, IndexTy.max]; exact Nat.le_refl _)
example : (BB.addVertex (BB.new ⟨[5, 6], []⟩ ⟨3, 256⟩) 1).2 = .ok 2 := by decide
example : (BB.addVertex (BB.new ⟨[5, 6, 7], []⟩ ⟨3, 256⟩) 1).2 = .error .tooManyVertices := by decide

/-- **Fill, fault at the k-th vertex** (`skeleton_trace_fill`, exact form used by the correspondence
check): if the fault-free run against `S` refuses nothing, then for EVERY `k` from 1 to the number
of vertices the core requests, the run against the builder that refuses the `k`-th vertex emits
`begin · (the fault-free calls strictly before the k-th vertex) · refused vertex · abort`,
returns that error, and leaves the inner builder in the state `abort` produces from the prefix. -/
theorem skeleton_trace_fault_at_k {σ : Type} (S : Sink σ) (e : GErr) (k : Nat) (core : List CReq)
    (coreErr : Option TErr) (s : σ)
    (hfree : (runQ S core (S.begin s) []).err = none) (h1 : 1 ≤ k) (h2 : k ≤ nVerts core) :
    let o := tessellateImpl (S.refuseAt k e) true core coreErr (s, 0)
    let pre := runQ S (beforeKth k core) (S.begin s) []
    o.trace = .begin :: pre.calls ++ [.vertex (.error e), .abort] ∧
    o.result = some (.geometryBuilder e) ∧
    o.st = (S.abort pre.st, k) := by
  obtain ⟨hc, he, hs⟩ := runQ_refuseAt S e k core (S.begin s) 0 [] hfree (by omega) (by omega)
  rw [Nat.sub_zero] at hc hs
  have hb : (S.refuseAt k e).begin (s, 0) = (S.begin s, 0) := rfl
  rw [tessellateImpl_eq, hb, he, hc, hs]
  exact ⟨by simp [callResult, termOf], rfl, rfl⟩

example : (runQ bbSink [.v 0, .v 1, .t 0 1 1, .v 2] (BB.new ⟨[], []⟩ IndexTy.u16.cfg).begin []).err = none ∧
    nVerts [.v 0, .v 1, .t 0 1 1, .v 2] = 3 := by decide

/-- **Stroke, fault at the k-th vertex** — exact: for EVERY `k` from 1 to the number of vertices the
stroker requests (over all events), against the builder that refuses the `k`-th vertex the builder
sees `begin · (the fault-free calls strictly before the k-th vertex) · refused vertex · abort` and
nothing else, and the call returns that error. -/
theorem skeleton_trace_stroke_fault_at_k {σ : Type} (S : Sink σ) (e : GErr) (k : Nat)
    (events : List (List CReq)) (s : σ)
    (hfree : (runQ S events.flatten (S.begin s) []).err = none) (h1 : 1 ≤ k) (h2 : k ≤ nVerts events.flatten) :
    let o := strokeRun (S.refuseAt k e) events (s, 0)
    let pre := runQ S (beforeKth k events.flatten) (S.begin s) []
    o.trace = .begin :: pre.calls ++ [.vertex (.error e), .abort] ∧
    o.result = some (.geometryBuilder e) ∧
    o.st = (S.abort pre.st, k) := by
  intro o pre
  obtain ⟨e1, e2, e3⟩ := strokeRun_eq (S.refuseAt k e) events (s, 0)
  simp only [o, e1, e2, e3]
  exact skeleton_trace_fault_at_k S e k events.flatten none s hfree h1 h2

example : let evs : List (List CReq) := [[], [.v 0, .v 1], [.v 2, .v 3, .t 0 1 3]]
    (runQ bbSink evs.flatten (BB.new ⟨[], []⟩ IndexTy.u16.cfg).begin []).err = none ∧ nVerts evs.flatten = 4 ∧
    (strokeRun (bbSink.refuseAt 3 .invalidVertex) evs (BB.new ⟨[], []⟩ IndexTy.u16.cfg, 0)).trace =
      [.begin, .vertex (.ok 0), .vertex (.ok 1), .vertex (.error .invalidVertex), .abort] ∧
    (strokeRun (bbSink.refuseAt 3 .invalidVertex) evs (BB.new ⟨[], []⟩ IndexTy.u16.cfg, 0)).pulled = 3 := by
  decide

/-- **Rectangle / circle fast paths** (`fill_rectangle`, `fill_circle`, any request sequence in
their place): the same protocol as the general fill path, for every builder and every fault
position — `begin · all · end` and `Ok`, or `begin · prefix_k · refused vertex · abort` and the error. -/
theorem rect_circle_trace {σ : Type} (S : Sink σ) (script : List CReq) (s : σ) :
    Protocol (shapeRun S script s).trace (shapeRun S script s).result := by
  rw [shapeRun_eq]
  exact skeleton_trace_fill S script none s

/-- The exact trace for the fault at the `k`-th vertex of a fast path. -/
theorem rect_circle_trace_fault_at_k {σ : Type} (S : Sink σ) (e : GErr) (k : Nat) (script : List CReq) (s : σ)
    (hfree : (runQ S script (S.begin s) []).err = none) (h1 : 1 ≤ k) (h2 : k ≤ nVerts script) :
    let o := shapeRun (S.refuseAt k e) script (s, 0)
    let pre := runQ S (beforeKth k script) (S.begin s) []
    o.trace = .begin :: pre.calls ++ [.vertex (.error e), .abort] ∧
    o.result = some (.geometryBuilder e) ∧
    o.st = (S.abort pre.st, k) := by
  intro o pre
  simp only [o, shapeRun_eq]
  exact skeleton_trace_fault_at_k S e k script none s hfree h1 h2

/-- **Fast paths, all-or-nothing**: with a `BuffersBuilder` output, for every fault position and
for the builder's own overflow, an error leaves the caller's buffers exactly as they were; success
only appends. -/
theorem rect_circle_all_or_nothing (inv : Bool) (k : Nat) (e : GErr) (b : BB) (n : Nat) (script : List CReq)
    (hv : b.buf.vertices.length < idxMod) (hi : b.buf.indices.length < idxMod) :
    let o := shapeRun (tieSink inv k e) script (b, n)
    (o.result ≠ none → o.st.1.buf = b.buf) ∧
    (o.result = none → ∃ vs is, o.st.1.buf.vertices = b.buf.vertices ++ vs ∧
        o.st.1.buf.indices = b.buf.indices ++ is) := by
  intro o
  simp only [o, shapeRun_eq]
  exact fill_all_or_nothing inv k e b n true script none hv hi

/-- The two inputs on which the fast paths left their geometry open before lyon 34f2f5da: refused 3rd vertex of
the rectangle → `begin V V V! abort`; overflow at the rectangle's 4th vertex with two prior vertices → buffers
restored. -/
example :
    (shapeRun (tieSink false 3 .tooManyVertices) rectScript (BB.new ⟨[], []⟩ IndexTy.u16.cfg, 0)).trace =
      [.begin, .vertex (.ok 0), .vertex (.ok 1), .vertex (.error .tooManyVertices), .abort] ∧
    (shapeRun (tieSink false 0 .tooManyVertices) rectScript
        (BB.new ⟨[100, 101], [0, 0, 1]⟩ ⟨5, 65536⟩, 0)).st.1.buf = ⟨[100, 101], [0, 0, 1]⟩ ∧
    (shapeRun (tieSink false 0 .tooManyVertices) rectScript
        (BB.new ⟨[100, 101], [0, 0, 1]⟩ ⟨5, 65536⟩, 0)).result = some (.geometryBuilder .tooManyVertices) := by
  decide

/-- The rectangle script only names vertices it has been given (the circle: `circle_script_scoped`). -/
theorem rect_script_scoped : wellScoped 0 rectScript = true := by decide

theorem circle_script_counts :
    (List.range 5).map (fun n => nVerts (circleScript n)) = [4, 8, 16, 32, 64] := by decide

/-- **`BuffersBuilder`, end**: for all prior contents, all vertex / triangle call sequences after
`begin_geometry` in which every triangle only uses ids returned since that `begin` (`idsFresh`,
which is what `ids_fresh` establishes for the tessellators): the old vertices and indices are an
untouched prefix, and every new index, minus the vertex offset, lies in `[old_len, new_len)` —
provided `id + vertex_offset` wraps neither in `u32` nor in the index type (for offset 0:
`max_index_fits`). -/
theorem buffers_end_extends (b : BB) (ops : List Op) (hops : ∀ o ∈ ops, Op.isBody o = true)
    (hv : b.buf.vertices.length < idxMod)
    (hfresh : idsFresh [] (bbSink.exec ops b.begin).2 = true)
    (hw1 : (bbSink.exec ops b.begin).1.buf.vertices.length + b.vertexOffset ≤ idxMod)
    (hw2 : (bbSink.exec ops b.begin).1.buf.vertices.length + b.vertexOffset ≤ b.cfg.modulus) :
    let f := ((bbSink.exec ops b.begin).1.endG).buf
    ∃ vs is, f.vertices = b.buf.vertices ++ vs ∧ f.indices = b.buf.indices ++ is ∧
      ∀ i ∈ is, b.buf.vertices.length + b.vertexOffset ≤ i ∧ i < f.vertices.length + b.vertexOffset := by
  have hc := corners_fresh b.buf.vertices.length ops b.begin [] hops (Nat.le_refl _) (by simp) hfresh
  rw [bb_exec_body ops _ hops] at hw1 hw2 ⊢
  simp only [BB.begin, List.length_append] at hw1 hw2 hc
  refine ⟨_, _, rfl, rfl, fun i hi => ?_⟩
  -- a new index is the conversion of a fresh corner id, and the conversion does not wrap
  obtain ⟨a, ha, rfl⟩ := List.mem_map.mp hi
  have := hc a ha
  simp only [BB.endG, BB.conv, BB.begin, List.length_append]
  rw [Nat.mod_eq_of_lt (show a + b.vertexOffset < idxMod by omega), Nat.mod_eq_of_lt (by omega)]
  omega

example : let b := BB.new ⟨[9, 9], [0, 1, 0]⟩ IndexTy.u16.cfg
    let ops := [Op.vertex 5, .vertex 6, .vertex 7, .tri 2 3 4]
    (∀ o ∈ ops, Op.isBody o = true) ∧ idsFresh [] (bbSink.exec ops b.begin).2 = true ∧
    ((bbSink.exec ops b.begin).1.endG).buf = ⟨[9, 9, 5, 6, 7], [0, 1, 0, 2, 3, 4]⟩ := by decide

/-- Without the proviso the conclusion fails — a triangle naming an id from before `begin`
produces an index into the old contents (which is why the oracle checks `ids-fresh` on the real
tessellators). -/
theorem buffers_end_extends_needs_fresh :
    ((bbSink.exec [Op.vertex 5, .tri 0 1 2] (BB.new ⟨[9, 9], []⟩ IndexTy.u16.cfg).begin).1.endG).buf.indices =
      [0, 1, 2] := by decide

/-- **`ids_fresh`, fill**: a core that names only vertices it has requested before (ordinals in
range — `wellScoped`) makes the fill skeleton issue only triangles whose ids were returned since
`begin_geometry`, for every builder and every fault position. -/
theorem ids_fresh_fill {σ : Type} (S : Sink σ) (core : List CReq) (coreErr : Option TErr) (s : σ)
    (hw : wellScoped 0 core = true) :
    idsFresh [] (tessellateImpl S true core coreErr s).trace = true := by
  rw [tessellateImpl_eq]
  show idsFresh [] (_ ++ [_]) = true
  rw [idsFresh_append_term _ (termOf_isTerminator _)]
  exact runQ_fresh S core (S.begin s) [] hw

/-- **`ids_fresh`, stroke** (full): a stroker core that names only vertices it has requested makes
the skeleton issue only triangles whose ids were returned since `begin_geometry` — for every
builder, every fault position, over the WHOLE trace (nothing is issued after a latched error). -/
theorem stroke_ids_fresh {σ : Type} (S : Sink σ) (events : List (List CReq)) (s : σ)
    (hw : wellScoped 0 events.flatten = true) :
    idsFresh [] (strokeRun S events s).trace = true := by
  rw [(strokeRun_eq S events s).1]
  exact ids_fresh_fill S events.flatten none s hw

example : wellScoped 0 ([[], [CReq.v 0, .v 1], [.v 2, .v 3, .t 0 1 3]] : List (List CReq)).flatten = true := by
  decide

/-- **Prior contents only shift the output**: tessellating (fill skeleton, any well-scoped core)
into a `BuffersBuilder` over prior contents `B` yields `B ++ shift_{|B|}(the run on empty buffers)`:
the same new vertices, and the same new indices moved up by the number of prior vertices —
whenever the run fits the index type (`|B| + #vertices ≤ MAX`; `MAX ≤ modulus, 2^32` is
`max_index_fits` for the ten real types). -/
theorem offset_shift (B : Buffers) (cfg : IdxCfg) (core : List CReq) (hw : wellScoped 0 core = true)
    (hfit : B.vertices.length + nVerts core ≤ cfg.max) (hm1 : cfg.max ≤ cfg.modulus) (hm2 : cfg.max ≤ idxMod) :
    let o0 := tessellateImpl bbSink true core none (BB.new ⟨[], []⟩ cfg)
    let oB := tessellateImpl bbSink true core none (BB.new B cfg)
    o0.result = none ∧ oB.result = none ∧
    oB.st.buf.vertices = B.vertices ++ o0.st.buf.vertices ∧
    oB.st.buf.indices = B.indices ++ o0.st.buf.indices.map (· + B.vertices.length) := by
  obtain ⟨r0, s0⟩ := tessellateImpl_fit ⟨[], []⟩ cfg core hw (by simp at hfit ⊢; omega) hm1 hm2
  obtain ⟨rB, sB⟩ := tessellateImpl_fit B cfg core hw hfit hm1 hm2
  simp [r0, rB, s0, sB, Nat.add_comm]

example : let core := [CReq.v 0, .v 1, .v 2, .t 0 1 2]
    wellScoped 0 core = true ∧
    (tessellateImpl bbSink true core none (BB.new ⟨[], []⟩ IndexTy.u16.cfg)).st.buf = ⟨[0, 1, 2], [0, 1, 2]⟩ ∧
    (tessellateImpl bbSink true core none (BB.new ⟨[7, 7], [1, 0, 1]⟩ IndexTy.u16.cfg)).st.buf =
      ⟨[7, 7, 0, 1, 2], [1, 0, 1, 2, 3, 4]⟩ := by decide

/-- `fill_circle`'s request sequence names only vertices it has requested before, for every
recursion depth (so `ids_fresh_fill` / `buffers_end_extends` apply to it). -/
theorem circle_script_scoped (n : Nat) : wellScoped 0 (circleScript n) = true := by
  have h := (circleQuadrants_scoped n 4 4 (Nat.le_refl 4)).1
  simp only [circleScript, List.cons_append, List.nil_append, wellScoped, Nat.zero_add, h]
  decide

/-- Rectangle and circle fast paths, fault-free or faulted: every triangle the builder sees uses
ids returned since `begin_geometry`. -/
theorem ids_fresh_shapes {σ : Type} (S : Sink σ) (s : σ) (n : Nat) :
    idsFresh [] (shapeRun S rectScript s).trace = true ∧
    idsFresh [] (shapeRun S (circleScript n) s).trace = true := by
  rw [shapeRun_eq, shapeRun_eq]
  exact ⟨ids_fresh_fill S _ none s rect_script_scoped, ids_fresh_fill S _ none s (circle_script_scoped n)⟩

/-! ## Non-vacuity of the hypotheses used above -/

example : let b := BB.new ⟨[1, 2, 3], [0, 1, 2]⟩ IndexTy.u16.cfg
    let ops := [Op.vertex 7, .tri 3 0 9, .vertex 8]
    (∀ o ∈ ops, Op.isBody o = true) ∧ b.buf.vertices.length < idxMod ∧ b.buf.indices.length < idxMod ∧
    (bbSink.exec ops b.begin).1.buf ≠ b.buf ∧ ((bbSink.exec ops b.begin).1.abort).buf = b.buf := by decide

example :
    let o := tessellateImpl (tieSink true 2 .invalidVertex) true [.v 0, .v 1, .t 0 0 0] none
              (BB.new ⟨[1, 2, 3], [0, 1, 2]⟩ IndexTy.u16.cfg, 0)
    o.result = some (.geometryBuilder .invalidVertex) ∧ o.st.1.buf = ⟨[1, 2, 3], [0, 1, 2]⟩ ∧
    o.trace = [.begin, .vertex (.ok 3), .vertex (.error .invalidVertex), .abort] := by decide

example :
    let o := strokeRun (tieSink false 2 .tooManyVertices) [[.v 0], [.v 1, .v 2], [.v 3]]
              (BB.new ⟨[1, 2, 3], [0, 1, 2]⟩ IndexTy.u16.cfg, 0)
    o.result = some (.geometryBuilder .tooManyVertices) ∧ o.st.1.buf = ⟨[1, 2, 3], [0, 1, 2]⟩ ∧ o.pulled = 2 ∧
    o.trace = [.begin, .vertex (.ok 3), .vertex (.error .tooManyVertices), .abort] := by
  decide

example : wellScoped 0 (circleScript 2) = true ∧ nVerts (circleScript 2) = 16 := by decide

/-- What a skeleton does to a builder is a sequence of direct vertex / triangle calls
(`lower`, body calls only): `Sink.exec` on it reproduces `runQ`'s final state and recorded calls —
so the `BuffersBuilder`-level theorems (`buffers_abort_restores`, `buffers_end_extends`) apply to
every fill, stroke and fast-path run. -/
theorem exec_eq_runQ {σ : Type} (S : Sink σ) (core : List CReq) (s : σ) (ids : List Nat) :
    (∀ o ∈ lower S core s ids, Op.isBody o = true) ∧
    S.exec (lower S core s ids) s = ((runQ S core s ids).st, (runQ S core s ids).calls) :=
  ⟨lower_body S core s ids, exec_lower S core s ids⟩

/-- **Success: all new indices point at new vertices** — fill skeleton (and, by `strokeRun_eq` /
`shapeRun_eq`, the stroke and fast-path skeletons) into a `BuffersBuilder` with any prior contents
and vertex offset, any well-scoped core: if the call returns `Ok`, the old vertices and indices are
an untouched prefix and every new index minus the offset lies in `[old_len, new_len)` (no wrap of
`id + offset` in `u32` / the index type assumed). -/
theorem fill_success_indices_valid (b : BB) (core : List CReq) (hw : wellScoped 0 core = true)
    (hv : b.buf.vertices.length < idxMod)
    (hw1 : (tessellateImpl bbSink true core none b).st.buf.vertices.length + b.vertexOffset ≤ idxMod)
    (hw2 : (tessellateImpl bbSink true core none b).st.buf.vertices.length + b.vertexOffset ≤ b.cfg.modulus)
    (hok : (tessellateImpl bbSink true core none b).result = none) :
    let f := (tessellateImpl bbSink true core none b).st.buf
    ∃ vs is, f.vertices = b.buf.vertices ++ vs ∧ f.indices = b.buf.indices ++ is ∧
      ∀ i ∈ is, b.buf.vertices.length + b.vertexOffset ≤ i ∧ i < f.vertices.length + b.vertexOffset := by
  intro f
  -- a call that returned `Ok` ended with `end_geometry`, which does nothing: its state is the run's
  have hst : (tessellateImpl bbSink true core none b).st = (runQ bbSink core b.begin []).st := by
    rw [tessellateImpl_eq] at hok ⊢
    simp only at hok
    simp only [hok]; rfl
  have hex := exec_lower bbSink core b.begin []
  have := buffers_end_extends b (lower bbSink core b.begin []) (lower_body _ _ _ _) hv
    (by rw [hex]; exact runQ_fresh bbSink core b.begin [] hw) (by rw [hex, ← hst]; exact hw1)
    (by rw [hex, ← hst]; exact hw2)
  simp only [hex, BB.endG] at this
  simpa [f, hst] using this

example : let b := BB.new ⟨[9, 9], [0, 1, 0]⟩ IndexTy.u16.cfg
    wellScoped 0 [.v 0, .v 1, .v 2, .t 0 1 2] = true ∧
    (tessellateImpl bbSink true [.v 0, .v 1, .v 2, .t 0 1 2] none b).result = none ∧
    (tessellateImpl bbSink true [.v 0, .v 1, .v 2, .t 0 1 2] none b).st.buf = ⟨[9, 9, 0, 1, 2], [0, 1, 0, 2, 3, 4]⟩ := by
  decide

/-- `protocolB` decides `Protocol`: a trace/result pair passes the executable check iff it has the
shape the property demands. -/
theorem protocol_checker_sound (tr : List Call) (res : Option TErr) :
    protocolB tr res = true ↔ Protocol tr res := by
  constructor
  · intro h
    simp only [protocolB, Bool.and_eq_true] at h
    obtain ⟨h1, h2⟩ := h
    cases tr with
    | nil => simp at h1
    | cons c rest =>
      cases c <;> try (simp at h1)
      obtain ⟨body, term, hl, hb, hc⟩ := (bodyThenTerm_iff res rest).mp h1
      refine ⟨⟨body, term, by simp [hl], hb, hc⟩, ?_⟩
      intro e he
      rw [he] at h2
      simpa using h2
  · intro h
    obtain ⟨body, term, hl, hb, hc⟩ := h.shape
    simp only [protocolB, Bool.and_eq_true]
    constructor
    · subst hl
      exact (bodyThenTerm_iff res (body ++ [term])).mpr ⟨body, term, rfl, hb, hc⟩
    · cases hf : firstRefusal tr with
      | none => rfl
      | some e => simpa using h.first_error e hf

example : protocolB [.begin, .vertex (.ok 0), .vertex (.error .invalidVertex), .abort]
      (some (.geometryBuilder .invalidVertex)) = true ∧
    protocolB [.begin, .vertex (.ok 0), .vertex (.error .invalidVertex)] (some (.geometryBuilder .invalidVertex)) = false ∧
    protocolB [.begin, .vertex (.ok 0), .endG, .tri 0 0 0] none = false := by decide

end Lyon.C04
