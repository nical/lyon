/-
  C09 over ℝ: the trigonometric hypotheses (`TrigLaws`) of the arc tolerance theorems of
  `Props/C09b.lean` discharged for Mathlib's real `sin`, `cos`, `arccos`, `π`.

  Result: `arc_flat_within_tolerance_real` / `circle_arc_flat_within_tolerance_real` — for real arcs
  no hypothesis about trigonometry is left; what remains are the two facts about the code
  (`hfuel`: the loop ended by its `break`; `heps`: the `EPSILON` guard of `flattening_step` does not
  fire on the whole arc).  `real_trig_laws` is also the non-vacuity proof of `TrigLaws`;
  the closing `example` is a concrete two-segment arc with lyon's constants satisfying every hypothesis.
-/
import LyonVerif.Props.C09b
import Mathlib.Analysis.SpecialFunctions.Trigonometric.Inverse
import Mathlib.Analysis.Real.Pi.Bounds
import Mathlib.Analysis.SpecialFunctions.Pow.Real

set_option linter.style.haveILetI false
set_option warn.classDefReducibility false

namespace Lyon.C09
open Lyon Lyon.Flat

/-- `Transc ℝ` with Mathlib's real functions (fields the arc flattening code does not use are
placeholders) -/
noncomputable def realTransc : Transc ℝ where
  sqrt := Real.sqrt
  cbrt := fun _ => 0
  sin := Real.sin
  cos := Real.cos
  tan := Real.tan
  acos := Real.arccos
  atan2 := fun _ _ => 0
  pow := fun x y => x ^ y
  log2 := fun _ => 0
  ln := Real.log
  floor := fun x => (⌊x⌋ : ℝ)
  ceil := fun x => (⌈x⌉ : ℝ)
  toNat := fun x => ⌊x⌋.toNat
  fmod := fun x _ => x
  eps := 0
  pi := Real.pi
  isNaN := fun _ => false
  isFinite := fun _ => true

attribute [local instance] realTransc

/-- **`TrigLaws` holds for the real functions** (also: `TrigLaws` is satisfiable) -/
theorem real_trig_laws : TrigLaws ℝ where
  cos_sq_add_sin_sq := fun x => by
    show Real.cos x * Real.cos x + Real.sin x * Real.sin x = 1
    linear_combination Real.cos_sq_add_sin_sq x
  cos_add := fun x y => Real.cos_add x y
  sin_add := fun x y => Real.sin_add x y
  cos_neg := fun x => Real.cos_neg x
  sin_neg := fun x => Real.sin_neg x
  cos_antitone := fun x y hx hxy hy => Real.cos_le_cos_of_nonneg_of_le_pi hx hy hxy
  acos_nonneg := fun x => Real.arccos_nonneg x
  acos_le_pi := fun x => Real.arccos_le_pi x
  le_cos_acos := fun x hx1 => by
    show x ≤ Real.cos (Real.arccos x)
    rcases le_or_gt (-1) x with h | h
    · rw [Real.cos_arccos h hx1]
    · rw [Real.arccos_of_le_neg_one (le_of_lt h), Real.cos_pi]; exact le_of_lt h

variable [FlatConst ℝ]

/-- **arc_flat_within_tolerance_real**: for every real arc (circle or ellipse, any rotation and
sweep) with largest radius `R > 0` and every tolerance `tol ≥ 0`, every point of the arc is within
`tol` of the emitted segment whose parameter range contains its parameter — no trigonometric
hypothesis. (`hfuel`, `heps1`, `heps`: see `arc_flat_within_tolerance`.) -/
theorem arc_flat_within_tolerance_real (a : Arc ℝ) (R tol : ℝ) (fuel : Nat)
    (hRdef : R = Max.max |a.radii.x| |a.radii.y|) (hR : 0 < R) (ht : 0 ≤ tol)
    (heps1 : (FlatConst.epsilon : ℝ) ≤ 1)
    (heps : FlatConst.epsilon * |a.sweep| ≤ 2 * Real.arccos ((R - tol) / R))
    (hfuel : (a.forEachFlattenedWithT tol fuel).length ≤ fuel)
    (t : ℝ) (ht0 : 0 ≤ t) (ht1 : t ≤ 1) :
    ∃ sg ∈ a.forEachFlattenedWithT tol fuel, sg.t0 ≤ t ∧ t ≤ sg.t1 ∧
      ∃ s : ℝ, 0 ≤ s ∧ s ≤ 1 ∧ (a.sample t - sg.a.lerp sg.b s).sqLen ≤ tol * tol :=
  arc_flat_within_tolerance real_trig_laws a R tol fuel hRdef hR ht heps1 heps hfuel t ht0 ht1

/-- **arc_flat_within_tolerance_real_fuel**: the same with the fuel hypothesis discharged
(`1 ≤ ε·fuel`): the only hypothesis left about the code is that the `EPSILON` guard does not fire. -/
theorem arc_flat_within_tolerance_real_fuel (a : Arc ℝ) (R tol : ℝ) (fuel : Nat)
    (hRdef : R = Max.max |a.radii.x| |a.radii.y|) (hR : 0 < R) (ht : 0 ≤ tol)
    (heps0 : (0 : ℝ) < FlatConst.epsilon) (heps1 : (FlatConst.epsilon : ℝ) ≤ 1)
    (hfe : 1 ≤ (FlatConst.epsilon : ℝ) * fuel)
    (heps : FlatConst.epsilon * |a.sweep| ≤ 2 * Real.arccos ((R - tol) / R))
    (t : ℝ) (ht0 : 0 ≤ t) (ht1 : t ≤ 1) :
    ∃ sg ∈ a.forEachFlattenedWithT tol fuel, sg.t0 ≤ t ∧ t ≤ sg.t1 ∧
      ∃ s : ℝ, 0 ≤ s ∧ s ≤ 1 ∧ (a.sample t - sg.a.lerp sg.b s).sqLen ≤ tol * tol :=
  arc_flat_within_tolerance_fuel real_trig_laws a R tol fuel hRdef hR ht heps0 heps1 hfe heps t ht0 ht1

/-- **circle_arc_flat_within_tolerance_real**: circular arcs `radii = (r, r)`, `r > 0`, `tol > 0`;
and every point `sample t` (hence every vertex) is at distance exactly `r` from the centre. -/
theorem circle_arc_flat_within_tolerance_real (a : Arc ℝ) (r tol : ℝ) (fuel : Nat)
    (hrad : a.radii = ⟨r, r⟩) (hr : 0 < r) (ht : 0 < tol)
    (heps1 : (FlatConst.epsilon : ℝ) ≤ 1)
    (heps : FlatConst.epsilon * |a.sweep| ≤ 2 * Real.arccos ((r - tol) / r))
    (hfuel : (a.forEachFlattenedWithT tol fuel).length ≤ fuel)
    (t : ℝ) (ht0 : 0 ≤ t) (ht1 : t ≤ 1) :
    (∃ sg ∈ a.forEachFlattenedWithT tol fuel, sg.t0 ≤ t ∧ t ≤ sg.t1 ∧
      ∃ s : ℝ, 0 ≤ s ∧ s ≤ 1 ∧ (a.sample t - sg.a.lerp sg.b s).sqLen ≤ tol * tol)
    ∧ (a.sample t - a.center).sqLen = r * r :=
  ⟨circle_arc_flat_within_tolerance real_trig_laws a r tol fuel hrad hr ht heps1 heps hfuel t ht0 ht1,
   circle_arc_vertices_on_circle a r t hrad real_trig_laws.cos_sq_add_sin_sq⟩

/-- **arc_flat_vertices_on_arc_real**: every vertex of the flattening of a real arc is a point of
the arc, with parameters inside [0,1] and non-decreasing. -/
theorem arc_flat_vertices_on_arc_real (a : Arc ℝ) (tol : ℝ) (fuel : Nat)
    (heps1 : (FlatConst.epsilon : ℝ) ≤ 1)
    (heps : FlatConst.epsilon * |a.sweep|
      ≤ 2 * Real.arccos ((Max.max |a.radii.x| |a.radii.y| - tol) / Max.max |a.radii.x| |a.radii.y|))
    (hfuel : (a.forEachFlattenedWithT tol fuel).length ≤ fuel) :
    ∀ sg ∈ a.forEachFlattenedWithT tol fuel,
      sg.a = a.sample sg.t0 ∧ sg.b = a.sample sg.t1 ∧ 0 ≤ sg.t0 ∧ sg.t0 ≤ sg.t1 ∧ sg.t1 ≤ 1 :=
  arc_flat_vertices_on_arc a tol fuel (Real.arccos_nonneg _) heps1 heps hfuel

/-- the cast `to_u32` of `num_quadratics_impl`'s result is exact over ℝ when it is below 2³² -/
theorem real_num_quadratics_cast (c : Cubic ℝ) (tol : ℝ)
    (hlt : c.numQuadraticsImpl tol < 4294967296) :
    (((toU32 (c.numQuadraticsImpl tol)).getD 1 : Nat) : ℝ) = c.numQuadraticsImpl tol :=
  numQuadratics_cast (fun n => by show ⌊((n : ℕ) : ℝ)⌋.toNat = n; rw [Int.floor_natCast, Int.toNat_natCast])
    (fun x => ⟨⌈x⌉, rfl⟩) c tol hlt

/-- **cubic_quads_within_split_tolerance_real**: over ℝ, with `powf` = real power and `ceil` the
real ceiling, the pieces chosen by `for_each_quadratic_bezier_with_t` for the tolerance `tolc > 0`
are each within `tolc` of the cubic over their range and cover [0,1] — no hypothesis about `powf`,
`ceil` or the cast left (only: the count is below 2³²). The code passes `tolc = 0.4·tolerance`. -/
theorem cubic_quads_within_split_tolerance_real (c : Cubic ℝ) (tolc : ℝ) (ht : 0 < tolc)
    (hlt : c.numQuadraticsImpl tolc < 4294967296) :
    (∀ p ∈ c.forEachQuadraticWithT tolc, ∀ u : ℝ, 0 ≤ u → u ≤ 1 →
      (c.sample (p.2.1 + u * (p.2.2 - p.2.1)) - p.1.sample u).sqLen ≤ tolc * tolc)
    ∧ (∀ t : ℝ, 0 ≤ t → t ≤ 1 → ∃ p ∈ c.forEachQuadraticWithT tolc,
      ∃ u : ℝ, 0 ≤ u ∧ u ≤ 1 ∧ t = p.2.1 + u * (p.2.2 - p.2.1)) := by
  have hy : 0 ≤ (((c.b - c.c2.smul 3) + c.c1.smul 3) - c.a).sqLen / (432 * tolc * tolc) :=
    div_nonneg (P.sqLen_nonneg _) (by positivity)
  refine cubic_quads_within_split_tolerance c tolc ht (fun x => Int.le_ceil x) ⟨?_, ?_⟩
    (real_num_quadratics_cast c tolc hlt)
  · exact Real.rpow_nonneg hy _
  · show _ ≤ (Real.rpow _ (1 / 6)) ^ 6
    have := Real.rpow_inv_natCast_pow hy (by norm_num : (6 : ℕ) ≠ 0)
    rw [one_div]
    exact le_of_eq this.symm

/-- non-vacuity, on a concrete arc with lyon's constants: the unit circle arc of sweep 4 rad,
tolerance 1 (`acos 0 = π/2`: steps of `π` rad — two segments), `EPSILON = 1e-4`, the driver's fuel
100000: every hypothesis of `arc_flat_within_tolerance_real_fuel` /
`circle_arc_flat_within_tolerance_real` holds. -/
example : let a : Arc ℝ := ⟨⟨0, 0⟩, ⟨1, 1⟩, 0, 4, 0⟩
    (1 : ℝ) = Max.max |a.radii.x| |a.radii.y| ∧ (0 : ℝ) < 1 / 10000 ∧ (1 / 10000 : ℝ) ≤ 1
    ∧ 1 ≤ (1 / 10000 : ℝ) * (100000 : ℕ)
    ∧ (1 / 10000 : ℝ) * |a.sweep| ≤ 2 * Real.arccos ((1 - 1) / 1)
    ∧ |a.sweep| ≤ ((100000 : ℕ) : ℝ) * (2 * Real.arccos ((1 - 1) / 1)) := by
  intro a
  have h : Real.arccos ((1 - 1) / 1) = Real.pi / 2 := by norm_num
  have hpi := Real.pi_gt_three
  have hs : |a.sweep| = 4 := by show |(4 : ℝ)| = 4; exact abs_of_pos (by norm_num)
  refine ⟨by simp [a], by norm_num, by norm_num, by norm_num, ?_, ?_⟩
  · rw [h, hs]; linarith
  · rw [h, hs]; push_cast; linarith

end Lyon.C09
