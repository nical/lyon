/-
  C13 over ℝ — the main theorems of `Props/C13.lean` WITHOUT trigonometric hypotheses.

  The model of `Model/Geom/SvgArc.lean` (the same `def`s that run at `Float32`/`Float` against
  lyon_geom) is instantiated at `ℝ` with Mathlib's functions (`exampleTransc` of `Props/C13.lean`:
  `Real.sqrt`, `Real.sin`, `Real.cos`, `Real.tan`, `⌈·⌉`, C's `fmod`, `Real.pi`, and
  `atan2(y, x) = Complex.arg (x + iy)`, shown to follow libm's quadrant rules in
  `atan2_real_quadrants`).  No law of a transcendental function is assumed below: every
  hypothesis is a condition on the INPUT.

  `Arc::from_svg_arc` / `Arc::to_svg_arc` for every end-point arc with non-zero radii and `from ≠ to` (weaker than
  the function's own `assert!(!is_straight_line())`, for any `S::EPSILON ≥ 0`: `svg_arc_real`): end points, radii
  ("scaled up exactly when too small", by the least factor), direction and size of the sweep, round trip.  Then the
  Bézier sequences of a real arc with no cast / ceil hypotheses left, for `|sweep| ≤ 2π` at full strength, and the
  exact behaviour of the code beyond a turn (open finding C13-bezier-sweep-clamped).
-/
import LyonVerif.Lemmas.SvgArcReal

set_option linter.unusedSimpArgs false

namespace Lyon.C13
open Lyon Scalar ArcConv

/-- the `atan2` with which the model is instantiated at `ℝ`
(`Complex.arg (x + iy)`) obeys the quadrant rules of C / IEEE-754 `atan2` by `Real.arctan`
(`atan2Quadrant`: `arctan(y/x)` for `x > 0`; `arctan(y/x) ± π` for `x < 0` by the sign of `y`, `+π` at
`y = 0`; `±π/2` on the `y` axis; `0` at the origin), has the range `(−π, π]`, and is the polar angle:
`(cos, sin)(atan2(y, x)) = (x, y)/√(x² + y²)` off the origin.  This is what discharges
`ExactTrig.angle_exact` for the code's angle function `exactAngle v = atan2(v.y, v.x)`. -/
theorem atan2_quadrants_real (y x : ℝ) :
    (Transc.atan2 y x : ℝ) = atan2Quadrant y x
    ∧ -Real.pi < (Transc.atan2 y x : ℝ) ∧ (Transc.atan2 y x : ℝ) ≤ Real.pi
    ∧ (x ≠ 0 ∨ y ≠ 0 → Real.cos (Transc.atan2 y x : ℝ) = x / Real.sqrt (x * x + y * y)
        ∧ Real.sin (Transc.atan2 y x : ℝ) = y / Real.sqrt (x * x + y * y)) :=
  ⟨atan2_real_quadrants y x, (atan2_real_range y x).1, (atan2_real_range y x).2, atan2_real_polar y x⟩

theorem le_scaleRadius_real (f r : ℝ) (hr : 0 ≤ r) : r ≤ scaleRadius f r := by
  simp only [scaleRadius, sc_one, gt_iff_lt]
  split_ifs with h
  · exact le_mul_of_one_le_right hr (Real.one_le_sqrt.mpr h.le)
  · exact le_rfl

section conv
variable (a : SvgArc ℝ) (hrx : a.radii.x ≠ 0) (hry : a.radii.y ≠ 0) (hne : a.from_ ≠ a.to)
include hrx hry hne

/-- over ℝ, the centre-form arc computed by `Arc::from_svg_arc` starts
at the given start point and ends at the given end point — for all end points, x-rotations, all
four flag combinations and non-zero radii of any sign, spanning the chord or not. -/
theorem svg_arc_endpoints_real :
    (fromSvgArc a).sample 0 = a.from_ ∧ (fromSvgArc a).sample 1 = a.to :=
  svg_arc_endpoints_of_exact exactTrig_real a hrx hry hne

/-- the arc uses `|rx|, |ry|` when they span the chord (`rf ≤ 1`) and
`|rx|·√rf, |ry|·√rf` when they do not (`rf > 1`, F.6.6.3); either way the radii are positive, at
least the given ones, and the chord fits the resulting ellipse exactly when scaled
(`(p.x/rx)² + (p.y/ry)² = min(rf, 1)`); the x-rotation is kept. -/
theorem svg_arc_radii_real :
    (rf a ≤ 1 → (fromSvgArc a).radii = ⟨|a.radii.x|, |a.radii.y|⟩)
    ∧ (1 < rf a → (fromSvgArc a).radii = ⟨|a.radii.x| * Real.sqrt (rf a), |a.radii.y| * Real.sqrt (rf a)⟩)
    ∧ 0 < (fromSvgArc a).radii.x ∧ 0 < (fromSvgArc a).radii.y
    ∧ |a.radii.x| ≤ (fromSvgArc a).radii.x ∧ |a.radii.y| ≤ (fromSvgArc a).radii.y
    ∧ qOf a = Min.min (rf a) 1
    ∧ (fromSvgArc a).xrot = a.xrot := by
  obtain ⟨r1, r2⟩ := svg_arc_radii exactAngle a
  obtain ⟨p1, p2⟩ := rx_ry_pos exactTrig_real a hrx hry
  refine ⟨r1, r2, p1, p2, ?_, ?_, qOf_eq_min a hrx hry hne, rfl⟩
  · show |a.radii.x| ≤ scaleRadius (rf a) (rx0 a)
    rw [rx0, sc_abs]; exact le_scaleRadius_real _ _ (abs_nonneg _)
  · show |a.radii.y| ≤ scaleRadius (rf a) (ry0 a)
    rw [ry0, sc_abs]; exact le_scaleRadius_real _ _ (abs_nonneg _)

/-- direction and size of the sweep are the ones selected by the flags.
* sweep flag set: `0 < sweep < 2π`; not set: `−2π < sweep < 0` (so `sweep > 0 ↔ flag`, never `0`);
* radii strictly spanning the chord (`rf < 1`): `|sweep| ≥ π` iff the large-arc flag, and
  `|sweep| = arccos(1 − 2·rf)` (small arc) resp. `2π − arccos(1 − 2·rf)` (large arc);
* otherwise (`rf ≥ 1`, the only candidates are the two half ellipses): `sweep = ±π`. -/
theorem svg_arc_sweep_real :
    (a.sweep = true → 0 < (fromSvgArc a).sweep ∧ (fromSvgArc a).sweep < 2 * Real.pi)
    ∧ (a.sweep = false → -(2 * Real.pi) < (fromSvgArc a).sweep ∧ (fromSvgArc a).sweep < 0)
    ∧ (0 < (fromSvgArc a).sweep ↔ a.sweep = true)
    ∧ (rf a < 1 → (Real.pi ≤ |(fromSvgArc a).sweep| ↔ a.large = true))
    ∧ (rf a < 1 → |(fromSvgArc a).sweep| =
        if a.large = true then 2 * Real.pi - Real.arccos (1 - 2 * rf a) else Real.arccos (1 - 2 * rf a))
    ∧ (1 ≤ rf a → (fromSvgArc a).sweep = if a.sweep = true then Real.pi else -Real.pi) := by
  obtain ⟨h1, h2⟩ := sweep_range_strict_real a hrx hry hne
  refine ⟨h1, h2, ?_, large_iff_real a hrx hry hne, abs_sweep_real a hrx hry hne,
    sweep_half_turn_real a hrx hry hne⟩
  cases hf : a.sweep
  · have := (h2 hf).2
    constructor
    · intro h; linarith
    · intro h; exact absurd h (by simp)
  · exact ⟨fun _ => rfl, fun _ => (h1 hf).1⟩

/-- `to_svg_arc ∘ from_svg_arc` returns the original end points,
x-rotation and sweep flag, the absolute (and, if too small, scaled) radii, and the large-arc flag —
which is forced to `true` in the half-turn case `rf ≥ 1`, where both candidate arcs coincide in
size.  An equality of `SvgArc` values: nothing else changes. -/
theorem svg_arc_roundtrip_real :
    toSvgArc (fromSvgArc a) =
      ⟨a.from_, a.to, ⟨rx a, ry a⟩, a.xrot, a.large || decide (1 ≤ rf a), a.sweep⟩ := by
  obtain ⟨e0, e1⟩ := svg_arc_endpoints_real a hrx hry hne
  obtain ⟨s1, s2, _, s4, _, s6⟩ := svg_arc_sweep_real a hrx hry hne
  simp only [toSvgArc, SvgArc.mk.injEq, sc_zero, sc_one]
  refine ⟨e0, e1, rfl, rfl, ?_, ?_⟩
  · show decide (Scalar.abs (fromSvgArc a).sweep ≥ Transc.pi) = _
    simp only [sc_abs, ge_iff_le, transc_pi_real]
    rcases lt_or_ge (rf a) 1 with h | h
    · rw [decide_eq_false (not_le.mpr h), Bool.or_false]
      simp only [s4 h, Bool.decide_eq_true]
    · rw [decide_eq_true h, Bool.or_true]
      exact decide_eq_true (abs_sweep_half_turn_real a hrx hry hne h).ge
  · simp only [geom, ge_iff_le, Nat.cast_zero]
    cases hf : a.sweep
    · exact decide_eq_false (not_le.mpr (s2 hf).2)
    · exact decide_eq_true (le_of_lt (s1 hf).1)

/-- the round trip is the identity on end-point arcs with positive radii that strictly span the
chord ("converting back returns the original") -/
theorem svg_arc_roundtrip_id_real (hpx : 0 < a.radii.x) (hpy : 0 < a.radii.y) (hq : rf a < 1) :
    toSvgArc (fromSvgArc a) = a := by
  rw [svg_arc_roundtrip_real a hrx hry hne]
  rw [decide_eq_false (not_le.mpr hq), Bool.or_false,
    show (⟨rx a, ry a⟩ : P ℝ) = _ from (svg_arc_radii exactAngle a).1 hq.le, abs_of_pos hpx, abs_of_pos hpy]

end conv

section span
variable (a : SvgArc ℝ) (hrx : a.radii.x ≠ 0) (hry : a.radii.y ≠ 0) (hne : a.from_ ≠ a.to)
include hrx hry hne

/-- `rf ≤ 1` — the test after which `from_svg_arc` leaves the radii
alone — holds exactly when some ellipse with radii `|rx|, |ry|` and the given x-rotation passes
through both end points.  So the radii are scaled up exactly when they are too small.
(`SpansChord`, `Lemmas/SvgArcReal.lean`, is stated with lyon's own `sample_ellipse`.) -/
theorem radii_span_chord_iff_real :
    rf a ≤ 1 ↔ SpansChord |a.radii.x| |a.radii.y| a.xrot a.from_ a.to := by
  constructor
  · intro h
    obtain ⟨e0, e1⟩ := svg_arc_endpoints_real a hrx hry hne
    have hr := (svg_arc_radii_real a hrx hry hne).1 h
    refine ⟨(fromSvgArc a).center, (fromSvgArc a).getAngle 0, (fromSvgArc a).getAngle 1, ?_, ?_⟩
    · rw [← hr]; exact e0.symm
    · rw [← hr]; exact e1.symm
  · intro h
    rw [rf_eq_rfWith]
    exact rfWith_le_one_of_spans a _ _ (abs_ne_zero.mpr hrx) (abs_ne_zero.mpr hry) h

/-- when the radii are too small (`rf > 1`) the radii chosen by
`from_svg_arc`, `√rf·(|rx|, |ry|)`, do span the chord, and no smaller common factor does: for
`0 < k`, `k·(|rx|, |ry|)` spans the chord only if `k ≥ √rf` (F.6.6.3: "scale up uniformly until
there is exactly one solution"). -/
theorem scaled_radii_minimal_real (h : 1 < rf a) :
    SpansChord (|a.radii.x| * Real.sqrt (rf a)) (|a.radii.y| * Real.sqrt (rf a)) a.xrot a.from_ a.to
    ∧ ∀ k : ℝ, 0 < k → SpansChord (|a.radii.x| * k) (|a.radii.y| * k) a.xrot a.from_ a.to →
        Real.sqrt (rf a) ≤ k := by
  constructor
  · obtain ⟨e0, e1⟩ := svg_arc_endpoints_real a hrx hry hne
    have hr := (svg_arc_radii_real a hrx hry hne).2.1 h
    refine ⟨(fromSvgArc a).center, (fromSvgArc a).getAngle 0, (fromSvgArc a).getAngle 1, ?_, ?_⟩
    · rw [← hr]; exact e0.symm
    · rw [← hr]; exact e1.symm
  · intro k hk hsp
    have hx := abs_pos.mpr hrx
    have hy := abs_pos.mpr hry
    have := rfWith_le_one_of_spans a _ _ (ne_of_gt (mul_pos hx hk)) (ne_of_gt (mul_pos hy hk)) hsp
    have e : rfWith a (|a.radii.x| * k) (|a.radii.y| * k) = rf a / (k * k) := by
      rw [rf_eq_rfWith]
      simp only [rfWith]
      field_simp
    rw [e, div_le_one (by positivity)] at this
    rw [Real.sqrt_le_left (le_of_lt hk)]
    nlinarith

end span

/-- the first sentence of the property for the model over ℝ, under the
precondition that `Arc::from_svg_arc` asserts (`!arc.is_straight_line()`, for any value
`S::EPSILON ≥ 0`): the arc starts and ends at the given points; uses the radii `|rx|, |ry|`, scaled
by `√rf` exactly when they are too small; sweeps in the direction of the sweep flag by less than a
turn, by at least half a turn iff the large-arc flag (exactly half a turn when the radii do not
strictly span the chord); and `to_svg_arc` returns the original (with the normalised radii). -/
theorem svg_arc_real [Eps ℝ] (heps : 0 ≤ (Eps.eps : ℝ)) (a : SvgArc ℝ) (hs : isStraightLine a = false) :
    ((fromSvgArc a).sample 0 = a.from_ ∧ (fromSvgArc a).sample 1 = a.to)
    ∧ ((rf a ≤ 1 → (fromSvgArc a).radii = ⟨|a.radii.x|, |a.radii.y|⟩)
        ∧ (1 < rf a → (fromSvgArc a).radii = ⟨|a.radii.x| * Real.sqrt (rf a), |a.radii.y| * Real.sqrt (rf a)⟩)
        ∧ (rf a ≤ 1 ↔ SpansChord |a.radii.x| |a.radii.y| a.xrot a.from_ a.to))
    ∧ ((0 < (fromSvgArc a).sweep ↔ a.sweep = true) ∧ (fromSvgArc a).sweep ≠ 0
        ∧ |(fromSvgArc a).sweep| < 2 * Real.pi
        ∧ (rf a < 1 → (Real.pi ≤ |(fromSvgArc a).sweep| ↔ a.large = true))
        ∧ (1 ≤ rf a → |(fromSvgArc a).sweep| = Real.pi))
    ∧ toSvgArc (fromSvgArc a) =
        ⟨a.from_, a.to, ⟨rx a, ry a⟩, a.xrot, a.large || decide (1 ≤ rf a), a.sweep⟩ := by
  obtain ⟨hrx, hry, hne⟩ := nondegenerate_of_not_straight a heps hs
  obtain ⟨r1, r2, _⟩ := svg_arc_radii_real a hrx hry hne
  obtain ⟨s1, s2, s3, s4, _, s6⟩ := svg_arc_sweep_real a hrx hry hne
  refine ⟨svg_arc_endpoints_real a hrx hry hne, ⟨r1, r2, radii_span_chord_iff_real a hrx hry hne⟩,
    ⟨s3, sweep_ne_zero_real a hrx hry hne, ?_, s4, ?_⟩, svg_arc_roundtrip_real a hrx hry hne⟩
  · exact abs_sweep_lt_real a
  · exact abs_sweep_half_turn_real a hrx hry hne

/-- Full strength for `|sweep| ≤ 2π`, every real arc, any radii,
centre, rotation; no hypothesis on casts or `ceil`.  With `nq`, `nc` the numbers of pieces:
* quadratic `j` carries the parameter range `[j/nq, (j+1)/nq]` and runs from `arc.sample (j/nq)` to
  `arc.sample ((j+1)/nq)`; cubic `j` runs from `arc.sample (j/nc)` to `arc.sample ((j+1)/nc)`:
  the pieces follow the arc's own parametrisation in order, each starts where the previous ends;
* for a non-zero sweep there is at least one piece, the first one starts at `arc.sample 0`
  (`arc.from()`) and the last one ends at `arc.sample 1` (`arc.to()`); for a zero sweep both
  sequences are empty. -/
theorem arc_beziers_on_arc_real (arc : Arc ℝ) (hsw : |arc.sweep| ≤ 2 * Real.pi) :
    (∀ j, j < nQ arc → ∃ q : Quad ℝ,
        (quadsWithT arc)[j]? = some (q, (j : ℝ) / (nQ arc : ℝ), ((j + 1 : Nat) : ℝ) / (nQ arc : ℝ))
        ∧ q.a = arc.sample ((j : ℝ) / (nQ arc : ℝ))
        ∧ q.b = arc.sample (((j + 1 : Nat) : ℝ) / (nQ arc : ℝ)))
    ∧ (∀ j, j < nC arc → ∃ c : Cubic ℝ, (cubics arc)[j]? = some c
        ∧ c.a = arc.sample ((j : ℝ) / (nC arc : ℝ))
        ∧ c.b = arc.sample (((j + 1 : Nat) : ℝ) / (nC arc : ℝ)))
    ∧ (quadsWithT arc).length = nQ arc ∧ (cubics arc).length = nC arc
    ∧ (arc.sweep ≠ 0 → 0 < nQ arc ∧ 0 < nC arc
        ∧ (∃ x, (quadsWithT arc)[0]? = some x ∧ x.1.a = arc.sample 0)
        ∧ (∃ x, (quadsWithT arc)[nQ arc - 1]? = some x ∧ x.1.b = arc.sample 1 ∧ x.2.2 = 1)
        ∧ (∃ x, (cubics arc)[0]? = some x ∧ x.a = arc.sample 0)
        ∧ (∃ x, (cubics arc)[nC arc - 1]? = some x ∧ x.b = arc.sample 1))
    ∧ (arc.sweep = 0 → quadsWithT arc = [] ∧ cubics arc = []) := by
  have hsw' : |arc.sweep| ≤ Transc.pi * 2 := by rw [transc_pi_real]; linarith
  obtain ⟨hq, hc, hqe, hce⟩ := arc_beziers_endpoints_on_arc_partial arc hsw'
  obtain ⟨c1, c2⟩ := cast_faithful_real arc
  refine ⟨fun j hj => ⟨quadPiece arc (stepQ arc) j, ?_, by rw [(hq j).1, c1], by rw [(hq j).2, c1]⟩,
    fun j hj => ⟨_, cubics_get arc j hj, by rw [(hc j).1, c2], by rw [(hc j).2, c2]⟩,
    by rw [quads_closed_form]; simp, by rw [cubics_closed_form]; simp, fun h0 => ?_, fun h0 => ?_⟩
  · rw [quads_get arc j hj, tSeq_all_real arc j (le_of_lt hj) (by omega),
      tSeq_all_real arc (j + 1) hj (by omega)]
  · obtain ⟨_, _, nq, nc⟩ := nSteps_pos_real arc h0
    obtain ⟨q0, q1⟩ := hqe nq c1
    obtain ⟨k0, k1⟩ := hce nc c2
    refine ⟨nq, nc, ⟨_, quads_get arc 0 nq, q0⟩, ⟨_, quads_get arc _ (by omega), q1, ?_⟩,
      ⟨_, cubics_get arc 0 nc, k0⟩, ⟨_, cubics_get arc _ (by omega), k1⟩⟩
    show tSeq _ _ (nQ arc - 1 + 1) = 1
    rw [Nat.sub_add_cancel nq]; exact tSeq_last _ _ nq
  · obtain ⟨z1, z2⟩ := nSteps_zero_real arc h0
    constructor
    · rw [quads_closed_form, z1]; rfl
    · rw [cubics_closed_form, z2]; rfl

/-- the consumer's view (`SvgArc::for_each_quadratic_bezier(_with_t)`,
`for_each_cubic_bezier`; `WithSvg::arc_to` and the parser's `A` command go through them): for EVERY
end-point arc over ℝ — degenerate ones included, which are replaced by the straight segment — both
sequences are non-empty, start exactly at `from` (range start `0`) and end exactly at `to` (range
end `1`). -/
theorem svg_arc_beziers_real [Eps ℝ] (heps : 0 ≤ (Eps.eps : ℝ)) (a : SvgArc ℝ) :
    (∃ x, (svgQuadsWithT a)[0]? = some x ∧ x.1.a = a.from_ ∧ x.2.1 = 0)
    ∧ (∃ x, (svgQuadsWithT a)[(svgQuadsWithT a).length - 1]? = some x ∧ x.1.b = a.to ∧ x.2.2 = 1)
    ∧ (∃ x, (svgCubics a)[0]? = some x ∧ x.a = a.from_)
    ∧ (∃ x, (svgCubics a)[(svgCubics a).length - 1]? = some x ∧ x.b = a.to) := by
  cases hs : isStraightLine a
  · obtain ⟨⟨e0, e1⟩, _, ⟨_, hne0, hlt, _, _⟩, _⟩ := svg_arc_real heps a hs
    obtain ⟨HQ, HC, lq, lc, hpos, _⟩ := arc_beziers_on_arc_real (fromSvgArc a) (le_of_lt hlt)
    obtain ⟨nq, nc, _, ⟨xq, eq1, eq2, eq3⟩, ⟨yc, ec0, ec1⟩, ⟨xc, ec2, ec3⟩⟩ := hpos hne0
    obtain ⟨hQ, hC⟩ := svgBeziers_of_not_straight a hs
    rw [hQ, hC, lq, lc]
    obtain ⟨q0, g0, g1, _⟩ := HQ 0 nq
    refine ⟨⟨_, g0, by rw [g1, ← e0]; simp, by simp⟩, ⟨xq, eq1, by rw [eq2, e1], eq3⟩,
      ⟨yc, ec0, by rw [ec1, e0]⟩, ⟨xc, ec2, by rw [ec3, e1]⟩⟩
  · obtain ⟨hQ, hC⟩ := svgBeziers_of_straight a hs
    rw [hQ, hC]
    refine ⟨⟨_, rfl, rfl, by simp only [geom, Nat.cast_zero]⟩, ⟨_, rfl, rfl, by simp only [geom, Nat.cast_one]⟩,
      ⟨_, rfl, rfl⟩, ⟨_, rfl, rfl⟩⟩

/-- the exact behaviour of the code beyond a full turn (open
finding C13-bezier-sweep-clamped).  For every real arc with `|sweep| > 2π`: both sequences cover
exactly ONE turn — 8 quadratics with the ranges `j/8 … (j+1)/8`, 4 cubics —; piece `j` runs between
the angles `start ± j·π/4` (resp. `± j·π/2`), NOT between the arc's own parameters `j/n`; the first
piece starts at `arc.from()` and the last piece ends at the START point `arc.sample 0` again.  With
non-zero radii that is the arc's end point `arc.sample 1` only if the sweep is a whole number of
turns: for every other sweep beyond `2π` the property's "end on the arc's end point" FAILS. -/
theorem arc_beziers_beyond_turn_real (arc : Arc ℝ) (hsw : 2 * Real.pi < |arc.sweep|) :
    (quadsWithT arc).length = 8 ∧ (cubics arc).length = 4
    ∧ (∀ j, j < 8 → (quadsWithT arc)[j]? =
        some (quadPiece arc (Real.pi / 4 * signum arc.sweep) j, (j : ℝ) / 8, ((j + 1 : Nat) : ℝ) / 8))
    ∧ (∀ j, j < 4 → (cubics arc)[j]? = some (cubicPiece arc (Real.pi / 2 * signum arc.sweep) j))
    ∧ (quadPiece arc (Real.pi / 4 * signum arc.sweep) 0).a = arc.sample 0
    ∧ (cubicPiece arc (Real.pi / 2 * signum arc.sweep) 0).a = arc.sample 0
    ∧ (quadPiece arc (Real.pi / 4 * signum arc.sweep) 7).b = arc.sample 0
    ∧ (cubicPiece arc (Real.pi / 2 * signum arc.sweep) 3).b = arc.sample 0
    ∧ (arc.radii.x ≠ 0 → arc.radii.y ≠ 0 →
        (arc.sample 0 = arc.sample 1 ↔ ∃ k : ℤ, arc.sweep = 2 * Real.pi * k)) := by
  have hpi := Real.pi_pos
  obtain ⟨hsq, hsc, hdt, nq, nc⟩ := nSteps_full_turn_real arc (by linarith)
  have hsg := signum_eq arc.sweep
  have hs0 : arc.sample 0 = pointAt arc arc.start := by
    simp only [Arc.sample, pointAt, Arc.getAngle, mul_zero, add_zero]
  have hs1 : arc.sample 1 = pointAt arc (arc.start + arc.sweep) := by
    simp only [Arc.sample, pointAt, Arc.getAngle, mul_one]
  have hturnQ : ∃ k : ℤ, angleAt arc (Real.pi / 4 * signum arc.sweep) (7 + 1)
      = arc.start + (k : ℝ) * (2 * Real.pi) := by
    rcases hsg with h | h
    · exact ⟨1, by simp only [angleAt, ofNat_eq, h]; push_cast; ring⟩
    · exact ⟨-1, by simp only [angleAt, ofNat_eq, h]; push_cast; ring⟩
  have hturnC : ∃ k : ℤ, angleAt arc (Real.pi / 2 * signum arc.sweep) (3 + 1)
      = arc.start + (k : ℝ) * (2 * Real.pi) := by
    rcases hsg with h | h
    · exact ⟨1, by simp only [angleAt, ofNat_eq, h]; push_cast; ring⟩
    · exact ⟨-1, by simp only [angleAt, ofNat_eq, h]; push_cast; ring⟩
  refine ⟨by rw [quads_closed_form]; simp [nq], by rw [cubics_closed_form]; simp [nc], ?_, ?_, ?_, ?_, ?_, ?_, ?_⟩
  · intro j hj
    rw [quads_get arc j (by omega), hsq]
    have t1 := tSeq_all_real arc j (by omega) (by omega)
    have t2 := tSeq_all_real arc (j + 1) (by omega) (by omega)
    rw [nq] at t1 t2
    rw [nq, hdt] at *
    rw [t1, t2]
    norm_num
  · intro j hj
    rw [cubics_get arc j (by omega), hsc]
  · rw [hs0]; simp only [quadPiece, angleAt, ofNat_eq, Nat.cast_zero, mul_zero, add_zero]
  · rw [hs0]; simp only [cubicPiece, angleAt, ofNat_eq, Nat.cast_zero, mul_zero, add_zero]
  · rw [hs0]
    show pointAt arc (angleAt arc (Real.pi / 4 * signum arc.sweep) (7 + 1)) = _
    obtain ⟨k, hk⟩ := hturnQ
    rw [hk, pointAt_add_turn_real]
  · rw [hs0]
    show pointAt arc (angleAt arc (Real.pi / 2 * signum arc.sweep) (3 + 1)) = _
    obtain ⟨k, hk⟩ := hturnC
    rw [hk, pointAt_add_turn_real]
  · intro h1 h2
    rw [hs0, hs1, eq_comm, pointAt_eq_iff_real arc h1 h2, add_sub_cancel_left]

/-- the hypotheses of the `from_svg_arc` theorems hold for a rotated arc with a negative radius -/
example : (⟨⟨0, 0⟩, ⟨1, 0⟩, ⟨1, -2⟩, 1 / 2, true, true⟩ : SvgArc ℝ).radii.x ≠ 0
    ∧ (⟨⟨0, 0⟩, ⟨1, 0⟩, ⟨1, -2⟩, 1 / 2, true, true⟩ : SvgArc ℝ).radii.y ≠ 0
    ∧ (⟨⟨0, 0⟩, ⟨1, 0⟩, ⟨1, -2⟩, 1 / 2, true, true⟩ : SvgArc ℝ).from_
        ≠ (⟨⟨0, 0⟩, ⟨1, 0⟩, ⟨1, -2⟩, 1 / 2, true, true⟩ : SvgArc ℝ).to := by
  refine ⟨by norm_num, by norm_num, ?_⟩
  intro h; have := congrArg P.x h; norm_num at this

/-- `svg_arc_real` applies to the example arc of `Props/C13.lean` (lyon's f64 epsilon) -/
example : (fromSvgArc exampleArc).sample 1 = exampleArc.to :=
  (svg_arc_real exampleEps_nonneg exampleArc exampleArc_not_straight).1.2

/-- `svg_arc_beziers_real` applies with lyon's f64 epsilon: the example arc's quadratics end at `to` -/
example : ∃ x, (svgQuadsWithT exampleArc)[(svgQuadsWithT exampleArc).length - 1]? = some x
    ∧ x.1.b = exampleArc.to ∧ x.2.2 = 1 :=
  (svg_arc_beziers_real exampleEps_nonneg exampleArc).2.1

/-- unit circle, chord (−1/2,0)–(1/2,0): `rf = 1/4 < 1`, positive radii — the round trip is the identity -/
example : ∃ a : SvgArc ℝ, a.radii.x ≠ 0 ∧ a.radii.y ≠ 0 ∧ a.from_ ≠ a.to ∧ 0 < a.radii.x ∧ 0 < a.radii.y
    ∧ rf a < 1 := by
  refine ⟨⟨⟨-1/2, 0⟩, ⟨1/2, 0⟩, ⟨1, 1⟩, 0, false, true⟩, by norm_num, by norm_num,
    by intro h; have := congrArg P.x h; norm_num at this, by norm_num, by norm_num, ?_⟩
  rw [rf_circle_real _ 1 rfl]
  simp only [hd, geom, Nat.cast_ofNat]
  norm_num

/-- radii (1/4, 1/4) for the chord (0,0)–(1,0): `rf = 4 > 1` (hypothesis of `scaled_radii_minimal_real`) -/
example : ∃ a : SvgArc ℝ, a.radii.x ≠ 0 ∧ a.radii.y ≠ 0 ∧ a.from_ ≠ a.to ∧ 1 < rf a := by
  refine ⟨⟨⟨0, 0⟩, ⟨1, 0⟩, ⟨1/4, 1/4⟩, 0, false, true⟩, by norm_num, by norm_num,
    by intro h; have := congrArg P.x h; norm_num at this, ?_⟩
  rw [rf_circle_real _ (1 / 4) rfl]
  simp only [hd, geom, Nat.cast_ofNat]
  norm_num

/-- sweeps within and beyond a full turn exist -/
example : |(⟨⟨1, 2⟩, ⟨3, 1⟩, 1, -Real.pi, 1 / 3⟩ : Arc ℝ).sweep| ≤ 2 * Real.pi
    ∧ 2 * Real.pi < |(⟨⟨0, 0⟩, ⟨1, 1⟩, 0, 3 * Real.pi, 0⟩ : Arc ℝ).sweep| := by
  have hpi := Real.pi_pos
  constructor
  · show |(-Real.pi)| ≤ 2 * Real.pi
    rw [abs_neg, abs_of_pos hpi]; linarith
  · show 2 * Real.pi < |3 * Real.pi|
    rw [abs_of_pos (by positivity)]; linarith

end Lyon.C13
