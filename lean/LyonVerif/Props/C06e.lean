/-
  C06e — clipped `LineJoin::MiterClip` joins: the geometric core and the model-level closed form.

  * `corner_clip` (`Lemmas/StrokeCoverGeo.lean`), `end_corner` and its mirror image (`Lemmas/StrokeCoverEdge.lean`):
    the corner argument of the cover proof for a join whose outer trapezoid corners are shifted by `κ·tan(θ/2)` half
    widths beyond the join, ANY `κ ∈ [0, 1]` (`κ = 0` bevel-shaped, `κ = 1` kept miter, `0 < κ < 1` clipped
    `MiterClip`): a point of an edge's rectangle beyond its trapezoid lies in the join triangle
    `(outer end + shift, inner miter point, outer start − shift)` or in the neighbouring trapezoid.  `JointData`
    (`Lemmas/StrokeCoverAsm.lean`) carries the shift itself, `lam = κ·tan(θ/2) ∈ [0, tan(θ/2)]`; `clipped_corner_covered` is
    `end_corner` at `lam = κ·τ`, with the corners written out.
  * `miter_clip_join_left_partial`: in the COMPLETE model, a `MiterClip` join at a left turn whose miter exceeds the limit
    (`miter_limit ≥ 1`, exact `Line::intersection`, `eps < w/2`) gets: inner (positive) side the single vertex
    `j + normal·w/2`; outer (negative) side two vertices `j − perp(t0)·w/2 + t0·lam`, `j − perp(t1)·w/2 − t1·lam`
    with `lam·tan(θ/2) = w/2·(miter_limit·|normal| − 1)` and `0 ≤ lam ≤ w/2·tan(θ/2)`, i.e. `κ = lam/(w/2·tan) ∈ [0,1]`.
  `_partial`: a statement about one join at a left turn (the right turn is symmetric, see `jEP_closed` in
  `Lemmas/StrokeCoverJoin.lean` for both); cover and reach of polylines with clipped joins are `Props/C06f.lean`.
-/
import LyonVerif.Lemmas.StrokeCoverJoin
import LyonVerif.Lemmas.StrokeCoverEdge
import Mathlib.Analysis.SpecialFunctions.Sqrt


namespace Lyon.C06e
open Lyon Scalar Lyon.Stroke Lyon.Stroke.Full Lyon.C05 Lyon.C06 Lyon.C06b
open Lyon.StrokeQuad (Ix clipIntersections lineIntersection clipSide Side2)

section
variable {K : Type} [Field K] [LinearOrder K] [IsStrictOrderedRing K] [Transc K]

/-- **the corner argument for a join with shifted outer corners** (`κ ∈ [0,1]`; see `end_corner`) -/
theorem clipped_corner_covered (E : P K × P K × P K → Prop) (j t0 t1 : P K) (hw ε c σ τ κ : K)
    (hε : ε * ε = 1) (hτ : σ = τ * (1 + c)) (hcs : c * c + σ * σ = 1) (hc : 0 < 1 + c) (hσ : 0 ≤ σ)
    (hκ : 0 ≤ κ ∧ κ ≤ 1) (hrot : t1 = t0.smul c + (perp t0).smul (ε * σ))
    (hJ : κ < 1 → ∀ q, InTri q (j - (perp t0).smul (ε * hw) + t0.smul (κ * τ * hw),
      j + (perp t0).smul (ε * hw) - t0.smul (τ * hw),
      j - (perp t1).smul (ε * hw) - t1.smul (κ * τ * hw)) → Cov E q)
    (hT1 : ∀ x' y', -1 ≤ y' → y' ≤ 1 → τ * ((1 + y') - κ * (1 - y')) / 2 ≤ x' → x' ≤ 1 + τ →
      Cov E (j + t1.smul (hw * x') + (perp t1).smul (ε * hw * y')))
    (x y : K) (hy : -1 ≤ y) (hy1 : y ≤ 1) (hx0 : x ≤ 0) (hx : -(τ * ((1 + y) - κ * (1 - y)) / 2) ≤ x) :
    Cov E (j + t0.smul (hw * x) + (perp t0).smul (ε * hw * y)) := by
  obtain ⟨_, hτ0, _, _⟩ := turn_facts c σ τ hτ hcs hc hσ
  -- `end_corner` takes the outer shift as the number `κ·τ ∈ [0, τ]` and speaks band points
  refine end_corner E j t0 t1 hw ε c σ τ (κ * τ) hε hτ hcs hc hσ
    ⟨mul_nonneg hκ.1 hτ0, mul_le_of_le_one_left hτ0 hκ.2⟩ hrot (fun hk q hq => hJ ?_ q ?_)
    (fun x' y' h1 h2 h3 h4 => hT1 x' y' h1 h2 (by linear_combination h3) h4) x y hy hy1 hx0 (by linear_combination hx)
  · exact lt_of_le_of_ne hκ.2 (fun h => by rw [h, one_mul] at hk; exact lt_irrefl _ hk)
  · rw [bp_mp, bp_pm, bp_mm,
      bp_congr j t0 (by ring : κ * τ * hw = hw * (κ * τ)) (by ring : -(ε * hw) = ε * hw * -1),
      bp_congr j t0 (by ring : -(τ * hw) = hw * -τ) (by ring : ε * hw = ε * hw * 1),
      bp_congr j t1 (by ring : -(κ * τ * hw) = hw * -(κ * τ)) (by ring : -(ε * hw) = ε * hw * -1)]
    exact hq

open Lyon.StrokeQuad (joinSidesT foldTest frontSide)

/-- **a clipped `MiterClip` join at a left turn, in closed form** (component model `joinSidesT`, which IS the
complete model's `compute_join_side_positions_fixed_width` by `C06c.complete_model_join_is_component_model`).
`t0`, `t1` unit tangents, `cross ≥ 0`, no fold, miter limit exceeded, `miter_limit ≥ 1`, `eps < w/2`. -/
theorem miter_clip_join_left_partial (eps : K) (heps : 0 ≤ eps)
    (hs0 : ∀ x : K, 0 ≤ x → 0 ≤ Transc.sqrt x) (hs : ∀ x : K, 0 ≤ x → Transc.sqrt x * Transc.sqrt x = x)
    (t0 t1 j : P K) (l0 l1 hw ml : K) (hu0 : t0.sqLen = 1) (hu1 : t1.sqLen = 1)
    (hg : ¬ (t0 + t1).sqLen < normalEpsilon) (hx : t0.cross t1 ≥ 0)
    (hexc : miterLimitIsExceeded (-(computeNormal t0 t1)) ml = true)
    (hf : foldTest false t0 t1 (computeNormal t0 t1) ((-(computeNormal t0 t1)).smul hw) l0 l1 = false)
    (hml : 1 ≤ ml) (hhw : 0 < hw) (hepsw : eps < hw) :
    ∃ lam : K, lam * (t0.cross t1 / (1 + t0.dot t1)) = hw * (ml * Transc.sqrt (-(computeNormal t0 t1)).sqLen - 1)
      ∧ 0 ≤ lam ∧ lam ≤ hw * (t0.cross t1 / (1 + t0.dot t1))
      ∧ (joinSidesT (lineIntersection eps) t0 t1 l0 l1 j hw ml .miterClip).pos.single = some (j + (computeNormal t0 t1).smul hw)
      ∧ (joinSidesT (lineIntersection eps) t0 t1 l0 l1 j hw ml .miterClip).neg.prev = j - (perp t0).smul hw + t0.smul lam
      ∧ (joinSidesT (lineIntersection eps) t0 t1 l0 l1 j hw ml .miterClip).neg.next = j - (perp t1).smul hw - t1.smul lam
      ∧ (joinSidesT (lineIntersection eps) t0 t1 l0 l1 j hw ml .miterClip).neg.single = none
      ∧ (joinSidesT (lineIntersection eps) t0 t1 l0 l1 j hw ml .miterClip).foldPos = false
      ∧ (joinSidesT (lineIntersection eps) t0 t1 l0 l1 j hw ml .miterClip).foldNeg = false := by
  obtain ⟨hc, hN0, hN1⟩ := normal_closed hs0 hs t0 t1 hu0 hu1 hg
  have hτ0 : 0 ≤ t0.cross t1 / (1 + t0.dot t1) := div_nonneg hx (le_of_lt hc)
  generalize t0.cross t1 / (1 + t0.dot t1) = τ at hN0 hN1 hτ0 ⊢
  generalize hNdef : computeNormal t0 t1 = N at hN0 hN1 hexc hf ⊢
  have hexc' : (-N).sqLen > ml * ml * 4 := lt_of_eq_of_lt (by ring) ((miter_limit_iff _ _).mp hexc)
  -- the clipped front (negative) side
  obtain ⟨lam, c1, c2, c3, c4, c5⟩ := clip_lam eps heps hs0 hs j t0 t1 N (-N) hw ml 1 τ (by ring) hu0 hu1 hN0 hN1
    (by geom_ring) (by rw [one_mul]; exact hτ0) hexc' hml hhw hepsw
  simp only [one_mul] at c1 c3 c4 c5
  -- the model's branch
  have hf' : foldTest ((decide (Lyon.StrokeQuad.Join.miterClip = .miter) || decide (Lyon.StrokeQuad.Join.miterClip = .miterClip))
      && !miterLimitIsExceeded (-N) ml) t0 t1 N ((-N).smul hw) l0 l1 = false := by
    rw [hexc]; simpa using hf
  rw [← hNdef] at hf'
  obtain ⟨s1, s2, s3, _, _, s6⟩ := join_sides_nofold_left (lineIntersection eps) t0 t1 j l0 l1 hw ml .miterClip hx hf'
  rw [hNdef] at s1 s6
  rw [hexc] at s6
  have hfs : frontSide (lineIntersection eps) .miterClip
      ((decide (Lyon.StrokeQuad.Join.miterClip = .miter) || decide (Lyon.StrokeQuad.Join.miterClip = .miterClip)) && !true)
      ⟨j - (perp t0).smul hw, j - (perp t1).smul hw, none⟩ j (-N) (j - N.smul hw) (ml * hw)
      = clipSide (lineIntersection eps) ⟨j - (perp t0).smul hw, j - (perp t1).smul hw, none⟩ j (-N) (ml * hw) := by
    simp [frontSide]
  rw [hfs] at s6
  refine ⟨lam, c1, c2, c3, s1, ?_, ?_, ?_, s2, s3⟩
  · rw [s6]; exact c4
  · rw [s6]; exact c5
  · rw [s6]; rfl

end

section Examples
open Lyon.StrokeQuad (joinSidesT foldTest frontSide)
attribute [local instance] Lyon.C05.realTransc

/-- the hypotheses of `clipped_corner_covered` are satisfiable: a 90° left turn (`c = 0`, `σ = τ = 1`) with the outer
corners shifted by half the miter (`κ = 1/2`), every triangle "emitted" -/
example : Cov (fun _ : P ℝ × P ℝ × P ℝ => True)
    ((⟨0, 0⟩ : P ℝ) + (⟨1, 0⟩ : P ℝ).smul (1 * (-1 / 4)) + (perp (⟨1, 0⟩ : P ℝ)).smul (1 * 1 * (1 / 2))) := by
  have hcov : ∀ q : P ℝ, Cov (fun _ : P ℝ × P ℝ × P ℝ => True) q := fun q =>
    ⟨(q, q, q), trivial, 1, 0, 0, by norm_num, by norm_num, by norm_num, by norm_num, by simp, by simp⟩
  exact clipped_corner_covered (K := ℝ) _ ⟨0, 0⟩ ⟨1, 0⟩ ⟨0, 1⟩ 1 1 0 1 1 (1 / 2) (by norm_num) (by norm_num) (by norm_num)
    (by norm_num) (by norm_num) ⟨by norm_num, by norm_num⟩ (by apply P.ext' <;> simp [perp, geom])
    (fun _ q _ => hcov q) (fun _ _ _ _ _ _ => hcov _) (-1 / 4) (1 / 2) (by norm_num) (by norm_num) (by norm_num) (by norm_num)

/-- the hypotheses of `miter_clip_join_left_partial` hold over `ℝ` for the 5-12-13 left turn
`(12/13, 5/13) → (−12/13, 5/13)` (`tan(θ/2) = 12/5`, `|normal|² = 169/25 > 4`), `miter_limit = 1`, `w/2 = 1/2`, edges of length 10 -/
example (j : P ℝ) : ∃ lam : ℝ, 0 ≤ lam ∧
    (joinSidesT (lineIntersection (1 / 10 ^ 8)) (⟨12 / 13, 5 / 13⟩ : P ℝ) ⟨-12 / 13, 5 / 13⟩ 10 10 j (1 / 2) 1 .miterClip).neg.prev
      = j - (perp (⟨12 / 13, 5 / 13⟩ : P ℝ)).smul (1 / 2) + (⟨12 / 13, 5 / 13⟩ : P ℝ).smul lam := by
  have hs0 : ∀ x : ℝ, 0 ≤ x → 0 ≤ Transc.sqrt x := fun x _ => Real.sqrt_nonneg x
  have hs : ∀ x : ℝ, 0 ≤ x → Transc.sqrt x * Transc.sqrt x = x := fun x hx => Real.mul_self_sqrt hx
  have hu0 : (⟨12 / 13, 5 / 13⟩ : P ℝ).sqLen = 1 := by simp only [geom]; norm_num
  have hu1 : (⟨-12 / 13, 5 / 13⟩ : P ℝ).sqLen = 1 := by simp only [geom]; norm_num
  have hg : ¬ ((⟨12 / 13, 5 / 13⟩ : P ℝ) + ⟨-12 / 13, 5 / 13⟩).sqLen < normalEpsilon := by
    rw [normalEpsilon_eq]; simp only [geom]; norm_num
  obtain ⟨hc, hN0, hN1⟩ := normal_closed hs0 hs _ _ hu0 hu1 hg
  have hτ : (⟨12 / 13, 5 / 13⟩ : P ℝ).cross ⟨-12 / 13, 5 / 13⟩ / (1 + (⟨12 / 13, 5 / 13⟩ : P ℝ).dot ⟨-12 / 13, 5 / 13⟩) = 12 / 5 := by
    simp only [geom]; norm_num
  rw [hτ] at hN0 hN1
  have hN : computeNormal (⟨12 / 13, 5 / 13⟩ : P ℝ) ⟨-12 / 13, 5 / 13⟩ = ⟨-13 / 5, 0⟩ := by
    rw [hN0]; apply P.ext' <;> simp only [perp, geom] <;> norm_num
  obtain ⟨lam, _, h0, _, _, h5, _⟩ := miter_clip_join_left_partial (K := ℝ) (1 / 10 ^ 8) (by positivity) hs0 hs
    ⟨12 / 13, 5 / 13⟩ ⟨-12 / 13, 5 / 13⟩ j 10 10 (1 / 2) 1 hu0 hu1 hg (by simp only [geom]; norm_num)
    (by rw [hN]; simp [miterLimitIsExceeded, geom]; norm_num)
    (by rw [hN]; simp [foldTest, geom]; norm_num)
    (le_refl _) (by norm_num) (by norm_num)
  exact ⟨lam, h0, h5⟩

end Examples

end Lyon.C06e
