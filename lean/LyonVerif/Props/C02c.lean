/-
  C02 — the ADVANCED monotone tessellator's discrete facts, and the geometric core of
  "tile the interior" for the BASIC monotone tessellator over an ordered field.

  Model: `Model/Tess/Monotone.lean` (`Basic`, `Adv`, `flushSide`),
  tied bit-for-bit to `monotone.rs` through hook H2 (`harness/src/bin/c02.rs`, family `mono`).
  Helper lemmas: `Lemmas/MonotoneAdv{,Walk,Area,Nonneg}.lean`, `Lemmas/MonotoneGeom{,Valid}.lean`, `Lemmas/MonotoneIdsLt.lean`.
  Most theorems here are a lemma of those files under the audited name (`flush_levels_count` = `flushLevels_count`,
  `same_side_ear_convex` = `earTri_cases`, `basic_tris_nonneg` = `run_gInv`, `adv_area_ge` = `adv_run_area`, …); later
  files cite the lemma.

  1. Discrete, for EVERY (position, side) sequence and every scalar type (floats included):
     `flush_levels_count/ids/distinct`, `flush_side_spec` (the doubling loop of `flush_side` cuts a
     chain of `len` ids into `len − 2` triangles on positions `a < b < c`), `adv_invariant`,
     `adv_count` (n − 2 triangles), `adv_ids_distinct`, `adv_ids_valid`, `basic_ids_valid`.
  2. Geometry of the basic tessellator over an ordered field `K`
     (`wind a b c = (a − b) × (c − b)`, `Lemmas/MonotoneGeom.lean`):
     * `basic_tris_nonneg`   — EVERY sequence: every emitted triangle has `wind ≥ 0` (none flipped);
     * `basic_area_ge`       — EVERY sequence: `Σ wind(triangles) ≥ shoelace(polygon)`
                               (telescoping: every triangle removes one vertex from the remaining
                               polygon; the only slack is a fan triangle swapped by the winding test);
     * `basic_fan_strict`    — valid sweep sequence (`SweepValid`, decidable): at a change of side
                               every fan triangle is STRICTLY positive in the side-determined order,
                               so the winding test never swaps;
     * `basic_area_sum`      — valid sweep sequence: `Σ wind(triangles) = shoelace(polygon)`;
     * `basic_triangles_oriented` — no three vertices collinear: every triangle has `wind > 0`;
     * `basic_tiling_core`   — valid + general position: `n − 2` triangles, each strictly positively
                               oriented, areas adding up to the polygon's area.
     `basic_collinear_zero_area_witness`: without general position a valid sequence does get a
     zero-area triangle (three collinear chain vertices pass the `cross ≥ 0` ear test) — outside the
     property's statement ("none references the same vertex twice"), recorded as an observation.

  3. Signed area of the ADVANCED tessellator, EVERY sequence: `flush_area_sum` (the triangles of
     `flush_side` add up exactly to the buffered chain polygon's area) and `adv_area_ge`
     (`Σ wind(Adv.run seq) ≥ shoelace(polygon)`; potential = emitted + inner stack polygon + chain
     polygons + the quadrilateral between the chain heads and tails).

  4. Orientation of the ADVANCED tessellator: `flush_tris_convex` (a sorted, locally convex buffered
     chain is fanned into non-negatively oriented triangles), `adv_tris_nonneg` (for EVERY sequence
     sorted in sweep order no triangle of `Adv.run` is flipped: the `outward_turn` test keeps the
     chains convex), `adv_triangles_oriented` (strict in general position), `adv_tiling_partial`
     (`_partial`: count + strict orientation + area sum ≥ polygon, on a SORTED sequence; the other half,
     area sum ≤ polygon i.e. no overlap, needs a valid sweep sequence and rests on the sides_are_close /
     reference-x rules: `adv_tiling_all`, `Props/C02h.lean`).

  Not in this file: pairwise interior-disjointness / containment as point sets (here only the
  algebraic core: count + consistent strict orientation + area sum; `Props/C02f.lean` for the basic
  tessellator); the geometry of the ADVANCED tessellator's chain fans (`flush_side` emits without an
  orientation test; valid only when the buffered chain is convex and no opposite vertex enters its
  hull — the sides_are_close / outward_turn heuristics: `Props/C02g.lean`, `Props/C02h.lean`).
-/
import LyonVerif.Lemmas.MonotoneAdvNonneg
import LyonVerif.Lemmas.MonotoneIdsLt

set_option linter.unusedSectionVars false

namespace Lyon.C02c
open Lyon Lyon.Mono Lyon.C02

variable {α : Type} [Scalar α]

/-- **`flush_side` emits `len − 2` triangles**: at level `step` the live chain positions are the
multiples of `step` below `len` (`(len−1)/step + 1` of them); the level removes all odd multiples
(`(len−1)/step − (len−1)/(2·step)` triangles); the loop stops with 2 live positions. -/
theorem flush_levels_count (ev : Array Nat) (len : Nat) (right : Bool) :
    (flushLevels ev len right (len + 1) 1).length = len - 2 :=
  flushLevels_count ev len right

/-- **every triangle of `flush_side` sits on three different chain positions** `a < b < c < len`,
in increasing order on the left side, in an odd permutation (`(b,a,c)` or `(a,c,b)`) on the right. -/
theorem flush_levels_ids (ev : Array Nat) (len : Nat) (right : Bool) :
    ∀ t ∈ flushLevels ev len right (len + 1) 1, ChainTri ev len right t :=
  flushLevels_ids ev len right

/-- hence with pairwise distinct buffered ids every chain triangle has three distinct ids -/
theorem flush_levels_distinct (l : List Nat) (right : Bool) (hnd : l.Nodup) :
    ∀ t ∈ flushLevels l.toArray l.length right (l.length + 1) 1, TriDistinct t :=
  fun t ht => chainTri_distinct l right hnd t (flushLevels_ids _ _ right t ht)

/-- `flush_side` on a chain of `len ≥ 2` ids: `len − 2` triangles, the chain restarts from its last
vertex, which is forwarded to the inner tessellator. -/
theorem flush_side_spec (s : SideEv α) (r : Bool) (h : 2 ≤ s.events.length) :
    (flushSide s r).2.1.length = s.events.length - 2 ∧ (flushSide s r).2.2 = some s.last ∧
      (flushSide s r).1.events = [s.last.id] := by
  rcases flushSide_cases s r with ⟨h', _⟩ | ⟨_, e1, _, e3, e4⟩
  · omega
  · exact ⟨by rw [e3, flushLevels_count], e4, e1⟩

/-- A small integer scalar, used only to evaluate the models in `decide`d examples (`x / y` is
integer division; decimal literals `m·10^-e` are truncated, so scale coordinates by 10). -/
structure ZS where
  v : Int
deriving DecidableEq, Repr

instance : Scalar ZS where
  add a b := ⟨a.v + b.v⟩
  sub a b := ⟨a.v - b.v⟩
  mul a b := ⟨a.v * b.v⟩
  div a b := ⟨a.v / b.v⟩
  neg a := ⟨-a.v⟩
  lt a b := a.v < b.v
  le a b := a.v ≤ b.v
  beq a b := a.v == b.v
  ofNat n := ⟨n⟩
  ofSci m e := ⟨m / 10 ^ e⟩
  dlt := fun a b => inferInstanceAs (Decidable (a.v < b.v))
  dle := fun a b => inferInstanceAs (Decidable (a.v ≤ b.v))
  abs a := ⟨a.v.natAbs⟩
  min a b := if a.v ≤ b.v then a else b
  max a b := if a.v ≤ b.v then b else a

/-- non-vacuity: a 7-id chain, left and right: 5 triangles each. -/
example : flushLevels #[10, 11, 12, 13, 14, 15, 16] 7 false 8 1
    = [(10, 11, 12), (12, 13, 14), (14, 15, 16), (10, 12, 14), (10, 14, 16)] := by decide
example : flushLevels #[10, 11, 12, 13, 14, 15, 16] 7 true 8 1
    = [(11, 10, 12), (13, 12, 14), (15, 14, 16), (12, 10, 14), (10, 16, 14)] := by decide
example : [10, 11, 12, 13, 14, 15, 16].Nodup := by decide
example : 2 ≤ (⟨⟨⟨0⟩, ⟨0⟩⟩, ⟨0⟩, [1, 2, 3], ⟨⟨0⟩, ⟨0⟩⟩, ⟨⟨⟨0⟩, ⟨0⟩⟩, 3, true⟩⟩ : SideEv ZS).events.length := by decide

/-- the invariant behind the three theorems, for every reachable state (`k` vertices fed, ids
`0…k−1`): `triangles + inner stack + Σ_sides (buffered − 1) = k`, the inner stack is non-empty,
every id is in exactly one place. -/
theorem adv_invariant (p0 : P α) (vs : List (P α × Bool)) :
    AInv (afeed (Adv.begin Adv.new p0 0) 1 vs) (1 + vs.length) :=
  afeed_inv vs _ 1 (begin_inv Adv.new p0)

/-- **n − 2 triangles**: for every begin / vertex* / end sequence with `n ≥ 2` vertices in total, on
any sides and at any positions, over any scalar type, the advanced monotone tessellator emits
exactly `n − 2` triangles. -/
theorem adv_count (seq : List (P α × Bool)) (h : 2 ≤ seq.length) :
    (Adv.run seq).length = seq.length - 2 :=
  (run_spec seq).1 h

/-- **three pairwise distinct vertices per triangle** (ids are `0, 1, 2, …` in feeding order). -/
theorem adv_ids_distinct (seq : List (P α × Bool)) : ∀ t ∈ Adv.run seq, TriDistinct t :=
  (run_spec seq).2

/-- **every id is a fed vertex**: all three ids of every triangle are `< n`. -/
theorem adv_ids_valid (seq : List (P α × Bool)) :
    ∀ t ∈ Adv.run seq, t.1 < seq.length ∧ t.2.1 < seq.length ∧ t.2.2 < seq.length :=
  run_ids_lt seq

/-- the same for the basic tessellator (count and distinctness: `Props/C02.lean`) -/
theorem basic_ids_valid (seq : List (P α × Bool)) :
    ∀ t ∈ Basic.run seq, t.1 < seq.length ∧ t.2.1 < seq.length ∧ t.2.2 < seq.length :=
  basic_run_ids_lt seq

/-- non-vacuity (integer coordinates scaled by 10): lyon's own third unit test of `monotone.rs`,
7 vertices all on the right side, run through the advanced tessellator: 5 triangles … -/
example : Adv.run (α := ZS)
    [(⟨⟨0⟩, ⟨0⟩⟩, true), (⟨⟨10⟩, ⟨10⟩⟩, false), (⟨⟨30⟩, ⟨20⟩⟩, false), (⟨⟨10⟩, ⟨30⟩⟩, false),
     (⟨⟨10⟩, ⟨40⟩⟩, false), (⟨⟨40⟩, ⟨50⟩⟩, false), (⟨⟨0⟩, ⟨60⟩⟩, true)]
    = [(2, 1, 3), (1, 0, 3), (3, 0, 4), (4, 0, 6), (5, 4, 6)] := by decide

/-- … and a wide left chain that is buffered whole: one `flush_side` of 6 ids at `end`. -/
example : Adv.run (α := ZS)
    [(⟨⟨0⟩, ⟨0⟩⟩, true), (⟨⟨-500⟩, ⟨1⟩⟩, true), (⟨⟨-900⟩, ⟨2⟩⟩, true), (⟨⟨-1200⟩, ⟨3⟩⟩, true),
     (⟨⟨-1400⟩, ⟨4⟩⟩, true), (⟨⟨-1500⟩, ⟨5⟩⟩, true), (⟨⟨0⟩, ⟨6⟩⟩, false)]
    = [(0, 1, 2), (2, 3, 4), (0, 4, 5), (0, 2, 4), (0, 5, 6)] := by decide

section Geometry
variable {K : Type} [Field K] [LinearOrder K] [IsStrictOrderedRing K]

/-- **same-side branch**: the ear `(b, a, cur)` is cut only when `cross(cur − b, a − b) ≥ 0`
(`a, b` = last popped, stack top; swapped on the right side), and that cross product IS
`wind b a cur`: the ear is emitted non-negatively oriented. -/
theorem same_side_ear_convex (cur lp top : MV K) (h : earConvex cur lp top = true) :
    (cur.left = true ∧ earTri cur lp top = (top.id, lp.id, cur.id) ∧ 0 ≤ wind top.pos lp.pos cur.pos) ∨
    (cur.left = false ∧ earTri cur lp top = (lp.id, top.id, cur.id) ∧ 0 ≤ wind lp.pos top.pos cur.pos) :=
  earTri_cases cur lp top h

/-- **changed-side branch**: each fan triangle is emitted in the order that makes it non-negatively
oriented (the swap on `winding == false` makes it strictly positive). -/
theorem fan_tri_oriented (cur a b : MV K) :
    (fanTri cur a b = (a.id, b.id, cur.id) ∧ 0 ≤ wind a.pos b.pos cur.pos) ∨
    (fanTri cur a b = (b.id, a.id, cur.id) ∧ 0 < wind b.pos a.pos cur.pos) :=
  fanTri_cases cur a b

/-- **no triangle of the basic tessellator is flipped**: for every (position, side) sequence —
monotone or not — every emitted triangle `(a, b, c)` has `(a − b) × (c − b) ≥ 0`. -/
theorem basic_tris_nonneg (seq : List (P K × Bool)) : ∀ t ∈ Basic.run seq, 0 ≤ triW (posOf seq) t :=
  run_gInv seq

/-- **area, every sequence**: the `wind`s of the emitted triangles (each in its emitted vertex order)
add up to at least the shoelace area of the polygon `apex, left chain ↓, bottom, right chain ↑`.
(Telescoping identity: each ear / fan triangle is exactly what the not-yet-triangulated stack
polygon loses; the excess is twice the area of the fan triangles swapped by the winding test.) -/
theorem basic_area_ge (seq : List (P K × Bool)) (h : 2 ≤ seq.length) :
    shoelaceW (polygonOf seq) ≤ sumW (posOf seq) (Basic.run seq) :=
  (run_area seq h).1

/-- **no swap on valid sequences**: in a state reached on a valid sweep sequence (`VInv`), when the
next vertex `cur` (index `k`; the bottom vertex if `k + 1 = n`) changes side, every fan pair
`(s_i, s_{i+1})` of the stack has `± wind(s_i, s_{i+1}, cur) > 0` with the sign of the stack's
side: lyon's winding test takes the side-determined branch and the fan triangle is non-degenerate. -/
theorem basic_fan_strict (seq : List (P K × Bool)) (s : Basic K) (k : Nat) (cur : MV K)
    (hval : SweepValid seq) (h : VInv seq s k) (hk : k < seq.length) (hid : cur.id = k)
    (hpos : cur.pos = posOf seq cur.id) (hsd : k + 1 = seq.length ∨ sideAt seq k = cur.left)
    (hchg : cur.left ≠ s.previous.left) :
    FanPosT s.previous.left cur.pos (s.stack.map (·.pos)) :=
  (valid_noFlip seq s k cur hval h hk hid hpos hsd).2 hchg

/-- **area, valid sweep sequence** (strictly y-monotone simple polygon: positions strictly sorted by
`(y, x)`, each chain strictly on its side of every edge of the other chain): the emitted triangles'
`wind`s add up EXACTLY to the polygon's shoelace area. -/
theorem basic_area_sum (seq : List (P K × Bool)) (h : 2 ≤ seq.length) (hval : SweepValid seq) :
    sumW (posOf seq) (Basic.run seq) = shoelaceW (polygonOf seq) :=
  (run_area seq h).2 hval

/-- **strict consistent orientation**: with no three vertices on a line every emitted triangle has
`wind > 0` — non-degenerate, all with the same strict sign (for every sequence in general position). -/
theorem basic_triangles_oriented (seq : List (P K × Bool)) (hc : NoCollinear seq) :
    ∀ t ∈ Basic.run seq, 0 < triW (posOf seq) t :=
  run_strict seq hc

/-- **algebraic core of "tile the interior"** for the basic monotone tessellator: a valid sweep
sequence in general position with `n` vertices is cut into exactly `n − 2` triangles, each on three
distinct fed vertices, each strictly positively oriented, whose areas add up to the polygon's area. -/
theorem basic_tiling_core (seq : List (P K × Bool)) (h : 2 ≤ seq.length) (hval : SweepValid seq)
    (hc : NoCollinear seq) :
    (Basic.run seq).length = seq.length - 2 ∧
    (∀ t ∈ Basic.run seq, TriDistinct t ∧ t.1 < seq.length ∧ t.2.1 < seq.length ∧ t.2.2 < seq.length ∧
      0 < triW (posOf seq) t) ∧
    sumW (posOf seq) (Basic.run seq) = shoelaceW (polygonOf seq) :=
  ⟨run_count seq h,
   fun t ht => ⟨run_ids_distinct seq t ht, (basic_run_ids_lt seq t ht).1, (basic_run_ids_lt seq t ht).2.1,
     (basic_run_ids_lt seq t ht).2.2, run_strict seq hc t ht⟩,
   (run_area seq h).2 hval⟩

/-- **`flush_side` is area-exact**: for EVERY input the `wind`s of the triangles `flush_side` emits
for a buffered chain `e_0 … e_{len−1}` add up to the `wind`-area of the closed chain polygon
(left side; its negative on the right side, where the triangles are emitted in odd permutations).
`flush_side` performs no orientation test, so a chain triangle with negative `wind` is one lying
outside the chain polygon (a non-convex chain). -/
theorem flush_area_sum (pos : Nat → P K) (ev : List Nat) (right : Bool) :
    sumW pos (flushLevels ev.toArray ev.length right (ev.length + 1) 1) =
      (if right then -1 else 1) * chainPoly pos ev := by
  rw [flush_area, ← chainPoly_eq]; cases right <;> rfl

/-- **area, advanced tessellator, every sequence**: the `wind`s of the triangles of `Adv.run`
(each in its emitted order) add up to at least the polygon's shoelace area — the chain fans
contribute exactly their polygons' areas, every vertex forwarded to the inner basic tessellator
a non-negative excess (zero unless its winding test swaps a fan triangle). -/
theorem adv_area_ge (seq : List (P K × Bool)) (h : 2 ≤ seq.length) :
    shoelaceW (polygonOf seq) ≤ sumW (posOf seq) (Adv.run seq) :=
  adv_run_area seq h

/-- **convex chains fan correctly**: if the buffered chain is strictly sorted in sweep order and
locally convex on its side at every interior vertex (`± wind(e_i, e_{i+1}, e_{i+2}) ≥ 0`), every
triangle `flush_side` emits for it has `wind ≥ 0` (local ⟹ global convexity on the sweep's
half-plane of directions). -/
theorem flush_tris_convex (pos : Nat → P K) (ev : List Nat) (right : Bool)
    (hsort : ∀ i, i + 1 < ev.length → After (evPos pos ev (i + 1)) (evPos pos ev i))
    (hconv : ∀ i, i + 2 < ev.length →
      0 ≤ sg (!right) * wind (evPos pos ev i) (evPos pos ev (i + 1)) (evPos pos ev (i + 2))) :
    ∀ t ∈ flushLevels ev.toArray ev.length right (ev.length + 1) 1, 0 ≤ triW pos t :=
  fun t ht => chainTri_nonneg pos ev right hsort hconv t (flushLevels_ids _ _ _ t ht)

theorem valid_sorted (seq : List (P K × Bool)) (h : SweepValid seq) : SweepSorted seq := h.1

/-- **no triangle of the advanced tessellator is flipped**: for every sequence whose positions are
strictly increasing in the sweep order — whatever the sides — every triangle of `Adv.run` has
`wind ≥ 0`.  (lyon's `outward_turn` test keeps every buffered chain locally convex, the chains are
sorted, so `flush_side`'s untested fans are non-negatively oriented; the inner basic tessellator's
triangles always are.) -/
theorem adv_tris_nonneg (seq : List (P K × Bool)) (hs : SweepSorted seq) :
    ∀ t ∈ Adv.run seq, 0 ≤ triW (posOf seq) t :=
  adv_run_nonneg seq hs

/-- **strict consistent orientation, advanced tessellator**: sorted and no three vertices collinear ⟹
every triangle of `Adv.run` has `wind > 0`. -/
theorem adv_triangles_oriented (seq : List (P K × Bool)) (hs : SweepSorted seq) (hc : NoCollinear seq) :
    ∀ t ∈ Adv.run seq, 0 < triW (posOf seq) t := by
  intro t ht
  exact strict_of_noCollinear hc (adv_run_nonneg seq hs t ht) ((run_spec seq).2 t ht) (run_ids_lt seq t ht)

/-- **the advanced tessellator on a sorted sequence in general position** with `n` vertices: `n − 2`
triangles on distinct fed vertices, each strictly positively oriented, with total area AT LEAST the
polygon's area.  What this leaves possible is overlap (total area strictly larger); on valid sweep
sequences `basic_tiling_core` excludes it for the basic tessellator and `adv_tiling_all`
(`Props/C02h.lean`) for the advanced one. -/
theorem adv_tiling_partial (seq : List (P K × Bool)) (h : 2 ≤ seq.length) (hs : SweepSorted seq)
    (hc : NoCollinear seq) :
    (Adv.run seq).length = seq.length - 2 ∧
    (∀ t ∈ Adv.run seq, TriDistinct t ∧ t.1 < seq.length ∧ t.2.1 < seq.length ∧ t.2.2 < seq.length ∧
      0 < triW (posOf seq) t) ∧
    shoelaceW (polygonOf seq) ≤ sumW (posOf seq) (Adv.run seq) :=
  ⟨(run_spec seq).1 h,
   fun t ht => ⟨(run_spec seq).2 t ht, (run_ids_lt seq t ht).1, (run_ids_lt seq t ht).2.1, (run_ids_lt seq t ht).2.2,
     adv_triangles_oriented seq hs hc t ht⟩,
   adv_run_area seq h⟩

/-- on a valid sweep sequence the basic tessellator's area sum is the polygon's area and the advanced
tessellator's is at least that: any difference between the two is overlap of the advanced one -/
theorem adv_area_ge_basic (seq : List (P K × Bool)) (h : 2 ≤ seq.length) (hval : SweepValid seq) :
    sumW (posOf seq) (Basic.run seq) ≤ sumW (posOf seq) (Adv.run seq) := by
  rw [(run_area seq h).2 hval]; exact adv_run_area seq h

theorem shoelace_formula (a : P K) (r : List (P K)) :
    shoelaceW (a :: r) = (((a :: r).zip (r ++ [a])).map (fun e => e.2.x * e.1.y - e.2.y * e.1.x)).sum :=
  shoelaceW_eq_sum a r

end Geometry

/-- a 6-vertex strictly y-monotone polygon, chains interleaved L R L R -/
def exSeq : List (P ℚ × Bool) :=
  [(⟨0, 0⟩, true), (⟨-2, 1⟩, true), (⟨2, 2⟩, false), (⟨-1, 3⟩, true), (⟨3, 4⟩, false), (⟨0, 6⟩, true)]

example : 2 ≤ exSeq.length := by decide
example : SweepValid exSeq := by decide +kernel
example : NoCollinear exSeq := by decide +kernel
example : Basic.run exSeq = [(0, 1, 2), (2, 1, 3), (2, 3, 4), (4, 3, 5)] := by decide +kernel
example : sumW (posOf exSeq) (Basic.run exSeq) = 31 ∧ shoelaceW (polygonOf exSeq) = 31 := by decide +kernel

/-- a 7-vertex one with a reflex left chain (an ear `(0, 1, 2)` is cut on the same side, vertex 3
waits on the stack) -/
def exSeq2 : List (P ℚ × Bool) :=
  [(⟨0, 0⟩, true), (⟨-2, 1⟩, true), (⟨-1, 2⟩, true), (⟨-3, 3⟩, true), (⟨2, 4⟩, false), (⟨3, 5⟩, false),
   (⟨0, 6⟩, true)]

example : SweepValid exSeq2 ∧ NoCollinear exSeq2 := by decide +kernel
example : Basic.run exSeq2 = [(0, 1, 2), (0, 2, 4), (2, 3, 4), (4, 3, 5), (5, 3, 6)] := by decide +kernel

/-- the advanced tessellator on the same polygon: area sum = shoelace area (`adv_area_ge` is tight) -/
example : sumW (posOf exSeq2) (Adv.run exSeq2) = shoelaceW (polygonOf exSeq2) ∧ 0 < shoelaceW (polygonOf exSeq2) := by
  decide +kernel

example : SweepSorted exSeq2 := by decide +kernel

/-- a left chain on a parabola: sorted and convex -/
def exChainPos (i : Nat) : P ℚ := ⟨-((i : ℚ) * (10 - i)), i⟩

/-- non-vacuity of `flush_tris_convex` -/
example : (∀ i, i + 1 < [0, 1, 2, 3, 4, 5].length →
      After (evPos exChainPos [0, 1, 2, 3, 4, 5] (i + 1)) (evPos exChainPos [0, 1, 2, 3, 4, 5] i)) ∧
    (∀ i, i + 2 < [0, 1, 2, 3, 4, 5].length →
      0 ≤ sg (!false) * wind (evPos exChainPos [0, 1, 2, 3, 4, 5] i) (evPos exChainPos [0, 1, 2, 3, 4, 5] (i + 1))
        (evPos exChainPos [0, 1, 2, 3, 4, 5] (i + 2))) := by
  have h1 : ∀ i, i < 5 → After (evPos exChainPos [0, 1, 2, 3, 4, 5] (i + 1)) (evPos exChainPos [0, 1, 2, 3, 4, 5] i) := by
    decide +kernel
  have h2 : ∀ i, i < 4 → 0 ≤ sg (!false) * wind (evPos exChainPos [0, 1, 2, 3, 4, 5] i)
      (evPos exChainPos [0, 1, 2, 3, 4, 5] (i + 1)) (evPos exChainPos [0, 1, 2, 3, 4, 5] (i + 2)) := by
    decide +kernel
  exact ⟨fun i hi => h1 i (by simp at hi; omega), fun i hi => h2 i (by simp at hi; omega)⟩

/-- a chain that `flush_side` fans (6 buffered ids on the left): 4 triangles whose `wind`s add up to
the chain polygon's area, which is positive -/
example : sumW exChainPos (flushLevels #[0, 1, 2, 3, 4, 5] 6 false 7 1) = chainPoly exChainPos [0, 1, 2, 3, 4, 5] := by
  have := flush_area_sum exChainPos [0, 1, 2, 3, 4, 5] false
  simpa using this

/-- non-vacuity of `basic_fan_strict`: the state before the fourth vertex of `exSeq` (index 3, left;
stack `[2, 1]`, previous on the right) satisfies `VInv`, that vertex changes side, and the theorem
applies: the fan pair `(1, 2)` is strictly positive for the right-hand stack -/
example : FanPosT false (⟨-1, 3⟩ : P ℚ) [⟨2, 2⟩, ⟨-2, 1⟩] :=
  basic_fan_strict exSeq
    ((Basic.begin (⟨0, 0⟩ : P ℚ) 0 |>.vertex ⟨⟨-2, 1⟩, 1, true⟩).vertex ⟨⟨2, 2⟩, 2, false⟩) 3 ⟨⟨-1, 3⟩, 3, true⟩
    (by decide +kernel)
    (vertex_vInv exSeq _ 2 _ (vertex_vInv exSeq _ 1 _ (begin_vInv exSeq _ rfl) rfl rfl rfl) rfl rfl rfl)
    (by decide) rfl rfl (Or.inr rfl) (by decide +kernel)

/-- non-vacuity of `same_side_ear_convex`: a convex ear on the left chain -/
example : earConvex (⟨⟨0, 2⟩, 2, true⟩ : MV ℚ) ⟨⟨-1, 1⟩, 1, true⟩ ⟨⟨0, 0⟩, 0, true⟩ = true := by decide +kernel

/-- a valid sequence that is NOT in general position: three collinear left-chain vertices -/
def exCol : List (P ℚ × Bool) :=
  [(⟨0, 0⟩, true), (⟨-1, 1⟩, true), (⟨-2, 2⟩, true), (⟨-3, 3⟩, true), (⟨0, 4⟩, false)]

/-- **observation (not a finding)**: on a valid sweep sequence with three collinear chain vertices
the ear test `cross ≥ 0` passes and a zero-area triangle `(0, 1, 2)` is emitted (three DISTINCT ids,
so C02's "none references the same vertex twice" holds); `NoCollinear` in
`basic_triangles_oriented` cannot be dropped. -/
theorem basic_collinear_zero_area_witness :
    SweepValid exCol ∧ (0, 1, 2) ∈ Basic.run exCol ∧ triW (posOf exCol) (0, 1, 2) = 0 := by
  decide +kernel

end Lyon.C02c
