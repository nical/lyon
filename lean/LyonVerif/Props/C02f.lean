/-
  C02 — from area equality to POINT-SET TILING for the basic monotone tessellator, and the EXACT area
  sum (no overlap) for the advanced one.

  Model: `Model/Tess/Monotone.lean` (`Basic.run`, the function the correspondence check executes
  against `monotone.rs` through hook H2).  `Props/C02c.lean` proves the algebraic core (`n − 2`
  triangles, strictly positive orientation, signed areas adding up to the shoelace area).  Here the
  triangles are treated as point sets over an ordered field `K`:

  * `InsidePoly seq q` — `q` lies strictly inside the y-monotone polygon of the sweep sequence:
    strictly on the inner side of the edge of the LEFT chain that spans `q` in sweep order, and of
    the edge of the RIGHT chain that spans `q` (`leftChain`, `rightChain`: apex, the chain's middle
    vertices, bottom vertex — the two halves of the loop `polygonOf seq` of `Props/C02c.lean`, see
    `polygon_is_two_chains`).  The sweep order is the lexicographic `(y, x)` order of `is_after`,
    so horizontal edges and vertices of equal height need no special treatment.
  * `TriIn pos t q` — `q` strictly inside the emitted triangle `t` (in its emitted vertex order);
    `TriInC pos t q` — `q` in the closed triangle.

  On EVERY valid sweep sequence (`SweepValid`; no general-position hypothesis: three collinear chain
  vertices give a zero-area triangle, an empty open tile that changes nothing — `ear_tilesN`, `Lemmas/MonotoneTileCut.lean`):
  * `basic_vertex_cuts_ears` — every `vertex` call (state-level statement, the ear-cutting step of the
                               standard proof): the triangles it emits lie inside the REMAINING polygon of the
                               state before (stack + future chains), are pairwise disjoint and disjoint from the
                               remaining polygon of the state after, which is a sub-region; nothing else is lost;
  * `basic_triangles_inside`   — every point strictly inside an emitted triangle is strictly inside the polygon;
  * `basic_triangles_disjoint` — no point is strictly inside two emitted triangles;
  * `basic_triangles_cover`    — every point strictly inside the polygon is in a closed emitted triangle;
  * `basic_tiling`             — the three together with the count `n − 2` and distinct ids: the triangles of
                                 the basic monotone tessellator TILE the interior of the monotone piece;
  * `basic_tiling_nondegenerate` — in general position (`NoCollinear`) every tile moreover has interior points.
  Proof: the stack invariant `VInv` (`Lemmas/MonotoneGeomValid.lean`) + `SweepValid` at the edge of the
  opposite chain that spans the stack; a same-side step pops ears `(top, lastPopped, cur)` off the
  stack's chain, a change of side splits the remaining polygon along the diagonal `top → cur` and
  pops the whole stack as ears of the upper part (`Lemmas/MonotoneTile{Geom,Cut,Run}.lean`).

  ADVANCED tessellator (the one the fill uses), valid sweep sequence, exact arithmetic — no overlap in the area
  sense, `Σ wind ≤ shoelace` (`adv_tiling_partial` of `Props/C02c.lean` has `≥`):
  * `adv_area_le_of_chord_clear` — THE PRECISE CONDITION: if in every reached state every buffered
    chain of ≥ 3 ids is chord-clear (`ChordClear`: no vertex of the opposite chain fed between the
    chain's first and last vertex lies strictly beyond the chord first → last), then the inner basic
    tessellator never swaps a fan triangle and `Σ wind(Adv.run) ≤ shoelace`;
  * `adv_chord_clear_run` — `sides_are_close` + `reference_point` + `conservative_reference_x` (incl.
    the repair 9b7220fb, which is what makes `refPt.x` bound the restarted chain) DO guarantee it on
    every valid sweep sequence: whenever a vertex is buffered without a flush on a chain of ≥ 2 ids,
    `left.consRefX ≤ right.consRefX` is a vertical line between the chain and every opposite vertex
    fed since the chain's head (`Lemmas/MonotoneTileAdvSep.lean`, invariant `Z3`);
  * `adv_area_le`, `adv_area_sum` — `Σ wind(Adv.run seq) = shoelace(polygonOf seq)`;
  * `adv_tiling_core` — full-strength counterpart of `basic_tiling_core`: `n − 2` triangles on distinct
    fed vertices, strictly positively oriented, areas adding up EXACTLY to the polygon's area;
  * `adv_area_eq_basic` — the two tessellators' area sums agree.

  What this file does NOT cover: containment/disjointness of the ADVANCED tessellator's triangles as
  point sets (here only the algebraic core: count, orientation, exact area sum; the point sets are in
  `Props/C02g.lean`, `Props/C02h.lean`); floats (exact arithmetic only).
-/
import LyonVerif.Props.C02c
import LyonVerif.Lemmas.MonotoneTileAdvSep

set_option linter.unusedSectionVars false

namespace Lyon.C02f
open Lyon Lyon.Mono Lyon.C02 Lyon.C02c

section Geometry
variable {K : Type} [Field K] [LinearOrder K] [IsStrictOrderedRing K]

/-- the two chains of `InsidePoly` are the two halves of the boundary loop `polygonOf seq`, whose
shoelace area `basic_area_sum` equates with the triangles' area sum -/
theorem polygon_is_two_chains (seq : List (P K × Bool)) (h : 2 ≤ seq.length) :
    polygonOf seq = leftChain seq ++ ((rightChain seq).tail.dropLast).reverse :=
  polygonOf_chains seq h

/-- the chains written out: apex, the middle vertices flagged left (right), bottom vertex -/
theorem chains_written_out (p0 : P K) (b0 : Bool) (v1 : P K × Bool) (rest : List (P K × Bool)) :
    leftChain ((p0, b0) :: v1 :: rest) = p0 :: leftsOf ((v1 :: rest).take ((v1 :: rest).length - 1)) ++
        [(((v1 :: rest).getLast?.map (·.1)).getD p0)] ∧
    rightChain ((p0, b0) :: v1 :: rest) = p0 :: rightsOf ((v1 :: rest).take ((v1 :: rest).length - 1)) ++
        [(((v1 :: rest).getLast?.map (·.1)).getD p0)] :=
  ⟨leftChain_eq p0 b0 v1 rest, rightChain_eq p0 b0 v1 rest⟩

/-- a point strictly inside the polygon comes strictly after the apex and strictly before the
bottom vertex in sweep order -/
theorem inside_between_apex_and_bottom (seq : List (P K × Bool)) (h : 2 ≤ seq.length) (hval : SweepValid seq)
    (q : P K) (hq : InsidePoly seq q) :
    AfterEq q (posOf seq 0) ∧ After (posOf seq (seq.length - 1)) q := by
  have hs := fut_sorted seq true hval 0 1 (by omega) (by omega)
  refine ⟨chainIn_lower true _ _ q hs hq.1, ?_⟩
  refine chainIn_upper true (leftChain seq) q _ hs ?_ hq.1
  match seq, h with
  | (p0, b0) :: v1 :: rest, _ =>
    rw [leftChain_eq]
    simp only [List.length_cons, Nat.add_sub_cancel, List.getLast?_append, List.getLast?_singleton,
      Option.some_or]
    congr 1
    simp only [posOf, List.getElem?_cons_succ]
    rw [List.getLast?_eq_getElem?]
    simp

/-- a strictly positively oriented triangle has interior points: its centroid -/
theorem triangle_has_interior (a b c : P K) (h : 0 < wind a b c) :
    InTri a b c ⟨(a.x + b.x + c.x) / 3, (a.y + b.y + c.y) / 3⟩ := by
  have e1 : wind a b ⟨(a.x + b.x + c.x) / 3, (a.y + b.y + c.y) / 3⟩ = wind a b c / 3 := by
    simp only [wind, geom]; ring
  have e2 : wind b c ⟨(a.x + b.x + c.x) / 3, (a.y + b.y + c.y) / 3⟩ = wind a b c / 3 := by
    simp only [wind, geom]; ring
  have e3 : wind c a ⟨(a.x + b.x + c.x) / 3, (a.y + b.y + c.y) / 3⟩ = wind a b c / 3 := by
    simp only [wind, geom]; ring
  refine ⟨?_, ?_, ?_⟩ <;> simp only [e1, e2, e3] <;> positivity

/-- **ear step**: in a state `s` reached on a valid sweep sequence after `k`
vertices (`VInv`), feeding the next vertex `cur` (a middle vertex with its side, or the bottom
vertex) emits triangles `nt` such that, with `R = region seq s k` the remaining polygon before
(stack, bottom first, followed by the future vertices of its chain; the stack's bottom entry
followed by the future vertices of the other chain) and `R'` the remaining polygon after:
every new triangle lies inside `R`; `R' ⊆ R`; no new triangle meets `R'`; the new triangles are
pairwise disjoint; every point of `R` is in `R'` or in a closed new triangle. -/
theorem basic_vertex_cuts_ears (seq : List (P K × Bool)) (hval : SweepValid seq)
    (s : Basic K) (k : Nat) (cur : MV K) (h : VInv seq s k) (hk : k < seq.length) (hid : cur.id = k)
    (hpos : cur.pos = posOf seq cur.id)
    (hsd : (k + 1 = seq.length ∧ cur.left = !s.previous.left) ∨ (k + 1 < seq.length ∧ sideAt seq k = cur.left)) :
    ∃ nt, (s.vertex cur).tris = s.tris ++ nt ∧
      (∀ t ∈ nt, ∀ q, TriIn (posOf seq) t q → region seq s k q) ∧
      (∀ q, region seq (s.vertex cur) (k + 1) q → region seq s k q) ∧
      (∀ t ∈ nt, ∀ q, TriIn (posOf seq) t q → ¬ region seq (s.vertex cur) (k + 1) q) ∧
      nt.Pairwise (fun t t' => ∀ q, ¬ (TriIn (posOf seq) t q ∧ TriIn (posOf seq) t' q)) ∧
      (∀ q, region seq s k q → region seq (s.vertex cur) (k + 1) q ∨ ∃ t ∈ nt, TriInC (posOf seq) t q) := by
  obtain ⟨nt, e, t⟩ := vertex_tiles seq hval s k cur h hk hid hpos hsd
  exact ⟨nt, e, t.inside, t.sub, t.apart, t.disj, t.cover⟩

/-- the remaining polygon of the initial state is the whole polygon -/
theorem region_begin (p0 : P K) (b0 : Bool) (rest : List (P K × Bool)) :
    region ((p0, b0) :: rest) (Basic.begin p0 0) 1 = InsidePoly ((p0, b0) :: rest) := by
  unfold region InsidePoly leftChain rightChain
  simp [Basic.begin, C02c.botPos, posOf]

/-- **(a) every emitted triangle lies inside the monotone polygon**: on a valid sweep sequence
every point strictly inside a triangle of `Basic.run` is strictly inside the polygon. -/
theorem basic_triangles_inside (seq : List (P K × Bool)) (h : 2 ≤ seq.length) (hval : SweepValid seq) :
    ∀ t ∈ Basic.run seq, ∀ q, TriIn (posOf seq) t q → InsidePoly seq q :=
  (run_tiles seq h hval).inside

/-- **(b) the emitted triangles are pairwise interior-disjoint**: no point is strictly inside two
different triangles (two different positions of the output list) of `Basic.run`. -/
theorem basic_triangles_disjoint (seq : List (P K × Bool)) (h : 2 ≤ seq.length) (hval : SweepValid seq) :
    (Basic.run seq).Pairwise (fun t t' => ∀ q, ¬ (TriIn (posOf seq) t q ∧ TriIn (posOf seq) t' q)) :=
  (run_tiles seq h hval).disj

/-- **(c) nothing is left out**: every point strictly inside the polygon lies in a closed emitted
triangle. -/
theorem basic_triangles_cover (seq : List (P K × Bool)) (h : 2 ≤ seq.length) (hval : SweepValid seq) :
    ∀ q, InsidePoly seq q → ∃ t ∈ Basic.run seq, TriInC (posOf seq) t q := by
  intro q hq
  rcases (run_tiles seq h hval).cover q hq with g | g
  · exact absurd g id
  · exact g

/-- **the basic monotone tessellator tiles the monotone piece** (C02, second sentence, for
`BasicMonotoneTessellator` in exact arithmetic): a valid sweep sequence with `n` boundary vertices
is cut into exactly `n − 2` triangles, each on three distinct fed vertices, each lying inside the
polygon, pairwise interior-disjoint, and together covering the polygon's interior. -/
theorem basic_tiling (seq : List (P K × Bool)) (h : 2 ≤ seq.length) (hval : SweepValid seq) :
    (Basic.run seq).length = seq.length - 2 ∧
    (∀ t ∈ Basic.run seq, TriDistinct t ∧ ∀ q, TriIn (posOf seq) t q → InsidePoly seq q) ∧
    (Basic.run seq).Pairwise (fun t t' => ∀ q, ¬ (TriIn (posOf seq) t q ∧ TriIn (posOf seq) t' q)) ∧
    ∀ q, InsidePoly seq q → ∃ t ∈ Basic.run seq, TriInC (posOf seq) t q :=
  ⟨run_count seq h,
   fun t ht => ⟨run_ids_distinct seq t ht, basic_triangles_inside seq h hval t ht⟩,
   basic_triangles_disjoint seq h hval,
   basic_triangles_cover seq h hval⟩

/-- in general position every tile is moreover non-degenerate: it contains its centroid strictly -/
theorem basic_tiling_nondegenerate (seq : List (P K × Bool)) (hnc : NoCollinear seq) :
    ∀ t ∈ Basic.run seq, ∃ q, TriIn (posOf seq) t q :=
  fun t ht => ⟨_, triangle_has_interior _ _ _ (run_strict seq hnc t ht)⟩

/-- consequently the polygon's interior is non-empty as soon as there is a triangle (`n ≥ 3`) -/
theorem inside_nonempty (seq : List (P K × Bool)) (h : 3 ≤ seq.length) (hval : SweepValid seq)
    (hnc : NoCollinear seq) : ∃ q, InsidePoly seq q := by
  obtain ⟨hc, hi, _, _⟩ := basic_tiling seq (by omega) hval
  have hne : Basic.run seq ≠ [] := by
    intro e; rw [e] at hc; simp at hc; omega
  obtain ⟨t, ht⟩ := List.exists_mem_of_ne_nil _ hne
  obtain ⟨q, hq⟩ := basic_tiling_nondegenerate seq hnc t ht
  exact ⟨q, (hi t ht).2 q hq⟩

/-- **the precise condition for `flush_side`'s fans**: on a valid sweep sequence on which every
buffered chain of every reached state is chord-clear (`ChordClearRun`), the advanced tessellator's
area sum does not exceed the polygon's area: every forward to the inner basic tessellator is
flip-free (`Lemmas/MonotoneTileAdvChain.lean`: `fwd_tinv`), so the potential of `adv_area_ge` does not grow. -/
theorem adv_area_le_of_chord_clear (seq : List (P K × Bool)) (h : 2 ≤ seq.length) (hval : SweepValid seq)
    (hcc : ChordClearRun seq) : sumW (posOf seq) (Adv.run seq) ≤ shoelaceW (polygonOf seq) :=
  adv_run_area_le seq h hval hcc

/-- **lyon's heuristics guarantee the condition**: on EVERY valid sweep sequence, in every state
reached while the middle vertices are fed, both buffered chains are chord-clear. -/
theorem adv_chord_clear_run (seq : List (P K × Bool)) (hval : SweepValid seq) : ChordClearRun seq :=
  adv_chord_clear seq hval

/-- what `ChordClearRun` says, written out for the state after `i` middle vertices -/
theorem chord_clear_written_out (seq : List (P K × Bool)) (hval : SweepValid seq) (i : Nat) (l : Bool)
    (s : SideEv K)
    (hs : s = (if l then (afeed (Adv.begin Adv.new (posOf seq 0) 0) 1 ((midsOf seq).take i)).left
               else (afeed (Adv.begin Adv.new (posOf seq 0) 0) 1 ((midsOf seq).take i)).right))
    (h3 : 3 ≤ s.events.length) (j : Nat) (hj1 : s.events.headD 0 < j) (hj2 : j < s.last.id)
    (hjs : sideAt seq j = !l) :
    0 ≤ sg (!l) * wind (posOf seq (s.events.headD 0)) (posOf seq j) s.last.pos := by
  have := adv_chord_clear seq hval i
  subst hs
  cases l
  · exact this.2 h3 j hj1 hj2 hjs
  · exact this.1 h3 j hj1 hj2 hjs

/-- **area, advanced tessellator, upper bound** (`adv_tiling_partial` of `Props/C02c.lean` has the lower one) -/
theorem adv_area_le (seq : List (P K × Bool)) (h : 2 ≤ seq.length) (hval : SweepValid seq) :
    sumW (posOf seq) (Adv.run seq) ≤ shoelaceW (polygonOf seq) :=
  adv_run_area_le seq h hval (adv_chord_clear seq hval)

/-- **area, advanced tessellator, valid sweep sequence**: the emitted triangles' `wind`s add up
EXACTLY to the polygon's shoelace area -/
theorem adv_area_sum (seq : List (P K × Bool)) (h : 2 ≤ seq.length) (hval : SweepValid seq) :
    sumW (posOf seq) (Adv.run seq) = shoelaceW (polygonOf seq) :=
  adv_run_area_eq seq h hval

/-- the advanced and the basic tessellator produce the same total area -/
theorem adv_area_eq_basic (seq : List (P K × Bool)) (h : 2 ≤ seq.length) (hval : SweepValid seq) :
    sumW (posOf seq) (Adv.run seq) = sumW (posOf seq) (Basic.run seq) := by
  rw [adv_run_area_eq seq h hval, (run_area seq h).2 hval]

/-- **algebraic core of "tile the interior" for the ADVANCED monotone tessellator**, full strength:
a valid sweep sequence in general position with `n` vertices is cut into exactly `n − 2` triangles,
each on three distinct fed vertices, each strictly positively oriented, whose areas add up EXACTLY
to the polygon's area (no overlap in the area sense: `adv_tiling_partial` has `≥` only). -/
theorem adv_tiling_core (seq : List (P K × Bool)) (h : 2 ≤ seq.length) (hval : SweepValid seq)
    (hc : NoCollinear seq) :
    (Adv.run seq).length = seq.length - 2 ∧
    (∀ t ∈ Adv.run seq, TriDistinct t ∧ t.1 < seq.length ∧ t.2.1 < seq.length ∧ t.2.2 < seq.length ∧
      0 < triW (posOf seq) t) ∧
    sumW (posOf seq) (Adv.run seq) = shoelaceW (polygonOf seq) := by
  refine ⟨(run_spec seq).1 h, fun t ht => ⟨(run_spec seq).2 t ht, (run_ids_lt seq t ht).1,
    (run_ids_lt seq t ht).2.1, (run_ids_lt seq t ht).2.2, ?_⟩, adv_run_area_eq seq h hval⟩
  exact adv_triangles_oriented seq hval.1 hc t ht

end Geometry

section Examples

noncomputable instance (a b : P ℚ) : Decidable (a = b) :=
  decidable_of_iff (a.x = b.x ∧ a.y = b.y) ⟨fun h => P.ext' h.1 h.2, fun h => by rw [h]; exact ⟨rfl, rfl⟩⟩
noncomputable instance (q a : P ℚ) : Decidable (AfterEq q a) := by unfold AfterEq; infer_instance
noncomputable instance (a b q : P ℚ) : Decidable (Span a b q) := by unfold Span; infer_instance
noncomputable def decChainIn (c : Bool) : (l : List (P ℚ)) → (q : P ℚ) → Decidable (ChainIn c l q)
  | [], _ => isFalse id
  | [_], _ => isFalse id
  | a :: b :: r, q => by
    have := decChainIn c (b :: r) q
    unfold ChainIn; infer_instance
noncomputable instance (c : Bool) (l : List (P ℚ)) (q : P ℚ) : Decidable (ChainIn c l q) := decChainIn c l q
noncomputable instance (c : Bool) (C O : List (P ℚ)) (q : P ℚ) : Decidable (InPoly c C O q) := by
  unfold InPoly; infer_instance
noncomputable instance (seq : List (P ℚ × Bool)) (q : P ℚ) : Decidable (InsidePoly seq q) := by
  unfold InsidePoly; infer_instance
noncomputable instance (a b c q : P ℚ) : Decidable (InTri a b c q) := by unfold InTri; infer_instance
noncomputable instance (a b c q : P ℚ) : Decidable (InTriC a b c q) := by unfold InTriC; infer_instance
noncomputable instance (pos : Nat → P ℚ) (t : Tri) (q : P ℚ) : Decidable (TriIn pos t q) := by
  unfold TriIn; infer_instance
noncomputable instance (pos : Nat → P ℚ) (t : Tri) (q : P ℚ) : Decidable (TriInC pos t q) := by
  unfold TriInC; infer_instance

/-- a 6-vertex strictly y-monotone polygon, chains interleaved L R L R (`exSeq` of `Props/C02c.lean`) -/
def exA : List (P ℚ × Bool) :=
  [(⟨0, 0⟩, true), (⟨-2, 1⟩, true), (⟨2, 2⟩, false), (⟨-1, 3⟩, true), (⟨3, 4⟩, false), (⟨0, 6⟩, true)]

/-- a 7-vertex one with a reflex left chain (`exSeq2` of `Props/C02c.lean`) -/
def exB : List (P ℚ × Bool) :=
  [(⟨0, 0⟩, true), (⟨-2, 1⟩, true), (⟨-1, 2⟩, true), (⟨-3, 3⟩, true), (⟨2, 4⟩, false), (⟨3, 5⟩, false),
   (⟨0, 6⟩, true)]

/-- the hypotheses of all theorems above hold for the two example polygons of `Props/C02c.lean`
(6 vertices, chains interleaved L R L R; 7 vertices with a reflex left chain) -/
example : 2 ≤ exA.length ∧ SweepValid exA ∧ NoCollinear exA := by decide +kernel
example : 3 ≤ exB.length ∧ SweepValid exB ∧ NoCollinear exB := by decide +kernel

/-- `leftChain`, `rightChain` evaluated on `exA`: apex, the side's middle vertices, bottom vertex -/
example : leftChain exA = [⟨0, 0⟩, ⟨-2, 1⟩, ⟨-1, 3⟩, ⟨0, 6⟩] ∧
    rightChain exA = [⟨0, 0⟩, ⟨2, 2⟩, ⟨3, 4⟩, ⟨0, 6⟩] := by
  constructor <;> rfl

/-- `InsidePoly` says what it should on `exA`: `(0, 3)` is inside, `(−2, 3)` (left of the left chain),
`(3, 2)` (right of the right chain), the vertex `(−2, 1)`, the boundary point `(1, 1)` of the edge
`(0,0) → (2,2)` and `(0, 7)` (below the bottom vertex) are not -/
example : InsidePoly exA ⟨0, 3⟩ ∧ ¬ InsidePoly exA ⟨-2, 3⟩ ∧ ¬ InsidePoly exA ⟨3, 2⟩ ∧
    ¬ InsidePoly exA ⟨-2, 1⟩ ∧ ¬ InsidePoly exA ⟨1, 1⟩ ∧ ¬ InsidePoly exA ⟨0, 7⟩ := by
  decide +kernel

/-- `basic_triangles_disjoint`, `basic_triangles_cover` at one point: `(0, 3)` is strictly inside exactly one emitted
triangle, `(2, 3, 4)` -/
example : Basic.run exA = [(0, 1, 2), (2, 1, 3), (2, 3, 4), (4, 3, 5)] ∧
    ¬ TriIn (posOf exA) (0, 1, 2) ⟨0, 3⟩ ∧ ¬ TriIn (posOf exA) (2, 1, 3) ⟨0, 3⟩ ∧
    TriIn (posOf exA) (2, 3, 4) ⟨0, 3⟩ ∧ ¬ TriIn (posOf exA) (4, 3, 5) ⟨0, 3⟩ := by
  decide +kernel

/-- a point on the internal diagonal `1 → 2` of that triangulation: strictly inside the polygon,
strictly inside NO triangle, in two closed ones (`basic_triangles_cover` needs closed tiles) -/
example : InsidePoly exA ⟨0, 3/2⟩ ∧ (∀ t ∈ Basic.run exA, ¬ TriIn (posOf exA) t ⟨0, 3/2⟩) ∧
    TriInC (posOf exA) (0, 1, 2) ⟨0, 3/2⟩ ∧ TriInC (posOf exA) (2, 1, 3) ⟨0, 3/2⟩ ∧
    ¬ TriInC (posOf exA) (2, 3, 4) ⟨0, 3/2⟩ ∧ ¬ TriInC (posOf exA) (4, 3, 5) ⟨0, 3/2⟩ := by
  decide +kernel

/-- non-vacuity of `basic_vertex_cuts_ears`: the state of `exA` before its fourth vertex
(index 3, left; stack `[2, 1]` on the right chain): `VInv` holds and the vertex changes side -/
example : ∃ nt, ((((Basic.begin (⟨0, 0⟩ : P ℚ) 0).vertex ⟨⟨-2, 1⟩, 1, true⟩).vertex ⟨⟨2, 2⟩, 2, false⟩).vertex
      ⟨⟨-1, 3⟩, 3, true⟩).tris =
    (((Basic.begin (⟨0, 0⟩ : P ℚ) 0).vertex ⟨⟨-2, 1⟩, 1, true⟩).vertex ⟨⟨2, 2⟩, 2, false⟩).tris ++ nt :=
  (basic_vertex_cuts_ears exA (by decide +kernel)
    ((Basic.begin (⟨0, 0⟩ : P ℚ) 0 |>.vertex ⟨⟨-2, 1⟩, 1, true⟩).vertex ⟨⟨2, 2⟩, 2, false⟩) 3 ⟨⟨-1, 3⟩, 3, true⟩
    (vertex_vInv exA _ 2 _ (vertex_vInv exA _ 1 _ (begin_vInv exA _ rfl) rfl rfl rfl) rfl rfl rfl)
    (by decide) rfl rfl (Or.inr ⟨by decide, rfl⟩)).imp (fun _ h => h.1)

/-- non-vacuity of `triangle_has_interior` -/
example : 0 < wind (⟨0, 0⟩ : P ℚ) ⟨-2, 1⟩ ⟨2, 2⟩ := by decide +kernel

/-- a valid sequence with three collinear left-chain vertices (`exCol` of `Props/C02c.lean`): the
point-set theorems apply (no general-position hypothesis); the zero-area triangles `(0, 1, 2)`,
`(0, 2, 3)` are empty open tiles, the point `(-1, 2)` is strictly inside `(0, 3, 4)` only -/
def exD : List (P ℚ × Bool) :=
  [(⟨0, 0⟩, true), (⟨-1, 1⟩, true), (⟨-2, 2⟩, true), (⟨-3, 3⟩, true), (⟨0, 4⟩, false)]

example : SweepValid exD ∧ ¬ NoCollinear exD ∧ Basic.run exD = [(0, 1, 2), (0, 2, 3), (0, 3, 4)] ∧
    InsidePoly exD ⟨-1, 2⟩ ∧ ¬ TriIn (posOf exD) (0, 1, 2) ⟨-1, 2⟩ ∧ ¬ TriIn (posOf exD) (0, 2, 3) ⟨-1, 2⟩ ∧
    TriIn (posOf exD) (0, 3, 4) ⟨-1, 2⟩ := by
  decide +kernel

/-- a polygon on which the advanced tessellator really buffers: its left chain `1, 3, 5` is kept as
one chain of three ids (the state after the five middle vertices), with the right vertices `2, 4`
in between — `SweepValid`, general position … -/
def exC : List (P ℚ × Bool) :=
  [(⟨0, 0⟩, true), (⟨-10, 1⟩, true), (⟨10, 2⟩, false), (⟨-12, 3⟩, true), (⟨11, 4⟩, false), (⟨-13, 5⟩, true),
   (⟨0, 7⟩, true)]

example : 2 ≤ exC.length ∧ SweepValid exC ∧ NoCollinear exC := by decide +kernel

/-- … the buffered chain (non-vacuity of `ChordClear`'s premise `3 ≤ events.length`, hence of
`adv_chord_clear_run` / `chord_clear_written_out`), flushed by `end` into the fan triangle `(1, 3, 5)`,
which the basic tessellator does not produce … -/
example : (afeed (Adv.begin Adv.new (posOf exC 0) 0) 1 ((midsOf exC).take 5)).left.events = [1, 3, 5] ∧
    (1, 3, 5) ∈ Adv.run exC ∧ (1, 3, 5) ∉ Basic.run exC := by
  decide +kernel

/-- … non-vacuity of `chord_clear_written_out`: that chain (head 1, last 5) and the right vertex 2 -/
example : 0 ≤ sg (!true) * wind
    (posOf exC ((afeed (Adv.begin Adv.new (posOf exC 0) 0) 1 ((midsOf exC).take 5)).left.events.headD 0))
    (posOf exC 2) (afeed (Adv.begin Adv.new (posOf exC 0) 0) 1 ((midsOf exC).take 5)).left.last.pos :=
  chord_clear_written_out exC (by decide +kernel) 5 true
    (afeed (Adv.begin Adv.new (posOf exC 0) 0) 1 ((midsOf exC).take 5)).left rfl (by decide +kernel) 2
    (by decide +kernel) (by decide +kernel) (by decide +kernel)

/-- … and the two area sums are the polygon's area (`adv_area_sum`, `adv_area_eq_basic`) -/
example : sumW (posOf exC) (Adv.run exC) = shoelaceW (polygonOf exC) ∧
    sumW (posOf exC) (Adv.run exC) = sumW (posOf exC) (Basic.run exC) ∧ 0 < shoelaceW (polygonOf exC) :=
  ⟨adv_area_sum exC (by decide) (by decide +kernel), adv_area_eq_basic exC (by decide) (by decide +kernel),
   by decide +kernel⟩

end Examples

end Lyon.C02f
