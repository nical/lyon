/-
  C02 — POINT-SET tiling for the ADVANCED monotone tessellator (general position).

  `Props/C02f.lean`: point-set tiling (inside / pairwise interior-disjoint / covering) for the
  basic tessellator and the exact area sum for the advanced one.  The advanced tessellator emits two
  kinds of triangles: the FANS `flush_side` cuts out of a buffered chain (`flushLevels`, the doubling
  loop) and the triangles of the INNER basic tessellator, which is fed the chain ends only.  First
  the fans, as point sets, over an ordered field:

  * `flush_fan_is_ear_sequence` — for ANY chain `e_0 … e_{len−1}` that is strictly sorted in sweep
    order and strictly convex to its side, the triangles of the doubling loop, in lyon's emission
    order, are an ear sequence of the CHAIN POLYGON (the region between the chain and its chord
    `e_0 → e_{len−1}`): at level `s` the ears at the odd multiples of `s`, then the left-over triangle
    `(e_0, e_b, e_c)`, which cuts the last live vertex off across the chord.  Hence (`Tiles`): every
    fan triangle lies in the chain polygon, the fan triangles are pairwise interior-disjoint, and
    their closures cover the chain polygon.  (The proof reads the convexity hypothesis weakly; the weakly
    convex statement is `C02h.flush_fan_is_ear_sequence_all`.)
  * `adv_flush_fans_tile_chain_polygons` — in EVERY state the advanced tessellator reaches on a valid
    sweep sequence in general position, this applies to both buffered chains (`CInv`: what
    `outward_turn` maintains; weak convexity suffices, `Lemmas/MonotoneTileAdvSetState.lean`).  The hypothesis
    `NoCollinear` of this and the following statements up to `adv_triangles_cover` is idle: their proofs are
    the lemmas of `Lemmas/MonotoneTileAdvSetRun.lean` and `Props/C02h.lean`, which do not have it; only the
    non-degeneracy clause of `adv_tiling` uses it.
  * `adv_chain_polygon_inside` — and the chain polygon lies strictly inside the monotone polygon
    (`InsidePoly`): it lies inside the fine remaining polygon of the reached state (`chain_poly_rg`: on the opposite
    side that polygon's boundary starts with one edge which `ChordClear`, `adv_chord_clear_run`, + convexity keep
    both ends of the chord inside of), and the triangles emitted so far cut the polygon down to exactly that
    remaining polygon (`adv_state_wt`).
  * `adv_fan_triangles_inside` — so every triangle `flush_side` emits for a buffered chain of a
    reached state lies strictly inside the polygon (every flush of the run is a flush of a chain of a
    reached state; for the two flushes of `end` the triangles are shown to be in the output:
    `adv_final_fans_in_output`).
  * `adv_fan_tiling` — the bundle.

  And the WHOLE output of the advanced tessellator: the three point-set clauses hold on every valid
  sweep sequence (`Props/C02h.lean`); in general position every triangle is moreover non-degenerate:
  * `adv_triangles_inside`   — every point strictly inside a triangle of `Adv.run` is strictly inside the polygon;
  * `adv_triangles_disjoint` — no point is strictly inside two triangles of `Adv.run`;
  * `adv_triangles_cover`    — every point strictly inside the polygon lies in a closed triangle of `Adv.run`;
  * `adv_tiling`             — the three with `n − 2`, distinct ids, non-degeneracy (each triangle contains its
                               centroid strictly) and the exact area sum: the triangles of the ADVANCED monotone
                               tessellator TILE the monotone piece.
-/
import LyonVerif.Props.C02f
import LyonVerif.Props.C02h

set_option linter.unusedVariables false

namespace Lyon.C02g
open Lyon Lyon.Mono Lyon.C02 Lyon.C02c Lyon.C02f

section Geometry
variable {K : Type} [Field K] [LinearOrder K] [IsStrictOrderedRing K]

/-- **`flush_side`'s fan is an ear sequence of the chain polygon** (any strictly sorted, strictly
convex chain; `right` = the side flag `flush_side` is called with, the chain bulges to side `!right`) -/
theorem flush_fan_is_ear_sequence (pos : Nat → P K) (ev : Array Nat) (right : Bool) (len : Nat) (hl : 1 ≤ len)
    (hsort : ∀ a b, a < b → b < len → After (pos (ev.getD b 0)) (pos (ev.getD a 0)))
    (hconv : ∀ a b d, a < b → b < d → d < len →
      0 < sg (!right) * wind (pos (ev.getD a 0)) (pos (ev.getD b 0)) (pos (ev.getD d 0))) :
    (∀ t ∈ flushLevels ev len right (len + 1) 1, ∀ q, TriIn pos t q →
      InPoly (!right) ((List.range len).map (fun i => pos (ev.getD i 0))) [pos (ev.getD 0 0), pos (ev.getD (len - 1) 0)] q) ∧
    (flushLevels ev len right (len + 1) 1).Pairwise (fun t t' => ∀ q, ¬ (TriIn pos t q ∧ TriIn pos t' q)) ∧
    (∀ q, InPoly (!right) ((List.range len).map (fun i => pos (ev.getD i 0))) [pos (ev.getD 0 0), pos (ev.getD (len - 1) 0)] q →
      ∃ t ∈ flushLevels ev len right (len + 1) 1, TriInC pos t q) := by
  have t := flush_fan_tilesO pos ev right len hl ⟨hsort, fun a b d hab hbd hd => (hconv a b d hab hbd hd).le⟩
  refine ⟨t.inside, t.disj, fun q hq => ?_⟩
  rcases t.cover q hq with g | ⟨t, ht, g, _⟩
  · exact absurd g id
  · exact ⟨t, ht, g⟩

/-- **every reached state: `flush_side` on either buffered chain tiles its chain polygon** -/
theorem adv_flush_fans_tile_chain_polygons (seq : List (P K × Bool)) (hval : SweepValid seq) (hnc : NoCollinear seq)
    (h2 : 2 ≤ seq.length) (i : Nat) (l : Bool) (s : SideEv K)
    (hs : s = (if l then (advState seq i).left else (advState seq i).right)) :
    (∀ t ∈ flushLevels s.events.toArray s.events.length (!l) (s.events.length + 1) 1, ∀ q, TriIn (posOf seq) t q →
      InPoly l (s.events.map (posOf seq)) [posOf seq (s.events.headD 0), s.last.pos] q) ∧
    (flushLevels s.events.toArray s.events.length (!l) (s.events.length + 1) 1).Pairwise
      (fun t t' => ∀ q, ¬ (TriIn (posOf seq) t q ∧ TriIn (posOf seq) t' q)) ∧
    (∀ q, InPoly l (s.events.map (posOf seq)) [posOf seq (s.events.headD 0), s.last.pos] q →
      ∃ t ∈ flushLevels s.events.toArray s.events.length (!l) (s.events.length + 1) 1, TriInC (posOf seq) t q) := by
  have t := adv_state_fan_tilesO seq hval h2 i l s hs
  refine ⟨t.inside, t.disj, fun q hq => ?_⟩
  rcases t.cover q hq with g | ⟨t, ht, g, _⟩
  · exact absurd g id
  · exact ⟨t, ht, g⟩

/-- **the chain polygon of a buffered chain lies inside the monotone polygon** -/
theorem adv_chain_polygon_inside (seq : List (P K × Bool)) (hval : SweepValid seq) (hnc : NoCollinear seq)
    (h2 : 2 ≤ seq.length) (i : Nat) (l : Bool) (s : SideEv K)
    (hs : s = (if l then (advState seq i).left else (advState seq i).right)) (hl2 : 2 ≤ s.events.length) :
    ∀ q, InPoly l (s.events.map (posOf seq)) [posOf seq (s.events.headD 0), s.last.pos] q → InsidePoly seq q :=
  adv_state_chain_poly_inside seq hval h2 i l s hs hl2

/-- **every triangle `flush_side` emits for a buffered chain lies strictly inside the polygon** -/
theorem adv_fan_triangles_inside (seq : List (P K × Bool)) (hval : SweepValid seq) (hnc : NoCollinear seq)
    (h2 : 2 ≤ seq.length) (i : Nat) (l : Bool) (s : SideEv K)
    (hs : s = (if l then (advState seq i).left else (advState seq i).right)) :
    ∀ t ∈ flushLevels s.events.toArray s.events.length (!l) (s.events.length + 1) 1,
      ∀ q, TriIn (posOf seq) t q → InsidePoly seq q :=
  adv_state_fan_inside seq hval h2 i l s hs

/-- the two fans `end` emits are triangles of `Adv.run seq` -/
theorem adv_final_fans_in_output (seq : List (P K × Bool)) (h2 : 2 ≤ seq.length) (l : Bool) (s : SideEv K)
    (hs : s = (if l then (advState seq (midsOf seq).length).left else (advState seq (midsOf seq).length).right))
    (hl2 : 2 ≤ s.events.length) :
    ∀ t ∈ flushLevels s.events.toArray s.events.length (!l) (s.events.length + 1) 1, t ∈ Adv.run seq :=
  adv_final_fans_emitted seq h2 l s hs hl2

/-- **the fans of `flush_side` as point sets**, bundled.
On a valid sweep sequence in general position, for every reached state and either side: the fan of
the buffered chain lies strictly inside the polygon, is pairwise interior-disjoint, and covers the
chain polygon, which lies inside the polygon; the fans of the final state are in the output. -/
theorem adv_fan_tiling (seq : List (P K × Bool)) (hval : SweepValid seq) (hnc : NoCollinear seq)
    (h2 : 2 ≤ seq.length) (i : Nat) (l : Bool) (s : SideEv K)
    (hs : s = (if l then (advState seq i).left else (advState seq i).right)) :
    (∀ t ∈ flushLevels s.events.toArray s.events.length (!l) (s.events.length + 1) 1,
      ∀ q, TriIn (posOf seq) t q → InsidePoly seq q) ∧
    (flushLevels s.events.toArray s.events.length (!l) (s.events.length + 1) 1).Pairwise
      (fun t t' => ∀ q, ¬ (TriIn (posOf seq) t q ∧ TriIn (posOf seq) t' q)) ∧
    (∀ q, InPoly l (s.events.map (posOf seq)) [posOf seq (s.events.headD 0), s.last.pos] q →
      InsidePoly seq q ∧ ∃ t ∈ flushLevels s.events.toArray s.events.length (!l) (s.events.length + 1) 1,
        TriInC (posOf seq) t q) ∧
    (i = (midsOf seq).length → 2 ≤ s.events.length →
      ∀ t ∈ flushLevels s.events.toArray s.events.length (!l) (s.events.length + 1) 1, t ∈ Adv.run seq) := by
  obtain ⟨_, h2', h3⟩ := adv_flush_fans_tile_chain_polygons seq hval hnc h2 i l s hs
  refine ⟨adv_fan_triangles_inside seq hval hnc h2 i l s hs, h2', ?_, ?_⟩
  · intro q hq
    refine ⟨?_, h3 q hq⟩
    by_cases hl2 : 2 ≤ s.events.length
    · exact adv_chain_polygon_inside seq hval hnc h2 i l s hs hl2 q hq
    · obtain ⟨t, ht, _⟩ := h3 q hq
      have hlen : s.events.length - 2 = 0 := by omega
      have := flushLevels_count s.events.toArray s.events.length (!l)
      rw [hlen] at this
      rw [List.length_eq_zero_iff.mp this] at ht
      cases ht
  · intro hi hl2
    subst hi
    exact adv_final_fans_in_output seq h2 l s hs hl2

theorem adv_triangles_inside (seq : List (P K × Bool)) (h : 2 ≤ seq.length) (hval : SweepValid seq)
    (hnc : NoCollinear seq) :
    ∀ t ∈ Adv.run seq, ∀ q, TriIn (posOf seq) t q → InsidePoly seq q :=
  C02h.adv_triangles_inside_all seq h hval

theorem adv_triangles_disjoint (seq : List (P K × Bool)) (h : 2 ≤ seq.length) (hval : SweepValid seq)
    (hnc : NoCollinear seq) :
    (Adv.run seq).Pairwise (fun t t' => ∀ q, ¬ (TriIn (posOf seq) t q ∧ TriIn (posOf seq) t' q)) :=
  C02h.adv_triangles_disjoint_all seq h hval

theorem adv_triangles_cover (seq : List (P K × Bool)) (h : 2 ≤ seq.length) (hval : SweepValid seq)
    (hnc : NoCollinear seq) :
    ∀ q, InsidePoly seq q → ∃ t ∈ Adv.run seq, TriInC (posOf seq) t q :=
  C02h.adv_triangles_cover_all seq h hval

/-- **the advanced monotone tessellator tiles the monotone piece** (C02, second sentence, for
`AdvancedMonotoneTessellator` — the one `FillTessellator` uses — in exact arithmetic and general
position): a valid sweep sequence with `n` boundary vertices, no three of them collinear, is cut into
exactly `n − 2` triangles, each on three distinct fed vertices, non-degenerate (it contains its centroid
strictly), each lying strictly inside the polygon, pairwise interior-disjoint, together covering the
polygon's interior, with areas adding up exactly to the polygon's area. -/
theorem adv_tiling (seq : List (P K × Bool)) (h : 2 ≤ seq.length) (hval : SweepValid seq)
    (hnc : NoCollinear seq) :
    (Adv.run seq).length = seq.length - 2 ∧
    (∀ t ∈ Adv.run seq, TriDistinct t ∧ (∃ q, TriIn (posOf seq) t q) ∧
      ∀ q, TriIn (posOf seq) t q → InsidePoly seq q) ∧
    (Adv.run seq).Pairwise (fun t t' => ∀ q, ¬ (TriIn (posOf seq) t q ∧ TriIn (posOf seq) t' q)) ∧
    (∀ q, InsidePoly seq q → ∃ t ∈ Adv.run seq, TriInC (posOf seq) t q) ∧
    sumW (posOf seq) (Adv.run seq) = shoelaceW (polygonOf seq) := by
  refine ⟨(run_spec seq).1 h, fun t ht => ⟨(run_spec seq).2 t ht, ?_, adv_triangles_inside seq h hval hnc t ht⟩,
    adv_triangles_disjoint seq h hval hnc, adv_triangles_cover seq h hval hnc, adv_run_area_eq seq h hval⟩
  exact ⟨_, triangle_has_interior _ _ _ (adv_triangles_oriented seq hval.1 hnc t ht)⟩

end Geometry

section Examples

noncomputable instance (seq : List (P ℚ × Bool)) (q : P ℚ) : Decidable (InsidePoly seq q) := by
  unfold InsidePoly; infer_instance
noncomputable instance (pos : Nat → P ℚ) (t : Tri) (q : P ℚ) : Decidable (TriIn pos t q) := by
  unfold TriIn; infer_instance

/-- the polygon `exC` of `Props/C02f.lean`: after its five middle vertices the left chain `1, 3, 5`
is buffered (three ids); `end` flushes it into the fan triangle `(1, 3, 5)` -/
def exC : List (P ℚ × Bool) :=
  [(⟨0, 0⟩, true), (⟨-10, 1⟩, true), (⟨10, 2⟩, false), (⟨-12, 3⟩, true), (⟨11, 4⟩, false), (⟨-13, 5⟩, true),
   (⟨0, 7⟩, true)]

example : SweepValid exC ∧ NoCollinear exC ∧ 2 ≤ exC.length := by decide +kernel

example : (midsOf exC).length = 5 ∧ (advState exC 5).left.events = [1, 3, 5] ∧
    flushLevels (advState exC 5).left.events.toArray 3 false 4 1 = [(1, 3, 5)] := by decide +kernel

/-- the output of the advanced tessellator on `exC`; the point `(-47/4, 3)` is strictly inside the polygon
and strictly inside the fan triangle `(1, 3, 5)` only -/
example : InsidePoly exC ⟨-47/4, 3⟩ ∧ (1, 3, 5) ∈ Adv.run exC ∧ TriIn (posOf exC) (1, 3, 5) ⟨-47/4, 3⟩ := by
  decide +kernel

/-- a strictly sorted, strictly convex chain of 6 points on a parabola (left side): the hypotheses
of `flush_fan_is_ear_sequence`, and its fan -/
def parab (i : Nat) : P ℚ := ⟨-((i : ℚ) * (10 - i)), i⟩

example : (∀ a b, a < b → b < 6 → After (parab (#[0, 1, 2, 3, 4, 5].getD b 0)) (parab (#[0, 1, 2, 3, 4, 5].getD a 0))) ∧
    (∀ a b d, a < b → b < d → d < 6 → 0 < sg (!false) * wind (parab (#[0, 1, 2, 3, 4, 5].getD a 0))
      (parab (#[0, 1, 2, 3, 4, 5].getD b 0)) (parab (#[0, 1, 2, 3, 4, 5].getD d 0))) := by
  have h1 : ∀ b, b < 6 → ∀ a, a < b → After (parab (#[0, 1, 2, 3, 4, 5].getD b 0)) (parab (#[0, 1, 2, 3, 4, 5].getD a 0)) := by
    decide +kernel
  have h2 : ∀ d, d < 6 → ∀ b, b < d → ∀ a, a < b → 0 < sg (!false) * wind (parab (#[0, 1, 2, 3, 4, 5].getD a 0))
      (parab (#[0, 1, 2, 3, 4, 5].getD b 0)) (parab (#[0, 1, 2, 3, 4, 5].getD d 0)) := by
    decide +kernel
  exact ⟨fun a b hab hb => h1 b hb a hab, fun a b d hab hbd hd => h2 d hd b hbd a hab⟩

example : flushLevels #[0, 1, 2, 3, 4, 5] 6 false 7 1 = [(0, 1, 2), (2, 3, 4), (0, 4, 5), (0, 2, 4)] := by decide

end Examples

end Lyon.C02g
