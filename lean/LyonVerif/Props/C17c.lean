/-
  C17c — the parser's calls are a reference interpretation of the command list, for ALL texts
  (arcs included, attributes included).

  `parse_is_parser_semantics`: for every text, attribute count and stop character, the calls
  `PathParser::parse` sends to its builder — points AND custom attributes, success or error, the
  clean-up `end(false)` included — are `refBuild` of `parseACmds`: the reference interpreter
  (`Lemmas/ParserConcreteRef.lean`) applied to the list of `SvgPathBuilder` commands the text
  stands for (`parseACmds` = the `parseCmds` of C17b, each command with the attribute buffer
  after it — the values written after its end point, for `Z` the previous command's:
  `parseACmds_commands`).

  In that reference every command except `A`/`a` is the SVG reference semantics of C15
  (`Svg.Spec.step`) with the command's attributes attached to its call; `A`/`a` denotes exactly what
  crates/extra/src/parser.rs does (`ref_arc_denotation`).  How this differs from what `WithSvg`
  (`SvgPathBuilder::arc_to`, `Model/Path/Svg.lean` / `Svg.Spec.arcOut`) does with the same arc:

  |                         | parser.rs (`refArc`)                      | `WithSvg::arc_to` (`Spec.arcTo`)            |
  |-------------------------|--------------------------------------------|---------------------------------------------|
  | outside a sub-path      | rejected (`MissingMoveTo`), never read     | begins a sub-path at the arc's start point  |
  | `is_straight_line`      | `line_to(to)` — the SAME (`ref_arc_straight_is_withsvg`)                               ||
  | conversion              | `svg_arc.to_arc()` pieces at `f32`, with   | `to_arc()`, then `arc(center, …)`: start    |
  |                         | `t` ranges                                 | angle recomputed from the current point,     |
  |                         |                                            | pieces at `f64` cast back, no `t`            |
  | before the pieces       | nothing                                    | `line_to(arc_start)` if the computed start  |
  |                         |                                            | is `< 0.1` away (`near`), early return if    |
  |                         |                                            | the current point is the centre (`skip`)     |
  | current point afterwards| the operand `to` itself                    | end point of the LAST PIECE (or `arc_start`) |
  | attributes              | `prev*(1-t_i) + attrs*t_i` per piece       | none (`WithSvg` has no custom attributes)    |
  | smooth command after it | reflects nothing                           | reflects nothing (same, since 059d9c0c)      |

  `ref_arc_vs_withsvg` states the call/current-point rows for the same piece list;
  `arc_differs_from_withsvg_witness` is a concrete text on which the two disagree (the `T` after the
  arc starts from `to` in the parser, from the last piece's end in `WithSvg`).
-/
import LyonVerif.Lemmas.ParserConcreteRef
import LyonVerif.Lemmas.ParserConcrete
import LyonVerif.Props.C17

set_option linter.unusedSectionVars false

namespace Lyon.C17
open Lyon Lyon.Parser Lyon.Path

section ref
variable {ν : Type} [Add ν] [Sub ν]

/-- for EVERY text the parser's calls, attributes included, are the
reference interpreter on the command list read.  `ho`: `N.add`/`N.sub` are `+`/`-` and `+`
commutes; `hpos`: the arc conversion does not depend on the read position (it has no access to
it); `hp`: the arc conversion did not panic (discharged for the concrete parser below). -/
theorem parse_is_parser_semantics {N : Num ν} (ho : Ops N)
    (hpos : ∀ p q a, N.arc p a = N.arc q a) (na : Nat) (stop : Option Char) (inp : List Char)
    (hp : (parse N na stop inp).outcome ≠ .panic) :
    (parse N na stop inp).trace = refBuild N (parseACmds N na stop inp) :=
  loop_ref ho hpos na stop (inp.length + 1) (St.init N) (Src.new inp).skipWs _ (relA_init N) hp
    (parse_total N na stop inp)

/-- the command list of `parse_is_parser_semantics` is the one of C17b (`parseCmds`), each command
paired with its attribute values -/
theorem parseACmds_commands (N : Num ν) (na : Nat) (stop : Option Char) (inp : List Char) :
    (parseACmds N na stop inp).map Prod.fst = parseCmds N na stop inp :=
  loopACmds_fst N na stop _ _ _

/-- what an arc command with absolute target `p` and attributes `a` denotes
in the reference, inside an open sub-path: the current point becomes `p`, nothing is remembered
for smooth commands, the attribute buffer becomes `a`; the calls are one `line_to(p, a)` if
`is_straight_line`, else one `quadratic_bezier_to(ctrl_i, to_i, prev*(1-t_i) + a*t_i)` per piece
of the arc conversion — nothing else.  (`relArcTo r v` is `arcTo r (current + v)`.) -/
theorem ref_arc_denotation (N : Num ν) (s : RSt ν) (r : RawArc ν) (p v : Svg.Pt ν) (a : List ν)
    (hop : s.sp.isOpen = true) :
    refStep N s (.arcTo r p, a) =
      (({ sp := { s.sp with cur := p, prev := .arc }, attrs := a } : RSt ν),
       if N.arcStraight (arcArgsOf s r p a) then [.line (ps p) a]
       else
         match N.arc 0 (arcArgsOf s r p a) with
         | some qs => qs.map (fun q => Call.quad q.1 q.2.1 (interpAttrs N s.attrs a q.2.2))
         | none => []) ∧
    refStep N s (.relArcTo r v, a) = refStep N s (.arcTo r (s.sp.cur + v), a) :=
  ⟨refArc_open N s r p a hop, rfl⟩

/-- a straight-line arc is the same in both: `line_to(to)`, current point `to` -/
theorem ref_arc_straight_is_withsvg (N : Num ν) (s : RSt ν) (r : RawArc ν) (p : Svg.Pt ν)
    (a : List ν) (hop : s.sp.isOpen = true) (hs : N.arcStraight (arcArgsOf s r p a) = true) :
    (refArc N s r p a).2.map eraseCall = (s.sp.arcTo p .straight).2 ∧
    (refArc N s r p a).1.sp.cur = (s.sp.arcTo p .straight).1.cur := by
  rw [refArc_open N s r p a hop]
  simp [hs, Svg.Spec.arcTo, Svg.Spec.draw, hop, eraseCall, sp, ps]

/-- a curved arc, the SAME piece list `qs` given to both.  `WithSvg`
(reference semantics `Spec.arcOut` on `.curve start near pieces`) sends the parser's calls
preceded by `line_to(start)` when `near`, and moves the current point to the end of the last
piece (`lastTo`); the parser sends the pieces only and moves the current point to `p`. -/
theorem ref_arc_vs_withsvg (N : Num ν) (s : RSt ν) (r : RawArc ν) (p : Svg.Pt ν) (a : List ν)
    (hop : s.sp.isOpen = true) (hs : N.arcStraight (arcArgsOf s r p a) = false)
    (qs : List (Parser.Pt ν × Parser.Pt ν × ν)) (harc : N.arc 0 (arcArgsOf s r p a) = some qs)
    (start : Svg.Pt ν) (near : Bool) :
    (s.sp.arcOut (.curve start near (qs.map fun q => (sp q.1, sp q.2.1)))).2 =
      (if near then [.line start ()] else []) ++ (refArc N s r p a).2.map eraseCall ∧
    (s.sp.arcOut (.curve start near (qs.map fun q => (sp q.1, sp q.2.1)))).1.cur =
      Svg.lastTo (if near then start else s.sp.cur) (qs.map fun q => (sp q.1, sp q.2.1)) ∧
    (refArc N s r p a).1.sp.cur = p := by
  rw [refArc_open N s r p a hop]
  simp [hs, harc, Svg.Spec.arcOut, hop, Svg.quadCalls, eraseCall, List.map_map, Function.comp_def]

end ref

section concrete
variable {α : Type} [Scalar α] [Transc α] [ArcConv.Eps α]

/-- `parse_is_parser_semantics` for the concrete parser (`concreteNum`): its arc conversion ignores
the read position by construction and does not panic (`NoNaNLaws`), so only commutativity of `+` is
assumed. -/
theorem parse_is_parser_semantics_concrete (h : NoNaNLaws α) (hcomm : ∀ a b : α, a + b = b + a)
    (ofLexeme : List Char → α) (na : Nat) (stop : Option Char) (inp : List Char) :
    (parse (concreteNum ofLexeme) na stop inp).trace =
      refBuild (concreteNum ofLexeme) (parseACmds (concreteNum ofLexeme) na stop inp) :=
  parse_is_parser_semantics (N := concreteNum ofLexeme) ⟨fun _ _ => rfl, fun _ _ => rfl, hcomm⟩
    (fun _ _ _ => rfl) na stop inp
    (parse_no_panic (concreteNum ofLexeme) na stop inp (concreteNum_arc_ne_none h ofLexeme))

end concrete

/-- integers; every arc is curved and has the single piece `ctrl (1,1) → (9,9)`, `t = 1` -/
def arcNum : Num Int :=
  { intNum with arcStraight := fun _ => false, arc := fun _ _ => some [((1, 1), (9, 9), 1)] }

theorem ops_arcNum : Ops arcNum := ⟨fun _ _ => rfl, fun _ _ => rfl, Int.add_comm⟩

/-- hypotheses of `parse_is_parser_semantics` -/
example : (∀ p q a, arcNum.arc p a = arcNum.arc q a) ∧
    (parse arcNum 1 none "M0 0 3A1 1 0 0 1 5 5 7T7 7 8".toList).outcome ≠ .panic :=
  ⟨fun _ _ _ => rfl, parse_no_panic _ _ _ _ fun _ _ => nofun⟩

/-- … and what it says there: the piece carries `3*(1-1) + 7*1`, the `T` starts from `to = (5,5)` -/
example :
    (parse arcNum 1 none "M0 0 3A1 1 0 0 1 5 5 7T7 7 8".toList).trace =
      [.begin (0, 0) [3], .quad (1, 1) (9, 9) [7], .quad (5, 5) (7, 7) [8], .end_ false] ∧
    refBuild arcNum (parseACmds arcNum 1 none "M0 0 3A1 1 0 0 1 5 5 7T7 7 8".toList) =
      [.begin (0, 0) [3], .quad (1, 1) (9, 9) [7], .quad (5, 5) (7, 7) [8], .end_ false] := by
  decide +kernel

/-- the `WithSvg` geometry with the same single piece, starting at the current point -/
def arcGeo : Svg.Geo Int (RawArc Int) :=
  ⟨fun _ _ => .skip, fun _ cur _ => .arc (.curve cur false [(⟨1, 1⟩, ⟨9, 9⟩)])⟩

/-- on `M0 0A1 1 0 0 1 5 5T7 7` the parser's calls are not the
ones `WithSvg` sends for the same commands and the same arc piece: the smooth quadratic after the
arc starts from the operand `to = (5,5)` in the parser and from the piece's end `(9,9)` in
`WithSvg`. -/
theorem arc_differs_from_withsvg_witness :
    (parse arcNum 0 none "M0 0A1 1 0 0 1 5 5T7 7".toList).trace.map eraseCall =
      [.begin ⟨0, 0⟩ (), .quad ⟨1, 1⟩ ⟨9, 9⟩ (), .quad ⟨5, 5⟩ ⟨7, 7⟩ (), .end_ false] ∧
    Svg.runBuild arcGeo 0 (parseCmds arcNum 0 none "M0 0A1 1 0 0 1 5 5T7 7".toList) =
      [.begin ⟨0, 0⟩ (), .quad ⟨1, 1⟩ ⟨9, 9⟩ (), .quad ⟨9, 9⟩ ⟨7, 7⟩ (), .end_ false] := by
  decide +kernel

end Lyon.C17
