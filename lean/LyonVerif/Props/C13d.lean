/-
  C13d — towards the oracle's `direction` clause as a theorem: the angular velocity of the quadratic
  piece about the centre, and the angular offset from the arc's own parametrisation.

  Setting: unit circle, piece from angle 0 to `δ`, `s = sin(δ/2)`, `c = cos(δ/2)`, `τ = tan(δ/2)`;
  the quadratic is `Q(t) = (qX t, qY t) = (1 − 2s²t², 2τ(t − t²) + 2sc·t²)` (`quad_unit_coords_real`:
  these ARE the coordinates of lyon's piece `quadAt (unitArc arc) 0 δ`; other start angles are
  rotations).  Its polar angle is `θ(t) = arctan(qY/qX)` (`qX > 0`), the arc's angle at the same
  parameter is `t·δ`; the oracle's clause bounds `|θ(t) − t·δ|` by `0.03·|δ|` (+ rounding).

  * `quad_angular_velocity_real` (exact): `θ'(t) = 2τ·(1 − 2s²·t(1−t)) / (1 + (2sτ·t(1−t))²)` — it
    starts and ends at `2 tan(δ/2)` (> δ) and is smallest at `t = 1/2`.
  * `angle_offset_of_rate` (mean value theorem): if `|θ'(t) − δ| ≤ A` on `[0,1]` and `θ(0) = 0`,
    `θ(1) = δ`, then `|θ(t) − t·δ| ≤ A·min(t, 1−t) ≤ A/2`.
  The numeric step — `|θ'(t) − δ| ≤ 0.06·|δ|` from bounds between `tan(δ/2)`, `sin δ` and `δ` — and
  the resulting bound `|θ(t) − t·δ| ≤ 0.03·|δ|` for the quadratics are in
  `Lemmas/SvgArcRealOffset.lean` and `Props/C13e.lean`; the cubic is not done.
  Measured true maxima of `|θ(t) − tδ|/|δ|`: `5.43·10⁻³` (quadratics, `δ = π/4`, `t ≈ 0.21`),
  `3.89·10⁻³` (cubics, `δ = π/2`, `t ≈ 0.81`); the offset behaves like `0.008·δ³` resp. `0.002·δ³`.
  The oracle's constant `0.03` is therefore neither too tight nor contradicted.
-/
import LyonVerif.Lemmas.SvgArcRealCubic
import Mathlib.Analysis.SpecialFunctions.Trigonometric.ArctanDeriv
import Mathlib.Analysis.Calculus.MeanValue

set_option linter.unusedVariables false
set_option linter.unusedSimpArgs false

namespace Lyon.C13
open Lyon Scalar ArcConv

/-- coordinates of the quadratic piece of the unit circle starting at angle 0 -/
noncomputable def qX (s t : ℝ) : ℝ := 1 - (2 * (s * s)) * t ^ 2
noncomputable def qY (s c τ t : ℝ) : ℝ := (2 * τ) * (t - t ^ 2) + (2 * (s * c)) * t ^ 2

/-- these are the coordinates of lyon's piece `quadAt (unitArc arc) 0 δ` -/
theorem quad_unit_coords_real (arc : Arc ℝ) (d t : ℝ) (hd : |d| ≤ Real.pi / 4) :
    (quadAt (unitArc arc) 0 d).sample t
      = ⟨qX (Real.sin (d / 2)) t, qY (Real.sin (d / 2)) (Real.cos (d / 2)) (Real.tan (d * Scalar.half)) t⟩ := by
  rw [quadAt_sample_real, ellMap_unitArc, quadFrame_sample]
  apply P.ext' <;>
  · simp only [Arc.rotate, qX, qY, transc_cos_real, transc_sin_real, transc_tan_real, Real.cos_zero,
      Real.sin_zero]
    ring

theorem qX_pos (d x : ℝ) (hd : |d| ≤ Real.pi / 4) (h0 : 0 ≤ x) (h1 : x ≤ 1) :
    0 < qX (Real.sin (d / 2)) x := by
  obtain ⟨_, hcos, _, _, _, hK⟩ := half_angle_real d hd
  have := mul_le_of_le_one_right (mul_self_nonneg (Real.sin (d / 2))) (pow_le_one₀ h0 h1 : x ^ 2 ≤ 1)
  unfold qX
  linarith

/-- mean value theorem: a function with `θ(0) = 0`, `θ(1) = δ` whose derivative stays within `A` of
`δ` on `[0,1]` is within `A·min(t, 1−t)` of `t·δ` -/
theorem angle_offset_of_rate (θ θ' : ℝ → ℝ) (d A : ℝ)
    (hder : ∀ t ∈ Set.Icc (0 : ℝ) 1, HasDerivAt θ (θ' t) t)
    (h0 : θ 0 = 0) (h1 : θ 1 = d) (hA : ∀ t ∈ Set.Icc (0 : ℝ) 1, |θ' t - d| ≤ A)
    (t : ℝ) (ht : t ∈ Set.Icc (0 : ℝ) 1) :
    |θ t - t * d| ≤ A * t ∧ |θ t - t * d| ≤ A * (1 - t) ∧ |θ t - t * d| ≤ A / 2 := by
  have hψ : ∀ x ∈ Set.Icc (0 : ℝ) 1, HasDerivWithinAt (fun x => θ x - x * d) (θ' x - d) (Set.Icc 0 1) x := by
    intro x hx
    have := (hder x hx).sub ((hasDerivAt_id' x).mul_const d)
    simp only [one_mul] at this
    exact this.hasDerivWithinAt
  have hb : ∀ x ∈ Set.Icc (0 : ℝ) 1, ‖θ' x - d‖ ≤ A := fun x hx => by rw [Real.norm_eq_abs]; exact hA x hx
  have hz : (0 : ℝ) ∈ Set.Icc (0 : ℝ) 1 := ⟨le_refl _, zero_le_one⟩
  have ho : (1 : ℝ) ∈ Set.Icc (0 : ℝ) 1 := ⟨zero_le_one, le_refl _⟩
  have e1 := (convex_Icc (0 : ℝ) 1).norm_image_sub_le_of_norm_hasDerivWithin_le hψ hb hz ht
  have e2 := (convex_Icc (0 : ℝ) 1).norm_image_sub_le_of_norm_hasDerivWithin_le hψ hb ht ho
  simp only [Real.norm_eq_abs, h0, zero_mul, sub_zero] at e1
  simp only [Real.norm_eq_abs, h1, one_mul, sub_self] at e2
  rw [abs_of_nonneg ht.1] at e1
  rw [abs_of_nonneg (sub_nonneg.mpr ht.2), zero_sub, abs_neg] at e2
  exact ⟨e1, e2, by linarith only [e1, e2]⟩

/-- exact angular velocity of the quadratic piece about the centre of the circle -/
theorem quad_angular_velocity_real (s c τ t : ℝ) (hu : c * c + s * s = 1) (hτ : τ * c = s)
    (hX : qX s t ≠ 0) :
    HasDerivAt (fun t => Real.arctan (qY s c τ t / qX s t))
      (2 * τ * (1 - 2 * (s * s) * (t * (1 - t))) / (1 + (2 * s * τ * (t * (1 - t))) ^ 2)) t := by
  have dX : HasDerivAt (fun t => qX s t) (-(2 * (s * s) * (2 * t))) t := by
    have := (((hasDerivAt_id' t).pow 2).const_mul (2 * (s * s))).const_sub 1
    refine this.congr_deriv ?_
    simp
  have dY : HasDerivAt (fun t => qY s c τ t) (2 * τ * (1 - 2 * t) + 2 * (s * c) * (2 * t)) t := by
    have h2 := (hasDerivAt_id' t).pow 2
    have := (((hasDerivAt_id' t).sub h2).const_mul (2 * τ)).add (h2.const_mul (2 * (s * c)))
    refine this.congr_deriv ?_
    simp
  have key := quad_unit_dev c s τ t hu hτ
  have hden : 1 + (qY s c τ t / qX s t) ^ 2 = (qX s t ^ 2 + qY s c τ t ^ 2) / qX s t ^ 2 := by
    field_simp
  have hrho : qX s t ^ 2 + qY s c τ t ^ 2 = 1 + (2 * s * τ * (t * (1 - t))) ^ 2 := by
    simp only [qX, qY]
    linear_combination key
  have hnum : (2 * τ * (1 - 2 * t) + 2 * (s * c) * (2 * t)) * qX s t - qY s c τ t * -(2 * (s * s) * (2 * t))
      = 2 * τ * (1 - 2 * (s * s) * (t * (1 - t))) := by
    simp only [qX, qY]
    subst hτ
    linear_combination (4 * t * τ) * hu
  refine (dY.div dX hX).arctan.congr_deriv ?_
  rw [Pi.div_apply, hden, hnum, hrho]
  have hpos : (0 : ℝ) < 1 + (2 * s * τ * (t * (1 - t))) ^ 2 := by positivity
  field_simp

/-- `angle_offset_of_rate`: the arc's own angle `θ(t) = t·δ` has rate `δ`, offset 0 -/
example (d : ℝ) (t : ℝ) (ht : t ∈ Set.Icc (0 : ℝ) 1) : |(fun x : ℝ => x * d) t - t * d| ≤ 0 / 2 :=
  (angle_offset_of_rate (fun x => x * d) (fun _ => d) d 0
    (fun x _ => by simpa using (hasDerivAt_id' x).mul_const d) (by simp) (by simp)
    (fun x _ => by simp) t ht).2.2

/-- `quad_angular_velocity_real`: the hypotheses hold for the half-angle data of every step up to 45° -/
example (d t : ℝ) (hd : |d| ≤ Real.pi / 4) (ht0 : 0 ≤ t) (ht1 : t ≤ 1) :
    Real.cos (d / 2) * Real.cos (d / 2) + Real.sin (d / 2) * Real.sin (d / 2) = 1
    ∧ Real.tan (d * Scalar.half) * Real.cos (d / 2) = Real.sin (d / 2)
    ∧ qX (Real.sin (d / 2)) t ≠ 0 := by
  obtain ⟨hu, _, _, htan, _⟩ := half_angle_real d hd
  exact ⟨hu, htan, (qX_pos d t hd ht0 ht1).ne'⟩

end Lyon.C13
