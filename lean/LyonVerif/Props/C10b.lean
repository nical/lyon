/-
  C10 — the analytic half of "curve operations are consistent with evaluation":
  the derivative is the slope of the sampled curve (`HasDerivAt` over ℝ), and the length of a
  quadratic (closed form of `QuadraticBezierSegment::length`, `Model/Geom/Length.lean`) is the
  arclength integral, hence additive under splitting.

  What is proved: `derivative_hasDerivAt` (Seg/Quad/Cubic, from the Taylor identities of
  `Props/C10.lean`); `quad_length_closed_form`: in the branch where the code evaluates its closed
  form with the logarithm, `q.length = ∫₀¹ |Q'(t)| dt` over ℝ (fundamental theorem of calculus on the
  code's primitive, `quad_primitive_hasDerivAt`); `length_additive_of_integral` (exact
  arclength of the pieces of `split(t)` adds up, all quadratics) and `quad_length_additive` (the
  code's `length` is exactly additive when all three segments are in the closed-form branch).

  The model is that of /repo 7d678f98 (`sqrt(a+b+c)` computed as `|to − ctrl|`, `2a+b` as
  `2 d2·(to − ctrl)`, sharp-turn test `b·a^(-1/2) + 2√c ≤ EPSILON·2√c` relative to the size of the
  curve, guarded logarithm `num > 0`, quadrature on differences, `a ≤ 1e-4·c`).  Over ℝ these
  operands ARE `a+b+c` and `2a+b` (`quad_len_d3_sq`, `quad_len_d23`: ring identities) and the guard
  `num > 0` is implied by the sharp-turn test (`closedForm_num_pos`), so `ClosedFormBranch` has no
  extra hypothesis.  What that form guarantees, over any ordered field with `sqrt` a parameter:
  `quad_length_point` (a point has length 0), `quad_length_additive_ends` (additive over `split(0)`
  and `split(1)` for EVERY quadratic), `lengthStraight_translate` / `quad_length_translate` (the
  result depends on differences of the control points only).

  What is NOT proved (named gaps, covered by the oracle's tolerance only):
  * the "almost straight" branch (`a ≤ 1e-4·c`) is a 3-point Gauss–Legendre quadrature — an
    approximation by design, no exact statement exists (beyond the point curve);
  * the "sharp turn" branch (`b·a^(-1/2) + 2√c ≤ EPSILON·2√c`) drops the logarithmic term; that is
    exact only at a true cusp (`4ac = b²`), otherwise an `O(EPSILON)` relative approximation;
  * `a = 0` (degree-one parameterisation) is excluded by `ClosedFormBranch` (`a^(-1/2)` is taken);
    with `FlatConst.value 1 4 > 0` such a curve is in the quadrature branch anyway;
  * cubic / arc `approximate_length` are sums over an approximation and have no exact counterpart;
  * IEEE rounding, overflow and underflow are outside the theorems (open finding
    C10-quad-length-underflow: `4ca − b²` underflows in f32 for curves smaller than ~5e-8).

  Everything is stated about the model `def`s of `Model/Geom/{Basic,Length}.lean` instantiated at
  `ℝ` (the same `def`s the driver runs at `Float32`/`Float` and compares bit-for-bit with lyon).
-/
import LyonVerif.Props.C10
import LyonVerif.Model.Geom.Length
import LyonVerif.Lemmas.ArcLength

set_option linter.unusedSectionVars false

-- again, after Props/C10.lean: `geom_all` tags what exists when it runs, and Model/Geom/Length.lean adds to `Lyon.Quad`
geom_all Lyon.Quad

namespace Lyon.C10
open Lyon Scalar Lyon.ArcLen

theorem seg_derivative_hasDerivAt (s : Seg ℝ) (t : ℝ) (i : Bool) :
    HasDerivAt (fun u => coord i (s.sample u)) (coord i s.toVector) t := by
  refine hasDerivAt_of_taylor _ t (coord i (s.sample t)) _ 0 0 fun h => ?_
  rw [seg_derivative_slope s t h]; simp only [coord_add, coord_smul]; ring

theorem quad_derivative_hasDerivAt (q : Quad ℝ) (t : ℝ) (i : Bool) :
    HasDerivAt (fun u => coord i (q.sample u)) (coord i (q.derivative t)) t := by
  refine hasDerivAt_of_taylor _ t (coord i (q.sample t)) _ (coord i ((q.a - q.c.smul 2) + q.b)) 0 fun h => ?_
  rw [quad_derivative_slope q t h]; simp only [coord_add, coord_smul]; ring

theorem cubic_derivative_hasDerivAt (c : Cubic ℝ) (t : ℝ) (i : Bool) :
    HasDerivAt (fun u => coord i (c.sample u)) (coord i (c.derivative t)) t := by
  refine hasDerivAt_of_taylor _ t (coord i (c.sample t)) _
    (coord i (((c.a - c.c1.smul 2) + c.c2).smul (3 * (1 - t)) + ((c.c1 - c.c2.smul 2) + c.b).smul (3 * t)))
    (coord i (((c.b - c.c2.smul 3) + c.c1.smul 3) - c.a)) fun h => ?_
  rw [cubic_derivative_slope c t h]; simp only [coord_add, coord_smul]

/-- The property's "the derivative matches the slope of the sampled curve" in analytic form, for
the three polynomial segment types at once; `dx`/`dy` and `x`/`y` are the same numbers
(`quad_dxdy_components`, `quad_xy_components`, …), so the scalar accessors are covered too. -/
theorem derivative_hasDerivAt :
    (∀ (s : Seg ℝ) (t : ℝ), HasDerivAt (fun u => (s.sample u).x) s.toVector.x t ∧
        HasDerivAt (fun u => (s.sample u).y) s.toVector.y t) ∧
    (∀ (q : Quad ℝ) (t : ℝ), HasDerivAt (fun u => (q.sample u).x) (q.derivative t).x t ∧
        HasDerivAt (fun u => (q.sample u).y) (q.derivative t).y t) ∧
    (∀ (c : Cubic ℝ) (t : ℝ), HasDerivAt (fun u => (c.sample u).x) (c.derivative t).x t ∧
        HasDerivAt (fun u => (c.sample u).y) (c.derivative t).y t) :=
  ⟨fun s t => ⟨seg_derivative_hasDerivAt s t false, seg_derivative_hasDerivAt s t true⟩,
    fun q t => ⟨quad_derivative_hasDerivAt q t false, quad_derivative_hasDerivAt q t true⟩,
    fun c t => ⟨cubic_derivative_hasDerivAt c t false, cubic_derivative_hasDerivAt c t true⟩⟩

theorem quad_dx_dy_hasDerivAt (q : Quad ℝ) (t : ℝ) :
    HasDerivAt q.x (q.dx t) t ∧ HasDerivAt q.y (q.dy t) t := by
  have ex : q.x = fun u => (q.sample u).x := funext fun u => (quad_xy_components q u).1
  have ey : q.y = fun u => (q.sample u).y := funext fun u => (quad_xy_components q u).2
  rw [ex, ey, (quad_dxdy_components q t).1, (quad_dxdy_components q t).2]
  exact ⟨quad_derivative_hasDerivAt q t false, quad_derivative_hasDerivAt q t true⟩

theorem cubic_dx_dy_hasDerivAt (c : Cubic ℝ) (t : ℝ) :
    HasDerivAt c.x (c.dx t) t ∧ HasDerivAt c.y (c.dy t) t := by
  have ex : c.x = fun u => (c.sample u).x := funext fun u => (cubic_xy_components c u).1
  have ey : c.y = fun u => (c.sample u).y := funext fun u => (cubic_xy_components c u).2
  rw [ex, ey, (cubic_dxdy_components c t).1, (cubic_dxdy_components c t).2]
  exact ⟨cubic_derivative_hasDerivAt c t false, cubic_derivative_hasDerivAt c t true⟩

/-! `QuadraticBezierSegment::length` is the arclength integral.

`sqrt`, `powf`, `ln` are parameters of the model (`[Transc ℝ]`); the theorems assume they are the
real functions (`IsRealTransc`). `[FlatConst ℝ]` (lyon's `EPSILON`, `S::value`) stays arbitrary. -/

open Real

/-- the model's libm parameters are the real `√`, `x^y`, `log` -/
structure IsRealTransc [Transc ℝ] : Prop where
  sqrt_eq : ∀ x : ℝ, Transc.sqrt x = √x
  pow_eq : ∀ x y : ℝ, Transc.pow x y = x ^ y
  ln_eq : ∀ x : ℝ, Transc.ln x = Real.log x

/-- `|Q'(t)|`: euclidean norm of `QuadraticBezierSegment::derivative(t)` -/
noncomputable def speed (q : Quad ℝ) (t : ℝ) : ℝ :=
  √((q.derivative t).x * (q.derivative t).x + (q.derivative t).y * (q.derivative t).y)

/-- exact arclength of `q` between parameters `x` and `y` -/
noncomputable def arclen (q : Quad ℝ) (x y : ℝ) : ℝ := ∫ t in x..y, speed q t

section
variable [Transc ℝ] [FlatConst ℝ]

/-- the code's coefficients: `|Q'(t)|² = 4·(a t² + b t + c)` with `a = |d2|²`, `b = 2 d2·d1`, `c = |d1|²` -/
theorem quad_speed_eq (q : Quad ℝ) (t : ℝ) : speed q t = 2 * √(qP q.lenA q.lenB q.lenC t) := by
  have e : (q.derivative t).x * (q.derivative t).x + (q.derivative t).y * (q.derivative t).y
      = (2 * 2) * qP q.lenA q.lenB q.lenC t := by
    simp only [qP, geom]; ring
  rw [speed, e, Real.sqrt_mul (by norm_num), Real.sqrt_mul_self (by norm_num)]

/-- Lagrange: `4ac − b² = 4·(d2 × d1)² ≥ 0` (Cauchy–Schwarz for the code's coefficients) -/
theorem quad_len_disc (q : Quad ℝ) : q.lenB * q.lenB ≤ 4 * q.lenA * q.lenC := by
  have e : 4 * q.lenA * q.lenC - q.lenB * q.lenB = 4 * (q.lenD2.cross q.lenD1 * q.lenD2.cross q.lenD1) := by
    simp only [geom]; ring
  nlinarith [mul_self_nonneg (q.lenD2.cross q.lenD1)]

/-- The code takes the closed-form branch with the logarithm: not "almost straight", a genuine
parabola (`a > 0`), and not a "sharp turn" (`b·a^(-1/2) + 2√c > EPSILON·2√c`, the test is relative
to the size of the curve).  The other half of the code's test, `num > 0`, is not a hypothesis: it
follows (`closedForm_num_pos`). -/
def ClosedFormBranch (q : Quad ℝ) : Prop :=
  q.almostStraight = false ∧ 0 < q.lenA ∧
    FlatConst.epsilon * (2 * √q.lenC) < q.lenB * (√q.lenA)⁻¹ + 2 * √q.lenC

/-- bridge to the code's cancellation-free operands: `|to − ctrl|² = a + b + c` -/
theorem quad_len_d3_sq (q : Quad ℝ) : q.lenD3.sqLen = q.lenA + q.lenB + q.lenC := by
  simp only [geom]; ring

/-- bridge: `2 d2·(to − ctrl) = 2a + b` -/
theorem quad_len_d23 (q : Quad ℝ) : 2 * q.lenD2.dot q.lenD3 = 2 * q.lenA + q.lenB := by
  simp only [geom]; ring

/-- `sqr_abc = d3.length()` is `√(a + b + c)` -/
theorem quad_len_d3_len (hT : IsRealTransc) (q : Quad ℝ) : q.lenD3.len = √(q.lenA + q.lenB + q.lenC) := by
  rw [P.len, hT.sqrt_eq, quad_len_d3_sq]

/-- the code's two operands of the logarithm are `qG 0 / √a` and `qG 1 / √a` -/
theorem qG_ends {a b c e : ℝ} (ha : 0 < a) (he : 2 * e = 2 * a + b) :
    qG a b c 0 = √a * (b * (√a)⁻¹ + 2 * √c) ∧ qG a b c 1 = √a * (2 * e * (√a)⁻¹ + 2 * √(a + b + c)) := by
  have hr : 0 < √a := Real.sqrt_pos.mpr ha
  constructor
  · simp only [qG, qP, qdP]; field_simp; ring_nf
  · rw [he]; simp only [qG, qP, qdP]; field_simp; ring_nf

/-- the logarithm's numerator `num = 2 d2·d3 / √a + 2|d3|` is `qG 1 / √a`, positive as soon as the
"not a sharp turn" quantity `qG 0 / √a` is -/
theorem closedForm_num_pos {a b c e : ℝ} (ha : 0 < a) (hD : b * b ≤ 4 * a * c)
    (h0 : 0 < b * (√a)⁻¹ + 2 * √c) (he : 2 * e = 2 * a + b) :
    0 < 2 * e * (√a)⁻¹ + 2 * √(a + b + c) := by
  have hr : 0 < √a := Real.sqrt_pos.mpr ha
  obtain ⟨hG0, hG1⟩ := qG_ends (c := c) ha he
  have hG1pos : 0 < qG a b c 1 := G_pos ha hD (by rw [hG0]; exact mul_pos hr h0) zero_le_one
  rw [hG1] at hG1pos
  exact (mul_pos_iff_of_pos_left hr).mp hG1pos

/-- the closed form on coefficients is `qF 1 − qF 0` for the primitive `qF` of `Lemmas/ArcLength.lean`;
`s`, `e` are the code's cancellation-free operands `|to − ctrl|` and `d2·(to − ctrl)` -/
theorem lengthClosed_eq_primitive (hT : IsRealTransc) {a b c s e : ℝ} (ha : 0 < a) (hD : b * b ≤ 4 * a * c)
    (hε : 0 ≤ (FlatConst.epsilon : ℝ)) (hns : FlatConst.epsilon * (2 * √c) < b * (√a)⁻¹ + 2 * √c)
    (hs : s = √(a + b + c)) (he : 2 * e = 2 * a + b) :
    Quad.lengthClosed a b c s e = qF a b c 1 - qF a b c 0 := by
  subst hs
  have h5 : ((5:ℝ) / 10 ^ 1) = 1 / 2 := by norm_num
  have hr : 0 < √a := Real.sqrt_pos.mpr ha
  have hrr : √a * √a = a := Real.mul_self_sqrt ha.le
  have hG0pos : 0 < b * (√a)⁻¹ + 2 * √c :=
    lt_of_le_of_lt (mul_nonneg hε (mul_nonneg (by norm_num) (Real.sqrt_nonneg c))) hns
  have hnum : 0 < 2 * e * (√a)⁻¹ + 2 * √(a + b + c) := closedForm_num_pos ha hD hG0pos he
  have hbr : ¬ (b * (√a)⁻¹ + 2 * √c ≤ FlatConst.epsilon * (2 * √c)
      ∨ ¬ (0 < 2 * e * (√a)⁻¹ + 2 * √(a + b + c))) :=
    not_or.mpr ⟨not_le.mpr hns, not_not.mpr hnum⟩
  have hP0 : qP a b c 0 = c := by simp [qP]
  have hP1 : qP a b c 1 = a + b + c := by simp [qP]
  have hd0 : qdP a b 0 = b := by simp [qdP]
  have hd1 : qdP a b 1 = 2 * a + b := by simp [qdP]
  obtain ⟨hG0, hG1⟩ := qG_ends (c := c) ha he
  have hG0pos' : 0 < qG a b c 0 := by rw [hG0]; exact mul_pos hr hG0pos
  have hG1pos' : 0 < qG a b c 1 := G_pos ha hD hG0pos' zero_le_one
  have hlog : Real.log ((2 * e * (√a)⁻¹ + 2 * √(a + b + c)) / (b * (√a)⁻¹ + 2 * √c))
      = Real.log (qG a b c 1) - Real.log (qG a b c 0) := by
    rw [← Real.log_div hG1pos'.ne' hG0pos'.ne', hG0, hG1, mul_div_mul_left _ _ hr.ne']
  simp only [Quad.lengthClosed, geom, hT.sqrt_eq, hT.pow_eq, hT.ln_eq, Nat.cast_ofNat, Nat.cast_zero, h5,
    rpow_neg_half ha, if_neg hbr]
  rw [hlog, qF, qF, hP0, hP1, hd0, hd1]
  generalize Real.log (qG a b c 1) = L1
  generalize Real.log (qG a b c 0) = L0
  generalize √(a + b + c) = S1
  generalize √c = S0
  have ha' : a = √a * √a := hrr.symm
  generalize √a = r at *
  subst ha'
  field_simp
  ring

/-- in the closed-form branch the code's "not a sharp turn" quantity is `qG 0 / √a`, so `qG > 0` on `[0, ∞)` -/
theorem closedForm_G0_pos (q : Quad ℝ) (hε : 0 ≤ (FlatConst.epsilon : ℝ)) (h : ClosedFormBranch q) :
    0 < qG q.lenA q.lenB q.lenC 0 := by
  obtain ⟨_, ha, hns⟩ := h
  rw [(qG_ends (e := q.lenA + q.lenB / 2) ha (by ring)).1]
  exact mul_pos (Real.sqrt_pos.mpr ha) (lt_of_le_of_lt
    (mul_nonneg hε (mul_nonneg (by norm_num) (Real.sqrt_nonneg q.lenC))) hns)

/-- **The primitive used by the code differentiates to the speed** (algebraic core, independent of
the integral): for `t ≥ 0`, `d/dt qF(a,b,c)(t) = |Q'(t)|`. -/
theorem quad_primitive_hasDerivAt (q : Quad ℝ) (hε : 0 ≤ (FlatConst.epsilon : ℝ)) (h : ClosedFormBranch q)
    {t : ℝ} (ht : 0 ≤ t) : HasDerivAt (qF q.lenA q.lenB q.lenC) (speed q t) t := by
  rw [quad_speed_eq]
  exact hasDerivAt_F h.2.1 (quad_len_disc q) (G_pos h.2.1 (quad_len_disc q) (closedForm_G0_pos q hε h) ht)

theorem arclen_eq_primitive (q : Quad ℝ) (hε : 0 ≤ (FlatConst.epsilon : ℝ)) (h : ClosedFormBranch q)
    {x y : ℝ} (hx : 0 ≤ x) (hy : 0 ≤ y) :
    arclen q x y = qF q.lenA q.lenB q.lenC y - qF q.lenA q.lenB q.lenC x := by
  simp only [arclen, quad_speed_eq]
  exact integral_speed h.2.1 (quad_len_disc q) (closedForm_G0_pos q hε h) hx hy

/-- **`QuadraticBezierSegment::length` is the arclength**: whenever the code evaluates its closed
form with the logarithm (`ClosedFormBranch`), the value it returns equals `∫₀¹ |Q'(t)| dt` — over ℝ,
with `sqrt`/`powf`/`ln` the real functions. -/
theorem quad_length_closed_form (hT : IsRealTransc) (q : Quad ℝ) (hε : 0 ≤ (FlatConst.epsilon : ℝ))
    (h : ClosedFormBranch q) : q.length = ∫ t in (0:ℝ)..1, speed q t := by
  have e := arclen_eq_primitive q hε h (le_refl 0) zero_le_one
  rw [arclen] at e
  rw [e, Quad.length, h.1]
  exact lengthClosed_eq_primitive hT h.2.1 (quad_len_disc q) hε h.2.2 (quad_len_d3_len hT q)
    (quad_len_d23 q)

theorem arclen_add (q : Quad ℝ) (x y z : ℝ) : arclen q x y + arclen q y z = arclen q x z := by
  have hc : Continuous (speed q) := by
    rw [funext (quad_speed_eq q)]; exact continuous_speed _ _ _
  exact intervalIntegral.integral_add_adjacent_intervals (hc.intervalIntegrable _ _) (hc.intervalIntegrable _ _)

theorem speed_of_derivative_smul {q1 q2 : Quad ℝ} {u v k : ℝ} (hk : 0 ≤ k)
    (h : q1.derivative u = (q2.derivative v).smul k) : speed q1 u = k * speed q2 v := by
  have e : ∀ x y : ℝ, x * k * (x * k) + y * k * (y * k) = k * k * (x * x + y * y) := fun x y => by ring
  rw [speed, h, speed]
  simp only [P.smul]
  rw [e, Real.sqrt_mul (mul_self_nonneg k), Real.sqrt_mul_self hk]

theorem speed_split_left (q : Quad ℝ) {t : ℝ} (ht : 0 ≤ t) (u : ℝ) :
    speed (q.split t).1 u = t * speed q (t * u) :=
  speed_of_derivative_smul ht (by geom_ring)

theorem speed_split_right (q : Quad ℝ) {t : ℝ} (ht : t ≤ 1) (u : ℝ) :
    speed (q.split t).2 u = (1 - t) * speed q (t + (1 - t) * u) :=
  speed_of_derivative_smul (sub_nonneg.2 ht) (by geom_ring)

theorem arclen_split (q : Quad ℝ) {t : ℝ} (h0 : 0 ≤ t) (h1 : t ≤ 1) :
    arclen (q.split t).1 0 1 = arclen q 0 t ∧ arclen (q.split t).2 0 1 = arclen q t 1 := by
  constructor
  · simp only [arclen, speed_split_left q h0]
    rw [intervalIntegral.integral_const_mul, intervalIntegral.mul_integral_comp_mul_left]
    simp
  · simp only [arclen, speed_split_right q h1]
    rw [intervalIntegral.integral_const_mul, intervalIntegral.mul_integral_comp_add_mul]
    simp

/-- **Lengths of the pieces add up to the length of the whole** (exact arclength, any quadratic,
`t ∈ [0,1]`): `len(left) + len(right) = len(whole)`. -/
theorem length_additive_of_integral (q : Quad ℝ) {t : ℝ} (h0 : 0 ≤ t) (h1 : t ≤ 1) :
    arclen (q.split t).1 0 1 + arclen (q.split t).2 0 1 = arclen q 0 1 := by
  rw [(arclen_split q h0 h1).1, (arclen_split q h0 h1).2, arclen_add]

/-- Corollary for the code: when the whole and both pieces of `split(t)` are evaluated by the
closed form, `QuadraticBezierSegment::length` is exactly additive over ℝ — the theorem behind the
oracle clause `quad.length/additive` (whose tolerance then only has to cover rounding and the two
approximate branches). -/
theorem quad_length_additive (hT : IsRealTransc) (q : Quad ℝ) (hε : 0 ≤ (FlatConst.epsilon : ℝ))
    {t : ℝ} (h0 : 0 ≤ t) (h1 : t ≤ 1) (h : ClosedFormBranch q)
    (hl : ClosedFormBranch (q.split t).1) (hr : ClosedFormBranch (q.split t).2) :
    (q.split t).1.length + (q.split t).2.length = q.length := by
  rw [quad_length_closed_form hT _ hε h, quad_length_closed_form hT _ hε hl,
    quad_length_closed_form hT _ hε hr]
  exact length_additive_of_integral q h0 h1

end

/-! What /repo fix 7d678f98 guarantees: degenerate curves and position independence

Over any ordered field, `sqrt` a parameter (the only law used: `sqrt 0 = 0`, for the point curve). -/

section Degenerate
variable {K : Type} [Field K] [LinearOrder K] [IsStrictOrderedRing K] [Transc K] [FlatConst K]

/-- **A point has length zero** (`from = ctrl = to`): `a = c = 0` passes the test `a ≤ 1e-4·c`, the
quadrature of three zero vectors is `3·sqrt 0`.  (Before the fix the closed form was taken:
`0^(-1/2)·0`, NaN in floats.) -/
theorem quad_length_point (h0 : Transc.sqrt (0:K) = 0) (p : P K) : (⟨p, p, p⟩ : Quad K).length = 0 := by
  have hs : (⟨p, p, p⟩ : Quad K).almostStraight = true := by
    simp only [Quad.almostStraight, decide_eq_true_eq, geom, Nat.cast_ofNat, sub_self, mul_zero,
      add_zero]
    ring_nf; exact le_refl _
  rw [Quad.length, hs, if_pos rfl]
  simp only [Quad.lengthStraight, P.len, geom, sub_self, zero_mul, mul_zero, add_zero, h0]

/-- `split(0)` is the start point and the whole curve, `split(1)` the whole curve and the end point -/
theorem quad_split_ends (q : Quad K) :
    q.split 0 = (⟨q.a, q.a, q.a⟩, q) ∧ q.split 1 = (q, ⟨q.b, q.b, q.b⟩) := by
  simp only [Quad.split, lerp_ends, quad_sample_ends, and_self]

/-- the first piece of `split(0)` and the second piece of `split(1)` are points, so (with
`quad_length_point`) they have length zero … -/
theorem quad_split_ends_are_points (q : Quad K) :
    (q.split 0).1 = ⟨q.a, q.a, q.a⟩ ∧ (q.split 1).2 = ⟨q.b, q.b, q.b⟩ :=
  ⟨congrArg Prod.fst (quad_split_ends q).1, congrArg Prod.snd (quad_split_ends q).2⟩

/-- … and the other piece is the whole curve: **`length` is additive over `split(0)` and
`split(1)` for every quadratic**, in whichever branch it is evaluated (no `ClosedFormBranch`
hypothesis; before the fix the point piece made the sum NaN in floats). -/
theorem quad_length_additive_ends (h0 : Transc.sqrt (0:K) = 0) (q : Quad K) :
    (q.split 0).1.length + (q.split 0).2.length = q.length ∧
    (q.split 1).1.length + (q.split 1).2.length = q.length := by
  rw [(quad_split_ends q).1, (quad_split_ends q).2, quad_length_point h0, quad_length_point h0, zero_add, add_zero]
  exact ⟨rfl, rfl⟩

/-- `q` moved by the vector `v` -/
noncomputable def translate (q : Quad K) (v : P K) : Quad K := ⟨q.a + v, q.c + v, q.b + v⟩

/-- the code's operands are differences: they do not see the position of the curve -/
theorem quad_len_operands_translate (q : Quad K) (v : P K) :
    (translate q v).lenD1 = q.lenD1 ∧ (translate q v).lenD2 = q.lenD2 ∧
    (translate q v).lenD3 = q.lenD3 ∧ (translate q v).b - (translate q v).a = q.b - q.a := by
  refine ⟨?_, ?_, ?_, ?_⟩ <;> simp only [translate] <;> geom_ring

/-- **The quadrature branch depends only on differences of the control points** (any `sqrt`):
moving the curve does not change `lengthStraight`.  (Before the fix the weights
`−0.492943519233745, 0.430331482911935, 0.0626120363218102` were applied to absolute positions; they
do not sum to zero exactly, and in `f64` they are `f32`-rounded: the error grew with the distance
from the origin.) -/
theorem lengthStraight_translate (q : Quad K) (v : P K) :
    (translate q v).lengthStraight = q.lengthStraight := by
  obtain ⟨h1, _, h3, hc⟩ := quad_len_operands_translate q v
  simp only [Quad.lengthStraight, h1, h3, hc]

/-- the whole of `QuadraticBezierSegment::length` is translation invariant (all three branches) -/
theorem quad_length_translate (q : Quad K) (v : P K) : (translate q v).length = q.length := by
  obtain ⟨h1, h2, h3, _⟩ := quad_len_operands_translate q v
  simp only [Quad.length, Quad.almostStraight, Quad.lenA, Quad.lenB, Quad.lenC, lengthStraight_translate, h1, h2, h3]
  rfl

end Degenerate

/-! Non-vacuity: the real instances and a concrete quadratic in the closed-form branch -/

/-- `sqrt`, `powf`, `ln` as the real functions (the other fields are irrelevant here) -/
@[reducible] noncomputable def realTransc : Transc ℝ where
  sqrt := Real.sqrt
  cbrt := fun x => x
  sin := Real.sin
  cos := Real.cos
  tan := Real.tan
  acos := Real.arccos
  atan2 := fun _ _ => 0
  pow := fun x y => x ^ y
  log2 := fun x => Real.log x / Real.log 2
  ln := Real.log
  floor := fun x => (⌊x⌋ : ℝ)
  ceil := fun x => (⌈x⌉ : ℝ)
  toNat := fun x => ⌊x⌋₊
  fmod := fun x _ => x
  eps := 0
  pi := Real.pi
  isNaN := fun _ => false
  isFinite := fun _ => true

/-- lyon's `f32` constants as exact decimals -/
@[reducible] noncomputable def realFlatConst : FlatConst ℝ where
  epsilon := 1 / 10 ^ 4
  value := fun m e => (m : ℝ) / 10 ^ e
  d4 := (67 / 100) ^ 4

theorem realTransc_isReal : @IsRealTransc realTransc :=
  @IsRealTransc.mk realTransc (fun _ => rfl) (fun _ _ => rfl) (fun _ => rfl)

/-- `from (0,0) ctrl (1,0) to (2,2)`: `a = 4`, `b = 0`, `c = 1`; not almost straight, `b/√a + 2√c = 2 > 1e-4·2√c` -/
theorem closedFormBranch_example : @ClosedFormBranch realFlatConst ⟨⟨0, 0⟩, ⟨1, 0⟩, ⟨2, 2⟩⟩ := by
  let _ := realTransc; let _ := realFlatConst
  have h4 : √(4:ℝ) = 2 := by
    rw [show (4:ℝ) = 2 * 2 by norm_num]; exact Real.sqrt_mul_self (by norm_num)
  have hA : (⟨⟨0, 0⟩, ⟨1, 0⟩, ⟨2, 2⟩⟩ : Quad ℝ).lenA = 4 := by simp only [geom]; norm_num
  have hB : (⟨⟨0, 0⟩, ⟨1, 0⟩, ⟨2, 2⟩⟩ : Quad ℝ).lenB = 0 := by simp only [geom]; norm_num
  have hC : (⟨⟨0, 0⟩, ⟨1, 0⟩, ⟨2, 2⟩⟩ : Quad ℝ).lenC = 1 := by simp only [geom]; norm_num
  refine ⟨?_, ?_, ?_⟩
  · simp only [Quad.almostStraight, hA, hC, decide_eq_false_iff_not, not_le]
    show (FlatConst.value 1 4 : ℝ) * 1 < 4
    show ((1:ℕ) : ℝ) / 10 ^ 4 * 1 < 4
    norm_num
  · rw [hA]; norm_num
  · rw [hA, hB, hC, h4, Real.sqrt_one]
    show (1:ℝ) / 10 ^ 4 * (2 * 1) < _
    norm_num

theorem realFlatConst_eps_pos : (0:ℝ) ≤ (@FlatConst.epsilon ℝ realFlatConst) := by
  show (0:ℝ) ≤ 1 / 10 ^ 4
  norm_num

/-- `quad_length_closed_form` instantiated: all hypotheses are satisfied by the real instances and
the quadratic `(0,0) (1,0) (2,2)` -/
example : @Quad.length ℝ _ realTransc realFlatConst ⟨⟨0, 0⟩, ⟨1, 0⟩, ⟨2, 2⟩⟩
    = ∫ t in (0:ℝ)..1, speed ⟨⟨0, 0⟩, ⟨1, 0⟩, ⟨2, 2⟩⟩ t :=
  @quad_length_closed_form realTransc realFlatConst realTransc_isReal _ realFlatConst_eps_pos
    closedFormBranch_example

/-- parameters in range for `arclen_split` / `length_additive_of_integral` / `quad_length_additive` -/
example : (0:ℝ) ≤ 1/4 ∧ (1/4:ℝ) ≤ 1 := by norm_num

/-- the hypothesis of `quad_length_point` / `quad_length_additive_ends` holds for the real `√` -/
example : @Transc.sqrt ℝ realTransc 0 = 0 := Real.sqrt_zero

/-- `quad_length_point` instantiated: the point `(3, 4)` has length `0` -/
example : @Quad.length ℝ _ realTransc realFlatConst ⟨⟨3, 4⟩, ⟨3, 4⟩, ⟨3, 4⟩⟩ = 0 :=
  @quad_length_point ℝ _ _ _ realTransc realFlatConst Real.sqrt_zero ⟨3, 4⟩

end Lyon.C10
