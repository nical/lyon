/-
  C05h — the advancement clause for POLYLINE paths with open AND closed sub-paths (every scalar
  type, floats included; only `is_nan(NaN) = true` is assumed; no hypothesis on the points).

  `stroke_close_advancement` (`close()`, window full — three or more kept points): which vertex carries
  which advancement.  With `a, l` the last two kept points, `A_l = A_a + |l − a|` (the table's last
  entry), `F` the first point (start value `s0`):
    * first point NOT within merge distance of `l`: the join at `l` carries `A_l`; the join at the
      first point carries `A_l + |p0 − l|` (start + perimeter); the two re-created vertices
      (`closeVertices`) carry the start value `s0`;
    * first point within merge distance of `l`: `l` is moved onto `p0` (keeps its endpoint id); its
      join sits on `p0` and carries `A_a + |p0 − a|`; the first point gets no join; the two re-created
      vertices carry `s0` under `l`'s id.
    `close()` leaves `sub_path_start_advancement` alone.
  `subpath_advancement_closed`: one sub-path (open or closed, any points) from any idle state: the
    table over the kept points plus the extra entries `CloseX`; a closed sub-path with fewer than
    three kept points is ended by `end_with_caps` (a single kept point always gets the empty cap).
  `stroke_path_advancement`: a whole polyline path: every vertex satisfies `PathAdv`: it agrees with
    the table of some sub-path, each sub-path starting where the previous table ended or — after a
    closed sub-path on which `close()` ran — at that sub-path's own start value.
  `stroke_open_path_advancement` (`Props/C05g.lean`) is the case of open sub-paths.
-/
import LyonVerif.Lemmas.StrokeAdvMerge
import LyonVerif.Props.C05g


namespace Lyon.C05h
open Lyon Scalar Lyon.Stroke Lyon.Stroke.Full Lyon.C05 Lyon.C05b Lyon.C05c

section
variable {α : Type} [Scalar α] [Transc α] [Asin α] [FlatConst α]

/-- **`close()`: which emitted vertex carries which advancement** (see the header) -/
theorem stroke_close_advancement {e : Env α} (hnan : Transc.isNaN (nan : α) = true) {st : St α} {a' b' F f1 : EP α}
    {p0 P1 : P α} (hwf : WF st.buf) (hab : st.buf.lastTwo = some (a', b')) (hc3 : st.buf.count = 3)
    (hfs : st.firsts = [F, f1]) (hf1 : f1.position = P1) (hFp : F.position = p0) (hFf : Fresh e F)
    (hb : Fresh e b') (hbadv : b'.advancement = nan)
    (hP : pointsAreTooClose e.thr p0 P1 = false) :
    (pointsAreTooClose e.thr b'.position p0 = false →
      Emits (fun v => SiteOK b'.src b'.position (a'.advancement + len (b'.position - a'.position)) v
          ∨ SiteOK F.src p0 (a'.advancement + len (b'.position - a'.position) + len (p0 - b'.position)) v
          ∨ SiteOK F.src p0 F.advancement v) st.out (close (fwStep e) st).out)
    ∧ (pointsAreTooClose e.thr b'.position p0 = true →
      Emits (fun v => SiteOK b'.src p0 (a'.advancement + len (p0 - a'.position)) v
          ∨ SiteOK b'.src p0 F.advancement v) st.out (close (fwStep e) st).out)
    ∧ WF (close (fwStep e) st).buf
    ∧ (close (fwStep e) st).subPathStartAdvancement = st.subPathStartAdvancement := by
  subst hf1 hFp
  exact close_advs hnan hwf hab hc3 hfs hFf hb hbadv hP

/-- **one polyline sub-path, open or closed, any points, started in any idle state** -/
theorem subpath_advancement_closed (e : Env α) (store : Nat → List α) (hfw : e.o.varWidth = false)
    (hnan : Transc.isNaN (nan : α) = true) (r0 : Run α) (h0 : Idle r0)
    (i0 : Nat) (p0 : P α) (pts : List (Nat × P α)) (closed : Bool) :
    ∃ X, (closed = false → X = [])
      ∧ CloseX e.thr r0.st.subPathStartAdvancement i0 p0
          (advTable r0.st.subPathStartAdvancement ((i0, p0) :: keptFrom e.thr p0 pts)) X
      ∧ Idle (runFrom e store r0 (subEvsC i0 p0 pts closed))
      ∧ Emits (AdvOK (advTable r0.st.subPathStartAdvancement ((i0, p0) :: keptFrom e.thr p0 pts) ++ X))
          r0.st.out (runFrom e store r0 (subEvsC i0 p0 pts closed)).st.out
      ∧ ((runFrom e store r0 (subEvsC i0 p0 pts closed)).st.subPathStartAdvancement
            = lastAdv r0.st.subPathStartAdvancement
                (advTable r0.st.subPathStartAdvancement ((i0, p0) :: keptFrom e.thr p0 pts))
         ∨ (closed = true ∧ (runFrom e store r0 (subEvsC i0 p0 pts closed)).st.subPathStartAdvancement
            = r0.st.subPathStartAdvancement)) := by
  obtain ⟨st1, hwf1, hc1, hl1, hs1, hout1, hst, hp⟩ := runFrom_subpath e store hfw r0 h0 i0 p0 pts closed
  obtain ⟨X, x0, x1, k1, k4⟩ := ((SubWin.begin_ pts hwf1 hc1 hl1 hs1).feed hnan pts).end_ hfw hnan closed
  rw [hout1] at k1
  exact ⟨X, x0, x1, hp, hst ▸ k1, (hst ▸ k4).imp_left fun h => (lastAdv_eq h).symm⟩

/-- **`stroke_path_advancement`: polyline paths with open and closed sub-paths, no hypothesis on the
points**, fixed width, all joins and caps, every scalar type: every emitted vertex satisfies
`PathAdv e.thr 0 subs` (see the header and `Lemmas/StrokeAdvClose.lean`) -/
theorem stroke_path_advancement (e : Env α) (store : Nat → List α) (hfw : e.o.varWidth = false)
    (hnan : Transc.isNaN (nan : α) = true) (subs : List (SubC α)) :
    ∀ v ∈ (runEvents e store (pathEvsC subs)).st.out.verts, PathAdv e.thr zero subs v :=
  Emits.of_new (path_from e store (fun s => subEvsC s.i0 s.p0 s.pts s.closed) (ok := fun _ => True)
    (Q1 := fun a s v => ∃ X, (s.closed = false → X = [])
      ∧ CloseX e.thr a s.i0 s.p0 (advTable a ((s.i0, s.p0) :: keptFrom e.thr s.p0 s.pts)) X
      ∧ AdvOK (advTable a ((s.i0, s.p0) :: keptFrom e.thr s.p0 s.pts) ++ X) v)
    (nxt := fun a s a' => a' = lastAdv a (advTable a ((s.i0, s.p0) :: keptFrom e.thr s.p0 s.pts))
      ∨ (s.closed = true ∧ a' = a))
    (fun r0 s _ h0 => by
      obtain ⟨X, x0, x1, k1, k2, k3⟩ := subpath_advancement_closed e store hfw hnan r0 h0 s.i0 s.p0 s.pts s.closed
      exact ⟨k1, Emits.mono (fun v hv => ⟨X, x0, x1, hv⟩) k2, k3⟩)
    (fun a s r v ⟨X, x0, x1, hv⟩ => PathAdv.here a s r v X x0 x1 hv)
    (fun a a' s r v h hv => PathAdv.there a a' s r v h hv) subs _ (fun _ _ => trivial) idle_new).2

end

section Examples
open Lyon.C05d (toyNaN)
attribute [local instance] toyNaN toyAsin toyFlat

/-- the closed 3-4-5 triangle `(0,0) → (3,0) → (3,4)`: table `0, 3, 7`; the closing edge has length `5`,
so the first point's join carries `7 + 5 = 12` (start + perimeter) and `close()` runs (three kept points) -/
example : (advTable (0 : ℚ) ((0, ⟨0, 0⟩) :: keptFrom (1 / 200) ⟨0, 0⟩ [(1, ⟨3, 0⟩), (2, ⟨3, 4⟩)])).map (·.2.2) = [0, 3, 7]
    ∧ len ((⟨0, 0⟩ : P ℚ) - ⟨3, 4⟩) = 5
    ∧ pointsAreTooClose (1 / 200 : ℚ) ⟨3, 4⟩ ⟨0, 0⟩ = false := by
  decide +kernel

end Examples

end Lyon.C05h
