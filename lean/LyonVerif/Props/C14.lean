/-
  C14 — every view of a stored path tells the same story, safely.

  All statements are about the model of `crates/path/src/{path,path_buffer,commands,polygon,
  iterator}.rs` in `Model/Path/*.lean` — the same definitions the correspondence check runs
  (with `S := Int`) against the real builders and views on every run.  They hold for every
  scalar type `S`, every well-nested builder program of any length and every attribute count.

  Reading guide.  A view returns `Option`: `none` means "some slice index / pointer read /
  checked subtraction / assertion of the Rust code fails" (see `Model/Path/Store.lean`).  So
  `view P = some evs` says two things at once: the view performs no read outside the storage
  (`no_oob`) and yields `evs`.
-/
import LyonVerif.Lemmas.PathCommands
import LyonVerif.Lemmas.PathReversedModel
import LyonVerif.Lemmas.AdaptersStored
import LyonVerif.Model.Path.Polygon

set_option linter.unusedSectionVars false
set_option linter.unusedSimpArgs false

namespace Lyon.C14
open Lyon.Path

variable {S : Type} [Inhabited S]

/-- a builder program the property quantifies over: `(begin edge* end)*`, every endpoint with
exactly `n` custom attributes -/
def ValidProg (n : Nat) (prog : Prog S) : Prop := WellNested prog ∧ attrsOk n prog = true

/-- the storage `Path::builder_with_attributes(n)` ends up with for `prog` -/
def stored (n : Nat) (prog : Prog S) : PathData S :=
  ⟨emitPts zeroPt (List.replicate n default) prog, emitVerbs prog, n⟩

/-- The builder accepts every valid program (no attribute-count assertion fires) and stores
exactly `stored n prog`. -/
theorem builder_total (n : Nat) (prog : Prog S) (hv : ValidProg n prog) :
    buildWithAttributes n prog = some (stored n prog) :=
  buildWithAttributes_emit n prog hv.2

/-- The specification events of a valid program are well-formed: each sub-path is Begin, edges,
End; each edge starts where the previous ended; End names the last and the first point. -/
theorem spec_wellformed [DecidableEq S] (n : Nat) (prog : Prog S) (hv : ValidProg n prog) :
    WellFormed (specEvents prog) :=
  specEvents_wellFormed prog hv.1

/-- `Path::iter` on a built path yields exactly the specification events (and reads only inside
the storage). -/
theorem iter_eq_spec (n : Nat) (prog : Prog S) (hv : ValidProg n prog) :
    (stored n prog).iter = some (specEvents prog) := by
  simpa [PathData.iter, stored, specEvents] using
    iterGo_emit n prog none zeroPt (List.replicate n default) zeroPt zeroPt hv.1 hv.2 (by simp) (by simp)

/-- `Path::iter_with_attributes` yields the specification events with each endpoint carrying
the attributes it was given (odd counts and the extra point stored by Close included). -/
theorem with_attributes_eq (n : Nat) (prog : Prog S) (hv : ValidProg n prog) :
    (stored n prog).iterWithAttributes = some (specEvents (prog.map aCall)) := by
  simpa [PathData.iterWithAttributes, stored, specEvents] using
    iterAttrGo_emit n prog none zeroPt (List.replicate n default) (zeroPt, []) (zeroPt, []) hv.1 hv.2
      (by simp) (by simp)

/-- a built path answers the ids of its program's id program with the program's points -/
theorem stored_resolves (n : Nat) (prog : Prog S) (hv : ValidProg n prog) :
    ProgRes (stored n prog).endpointA (stored n prog).ctrlA (idProg (attribStride n + 1) 0 prog)
      (prog.map aCall) :=
  idProg_resolves (stored n prog) prog zeroPt (List.replicate n default) [] (by simp [stored]) hv.2
    (by simp [stored])

theorem stored_idIter (n : Nat) (prog : Prog S) (hv : ValidProg n prog) :
    (stored n prog).idIter = specFrom none (idProg (attribStride n + 1) 0 prog) :=
  idIterGo_emit _ prog none hv.1 0 0 0 (fun _ => rfl) (by simp)

/-- `Path::id_iter`, each id resolved through the path's own position and attribute stores
(`path[id]`, `path.attributes(id)`), is `iter_with_attributes`. -/
theorem id_iter_resolves_attributes (n : Nat) (prog : Prog S) (hv : ValidProg n prog) :
    resolveAll (stored n prog).endpointA (stored n prog).ctrlA (stored n prog).idIter
      = some (specEvents (prog.map aCall)) := by
  rw [stored_idIter n prog hv]
  exact ((stored_resolves n prog hv).spec none none trivial).1

/-- `Path::id_iter` resolved through the position store is `iter`. -/
theorem id_iter_resolves (n : Nat) (prog : Prog S) (hv : ValidProg n prog) :
    resolveAll (stored n prog).point (stored n prog).point (stored n prog).idIter
      = some (specEvents prog) := by
  rw [stored_idIter n prog hv]
  exact ((stored_resolves n prog hv).points.spec none none trivial).1

theorem plain_builder_storage {A : Type} (prog : List (Call (Pt S) A)) :
    buildPlain prog = stored 0 (prog.map noAttr) := by
  simp [buildPlain, plain_run_eq, BuilderImpl.build, BuilderImpl.new, stored]

theorem validProg_noAttr {A : Type} (prog : List (Call (Pt S) A)) (h : WellNested prog) :
    ValidProg 0 (prog.map (noAttr (S := S))) :=
  ⟨(wellNestedFrom_map_step noAttr (fun b c => by cases b <;> cases c <;> rfl) false prog).trans h,
    attrsOk_noAttr prog⟩

/-- `Path::builder()` (attributes ignored): `iter` yields the specification events. -/
theorem iter_eq_spec_plain {A : Type} (prog : List (Call (Pt S) A)) (h : WellNested prog) :
    (buildPlain prog).iter = some (specEvents prog) := by
  rw [plain_builder_storage, iter_eq_spec 0 _ (validProg_noAttr prog h)]
  simp [specEvents, specFrom_noAttr]

/-- `Path::builder()`: `id_iter` resolved through the path is `iter`. -/
theorem id_iter_resolves_plain {A : Type} (prog : List (Call (Pt S) A)) (h : WellNested prog) :
    resolveAll (buildPlain prog).point (buildPlain prog).point (buildPlain prog).idIter
      = some (specEvents prog) := by
  rw [plain_builder_storage, id_iter_resolves 0 _ (validProg_noAttr prog h)]
  simp [specEvents, specFrom_noAttr]

theorem validProg_append (n : Nat) (p q : Prog S) (hp : ValidProg n p) (hq : ValidProg n q) :
    ValidProg n (p ++ q) :=
  ⟨wellNested_append hp.1 hq.1, by simp [attrsOk_append, hp.2, hq.2]⟩

/-- `concatenate_paths`, which `extend_from_paths` runs: appending the storage of paths built from
programs `qs` to a builder that has run `p` gives exactly the storage of the concatenated program —
so every view theorem applies to it. -/
theorem concat_is_append (n : Nat) (p : Prog S) (qs : List (Prog S))
    (hqs : ∀ q ∈ qs, ValidProg n q) :
    concatenatePaths (stored n p).points (stored n p).verbs (qs.map (stored n)) n
      = some ((stored n (p ++ qs.flatten)).points, (stored n (p ++ qs.flatten)).verbs) := by
  have hw : ∀ q ∈ qs, WellNested q := fun q hq => (hqs q hq).1
  have hall : (qs.map (stored n)).all (fun P => P.numAttributes == n) = true := by simp [stored]
  -- the fold of `concatenate_paths` appends the points / verbs of the paths one after the other
  have hfold : ∀ (l : List (PathData S)) (a : List (Pt S)) (b : List Verb),
      l.foldl (fun acc p => (acc.1 ++ p.points, acc.2 ++ p.verbs)) (a, b)
        = (a ++ l.flatMap (·.points), b ++ l.flatMap (·.verbs)) := by
    intro l
    induction l with
    | nil => simp
    | cons p r ih => simp [ih, List.append_assoc]
  simp only [concatenatePaths, hall, if_true, hfold, List.flatMap_map, stored,
    flatMap_emitPts zeroPt zeroPt (List.replicate n default) (List.replicate n default) qs hw,
    flatMap_emitVerbs, emitVerbs_append,
    emitPts_append_indep zeroPt zeroPt (List.replicate n default) (List.replicate n default) p
      qs.flatten (WellNested.flatten hw)]

/-- … in particular the concatenation iterates as the concatenation of the parts. -/
theorem concat_iter (n : Nat) (p q : Prog S) (hp : ValidProg n p) (hq : ValidProg n q) :
    (stored n (p ++ q)).iter = some (specEvents p ++ specEvents q) := by
  rw [iter_eq_spec n _ (validProg_append n p q hp hq)]
  simp [specEvents, specFrom_append none p q hp.1]

/-- `PathBuffer`: a path appended with the plain builder reads back, through `get`, as exactly
the storage `Path::builder()` would have produced on its own (whatever the buffer already
holds); `adjust_id` never underflows. -/
theorem path_buffer_get_plain {A : Type} (b : PathBuffer S) (prog : List (Call (Pt S) A)) :
    ∃ b' ids, b.addPlain prog = some (b', ids, b.paths.length) ∧
      b'.get b.paths.length = some (buildPlain prog) := by
  have hge : ∀ id ∈ (BuilderImpl.run (S := S) ⟨b.points, b.verbs, zeroPt⟩ prog).2, b.points.length ≤ id := by
    rw [plain_run_eq]; exact callEndpoints_idProg_ge 1 _ _
  refine ⟨_, _, by simp only [PathBuffer.addPlain, adjustIds_total _ _ hge, Option.map_some]; rfl, ?_⟩
  have h1 := sliceRange_mid b.points (emitPts (S := S) zeroPt [] (prog.map noAttr)) []
  have h2 := sliceRange_mid b.verbs (emitVerbs (S := S) (prog.map noAttr)) []
  simp only [List.append_nil] at h1 h2
  simp [PathBuffer.get, plain_run_eq, h1, h2, plain_builder_storage, stored]

/-- A path appended with `with_attributes(n)` reads back, through `get`, as
exactly the storage `Path::builder_with_attributes(n)` would have produced on its own, attribute
count included — so every view theorem (`iter_eq_spec`, `with_attributes_eq`, …) applies to the
entry.  (False before /repo commit 61889d0a, which made `build` record the attribute count.) -/
theorem path_buffer_get (b : PathBuffer S) (n : Nat) (prog : Prog S)
    (hv : ValidProg n prog) (b' : PathBuffer S) (ids : List Nat) (idx : Nat)
    (h : b.addWithAttributes n prog = some (b', ids, idx)) :
    idx = b.paths.length ∧ b'.get idx = some (stored n prog) := by
  simp only [PathBuffer.addWithAttributes, run_eq (S := S)
    ⟨⟨b.points, b.verbs, zeroPt⟩, n, List.replicate n default⟩ prog hv.2 (by simp), Option.bind_some] at h
  cases hadj : adjustIds b.points.length
      (callEndpoints (idProg (attribStride n + 1) b.points.length prog)) with
  | none => simp [hadj] at h
  | some ids' =>
    simp only [hadj, Option.map_some, Option.some.injEq, Prod.mk.injEq] at h
    obtain ⟨rfl, _, rfl⟩ := h
    have h1 := sliceRange_mid b.points (emitPts (S := S) zeroPt (List.replicate n default) prog) []
    have h2 := sliceRange_mid b.verbs (emitVerbs (S := S) prog) []
    simp only [List.append_nil] at h1 h2
    exact ⟨rfl, by simp [PathBuffer.get, h1, h2, stored]⟩

/-- … in particular the entry iterates with its attributes. -/
theorem path_buffer_get_with_attributes (b : PathBuffer S) (n : Nat) (prog : Prog S)
    (hv : ValidProg n prog) (b' : PathBuffer S) (ids : List Nat) (idx : Nat)
    (h : b.addWithAttributes n prog = some (b', ids, idx)) :
    (b'.get idx).bind PathData.iterWithAttributes = some (specEvents (prog.map aCall)) := by
  simp [(path_buffer_get b n prog hv b' ids idx h).2, with_attributes_eq n prog hv]

/-- the builder program a polygon stands for -/
def polyProg {π : Type} (pts : List π) (closed : Bool) : List (Call π Unit) :=
  match pts with
  | [] => []
  | p :: r => Call.begin p () :: ((r.map fun q => Call.line q ()) ++ [Call.end_ closed])

theorem poly_iterGo_spec {π : Type} (closed : Bool) (r : List π) (prev first : π) :
    Poly.iterGo closed r (some prev) (some first)
      = some (specFrom (some (first, prev)) ((r.map fun q => Call.line q ()) ++ [Call.end_ (A := Unit) closed])) := by
  induction r generalizing prev with
  | nil => simp [Poly.iterGo, specFrom]
  | cons q r ih => simp [Poly.iterGo, specFrom, ih]

/-- `Polygon::iter`, `Polygon::path_events` and `IdPolygon::iter` (one state machine in the
code, one function in the model) yield the specification events of `begin p0, line p1 …,
end(closed)`; nothing for the empty polygon. -/
theorem polygon_iter_eq_spec {π : Type} (pts : List π) (closed : Bool) :
    Poly.iter pts closed = some (specEvents (polyProg pts closed)) := by
  cases pts with
  | nil => simp [Poly.iter, Poly.iterGo, polyProg, specEvents, specFrom]
  | cons p r => simp [Poly.iter, Poly.iterGo, polyProg, specEvents, specFrom, poly_iterGo_spec]

/-- the events of one polygon sub-path after its `begin`, in closed form -/
theorem specFrom_lines {π : Type} (f c : π) (r : List π) (closed : Bool) :
    specFrom (some (f, c)) ((r.map fun q => Call.line q ()) ++ [Call.end_ (A := Unit) closed])
      = List.zipWith Event.line (c :: r) r ++ [Event.end_ ((c :: r).getLast (by simp)) f closed] := by
  induction r generalizing c with
  | nil => simp [specFrom]
  | cons q r ih => simp [specFrom, ih q]

/-- Random access agrees with iteration for `IdPolygon`: the `k`-th event of `iter` is
`event(k)`. -/
theorem idpolygon_event_eq_iter {π : Type} (pts : List π) (closed : Bool) (evs : List (Event π))
    (h : Poly.iter pts closed = some evs) (k : Nat) (e : Event π) (he : evs[k]? = some e) :
    Poly.idPolygonEvent pts closed k = some e := by
  rw [polygon_iter_eq_spec] at h
  cases h
  cases pts with
  | nil => simp [polyProg, specEvents, specFrom] at he
  | cons p r =>
    simp only [polyProg, specEvents, specFrom, specFrom_lines] at he
    cases k with
    | zero => simp at he; subst he; simp [Poly.idPolygonEvent]
    | succ j =>
      rw [List.getElem?_cons_succ] at he
      rcases Nat.lt_trichotomy j r.length with hj | hj | hj
      · rw [List.getElem?_append_left (by simpa using hj)] at he
        simp [List.getElem?_zipWith, hj] at he
        subst he
        have h1 : j ≠ r.length := by omega
        simp [Poly.idPolygonEvent, Poly.idPolygonEvent.csub, h1, List.getElem?_eq_getElem hj,
          List.getElem?_eq_getElem (show j < (p :: r).length by simp; omega)]
      · subst hj
        simp at he
        subst he
        simp [Poly.idPolygonEvent, Poly.idPolygonEvent.csub, List.getLast_eq_getElem]
      · rw [List.getElem?_eq_none (by simp; omega)] at he
        cases he

/-- `Polygon::event` is `IdPolygon::event` (since /repo commit 8a7d6750; it used to answer `End`
at `len - 1` and to index past the slice at `len`). -/
theorem polygonEvent_eq {π : Type} (pts : List π) (closed : Bool) (k : Nat) :
    Poly.polygonEvent pts closed k = Poly.idPolygonEvent pts closed k := rfl

/-- `PolygonIdIter` from index `idx` with `m = len - idx` points to go; `fuel` bounds the model's
recursion and `m + 1` (the lines and the `End`) is enough -/
theorem poly_idIterGo_spec (len : Nat) (closed : Bool) (m : Nat) :
    ∀ idx fuel, 1 ≤ idx → idx + m = len → m + 1 ≤ fuel →
      Poly.idIterGo 0 len closed fuel idx = some (specFrom (some (0, idx - 1))
        (((List.range' idx m).map fun q => Call.line q ()) ++ [Call.end_ (A := Unit) closed])) := by
  induction m with
  | zero =>
    intro idx fuel h1 h2 h3
    obtain ⟨f, rfl⟩ : ∃ f, fuel = f + 1 := ⟨fuel - 1, by omega⟩
    obtain rfl : idx = len := by omega
    have e1 : ¬ (0 = idx) := by omega
    have e2 : ¬ (idx = 0) := by omega
    cases f <;> simp [Poly.idIterGo, Poly.idIterAt, Poly.idIterAt.csub1, e1, e2, h1, Nat.not_succ_lt_self, specFrom]
  | succ m ih =>
    intro idx fuel h1 h2 h3
    obtain ⟨f, rfl⟩ : ∃ f, fuel = f + 1 := ⟨fuel - 1, by omega⟩
    have e1 : ¬ (0 = len) := by omega
    have e2 : ¬ (idx = 0) := by omega
    have e3 : idx < len := by omega
    have h := ih (idx + 1) f (by omega) (by omega) (by omega)
    simp [Poly.idIterGo, Poly.idIterAt, Poly.idIterAt.csub1, e1, e2, e3, h1, h, specFrom,
      List.range'_succ]

theorem range_succ_eq_cons (n : Nat) : List.range (n + 1) = 0 :: List.range' 1 n := by
  rw [List.range_eq_range', List.range'_succ]

/-- `Polygon::id_iter` is `IdPolygon::iter` over the ids `0 … len-1` — for every length, the
empty polygon included (nothing; before /repo commit e1fd69dd it yielded a lone `Begin`). -/
theorem polygon_id_iter_eq (len : Nat) (closed : Bool) :
    Poly.idIter len closed = some (specEvents (polyProg (List.range len) closed)) := by
  cases len with
  | zero => simp [Poly.idIter, Poly.idIterGo, Poly.idIterAt, polyProg, specEvents, specFrom]
  | succ n =>
    have h := poly_idIterGo_spec (n + 1) closed n 1 (n + 2) (by omega) (by omega) (by omega)
    have hstep : Poly.idIterGo 0 (n + 1) closed (n + 2 + 1) 0
        = (Poly.idIterGo 0 (n + 1) closed (n + 2) 1).map fun t => Event.begin 0 :: t := by
      simp [Poly.idIterGo, Poly.idIterAt]
    simp only [Poly.idIter, hstep, h]
    simp [range_succ_eq_cons, polyProg, specEvents, specFrom]

theorem poly_lines_res {π : Type} (closed : Bool) (pts r : List π) (k : Nat)
    (h : ∀ j, j < r.length → pts[k + j]? = r[j]?) :
    ProgRes (fun i => pts[i]?) (fun i => pts[i]?)
      (((List.range' k r.length).map fun q => Call.line q ()) ++ [Call.end_ (A := Unit) closed])
      ((r.map fun q => Call.line q ()) ++ [Call.end_ (A := Unit) closed]) := by
  induction r generalizing k with
  | nil => exact .end_ .nil
  | cons q r ih =>
    have h0 := h 0 (by simp)
    simp only [List.length_cons, List.range'_succ, List.map_cons, List.cons_append]
    exact .line (by simpa using h0) (ih (k + 1) fun j hj => by
      have := h (j + 1) (by simpa using hj)
      simpa [Nat.add_assoc, Nat.add_comm 1 j] using this)

/-- For every polygon (any length, the empty one included, open or
closed) `iter` / `path_events` yield the specification events of `begin p0, line p1 …,
end(closed)`; `id_iter` resolved through the polygon's own store yields the same; and `event(k)`
is the `k`-th of them for every valid id `k` (ids `len - 1` and `len` included).
(False before /repo commits 8a7d6750 and e1fd69dd.) -/
theorem polygon_views_agree {π : Type} (pts : List π) (closed : Bool) :
    Poly.iter pts closed = some (specEvents (polyProg pts closed)) ∧
    (Poly.idIter pts.length closed).bind (resolveAll (fun i => pts[i]?) (fun i => pts[i]?))
      = some (specEvents (polyProg pts closed)) ∧
    ∀ k e, (specEvents (polyProg pts closed))[k]? = some e → Poly.polygonEvent pts closed k = some e := by
  refine ⟨polygon_iter_eq_spec pts closed, ?_, ?_⟩
  · rw [polygon_id_iter_eq, Option.bind_some]
    refine (ProgRes.spec ?_ none none trivial).1
    cases pts with
    | nil => exact .nil
    | cons p r =>
      simp only [List.length_cons, range_succ_eq_cons, polyProg]
      exact .begin rfl (poly_lines_res closed (p :: r) r 1 fun j hj => by simp [Nat.add_comm 1 j])
  · intro k e he
    rw [polygonEvent_eq]
    exact idpolygon_event_eq_iter pts closed _ (polygon_iter_eq_spec pts closed) k e he

/-- `FromPolyline` yields the polygon's specification events for every point sequence, the empty
one included (no event; before /repo commit 468b373e it yielded a lone `End`). -/
theorem from_polyline_eq_spec {π : Type} (zero : π) (pts : List π) (closed : Bool) :
    Poly.fromPolyline zero closed pts = specEvents (polyProg pts closed) := by
  have h : ∀ (r : List π) (cur first : π), Poly.fromPolylineGo closed r cur first false
      = specFrom (some (first, cur)) ((r.map fun q => Call.line q ()) ++ [Call.end_ (A := Unit) closed]) := by
    intro r
    induction r with
    | nil => intro cur first; simp [Poly.fromPolylineGo, specFrom]
    | cons q r ih => intro cur first; simp [Poly.fromPolylineGo, specFrom, ih]
  cases pts with
  | nil => simp [Poly.fromPolyline, Poly.fromPolylineGo, polyProg, specEvents, specFrom]
  | cons p r => simp [Poly.fromPolyline, Poly.fromPolylineGo, polyProg, specEvents, specFrom, h]

/-- the polygon's events are well-formed (so all its views are) -/
theorem polygon_wellformed {π : Type} [DecidableEq π] (pts : List π) (closed : Bool) :
    WellFormed (specEvents (polyProg pts closed)) := by
  apply specEvents_wellFormed
  cases pts with
  | nil => simp [WellNested, polyProg, wellNestedFrom]
  | cons p r =>
    have h : ∀ r : List π, wellNestedFrom true (((r.map fun q => Call.line q ()) ++ [Call.end_ (A := Unit) closed])) = true := by
      intro r; induction r with
      | nil => simp [wellNestedFrom]
      | cons q r ih => simpa [wellNestedFrom] using ih
    simpa [WellNested, polyProg, wellNestedFrom] using h r

/-- `PathCommands::iter` on a built command buffer yields the program's specification events
(over ids); every `CmdIter::next().unwrap()` succeeds. -/
theorem commands_iter_eq_spec {A : Type} (prog : List (Call Nat A)) (h : WellNested prog) :
    Cmd.iter (Cmd.build prog).1 = some (specEvents prog) := by
  simp only [Cmd.iter, Cmd.build, Cmd.run_emit, Cmd.Builder.new, List.nil_append]
  exact Cmd.iterGo_emit prog none _ _ 0 0 h (by simp)

/-- `PathCommands::events(endpoints, control_points)` (and `PointEvents`) is the id-event
sequence with every id looked up in the external stores — in particular it stays inside the
stores when all ids of the program are valid indices (`no_oob_commands`). -/
theorem commands_events_eq_spec {A π : Type} (prog : List (Call Nat A)) (h : WellNested prog)
    (eps cps : List π) :
    Cmd.events (Cmd.build prog).1 eps cps
      = resolveAll (fun i => eps[i]?) (fun i => cps[i]?) (specEvents prog) := by
  rw [Cmd.events, Cmd.eventsGo_eq_iterGo, ← Cmd.iter, commands_iter_eq_spec prog h, Option.bind_some]

/-- Random access agrees with iteration for `PathCommands`: the event ids the builder hands
back, each through `event(id)`, give exactly the events `iter` yields (all reads in bounds,
including the back-pointer to the sub-path's first event used by End/Close). -/
theorem commands_event_eq_iter {A : Type} (prog : List (Call Nat A)) (h : WellNested prog) :
    (Cmd.build prog).2.mapM (Cmd.event (Cmd.build prog).1) = some (specEvents prog) := by
  simp only [Cmd.build, Cmd.run_emit, Cmd.run_ids, Cmd.Builder.new, List.nil_append]
  exact Cmd.mapM_event_emit _ prog none [] 0 (by simp) h (by intro f0 c0 h; cases h)

/-- `first_endpoint` of a built path: `None` for the empty path, otherwise the first `begin`
with its attributes. -/
theorem first_endpoint_eq (n : Nat) (prog : Prog S) (hv : ValidProg n prog) :
    (stored n prog).firstEndpoint =
      some (match prog with
            | Call.begin p a :: _ => some (p, a)
            | _ => none) := by
  cases prog with
  | nil => simp [PathData.firstEndpoint, stored, emitPts]
  | cons c r =>
    obtain ⟨hn, ha⟩ := hv
    cases c with
    | begin p a =>
      simp only [attrsOk, Bool.and_eq_true, beq_iff_eq] at ha
      have h := endpointA_at (stored n (Call.begin p a :: r)) [] (emitPts p a r) p a
        (by simp [stored, emitPts]) (by simpa [stored] using ha.1)
      simp at h
      simp [PathData.firstEndpoint, stored, emitPts, endpointPts] at h ⊢
      exact h
    | _ => simp [WellNested, wellNestedFrom] at hn

/-- No out-of-bounds read: on a path produced by a builder from a valid program, every
`List` index / pointer read / checked subtraction / assertion performed by `iter`,
`iter_with_attributes`, `id_iter` + `path[id]` + `path.attributes(id)` and `first_endpoint`
succeeds (the views return `some`).  (`reversed`, `last_endpoint`: `no_oob_reversed` below.) -/
theorem no_oob (n : Nat) (prog : Prog S) (hv : ValidProg n prog) :
    (buildWithAttributes n prog).isSome ∧
    (stored n prog).iter.isSome ∧
    (stored n prog).iterWithAttributes.isSome ∧
    (resolveAll (stored n prog).point (stored n prog).point (stored n prog).idIter).isSome ∧
    (resolveAll (stored n prog).endpointA (stored n prog).ctrlA (stored n prog).idIter).isSome ∧
    (stored n prog).firstEndpoint.isSome := by
  simp [builder_total n prog hv, iter_eq_spec n prog hv, with_attributes_eq n prog hv,
    id_iter_resolves n prog hv, id_iter_resolves_attributes n prog hv, first_endpoint_eq n prog hv]

/-- `Path::reversed().with_attributes()` on a built path yields exactly the specification
reversal of the path's events (sub-paths in reverse order, each traversed backwards, attributes
travelling with their endpoints), and every index it computes stays inside the storage. -/
theorem reversed_eq_spec (n : Nat) (prog : Prog S) (hv : ValidProg n prog) :
    (stored n prog).reversedWithAttributes
      = some (reverseEvents (specEvents (prog.map aCall))) := by
  have h := reversedGo_ids (stored n prog) (attribStride n) prog.reverse false none false
    (by simpa using (wellNestedFrom_iff_nestState false prog).mp hv.1)
    (by simpa using stored_resolves n prog hv) (by simp)
  simpa [PathData.reversedWithAttributes, stored, reverseEvents, specEvents,
    emitPts_length n prog _ _ hv.2 (List.length_replicate ..)] using h

/-- `Path::reversed()` (positions only) is the same with the attributes dropped. -/
theorem reversed_eq_spec_points (n : Nat) (prog : Prog S) (hv : ValidProg n prog) :
    (stored n prog).reversed
      = some ((reverseEvents (specEvents (prog.map aCall))).map (withPoints Prod.fst)) := by
  simp [PathData.reversed, reversed_eq_spec n prog hv]

theorem spec_aCall_wellformed [DecidableEq S] (n : Nat) (prog : Prog S) (hv : ValidProg n prog) :
    WellFormed (specEvents (prog.map aCall)) :=
  specEvents_wellFormed _ (by simpa [WellNested, wellNestedFrom_map_step _ aCall_step] using hv.1)

/-- The reversed view of a built path is a well-formed event sequence. -/
theorem reversed_wellformed [DecidableEq S] (n : Nat) (prog : Prog S) (hv : ValidProg n prog) :
    ∃ evs, (stored n prog).reversedWithAttributes = some evs ∧ WellFormed evs :=
  ⟨_, reversed_eq_spec n prog hv, reverseEvents_wellFormed _ (spec_aCall_wellformed n prog hv)⟩

/-- Reversing a built path, rebuilding it (`Reversed::into_path`, i.e.
feeding the reversed events to `builder_with_attributes(n)`) and reversing again yields the
original path's events with their attributes — no assertion fires and no read leaves the
storage on the way. -/
theorem reversed_involutive [DecidableEq S] (n : Nat) (prog : Prog S) (hv : ValidProg n prog) :
    ((stored n prog).reversedIntoPath.bind PathData.reversedWithAttributes)
      = (stored n prog).iterWithAttributes := by
  have hwf := spec_aCall_wellformed n prog hv
  have hrwf := reverseEvents_wellFormed _ hwf
  have hok : ∀ e ∈ reverseEvents (specEvents (prog.map aCall)), evOk n e = true :=
    evOk_revGo n _ false none
      (by intro e he
          exact evOk_spec n prog none hv.2 hv.1 (by simp) e (by simpa [specEvents] using he))
      (by simp)
  obtain ⟨h1, h2, h3⟩ := spec_eventToCall n _ none hrwf hok
  have hv' : ValidProg n ((reverseEvents (specEvents (prog.map aCall))).map eventToCall) := ⟨h2, h3⟩
  simp only [PathData.reversedIntoPath, reversed_eq_spec n prog hv, Option.bind_some]
  have hs : (stored n prog).numAttributes = n := rfl
  rw [hs, builder_total n _ hv']
  rw [Option.bind_some, reversed_eq_spec n _ hv', specEvents, h1, with_attributes_eq n prog hv,
    reverseEvents_involutive _ hwf]

/-- `last_endpoint` of a built path: `None` for the empty path; otherwise the current position
after the last sub-path — its last endpoint, or its first point if it was closed — with that
endpoint's attributes. -/
theorem last_endpoint_eq (n : Nat) (prog : Prog S) (hv : ValidProg n prog) :
    (stored n prog).lastEndpoint =
      some (match (specEvents (prog.map aCall)).getLast? with
            | some (Event.end_ l f cl) => some (if cl then f else l)
            | _ => none) := by
  by_cases hne : prog = []
  · subst hne; simp [PathData.lastEndpoint, stored, emitPts, specEvents, specFrom]
  · -- split off the final `end`: the current endpoint of the prefix sits at `ci`, one endpoint block
    -- before the end of the prefix's storage (`ProgRes.cur`); `last_endpoint` reads at
    -- `len - stride - 1`, which is `ci` after `end(false)` and, after `end(true)`, the slot of the
    -- copy of `first` stored behind the prefix
    obtain ⟨pre, cl, rfl, hb⟩ := wellNested_last prog hv.1 hne
    have ha := hv.2
    rw [attrsOk_append, Bool.and_eq_true] at ha
    have hres := stored_resolves n _ hv
    obtain ⟨hid, hw⟩ := idProg_append (attribStride n + 1) pre [Call.end_ cl] 0
    rw [hid, List.map_append] at hres
    obtain ⟨hpre, _⟩ := hres.append_inv (by simp [idProg_length])
    obtain ⟨fstp, ⟨cur, ca⟩, ci, hσ, hci, hci'⟩ := hpre.cur hb
    have hlen := emitPts_length n (pre ++ [Call.end_ cl]) zeroPt (List.replicate n default) hv.2 (by simp)
    rw [hw] at hlen
    have hspec : (specEvents ((pre ++ [Call.end_ cl]).map aCall)).getLast?
        = some (Event.end_ (cur, ca) fstp cl) := by
      simp [specEvents, specFrom_append_state, hσ, specFrom, aCall]
    have hN : (stored n (pre ++ [Call.end_ cl])).numAttributes = n := rfl
    have hL : (stored n (pre ++ [Call.end_ cl])).points.length
        = width (attribStride n + 1) pre + width (attribStride n + 1) [Call.end_ cl] := hlen
    have hemp : (stored n (pre ++ [Call.end_ cl])).points.isEmpty = false := by
      cases h : (stored n (pre ++ [Call.end_ cl])).points with
      | nil => rw [h] at hL; simp at hL hci'; omega
      | cons _ _ => rfl
    rw [hspec]
    cases cl with
    | false =>
      have e : csub (width (attribStride n + 1) pre) (attribStride n) = some (ci + 1) :=
        csub_eq _ _ _ (by omega)
      simp [PathData.lastEndpoint, hemp, hL, hN, width, callWidth, e, csub_add, hci]
    | true =>
      -- the copy of the first endpoint that `end(true)` stores, right after `pre`'s storage
      have hfa := firstAfter_state pre none zeroPt (List.replicate n default) true hb (by simp) _ hσ
      have hfl := firstAfter_length n zeroPt (List.replicate n default) pre ha.1 (by simp)
      simp only at hfa
      have hE := endpointA_at (stored n (pre ++ [Call.end_ true]))
        (emitPts zeroPt (List.replicate n default) pre) [] fstp.1 fstp.2
        (by simp [stored, emitPts_append, emitPts, ← hfa]) (by rw [hfa]; exact hfl)
      rw [emitPts_length n pre _ _ ha.1 (by simp)] at hE
      have e : csub (width (attribStride n + 1) pre + (attribStride n + 1)) (attribStride n)
          = some (width (attribStride n + 1) pre + 1) := csub_eq _ _ _ (by omega)
      simp [PathData.lastEndpoint, hemp, hL, hN, width, callWidth, e, csub_add, hE]

/-- No out-of-bounds read, second part: `reversed`, `reversed().into_path()` reversed again, and
`last_endpoint` also stay inside the storage. -/
theorem no_oob_reversed [DecidableEq S] (n : Nat) (prog : Prog S) (hv : ValidProg n prog) :
    (stored n prog).reversedWithAttributes.isSome ∧
    (stored n prog).reversed.isSome ∧
    ((stored n prog).reversedIntoPath.bind PathData.reversedWithAttributes).isSome ∧
    (stored n prog).lastEndpoint.isSome := by
  simp [reversed_eq_spec n prog hv, reversed_eq_spec_points n prog hv, reversed_involutive n prog hv,
    with_attributes_eq n prog hv, last_endpoint_eq n prog hv]

/-- `next_event_id_in_path` maps the `j`-th event id the builder handed back (= the `j`-th id
`iter` passes) to the `j+1`-th, and the last one to `None`; the read is in bounds. -/
theorem commands_next_event_id {A : Type} (prog : List (Call Nat A)) (j id : Nat)
    (hj : (Cmd.build prog).2[j]? = some id) :
    Cmd.nextEventIdInPath (Cmd.build prog).1 id = some ((Cmd.build prog).2[j + 1]?) := by
  simp only [Cmd.build, Cmd.run_emit, Cmd.run_ids, Cmd.Builder.new, List.nil_append] at hj ⊢
  exact Cmd.nextInPath_emit _ prog [] 0 (by simp) j id hj

/-- Walking by `next_event_id_in_path` from the first id enumerates exactly the event ids. -/
theorem commands_walk_eq_ids {A : Type} (prog : List (Call Nat A)) (hne : prog ≠ []) :
    Cmd.walkIds (Cmd.build prog).1 (Cmd.build prog).1.length 0 = some (Cmd.build prog).2 := by
  have h0 : (Cmd.build prog).2[0]? = some 0 := by
    simp only [Cmd.build, Cmd.run_ids, Cmd.Builder.new, List.length_nil]
    rw [Cmd.emitIds_head]; simp [hne]
  have hlen : (Cmd.build prog).2.length = prog.length := by
    simp [Cmd.build, Cmd.run_ids, Cmd.emitIds_length]
  have hge : prog.length ≤ (Cmd.build prog).1.length := by
    simp only [Cmd.build, Cmd.run_emit, Cmd.Builder.new, List.nil_append]
    exact Cmd.emitCmds_length_ge _ _ prog
  have hpos : 0 < prog.length := List.length_pos_iff.mpr hne
  have := Cmd.walk_from (Cmd.build prog).1 (Cmd.build prog).2
    (fun j id h => commands_next_event_id prog j id h) prog.length 0 0 (Cmd.build prog).1.length
    (by omega) (by omega) hge h0
  simpa using this

/-- Random access by walking agrees with iteration: `event(id)` over the ids reached by
`next_event_id_in_path` from the first one = the events `iter` yields. -/
theorem commands_events_by_walk {A : Type} (prog : List (Call Nat A)) (h : WellNested prog) :
    Cmd.eventsByWalk (Cmd.build prog).1 = some (specEvents prog) := by
  by_cases hne : prog = []
  · subst hne; simp [Cmd.eventsByWalk, Cmd.build, Cmd.Builder.run, Cmd.Builder.new, specEvents, specFrom]
  · have hcm : (Cmd.build prog).1.isEmpty = false := by
      simpa [Cmd.build, Cmd.run_emit, Cmd.Builder.new, ← List.length_eq_zero_iff,
        Cmd.emitCmds_length_eq_zero] using hne
    simp only [Cmd.eventsByWalk, hcm, Bool.false_eq_true, if_false, commands_walk_eq_ids prog hne,
      Option.bind_some]
    exact commands_event_eq_iter prog h

/-- `next_event_id_in_sub_path` answers, for every event id, the next id —
and at an End the id of that sub-path's Begin, so the ids of each sub-path form a cycle
(`Cmd.cycleSpec`).  The back-pointer read is in bounds. -/
theorem sub_path_cycle {A : Type} (prog : List (Call Nat A)) (h : WellNested prog) :
    (Cmd.build prog).2.mapM (Cmd.nextEventIdInSubPath (Cmd.build prog).1)
      = some (Cmd.cycleSpec (Cmd.build prog).2 prog 0) := by
  simp only [Cmd.build, Cmd.run_emit, Cmd.run_ids, Cmd.Builder.new, List.nil_append]
  exact Cmd.nextInSubPath_emit _ prog false [] 0 (by simp) h

/-- Every `EndpointId` returned by `BuilderWithAttributes` (begin / line_to /
quadratic_bezier_to / cubic_bezier_to) resolves in bounds through `Index<EndpointId>` /
`PositionStore::get_endpoint` and `Path::attributes` / `AttributeStore::get`, to exactly the
position and attributes passed in that call. -/
theorem ids_in_bounds (n : Nat) (prog : Prog S) (hv : ValidProg n prog) :
    ∃ ids, ((BuilderWithAttributes.new (S := S) n).run prog).map (·.2) = some ids ∧
      ids.mapM (stored n prog).endpointA = some (progEndpoints prog) := by
  refine ⟨_, by rw [run_eq (BuilderWithAttributes.new (S := S) n) prog
    (by simpa [BuilderWithAttributes.new] using hv.2) (by simp [BuilderWithAttributes.new])]; rfl, ?_⟩
  have := ids_resolve_emit (stored n prog) prog zeroPt (List.replicate n default) []
    (by simp [stored]) (by simpa [stored] using hv.2) (by simp [stored])
  simpa [BuilderWithAttributes.new, BuilderImpl.new, stored] using this

set_option linter.unusedVariables false in
/-- the same for `Path::builder()` (no attributes) -/
theorem ids_in_bounds_plain {A : Type} (prog : List (Call (Pt S) A)) (h : WellNested prog) :
    ((BuilderImpl.new (S := S)).run prog).2.mapM (buildPlain prog).endpointA
      = some (progEndpoints (prog.map noAttr)) := by
  rw [plain_run_eq, plain_builder_storage]
  have := ids_resolve_emit (stored 0 (prog.map (noAttr (S := S)))) (prog.map noAttr) zeroPt [] []
    (by simp [stored]) (by simpa [stored] using attrsOk_noAttr prog) (by simp [stored])
  simpa [BuilderImpl.new, stored, attribStride] using this

/-- `Path::as_slice` is the path itself (full-range slices of both arrays, same
attribute count) — for any path, built or not; so every view of the slice is the path's view. -/
theorem slice_eq (p : PathData S) : p.asSlice = some p := by
  simp [PathData.asSlice, sliceRange]

theorem slice_views_eq (p : PathData S) :
    p.asSlice.bind PathData.iter = p.iter ∧
    p.asSlice.bind PathData.iterWithAttributes = p.iterWithAttributes ∧
    p.asSlice.map PathData.idIter = some p.idIter ∧
    p.asSlice.bind PathData.reversedWithAttributes = p.reversedWithAttributes := by
  simp [slice_eq]

/-! ### `Path::transformed` (modelled by C16: `Adapt.applyTransform`, `Lemmas/AdaptersStored`)

`Adapt.applyTransform g p : Option (PathData S)`; `none` = some `self.points[…]` of the
`IdIter` walk of `apply_transform` indexes outside the storage (Rust: panic).  Since lyon commit
f78412c3 the walk also transforms the copy of the first endpoint that `end(true)` stores
(finding C14-transformed-close-point-stale, fixed), and every view of the transformed path is
the transformed view. -/

theorem validProg_transformed (g : Pt S → Pt S) (n : Nat) (prog : Prog S) (hv : ValidProg n prog) :
    ValidProg n (prog.map (Adapt.mapCall g)) :=
  ⟨by simpa [WellNested, Adapt.wellNestedFrom_map] using hv.1,
   by rw [Adapt.attrsOk_map]; exact hv.2⟩

/-- `Path::transformed` on a built path never indexes outside the storage, and yields, slot for
slot, the path that building the transformed program yields (positions and control points
transformed, attribute slots untouched, the copy of the first endpoint stored by `end(true)`
transformed). -/
theorem transformed_stored_eq (g : Pt S → Pt S) (n : Nat) (prog : Prog S) (hv : ValidProg n prog) :
    Adapt.applyTransform g (stored n prog) = some (stored n (prog.map (Adapt.mapCall g))) :=
  Adapt.stored_transform g n prog hv.1 hv.2

/-- No out-of-bounds access in `apply_transform`: every `self.points[…]` read and write of the
walk is in range (`applyTransform` is `some`), in particular the write added by f78412c3: for
every `IdEvent::End { last, close: true, .. }` that `id_iter` yields, the index
`last + (num_attributes + 1) / 2 + 1` is inside the storage. -/
theorem transformed_no_oob (g : Pt S → Pt S) (n : Nat) (prog : Prog S) (hv : ValidProg n prog) :
    (Adapt.applyTransform g (stored n prog)).isSome = true ∧
    ∀ last first, Event.end_ last first true ∈ (stored n prog).idIter →
      last + attribStride n + 1 < (stored n prog).points.length := by
  have h := transformed_stored_eq g n prog hv
  refine ⟨by simp [h], ?_⟩
  simp only [Adapt.applyTransform, Option.map_eq_some_iff] at h
  obtain ⟨q, hq, _⟩ := h
  exact (Adapt.applyAll_close_in_bounds g _ _ _ q hq).2

/-- The `iter` view of a transformed built path is the transformed `iter` view. -/
theorem transformed_iter_eq (g : Pt S → Pt S) (n : Nat) (prog : Prog S) (hv : ValidProg n prog) :
    (Adapt.applyTransform g (stored n prog)).bind PathData.iter
      = (stored n prog).iter.map (fun evs => evs.map (Adapt.mapEvent g)) := by
  rw [iter_eq_spec n prog hv]
  exact Adapt.stored_transform_iter g n prog hv.1 hv.2

/-- The `iter_with_attributes` view of a transformed built path: every position (endpoints and
control points) transformed, every endpoint's attributes unchanged. -/
theorem transformed_iter_with_attributes_eq (g : Pt S → Pt S) (n : Nat) (prog : Prog S)
    (hv : ValidProg n prog) :
    (Adapt.applyTransform g (stored n prog)).bind PathData.iterWithAttributes
      = (stored n prog).iterWithAttributes.map
          (fun evs => evs.map (Adapt.mapEvent (Adapt.mapA g))) := by
  rw [transformed_stored_eq g n prog hv, Option.bind_some,
    with_attributes_eq n _ (validProg_transformed g n prog hv), with_attributes_eq n prog hv,
    Adapt.specEvents_aCall_map, Option.map_some]

/-- `id_iter` of the transformed path is `id_iter` of the original (the verbs are untouched),
and resolving its ids through the transformed path's position and attribute stores gives the
transformed attribute-carrying events. -/
theorem transformed_id_iter_eq (g : Pt S → Pt S) (n : Nat) (prog : Prog S) (hv : ValidProg n prog) :
    (Adapt.applyTransform g (stored n prog)).map PathData.idIter = some (stored n prog).idIter ∧
    (Adapt.applyTransform g (stored n prog)).bind
        (fun q => resolveAll q.endpointA q.ctrlA q.idIter)
      = (resolveAll (stored n prog).endpointA (stored n prog).ctrlA (stored n prog).idIter).map
          (fun evs => evs.map (Adapt.mapEvent (Adapt.mapA g))) := by
  refine ⟨?_, ?_⟩
  · rw [transformed_stored_eq g n prog hv]
    simp [stored, PathData.idIter, Adapt.emitVerbs_map]
  · rw [transformed_stored_eq g n prog hv, Option.bind_some,
      id_iter_resolves_attributes n _ (validProg_transformed g n prog hv),
      id_iter_resolves_attributes n prog hv, Adapt.specEvents_aCall_map, Option.map_some]

/-- The `reversed` views (with and without attributes) of a transformed built path are the
transformed reversed views. -/
theorem transformed_reversed_eq (g : Pt S → Pt S) (n : Nat) (prog : Prog S) (hv : ValidProg n prog) :
    (Adapt.applyTransform g (stored n prog)).bind PathData.reversedWithAttributes
      = (stored n prog).reversedWithAttributes.map
          (fun evs => evs.map (Adapt.mapEvent (Adapt.mapA g))) ∧
    (Adapt.applyTransform g (stored n prog)).bind PathData.reversed
      = (stored n prog).reversed.map (fun evs => evs.map (Adapt.mapEvent g)) := by
  have hv' := validProg_transformed g n prog hv
  refine ⟨?_, ?_⟩
  · rw [transformed_stored_eq g n prog hv, Option.bind_some, reversed_eq_spec n _ hv',
      reversed_eq_spec n prog hv, Adapt.specEvents_aCall_map, Adapt.reverseEvents_map,
      Option.map_some]
  · rw [transformed_stored_eq g n prog hv, Option.bind_some, reversed_eq_spec_points n _ hv',
      reversed_eq_spec_points n prog hv, Adapt.specEvents_aCall_map, Adapt.reverseEvents_map,
      Option.map_some]
    simp [List.map_map, Function.comp_def, Adapt.withPoints_fst_mapA]

/-- `first_endpoint` of a transformed built path = the transformed first endpoint of the
original, attributes unchanged (`None` stays `None`). -/
theorem transformed_first_endpoint_eq (g : Pt S → Pt S) (n : Nat) (prog : Prog S)
    (hv : ValidProg n prog) :
    (Adapt.applyTransform g (stored n prog)).bind PathData.firstEndpoint
      = (stored n prog).firstEndpoint.map (fun e => e.map (Adapt.mapA g)) := by
  rw [transformed_stored_eq g n prog hv, Option.bind_some,
    first_endpoint_eq n _ (validProg_transformed g n prog hv), first_endpoint_eq n prog hv]
  cases prog with
  | nil => rfl
  | cons c r => cases c <;> rfl

/-- `last_endpoint` of a transformed built path = the transformed last endpoint of the original,
attributes unchanged — also when the last sub-path is closed, where `last_endpoint` reads the
copy of the first endpoint stored by `end(true)` (the case that failed before f78412c3). -/
theorem transformed_last_endpoint_eq (g : Pt S → Pt S) (n : Nat) (prog : Prog S)
    (hv : ValidProg n prog) :
    (Adapt.applyTransform g (stored n prog)).bind PathData.lastEndpoint
      = (stored n prog).lastEndpoint.map (fun e => e.map (Adapt.mapA g)) := by
  rw [transformed_stored_eq g n prog hv, Option.bind_some,
    last_endpoint_eq n _ (validProg_transformed g n prog hv), last_endpoint_eq n prog hv,
    Adapt.specEvents_aCall_map, List.getLast?_map, Option.map_some]
  cases (specEvents (prog.map aCall)).getLast? with
  | none => rfl
  | some e =>
    cases e with
    | end_ l f cl => cases cl <;> simp [Adapt.mapEvent]
    | _ => simp [Adapt.mapEvent]

/-- Every view of a transformed built path is the transformed view (the property's clause for
`Path::transformed`, full strength): `iter`, `iter_with_attributes`, `id_iter` resolved through
the stores, `reversed` (with and without attributes), `first_endpoint`, `last_endpoint`; no
access outside the storage on the way. -/
theorem transformed_views_eq (g : Pt S → Pt S) (n : Nat) (prog : Prog S) (hv : ValidProg n prog) :
    ∃ q, Adapt.applyTransform g (stored n prog) = some q ∧
      q.iter = (stored n prog).iter.map (fun evs => evs.map (Adapt.mapEvent g)) ∧
      q.iterWithAttributes = (stored n prog).iterWithAttributes.map
          (fun evs => evs.map (Adapt.mapEvent (Adapt.mapA g))) ∧
      q.idIter = (stored n prog).idIter ∧
      resolveAll q.endpointA q.ctrlA q.idIter
        = (resolveAll (stored n prog).endpointA (stored n prog).ctrlA (stored n prog).idIter).map
            (fun evs => evs.map (Adapt.mapEvent (Adapt.mapA g))) ∧
      q.reversedWithAttributes = (stored n prog).reversedWithAttributes.map
          (fun evs => evs.map (Adapt.mapEvent (Adapt.mapA g))) ∧
      q.reversed = (stored n prog).reversed.map (fun evs => evs.map (Adapt.mapEvent g)) ∧
      q.firstEndpoint = (stored n prog).firstEndpoint.map (fun e => e.map (Adapt.mapA g)) ∧
      q.lastEndpoint = (stored n prog).lastEndpoint.map (fun e => e.map (Adapt.mapA g)) := by
  have h := transformed_stored_eq g n prog hv
  have h1 := transformed_iter_eq g n prog hv
  have h2 := transformed_iter_with_attributes_eq g n prog hv
  have h3 := transformed_id_iter_eq g n prog hv
  have h4 := transformed_reversed_eq g n prog hv
  have h5 := transformed_first_endpoint_eq g n prog hv
  have h6 := transformed_last_endpoint_eq g n prog hv
  rw [h] at h1 h2 h3 h4 h5 h6
  simp only [Option.bind_some, Option.map_some, Option.some.injEq] at h1 h2 h3 h4 h5 h6
  exact ⟨_, h, h1, h2, h3.1, h3.2, h4.1, h4.2, h5, h6⟩

/- Before lyon commit f78412c3 `apply_transform` skipped every `IdEvent::End`, the copy of the
first endpoint stored by `end(true)` stayed untransformed, and `last_endpoint` (which reads that
slot) of a transformed path whose last sub-path is closed answered the UNtransformed point: for
`M 0 0 L 5 0 Z` translated by `(1, 1)` it answered `(0, 0)`.  The same input on the repaired
model (the oracle class `closed-last-sub-path` stays active): -/

/-- that input, `M 0 0 L 5 0 Z` translated by `(1, 1)`, computed on the model:
`last_endpoint` of the transformed path is `(1, 1)` -/
example :
    let prog : Prog Int := [.begin (0, 0) [], .line (5, 0) [], .end_ true]
    let g : Pt Int → Pt Int := fun p => (p.1 + 1, p.2 + 1)
    (stored 0 prog).lastEndpoint = some (some ((0, 0), [])) ∧
    (Adapt.applyTransform g (stored 0 prog)).bind PathData.lastEndpoint = some (some ((1, 1), [])) ∧
    (Adapt.applyTransform g (stored 0 prog)).bind PathData.iter
      = some [Event.begin (1, 1), Event.line (1, 1) (6, 1), Event.end_ (6, 1) (1, 1) true] := by
  decide

/-- with attributes (odd count, padded) and two sub-paths, the second closed: the storage after
`transformed` — the last two slots are the transformed copy of `(7, 7)` and its attribute -/
example :
    (Adapt.applyTransform (fun p : Pt Int => (p.1 + 1, p.2 + 2))
        (stored 1 [.begin (0, 0) [1], .end_ false, .begin (7, 7) [2], .line (9, 7) [3],
          .end_ true])).map (·.points)
      = some [(1, 2), (1, 0), (8, 9), (2, 0), (10, 9), (3, 0), (8, 9), (2, 0)] := by
  decide

/-! ### the raw-pointer code of `lyon_path` and which theorem covers each of its reads

`crates/path/src` contains seven `unsafe` blocks, one in each of seven functions:

| Rust function (file:line) | what it does unchecked | model | used by | reads covered by |
|---|---|---|---|---|
| `PointIter::new` (path.rs:935) | `ptr.add(len)` (one-past-the-end pointer) | the remaining list | `Iter`, `IterWithAttributes` | — (no read) |
| `PointIter::next` (path.rs:957) | `*self.ptr`, guarded by `ptr >= end` | `popPt` | `Iter::next`, `IterWithAttributes::{next, pop_endpoint}` | `no_oob_iter`, `no_oob_iter_with_attributes` |
| `PointIter::advance_n` (path.rs:967) | `ptr.add(n)` after `assert!(remaining_len() >= n)` | `advanceN` | `Iter::skip_attributes`, `pop_endpoint` | the same two |
| `IterWithAttributes::pop_endpoint` (path.rs:1112) | `slice::from_raw_parts(ptr as *const f32, num_attributes)` | `(flatPts rest).take n` after `advanceN` succeeded | `IterWithAttributes::next` | `no_oob_iter_with_attributes` |
| `interpolated_attributes` (path.rs:1287) | `from_raw_parts(&points[idx].x, num_attributes)` after `assert!(idx + stride <= len)` | `interpolatedAttributes` | `Path/PathSlice::attributes`, `AttributeStore::get`, `first/last_endpoint`, `Reversed::next` | `no_oob_attributes`, `no_oob` (`first_endpoint`), `no_oob_reversed` (`Reversed::next`, `last_endpoint`) |
| `CmdIter::new` / `CmdIter::next` (commands.rs:98, 108) | `ptr.add(len)`, `*self.ptr` guarded by `ptr == end` | list consumption in `Cmd.iterGo` / `Cmd.eventsGo` | `commands::{Iter, Events, PointEvents}` | `no_oob_commands` |

`IdIter`, `Reversed`, `Path::apply_transform`, `PathCommandsSlice::{event, next_event_id_*}`,
`PathBuffer::get` and the polygon types use checked indexing only (a bad index panics, it does
not read outside); their indices are nevertheless shown in range (`id_iter_resolves*`,
`no_oob_reversed`, `transformed_no_oob`, `no_oob_commands`, `path_buffer_get*`,
`polygon_views_agree`).  In the model each of the reads
above is an `Option`; the `no_oob*` theorems say: on storage produced by a builder from a valid
program, every one of them is `some`. -/

/-- every `PointIter::next` / `advance_n` performed by `Path::iter` is in range -/
theorem no_oob_iter (n : Nat) (prog : Prog S) (hv : ValidProg n prog) :
    (stored n prog).iter.isSome = true := by simp [iter_eq_spec n prog hv]

/-- every `PointIter::next` / `advance_n` and every `from_raw_parts` attribute slice of
`Path::iter_with_attributes` is in range -/
theorem no_oob_iter_with_attributes (n : Nat) (prog : Prog S) (hv : ValidProg n prog) :
    (stored n prog).iterWithAttributes.isSome = true := by simp [with_attributes_eq n prog hv]

/-- `interpolated_attributes` (and `points[id]`) for every endpoint id a builder returned, and
for every id `id_iter` yields -/
theorem no_oob_attributes (n : Nat) (prog : Prog S) (hv : ValidProg n prog) :
    (∃ ids, ((BuilderWithAttributes.new (S := S) n).run prog).map (·.2) = some ids ∧
      (ids.mapM (stored n prog).endpointA).isSome = true) ∧
    (resolveAll (stored n prog).endpointA (stored n prog).ctrlA (stored n prog).idIter).isSome = true := by
  obtain ⟨ids, h1, h2⟩ := ids_in_bounds n prog hv
  exact ⟨⟨ids, h1, by simp [h2]⟩, by simp [id_iter_resolves_attributes n prog hv]⟩

/-- all endpoint and control point ids of a program are valid indices of the external stores -/
def idsValid {A : Type} (ne nc : Nat) : List (Call Nat A) → Bool
  | [] => true
  | .begin p _ :: r => decide (p < ne) && idsValid ne nc r
  | .line p _ :: r => decide (p < ne) && idsValid ne nc r
  | .quad c p _ :: r => decide (c < nc) && decide (p < ne) && idsValid ne nc r
  | .cubic c d p _ :: r => decide (c < nc) && decide (d < nc) && decide (p < ne) && idsValid ne nc r
  | .end_ _ :: r => idsValid ne nc r

theorem idsValid_res {A π : Type} (eps cps : List π) (prog : List (Call Nat A))
    (hv : idsValid eps.length cps.length prog = true) :
    ∃ prog' : List (Call π A), ProgRes (fun i => eps[i]?) (fun i => cps[i]?) prog prog' := by
  induction prog with
  | nil => exact ⟨[], .nil⟩
  | cons c r ih =>
    cases c with
    | begin p a =>
      simp only [idsValid, Bool.and_eq_true, decide_eq_true_eq] at hv
      obtain ⟨r', hr⟩ := ih hv.2
      exact ⟨_, .begin (b := a) (List.getElem?_eq_getElem hv.1) hr⟩
    | line p a =>
      simp only [idsValid, Bool.and_eq_true, decide_eq_true_eq] at hv
      obtain ⟨r', hr⟩ := ih hv.2
      exact ⟨_, .line (b := a) (List.getElem?_eq_getElem hv.1) hr⟩
    | quad k p a =>
      simp only [idsValid, Bool.and_eq_true, decide_eq_true_eq] at hv
      obtain ⟨r', hr⟩ := ih hv.2
      exact ⟨_, .quad (b := a) (List.getElem?_eq_getElem hv.1.1) (List.getElem?_eq_getElem hv.1.2) hr⟩
    | cubic k1 k2 p a =>
      simp only [idsValid, Bool.and_eq_true, decide_eq_true_eq] at hv
      obtain ⟨r', hr⟩ := ih hv.2
      exact ⟨_, .cubic (b := a) (List.getElem?_eq_getElem hv.1.1.1) (List.getElem?_eq_getElem hv.1.1.2)
        (List.getElem?_eq_getElem hv.1.2) hr⟩
    | end_ cl =>
      obtain ⟨r', hr⟩ := ih (by simpa [idsValid] using hv)
      exact ⟨_, .end_ hr⟩

/-- every `CmdIter::next` (with its `.unwrap()`s) of `PathCommands::iter`, every index of
`event(id)`, `next_event_id_in_path`, `next_event_id_in_sub_path` over the ids the builder
returned, and — when the program's ids are valid indices of the external stores — every
`endpoints[i]` / `control_points[i]` of `events` / `PointEvents`, is in range -/
theorem no_oob_commands {A π : Type} (prog : List (Call Nat A)) (h : WellNested prog)
    (eps cps : List π) (hids : idsValid eps.length cps.length prog = true) :
    (Cmd.iter (Cmd.build prog).1).isSome = true ∧
    ((Cmd.build prog).2.mapM (Cmd.event (Cmd.build prog).1)).isSome = true ∧
    (∀ (j id : Nat), (Cmd.build prog).2[j]? = some id →
      (Cmd.nextEventIdInPath (Cmd.build prog).1 id).isSome = true) ∧
    ((Cmd.build prog).2.mapM (Cmd.nextEventIdInSubPath (Cmd.build prog).1)).isSome = true ∧
    (Cmd.events (Cmd.build prog).1 eps cps).isSome = true := by
  refine ⟨by simp [commands_iter_eq_spec prog h], by simp [commands_event_eq_iter prog h], ?_,
    by simp [sub_path_cycle prog h], ?_⟩
  · intro j id hj; simp [commands_next_event_id prog j id hj]
  · obtain ⟨prog', hr⟩ := idsValid_res eps cps prog hids
    rw [commands_events_eq_spec prog h, specEvents, (hr.spec none none trivial).1]
    rfl

/-- three attributes (odd: padded), a curve, a closed and a single-point sub-path -/
def exampleProg : Prog Int :=
  [.begin (0, 0) [1, 2, 3], .line (5, 0) [4, 5, 6], .quad (9, 9) (5, 5) [7, 8, 9], .end_ true,
   .begin (7, 7) [0, 0, 1], .end_ false]

example : ValidProg 3 exampleProg := ⟨by decide, by decide⟩
example : (stored 3 exampleProg).iter = some (specEvents exampleProg) :=
  iter_eq_spec 3 exampleProg ⟨by decide, by decide⟩
example : (stored 3 exampleProg).points.length = 16 := by decide
example : WellNested (polyProg [(0 : Int), 1, 2] true) := by decide
example : WellNested ([.begin 0 (), .quad 1 2 (), .end_ true] : List (Call Nat Unit)) := by decide
example : idsValid 3 3 ([.begin 0 (), .quad 1 2 (), .end_ true] : List (Call Nat Unit)) = true := by decide
example : ([.begin 0 (), .quad 1 2 (), .end_ true] : List (Call Nat Unit)) ≠ [] := by decide
example : ∀ q ∈ [exampleProg, exampleProg], ValidProg 3 q := by
  intro q hq; simp at hq; subst hq; exact ⟨by decide, by decide⟩
/-- the reversed view of the model on the example, computed -/
example : ((stored 3 exampleProg).reversedIntoPath.bind PathData.reversedWithAttributes)
    = (stored 3 exampleProg).iterWithAttributes := by decide

/-- `transformed_views_eq` instantiated on the example (first sub-path closed, three attributes) -/
example : ∃ q, Adapt.applyTransform (fun p : Pt Int => (p.1 + 3, p.2 - 1)) (stored 3 exampleProg) = some q ∧
    q.lastEndpoint = (stored 3 exampleProg).lastEndpoint.map (fun e => e.map (Adapt.mapA fun p => (p.1 + 3, p.2 - 1))) := by
  obtain ⟨q, h, _, _, _, _, _, _, _, hl⟩ :=
    transformed_views_eq (fun p : Pt Int => (p.1 + 3, p.2 - 1)) 3 exampleProg ⟨by decide, by decide⟩
  exact ⟨q, h, hl⟩
/-- … and computed: the copy of `(0, 0)` stored by the close, at index 10 = last (7) + stride (2) + 1 -/
example : ((Adapt.applyTransform (fun p : Pt Int => (p.1 + 3, p.2 - 1)) (stored 3 exampleProg)).map
    fun q => q.points[10]?) = some (some (3, -1)) := by decide

end Lyon.C14
