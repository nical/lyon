/-
  Theorems about the event-queue builder on CURVES (`Model/Tess/SweepCurves.lean`:
  `quadSegment` / `cubicSegment` = `EventQueueBuilder::{quadratic_bezier_segment,
  cubic_bezier_segment}` with the flattening of `Model/Geom/Flatten.lean` inside), over any
  linearly ordered field; `sqrt`, `ceil`, … are parameters (`Transc K`), no law of theirs is used.

  * `quad_flip_sample` / `cubic_flip_sample` — the curve with its ends (and control points)
    swapped, at `1 - t`, is the curve at `t`: the identity behind `needs_swap`.
  * `quadSegment_rep` — FULL STRENGTH, no hypothesis on the flattening: every record
    `quadratic_bezier_segment` stores for the curve `C` from the current point satisfies the
    representation invariant of C07 with respect to the ORIGINAL curve: its position is `C t0`,
    its `to` is `C t1` — whichever way the curve points, i.e. also when it is flattened from its
    end (the property behind fix 8662f1bc), and for every tolerance.
    (For cubics the analogous statement is false in exact arithmetic and not claimed: the pieces'
    end points lie on the approximating quadratics, not on the cubic.)
  * `curveSegment_edges` / `quadSegment_ranges_tile` / `cubicSegment_ranges_tile` — the t-ranges:
    the flattening's pieces tile `[0,1]` in order (a chain from parameter 0 to parameter 1, from
    the curve's start point to its end point), and the edge records stored for the curve carry,
    read in the direction of the flattening (`flatRange`), exactly the ranges of the
    non-degenerate pieces in order — `t` itself for a curve flattened from its start, `1 - t` for
    one flattened from its end, so that read along the ORIGINAL curve they tile `[0,1]` from 1
    down to 0; older records are untouched.
-/
import LyonVerif.Lemmas.SweepCurves
import LyonVerif.Props.C07

set_option linter.unusedSectionVars false
set_option linter.unusedSimpArgs false

namespace Lyon.SweepCurvesProps
open Lyon Lyon.Scalar Lyon.Sources Lyon.SweepCurves Lyon.Flat

variable {K : Type} [Field K] [LinearOrder K] [IsStrictOrderedRing K]

theorem quad_flip_sample (a c b : P K) (t : K) :
    (⟨b, c, a⟩ : Quad K).sample (1 - t) = (⟨a, c, b⟩ : Quad K).sample t :=
  (C10.quad_flip_sample ⟨b, c, a⟩ t).symm

theorem cubic_flip_sample (a c1 c2 b : P K) (t : K) :
    (⟨b, c2, c1, a⟩ : Cubic K).sample (1 - t) = (⟨a, c1, c2, b⟩ : Cubic K).sample t :=
  (C10.cubic_flip_sample ⟨b, c2, c1, a⟩ t).symm

/-- `curveSegment`: with `l` the flattening used (of the curve, or of the flipped curve when
`needs_swap`), the edge records added are the non-degenerate pieces of `l` in order -/
theorem curveSegment_edges (b : Builder K) (dest : P K) (toId : Nat) (l : List (Piece K)) :
    (edgesOf (b.curveSegment dest toId l l).recs).map
        (flatRange (if isAfter b.current dest then -1 else 1))
      = ((l.filter nondeg).map (storedRange (isAfter b.current dest))).reverse
        ++ (edgesOf b.recs).map (flatRange (if isAfter b.current dest then -1 else 1)) := by
  obtain ⟨new, e, ⟨he, -⟩, -⟩ := curveSegment_recs b dest toId l l
  obtain ⟨w, hw, hw'⟩ : ∃ w : Int, (if isAfter b.current dest then (-1 : Int) else 1) = w ∧ ¬ (-w = w) := by
    split_ifs <;> exact ⟨_, rfl, by decide⟩
  unfold edgesOf
  rw [e, List.filter_append, List.map_append, he, List.map_reverse, List.map_map, ite_self, hw]
  congr 3
  funext p
  by_cases h : isAfter p.a p.b = true <;> simp [pieceRec, flatRange, storedRange, h, hw']

section flat
variable [Transc K] [FlatConst K]

/-- **`quadratic_bezier_segment`: the t-ranges.**  If the call returns, there is the flattening
`l` it used — of the curve from the current point, or of the swapped curve when the curve points
against the sweep — which tiles `[0,1]` from the (possibly swapped) start point to the end point;
the edge records stored by the call are, newest first, the non-degenerate pieces of `l`, carrying
the range `t0..t1` (flattened from the start) resp. `1-t0..1-t1` (flattened from the end) in
flattening direction; the records stored before are unchanged. -/
theorem quadSegment_ranges_tile (b : Builder K) (tol : K) (ctrl dest : P K) (toId : Nat) (b' : Builder K)
    (h : quadSegment b tol ctrl dest toId = some b') :
    ∃ l : List (FlatSeg K),
      Tiles (if isAfter b.current dest then dest else b.current)
            (if isAfter b.current dest then b.current else dest) l ∧
      (edgesOf b'.recs).map (flatRange (if isAfter b.current dest then -1 else 1))
        = ((l.filter (fun s => !(s.a == s.b))).map
              (fun s => (pieceT (isAfter b.current dest) s.t0, pieceT (isAfter b.current dest) s.t1))).reverse
          ++ (edgesOf b.recs).map (flatRange (if isAfter b.current dest then -1 else 1)) := by
  unfold quadSegment at h
  simp only at h
  split at h
  · cases h
  · rename_i l hl
    cases h
    refine ⟨l, ?_, ?_⟩
    · have := quad_flat_tiles _ tol l hl
      rwa [apply_ite Quad.a, apply_ite Quad.b] at this
    · rw [curveSegment_edges, toPieces_filter_map]

/-- **`cubic_bezier_segment`: the t-ranges** (as `quadSegment_ranges_tile`; the swapped cubic
also swaps its control points) -/
theorem cubicSegment_ranges_tile (b : Builder K) (tol : K) (c1 c2 dest : P K) (toId : Nat) (b' : Builder K)
    (h : cubicSegment b tol c1 c2 dest toId = some b') :
    ∃ l : List (FlatSeg K),
      Tiles (if isAfter b.current dest then dest else b.current)
            (if isAfter b.current dest then b.current else dest) l ∧
      (edgesOf b'.recs).map (flatRange (if isAfter b.current dest then -1 else 1))
        = ((l.filter (fun s => !(s.a == s.b))).map
              (fun s => (pieceT (isAfter b.current dest) s.t0, pieceT (isAfter b.current dest) s.t1))).reverse
          ++ (edgesOf b.recs).map (flatRange (if isAfter b.current dest then -1 else 1)) := by
  unfold cubicSegment at h
  simp only at h
  split at h
  · cases h
  · rename_i l hl
    cases h
    refine ⟨l, ?_, ?_⟩
    · have := cubic_flat_tiles _ tol l hl
      rwa [apply_ite Cubic.a, apply_ite Cubic.b] at this
    · rw [curveSegment_edges, toPieces_filter_map]

/-- **`quadratic_bezier_segment` establishes the representation invariant**, full strength: every
record stored by the call (edge records of the pieces, vertex events on the curve, the vertex
event of the curve's origin) has its position at `C t0` and its `to` at `C t1` for the ORIGINAL
quadratic `C` from the current point through `ctrl` to `dest` — also when the curve points against
the sweep and is flattened from its end, for every tolerance and every segment count. -/
theorem quadSegment_rep (b : Builder K) (tol : K) (ctrl dest : P K) (toId : Nat) (b' : Builder K)
    (h : quadSegment b tol ctrl dest toId = some b') :
    ∀ r ∈ b'.recs, r ∈ b.recs ∨ C07.RepRec (Quad.sample ⟨b.current, ctrl, dest⟩) r := by
  unfold quadSegment at h
  simp only at h
  split at h
  · cases h
  · rename_i l hl
    cases h
    have hon := quad_flat_ends_on _ tol l hl
    refine C07.rep_curveSegment _ b dest toId _ _ (C10.quad_sample_ends ⟨b.current, ctrl, dest⟩).1.symm ?_
    rw [ite_self]
    intro p hp
    simp only [toPieces, List.mem_map] at hp
    obtain ⟨s, hs, rfl⟩ := hp
    obtain ⟨ha, hb⟩ := hon s hs
    cases hsw : isAfter b.current dest
    · simpa [hsw, pieceT] using And.intro ha hb
    · simp only [hsw, ↓reduceIte] at ha hb
      simp only [pieceT, ↓reduceIte, show (one : K) = 1 from sc_one]
      rw [quad_flip_sample dest ctrl b.current, quad_flip_sample dest ctrl b.current]
      exact ⟨ha, hb⟩

end flat

section linear
variable [Transc K] [FlatConst K]

/-- a quadratic whose control point is its start point is `is_linear` for every tolerance -/
theorem isLinear_ctrl_at_start (a b : P K) (tol : K) : (⟨a, a, b⟩ : Quad K).isLinear tol = true := by
  have h : segSqDist a b a = 0 := by
    cases a; cases b
    simp [segSqDist, segClosestPoint, geom]
  simp only [Quad.isLinear, h, decide_eq_true_eq]
  have : (0 : K) ≤ tol * tol := mul_self_nonneg tol
  simp only [geom] at *
  nlinarith

/-- `is_linear` curves are one piece `from → to` with range `0..1` (`toNat 0 = 0` is the one law of
the float-to-integer cast that is used) -/
theorem quad_flat_linear (q : Quad K) (tol : K) (hl : q.isLinear tol = true) (h0 : Transc.toNat (0 : K) = 0) :
    q.forEachFlattenedWithT tol = some [⟨q.a, q.b, 0, 1⟩] := by
  have hz : (zero : K) = 0 := sc_zero
  have ho : (one : K) = 1 := sc_one
  simp only [Quad.forEachFlattenedWithT, FlatParams.new, hl, ↓reduceIte, FlatParams.linear, toU32]
  rw [if_pos (by simp only [geom, hz, ho]; constructor <;> norm_num)]
  simp [Quad.flatWith, Quad.flatLoop, hz, ho, h0]

end linear

section examples

/-- a trivial `Transc` / `FlatConst` on ℚ for the examples (`sqrt`, `ceil`, … are parameters of the
theorems; the curve below is `is_linear`, so the flattening only consults `toNat 0`) -/
instance exTransc : Transc ℚ where
  sqrt x := x
  cbrt x := x
  sin _ := 0
  cos _ := 1
  tan _ := 0
  acos _ := 0
  atan2 _ _ := 0
  pow x _ := x
  log2 x := x
  ln x := x
  floor x := x
  ceil x := x
  toNat _ := 0
  fmod x _ := x
  eps := 0
  pi := 3
  isNaN _ := false
  isFinite _ := true

instance exFlatConst : FlatConst ℚ where
  epsilon := 1 / 10000
  value m e := (m : ℚ) / 10 ^ e
  d4 := 1 / 5

/-- non-vacuity of the hypothesis `quadSegment … = some b'` in the interesting direction: a
quadratic drawn AGAINST the sweep, from (0,2) up to (0,0) (control point at its end): it is
flattened from its end, as the one piece `(0,0) → (0,2)` of the swapped curve -/
example :
    let b0 : Builder ℚ := Builder.init.begin ⟨0, 2⟩ 7
    isAfter b0.current (⟨0, 0⟩ : P ℚ) = true ∧
    quadSegment b0 (1/10) ⟨0, 0⟩ ⟨0, 0⟩ 8
      = some (b0.curveSegment ⟨0, 0⟩ 8 [⟨⟨0, 0⟩, ⟨0, 2⟩, 0, 1⟩] [⟨⟨0, 0⟩, ⟨0, 2⟩, 0, 1⟩]) := by
  intro b0
  have ha : isAfter b0.current (⟨0, 0⟩ : P ℚ) = true := by
    simp [b0, Builder.begin, isAfter]
  refine ⟨ha, ?_⟩
  have hq := quad_flat_linear (⟨⟨0, 0⟩, ⟨0, 0⟩, ⟨0, 2⟩⟩ : Quad ℚ) (1/10) (isLinear_ctrl_at_start _ _ _)
    (by simp [Transc.toNat])
  unfold quadSegment
  simp only [ha, ↓reduceIte]
  have hc : b0.current = ⟨0, 2⟩ := rfl
  rw [hc, hq]
  rfl

example : (⟨⟨0, 0⟩, ⟨0, 1⟩, ⟨0, 2⟩⟩ : Quad ℚ).sample (1 - 1/4) = (⟨⟨0, 2⟩, ⟨0, 1⟩, ⟨0, 0⟩⟩ : Quad ℚ).sample (1/4) :=
  quad_flip_sample _ _ _ _

example : (⟨⟨0, 0⟩, ⟨1, 1⟩, ⟨3, 1⟩, ⟨4, 2⟩⟩ : Cubic ℚ).sample (1 - 1/4)
    = (⟨⟨4, 2⟩, ⟨3, 1⟩, ⟨1, 1⟩, ⟨0, 0⟩⟩ : Cubic ℚ).sample (1/4) :=
  cubic_flip_sample _ _ _ _ _

/-- `curveSegment_edges` on that instance: the one stored edge record carries, in flattening
direction, the range `1 - 0 .. 1 - 1` of the original curve -/
example :
    let b0 : Builder ℚ := Builder.init.begin ⟨0, 2⟩ 7
    (edgesOf (b0.curveSegment ⟨0, 0⟩ 8 [⟨⟨0, 0⟩, ⟨0, 2⟩, 0, 1⟩] [⟨⟨0, 0⟩, ⟨0, 2⟩, 0, 1⟩]).recs).map (flatRange (-1))
      = [((1 : ℚ), (0 : ℚ))] := by
  intro b0
  have ha : isAfter b0.current (⟨0, 0⟩ : P ℚ) = true := by
    simp [b0, Builder.begin, isAfter]
  have h := curveSegment_edges b0 ⟨0, 0⟩ 8 [⟨⟨0, 0⟩, ⟨0, 2⟩, 0, 1⟩]
  simp only [ha, ↓reduceIte] at h
  rw [h]
  simp [nondeg, storedRange, pieceT, edgesOf, b0, Builder.begin, Builder.init, C07.beq_P]

/-- non-vacuity for the cubic: the straight cubic from (0,3) UP to (0,0) is flattened from its end
as the one piece `(0,0) → (0,3)` of the swapped cubic (control points swapped too) -/
example :
    let b0 : Builder ℚ := Builder.init.begin ⟨0, 3⟩ 7
    isAfter b0.current (⟨0, 0⟩ : P ℚ) = true ∧
    cubicSegment b0 (1/10) ⟨0, 2⟩ ⟨0, 1⟩ ⟨0, 0⟩ 8
      = some (b0.curveSegment ⟨0, 0⟩ 8 [⟨⟨0, 0⟩, ⟨0, 3⟩, 0, 1⟩] [⟨⟨0, 0⟩, ⟨0, 3⟩, 0, 1⟩]) := by
  intro b0
  have ha : isAfter b0.current (⟨0, 0⟩ : P ℚ) = true := by
    simp [b0, Builder.begin, isAfter]
  refine ⟨ha, ?_⟩
  have hc : b0.current = ⟨0, 3⟩ := rfl
  unfold cubicSegment
  rw [hc] at ha ⊢
  simp only [ha, ↓reduceIte]
  have hq : (⟨⟨0, 0⟩, ⟨0, 1⟩, ⟨0, 2⟩, ⟨0, 3⟩⟩ : Cubic ℚ).forEachFlattenedWithT (1/10)
      = some [⟨⟨0, 0⟩, ⟨0, 3⟩, 0, 1⟩] := by
    simp [Cubic.forEachFlattenedWithT, Cubic.forEachQuadraticWithT, Cubic.numQuadraticsImpl, toU32,
      Transc.toNat, Transc.ceil, Transc.pow, geom]
    norm_num [FlatConst.value, Cubic.quadsLoop, Cubic.flatQuadsT, Cubic.splitRange, Cubic.toQuadratic,
      Cubic.sample, geom]
    have hl : (⟨⟨0, 0⟩, ⟨0, 3 / 2⟩, ⟨0, 3⟩⟩ : Quad ℚ).isLinear (3 / 50) = true := by
      simp [Quad.isLinear, segSqDist, segClosestPoint, geom]
      norm_num
    have hql := quad_flat_linear (⟨⟨0, 0⟩, ⟨0, 3 / 2⟩, ⟨0, 3⟩⟩ : Quad ℚ) (3 / 50) hl rfl
    simp only [Quad.forEachFlattenedWithT] at hql
    rw [hql]
    simp [Cubic.rerange, geom]
  rw [hq]
  rfl

end examples

end Lyon.SweepCurvesProps
