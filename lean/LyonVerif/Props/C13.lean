/-
  C13 — elliptic arcs: end-point and centre forms agree; Bézier approximations follow.

  All statements are about the model of `Model/Geom/SvgArc.lean` (+ `Arc` of `Model/Geom/Basic.lean`),
  the same `def`s that the correspondence check runs at `Float32`/`Float` against lyon_geom.
  `sin`, `cos`, `tan`, `atan2`, `sqrt`, `fmod`, `ceil`, the float→int cast and `π` are the *parameters* of the
  class `Transc K`.

  Everything in this file above `section real` is stated for an ARBITRARY linearly ordered field `K`, every law of
  those functions that a proof uses an explicit hypothesis (collected in `ExactTrig`, `SinSign` for the conversion
  theorems); so are, in `Props/C13b.lean`, the exact deviation of a cubic piece (`cubic_arc_deviation_circle_eq`,
  `cubic_arc_deviation_circle`) and what it rests on in `Lemmas/SvgArcRealCubic.lean` (`cubicAt_sample_eq`,
  `tanFrame_normSq`, `cubicFrame_normSq`).  `section real` instantiates `Transc` at `ℝ` with Mathlib's functions
  (`exampleTransc`) and discharges the laws (`exactTrig_real`, `sinSign_real`, `fmod_real_lt`, `cast_faithful_real`).
  All other results of the C13 family (`Props/C13Real.lean`, the rest of `Props/C13b.lean`, `Props/C13c.lean`–`C13e.lean`)
  are stated for that real instance, with no hypothesis about a transcendental function, and so is the helper layer
  under them (`Lemmas/SvgArcReal*.lean`, `Lemmas/SvgArcFrame.lean`): there the laws are Mathlib's theorems.

  The two Bézier conversions are brought into closed form, from which count, ranges, connectedness and the end
  points on the arc follow — the last for `|sweep| ≤ 2π` only: beyond a full turn it FAILS
  (`arc_beziers_beyond_turn_witness`, open finding C13-bezier-sweep-clamped).  For `from_svg_arc`, sweep direction
  and radii hold for any angle function; end points and round trip need it to be exact (`ExactTrig`; the code's is
  libm `atan2`, `exactAngle`), which euclid's `angle_from_x_axis` is not (`fast_atan2_not_exact_witness`).

  The model mirrors lyon after /repo efc24b99 (`from_svg_arc` takes its angles with libm `atan2`; with euclid's
  polynomial `fast_atan2` it missed the given points by up to 2·10⁻⁴·radius), /repo 863c17b2 (the quadratic control
  point comes from `tan` of the half step, not from `Line::intersection` of the end tangents) and /repo 20bcfb88 /
  40e30eb0 (the start angle `WithSvg::arc` recomputes is the `atan2` parameter); the oracle keeps the classes of these
  findings active.

  Not theorems (left to the oracle): anything about IEEE rounding.
-/
import LyonVerif.Model.Geom.SvgArc
import LyonVerif.Lemmas.Field
import Mathlib.Algebra.Order.Ring.Abs
import Mathlib.Tactic.NormNum
import Mathlib.Analysis.SpecialFunctions.Trigonometric.Inverse
import Mathlib.Analysis.Real.Pi.Bounds
import Mathlib.Analysis.SpecialFunctions.Complex.Arg

set_option linter.unusedSectionVars false
set_option linter.unusedVariables false

geom_all Lyon.Arc
geom_all Lyon.Quad
geom_all Lyon.Cubic

namespace Lyon.C13
open Lyon Scalar ArcConv

variable {K : Type} [Field K] [LinearOrder K] [IsStrictOrderedRing K] [Transc K] [ArcConv.Eps K]

/-- the running range start of `arc_to_quadratic_beziers_with_t`:
`t0 = 0; t1 = if i + 1 == n { 1 } else { t0 + dt }; t0 = t1` -/
noncomputable def tSeq (n : Nat) (dt : K) : Nat → K
  | 0 => 0
  | j+1 => nextT n j (tSeq n dt j) dt

theorem quadLoop_eq (arc : Arc K) (step dt : K) (n : Nat) :
    ∀ k i, quadLoop arc step dt n k i (tSeq n dt i) =
      (List.range' i k).map (fun j => (quadPiece arc step j, tSeq n dt j, tSeq n dt (j+1))) := by
  intro k
  induction k with
  | zero => intro i; simp [quadLoop]
  | succ k ih =>
    intro i
    have h := ih (i+1)
    simp only [tSeq] at h
    simp only [quadLoop, List.range'_succ, List.map_cons, tSeq, h]

theorem cubicLoop_eq (arc : Arc K) (step : K) :
    ∀ k i, cubicLoop arc step k i = (List.range' i k).map (fun j => cubicPiece arc step j) := by
  intro k
  induction k with
  | zero => intro i; simp [cubicLoop]
  | succ k ih => intro i; simp only [cubicLoop, List.range'_succ, List.map_cons, ih (i+1)]

/-- number of quadratic pieces: `⌈min(|sweep|, 2π) / (π/4)⌉` as cast by lyon -/
noncomputable def nQ (arc : Arc K) : Nat := Transc.toNat (nStepsQ arc)
/-- number of cubic pieces: `⌈min(|sweep|, 2π) / (π/2)⌉` -/
noncomputable def nC (arc : Arc K) : Nat := Transc.toNat (nStepsC arc)
noncomputable def stepQ (arc : Arc K) : K := stepOf arc (nStepsQ arc)
noncomputable def stepC (arc : Arc K) : K := stepOf arc (nStepsC arc)
noncomputable def dtQ (arc : Arc K) : K := Scalar.one / nStepsQ arc
theorem dtQ_eq (arc : Arc K) : dtQ arc = 1 / nStepsQ arc := by simp [dtQ]

/-- **closed form of `arc_to_quadratic_beziers_with_t`**: piece `j` (for `j = 0 … n-1`) is the
quadratic between the ellipse points at angles `start + step·j` and `start + step·(j+1)`, with the
range `tSeq j .. tSeq (j+1)`. -/
theorem quads_closed_form (arc : Arc K) :
    quadsWithT arc = (List.range' 0 (nQ arc)).map
      (fun j => (quadPiece arc (stepQ arc) j, tSeq (nQ arc) (dtQ arc) j, tSeq (nQ arc) (dtQ arc) (j+1))) := by
  have hz : (Scalar.zero : K) = tSeq (nQ arc) (dtQ arc) 0 := by simp [tSeq]
  unfold quadsWithT
  rw [hz]
  exact quadLoop_eq arc (stepQ arc) (dtQ arc) (nQ arc) (nQ arc) 0

/-- **closed form of `arc_to_cubic_beziers`** -/
theorem cubics_closed_form (arc : Arc K) :
    cubics arc = (List.range' 0 (nC arc)).map (fun j => cubicPiece arc (stepC arc) j) := by
  simpa [cubics, nC, stepC] using cubicLoop_eq arc (stepC arc) (nC arc) 0

/-- count formula (the definition of `n`, spelled out): lyon emits
`⌈min(|sweep|, π·2) / (π/4)⌉` quadratics and `⌈min(|sweep|, π·2) / (π/2)⌉` cubics. -/
theorem arc_beziers_count (arc : Arc K) :
    (quadsWithT arc).length = Transc.toNat (Transc.ceil (Min.min |arc.sweep| (Transc.pi * 2) / (Transc.pi / 4)))
    ∧ (cubics arc).length = Transc.toNat (Transc.ceil (Min.min |arc.sweep| (Transc.pi * 2) / (Transc.pi / 2))) := by
  constructor
  · rw [quads_closed_form]; simp [nQ, nStepsQ, effSweep, fracPi4, geom]
  · rw [cubics_closed_form]; simp [nC, nStepsC, effSweep, fracPi2, geom]

theorem quads_get (arc : Arc K) (j : Nat) (hj : j < nQ arc) :
    (quadsWithT arc)[j]? =
      some (quadPiece arc (stepQ arc) j, tSeq (nQ arc) (dtQ arc) j, tSeq (nQ arc) (dtQ arc) (j+1)) := by
  rw [quads_closed_form]
  simp [hj]

theorem cubics_get (arc : Arc K) (j : Nat) (hj : j < nC arc) :
    (cubics arc)[j]? = some (cubicPiece arc (stepC arc) j) := by
  rw [cubics_closed_form]
  simp [hj]

theorem tSeq_lt (n : Nat) (dt : K) : ∀ j, j < n → tSeq n dt j = j * dt := by
  intro j
  induction j with
  | zero => intro _; simp [tSeq]
  | succ j ih =>
    intro h
    have hne : ¬ (j + 1 = n) := by omega
    simp only [tSeq, nextT, hne, if_false, ih (by omega)]
    push_cast; ring

/-- the last range end is the literal `1` (not `n·dt`) -/
theorem tSeq_last (n : Nat) (dt : K) (hn : 0 < n) : tSeq n dt n = 1 := by
  obtain ⟨m, rfl⟩ : ∃ m, n = m + 1 := ⟨n - 1, by omega⟩
  simp [tSeq, nextT]

theorem tSeq_all (arc : Arc K) (hcast : ((nQ arc : Nat) : K) = nStepsQ arc) (j : Nat)
    (hj : j ≤ nQ arc) (hn : 0 < nQ arc) : tSeq (nQ arc) (dtQ arc) j = (j : K) / (nQ arc : K) := by
  have hnpos : (0 : K) < (nQ arc : K) := by exact_mod_cast hn
  rcases lt_or_eq_of_le hj with h | h
  · rw [tSeq_lt _ _ j h, dtQ_eq, ← hcast]; ring
  · rw [h, tSeq_last _ _ hn, div_self (ne_of_gt hnpos)]

/-- **parameter ranges of the quadratic pieces**: there are `n` pieces; piece `j` carries the range
`tSeq j .. tSeq (j+1)` — so consecutive ranges share their end —; the first range starts at `0`;
the last one ends at exactly `1`; and, when the cast `n_steps ↦ n` is faithful (`hcast`), the
inner ends are `j/n`, strictly increasing. -/
theorem arc_beziers_ranges (arc : Arc K) :
    (quadsWithT arc).length = nQ arc
    ∧ (∀ j, j < nQ arc → ∃ q, (quadsWithT arc)[j]? =
          some (q, tSeq (nQ arc) (dtQ arc) j, tSeq (nQ arc) (dtQ arc) (j+1)))
    ∧ tSeq (nQ arc) (dtQ arc) 0 = 0
    ∧ (0 < nQ arc → tSeq (nQ arc) (dtQ arc) (nQ arc) = 1)
    ∧ (((nQ arc : Nat) : K) = nStepsQ arc →
        (∀ j, j < nQ arc → tSeq (nQ arc) (dtQ arc) j = (j : K) / (nQ arc : K))
        ∧ (∀ j, j < nQ arc → tSeq (nQ arc) (dtQ arc) j < tSeq (nQ arc) (dtQ arc) (j+1))) := by
  refine ⟨?_, ?_, rfl, tSeq_last _ _, ?_⟩
  · rw [quads_closed_form]; simp
  · intro j hj; exact ⟨_, quads_get arc j hj⟩
  · intro hcast
    refine ⟨fun j hj => tSeq_all arc hcast j hj.le (by omega), fun j hj => ?_⟩
    rw [tSeq_all arc hcast j hj.le (by omega), tSeq_all arc hcast (j + 1) hj (by omega)]
    exact div_lt_div_of_pos_right (by push_cast; linarith) (by exact_mod_cast (by omega : 0 < nQ arc))

theorem map_range'_consecutive {β : Type} (f : Nat → β) {n j : Nat} {x y : β}
    (hx : ((List.range' 0 n).map f)[j]? = some x) (hy : ((List.range' 0 n).map f)[j+1]? = some y) :
    x = f j ∧ y = f (j + 1) := by
  have hj : j + 1 < n := by simpa using (List.getElem?_eq_some_iff.mp hy).1
  rw [List.getElem?_map, List.getElem?_range' (by omega)] at hx hy
  simp only [Nat.zero_add, one_mul, Option.map_some, Option.some.injEq] at hx hy
  exact ⟨hx.symm, hy.symm⟩

/-- **connected**: each piece starts where the previous one ends (the very same expression, so this
holds bit for bit in floating point too). -/
theorem arc_beziers_connected (arc : Arc K) :
    (∀ j x y, (quadsWithT arc)[j]? = some x → (quadsWithT arc)[j+1]? = some y → x.1.b = y.1.a)
    ∧ (∀ j x y, (cubics arc)[j]? = some x → (cubics arc)[j+1]? = some y → x.b = y.a) := by
  constructor
  · intro j x y hx hy
    rw [quads_closed_form] at hx hy
    obtain ⟨rfl, rfl⟩ := map_range'_consecutive _ hx hy
    rfl
  · intro j x y hx hy
    rw [cubics_closed_form] at hx hy
    obtain ⟨rfl, rfl⟩ := map_range'_consecutive _ hx hy
    rfl

theorem abs_mul_signum (x : K) : |x| * signum x = x := by
  unfold signum
  simp only [sc_zero, sc_one]
  split_ifs with h
  · rw [abs_of_neg h]; ring
  · rw [abs_of_nonneg (not_lt.mp h)]; ring

theorem signum_eq (x : K) : signum x = 1 ∨ signum x = -1 := by
  unfold signum; simp only [sc_zero, sc_one]; split_ifs <;> simp

theorem abs_signum (x : K) : |signum x| = 1 := by
  rcases signum_eq x with h | h <;> rw [h] <;> simp

theorem signum_mul_self (x : K) : signum x * signum x = 1 := by
  rcases signum_eq x with h | h <;> rw [h] <;> norm_num

theorem fracPi4_eq : (fracPi4 : K) = Transc.pi / 4 := by simp only [fracPi4, geom, Nat.cast_ofNat]
theorem fracPi2_eq : (fracPi2 : K) = Transc.pi / 2 := by simp only [fracPi2, geom, Nat.cast_ofNat]

theorem effSweep_nonneg (arc : Arc K) (hpi : 0 ≤ (Transc.pi : K)) : 0 ≤ effSweep arc := by
  simp only [effSweep, geom, Nat.cast_ofNat]
  exact le_min (abs_nonneg _) (by positivity)

/-- `n_steps ≥ sweep_angle / q` is the law of `ceil`; `n_steps = 0` gives the step `0` -/
theorem abs_stepOf_le (arc : Arc K) (ns q : K) (he : 0 ≤ effSweep arc) (hq : 0 < q)
    (hceil : effSweep arc / q ≤ ns) : |stepOf arc ns| ≤ q := by
  have hn := (div_nonneg he hq.le).trans hceil
  rw [stepOf, abs_mul, abs_signum, mul_one, abs_of_nonneg (div_nonneg he hn)]
  rcases hn.eq_or_lt with h | h
  · rw [← h, div_zero]; exact hq.le
  · rw [div_le_iff₀ hq] at hceil
    rw [div_le_iff₀ h]; linarith

theorem angleAt_eq_getAngle (arc : Arc K) (ns : K) (j : Nat) (hsw : |arc.sweep| ≤ Transc.pi * 2) :
    angleAt arc (stepOf arc ns) j = arc.getAngle ((j : K) / ns) := by
  have he : effSweep arc = |arc.sweep| := by
    simp only [effSweep, geom, Nat.cast_ofNat]
    exact min_eq_left hsw
  simp only [angleAt, stepOf, Arc.getAngle, he, ofNat_eq]
  have h := abs_mul_signum arc.sweep
  calc arc.start + |arc.sweep| / ns * signum arc.sweep * (j : K)
      = arc.start + (|arc.sweep| * signum arc.sweep) * ((j : K) / ns) := by ring
    _ = arc.start + arc.sweep * ((j : K) / ns) := by rw [h]

theorem pointAt_getAngle (arc : Arc K) (t : K) : pointAt arc (arc.getAngle t) = arc.sample t := rfl

theorem pointAt_angleAt (arc : Arc K) (ns : K) (j : Nat) (hsw : |arc.sweep| ≤ Transc.pi * 2) :
    pointAt arc (angleAt arc (stepOf arc ns) j) = arc.sample ((j : K) / ns) := by
  rw [angleAt_eq_getAngle arc ns j hsw, pointAt_getAngle]

theorem sample_last (arc : Arc K) (ns : K) (n : Nat) (hn : 0 < n) (hcast : ((n : Nat) : K) = ns) :
    arc.sample (((n - 1 + 1 : Nat) : K) / ns) = arc.sample 1 := by
  rw [Nat.sub_add_cancel hn, hcast, div_self]
  rw [← hcast]; exact_mod_cast (by omega : n ≠ 0)

/-- **pieces begin and end on the arc, in parameter order** (partial: `|sweep| ≤ 2π`; see
`arc_beziers_beyond_turn_witness` for what happens beyond).  Piece `j` of either conversion runs
from `arc.sample (j/n)` to `arc.sample ((j+1)/n)`; in particular (with a faithful cast `hcast`)
the first piece starts at `arc.sample 0 = arc.from()` and the last one ends at
`arc.sample 1 = arc.to()`. -/
theorem arc_beziers_endpoints_on_arc_partial (arc : Arc K) (hsw : |arc.sweep| ≤ Transc.pi * 2) :
    (∀ j : Nat, (quadPiece arc (stepQ arc) j).a = arc.sample ((j : K) / nStepsQ arc)
        ∧ (quadPiece arc (stepQ arc) j).b = arc.sample (((j + 1 : Nat) : K) / nStepsQ arc))
    ∧ (∀ j : Nat, (cubicPiece arc (stepC arc) j).a = arc.sample ((j : K) / nStepsC arc)
        ∧ (cubicPiece arc (stepC arc) j).b = arc.sample (((j + 1 : Nat) : K) / nStepsC arc))
    ∧ (0 < nQ arc → ((nQ arc : Nat) : K) = nStepsQ arc →
        (quadPiece arc (stepQ arc) 0).a = arc.sample 0
        ∧ (quadPiece arc (stepQ arc) (nQ arc - 1)).b = arc.sample 1)
    ∧ (0 < nC arc → ((nC arc : Nat) : K) = nStepsC arc →
        (cubicPiece arc (stepC arc) 0).a = arc.sample 0
        ∧ (cubicPiece arc (stepC arc) (nC arc - 1)).b = arc.sample 1) := by
  have hp := fun ns j => pointAt_angleAt arc ns j hsw
  exact ⟨fun j => ⟨hp _ j, hp _ (j + 1)⟩, fun j => ⟨hp _ j, hp _ (j + 1)⟩,
    fun hn hcast => ⟨(hp _ 0).trans (by simp), (hp _ _).trans (sample_last arc _ _ hn hcast)⟩,
    fun hn hcast => ⟨(hp _ 0).trans (by simp), (hp _ _).trans (sample_last arc _ _ hn hcast)⟩⟩

/-- **witness of the defect beyond a full turn**: lyon clamps the sweep to `2π`
(`S::abs(sweep).min(S::PI() * S::TWO)`), so for `|sweep| > 2π` the last piece of the sequence ends
at the angle `start ± 2π` — the start point again — and not at the arc's end angle `start + sweep`:
the property's "start and end on the arc's end points … beyond a full turn" fails for every such
arc (finding C13-bezier-sweep-clamped). -/
theorem arc_beziers_beyond_turn_witness (arc : Arc K) (hpi : 0 < (Transc.pi : K))
    (hsw : Transc.pi * 2 < |arc.sweep|) (hn : 0 < nQ arc) (hcast : ((nQ arc : Nat) : K) = nStepsQ arc) :
    angleAt arc (stepQ arc) (nQ arc) = arc.start + Transc.pi * 2 * signum arc.sweep
    ∧ angleAt arc (stepQ arc) (nQ arc) ≠ arc.getAngle 1 := by
  have he : effSweep arc = Transc.pi * 2 := by
    simp only [effSweep, geom, Nat.cast_ofNat]
    exact min_eq_right (le_of_lt hsw)
  have hne : (nStepsQ arc) ≠ 0 := by
    rw [← hcast]; exact_mod_cast (by omega : nQ arc ≠ 0)
  have h1 : angleAt arc (stepQ arc) (nQ arc) = arc.start + Transc.pi * 2 * signum arc.sweep := by
    simp only [angleAt, stepQ, stepOf, he, ofNat_eq, hcast]
    rw [mul_right_comm, div_mul_cancel₀ _ hne]
  refine ⟨h1, ?_⟩
  rw [h1]
  simp only [Arc.getAngle, signum, sc_zero, sc_one]
  intro h
  split_ifs at h with hneg
  · rw [abs_of_neg hneg] at hsw
    linarith only [h, hsw]
  · rw [abs_of_nonneg (not_lt.mp hneg)] at hsw
    linarith only [h, hsw]

theorem angleAt_succ (arc : Arc K) (step : K) (i : Nat) :
    angleAt arc step (i+1) = angleAt arc step i + step := by
  simp only [angleAt, ofNat_eq]; push_cast; ring

/-- **the quadratic control point `from + tangent(a1)·tan(δ/2)` lies on BOTH end tangents**: on the
tangent at the piece's start (angle `a1`) by construction, and on the tangent at its end (angle
`a1 + δ`) by the half-angle identity.  Laws used (hypotheses, all true of `Real.sin/cos/tan`):
`cos² + sin² = 1` at `a1`, `δ` and the x-rotation, the addition formulas at `a1 + δ`, and
`tan(δ·0.5)·sin δ = 1 − cos δ` (`Scalar.half = 1/2`: `sc_half`).  (`quadPiece` uses `a1 = angleAt i`, `a1 + δ = angleAt (i+1)` with
`δ = step`: `angleAt_succ`.) -/
theorem quad_ctrl_on_tangents (arc : Arc K) (a1 d : K)
    (hx : Transc.cos arc.xrot * Transc.cos arc.xrot + Transc.sin arc.xrot * Transc.sin arc.xrot = 1)
    (h1 : Transc.cos a1 * Transc.cos a1 + Transc.sin a1 * Transc.sin a1 = 1)
    (hd : Transc.cos d * Transc.cos d + Transc.sin d * Transc.sin d = 1)
    (hc : Transc.cos (a1 + d) = Transc.cos a1 * Transc.cos d - Transc.sin a1 * Transc.sin d)
    (hs : Transc.sin (a1 + d) = Transc.sin a1 * Transc.cos d + Transc.cos a1 * Transc.sin d)
    (hhalf : Transc.tan (d * Scalar.half) * Transc.sin d = 1 - Transc.cos d) :
    (quadCtrl arc a1 d - pointAt arc a1).cross (tangentAtAngle arc a1) = 0
    ∧ (quadCtrl arc a1 d - pointAt arc (a1 + d)).cross (tangentAtAngle arc (a1 + d)) = 0 := by
  constructor
  · simp only [quadCtrl, pointAt, tangentAtAngle, Arc.sampleEllipse, Arc.rotate, geom]
    ring
  · simp only [quadCtrl]
    generalize Transc.tan (d * Scalar.half) = τ at hhalf ⊢
    simp only [pointAt, tangentAtAngle, Arc.sampleEllipse, Arc.rotate, geom, hc, hs]
    generalize Transc.cos a1 = c1 at h1 ⊢
    generalize Transc.sin a1 = s1 at h1 ⊢
    generalize Transc.cos d = cd at hd hhalf ⊢
    generalize Transc.sin d = sd at hd hhalf ⊢
    generalize Transc.cos arc.xrot = cx at hx ⊢
    generalize Transc.sin arc.xrot = sx at hx ⊢
    linear_combination
      (arc.radii.x * arc.radii.y *
        ((c1 - τ * s1 - (c1 * cd - s1 * sd)) * (c1 * cd - s1 * sd)
          + (s1 + τ * c1 - (s1 * cd + c1 * sd)) * (s1 * cd + c1 * sd))) * hx
      + arc.radii.x * arc.radii.y * ((cd + τ * sd - (cd * cd + sd * sd)) * h1 + hhalf - hd)

/-- the cubic control points are on the end tangents by construction -/
theorem cubic_ctrl_on_tangents (arc : Arc K) (step : K) (j : Nat) :
    ((cubicPiece arc step j).c1 - (cubicPiece arc step j).a).cross (tangentAtAngle arc (angleAt arc step j)) = 0
    ∧ ((cubicPiece arc step j).b - (cubicPiece arc step j).c2).cross (tangentAtAngle arc (angleAt arc step (j+1))) = 0 := by
  constructor <;>
  · simp only [cubicPiece, geom]
    ring

/-- the `SvgArc::for_each_*` wrappers: the conversion of `from_svg_arc a`, or one straight piece -/
theorem svgBeziers_of_not_straight (a : SvgArc K) (hs : isStraightLine a = false) :
    svgQuadsWithT a = quadsWithT (fromSvgArc a) ∧ svgCubics a = cubics (fromSvgArc a) := by
  simp only [svgQuadsWithT, svgCubics, hs]; exact ⟨rfl, rfl⟩

theorem svgBeziers_of_straight (a : SvgArc K) (hs : isStraightLine a = true) :
    svgQuadsWithT a = [(⟨a.from_, a.from_, a.to⟩, Scalar.zero, Scalar.one)]
      ∧ svgCubics a = [⟨a.from_, a.from_, a.to, a.to⟩] := by
  simp only [svgQuadsWithT, svgCubics, hs, if_true, and_self]

/-- **sweep direction and size bound.**  Whatever function computes the two angles, the flag
correction after the `% 2π` gives a non-negative sweep below a full turn when the sweep flag is set
and a non-positive one otherwise; so, unless the sweep is `0`, `sweep ≥ 0` iff the flag.
Law used: `|x % m| < m` (C `fmod`). -/
theorem svg_arc_sweep_sign (ang : P K → K) (a : SvgArc K)
    (hfm : ∀ x : K, |Transc.fmod x twoPi| < twoPi) :
    (a.sweep = true → 0 ≤ (fromSvgArcWith ang a).sweep ∧ (fromSvgArcWith ang a).sweep < twoPi)
    ∧ (a.sweep = false → -twoPi < (fromSvgArcWith ang a).sweep ∧ (fromSvgArcWith ang a).sweep ≤ 0)
    ∧ ((fromSvgArcWith ang a).sweep ≠ 0 → (0 ≤ (fromSvgArcWith ang a).sweep ↔ a.sweep = true)) := by
  have h := hfm (ang (endV a) - ang (startV a))
  rw [abs_lt] at h
  set s := Transc.fmod (ang (endV a) - ang (startV a)) twoPi with hs
  have hr : (fromSvgArcWith ang a).sweep = adjustSweep a.sweep s := rfl
  rw [hr]
  unfold adjustSweep
  simp only [sc_zero]
  cases hflag : a.sweep
  · simp only [Bool.false_eq_true, false_and, if_false, true_and, false_implies, true_implies,
      iff_false, not_le]
    split_ifs with h1
    · refine ⟨⟨by linarith only [h.1, h.2, h1], by linarith only [h.1, h.2, h1]⟩,
        fun _ => by linarith only [h.1, h.2, h1]⟩
    · have : s ≤ 0 := not_lt.mp h1
      refine ⟨⟨h.1, this⟩, fun hne => lt_of_le_of_ne this hne⟩
  · simp only [true_and, Bool.true_eq_false, false_and, if_false, true_implies, false_implies,
      iff_true]
    split_ifs with h1
    · refine ⟨⟨by linarith only [h.1, h.2, h1], by linarith only [h.1, h.2, h1]⟩,
        fun _ => by linarith only [h.1, h.2, h1]⟩
    · have : 0 ≤ s := not_lt.mp h1
      refine ⟨⟨this, h.2⟩, fun _ => this⟩

/-- **radii**: the result uses `|rx|, |ry|`, multiplied by `√rf` exactly when `rf > 1`
(F.6.6.2–3), for any angle function. -/
theorem svg_arc_radii (ang : P K → K) (a : SvgArc K) :
    (rf a ≤ 1 → (fromSvgArcWith ang a).radii = ⟨|a.radii.x|, |a.radii.y|⟩)
    ∧ (1 < rf a → (fromSvgArcWith ang a).radii =
        ⟨|a.radii.x| * Transc.sqrt (rf a), |a.radii.y| * Transc.sqrt (rf a)⟩) := by
  constructor
  · intro h
    simp only [fromSvgArcWith, rx, ry, scaleRadius, rx0, ry0, sc_abs, sc_one, gt_iff_lt, not_lt.mpr h, if_false]
  · intro h
    simp only [fromSvgArcWith, rx, ry, scaleRadius, rx0, ry0, sc_abs, sc_one, gt_iff_lt, h, if_true]

/-- The laws of `sqrt`, `sin`, `cos`, `%` and of the angle function `ang` used by the conversion
theorems.  The code's angle function is `exactAngle v = atan2(v.y, v.x)`; `Real.sqrt`, `Real.sin`,
`Real.cos`, C's `fmod` and `atan2 = Complex.arg` satisfy the laws (`exactTrig_real`).  euclid's
`fast_atan2` (replaced in /repo efc24b99) does NOT satisfy `angle_exact`
(`fast_atan2_not_exact_witness`). -/
structure ExactTrig (ang : P K → K) : Prop where
  sqrt_nonneg : ∀ x : K, 0 ≤ x → 0 ≤ Transc.sqrt x
  sqrt_sq : ∀ x : K, 0 ≤ x → Transc.sqrt x * Transc.sqrt x = x
  cos_sq_add_sin_sq : ∀ x : K, Transc.cos x * Transc.cos x + Transc.sin x * Transc.sin x = 1
  periodic : ∀ (x : K) (k : ℤ), Transc.cos (x + k * twoPi) = Transc.cos x
      ∧ Transc.sin (x + k * twoPi) = Transc.sin x
  fmod_shift : ∀ x : K, ∃ k : ℤ, Transc.fmod x twoPi = x + k * twoPi
  /-- the angle of a unit vector: `(cos, sin) (ang v) = v` -/
  angle_exact : ∀ v : P K, v.x * v.x + v.y * v.y = 1 →
      Transc.cos (ang v) = v.x ∧ Transc.sin (ang v) = v.y

/-- non-degeneracy = the negation of `SvgArc::is_straight_line` for a non-negative epsilon -/
theorem nondegenerate_of_not_straight (a : SvgArc K) (heps : 0 ≤ (Eps.eps : K))
    (h : isStraightLine a = false) : a.radii.x ≠ 0 ∧ a.radii.y ≠ 0 ∧ a.from_ ≠ a.to := by
  simp only [isStraightLine, Bool.or_eq_false_iff, decide_eq_false_iff_not, not_le, sc_abs] at h
  obtain ⟨⟨h1, h2⟩, h3⟩ := h
  refine ⟨?_, ?_, ?_⟩
  · intro h0; rw [h0, abs_zero] at h1; exact absurd h1 (not_lt.mpr heps)
  · intro h0; rw [h0, abs_zero] at h2; exact absurd h2 (not_lt.mpr heps)
  · intro h0
    rw [h0] at h3
    have : (a.to == a.to) = true := by
      show P.beq a.to a.to = true
      simp [P.beq]
    rw [this] at h3; exact absurd h3 (by simp)

/-- the additional laws of `sin`/`cos` used for the large-arc flag (true of `Real.sin/cos`:
`sinSign_real`) -/
structure SinSign (K : Type) [Field K] [LinearOrder K] [IsStrictOrderedRing K] [Transc K] : Prop where
  sin_sub : ∀ x y : K, Transc.sin (x - y) = Transc.sin x * Transc.cos y - Transc.cos x * Transc.sin y
  sin_nonneg : ∀ x : K, 0 ≤ x → x ≤ Transc.pi → 0 ≤ Transc.sin x
  sin_nonpos : ∀ x : K, Transc.pi ≤ x → x ≤ twoPi → Transc.sin x ≤ 0
  sin_nonpos' : ∀ x : K, -Transc.pi ≤ x → x ≤ 0 → Transc.sin x ≤ 0
  sin_nonneg' : ∀ x : K, -twoPi ≤ x → x ≤ -Transc.pi → 0 ≤ Transc.sin x

/-- the squared half chord in the frame in which the (scaled) ellipse is the unit circle, `(p.x/rx)² + (p.y/ry)²`
(`= min(rf, 1)`: `q_bounds`, `q_eq_rf`); `qOf` of `Lemmas/SvgArcReal.lean` is this at `ℝ`, by `rfl` -/
noncomputable def qK (a : SvgArc K) : K := (pt a).x / rx a * ((pt a).x / rx a) + (pt a).y / ry a * ((pt a).y / ry a)

theorem adjust_shift (flag : Bool) (x : K) : ∃ j : ℤ, adjustSweep flag x = x + j * twoPi := by
  unfold adjustSweep
  split_ifs
  · exact ⟨1, by simp⟩
  · exact ⟨-1, by push_cast; ring⟩
  · exact ⟨0, by simp⟩

section laws
variable {ang : P K → K} (H : ExactTrig ang) (a : SvgArc K)
include H

theorem cosPhi_sq : cosPhi a * cosPhi a + sinPhi a * sinPhi a = 1 := H.cos_sq_add_sin_sq _

theorem cos_sin_xrot : Transc.cos a.xrot = cosPhi a ∧ Transc.sin a.xrot = sinPhi a := by
  obtain ⟨k, hk⟩ := H.fmod_shift a.xrot
  have := H.periodic a.xrot k
  simp only [cosPhi, sinPhi, xr, hk]
  exact ⟨this.1.symm, this.2.symm⟩

theorem sweep_shift :
    ∃ m : ℤ, (fromSvgArcWith ang a).sweep = ang (endV a) - ang (startV a) + (m : K) * twoPi := by
  obtain ⟨k, hk⟩ := H.fmod_shift (ang (endV a) - ang (startV a))
  obtain ⟨j, hj⟩ := adjust_shift a.sweep (Transc.fmod (ang (endV a) - ang (startV a)) twoPi)
  refine ⟨k + j, ?_⟩
  show adjustSweep a.sweep (Transc.fmod (ang (endV a) - ang (startV a)) twoPi) = _
  rw [hj, hk]; push_cast; ring

end laws

section conv
variable {ang : P K → K} (H : ExactTrig ang) (a : SvgArc K)
  (hrx : a.radii.x ≠ 0) (hry : a.radii.y ≠ 0) (hne : a.from_ ≠ a.to)
include H hrx hry hne

omit hrx hry in
/-- `p` (F.6.5.1) is not the zero vector -/
theorem pt_ne_zero : (pt a).x * (pt a).x + (pt a).y * (pt a).y ≠ 0 := by
  have hcs := cosPhi_sq H a
  have e : (pt a).x * (pt a).x + (pt a).y * (pt a).y = (hd a).x * (hd a).x + (hd a).y * (hd a).y := by
    simp only [pt]
    linear_combination ((hd a).x * (hd a).x + (hd a).y * (hd a).y) * hcs
  rw [e]
  intro h0
  obtain ⟨hx, hy⟩ := mul_self_add_mul_self_eq_zero.mp h0
  apply hne
  simp only [hd, geom, Nat.cast_ofNat] at hx hy
  exact P.ext' (sub_eq_zero.1 ((div_eq_zero_iff.1 hx).resolve_right two_ne_zero))
    (sub_eq_zero.1 ((div_eq_zero_iff.1 hy).resolve_right two_ne_zero))

omit H hry hne in
theorem rx0_pos : 0 < rx0 a := by simp only [rx0, sc_abs]; exact abs_pos.mpr hrx
omit H hrx hne in
theorem ry0_pos : 0 < ry0 a := by simp only [ry0, sc_abs]; exact abs_pos.mpr hry

theorem rf_pos : 0 < rf a := by
  have h1 := rx0_pos a hrx
  have h2 := ry0_pos a hry
  have ha : 0 ≤ (pt a).x * (pt a).x / (rx0 a * rx0 a) := div_nonneg (mul_self_nonneg _) (mul_self_nonneg _)
  have hb : 0 ≤ (pt a).y * (pt a).y / (ry0 a * ry0 a) := div_nonneg (mul_self_nonneg _) (mul_self_nonneg _)
  refine (add_nonneg ha hb).lt_of_ne' fun h => pt_ne_zero H a hne ?_
  obtain ⟨ha0, hb0⟩ := (add_eq_zero_iff_of_nonneg ha hb).mp h
  rw [div_eq_zero_iff, or_iff_left (mul_self_ne_zero.2 h1.ne')] at ha0
  rw [div_eq_zero_iff, or_iff_left (mul_self_ne_zero.2 h2.ne')] at hb0
  rw [ha0, hb0, add_zero]

omit hne in
theorem rx_ry_pos : 0 < rx a ∧ 0 < ry a := by
  have h1 := rx0_pos a hrx
  have h2 := ry0_pos a hry
  simp only [rx, ry, scaleRadius, sc_one, gt_iff_lt]
  split_ifs with h
  · have hsp := sqrt_pos_of_pos H.sqrt_nonneg H.sqrt_sq (zero_lt_one.trans h)
    exact ⟨mul_pos h1 hsp, mul_pos h2 hsp⟩
  · exact ⟨h1, h2⟩

omit H hrx hry hne in
theorem q_eq_rf (h : ¬ 1 < rf a) : qK a = rf a := by
  have erx : rx a = rx0 a := by simp only [rx, scaleRadius, sc_one, gt_iff_lt, h, if_false]
  have ery : ry a = ry0 a := by simp only [ry, scaleRadius, sc_one, gt_iff_lt, h, if_false]
  rw [qK, erx, ery, div_mul_div_comm, div_mul_div_comm, rf]

/-- F.6.6: with the scaled radii the chord fits -/
theorem q_bounds : 0 < qK a ∧ qK a ≤ 1 ∧ (1 < rf a → qK a = 1) := by
  have hrf := rf_pos H a hrx hry hne
  by_cases h : 1 < rf a
  · have e : qK a = 1 := by
      simp only [qK, rx, ry, scaleRadius, sc_one, gt_iff_lt, h, if_true]
      rw [div_mul_div_comm, div_mul_div_comm, mul_mul_mul_comm, mul_mul_mul_comm (ry0 a),
        H.sqrt_sq (rf a) hrf.le, ← div_div _ (rx0 a * rx0 a), ← div_div _ (ry0 a * ry0 a), ← add_div]
      exact div_self hrf.ne'
    exact ⟨by rw [e]; exact one_pos, le_of_eq e, fun _ => e⟩
  · rw [q_eq_rf a h]
    exact ⟨hrf, not_lt.mp h, fun h' => absurd h' h⟩

/-- F.6.5.2: `coe² · q = 1 − q` -/
theorem coe_sq : coe a * coe a * qK a = 1 - qK a := by
  obtain ⟨hrxp, hryp⟩ := rx_ry_pos H a hrx hry
  obtain ⟨hq0, hq1, _⟩ := q_bounds H a hrx hry hne
  have hX : (rxry a * rxry a - sumOfSq a) / sumOfSq a = (1 - qK a) / qK a := by
    have hS : sumOfSq a = (rx a * ry a) * (rx a * ry a) * qK a := by
      have : rx a ≠ 0 := ne_of_gt hrxp
      have : ry a ≠ 0 := ne_of_gt hryp
      simp only [sumOfSq, rxpy, rypx, qK]
      field_simp; ring
    rw [hS, rxry, ← mul_one_sub, mul_div_mul_left _ _ (mul_self_ne_zero.2 (mul_pos hrxp hryp).ne')]
  generalize qK a = q at hq0 hq1 hX ⊢
  have hXn : 0 ≤ (1 - q) / q := div_nonneg (by linarith) (le_of_lt hq0)
  have hsg : (signCoe a.large a.sweep : K) * signCoe a.large a.sweep = 1 := by
    unfold signCoe; simp only [sc_one]; split_ifs <;> ring
  have hc : coe a * coe a = (1 - q) / q := by
    simp only [coe, sc_abs, hX, abs_of_nonneg hXn]
    have := H.sqrt_sq _ hXn
    calc signCoe a.large a.sweep * Transc.sqrt ((1 - q) / q) * (signCoe a.large a.sweep * Transc.sqrt ((1 - q) / q))
        = (signCoe a.large a.sweep * signCoe a.large a.sweep) * (Transc.sqrt ((1 - q) / q) * Transc.sqrt ((1 - q) / q)) := by ring
      _ = (1 - q) / q := by rw [hsg, this, one_mul]
  rw [hc, div_mul_cancel₀ _ (ne_of_gt hq0)]

theorem startV_endV_eq :
    (startV a).x = (pt a).x / rx a - coe a * ((pt a).y / ry a)
    ∧ (startV a).y = (pt a).y / ry a + coe a * ((pt a).x / rx a)
    ∧ (endV a).x = -((pt a).x / rx a) - coe a * ((pt a).y / ry a)
    ∧ (endV a).y = -((pt a).y / ry a) + coe a * ((pt a).x / rx a) := by
  obtain ⟨hrxp, hryp⟩ := rx_ry_pos H a hrx hry
  have h1 : rx a ≠ 0 := ne_of_gt hrxp
  have h2 : ry a ≠ 0 := ne_of_gt hryp
  refine ⟨?_, ?_, ?_, ?_⟩
  · simp only [startV, tcx, rxpy]; field_simp
  · simp only [startV, tcy, rypx]; field_simp; ring
  · simp only [endV, tcx, rxpy]; field_simp
  · simp only [endV, tcy, rypx]; field_simp; ring

theorem startV_endV_unit :
    (startV a).x * (startV a).x + (startV a).y * (startV a).y = 1
    ∧ (endV a).x * (endV a).x + (endV a).y * (endV a).y = 1 := by
  have hk := coe_sq H a hrx hry hne
  rw [qK] at hk
  obtain ⟨sx, sy, ex, ey⟩ := startV_endV_eq H a hrx hry hne
  constructor
  · rw [sx, sy]; linear_combination hk
  · rw [ex, ey]; linear_combination hk

theorem startV_endV_angles :
    (Transc.cos (ang (startV a)) = (startV a).x ∧ Transc.sin (ang (startV a)) = (startV a).y)
    ∧ Transc.cos (ang (endV a)) = (endV a).x ∧ Transc.sin (ang (endV a)) = (endV a).y := by
  obtain ⟨hsU, heU⟩ := startV_endV_unit H a hrx hry hne
  exact ⟨H.angle_exact _ hsU, H.angle_exact _ heU⟩

/-- the point of the computed ellipse at an angle whose unit vector `v` satisfies `r·v = ε·p − tc`
(`ε = 1`: `start_v`, `ε = −1`: `end_v`) is the midpoint of the chord plus `ε` times half the chord -/
theorem ellipse_point_of_vec (θ ε : K) (v : P K) (hc : Transc.cos θ = v.x) (hs' : Transc.sin θ = v.y)
    (hx : rx a * v.x = ε * (pt a).x - tcx a) (hy : ry a * v.y = ε * (pt a).y - tcy a) :
    center a + Arc.sampleEllipse ⟨rx a, ry a⟩ a.xrot θ
      = ⟨(hs a).x + ε * (hd a).x, (hs a).y + ε * (hd a).y⟩ := by
  obtain ⟨hcx, hsx⟩ := cos_sin_xrot H a
  have hcs := cosPhi_sq H a
  apply P.ext'
  · simp only [Arc.sampleEllipse, Arc.rotate, P.add_def, hc, hs', hcx, hsx, hx, hy, center, pt]
    linear_combination (ε * (hd a).x) * hcs
  · simp only [Arc.sampleEllipse, Arc.rotate, P.add_def, hc, hs', hcx, hsx, hx, hy, center, pt]
    linear_combination (ε * (hd a).y) * hcs

theorem svg_arc_endpoints_of_exact :
    (fromSvgArcWith ang a).sample 0 = a.from_ ∧ (fromSvgArcWith ang a).sample 1 = a.to := by
  obtain ⟨hrxp, hryp⟩ := rx_ry_pos H a hrx hry
  obtain ⟨⟨hcS, hsS⟩, hcE, hsE⟩ := startV_endV_angles H a hrx hry hne
  -- the end angle, up to whole turns
  obtain ⟨m, hm⟩ := sweep_shift H a
  have hend : ang (startV a) + (fromSvgArcWith ang a).sweep * 1 = ang (endV a) + (m : K) * twoPi := by
    rw [hm]; ring
  have hperE := H.periodic (ang (endV a)) m
  have e0 := ellipse_point_of_vec H a hrx hry hne _ 1 _ hcS hsS
    (by rw [one_mul]; exact mul_div_cancel₀ _ hrxp.ne') (by rw [one_mul]; exact mul_div_cancel₀ _ hryp.ne')
  have e1 := ellipse_point_of_vec H a hrx hry hne _ (-1) _ (hperE.1.trans hcE) (hperE.2.trans hsE)
    (by rw [neg_one_mul]; exact mul_div_cancel₀ _ hrxp.ne')
    (by rw [neg_one_mul]; exact mul_div_cancel₀ _ hryp.ne')
  constructor
  · simp only [fromSvgArcWith, Arc.sample, Arc.getAngle, mul_zero, add_zero, e0]
    apply P.ext' <;> simp only [hs, hd, geom, Nat.cast_ofNat] <;> ring
  · rw [Arc.sample, Arc.getAngle, show (fromSvgArcWith ang a).start = ang (startV a) from rfl, hend]
    simp only [fromSvgArcWith, e1]
    apply P.ext' <;> simp only [hs, hd, geom, Nat.cast_ofNat] <;> ring

/-- when the radii are too small to span the chord (`rf > 1`) they are
both multiplied by `√rf`; the scaled ellipse then satisfies F.6.6.2 with equality and its centre is
the midpoint of the chord (the chord is a diameter image). -/
theorem svg_arc_radii_scaled (h : 1 < rf a) :
    (fromSvgArcWith ang a).radii = ⟨|a.radii.x| * Transc.sqrt (rf a), |a.radii.y| * Transc.sqrt (rf a)⟩
    ∧ (pt a).x / rx a * ((pt a).x / rx a) + (pt a).y / ry a * ((pt a).y / ry a) = 1
    ∧ (fromSvgArcWith ang a).center = ⟨(a.from_.x + a.to.x) / 2, (a.from_.y + a.to.y) / 2⟩ := by
  have hq := (q_bounds H a hrx hry hne).2.2 h
  have hk := coe_sq H a hrx hry hne
  rw [hq] at hk
  have hc0 : coe a = 0 := by
    have : coe a * coe a = 0 := by linarith
    exact mul_self_eq_zero.mp this
  refine ⟨(svg_arc_radii ang a).2 h, hq, ?_⟩
  apply P.ext' <;>
  · simp only [fromSvgArcWith, center, tcx, tcy, hc0, hs, geom, Nat.cast_ofNat]
    ring

theorem svg_arc_roundtrip_of_exact (hfm : ∀ x : K, |Transc.fmod x twoPi| < twoPi) :
    (toSvgArc (fromSvgArcWith ang a)).from_ = a.from_
    ∧ (toSvgArc (fromSvgArcWith ang a)).to = a.to
    ∧ (toSvgArc (fromSvgArcWith ang a)).xrot = a.xrot
    ∧ (toSvgArc (fromSvgArcWith ang a)).radii = ⟨rx a, ry a⟩
    ∧ (rf a ≤ 1 → (toSvgArc (fromSvgArcWith ang a)).radii = ⟨|a.radii.x|, |a.radii.y|⟩)
    ∧ ((fromSvgArcWith ang a).sweep ≠ 0 → (toSvgArc (fromSvgArcWith ang a)).sweep = a.sweep) := by
  obtain ⟨h0, h1⟩ := svg_arc_endpoints_of_exact H a hrx hry hne
  refine ⟨?_, ?_, rfl, rfl, (svg_arc_radii ang a).1, ?_⟩
  · simpa [toSvgArc] using h0
  · simpa [toSvgArc] using h1
  · intro hs0
    simp only [toSvgArc, ge_iff_le, sc_zero, (svg_arc_sweep_sign ang a hfm).2.2 hs0, Bool.decide_eq_true]

/-- `sin(sweep) = start_v × end_v = 2·coe·q`: the sign of `coe` (F.6.5.2) decides on which side of
the chord the centre lies, hence whether the arc is the large one -/
theorem sin_sweep (S : SinSign K) :
    Transc.sin (fromSvgArcWith ang a).sweep = 2 * coe a * qK a := by
  obtain ⟨⟨hcS, hsS⟩, hcE, hsE⟩ := startV_endV_angles H a hrx hry hne
  obtain ⟨m, hsw⟩ := sweep_shift H a
  obtain ⟨sx, sy, ex, ey⟩ := startV_endV_eq H a hrx hry hne
  rw [hsw, (H.periodic _ m).2, S.sin_sub, hcS, hsS, hcE, hsE, sx, sy, ex, ey, qK]
  ring

theorem coe_sign (hq : rf a < 1) :
    (a.large = a.sweep → coe a < 0) ∧ (a.large ≠ a.sweep → 0 < coe a) := by
  obtain ⟨hq0, _, _⟩ := q_bounds H a hrx hry hne
  have hk := coe_sq H a hrx hry hne
  rw [q_eq_rf a (by linarith)] at hk hq0
  have hne0 : coe a ≠ 0 := by
    intro h0; rw [h0, zero_mul, zero_mul] at hk; linarith only [hk, hq]
  have hr : 0 ≤ Transc.sqrt (Scalar.abs ((rxry a * rxry a - sumOfSq a) / sumOfSq a)) :=
    H.sqrt_nonneg _ (by simp only [sc_abs]; exact abs_nonneg _)
  constructor
  · intro h
    have : coe a ≤ 0 := by
      simp only [coe, signCoe, h, if_true, sc_one]
      linarith only [hr]
    exact lt_of_le_of_ne this hne0
  · intro h
    have : 0 ≤ coe a := by
      simp only [coe, signCoe, h, if_false, sc_one]
      linarith only [hr]
    exact lt_of_le_of_ne this (Ne.symm hne0)

theorem sin_sweep_sign (S : SinSign K) (hq : rf a < 1) :
    (a.large = a.sweep → Transc.sin (fromSvgArcWith ang a).sweep < 0)
    ∧ (a.large ≠ a.sweep → 0 < Transc.sin (fromSvgArcWith ang a).sweep) := by
  obtain ⟨hq0, _, _⟩ := q_bounds H a hrx hry hne
  obtain ⟨hneg, hpos⟩ := coe_sign H a hrx hry hne hq
  rw [sin_sweep H a hrx hry hne S]
  exact ⟨fun h => mul_neg_of_neg_of_pos (mul_neg_of_pos_of_neg two_pos (hneg h)) hq0,
    fun h => mul_pos (mul_pos two_pos (hpos h)) hq0⟩

/-- **the large-arc flag is recovered**: when the radii strictly span the chord (`rf < 1`; for
`rf ≥ 1` the sweep is exactly `±π` and `to_svg_arc` reports `large_arc = true` whatever the input
flag), `|sweep| ≥ π` iff the large-arc flag was set — the sign choice `sign_coe` of F.6.5.2 selects
the requested one of the two candidate arcs. -/
theorem svg_arc_large_flag (S : SinSign K) (hfm : ∀ x : K, |Transc.fmod x twoPi| < twoPi)
    (hq : rf a < 1) : (toSvgArc (fromSvgArcWith ang a)).large = a.large := by
  obtain ⟨hneg, hpos⟩ := sin_sweep_sign H a hrx hry hne S hq
  obtain ⟨hst, hsf, _⟩ := svg_arc_sweep_sign ang a hfm
  show decide (Scalar.abs (fromSvgArcWith ang a).sweep ≥ Transc.pi) = a.large
  generalize (fromSvgArcWith ang a).sweep = d at hneg hpos hst hsf
  simp only [sc_abs, ge_iff_le]
  cases hl : a.large <;> cases hw : a.sweep
  · -- small, clockwise: sin d < 0, d ∈ (-2π, 0]
    have hs := hneg (by rw [hl, hw])
    obtain ⟨h1, h2⟩ := hsf hw
    rw [decide_eq_false_iff_not, not_le, abs_of_nonpos h2]
    by_contra hcon
    have := S.sin_nonneg' d (by linarith only [h1]) (by linarith only [hcon])
    linarith only [this, hs]
  · -- small, counter-clockwise: sin d > 0, d ∈ [0, 2π)
    have hs := hpos (by rw [hl, hw]; simp)
    obtain ⟨h1, h2⟩ := hst hw
    rw [decide_eq_false_iff_not, not_le, abs_of_nonneg h1]
    by_contra hcon
    have := S.sin_nonpos d (by linarith only [hcon]) (by linarith only [h2])
    linarith only [this, hs]
  · -- large, clockwise: sin d > 0
    have hs := hpos (by rw [hl, hw]; simp)
    obtain ⟨h1, h2⟩ := hsf hw
    rw [decide_eq_true_iff, abs_of_nonpos h2]
    by_contra hcon
    have := S.sin_nonpos' d (by linarith only [hcon]) h2
    linarith only [this, hs]
  · -- large, counter-clockwise: sin d < 0
    have hs := hneg (by rw [hl, hw])
    obtain ⟨h1, h2⟩ := hst hw
    rw [decide_eq_true_iff, abs_of_nonneg h1]
    by_contra hcon
    have := S.sin_nonneg d h1 (by linarith only [hcon])
    linarith only [this, hs]

end conv

/-- the centre-form arc computed by `Arc::from_svg_arc` starts at the given
start point and ends at the given end point — `(from_svg_arc a).sample 0 = a.from` and
`.sample 1 = a.to` — for every input that passes the function's own precondition
`assert!(!arc.is_straight_line())`: all end points, x-rotations, all four flag combinations, radii
of any sign, large enough or too small (after the F.6.6 scaling). -/
theorem svg_arc_endpoints (H : ExactTrig (K := K) exactAngle) (a : SvgArc K)
    (heps : 0 ≤ (Eps.eps : K)) (hs : isStraightLine a = false) :
    (fromSvgArc a).sample 0 = a.from_ ∧ (fromSvgArc a).sample 1 = a.to := by
  obtain ⟨h1, h2, h3⟩ := nondegenerate_of_not_straight a heps hs
  exact svg_arc_endpoints_of_exact H a h1 h2 h3

/-- **round trip** `to_svg_arc ∘ from_svg_arc`: the original end points, x-rotation and — unless
the sweep is `0` — sweep flag come back; the radii come back as `|rx|, |ry|` when they span the
chord (`rf ≤ 1`; scaled by `√rf` otherwise, `svg_arc_radii_scaled`); the large-arc flag comes back
when they span it strictly (`rf < 1`; for `rf ≥ 1` the arc is a half turn and `to_svg_arc` reports
it as large). -/
theorem svg_arc_roundtrip (H : ExactTrig (K := K) exactAngle) (S : SinSign K) (a : SvgArc K)
    (heps : 0 ≤ (Eps.eps : K)) (hs : isStraightLine a = false)
    (hfm : ∀ x : K, |Transc.fmod x twoPi| < twoPi) :
    (toSvgArc (fromSvgArc a)).from_ = a.from_
    ∧ (toSvgArc (fromSvgArc a)).to = a.to
    ∧ (toSvgArc (fromSvgArc a)).xrot = a.xrot
    ∧ (rf a ≤ 1 → (toSvgArc (fromSvgArc a)).radii = ⟨|a.radii.x|, |a.radii.y|⟩)
    ∧ ((fromSvgArc a).sweep ≠ 0 → (toSvgArc (fromSvgArc a)).sweep = a.sweep)
    ∧ (rf a < 1 → (toSvgArc (fromSvgArc a)).large = a.large) := by
  obtain ⟨h1, h2, h3⟩ := nondegenerate_of_not_straight a heps hs
  obtain ⟨r1, r2, r3, _, r5, r6⟩ := svg_arc_roundtrip_of_exact H a h1 h2 h3 hfm
  exact ⟨r1, r2, r3, r5, r6, svg_arc_large_flag H a h1 h2 h3 S hfm⟩

/-- `(p - c).sqLen` of the geometry kernel, written out -/
noncomputable def sqDist (p c : P K) : K := (p.x - c.x) * (p.x - c.x) + (p.y - c.y) * (p.y - c.y)

/-- the `i`-th quadratic piece as a function of its start angle and step
(`quadPiece arc step i = quadAt arc (angleAt arc step i) step` up to `angleAt_succ`) -/
noncomputable def quadAt (arc : Arc K) (a1 d : K) : Quad K :=
  ⟨pointAt arc a1, quadCtrl arc a1 d, pointAt arc (a1 + d)⟩

theorem quadPiece_eq_quadAt (arc : Arc K) (step : K) (i : Nat) :
    quadPiece arc step i = quadAt arc (angleAt arc step i) step := by
  simp only [quadPiece, quadAt, angleAt_succ]

/-- the point of the ellipse's plane that the unit-circle frame point `p` is mapped to:
`centre + Rot(x_rotation)·(rx·p.x, ry·p.y)`; the arc's point at angle `θ` is `ellMap arc (cos θ, sin θ)`.
It is the frame map `(Flat.arcFrame arc).map` of the flattening certificates (`ellMap_eq_frame`,
`Lemmas/SvgArcRealQuad.lean`) -/
noncomputable def ellMap (arc : Arc K) (p : P K) : P K :=
  arc.center + Arc.rotate arc.xrot ⟨arc.radii.x * p.x, arc.radii.y * p.y⟩

/-- the unit circle arc with the same angles -/
noncomputable def unitArc (arc : Arc K) : Arc K := ⟨⟨0, 0⟩, ⟨1, 1⟩, arc.start, arc.sweep, 0⟩

theorem rotate_normSq (a : K) (p : P K)
    (h1 : Transc.cos a * Transc.cos a + Transc.sin a * Transc.sin a = 1) :
    (Arc.rotate a p).x * (Arc.rotate a p).x + (Arc.rotate a p).y * (Arc.rotate a p).y
      = p.x * p.x + p.y * p.y := by
  simp only [Arc.rotate]; linear_combination (p.x * p.x + p.y * p.y) * h1

theorem ellMap_sqDist_center (arc : Arc K) (u : P K)
    (hx : Transc.cos arc.xrot * Transc.cos arc.xrot + Transc.sin arc.xrot * Transc.sin arc.xrot = 1) :
    sqDist (ellMap arc u) arc.center
      = arc.radii.x * arc.radii.x * (u.x * u.x) + arc.radii.y * arc.radii.y * (u.y * u.y) := by
  simp only [sqDist, ellMap, Arc.rotate, geom]
  linear_combination (arc.radii.x * arc.radii.x * (u.x * u.x)
    + arc.radii.y * arc.radii.y * (u.y * u.y)) * hx

theorem sqDist_frame_center (arc : Arc K) (r a : K) (p : P K) (hr : arc.radii = ⟨r, r⟩)
    (hx : Transc.cos arc.xrot * Transc.cos arc.xrot + Transc.sin arc.xrot * Transc.sin arc.xrot = 1)
    (h1 : Transc.cos a * Transc.cos a + Transc.sin a * Transc.sin a = 1) :
    sqDist (ellMap arc (Arc.rotate a p)) arc.center = r * r * (p.x * p.x + p.y * p.y) := by
  rw [ellMap_sqDist_center arc _ hx, hr, ← mul_add, rotate_normSq a p h1]

/-- lyon's step never exceeds 45°: `|sweep_angle / n_steps * sign| ≤ π/4` because
`n_steps = ⌈sweep_angle / (π/4)⌉ ≥ sweep_angle / (π/4)` (law of `ceil`, hypothesis `hceil`) -/
theorem stepQ_le_quarter (arc : Arc K) (hpi : 0 < (Transc.pi : K))
    (hceil : effSweep arc / fracPi4 ≤ nStepsQ arc) (hn : 0 < nStepsQ arc) :
    |stepQ arc| ≤ Transc.pi / 4 := by
  rw [fracPi4_eq] at hceil
  exact abs_stepOf_le arc _ _ (effSweep_nonneg arc hpi.le) (by positivity) hceil

section witness
variable {F : Type} [Field F] [LinearOrder F] [IsStrictOrderedRing F] [Transc F]

/-- in the first octant (`0 < y ≤ x`) none of the three folds of `fast_atan2` applies: the result is
the polynomial at `y/x` -/
theorem fastAtan2_first_octant (y x : F) (hy : 0 < y) (hyx : y ≤ x) :
    fastAtan2 y x = atanPoly (y / x) := by
  have hx := hy.trans_le hyx
  simp only [fastAtan2, atanFold1, atanFold2, atanFold3, geom, abs_of_pos hx, abs_of_pos hy,
    min_eq_right hyx, max_eq_left hyx, gt_iff_lt, Nat.cast_zero, not_lt.2 hyx, not_lt.2 hx.le,
    not_lt.2 hy.le, if_false]

/-- **witness (pure rational arithmetic, no `π` involved).**  For an exact angle function,
`atan2(1,2) + atan2(1,3) = atan2(1,1)` (Euler: `(2+i)(3+i) = 5+5i`, all three angles in the first
octant).  euclid's polynomial (`Vector2D::angle_from_x_axis`, `angle_to`) gives
`0.46364… + 0.32166… = 0.78530…` on the left and `0.78519…` on the right: it is not additive, so
it is not `(cos, sin)`-exact and does not satisfy `ExactTrig.angle_exact`.  This is why
`Arc::from_svg_arc` (and `WithSvg::arc`) must not take their angles with `angle_from_x_axis`
(repaired in /repo efc24b99 / 40e30eb0): the arc then misses its end points by up to
2·10⁻⁴·radius (finding C13-fast-atan2-endpoint-drift; the oracle class stays active). -/
theorem fast_atan2_not_exact_witness :
    fastAtan2 (1 : F) 2 + fastAtan2 (1 : F) 3 ≠ fastAtan2 (1 : F) 1
    ∧ (1 : F) / 10000 < fastAtan2 (1 : F) 2 + fastAtan2 (1 : F) 3 - fastAtan2 (1 : F) 1 := by
  rw [fastAtan2_first_octant 1 1 one_pos le_rfl, fastAtan2_first_octant 1 2 one_pos (by norm_num),
    fastAtan2_first_octant 1 3 one_pos (by norm_num), div_one]
  simp only [atanPoly, geom]
  constructor <;> norm_num

end witness

section real
open Real

/-- truncation toward zero (C `trunc`) -/
noncomputable def realTrunc (z : ℝ) : ℤ := if 0 ≤ z then ⌊z⌋ else ⌈z⌉

/-- `Transc ℝ` with Mathlib's functions: the instance at which every real theorem of the C13 family and of
`Props/C15b` is stated.  Only the fields used by the C13 model are meaningful (`sqrt sin cos tan atan2 ceil toNat fmod
pi`; `toNat` sends negatives to 0 like Rust's saturating `as` cast); the others are placeholders, among them `eps`,
the machine epsilon of `Transc`, which is not lyon's `S::EPSILON` (that is the class `ArcConv.Eps`, `exampleEps`).
A global instance of low priority, as is `exampleEps`. -/
noncomputable instance (priority := low) exampleTransc : Transc ℝ where
  sqrt := Real.sqrt
  cbrt := fun x => x
  sin := Real.sin
  cos := Real.cos
  tan := Real.tan
  acos := Real.arccos
  atan2 := fun y x => Complex.arg ⟨x, y⟩
  pow := fun x _ => x
  log2 := fun x => x
  ln := fun x => x
  floor := fun x => (⌊x⌋ : ℝ)
  ceil := fun x => (⌈x⌉ : ℝ)
  toNat := fun x => ⌊x⌋.toNat
  fmod := fun x m => x - (realTrunc (x / m) : ℝ) * m
  eps := 0
  pi := Real.pi
  isNaN := fun _ => false
  isFinite := fun _ => true

/-- `S::EPSILON = 10⁻⁸` for the real instance.  Global: a theorem that takes `[Eps ℝ]` with a lower bound on `Eps.eps`
(`Props/C15b.lean`: `2·10⁻⁶ ≤ ε`) must be GIVEN its instance (`f32Eps`); left to instance search it gets this one, for
which the bound is false. -/
noncomputable instance (priority := low) exampleEps : ArcConv.Eps ℝ := ⟨1 / 100000000⟩

theorem twoPi_real : (twoPi : ℝ) = 2 * Real.pi := by
  simp only [twoPi, ofNat_eq, Nat.cast_ofNat]; rfl

theorem abs_sub_trunc_lt_one (z : ℝ) : |z - (realTrunc z : ℝ)| < 1 := by
  unfold realTrunc
  rw [abs_lt]
  split_ifs with h
  · have h1 := Int.floor_le z
    have h2 := Int.lt_floor_add_one z
    constructor <;> linarith
  · have h1 := Int.le_ceil z
    have h2 := Int.ceil_lt_add_one z
    constructor <;> linarith

theorem fmod_real_lt (x : ℝ) : |Transc.fmod x (twoPi : ℝ)| < twoPi := by
  have hm : (0 : ℝ) < twoPi := by rw [twoPi_real]; positivity
  show |x - (realTrunc (x / twoPi) : ℝ) * twoPi| < twoPi
  have h := abs_sub_trunc_lt_one (x / twoPi)
  have e : x - (realTrunc (x / twoPi) : ℝ) * twoPi = (x / twoPi - (realTrunc (x / twoPi) : ℝ)) * twoPi := by
    field_simp
  rw [e, abs_mul, abs_of_pos hm]
  calc |x / twoPi - (realTrunc (x / twoPi) : ℝ)| * twoPi < 1 * twoPi := by
        exact mul_lt_mul_of_pos_right h hm
    _ = twoPi := one_mul _

theorem atan2_real_polar (y x : ℝ) (h : x ≠ 0 ∨ y ≠ 0) :
    Real.cos (Transc.atan2 y x : ℝ) = x / Real.sqrt (x * x + y * y)
    ∧ Real.sin (Transc.atan2 y x : ℝ) = y / Real.sqrt (x * x + y * y) := by
  have hz : (⟨x, y⟩ : ℂ) ≠ 0 := fun h0 =>
    h.elim (fun hx => hx (congrArg Complex.re h0)) (fun hy => hy (congrArg Complex.im h0))
  have hn : ‖(⟨x, y⟩ : ℂ)‖ = Real.sqrt (x * x + y * y) := by
    rw [Complex.norm_def, Complex.normSq_apply]
  exact ⟨(Complex.cos_arg hz).trans (by rw [hn]), (Complex.sin_arg _).trans (by rw [hn])⟩

/-- `ℝ` with `Real.sqrt/sin/cos`, C's `fmod` and `atan2(y, x) = Complex.arg (x + iy)` satisfies
every law the conversion theorems use — for the code's own angle function `exactAngle`. -/
theorem exactTrig_real : ExactTrig (K := ℝ) exactAngle where
  sqrt_nonneg := fun x _ => Real.sqrt_nonneg x
  sqrt_sq := fun x hx => Real.mul_self_sqrt hx
  cos_sq_add_sin_sq := fun x => by
    have := Real.cos_sq_add_sin_sq x
    show Real.cos x * Real.cos x + Real.sin x * Real.sin x = 1
    nlinarith
  periodic := fun x k => by
    rw [twoPi_real]
    exact ⟨Real.cos_add_int_mul_two_pi x k, Real.sin_add_int_mul_two_pi x k⟩
  fmod_shift := fun x => ⟨-realTrunc (x / twoPi), by
    show x - (realTrunc (x / twoPi) : ℝ) * twoPi = _
    push_cast; ring⟩
  angle_exact := fun v hv => by
    have h := atan2_real_polar v.y v.x (by
      by_contra h0
      rw [not_or, not_not, not_not] at h0
      rw [h0.1, h0.2] at hv
      norm_num at hv)
    rw [hv, Real.sqrt_one, div_one, div_one] at h
    exact h

/-- `Real.sin` satisfies the sign laws used for the large-arc flag -/
theorem sinSign_real : SinSign ℝ where
  sin_sub := fun x y => Real.sin_sub x y
  sin_nonneg := fun x h0 h1 => Real.sin_nonneg_of_nonneg_of_le_pi h0 h1
  sin_nonpos := fun x h0 h1 => by
    rw [twoPi_real] at h1
    show Real.sin x ≤ 0
    have h0' : Real.pi ≤ x := h0
    have := Real.sin_nonneg_of_nonneg_of_le_pi (x := x - Real.pi) (by linarith) (by linarith)
    rw [Real.sin_sub_pi] at this
    linarith
  sin_nonpos' := fun x h0 h1 => Real.sin_nonpos_of_nonpos_of_neg_pi_le h1 h0
  sin_nonneg' := fun x h0 h1 => by
    rw [twoPi_real] at h0
    show 0 ≤ Real.sin x
    have h1' : x ≤ -Real.pi := h1
    have := Real.sin_nonneg_of_nonneg_of_le_pi (x := x + 2 * Real.pi) (by linarith) (by linarith)
    rwa [Real.sin_add_two_pi] at this

/-- the half-angle formulas, in the form the field theorems take them -/
theorem half_angle_identities_real (d : ℝ) :
    Real.cos (d / 2) * Real.cos (d / 2) + Real.sin (d / 2) * Real.sin (d / 2) = 1
    ∧ Real.cos d = 1 - 2 * (Real.sin (d / 2) * Real.sin (d / 2))
    ∧ Real.sin d = 2 * (Real.sin (d / 2) * Real.cos (d / 2)) := by
  have hsc := Real.sin_sq_add_cos_sq (d / 2)
  have h2 := Real.cos_two_mul (d / 2)
  have h1 := Real.sin_two_mul (d / 2)
  rw [show 2 * (d / 2) = d by ring] at h1 h2
  exact ⟨by linear_combination hsc, by linear_combination h2 + 2 * hsc, by linear_combination h1⟩

/-- `tan(δ·0.5)·cos(δ/2) = sin(δ/2)` (`δ·0.5` is the model's expression: `Scalar.half = 1/2`) -/
theorem tan_half_real (d : ℝ) (hc : Real.cos (d / 2) ≠ 0) :
    Real.tan (d * Scalar.half) * Real.cos (d / 2) = Real.sin (d / 2) := by
  have hh : (Scalar.half : ℝ) = 1 / 2 := sc_half
  rw [hh, mul_one_div, Real.tan_eq_sin_div_cos, div_mul_cancel₀ _ hc]

/-- `tan(δ/2)` against the full angle -/
theorem tan_half_full_real (d : ℝ) (hc : Real.cos (d / 2) ≠ 0) :
    Real.tan (d * Scalar.half) * Real.sin d = 1 - Real.cos d
    ∧ Real.tan (d * Scalar.half) * (1 + Real.cos d) = Real.sin d := by
  obtain ⟨hu, hcos, hsin⟩ := half_angle_identities_real d
  have htan := tan_half_real d hc
  rw [hcos, hsin]
  exact ⟨by linear_combination (2 * Real.sin (d / 2)) * htan,
    by linear_combination (2 * Real.cos (d / 2)) * htan - (2 * Real.tan (d * Scalar.half)) * hu⟩

/-- the float→int cast hypothesis `hcast` of `arc_beziers_ranges` and `arc_beziers_endpoints_on_arc_partial` holds
for every real arc -/
theorem cast_faithful_real (arc : Arc ℝ) :
    ((nQ arc : Nat) : ℝ) = nStepsQ arc ∧ ((nC arc : Nat) : ℝ) = nStepsC arc := by
  have key : ∀ x : ℝ, 0 ≤ x → (((⌊((⌈x⌉ : ℤ) : ℝ)⌋).toNat : Nat) : ℝ) = ((⌈x⌉ : ℤ) : ℝ) := by
    intro x hx
    rw [Int.floor_intCast]
    have h0 : 0 ≤ ⌈x⌉ := Int.ceil_nonneg hx
    have : ((⌈x⌉.toNat : Nat) : ℤ) = ⌈x⌉ := Int.toNat_of_nonneg h0
    exact_mod_cast this
  have hpi : (0 : ℝ) < Transc.pi := Real.pi_pos
  have he := effSweep_nonneg arc hpi.le
  constructor
  · exact key (effSweep arc / fracPi4) (div_nonneg he (by rw [fracPi4_eq]; positivity))
  · exact key (effSweep arc / fracPi2) (div_nonneg he (by rw [fracPi2_eq]; positivity))

theorem nSteps_pos_real (arc : Arc ℝ) (h : arc.sweep ≠ 0) :
    0 < nStepsQ arc ∧ 0 < nStepsC arc ∧ 0 < nQ arc ∧ 0 < nC arc := by
  have hpi : (0 : ℝ) < Transc.pi := Real.pi_pos
  have he : 0 < effSweep arc := by
    simp only [effSweep, geom, Nat.cast_ofNat]; exact lt_min (abs_pos.mpr h) (mul_pos hpi two_pos)
  have hceil : ∀ x : ℝ, 0 < x → (0 : ℝ) < Transc.ceil x := fun x hx => by
    show (0 : ℝ) < ((⌈x⌉ : ℤ) : ℝ); exact_mod_cast Int.ceil_pos.mpr hx
  have hq : 0 < nStepsQ arc := hceil _ (div_pos he (by rw [fracPi4_eq]; positivity))
  have hc : 0 < nStepsC arc := hceil _ (div_pos he (by rw [fracPi2_eq]; positivity))
  obtain ⟨c1, c2⟩ := cast_faithful_real arc
  exact ⟨hq, hc, Nat.cast_pos.1 (by rw [c1]; exact hq), Nat.cast_pos.1 (by rw [c2]; exact hc)⟩

theorem rf_circle_real (a : SvgArc ℝ) (r : ℝ) (hr : a.radii = ⟨r, r⟩) :
    rf a = ((hd a).x * (hd a).x + (hd a).y * (hd a).y) / (r * r) := by
  have hcs := exactTrig_real.cos_sq_add_sin_sq (xr a)
  simp only [rf, pt, rx0, ry0, hr, sc_abs, abs_mul_abs_self, cosPhi, sinPhi]
  rw [← add_div]
  congr 1
  linear_combination ((hd a).x * (hd a).x + (hd a).y * (hd a).y) * hcs

/-- a concrete non-degenerate input: from (0,0) to (1,0), radii (1,-2), rotated, large arc, ccw -/
noncomputable def exampleArc : SvgArc ℝ := ⟨⟨0, 0⟩, ⟨1, 0⟩, ⟨1, -2⟩, 1 / 2, true, true⟩

theorem exampleArc_not_straight : isStraightLine exampleArc = false := by
  simp only [isStraightLine, Bool.or_eq_false_iff, decide_eq_false_iff_not, not_le, sc_abs]
  refine ⟨⟨?_, ?_⟩, ?_⟩
  · show (1 / 100000000 : ℝ) < |(1 : ℝ)|
    norm_num
  · show (1 / 100000000 : ℝ) < |(-2 : ℝ)|
    norm_num
  · show P.beq (⟨0, 0⟩ : P ℝ) ⟨1, 0⟩ = false
    simp [P.beq]

theorem exampleEps_nonneg : (0 : ℝ) ≤ Eps.eps := by
  show (0 : ℝ) ≤ 1 / 100000000
  norm_num

example : (fromSvgArc exampleArc).sample 0 = exampleArc.from_
    ∧ (fromSvgArc exampleArc).sample 1 = exampleArc.to :=
  svg_arc_endpoints exactTrig_real exampleArc exampleEps_nonneg exampleArc_not_straight

example : (toSvgArc (fromSvgArc exampleArc)).from_ = exampleArc.from_ :=
  (svg_arc_roundtrip exactTrig_real sinSign_real exampleArc exampleEps_nonneg exampleArc_not_straight
    fmod_real_lt).1

example : 0 ≤ (fromSvgArc exampleArc).sweep :=
  ((svg_arc_sweep_sign exactAngle exampleArc fmod_real_lt).1 rfl).1

/-- the radii (1/4, 1/4) are too small for the chord (0,0)–(1,0): `rf = 4 > 1` whatever the rotation -/
example : ∃ a : SvgArc ℝ, a.radii.x ≠ 0 ∧ a.radii.y ≠ 0 ∧ a.from_ ≠ a.to ∧ 1 < rf a := by
  refine ⟨⟨⟨0, 0⟩, ⟨1, 0⟩, ⟨1/4, 1/4⟩, 0, false, true⟩, by norm_num, by norm_num,
    by intro h; have := congrArg P.x h; norm_num at this, ?_⟩
  rw [rf_circle_real _ (1 / 4) rfl]
  simp only [hd, geom, Nat.cast_ofNat]
  norm_num

/-- the structural theorems' hypotheses hold for a half-turn arc: 4 quadratics, 2 cubics -/
example : ∃ arc : Arc ℝ, |arc.sweep| ≤ Transc.pi * 2 ∧ ((nQ arc : Nat) : ℝ) = nStepsQ arc
    ∧ ((nC arc : Nat) : ℝ) = nStepsC arc ∧ (0 : ℝ) ≤ Eps.eps :=
  ⟨⟨⟨1, 2⟩, ⟨3, 1⟩, 1, Real.pi, 1 / 3⟩, by
      show |Real.pi| ≤ Real.pi * 2
      rw [abs_of_pos Real.pi_pos]; linarith [Real.pi_pos],
    (cast_faithful_real _).1, (cast_faithful_real _).2, by
      show (0 : ℝ) ≤ 1 / 100000000
      norm_num⟩

/-- beyond a full turn (`sweep = 3π`): the hypotheses of `arc_beziers_beyond_turn_witness` hold -/
example : ∃ arc : Arc ℝ, Transc.pi * 2 < |arc.sweep| ∧ 0 < nQ arc := by
  refine ⟨⟨⟨0, 0⟩, ⟨1, 1⟩, 0, 3 * Real.pi, 0⟩, ?_, ?_⟩
  · show Real.pi * 2 < |3 * Real.pi|
    rw [abs_of_pos (by positivity)]; linarith [Real.pi_pos]
  · exact (nSteps_pos_real _ (mul_pos three_pos Real.pi_pos).ne').2.2.1

/-- the trigonometric hypotheses of `quad_ctrl_on_tangents` hold over `ℝ` for every arc, start
angle and step whose half is not an odd multiple of `π/2` (`cos(δ/2) ≠ 0`; lyon's steps are at
most `π/4`) -/
example (arc : Arc ℝ) (a1 d : ℝ) (hd : Real.cos (d / 2) ≠ 0) :
    (quadCtrl arc a1 d - pointAt arc a1).cross (tangentAtAngle arc a1) = 0
    ∧ (quadCtrl arc a1 d - pointAt arc (a1 + d)).cross (tangentAtAngle arc (a1 + d)) = 0 := by
  apply quad_ctrl_on_tangents
  · exact exactTrig_real.cos_sq_add_sin_sq _
  · exact exactTrig_real.cos_sq_add_sin_sq _
  · exact exactTrig_real.cos_sq_add_sin_sq _
  · exact Real.cos_add a1 d
  · exact Real.sin_add a1 d
  · exact (tan_half_full_real d hd).1

/-- **numeric witness over `ℝ`**: at the diagonal, euclid's `fast_atan2(1, 1)` is more than
`2·10⁻⁴` rad below `π/4`. -/
theorem fast_atan2_diagonal_witness : fastAtan2 (1 : ℝ) 1 < Real.pi / 4 - 2 / 10000 := by
  rw [fastAtan2_first_octant 1 1 one_pos le_rfl, div_one]
  simp only [atanPoly, geom]
  have := Real.pi_gt_d6
  norm_num
  linarith

end real

end Lyon.C13
