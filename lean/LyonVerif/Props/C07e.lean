/-
  C07e - the parameter-range clause for WHOLE RUNS without the `Tainted` restriction, RELATIVE to the order of the
  index-linked event queue.

  `Props/C07d.lean` proves that every step function of one event keeps `ActiveSpan` and every stored / emitted
  parameter in `[0,1]`, and that `initialize_events` does when the next vertex is in sweep order (`AdvOK`).  Here
  (`Lemmas/SweepQueueOrd{,Loop}.lean`):

  * the lift through the fuel-bounded loop, `tessellate_impl` and the polygonal entry points
    (`sweep_records_unit_queue_partial`): for every run, every outcome, every record listed with an emitted
    vertex has both range ends in `[0,1]` - split branches included.  `_partial`: it takes the missing queue
    invariant as an INTERFACE `QOrdHyp Q R` - a predicate `Q` at the head of the loop that gives `AdvOK`, a
    predicate `R` during an event, four preservation statements (`initialize_events`: `Q → R`; `process_events`
    and `recover_from_error` keep `R`; advancing `current_event` turns `R` into `Q`) - and `Q` of the start state;
  * a concrete candidate for `Q`, the pointer-level queue-order invariant `QOrd` (`SortedFrom`: the `next_event`
    list from the current event is finite and strictly increasing in `compare_positions` order; the active
    list is empty or the previous vertex is not below the current event; `ToQueued`: the far end of every active edge that is no merge vertex
    is the position of an event of that list; no pending edges left over; the edge records of the sibling
    events point down) with the theorem `qord_gives_advOK`: `QOrd` DOES give `AdvOK`
    (`qordHyp_of`: the interface with `Q := QOrd` from its other four fields, `adv` discharged;
    `sweep_records_unit_qord_partial`: the run-level theorem at `Q := QOrd`).

  * the SORTED part of `QOrd`, at the pointer level (`Lemmas/SweepQueueOrd{Insert,Sort}.lean`):
    `sort_keeps_positions` (the merge sort only rewrites links); `sort_sorted_of_spec` - the `next_event` list
    from `first` of `q.sort` is `SortedFrom` whenever the linked lists enumerate the list-level specification
    `Spec.sort` (`merge_sort_sorted_perm`), which the model's `tessellate` CHECKS on every run (outcome
    `unmodelled sort-spec-mismatch` otherwise; never seen) - so for every run that gets past that check;
    `insert_sorted_keeps_sorted` - the walk of `insert_into_sorted_list` from an event `after` of a sorted list
    whose position is before `p` links the new event in (between two nodes, at the end, or as a sibling) and
    the list stays sorted, contains `p`, keeps all its positions; `insert_sibling_keeps_sorted`,
    `push_unlinked_keeps_sorted`; the step to the next event is `SortedFrom.tail`.
    `sweep_records_unit_sorted_partial`: with these the start state has `QOrd` up to the builder property
    `down`, so the hypotheses of the run-level theorem shrink to the preservation interface.

  NOT proved (the hypotheses that remain): the preservation interface `QOrdHyp QOrd R` through the steps of an
  event - it needs (a) the call-site precondition of `insert_sorted` (the new position is after the current
  vertex in the full sweep order, x included: `ActiveSpan` of `Props/C07d.lean` is about y only), (b) that the
  builder and the re-queueing sites (`process_intersection`, `merge_coincident_edges`) establish / keep
  `ToQueued`, (c) that an event removes every active edge that ends at the current vertex (a property of the
  scan), (d) the builder property `down`.  The same invariant is what C01's winding conservation needs.
-/
import LyonVerif.Lemmas.SweepQueueOrdInsert
import LyonVerif.Lemmas.SweepQueueOrdLoop
import LyonVerif.Lemmas.SweepQueueOrdSort

set_option linter.unusedSectionVars false
set_option linter.unusedVariables false

namespace Lyon.C07e
open Lyon Lyon.Scalar Lyon.Sweep Lyon.EQ Lyon.SweepSpan Lyon.SweepRep Lyon.C07b
open Std.Do

section field
variable {K : Type} [Field K] [LinearOrder K] [IsStrictOrderedRing K]

theorem sorted_head_least {evs : Array (Event K)} {i : Nat} {p : P K} (hs : SortedFrom evs i)
    (hc : InChain evs i p) : (epos evs i).y ≤ p.y := by
  induction hc with
  | here i hi => exact le_refl _
  | next i p hi h ih => exact le_trans (hs.head_lt hi h.valid).le_y (ih (hs.tail hi))

variable [w : Wide K]

/-- `AdvOK` is the hypothesis of `C07d.initialize_events_keeps_unit` -/
theorem qord_gives_advOK {s : St K} (hI : Inv s) (hq : QOrd s) : AdvOK s := by
  refine ⟨?_, ?_, hq.down⟩
  · intro e he hm
    have hsp := hI.1.1 e he hm
    have hcl : s.curPos.y ≤ (s.q.position s.curEvent).y := by
      rcases hq.curLe with h0 | h0
      · have := Array.size_pos_of_mem he
        omega
      · exact h0
    refine ⟨le_trans hsp.1 hcl, ?_⟩
    rw [position_eq]
    exact sorted_head_least hq.sorted (hq.toQueued e he hm)
  · rw [hq.noBelow]
    exact all_empty

theorem loop_keeps_unit_partial {Q R : St K → Prop} {M : w.W → Prop} (hw : WClosure (α := K) U M)
    (h : QOrdHyp Q R) (f : Nat) :
    ⦃fun s => ⌜Inv s ∧ Q s⌝⦄ (tessellatorLoop f : SM K Unit)
    ⦃post⟨fun _ s => ⌜UInv s⌝, fun _ s => ⌜UInv s⌝⟩⦄ := tessellatorLoop_unit hw h f

/-- Over a linearly ordered field, for every polygonal input, entry point, fill rule, orientation, tolerance, with
or without intersection handling, for every outcome and WITHOUT the `Tainted` restriction: every record listed with
an emitted vertex has `0 ≤ range.start ≤ 1` and `0 ≤ range.end ≤ 1`.  `_partial`: relative to the queue-order
interface `QOrdHyp Q R` (see the header). -/
theorem sweep_records_unit_queue_partial (hW : WideLaws w) {Q R : St K → Prop} (h : QOrdHyp Q R)
    (entry : Entry) (rule : Slab.Rule) (horizontal : Bool) (tol : K) (handleIx : Bool) (subs : List (SubPath K))
    (hQ0 : Q (startSt (buildQueue entry horizontal subs).sort rule horizontal tol handleIx))
    (d : EdgeData K) (hd : Emitted (tessellate entry rule horizontal tol handleIx subs).2.1 d) :
    (0 ≤ d.t0 ∧ d.t0 ≤ 1) ∧ (0 ≤ d.t1 ∧ d.t1 ≤ 1) := by
  obtain ⟨M, hw⟩ := hW
  obtain ⟨pos, recs, p, hm, hr⟩ := hd
  unfold tessellate at hm
  dsimp only at hm
  split at hm
  · simp at hm
  · have hqu : QU (buildQueue entry horizontal subs).sort := by
      intro d0 hd0
      rw [sort_edgeData] at hd0
      have := buildQueue_recs (U := U) entry horizontal subs (by rw [C07.zero_K]; exact ⟨le_refl _, zero_le_one⟩)
        (by rw [C07.one_K]; exact ⟨zero_le_one, le_refl _⟩) d0 hd0
      exact ⟨this.2.2.1, this.2.2.2⟩
    exact tessellateImpl_unit hw h _ hqu rule horizontal tol handleIx hQ0 pos recs hm (p, d) hr

/-- the interface with `Q := QOrd`: `adv` is a theorem -/
theorem qordHyp_of {R : St K → Prop}
    (init : ⦃fun s => ⌜Inv s ∧ QOrd s⌝⦄ (initializeEvents : SM K Unit) ⦃post⟨fun _ s => ⌜R s⌝, fun _ _ => ⌜True⌝⟩⦄)
    (event : ⦃fun s => ⌜Inv s ∧ R s⌝⦄ (processEvents : SM K (Option IErr)) ⦃post⟨fun _ s => ⌜R s⌝, fun _ _ => ⌜True⌝⟩⦄)
    (recover : ⦃fun s => ⌜Inv s ∧ R s⌝⦄ (recoverFromError : SM K Unit) ⦃post⟨fun _ s => ⌜R s⌝, fun _ _ => ⌜True⌝⟩⦄)
    (next : ∀ s : St K, Inv s → R s → QOrd { s with curEvent := s.q.nextId s.curEvent }) : QOrdHyp QOrd R :=
  ⟨fun _ => qord_gives_advOK, init, event, recover, next⟩

/-- the same with the concrete pointer-level invariant `QOrd` at the head of the loop - what remains as hypotheses
is that the sorted start state has it and that the steps keep it -/
theorem sweep_records_unit_qord_partial (hW : WideLaws w) {R : St K → Prop} (h : QOrdHyp QOrd R)
    (entry : Entry) (rule : Slab.Rule) (horizontal : Bool) (tol : K) (handleIx : Bool) (subs : List (SubPath K))
    (hQ0 : QOrd (startSt (buildQueue entry horizontal subs).sort rule horizontal tol handleIx))
    (d : EdgeData K) (hd : Emitted (tessellate entry rule horizontal tol handleIx subs).2.1 d) :
    (0 ≤ d.t0 ∧ d.t0 ≤ 1) ∧ (0 ≤ d.t1 ∧ d.t1 ≤ 1) :=
  sweep_records_unit_queue_partial hW h entry rule horizontal tol handleIx subs hQ0 d hd

theorem sort_keeps_positions (q : Queue K) (i : Nat) : q.sort.position i = q.position i := sort_pos q i

/-- `hg` is what the model's `tessellate` checks before it runs the sweep -/
theorem sort_sorted_of_spec_check (q0 : Queue K) (hq0 : QOk q0)
    (hg : q0.sort.groups = Spec.sort q0.position q0.events.size) :
    SortedFrom q0.sort.events q0.sort.first := sort_sorted_of_spec q0 hg

/-- **`insert_sorted` keeps the list from `after` sorted**: for an event `after` of a sorted `next_event` list
whose position is before `p` in sweep order (what `assert!(is_after(intersection, current))` and the order of two
pending ends are meant to guarantee at the call sites: not proved, see (a) above), the list from `after` in the new queue is sorted, contains `p` and
keeps all its positions - unless the walk ran out of fuel (`none`: reported by the model as `fuel_out`) -/
theorem insert_sorted_keeps_sorted (q : Queue K) (p : P K) (d : EdgeData K) (after : Nat) (hav : after ≠ INVALID)
    (hs : SortedFrom q.events after) (hpl : comparePositions (q.position after) p = .lt)
    (hnodes : ∀ j, NodeIn q.events after j → j < q.events.size) (hsz : q.events.size ≠ INVALID)
    (evs' : Array (Event K))
    (e : Queue.insertLoop q.events.size p (q.pushUnsorted p d).fuel (q.pushUnsorted p d).events after after = some evs') :
    SortedFrom evs' after ∧ InChain evs' after p ∧ ∀ r, InChain q.events after r → InChain evs' after r := by
  have hpush : ∀ j, j < q.events.size →
      enext (q.pushUnsorted p d).events j = enext q.events j ∧ epos (q.pushUnsorted p d).events j = epos q.events j :=
    fun j hj => push_frame _ _ hj
  have hnew : epos (q.pushUnsorted p d).events q.events.size = p ∧
      enext (q.pushUnsorted p d).events q.events.size = INVALID := by
    unfold enext epos Queue.pushUnsorted
    simp [Array.getD_eq_getD_getElem?]
  have hs' : SortedFrom (q.pushUnsorted p d).events after :=
    sorted_frame hs (fun j hj => hpush j (hnodes j hj))
  have hfuel : (q.pushUnsorted p d).fuel = (2 * (q.pushUnsorted p d).events.size + 7) + 1 := rfl
  rw [hfuel] at e
  have hnodes' : ∀ j, NodeIn (q.pushUnsorted p d).events after j → j ≠ q.events.size ∧ j < (q.pushUnsorted p d).events.size := by
    intro j hj
    have := hnodes j (nodeIn_of_frame hs (fun k hk => (hpush k (hnodes k hk)).1) j hj)
    exact ⟨Nat.ne_of_lt this, by simp [Queue.pushUnsorted]; omega⟩
  have r := insertLoop_start q.events.size p hsz _ _ after evs' e hs' hav
    (by rw [(hpush after (hnodes after (.here after hav))).2]; exact hpl) hnew.1 hnew.2
    (by simp [Queue.pushUnsorted]) hnodes'
  exact ⟨r.sorted, r.has, fun r' hr' => r.keep r' (inchain_frame hr' (fun j hj => hpush j (hnodes j hj)))⟩

/-- `insert_sibling` (an event at a position that is already in the list) and `push_unlinked` do not touch the
`next_event` links or the positions of the old events: a sorted list stays sorted, with the same positions -/
theorem insert_sibling_keeps_sorted (q : Queue K) (sib : Nat) (p : P K) (d : EdgeData K) (i : Nat)
    (hs : SortedFrom q.events i) (hnodes : ∀ j, NodeIn q.events i j → j < q.events.size) :
    SortedFrom (q.insertSibling sib p d).events i ∧
    ∀ r, InChain q.events i r → InChain (q.insertSibling sib p d).events i r := by
  refine frame_both hs fun j hj => ?_
  unfold Queue.insertSibling
  dsimp only
  rw [enext_setNextSibling, epos_setNextSibling]
  exact push_frame _ _ (hnodes j hj)

theorem push_unlinked_keeps_sorted (q : Queue K) (p : P K) (d : EdgeData K) (i : Nat)
    (hs : SortedFrom q.events i) (hnodes : ∀ j, NodeIn q.events i j → j < q.events.size) :
    SortedFrom (q.pushUnlinked p d).1.events i ∧
    ∀ r, InChain q.events i r → InChain (q.pushUnlinked p d).1.events i r :=
  frame_both hs fun j hj => push_frame _ _ (hnodes j hj)

/-- the nodes of a list of a structurally well-formed queue are valid indices (the side condition above) -/
theorem list_nodes_valid {evs : Array (Event K)} (hl : LinksOk evs) {i j : Nat} (hn : NodeIn evs i j)
    (hi : Link evs.size i) : j < evs.size := by
  induction hn with
  | here i hv => exact hi.resolve_left hv
  | next i j hv h ih => exact ih (SweepRep.getD_links hl i).2

/-- the run-level statement with `QOrd` of the start state DISCHARGED by `sort_sorted_of_spec_check` (inside
`tessellate` the specification check has passed) - what remains as hypotheses: the preservation interface
`QOrdHyp QOrd R` and the builder property `down` for the first event -/
theorem sweep_records_unit_sorted_partial (hW : WideLaws w) {R : St K → Prop} (h : QOrdHyp QOrd R)
    (entry : Entry) (rule : Slab.Rule) (horizontal : Bool) (tol : K) (handleIx : Bool) (subs : List (SubPath K))
    (hdown : ∀ i ∈ (buildQueue entry horizontal subs).sort.siblings (buildQueue entry horizontal subs).sort.fuel
        (buildQueue entry horizontal subs).sort.firstId,
      ((buildQueue entry horizontal subs).sort.ed i).isEdge = true →
      ((buildQueue entry horizontal subs).sort.position (buildQueue entry horizontal subs).sort.firstId).y ≤
        ((buildQueue entry horizontal subs).sort.ed i).to.y)
    (d : EdgeData K) (hd : Emitted (tessellate entry rule horizontal tol handleIx subs).2.1 d) :
    (0 ≤ d.t0 ∧ d.t0 ≤ 1) ∧ (0 ≤ d.t1 ∧ d.t1 ≤ 1) := by
  by_cases hg : (buildQueue entry horizontal subs).sort.groups =
      Spec.sort (buildQueue entry horizontal subs).position (buildQueue entry horizontal subs).events.size
  · exact sweep_records_unit_queue_partial hW h entry rule horizontal tol handleIx subs
      (qord_start _ hg rule horizontal tol handleIx hdown) d hd
  · exfalso
    obtain ⟨pos, recs, p, hm, hr⟩ := hd
    unfold tessellate at hm
    dsimp only at hm
    rw [if_pos (by simpa using hg)] at hm
    simp at hm

end field

end Lyon.C07e
