/-
  C03 — `tessellate_circle` END TO END on the model, as theorems.

  `fill_circle` (`basic_shapes.rs`, model `Shapes.fillCircle`, tied bit for bit by `shape:32`) emits
  its triangles directly by recursive arc subdivision.  Over an ordered field with `cos`, `sin`, `π`,
  `sqrt` as parameters and the laws `CircTrig` (`Lemmas/CircleCoverTrig.lean`: `cos² + sin² = 1`,
  addition formulas, `sin > 0` on `(0, π)`, `π > 0`, `cos(π/2) = 0`, `sin x ≤ x`) the emitted triangles are exactly
  the inscribed regular `4·2ⁿ`-gon `V k = c + |r|·(cos kδ, sin kδ)`, `δ = π/(2·2ⁿ)`, `n = circleRecursions`, whose
  inner radius `|r|·cos(π/(4·2ⁿ))` is within the tolerance of `|r|`.

  `fill_circle_within_tolerance` assumes, beyond the laws, that `sqrt` is a square root and the depth inequality
  `arc_len/step ≤ 2^circleRecursions` (what `.ceil().log2().ceil() as u32` computes); both are discharged over ℝ in
  `Props/C03Real.lean` (`fill_circle_within_tolerance_real` has no hypothesis but `r ≠ 0`, `tol > 0`; the laws:
  `real_circTrig`).

  The namespace `Lyon.C03c` is shared by Lemmas/CircleCover*.lean, Props/C03f.lean and Props/C03Real.lean.

  Path-builder helpers (`builder.rs` `add_circle`, `add_rounded_rectangle`, model `PathShapes`, tied
  by `helpers:32`): `Props/C03d.lean`.
-/
import LyonVerif.Lemmas.CircleCoverFull


namespace Lyon.C03c
open Lyon Lyon.Shapes Lyon.C03

variable {K : Type} [Field K] [LinearOrder K] [IsStrictOrderedRing K] [Transc K]

/-- **`fill_circle` covers the polygon of its boundary edges** — for every `cos`/`sin`:
a point on the inner side of each of the `4·2ⁿ` boundary edges of the mesh (the leaves of the four
`fill_border_radius` recursions) lies in one of the emitted triangles. -/
theorem circle_tris_cover_edges (c : P K) (r tol : K) (m : Mesh K) (h : fillCircle c r tol = some m)
    (p : P K)
    (hp : ∀ e ∈ circleEdges c (Scalar.abs r) (circleRecursions (Scalar.abs r) tol), Inner e p) :
    Covered m p ∧ (circleEdges c (Scalar.abs r) (circleRecursions (Scalar.abs r) tol)).length
      = 4 * 2 ^ circleRecursions (Scalar.abs r) tol :=
  ⟨circle_covers_edges c r tol m h p hp, circleEdges_length ..⟩

/-- **The triangles `fill_circle` emits cover the inscribed regular `4·2ⁿ`-gon and stay inside the
circle.**  `V k = regVert c |r| n k = c + |r|·(cos kδ, sin kδ)` with `δ = π/(2·2ⁿ)`,
`n = circleRecursions |r| tol`:
1. a point on the inner side of all `4·2ⁿ` sides `V k → V (k+1)` lies in an emitted triangle;
2. the polygon is closed: `V (4·2ⁿ) = V 0`, and every `V k` is on the circle;
3. every point of every emitted (closed) triangle is in the closed disc of radius `|r|`. -/
theorem circle_tris_cover_polygon (L : CircTrig K) (c : P K) (r tol : K) (m : Mesh K)
    (h : fillCircle c r tol = some m) :
    (∀ p : P K,
      (∀ k : Nat, k < 4 * 2 ^ circleRecursions (Scalar.abs r) tol →
        Inner (regVert c (Scalar.abs r) (circleRecursions (Scalar.abs r) tol) k,
               regVert c (Scalar.abs r) (circleRecursions (Scalar.abs r) tol) (k + 1)) p) →
      Covered m p) ∧
    (regVert c (Scalar.abs r) (circleRecursions (Scalar.abs r) tol) (4 * 2 ^ circleRecursions (Scalar.abs r) tol)
        = regVert c (Scalar.abs r) (circleRecursions (Scalar.abs r) tol) 0 ∧
      ∀ k, OnCircle c (Scalar.abs r) (regVert c (Scalar.abs r) (circleRecursions (Scalar.abs r) tol) k)) ∧
    (∀ p : P K, Covered m p → (p - c).sqLen ≤ Scalar.abs r * Scalar.abs r) := by
  set R := Scalar.abs r
  set n := circleRecursions R tol
  refine ⟨?_, ⟨?_, fun k => pos_on_circle L.toTrigAdd ..⟩, fun p hc => (circle_good L c r tol m h).covered_in_disc hc⟩
  · intro p hp
    apply circle_covers_edges c r tol m h p
    intro e he
    obtain ⟨k, hk, rfl⟩ := (mem_circleEdges_iff L c R n e).1 he
    exact hp k hk
  · have hne : (2 : K) ^ n ≠ 0 := pow_ne_zero _ two_ne_zero
    have e1 : ((4 * 2 ^ n : Nat) : K) * ((Transc.pi : K) / (2 * 2 ^ n)) = 2 * Transc.pi := by
      push_cast; field_simp; ring
    apply P.ext'
    · simp only [regVert, pos_x, e1, L.cos_two_pi, Nat.cast_zero, zero_mul, L.cos_zero]
    · simp only [regVert, pos_y, e1, L.sin_two_pi, Nat.cast_zero, zero_mul, L.sin_zero]

/-- **The union of the triangles `fill_circle` emits IS the inscribed regular `4·2ⁿ`-gon**: a point
lies in some emitted (closed) triangle iff it is on the inner side of all `4·2ⁿ` sides
`V k → V (k+1)` of the polygon of the emitted vertices. -/
theorem circle_tris_union_eq_polygon (L : CircTrig K) (c : P K) (r tol : K) (m : Mesh K)
    (h : fillCircle c r tol = some m) (p : P K) :
    Covered m p ↔
      ∀ k : Nat, k < 4 * 2 ^ circleRecursions (Scalar.abs r) tol →
        Inner (regVert c (Scalar.abs r) (circleRecursions (Scalar.abs r) tol) k,
               regVert c (Scalar.abs r) (circleRecursions (Scalar.abs r) tol) (k + 1)) p :=
  ⟨fun hc k hk => circle_tris_inside_polygon L c r tol m h p hc k hk,
   fun hp => (circle_tris_cover_polygon L c r tol m h).1 p hp⟩

/-- **The polygon of `circle_tris_cover_polygon` is the polygon of the emitted vertices.**
A pair of points is a boundary edge of the mesh (a leaf of one of the four `fill_border_radius`
recursions) iff it is a side `V k → V (k+1)`, `k < 4·2ⁿ`; every `V k` (`k ≤ 4·2ⁿ`) is one of the
`4·2ⁿ` vertices `fill_circle` emits. -/
theorem circle_polygon_vertices_emitted (L : CircTrig K) (c : P K) (r tol : K) (m : Mesh K)
    (h : fillCircle c r tol = some m) :
    (∀ e : P K × P K, e ∈ circleEdges c (Scalar.abs r) (circleRecursions (Scalar.abs r) tol) ↔
      ∃ k : Nat, k < 4 * 2 ^ circleRecursions (Scalar.abs r) tol ∧
        e = (regVert c (Scalar.abs r) (circleRecursions (Scalar.abs r) tol) k,
             regVert c (Scalar.abs r) (circleRecursions (Scalar.abs r) tol) (k + 1))) ∧
    (∀ k : Nat, k ≤ 4 * 2 ^ circleRecursions (Scalar.abs r) tol →
      regVert c (Scalar.abs r) (circleRecursions (Scalar.abs r) tol) k ∈ m.verts) ∧
    m.verts.length = 4 * 2 ^ circleRecursions (Scalar.abs r) tol := by
  set R := Scalar.abs r
  set n := circleRecursions R tol
  refine ⟨mem_circleEdges_iff L c R n, ?_, (circle_counts c r tol m h).1⟩
  intro k hk
  have hv := circle_edge_verts c r tol m h
  have hp : 0 < 2 ^ n := Nat.pos_of_ne_zero (by positivity)
  by_cases hlt : k < 4 * 2 ^ n
  · exact (hv _ ((mem_circleEdges_iff L c R n _).2 ⟨k, hlt, rfl⟩)).1
  · have hk1 : k = (4 * 2 ^ n - 1) + 1 := by omega
    rw [hk1]
    exact (hv _ ((mem_circleEdges_iff L c R n _).2 ⟨4 * 2 ^ n - 1, by omega, rfl⟩)).2

/-- **Every point within the polygon's inner radius `|r|·cos(π/(4·2ⁿ))` of the centre is covered.** -/
theorem circle_covers_inner_disc (L : CircTrig K) (c : P K) (r tol : K) (m : Mesh K)
    (h : fillCircle c r tol = some m) (p : P K)
    (hp : (p - c).sqLen ≤ (Scalar.abs r * Transc.cos (halfStep K (circleRecursions (Scalar.abs r) tol)))
        * (Scalar.abs r * Transc.cos (halfStep K (circleRecursions (Scalar.abs r) tol)))) :
    Covered m p := by
  apply circle_covers_edges c r tol m h p
  intro e he
  have hq := fun i => quarter_halfStep (K := K) (circleRecursions (Scalar.abs r) tol) i
  have hi : ∀ i, ∀ e ∈ qedges c (Scalar.abs r) (circleRecursions (Scalar.abs r) tol) i, Inner e p := fun i =>
    leafEdges_inner L.toTrigAdd c _ _ _ _ p (abs_nonneg r) (hq i ▸ (halfStep_sin_pos L _).le)
      (hq i ▸ (halfStep_cos_pos L _).le) (hq i ▸ hp)
  simp only [circleEdges_qt L, List.mem_append] at he
  rcases he with ((he | he) | he) | he <;> exact hi _ e he

/-- **The depth is enough**: when `arc_len / step ≤ 2ⁿ` the polygon's inner radius is within the
(clamped) tolerance of the radius. -/
theorem circle_sagitta_le_tolerance (L : CircTrig K) (r tol : K) (n : Nat) (hr : 0 < r) (ht : 0 < tol)
    (hsq : ∀ x : K, 0 ≤ x → Transc.sqrt x * Transc.sqrt x = x) (hsq0 : ∀ x : K, 0 ≤ Transc.sqrt x)
    (hdepth : Scalar.half * Transc.pi * r / circleFlatteningStep r tol ≤ 2 ^ n) :
    r - min tol r ≤ r * Transc.cos (halfStep K n) :=
  inner_radius_ge L r tol n hr ht hsq hsq0 hdepth

/-- **`tessellate_circle` fills the circle to within the tolerance** (model, exact arithmetic).
For `r ≠ 0`, `tol > 0`: a mesh is produced; every point at distance `≤ |r| − tol` from the centre
(farther than `tol` inside the boundary circle) lies in an emitted triangle, and every point of an
emitted triangle is at distance `≤ |r|` from the centre (nothing outside the circle is covered).
Hypotheses beyond the laws: `sqrt` is the square root, and `hdepth`: the depth computed by
`(arc_len/step).ceil().log2().ceil() as u32` satisfies `arc_len/step ≤ 2^depth`. -/
theorem fill_circle_within_tolerance (L : CircTrig K) (c : P K) (r tol : K) (hr : r ≠ 0) (ht : 0 < tol)
    (hsq : ∀ x : K, 0 ≤ x → Transc.sqrt x * Transc.sqrt x = x) (hsq0 : ∀ x : K, 0 ≤ Transc.sqrt x)
    (hdepth : Scalar.half * Transc.pi * |r| / circleFlatteningStep |r| tol
      ≤ 2 ^ circleRecursions |r| tol) :
    ∃ m, fillCircle c r tol = some m ∧
      (∀ p : P K, tol ≤ |r| → (p - c).sqLen ≤ (|r| - tol) * (|r| - tol) → Covered m p) ∧
      (∀ p : P K, Covered m p → (p - c).sqLen ≤ |r| * |r|) := by
  have hR : 0 < |r| := abs_pos.2 hr
  have hm := fillCircle_some c tol hR.ne'
  refine ⟨_, hm, ?_, (circle_tris_cover_polygon L c r tol _ hm).2.2⟩
  intro p htr hp
  apply circle_covers_inner_disc L c r tol _ hm p
  have hin := inner_radius_ge L |r| tol (circleRecursions |r| tol) hR ht hsq hsq0 hdepth
  rw [min_eq_left htr] at hin
  show _ ≤ (|r| * _) * (|r| * _)
  have h0 : 0 ≤ |r| - tol := by linarith
  exact le_trans hp (mul_self_le_mul_self h0 hin)

end Lyon.C03c

namespace Lyon.C03c.Toy
open Lyon Lyon.Shapes Lyon.C03 Lyon.C03c

set_option warn.classDefReducibility false

/-- a `Transc ℚ` with constant `cos = 1`, `sin = 0`, depth 0: enough to run `fillCircle` to the
square of the axis vertices and instantiate the law-free theorem -/
def toyTransc : Transc ℚ where
  sqrt := fun x => x
  cbrt := fun x => x
  sin := fun _ => 0
  cos := fun _ => 1
  tan := fun _ => 0
  acos := fun _ => 0
  atan2 := fun _ _ => 0
  pow := fun x _ => x
  log2 := fun _ => 0
  ln := fun _ => 0
  floor := fun x => x
  ceil := fun x => x
  toNat := fun _ => 0
  fmod := fun x _ => x
  eps := 0
  pi := 3
  isNaN := fun _ => false
  isFinite := fun _ => true

attribute [local instance] toyTransc

/-- `circle_tris_cover_edges` on a concrete input: the centre of the circle of radius 2 is on the
inner side of the four boundary edges of the depth-0 mesh (the square), hence covered. -/
example : (∃ m, fillCircle (⟨0, 0⟩ : P ℚ) 2 1 = some m) ∧ circleRecursions (Scalar.abs (2 : ℚ)) 1 = 0 ∧
    (∀ e ∈ circleEdges (⟨0, 0⟩ : P ℚ) (Scalar.abs 2) 0, Inner e (⟨0, 0⟩ : P ℚ)) := by
  refine ⟨⟨_, by simp [fillCircle, geom]; rfl⟩, rfl, ?_⟩
  intro e he
  simp only [circleEdges, leafEdges, axisVerts, List.getD_cons_zero, List.getD_cons_succ, List.mem_append,
    List.mem_cons, List.not_mem_nil, or_false] at he
  rcases he with ((he | he) | he) | he <;> subst he <;> simp [Inner, geom]

end Lyon.C03c.Toy
