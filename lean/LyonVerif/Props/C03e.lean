/-
  C03 — `PathBuilder::add_ellipse`: how far the curves it draws are from the ellipse.

  `add_ellipse(center, radii, x_rotation, winding)` builds the `Arc` (start 0, sweep ±2π) and sends
  one `quadratic_bezier_to(ctrl, to)` per piece of `Arc::for_each_quadratic_bezier`
  (`C03b.ellipse_helper_shape`).  These are the SAME pieces as C13's `arc_to_quadratic_beziers`
  (`ArcConv.quadsWithT`, tied by C13 and, through the helper, by C03's `helpers:32`), so C13b's
  deviation theorems over ℝ (`Transc ℝ` = C13's `exampleTransc`: Mathlib's `sin`, `cos`, `tan`, `π`,
  ceiling) apply.
-/
import LyonVerif.Props.C13b
import LyonVerif.Props.C03b


namespace Lyon.C03e
open Lyon Lyon.Path Lyon.PathShapes Lyon.ArcConv Lyon.C13

theorem first_piece_start (arc : Arc ℝ) (x : Quad ℝ × ℝ × ℝ) (h : (quadsWithT arc)[0]? = some x) :
    x.1.a = arc.sample 0 := by
  have hlen : (quadsWithT arc).length = nQ arc := (arc_beziers_ranges arc).1
  have h0 : 0 < nQ arc := by
    rw [← hlen]; exact (List.getElem?_eq_some_iff.mp h).1
  rw [quads_get arc 0 h0] at h
  cases h
  show pointAt arc (angleAt arc (stepQ arc) 0) = pointAt arc (arc.getAngle 0)
  congr 1
  simp [angleAt, Arc.getAngle, geom]

/-- **radial error of `add_ellipse`** over ℝ, for every centre, radii, x-rotation and winding:
1. the call list is `begin(arc.sample 0)`, one `quadratic_bezier_to(ctrl, to)` per piece, `end(true)`;
2. each piece starts where the previous one ends, the first one at the `begin` point — the curves
   the builder draws are exactly the pieces;
3. every point `Q(t)`, `t ∈ [0,1]`, of every piece is within `0.0032·max(|rx|, |ry|)` of a point of
   the exact ellipse (`ellMap arc u`, `u` on the unit circle) — squared form. -/
theorem add_ellipse_radial_error_real (c radii : P ℝ) (rot : ℝ) (pos : Bool) :
    addEllipse c radii rot pos
      = Call.begin ((ellipseArc c radii rot pos).sample 0) ()
        :: ((quadsWithT (ellipseArc c radii rot pos)).map (fun q => Call.quad q.1.c q.1.b ()))
        ++ [Call.end_ true] ∧
    (∀ j x y, (quadsWithT (ellipseArc c radii rot pos))[j]? = some x →
      (quadsWithT (ellipseArc c radii rot pos))[j+1]? = some y → x.1.b = y.1.a) ∧
    (∀ x, (quadsWithT (ellipseArc c radii rot pos))[0]? = some x →
      x.1.a = (ellipseArc c radii rot pos).sample 0) ∧
    (∀ x ∈ quadsWithT (ellipseArc c radii rot pos), ∀ t : ℝ, 0 ≤ t → t ≤ 1 →
      ∃ u : P ℝ, u.x * u.x + u.y * u.y = 1 ∧
        sqDist (x.1.sample t) (ellMap (ellipseArc c radii rot pos) u)
          ≤ (Max.max |radii.x| |radii.y| * (32 / 10000)) * (Max.max |radii.x| |radii.y| * (32 / 10000))) := by
  refine ⟨?_, (arc_beziers_connected _).1, first_piece_start _, ?_⟩
  · rw [C03b.ellipse_helper_shape c radii rot pos]
    have : (Scalar.zero : ℝ) = 0 := sc_zero
    rw [this]
  · intro x hx t h0 h1
    exact arc_quads_near_ellipse_real (ellipseArc c radii rot pos) x hx t h0 h1

/-- **`add_ellipse` with equal radii `r ≥ 0`**: every point of every piece satisfies
`r ≤ |Q(t) − center| ≤ 1.0032·r`. -/
theorem add_ellipse_circle_radial_error_real (c : P ℝ) (r rot : ℝ) (hr : 0 ≤ r) (pos : Bool) :
    ∀ x ∈ quadsWithT (ellipseArc c ⟨r, r⟩ rot pos), ∀ t : ℝ, 0 ≤ t → t ≤ 1 →
      r ≤ Real.sqrt (sqDist (x.1.sample t) c) ∧ Real.sqrt (sqDist (x.1.sample t) c) ≤ r * (10032 / 10000) := by
  intro x hx t h0 h1
  exact (arc_beziers_near_circle_real (ellipseArc c ⟨r, r⟩ rot pos) r rfl hr t h0 h1).1 x hx

/-- non-vacuity: `0 ≤ r` at `r = 1`, and the unit circle drawn by `add_ellipse` has `nQ` pieces (`nQ` is not evaluated
here; 8 in lyon: sweep 2π in steps of π/4) -/
example : (0 : ℝ) ≤ 1 ∧ (quadsWithT (ellipseArc (⟨0, 0⟩ : P ℝ) ⟨1, 1⟩ 0 true)).length
    = nQ (ellipseArc (⟨0, 0⟩ : P ℝ) ⟨1, 1⟩ 0 true) :=
  ⟨zero_le_one, (arc_beziers_ranges _).1⟩

end Lyon.C03e
