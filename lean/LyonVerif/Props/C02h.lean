/-
  C02 — the ADVANCED monotone tessellator tiles the monotone piece on EVERY valid sweep
  sequence, degenerate triangles included (`Props/C02g.lean` adds non-degeneracy in general position).

  The run is a sequence of cuts of the FINE remaining polygon (inner stack, buffered chains, not yet fed vertices):
  a flush cuts the chain polygon off, the forward to the inner tessellator pops ears or fans, buffering changes
  nothing, `end` flushes in sweep order and closes — how and why: the headers of
  `Lemmas/MonotoneTileAdvSetFF.lean` and `Lemmas/MonotoneTileAdvSetRun.lean`.

  Without general position:
  * a buffered chain is only WEAKLY convex (`outward_turn` lets `cross = 0` through): `flush_side`'s fan
    may contain zero-area triangles — empty open tiles that leave the chain polygon unchanged
    (`ear_tilesN` for the ears at the odd multiples, `tail_stepW` for the left-over triangle whose
    chord runs through the cut vertex: weak convexity is all the cut lemmas ask); the chain polygon is taken
    closed on its chord side (`CSide`) so that the covering clause reaches the points of the chord; the closed
    tiles of the covering clause are the non-degenerate ones (`TriInCN`);
  * a non-degenerate ear or fan triangle may have vertices ON a chord (`ChordClear` is a weak condition):
    its interior is still strictly on its side — three points on a line are collinear
    (`wind_of_on_line`, `inTriS_side_weak`);
  * the inner tessellator may pop a degenerate ear (`pop_tilesW`) and fan over a stack with vertices on
    the chord `bot → cur` (`FanLeT` instead of `FanPosT`: `fan_tilesW`, `fan_step_tilesW`; a degenerate
    top fan triangle still covers the diagonal it lies on).

  * `flush_fan_is_ear_sequence_all` — the doubling loop tiles the chain polygon of any strictly sorted,
    weakly convex chain;
  * `adv_triangles_inside_all`, `adv_triangles_disjoint_all`, `adv_triangles_cover_all`;
  * `adv_tiling_all` — on every valid sweep sequence with `n` boundary vertices the advanced tessellator
    emits exactly `n − 2` triangles on distinct fed vertices, each inside the polygon, pairwise
    interior-disjoint, together covering the interior, with areas adding up exactly to the polygon's
    area: the statement of `basic_tiling` for the tessellator `FillTessellator` uses (exact arithmetic).
-/
import LyonVerif.Lemmas.MonotoneTileAdvSetRun


namespace Lyon.C02h
open Lyon Lyon.Mono Lyon.C02 Lyon.C02c Lyon.C02f

section Geometry
variable {K : Type} [Field K] [LinearOrder K] [IsStrictOrderedRing K]

/-- **`flush_side`'s fan tiles the chain polygon of every strictly sorted, WEAKLY convex chain** (the
chain polygon taken closed on its chord side; the covering tiles are non-degenerate) -/
theorem flush_fan_is_ear_sequence_all (pos : Nat → P K) (ev : Array Nat) (right : Bool) (len : Nat) (hl : 1 ≤ len)
    (hsort : ∀ a b, a < b → b < len → After (pos (ev.getD b 0)) (pos (ev.getD a 0)))
    (hconv : ∀ a b d, a < b → b < d → d < len →
      0 ≤ sg (!right) * wind (pos (ev.getD a 0)) (pos (ev.getD b 0)) (pos (ev.getD d 0))) :
    (∀ t ∈ flushLevels ev len right (len + 1) 1, ∀ q, TriIn pos t q →
      ChainIn (!right) ((List.range len).map (fun i => pos (ev.getD i 0))) q ∧
        CSide (!right) (pos (ev.getD 0 0)) (pos (ev.getD (len - 1) 0)) q) ∧
    (flushLevels ev len right (len + 1) 1).Pairwise (fun t t' => ∀ q, ¬ (TriIn pos t q ∧ TriIn pos t' q)) ∧
    (∀ q, ChainIn (!right) ((List.range len).map (fun i => pos (ev.getD i 0))) q →
      CSide (!right) (pos (ev.getD 0 0)) (pos (ev.getD (len - 1) 0)) q →
      ∃ t ∈ flushLevels ev len right (len + 1) 1, TriInC pos t q ∧ 0 < triW pos t) := by
  have t := flush_fan_tilesW pos ev right len hl ⟨hsort, hconv⟩
  refine ⟨t.inside, t.disj, ?_⟩
  intro q h1 h2
  rcases t.cover q ⟨h1, h2⟩ with g | g
  · exact absurd g id
  · exact g

theorem adv_triangles_inside_all (seq : List (P K × Bool)) (h : 2 ≤ seq.length) (hval : SweepValid seq) :
    ∀ t ∈ Adv.run seq, ∀ q, TriIn (posOf seq) t q → InsidePoly seq q := by
  obtain ⟨_, t, _⟩ := adv_run_tilesW seq h hval
  exact t.inside

theorem adv_triangles_disjoint_all (seq : List (P K × Bool)) (h : 2 ≤ seq.length) (hval : SweepValid seq) :
    (Adv.run seq).Pairwise (fun t t' => ∀ q, ¬ (TriIn (posOf seq) t q ∧ TriIn (posOf seq) t' q)) := by
  obtain ⟨_, t, _⟩ := adv_run_tilesW seq h hval
  exact t.disj

theorem adv_triangles_cover_all (seq : List (P K × Bool)) (h : 2 ≤ seq.length) (hval : SweepValid seq) :
    ∀ q, InsidePoly seq q → ∃ t ∈ Adv.run seq, TriInC (posOf seq) t q := by
  obtain ⟨R', t, hemp⟩ := adv_run_tilesW seq h hval
  intro q hq
  rcases t.cover q hq with g | g
  · exact absurd g (hemp q)
  · exact g

/-- **the advanced monotone tessellator tiles the monotone piece** on every valid sweep sequence (C02,
second sentence, for `AdvancedMonotoneTessellator` in exact arithmetic): `n − 2` triangles on three
distinct fed vertices each, each lying inside the polygon, pairwise interior-disjoint, together covering
the polygon's interior, with areas adding up exactly to the polygon's area. -/
theorem adv_tiling_all (seq : List (P K × Bool)) (h : 2 ≤ seq.length) (hval : SweepValid seq) :
    (Adv.run seq).length = seq.length - 2 ∧
    (∀ t ∈ Adv.run seq, TriDistinct t ∧ ∀ q, TriIn (posOf seq) t q → InsidePoly seq q) ∧
    (Adv.run seq).Pairwise (fun t t' => ∀ q, ¬ (TriIn (posOf seq) t q ∧ TriIn (posOf seq) t' q)) ∧
    (∀ q, InsidePoly seq q → ∃ t ∈ Adv.run seq, TriInC (posOf seq) t q) ∧
    sumW (posOf seq) (Adv.run seq) = shoelaceW (polygonOf seq) :=
  ⟨(run_spec seq).1 h,
   fun t ht => ⟨(run_spec seq).2 t ht, adv_triangles_inside_all seq h hval t ht⟩,
   adv_triangles_disjoint_all seq h hval, adv_triangles_cover_all seq h hval, adv_run_area_eq seq h hval⟩

end Geometry

section Examples

/-- a valid sweep sequence that is NOT in general position and on which the advanced tessellator buffers
the collinear left chain `1, 3, 5` as one chain of three ids: `end` flushes it into the zero-area fan
triangle `(1, 3, 5)` -/
def exE : List (P ℚ × Bool) :=
  [(⟨0, 0⟩, true), (⟨-10, 1⟩, true), (⟨10, 2⟩, false), (⟨-12, 3⟩, true), (⟨11, 4⟩, false), (⟨-14, 5⟩, true),
   (⟨0, 7⟩, true)]

example : 2 ≤ exE.length ∧ SweepValid exE ∧ ¬ NoCollinear exE := by decide +kernel

example : (advState exE 5).left.events = [1, 3, 5] ∧ (1, 3, 5) ∈ Adv.run exE ∧
    triW (posOf exE) (1, 3, 5) = 0 := by decide +kernel

/-- a weakly convex chain with three collinear points: the hypotheses of `flush_fan_is_ear_sequence_all` -/
def flatChain (i : Nat) : P ℚ := ⟨-(if i < 3 then 2 * (i : ℚ) else 4 + ((i : ℚ) - 2)), i⟩

example : (∀ a b, a < b → b < 5 → After (flatChain (#[0, 1, 2, 3, 4].getD b 0)) (flatChain (#[0, 1, 2, 3, 4].getD a 0))) ∧
    (∀ a b d, a < b → b < d → d < 5 → 0 ≤ sg (!false) * wind (flatChain (#[0, 1, 2, 3, 4].getD a 0))
      (flatChain (#[0, 1, 2, 3, 4].getD b 0)) (flatChain (#[0, 1, 2, 3, 4].getD d 0))) ∧
    wind (flatChain 0) (flatChain 1) (flatChain 2) = 0 := by
  have h1 : ∀ b, b < 5 → ∀ a, a < b → After (flatChain (#[0, 1, 2, 3, 4].getD b 0)) (flatChain (#[0, 1, 2, 3, 4].getD a 0)) := by
    decide +kernel
  have h2 : ∀ d, d < 5 → ∀ b, b < d → ∀ a, a < b → 0 ≤ sg (!false) * wind (flatChain (#[0, 1, 2, 3, 4].getD a 0))
      (flatChain (#[0, 1, 2, 3, 4].getD b 0)) (flatChain (#[0, 1, 2, 3, 4].getD d 0)) := by
    decide +kernel
  exact ⟨fun a b hab hb => h1 b hb a hab, fun a b d hab hbd hd => h2 d hd b hbd a hab, by decide +kernel⟩

end Examples

end Lyon.C02h
