/-
  C19, the walker (`lyon_algorithms::walk`): the 1-D core of `PathWalker::edge` (`Walk.edgeLoop`,
  `Walk.edge1`, `Walk.walk1`).  Every callback is issued at the cumulative distance the pattern asks
  for and at the point of the polyline at that arclength; what is left over after an edge grows by
  the edge's length; non-positive requests make the loop spin, requests bounded below end it.
-/
import LyonVerif.Model.Algo.Walk
import LyonVerif.Lemmas.Field
import Mathlib.Tactic.NormNum
import Mathlib.Algebra.Order.Field.Rat

set_option linter.unusedSectionVars false

namespace Lyon.C19
open Lyon Lyon.Measure Scalar

variable {K : Type} [Field K] [LinearOrder K] [IsStrictOrderedRing K]

open Lyon.Walk

/-- the advancement at which callback number `k` is due: `start + Σ_{j<k} d_j`, where `d_j` is
the answer of the `j`-th call of `Pattern::next` -/
def cum (start : K) (pat : Pat K) : Nat → K
  | 0 => start
  | k + 1 => cum start pat k + (pat k).getD 0

/-- walker invariant: callback number `w.k` is due at `advancement + next_distance` -/
def Due (start : K) (pat : Pat K) (w : W1 K) : Prop :=
  w.advancement + w.nextDistance = cum start pat w.k

theorem edgeLoop_due (pat : Pat K) (invD start : K) (fuel : Nat) (w : W1 K) (distance x : K)
    (hd : Due start pat w) :
    (∀ h ∈ (edgeLoop pat invD fuel w distance x).hits, h.distance = cum start pat h.k) ∧
    ((edgeLoop pat invD fuel w distance x).w.done = false →
      Due start pat (edgeLoop pat invD fuel w distance x).w) := by
  fun_induction edgeLoop pat invD fuel w distance x with
  | case1 | case2 | case5 => exact ⟨by simp, fun _ => hd⟩
  | case3 fuel w distance x h nd hp ih =>
    have hd' : Due start pat ⟨w.advancement + w.nextDistance, (Scalar.zero : K), nd, false, w.k + 1⟩ := by
      unfold Due at *
      simp only [cum, hp, Option.getD_some]
      rw [hd]
    refine ⟨fun hh hmem => ?_, (ih hd').2⟩
    rcases List.mem_cons.mp hmem with e | e
    · rw [e]; exact hd
    · exact (ih hd').1 hh e
  | case4 fuel w distance x h hp =>
    simp only [List.mem_singleton, forall_eq]
    exact ⟨hd, fun hf => by simp at hf⟩

/-- `S` is the arclength at which the edge starts and `x` the edge parameter the loop has reached:
`S + x·d` is the arclength walked so far (`hinv`), and every callback is issued where that is its
`distance` -/
theorem edgeLoop_positions (pat : Pat K) (invD d S : K) (hd : invD * d = 1) (fuel : Nat) (w : W1 K)
    (distance x : K) (hinv : S + x * d = w.advancement + w.leftover) :
    ∀ h ∈ (edgeLoop pat invD fuel w distance x).hits, S + h.x * d = h.distance := by
  -- the point at which a callback is issued
  have key : ∀ (w : W1 K) (x : K), S + x * d = w.advancement + w.leftover →
      S + (x + (w.nextDistance - w.leftover) * invD) * d = w.advancement + w.nextDistance := by
    intro w x hinv
    have : (x + (w.nextDistance - w.leftover) * invD) * d
        = x * d + (w.nextDistance - w.leftover) * (invD * d) := by ring
    rw [this, hd]; linarith
  fun_induction edgeLoop pat invD fuel w distance x with
  | case1 | case2 | case5 => simp
  | case3 fuel w distance x h nd hp ih =>
    intro hh hmem
    rcases List.mem_cons.mp hmem with e | e
    · rw [e]; exact key w x hinv
    · refine ih ?_ hh e
      simp only [sc_zero, add_zero]
      exact key w x hinv
  | case4 fuel w distance x h hp =>
    simp only [List.mem_singleton, forall_eq]
    exact key w x hinv

/-- what is left over after an edge: `advancement + leftover` grows by exactly the edge's length -/
theorem edgeLoop_total (pat : Pat K) (invD : K) (fuel : Nat) (w : W1 K) (distance x : K) :
    (edgeLoop pat invD fuel w distance x).fuelOut = false →
    (edgeLoop pat invD fuel w distance x).w.done = false →
    (edgeLoop pat invD fuel w distance x).w.advancement + (edgeLoop pat invD fuel w distance x).w.leftover
      = w.advancement + distance := by
  fun_induction edgeLoop pat invD fuel w distance x with
  | case1 | case2 | case4 | case5 => simp
  | case3 fuel w distance x h nd hp ih =>
    intro hf hdn
    rw [consHit, ih hf hdn]
    simp only []
    ring

/-- On an edge of length `d` (not skipped, so `d ≠ 0`), starting
at arclength `S = advancement + leftover` of the path with callback `w.k` due: every callback
issued on this edge, number `h.k`, reports `distance = start + Σ_{j<h.k} d_j`, and is issued at
the edge parameter `x` with `S + x·d = distance` — the point of the polyline at that arclength. -/
theorem walker_visits_cumulative (pat : Pat K) (start : K) (fuel : Nat) (w : W1 K) (d : K)
    (hdue : Due start pat w) (hd : ¬ d < Scalar.ofSci 1 5) (hd0 : d ≠ 0) :
    ∀ h ∈ (edge1 pat fuel w d).hits,
      h.distance = cum start pat h.k ∧ (w.advancement + w.leftover) + h.x * d = h.distance := by
  unfold edge1
  rw [if_neg hd]
  intro h hmem
  refine ⟨(edgeLoop_due pat _ start fuel w _ _ hdue).1 h hmem, ?_⟩
  refine edgeLoop_positions pat (Scalar.one / d) d (w.advancement + w.leftover) ?_ fuel w _ _ ?_ h hmem
  · rw [sc_one_eq]; field_simp
  · rw [sc_zero_eq]; ring

/-- the invariants carry over to the next edge: the next callback is still due at
`advancement + next_distance`, and `advancement + leftover` has grown by `d` -/
theorem walker_edge_carries (pat : Pat K) (start : K) (fuel : Nat) (w : W1 K) (d : K)
    (hdue : Due start pat w) (hd : ¬ d < Scalar.ofSci 1 5)
    (hf : (edge1 pat fuel w d).fuelOut = false) (hdn : (edge1 pat fuel w d).w.done = false) :
    Due start pat (edge1 pat fuel w d).w ∧
    (edge1 pat fuel w d).w.advancement + (edge1 pat fuel w d).w.leftover
      = (w.advancement + w.leftover) + d := by
  unfold edge1 at *
  rw [if_neg hd] at *
  refine ⟨(edgeLoop_due pat _ start fuel w _ _ hdue).2 hdn, ?_⟩
  rw [edgeLoop_total pat _ fuel w _ _ hf hdn]
  ring

/-- A constant non-positive request `r ≤ 0` never lets
the `while distance >= next_distance` loop end: for EVERY fuel the model's loop runs out of fuel
(the Rust loop has no bound — it spins until the callback returns `false`). -/
theorem walker_needs_positive (invD r : K) (hr : r ≤ 0) :
    ∀ (fuel : Nat) (w : W1 K) (distance x : K), w.nextDistance = r → r ≤ distance →
      (edgeLoop (fun _ => some r) invD fuel w distance x).fuelOut = true := by
  intro fuel w distance x hw hle
  fun_induction edgeLoop (fun _ => some r) invD fuel w distance x with
  | case1 => rfl
  | case2 w distance x h | case5 fuel w distance x h => exact absurd (hw ▸ hle) h
  | case3 fuel w distance x h nd hp ih =>
    cases hp
    exact ih rfl (by linarith)
  | case4 fuel w distance x h hp => cases hp

/-- the walker terminates for positive requests — the hypothesis the termination proof forces:
all requests are bounded below by some `δ > 0`; then `fuel > distance/δ` iterations suffice. -/
theorem walker_terminates_of_positive (pat : Pat K) (invD δ : K) (hδ : 0 < δ)
    (hpat : ∀ k nd, pat k = some nd → δ ≤ nd) :
    ∀ (fuel : Nat) (w : W1 K) (distance x : K), δ ≤ w.nextDistance → distance < fuel * δ →
      (edgeLoop pat invD fuel w distance x).fuelOut = false := by
  intro fuel w distance x hw hlt
  fun_induction edgeLoop pat invD fuel w distance x with
  | case1 w distance x h =>
    simp only [Nat.cast_zero, zero_mul] at hlt
    linarith
  | case2 | case4 | case5 => rfl
  | case3 fuel w distance x h nd hp ih =>
    refine ih (hpat _ _ hp) ?_
    push_cast at hlt
    linarith

/-- the hits of a whole walk, edge by edge: the hits on the edge that starts at arclength `S` and
has length `d` report their cumulative distance and sit at the point of that arclength -/
def HitsOK (start : K) (pat : Pat K) : K → List K → List (List (Hit K)) → Prop
  | _, _, [] => True
  | S, d :: r, hs :: t =>
    (∀ h ∈ hs, h.distance = cum start pat h.k ∧ S + h.x * d = h.distance) ∧ HitsOK start pat (S + d) r t
  | _, [], _ :: _ => False

theorem walk1_done (pat : Pat K) (fuel : Nat) (w : W1 K) (hd : w.done = true) (ds : List K) :
    walk1 pat fuel w ds = ([], w, false) := by
  cases ds with
  | nil => rfl
  | cons d r => simp [walk1, hd]

/-- Over a whole sequence of edges (none skipped), from a state where the
next callback is due: every callback on every edge reports `start + Σ_{j<k} d_j` and is issued at
the point of the polyline at exactly that arclength; and if the walk runs to the end (pattern
never stops, fuel suffices) the walker's final distance `advancement + leftover` is the initial
one plus the total length of the edges — the measured length (`length_is_fold`). -/
theorem walker_whole_walk (pat : Pat K) (start : K) (fuel : Nat) :
    ∀ (ds : List K) (w : W1 K), Due start pat w →
      (∀ d ∈ ds, ¬ d < Scalar.ofSci 1 5 ∧ d ≠ 0) →
      HitsOK start pat (w.advancement + w.leftover) ds (walk1 pat fuel w ds).1 ∧
      ((walk1 pat fuel w ds).2.2 = false → (walk1 pat fuel w ds).2.1.done = false →
        (walk1 pat fuel w ds).2.1.advancement + (walk1 pat fuel w ds).2.1.leftover
          = w.advancement + w.leftover + ds.sum ∧ Due start pat (walk1 pat fuel w ds).2.1) := by
  intro ds w hdue hds
  fun_induction walk1 pat fuel w ds with
  | case1 w => simp [HitsOK, hdue]
  | case2 w d r hwd => exact ⟨by simp [HitsOK], fun _ h => by simp [hwd] at h⟩
  | case3 w d r hwd hf =>
    have hd := hds d (by simp)
    exact ⟨by simp only [HitsOK, and_true]; exact walker_visits_cumulative pat start fuel w d hdue hd.1 hd.2,
      fun h => by simp at h⟩
  | case4 w d r hwd hf ih =>
    have hd := hds d (by simp)
    have hv := walker_visits_cumulative pat start fuel w d hdue hd.1 hd.2
    simp only [walk1Cons]
    by_cases hod : (edge1 pat fuel w d).w.done = true
    · rw [walk1_done pat fuel _ hod r]
      exact ⟨by simp only [HitsOK, and_true]; exact hv, fun _ h => by simp [hod] at h⟩
    · obtain ⟨c1, c2⟩ := walker_edge_carries pat start fuel w d hdue hd.1 (by simpa using hf)
        (by simpa using hod)
      obtain ⟨i1, i2⟩ := ih c1 (fun d' h => hds d' (List.mem_cons_of_mem _ h))
      rw [c2] at i1 i2
      refine ⟨by simp only [HitsOK]; exact ⟨hv, i1⟩, fun h1 h2 => ?_⟩
      obtain ⟨j1, j2⟩ := i2 h1 h2
      exact ⟨by rw [j1, List.sum_cons]; ring, j2⟩

/-- hypotheses of the walker theorems: a fresh walker (`start = 1/2`) has its first callback due,
an edge of length 1 is not skipped, and requests `≥ 1/4` with fuel 8 cover distance `< 2` -/
example : Due (1/2 : ℚ) (Walk.regular (1/4 : ℚ) 100) ⟨0, 0, 1/2, false, 0⟩ ∧
    ¬ ((1 : ℚ) < Scalar.ofSci 1 5) ∧ (1 : ℚ) ≠ 0 ∧
    (∀ k nd, Walk.regular (1/4 : ℚ) 100 k = some nd → (1/4 : ℚ) ≤ nd) ∧ ((3/2 : ℚ) < (8 : Nat) * (1/4 : ℚ)) := by
  refine ⟨by simp [Due, cum], ?_, by norm_num, ?_, by norm_num⟩
  · simp only [geom]; norm_num
  · intro k nd h
    simp only [Walk.regular] at h
    split at h
    · injection h with h; rw [← h]
    · cases h

/-- hypothesis of `walker_needs_positive`: the zero request of `RegularPattern { interval: 0.0 }` -/
example : (0 : ℚ) ≤ 0 ∧ (⟨0, 0, 0, false, 0⟩ : Walk.W1 ℚ).nextDistance = 0 := ⟨le_refl _, rfl⟩

end Lyon.C19
