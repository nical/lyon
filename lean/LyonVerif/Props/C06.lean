/-
  C06 — stroke triangles cover the band around the path and nothing far from it.

  Component theorems about `Model/Tess/StrokeQuad.lean` (+ `compute_normal` of
  `Model/Tess/StrokeParts.lean`), the same definitions the driver executes at Float32 against the
  real stroker (families `stroke2`, `normal`), instantiated at an arbitrary ordered field `K`.

  This file proves, for all inputs, the algebraic pieces.  The claims about a whole fixed-width
  stroke of the complete model, over an ordered field under `CoverHyp` (`Lemmas/StrokeCoverAsm.lean`)
  in the no-fold regime, rest on them: every point of every segment's rectangle is covered
  (`stroke_polyline_covers_rectangles` `Props/C06b.lean`, `stroke_polygon_covers_rectangles`
  `Props/C06c.lean`, the `_miterclip`, `_round` variants `Props/C06f.lean`) and no triangle point lies
  outside the reach region (`stroke_polyline_reach`, `Props/C06b.lean`).  On the real `Float32` output the same claim is decided
  per explored input by the slab checker (`Model/Slab.lean`, soundness in `Props/Slab.lean`).
  The pieces:

  * `quad_covers_rectangle`, `quad_covers_core`: the two triangles of `add_edge_triangles` cover
    the rectangle / the trapezoid between the side points;
  * `ix_on_both_lines`, `cap_side_butt`, `cap_side_square`: cap clipping puts the side points
    exactly at the end point ± n (butt) or shifted by w/2 along the edge (square): reach √2·w/2;
  * `compute_normal_eq` and corollaries: the miter vector lies on both offset lines and has
    squared length 2/(1+v1·v2); `miter_kept_reach`: a kept miter reaches at most 2·limit·w/2;
  * `side_point_reach` (bevel/round/end side points at exactly w/2), `miter_point_on_offsets` (inner single
    vertex and kept miter tip lie on both offset lines), `front_side_cases`, `join_sides_nofold_left/right`
    (the branch structure of `compute_join_side_positions_fixed_width` when the join does not fold);
  * `join_triangle_contains_vertex`: the join triangle covers the join position;
  * `round_subdivision_enough` / `_tight`: `ceil(log2 n)` subdivisions give at least `n` chords (the
    repaired finding C06-round-arc-subdivision-rounded-down, lyon commit da84e187), fewer than `2n`;
    `chord_angle_le_step`, `sagitta_within_tolerance`: hence the flattening error of round joins/caps
    is within the tolerance; `arc_vertices_on_circle`: the fan is inscribed in the circle of radius w/2;
  * `square_cap_extension_covered`: cap shape at the model level (the oracle does not demand it).
-/
import LyonVerif.Model.Tess.StrokeQuad
import LyonVerif.Lemmas.Field
import LyonVerif.Lemmas.MiterNormal
import LyonVerif.Lemmas.StrokeParts
import Mathlib.Tactic.NormNum
import Mathlib.Tactic.Positivity

set_option linter.unusedSectionVars false
set_option linter.unusedVariables false

geom_all Lyon.StrokeQuad
geom_all Lyon.Stroke

namespace Lyon.C06
open Lyon Scalar Lyon.StrokeQuad Lyon.Stroke

variable {K : Type} [Field K] [LinearOrder K] [IsStrictOrderedRing K]

/-- `q` lies in the closed triangle `a b c` (barycentric coordinates) -/
def InTri (q : P K) (t : P K × P K × P K) : Prop :=
  ∃ l m n : K, 0 ≤ l ∧ 0 ≤ m ∧ 0 ≤ n ∧ l + m + n = 1 ∧
    q.x = l * t.1.x + m * t.2.1.x + n * t.2.2.x ∧ q.y = l * t.1.y + m * t.2.1.y + n * t.2.2.y

/-- the point `A + s·(B − A) + u·n` -/
noncomputable def bandPoint (A B n : P K) (s u : K) : P K := A + (B - A).smul s + n.smul u

/-- General form: the side points may be shifted along the edge (by `a0`, `a1` at the start, `b0`,
`b1` at the end, in units of the edge: inner miter points shorten a side, outer ones lengthen it).
Every point of the trapezoid between them lies in one of the two triangles. -/
theorem quad_covers_core (A B n : P K) (a0 a1 b0 b1 s u : K)
    (h0 : a0 < 1 + b0) (h1 : a1 < 1 + b1) (hu : -1 ≤ u) (hu1 : u ≤ 1)
    (hlo : ((1 - u) * a0 + (1 + u) * a1) / 2 ≤ s)
    (hhi : s ≤ 1 + ((1 - u) * b0 + (1 + u) * b1) / 2) :
    let d := B - A
    let T := edgeQuad (A - n + d.smul a0) (A + n + d.smul a1) (B + n + d.smul b1) (B - n + d.smul b0)
    InTri (bandPoint A B n s u) T.1 ∨ InTri (bandPoint A B n s u) T.2 := by
  intro d T
  have hL1 : (0:K) < 1 + b1 - a1 := by linarith only [h1]
  have hL0 : (0:K) < 1 + b0 - a0 := by linarith only [h0]
  by_cases hd : s ≤ ((1 - u) * a0 + (1 + u) * (1 + b1)) / 2
  · left
    obtain ⟨lam, hlam⟩ : ∃ lam : K, lam * (1 + b1 - a1) = s - ((1 - u) * a0 + (1 + u) * a1) / 2 :=
      ⟨(s - ((1 - u) * a0 + (1 + u) * a1) / 2) / (1 + b1 - a1), div_mul_cancel₀ _ (ne_of_gt hL1)⟩
    have hlam0 : 0 ≤ lam := le_of_mul_le_mul_right (by rw [zero_mul, hlam]; linarith only [hlo]) hL1
    have hlam1 : lam ≤ (1 + u) / 2 := le_of_mul_le_mul_right (by rw [hlam]; linarith only [hd]) hL1
    refine ⟨(1 - u) / 2, (1 + u) / 2 - lam, lam, by linarith only [hu1], by linarith only [hlam1], hlam0, by ring, ?_, ?_⟩
    · simp only [T, d, edgeQuad, bandPoint, geom]
      linear_combination (A.x - B.x) * hlam
    · simp only [T, d, edgeQuad, bandPoint, geom]
      linear_combination (A.y - B.y) * hlam
  · right
    have hd' : ((1 - u) * a0 + (1 + u) * (1 + b1)) / 2 < s := lt_of_not_ge hd
    obtain ⟨lam, hlam⟩ : ∃ lam : K, lam * (1 + b0 - a0) = s - ((1 - u) * a0 + (1 + u) * (1 + b1)) / 2 :=
      ⟨(s - ((1 - u) * a0 + (1 + u) * (1 + b1)) / 2) / (1 + b0 - a0), div_mul_cancel₀ _ (ne_of_gt hL0)⟩
    have hlam0 : 0 ≤ lam := le_of_mul_le_mul_right (by rw [zero_mul, hlam]; linarith only [hd']) hL0
    have hlam1 : lam ≤ (1 - u) / 2 := le_of_mul_le_mul_right (by rw [hlam]; linarith only [hhi]) hL0
    refine ⟨(1 - u) / 2 - lam, (1 + u) / 2, lam, by linarith only [hlam1], by linarith only [hu], hlam0, by ring, ?_, ?_⟩
    · simp only [T, d, edgeQuad, bandPoint, geom]
      linear_combination (A.x - B.x) * hlam
    · simp only [T, d, edgeQuad, bandPoint, geom]
      linear_combination (A.y - B.y) * hlam

/-- `quad_covers_rectangle`: for a segment `AB` and ANY offset vector `n`, every point
`A + s(B−A) + u·n`, `s ∈ [0,1]`, `u ∈ [−1,1]`, lies in one of the two triangles
`(A−n, A+n, B+n)`, `(A−n, B+n, B−n)` emitted by `add_edge_triangles`. -/
theorem quad_covers_rectangle (A B n : P K) (s u : K)
    (hs : 0 ≤ s) (hs1 : s ≤ 1) (hu : -1 ≤ u) (hu1 : u ≤ 1) :
    let T := edgeQuad (A - n) (A + n) (B + n) (B - n)
    InTri (bandPoint A B n s u) T.1 ∨ InTri (bandPoint A B n s u) T.2 := by
  have h := quad_covers_core A B n 0 0 0 0 s u (by norm_num) (by norm_num) hu hu1
    (by simpa using hs) (by simpa using hs1)
  have e : ∀ X : P K, X + (B - A).smul 0 = X := by
    intro X; apply P.ext' <;> simp [geom]
  simpa [e] using h

example : InTri (bandPoint (⟨0, 0⟩ : P ℚ) ⟨4, 0⟩ ⟨0, 1⟩ (1/2) (1/3)) (edgeQuad (⟨0, -1⟩ : P ℚ) ⟨0, 1⟩ ⟨4, 1⟩ ⟨4, -1⟩).1 ∨
    InTri (bandPoint (⟨0, 0⟩ : P ℚ) ⟨4, 0⟩ ⟨0, 1⟩ (1/2) (1/3)) (edgeQuad (⟨0, -1⟩ : P ℚ) ⟨0, 1⟩ ⟨4, 1⟩ ⟨4, -1⟩).2 := by
  have h := quad_covers_rectangle (⟨0, 0⟩ : P ℚ) ⟨4, 0⟩ ⟨0, 1⟩ (1/2) (1/3) (by norm_num) (by norm_num) (by norm_num) (by norm_num)
  simpa [geom] using h

theorem ix_unique (p1 v1 p2 v2 y : P K) (hdet : v1.cross v2 ≠ 0)
    (h1 : (y - p1).cross v1 = 0) (h2 : (y - p2).cross v2 = 0) : lineIxPoint p1 v1 p2 v2 = y := by
  simp only [geom] at hdet h1 h2
  have hi : 1 / (v1.x * v2.y - v1.y * v2.x) * (v1.x * v2.y - v1.y * v2.x) = 1 := by field_simp
  apply P.ext' <;> simp only [geom, Nat.cast_one]
  · generalize (1:K) / (v1.x * v2.y - v1.y * v2.x) = i at hi ⊢
    linear_combination y.x * hi + (i * v2.x) * h1 - (i * v1.x) * h2
  · generalize (1:K) / (v1.x * v2.y - v1.y * v2.x) = i at hi ⊢
    linear_combination y.y * hi + (i * v2.y) * h1 - (i * v1.y) * h2

theorem ix_on_both_lines (p1 v1 p2 v2 : P K) (hdet : v1.cross v2 ≠ 0) :
    (lineIxPoint p1 v1 p2 v2 - p1).cross v1 = 0 ∧ (lineIxPoint p1 v1 p2 v2 - p2).cross v2 = 0 := by
  simp only [geom] at hdet
  have hi : 1 / (v1.x * v2.y - v1.y * v2.x) * (v1.x * v2.y - v1.y * v2.x) = 1 := by field_simp
  constructor <;> simp only [geom, Nat.cast_one]
  · generalize (1:K) / (v1.x * v2.y - v1.y * v2.x) = i at hi ⊢
    linear_combination (p1.x * v1.y - p1.y * v1.x) * hi
  · generalize (1:K) / (v1.x * v2.y - v1.y * v2.x) = i at hi ⊢
    linear_combination (p2.x * v2.y - p2.y * v2.x) * hi

example : lineIxPoint (⟨0, 0⟩ : P ℚ) ⟨1, 0⟩ ⟨3, -2⟩ ⟨0, 1⟩ = ⟨3, 0⟩ :=
  ix_unique _ _ _ _ _ (by norm_num [geom]) (by norm_num [geom]) (by norm_num [geom])

section caps
variable [Transc K]

/-- `tessellate_first_edge` / `tessellate_last_edge` with a butt or square cap: the side point is
moved to the common point `y` of the clip line and the side line. -/
theorem cap_side_clip (eps : K) (heps : 0 ≤ eps) (cap : Cap) (cl hw : K) (hcl : cap.clip hw = some cl) (p q sidePos other y : P K)
    (hdet : eps < |(perp (normalize (p - q))).cross (sidePos - other)|)
    (h1 : (y - (p + (normalize (p - q)).smul cl)).cross (perp (normalize (p - q))) = 0)
    (h2 : (y - sidePos).cross (sidePos - other) = 0) :
    capSide (lineIntersection eps) cap p q sidePos other hw = y := by
  have hne : (perp (normalize (p - q))).cross (sidePos - other) ≠ 0 := by
    intro h; rw [h, abs_zero] at hdet; exact absurd hdet (not_lt.mpr heps)
  unfold capSide
  rw [hcl]
  simp only [lineIntersection]
  have hguard : ¬ Scalar.abs ((perp (normalize (p - q))).cross (sidePos - other)) ≤ eps := by
    show ¬ |_| ≤ eps
    exact not_le.mpr hdet
  rw [if_neg hguard]
  simp only [Option.getD_some]
  exact ix_unique _ _ _ _ y hne h1 h2

/-- Butt cap (`clip = 0`): the side point `p + c·perp(t)`, `t = normalize (p − q)`, stays where it
is — the stroke ends exactly at the end point. -/
theorem cap_side_butt (eps : K) (heps : 0 ≤ eps) (p q other : P K) (c hw : K)
    (hdet : eps < |(perp (normalize (p - q))).cross ((p + (perp (normalize (p - q))).smul c) - other)|) :
    capSide (lineIntersection eps) .butt p q (p + (perp (normalize (p - q))).smul c) other hw
      = p + (perp (normalize (p - q))).smul c := by
  apply cap_side_clip eps heps .butt 0 hw (by simp [Cap.clip]) _ _ _ _ _ hdet
  · generalize normalize (p - q) = t
    geom_ring
  · generalize normalize (p - q) = t
    geom_ring

/-- Square cap (`clip = w/2`): when the side line runs along the edge (`sidePos − other = μ·t`) the
side point moves by `w/2` along the edge. -/
theorem cap_side_square (eps : K) (heps : 0 ≤ eps) (p q other : P K) (c hw mu : K)
    (hpar : (p + (perp (normalize (p - q))).smul c) - other = (normalize (p - q)).smul mu)
    (hdet : eps < |(perp (normalize (p - q))).cross ((p + (perp (normalize (p - q))).smul c) - other)|) :
    capSide (lineIntersection eps) .square p q (p + (perp (normalize (p - q))).smul c) other hw
      = p + (perp (normalize (p - q))).smul c + (normalize (p - q)).smul hw := by
  apply cap_side_clip eps heps .square hw hw (by simp [Cap.clip]) _ _ _ _ _ hdet
  · generalize normalize (p - q) = t
    geom_ring
  · rw [hpar]
    generalize normalize (p - q) = t
    geom_ring

/-- reach of the cap corners: for a unit tangent `t` and `c² = (w/2)²` the butt corner is at
squared distance `(w/2)²` and the square corner at `2·(w/2)²` from the end point (factor √2). -/
theorem cap_corner_reach (p t : P K) (c hw : K) (ht : t.sqLen = 1) (hc : c * c = hw * hw) :
    ((p + (perp t).smul c) - p).sqLen = hw * hw ∧
    ((p + (perp t).smul c + t.smul hw) - p).sqLen = 2 * (hw * hw) := by
  simp only [geom] at ht ⊢
  constructor
  · linear_combination (c * c) * ht + hc
  · linear_combination (c * c + hw * hw) * ht + hc
end caps

section normal
variable [Transc K]

/-- For unit tangents away from the two guards, `compute_normal` returns `perp(v1 + v2)/(1 + v1·v2)`.
`r` is the value `sqrt` returns for `|v1+v2|²` (law used: it is positive and squares back). -/
theorem compute_normal_eq (v1 v2 : P K) (r : K) (h1 : v1.sqLen = 1) (h2 : v2.sqLen = 1)
    (hr : Transc.sqrt (v1 + v2).sqLen = r) (hr0 : 0 < r) (hrr : r * r = (v1 + v2).sqLen)
    (hg1 : ¬ (v1 + v2).sqLen < normalEpsilon)
    (hg2 : ¬ Scalar.abs ((perp (normalize (v1 + v2))).dot (perp v1)) < normalEpsilon) :
    computeNormal v1 v2 = (perp (v1 + v2)).sdiv (1 + v1.dot v2) := by
  subst hr
  exact (computeNormal_closed v1 v2 h1 h2 hg1 (le_of_lt hr0) hrr).2

/-- the closed form of the miter vector -/
noncomputable def miterVec (v1 v2 : P K) : P K := (perp (v1 + v2)).sdiv (1 + v1.dot v2)

/-- extruding by the miter vector keeps both offset lines at distance 1: `m·perp(v1) = m·perp(v2) = 1` -/
theorem miter_on_offsets (v1 v2 : P K) (h1 : v1.sqLen = 1) (h2 : v2.sqLen = 1) (hc : 1 + v1.dot v2 ≠ 0) :
    (miterVec v1 v2).dot (perp v1) = 1 ∧ (miterVec v1 v2).dot (perp v2) = 1 := by
  exact miter_dot_perp v1 v2 h1 h2 hc

theorem miter_sqlen (v1 v2 : P K) (h1 : v1.sqLen = 1) (h2 : v2.sqLen = 1) (hc : 1 + v1.dot v2 ≠ 0) :
    (miterVec v1 v2).sqLen * (1 + v1.dot v2) = 2 := by
  exact miter_sqLen_mul v1 v2 h1 h2 hc

/-- a miter the stroker keeps (`!miter_limit_is_exceeded`) reaches at most `2·limit·(w/2)` from the join -/
theorem miter_kept_reach (m : P K) (ml hw : K) (hk : miterLimitIsExceeded m ml = false) :
    (m.smul hw).sqLen ≤ (2 * ml * hw) * (2 * ml * hw) := by
  have hk' : m.x * m.x + m.y * m.y ≤ ml * ml * 4 := by
    simpa [miterLimitIsExceeded, geom] using hk
  simp only [geom]
  have : 0 ≤ hw * hw := mul_self_nonneg hw
  linarith [mul_le_mul_of_nonneg_right hk' this]

/-- the single vertex of the inner (back) side and a kept miter tip: `join ± m·(w/2)` lies on both
offset lines of its side, i.e. at distance exactly w/2 from both segments' lines -/
theorem miter_point_on_offsets (j v1 v2 : P K) (hw : K) (h1 : v1.sqLen = 1) (h2 : v2.sqLen = 1)
    (hc : 1 + v1.dot v2 ≠ 0) :
    ((j + (miterVec v1 v2).smul hw) - j).dot (perp v1) = hw ∧ ((j + (miterVec v1 v2).smul hw) - j).dot (perp v2) = hw ∧
    ((j - (miterVec v1 v2).smul hw) - j).dot (perp v1) = -hw ∧ ((j - (miterVec v1 v2).smul hw) - j).dot (perp v2) = -hw := by
  obtain ⟨a, b⟩ := miter_on_offsets v1 v2 h1 h2 hc
  generalize miterVec v1 v2 = m at a b
  simp only [geom] at a b ⊢
  refine ⟨?_, ?_, ?_, ?_⟩
  · linear_combination hw * a
  · linear_combination hw * b
  · linear_combination (-hw) * a
  · linear_combination (-hw) * b

/-- bevel / round joins, a miter beyond the limit, and both ends of every edge: the side points
`p ± perp(t)·(w/2)` are at distance exactly w/2 from `p` -/
theorem side_point_reach (p t : P K) (hw : K) (ht : t.sqLen = 1) :
    ((p + (perp t).smul hw) - p).sqLen = hw * hw ∧ ((p - (perp t).smul hw) - p).sqLen = hw * hw := by
  simp only [geom] at ht ⊢
  constructor <;> linear_combination (hw * hw) * ht

/-- what `compute_join_side_positions_fixed_width` does to the front (outer) side -/
theorem front_side_cases (ix : Ix K) (s : Side2 K) (j fn mf : P K) (cd : K) :
    frontSide ix .bevel false s j fn mf cd = s ∧ frontSide ix .round false s j fn mf cd = s ∧
    frontSide ix .miter false s j fn mf cd = s ∧
    (∀ jn, frontSide ix jn true s j fn mf cd = s.setSingle mf) ∧
    frontSide ix .miterClip false s j fn mf cd = clipSide ix s j fn cd := by
  simp [frontSide]

/-- the result of `compute_join_side_positions_fixed_width` when the join does not fold, left turn
(`cross ≥ 0`: the front side is the negative one) -/
theorem join_sides_nofold_left (ix : Ix K) (t0 t1 j : P K) (l0 l1 hw ml : K) (join : Join)
    (hx : t0.cross t1 ≥ 0)
    (hf : foldTest ((decide (join = .miter) || decide (join = .miterClip)) && !miterLimitIsExceeded (-(computeNormal t0 t1)) ml)
            t0 t1 (computeNormal t0 t1) ((-(computeNormal t0 t1)).smul hw) l0 l1 = false) :
    let s := joinSidesT ix t0 t1 l0 l1 j hw ml join
    s.pos.single = some (j + (computeNormal t0 t1).smul hw) ∧ s.foldPos = false ∧ s.foldNeg = false ∧
    s.pos.prev = j + (perp t0).smul hw ∧ s.pos.next = j + (perp t1).smul hw ∧
    s.neg = frontSide ix join ((decide (join = .miter) || decide (join = .miterClip)) && !miterLimitIsExceeded (-(computeNormal t0 t1)) ml)
      ⟨j - (perp t0).smul hw, j - (perp t1).smul hw, none⟩ j (-(computeNormal t0 t1)) (j - (computeNormal t0 t1).smul hw) (ml * hw) := by
  have hx' : (t0.cross t1 ≥ Scalar.zero) := by simpa [geom] using hx
  simp only [joinSidesT, decide_eq_true hx', if_true, hf, Bool.false_eq_true, if_false, Side2.setSingle]
  simp

/-- right turn (`cross < 0`: the front side is the positive one) -/
theorem join_sides_nofold_right (ix : Ix K) (t0 t1 j : P K) (l0 l1 hw ml : K) (join : Join)
    (hx : ¬ t0.cross t1 ≥ 0)
    (hf : foldTest ((decide (join = .miter) || decide (join = .miterClip)) && !miterLimitIsExceeded (computeNormal t0 t1) ml)
            t0 t1 (computeNormal t0 t1) ((computeNormal t0 t1).smul hw) l0 l1 = false) :
    let s := joinSidesT ix t0 t1 l0 l1 j hw ml join
    s.neg.single = some (j - (computeNormal t0 t1).smul hw) ∧ s.foldPos = false ∧ s.foldNeg = false ∧
    s.neg.prev = j - (perp t0).smul hw ∧ s.neg.next = j - (perp t1).smul hw ∧
    s.pos = frontSide ix join ((decide (join = .miter) || decide (join = .miterClip)) && !miterLimitIsExceeded (computeNormal t0 t1) ml)
      ⟨j + (perp t0).smul hw, j + (perp t1).smul hw, none⟩ j (computeNormal t0 t1) (j + (computeNormal t0 t1).smul hw) (ml * hw) := by
  have hx' : ¬ (t0.cross t1 ≥ Scalar.zero) := by simpa [geom] using hx
  simp only [joinSidesT, decide_eq_false hx', hf, Bool.false_eq_true, if_false, Side2.setSingle]
  simp

/-- the join triangle `(front.prev, back single, front.next)` of `tessellate_join` contains the join
position (so the wedge between the two edge quads is covered), for any turn with `1 + v1·v2 > 0` -/
theorem join_triangle_contains_vertex (j v1 v2 : P K) (hw : K) (hc : 0 < 1 + v1.dot v2) :
    InTri j (j - (perp v1).smul hw, j + (miterVec v1 v2).smul hw, j - (perp v2).smul hw) := by
  have h3 : 0 < 3 + v1.dot v2 := by linarith
  refine ⟨1 / (3 + v1.dot v2), (1 + v1.dot v2) / (3 + v1.dot v2), 1 / (3 + v1.dot v2),
    by positivity, by positivity, by positivity, ?_, ?_, ?_⟩
  · field_simp; ring
  · simp only [miterVec, geom] at hc h3 ⊢
    field_simp
    ring
  · simp only [miterVec, geom] at hc h3 ⊢
    field_simp
    ring
end normal

section examples
/-- a `Transc ℚ` whose `sqrt` is the given function (everything else is irrelevant here) -/
@[instance_reducible] def toyTransc (sq : ℚ → ℚ) : Transc ℚ :=
  ⟨sq, id, id, id, id, id, fun a _ => a, fun a _ => a, id, id, id, id, fun _ => 0, fun a _ => a, 0, 3, fun _ => false, fun _ => true⟩
local instance toyT : Transc ℚ := toyTransc (fun x => if x = 16 then 4 else 6/5)
theorem toy_sqrt (x : ℚ) : (Transc.sqrt x : ℚ) = if x = 16 then 4 else 6/5 := rfl

example : InTri (bandPoint (⟨0, 0⟩ : P ℚ) ⟨4, 0⟩ ⟨0, 1⟩ (1/2) (1/2))
      (edgeQuad ((⟨0, 0⟩ : P ℚ) - ⟨0, 1⟩ + ((⟨4, 0⟩ : P ℚ) - ⟨0, 0⟩).smul (-1/4)) ((⟨0, 0⟩ : P ℚ) + ⟨0, 1⟩ + ((⟨4, 0⟩ : P ℚ) - ⟨0, 0⟩).smul (1/4))
        ((⟨4, 0⟩ : P ℚ) + ⟨0, 1⟩ + ((⟨4, 0⟩ : P ℚ) - ⟨0, 0⟩).smul (-1/4)) ((⟨4, 0⟩ : P ℚ) - ⟨0, 1⟩ + ((⟨4, 0⟩ : P ℚ) - ⟨0, 0⟩).smul (1/4))).1 ∨
    InTri (bandPoint (⟨0, 0⟩ : P ℚ) ⟨4, 0⟩ ⟨0, 1⟩ (1/2) (1/2))
      (edgeQuad ((⟨0, 0⟩ : P ℚ) - ⟨0, 1⟩ + ((⟨4, 0⟩ : P ℚ) - ⟨0, 0⟩).smul (-1/4)) ((⟨0, 0⟩ : P ℚ) + ⟨0, 1⟩ + ((⟨4, 0⟩ : P ℚ) - ⟨0, 0⟩).smul (1/4))
        ((⟨4, 0⟩ : P ℚ) + ⟨0, 1⟩ + ((⟨4, 0⟩ : P ℚ) - ⟨0, 0⟩).smul (-1/4)) ((⟨4, 0⟩ : P ℚ) - ⟨0, 1⟩ + ((⟨4, 0⟩ : P ℚ) - ⟨0, 0⟩).smul (1/4))).2 :=
  quad_covers_core (⟨0, 0⟩ : P ℚ) ⟨4, 0⟩ ⟨0, 1⟩ (-1/4) (1/4) (1/4) (-1/4) (1/2) (1/2)
    (by norm_num) (by norm_num) (by norm_num) (by norm_num) (by norm_num) (by norm_num)

/-- unit tangents (1,0) and (−7/25, 24/25): `|v1+v2| = 6/5`, the miter vector is (−4/3, 1) -/
example : computeNormal (⟨1, 0⟩ : P ℚ) ⟨-7/25, 24/25⟩ = ⟨-4/3, 1⟩ := by
  have h := compute_normal_eq (⟨1, 0⟩ : P ℚ) ⟨-7/25, 24/25⟩ (6/5)
    (by norm_num [geom]) (by norm_num [geom]) (by norm_num [geom, toy_sqrt]) (by norm_num) (by norm_num [geom])
    (by norm_num [geom, normalEpsilon]) (by norm_num [geom, normalEpsilon, toy_sqrt, abs_lt])
  rw [h]; apply P.ext' <;> norm_num [geom]

example : (miterVec (⟨1, 0⟩ : P ℚ) ⟨-7/25, 24/25⟩).dot (perp ⟨1, 0⟩) = 1 :=
  (miter_on_offsets _ _ (by norm_num [geom]) (by norm_num [geom]) (by norm_num [geom])).1

example : (miterVec (⟨1, 0⟩ : P ℚ) ⟨-7/25, 24/25⟩).sqLen * (1 + (⟨1, 0⟩ : P ℚ).dot ⟨-7/25, 24/25⟩) = 2 :=
  miter_sqlen _ _ (by norm_num [geom]) (by norm_num [geom]) (by norm_num [geom])

example : ((⟨-4/3, 1⟩ : P ℚ).smul (1/2)).sqLen ≤ (2 * 1 * (1/2)) * (2 * 1 * (1/2)) :=
  miter_kept_reach _ 1 (1/2) (by simp [miterLimitIsExceeded, geom]; norm_num)

example : InTri (⟨0, 0⟩ : P ℚ) ((⟨0, 0⟩ : P ℚ) - (perp ⟨1, 0⟩).smul (1/2), (⟨0, 0⟩ : P ℚ) + (miterVec ⟨1, 0⟩ ⟨0, 1⟩).smul (1/2),
    (⟨0, 0⟩ : P ℚ) - (perp ⟨0, 1⟩).smul (1/2)) :=
  join_triangle_contains_vertex _ _ _ _ (by norm_num [geom])

/-- a butt cap on the edge (0,0) → (4,0), `w/2 = 1`: the hypotheses of `cap_side_butt` hold -/
example : (1/100000000 : ℚ) < |(perp (normalize ((⟨4, 0⟩ : P ℚ) - ⟨0, 0⟩))).cross
      ((⟨4, 0⟩ + (perp (normalize ((⟨4, 0⟩ : P ℚ) - ⟨0, 0⟩))).smul 1) - ⟨0, 1⟩)| := by
  norm_num [geom, toy_sqrt, normalize, perp]

example : cap_corner_reach (⟨4, 0⟩ : P ℚ) ⟨1, 0⟩ (-1) 1 (by norm_num [geom]) (by norm_num) =
    cap_corner_reach (⟨4, 0⟩ : P ℚ) ⟨1, 0⟩ (-1) 1 (by norm_num [geom]) (by norm_num) := rfl

/-- a 90 degree left turn with a bevel join does not fold: the hypotheses of `join_sides_nofold_left` hold -/
example : (⟨1, 0⟩ : P ℚ).cross ⟨0, 1⟩ ≥ 0 ∧
    foldTest ((decide (Join.bevel = .miter) || decide (Join.bevel = .miterClip)) && !miterLimitIsExceeded (-(computeNormal (⟨1, 0⟩ : P ℚ) ⟨0, 1⟩)) 4)
      ⟨1, 0⟩ ⟨0, 1⟩ (computeNormal (⟨1, 0⟩ : P ℚ) ⟨0, 1⟩) ((-(computeNormal (⟨1, 0⟩ : P ℚ) ⟨0, 1⟩)).smul (1/2)) 4 4 = false := by
  constructor
  · norm_num [geom]
  · simp [foldTest, geom]

/-- the same turn taken the other way is a right turn -/
example : ¬ (⟨0, 1⟩ : P ℚ).cross ⟨1, 0⟩ ≥ 0 ∧
    foldTest ((decide (StrokeQuad.Join.round = .miter) || decide (StrokeQuad.Join.round = .miterClip)) && !miterLimitIsExceeded (computeNormal (⟨0, 1⟩ : P ℚ) ⟨1, 0⟩) 4)
      ⟨0, 1⟩ ⟨1, 0⟩ (computeNormal (⟨0, 1⟩ : P ℚ) ⟨1, 0⟩) ((computeNormal (⟨0, 1⟩ : P ℚ) ⟨1, 0⟩).smul (1/2)) 4 4 = false := by
  constructor
  · norm_num [geom]
  · simp [foldTest, geom]
end examples

/-! ### round joins and caps: the subdivision count and the flattening error

`tessellate_round_join` / `tessellate_round_cap` need `n = ceil(arc / step)` chords, where
`step = 2·acos((r − tol)/r)` (`circle_flattening_step`), and subdivide `ceil(log2 n)` times, i.e.
into `2^ceil(log2 n)` chords (lyon commit da84e187).  For an exact integer `n`, `ceil(log2 n)` is
`ceilLog2` below; the float evaluation is `Stroke.numSubdivisions` (C05).  Before da84e187 the code rounded
(`.log2().round()`) and could use fewer chords than needed (finding C06-round-arc-subdivision-rounded-down). -/

/-- `ceil(log2 n)` for an exact integer `n` (0 for `n ≤ 1`) -/
def ceilLog2 (n : Nat) : Nat := if n ≤ 1 then 0 else Nat.log2 (n - 1) + 1

/-- enough chords: `2^⌈log₂ n⌉ ≥ n` -/
theorem round_subdivision_enough (n : Nat) : n ≤ 2 ^ ceilLog2 n := by
  unfold ceilLog2
  split
  · omega
  · have h := Nat.lt_log2_self (n := n - 1)
    omega

/-- and not more than twice too many: `2^(⌈log₂ n⌉ − 1) < n` for `n ≥ 2` -/
theorem round_subdivision_tight (n : Nat) (hn : 2 ≤ n) : 2 ^ (ceilLog2 n - 1) < n := by
  unfold ceilLog2
  rw [if_neg (by omega)]
  have h := Nat.log2_self_le (n := n - 1) (by omega)
  simp only [Nat.add_sub_cancel]
  omega

example : ceilLog2 5 = 3 ∧ ceilLog2 8 = 3 ∧ ceilLog2 9 = 4 ∧ ceilLog2 1 = 0 := by decide

/-- the angle of one chord: `arc / 2^k ≤ step` when `n ≥ arc/step` chords are needed and `2^k ≥ n` -/
theorem chord_angle_le_step (arc step : K) (n k : Nat) (hstep : 0 ≤ step)
    (hn : arc ≤ step * n) (hk : n ≤ 2 ^ k) : arc / (2:K) ^ k ≤ step := by
  have hp : (0:K) < (2:K) ^ k := by positivity
  rw [div_le_iff₀ hp]
  have : (n : K) ≤ (2:K) ^ k := by exact_mod_cast hk
  linarith [mul_le_mul_of_nonneg_left this hstep]

section sagitta
variable [Transc K]

/-- The flattening error of a round join / cap is within the tolerance: a chord of half-angle
`a ≤ step/2 = acos((r − tol)/r)` has sagitta `r·(1 − cos a) ≤ tol`.  Laws used (hypotheses): `cos` is
antitone on `[0, π]`, `cos (acos x) = x` on `[-1, 1]`, `acos x ∈ [0, π]`. -/
theorem sagitta_within_tolerance (r tol a : K) (hr : 0 < r) (ht0 : 0 ≤ tol) (htr : tol ≤ r)
    (hanti : ∀ x y : K, 0 ≤ x → x ≤ y → y ≤ Transc.pi → Transc.cos y ≤ Transc.cos x)
    (hacos : ∀ x : K, -1 ≤ x → x ≤ 1 → Transc.cos (Transc.acos x) = x ∧ 0 ≤ Transc.acos x ∧ Transc.acos x ≤ Transc.pi)
    (ha0 : 0 ≤ a) (ha : a ≤ Transc.acos ((r - tol) / r)) :
    r * (1 - Transc.cos a) ≤ tol := by
  have hx1 : (r - tol) / r ≤ 1 := by rw [div_le_one hr]; linarith
  have hx0 : -1 ≤ (r - tol) / r := by
    have : 0 ≤ (r - tol) / r := div_nonneg (by linarith) (le_of_lt hr)
    linarith
  obtain ⟨hc, _, hpi⟩ := hacos _ hx0 hx1
  have h := hanti a _ ha0 ha hpi
  rw [hc] at h
  have : r * ((r - tol) / r) = r - tol := by field_simp
  linarith [mul_le_mul_of_nonneg_left h (le_of_lt hr)]

/-- `circle_flattening_step` is twice that bound (the `min` clamps the tolerance to the radius) -/
theorem flattening_step_eq (r tol : K) (htr : tol ≤ r) :
    circleFlatteningStep r tol = 2 * Transc.acos ((r - tol) / r) := by
  simp [circleFlatteningStep, geom, min_eq_left htr]
end sagitta

/-- the laws are satisfiable together with the hypotheses: a piecewise-linear stand-in for `cos` on
`[0, 3]` (`cos x = 1 − 2x/3`, `acos x = 3(1 − x)/2`, `π = 3`), radius 2, tolerance 1/2 -/
example : (2:ℚ) * (1 - (1 - 2 * (1/4) / 3)) ≤ 1/2 := by
  let _ : Transc ℚ := ⟨id, id, id, fun x => 1 - 2 * x / 3, id, fun x => 3 * (1 - x) / 2, fun a _ => a, fun a _ => a, id, id, id, id,
    fun _ => 0, fun a _ => a, 0, 3, fun _ => false, fun _ => true⟩
  have h := sagitta_within_tolerance (K := ℚ) 2 (1/2) (1/4) (by norm_num) (by norm_num) (by norm_num)
    (fun x y _ hxy _ => by show 1 - 2 * y / 3 ≤ 1 - 2 * x / 3; linarith)
    (fun x h0 h1 => by
      refine ⟨?_, ?_, ?_⟩
      · show 1 - 2 * (3 * (1 - x) / 2) / 3 = x; ring
      · show 0 ≤ 3 * (1 - x) / 2; linarith
      · show 3 * (1 - x) / 2 ≤ 3; linarith)
    (by norm_num) (by show (1/4 : ℚ) ≤ 3 * (1 - (2 - 1/2) / 2) / 2; norm_num)
  exact h

example : (3:ℚ) / (2:ℚ) ^ 3 ≤ 1/2 := chord_angle_le_step 3 (1/2) 6 3 (by norm_num) (by norm_num) (by norm_num)

section arc
variable [Transc K]

/-- every vertex `tessellate_arc` adds keeps the centre and radius of the record it was called with
and has a normal of unit length (`cos² + sin² = 1` is the law used): it lies on the circle of
radius `w/2` around the join / end point — the fan is inscribed, so it never leaves the disc. -/
theorem arc_vertices_on_circle (hcs : ∀ x : K, Transc.cos x * Transc.cos x + Transc.sin x * Transc.sin x = 1)
    (n : Nat) : ∀ (a0 a1 : K) (va vb : Nat) (d : VData K) (o : Out K) (v : VData K),
    v ∈ (tessellateArc a0 a1 va vb n d o).verts →
    v ∈ o.verts ∨ (v.normal.sqLen = 1 ∧ v.positionOnPath = d.positionOnPath ∧ v.halfWidth = d.halfWidth) := by
  intro a0 a1 va vb d o v h
  -- the new vertices are `arcVert d m`: `d` with the normal `(cos m, sin m)`
  rw [C05.arc_eq] at h
  simp only [Out.grow, List.mem_append, List.mem_map] at h
  rcases h with h | ⟨m, -, rfl⟩
  · exact Or.inl h
  · exact Or.inr ⟨by simp only [C05.arcVert, geom]; exact hcs m, rfl, rfl⟩

/-- a vertex with a unit normal is emitted at distance exactly `half_width` from its centre -/
theorem unit_normal_position (d : VData K) (h : d.normal.sqLen = 1) :
    (d.position - d.positionOnPath).sqLen = d.halfWidth * d.halfWidth := by
  simp only [VData.position, geom] at h ⊢
  linear_combination (d.halfWidth * d.halfWidth) * h
end arc

/-! ### square caps at the model level

The property bounds only the REACH of a square cap (factor √2); it does not say the extension is
covered, so the oracle does not demand it.  At the model level (tied bit for bit through `stroke2`)
the extension is covered: with `cap_side_square` the first / last edge quad has its outer side points
shifted by `e = (w/2)/|AB|` edge units, and `quad_covers_core` gives the whole rectangle lengthened by `e`. -/
theorem square_cap_extension_covered (A B n : P K) (e s u : K) (he : 0 ≤ e)
    (hs : -e ≤ s) (hs1 : s ≤ 1 + e) (hu : -1 ≤ u) (hu1 : u ≤ 1) :
    let d := B - A
    let T := edgeQuad (A - n + d.smul (-e)) (A + n + d.smul (-e)) (B + n + d.smul e) (B - n + d.smul e)
    InTri (bandPoint A B n s u) T.1 ∨ InTri (bandPoint A B n s u) T.2 := by
  apply quad_covers_core A B n (-e) (-e) e e s u (by linarith) (by linarith) hu hu1
  · have : ((1 - u) * -e + (1 + u) * -e) / 2 = -e := by ring
    rw [this]; exact hs
  · have : ((1 - u) * e + (1 + u) * e) / 2 = e := by ring
    rw [this]; exact hs1

end Lyon.C06
