/-
  C17b — the parser with its CONCRETE arc handling, and the parser against the SVG semantics of C15.

  What the code does with an `A`/`a` command (crates/extra/src/parser.rs): `output` is a plain
  `PathBuilder` — NOT an `SvgPathBuilder`; `WithSvg` does not implement `PathBuilder`, so
  `PathParser::parse` cannot drive `Path::builder().with_svg()` — and the arc is converted in the
  parser itself: `SvgArc{..}.is_straight_line()` → `line_to`, else `svg_arc.to_arc()
  .for_each_quadratic_bezier_with_t(..)` → one `quadratic_bezier_to` per piece with interpolated
  attributes.  `Model/ParserConcrete.lean` (`concreteNum`) is that code over a generic scalar (the
  arc model of C13, `Model/Geom/SvgArc.lean`); the correspondence driver runs exactly this instance
  at `Float32` (`Drive/C17.lean`, no advice).

  Part 1 — no hypothesis on the arc conversion.  The only panic site of the modelled conversion is
  `cast::<S, i32>(n_steps).unwrap()` with `n_steps = ceil(min(|sweep|, 2π) / (π/4))`; `f32::min`
  ignores a NaN operand, so `n_steps` is never NaN whatever the operands (zero radii and equal end
  points take the `is_straight_line` branch; non-finite values reach `min`).  The four IEEE facts
  used are the hypothesis `NoNaNLaws α` (`Float32` is opaque to the kernel; `noNaNLaws_OI` proves
  them on a number type that has a NaN):
    `concrete_arc_total`, `parse_no_panic_concrete`, `parse_result_shape_concrete`,
    `parse_trace_wellnested_concrete`.

  Part 2 — composition with C15.  `parseCmds` (`Lemmas/ParserConcreteSvg.lean`) is the list of
  `SvgPathBuilder` commands the text stands for, read with the parser's own tokenizer and control
  flow (operands raw: `l 1 2` ↦ `relLineTo ⟨1,2⟩`).
    `parse_then_svg_wellnested`   feeding that list to the `WithSvg` model (any arc geometry, in
                                  particular the concrete one) gives a well-nested call sequence
                                  on the wrapped `PathBuilder`, for EVERY input string;
    `parse_is_svg_semantics`      if no arc command is read, the calls the PARSER itself sends
                                  (attributes erased, clean-up `end(false)` included, success or
                                  error) are exactly `specBuild` — the SVG reference semantics of
                                  `Props/C15.lean` — of that list;
    `parse_is_withsvg`            … hence exactly what `WithSvg` would send for it (C15
                                  `svg_semantics`): the parser's built-in handling of relative
                                  coordinates, H/V, smooth curves, close and move-to agrees with
                                  the `SvgPathBuilder` adapter's;
    `parse_is_svg_semantics_arcfree`  syntactic form: every text without the letters `a`/`A`.
  Arcs are excluded there because the two code paths really differ on them: the parser sets
  `current_position = to` and converts at `f32` with interpolated attributes, `WithSvg::arc_to`
  goes through the centre form at `f64` and ends at the last piece's end point.
-/
import LyonVerif.Lemmas.ParserConcrete
import LyonVerif.Lemmas.ParserConcreteSvg
import LyonVerif.Model.Path.SvgConcrete
import LyonVerif.Props.C15
import LyonVerif.Props.C17

namespace Lyon.C17
open Lyon Lyon.Parser Lyon.Path

/-! ### Part 1: the concrete arc conversion is total -/

section concrete
variable {α : Type} [Scalar α] [Transc α] [ArcConv.Eps α]

/-- with the concrete geometry the arc branch always gets its list of
quadratic pieces — for every operand tuple (zero radii, equal end points, NaN, ±inf included) -/
theorem concrete_arc_total (h : NoNaNLaws α) (ofLexeme : List Char → α) (pos : Nat)
    (a : ArcArgs α) : (concreteNum ofLexeme).arc pos a = some (arcQuads a) :=
  concreteNum_arc h ofLexeme pos a

/-- the parser with its real arc handling never panics — every input
string, attribute count and stop character; no hypothesis on the arc conversion. -/
theorem parse_no_panic_concrete (h : NoNaNLaws α) (ofLexeme : List Char → α) (na : Nat)
    (stop : Option Char) (inp : List Char) :
    (parse (concreteNum ofLexeme) na stop inp).outcome ≠ .panic :=
  parse_no_panic _ na stop inp (concreteNum_arc_ne_none h ofLexeme)

/-- the concrete parser returns `Ok` or `Err`. -/
theorem parse_result_shape_concrete (h : NoNaNLaws α) (ofLexeme : List Char → α) (na : Nat)
    (stop : Option Char) (inp : List Char) : (parse (concreteNum ofLexeme) na stop inp).closed :=
  parse_result_shape _ na stop inp (concreteNum_arc_ne_none h ofLexeme)

/-- the calls the concrete parser sends, arcs' quadratic pieces and the clean-up `end(false)`
included, are `(begin edge* end)*`. -/
theorem parse_trace_wellnested_concrete (h : NoNaNLaws α) (ofLexeme : List Char → α) (na : Nat)
    (stop : Option Char) (inp : List Char) :
    WellNested (parse (concreteNum ofLexeme) na stop inp).trace :=
  parse_trace_wellnested _ na stop inp (parse_result_shape_concrete h ofLexeme na stop inp)

end concrete

/-- the hypothesis `NoNaNLaws` is satisfiable on a type with a NaN (`Option Int`, `none` = NaN) -/
example : NoNaNLaws OI := noNaNLaws_OI

/-! ### Part 2: parse, then `WithSvg` -/

section svg
variable {ν : Type} [Add ν] [Sub ν]

/-- the command list read from any input string, fed to the `WithSvg` model and built, makes a
well-nested call sequence on the wrapped builder, whatever the arc geometry `g`.  (This is
`C15.svg_trace_wellnested` at the list `parseCmds …`: it holds of every command list and uses nothing
about the parser.) -/
theorem parse_then_svg_wellnested (N : Num ν) (g : Svg.Geo ν (RawArc ν)) (na : Nat)
    (stop : Option Char) (inp : List Char) :
    WellNested (Svg.runBuild g N.zero (parseCmds N na stop inp)) :=
  C15.svg_trace_wellnested g N.zero _

/-- if the parse does not panic and reads no arc command, the calls
the parser sends to its builder — attributes erased; success or error, the clean-up `end(false)`
included — are those the SVG reference semantics (`Svg.specBuild`, C15) prescribes for the command
list read from the text. -/
theorem parse_is_svg_semantics {N : Num ν} (ho : Ops N) (g : Svg.Geo ν (RawArc ν)) (na : Nat)
    (stop : Option Char) (inp : List Char)
    (hp : (parse N na stop inp).outcome ≠ .panic)
    (hno : ∀ c ∈ parseCmds N na stop inp, c.isArc = false) :
    (parse N na stop inp).trace.map eraseCall =
      Svg.specBuild g N.zero (parseCmds N na stop inp) :=
  loop_sim ho g na stop (inp.length + 1) (St.init N) (Src.new inp).skipWs
    (Svg.Spec.init N.zero) (rel_init N N.zero rfl) hno hp (parse_total N na stop inp)

/-- under the hypotheses of `parse_is_svg_semantics` the parser's calls are exactly those `WithSvg`
sends to the builder it wraps when it is given that command list (`hα`: reflecting a point about itself gives the point,
see C15). -/
theorem parse_is_withsvg {N : Num ν} (ho : Ops N) (hα : ∀ a : ν, a + (a - a) = a)
    (g : Svg.Geo ν (RawArc ν)) (na : Nat) (stop : Option Char) (inp : List Char)
    (hp : (parse N na stop inp).outcome ≠ .panic)
    (hno : ∀ c ∈ parseCmds N na stop inp, c.isArc = false) :
    (parse N na stop inp).trace.map eraseCall =
      Svg.runBuild g N.zero (parseCmds N na stop inp) := by
  rw [parse_is_svg_semantics ho g na stop inp hp hno]
  exact ((C15.svg_semantics hα g N.zero _).1).symm

/-- the syntactic form — a text that contains neither `a` nor
`A` reads no arc command (the implicit command is never an arc either), so for EVERY such string
the parser's calls are the SVG reference semantics of the command list read. -/
theorem parse_is_svg_semantics_arcfree {N : Num ν} (ho : Ops N) (g : Svg.Geo ν (RawArc ν))
    (na : Nat) (stop : Option Char) (inp : List Char) (ha : 'a' ∉ inp) (hA : 'A' ∉ inp)
    (hp : (parse N na stop inp).outcome ≠ .panic) :
    (parse N na stop inp).trace.map eraseCall =
      Svg.specBuild g N.zero (parseCmds N na stop inp) :=
  parse_is_svg_semantics ho g na stop inp hp (parseCmds_noArc N na stop inp ha hA)

end svg

/-! ### both parts together: the concrete parser -/

section both
variable {α : Type} [Scalar α] [Transc α] [ArcConv.Eps α]

/-- the arc geometry of `WithSvg` (`Model/Path/SvgConcrete.lean`) on raw path-data operands:
`arc_to(vector(rx, ry), Angle::degrees(rot), flags, to)` -/
def rawGeo (conv : Arc α → List (Quad α)) : Svg.Geo α (RawArc α) where
  center r cur := (Svg.concreteGeo conv).center
    ⟨⟨r.1, r.2.1⟩, toRadians r.2.2.1, r.2.2.2.1, r.2.2.2.2, ⟨Scalar.zero, Scalar.zero⟩, Scalar.zero⟩ cur
  endpoint r cur to := (Svg.concreteGeo conv).endpoint
    ⟨⟨r.1, r.2.1⟩, toRadians r.2.2.1, r.2.2.2.1, r.2.2.2.2, ⟨Scalar.zero, Scalar.zero⟩, Scalar.zero⟩
    cur to

/-- `parse_then_svg_wellnested` for the concrete parser and the concrete `WithSvg` geometry:
every input string, arcs included -/
theorem parse_then_svg_wellnested_concrete (ofLexeme : List Char → α)
    (conv : Arc α → List (Quad α)) (na : Nat) (stop : Option Char) (inp : List Char) :
    WellNested (Svg.runBuild (rawGeo conv) (Scalar.zero : α)
      (parseCmds (concreteNum ofLexeme) na stop inp)) :=
  C15.svg_trace_wellnested _ _ _

/-- `parse_is_svg_semantics` for the concrete parser: no panic hypothesis; `+` commutative is the
only arithmetic assumed -/
theorem parse_is_svg_semantics_concrete (h : NoNaNLaws α) (hcomm : ∀ a b : α, a + b = b + a)
    (ofLexeme : List Char → α) (g : Svg.Geo α (RawArc α)) (na : Nat) (stop : Option Char)
    (inp : List Char)
    (hno : ∀ c ∈ parseCmds (concreteNum ofLexeme) na stop inp, c.isArc = false) :
    (parse (concreteNum ofLexeme) na stop inp).trace.map eraseCall =
      Svg.specBuild g (Scalar.zero : α) (parseCmds (concreteNum ofLexeme) na stop inp) :=
  parse_is_svg_semantics (N := concreteNum ofLexeme) ⟨fun _ _ => rfl, fun _ _ => rfl, hcomm⟩ g na
    stop inp (parse_no_panic_concrete h ofLexeme na stop inp) hno

/-- the concrete parser on EVERY string without `a`/`A`: its calls are the SVG reference
semantics (no hypothesis on the parse at all) -/
theorem parse_is_svg_semantics_arcfree_concrete (h : NoNaNLaws α)
    (hcomm : ∀ a b : α, a + b = b + a) (ofLexeme : List Char → α) (g : Svg.Geo α (RawArc α))
    (na : Nat) (stop : Option Char) (inp : List Char) (ha : 'a' ∉ inp) (hA : 'A' ∉ inp) :
    (parse (concreteNum ofLexeme) na stop inp).trace.map eraseCall =
      Svg.specBuild g (Scalar.zero : α) (parseCmds (concreteNum ofLexeme) na stop inp) :=
  parse_is_svg_semantics_concrete h hcomm ofLexeme g na stop inp
    (parseCmds_noArc _ na stop inp ha hA)

end both

/-- `Ops` holds for the integer instance of `Props/C17.lean` -/
theorem ops_intNum : Ops intNum := ⟨fun _ _ => rfl, fun _ _ => rfl, Int.add_comm⟩

/-- a toy arc geometry on the integers -/
def tGeo : Svg.Geo Int (RawArc Int) := ⟨fun _ _ => .skip, fun _ _ _ => .straight⟩

/-- hypotheses of `parse_is_svg_semantics` / `parse_is_withsvg` on a string with relative,
implicit, H/V, smooth and close commands, two sub-paths, one attribute — and on a failing one -/
example :
    (parse intNum 1 none "m 1 1 7 2 2 8 h 3 9 S 1 2 3 4 5 t 1 1 6 z M 0 0 1 V 5 2".toList).outcome
      ≠ .panic ∧
    (∀ c ∈ parseCmds intNum 1 none "m 1 1 7 2 2 8 h 3 9 S 1 2 3 4 5 t 1 1 6 z M 0 0 1 V 5 2".toList,
      c.isArc = false) ∧
    (parse intNum 0 none "M 0 0 L 1 x".toList).outcome ≠ .panic ∧
    (∀ c ∈ parseCmds intNum 0 none "M 0 0 L 1 x".toList, c.isArc = false) ∧
    (∀ a : Int, a + (a - a) = a) := by
  have harc : ∀ pos a, intNum.arc pos a ≠ none := fun _ _ => nofun
  exact ⟨parse_no_panic _ _ _ _ harc, parseCmds_noArc _ _ _ _ (by decide +kernel) (by decide +kernel),
    parse_no_panic _ _ _ _ harc, parseCmds_noArc _ _ _ _ (by decide +kernel) (by decide +kernel), fun a => by omega⟩

/-- … and what the statement says there -/
example :
    (parse intNum 1 none "m 1 1 7 2 2 8 h 3 9 S 1 2 3 4 5 t 1 1 6 z M 0 0 1 V 5 2".toList).trace.map
        eraseCall =
      [.begin ⟨1, 1⟩ (), .line ⟨3, 3⟩ (), .line ⟨6, 3⟩ (), .cubic ⟨6, 3⟩ ⟨1, 2⟩ ⟨3, 4⟩ (),
       .quad ⟨3, 4⟩ ⟨4, 5⟩ (), .end_ true, .begin ⟨0, 0⟩ (), .line ⟨0, 5⟩ (), .end_ false] ∧
    Svg.specBuild tGeo 0
        (parseCmds intNum 1 none "m 1 1 7 2 2 8 h 3 9 S 1 2 3 4 5 t 1 1 6 z M 0 0 1 V 5 2".toList) =
      [.begin ⟨1, 1⟩ (), .line ⟨3, 3⟩ (), .line ⟨6, 3⟩ (), .cubic ⟨6, 3⟩ ⟨1, 2⟩ ⟨3, 4⟩ (),
       .quad ⟨3, 4⟩ ⟨4, 5⟩ (), .end_ true, .begin ⟨0, 0⟩ (), .line ⟨0, 5⟩ (), .end_ false] := by
  decide +kernel

/-- hypotheses of `parse_is_svg_semantics_arcfree` -/
example : 'a' ∉ "M 0 0 L 1 x".toList ∧ 'A' ∉ "M 0 0 L 1 x".toList := by decide

/-- an arc command is read as an arc command (so the hypothesis `hno` excludes exactly these) -/
example : (parseCmds intNum 0 none "M0 0A1 1 0 0 1 5 5a1 1 0 0 1 5 5L1 1".toList).map Svg.Cmd.isArc =
    [false, true, true, false] := by decide

end Lyon.C17
