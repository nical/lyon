/-
  C07 — fill vertices report where they come from and interpolate attributes accordingly.

  The statements are about the record operations of `Model/Tess/Sources.lean`, instantiated at an
  arbitrary linearly ordered field `K`.  Three groups of them are the same `def`s the correspondence
  check runs at `Float32` against lyon: `remap_t_in_range`, the event-queue builder, `sources()` /
  `as_endpoint_id()` / `interpolated_attributes()`.  The cuts (`cutActive`, `cutBelow`, `touchActive`,
  `mergeCoincident`, `splitAtVertex`: the theorems from `rep_intersection` on) are run by no driver, and the
  sweep model `Model/Tess/Sweep.lean` has its own text of them (`process_intersection`, `split_edge`,
  `merge_coincident_edges`); no theorem identifies the two.

  Representation invariant.  An edge record stands for the part `t0 .. t1` of its source edge
  (a curve `C : K → P K`; for a line edge `A → B`, `C = lerp A B`): `RepRec C r` says that the
  record's event position is `C r.t0` and its `to` is `C r.t1`.

  * established by `add_edge` in both directions (`rep_add_edge`, `rep_add_edge_line`) and by the
    curve builders for curves pointing either way (`rep_curveSegment`, for the flattening
    that is used; `rep_curve` asks for a flattening of the curve and one of the flipped curve; the model hands
    one list for both, and its own calls are `SweepCurvesProps.quadSegment_rep` in `Props/SweepCurves.lean`);
  * `remap_lerp`: both branches of `remap_t_in_range` are the affine map `0 ↦ s, 1 ↦ e`;
  * preserved by every cut of `process_intersection` (`rep_intersection`,
    `rep_intersection_below`, `rep_touch`) and by `merge_coincident_edges`, level edges included
    (`rep_coincident`);
  * preserved by the split of an edge at a vertex lying on it (`rep_split_at_vertex`), hence along every
    history of cuts (`rep_history`);
  * from it: every source of a vertex lies where it says (`sources_on_sources`), there is at
    least one source (`sources_nonempty`), the interpolated attributes are the average over the
    sources (`attributes_average`), and attributes that are an affine function of the position
    are reproduced (`affine_attributes_reproduced`).

  Repaired in /repo (the model mirrors the repaired code): coincident level edges (456c058b), curves
  drawn against the sweep (8662f1bc), stale `range.start` after a split at a vertex lying on an edge
  (6bc52f98).

  This file is about the cuts themselves.  Which cut happens when is decided by the sweep
  (`Model/Tess/Sweep.lean`); whole runs are the subject of `Props/C07b.lean` (the sources name edges of
  the input: `sweep_sources_wellformed`; the parameters stay in `[0,1]`: `sweep_records_unit_partial`)
  to `Props/C07e.lean`.  Not covered by theorems: IEEE rounding (oracle envelope), the position clause
  along a whole run of the sweep, `t` on curves after a cut of a flattened piece (the piece is a
  chord: `Rep` then holds for the piecewise-linear flattening, which is what the oracle checks).
-/
import LyonVerif.Lemmas.SourcesCurve
import LyonVerif.Lemmas.Field
import Mathlib.Tactic.NormNum
import Mathlib.Algebra.Order.Field.Rat

set_option linter.unusedSectionVars false
set_option linter.unusedSimpArgs false

namespace Lyon.C07
open Lyon Lyon.Sources

variable {K : Type} [Field K] [LinearOrder K] [IsStrictOrderedRing K]

theorem lerp_def (a b : P K) (t : K) :
    P.lerp a b t = ⟨(1 - t) * a.x + t * b.x, (1 - t) * a.y + t * b.y⟩ := by
  apply P.ext' <;> simp [geom]

theorem lerp_zero (a b : P K) : P.lerp a b 0 = a := by
  rw [lerp_def]; apply P.ext' <;> simp
theorem lerp_one (a b : P K) : P.lerp a b 1 = b := by
  rw [lerp_def]; apply P.ext' <;> simp

theorem beq_K (a b : K) : (a == b) = decide (a = b) := rfl
theorem beq_P (a b : P K) : (a == b) = (decide (a.x = b.x) && decide (a.y = b.y)) := rfl
theorem zero_K : (Scalar.zero : K) = 0 := by simp
theorem one_K : (Scalar.one : K) = 1 := by simp

/-- both branches of `remap_t_in_range` compute the affine map `0 ↦ s`, `1 ↦ e` -/
theorem remapT_eq (t s e : K) : remapT t s e = s + t * (e - s) := by
  unfold remapT
  split
  · rfl
  · show e + (Scalar.one - t) * (s - e) = s + t * (e - s)
    rw [one_K]; ring

/-- `remap_lerp`: going a fraction `remap t (s..e)` along `A → B` is going a fraction `t` from the
point at `s` to the point at `e` (forward and backward ranges alike). -/
theorem remap_lerp (A B : P K) (t s e : K) :
    P.lerp A B (remapT t s e) = P.lerp (P.lerp A B s) (P.lerp A B e) t := by
  rw [remapT_eq]; simp only [lerp_def]; apply P.ext' <;> ring

example : remapT (1/2 : ℚ) (1/4) 1 = 5/8 ∧ remapT (1/2 : ℚ) 1 (1/4) = 5/8 := by
  constructor <;> (rw [remapT_eq]; norm_num)

/-- the record's position is the point at `t0` of its source curve, its `to` the point at `t1` -/
def RepRec (C : K → P K) (r : EdgeRec K) : Prop :=
  r.pos = C r.t0 ∧ (r.isEdge = true → r.to = C r.t1)

/-- an active edge starts at the point at `range.start` of its source record and ends at the
point at its own `range_end` -/
def RepActive (C : K → P K) (a : Active K) : Prop :=
  a.from_ = C a.src.t0 ∧ a.to = C a.rangeEnd

/-- the same for a pending edge starting at the current position `cur` -/
def RepPending (C : K → P K) (cur : P K) (p : Pending K) : Prop :=
  cur = C p.src.t0 ∧ p.to = C p.rangeEnd

/-- the parametrisation of a straight edge: affine in the parameter -/
def AffineParam (C : K → P K) : Prop :=
  ∀ s e t : K, C (s + t * (e - s)) = P.lerp (C s) (C e) t

theorem affineParam_lerp (A B : P K) : AffineParam (P.lerp A B) :=
  fun s e t => remapT_eq t s e ▸ remap_lerp A B t s e

/-- `rep_add_edge`: `add_edge` on the piece `C t0 → C t1` stores a record satisfying `Rep`, whichever
way the piece points (downward: stored as is; upward: ends and t-range swapped), and keeps the
endpoint ids in path order. -/
theorem rep_add_edge (C : K → P K) (w : Int) (f t : Nat) (t0 t1 : K) (r : EdgeRec K)
    (h : addEdge (C t0) (C t1) w f t t0 t1 = some r) :
    RepRec C r ∧ r.fromId = f ∧ r.toId = t ∧ r.isEdge = true := by
  unfold addEdge at h
  split at h
  · cases h
  · split at h <;> (cases h; simp [RepRec])

theorem add_edge_down (a b : P K) (w : Int) (f t : Nat) (t0 t1 : K)
    (hne : (a == b) = false) (hd : isAfter a b = false) :
    addEdge a b w f t t0 t1 = some ⟨a, b, t0, t1, w, true, f, t⟩ := by
  simp [addEdge, hne, hd]
theorem add_edge_up (a b : P K) (w : Int) (f t : Nat) (t0 t1 : K)
    (hne : (a == b) = false) (hu : isAfter a b = true) :
    addEdge a b w f t t0 t1 = some ⟨b, a, t1, t0, -w, true, f, t⟩ := by
  simp [addEdge, hne, hu]

/-- `line_segment(to, id, 0.0, 1.0)`: the record of a whole line edge `A → B` -/
theorem rep_add_edge_line (A B : P K) (w : Int) (f t : Nat) (r : EdgeRec K)
    (h : addEdge A B w f t 0 1 = some r) : RepRec (P.lerp A B) r := by
  have h' : addEdge (P.lerp A B 0) (P.lerp A B 1) w f t 0 1 = some r := by
    rw [lerp_zero, lerp_one]; exact h
  exact (rep_add_edge (P.lerp A B) w f t 0 1 r h').1

example : addEdge (⟨0, 10⟩ : P ℚ) ⟨0, 0⟩ 1 7 8 0 1 = some ⟨⟨0, 0⟩, ⟨0, 10⟩, 1, 0, -1, true, 7, 8⟩ := by
  apply add_edge_up <;> simp [beq_P, isAfter, beq_K]

theorem cut_key (C : K → P K) (hC : AffineParam C) (a b : P K) (s e ta : K) (ip : P K)
    (ha : a = C s) (hb : b = C e) (hip : ip = P.lerp a b ta) : C (remapT ta s e) = ip := by
  rw [remapT_eq, hC, ← ha, ← hb, hip]

/-- `rep_intersection` (active edge): the truncated edge and the record created for the part cut
off — flipped or not — satisfy `Rep`; the record keeps the source edge's endpoint ids. -/
theorem rep_intersection (C : K → P K) (hC : AffineParam C) (a : Active K) (ta : K) (ip : P K)
    (ha : RepActive C a) (hip : ip = P.lerp a.from_ a.to ta) :
    RepActive C (cutActive a ta ip).1 ∧
    ∀ r, (cutActive a ta ip).2 = some r →
      RepRec C r ∧ r.fromId = a.src.fromId ∧ r.toId = a.src.toId := by
  have key := cut_key C hC a.from_ a.to a.src.t0 a.rangeEnd ta ip ha.1 ha.2 hip
  unfold cutActive
  split
  · exact ⟨ha, by intro r h; cases h⟩
  · refine ⟨⟨ha.1, key.symm⟩, ?_⟩
    intro r h
    simp only [Option.some.injEq] at h
    subst h
    split
    · exact ⟨⟨key.symm, fun _ => ha.2⟩, rfl, rfl⟩
    · exact ⟨⟨ha.2, fun _ => key.symm⟩, rfl, rfl⟩

/-- a pending edge is cut as the active edge it will become -/
theorem cutBelow_eq (cur : P K) (b : Pending K) (tb : K) (ip : P K) :
    activate cur (cutBelow cur b tb ip).1 = (cutActive (activate cur b) tb ip).1 ∧
      (cutBelow cur b tb ip).2 = (cutActive (activate cur b) tb ip).2 := by
  unfold cutBelow cutActive activate
  split <;> exact ⟨rfl, rfl⟩

/-- `rep_intersection` (the new edge below the current position) -/
theorem rep_intersection_below (C : K → P K) (hC : AffineParam C) (cur : P K) (b : Pending K)
    (tb : K) (ip : P K) (hb : RepPending C cur b) (hip : ip = P.lerp cur b.to tb) :
    RepPending C cur (cutBelow cur b tb ip).1 ∧
    ∀ r, (cutBelow cur b tb ip).2 = some r →
      RepRec C r ∧ r.fromId = b.src.fromId ∧ r.toId = b.src.toId := by
  have h := rep_intersection C hC (activate cur b) tb ip hb hip
  rw [← (cutBelow_eq cur b tb ip).1, ← (cutBelow_eq cur b tb ip).2] at h
  exact h

/-- the `current_position == intersection_position` branch rewrites the source record's
`range.start` consistently with the edge's new start -/
theorem rep_touch (C : K → P K) (hC : AffineParam C) (a : Active K) (ta : K) (ip : P K)
    (ha : RepActive C a) (hip : ip = P.lerp a.from_ a.to ta) :
    RepActive C (touchActive a ta ip) :=
  ⟨(cut_key C hC a.from_ a.to a.src.t0 a.rangeEnd ta ip ha.1 ha.2 hip).symm, ha.2⟩

/-- a record of the current event becomes a pending, then an active edge satisfying `Rep` -/
theorem rep_pending_of (C : K → P K) (r : EdgeRec K) (hr : RepRec C r) (he : r.isEdge = true) :
    RepPending C r.pos (pendingOf r) := ⟨hr.1, hr.2 he⟩
theorem rep_activate (C : K → P K) (cur : P K) (p : Pending K) (hp : RepPending C cur p) :
    RepActive C (activate cur p) := hp

example : RepActive (P.lerp (⟨0, 0⟩ : P ℚ) ⟨0, 10⟩)
    (activate ⟨0, 0⟩ (pendingOf ⟨⟨0, 0⟩, ⟨0, 10⟩, 0, 1, 1, true, 0, 1⟩)) :=
  ⟨by simp [activate, pendingOf, lerp_zero], by simp [activate, pendingOf, lerp_one]⟩

/-- `solve_t_for_x` / `solve_t_for_y` in one coordinate (the model's `if`), off the level case -/
theorem solveT_eq {a b c : K} (h : b - a ≠ 0) :
    (if b - a == (Scalar.zero : K) then (Scalar.zero : K) else (c - a) / (b - a)) = (c - a) / (b - a) :=
  if_neg fun hz => h (by rw [zero_K] at hz; exact (sc_beq _ _).mp hz)

theorem solveTForY_on (cur dest : P K) (u : K) (hy : dest.y ≠ cur.y) :
    solveTForY cur dest (P.lerp cur dest u).y = u := by
  have hne : dest.y - cur.y ≠ 0 := sub_ne_zero.mpr hy
  unfold solveTForY
  rw [solveT_eq hne, lerp_def]
  field_simp
  ring

theorem solveTForX_on (cur dest : P K) (u : K) (hx : dest.x ≠ cur.x) :
    solveTForX cur dest (P.lerp cur dest u).x = u := by
  have hne : dest.x - cur.x ≠ 0 := sub_ne_zero.mpr hx
  unfold solveTForX
  rw [solveT_eq hne, lerp_def]
  field_simp
  ring

/-- the split parameter of `merge_coincident_edges` (solved along the larger extent, fix
456c058b) locates every point of a non-degenerate edge, level or not -/
theorem splitT_on (cur dest : P K) (u : K) (hne : cur ≠ dest) :
    splitT cur dest (P.lerp cur dest u) = u := by
  unfold splitT
  split
  · rename_i h
    have h' : |dest.y - cur.y| < |dest.x - cur.x| := h
    apply solveTForX_on
    intro hx
    rw [hx, sub_self, abs_zero] at h'
    exact absurd h' (not_lt.mpr (abs_nonneg _))
  · rename_i h
    have h' : ¬ |dest.y - cur.y| < |dest.x - cur.x| := h
    apply solveTForY_on
    intro hy
    rw [hy, sub_self, abs_zero] at h'
    have hx : dest.x - cur.x = 0 := by
      by_contra hx0
      exact h' (abs_pos.mpr hx0)
    apply hne
    apply P.ext'
    · exact (sub_eq_zero.mp hx).symm
    · exact hy.symm

/-- `rep_coincident`: `merge_coincident_edges` creates a record satisfying `Rep` whenever the split
point is on the longer edge — level edges included (the parameter is solved along the larger
extent of the edge, fix 456c058b; `solve_t_for_y` is 0 on a level edge). -/
theorem rep_coincident (C : K → P K) (hC : AffineParam C) (cur : P K) (lower : Pending K)
    (sp : P K) (hl : RepPending C cur lower) (hne : cur ≠ lower.to)
    (hon : ∃ u, sp = P.lerp cur lower.to u) :
    RepRec C (mergeCoincident cur lower sp) := by
  obtain ⟨u, hu⟩ := hon
  have ht : splitT cur lower.to sp = u := by rw [hu]; exact splitT_on cur lower.to u hne
  have key := cut_key C hC cur lower.to lower.src.t0 lower.rangeEnd u sp hl.1 hl.2 hu
  unfold mergeCoincident
  rw [ht]
  exact ⟨key.symm, fun _ => hl.2⟩

/-- non-vacuity: the level edge (0,0) → (6,0) split at (4,0) -/
example :
    let r0 : EdgeRec ℚ := ⟨⟨0, 0⟩, ⟨6, 0⟩, 0, 1, 1, true, 0, 1⟩
    RepPending (P.lerp (⟨0, 0⟩ : P ℚ) ⟨6, 0⟩) ⟨0, 0⟩ (pendingOf r0) ∧ (⟨0, 0⟩ : P ℚ) ≠ (pendingOf r0).to ∧
      ∃ u : ℚ, (⟨4, 0⟩ : P ℚ) = P.lerp ⟨0, 0⟩ (pendingOf r0).to u := by
  refine ⟨⟨by simp [pendingOf, lerp_zero], by simp [pendingOf, lerp_one]⟩, by simp [pendingOf], 2/3, ?_⟩
  simp [pendingOf, lerp_def]; norm_num

/-- `rep_split_at_vertex`: when the current position `cur` lies on an active edge satisfying `Rep`,
the lower part pushed by the `edges_to_split` branch — with its own edge data (fix 6bc52f98) —
satisfies `Rep` as a pending edge starting at `cur`: its `range.start` is the parameter of `cur`.
Hence it becomes an active edge satisfying `Rep` and every later cut of it creates `Rep` records
(`rep_intersection`, `rep_coincident`).  `Sources.splitAtVertex` takes the parameter `Sources.splitT`;
lyon since 96af7b62 and the sweep model's `split_edge` take `Sources.splitTAtVertex`, which is the same
number wherever `splitT` is in `[0,1]` (`C07c.split_edge_fixed_agrees`): the statement carries over to
the sweep's function for `0 ≤ u ≤ 1`, not for the other `u` that `hon` admits. -/
theorem rep_split_at_vertex (C : K → P K) (hC : AffineParam C) (cur : P K) (a : Active K)
    (ha : RepActive C a) (hne : a.from_ ≠ a.to) (hon : ∃ u, cur = P.lerp a.from_ a.to u) :
    RepPending C cur (splitAtVertex cur a).2 := by
  obtain ⟨u, hu⟩ := hon
  have ht : splitT a.from_ a.to cur = u := by rw [hu]; exact splitT_on a.from_ a.to u hne
  have key := cut_key C hC a.from_ a.to a.src.t0 a.rangeEnd u cur ha.1 ha.2 hu
  unfold splitAtVertex
  simp only [ht]
  exact ⟨key.symm, ha.2⟩

/-- All histories of an active edge: created from a record of the queue, truncated by
intersections, restarted by the `current_position == intersection` branch, or the lower part of a
split at a vertex lying on it. -/
inductive Reach (C : K → P K) : Active K → Prop
  | ofRec (r : EdgeRec K) : RepRec C r → r.isEdge = true → Reach C (activate r.pos (pendingOf r))
  | cut (a : Active K) (ta : K) (ip : P K) : Reach C a → ip = P.lerp a.from_ a.to ta →
      Reach C (cutActive a ta ip).1
  | touch (a : Active K) (ta : K) (ip : P K) : Reach C a → ip = P.lerp a.from_ a.to ta →
      Reach C (touchActive a ta ip)
  | split (a : Active K) (cur : P K) : Reach C a → a.from_ ≠ a.to →
      (∃ u, cur = P.lerp a.from_ a.to u) → Reach C (activate cur (splitAtVertex cur a).2)

/-- `rep_history`: along EVERY history — splits at vertices included — the active edge satisfies
`Rep`, hence so does every record cut from it. -/
theorem rep_history (C : K → P K) (hC : AffineParam C) (a : Active K) (h : Reach C a) :
    RepActive C a ∧ ∀ ta ip r, ip = P.lerp a.from_ a.to ta → (cutActive a ta ip).2 = some r →
      RepRec C r := by
  have hrep : RepActive C a := by
    induction h with
    | ofRec r hr he => exact rep_activate C r.pos _ (rep_pending_of C r hr he)
    | cut a ta ip _ hip ih => exact (rep_intersection C hC a ta ip ih hip).1
    | touch a ta ip _ hip ih => exact rep_touch C hC a ta ip ih hip
    | split a cur _ hne hon ih => exact rep_activate C cur _ (rep_split_at_vertex C hC cur a ih hne hon)
  exact ⟨hrep, fun ta ip r hip hr => ((rep_intersection C hC a ta ip hrep hip).2 r hr).1⟩

/-- non-vacuity: edge (0,0) → (0,10) split at (0,5), the lower part crossed at (0,7.5) (`ta = 1/2`): the
record reports t = 3/4 -/
example :
    let A : P ℚ := ⟨0, 0⟩
    let B : P ℚ := ⟨0, 10⟩
    let r0 : EdgeRec ℚ := ⟨A, B, 0, 1, 1, true, 0, 1⟩
    let a0 := activate A (pendingOf r0)
    let a1 := activate ⟨0, 5⟩ (splitAtVertex ⟨0, 5⟩ a0).2
    RepActive (P.lerp A B) a0 ∧ a0.from_ ≠ a0.to ∧ (∃ u : ℚ, (⟨0, 5⟩ : P ℚ) = P.lerp a0.from_ a0.to u) ∧
    ∃ r, (cutActive a1 (1/2) ⟨0, 15/2⟩).2 = some r ∧ r.pos = ⟨0, 15/2⟩ ∧ r.t0 = 3/4 := by
  refine ⟨⟨by simp [activate, pendingOf, lerp_zero], by simp [activate, pendingOf, lerp_one]⟩,
    by simp [activate, pendingOf], ⟨1/2, by simp [activate, pendingOf, lerp_def]; norm_num⟩, ?_⟩
  refine ⟨⟨⟨0, 15/2⟩, ⟨0, 10⟩, 3/4, 1, 1, true, 0, 1⟩, ?_, rfl, rfl⟩
  simp [cutActive, activate, splitAtVertex, pendingOf, splitT, solveTForX, solveTForY, beq_P,
    isAfter, beq_K, remapT_eq, zero_K, sc_abs]
  norm_num

/-- `Rep` for the records one curve call stores (`Lemmas/SourcesCurve.lean`), when the pieces are chords
`C t0 → C t1` of the curve the ids refer to and the call starts at `C 0` -/
theorem rep_curveNew (C : K → P K) {ns : Bool} {w : Int} {f t : Nat} {from_ : P K} {ps : List (Piece K)}
    {new : List (EdgeRec K)} (h : CurveNew ns w f t from_ ps new) (h0 : from_ = C 0)
    (hC : ∀ l ∈ ps, l.a = C (pieceT ns l.t0) ∧ l.b = C (pieceT ns l.t1)) : ∀ r ∈ new, RepRec C r := by
  intro r hr
  by_cases hre : r.isEdge = true
  · have : r ∈ new.filter (·.isEdge) := List.mem_filter.2 ⟨hr, hre⟩
    rw [h.edges, List.mem_reverse, List.mem_map] at this
    obtain ⟨l, hl, rfl⟩ := this
    obtain ⟨ha, hb⟩ := hC l (List.mem_filter.1 hl).1
    unfold pieceRec
    split
    · exact ⟨hb, fun _ => ha⟩
    · exact ⟨ha, fun _ => hb⟩
  · rcases h.other r hr (by simpa using hre) with ⟨l, hl, rfl⟩ | rfl
    · exact ⟨(hC l hl).1, fun h => by simp [vertexEventOnCurve] at h⟩
    · exact ⟨by simp [vertexEvent, h0], fun h => by simp [vertexEvent] at h⟩

theorem rep_curve_fold (C : K → P K) (old : List (EdgeRec K)) (ns : Bool) (w : Int) (toId : Nat)
    (flat : List (Piece K))
    (hf : ∀ l ∈ flat, l.a = C (pieceT ns l.t0) ∧ l.b = C (pieceT ns l.t1)) (s : CurveLoop K)
    (hs : ∀ r ∈ s.bld.recs, r ∈ old ∨ RepRec C r) :
    ∀ r ∈ (flat.foldl (curveStep ns w toId) s).bld.recs, r ∈ old ∨ RepRec C r := by
  obtain ⟨new, e, -, hn⟩ := foldl_curveStep_recs ns w toId (C 0) flat s
  intro r hr
  rw [e] at hr
  exact (List.mem_append.1 hr).elim (fun h => Or.inr (rep_curveNew C hn rfl hf r h)) (hs r)

theorem rep_curve_tail (C : K → P K) (old : List (EdgeRec K)) (b0 : Builder K) (s : CurveLoop K)
    (a dest : P K) (toId : Nat) (ns : Bool) (h0 : a = C 0)
    (hs : ∀ r ∈ s.bld.recs, r ∈ old ∨ RepRec C r) :
    ∀ r ∈ (curveTail b0 s a dest toId ns).recs, r ∈ old ∨ RepRec C r := by
  intro r hr
  rcases (curveTail_recs b0 s a dest toId ns).1 with e | e <;> rw [e] at hr
  · exact hs r hr
  · rcases List.mem_cons.1 hr with rfl | hr
    · exact Or.inr ⟨by simp [vertexEvent, h0], fun h => by simp [vertexEvent] at h⟩
    · exact hs r hr

/-- the records one curve call stores satisfy `Rep` with respect to `C` when the pieces of the flattening that is USED
(the flipped one when `needs_swap`) are chords of `C` at the parameters that are stored (`pieceT`: `t`, or `1 - t` for
the flipped flattening) -/
theorem rep_curveSegment (C : K → P K) (b : Builder K) (dest : P K) (toId : Nat) (flat flatFlipped : List (Piece K))
    (h0 : b.current = C 0)
    (hC : ∀ l ∈ (if isAfter b.current dest then flatFlipped else flat),
      l.a = C (pieceT (isAfter b.current dest) l.t0) ∧ l.b = C (pieceT (isAfter b.current dest) l.t1)) :
    ∀ r ∈ (b.curveSegment dest toId flat flatFlipped).recs, r ∈ b.recs ∨ RepRec C r := by
  obtain ⟨new, e, hn, -⟩ := curveSegment_recs b dest toId flat flatFlipped
  intro r hr
  rw [e] at hr
  exact (List.mem_append.1 hr).symm.imp id (rep_curveNew C hn h0 hC r)

/-- `rep_curve`: every record stored by `quadratic_bezier_segment` / `cubic_bezier_segment` for
the curve `C` from the current endpoint (`C 0`) satisfies `Rep` with respect to `C` and the ids
`prev_endpoint_id → to_id`, whichever way the curve points: `flat` are chords of `C`,
`flatFlipped` chords of the flipped curve `t ↦ C (1 - t)` (used when `needs_swap`), and the
parameters stored for the latter are `1 - t` (fix 8662f1bc).  (Both flattenings are asked for; the model's own calls
hand one list for both and go through `rep_curveSegment`.) -/
theorem rep_curve (C : K → P K) (b : Builder K) (dest : P K) (toId : Nat)
    (flat flatFlipped : List (Piece K)) (h0 : b.current = C 0)
    (hf : ∀ l ∈ flat, l.a = C l.t0 ∧ l.b = C l.t1)
    (hff : ∀ l ∈ flatFlipped, l.a = C (1 - l.t0) ∧ l.b = C (1 - l.t1)) :
    ∀ r ∈ (b.curveSegment dest toId flat flatFlipped).recs, r ∈ b.recs ∨ RepRec C r := by
  refine rep_curveSegment C b dest toId flat flatFlipped h0 ?_
  cases isAfter b.current dest
  · simpa [pieceT] using hf
  · simpa [pieceT, one_K] using hff

/-- non-vacuity: the reversed straight "curve" `C t = (0, 1 - t)` from endpoint 0 at (0,1) to
endpoint 1 at (0,0); its record carries `t = 1` at (0,0), i.e. it is reported as endpoint 1. -/
example :
    let C : ℚ → P ℚ := fun t => ⟨0, 1 - t⟩
    let b0 : Builder ℚ := (Builder.init.begin (C 0) 0)
    let b := b0.curveSegment (C 1) 1 [⟨⟨0, 1⟩, ⟨0, 0⟩, 0, 1⟩] [⟨⟨0, 0⟩, ⟨0, 1⟩, 0, 1⟩]
    b0.current = C 0 ∧ (∀ l ∈ [(⟨⟨0, 0⟩, ⟨0, 1⟩, 0, 1⟩ : Piece ℚ)], l.a = C (1 - l.t0) ∧ l.b = C (1 - l.t1)) ∧
    ∃ r, b.recs = [r] ∧ r.pos = C 1 ∧ r.t0 = 1 ∧ sourceOf r = .endpoint 1 := by
  refine ⟨rfl, by simp, ⟨⟨0, 0⟩, ⟨0, 1⟩, 1, 0, -1, true, 0, 1⟩, ?_, by simp, rfl, by simp [sourceOf, beq_K]⟩
  simp [Builder.curveSegment, Builder.begin, Builder.init, curveStep, curveTail, addEdge, pieceT,
    Builder.pushEdge, Builder.pushRec, isAfter, beq_P, beq_K]
  norm_num

/-- a source lies where it says: an endpoint source at that endpoint, an edge source with
parameter `t` at the point a fraction `t` along the edge -/
def OnSource (posOf : Nat → P K) (p : P K) : Source K → Prop
  | .endpoint id => p = posOf id
  | .edge f t u => p = P.lerp (posOf f) (posOf t) u

theorem sourceOf_on (posOf : Nat → P K) (r : EdgeRec K)
    (h : r.pos = P.lerp (posOf r.fromId) (posOf r.toId) r.t0) : OnSource posOf r.pos (sourceOf r) := by
  unfold sourceOf
  split
  · rename_i h0
    have : r.t0 = 0 := by rw [zero_K] at h0; exact (sc_beq _ _).mp h0
    rw [this, lerp_zero] at h; exact h
  · split
    · rename_i _ h1
      have : r.t0 = 1 := by rw [one_K] at h1; exact (sc_beq _ _).mp h1
      rw [this, lerp_one] at h; exact h
    · exact h

theorem sourcesFrom_sub (prev : Option (Source K)) (rs : List (EdgeRec K)) :
    ∀ s ∈ sourcesFrom prev rs, ∃ r ∈ rs, s = sourceOf r := by
  induction rs generalizing prev with
  | nil => intro s hs; simp [sourcesFrom] at hs
  | cons r rs ih =>
    intro s hs
    cases prev with
    | none =>
      simp only [sourcesFrom, List.mem_cons] at hs
      rcases hs with rfl | hs
      · exact ⟨r, List.mem_cons_self .., rfl⟩
      · obtain ⟨r', hr', e⟩ := ih _ s hs; exact ⟨r', List.mem_cons_of_mem _ hr', e⟩
    | some p =>
      simp only [sourcesFrom] at hs
      split at hs
      · obtain ⟨r', hr', e⟩ := ih _ s hs; exact ⟨r', List.mem_cons_of_mem _ hr', e⟩
      · simp only [List.mem_cons] at hs
        rcases hs with rfl | hs
        · exact ⟨r, List.mem_cons_self .., rfl⟩
        · obtain ⟨r', hr', e⟩ := ih _ s hs; exact ⟨r', List.mem_cons_of_mem _ hr', e⟩

/-- `sources_on_sources`: if the sibling records of a vertex at `p` satisfy `Rep` with respect to
the line edges `posOf from_id → posOf to_id`, every reported source lies where it says: an endpoint
source has exactly that endpoint's position, an edge source with parameter `t` is the point a
fraction `t` along that edge. -/
theorem sources_on_sources (posOf : Nat → P K) (p : P K) (rs : List (EdgeRec K))
    (h : ∀ r ∈ rs, r.pos = p ∧ r.pos = P.lerp (posOf r.fromId) (posOf r.toId) r.t0) :
    ∀ s ∈ sources rs, OnSource posOf p s := by
  intro s hs
  obtain ⟨r, hr, rfl⟩ := sourcesFrom_sub none rs s hs
  have := sourceOf_on posOf r (h r hr).2
  rw [(h r hr).1] at this
  exact this

/-- at least one source is reported for a vertex with at least one sibling record (the event
being processed always has one) -/
theorem sources_nonempty (rs : List (EdgeRec K)) (h : rs ≠ []) : sources rs ≠ [] :=
  sources_ne_nil rs h

example : sources [(⟨⟨0, 5⟩, ⟨0, 10⟩, 1/2, 1, 1, true, 0, 1⟩ : EdgeRec ℚ),
    ⟨⟨0, 5⟩, ⟨3, 9⟩, 0, 1, 1, true, 4, 5⟩] = [.edge 0 1 (1/2), .endpoint 4] := by
  simp [sources, sourcesFrom, sourceOf, Source.beq, beq_K]

theorem foldl_add (f : Source K → K) (l : List (Source K)) (a : K) :
    l.foldl (fun b s => b + f s) a = a + (l.map f).sum := by
  induction l generalizing a with
  | nil => simp
  | cons x xs ih => simp [ih, add_assoc]

theorem foldl_count (l : List (Source K)) (a : K) :
    l.foldl (fun d _ => d + (Scalar.one : K)) a = a + (l.length : K) := by
  induction l generalizing a with
  | nil => simp
  | cons x xs ih =>
    simp only [List.foldl_cons, List.length_cons]
    rw [ih, one_K]; push_cast; ring

/-- `attributes_average`: the interpolated attribute is the average, over the reported sources, of
the endpoint attributes linearly interpolated with the source's own `t`. -/
theorem attributes_average (store : Nat → Nat → K) (rs : List (EdgeRec K)) (i : Nat)
    (h : sources rs ≠ []) :
    interpAttr store rs i =
      ((sources rs).map (srcAttr store i)).sum / ((sources rs).length : K) := by
  unfold interpAttr
  generalize sources rs = l at h ⊢
  split
  · exact absurd rfl h
  · simp [srcAttr]
  · rename_i first rest _
    simp only [foldl_count]
    simp only [foldl_add, one_K]
    cases rest with
    | nil => simp
    | cons x xs =>
      have hpos : (1 : K) < 1 + ((x :: xs).length : K) := by
        have : (0 : K) < ((x :: xs).length : K) := by
          simp only [List.length_cons, Nat.cast_add, Nat.cast_one]
          have : (0 : K) ≤ (xs.length : K) := Nat.cast_nonneg _
          linarith
        linarith
      rw [if_pos hpos]
      simp only [List.map_cons, List.sum_cons, List.length_cons, Nat.cast_add, Nat.cast_one]
      congr 1
      ring

theorem sum_map_const (f : Source K → K) (c : K) (l : List (Source K)) (h : ∀ s ∈ l, f s = c) :
    (l.map f).sum = (l.length : K) * c := by
  induction l with
  | nil => simp
  | cons x xs ih =>
    simp only [List.map_cons, List.sum_cons, List.length_cons, Nat.cast_add, Nat.cast_one]
    rw [h x (List.mem_cons_self ..), ih (fun s hs => h s (List.mem_cons_of_mem _ hs))]
    ring

/-- the contribution of a source that lies where it says, for an attribute that is the affine
function `g p = c + a·p.x + b·p.y` of the endpoint positions, is `g` of the vertex position -/
theorem srcAttr_affine (posOf : Nat → P K) (store : Nat → Nat → K) (c a b : K) (i : Nat)
    (hg : ∀ id, store id i = c + a * (posOf id).x + b * (posOf id).y) (p : P K) (s : Source K)
    (hs : OnSource posOf p s) : srcAttr store i s = c + a * p.x + b * p.y := by
  cases s with
  | endpoint id => simp only [srcAttr, OnSource] at *; rw [hg, hs]
  | edge f t u =>
    simp only [srcAttr, OnSource] at *
    rw [hg f, hg t, hs, lerp_def, one_K]; ring

/-- `affine_attributes_reproduced`: if attribute `i` is an affine function `g` of the endpoint
positions and the sibling records of the vertex at `p` satisfy `Rep` (line edges), then the
interpolated attribute is `g p`. -/
theorem affine_attributes_reproduced (posOf : Nat → P K) (store : Nat → Nat → K) (c a b : K)
    (i : Nat) (hg : ∀ id, store id i = c + a * (posOf id).x + b * (posOf id).y)
    (p : P K) (rs : List (EdgeRec K)) (hne : rs ≠ [])
    (h : ∀ r ∈ rs, r.pos = p ∧ r.pos = P.lerp (posOf r.fromId) (posOf r.toId) r.t0) :
    interpAttr store rs i = c + a * p.x + b * p.y := by
  have hs := sources_nonempty rs hne
  rw [attributes_average store rs i hs,
    sum_map_const _ (c + a * p.x + b * p.y) _
      (fun s hs' => srcAttr_affine posOf store c a b i hg p s (sources_on_sources posOf p rs h s hs'))]
  have hlen : ((sources rs).length : K) ≠ 0 := by
    have : (sources rs).length ≠ 0 := fun h0 => hs (List.length_eq_zero_iff.mp h0)
    exact_mod_cast this
  field_simp

/-- non-vacuity: a crossing vertex at (2,2) of the edges 0→1 = (0,0)→(4,4) and 2→3 = (4,0)→(0,4),
attribute `g p = 1 + 2·p.x + 3·p.y` -/
example :
    let posOf : Nat → P ℚ := fun id => if id = 0 then ⟨0, 0⟩ else if id = 1 then ⟨4, 4⟩ else
      if id = 2 then ⟨4, 0⟩ else ⟨0, 4⟩
    let rs : List (EdgeRec ℚ) := [⟨⟨2, 2⟩, ⟨4, 4⟩, 1/2, 1, 1, true, 0, 1⟩, ⟨⟨2, 2⟩, ⟨0, 4⟩, 1/2, 1, 1, true, 2, 3⟩]
    (∀ r ∈ rs, r.pos = ⟨2, 2⟩ ∧ r.pos = P.lerp (posOf r.fromId) (posOf r.toId) r.t0) ∧ rs ≠ [] := by
  refine ⟨?_, by simp⟩
  intro r hr
  simp only [List.mem_cons, List.mem_nil_iff, or_false] at hr
  rcases hr with rfl | rfl <;> (refine ⟨rfl, ?_⟩; simp [lerp_def]; norm_num)

end Lyon.C07
