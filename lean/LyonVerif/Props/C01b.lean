/-
  C01: NO-PANIC THEOREMS ABOUT THE MODELLED SWEEP ("... for finite input the call terminates
  without panicking").

  fill.rs has 22 panic sites (every Rust `unwrap`, index, `unreachable!`, `assert!`, integer underflow:
  the rows of the table below); `Model/Tess/Sweep.lean` renders them by 17 `.panic` expressions with 9
  distinct messages (the span operations are one model function each, called from several sites).  What is proved here,
  for EVERY input (every list of sub-paths / every event queue, entry point, fill rule, orientation,
  tolerance, `handle_intersections` flag) and - unless a hypothesis says otherwise - EVERY scalar
  type (`f32` with its NaNs included; no order law is used):

  site (fill.rs)                                   message     status
  ------------------------------------------------------------------------------------------------
  spans[i].tess() on an ended span (3 sites)       mDead       UNREACHABLE (all scalars)
  edges_below[idx], [idx+1] (2 sites)              mBelowIdx   UNREACHABLE (all scalars)
  edges_to_split index (split_edge)                mEdgeIdx    UNREACHABLE (all scalars)  [process_edges_above_sites]
  merge event: active.edges[above_start]           mEdgeIdx    UNREACHABLE (all scalars)  [process_edges_above_sites]
  process_intersection: active.edges[idx]          mEdgeIdx    UNREACHABLE (all scalars)  [update_active_edges_sites]
  sort_active_edges: edges[idx], edges[idx-1]      mEdgeIdx    UNREACHABLE (all scalars)  [recover_sites]
  split event: above_start - 1                     mSub        UNREACHABLE (all scalars)  [process_edges_below_sites]
  recover: begin_span(span_index)                  mSpanIns    UNREACHABLE (all scalars)  [recover_sites]
  splice(above_start..above_end)                   mSplice     UNREACHABLE when the two on-edge tests agree on
                                                               level edges (`HorizAgree`; holds over ordered fields)
  partial_cmp(..).unwrap() in sort_active_edges    mNaN        UNREACHABLE for scalar types without NaN (`NoNaN`)
  assert!(is_after(intersection, current))         mAssert     UNREACHABLE when `y < next_after(y)` (`NextUpOk`:
                                                               every finite f32 and -inf; ordered fields)
  sort_active_edges fix-up loop: idx - 1           (mSub)      NO PANIC SITE: at `idx == 0` the loop returns
                                                               Err(Internal(MergeVertexOutside)) (lyon 747d7f78;
                                                               before it the subtraction underflowed on finite
                                                               input, also on the real FillTessellator: finding
                                                               C01-sort-active-edges-merge-underflow), so `mSub`
                                                               is in no residue list
  spans[i] (vertex events, spans_to_end, split)    mSpanIdx    not proved: needs span/winding coherence
  begin_span(i) in process_edges_below/split_event mSpanIns    not proved: same
  split event: active.edges[above_start] (right)   mEdgeIdx    not proved: needs total winding of the
                                                               active list to be `out`

  The last three need the invariant "number of live spans = number of in-transitions of the active
  list" which in turn needs conservation of winding at every vertex, a property of the (pointer-level)
  event queue; they are reachable with `handle_intersections = false` on intersecting input (the
  documented precondition of that flag) and were never seen with the flag on.

  SPAN / WINDING COHERENCE (Lemmas/SweepSafeCoh*.lean).  The three unproved sites are exactly the ones
  that need the invariant `Coh`: every span live; number of spans = number of span-index increments
  of the winding fold over the active list (= number of `in` gaps); total winding `out`; every merge
  vertex inside an `in` region and with winding 0.  Proved, for every scalar type with agreeing on-edge tests:
  * `scan_winding_spec`     what a successful scan computes in terms of the winding fold (`ScanSem`:
                            `winding_before`, every span index handed out, the number of spans to end,
                            when split / merge / merge-split events are signalled);
  * `process_events_coherent` from a coherent state `process_events` has no reachable panic but the
                            assertion; its result is described relative to the scanned state (`EvPost`);
  * `coherence_after_event` if the winding is conserved at the vertex (`EventOkW`: the winding number
                            right of the new edges = the winding number right of the edges that ended;
                            no stray vertex) the new state is coherent again;
  * `sweep_no_panic_certified` (EVERY scalar type, f32 included, no hypothesis) a run whose EXECUTABLE
                            certificate `cleanB` (`Model/Tess/SweepCert.lean`) evaluates to `true` can only
                            panic on the assertion or the NaN sort key.  The certificate replays the run and
                            checks, at every event: the scan result passes `scanAgreeB` (what the proofs
                            need of `HorizAgree`), the winding is conserved (`eventOkB`).  Nothing else:
                            runs through `recover_from_error` are covered by `recovery_coherent` below.
                            The C01 check evaluates it on EVERY explored case
                            (family `sweepcert:32`: `cert ok` = not finite, or certificate true).
  * `recovery_coherent`     (EVERY scalar type, all inputs) from a coherent state `recover_from_error`
                            ends in a coherent state again, or in `Err(MergeVertexOutside)` (lyon 747d7f78),
                            or in the NaN-key panic of the sort: the insertion sort and the merge-vertex
                            fix-up permute the active list (total winding stays `out`, merge vertices keep
                            winding 0), the fix-up leaves every merge vertex inside an `in` region, the
                            final "last edge is a merge" swap is then a no-op, and the span list is
                            rebuilt to exactly the number of `in` transitions
                            (`Lemmas/SweepSafeCoh{Fix,Recover}.lean`);
  * `sweep_no_panic_winding_partial` / `sweep_no_panic_winding_field_partial` where the on-edge tests of
                            the scan agree (`HorizAgree`; every ordered field) the certificate needs the
                            winding check only (`windB`): over ordered fields winding conservation is the
                            ONLY unproved residue of the no-panic clause;
  * `sweep_no_panic_clean_partial` the same with `NextUpOk`, `NoNaN`: no panic at all;
                            `sweep_no_panic_clean_field_partial` over every ordered field.  `_partial`:
                            the certificate is a hypothesis about the run; winding conservation (a property
                            of the pointer-level event queue) and `scanAgreeB` are checked per run, NOT
                            proved for all inputs - this is exactly the unproved residue.

  Theorems:
  * `sweep_no_structural_panic`  (all scalar types, no hypothesis) a run never ends in `mDead` or
                                 `mBelowIdx`; precisely: a panic message is one of the six others;
  * `sweep_no_panic_partial`     (`NoNaN`, `NextUpOk`, `HorizAgree`) a panic message is one of
                                 `mSpanIdx, mSpanIns, mEdgeIdx`;
  * `sweep_no_panic_field_partial` the same over every linearly ordered field (hypotheses discharged);
  * the `*_sites` theorems: per step function, the exact list of panic messages it can end in - from
    which the table above is read off (e.g. `mEdgeIdx` can only come out of `process_edges_below`,
    i.e. the split event; `recover_from_error` can only panic on a NaN sort key);
  * `sweep_impl_…`, `sweep_curves_…`: the same for `tessellate_impl` on any queue / curved input.
-/
import LyonVerif.Lemmas.SweepSafeField
import LyonVerif.Lemmas.SweepSafeCohRun
import LyonVerif.Lemmas.SweepIdxZ
import LyonVerif.Model.Tess.SweepCurves

set_option linter.unusedSectionVars false
set_option linter.unusedVariables false

namespace Lyon.C01b
open Lyon Lyon.Scalar Lyon.Mono Lyon.Sweep Lyon.EQ Lyon.SweepSafe Lyon.SweepCoh
open Std.Do

section allScalars
variable {α : Type} [Scalar α] [Wide α]

/-- the panic messages not excluded for an arbitrary scalar type -/
def structuralResidue : List String := [mSpanIdx, mSpanIns, mEdgeIdx, mNaN, mAssert, mSplice]

/-- the panic messages not excluded for a NaN-free scalar type with `y < next_after(y)` and agreeing
on-edge tests -/
def semanticResidue : List String := [mSpanIdx, mSpanIns, mEdgeIdx]

theorem covers_structural (t : α) : Covers t structuralResidue :=
  ⟨by simp [structuralResidue], by simp [structuralResidue], by simp [structuralResidue],
   Or.inr (by simp [structuralResidue]), Or.inr (by simp [structuralResidue]),
   Or.inr (by simp [structuralResidue])⟩

theorem covers_semantic (t : α) (hNaN : NoNaN α) (hUp : NextUpOk α) (hH : HorizAgree t) :
    Covers t semanticResidue :=
  ⟨by simp [semanticResidue], by simp [semanticResidue], by simp [semanticResidue],
   Or.inl hNaN, Or.inl hUp, Or.inl hH⟩

/-- **No structural panic, every scalar type.**  Whatever the input and the options, the modelled
`FillTessellator` never ends in "dead span" or "edge below index out of range": if it panics, the
message is one of `structuralResidue`. -/
theorem sweep_no_structural_panic (entry : Entry) (rule : Slab.Rule) (horizontal : Bool) (tol : α)
    (handleIx : Bool) (subs : List (SubPath α)) (w : String)
    (h : (tessellate entry rule horizontal tol handleIx subs).1 = some (.panic w)) :
    w ∈ structuralResidue :=
  tessellate_allowed entry rule horizontal tol handleIx subs (covers_structural _) _ h w rfl

/-- the same for `tessellate_impl` started on ANY event queue -/
theorem sweep_impl_no_structural_panic (q : Queue α) (rule : Slab.Rule) (horizontal : Bool) (tol : α)
    (handleIx : Bool) (w : String) (h : (tessellateImpl q rule horizontal tol handleIx).1 = some (.panic w)) :
    w ∈ structuralResidue :=
  tessellateImpl_allowed q rule horizontal tol handleIx (covers_structural _) _ h w rfl

/-- the curved-input entry points (flattening feeds the same `tessellate_impl`; the queue builder
has one panic of its own, the `to_u32().unwrap()` of the flattening count) -/
theorem sweep_curves_no_structural_panic [Transc α] [FlatConst α] (mode : SweepCurves.IdMode) (rule : Slab.Rule)
    (horizontal : Bool) (tol : α) (handleIx : Bool) (cmds : List (SweepCurves.Cmd α)) (w : String)
    (h : (SweepCurves.tessellate mode rule horizontal tol handleIx cmds).1.1 = some (.panic w)) :
    w ∈ "flattening count.to_u32().unwrap()" :: structuralResidue := by
  revert h
  exact curves_tessellate_cases (fun x => x.1.1 = some (.panic w) → w ∈ _ :: structuralResidue) mode rule horizontal
    tol handleIx cmds (fun h => by cases h; simp) (fun _ h => nomatch h)
    fun _ _ _ h => List.mem_cons_of_mem _ (sweep_impl_no_structural_panic _ _ _ _ _ w h)

/-- **No panic but three messages**, for a scalar type without NaN, with `y < next_after(y)` and with
agreeing on-edge tests.  `_partial`: `mSpanIdx`, `mSpanIns`, `mEdgeIdx` (right neighbour of a split
vertex) need the span/winding coherence of the sweep state, which is proved only for runs with a
clean certificate (`sweep_no_panic_clean_partial`).  (`mSub` of the fix-up loop of `sort_active_edges`
was a genuine defect of lyon - finding `C01-sort-active-edges-merge-underflow` - fixed in 747d7f78; the
model mirrors the fix, so the message is not in the list.) -/
theorem sweep_no_panic_partial (hNaN : NoNaN α) (hUp : NextUpOk α) (entry : Entry) (rule : Slab.Rule)
    (horizontal : Bool) (tol : α) (hH : HorizAgree (tol * half)) (handleIx : Bool) (subs : List (SubPath α))
    (w : String) (h : (tessellate entry rule horizontal tol handleIx subs).1 = some (.panic w)) :
    w ∈ semanticResidue :=
  tessellate_allowed entry rule horizontal tol handleIx subs (covers_semantic _ hNaN hUp hH) _ h w rfl

theorem sweep_impl_no_panic_partial (hNaN : NoNaN α) (hUp : NextUpOk α) (q : Queue α) (rule : Slab.Rule)
    (horizontal : Bool) (tol : α) (hH : HorizAgree (tol * half)) (handleIx : Bool)
    (w : String) (h : (tessellateImpl q rule horizontal tol handleIx).1 = some (.panic w)) :
    w ∈ semanticResidue :=
  tessellateImpl_allowed q rule horizontal tol handleIx (covers_semantic _ hNaN hUp hH) _ h w rfl

/-- `process_edges_above` after a successful scan of the same active list can only fail with a span
index out of range: the `edges_to_split` indices, the merge-event index and the liveness of every
span it touches are proved. -/
theorem process_edges_above_sites (tol : α) (scan : Scan) :
    ⦃fun s => ⌜Safe tol s ∧ ScanOk s scan⌝⦄ (processEdgesAbove scan : SM α Scan)
    ⦃safePost [mSpanIdx] fun sc s => Safe tol s ∧ Fit tol s sc⦄ :=
  processEdgesAbove_safeS (by simp) scan

theorem scan_ok (s : St α) (scan : Scan) (h : scanActiveEdges s = .ok scan) : ScanOk s scan := (of_scan_both h).1

/-- `process_edges_below`: `above_start - 1` never underflows, the `edges_below` indices are in
range; what is left is the right neighbour of a split vertex and the span indices. -/
theorem process_edges_below_sites (tol : α) (scan : Scan) :
    ⦃fun s => ⌜Safe tol s ∧ Fit tol s scan⌝⦄ (processEdgesBelow scan : SM α Unit)
    ⦃safePost [mEdgeIdx, mSpanIdx, mSpanIns] fun _ s => Safe tol s ∧ Fit tol s scan⦄ :=
  processEdgesBelow_safeS (by simp) (by simp) (by simp) scan

/-- `update_active_edges` (with `handle_intersections` / `process_intersection`): the active-edge
index of an intersection is in range; only the assertion and the splice remain -/
theorem update_active_edges_sites (tol : α) (scan : Scan) :
    ⦃fun s => ⌜Safe tol s ∧ Fit tol s scan⌝⦄ (updateActiveEdges scan : SM α Unit)
    ⦃safePost [mAssert, mSplice] fun _ s => Safe tol s⦄ :=
  updateActiveEdges_safeS (Or.inr (by simp)) (Or.inr (by simp)) scan

/-- ... and neither remains when `y < next_after(y)` and the on-edge tests agree: then
`update_active_edges` never panics. -/
theorem update_active_edges_no_panic (hUp : NextUpOk α) (tol : α) (hH : HorizAgree tol) (scan : Scan) :
    ⦃fun s => ⌜Safe tol s ∧ Fit tol s scan⌝⦄ (updateActiveEdges scan : SM α Unit)
    ⦃safePost [] fun _ s => Safe tol s⦄ :=
  updateActiveEdges_safeS (Or.inl hUp) (Or.inl hH) scan

/-- `process_events`: never an integer underflow, never `mNaN` -/
theorem process_events_sites (tol : α) :
    ⦃fun s => ⌜Safe tol s⌝⦄ (processEvents : SM α (Option IErr))
    ⦃safePost [mSpanIdx, mSpanIns, mEdgeIdx, mAssert, mSplice] fun _ s => Safe tol s⦄ :=
  processEvents_safe (by simp) (by simp) (by simp) (Or.inr (by simp)) (Or.inr (by simp))

/-- `recover_from_error`: the only panic is the NaN sort key; its `begin_span` and `pop` calls are
safe, and the fix-up loop of `sort_active_edges` ends in `Err(MergeVertexOutside)` instead of
underflowing (lyon 747d7f78) -/
theorem recover_sites (tol : α) :
    ⦃fun s => ⌜Safe tol s⌝⦄ (recoverFromError : SM α Unit) ⦃safePost [mNaN] fun _ s => Safe tol s⦄ :=
  recoverFromError_safe (Or.inr (by simp))

/-- ... and without NaN `recover_from_error` never panics -/
theorem recover_sites_no_nan (hNaN : NoNaN α) (tol : α) :
    ⦃fun s => ⌜Safe tol s⌝⦄ (recoverFromError : SM α Unit) ⦃safePost [] fun _ s => Safe tol s⦄ :=
  recoverFromError_safe (Or.inl hNaN)

/-- the assertion of `process_intersection` cannot fail when `y < next_after(y)`: with an in-range
edge index `process_intersection` never fails -/
theorem process_intersection_no_panic (hUp : NextUpOk α) (tol : α) (n : Nat) (ta tb : Wide.W α) (aei : Nat)
    (haei : aei < n) (eb0 : PendingEdge α) (belowSeg : Seg (Wide.W α)) :
    ⦃fun s => ⌜Core tol n [] s⌝⦄ (processIntersection ta tb aei eb0 belowSeg : SM α (PendingEdge α))
    ⦃safePost [] fun _ s => Core tol n [] s⦄ :=
  processIntersection_safe (Or.inl hUp) ta tb aei haei eb0 belowSeg

end allScalars

section coherence
variable {α : Type} [Scalar α] [Wide α]

/-- **what a successful scan computes**, in terms of the winding fold `Wat s` over the active list -/
theorem scan_winding_spec (s : St α) (scan : Scan) (h : scanActiveEdges s = .ok scan) :
    ScanOk s scan ∧ ScanSem s scan := of_scan_both h

/-- **the invariant after an event with conserved winding**.  `ScanAgree` (a merge event consumed an
edge; a vertex in the filled region that connects to nothing is a split event) follows from
`HorizAgree` (`scanAgree_of_horiz`) and is decidable on the scan result (`scanAgreeB`). -/
theorem coherence_after_event {s0 s' : St α} {scan : Scan} {W : List Int} (hok : ScanOk s0 scan)
    (hsem : ScanSem s0 scan) (hc : Coh s0) (hG : ScanAgree s0 scan) (hev : EventOkW s0 scan W)
    (hN : NewSt s0 scan (Zf s0 scan W) W s') : Coh s' := coh_after hok hsem hc hG hev hN

/-- **`process_events` on a coherent state**: the only panic it can reach is the assertion (none when
`y < next_after(y)`); afterwards the state is the scanned state with the above-range replaced by the
pending edges (`EvPost`), whatever the winding balance -/
theorem process_events_coherent (hUp : NextUpOk α) (s1 : St α) (hc : Coh s1) (hH : HorizAgree s1.tolerance) :
    ⦃fun s => ⌜s = s1⌝⦄ (processEvents : SM α (Option IErr)) ⦃safePost [] fun r s' => EvPost s1 r s'⦄ :=
  processEvents_coh_at s1 hc (fun scan h => scanAgree_of_horiz (of_scan_both h).1 (of_scan_both h).2 hH)
    (Or.inl hUp)

/-- **`recover_from_error` re-establishes the coherence invariant - every scalar type, all inputs.**
From a coherent state the recovery (sort of the active list, merge-vertex fix-up, span repair) ends
in a coherent state, or fails with `Err(MergeVertexOutside)` / fuel / the unmodelled >20-element
inconsistent sort, or panics on a NaN sort key (`mNaN`; not at all when the scalar type has no NaN). -/
theorem recovery_coherent (tol : α) :
    ⦃fun s => ⌜Coh s ∧ s.tolerance = tol⌝⦄ (recoverFromError : SM α Unit)
    ⦃safePost [mNaN] fun _ s3 => Coh s3 ∧ s3.tolerance = tol⦄ :=
  recoverFromError_coh (Or.inr (by simp)) tol

theorem recovery_coherent_no_nan (hNaN : NoNaN α) (tol : α) :
    ⦃fun s => ⌜Coh s ∧ s.tolerance = tol⌝⦄ (recoverFromError : SM α Unit)
    ⦃safePost [] fun _ s3 => Coh s3 ∧ s3.tolerance = tol⦄ :=
  recoverFromError_coh (Or.inl hNaN) tol

/-- what the sort + fix-up of `recover_from_error` guarantee about the new active list: same total
winding, merge vertices with winding 0 and all inside `in` regions -/
theorem sort_active_edges_spec (s0 : St α) (hz : ∀ x ∈ sigs s0, x.1 = true → x.2 = 0) :
    ⦃fun s => ⌜Fr s0 s⌝⦄ (sortActiveEdges : SM α Unit) ⦃safePost [mNaN] fun _ s' => SortedOK s0 s'⦄ :=
  sortActiveEdges_coh (Or.inr (by simp)) s0 hz

/-- **A certified run can only panic on the assertion or on a NaN sort key - for EVERY scalar type**,
`f32` included, without any hypothesis: `cleanB` (executable, `Model/Tess/SweepCert.lean`) replays
the run and checks at every event that the scan result passes `scanAgreeB` and that the winding is
conserved (`eventOkB`) - nothing else (the state after a `recover_from_error` is coherent by
`recovery_coherent`).  The C01 check evaluates it on every explored case (family `sweepcert:32`). -/
theorem sweep_no_panic_certified (entry : Entry) (rule : Slab.Rule) (horizontal : Bool)
    (tol : α) (handleIx : Bool) (subs : List (SubPath α))
    (hB : cleanB entry rule horizontal tol handleIx subs = true) (w : String)
    (h : (tessellate entry rule horizontal tol handleIx subs).1 = some (.panic w)) :
    w ∈ [mAssert, mNaN] :=
  tessellate_clean (A := [mAssert, mNaN]) entry rule horizontal tol handleIx subs (Or.inr (by simp))
    (Or.inr (by simp)) true (Or.inl rfl) hB _ h w rfl

theorem sweep_impl_no_panic_certified (q : Queue α) (rule : Slab.Rule) (horizontal : Bool)
    (tol : α) (handleIx : Bool) (hB : cleanRunB q rule horizontal tol handleIx = true) (w : String)
    (h : (tessellateImpl q rule horizontal tol handleIx).1 = some (.panic w)) : w ∈ [mAssert, mNaN] :=
  tessellateImpl_clean (A := [mAssert, mNaN]) q rule horizontal tol handleIx (Or.inr (by simp))
    (Or.inr (by simp)) true (Or.inl rfl) hB _ h w rfl

/-- **A run with a clean certificate does not panic** (scalar types with `y < next_after(y)` and
without NaN).  `_partial`: the certificate is a hypothesis about the run, not proved for all inputs
(winding conservation is a property of the pointer-level event queue) - see the header. -/
theorem sweep_no_panic_clean_partial (hUp : NextUpOk α) (hNaN : NoNaN α) (entry : Entry) (rule : Slab.Rule)
    (horizontal : Bool) (tol : α) (handleIx : Bool) (subs : List (SubPath α))
    (hB : cleanB entry rule horizontal tol handleIx subs = true) (w : String) :
    (tessellate entry rule horizontal tol handleIx subs).1 ≠ some (.panic w) := by
  intro h
  have := tessellate_clean (A := []) entry rule horizontal tol handleIx subs (Or.inl hUp) (Or.inl hNaN) true
    (Or.inl rfl) hB _ h w rfl
  cases this

theorem sweep_impl_no_panic_clean_partial (hUp : NextUpOk α) (hNaN : NoNaN α) (q : Queue α) (rule : Slab.Rule)
    (horizontal : Bool) (tol : α) (handleIx : Bool)
    (hB : cleanRunB q rule horizontal tol handleIx = true) (w : String) :
    (tessellateImpl q rule horizontal tol handleIx).1 ≠ some (.panic w) := by
  intro h
  have := tessellateImpl_clean (A := []) q rule horizontal tol handleIx (Or.inl hUp) (Or.inl hNaN) true
    (Or.inl rfl) hB _ h w rfl
  cases this

/-- **Winding conservation is the only residue where the on-edge tests agree** (`HorizAgree`: every
ordered field): a run whose executable winding certificate `windB` (`eventOkB` at every event, nothing
else) is true does not panic. -/
theorem sweep_no_panic_winding_partial (hUp : NextUpOk α) (hNaN : NoNaN α) (entry : Entry) (rule : Slab.Rule)
    (horizontal : Bool) (tol : α) (hH : HorizAgree (tol * half)) (handleIx : Bool) (subs : List (SubPath α))
    (hB : windB entry rule horizontal tol handleIx subs = true) (w : String) :
    (tessellate entry rule horizontal tol handleIx subs).1 ≠ some (.panic w) := by
  intro h
  have := tessellate_clean (A := []) entry rule horizontal tol handleIx subs (Or.inl hUp) (Or.inl hNaN) false
    (Or.inr hH) hB _ h w rfl
  cases this

end coherence

/-! ### ordered fields: the hypotheses hold -/

section field
variable {K : Type} [Field K] [LinearOrder K] [IsStrictOrderedRing K]

/-- the exact `Wide` instance over a field: no widening, no NaN, `next_after(y) = y + 1`; `f32::MIN`,
`f32::EPSILON`, `sqrt` are parameters -/
@[reducible] noncomputable def exactWide (fmin eps : K) (sqrt : K → K) : Wide K where
  W := K
  scalarW := inferInstance
  sgnW := ⟨fun x => if x < 0 then -1 else 1⟩
  widen := id
  narrow := id
  nextUp := fun y => y + 1
  fmin := fmin
  isNaN := fun _ => false
  sqrt := sqrt
  eps := eps

theorem noNaN_exact (fmin eps : K) (sqrt : K → K) : @NoNaN K (exactWide fmin eps sqrt) := fun _ => rfl

theorem nextUpOk_exact (fmin eps : K) (sqrt : K → K) : @NextUpOk K _ (exactWide fmin eps sqrt) :=
  fun y => lt_add_one y

/-- **Over every linearly ordered field** (exact arithmetic), for every `f32::MIN`, `EPSILON`, `sqrt`:
a panic of the modelled sweep has one of the three messages of `semanticResidue`. -/
theorem sweep_no_panic_field_partial (fmin eps : K) (sqrt : K → K) (entry : Entry) (rule : Slab.Rule)
    (horizontal : Bool) (tol : K) (htol : 0 ≤ tol) (handleIx : Bool) (subs : List (SubPath K)) (w : String)
    (h : (@tessellate K _ (exactWide fmin eps sqrt) entry rule horizontal tol handleIx subs).1 = some (.panic w)) :
    w ∈ semanticResidue := by
  let _ := exactWide fmin eps sqrt
  exact sweep_no_panic_partial (noNaN_exact fmin eps sqrt) (nextUpOk_exact fmin eps sqrt) entry rule horizontal
    tol (horizAgree_half tol htol) handleIx subs w h

/-- the clean-run theorem over every linearly ordered field -/
theorem sweep_no_panic_clean_field_partial (fmin eps : K) (sqrt : K → K) (entry : Entry) (rule : Slab.Rule)
    (horizontal : Bool) (tol : K) (handleIx : Bool) (subs : List (SubPath K))
    (hB : @cleanB K _ (exactWide fmin eps sqrt) entry rule horizontal tol handleIx subs = true) (w : String) :
    (@tessellate K _ (exactWide fmin eps sqrt) entry rule horizontal tol handleIx subs).1 ≠ some (.panic w) := by
  let _ := exactWide fmin eps sqrt
  exact sweep_no_panic_clean_partial (nextUpOk_exact fmin eps sqrt) (noNaN_exact fmin eps sqrt) entry rule
    horizontal tol handleIx subs hB w

/-- **Over every linearly ordered field the only unproved residue of the no-panic clause is winding
conservation**: if the winding is conserved at every event of the run (`windB`, executable: the
windings of the edges leaving each vertex balance those of the edges that end there, no stray vertex)
the modelled sweep does not panic - whatever the input, options, entry point. -/
theorem sweep_no_panic_winding_field_partial (fmin eps : K) (sqrt : K → K) (entry : Entry) (rule : Slab.Rule)
    (horizontal : Bool) (tol : K) (htol : 0 ≤ tol) (handleIx : Bool) (subs : List (SubPath K))
    (hB : @windB K _ (exactWide fmin eps sqrt) entry rule horizontal tol handleIx subs = true) (w : String) :
    (@tessellate K _ (exactWide fmin eps sqrt) entry rule horizontal tol handleIx subs).1 ≠ some (.panic w) := by
  let _ := exactWide fmin eps sqrt
  exact sweep_no_panic_winding_partial (nextUpOk_exact fmin eps sqrt) (noNaN_exact fmin eps sqrt) entry rule
    horizontal tol (horizAgree_half tol htol) handleIx subs hB w

end field

/-! ### non-vacuity (kernel-evaluated on the exact integer instance `Z` of `Lemmas/SweepIdxZ.lean`) -/

section examples
open Lyon.SweepIdx (Z pz outcome)

/-- `NextUpOk` holds on the exact integer instance `Z` -/
example : NextUpOk Z := fun y => by show y.v < y.v + 1; omega

/-- a successful scan with a non-trivial result exists: the hypothesis `ScanOk s scan` of the step
theorems is inhabited (second event of a triangle: two edges active, the vertex connects to none) -/
example : ∃ (s : St Z) (scan : Scan), scanActiveEdges s = .ok scan ∧ scan.aboveEnd = 1 ∧ s.active.size = 2 := by
  refine ⟨{ q := Queue.empty, curPos := pz 0 2, curVertex := 1, curEvent := 0,
            active := #[⟨pz 1 0, pz 0 2, 1, false, 0, 0, ⟨1⟩⟩, ⟨pz 1 0, pz 3 3, -1, false, 0, 1, ⟨1⟩⟩],
            below := #[], spans := #[some Adv.new], pool := [], rule := .evenOdd, horizontal := false,
            tolerance := ⟨0⟩, handleIntersections := true, out := #[], nverts := 2 }, _, rfl, ?_, ?_⟩ <;>
  decide +kernel

/-- the on-edge tests agree on the exact integer instance (for a non-negative threshold) -/
theorem horizAgree_Z (t : Z) (ht : 0 ≤ t.v) : HorizAgree (α := Z) t := by
  apply horizAgree_of_law
  intro cur e h2 h3
  have h2' : ¬ (e.maxX).v < cur.x.v := h2
  have h3' : ¬ cur.x.v < (e.minX).v := h3
  refine ⟨⟨show cur.x.v ≤ (e.maxX).v by omega, show (e.minX).v ≤ cur.x.v by omega⟩, ?_⟩
  show ((⟨((cur.x.v - cur.x.v).natAbs : Int)⟩ : Z)).v ≤ (onEdgeThreshold t cur.x).v
  have : ((cur.x.v - cur.x.v).natAbs : Int) = 0 := by simp
  rw [this]
  unfold onEdgeThreshold
  show (0 : Int) ≤ (if t.v ≤ _ then _ else t).v
  split <;> omega

/-- non-vacuity of `sweep_no_panic_certified` / `sweep_no_panic_clean_partial`: the certificate of the
triangle `(1,0) (0,2) (3,3)` evaluates to `true` in the kernel -/
example :
    cleanB (α := Z) .path .nonZero false ⟨1⟩ true [([pz 1 0, pz 0 2, pz 3 3], true)] = true := by
  decide +kernel

example : HorizAgree (α := Z) ((⟨1⟩ : Z) * half) := horizAgree_Z _ (by decide)

/-- non-vacuity of `sweep_no_panic_winding_partial`: the winding-only certificate of the same triangle -/
example :
    windB (α := Z) .path .nonZero false ⟨1⟩ true [([pz 1 0, pz 0 2, pz 3 3], true)] = true := by
  decide +kernel

/-- a sweep state in the middle of a shape: two edges `(0,0)-(0,4)` (winding 1) and `(4,0)-(4,4)`
(winding -1) STORED IN THE WRONG ORDER, one span -/
def recState : St Z :=
  { q := Queue.empty, curPos := pz 1 2, curVertex := 1, curEvent := 0,
    active := #[⟨pz 4 0, pz 4 4, -1, false, 0, 0, ⟨1⟩⟩, ⟨pz 0 0, pz 0 4, 1, false, 1, 1, ⟨1⟩⟩], below := #[],
    spans := #[some Adv.new], pool := [], rule := .nonZero, horizontal := false, tolerance := ⟨0⟩,
    handleIntersections := true, out := #[], nverts := 2 }

/-- non-vacuity of `recovery_coherent`: `recState` is coherent (precondition inhabited by a state with
edges), and `recover_from_error` succeeds on it, re-sorting the two edges -/
example : Coh recState := coh_of_B (by decide +kernel)

example :
    (match ((recoverFromError (α := Z)).run.run recState : Except Fail Unit × St Z) with
     | (.ok _, s3) => (match s3.active.toList with | [a, b] => a.srcEdge == 1 && b.srcEdge == 0 | _ => false) && cohB s3
     | _ => false) = true := by
  decide +kernel

/-- the panic branches are real: on a state WITHOUT spans (not a state the sweep reaches) a vertex
event panics with a message of the residue -/
example :
    (match ((spanVertex (α := Z) 0 (pz 0 0) 0 true).run.run
      { q := Queue.empty, curPos := pz 0 2, curVertex := 1, curEvent := 0, active := #[], below := #[],
        spans := #[], pool := [], rule := .evenOdd, horizontal := false, tolerance := ⟨0⟩,
        handleIntersections := true, out := #[], nverts := 2 }).1 with
     | .error (.panic w) => w == mSpanIdx
     | _ => false) = true := by
  decide +kernel

/-- the triangle `(1,0) (0,2) (3,3)` through the entry point `path`: no panic (outcome `ok`) -/
example :
    outcome (tessellate (α := Z) .path .nonZero false ⟨1⟩ true [([pz 1 0, pz 0 2, pz 3 3], true)]) = "ok" := by
  decide +kernel

end examples

end Lyon.C01b
