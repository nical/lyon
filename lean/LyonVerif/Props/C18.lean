/-
  C18 — winding number, hit test, signed area, orientation.

  Theorems about the model of `hit_test.rs`, `area.rs`, `winding.rs` (`Model/Algo/Winding.lean`, executed at
  `Float32` against lyon on every run) over an arbitrary linearly ordered field, for every polygonal path and
  every query point.  One segment's contribution is brought to the form "in the row and at or left of `q`: its
  direction" (`testSegment_spec`, `segSpec_eq`).  Winding number, shoelace sum and the signed crossings of a
  horizontal line are sums over the closed outline (`Lemmas/EdgeSum.lean`): the half-open rule makes the count
  independent of the side of the ray (`crossing_telescopes`, `winding_left_eq_neg_right`), which is why "level
  with a vertex" cannot miscount, and the signed area is half the shoelace sum (`subArea_shoelace`).
  `windingAt_eq_slab` ties lyon's winding number to the crossing sum the slab checker evaluates for the fill (C01):
  "hit test = where the fill puts triangles".

  Sign: a sub-path that `compute_winding` calls `Positive` (positive `subArea`) winds −1 for the hit test: the unit
  square `(0,0) (1,0) (1,1) (0,1)` has area 1 and `windingAt` −1 at its centre (the example at the end of the file).

  Curved paths are not in this file: `hit_test_curved_is_flattened` (`Props/C18b.lean`) reduces the curved hit test to
  the polygonal one of the flattened outline, under `Conservative`; the flattener itself is C09, and curved paths as lyon
  flattens them are covered by the oracle.
-/
import LyonVerif.Model.Algo.Winding
import LyonVerif.Model.Slab
import LyonVerif.Lemmas.Field
import LyonVerif.Lemmas.EdgeSum
import LyonVerif.Lemmas.Hull

set_option linter.unusedSectionVars false

namespace Lyon.C18
open Lyon Lyon.Winding

/-- the cross term of one directed edge in `shoelace`; in front of the section, so that it takes `[Field K]` alone -/
def cr {K : Type} [Field K] (p q : P K) : K := p.x * q.y - q.x * p.y

noncomputable section

variable {K : Type} [Field K] [LinearOrder K] [IsStrictOrderedRing K]

/-- abscissa of the line through `a`, `b` at height `y` -/
noncomputable def xline (a b : P K) (y : K) : K := a.x + (b.x - a.x) * (y - a.y) / (b.y - a.y)

/-- the specification of one segment's contribution -/
noncomputable def segSpec (q a b : P K) : Int :=
  if a.y ≤ q.y ∧ q.y < b.y ∧ xline a b q.y ≤ q.x then 1
  else if b.y ≤ q.y ∧ q.y < a.y ∧ xline a b q.y ≤ q.x then -1 else 0

theorem lerp_eq_xline (q a b : P K) (h : b.y - a.y ≠ 0) :
    (1 - (q.y - a.y) / (b.y - a.y)) * a.x + (q.y - a.y) / (b.y - a.y) * b.x = xline a b q.y := by
  unfold xline; field_simp; ring

theorem min_le_xline_of_lt (q a b : P K) (hlt : a.y < b.y) (h0 : a.y ≤ q.y) (h1 : q.y ≤ b.y) :
    min a.x b.x ≤ xline a b q.y := by
  have hd : 0 < b.y - a.y := sub_pos.mpr hlt
  rw [← lerp_eq_xline q a b hd.ne']
  exact (Hull.lerp_mem (div_nonneg (sub_nonneg.mpr h0) hd.le) ((div_le_one hd).mpr (sub_le_sub_right h1 _))
    ⟨min_le_left _ _, le_max_left _ _⟩ ⟨min_le_right _ _, le_max_right _ _⟩).1

theorem xline_symm (a b : P K) (y : K) (h : a.y ≠ b.y) : xline b a y = xline a b y := by
  unfold xline
  have h1 : b.y - a.y ≠ 0 := sub_ne_zero.mpr (Ne.symm h)
  have h2 : a.y - b.y ≠ 0 := sub_ne_zero.mpr h
  field_simp; ring

/-! ### the orientation of a segment, split once

`segSpec`, `rightSpec`, `lineCross` each have an up branch and a down branch with the same side condition; `updown_eq`
brings them to the form `if InRow y a b ∧ X then dirn a b else 0`, and their two branches are not looked at again.
What depends on the orientation by definition (`dirn`, `mkItem`, the symmetry of `xline`) is reached through
`InRow.updown`, `inRow_of_lt`, `inRow_of_gt`. -/

def InRow (y : K) (a b : P K) : Prop := min a.y b.y ≤ y ∧ y < max a.y b.y

instance (y : K) (a b : P K) : Decidable (InRow y a b) := inferInstanceAs (Decidable (_ ∧ _))

def dirn (a b : P K) : Int := if a.y < b.y then 1 else -1

theorem InRow.ne {y : K} {a b : P K} (h : InRow y a b) : a.y ≠ b.y := by
  rintro e; have := h.1.trans_lt h.2; simp [e] at this

theorem inRow_comm (y : K) (a b : P K) : InRow y b a ↔ InRow y a b := by
  unfold InRow; rw [min_comm, max_comm]

theorem dirn_comm {a b : P K} (h : a.y ≠ b.y) : dirn b a = - dirn a b := by
  unfold dirn
  rcases lt_or_gt_of_ne h with h | h <;> simp [h, h.not_gt]

-- stated as equivalences for `simp only`: a `rw` of `min_eq_left` under the `Decidable (InRow ..)` of an `ite` fails
theorem inRow_of_lt {y : K} {a b : P K} (h : a.y < b.y) : InRow y a b ↔ a.y ≤ y ∧ y < b.y := by
  unfold InRow; rw [min_eq_left h.le, max_eq_right h.le]

theorem inRow_of_gt {y : K} {a b : P K} (h : b.y < a.y) : InRow y a b ↔ b.y ≤ y ∧ y < a.y := by
  rw [← inRow_comm, inRow_of_lt h]

theorem updown_eq (y : K) (a b : P K) (X : Prop) [Decidable X] :
    (if a.y ≤ y ∧ y < b.y ∧ X then (1 : Int) else if b.y ≤ y ∧ y < a.y ∧ X then -1 else 0)
      = if InRow y a b ∧ X then dirn a b else 0 := by
  have hno : ∀ u v : K, u ≤ v → ¬ (v ≤ y ∧ y < u ∧ X) := fun u v huv c => absurd (c.1.trans_lt c.2.1) huv.not_gt
  rcases lt_trichotomy a.y b.y with h | h | h
  · simp only [inRow_of_lt h, dirn, if_pos h, and_assoc, if_neg (hno _ _ h.le)]
  · have hr : ¬ InRow y a b := fun c => c.ne h
    simp only [hr, false_and, if_false, if_neg (hno _ _ h.le), if_neg (hno _ _ h.ge)]
  · simp only [inRow_of_gt h, dirn, if_neg h.not_gt, and_assoc, if_neg (hno _ _ h.le)]

theorem segSpec_eq (q a b : P K) :
    segSpec q a b = if InRow q.y a b ∧ xline a b q.y ≤ q.x then dirn a b else 0 := updown_eq ..

theorem InRow.updown {y : K} {a b : P K} (h : InRow y a b) :
    (a.y < b.y ∧ a.y ≤ y ∧ y < b.y) ∨ (b.y < a.y ∧ b.y ≤ y ∧ y < a.y) :=
  (lt_or_gt_of_ne h.ne).imp (fun g => ⟨g, (inRow_of_lt g).mp h⟩) (fun g => ⟨g, (inRow_of_gt g).mp h⟩)

theorem InRow.min_le_xline {q a b : P K} (hr : InRow q.y a b) : min a.x b.x ≤ xline a b q.y := by
  rcases hr.updown with ⟨h, h0, h1⟩ | ⟨h, h0, h1⟩
  · exact min_le_xline_of_lt q a b h h0 h1.le
  · rw [← xline_symm a b q.y h.ne', min_comm]
    exact min_le_xline_of_lt q b a h h0 h1.le

/-- **What one segment contributes**: +1 for an upward segment, −1 for a downward one, when
`min y ≤ q.y < max y` (half-open) and its point at height `q.y` is at or left of `q`; the
`min(x) > q.x` early-out is redundant. -/
theorem testSegment_spec (q a b : P K) : testSegment q a b = segSpec q a b := by
  rw [segSpec_eq]
  unfold testSegment
  simp only [geom, Nat.cast_one, Nat.cast_zero, Bool.or_eq_true, decide_eq_true_eq]
  by_cases hr : InRow q.y a b
  · -- in the row: the early-out is implied by the comparison with the crossing abscissa
    have hne : ¬ (a.y == b.y) = true := by rw [sc_beq]; exact hr.ne
    have hx := hr.min_le_xline
    rw [lerp_eq_xline q a b (sub_ne_zero.mpr hr.ne.symm)]
    have h1 : ¬ q.y < min a.y b.y := not_lt.mpr hr.1
    have h2 : ¬ max a.y b.y ≤ q.y := not_le.mpr hr.2
    simp only [h1, h2, false_or, hne, hr, true_and, dirn, sub_pos]
    by_cases hxq : xline a b q.y ≤ q.x
    · simp [hxq, not_lt.mpr hxq, not_lt.mpr (hx.trans hxq)]
    · simp only [hxq, if_false]; split_ifs <;> first | rfl | exact absurd (not_le.mp hxq) ‹_›
  · have : (q.y < min a.y b.y ∨ max a.y b.y ≤ q.y) := by
      unfold InRow at hr; rw [not_and_or, not_le, not_lt] at hr; exact hr
    rw [if_pos (Or.inl this), if_neg (fun c => hr c.1)]

theorem testSegment_flip (q a b : P K) : testSegment q b a = - testSegment q a b := by
  rw [testSegment_spec, testSegment_spec, segSpec_eq, segSpec_eq]
  simp only [inRow_comm q.y a b]
  by_cases hr : InRow q.y a b
  · rw [xline_symm a b q.y hr.ne, dirn_comm hr.ne]; split <;> simp
  · simp [hr]

def lvl (c : K) (p : P K) : Int := if c < p.y then 1 else 0

/-- signed crossing of the horizontal LINE `y = c` by `a → b` (half-open rule) -/
def lineCross (c : K) (a b : P K) : Int :=
  if a.y ≤ c ∧ c < b.y then 1 else if b.y ≤ c ∧ c < a.y then -1 else 0

theorem lineCross_eq (c : K) (a b : P K) : lineCross c a b = lvl c b - lvl c a := by
  unfold lineCross lvl
  by_cases h1 : c < b.y <;> by_cases h2 : c < a.y
  · have : ¬ a.y ≤ c := not_le.mpr h2
    simp [h1, h2, this]
  · have : a.y ≤ c := not_lt.mp h2
    simp [h1, h2, this]
  · have h3 : b.y ≤ c := not_lt.mp h1
    have : ¬ a.y ≤ c := not_le.mpr h2
    simp [h1, h2, h3, this]
  · simp [h1, h2]

def lineCrossSum (c : K) (es : List (P K × P K)) : Int := (es.map (fun e => lineCross c e.1 e.2)).sum

/-- **Closed chains cross every horizontal line equally often upwards and downwards** (with the
half-open rule), whatever the vertices — including vertices ON the line and horizontal edges. -/
theorem crossing_telescopes (c : K) (pts : List (P K)) : lineCrossSum c (subEdges pts) = 0 :=
  (edgeSum_congr (fun e _ => lineCross_eq c e.1 e.2)).trans (edgeSum_exact (lvl c) pts)

/-- contribution of `a → b` to the RIGHT ray from `q` -/
noncomputable def rightSpec (q a b : P K) : Int :=
  if a.y ≤ q.y ∧ q.y < b.y ∧ q.x < xline a b q.y then 1
  else if b.y ≤ q.y ∧ q.y < a.y ∧ q.x < xline a b q.y then -1 else 0

theorem rightSpec_eq (q a b : P K) :
    rightSpec q a b = if InRow q.y a b ∧ q.x < xline a b q.y then dirn a b else 0 := updown_eq ..

theorem lineCross_inRow (c : K) (a b : P K) : lineCross c a b = if InRow c a b then dirn a b else 0 := by
  have := updown_eq c a b True
  simpa only [and_true, lineCross] using this

theorem left_add_right (q a b : P K) : segSpec q a b + rightSpec q a b = lineCross q.y a b := by
  rw [segSpec_eq, rightSpec_eq, lineCross_inRow]
  by_cases hr : InRow q.y a b <;> by_cases hx : xline a b q.y ≤ q.x <;> simp [hr, hx, not_lt.mpr, not_le.mp]

/-- **Left ray = − right ray** for a closed sub-path: the winding number reported by lyon (left
ray) is minus the signed count on the right ray, so it is a property of the point, not of the ray. -/
theorem winding_left_eq_neg_right (q : P K) (pts : List (P K)) :
    ((subEdges pts).map (fun e => testSegment q e.1 e.2)).sum
      = - ((subEdges pts).map (fun e => rightSpec q e.1 e.2)).sum := by
  have h := edgeSum_add (testSegment q) (rightSpec q) (subEdges pts)
  rw [edgeSum_congr (h := lineCross q.y) (fun e _ => by rw [testSegment_spec, left_add_right])] at h
  exact eq_neg_of_add_eq_zero_left (h.symm.trans (crossing_telescopes q.y pts))

theorem windingAt_eq_sum (q : P K) (es : List (P K × P K)) :
    windingAt q es = edgeSum (testSegment q) es := by
  rw [windingAt, foldl_add, zero_add]; rfl

theorem windingAt_flip (q : P K) (es : List (P K × P K)) :
    windingAt q (es.map (fun e => (e.2, e.1))) = - windingAt q es := by
  rw [windingAt_eq_sum, windingAt_eq_sum]
  exact edgeSum_flip (testSegment q) (testSegment_flip q) es

/-- `q` is not on the segment's supporting line at its own height (in particular not on the segment) -/
def OffLine (q a b : P K) : Prop := a.y ≠ b.y → xline a b q.y ≠ q.x

theorem testSegment_eq_item (q a b : P K) (hoff : OffLine q a b) :
    testSegment q a b =
      match Slab.mkItem a b true 0 with
      | some it => if it.leftOf q then it.dir else 0
      | none => 0 := by
  rw [testSegment_spec, segSpec_eq]
  -- off the line, "at or left of `q`" is "left of `q`"
  have hle : a.y ≠ b.y → (xline a b q.y ≤ q.x ↔ xline a b q.y < q.x) :=
    fun h => ⟨fun h1 => lt_of_le_of_ne h1 (hoff h), le_of_lt⟩
  have hx : ∀ u v : P K, u.x + (v.x - u.x) * (q.y - u.y) / (v.y - u.y) = xline u v q.y := fun _ _ => rfl
  unfold Slab.mkItem
  rcases lt_trichotomy a.y b.y with h | h | h
  · simp only [if_pos h, Slab.Item.leftOf, Slab.Item.xAt, hx, inRow_of_lt h, dirn, hle h.ne,
      Bool.and_eq_true, decide_eq_true_eq, if_true]
  · simp only [h, lt_irrefl, if_false]
    exact if_neg fun c => c.1.ne h
  · simp only [if_neg h.not_gt, if_pos h, Slab.Item.leftOf, Slab.Item.xAt, hx, inRow_of_gt h, dirn,
      hle h.ne', xline_symm a b q.y h.ne', Bool.and_eq_true, decide_eq_true_eq, if_true]

/-- **Off the outline, lyon's winding number is the crossing sum the slab checker uses**:
for every polygonal outline and every point that is on none of the edges' lines at its height,
`path_winding_number_at_position` (model) equals `Slab.winding`. -/
theorem windingAt_eq_slab (q : P K) (es : List (P K × P K)) (hoff : ∀ e ∈ es, OffLine q e.1 e.2) :
    windingAt q es = Slab.winding es q := by
  rw [windingAt_eq_sum, Slab.winding, foldl_add, zero_add, Slab.edgeItems]
  induction es with
  | nil => rfl
  | cons e r ih =>
    have h1 := testSegment_eq_item q e.1 e.2 (hoff e (by simp))
    have h2 := ih (fun e' he' => hoff e' (List.mem_cons_of_mem _ he'))
    simp only [edgeSum, List.map_cons, List.sum_cons, List.filterMap_cons] at h2 ⊢
    rw [h1, h2]
    cases hm : Slab.mkItem e.1 e.2 true 0 with
    | none => simp
    | some it => by_cases hl : it.leftOf q = true <;> simp [hl]

/-- **The hit test's rule is the fill rule**: the `i32` match in `hit_test_path` (Rust `%`
truncates towards zero) and `FillRule::is_in` as evaluated by the fill checker agree on every
winding number, negative odd ones included. -/
theorem hitRule_eq_fillRule (w : Int) :
    hitRule true w = Slab.Rule.isIn .evenOdd w ∧ hitRule false w = Slab.Rule.isIn .nonZero w :=
  -- both remainders vanish exactly when `2 ∣ w`
  ⟨Bool.eq_iff_iff.mpr (by
    rw [hitRule, if_pos rfl, Slab.Rule.isIn, bne_iff_ne, bne_iff_ne, ne_eq, ne_eq,
      ← Int.dvd_iff_tmod_eq_zero, ← Int.dvd_iff_emod_eq_zero]), rfl⟩

/-- doubled shoelace sum over a list of directed edges -/
def shoelace (es : List (P K × P K)) : K := (es.map (fun e => e.1.x * e.2.y - e.2.x * e.1.y)).sum

theorem shoelace_eq_edgeSum (es : List (P K × P K)) : shoelace es = edgeSum cr es := rfl

theorem cr_antisymm (p q : P K) : cr q p = - cr p q := by unfold cr; ring

theorem areaLoop_chain (f v0 : P K) (acc : K) (r : List (P K)) :
    areaLoop f v0 acc r = acc + chain (fun a b => (a - f).cross (b - f)) ((f + v0) :: r) := by
  induction r generalizing v0 acc with
  | nil => simp [areaLoop, chain]
  | cons p r ih =>
    rw [areaLoop, ih, chain, show f + (p - f) = p by geom_ring, show f + v0 - f = v0 by geom_ring,
      add_assoc]

/-- **Signed area = half the shoelace sum of the closed outline** (implicit closing edge
included), for every polygonal sub-path. -/
theorem subArea_shoelace (pts : List (P K)) : subArea pts = shoelace (subEdges pts) / 2 := by
  cases pts with
  | nil => simp [subArea, shoelace, subEdges, geom]
  | cons f r =>
    have hclose : ∀ v : P K, (if r.isEmpty then (⟨Scalar.zero, Scalar.zero⟩ : P K) else v).cross v = 0 := by
      intro v; split <;> simp only [geom, Nat.cast_zero] <;> ring
    -- relative cross terms: zero on the closing edge, absolute ones plus an exact term elsewhere
    have h := edgeSum_add cr (fun a b => cr b f - cr a f) (subEdges (f :: r))
    rw [edgeSum_exact (fun p => cr p f), add_zero] at h
    rw [subArea, hclose, areaLoop_chain, show f + (⟨Scalar.zero, Scalar.zero⟩ : P K) = f by geom_ring,
      ← chain_snoc_zero _ f (fun a => by simp only [geom]; ring), ← subEdges_chain,
      shoelace_eq_edgeSum, ← h,
      edgeSum_congr (h := fun a b => cr a b + (cr b f - cr a f)) (fun e _ => by simp only [cr, geom]; ring)]
    simp only [geom, Nat.cast_zero, Nat.cast_ofNat, pow_one]; ring

theorem computeWinding_iff (pts : List (P K)) : computeWinding pts = true ↔ 0 < subArea pts := by
  cases pts with
  | nil => simp [computeWinding, subArea, geom]
  | cons f r =>
    unfold computeWinding subArea
    simp only [decide_eq_true_eq, geom, Nat.cast_zero]
    exact (mul_pos_iff_of_pos_right (by norm_num)).symm

theorem shoelace_flip (es : List (P K × P K)) : shoelace (es.map (fun e => (e.2, e.1))) = - shoelace es :=
  edgeSum_flip cr cr_antisymm es

theorem shoelace_translate (d : P K) (pts : List (P K)) :
    shoelace (subEdges (pts.map (fun p => p + d))) = shoelace (subEdges pts) := by
  rw [subEdges_map]
  -- translating an edge changes its cross term by the exact term of `p ↦ cr d p`
  have h := edgeSum_add cr (fun a b => cr d b - cr d a) (subEdges pts)
  rw [edgeSum_exact, add_zero] at h
  rw [shoelace_eq_edgeSum, shoelace_eq_edgeSum]
  rw [← h, edgeSum_map]
  exact edgeSum_congr (fun e _ => by simp only [cr, geom]; ring)

/-- the unit square `(0,0) (1,0) (1,1) (0,1)` has area 1.  (Not among the examples, but it evaluates so:
`path_winding_number_at_position` at its centre is −1, since of its two vertical edges only the downward one, at
`x = 0`, lies left of the centre; a sub-path that `compute_winding` calls `Positive` winds −1 for the hit test.) -/
example : subArea ([⟨0,0⟩, ⟨1,0⟩, ⟨1,1⟩, ⟨0,1⟩] : List (P ℚ)) = 1 := by
  rw [subArea_shoelace]; simp [shoelace, subEdges, subEdgesFrom]

example : OffLine (⟨1/2, 1/2⟩ : P ℚ) ⟨1, 0⟩ ⟨1, 1⟩ := by
  intro _; simp [xline]

end

end Lyon.C18
