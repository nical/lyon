/-
  C16c — tolerance and parameters at the level of a whole flattened PATH, with the
  concrete flatteners of lyon_geom (`Model/Path/AdaptersConcrete.lean`).

  "stays within the tolerance of the original":
     * `flatten_runs_per_curve_concrete`   the path built through `Flattened` is the original path
       with every curve event `(from, ctrl.., to)` — `from` being the TRUE previous endpoint —
       replaced by the chain through the points of lyon_geom's flattening of THAT curve at THE
       SAME tolerance; nothing else changes.
     * `flatten_within_tolerance_concrete` hence C09's per-curve tolerance statements apply to
       every curve of the path, with the path's tolerance (`is_linear_sound`,
       `quad_flat_within_tolerance_of_params`; the named gap of C09 — Levien's step estimate —
       remains a gap here).
     * `flatten_transform_similarity_concrete`  where the tolerance is applied: for an
       orientation-preserving similarity `m` of scale `s`, `Transformed` then `Flattened` at
       `s·tol` (target space) = `Flattened` at `tol` (source space) then `Transformed`, call for
       call, panic for panic — exact arithmetic, `sqrt (s·s·x) = s·sqrt x`
       (`…_iter_concrete`, `…_attr_concrete`: the same at iteration time and for
       `for_each_flattened`).  For other affine
       maps, or the same `tol` on both sides, the inserted points differ (only
       `nesting_orders_concrete` holds).
  "linearly interpolated (by curve parameter)":
     * `flatten_quad_attr_concrete` / `flatten_cubic_attr_concrete`  the `t` used for the
       interpolation is the flattener's reported `t.end`; these are strictly increasing, lie in
       `(0, 1]` and end with exactly 1, so the attributes run from the start endpoint's
       (exclusive) to exactly the end endpoint's, each component staying between the two
       (`interp_between`).
-/
import LyonVerif.Props.C16b
import LyonVerif.Lemmas.AdaptersConcretePath
import LyonVerif.Lemmas.AdaptersConcreteSim
import LyonVerif.Lemmas.AdaptersConcreteSimIter
import LyonVerif.Lemmas.AdaptersConcreteTC
import LyonVerif.Lemmas.AdaptersConcreteReal


namespace Lyon.C16
open Lyon Lyon.Path Lyon.Adapt Scalar Lyon.Flat

section field
variable {K : Type} [Field K] [LinearOrder K] [IsStrictOrderedRing K] [Transc K] [FlatConst K]

/-- for every well-nested program, the events denoted by
what `Flattened::new(inner, tol)` hands down are the events of the original program in which
each curve event `Quadratic{from, ctrl, to}` / `Cubic{…}` is replaced by the chain
`from → p₁ → … → to` through the `line.to`s of `for_each_flattened_with_t(tol)` on exactly that
curve (the adapter's `current_position` IS the event's `from`), and every other event is
unchanged.  So each run of lines between two original endpoints is lyon_geom's flattening of
the curve between them, at the tolerance given to the adapter. -/
theorem flatten_runs_per_curve_concrete (tol : K) (o : P K) (n : Nat)
    (prog out : List (Call (P K) (List K))) (hn : WellNested prog)
    (h : flatBuilderC tol o n prog = some out) :
    specEvents out = flatIter (cbPoints (cbModel tol)) (specEvents prog) := by
  obtain ⟨hok, rfl⟩ := flatBuilderC_some h
  rw [cbOkRun_eq, List.all_eq_true] at hok
  refine flatRun_events_on _ _ none prog hn (FlatB.init o n) (by simp) fun k hk =>
    ⟨?_, by cases k <;> rfl⟩
  obtain ⟨l, x, hl⟩ := (cbModel_on_chained tol k (hok k hk)).1
  exact ⟨l, x, _, hl⟩

/-- C09's tolerance statements, for every quadratic OF A
PATH flattened by the adapter, with the adapter's tolerance.  For a curve event
`Quadratic{a, c, b}` of the original path the adapter emits the chain through `l.map (·.b)`
(`flatten_runs_per_curve_concrete`) where `l` is lyon_geom's callback list, and
* if `is_linear` accepts the curve (and `to_u32 0 = 0`: `CountLaws`), `l` is the single segment
  `a → b` and EVERY point of the curve is within `tol` of it;
* every segment `sg ∈ l` whose parameter step satisfies `Δ⁴·|a − 2c + b|² ≤ 16·tol²` has the
  curve over its range within `tol` of it (that Levien's estimate produces such steps is C09's
  named gap, finding `approx-integral`). -/
theorem flatten_within_tolerance_concrete (L : CountLaws K) (tol : K) (o : P K) (n : Nat)
    (prog out : List (Call (P K) (List K))) (hn : WellNested prog)
    (h : flatBuilderC tol o n prog = some out) (a c b : P K)
    (hev : Event.quad a c b ∈ specEvents prog) :
    ∃ l : List (FlatSeg K), Quad.forEachFlattenedWithT ⟨a, c, b⟩ tol = some l ∧
      (cbPoints (cbModel tol)).quad a c b = l.map (·.b) ∧
      ((⟨a, c, b⟩ : Quad K).isLinear tol = true →
        l = [⟨a, b, zero, one⟩] ∧
        ∀ t, 0 ≤ t → t ≤ 1 → ∃ s, 0 ≤ s ∧ s ≤ 1 ∧
          ((⟨a, c, b⟩ : Quad K).sample t - a.lerp b s).sqLen ≤ tol * tol) ∧
      (∀ sg ∈ l, (sg.t1 - sg.t0) ^ 4 * ((a - c.smul 2) + b).sqLen ≤ 16 * (tol * tol) →
        ∀ s, 0 ≤ s → s ≤ 1 →
          ((⟨a, c, b⟩ : Quad K).sample (sg.t0 + s * (sg.t1 - sg.t0)) - sg.a.lerp sg.b s).sqLen
            ≤ tol * tol) := by
  have hok := (flatBuilderC_some h).1
  rw [cbOkRun_eq, curvesMet_spec none prog hn o (by simp), List.all_eq_true] at hok
  have hq := hok _ (mem_curvesOf_quad hev)
  simp only [cbOk, cbOkQuad, Option.isSome_iff_exists] at hq
  obtain ⟨l, hl⟩ := hq
  refine ⟨l, hl, by simp [cbPoints, cbModel, hl, segOf, Function.comp_def], ?_, ?_⟩
  · intro hlin
    constructor
    · have h0 : Transc.toNat (0 : K) = 0 := by simpa using L.toNat_natCast 0
      have : Quad.forEachFlattenedWithT (⟨a, c, b⟩ : Quad K) tol = some [⟨a, b, zero, one⟩] := by
        simp [Quad.forEachFlattenedWithT, FlatParams.new, hlin, FlatParams.linear, toU32, ofNat_eq,
          Quad.flatWith, h0, Quad.flatLoop]
      rw [this] at hl
      exact (Option.some.inj hl).symm
    · intro t ht0 ht1
      exact C09.is_linear_sound ⟨a, c, b⟩ tol t hlin ht0 ht1
  · intro sg hsg hstep s hs0 hs1
    exact C09.quad_flat_within_tolerance_of_params ⟨a, c, b⟩ tol l hl sg hsg hstep s hs0 hs1

/-- for an orientation-preserving similarity `m` of
scale `s > 0`, `builder.flattened(s·tol).transformed(m)` — the program is transformed first and
flattened in the target space at `s·tol` — hands down exactly the transformed calls of
`builder.transformed(m).flattened(tol)` — flattened in the source space at `tol`, then
transformed: same number of lines, same `t`s, same attributes, transformed positions; and one
panics iff the other does.  (In exact arithmetic, with `sqrt (s·s·x) = s·sqrt x`.) -/
theorem flatten_transform_similarity_concrete (hsq : SqrtScales K) (m : Xf K) (s : K)
    (hm : IsSim m s) (tol : K) (o : P K) (n : Nat) (prog : List (Call (P K) (List K))) :
    flatBuilderC (s * tol) (m.apply o) n (xfBuilder m.apply prog)
      = (flatBuilderC tol o n prog).map (xfBuilder m.apply) :=
  flatBuilderC_xf (hm.flatCommutes hsq) tol o n prog fun k _ => by cases k <;> simp [GenericCb]

/-- the same at iteration time: `events.transformed(m).flattened(s·tol)` =
`events.flattened(tol).transformed(m)`, event for event, with lyon_geom's `Flattened` iterators
(quadratic and cubic; same fuel; `none` iff `none`) -/
theorem flatten_transform_similarity_iter_concrete (hsq : SqrtScales K) (m : Xf K) (s : K)
    (hm : IsSim m s) (fuel : Nat) (tol : K) (evs : List (Event (P K))) :
    flatIterC fuel (s * tol) (xfIter m.apply evs)
      = (flatIterC fuel tol evs).map (xfIter m.apply) :=
  flatIterC_xf (hm.flatCommutes hsq) fuel tol evs fun k _ => by cases k <;> simp [GenericIt]

/-- Similarities and `for_each_flattened` over the stored path: transforming the path
(positions; attributes stay) and flattening at `s·tol` = flattening at `tol` and transforming the
callbacks, attributes included -/
theorem flatten_transform_similarity_attr_concrete (hsq : SqrtScales K) (m : Xf K) (s : K)
    (hm : IsSim m s) (tol : K) (aevs : List (Event (AP (P K) K))) :
    flatAttrIterC (s * tol) (aevs.map (mapEvent (mapAP m.apply)))
      = (flatAttrIterC tol aevs).map (List.map (mapEvent (mapAP m.apply))) :=
  flatAttrIterC_xf (hm.flatCommutes hsq) tol aevs fun k _ => by cases k <;> simp [GenericCb]

/-- the `t.end`s lyon_geom's callback flattener reports for a curve it does not panic on:
`0 < t₁ < t₂ < … < t_k = 1` (C09's monotonicity of `t_at_iteration`; for a cubic, range by range) -/
theorem cbModel_on_t (S : SqrtLaws K) (L : CeilLaws K) (tol : K) (k : Curve (P K))
    (hok : cbOk tol k = true) :
    IncrFrom 0 (((cbModel tol).on k).map (·.t)) ∧
    (((cbModel tol).on k).map (·.t)).getLastD 0 = 1 ∧
    (∀ g ∈ (cbModel tol).on k, 0 < g.t ∧ g.t ≤ 1) := by
  have key : IncrFrom 0 (((cbModel tol).on k).map (·.t)) ∧
      (((cbModel tol).on k).map (·.t)).getLastD 0 = 1 := by
    cases k with
    | quad a c b =>
      simp only [cbOk, cbOkQuad, Option.isSome_iff_exists] at hok
      obtain ⟨l, hl⟩ := hok
      rw [show ((cbModel tol).on (.quad a c b)).map (·.t) = l.map (·.t1) by
        simp [Flattener.on, cbModel, hl, segOf, Function.comp_def]]
      exact quad_flat_t_increasing S L ⟨a, c, b⟩ tol l hl
    | cubic a c d b =>
      simp only [cbOk, cbOkCubic, Option.isSome_iff_exists] at hok
      obtain ⟨l, hl⟩ := hok
      rw [show ((cbModel tol).on (.cubic a c d b)).map (·.t) = l.map (·.t1) by
        simp [Flattener.on, cbModel, hl, segOf, Function.comp_def]]
      exact cubic_flat_t_increasing S L ⟨a, c, d, b⟩ tol l hl
  exact ⟨key.1, key.2, fun g hg => incrFrom_range _ key.1 key.2 g.t (List.mem_map_of_mem hg)⟩

/-- one `quadratic_bezier_to(ctrl, to, a_to)` on `Flattened` in a
state whose `prev_attributes = a_from` (always the case: `flatten_attr_interp_concrete`): the
calls handed down are `line_to(pᵢ, (1−tᵢ)·a_from + tᵢ·a_to)` for the callbacks `(pᵢ, tᵢ)` of
lyon_geom's flattener on the curve from the current position, and `0 < t₁ < t₂ < … < t_k = 1`:
strictly increasing, all in `(0, 1]`, the last exactly 1 (so the last call carries exactly
`a_to`, `interp_one`). -/
theorem flatten_quad_attr_concrete (S : SqrtLaws K) (L : CeilLaws K) (tol : K)
    (s : FlatB (P K) K) (c p : P K) (a : List K) (hlen : s.prev.length = a.length)
    (hok : cbOkQuad tol s.cur c p = true) :
    (s.step (cbModel tol) (.quad c p a)).2
      = ((cbModel tol).quad s.cur c p).map (fun g => Call.line g.b (interp s.prev a g.t)) ∧
    IncrFrom 0 (((cbModel tol).quad s.cur c p).map (·.t)) ∧
    (((cbModel tol).quad s.cur c p).map (·.t)).getLastD 0 = 1 ∧
    (∀ g ∈ (cbModel tol).quad s.cur c p, 0 < g.t ∧ g.t ≤ 1) :=
  ⟨flatten_step_interp (cbModel tol) s c p a hlen, cbModel_on_t S L tol (.quad s.cur c p) hok⟩

/-- the same for `cubic_bezier_to` -/
theorem flatten_cubic_attr_concrete (S : SqrtLaws K) (L : CeilLaws K) (tol : K)
    (s : FlatB (P K) K) (c1 c2 p : P K) (a : List K) (hlen : s.prev.length = a.length)
    (hok : cbOkCubic tol s.cur c1 c2 p = true) :
    (s.step (cbModel tol) (.cubic c1 c2 p a)).2
      = ((cbModel tol).cubic s.cur c1 c2 p).map (fun g => Call.line g.b (interp s.prev a g.t)) ∧
    IncrFrom 0 (((cbModel tol).cubic s.cur c1 c2 p).map (·.t)) ∧
    (((cbModel tol).cubic s.cur c1 c2 p).map (·.t)).getLastD 0 = 1 ∧
    (∀ g ∈ (cbModel tol).cubic s.cur c1 c2 p, 0 < g.t ∧ g.t ≤ 1) :=
  ⟨by simp [FlatB.step, emitLines_eq_specLines _ _ _ hlen, specLines],
    cbModel_on_t S L tol (.cubic s.cur c1 c2 p) hok⟩

/-- whoever consumes them (`private::flatten_*` on the builder side,
`for_each_flattened` on the iterator side — `for_each_flattened_attr_interp` of `Props/C16.lean`
says the latter interpolates with the same `t`s), the `t.end`s lyon_geom's callback flattener
reports for a curve are `0 < t₁ < … < t_k = 1` -/
theorem cbModel_t_concrete (S : SqrtLaws K) (L : CeilLaws K) (tol : K) :
    (∀ a c b, cbOkQuad tol a c b = true →
      IncrFrom 0 (((cbModel tol).quad a c b).map (·.t)) ∧
      (((cbModel tol).quad a c b).map (·.t)).getLastD 0 = 1) ∧
    (∀ a c d b, cbOkCubic tol a c d b = true →
      IncrFrom 0 (((cbModel tol).cubic a c d b).map (·.t)) ∧
      (((cbModel tol).cubic a c d b).map (·.t)).getLastD 0 = 1) := by
  exact ⟨fun a c b hok => ⟨(cbModel_on_t S L tol (.quad a c b) hok).1,
      (cbModel_on_t S L tol (.quad a c b) hok).2.1⟩,
    fun a c d b hok => ⟨(cbModel_on_t S L tol (.cubic a c d b) hok).1,
      (cbModel_on_t S L tol (.cubic a c d b) hok).2.1⟩⟩

end field

section interp
variable {K : Type} [Field K] [LinearOrder K] [IsStrictOrderedRing K]

/-- for `t ∈ [0, 1]` every interpolated attribute lies between the
corresponding attributes of the two endpoints -/
theorem interp_between (fa ta : List K) (t : K) (h0 : 0 ≤ t) (h1 : t ≤ 1) :
    List.Forall₂ (fun (x : K) (fg : K × K) => Min.min fg.1 fg.2 ≤ x ∧ x ≤ Max.max fg.1 fg.2)
      (interp fa ta t) (fa.zip ta) := by
  rw [(interp_is_lerp fa ta t).1]
  induction fa generalizing ta with
  | nil => simp
  | cons f r ih =>
    cases ta with
    | nil => simp
    | cons g r' =>
      rw [List.zipWith_cons_cons, List.zip_cons_cons]
      refine List.Forall₂.cons ⟨?_, ?_⟩ (ih r')
      -- a convex combination of `f`, `g`: weigh `min ≤ f`, `min ≤ g` (resp. `max`) by `1 - t`, `t`
      · have h1t : 0 ≤ 1 - t := by linarith
        have a1 := mul_le_mul_of_nonneg_right (min_le_left f g) h1t
        have a2 := mul_le_mul_of_nonneg_right (min_le_right f g) h0
        have e : Min.min f g = Min.min f g * (1 - t) + Min.min f g * t := by ring
        linarith
      · have h1t : 0 ≤ 1 - t := by linarith
        have a1 := mul_le_mul_of_nonneg_right (le_max_left f g) h1t
        have a2 := mul_le_mul_of_nonneg_right (le_max_right f g) h0
        have e : Max.max f g = Max.max f g * (1 - t) + Max.max f g * t := by ring
        linarith

end interp

/-! ## Non-vacuity of the hypotheses

Over ℝ with the genuine `sqrt`/`ceil`/`floor` (`exRealTransc`, `exRealConst` of
`Lemmas/AdaptersConcreteReal.lean`): ALL the laws assumed above hold together there, on the
program `exProg` (`begin (0,0) [1]; quadratic_bezier_to (1,1/8) (2,0) [3]; line_to (3,0) [4];
end(close)`) at tolerance `1/10`. -/

section Examples
open Lyon.Flat
attribute [local instance 2000] fieldScalar

/-- hypotheses of `flatten_runs_per_curve_concrete` -/
example : WellNested (exProg (K := ℝ))
    ∧ ∃ out, @flatBuilderC ℝ _ exRealTransc exRealConst (1 / 10) ⟨0, 0⟩ 1 exProg = some out :=
  ⟨by simp [exProg, WellNested, wellNestedFrom], exBuilderOk exRealTransc exRealConst⟩

/-- hypotheses of `flatten_within_tolerance_concrete`: the laws, a curve event of the path, the
`is_linear` premise, and the step premise on the single segment `[0, 1]`
(`1⁴·|a − 2c + b|² = 1/16 ≤ 16/100`) -/
example : @CountLaws ℝ _ _ _ exRealTransc exRealConst
    ∧ Event.quad (⟨0, 0⟩ : P ℝ) ⟨1, 1 / 8⟩ ⟨2, 0⟩ ∈ specEvents (exProg (K := ℝ))
    ∧ (⟨⟨0, 0⟩, ⟨1, 1 / 8⟩, ⟨2, 0⟩⟩ : Quad ℝ).isLinear (1 / 10) = true
    ∧ ((1 : ℝ) - 0) ^ 4 * ((((⟨0, 0⟩ : P ℝ) - (⟨1, 1 / 8⟩ : P ℝ).smul 2) + ⟨2, 0⟩).sqLen)
        ≤ 16 * (1 / 10 * (1 / 10)) := by
  refine ⟨real_countLaws, by simp [exProg, specEvents, specFrom], exLinear, ?_⟩
  simp only [geom]; norm_num

/-- hypotheses of `flatten_transform_similarity_concrete` and
`flatten_transform_similarity_iter_concrete`, `flatten_transform_similarity_attr_concrete`:
`sqrt (s·s·x) = s·sqrt x` on ℝ and a similarity of scale 5 -/
example : @SqrtScales ℝ _ _ _ exRealTransc ∧ IsSim (⟨3, 4, -4, 3, 1, 2⟩ : Xf ℝ) 5 :=
  ⟨real_sqrtScales, exSim⟩

/-- hypotheses of `flatten_quad_attr_concrete` -/
example : @SqrtLaws ℝ _ _ _ exRealTransc exRealConst ∧ @CeilLaws ℝ _ _ _ exRealTransc exRealConst
    ∧ ([1] : List ℝ).length = ([3] : List ℝ).length
    ∧ @cbOkQuad ℝ _ exRealTransc exRealConst (1 / 10) ⟨0, 0⟩ ⟨1, 1 / 8⟩ ⟨2, 0⟩ = true :=
  ⟨real_sqrtLaws, real_ceilLaws, rfl,
   @cbOkQuad_of_isLinear ℝ _ _ _ exRealTransc exRealConst _ _ _ _ exLinear⟩

/-- hypothesis `cbOkCubic` of `flatten_cubic_attr_concrete`: a degenerate cubic (all four points
equal) has `num_quadratics = ceil 0 ⊔ 1 = 1` and its one quadratic is accepted by `is_linear` -/
example : @cbOkCubic ℝ _ exRealTransc exRealConst (1 / 10) ⟨0, 0⟩ ⟨0, 0⟩ ⟨0, 0⟩ ⟨0, 0⟩ = true :=
  exCbOkCubic

/-- hypotheses of `interp_between` -/
example : (0 : ℚ) ≤ 1 / 3 ∧ (1 / 3 : ℚ) ≤ 1 := by norm_num

end Examples

end Lyon.C16
