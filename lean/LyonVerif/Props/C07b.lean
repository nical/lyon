/-
  C07b - C07's record-level theorems lifted to the WHOLE modelled sweep.

  `Props/C07.lean` is about the edge-record operations (`Model/Tess/Sources.lean`); WHICH cut
  happens WHEN is outside it.  Here the object is the complete sweep model
  (`Model/Tess/Sweep.lean` + `EventQueue.lean`, tied bit-exactly to `FillTessellator` by C01's
  families `sweep:32` / `sweepc:32`, which compare every sibling record of every emitted vertex):
  an invariant on the sweep state (`Lemmas/SweepRepInv.lean`: queue records + active edges +
  pending edges + emitted records, on top of the structural well-formedness of the index-linked
  event queue, `Lemmas/SweepRepQueue.lean`) is shown to be preserved by every step function - on
  success and on failure (Hoare triples, `Lemmas/SweepRep{Steps,Active,Loop}.lean`) - and
  lifted through the fuel-bounded loop.  For every input, every outcome (`ok`, `Err`, `panic`,
  `unmodelled`, out of fuel: the prefix emitted before a failure is what the geometry builder saw).

  a. (discrete, ANY scalar type - `f32` with its NaNs, an ordered field, anything)
     * `sweep_sources_wellformed`      polygonal input, all five entry points: every record listed
                                       with an emitted vertex names endpoint ids handed out by the
                                       queue builder for this input (`u32::MAX` for the entry points
                                       without ids), and its id pair is the id pair of a record the
                                       builder stored (an edge `from → to` of the input, or an
                                       endpoint record `id, id`);
     * `sweep_impl_sources_from_queue` the same for `tessellate_impl` on any structurally well-formed
                                       queue;  `sweep_curves_sources_from_queue` and
                                       `sweep_curves_sources_wellformed` for curved input.
  b. (parameters) `sweep_records_range_partial` / `sweep_records_unit_partial`: every emitted record
     has both ends of its `t`-range in `[0,1]` (in the hull of the input records' ranges) - for every
     run that takes neither the `edge-split-at-vertex` nor the `coincident-split` branch.  ALL of
     `process_intersection` is covered without any hypothesis about the computed intersection:
     `handle_intersections` filters `0 < ta ≤ 1`, `0 < tb < tb_min ≤ 1` itself, so every cut-off part
     (straight, flipped, double flip, snapped by `is_near`, moved by the `next_after` fix-up, the
     intersection-at-current rewrite of `range.start`) gets `remap_t_in_range(t, range)` with `t` in
     `(0,1]` - a convex combination of the ends of the range of the record it descends from
     (`remap_between`).  Snapping changes positions, never parameters.
     `_partial` because of the two split branches.  Until lyon 96af7b62 their parameter `Sources.splitT`
     was NOT confined to `[0,1]` by the tests of the code - `is_edge_connecting` only requires the vertex
     to be within the tolerance of the edge, not between its ends (`split_parameter_not_confined_witness`:
     exact arithmetic, `t = 3/2`) - a genuine defect reachable end to end (`Props/C07c.lean`, finding
     `C07-split-parameter-beyond-edge-end`).  Since the fix (mirrored: `Sources.splitTAtVertex`, the guard
     `endsWithin`) the parameters ARE in `[0,1]` for a split point between the ends of the edge in sweep order
     (`C07c.split_edge_fixed_parameter_unit`, `merge_guard_parameter_unit`; unconditionally on the flat
     branch); the restriction stays because that hypothesis ("an active edge spans the current vertex in y")
     is proved to be kept by every step of an event and by the recovery (`Props/C07d.lean`:
     `event_keeps_span_and_unit`, `recover_keeps_span_and_unit`) but not yet by the advance to the next event
     (`SweepSpan.AdvOK`).
  c. (positions) NOT lifted to the whole sweep.  In exact arithmetic "the record's position is its source
     edge's point at the reported t" holds where `Props/C07.lean` proves it for the record operations
     (`rep_intersection`, `rep_intersection_below`, `rep_touch`: the cut point is the exact crossing;
     `rep_coincident`, `rep_split_at_vertex`: the vertex is exactly on the edge) and fails by design where
     the code moves a position without moving the parameter or accepts a nearby position: both `is_near`
     snaps and the `next_after` fix-up of `process_intersection` (bits 11, 12, 10), `split_edge` and the
     split of `merge_coincident_edges` for a vertex within the tolerance of - not on - the edge (bits 5, 7).
     Lifting the exact cases needs, beyond this file's invariant: a ghost source edge per record, the
     position of every queue index (the link updates keep them), that siblings share their position
     (sortedness of the index-linked list), that an active edge's `src_edge` is not shared when
     `process_intersection` rewrites `range.start` (bit 9), and `Seg.intersectionT`'s exactness
     (C12) through the loop of `handle_intersections`.
-/
import LyonVerif.Lemmas.SweepRepLoop
import LyonVerif.Lemmas.SweepRepBuild
import LyonVerif.Lemmas.SweepIdxZ
import LyonVerif.Props.C07
import LyonVerif.Lemmas.IxField  -- the instance `Sgn K` that `fieldWide` takes
import LyonVerif.Lemmas.Hull
import LyonVerif.Lemmas.RatField
import LyonVerif.Model.RatScalar

set_option linter.unusedSectionVars false
set_option linter.unusedVariables false

namespace Lyon.C07b
open Lyon Lyon.Scalar Lyon.Sweep Lyon.EQ Lyon.SweepRep

/-! ## a. endpoint ids (any scalar type) -/

section discrete
variable {α : Type} [Scalar α] [Wide α]

/-- `d` is a record listed with some emitted vertex (`FillVertex::sources()` reads exactly these) -/
def Emitted (out : Array (Emit α)) (d : EdgeData α) : Prop :=
  ∃ pos recs p, Emit.vertex pos recs ∈ out ∧ (p, d) ∈ recs

theorem closure_true : Closure (fun _ : α => True) (fun _ : α => True) := ⟨fun _ _ _ _ _ _ => trivial⟩

theorem wclosure_true : WClosure (α := α) (fun _ => True) (fun _ => True) :=
  ⟨trivial, fun _ _ _ _ => trivial, fun _ _ => trivial, fun _ _ _ => trivial⟩

/-- the general form for polygonal input: whatever predicate `IdP` on id pairs and `U` on parameters
holds for the records the queue builder stored (with `Closure` / `WClosure`: remapping a parameter
satisfying `V` stays in `U`, `handle_intersections`' filter implies `V`), holds for every emitted
record - the `U` part unless the run is tainted by a split branch -/
theorem tessellate_records (IdP : Nat → Nat → Prop) (U V : α → Prop) (M : Wide.W α → Prop) (hcl : Closure U V)
    (hw : WClosure V M) (entry : Entry) (rule : Slab.Rule) (horizontal : Bool) (tol : α) (handleIx : Bool)
    (subs : List (SubPath α))
    (hd : ∀ d ∈ (buildQueue entry horizontal subs).edgeData, DOk IdP U d) :
    OutOkR IdP U (tessellate entry rule horizontal tol handleIx subs).2.2
      (tessellate entry rule horizontal tol handleIx subs).2.1 := by
  refine tessellate_cases (fun r => OutOkR IdP U r.2.2 r.2.1) _ _ _ _ _ _ (by intro p r hm; simp at hm) ?_
  have hs := qok_sort (q := buildQueue entry horizontal subs) (by unfold buildQueue; exact qok_ofRecs _)
  exact tessellateImpl_records IdP U hcl hw _ hs (sort_edgeData (buildQueue entry horizontal subs) ▸ hd) _ _ _ _

theorem emitted_of_outOkR {IdP : Nat → Nat → Prop} {U : α → Prop} {c : Nat} {out : Array (Emit α)}
    (h : OutOkR IdP U c out) {d : EdgeData α} (hd : Emitted out d) : DOk IdP (Uc U c) d := by
  obtain ⟨pos, recs, p, hm, hr⟩ := hd
  exact h pos recs hm (p, d) hr

/-- **`sweep_sources_wellformed`** - every record listed with a vertex emitted by the modelled
`FillTessellator` on polygonal input (any of the five entry points, any fill rule, orientation,
tolerance, with or without intersection handling; any outcome) names endpoint ids that exist in the
input: `from_id` and `to_id` are ids the entry point handed to the queue builder for this very input
(`IdOk`: a member of `handedOut entry subs`; for the entry points without ids, `u32::MAX`), and the
pair `(from_id, to_id)` is the id pair of a record the builder stored for this input - an input edge
`from → to` (`is_edge`) or the endpoint record of a vertex (`from_id = to_id`).  Splits,
intersections and merges only ever copy the pair from an existing record. -/
theorem sweep_sources_wellformed (entry : Entry) (rule : Slab.Rule) (horizontal : Bool) (tol : α) (handleIx : Bool)
    (subs : List (SubPath α)) (d : EdgeData α)
    (hd : Emitted (tessellate entry rule horizontal tol handleIx subs).2.1 d) :
    IdOk entry subs d.fromId ∧ IdOk entry subs d.toId ∧
    ∃ d0 ∈ (buildQueue entry horizontal subs).edgeData, d0.fromId = d.fromId ∧ d0.toId = d.toId := by
  have h := tessellate_records
    (fun f t => IdOk entry subs f ∧ IdOk entry subs t ∧
      ∃ d0 ∈ (buildQueue entry horizontal subs).edgeData, d0.fromId = f ∧ d0.toId = t)
    (fun _ : α => True) (fun _ => True) (fun _ => True) closure_true wclosure_true entry rule horizontal tol handleIx subs
    (by
      intro d0 hd0
      have := buildQueue_recs (U := fun _ : α => True) entry horizontal subs trivial trivial d0 hd0
      exact ⟨⟨this.1, this.2.1, d0, hd0, rfl, rfl⟩, trivial, trivial⟩)
  exact (emitted_of_outOkR h hd).1

/-- **the same for `tessellate_impl` on ANY structurally well-formed event queue** (sorted or not): the
id pair of every emitted record is the id pair of a record of the queue -/
theorem sweep_impl_sources_from_queue (q : Queue α) (hq : QOk q) (rule : Slab.Rule) (horizontal : Bool) (tol : α)
    (handleIx : Bool) (d : EdgeData α) (hd : Emitted (tessellateImpl q rule horizontal tol handleIx).2.1 d) :
    ∃ d0 ∈ q.edgeData, d0.fromId = d.fromId ∧ d0.toId = d.toId := by
  have h := tessellateImpl_records (fun f t => ∃ d0 ∈ q.edgeData, d0.fromId = f ∧ d0.toId = t)
    (fun _ : α => True) closure_true wclosure_true q hq
    (fun d0 h0 => ⟨⟨d0, h0, rfl, rfl⟩, trivial, trivial⟩) rule horizontal tol handleIx
  exact (emitted_of_outOkR h hd).1

/-- **curved input** (`SweepCurves.tessellate`: quadratic / cubic edges flattened inside the queue
builder, all id modes): the id pair of every emitted record is the id pair of a record the builder
stored - for a piece of a flattened curve that is the pair `prev_endpoint_id → to_id` of the curve -/
theorem sweep_curves_sources_from_queue [Transc α] [FlatConst α] (mode : SweepCurves.IdMode) (rule : Slab.Rule)
    (horizontal : Bool) (tol : α) (handleIx : Bool) (cmds : List (SweepCurves.Cmd α)) (d : EdgeData α)
    (hd : Emitted (SweepCurves.tessellate mode rule horizontal tol handleIx cmds).1.2.1 d) :
    ∃ q0 ids, SweepCurves.buildQueue mode horizontal tol cmds = some (q0, ids) ∧
      ∃ d0 ∈ q0.edgeData, d0.fromId = d.fromId ∧ d0.toId = d.toId := by
  revert hd
  refine curves_tessellate_cases (fun r => Emitted r.1.2.1 d → _) mode rule horizontal tol handleIx cmds ?_ ?_ ?_
  · rintro ⟨_, _, _, hm, _⟩; simp at hm
  · rintro _ ⟨_, _, _, hm, _⟩; simp at hm
  · intro q0 ids hb hd
    have hs := qok_sort (curves_buildQueue_qok hb)
    obtain ⟨d0, hd0, e⟩ := sweep_impl_sources_from_queue q0.sort hs rule horizontal tol handleIx d hd
    exact ⟨q0, ids, hb, d0, sort_edgeData q0 ▸ hd0, e⟩

/-- **curved input, ids handed out**: for a command list that starts a sub-path with `begin` (path events
and `FillBuilder` calls always do), both ids of every emitted record are `u32::MAX` or endpoint ids the
entry point handed out (`SweepCurves.tessellate` returns them in command order) -/
theorem sweep_curves_sources_wellformed [Transc α] [FlatConst α] (mode : SweepCurves.IdMode) (rule : Slab.Rule)
    (horizontal : Bool) (tol : α) (handleIx : Bool) (cmds : List (SweepCurves.Cmd α))
    (hw : startsWithBegin cmds = true) (d : EdgeData α)
    (hd : Emitted (SweepCurves.tessellate mode rule horizontal tol handleIx cmds).1.2.1 d) :
    CS (SweepCurves.tessellate mode rule horizontal tol handleIx cmds).2 d.fromId ∧
    CS (SweepCurves.tessellate mode rule horizontal tol handleIx cmds).2 d.toId := by
  obtain ⟨q0, ids, hb, d0, hd0, e1, e2⟩ := sweep_curves_sources_from_queue mode rule horizontal tol handleIx cmds d hd
  have hids : (SweepCurves.tessellate mode rule horizontal tol handleIx cmds).2 = ids := by
    unfold SweepCurves.tessellate
    rw [hb]
    dsimp only
    split <;> rfl
  rw [hids, ← e1, ← e2]
  exact curves_buildQueue_recs mode horizontal tol cmds hw q0 ids hb d0 hd0

end discrete

/-! ## b. parameter ranges -/

section ranges
variable {α : Type} [Scalar α] [Wide α]

/-- the run took one of the two split branches: coverage bit 5 (`edge-split-at-vertex`, `split_edge` in
`process_edges_above`) or bit 7 (`coincident-split`, `merge_coincident_edges`).  The bound on their split
parameter needs an invariant that `SInv` does not carry (the edge spans the current vertex: `ActiveSpan`,
`Props/C07d.lean`), so the parameter claims of `SInv` are void for such a run -/
abbrev Tainted (cov : Nat) : Prop := Tnt cov

/-- **`sweep_records_range_partial`** (abstract form, any scalar type; the laws used are the
hypotheses): if `U` holds for `0`, `1` (the builder's parameters), remapping a cut parameter
satisfying `V` keeps `U` (`Closure`) and the filter of `handle_intersections` implies `V`
(`WClosure`), then both ends of the `t`-range of every record emitted by the modelled sweep on
polygonal input satisfy `U` - unless the run is `Tainted`.

`_partial`: runs through `split_edge` / the split of `merge_coincident_edges` are excluded
(`Tainted`; b. at the head of the file says which invariant is missing). -/
theorem sweep_records_range_partial (U V : α → Prop) (M : Wide.W α → Prop) (hcl : Closure U V) (hw : WClosure V M)
    (hz : U (zero : α)) (ho : U (one : α))
    (entry : Entry) (rule : Slab.Rule) (horizontal : Bool) (tol : α) (handleIx : Bool)
    (subs : List (SubPath α)) (d : EdgeData α)
    (hd : Emitted (tessellate entry rule horizontal tol handleIx subs).2.1 d)
    (hclean : ¬ Tainted (tessellate entry rule horizontal tol handleIx subs).2.2) :
    U d.t0 ∧ U d.t1 := by
  have h := tessellate_records (fun _ _ => True) U V M hcl hw entry rule horizontal tol handleIx subs
    (by
      intro d0 hd0
      have := buildQueue_recs (U := U) entry horizontal subs hz ho d0 hd0
      exact ⟨trivial, this.2.2.1, this.2.2.2⟩)
  have := emitted_of_outOkR h hd
  exact ⟨this.2.1.resolve_left hclean, this.2.2.resolve_left hclean⟩

/-- the same for `tessellate_impl` on any well-formed queue whose records satisfy `U` (curved input:
`U` has to hold for the flattening parameters the builder stored) -/
theorem sweep_impl_records_range_partial (U V : α → Prop) (M : Wide.W α → Prop) (hcl : Closure U V) (hw : WClosure V M)
    (q : Queue α) (hq : QOk q) (hU : ∀ d0 ∈ q.edgeData, U d0.t0 ∧ U d0.t1)
    (rule : Slab.Rule) (horizontal : Bool) (tol : α) (handleIx : Bool) (d : EdgeData α)
    (hd : Emitted (tessellateImpl q rule horizontal tol handleIx).2.1 d)
    (hclean : ¬ Tainted (tessellateImpl q rule horizontal tol handleIx).2.2) :
    U d.t0 ∧ U d.t1 := by
  have h := tessellateImpl_records (fun _ _ => True) U hcl hw q hq
    (fun d0 h0 => ⟨trivial, hU d0 h0⟩) rule horizontal tol handleIx
  have := emitted_of_outOkR h hd
  exact ⟨this.2.1.resolve_left hclean, this.2.2.resolve_left hclean⟩

open Std.Do in
/-- **`process_intersection` keeps the record invariant, every branch** (Hoare triple on the model's step
function; postcondition on success AND on failure): given cut parameters satisfying `V` and a pending
edge that is fine, afterwards the state invariant holds and the returned pending edge is fine -/
theorem process_intersection_keeps_records (IdP : Nat → Nat → Prop) (U V : α → Prop) (hcl : Closure U V)
    (ta tb : Wide.W α) (aei : Nat) (eb0 : PendingEdge α) (belowSeg : Seg (Wide.W α)) :
    ⦃fun s => ⌜SInv IdP U s ∧ BOk (Uc U s.cov) s.q.edgeData.size eb0 ∧ V (Wide.narrow ta) ∧ V (Wide.narrow tb)⌝⦄
    (processIntersection ta tb aei eb0 belowSeg : SM α (PendingEdge α))
    ⦃post⟨fun r s => ⌜SInv IdP U s ∧ BOk (Uc U s.cov) s.q.edgeData.size r⌝, fun _ s => ⌜SInv IdP U s⌝⟩⦄ :=
  processIntersection_spec IdP U hcl ta tb aei eb0 belowSeg

open Std.Do in
/-- **`handle_intersections` keeps the record invariant with NO hypothesis on the intersection routine**:
whatever `Seg.intersectionT` returns, the filter `tb < tb_min ∧ tb > 0 ∧ ta > 0 ∧ ta ≤ 1` of the loop
(with `tb_min` starting at `1`) hands `process_intersection` parameters satisfying `V` -/
theorem handle_intersections_keeps_records (IdP : Nat → Nat → Prop) (U V : α → Prop) (M : Wide.W α → Prop)
    (hcl : Closure U V) (hw : WClosure V M) (skipS skipE : Nat) :
    ⦃fun s => ⌜SInv IdP U s⌝⦄ (handleIntersectionsStep skipS skipE : SM α Unit)
    ⦃post⟨fun _ s => ⌜SInv IdP U s⌝, fun _ s => ⌜SInv IdP U s⌝⟩⦄ :=
  handleIntersectionsStep_spec IdP U hcl hw skipS skipE

end ranges

/-! ### the laws, over a linearly ordered field -/

section field
variable {K : Type} [Field K] [LinearOrder K] [IsStrictOrderedRing K]

/-- `remap_t_in_range(t, s..e)` with `t` in `[0,1]` lies between `s` and `e` (either orientation of
the range): the range of a record created by a cut lies in the range of the record it descends from -/
theorem remap_between (t s e : K) (h0 : 0 ≤ t) (h1 : t ≤ 1) :
    Min.min s e ≤ Sources.remapT t s e ∧ Sources.remapT t s e ≤ Max.max s e := by
  rw [C07.remapT_eq, show s + t * (e - s) = (1 - t) * s + t * e by ring]
  exact Hull.lerp_mem h0 h1 ⟨min_le_left _ _, le_max_left _ _⟩ ⟨min_le_right _ _, le_max_right _ _⟩

/-- parameters in `[lo, hi]` are kept by remapping with a cut parameter in `[0,1]` -/
theorem closure_interval (lo hi : K) :
    Closure (fun t : K => lo ≤ t ∧ t ≤ hi) (fun v : K => 0 ≤ v ∧ v ≤ 1) := by
  refine ⟨fun v s e hv hs he => ?_⟩
  have := remap_between v s e hv.1 hv.2
  exact ⟨le_trans (le_min hs.1 he.1) this.1, le_trans this.2 (max_le hs.2 he.2)⟩

/-- the canonical wide type over a field: the field itself (`f64 ⊇ f32` without rounding); the
remaining members are parameters (they are not used by the record theorems) -/
@[reducible] noncomputable def fieldWide (fmin eps : K) (nextUp sqrt : K → K) : Wide K where
  W := K
  scalarW := inferInstance
  sgnW := inferInstance
  widen := id
  narrow := id
  nextUp := nextUp
  fmin := fmin
  isNaN := fun _ => false
  sqrt := sqrt
  eps := eps

/-- what the range theorem needs from a `Wide K` instance: the wide type's `<`, `≤` are transitive
enough to inherit "at most one" and narrowing maps `(0, 1]` into `[0,1]` (monotone rounding that
fixes `0` and `1` - `f64 → f32` - does; the identity does) -/
def WideLaws (w : Wide K) : Prop :=
  ∃ M : w.W → Prop, @WClosure K w (fun v : K => 0 ≤ v ∧ v ≤ 1) M

theorem fieldWide_laws (fmin eps : K) (nextUp sqrt : K → K) :
    WideLaws (fieldWide fmin eps nextUp sqrt) := by
  refine Exists.intro (fun w : K => w ≤ 1) (@WClosure.mk K (fieldWide fmin eps nextUp sqrt) _ _ ?_ ?_ ?_ ?_)
  · show (Scalar.one : K) ≤ 1
    rw [C07.one_K]
  · intro (a : K) (b : K) (hab : a < b) (hb : b ≤ 1)
    exact le_trans (le_of_lt hab) hb
  · intro (a : K) (ha : a ≤ (Scalar.one : K))
    rw [C07.one_K] at ha
    exact ha
  · intro (w : K) (h0 : (Scalar.zero : K) < w) (h1 : w ≤ 1)
    rw [C07.zero_K] at h0
    exact ⟨le_of_lt h0, h1⟩

/-- **`sweep_records_unit_partial`** - over a linearly ordered field (exact arithmetic, exact
comparisons), for every polygonal input, every entry point, fill rule, orientation, tolerance, with
or without intersection handling and for every outcome: every record listed with an emitted vertex
has `0 ≤ range.start ≤ 1` and `0 ≤ range.end ≤ 1` (either orientation: an upward edge is stored with
the range `1..0`) - for every run that takes neither split branch.  No hypothesis about the computed
intersection parameters is needed. -/
theorem sweep_records_unit_partial [w : Wide K] (hW : WideLaws w)
    (entry : Entry) (rule : Slab.Rule) (horizontal : Bool) (tol : K) (handleIx : Bool)
    (subs : List (SubPath K)) (d : EdgeData K)
    (hd : Emitted (tessellate entry rule horizontal tol handleIx subs).2.1 d)
    (hclean : ¬ Tainted (tessellate entry rule horizontal tol handleIx subs).2.2) :
    (0 ≤ d.t0 ∧ d.t0 ≤ 1) ∧ (0 ≤ d.t1 ∧ d.t1 ≤ 1) := by
  obtain ⟨M, hw⟩ := hW
  exact sweep_records_range_partial (fun t : K => 0 ≤ t ∧ t ≤ 1) (fun v : K => 0 ≤ v ∧ v ≤ 1) M
    (closure_interval 0 1) hw (by simp) (by simp) entry rule horizontal tol handleIx subs d hd hclean

/-- **the range of a descendant lies in the hull of the input ranges** (`tessellate_impl` on any
well-formed queue, e.g. the queue of a curved path whose flattening parameters lie in `[lo, hi]`) -/
theorem sweep_impl_records_hull_partial [w : Wide K] (hW : WideLaws w) (lo hi : K)
    (q : Queue K) (hq : QOk q) (hU : ∀ d0 ∈ q.edgeData, (lo ≤ d0.t0 ∧ d0.t0 ≤ hi) ∧ (lo ≤ d0.t1 ∧ d0.t1 ≤ hi))
    (rule : Slab.Rule) (horizontal : Bool) (tol : K) (handleIx : Bool) (d : EdgeData K)
    (hd : Emitted (tessellateImpl q rule horizontal tol handleIx).2.1 d)
    (hclean : ¬ Tainted (tessellateImpl q rule horizontal tol handleIx).2.2) :
    (lo ≤ d.t0 ∧ d.t0 ≤ hi) ∧ (lo ≤ d.t1 ∧ d.t1 ≤ hi) := by
  obtain ⟨M, hw⟩ := hW
  exact sweep_impl_records_range_partial (fun t : K => lo ≤ t ∧ t ≤ hi) (fun v : K => 0 ≤ v ∧ v ≤ 1) M
    (closure_interval lo hi) hw q hq hU rule horizontal tol handleIx d hd hclean

/-- `solve_t_for_x` / `solve_t_for_y` in one coordinate (the model's `if`): a point between the ends, in either
order, has its parameter in `[0,1]`; a level segment gives `0` -/
theorem solveT_unit {a b c : K} (hc : (a ≤ c ∧ c ≤ b) ∨ (b ≤ c ∧ c ≤ a)) :
    0 ≤ (if b - a == (Scalar.zero : K) then (Scalar.zero : K) else (c - a) / (b - a)) ∧
      (if b - a == (Scalar.zero : K) then (Scalar.zero : K) else (c - a) / (b - a)) ≤ 1 := by
  split
  · rw [C07.zero_K]; exact ⟨le_refl _, zero_le_one⟩
  · rename_i hz
    have hab : a ≠ b := fun h0 => hz (by rw [C07.zero_K]; exact (sc_beq _ _).mpr (sub_eq_zero.mpr h0.symm))
    exact (Hull.param_unit_iff hab c).mpr (hc.elim
      (fun h => ⟨(min_le_left _ _).trans h.1, h.2.trans (le_max_right _ _)⟩)
      (fun h => ⟨(min_le_right _ _).trans h.1, h.2.trans (le_max_left _ _)⟩))

/-- `splitT_unit` for every edge, degenerate or not -/
theorem splitT_unit_all (a b c : P K)
    (hx : |b.y - a.y| < |b.x - a.x| → (a.x ≤ c.x ∧ c.x ≤ b.x) ∨ (b.x ≤ c.x ∧ c.x ≤ a.x))
    (hy : ¬ |b.y - a.y| < |b.x - a.x| → (a.y ≤ c.y ∧ c.y ≤ b.y) ∨ (b.y ≤ c.y ∧ c.y ≤ a.y)) :
    0 ≤ Sources.splitT a b c ∧ Sources.splitT a b c ≤ 1 := by
  unfold Sources.splitT
  split
  · rename_i h; exact solveT_unit (hx h)
  · rename_i h; exact solveT_unit (hy h)

/-- the split parameter is in `[0,1]` when the split point lies between the ends of the edge along
the larger extent of the edge (in particular for a point exactly on a non-degenerate edge) -/
theorem splitT_unit (a b c : P K) (hne : a ≠ b)
    (hx : |b.y - a.y| < |b.x - a.x| → (a.x ≤ c.x ∧ c.x ≤ b.x) ∨ (b.x ≤ c.x ∧ c.x ≤ a.x))
    (hy : ¬ |b.y - a.y| < |b.x - a.x| → (a.y ≤ c.y ∧ c.y ≤ b.y) ∨ (b.y ≤ c.y ∧ c.y ≤ a.y)) :
    0 ≤ Sources.splitT a b c ∧ Sources.splitT a b c ≤ 1 :=
  splitT_unit_all a b c hx hy

/-- the record `split_edge` pushes for the lower part (`{src with range.start := remap(splitT ..)}`)
and the record `merge_coincident_edges` inserts keep the range discipline whenever their split
parameter is in `[0,1]` -/
theorem split_records_range (lo hi t s e : K) (ht : 0 ≤ t ∧ t ≤ 1) (hs : lo ≤ s ∧ s ≤ hi) (he : lo ≤ e ∧ e ≤ hi) :
    lo ≤ Sources.remapT t s e ∧ Sources.remapT t s e ≤ hi :=
  (closure_interval lo hi).remap t s e ht hs he

end field

/-! ## witness and non-vacuity: kernel-evaluated runs of the model (exact rationals; exact integers) -/

section examples
open Lyon.SweepIdx (Z pz outcome)
attribute [local instance 2000] Lyon.instScalarRat

/-- exact rationals as the sweep's scalar AND wide type (computable: the kernel can run the model) -/
instance ratWide : Wide Rat where
  W := Rat
  scalarW := inferInstance
  sgnW := ⟨fun x => if x < 0 then -1 else 1⟩
  widen := id
  narrow := id
  nextUp a := a + 1 / 1000000
  fmin := -1000000000000
  isNaN := fun _ => false
  sqrt a := ((Nat.sqrt (a * 1000000).floor.toNat : Nat) : Rat) / 1000
  eps := 0

instance (c : Nat) : Decidable (Tainted c) :=
  inferInstanceAs (Decidable (c.testBit 5 = true ∨ c.testBit 7 = true))

def pq (x y : Int) : P Rat := ⟨(x : Rat), (y : Rat)⟩

/-- the id pairs of the records emitted by a run, vertex by vertex -/
def idPairs {α : Type} (out : Array (Emit α)) : List (List (Nat × Nat)) :=
  out.toList.filterMap fun e =>
    match e with
    | .vertex _ recs => some (recs.map fun r => (r.2.fromId, r.2.toId))
    | .tri _ _ _ => none

/-- the `t`-ranges of the records emitted by a run, vertex by vertex -/
def ranges (out : Array (Emit Rat)) : List (List (Rat × Rat)) :=
  out.toList.filterMap fun e =>
    match e with
    | .vertex _ recs => some (recs.map fun r => (r.2.t0, r.2.t1))
    | .tri _ _ _ => none

/-- what `idPairs` lists was emitted -/
theorem emitted_of_idPairs {α : Type} {out : Array (Emit α)} {l : List (Nat × Nat)} {a b : Nat}
    (hl : l ∈ idPairs out) (h : (a, b) ∈ l) : ∃ d, Emitted out d ∧ d.fromId = a ∧ d.toId = b := by
  unfold idPairs at hl
  obtain ⟨e, he, hx⟩ := List.mem_filterMap.mp hl
  cases e with
  | tri => cases hx
  | vertex pos recs =>
    cases hx
    obtain ⟨r, hr, e⟩ := List.mem_map.mp h
    cases e
    exact ⟨r.2, ⟨pos, recs, r.1, Array.mem_toList_iff.mp he, hr⟩, rfl, rfl⟩

/-- a state of the sweep in which the vertex `(10, 5)` is within the threshold `0.1` of the short
active edge `(9.97, 4.99) → (9.99, 5.005)` (record 0, range `0..1`, ids `7 → 8`) but beyond its lower
end in `x` -/
def witnessState : St Rat := {
  q := Queue.empty.pushUnsorted ⟨997/100, 499/100⟩ ⟨⟨999/100, 1001/200⟩, 0, 1, 1, true, 7, 8⟩
  curPos := ⟨10, 5⟩, curVertex := 1, curEvent := INVALID,
  active := #[⟨⟨997/100, 499/100⟩, ⟨999/100, 1001/200⟩, 1, false, 0, 0, 1⟩],
  below := #[], spans := #[], pool := [], rule := .nonZero, horizontal := false, tolerance := 1/10,
  handleIntersections := true, out := #[], nverts := 2 }

/-- **`split_parameter_not_confined_witness`** (exact rational arithmetic, the model's own functions
evaluated by the kernel): on this state the x-parameter alone would be `3/2`, `split_edge` pushes `2/3`,
and the run is tainted.  `is_edge_connecting` accepts the vertex `(10, 5)` as lying on the active edge
`(9.97, 4.99) → (9.99, 5.005)` - it is `0.017` to the right of the edge, within the threshold `0.1` - and
puts the edge into `edges_to_split` (clause 1); the split parameter along the larger (`x`) extent,
`Sources.splitT`, is `t = 3/2`: outside `[0,1]` (clause 2).  `split_edge` computes `Sources.splitTAtVertex`,
which takes the x-parameter only when it is in `[0,1]`: here it falls back to the parameter at the vertex's
own y, `(5 - 4.99)/0.015 = 2/3`, and pushes `range.start = 2/3` with the ids `7 → 8` of the source record
(clause 3; lyon before 96af7b62 pushed `3/2`: finding `C07-split-parameter-beyond-edge-end`, complete runs in
`Props/C07c.lean`).  The run is marked `Tainted` (bit 5; clause 4): the range theorems below exclude the split
branches, because on the y-branch the parameter is in `[0,1]` only for an active edge that spans the current
vertex in sweep order, which is kept by every step of an event (`Props/C07d.lean`) but not shown for the
advance to the next event (`SweepSpan.AdvOK`). -/
theorem split_parameter_not_confined_witness :
    (match witnessState.active[0]? with
     | some e => (match isEdgeConnecting witnessState.curPos witnessState.tolerance e with
                  | .ok (true, true) => true
                  | _ => false)
     | none => false) = true ∧
    Sources.splitT (⟨997/100, 499/100⟩ : P Rat) ⟨999/100, 1001/200⟩ ⟨10, 5⟩ = 3/2 ∧
    (((splitEdge 0).run.run witnessState).2.q.edgeData.back?.map fun d => (d.t0, d.t1, d.fromId, d.toId))
      = some (2/3, 1, 7, 8) ∧
    Tainted ((splitEdge 0).run.run witnessState).2.cov := by
  decide +kernel

/-- the state invariant (precondition of the step triples) holds in that state - with an active edge and a
stored record - and `split_edge` leaves it only through the taint -/
example : SInv (fun f t => f = 7 ∧ t = 8) (fun t : Rat => 0 ≤ t ∧ t ≤ 1) witnessState := by
  refine ⟨qok_pushUnsorted qok_empty _ _, Or.inl rfl, ?_, ?_, all_empty, ?_⟩
  · intro i hi
    have hi' : i < 1 := hi
    have h0 : i = 0 := by omega
    subst h0
    exact ⟨⟨rfl, rfl⟩, Or.inr (by show (0 : Rat) ≤ 0 ∧ (0 : Rat) ≤ 1; decide +kernel),
      Or.inr (by show (0 : Rat) ≤ 1 ∧ (1 : Rat) ≤ 1; decide +kernel)⟩
  · intro e he
    have : e = ⟨⟨997/100, 499/100⟩, ⟨999/100, 1001/200⟩, 1, false, 0, 0, 1⟩ := by
      simpa [witnessState] using he
    subst this
    exact ⟨by decide, Or.inr (by decide +kernel)⟩
  · intro p r hm
    simp [witnessState] at hm

/-- the laws hold for the computable rational instance too -/
theorem closure_rat : Closure (fun t : Rat => 0 ≤ t ∧ t ≤ 1) (fun v : Rat => 0 ≤ v ∧ v ≤ 1) := by
  have h := closure_interval (K := ℚ) 0 1
  rwa [← instScalarRat_eq_fieldScalar] at h

theorem wclosure_rat : WClosure (α := Rat) (fun v : Rat => 0 ≤ v ∧ v ≤ 1) (fun w : Rat => w ≤ 1) := by
  refine ⟨?_, ?_, ?_, ?_⟩
  · show ((1 : Nat) : Rat) ≤ 1
    simp
  · intro (a : Rat) (b : Rat) (hab : a < b) (hb : b ≤ 1)
    exact le_trans (le_of_lt hab) hb
  · intro (a : Rat) (ha : a ≤ ((1 : Nat) : Rat))
    show a ≤ 1
    simpa using ha
  · intro (w : Rat) (h0 : ((0 : Nat) : Rat) < w) (h1 : w ≤ 1)
    show (0 : Rat) ≤ w ∧ w ≤ 1
    exact ⟨le_of_lt (by simpa using h0), h1⟩

/-- the run on two crossing triangles through `tessellate_with_ids` (exact rationals), evaluated once: the
three examples below read their facts off it -/
theorem crossRun :
    let subs : List (SubPath Rat) := [([pq 0 0, pq 40 0, pq 20 40], true), ([pq 0 30, pq 20 (-10), pq 40 30], true)]
    let r := tessellate .ids .nonZero false (1 : Rat) true subs
    r.1.isNone = true ∧ handedOut .ids subs = [0, 1, 2, 4, 5, 6] ∧ ¬ Tainted r.2.2 ∧ r.2.2.testBit 8 = true ∧
    idPairs r.2.1 = [[(4, 5), (5, 6)], [(0, 1), (2, 0)], [(4, 5), (0, 1)], [(5, 6), (0, 1)], [(1, 2)], [(2, 0), (4, 5)],
      [(5, 6), (1, 2)], [(6, 4)], [(2, 0), (6, 4)], [(1, 2), (6, 4)], [(6, 6)], [(2, 2)]] ∧
    ranges r.2.1 = [[(1, 0), (0, 1)], [(0, 1), (1, 0)], [(3 / 4, 0), (3 / 8, 1)], [(1 / 4, 1), (5 / 8, 1)], [(0, 1)],
      [(5 / 8, 0), (3 / 8, 0)], [(5 / 8, 1), (3 / 8, 1)], [(1, 0)], [(1 / 4, 0), (5 / 8, 0)], [(3 / 4, 1), (3 / 8, 0)],
      [(0, 0)], [(0, 0)]] := by
  intro subs r
  decide +kernel

/-- **non-vacuity of a. and b.**: two crossing triangles through `tessellate_with_ids`, exact rationals.
The run is `ok`, takes the intersection branches (bits 8, 16) but no split branch; the six crossing
vertices list BOTH source edges; all ids are handed-out ids (`0 1 2` for the first sub-path, `4 5 6`
for the second: a closed sub-path stores its first point once more); all parameters are in `[0,1]`
(upward edges carry the range `1..0`) -/
example :
    let subs : List (SubPath Rat) := [([pq 0 0, pq 40 0, pq 20 40], true), ([pq 0 30, pq 20 (-10), pq 40 30], true)]
    let r := tessellate .ids .nonZero false (1 : Rat) true subs
    r.1.isNone = true ∧ handedOut .ids subs = [0, 1, 2, 4, 5, 6] ∧ ¬ Tainted r.2.2 ∧ r.2.2.testBit 8 = true ∧
    idPairs r.2.1 = [[(4, 5), (5, 6)], [(0, 1), (2, 0)], [(4, 5), (0, 1)], [(5, 6), (0, 1)], [(1, 2)], [(2, 0), (4, 5)],
      [(5, 6), (1, 2)], [(6, 4)], [(2, 0), (6, 4)], [(1, 2), (6, 4)], [(6, 6)], [(2, 2)]] ∧
    ranges r.2.1 = [[(1, 0), (0, 1)], [(0, 1), (1, 0)], [(3 / 4, 0), (3 / 8, 1)], [(1 / 4, 1), (5 / 8, 1)], [(0, 1)],
      [(5 / 8, 0), (3 / 8, 0)], [(5 / 8, 1), (3 / 8, 1)], [(1, 0)], [(1 / 4, 0), (5 / 8, 0)], [(3 / 4, 1), (3 / 8, 0)],
      [(0, 0)], [(0, 0)]] := crossRun

/-- `Emitted` is inhabited on that run: the first vertex lists the record of the edge `4 → 5` -/
example : ∃ d : EdgeData Rat, Emitted (tessellate .ids .nonZero false (1 : Rat) true
    [([pq 0 0, pq 40 0, pq 20 40], true), ([pq 0 30, pq 20 (-10), pq 40 30], true)]).2.1 d ∧ d.fromId = 4 ∧ d.toId = 5 :=
  emitted_of_idPairs (crossRun.2.2.2.2.1 ▸ List.mem_cons_self ..) List.mem_cons_self

/-- the range theorem applied to that run (hypotheses discharged: the laws by `closure_rat` /
`wclosure_rat`, the run is not tainted) -/
example (d : EdgeData Rat)
    (hd : Emitted (tessellate .ids .nonZero false (1 : Rat) true
      [([pq 0 0, pq 40 0, pq 20 40], true), ([pq 0 30, pq 20 (-10), pq 40 30], true)]).2.1 d) :
    (0 ≤ d.t0 ∧ d.t0 ≤ 1) ∧ (0 ≤ d.t1 ∧ d.t1 ≤ 1) := by
  refine sweep_records_range_partial (fun t : Rat => 0 ≤ t ∧ t ≤ 1) (fun v : Rat => 0 ≤ v ∧ v ≤ 1) (fun w : Rat => w ≤ 1)
    closure_rat wclosure_rat ?_ ?_ _ _ _ _ _ _ d hd crossRun.2.2.1
  · show (0 : Rat) ≤ ((0 : Nat) : Rat) ∧ ((0 : Nat) : Rat) ≤ 1
    simp
  · show (0 : Rat) ≤ ((1 : Nat) : Rat) ∧ ((1 : Nat) : Rat) ≤ 1
    simp

/-- the same input on the integer scalar `Z` (integer division: intersections are not found, the run
recovers from an order error and splits an edge at a vertex): tainted, and still every id is a
handed-out id - the id theorem needs no arithmetic law -/
example :
    let subs : List (SubPath Z) := [([pz 0 0, pz 40 0, pz 20 40], true), ([pz 0 30, pz 20 (-10), pz 40 30], true)]
    let r := tessellate .ids .nonZero false (⟨1⟩ : Z) true subs
    outcome r = "ok" ∧ Tainted r.2.2 ∧
    idPairs r.2.1 = [[(4, 5), (5, 6)], [(0, 1), (2, 0)], [(1, 2)], [(6, 4)], [(6, 6)], [(2, 2)]] := by
  intro subs r
  decide +kernel

/-- the hypothesis of `sweep_curves_sources_wellformed` holds for an ordinary curved sub-path -/
example : startsWithBegin [SweepCurves.Cmd.begin (pq 0 0), .quad (pq 1 2) (pq 2 0), .line (pq 1 (-1)), .end_ true] = true := rfl

/-- the structural invariant is not trivially true: a queue whose `first` points outside is rejected -/
example : ¬ QOk ({ events := #[], edgeData := #[], first := 3, sorted := true } : Queue Z) := by
  intro h
  rcases h.first with h | h
  · revert h; decide
  · simp at h

end examples

end Lyon.C07b
