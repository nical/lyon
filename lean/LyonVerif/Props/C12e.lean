/-
  C12 (part e) — segment × axis-aligned line, exact.

  `LineSegment::horizontal_line_intersection_t / vertical_line_intersection_t`
  (crates/geom/src/line.rs, via `axis_aligned_intersection_1d`) are the queries the hatcher and the
  clippers use against rows / columns.  The model functions `Seg.axis1d`,
  `Seg.horizontalLineIntersectionT`, `Seg.verticalLineIntersectionT` (Model/Geom/Intersect.lean) are
  run bit for bit against lyon by the C12 tie (family `seg`, token group `axis`).  Over any linearly
  ordered field, for ALL segments and ALL rows:

  * exactness: a parameter is returned iff the segment is not parallel to the line and the line's
    coordinate lies between the two end coordinates (closed range), and then it is THE parameter
    `(v − a)/(b − a)` — in [0,1], and the segment's coordinate at that parameter is exactly `v`
    (whichever way the segment runs: the `swap` of the code is transparent);
  * a segment parallel to the line (level for a row, vertical for a column) reports none, also when
    it lies ON the line ("parallel or overlapping segments report none").
-/
import LyonVerif.Model.Geom.Intersect
import LyonVerif.Lemmas.IxField
import LyonVerif.Lemmas.Hull
import Mathlib.Tactic.NormNum
import Mathlib.Tactic.FieldSimp
import Mathlib.Tactic.Linarith


namespace Lyon.C12
open Lyon Scalar
variable {K : Type} [Field K] [LinearOrder K] [IsStrictOrderedRing K]

/-- the un-swapped core on `a < b`: returns `d = (v-a)/(b-a)` (or `1-d`) iff `a ≤ v ≤ b` -/
theorem axis1dCore_some_iff (a b v : K) (swap : Bool) (hab : a < b) (t : K) :
    Seg.axis1dCore a b v swap = some t ↔
      (a ≤ v ∧ v ≤ b) ∧ t = (if swap then 1 - (v - a) / (b - a) else (v - a) / (b - a)) := by
  have hpos : 0 < b - a := sub_pos.mpr hab
  unfold Seg.axis1dCore
  rw [Option.ite_none_left_eq_some, Option.ite_none_left_eq_some, Option.some.injEq, sc_beq_zero,
    sc_zero_eq, sc_one_eq, not_or, not_lt, not_lt, le_div_iff₀ hpos, zero_mul, sub_nonneg, div_le_one hpos,
    sub_le_sub_iff_right]
  exact ⟨fun ⟨_, h, e⟩ => ⟨h, e.symm⟩, fun ⟨h, e⟩ => ⟨hpos.ne', h, e.symm⟩⟩

theorem axis1dCore_eq_none (a v : K) (swap : Bool) : Seg.axis1dCore a a v swap = none := by
  unfold Seg.axis1dCore
  rw [if_pos ((sc_beq_zero _).mpr (sub_self a))]

/-- **`axis_aligned_intersection_1d`, exact**: a parameter comes back iff the end coordinates
differ and `v` lies between them (closed), and it is `(v − a)/(b − a)` whichever way round -/
theorem axis1d_some_iff (a b v t : K) :
    Seg.axis1d a b v = some t ↔
      a ≠ b ∧ (Min.min a b ≤ v ∧ v ≤ Max.max a b) ∧ t = (v - a) / (b - a) := by
  unfold Seg.axis1d
  by_cases hgt : a > b
  · rw [if_pos hgt, axis1dCore_some_iff b a v true hgt t]
    have hne : a - b ≠ 0 := ne_of_gt (sub_pos.mpr hgt)
    have hne' : b - a ≠ 0 := by intro h; apply hne; linarith
    have e : 1 - (v - b) / (a - b) = (v - a) / (b - a) := by
      field_simp
      ring
    rw [min_eq_right (le_of_lt hgt), max_eq_left (le_of_lt hgt)]
    simp only [if_true, e]
    exact (and_iff_right (ne_of_gt hgt)).symm
  · rw [if_neg hgt]
    have hle : a ≤ b := not_lt.mp hgt
    rcases lt_or_eq_of_le hle with hlt | heq
    · rw [axis1dCore_some_iff a b v false hlt t, min_eq_left hle, max_eq_right hle]
      simp only [Bool.false_eq_true, if_false]
      exact (and_iff_right (ne_of_lt hlt)).symm
    · subst heq
      rw [axis1dCore_eq_none]
      exact ⟨nofun, fun h => absurd rfl h.1⟩

theorem axis1d_unit (a b v t : K) (h : Seg.axis1d a b v = some t) : 0 ≤ t ∧ t ≤ 1 := by
  obtain ⟨hne, hb, rfl⟩ := (axis1d_some_iff a b v t).mp h
  exact (Hull.param_unit_iff hne v).2 hb

theorem axis1d_locates (a b v t : K) (h : Seg.axis1d a b v = some t) : a * (1 - t) + b * t = v := by
  obtain ⟨hne, _, rfl⟩ := (axis1d_some_iff a b v t).mp h
  exact (Hull.lerp_solve (sub_ne_zero.mpr (Ne.symm hne)) v 0).1

/-- **row × segment, sound**: the reported parameter is in [0,1] and the segment's ordinate
there is exactly `y` -/
theorem horizontal_line_intersection_sound (s : Seg K) (y t : K)
    (h : s.horizontalLineIntersectionT y = some t) : (0 ≤ t ∧ t ≤ 1) ∧ s.y t = y := by
  unfold Seg.horizontalLineIntersectionT at h
  refine ⟨axis1d_unit _ _ _ _ h, ?_⟩
  have := axis1d_locates _ _ _ _ h
  unfold Seg.y; rw [sc_one_eq]; exact this

theorem vertical_line_intersection_sound (s : Seg K) (x t : K)
    (h : s.verticalLineIntersectionT x = some t) : (0 ≤ t ∧ t ≤ 1) ∧ s.x t = x := by
  unfold Seg.verticalLineIntersectionT at h
  refine ⟨axis1d_unit _ _ _ _ h, ?_⟩
  have := axis1d_locates _ _ _ _ h
  unfold Seg.x; rw [sc_one_eq]; exact this

/-- **row × segment, complete**: a segment that is not level and whose ordinates straddle `y`
(closed range) is reported, at the unique parameter -/
theorem horizontal_line_intersection_complete (s : Seg K) (y : K) (hne : s.a.y ≠ s.b.y)
    (hl : Min.min s.a.y s.b.y ≤ y) (hr : y ≤ Max.max s.a.y s.b.y) :
    s.horizontalLineIntersectionT y = some ((y - s.a.y) / (s.b.y - s.a.y)) := by
  unfold Seg.horizontalLineIntersectionT
  exact (axis1d_some_iff _ _ _ _).mpr ⟨hne, ⟨hl, hr⟩, rfl⟩

theorem vertical_line_intersection_complete (s : Seg K) (x : K) (hne : s.a.x ≠ s.b.x)
    (hl : Min.min s.a.x s.b.x ≤ x) (hr : x ≤ Max.max s.a.x s.b.x) :
    s.verticalLineIntersectionT x = some ((x - s.a.x) / (s.b.x - s.a.x)) := by
  unfold Seg.verticalLineIntersectionT
  exact (axis1d_some_iff _ _ _ _).mpr ⟨hne, ⟨hl, hr⟩, rfl⟩

/-- a level segment reports none against every row — also the row it lies on -/
theorem horizontal_line_intersection_level_none (s : Seg K) (y : K) (h : s.a.y = s.b.y) :
    s.horizontalLineIntersectionT y = none :=
  Option.eq_none_iff_forall_ne_some.mpr fun t hq => ((axis1d_some_iff _ _ _ t).mp hq).1 h

theorem vertical_line_intersection_vertical_none (s : Seg K) (x : K) (h : s.a.x = s.b.x) :
    s.verticalLineIntersectionT x = none :=
  Option.eq_none_iff_forall_ne_some.mpr fun t hq => ((axis1d_some_iff _ _ _ t).mp hq).1 h

theorem horizontal_line_intersection_outside_none (s : Seg K) (y : K)
    (h : y < Min.min s.a.y s.b.y ∨ Max.max s.a.y s.b.y < y) :
    s.horizontalLineIntersectionT y = none :=
  Option.eq_none_iff_forall_ne_some.mpr fun t hq => by
    obtain ⟨_, ⟨hl, hr⟩, _⟩ := (axis1d_some_iff _ _ _ t).mp hq
    exact h.elim (not_lt.mpr hl) (not_lt.mpr hr)

/-! non-vacuity -/
example : (⟨⟨0, 4⟩, ⟨2, 0⟩⟩ : Seg ℚ).horizontalLineIntersectionT 1 = some (3 / 4) := by
  rw [horizontal_line_intersection_complete _ _ (by norm_num) (by norm_num) (by norm_num)]
  norm_num
example : (⟨⟨0, 4⟩, ⟨2, 4⟩⟩ : Seg ℚ).horizontalLineIntersectionT 4 = none :=
  horizontal_line_intersection_level_none _ _ rfl

end Lyon.C12
