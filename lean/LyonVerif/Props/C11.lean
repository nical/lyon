/-
  C11 — bounding boxes and extrema are conservative and tight; monotone splits hold.

  All statements are about the model functions of `Model/Geom/Extrema.lean` (the same `def`s the
  correspondence check runs at `Float32`/`Float` against lyon) instantiated at an arbitrary linearly
  ordered field `K`.  `sqrt`, `sin`, `cos`, `tan`, `atan`, `fmod`, `π` are parameters; the laws used
  are hypotheses of the theorems that use them (the `sqrt` laws and `AngleLaws` have a satisfying instance
  in the examples at the end; the hypotheses on `sin`/`cos` of `arc_box_contains` and
  `arc_fast_box_contains` are discharged over ℝ in `Props/C11Real.lean`).  Helper lemmas are in
  `Lemmas/Extrema.lean`.

  Claimed for every control polygon and every `t ∈ [0,1]`: for quadratics and cubics the exact box
  contains the curve and is touched on all four sides at the reported parameters; the reported local
  extrema are interior critical points, and are all of them when the coordinate's derivative is not constant
  (a constant coordinate has every parameter critical and reports none); fast ⊇ exact; the monotone ranges partition
  `[0,1]`, each piece is monotone and retraces the curve.  For arcs: the emitted extremum parameters
  (both sweep signs), fast box and exact box.  For lines, triangles, `fit_box`/`fit_path` and the path
  folds of `aabb` (continued in `Props/C11b.lean`): the corresponding containments.

  Defects of lyon found by this check and repaired in /repo, so that the model mirrors the repaired
  code: 3f341fdf (arc extremum parameters for negative sweeps), c4f6194c (arc fast box rotated about
  the centre), 67fbe059 (cubic roots without cancellation), 821d0dd7 (cubic monotone pieces: only the
  end tangents are clamped).  The inputs that showed them are given in the section comments below.

  Not theorems: anything about IEEE rounding (oracle envelope).  Over an abstract field the
  ellipse's extremal angles enter `arc_box_contains` as a hypothesis; over ℝ they are proved
  (`Props/C11Real.lean`).
-/
import LyonVerif.Lemmas.Extrema
import LyonVerif.Props.C10
import Mathlib.Analysis.SpecialFunctions.Sqrt

set_option linter.unusedSectionVars false
set_option linter.unusedSimpArgs false
set_option linter.style.haveILetI false
set_option warn.classDefReducibility false

geom_all Lyon.Fit

namespace Lyon.C11

open Lyon

variable {K : Type} [Field K] [LinearOrder K] [IsStrictOrderedRing K]

/-- **Conservative.** The exact bounding box contains every point of the curve (`t ∈ [0,1]`). -/
theorem quad_box_contains (q : Quad K) (t : K) (h0 : 0 ≤ t) (h1 : t ≤ 1) :
    Box.Contains q.boundingBox (q.sample t) := by
  unfold Box.Contains
  rw [quad_sample_x, quad_sample_y]
  have hx := q1_range_contains q.a.x q.c.x q.b.x t h0 h1
  have hy := q1_range_contains q.a.y q.c.y q.b.y t h0 h1
  exact ⟨hx.1, hx.2, hy.1, hy.2⟩

/-- **Tight.** Each of the four sides of the exact box is touched by the curve, at the reported
extremum parameters, which lie in `[0,1]`. -/
theorem quad_box_touched (q : Quad K) :
    (0 ≤ q.xMinimumT ∧ q.xMinimumT ≤ 1 ∧ (q.sample q.xMinimumT).x = q.boundingBox.min.x) ∧
    (0 ≤ q.xMaximumT ∧ q.xMaximumT ≤ 1 ∧ (q.sample q.xMaximumT).x = q.boundingBox.max.x) ∧
    (0 ≤ q.yMinimumT ∧ q.yMinimumT ≤ 1 ∧ (q.sample q.yMinimumT).y = q.boundingBox.min.y) ∧
    (0 ≤ q.yMaximumT ∧ q.yMaximumT ≤ 1 ∧ (q.sample q.yMaximumT).y = q.boundingBox.max.y) := by
  obtain ⟨x1, x2, _⟩ := q1_range_critical q.a.x q.c.x q.b.x
  obtain ⟨y1, y2, _⟩ := q1_range_critical q.a.y q.c.y q.b.y
  exact ⟨⟨x2.1, x2.2, quad_sample_x q _⟩, ⟨x1.1, x1.2, quad_sample_x q _⟩,
    ⟨y2.1, y2.2, quad_sample_y q _⟩, ⟨y1.1, y1.2, quad_sample_y q _⟩⟩

/-- **Extremum parameters are where the coordinate is extremal** over the whole of `[0,1]`. -/
theorem quad_extremum_params_extremal (q : Quad K) (t : K) (h0 : 0 ≤ t) (h1 : t ≤ 1) :
    q.x q.xMinimumT ≤ q.x t ∧ q.x t ≤ q.x q.xMaximumT ∧
    q.y q.yMinimumT ≤ q.y t ∧ q.y t ≤ q.y q.yMaximumT :=
  ⟨(q1_range_contains _ _ _ t h0 h1).1, (q1_range_contains _ _ _ t h0 h1).2,
   (q1_range_contains _ _ _ t h0 h1).1, (q1_range_contains _ _ _ t h0 h1).2⟩

/-- a reported local extremum is an interior critical point of its coordinate -/
theorem quad_extremum_is_critical (q : Quad K) (t : K) :
    (q.localXExtremumT = some t → 0 < t ∧ t < 1 ∧ q.dx t = 0) ∧
    (q.localYExtremumT = some t → 0 < t ∧ t < 1 ∧ q.dy t = 0) := by
  rw [quad_dx_eq, quad_dy_eq]
  exact ⟨fun h => (q1_localExt_iff (q1_localExt_facts h).1).1 h, fun h => (q1_localExt_iff (q1_localExt_facts h).1).1 h⟩

/-- conversely every interior critical point of a genuinely quadratic coordinate is reported -/
theorem quad_critical_is_reported (q : Quad K) (t : K) (h0 : 0 < t) (h1 : t < 1) :
    (q.a.x - 2 * q.c.x + q.b.x ≠ 0 → q.dx t = 0 → q.localXExtremumT = some t) ∧
    (q.a.y - 2 * q.c.y + q.b.y ≠ 0 → q.dy t = 0 → q.localYExtremumT = some t) := by
  rw [quad_dx_eq, quad_dy_eq]
  exact ⟨fun hD hd => (q1_localExt_iff hD).2 ⟨h0, h1, hd⟩, fun hD hd => (q1_localExt_iff hD).2 ⟨h0, h1, hd⟩⟩

/-- the fast box (hull of the control points) contains the curve -/
theorem quad_fast_box_contains (q : Quad K) (t : K) (h0 : 0 ≤ t) (h1 : t ≤ 1) :
    Box.Contains q.fastBoundingBox (q.sample t) := by
  have hx := Hull.mem_hull3 q.a.x q.c.x q.b.x
  have hy := Hull.mem_hull3 q.a.y q.c.y q.b.y
  exact Hull.quad_mem (box_lerpClosed _) q h0 h1 (contains_of_coords hx.1 hy.1) (contains_of_coords hx.2.1 hy.2.1)
    (contains_of_coords hx.2.2 hy.2.2)

/-- `quad_box_touched` in the form the path level uses -/
theorem quad_sides_touched (q : Quad K) : SidesTouched q.boundingBox q.sample := by
  obtain ⟨⟨a1, a2, a3⟩, ⟨b1, b2, b3⟩, ⟨c1, c2, c3⟩, ⟨d1, d2, d3⟩⟩ := quad_box_touched q
  exact ⟨⟨_, a1, a2, a3⟩, ⟨_, b1, b2, b3⟩, ⟨_, c1, c2, c3⟩, ⟨_, d1, d2, d3⟩⟩

/-- **fast ⊇ exact**: the exact box is touched by the curve on all four sides, the fast box contains the curve -/
theorem quad_fast_contains_exact (q : Quad K) : Box.Inside q.boundingBox q.fastBoundingBox :=
  inside_of_touched (quad_sides_touched q) (quad_fast_box_contains q)

/-- **Monotone ranges partition `[0,1]`**: they abut, in order, from 0 to 1, each of positive length. -/
theorem quad_monotone_ranges_partition (q : Quad K) : Chain 0 q.monotonicRanges 1 :=
  (quad_ranges_spec q).1

/-- **Each piece is monotone**: on every reported range both `x` and `y` are monotone. -/
theorem quad_monotone_piece_monotone (q : Quad K) : ∀ r ∈ q.monotonicRanges,
    MonoOn q.x r.1 r.2 ∧ MonoOn q.y r.1 r.2 := by
  intro r hr
  obtain ⟨a0, _, a2, gx, gy⟩ := (quad_ranges_spec q).2 r hr
  exact ⟨q1_mono a0 a2 gx, q1_mono a0 a2 gy⟩

/-- **The control-point clamp is the identity** on the reported ranges (exact arithmetic): the
pieces handed out by `for_each_monotonic` are exactly `split_range` of the reported ranges. -/
theorem quad_clamp_noop (q : Quad K) :
    q.monotonicPieces = q.monotonicRanges.map (fun r => q.splitRange r.1 r.2) := by
  refine List.map_congr_left fun r hr => ?_
  obtain ⟨a0, a1, a2, gx, gy⟩ := (quad_ranges_spec q).2 r hr
  unfold Quad.clampXY
  rw [(quad_clamp_splitRange q a1.le).1 (q1_sign_const a0 a2 gx),
    (quad_clamp_splitRange q a1.le).2 (q1_sign_const a0 a2 gy)]

/-- **The pieces retrace the curve**: piece `r` sampled at `u` is the curve at `r.1 + (r.2-r.1)·u`
(all `u`). -/
theorem quad_pieces_retrace (q : Quad K) : ∀ r ∈ q.monotonicRanges, ∀ u : K,
    (Quad.clampXY (q.splitRange r.1 r.2)).sample u = q.sample (r.1 + (r.2 - r.1) * u) := by
  intro r hr u
  rw [List.map_inj_left.1 (quad_clamp_noop q) r hr, C10.quad_split_range_sample]

/-- `for_each_x_monotonic_range` / `for_each_y_monotonic_range`: the ranges partition `[0,1]` and
the coordinate is monotone on each -/
theorem quad_xy_monotone_ranges (q : Quad K) :
    (Chain 0 q.xMonotonicRanges 1 ∧ ∀ r ∈ q.xMonotonicRanges, MonoOn q.x r.1 r.2) ∧
    (Chain 0 q.yMonotonicRanges 1 ∧ ∀ r ∈ q.yMonotonicRanges, MonoOn q.y r.1 r.2) := by
  have sx := rangesAt_spec _ fun s h => quad_localExt_interior q s (Or.inl h)
  have sy := rangesAt_spec _ fun s h => quad_localExt_interior q s (Or.inr h)
  exact ⟨⟨sx.1, fun r hr => q1_mono (sx.2 r hr).1 (sx.2 r hr).2.2.1 (sx.2 r hr).2.2.2⟩,
    ⟨sy.1, fun r hr => q1_mono (sy.2 r hr).1 (sy.2 r hr).2.2.1 (sy.2 r hr).2.2.2⟩⟩

/-- `is_x_monotonic` / `is_y_monotonic` / `is_monotonic` are sound -/
theorem quad_is_monotonic_sound (q : Quad K) :
    (q.isXMonotonic = true → MonoOn q.x 0 1) ∧ (q.isYMonotonic = true → MonoOn q.y 0 1) ∧
    (q.isMonotonic = true → MonoOn q.x 0 1 ∧ MonoOn q.y 0 1) := by
  have hx : q.isXMonotonic = true → MonoOn q.x 0 1 := fun h =>
    q1_mono le_rfl le_rfl fun t ht => by
      rw [Quad.isXMonotonic, Quad.localXExtremumT, ht] at h; cases h
  have hy : q.isYMonotonic = true → MonoOn q.y 0 1 := fun h =>
    q1_mono le_rfl le_rfl fun t ht => by
      rw [Quad.isYMonotonic, Quad.localYExtremumT, ht] at h; cases h
  refine ⟨hx, hy, fun h => ?_⟩
  simp only [Quad.isMonotonic, Bool.and_eq_true] at h
  exact ⟨hx h.1, hy h.2⟩

theorem quad_split_eq_splitRange (q : Quad K) (t : K) :
    (q.split t).1 = q.splitRange 0 t ∧ (q.split t).2 = q.splitRange t 1 := by
  have e0 := (C10.quad_sample_ends q).1
  have e1 := (C10.quad_sample_ends q).2
  constructor
  · refine Quad.ext' e0.symm (C10.ext_coord fun i => ?_) rfl
    simp only [Quad.split, Quad.splitRange, e0, C10.coord_add, C10.coord_sub, C10.coord_smul, C10.coord_lerp,
      C10.coord_vlerp]
    ring
  · refine Quad.ext' rfl (C10.ext_coord fun i => ?_) e1.symm
    simp only [Quad.split, Quad.splitRange, Quad.sample, C10.coord_add, C10.coord_sub, C10.coord_smul,
      C10.coord_lerp, C10.coord_vlerp, ofNat_eq, Nat.cast_ofNat, Nat.cast_one]
    ring

/-- `for_each_x_monotonic` (which clamps `ctrl.x`) and `for_each_y_monotonic` hand out exactly the
`split_range` of their ranges: the clamp is the identity in exact arithmetic -/
theorem quad_xy_clamp_noop (q : Quad K) :
    q.xMonotonicPieces = q.xMonotonicRanges.map (fun r => q.splitRange r.1 r.2) ∧
    q.yMonotonicPieces = q.yMonotonicRanges.map (fun r => q.splitRange r.1 r.2) := by
  -- with no extremum the one piece is the curve itself
  have whole : q = q.splitRange 0 1 := by apply Quad.ext' <;> geom_ring
  constructor
  · unfold Quad.xMonotonicPieces Quad.xMonotonicRanges
    rcases hx : q.localXExtremumT with _ | t
    · simp only [Quad.rangesAt, List.map_cons, List.map_nil, Scalar.zero, Scalar.one, sc_zero, sc_one]
      rw [← whole]
    · obtain ⟨_, _, p0, p1⟩ := q1_localExt_facts hx
      have g : ∀ s, Quad1.localExt q.a.x q.c.x q.b.x = some s → s = t := fun s hs =>
        Option.some.inj (hs.symm.trans hx)
      simp only [Quad.rangesAt, List.map_cons, List.map_nil, Scalar.zero, Scalar.one, sc_zero, sc_one]
      rw [(quad_split_eq_splitRange q t).1, (quad_split_eq_splitRange q t).2]
      unfold Quad.clampX
      rw [(quad_clamp_splitRange q p0.le).1 (q1_sign_const le_rfl p1.le fun s hs => Or.inr (g s hs).ge),
        (quad_clamp_splitRange q p1.le).1 (q1_sign_const p0.le le_rfl fun s hs => Or.inl (g s hs).le)]
  · unfold Quad.yMonotonicPieces Quad.yMonotonicRanges
    rcases hy : q.localYExtremumT with _ | t
    · simp only [Quad.rangesAt, List.map_cons, List.map_nil, Scalar.zero, Scalar.one, sc_zero, sc_one]
      rw [← whole]
    · simp only [Quad.rangesAt, List.map_cons, List.map_nil, Scalar.zero, Scalar.one, sc_zero, sc_one]
      rw [(quad_split_eq_splitRange q t).1, (quad_split_eq_splitRange q t).2]

/-! ## Elliptic arcs

`sin`, `cos`, `tan`, `atan`, `fmod`, `π` are parameters (`[Transc K] [Atan K]`); the laws used are
hypotheses, all true of the real functions.

Two statements of this section were false of lyon before the fixes:
* centre (0,0), radii (10,10), start 1/2, sweep −2: `for_each_local_x_extremum_t` emitted
  `(2π − 1/2)/2 ≈ 2.89` instead of `1/4` and the box's `max.x` stayed below `x(1/4) = 10`.  Repaired by
  lyon commit 3f341fdf (`(two_pi − a) / abs_sweep`); see `arc_extremum_params`.
* centre (100,0), radii (10,5), quarter-turn rotation: fast box `(−5,90)–(5,110)` while the arc starts
  at `(100,10)`.  Repaired by lyon commit c4f6194c (rotate the radii box about the origin, then
  translate); see `arc_fast_box_contains`. -/

section arc

theorem foldl_minmax_spec (g : K → K) (l : List K) : ∀ r0 : K × K,
    (l.foldl (fun r t => (min r.1 (g t), max r.2 (g t))) r0).1 ≤ r0.1 ∧
    r0.2 ≤ (l.foldl (fun r t => (min r.1 (g t), max r.2 (g t))) r0).2 ∧
    ∀ t ∈ l, (l.foldl (fun r t => (min r.1 (g t), max r.2 (g t))) r0).1 ≤ g t ∧
      g t ≤ (l.foldl (fun r t => (min r.1 (g t), max r.2 (g t))) r0).2 := by
  induction l with
  | nil => intro r0; exact ⟨le_refl _, le_refl _, fun t ht => by cases ht⟩
  | cons s r ih =>
    intro r0
    rw [List.foldl_cons]
    obtain ⟨i1, i2, i3⟩ := ih (min r0.1 (g s), max r0.2 (g s))
    refine ⟨i1.trans (min_le_left _ _), (le_max_left _ _).trans i2, fun t ht => ?_⟩
    rcases List.mem_cons.1 ht with rfl | ht
    · exact ⟨i1.trans (min_le_right _ _), (le_max_right _ _).trans i2⟩
    · exact i3 t ht

/-- the (min, max) fold started, as `bounding_range_x` / `_y` do, from the two end values: the result bounds
the values at `0`, at `1` and at every list element -/
theorem minmax_fold_ends (g : K → K) (l : List K) :
    let r := l.foldl (fun r t => (min r.1 (g t), max r.2 (g t)))
      (emin (g Scalar.zero) (g Scalar.one), emax (g Scalar.zero) (g Scalar.one))
    (r.1 ≤ g 0 ∧ g 0 ≤ r.2) ∧ (r.1 ≤ g 1 ∧ g 1 ≤ r.2) ∧ ∀ t ∈ l, r.1 ≤ g t ∧ g t ≤ r.2 := by
  simp only [emin_eq, emax_eq, sc_zero_eq, sc_one_eq]
  obtain ⟨a, b, c⟩ := foldl_minmax_spec g l (min (g 0) (g 1), max (g 0) (g 1))
  exact ⟨⟨a.trans (min_le_left _ _), (le_max_left _ _).trans b⟩,
    ⟨a.trans (min_le_right _ _), (le_max_right _ _).trans b⟩, c⟩

variable [Transc K]

theorem two_pi_eq : (Scalar.two : K) * Transc.pi = tau := by
  simp only [Scalar.two, sc_two]; unfold tau; ring

/-- `Angle::positive` yields the representative in `[0, 2π)` as soon as `fmod x 2π` differs from `x` by a
multiple of `2π` and lies in `(−2π, 2π)`: C's truncating `fmod` and the floored one both do -/
theorem angleLaws_of_fmod (h3 : (3 : K) < Transc.pi) (h4 : Transc.pi < (4 : K))
    (hf : ∀ x : K, (-tau < Transc.fmod x tau ∧ Transc.fmod x tau < tau) ∧
      ∃ k : ℤ, Transc.fmod x tau = x + k * tau) : AngleLaws K := by
  have hpos : ∀ x : K, (0 ≤ Arc.positive x ∧ Arc.positive x < tau) ∧ ∃ k : ℤ, Arc.positive x = x + k * tau := by
    intro x
    obtain ⟨⟨b0, b1⟩, k, hk⟩ := hf x
    unfold Arc.positive
    simp only [Scalar.zero, sc_zero]
    split_ifs with hneg
    · exact ⟨⟨by linarith, by linarith⟩, k + 1, by rw [hk]; push_cast; ring⟩
    · exact ⟨⟨not_lt.1 hneg, b1⟩, k, hk⟩
  exact ⟨h3, h4, fun x => (hpos x).1, fun x => (hpos x).2⟩

/-- `for_each_extremum_inner` emits for both angles, whatever the order it puts them in -/
theorem mem_extremumInner (arc : Arc K) (a1 a2 t : K) :
    t ∈ arc.extremumInner a1 a2 ↔
      if 0 ≤ arc.sweep then
        t ∈ Arc.emitPos (Arc.positive (a1 - arc.start)) |arc.sweep| ∨
        t ∈ Arc.emitPos (Arc.positive (a2 - arc.start)) |arc.sweep|
      else
        t ∈ Arc.emitNeg (Arc.positive (a1 - arc.start)) |arc.sweep| tau ∨
        t ∈ Arc.emitNeg (Arc.positive (a2 - arc.start)) |arc.sweep| tau := by
  unfold Arc.extremumInner Arc.ordFst Arc.ordSnd
  simp only [sc_abs, two_pi_eq, ge_iff_le, Scalar.zero, sc_zero]
  split_ifs <;> simp only [List.mem_append]
  · exact or_comm
  · exact or_comm

/-- positive sweep: the parameter emitted for the angle `a` is where the arc's angle is `a` (mod `2π`) … -/
theorem emitPos_sound (L : AngleLaws K) (arc : Arc K) (a t : K) (hs : 0 < arc.sweep)
    (hm : t ∈ Arc.emitPos (Arc.positive (a - arc.start)) arc.sweep) :
    0 ≤ t ∧ t < 1 ∧ ∃ k : ℤ, arc.getAngle t = a + k * tau := by
  obtain ⟨k, hk⟩ := L.cong (a - arc.start)
  unfold Arc.emitPos at hm
  split_ifs at hm with hlt
  · obtain rfl := List.mem_singleton.1 hm
    refine ⟨div_nonneg (L.range _).1 hs.le, (div_lt_one hs).2 hlt, k, ?_⟩
    unfold Arc.getAngle
    rw [mul_div_cancel₀ _ hs.ne', hk]; ring
  · cases hm

/-- … and, for a sweep of at most one turn, every such parameter of `[0,1)` is emitted -/
theorem emitPos_complete (L : AngleLaws K) (arc : Arc K) (a t : K) (hs : 0 < arc.sweep)
    (hs2 : arc.sweep ≤ tau) (h0 : 0 ≤ t) (h1 : t < 1) (k : ℤ) (ha : arc.getAngle t = a + k * tau) :
    t ∈ Arc.emitPos (Arc.positive (a - arc.start)) arc.sweep := by
  have st1 : arc.sweep * t < arc.sweep := by have := mul_lt_mul_of_pos_left h1 hs; linarith
  have hp : Arc.positive (a - arc.start) = arc.sweep * t :=
    positive_unique L _ _ (mul_nonneg hs.le h0) (st1.trans_le hs2) k (by unfold Arc.getAngle at ha; linear_combination ha)
  unfold Arc.emitPos
  rw [hp, if_pos st1, List.mem_singleton, mul_div_cancel_left₀ _ hs.ne']

/-- negative sweep (true since lyon commit 3f341fdf): the same two facts -/
theorem emitNeg_sound (L : AngleLaws K) (arc : Arc K) (a t : K) (hs : arc.sweep < 0)
    (hm : t ∈ Arc.emitNeg (Arc.positive (a - arc.start)) (-arc.sweep) tau) :
    0 ≤ t ∧ t < 1 ∧ ∃ k : ℤ, arc.getAngle t = a + k * tau := by
  obtain ⟨k, hk⟩ := L.cong (a - arc.start)
  have hb1 := (L.range (a - arc.start)).2
  have hn : 0 < -arc.sweep := neg_pos.2 hs
  unfold Arc.emitNeg at hm
  split_ifs at hm with hgt
  · obtain rfl := List.mem_singleton.1 hm
    refine ⟨div_nonneg (by linarith) hn.le, (div_lt_one hn).2 (by linarith), k - 1, ?_⟩
    unfold Arc.getAngle
    rw [div_neg, mul_neg, mul_div_cancel₀ _ hs.ne, hk]; push_cast; ring
  · cases hm

theorem emitNeg_complete (L : AngleLaws K) (arc : Arc K) (a t : K) (hs : arc.sweep < 0)
    (hs2 : -tau ≤ arc.sweep) (h0 : 0 < t) (h1 : t < 1) (k : ℤ) (ha : arc.getAngle t = a + k * tau) :
    t ∈ Arc.emitNeg (Arc.positive (a - arc.start)) (-arc.sweep) tau := by
  have st0 : arc.sweep * t < 0 := mul_neg_of_neg_of_pos hs h0
  have st1 : arc.sweep < arc.sweep * t := by have := mul_lt_mul_of_neg_left h1 hs; linarith
  have hp : Arc.positive (a - arc.start) = tau + arc.sweep * t :=
    positive_unique L _ _ (by linarith) (by linarith) (k + 1)
      (by unfold Arc.getAngle at ha; push_cast; linear_combination ha)
  unfold Arc.emitNeg
  rw [hp, if_pos (by linarith : tau + arc.sweep * t > tau - -arc.sweep), List.mem_singleton,
    show tau - (tau + arc.sweep * t) = -arc.sweep * t by ring, mul_div_cancel_left₀ _ (neg_ne_zero.2 hs.ne)]

/-- positive sweep, soundness: every emitted parameter lies in `[0,1)` and its angle is `a1` or
`a2` up to a multiple of `2π` -/
theorem arc_extremum_params_pos_sound (L : AngleLaws K) (arc : Arc K) (a1 a2 : K) (hs : 0 < arc.sweep) :
    ∀ t ∈ arc.extremumInner a1 a2, 0 ≤ t ∧ t < 1 ∧
      ∃ k : ℤ, arc.getAngle t = a1 + k * tau ∨ arc.getAngle t = a2 + k * tau := by
  intro t ht
  rw [mem_extremumInner, if_pos hs.le, abs_of_pos hs] at ht
  rcases ht with ht | ht
  · obtain ⟨p, q, k, e⟩ := emitPos_sound L arc a1 t hs ht; exact ⟨p, q, k, Or.inl e⟩
  · obtain ⟨p, q, k, e⟩ := emitPos_sound L arc a2 t hs ht; exact ⟨p, q, k, Or.inr e⟩

/-- positive sweep `≤ 2π`, completeness: every `t ∈ [0,1)` whose angle is `a1` or `a2` (mod `2π`)
is emitted -/
theorem arc_extremum_params_pos_complete (L : AngleLaws K) (arc : Arc K) (a1 a2 : K)
    (hs : 0 < arc.sweep) (hs2 : arc.sweep ≤ tau) (t : K) (h0 : 0 ≤ t) (h1 : t < 1) (k : ℤ)
    (h : arc.getAngle t = a1 + k * tau ∨ arc.getAngle t = a2 + k * tau) :
    t ∈ arc.extremumInner a1 a2 := by
  rw [mem_extremumInner, if_pos hs.le, abs_of_pos hs]
  exact h.imp (emitPos_complete L arc a1 t hs hs2 h0 h1 k) (emitPos_complete L arc a2 t hs hs2 h0 h1 k)

/-- negative sweep, soundness (true since lyon commit 3f341fdf) -/
theorem arc_extremum_params_neg_sound (L : AngleLaws K) (arc : Arc K) (a1 a2 : K) (hs : arc.sweep < 0) :
    ∀ t ∈ arc.extremumInner a1 a2, 0 ≤ t ∧ t < 1 ∧
      ∃ k : ℤ, arc.getAngle t = a1 + k * tau ∨ arc.getAngle t = a2 + k * tau := by
  intro t ht
  rw [mem_extremumInner, if_neg (not_le.2 hs), abs_of_neg hs] at ht
  rcases ht with ht | ht
  · obtain ⟨p, q, k, e⟩ := emitNeg_sound L arc a1 t hs ht; exact ⟨p, q, k, Or.inl e⟩
  · obtain ⟨p, q, k, e⟩ := emitNeg_sound L arc a2 t hs ht; exact ⟨p, q, k, Or.inr e⟩

/-- negative sweep `≥ −2π`, completeness: every `t ∈ (0,1)` whose angle is `a1` or `a2` (mod `2π`)
is emitted -/
theorem arc_extremum_params_neg_complete (L : AngleLaws K) (arc : Arc K) (a1 a2 : K)
    (hs : arc.sweep < 0) (hs2 : -tau ≤ arc.sweep) (t : K) (h0 : 0 < t) (h1 : t < 1) (k : ℤ)
    (h : arc.getAngle t = a1 + k * tau ∨ arc.getAngle t = a2 + k * tau) :
    t ∈ arc.extremumInner a1 a2 := by
  rw [mem_extremumInner, if_neg (not_le.2 hs), abs_of_neg hs]
  exact h.imp (emitNeg_complete L arc a1 t hs hs2 h0 h1 k) (emitNeg_complete L arc a2 t hs hs2 h0 h1 k)

/-- **Arc extremum parameters, both sweep signs.**  For `sweep ≠ 0` every parameter emitted by
`for_each_extremum_inner(a1, a2)` lies in `[0,1)` and its angle is `a1` or `a2` up to a multiple of
`2π`; and for `|sweep| ≤ 2π` every `t ∈ (0,1)` with such an angle is emitted. -/
theorem arc_extremum_params (L : AngleLaws K) (arc : Arc K) (a1 a2 : K) (hs : arc.sweep ≠ 0) :
    (∀ t ∈ arc.extremumInner a1 a2, 0 ≤ t ∧ t < 1 ∧
      ∃ k : ℤ, arc.getAngle t = a1 + k * tau ∨ arc.getAngle t = a2 + k * tau) ∧
    (|arc.sweep| ≤ tau → ∀ t, 0 < t → t < 1 → ∀ k : ℤ,
      (arc.getAngle t = a1 + k * tau ∨ arc.getAngle t = a2 + k * tau) → t ∈ arc.extremumInner a1 a2) := by
  rcases lt_or_gt_of_ne hs with hneg | hpos
  · refine ⟨arc_extremum_params_neg_sound L arc a1 a2 hneg, fun hb t h0 h1 k h => ?_⟩
    exact arc_extremum_params_neg_complete L arc a1 a2 hneg (by rw [abs_of_neg hneg] at hb; linarith) t h0 h1 k h
  · refine ⟨arc_extremum_params_pos_sound L arc a1 a2 hpos, fun hb t h0 h1 k h => ?_⟩
    exact arc_extremum_params_pos_complete L arc a1 a2 hpos (by rw [abs_of_pos hpos] at hb; exact hb) t (le_of_lt h0) h1 k h

/-- `outer_transformed_box` contains the image of every point that is, coordinate by coordinate, a
convex combination of the sides of the box: an affine map sends `lerp` to `lerp`, a box is closed under
`lerp`, and `Box2D::from_points` holds the four corner images -/
theorem outerTransformedBox_contains (m : Xf K) (b : Box K) {u v : K} (hu : 0 ≤ u ∧ u ≤ 1)
    (hv : 0 ≤ v ∧ v ≤ 1) :
    Box.Contains (Arc.outerTransformedBox m b)
      (m.apply ⟨(1 - u) * b.min.x + u * b.max.x, (1 - v) * b.min.y + v * b.max.y⟩) := by
  have hpts := fromPoints_contains (m.apply b.min)
    [m.apply b.max, m.apply ⟨b.max.x, b.min.y⟩, m.apply ⟨b.min.x, b.max.y⟩]
  have e : (⟨(1 - u) * b.min.x + u * b.max.x, (1 - v) * b.min.y + v * b.max.y⟩ : P K) =
      (b.min.lerp ⟨b.max.x, b.min.y⟩ u).lerp ((⟨b.min.x, b.max.y⟩ : P K).lerp b.max u) v := by
    apply P.ext' <;> simp only [P.lerp, Scalar.one, sc_one] <;> ring
  have al : ∀ (p q : P K) (t : K), m.apply (p.lerp q t) = (m.apply p).lerp (m.apply q) t := fun p q t =>
    (C10.seg_transformed_sample ⟨p, q⟩ m t).symm
  have hB := box_lerpClosed (Arc.outerTransformedBox m b)
  rw [e, al, al, al]
  exact hB _ _ v hv.1 hv.2 (hB _ _ u hu.1 hu.2 (hpts _ (by simp)) (hpts _ (by simp)))
    (hB _ _ u hu.1 hu.2 (hpts _ (by simp)) (hpts _ (by simp)))

/-- **`fast_bounding_box` contains the arc — any rotation, any centre, any radii** (true since
lyon commit c4f6194c).  Only `|cos|, |sin| ≤ 1` at the sampled angle is used: the point
`(rx cos θ, ry sin θ)` is a bilinear combination of the four corners `(±rx, ±ry)`, the rotation is
linear, and `Box2D::from_points` bounds the four rotated corners. -/
theorem arc_fast_box_contains (arc : Arc K) (t : K)
    (hc : |Transc.cos (arc.getAngle t)| ≤ 1) (hs : |Transc.sin (arc.getAngle t)| ≤ 1) :
    Box.Contains arc.fastBoundingBox (arc.sample t) := by
  obtain ⟨c0, c1⟩ := abs_le.1 hc
  obtain ⟨s0, s1⟩ := abs_le.1 hs
  -- `(rx cos θ, ry sin θ)` divides the sides of the radii box `(−r, r)` in the ratios
  -- `(1 + cos θ)/2`, `(1 + sin θ)/2`
  have h := outerTransformedBox_contains (Arc.rotationXf arc.xrot)
    ⟨(⟨Scalar.zero, Scalar.zero⟩ : P K) - arc.radii, (⟨Scalar.zero, Scalar.zero⟩ : P K) + arc.radii⟩
    (u := (1 + Transc.cos (arc.getAngle t)) / 2) (v := (1 + Transc.sin (arc.getAngle t)) / 2)
    ⟨by linarith, by linarith⟩ ⟨by linarith, by linarith⟩
  have e : ∀ r w : K, (1 - (1 + w) / 2) * (0 - r) + (1 + w) / 2 * (0 + r) = r * w := fun r w => by ring
  simp only [P.sub_def, P.add_def, Scalar.zero, sc_zero, e, rotationXf_apply] at h
  simp only [Box.Contains, Arc.fastBoundingBox, Arc.translateBox, Arc.sample, Arc.sampleEllipse, P.add_def,
    P.sub_def, Scalar.zero, sc_zero]
  exact ⟨by linarith [h.1], by linarith [h.2.1], by linarith [h.2.2.1], by linarith [h.2.2.2]⟩

variable [Atan K]

theorem foldl_growX_spec (arc : Arc K) (l : List K) : ∀ r0 : K × K,
    (l.foldl arc.growX r0).1 ≤ r0.1 ∧ r0.2 ≤ (l.foldl arc.growX r0).2 ∧
    ∀ t ∈ l, (l.foldl arc.growX r0).1 ≤ (arc.sample t).x ∧ (arc.sample t).x ≤ (l.foldl arc.growX r0).2 :=
  foldl_minmax_spec (fun t => (arc.sample t).x) l

theorem foldl_growY_spec (arc : Arc K) (l : List K) : ∀ r0 : K × K,
    (l.foldl arc.growY r0).1 ≤ r0.1 ∧ r0.2 ≤ (l.foldl arc.growY r0).2 ∧
    ∀ t ∈ l, (l.foldl arc.growY r0).1 ≤ (arc.sample t).y ∧ (arc.sample t).y ≤ (l.foldl arc.growY r0).2 :=
  foldl_minmax_spec (fun t => (arc.sample t).y) l

/-- the bracket argument shared by both coordinates: a function that is monotone on every
parameter range free of the angles `a1`, `a2` (mod `2π`) is bounded on `[0,1]` by its values at
`0`, `1` and at the emitted parameters -/
theorem arc_coord_bounded (L : AngleLaws K) (arc : Arc K) (a1 a2 : K) (hs : arc.sweep ≠ 0)
    (hb : |arc.sweep| ≤ tau) (f : K → K)
    (hm : ∀ lo hi, 0 ≤ lo → lo ≤ hi → hi ≤ 1 →
      (∀ s, lo < s → s < hi → ∀ k : ℤ, ¬ (arc.getAngle s = a1 + k * tau ∨ arc.getAngle s = a2 + k * tau)) →
      MonoOn f lo hi)
    (m M : K) (h0 : m ≤ f 0 ∧ f 0 ≤ M) (h1 : m ≤ f 1 ∧ f 1 ≤ M)
    (hl : ∀ s ∈ arc.extremumInner a1 a2, m ≤ f s ∧ f s ≤ M)
    (t : K) (ht0 : 0 ≤ t) (ht1 : t ≤ 1) : m ≤ f t ∧ f t ≤ M := by
  refine bounded_of_mono_between f (arc.extremumInner a1 a2) 0 1 (fun lo hi l0 lh h1 free => ?_) h0 h1
    (fun s hs _ _ => hl s hs) t ht0 ht1
  -- an angle `a1`, `a2` (mod `2π`) strictly inside the range would have been emitted
  refine hm lo hi l0 lh h1 fun s p q k hk => ?_
  rcases free s ((arc_extremum_params L arc a1 a2 hs).2 hb s (l0.trans_lt p) (q.trans_le h1) k hk) with c | c
  · exact absurd c (not_le.2 p)
  · exact absurd c (not_le.2 q)

/-- **The exact bounding box of an arc contains the arc — both sweep signs** (`0 < |sweep| ≤ 2π`).
The ellipse enters through one hypothesis per coordinate, characterising the extremal angles: the
coordinate of `sample` is monotone on every parameter range that avoids the angles
`x_ext_angle`, `π + x_ext_angle` (resp. the y ones) modulo `2π` in its interior — for the real
ellipse this is `dx/dθ = 0 ⇔ tan θ = −(ry/rx) tan φ`.  (Before lyon commit 3f341fdf the statement
was false for negative sweeps.) -/
theorem arc_box_contains (L : AngleLaws K) (arc : Arc K) (hs : arc.sweep ≠ 0) (hb : |arc.sweep| ≤ tau)
    (hmx : ∀ lo hi, 0 ≤ lo → lo ≤ hi → hi ≤ 1 →
      (∀ s, lo < s → s < hi → ∀ k : ℤ, ¬ (arc.getAngle s = arc.xExtAngle + k * tau ∨
        arc.getAngle s = (Transc.pi + arc.xExtAngle) + k * tau)) →
      MonoOn (fun s => (arc.sample s).x) lo hi)
    (hmy : ∀ lo hi, 0 ≤ lo → lo ≤ hi → hi ≤ 1 →
      (∀ s, lo < s → s < hi → ∀ k : ℤ, ¬ (arc.getAngle s = arc.yExtAngle + k * tau ∨
        arc.getAngle s = (Transc.pi + arc.yExtAngle) + k * tau)) →
      MonoOn (fun s => (arc.sample s).y) lo hi)
    (t : K) (h0 : 0 ≤ t) (h1 : t ≤ 1) : Box.Contains arc.boundingBox (arc.sample t) := by
  obtain ⟨x0, x1, xl⟩ := minmax_fold_ends (fun s => (arc.sample s).x) arc.localXExtremaT
  obtain ⟨y0, y1, yl⟩ := minmax_fold_ends (fun s => (arc.sample s).y) arc.localYExtremaT
  exact contains_of_coords (arc_coord_bounded L arc _ _ hs hb _ hmx _ _ x0 x1 xl t h0 h1)
    (arc_coord_bounded L arc _ _ hs hb _ hmy _ _ y0 y1 yl t h0 h1)

end arc

/-! ## Cubic Bézier segments

Two defects of lyon were found here and repaired:
* `for_each_monotonic` clamped both control points into the coordinate range of the piece's
  endpoints; the monotone cubic `(0,0) (1,1) (−1,2) (4,3)` came out with `ctrl2.x = 0` instead of `−1`
  (at `u = 1/2`: `x = 7/8` instead of `1/2`).  Repaired by lyon commit 821d0dd7 (only the end tangents
  are clamped); see `cubic_clamp_noop` / `cubic_pieces_retrace`.
* the root formula `(−b ∓ √d)/(2a)` cancelled in floating point for `|4ac| ≪ b²` (correct in exact
  arithmetic).  Repaired by lyon commit 67fbe059 (`q = −(b + sgn(b)√d)/2`, roots `q/a`, `c/q`);
  `cubic_root_form` states that these are the same two roots and `cubic_critical_roots` is proved for
  that form. -/

/-- the fast box (hull of the control points) contains the curve -/
theorem cubic_fast_box_contains [Transc K] (c : Cubic K) (t : K) (h0 : 0 ≤ t) (h1 : t ≤ 1) :
    Box.Contains c.fastBoundingBox (c.sample t) := by
  have hx := Hull.mem_hull4 c.a.x c.c1.x c.c2.x c.b.x
  have hy := Hull.mem_hull4 c.a.y c.c1.y c.c2.y c.b.y
  exact Hull.cubic_mem (box_lerpClosed _) c h0 h1 (contains_of_coords hx.1 hy.1) (contains_of_coords hx.2.1 hy.2.1)
    (contains_of_coords hx.2.2.1 hy.2.2.1) (contains_of_coords hx.2.2.2 hy.2.2.2)

section roots

variable [Transc K]

/-- **The repaired root form gives the same two roots**: with `s = √d > 0`, `s² = b² − 4ac`,
`a ≠ 0`, the value `q = −(b + sgn(b)·s)/2` is non-zero and `{q/a, c/q} = {(−b−s)/(2a), (−b+s)/(2a)}`. -/
theorem cubic_root_form (a b c s : K) (ha : a ≠ 0) (hs : s * s = b * b - 4 * a * c) (hpos : 0 < s) :
    Cubic1.rootQ b s ≠ 0 ∧
    ((Cubic1.rootQ b s / a = (-b - s) / (2 * a) ∧ c / Cubic1.rootQ b s = (-b + s) / (2 * a)) ∨
     (Cubic1.rootQ b s / a = (-b + s) / (2 * a) ∧ c / Cubic1.rootQ b s = (-b - s) / (2 * a))) :=
  rootQ_roots a b c s ha hs hpos

/-- **Cubic critical parameters are roots of the derivative**: a parameter is reported by
`for_each_local_x_extremum_t` iff it lies in `(0,1)` and `dx` vanishes there (for a coordinate
whose derivative is not constant); likewise for `y`.  Hypotheses on `sqrt`:
`√d·√d = d` and `√d ≥ 0` for `d ≥ 0`. -/
theorem cubic_critical_roots (hsq : ∀ d : K, 0 ≤ d → Transc.sqrt d * Transc.sqrt d = d)
    (hs0 : ∀ d : K, 0 ≤ d → 0 ≤ Transc.sqrt d) (c : Cubic K) (t : K) :
    ((Cubic1.ca c.a.x c.c1.x c.c2.x c.b.x ≠ 0 ∨ Cubic1.cb c.a.x c.c1.x c.c2.x ≠ 0) →
      (t ∈ c.localXExtremaT ↔ (0 < t ∧ t < 1 ∧ c.dx t = 0))) ∧
    ((Cubic1.ca c.a.y c.c1.y c.c2.y c.b.y ≠ 0 ∨ Cubic1.cb c.a.y c.c1.y c.c2.y ≠ 0) →
      (t ∈ c.localYExtremaT ↔ (0 < t ∧ t < 1 ∧ c.dy t = 0))) := by
  constructor <;> intro h
  · rw [cubic_dx_eq]; exact (c1_extremaOf_iff hsq hs0 _ _ _ t).trans (and_iff_right h)
  · rw [cubic_dy_eq]; exact (c1_extremaOf_iff hsq hs0 _ _ _ t).trans (and_iff_right h)

/-- reported parameters are interior critical points, with no side condition -/
theorem cubic_extremum_is_critical (hsq : ∀ d : K, 0 ≤ d → Transc.sqrt d * Transc.sqrt d = d)
    (hs0 : ∀ d : K, 0 ≤ d → 0 ≤ Transc.sqrt d) (c : Cubic K) (t : K) :
    (t ∈ c.localXExtremaT → 0 < t ∧ t < 1 ∧ c.dx t = 0) ∧
    (t ∈ c.localYExtremaT → 0 < t ∧ t < 1 ∧ c.dy t = 0) := by
  constructor <;> intro h
  · rw [cubic_dx_eq]; exact ((c1_extremaOf_iff hsq hs0 _ _ _ t).1 h).2
  · rw [cubic_dy_eq]; exact ((c1_extremaOf_iff hsq hs0 _ _ _ t).1 h).2

end roots

section cubicranges

variable [Transc K]

/-- **Conservative.**  The exact bounding box of a cubic contains every point of the curve
(`t ∈ [0,1]`): between consecutive critical parameters the derivative keeps its sign (its roots in
`(0,1)` are reported), so by Simpson's identity the coordinate is monotone there and bounded by
its values at the neighbouring critical parameters / ends, all of which the box contains. -/
theorem cubic_box_contains (hsq : ∀ d : K, 0 ≤ d → Transc.sqrt d * Transc.sqrt d = d)
    (hs0 : ∀ d : K, 0 ≤ d → 0 ≤ Transc.sqrt d) (c : Cubic K) (t : K) (h0 : 0 ≤ t) (h1 : t ≤ 1) :
    Box.Contains c.boundingBox (c.sample t) := by
  unfold Box.Contains
  rw [cubic_sample_x, cubic_sample_y]
  have hx := c1_range_contains hsq hs0 c.a.x c.c1.x c.c2.x c.b.x t h0 h1
  have hy := c1_range_contains hsq hs0 c.a.y c.c1.y c.c2.y c.b.y t h0 h1
  exact ⟨hx.1, hx.2, hy.1, hy.2⟩

/-- **Tight.**  Each side of the exact box is touched by the curve at the reported extremum
parameter, which lies in `[0,1]`. -/
theorem cubic_box_touched (c : Cubic K) :
    (0 ≤ c.xMinimumT ∧ c.xMinimumT ≤ 1 ∧ (c.sample c.xMinimumT).x = c.boundingBox.min.x) ∧
    (0 ≤ c.xMaximumT ∧ c.xMaximumT ≤ 1 ∧ (c.sample c.xMaximumT).x = c.boundingBox.max.x) ∧
    (0 ≤ c.yMinimumT ∧ c.yMinimumT ≤ 1 ∧ (c.sample c.yMinimumT).y = c.boundingBox.min.y) ∧
    (0 ≤ c.yMaximumT ∧ c.yMaximumT ≤ 1 ∧ (c.sample c.yMaximumT).y = c.boundingBox.max.y) := by
  obtain ⟨x1, x2, _⟩ := c1_range_critical c.a.x c.c1.x c.c2.x c.b.x
  obtain ⟨y1, y2, _⟩ := c1_range_critical c.a.y c.c1.y c.c2.y c.b.y
  exact ⟨⟨x2.1, x2.2, cubic_sample_x c _⟩, ⟨x1.1, x1.2, cubic_sample_x c _⟩,
    ⟨y2.1, y2.2, cubic_sample_y c _⟩, ⟨y1.1, y1.2, cubic_sample_y c _⟩⟩

/-- **Extremum parameters are where the coordinate is extremal** over the whole of `[0,1]`. -/
theorem cubic_extremum_params_extremal (hsq : ∀ d : K, 0 ≤ d → Transc.sqrt d * Transc.sqrt d = d)
    (hs0 : ∀ d : K, 0 ≤ d → 0 ≤ Transc.sqrt d) (c : Cubic K) (t : K) (h0 : 0 ≤ t) (h1 : t ≤ 1) :
    c.x c.xMinimumT ≤ c.x t ∧ c.x t ≤ c.x c.xMaximumT ∧
    c.y c.yMinimumT ≤ c.y t ∧ c.y t ≤ c.y c.yMaximumT :=
  ⟨(c1_range_contains hsq hs0 _ _ _ _ t h0 h1).1, (c1_range_contains hsq hs0 _ _ _ _ t h0 h1).2,
   (c1_range_contains hsq hs0 _ _ _ _ t h0 h1).1, (c1_range_contains hsq hs0 _ _ _ _ t h0 h1).2⟩

theorem cubic_sides_touched (c : Cubic K) : SidesTouched c.boundingBox c.sample := by
  obtain ⟨⟨a1, a2, a3⟩, ⟨b1, b2, b3⟩, ⟨g1, g2, g3⟩, ⟨d1, d2, d3⟩⟩ := cubic_box_touched c
  exact ⟨⟨_, a1, a2, a3⟩, ⟨_, b1, b2, b3⟩, ⟨_, g1, g2, g3⟩, ⟨_, d1, d2, d3⟩⟩

/-- **fast ⊇ exact** -/
theorem cubic_fast_contains_exact (c : Cubic K) : Box.Inside c.boundingBox c.fastBoundingBox :=
  inside_of_touched (cubic_sides_touched c) (cubic_fast_box_contains c)

/-- **Monotone ranges of a cubic partition `[0,1]`** (`for_each_monotonic_range`,
`for_each_x_monotonic_range`, `for_each_y_monotonic_range`): consecutive, from 0 to 1, each of
positive length. -/
theorem cubic_monotone_ranges_partition (hsq : ∀ d : K, 0 ≤ d → Transc.sqrt d * Transc.sqrt d = d)
    (hs0 : ∀ d : K, 0 ≤ d → 0 ≤ Transc.sqrt d) (c : Cubic K) :
    Chain 0 c.monotonicRanges 1 ∧ Chain 0 c.xMonotonicRanges 1 ∧ Chain 0 c.yMonotonicRanges 1 :=
  ⟨(cubic_ranges_spec c).1, (cubic_ranges1_spec hsq hs0 _ _ _).1, (cubic_ranges1_spec hsq hs0 _ _ _).1⟩

/-- every range reported by `for_each_monotonic_range` lies in `[0,1]`, has positive length and
no reported x- or y- critical parameter in its interior -/
theorem cubic_ranges_good (c : Cubic K) : ∀ r ∈ c.monotonicRanges,
    0 ≤ r.1 ∧ r.1 < r.2 ∧ r.2 ≤ 1 ∧
    (∀ s ∈ c.localXExtremaT, s ≤ r.1 ∨ r.2 ≤ s) ∧ (∀ s ∈ c.localYExtremaT, s ≤ r.1 ∨ r.2 ≤ s) :=
  (cubic_ranges_spec c).2

/-- **Each piece is monotone**: on every range reported by `for_each_monotonic_range` both `x`
and `y` are monotone. -/
theorem cubic_monotone_piece_monotone (hsq : ∀ d : K, 0 ≤ d → Transc.sqrt d * Transc.sqrt d = d)
    (hs0 : ∀ d : K, 0 ≤ d → 0 ≤ Transc.sqrt d) (c : Cubic K) : ∀ r ∈ c.monotonicRanges,
    MonoOn c.x r.1 r.2 ∧ MonoOn c.y r.1 r.2 := by
  intro r hr
  obtain ⟨a0, a1, a2, gx, gy⟩ := cubic_ranges_good c r hr
  exact ⟨c1_mono hsq hs0 _ _ _ _ r.1 r.2 a0 a2 gx, c1_mono hsq hs0 _ _ _ _ r.1 r.2 a0 a2 gy⟩

/-- one coordinate of `split_range(lo..hi)`: `(f lo, f lo + f'(lo)(hi − lo)/3, f hi − f'(hi)(hi − lo)/3, f hi)` -/
theorem cubic_splitRange_coord (c : Cubic K) (lo hi : K) (i : Bool) :
    C10.coord i (c.splitRange lo hi).a =
      Cubic1.ev (C10.coord i c.a) (C10.coord i c.c1) (C10.coord i c.c2) (C10.coord i c.b) lo ∧
    C10.coord i (c.splitRange lo hi).b =
      Cubic1.ev (C10.coord i c.a) (C10.coord i c.c1) (C10.coord i c.c2) (C10.coord i c.b) hi ∧
    C10.coord i (c.splitRange lo hi).c1 =
      Cubic1.ev (C10.coord i c.a) (C10.coord i c.c1) (C10.coord i c.c2) (C10.coord i c.b) lo
        + c1d (C10.coord i c.a) (C10.coord i c.c1) (C10.coord i c.c2) (C10.coord i c.b) lo * (hi - lo) / 3 ∧
    C10.coord i (c.splitRange lo hi).c2 =
      Cubic1.ev (C10.coord i c.a) (C10.coord i c.c1) (C10.coord i c.c2) (C10.coord i c.b) hi
        - c1d (C10.coord i c.a) (C10.coord i c.c1) (C10.coord i c.c2) (C10.coord i c.b) hi * (hi - lo) / 3 := by
  simp only [Cubic.splitRange, Cubic.sample, Quad.sample, C10.coord_add, C10.coord_sub, C10.coord_smul, ofNat_eq,
    Nat.cast_ofNat, Nat.cast_one, c1d, cg, c1_ca, c1_cb, c1_cc, c1_ev]
  exact ⟨by ring, by ring, by ring, by ring⟩

/-- the end-tangent clamps of `for_each_monotonic` / `for_each_{x,y}_monotonic` leave `split_range` of
a range on which the derivative keeps its sign unchanged -/
theorem cubic_clamp_splitRange (c : Cubic K) {lo hi : K} (hlh : lo ≤ hi) (i : Bool)
    (h : SignConst (c1d (C10.coord i c.a) (C10.coord i c.c1) (C10.coord i c.c2) (C10.coord i c.b)) lo hi) :
    Cubic.clampEnd1 (C10.coord i (c.splitRange lo hi).c1) (C10.coord i (c.splitRange lo hi).a)
        (C10.coord i (c.splitRange lo hi).b) = C10.coord i (c.splitRange lo hi).c1 ∧
    Cubic.clampEnd2 (C10.coord i (c.splitRange lo hi).c2) (C10.coord i (c.splitRange lo hi).a)
        (C10.coord i (c.splitRange lo hi).b) = C10.coord i (c.splitRange lo hi).c2 := by
  obtain ⟨ea, eb, e1, e2⟩ := cubic_splitRange_coord c lo hi i
  rw [ea, eb, e1, e2]
  exact clampEnd_noop_of_simpson (c1_simpson _ _ _ _) hlh h

theorem clampX_noop_of (hsq : ∀ d : K, 0 ≤ d → Transc.sqrt d * Transc.sqrt d = d)
    (hs0 : ∀ d : K, 0 ≤ d → 0 ≤ Transc.sqrt d) (c : Cubic K) (lo hi : K)
    (h0 : 0 ≤ lo) (hlh : lo ≤ hi) (h1 : hi ≤ 1) (gx : ∀ s ∈ c.localXExtremaT, s ≤ lo ∨ hi ≤ s) :
    Cubic.clampEnd1 (c.splitRange lo hi).c1.x (c.splitRange lo hi).a.x (c.splitRange lo hi).b.x
      = (c.splitRange lo hi).c1.x ∧
    Cubic.clampEnd2 (c.splitRange lo hi).c2.x (c.splitRange lo hi).a.x (c.splitRange lo hi).b.x
      = (c.splitRange lo hi).c2.x :=
  cubic_clamp_splitRange c hlh false (c1_sign_const hsq hs0 _ _ _ _ lo hi h0 h1 gx)

theorem clampY_noop_of (hsq : ∀ d : K, 0 ≤ d → Transc.sqrt d * Transc.sqrt d = d)
    (hs0 : ∀ d : K, 0 ≤ d → 0 ≤ Transc.sqrt d) (c : Cubic K) (lo hi : K)
    (h0 : 0 ≤ lo) (hlh : lo ≤ hi) (h1 : hi ≤ 1) (gy : ∀ s ∈ c.localYExtremaT, s ≤ lo ∨ hi ≤ s) :
    Cubic.clampEnd1 (c.splitRange lo hi).c1.y (c.splitRange lo hi).a.y (c.splitRange lo hi).b.y
      = (c.splitRange lo hi).c1.y ∧
    Cubic.clampEnd2 (c.splitRange lo hi).c2.y (c.splitRange lo hi).a.y (c.splitRange lo hi).b.y
      = (c.splitRange lo hi).c2.y :=
  cubic_clamp_splitRange c hlh true (c1_sign_const hsq hs0 _ _ _ _ lo hi h0 h1 gy)

/-- **The end-tangent clamp is the identity on every monotone piece** (exact arithmetic): the
pieces handed out by `for_each_monotonic` are exactly `split_range` of the reported ranges. -/
theorem cubic_clamp_noop (hsq : ∀ d : K, 0 ≤ d → Transc.sqrt d * Transc.sqrt d = d)
    (hs0 : ∀ d : K, 0 ≤ d → 0 ≤ Transc.sqrt d) (c : Cubic K) :
    c.monotonicPieces = c.monotonicRanges.map (fun r => c.splitRange r.1 r.2) := by
  refine List.map_congr_left fun r hr => ?_
  obtain ⟨a0, a1, a2, gx, gy⟩ := cubic_ranges_good c r hr
  obtain ⟨x1, x2⟩ := clampX_noop_of hsq hs0 c r.1 r.2 a0 (le_of_lt a1) a2 gx
  obtain ⟨y1, y2⟩ := clampY_noop_of hsq hs0 c r.1 r.2 a0 (le_of_lt a1) a2 gy
  unfold Cubic.clampXY
  rw [x1, x2, y1, y2]

/-- **The pieces retrace the curve**: piece `r` sampled at `u` is the curve at `r.1 + (r.2−r.1)·u`. -/
theorem cubic_pieces_retrace (hsq : ∀ d : K, 0 ≤ d → Transc.sqrt d * Transc.sqrt d = d)
    (hs0 : ∀ d : K, 0 ≤ d → 0 ≤ Transc.sqrt d) (c : Cubic K) : ∀ r ∈ c.monotonicRanges, ∀ u : K,
    (Cubic.clampXY (c.splitRange r.1 r.2)).sample u = c.sample (r.1 + (r.2 - r.1) * u) := by
  intro r hr u
  rw [List.map_inj_left.1 (cubic_clamp_noop hsq hs0 c) r hr, C10.cubic_split_range_sample]

/-- the x- / y- only variants: ranges partition `[0,1]` (see `cubic_monotone_ranges_partition`),
the coordinate is monotone on each, and the clamped pieces are exactly `split_range` of the ranges -/
theorem cubic_xy_monotone (hsq : ∀ d : K, 0 ≤ d → Transc.sqrt d * Transc.sqrt d = d)
    (hs0 : ∀ d : K, 0 ≤ d → 0 ≤ Transc.sqrt d) (c : Cubic K) :
    (∀ r ∈ c.xMonotonicRanges, MonoOn c.x r.1 r.2) ∧ (∀ r ∈ c.yMonotonicRanges, MonoOn c.y r.1 r.2) ∧
    c.xMonotonicPieces = c.xMonotonicRanges.map (fun r => c.splitRange r.1 r.2) ∧
    c.yMonotonicPieces = c.yMonotonicRanges.map (fun r => c.splitRange r.1 r.2) := by
  have good := fun a b cc => (cubic_ranges1_spec hsq hs0 a b cc).2
  refine ⟨fun r hr => ?_, fun r hr => ?_, List.map_congr_left fun r hr => ?_, List.map_congr_left fun r hr => ?_⟩
  · obtain ⟨a0, a1, a2, g⟩ := good _ _ _ r hr
    exact c1_mono hsq hs0 _ _ _ _ r.1 r.2 a0 a2 g
  · obtain ⟨a0, a1, a2, g⟩ := good _ _ _ r hr
    exact c1_mono hsq hs0 _ _ _ _ r.1 r.2 a0 a2 g
  · obtain ⟨a0, a1, a2, g⟩ := good _ _ _ r hr
    obtain ⟨x1, x2⟩ := clampX_noop_of hsq hs0 c r.1 r.2 a0 (le_of_lt a1) a2 g
    unfold Cubic.clampX
    rw [x1, x2]
  · obtain ⟨a0, a1, a2, g⟩ := good _ _ _ r hr
    obtain ⟨y1, y2⟩ := clampY_noop_of hsq hs0 c r.1 r.2 a0 (le_of_lt a1) a2 g
    unfold Cubic.clampY
    rw [y1, y2]

/-- `is_x_monotonic` / `is_y_monotonic` / `is_monotonic` are sound -/
theorem cubic_is_monotonic_sound (hsq : ∀ d : K, 0 ≤ d → Transc.sqrt d * Transc.sqrt d = d)
    (hs0 : ∀ d : K, 0 ≤ d → 0 ≤ Transc.sqrt d) (c : Cubic K) :
    (c.isXMonotonic = true → MonoOn c.x 0 1) ∧ (c.isYMonotonic = true → MonoOn c.y 0 1) ∧
    (c.isMonotonic = true → MonoOn c.x 0 1 ∧ MonoOn c.y 0 1) := by
  -- an empty list of critical parameters leaves `[0,1]` as one monotone range
  have mono : ∀ p0 p1 p2 p3 : K, (Cubic1.localExtrema p0 p1 p2 p3).isEmpty = true →
      MonoOn (Cubic1.ev p0 p1 p2 p3) 0 1 := fun p0 p1 p2 p3 h =>
    c1_mono hsq hs0 _ _ _ _ 0 1 le_rfl le_rfl fun t ht => by
      rw [List.isEmpty_iff.1 h] at ht; cases ht
  refine ⟨mono _ _ _ _, mono _ _ _ _, fun h => ?_⟩
  simp only [Cubic.isMonotonic, Bool.and_eq_true] at h
  exact ⟨mono _ _ _ _ h.1, mono _ _ _ _ h.2⟩

end cubicranges

/-- **Conservative** (`LineSegment::bounding_box`): the box spanned by the two end points; it contains the segment -/
theorem seg_box (s : Seg K) :
    s.boundingBox = ⟨⟨min s.a.x s.b.x, min s.a.y s.b.y⟩, ⟨max s.a.x s.b.x, max s.a.y s.b.y⟩⟩ ∧
    ∀ t, 0 ≤ t → t ≤ 1 → Box.Contains s.boundingBox (s.sample t) := by
  have e : s.boundingBox = ⟨⟨min s.a.x s.b.x, min s.a.y s.b.y⟩, ⟨max s.a.x s.b.x, max s.a.y s.b.y⟩⟩ := by
    simp only [Seg.boundingBox, Seg.boundingRangeX, Seg.boundingRangeY, Box.ofRanges, minMax_eq]
  refine ⟨e, fun t h0 h1 => ?_⟩
  rw [e]
  have hx := Hull.lerp_mem h0 h1 ⟨min_le_left s.a.x s.b.x, le_max_left _ _⟩ ⟨min_le_right _ _, le_max_right _ _⟩
  have hy := Hull.lerp_mem h0 h1 ⟨min_le_left s.a.y s.b.y, le_max_left _ _⟩ ⟨min_le_right _ _, le_max_right _ _⟩
  simp only [Box.Contains, Seg.sample, P.lerp, Scalar.one, sc_one]
  exact ⟨hx.1, hx.2, hy.1, hy.2⟩

/-- **Conservative** (`Triangle::bounding_box`): the box spanned by the three vertices; it contains every
convex combination of them -/
theorem tri_box (t : Tri K) :
    t.boundingBox = ⟨⟨min (min t.a.x t.b.x) t.c.x, min (min t.a.y t.b.y) t.c.y⟩,
                     ⟨max (max t.a.x t.b.x) t.c.x, max (max t.a.y t.b.y) t.c.y⟩⟩ ∧
    ∀ u v w : K, 0 ≤ u → 0 ≤ v → 0 ≤ w → u + v + w = 1 →
      Box.Contains t.boundingBox ⟨u * t.a.x + v * t.b.x + w * t.c.x, u * t.a.y + v * t.b.y + w * t.c.y⟩ := by
  have e : t.boundingBox = ⟨⟨min (min t.a.x t.b.x) t.c.x, min (min t.a.y t.b.y) t.c.y⟩,
                     ⟨max (max t.a.x t.b.x) t.c.x, max (max t.a.y t.b.y) t.c.y⟩⟩ := by
    simp only [Tri.boundingBox, Tri.boundingRangeX, Tri.boundingRangeY, Box.ofRanges, sc_min, sc_max]
  refine ⟨e, fun u v w hu hv hw hs => ?_⟩
  rw [e]
  exact contains_of_coords (Hull.bary_mem hu hv hw hs (Hull.mem_hull3 t.a.x t.b.x t.c.x))
    (Hull.bary_mem hu hv hw hs (Hull.mem_hull3 t.a.y t.b.y t.c.y))

/-- **Tight**: every side of a segment's box passes through an end point -/
theorem seg_box_touched (s : Seg K) :
    (s.boundingBox.min.x = s.a.x ∨ s.boundingBox.min.x = s.b.x) ∧
    (s.boundingBox.max.x = s.a.x ∨ s.boundingBox.max.x = s.b.x) ∧
    (s.boundingBox.min.y = s.a.y ∨ s.boundingBox.min.y = s.b.y) ∧
    (s.boundingBox.max.y = s.a.y ∨ s.boundingBox.max.y = s.b.y) := by
  rw [(seg_box s).1]
  exact ⟨min_choice _ _, max_choice _ _, min_choice _ _, max_choice _ _⟩

/-- **Tight**: every side of a triangle's box passes through a vertex -/
theorem tri_box_touched (t : Tri K) :
    (t.boundingBox.min.x = t.a.x ∨ t.boundingBox.min.x = t.b.x ∨ t.boundingBox.min.x = t.c.x) ∧
    (t.boundingBox.max.x = t.a.x ∨ t.boundingBox.max.x = t.b.x ∨ t.boundingBox.max.x = t.c.x) ∧
    (t.boundingBox.min.y = t.a.y ∨ t.boundingBox.min.y = t.b.y ∨ t.boundingBox.min.y = t.c.y) ∧
    (t.boundingBox.max.y = t.a.y ∨ t.boundingBox.max.y = t.b.y ∨ t.boundingBox.max.y = t.c.y) := by
  rw [(tri_box t).1]
  have m3 : ∀ a b c : K, min (min a b) c = a ∨ min (min a b) c = b ∨ min (min a b) c = c := by
    intro a b c
    rcases min_choice (min a b) c with h | h
    · rcases min_choice a b with h' | h'
      · left; rw [h, h']
      · right; left; rw [h, h']
    · right; right; exact h
  have M3 : ∀ a b c : K, max (max a b) c = a ∨ max (max a b) c = b ∨ max (max a b) c = c := by
    intro a b c
    rcases max_choice (max a b) c with h | h
    · rcases max_choice a b with h' | h'
      · left; rw [h, h']
      · right; left; rw [h, h']
    · right; right; exact h
  exact ⟨m3 _ _ _, M3 _ _ _, m3 _ _ _, M3 _ _ _⟩

/-! One coordinate of `fit_box` is `x ↦ (x − mid [lo,hi])·s + mid [dlo,dhi]`: what it does to the
source interval depends on how `s·(hi − lo)` compares with `dhi − dlo`. -/

theorem fit1_mem {lo hi dlo dhi s x : K} (hs : 0 ≤ s) (hw : s * (hi - lo) ≤ dhi - dlo)
    (h1 : lo ≤ x) (h2 : x ≤ hi) :
    dlo ≤ (x - (lo + hi) / 2) * s + (dlo + dhi) / 2 ∧ (x - (lo + hi) / 2) * s + (dlo + dhi) / 2 ≤ dhi := by
  have a1 := mul_le_mul_of_nonneg_right h1 hs
  have a2 := mul_le_mul_of_nonneg_right h2 hs
  constructor <;> linarith

theorem fit1_covers {lo hi dlo dhi s : K} (hw : dhi - dlo ≤ s * (hi - lo)) :
    (lo - (lo + hi) / 2) * s + (dlo + dhi) / 2 ≤ dlo ∧ dhi ≤ (hi - (lo + hi) / 2) * s + (dlo + dhi) / 2 := by
  constructor <;> linarith

theorem fit1_onto {lo hi dlo dhi s : K} (hw : s * (hi - lo) = dhi - dlo) :
    (lo - (lo + hi) / 2) * s + (dlo + dhi) / 2 = dlo ∧ (hi - (lo + hi) / 2) * s + (dlo + dhi) / 2 = dhi :=
  ⟨by linear_combination (-1/2 : K) * hw, by linear_combination (1/2 : K) * hw⟩

/-- what `fit_box` does to a point: `(p − src_centre) · scale + dst_centre`, coordinate-wise -/
theorem fitBox_apply (src dst : Box K) (style : FitStyle) (p : P K) :
    (Fit.fitBox src dst style).apply p =
      ⟨(p.x - (src.min.x + src.max.x) / 2) *
          (Fit.pickScale (Fit.width dst / Fit.width src) (Fit.height dst / Fit.height src) style).x
          + (dst.min.x + dst.max.x) / 2,
       (p.y - (src.min.y + src.max.y) / 2) *
          (Fit.pickScale (Fit.width dst / Fit.width src) (Fit.height dst / Fit.height src) style).y
          + (dst.min.y + dst.max.y) / 2⟩ := by
  simp only [Fit.fitBox, Xf.andThen, Xf.translation, Xf.scale, Xf.apply, P.lerp, Scalar.zero, Scalar.one,
    Scalar.half, sc_zero, sc_one, sc_half]
  apply P.ext' <;> simp only <;> ring

/-- the source centre goes to the destination centre, for every style -/
theorem fit_box_center (src dst : Box K) (style : FitStyle) :
    (Fit.fitBox src dst style).apply ⟨(src.min.x + src.max.x) / 2, (src.min.y + src.max.y) / 2⟩ =
      ⟨(dst.min.x + dst.max.x) / 2, (dst.min.y + dst.max.y) / 2⟩ := by
  rw [fitBox_apply]; apply P.ext' <;> simp

/-- the uniform styles preserve the aspect ratio: one scale factor, no shear, no rotation -/
theorem fit_box_uniform (src dst : Box K) (style : FitStyle) (h : style ≠ .stretch) :
    (Fit.fitBox src dst style).m11 = (Fit.fitBox src dst style).m22 ∧
    (Fit.fitBox src dst style).m12 = 0 ∧ (Fit.fitBox src dst style).m21 = 0 := by
  have hxy : ∀ sx sy : K, (Fit.pickScale sx sy style).x = (Fit.pickScale sx sy style).y := by
    intro sx sy; cases style <;> first | rfl | exact absurd rfl h
  simp only [Fit.fitBox, Xf.andThen, Xf.translation, Xf.scale, Scalar.zero, Scalar.one, sc_zero, sc_one, hxy]
  exact ⟨by ring, by ring, by ring⟩

/-- `Stretch` maps the source box onto the destination box, corner to corner -/
theorem fit_box_stretch (src dst : Box K) (hw : Fit.width src ≠ 0) (hh : Fit.height src ≠ 0) :
    (Fit.fitBox src dst .stretch).apply src.min = dst.min ∧
    (Fit.fitBox src dst .stretch).apply src.max = dst.max := by
  rw [fitBox_apply, fitBox_apply]
  have ex := fit1_onto (div_mul_cancel₀ (Fit.width dst) hw)
  have ey := fit1_onto (div_mul_cancel₀ (Fit.height dst) hh)
  exact ⟨P.ext' ex.1 ey.1, P.ext' ex.2 ey.2⟩

/-- **`fit_box` maps the source box into the destination box** for the styles `Stretch` and `Min`
(source of positive width and height, destination not inverted) -/
theorem fit_box_maps_src_into_dst (src dst : Box K) (style : FitStyle)
    (hst : style = .stretch ∨ style = .min)
    (hw : 0 < Fit.width src) (hh : 0 < Fit.height src) (hdw : 0 ≤ Fit.width dst) (hdh : 0 ≤ Fit.height dst)
    (p : P K) (hp : Box.Contains src p) : Box.Contains dst ((Fit.fitBox src dst style).apply p) := by
  rw [fitBox_apply]
  have rx : 0 ≤ Fit.width dst / Fit.width src := div_nonneg hdw hw.le
  have ry : 0 ≤ Fit.height dst / Fit.height src := div_nonneg hdh hh.le
  have ex : Fit.width dst / Fit.width src * Fit.width src = Fit.width dst := div_mul_cancel₀ _ hw.ne'
  have ey : Fit.height dst / Fit.height src * Fit.height src = Fit.height dst := div_mul_cancel₀ _ hh.ne'
  -- the chosen scale factors are non-negative and do not stretch the source beyond the destination
  rcases hst with rfl | rfl
  · exact contains_of_coords (fit1_mem rx ex.le hp.1 hp.2.1) (fit1_mem ry ey.le hp.2.2.1 hp.2.2.2)
  · exact contains_of_coords
      (fit1_mem (le_min rx ry) ((mul_le_mul_of_nonneg_right (min_le_left _ _) hw.le).trans ex.le) hp.1 hp.2.1)
      (fit1_mem (le_min rx ry) ((mul_le_mul_of_nonneg_right (min_le_right _ _) hh.le).trans ey.le) hp.2.2.1 hp.2.2.2)

/-- `Max` covers the destination box: the image of the source box reaches at least as far as the
destination box on every side -/
theorem fit_box_max_covers (src dst : Box K) (hw : 0 < Fit.width src) (hh : 0 < Fit.height src) :
    ((Fit.fitBox src dst .max).apply src.min).x ≤ dst.min.x ∧ dst.max.x ≤ ((Fit.fitBox src dst .max).apply src.max).x ∧
    ((Fit.fitBox src dst .max).apply src.min).y ≤ dst.min.y ∧ dst.max.y ≤ ((Fit.fitBox src dst .max).apply src.max).y := by
  rw [fitBox_apply, fitBox_apply]
  have cx := fit1_covers ((div_mul_cancel₀ (Fit.width dst) hw.ne').symm.le.trans
    (mul_le_mul_of_nonneg_right (le_max_left _ (Fit.height dst / Fit.height src)) hw.le))
  have cy := fit1_covers ((div_mul_cancel₀ (Fit.height dst) hh.ne').symm.le.trans
    (mul_le_mul_of_nonneg_right (le_max_right (Fit.width dst / Fit.width src) _) hh.le))
  exact ⟨cx.1, cx.2, cy.1, cy.2⟩

/-- `Horizontal` / `Vertical` match the destination's width resp. height exactly -/
theorem fit_box_horizontal_vertical (src dst : Box K) (hw : Fit.width src ≠ 0) (hh : Fit.height src ≠ 0) :
    (((Fit.fitBox src dst .horizontal).apply src.min).x = dst.min.x ∧
     ((Fit.fitBox src dst .horizontal).apply src.max).x = dst.max.x) ∧
    (((Fit.fitBox src dst .vertical).apply src.min).y = dst.min.y ∧
     ((Fit.fitBox src dst .vertical).apply src.max).y = dst.max.y) := by
  rw [fitBox_apply, fitBox_apply, fitBox_apply, fitBox_apply]
  exact ⟨fit1_onto (div_mul_cancel₀ (Fit.width dst) hw), fit1_onto (div_mul_cancel₀ (Fit.height dst) hh)⟩

section aabb

variable [Transc K]

/-- **`aabb::bounding_box` is the join of the event boxes** (before the empty-path test) … -/
theorem aabb_fold (b0 : Box K) (evs : List (PEv K)) :
    evs.foldl Aabb.tightStep b0 = (evs.filterMap tightBox).foldl boxJoin b0 := by
  induction evs generalizing b0 with
  | nil => rfl
  | cons e r ih =>
    rw [List.foldl_cons, ih, tightStep_eq]
    cases h : tightBox e <;> simp [List.filterMap_cons, h]

/-- … **and does not depend on the order of the events.** -/
theorem aabb_fold_perm (b0 : Box K) (l1 l2 : List (PEv K)) (h : l1.Perm l2) :
    l1.foldl Aabb.tightStep b0 = l2.foldl Aabb.tightStep b0 := by
  rw [aabb_fold, aabb_fold]
  exact (h.filterMap tightBox).foldl_eq' (fun x _ y _ z => join_right_comm z x y) b0

theorem aabb_fold_bounds (b0 : Box K) (evs : List (PEv K)) :
    (Box.Inside b0 (evs.foldl Aabb.tightStep b0) ∧
      ∀ e ∈ evs, ∀ x, tightBox e = some x → Box.Inside x (evs.foldl Aabb.tightStep b0)) ∧
    ∀ X, Box.Inside b0 X → (∀ e ∈ evs, ∀ x, tightBox e = some x → Box.Inside x X) →
      Box.Inside (evs.foldl Aabb.tightStep b0) X := by
  rw [aabb_fold]
  obtain ⟨i0, i1⟩ := foldl_join_inside (evs.filterMap tightBox) b0
  refine ⟨⟨i0, fun e he x hx => i1 x (List.mem_filterMap.2 ⟨e, he, hx⟩)⟩, fun X h0 h1 => ?_⟩
  refine foldl_join_least X _ b0 h0 fun x hx => ?_
  obtain ⟨e, he, hx⟩ := List.mem_filterMap.1 hx
  exact h1 e he x hx

/-- **The path box contains every point of every segment.**  For every quadratic and cubic event
of the path and every `t ∈ [0,1]` the sampled point lies in `aabb::bounding_box`, and every
`begin`/`line_to` endpoint does (so every line segment does: boxes are convex).
Hypothesis `hne`: the accumulated minimum is not the sentinel `(MAX, MAX)` — lyon returns the zero
box in that case.  `aabb_box_contains` below discharges `hne` for every path whose coordinates
are below the sentinel. -/
theorem aabb_box_contains_of_not_sentinel (hsq : ∀ d : K, 0 ≤ d → Transc.sqrt d * Transc.sqrt d = d)
    (hs0 : ∀ d : K, 0 ≤ d → 0 ≤ Transc.sqrt d) (big : K) (evs : List (PEv K))
    (hne : ¬ ((evs.foldl Aabb.tightStep (Aabb.start big)).min == (⟨big, big⟩ : P K)) = true) :
    (∀ f c p, PEv.quad f c p ∈ evs → ∀ t, 0 ≤ t → t ≤ 1 →
      Box.Contains (Aabb.boundingBox big evs) (Quad.sample ⟨f, c, p⟩ t)) ∧
    (∀ f c1 c2 p, PEv.cubic f c1 c2 p ∈ evs → ∀ t, 0 ≤ t → t ≤ 1 →
      Box.Contains (Aabb.boundingBox big evs) (Cubic.sample ⟨f, c1, c2, p⟩ t)) ∧
    (∀ p, PEv.begin p ∈ evs → Box.Contains (Aabb.boundingBox big evs) p) ∧
    (∀ f p, PEv.line f p ∈ evs → Box.Contains (Aabb.boundingBox big evs) p) := by
  have hin : ∀ e ∈ evs, ∀ x, tightBox e = some x → Box.Inside x (Aabb.boundingBox big evs) := by
    unfold Aabb.boundingBox Aabb.finish
    rw [if_neg hne]
    exact (aabb_fold_bounds _ evs).1.2
  exact ⟨fun f c p he t h0 h1 => contains_mono (hin _ he _ rfl) (quad_box_contains ⟨f, c, p⟩ t h0 h1),
    fun f c1 c2 p he t h0 h1 => contains_mono (hin _ he _ rfl) (cubic_box_contains hsq hs0 ⟨f, c1, c2, p⟩ t h0 h1),
    fun p he => hin _ he ⟨p, p⟩ rfl, fun f p he => hin _ he ⟨p, p⟩ rfl⟩

/-- the invariant behind `aabb_fast_contains_exact` -/
theorem aabb_fast_inv (evs : List (PEv K)) : ∀ (T F : Box K) (cur : Option (P K)),
    Box.Inside T F → (∀ q, cur = some q → Box.Contains F q) → WellFormed cur evs →
    Box.Inside (evs.foldl Aabb.tightStep T) (evs.foldl Aabb.fastStep F) := by
  induction evs with
  | nil => intro T F cur h _ _; exact h
  | cons e r ih =>
    intro T F cur hTF hcur hw
    rw [List.foldl_cons, List.foldl_cons, tightStep_eq, fastStep_eq]
    -- a point `p` read by both folds
    have pt : ∀ p : P K, Box.Inside (boxJoin T ⟨p, p⟩) (boxJoin F ⟨p, p⟩) ∧
        ∀ q, some p = some q → Box.Contains (boxJoin F ⟨p, p⟩) q := fun p =>
      ⟨join_le (inside_trans hTF (join_inside_left _ _)) (join_inside_right _ _),
        fun q hq => by cases hq; exact join_inside_right F ⟨p, p⟩⟩
    cases e with
    | begin p => exact ih _ _ (some p) (pt p).1 (pt p).2 hw
    | end_ => exact ih _ _ cur hTF hcur hw
    | line f p =>
      cases cur with
      | none => exact hw.elim
      | some q => exact ih _ _ (some p) (pt p).1 (pt p).2 hw.2
    | quad f c p =>
      cases cur with
      | none => exact hw.elim
      | some q =>
        -- the exact box lies in the hull of `f`, `c`, `p`; `f` is in `F` already
        have hF := join_inside_left F (boxJoin ⟨c, c⟩ ⟨p, p⟩)
        have hY := join_inside_right F (boxJoin ⟨c, c⟩ ⟨p, p⟩)
        have hp : Box.Contains (boxJoin F (boxJoin ⟨c, c⟩ ⟨p, p⟩)) p := inside_trans (join_inside_right _ _) hY
        refine ih _ _ (some p) (join_le (inside_trans hTF hF) (inside_trans (quad_fast_contains_exact ⟨f, c, p⟩)
          (quad_fast_inside (contains_mono hF (hw.1 ▸ hcur q rfl)) (inside_trans (join_inside_left _ _) hY) hp)))
          (fun q' hq => by cases hq; exact hp) hw.2
    | cubic f c1 c2 p =>
      cases cur with
      | none => exact hw.elim
      | some q =>
        have hF := join_inside_left F (boxJoin ⟨c1, c1⟩ (boxJoin ⟨c2, c2⟩ ⟨p, p⟩))
        have hY := join_inside_right F (boxJoin ⟨c1, c1⟩ (boxJoin ⟨c2, c2⟩ ⟨p, p⟩))
        have hZ := inside_trans (join_inside_right ⟨c1, c1⟩ (boxJoin ⟨c2, c2⟩ ⟨p, p⟩)) hY
        have hp : Box.Contains (boxJoin F (boxJoin ⟨c1, c1⟩ (boxJoin ⟨c2, c2⟩ ⟨p, p⟩))) p :=
          inside_trans (join_inside_right _ _) hZ
        refine ih _ _ (some p) (join_le (inside_trans hTF hF) (inside_trans (cubic_fast_contains_exact ⟨f, c1, c2, p⟩)
          (cubic_fast_inside (contains_mono hF (hw.1 ▸ hcur q rfl)) (inside_trans (join_inside_left _ _) hY)
            (inside_trans (join_inside_left _ _) hZ) hp)))
          (fun q' hq => by cases hq; exact hp) hw.2

/-- **Path level: fast ⊇ exact.**  For an event list as `Path::iter` yields it (every segment
starts at the current point), the accumulated `aabb::fast_bounding_box` contains the accumulated
`aabb::bounding_box`; `fast_bounding_box` never looks at `from`, it relies on the previous event
having contributed it. -/
theorem aabb_fast_contains_exact (big : K) (evs : List (PEv K)) (hw : WellFormed none evs) :
    Box.Inside (evs.foldl Aabb.tightStep (Aabb.start big)) (evs.foldl Aabb.fastStep (Aabb.start big)) :=
  aabb_fast_inv evs _ _ none (inside_refl _) (fun q hq => by cases hq) hw

/-- the point an event ends at -/
def endPoint : PEv K → Option (P K)
  | .begin p => some p
  | .line _ p => some p
  | .quad _ _ p => some p
  | .cubic _ _ _ p => some p
  | .end_ => none

theorem quad_box_contains_ends (q : Quad K) : Box.Contains q.boundingBox q.a ∧ Box.Contains q.boundingBox q.b :=
  have hx := q1_range_ends q.a.x q.c.x q.b.x
  have hy := q1_range_ends q.a.y q.c.y q.b.y
  ⟨contains_of_coords hx.1 hy.1, contains_of_coords hx.2 hy.2⟩

theorem cubic_box_contains_ends (c : Cubic K) : Box.Contains c.boundingBox c.a ∧ Box.Contains c.boundingBox c.b :=
  have hx := c1_range_ends c.a.x c.c1.x c.c2.x c.b.x
  have hy := c1_range_ends c.a.y c.c1.y c.c2.y c.b.y
  ⟨contains_of_coords hx.1 hy.1, contains_of_coords hx.2 hy.2⟩

theorem tightBox_contains_end (e : PEv K) (x : Box K) (p : P K)
    (hx : tightBox e = some x) (hp : endPoint e = some p) : Box.Contains x p := by
  cases e with
  | begin q => cases hx; cases hp; exact inside_refl _
  | line f q => cases hx; cases hp; exact inside_refl _
  | end_ => cases hp
  | quad f c q => cases hx; cases hp; exact (quad_box_contains_ends ⟨f, c, p⟩).2
  | cubic f c1 c2 q => cases hx; cases hp; exact (cubic_box_contains_ends ⟨f, c1, c2, p⟩).2

theorem tightBox_min_le_end (e : PEv K) (x : Box K) (p : P K)
    (hx : tightBox e = some x) (hp : endPoint e = some p) : x.min.x ≤ p.x :=
  (tightBox_contains_end e x p hx hp).1

/-- **What the code returns for the empty path**: the zero box. -/
theorem aabb_empty (big : K) :
    Aabb.boundingBox big [] = ⟨⟨0, 0⟩, ⟨0, 0⟩⟩ ∧ Aabb.fastBoundingBox big [] = ⟨⟨0, 0⟩, ⟨0, 0⟩⟩ := by
  have h : ((⟨big, big⟩ : P K) == (⟨big, big⟩ : P K)) = true := (P.beq_iff_eq _ _).2 rfl
  constructor <;>
    simp only [Aabb.boundingBox, Aabb.fastBoundingBox, List.foldl_nil, Aabb.finish, Aabb.start, h, if_true,
      Scalar.zero, sc_zero]

/-- a path with a contributing event whose end point is left of `big` does not hit the sentinel test -/
theorem aabb_not_sentinel (big : K) (evs : List (PEv K)) (e : PEv K) (he : e ∈ evs) (x : Box K) (p : P K)
    (hx : tightBox e = some x) (hp : endPoint e = some p) (hlt : p.x < big) :
    ¬ ((evs.foldl Aabb.tightStep (Aabb.start big)).min == (⟨big, big⟩ : P K)) = true := by
  intro hc
  have h1 := ((aabb_fold_bounds (Aabb.start big) evs).1.2 e he x hx).1
  have h2 := tightBox_min_le_end e x p hx hp
  have hb : (evs.foldl Aabb.tightStep (Aabb.start big)).min.x = big :=
    congrArg P.x ((P.beq_iff_eq _ _).1 hc)
  linarith

/-- **The path box contains every point of every segment — for every path** whose coordinates
are below the start sentinel `big` (`f32::MAX` in lyon; `hfin` asks it of the end points only).
The statement is about paths with at least one event by its form (it speaks of events of the
path); the empty path gets the zero box (`aabb_empty`). -/
theorem aabb_box_contains (hsq : ∀ d : K, 0 ≤ d → Transc.sqrt d * Transc.sqrt d = d)
    (hs0 : ∀ d : K, 0 ≤ d → 0 ≤ Transc.sqrt d) (big : K) (evs : List (PEv K))
    (hfin : ∀ e ∈ evs, ∀ p, endPoint e = some p → p.x < big) :
    (∀ f c p, PEv.quad f c p ∈ evs → ∀ t, 0 ≤ t → t ≤ 1 →
      Box.Contains (Aabb.boundingBox big evs) (Quad.sample ⟨f, c, p⟩ t)) ∧
    (∀ f c1 c2 p, PEv.cubic f c1 c2 p ∈ evs → ∀ t, 0 ≤ t → t ≤ 1 →
      Box.Contains (Aabb.boundingBox big evs) (Cubic.sample ⟨f, c1, c2, p⟩ t)) ∧
    (∀ p, PEv.begin p ∈ evs → Box.Contains (Aabb.boundingBox big evs) p) ∧
    (∀ f p, PEv.line f p ∈ evs → Box.Contains (Aabb.boundingBox big evs) p) := by
  -- any event with an end point keeps the fold off the sentinel
  have ns := fun e he p x (hp : endPoint e = some p) hx =>
    aabb_box_contains_of_not_sentinel hsq hs0 big evs (aabb_not_sentinel big evs e he x p hx hp (hfin e he p hp))
  exact ⟨fun f c p he => (ns _ he p _ rfl rfl).1 f c p he, fun f c1 c2 p he => (ns _ he p _ rfl rfl).2.1 f c1 c2 p he,
    fun p he => (ns _ he p _ rfl rfl).2.2.1 p he, fun f p he => (ns _ he p _ rfl rfl).2.2.2 f p he⟩

/-- **`fit_path` puts the whole path inside the destination box** (`Stretch`, `Min`): every event
of the fitted path is the transformed event, and every point of every fitted segment lies in
`dst` — the path box contains the source points (`aabb_box_contains`), `fit_box` maps that box
into `dst`, and an affine map commutes with Bézier evaluation. -/
theorem fit_path_inside_dst (hsq : ∀ d : K, 0 ≤ d → Transc.sqrt d * Transc.sqrt d = d)
    (hs0 : ∀ d : K, 0 ≤ d → 0 ≤ Transc.sqrt d) (big : K) (evs : List (PEv K)) (dst : Box K)
    (style : FitStyle) (hst : style = .stretch ∨ style = .min)
    (hfin : ∀ e ∈ evs, ∀ p, endPoint e = some p → p.x < big)
    (hw : 0 < Fit.width (Aabb.boundingBox big evs)) (hh : 0 < Fit.height (Aabb.boundingBox big evs))
    (hdw : 0 ≤ Fit.width dst) (hdh : 0 ≤ Fit.height dst) :
    (∀ e ∈ evs, Fit.mapEv (Fit.fitBox (Aabb.boundingBox big evs) dst style) e ∈ Fit.fitPath big evs dst style) ∧
    (∀ f c p, PEv.quad f c p ∈ evs → ∀ t, 0 ≤ t → t ≤ 1 → Box.Contains dst
      (((⟨f, c, p⟩ : Quad K).transformed (Fit.fitBox (Aabb.boundingBox big evs) dst style)).sample t)) ∧
    (∀ f c1 c2 p, PEv.cubic f c1 c2 p ∈ evs → ∀ t, 0 ≤ t → t ≤ 1 → Box.Contains dst
      (((⟨f, c1, c2, p⟩ : Cubic K).transformed (Fit.fitBox (Aabb.boundingBox big evs) dst style)).sample t)) ∧
    (∀ p, PEv.begin p ∈ evs → Box.Contains dst ((Fit.fitBox (Aabb.boundingBox big evs) dst style).apply p)) ∧
    (∀ f p, PEv.line f p ∈ evs → Box.Contains dst ((Fit.fitBox (Aabb.boundingBox big evs) dst style).apply p)) := by
  obtain ⟨cq, cc, cb, cl⟩ := aabb_box_contains hsq hs0 big evs hfin
  have into := fit_box_maps_src_into_dst (Aabb.boundingBox big evs) dst style hst hw hh hdw hdh
  refine ⟨fun e he => List.mem_map_of_mem he, ?_, ?_, fun p he => into p (cb p he), fun f p he => into p (cl f p he)⟩
  · intro f c p he t h0 h1
    rw [C10.quad_transformed_sample]; exact into _ (cq f c p he t h0 h1)
  · intro f c1 c2 p he t h0 h1
    rw [C10.cubic_transformed_sample]; exact into _ (cc f c1 c2 p he t h0 h1)

end aabb

/-- `quad_box_contains` etc.: a parameter in range -/
example : (0:ℚ) ≤ 1/3 ∧ (1/3:ℚ) ≤ 1 := by norm_num

/-- a quadratic with a reported interior x-extremum: `(0,0) (2,1) (1,0)` has `local_x_extremum_t = 2/3` -/
example : Quad.localXExtremumT (⟨⟨0, 0⟩, ⟨2, 1⟩, ⟨1, 0⟩⟩ : Quad ℚ) = some (2/3) := by
  show Quad1.localExt (0:ℚ) 2 1 = some (2/3)
  rw [q1_localExt_some]; norm_num

/-- `AngleLaws` holds for the toy `Transc ℚ` (π := 22/7, `fmod x y := x − y⌊x/y⌋`), so the arc
theorems are not vacuous -/
example : @AngleLaws ℚ _ _ _ toyTransc := by
  letI := toyTransc
  have hτ : (0:ℚ) < 22/7 + 22/7 := by norm_num
  refine angleLaws_of_fmod (by show (3:ℚ) < 22/7; norm_num) (by show (22/7:ℚ) < 4; norm_num) fun x => ?_
  show (-(22/7 + 22/7) < x - (22/7 + 22/7) * (⌊x / (22/7 + 22/7)⌋ : ℚ) ∧
    x - (22/7 + 22/7) * (⌊x / (22/7 + 22/7)⌋ : ℚ) < 22/7 + 22/7) ∧
    ∃ k : ℤ, x - (22/7 + 22/7) * (⌊x / (22/7 + 22/7)⌋ : ℚ) = x + k * (22/7 + 22/7)
  have h1 := (le_div_iff₀ hτ).1 (Int.floor_le (x / (22/7 + 22/7)))
  have h2 := (div_lt_iff₀ hτ).1 (Int.lt_floor_add_one (x / (22/7 + 22/7)))
  exact ⟨⟨by linarith, by linarith⟩, -⌊x / (22/7 + 22/7)⌋, by push_cast; ring⟩

/-- a `Transc ℝ` whose `sqrt` is the real square root (everything else is irrelevant here) -/
noncomputable def realSqrtTransc : Transc ℝ where
  sqrt := Real.sqrt
  cbrt := fun _ => 0
  sin := fun _ => 0
  cos := fun _ => 0
  tan := fun _ => 0
  acos := fun _ => 0
  atan2 := fun _ _ => 0
  pow := fun _ _ => 0
  log2 := fun _ => 0
  ln := fun _ => 0
  floor := fun x => x
  ceil := fun x => x
  toNat := fun _ => 0
  fmod := fun x _ => x
  eps := 0
  pi := 0
  isNaN := fun _ => false
  isFinite := fun _ => true

/-- the two `sqrt` laws assumed by the cubic theorems hold for the real square root -/
example : (∀ d : ℝ, 0 ≤ d → realSqrtTransc.sqrt d * realSqrtTransc.sqrt d = d) ∧
    (∀ d : ℝ, 0 ≤ d → 0 ≤ realSqrtTransc.sqrt d) :=
  ⟨fun _ h => Real.mul_self_sqrt h, fun d _ => Real.sqrt_nonneg d⟩

/-- **`cubic_box_contains` over ℝ**: the two `sqrt` laws are discharged by `Real.sqrt`, so the
exact box of every real cubic contains the curve, with no hypothesis left -/
theorem cubic_box_contains_real (c : @Cubic ℝ) (t : ℝ) (h0 : 0 ≤ t) (h1 : t ≤ 1) :
    Box.Contains (@Cubic.boundingBox ℝ _ realSqrtTransc c) (c.sample t) :=
  @cubic_box_contains ℝ _ _ _ realSqrtTransc (fun _ h => Real.mul_self_sqrt h) (fun d _ => Real.sqrt_nonneg d) c t h0 h1

/-- a cubic coordinate whose derivative is not constant (side condition of `cubic_critical_roots`) -/
example : Cubic1.ca (0:ℚ) 3 (-2) 1 ≠ 0 ∨ Cubic1.cb (0:ℚ) 3 (-2) ≠ 0 := by
  left; rw [c1_ca]; norm_num

/-- `cubic_root_form`: `a = 1, b = -3, c = 2` (roots 1 and 2), `s = 1` -/
example : (1:ℚ) ≠ 0 ∧ (1:ℚ) * 1 = (-3) * (-3) - 4 * 1 * 2 ∧ (0:ℚ) < 1 := by norm_num

/-- arcs of both sweep signs within one turn, and a parameter in range (`arc_extremum_params`) -/
example : (2:ℚ) ≠ 0 ∧ |(2:ℚ)| ≤ 22/7 + 22/7 ∧ (-2:ℚ) ≠ 0 ∧ |(-2:ℚ)| ≤ 22/7 + 22/7 ∧ (0:ℚ) < 1/4 ∧ (1/4:ℚ) < 1 := by
  refine ⟨by norm_num, ?_, by norm_num, ?_, by norm_num, by norm_num⟩
  · rw [abs_of_pos (by norm_num)]; norm_num
  · rw [abs_of_neg (by norm_num)]; norm_num

/-- a well-formed event list (`aabb_fast_contains_exact`) -/
example : WellFormed (K := ℚ) none
    [PEv.begin ⟨0, 0⟩, PEv.line ⟨0, 0⟩ ⟨1, 0⟩, PEv.quad ⟨1, 0⟩ ⟨2, 1⟩ ⟨1, 2⟩, PEv.end_] := by
  simp [WellFormed]

end Lyon.C11
