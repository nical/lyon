/-
  C18 — the fill tessellator's own `add_circle` delivers the requested direction in
  EVERY piece of its expansion.

  `FillBuilder::add_circle` (fill.rs; model `PathShapes.fillAddCircle`, run through the modelled
  sweep and compared bit for bit with the real `FillTessellator::builder(..)` on every run, family
  `fillprog:32`) does not trace the outline of the circle: it emits eight open sub-paths of one
  quadratic each (the arcs) and the inscribed octagon.  For the fill to put triangles where the
  hit test of the circle says (one full turn in the requested direction everywhere inside), every
  one of the nine pieces must turn the requested way — a piece of the other direction would cancel
  (non-zero rule) or double (a hole, a hump) wherever another sub-path overlaps.

  `fill_builder_circle_winding` is that statement (with the values of the nine areas in
  `fill_builder_circle_areas`); `fill_builder_circle_octagon_fixed_order_witness` shows that the variant of `seeded/C18-r4-2`
  (octagon corners in a fixed order) violates it for `Winding::Negative`: its octagon has positive area.

  `windArea` / `computeWindingC` (`Model/Algo/WindingCurves.lean`: the control polygon of a curved sub-path) are
  evaluated here directly; no lemma relates them to `subArea` / `computeWinding` of `Props/C18.lean` (stored points),
  not even on the octagon, which is polygonal.
-/
import LyonVerif.Model.Tess.FillBuilderShapes
import LyonVerif.Lemmas.Field
import Mathlib.Tactic.Positivity
import Mathlib.Tactic.NormNum

set_option linter.unusedSectionVars false

namespace Lyon.C18
open Lyon Lyon.Winding Lyon.Path Lyon.PathShapes Lyon.FillBuilderShapes

variable {K : Type} [Field K] [LinearOrder K] [IsStrictOrderedRing K]

theorem tanPi8_pos : (0 : K) < tanPi8 := by
  simp only [tanPi8, ofSci_eq]; positivity

theorem frac1Sqrt2_pos : (0 : K) < frac1Sqrt2 := by
  simp only [frac1Sqrt2, ofSci_eq]; positivity

theorem frac1Sqrt2_lt_one : (frac1Sqrt2 : K) < 1 := by
  simp only [frac1Sqrt2, ofSci_eq]
  rw [div_lt_one (by positivity)]
  norm_num

/-- the eight arcs and the octagon, with the constants abstracted: `t` is lyon's `tan(π/8)`, `f` its `1/√2`
(`fill_builder_circle_pieces`) -/
noncomputable def circlePieces (c : P K) (r dir t f : K) : List (CSub K) :=
  let d := r * t
  let start : P K := ⟨c.x + -r, c.y + 0⟩
  let m0 : P K := ⟨c.x + -1 * r * f, c.y + -dir * r * f⟩
  let m1 : P K := ⟨c.x + 0, c.y + -r * dir⟩
  let m2 : P K := ⟨c.x + 1 * r * f, c.y + -dir * r * f⟩
  let m3 : P K := ⟨c.x + r, c.y + 0⟩
  let m4 : P K := ⟨c.x + 1 * r * f, c.y + dir * r * f⟩
  let m5 : P K := ⟨c.x + 0, c.y + r * dir⟩
  let m6 : P K := ⟨c.x + -1 * r * f, c.y + dir * r * f⟩
  [ ⟨start, [.quad ⟨c.x + -r, c.y + -d * dir⟩ m0]⟩,
    ⟨m0, [.quad ⟨c.x + -d, c.y + -r * dir⟩ m1]⟩,
    ⟨m1, [.quad ⟨c.x + d, c.y + -r * dir⟩ m2]⟩,
    ⟨m2, [.quad ⟨c.x + r, c.y + -d * dir⟩ m3]⟩,
    ⟨m3, [.quad ⟨c.x + r, c.y + d * dir⟩ m4]⟩,
    ⟨m4, [.quad ⟨c.x + d, c.y + r * dir⟩ m5]⟩,
    ⟨m5, [.quad ⟨c.x + -d, c.y + r * dir⟩ m6]⟩,
    ⟨m6, [.quad ⟨c.x + -r, c.y + d * dir⟩ start]⟩,
    ⟨start, [.line m0, .line m1, .line m2, .line m3, .line m4, .line m5, .line m6]⟩ ]

/-- **the expansion of `FillBuilder::add_circle`, as sub-paths**: eight single-quadratic arcs and
the octagon (what `Path::iter()` would yield for the same calls) -/
theorem fill_builder_circle_pieces (c : P K) (radius : K) (positive : Bool) :
    toSubs (fillAddCircle c radius positive)
      = circlePieces c |radius| (dirOf positive) tanPi8 frac1Sqrt2 := by
  simp only [fillAddCircle, quadSub, toSubs, toSubsFuel, takeSegs, circlePieces, off, diag, List.cons_append,
    List.nil_append, List.length_cons, List.length_nil, geom, Nat.cast_one, Nat.cast_zero]

theorem windArea_quad (a c b : P K) : windArea ⟨a, [.quad c b]⟩ = (c - a).cross (b - a) := by
  simp only [windArea, windLoop, CSub.last, lastOf, CSeg.to, geom, Nat.cast_zero]; ring

theorem circlePieces_areas (c : P K) (r dir t f : K) :
    (circlePieces c r dir t f).map windArea
      = [dir * r ^ 2 * t * (1 - f), dir * r ^ 2 * t * (1 - f), dir * r ^ 2 * t * (1 - f),
         dir * r ^ 2 * t * (1 - f), dir * r ^ 2 * t * (1 - f), dir * r ^ 2 * t * (1 - f),
         dir * r ^ 2 * t * (1 - f), dir * r ^ 2 * t * (1 - f), 8 * dir * r ^ 2 * f] := by
  simp only [circlePieces, List.map_cons, List.map_nil, windArea_quad, List.cons.injEq, and_true]
  refine ⟨?_, ?_, ?_, ?_, ?_, ?_, ?_, ?_, ?_⟩
  on_goal 9 => simp only [windArea, windLoop, CSub.last, lastOf, CSeg.to]
  all_goals simp only [geom, Nat.cast_zero, add_sub_add_left_eq_sub]; ring

theorem dirOf_cases (positive : Bool) : (dirOf positive : K) = if positive then 1 else -1 := by
  cases positive <;> simp [dirOf]

theorem circlePieces_sign (c : P K) (r dir t f : K) (hr : r ≠ 0) (ht : 0 < t) (hf0 : 0 < f) (hf1 : f < 1) :
    ∀ s ∈ circlePieces c r dir t f, ∃ k : K, 0 < k ∧ windArea s = dir * k := by
  intro s hs
  have hmem : windArea s ∈ (circlePieces c r dir t f).map windArea := List.mem_map_of_mem hs
  rw [circlePieces_areas] at hmem
  have hr2 : 0 < r ^ 2 := by positivity
  have h1f : 0 < 1 - f := by linarith
  -- the eight arcs have the same area
  simp only [List.mem_cons, List.not_mem_nil, or_false, or_self_left] at hmem
  rcases hmem with h | h
  · exact ⟨r ^ 2 * t * (1 - f), by positivity, by rw [h]; ring⟩
  · exact ⟨8 * r ^ 2 * f, by positivity, by rw [h]; ring⟩

/-- **`FillBuilder::add_circle` delivers the requested direction in every piece.**  For a non-zero
radius and both requested windings, each of the nine sub-paths the routine emits — the eight arcs
and the inscribed octagon — is reported by lyon's `compute_winding` as the requested winding, and
its doubled control-polygon area is strictly positive for `Winding::Positive` (`positive = true`),
strictly negative for `Winding::Negative`. -/
theorem fill_builder_circle_winding (c : P K) (radius : K) (hr : radius ≠ 0) (positive : Bool) :
    ∀ s ∈ toSubs (fillAddCircle c radius positive),
      computeWindingC s = positive ∧
      (positive = true → 0 < windArea s) ∧ (positive = false → windArea s < 0) := by
  intro s hs
  rw [fill_builder_circle_pieces] at hs
  obtain ⟨k, hk, hA⟩ := circlePieces_sign c |radius| (dirOf positive) tanPi8 frac1Sqrt2
    (abs_ne_zero.mpr hr) tanPi8_pos frac1Sqrt2_pos frac1Sqrt2_lt_one s hs
  rw [dirOf_cases] at hA
  cases positive
  · have hneg : windArea s < 0 := by rw [hA]; simp only [Bool.false_eq_true, if_false]; linarith
    refine ⟨?_, by simp, fun _ => hneg⟩
    simp only [computeWindingC, decide_eq_false_iff_not, not_lt, geom, Nat.cast_zero]
    exact le_of_lt hneg
  · have hpos : 0 < windArea s := by rw [hA]; simp only [if_true]; linarith
    refine ⟨?_, fun _ => hpos, by simp⟩
    simp only [computeWindingC, decide_eq_true_eq, geom, Nat.cast_zero]
    exact hpos

/-- the values: every arc `dir · r² · tan(π/8) · (1 − 1/√2)`, the octagon `8 · dir · r² · (1/√2)`
(`r = |radius|`, the two constants as lyon writes them) -/
theorem fill_builder_circle_areas (c : P K) (radius : K) (positive : Bool) :
    (toSubs (fillAddCircle c radius positive)).map windArea
      = List.replicate 8 (dirOf positive * |radius| ^ 2 * tanPi8 * (1 - frac1Sqrt2))
          ++ [8 * dirOf positive * |radius| ^ 2 * frac1Sqrt2] := by
  rw [fill_builder_circle_pieces, circlePieces_areas]
  rfl

theorem fill_builder_circle_count (c : P K) (radius : K) (positive : Bool) :
    (toSubs (fillAddCircle c radius positive)).length = 9 := by
  rw [fill_builder_circle_pieces]; rfl

-- non-vacuity: a concrete circle, requested `Negative`: all nine pieces are reported negative
example : ∀ s ∈ toSubs (fillAddCircle (⟨50, 50⟩ : P ℚ) 30 false), computeWindingC s = false :=
  fun s hs => (fill_builder_circle_winding (⟨50, 50⟩ : P ℚ) 30 (by norm_num) false s hs).1

/-- the octagon of the seeded patch: the same eight corners, always in the order of
`Winding::Positive` -/
noncomputable def octagonFixedOrder (c : P K) (r f : K) : CSub K :=
  circlePieces c r 1 0 f |>.getLast (by simp [circlePieces])

/-- **witness**: with the octagon laid out in a fixed order, a circle requested with
`Winding::Negative` gets an octagon of POSITIVE area (`compute_winding = Positive`) next to arcs of
negative area: `fill_builder_circle_winding` fails for that variant — the defect class the family
`fillprog` decides on the real code (its triangles no longer agree with the hit test under the
non-zero rule when another sub-path overlaps the circle). -/
theorem fill_builder_circle_octagon_fixed_order_witness :
    computeWindingC (octagonFixedOrder (⟨50, 50⟩ : P ℚ) 30 frac1Sqrt2) = true ∧
    ∃ s ∈ toSubs (fillAddCircle (⟨50, 50⟩ : P ℚ) 30 false), computeWindingC s = false := by
  constructor
  · have h : windArea (octagonFixedOrder (⟨50, 50⟩ : P ℚ) 30 frac1Sqrt2) = 8 * 1 * 30 ^ 2 * frac1Sqrt2 := by
      have := circlePieces_areas (⟨50, 50⟩ : P ℚ) 30 1 0 frac1Sqrt2
      simp only [circlePieces, List.map_cons, List.map_nil, List.cons.injEq, and_true] at this
      simp only [octagonFixedOrder, circlePieces, List.getLast_cons_cons, List.getLast_singleton]
      exact this.2.2.2.2.2.2.2.2
    simp only [computeWindingC, decide_eq_true_eq, h, geom, Nat.cast_zero]
    have := frac1Sqrt2_pos (K := ℚ)
    positivity
  · have hlen := fill_builder_circle_count (⟨50, 50⟩ : P ℚ) 30 false
    obtain ⟨s, hs⟩ := List.exists_mem_of_length_pos (by rw [hlen]; norm_num : 0 < (toSubs (fillAddCircle (⟨50, 50⟩ : P ℚ) 30 false)).length)
    exact ⟨s, hs, (fill_builder_circle_winding (⟨50, 50⟩ : P ℚ) 30 (by norm_num) false s hs).1⟩

end Lyon.C18
