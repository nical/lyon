/-
  C03 — curved paths and built-in shapes are filled to within the requested tolerance: the model of
  `basic_shapes.rs` (`Model/Tess/BasicShapes.lean`, whose vertex and index buffers are compared bit-for-bit with
  `tessellate_rectangle` / `tessellate_circle` on every run).  The two triangles of `fill_rectangle` are exactly
  the box.  `fill_circle` is unfolded once (`circleMesh`, `fillCircle_eq`); counts, "every vertex on the circle" and
  "three distinct valid ids" are proved per `fill_border_radius` call; for further facts about the mesh the
  buffers are given as an equation by `C03c.border_resolved` / `circleMesh_resolved` (Lemmas/CircleCoverMesh.lean),
  so `fillBorderRadius` need not be walked again.  Last, two facts of `Nat.log2` arithmetic that illustrate the
  repaired depth defect (`.log2() as u32` truncates: `2^⌊log₂ n⌋` can be `< n`; with the ceiling `2^⌈log₂ n⌉ ≥ n`);
  nothing uses them: the model's depth goes through `Transc.log2` / `ceil` and is settled over ℝ by
  `C03c.real_depth_sufficient` (Props/C03Real.lean).

  Whether curved paths in general (Béziers through the sweep, ellipses, rounded rectangles, two
  sub-paths sharing a curved edge) are filled within the tolerance is decided per explored input by
  the slab checker against an independent certified flattening of the exact boundary — translation
  validation, not a theorem about the sweep.
-/
import LyonVerif.Model.Tess.BasicShapes
import LyonVerif.Lemmas.Field

set_option linter.unusedSectionVars false

geom_all Lyon.Shapes

namespace Lyon.C03
open Lyon Lyon.Shapes

variable {K : Type} [Field K] [LinearOrder K] [IsStrictOrderedRing K]

/-- closed triangle membership by the signs of the three edge functions -/
def inTri (a b c p : P K) : Prop :=
  (0 ≤ (b - a).cross (p - a) ∧ 0 ≤ (c - b).cross (p - b) ∧ 0 ≤ (a - c).cross (p - c)) ∨
  ((b - a).cross (p - a) ≤ 0 ∧ (c - b).cross (p - b) ≤ 0 ∧ (a - c).cross (p - c) ≤ 0)

theorem rect_mesh [Transc K] (mn mx : P K) :
    (fillRectangle mn mx).verts = [mn, ⟨mn.x, mx.y⟩, mx, ⟨mx.x, mn.y⟩] ∧
    (fillRectangle mn mx).tris = [(0, 1, 2), (0, 2, 3)] := ⟨rfl, rfl⟩

/-- **The two triangles cover the box**: every point of the (closed) box lies in one of them. -/
theorem rect_covers_box (mn mx p : P K) (hx : mn.x ≤ mx.x) (hy : mn.y ≤ mx.y)
    (h1 : mn.x ≤ p.x) (h2 : p.x ≤ mx.x) (h3 : mn.y ≤ p.y) (h4 : p.y ≤ mx.y) :
    inTri mn ⟨mn.x, mx.y⟩ mx p ∨ inTri mn mx ⟨mx.x, mn.y⟩ p := by
  -- which side of the diagonal mn → mx; the other two edge functions are products of two distances to sides
  by_cases hd : 0 ≤ (mx - mn).cross (p - mn)
  · refine Or.inl (Or.inr ?_)
    simp only [P.cross, P.sub_def] at hd ⊢
    exact ⟨by linear_combination mul_nonneg (sub_nonneg.2 hy) (sub_nonneg.2 h1),
      by linear_combination mul_nonneg (sub_nonneg.2 hx) (sub_nonneg.2 h4), by linear_combination hd⟩
  · refine Or.inr (Or.inr ?_)
    simp only [P.cross, P.sub_def, not_le] at hd ⊢
    exact ⟨hd.le, by linear_combination mul_nonneg (sub_nonneg.2 hy) (sub_nonneg.2 h2),
      by linear_combination mul_nonneg (sub_nonneg.2 hx) (sub_nonneg.2 h3)⟩

/-- **…and nothing else**: a point of either triangle is in the box. -/
theorem rect_inside_box (mn mx p : P K) (hx : mn.x < mx.x) (hy : mn.y < mx.y)
    (h : inTri mn ⟨mn.x, mx.y⟩ mx p ∨ inTri mn mx ⟨mx.x, mn.y⟩ p) :
    mn.x ≤ p.x ∧ p.x ≤ mx.x ∧ mn.y ≤ p.y ∧ p.y ≤ mx.y := by
  have hw : 0 < mx.x - mn.x := sub_pos.2 hx
  have hh : 0 < mx.y - mn.y := sub_pos.2 hy
  simp only [inTri, P.cross, P.sub_def] at h
  -- both triangles are clockwise (the edge functions add up to `−w·h`), so their points have the three
  -- edge functions `≤ 0`; each bound is a combination of these, multiplied by `w` or `h`
  rcases h with (⟨a, b, c⟩ | ⟨a, b, c⟩) | (⟨a, b, c⟩ | ⟨a, b, c⟩)
  · exact absurd (mul_pos hw hh) (not_lt.2 (by linear_combination a + b + c))
  · exact ⟨le_of_mul_le_mul_left (by linear_combination a) hh, le_of_mul_le_mul_left (by linear_combination b + c) hh,
      le_of_mul_le_mul_left (by linear_combination a + c) hw, le_of_mul_le_mul_left (by linear_combination b) hw⟩
  · exact absurd (mul_pos hw hh) (not_lt.2 (by linear_combination a + b + c))
  · exact ⟨le_of_mul_le_mul_left (by linear_combination a + c) hh, le_of_mul_le_mul_left (by linear_combination b) hh,
      le_of_mul_le_mul_left (by linear_combination c) hw, le_of_mul_le_mul_left (by linear_combination a + b) hw⟩

section circle
variable [Transc K]

theorem border_counts (c : P K) (a0 a1 r : K) (va vb n : Nat) (m : Mesh K) :
    (fillBorderRadius c a0 a1 r va vb n m).verts.length = m.verts.length + (2 ^ n - 1) ∧
    (fillBorderRadius c a0 a1 r va vb n m).tris.length = m.tris.length + (2 ^ n - 1) := by
  induction n generalizing a0 a1 va vb m with
  | zero => simp [fillBorderRadius]
  | succ n ih =>
    have hpos : 1 ≤ 2 ^ n := Nat.one_le_two_pow
    simp only [fillBorderRadius, ih, List.length_append, List.length_cons, List.length_nil, pow_succ]
    constructor <;> omega

/-- the mesh `fill_circle` builds for the radius `R = |r|` with recursion depth `n`: the square of the
axis vertices (left, up, right, down), then one `fill_border_radius` call per quadrant -/
noncomputable def circleMesh (c : P K) (R : K) (n : Nat) : Mesh K :=
  let pi := (Transc.pi : K)
  fillBorderRadius c (pi * Scalar.half) pi R 3 0 n <|
  fillBorderRadius c Scalar.zero (pi * Scalar.half) R 2 3 n <|
  fillBorderRadius c (Scalar.ofSci 15 1 * pi) (Scalar.two * pi) R 1 2 n <|
  fillBorderRadius c pi (Scalar.ofSci 15 1 * pi) R 0 1 n
    ⟨[c + (⟨-Scalar.one, Scalar.zero⟩ : P K).smul R, c + (⟨Scalar.zero, -Scalar.one⟩ : P K).smul R,
      c + (⟨Scalar.one, Scalar.zero⟩ : P K).smul R, c + (⟨Scalar.zero, Scalar.one⟩ : P K).smul R],
     [(0, 3, 1), (1, 3, 2)]⟩

theorem fillCircle_eq {c : P K} {r tol : K} {m : Mesh K} (h : fillCircle c r tol = some m) :
    Scalar.abs r ≠ 0 ∧ m = circleMesh c (Scalar.abs r) (circleRecursions (Scalar.abs r) tol) := by
  unfold fillCircle at h
  simp only [] at h
  split at h
  · exact absurd h (by simp)
  · rename_i hz
    exact ⟨fun h0 => hz (by rw [h0]; exact (sc_beq _ _).2 sc_zero.symm), (Option.some.inj h).symm⟩

theorem fillCircle_some (c : P K) {r : K} (tol : K) (h : Scalar.abs r ≠ 0) :
    fillCircle c r tol = some (circleMesh c (Scalar.abs r) (circleRecursions (Scalar.abs r) tol)) := by
  unfold fillCircle
  exact if_neg fun hz => h (((sc_beq _ _).1 hz).trans sc_zero)

/-- **Counts**: a circle of non-zero radius tessellated with recursion depth
`n = circleRecursions` has `4·2ⁿ` vertices and `4·2ⁿ − 2` triangles. -/
theorem circle_counts (c : P K) (r tol : K) (m : Mesh K) (h : fillCircle c r tol = some m) :
    m.verts.length = 4 * 2 ^ circleRecursions (Scalar.abs r) tol ∧
    m.tris.length + 2 = 4 * 2 ^ circleRecursions (Scalar.abs r) tol := by
  obtain ⟨-, rfl⟩ := fillCircle_eq h
  have hpos : 1 ≤ 2 ^ circleRecursions (Scalar.abs r) tol := Nat.one_le_two_pow
  simp only [circleMesh, border_counts, List.length_cons, List.length_nil]
  constructor <;> omega

/-- all vertices produced by `fill_border_radius` lie on the circle -/
def OnCircle (c : P K) (r : K) (p : P K) : Prop :=
  (p.x - c.x) * (p.x - c.x) + (p.y - c.y) * (p.y - c.y) = r * r

theorem border_on_circle (hcs : ∀ a : K, Transc.cos a * Transc.cos a + Transc.sin a * Transc.sin a = 1)
    (c : P K) (a0 a1 r : K) (va vb n : Nat) (m : Mesh K) (h : ∀ p ∈ m.verts, OnCircle c r p) :
    ∀ p ∈ (fillBorderRadius c a0 a1 r va vb n m).verts, OnCircle c r p := by
  induction n generalizing a0 a1 va vb m with
  | zero => simpa [fillBorderRadius] using h
  | succ n ih =>
    simp only [fillBorderRadius]
    apply ih
    apply ih
    intro p hp
    simp only [List.mem_append, List.mem_cons, List.not_mem_nil, or_false] at hp
    rcases hp with hp | hp
    · exact h p hp
    · subst hp
      simp only [OnCircle, P.add_def, P.smul]
      linear_combination (r * r) * hcs ((a0 + a1) * Scalar.half)

/-- **Every vertex of the circle tessellation is exactly on the circle** of radius `|r|` around
the centre (over a field, given `cos² + sin² = 1`). -/
theorem circle_vertices_on_circle
    (hcs : ∀ a : K, Transc.cos a * Transc.cos a + Transc.sin a * Transc.sin a = 1)
    (c : P K) (r tol : K) (m : Mesh K) (h : fillCircle c r tol = some m) :
    ∀ p ∈ m.verts, OnCircle c (Scalar.abs r) p := by
  obtain ⟨-, rfl⟩ := fillCircle_eq h
  unfold circleMesh
  apply border_on_circle hcs
  apply border_on_circle hcs
  apply border_on_circle hcs
  apply border_on_circle hcs
  intro p hp
  simp only [List.mem_cons, List.not_mem_nil, or_false] at hp
  rcases hp with hp | hp | hp | hp <;> subst hp <;>
    simp only [OnCircle, P.add_def, P.smul, sc_zero, sc_one] <;> ring

def TriOK (nv : Nat) (t : Tri) : Prop :=
  t.1 ≠ t.2.1 ∧ t.2.1 ≠ t.2.2 ∧ t.1 ≠ t.2.2 ∧ t.1 < nv ∧ t.2.1 < nv ∧ t.2.2 < nv

theorem triOK_mono {n n' : Nat} (h : n ≤ n') {t : Tri} (ht : TriOK n t) : TriOK n' t := by
  obtain ⟨a, b, c, d, e, f⟩ := ht
  exact ⟨a, b, c, by omega, by omega, by omega⟩

theorem border_tris_ok (c : P K) (a0 a1 r : K) (va vb n : Nat) (m : Mesh K)
    (hab : va ≠ vb) (ha : va < m.verts.length) (hb : vb < m.verts.length)
    (h : ∀ t ∈ m.tris, TriOK m.verts.length t) :
    ∀ t ∈ (fillBorderRadius c a0 a1 r va vb n m).tris,
      TriOK (fillBorderRadius c a0 a1 r va vb n m).verts.length t := by
  induction n generalizing a0 a1 va vb m with
  | zero => simpa [fillBorderRadius] using h
  | succ n ih =>
    simp only [fillBorderRadius]
    set mid := (a0 + a1) * Scalar.half
    set m1 : Mesh K := ⟨m.verts ++ [c + (⟨Transc.cos mid, Transc.sin mid⟩ : P K).smul r],
      m.tris ++ [(vb, m.verts.length, va)]⟩ with hm1
    have hlen1 : m1.verts.length = m.verts.length + 1 := by simp [hm1]
    have h1 : ∀ t ∈ m1.tris, TriOK m1.verts.length t := by
      intro t ht
      simp only [hm1, List.mem_append, List.mem_cons, List.not_mem_nil, or_false] at ht
      rcases ht with ht | ht
      · exact triOK_mono (by omega) (h t ht)
      · subst ht
        show vb ≠ m.verts.length ∧ m.verts.length ≠ va ∧ vb ≠ va ∧ vb < m1.verts.length
          ∧ m.verts.length < m1.verts.length ∧ va < m1.verts.length
        refine ⟨by omega, by omega, fun e => hab e.symm, by omega, by omega, by omega⟩
    set m2 := fillBorderRadius c a0 mid r va m.verts.length n m1 with hm2
    have hlen2 : m1.verts.length ≤ m2.verts.length := by
      rw [hm2, (border_counts c a0 mid r va m.verts.length n m1).1]; omega
    have h2 : ∀ t ∈ m2.tris, TriOK m2.verts.length t :=
      ih a0 mid va m.verts.length m1 (by omega) (by omega) (by omega) h1
    exact ih mid a1 m.verts.length vb m2 (by omega) (by omega) (by omega) h2

theorem circleMesh_tris_ok (c : P K) (R : K) (n : Nat) :
    ∀ t ∈ (circleMesh c R n).tris, TriOK (circleMesh c R n).verts.length t := by
  unfold circleMesh
  -- the ids `0 … 3` of the axis vertices are valid in every intermediate mesh
  apply border_tris_ok (hab := by decide)
    (ha := by simp only [border_counts, List.length_cons, List.length_nil]; omega)
    (hb := by simp only [border_counts, List.length_cons, List.length_nil]; omega)
  apply border_tris_ok (hab := by decide)
    (ha := by simp only [border_counts, List.length_cons, List.length_nil]; omega)
    (hb := by simp only [border_counts, List.length_cons, List.length_nil]; omega)
  apply border_tris_ok (hab := by decide)
    (ha := by simp only [border_counts, List.length_cons, List.length_nil]; omega)
    (hb := by simp only [border_counts, List.length_cons, List.length_nil]; omega)
  apply border_tris_ok (hab := by decide) (ha := by simp) (hb := by simp)
  intro t ht
  simp only [List.mem_cons, List.not_mem_nil, or_false] at ht
  rcases ht with ht | ht <;> subst ht <;> simp [TriOK]

/-- **Every triangle of the circle tessellation references three pairwise distinct vertices
that exist.** -/
theorem circle_tris_distinct (c : P K) (r tol : K) (m : Mesh K) (h : fillCircle c r tol = some m) :
    ∀ t ∈ m.tris, TriOK m.verts.length t := by
  obtain ⟨-, rfl⟩ := fillCircle_eq h
  exact circleMesh_tris_ok c _ _

end circle

/-- truncating the logarithm can give too few segments: `2^⌊log₂ 79⌋ = 64 < 79`
(r = 100, tolerance 0.01 needs 79 segments per quadrant; the old code produced 64). -/
theorem depth_floor_insufficient_witness : 2 ^ Nat.log2 79 < 79 := by decide

/-- with the ceiling there are always enough: `n ≤ 2^⌈log₂ n⌉` -/
theorem depth_ceil_sufficient (n : Nat) : n ≤ 2 ^ (if n ≤ 1 then 0 else Nat.log2 (n - 1) + 1) := by
  split
  · omega
  · have h := Nat.lt_log2_self (n := n - 1)
    omega

example : inTri (⟨0, 0⟩ : P ℚ) ⟨0, 2⟩ ⟨2, 2⟩ ⟨1/2, 1⟩ := by
  right; simp [geom]; norm_num

end Lyon.C03
