/-
  C12d — `utils::cubic_polynomial_roots` is sound AND complete (exact arithmetic), all branches of
  the Cardano part; lifted to "a line that crosses a cubic transversally is reported at each crossing".

  Model functions: `Roots.*`, `Cubic.lineIntersectionsT` of `Model/Geom/Intersect.lean` (the `def`s
  the tie runs at `Float32`/`Float` against lyon), instantiated at an arbitrary linearly ordered
  field `K`.  `sqrt`, `pow`, `cos`, `acos`, `π` are parameters; the laws used are hypotheses:
    sqrt:  `0 ≤ sqrt x`, `sqrt x · sqrt x = x`            (x ≥ 0)
    pow:   `(pow x (1/3))³ = x`                            (x ≥ 0)
    cos:   `CosLaws K` (`Lemmas/CubicRootsTrig.lean`): `cos(x+y) + cos(x−y) = 2 cos x cos y`,
           `cos 0 = 1`, `cos(2π/3) = −1/2`, `cos(x + 2π) = cos x`, `cos(acos x) = x` on `[−1,1]`
  All of them are discharged for Mathlib's real functions in `Props/C12Real.lean`.

  Notation: `δ₀ = delta0 bn cn`, `δ₁ = delta1 bn cn dn`, `Δ = delta01 δ₀ δ₁ = δ₀³ + δ₁²` for the
  normalised cubic `x³ + bn x² + cn x + dn`, `bn = b/a` ….  "Regime" = `¬ |a| < ε` (the code's own
  test for treating `a` as non-zero); for `0 < |a| < ε` the code solves the TRUNCATED polynomial and
  nothing below applies.

  By the sign of `Δ` (as the code tests it), in the regime: `Δ < 0`: three pairwise distinct values, exactly
  the roots (`cubic_roots_trig_iff`).  `Δ > 0`: the head `x₁ = −bn/3 + (s+t)` is THE root; the optional second
  value `x₂ = −bn/3 − (s+t)/2`, returned iff `|s − t| < ε' ≤ |s + t|`, is NOT a root in exact arithmetic (the
  real part of the complex pair; the cubic's value there is `−(9/8)·a·(s+t)·(s−t)²`).  `Δ = 0`: `s = t`, the roots
  are `x₁` and the double root `x₂`.  Together: every SIMPLE root is returned whatever `Δ`
  (`cubic_roots_simple_complete`), every root if `Δ ≠ 0`, every returned value is a root or that `x₂`
  (`cubic_roots_sound_or_repeated`), and where all branch decisions are exact the result is exactly the set of
  roots (`cubic_roots_exact_regime_iff`).  Lifted to cubic × line / segment: the composed polynomial vanishes
  exactly at the parameters whose point is on the line, and a root is simple iff the crossing is transversal
  (`cubic_line_poly_deriv`); so every transversal crossing is reported, three crossings give exactly those
  three parameters, and three crossings with `|A| < ε` force the whole curve within `ε` of the line.

  Non-vacuity: the law hypotheses are satisfied by Mathlib's real functions (`C12Real.real_cosLaws`,
  `real_sqrt_*`, `real_cbrt_pow`), the regime / discriminant / crossing hypotheses by the concrete
  instances at the end of `Props/C12Real.lean` (`three_crossings_evaluated_real`,
  `segment_crossing_evaluated_real` and the examples for Δ < 0, Δ > 0, Δ = 0); the arithmetic
  conditions also by the `example`s over ℚ below.
-/
import LyonVerif.Props.C12
import LyonVerif.Lemmas.CubicRootsTrig
import LyonVerif.Lemmas.CubicRootsSeg

set_option linter.unusedSectionVars false
set_option linter.unusedVariables false

namespace Lyon.C12d
open Lyon Scalar Lyon.Ix Lyon.C12 Lyon.CubicRoots
variable {K : Type} [Field K] [LinearOrder K] [IsStrictOrderedRing K] [Transc K] [Eps K]

/-- `x = y − bn/3`: the normalised cubic in `x` is the depressed cubic in `y` (the form of
`depressed_eq` with the subtraction written as the trigonometric branch writes it) -/
theorem depressed_sub (bn cn dn y : K) :
    (y - bn / 3) ^ 3 + bn * (y - bn / 3) ^ 2 + cn * (y - bn / 3) + dn
      = y ^ 3 + 3 * Roots.delta0 bn cn * y - 2 * Roots.delta1 bn cn dn := by
  have h := depressed_eq bn cn dn y
  rw [frac13_eq] at h
  rw [← h]; ring

theorem root_iff_depressed (a b c d x : K) (ha : a ≠ 0) :
    a * x ^ 3 + b * x ^ 2 + c * x + d = 0 ↔
      (x + b / a / 3) ^ 3 + 3 * Roots.delta0 (b / a) (c / a) * (x + b / a / 3)
        - 2 * Roots.delta1 (b / a) (c / a) (d / a) = 0 := by
  rw [normalised a b c d x ha, mul_eq_zero, or_iff_right ha, ← depressed_sub, add_sub_cancel_right]

/-- in the regime the root finder is the Cardano part on the normalised coefficients -/
theorem rootsWith_regime (e a b c d : K) (ha : ¬ |a| < e) :
    Roots.rootsWith e a b c d = Roots.cardano (b / a) (c / a) (d / a) := by
  unfold Roots.rootsWith
  rw [if_neg (by rw [sc_abs]; exact ha)]

theorem cardano_neg (bn cn dn : K) (hD : Roots.delta01 (Roots.delta0 bn cn) (Roots.delta1 bn cn dn) < 0) :
    Roots.cardano bn cn dn = Roots.cardano3 bn (Roots.delta0 bn cn) (Roots.delta1 bn cn dn) := by
  unfold Roots.cardano
  rw [if_neg (by rw [sc_zero_eq]; exact not_le.mpr hD)]

theorem cardano_nonneg (bn cn dn : K) (hD : 0 ≤ Roots.delta01 (Roots.delta0 bn cn) (Roots.delta1 bn cn dn)) :
    Roots.cardano bn cn dn
      = Roots.cardano1 (Roots.epsN bn cn dn) bn (Roots.delta0 bn cn) (Roots.delta1 bn cn dn) := by
  unfold Roots.cardano
  rw [if_pos (by rw [sc_zero_eq]; exact hD)]

section trig

/-- the branch `Δ < 0` in one statement: with `m = sqrt(−δ₀)`, `r = sqrt(−δ₀³) = m³ > 0` and
`θ = acos(δ₁/r)`, `δ₁/r` strictly inside `(−1, 1)`, the three values are `2·m·cos(θ/3 + 2kπ/3) − bn/3` -/
theorem cardano_trig_form (hs0 : ∀ x : K, 0 ≤ x → 0 ≤ Transc.sqrt x)
    (hsq : ∀ x : K, 0 ≤ x → Transc.sqrt x * Transc.sqrt x = x) (bn cn dn : K)
    (hD : Roots.delta01 (Roots.delta0 bn cn) (Roots.delta1 bn cn dn) < 0) :
    ∃ m r θ : K, 0 < m ∧ m * m = -Roots.delta0 bn cn ∧ m ^ 3 = r ∧ 0 < r
      ∧ -1 < Roots.delta1 bn cn dn / r ∧ Roots.delta1 bn cn dn / r < 1
      ∧ θ = Transc.acos (Roots.delta1 bn cn dn / r)
      ∧ Roots.cardano bn cn dn = [2 * m * Transc.cos (θ / 3) - bn / 3,
          2 * m * Transc.cos (θ / 3 + 2 * Transc.pi / 3) - bn / 3,
          2 * m * Transc.cos (θ / 3 + 4 * Transc.pi / 3) - bn / 3] := by
  obtain ⟨_, h2, h3, h4, h5, h6, h7⟩ := trig_regime hs0 hsq _ _ hD
  exact ⟨_, _, _, h3, h2, h4, h5, h6, h7, theta_eq _ _, by rw [cardano_neg bn cn dn hD, cardano3_eq]⟩

/-- **Soundness of the three-real-roots branch** for the normalised cubic: with the discriminant
condition as the code tests it (`δ₀³ + δ₁² < 0`), each of the three values `cardano` returns is a
root of `x³ + bn x² + cn x + dn`: the three cosines solve `4u³ − 3u = cos θ` (`CosLaws.thirds_triple`;
the model's angles are `(θ + 2kπ)·(1/3)`). -/
theorem cardano_trig_sound (L : CosLaws K) (hs0 : ∀ x : K, 0 ≤ x → 0 ≤ Transc.sqrt x)
    (hsq : ∀ x : K, 0 ≤ x → Transc.sqrt x * Transc.sqrt x = x)
    (bn cn dn x : K) (hD : Roots.delta01 (Roots.delta0 bn cn) (Roots.delta1 bn cn dn) < 0)
    (hx : x ∈ Roots.cardano bn cn dn) : x ^ 3 + bn * x ^ 2 + cn * x + dn = 0 := by
  obtain ⟨m, r, θ, _, hmm, hm3, hr, hlo, hhi, hθ, hl⟩ := cardano_trig_form hs0 hsq bn cn dn hD
  have hc : Transc.cos (3 * (θ / 3)) = Roots.delta1 bn cn dn / r := by
    rw [show 3 * (θ / 3) = θ by ring, hθ]; exact L.cos_acos _ hlo.le hhi.le
  obtain ⟨u1, u2⟩ := L.thirds_triple (θ / 3)
  rw [hl] at hx
  simp only [List.mem_cons, List.not_mem_nil, or_false] at hx
  rcases hx with hx | hx | hx <;> rw [hx, depressed_sub]
  · exact trig_root _ _ m r _ hmm hm3 hr.ne' (by rw [← L.cos_three_mul, hc])
  · exact trig_root _ _ m r _ hmm hm3 hr.ne' (u1.trans hc)
  · exact trig_root _ _ m r _ hmm hm3 hr.ne' (u2.trans hc)

/-- **Soundness of the three-real-roots branch** (`cubic_polynomial_roots` with its epsilon): when
`a` passes the code's non-zero test and `δ₀³ + δ₁² < 0`, every returned value is a root of
`a x³ + b x² + c x + d`. -/
theorem cubic_roots_trig_sound (L : CosLaws K) (hs0 : ∀ x : K, 0 ≤ x → 0 ≤ Transc.sqrt x)
    (hsq : ∀ x : K, 0 ≤ x → Transc.sqrt x * Transc.sqrt x = x)
    (e a b c d x : K) (he : 0 < e) (ha : ¬ |a| < e)
    (hD : Roots.delta01 (Roots.delta0 (b / a) (c / a)) (Roots.delta1 (b / a) (c / a) (d / a)) < 0)
    (hx : x ∈ Roots.rootsWith e a b c d) : a * x ^ 3 + b * x ^ 2 + c * x + d = 0 := by
  rw [rootsWith_regime e a b c d ha] at hx
  rw [normalised a b c d x (regime_ne_zero e a he ha),
    cardano_trig_sound L hs0 hsq _ _ _ x hD hx, mul_zero]

/-- non-vacuity: `x³ − 7x + 6 = (x−1)(x−2)(x+3)`: `δ₀ = −7/3`, `δ₁ = −3`, `Δ = −100/27 < 0`,
`|a| = 1 ≥ ε = 1/100` -/
example : (0:ℚ) < 1/100 ∧ ¬ |(1:ℚ)| < 1/100
    ∧ ((3 * (-7/1) - (0/1) * (0/1)) / 9 : ℚ) ^ 3 + ((9 * (0/1) * (-7/1) - 27 * (6/1) - 2 * (0/1) * (0/1) * (0/1)) / 54) ^ 2 < 0 := by
  refine ⟨by norm_num, by norm_num, by norm_num⟩

variable (L : CosLaws K)
include L

/-- the three values of the branch `Δ < 0` are pairwise distinct: `δ₁/r` lies strictly inside
`(−1, 1)`, so `cos² θ ≠ 1` (`CosLaws.thirds_distinct`) -/
theorem cardano_trig_distinct (hs0 : ∀ x : K, 0 ≤ x → 0 ≤ Transc.sqrt x)
    (hsq : ∀ x : K, 0 ≤ x → Transc.sqrt x * Transc.sqrt x = x)
    (bn cn dn : K) (hD : Roots.delta01 (Roots.delta0 bn cn) (Roots.delta1 bn cn dn) < 0) :
    ∃ x1 x2 x3 : K, Roots.cardano bn cn dn = [x1, x2, x3] ∧ x1 ≠ x2 ∧ x1 ≠ x3 ∧ x2 ≠ x3 := by
  obtain ⟨m, r, θ, hm, _, _, _, hlo, hhi, hθ, hl⟩ := cardano_trig_form hs0 hsq bn cn dn hD
  have hc : Transc.cos θ = Roots.delta1 bn cn dn / r := hθ ▸ L.cos_acos _ hlo.le hhi.le
  have hw : Transc.cos (3 * (θ / 3)) ^ 2 ≠ 1 := by
    rw [show 3 * (θ / 3) = θ by ring, hc]
    exact ((sq_lt_one_iff_abs_lt_one _).mpr (abs_lt.mpr ⟨hlo, hhi⟩)).ne
  obtain ⟨n01, n02, n12⟩ := L.thirds_distinct (θ / 3) hw
  have h2m : 2 * m ≠ 0 := mul_ne_zero two_ne_zero hm.ne'
  refine ⟨_, _, _, hl, ?_, ?_, ?_⟩
  · intro h; exact n01 (mul_left_cancel₀ h2m (sub_left_injective h))
  · intro h; exact n02 (mul_left_cancel₀ h2m (sub_left_injective h))
  · intro h; exact n12 (mul_left_cancel₀ h2m (sub_left_injective h))

/-- **Δ < 0: exactly three values, pairwise distinct, each a root.** -/
theorem cubic_roots_trig_distinct (hs0 : ∀ x : K, 0 ≤ x → 0 ≤ Transc.sqrt x)
    (hsq : ∀ x : K, 0 ≤ x → Transc.sqrt x * Transc.sqrt x = x)
    (e a b c d : K) (he : 0 < e) (ha : ¬ |a| < e)
    (hD : Roots.delta01 (Roots.delta0 (b / a) (c / a)) (Roots.delta1 (b / a) (c / a) (d / a)) < 0) :
    ∃ x1 x2 x3 : K, Roots.rootsWith e a b c d = [x1, x2, x3] ∧ x1 ≠ x2 ∧ x1 ≠ x3 ∧ x2 ≠ x3
      ∧ a * x1 ^ 3 + b * x1 ^ 2 + c * x1 + d = 0 ∧ a * x2 ^ 3 + b * x2 ^ 2 + c * x2 + d = 0
      ∧ a * x3 ^ 3 + b * x3 ^ 2 + c * x3 + d = 0 := by
  obtain ⟨x1, x2, x3, hl, h12, h13, h23⟩ := cardano_trig_distinct L hs0 hsq _ _ _ hD
  have hl' : Roots.rootsWith e a b c d = [x1, x2, x3] := by rw [rootsWith_regime e a b c d ha, hl]
  have snd := fun x hx => cubic_roots_trig_sound L hs0 hsq
    e a b c d x he ha hD hx
  refine ⟨x1, x2, x3, hl', h12, h13, h23, snd x1 ?_, snd x2 ?_, snd x3 ?_⟩ <;> rw [hl'] <;> simp

/-- **Completeness of the three-real-roots branch**: when `a` passes the code's non-zero test and
`δ₀³ + δ₁² < 0`, every root of `a x³ + b x² + c x + d` in the field is one of the returned values
(three pairwise distinct roots are returned, and a cubic has at most three). -/
theorem cubic_roots_trig_complete (hs0 : ∀ x : K, 0 ≤ x → 0 ≤ Transc.sqrt x)
    (hsq : ∀ x : K, 0 ≤ x → Transc.sqrt x * Transc.sqrt x = x)
    (e a b c d x : K) (he : 0 < e) (ha : ¬ |a| < e)
    (hD : Roots.delta01 (Roots.delta0 (b / a) (c / a)) (Roots.delta1 (b / a) (c / a) (d / a)) < 0)
    (hx : a * x ^ 3 + b * x ^ 2 + c * x + d = 0) : x ∈ Roots.rootsWith e a b c d := by
  obtain ⟨x1, x2, x3, hl, h12, h13, h23, r1, r2, r3⟩ := cubic_roots_trig_distinct L hs0 hsq e a b c d he ha hD
  rw [hl]
  rcases cubic_at_most_three_roots a b c d x1 x2 x3 x (regime_ne_zero e a he ha) h12 h13 h23 r1 r2 r3 hx
    with h | h | h <;> rw [h] <;> simp

/-- **Δ < 0: the result is exactly the set of roots.** -/
theorem cubic_roots_trig_iff (hs0 : ∀ x : K, 0 ≤ x → 0 ≤ Transc.sqrt x)
    (hsq : ∀ x : K, 0 ≤ x → Transc.sqrt x * Transc.sqrt x = x)
    (e a b c d x : K) (he : 0 < e) (ha : ¬ |a| < e)
    (hD : Roots.delta01 (Roots.delta0 (b / a) (c / a)) (Roots.delta1 (b / a) (c / a) (d / a)) < 0) :
    x ∈ Roots.rootsWith e a b c d ↔ a * x ^ 3 + b * x ^ 2 + c * x + d = 0 :=
  ⟨cubic_roots_trig_sound L hs0 hsq e a b c d x he ha hD,
   cubic_roots_trig_complete L hs0 hsq e a b c d x he ha hD⟩

end trig

section cardano

/-- **`s·t = −δ₀`** holds by construction in the repaired code (before 7006df58 both were computed
as cube roots and the relation held only up to rounding) -/
theorem cardano_st (hs0 : ∀ x : K, 0 ≤ x → 0 ≤ Transc.sqrt x)
    (hsq : ∀ x : K, 0 ≤ x → Transc.sqrt x * Transc.sqrt x = x)
    (hpow : ∀ x : K, 0 ≤ x → Transc.pow x (Roots.frac13 : K) ^ 3 = x)
    (d0 d1 : K) (hΔ : 0 ≤ Roots.delta01 d0 d1) : Roots.cS d0 d1 * Roots.cT d0 d1 = -d0 :=
  (cardano_pair hs0 hsq hpow d0 d1 hΔ).1

/-- **`s = t` exactly when the discriminant vanishes**: `(s³ − t³)² = 4Δ`, and cube roots are unique -/
theorem cardano_s_eq_t_iff (hs0 : ∀ x : K, 0 ≤ x → 0 ≤ Transc.sqrt x)
    (hsq : ∀ x : K, 0 ≤ x → Transc.sqrt x * Transc.sqrt x = x)
    (hpow : ∀ x : K, 0 ≤ x → Transc.pow x (Roots.frac13 : K) ^ 3 = x)
    (d0 d1 : K) (hΔ : 0 ≤ Roots.delta01 d0 d1) :
    Roots.cS d0 d1 = Roots.cT d0 d1 ↔ Roots.delta01 d0 d1 = 0 := by
  obtain ⟨_, _, hd⟩ := cardano_pair hs0 hsq hpow d0 d1 hΔ
  constructor
  · intro h
    rw [h, sub_self] at hd
    linear_combination (-1 / 4 : K) * hd
  · intro h
    rw [h, mul_zero] at hd
    exact cube_inj (sub_eq_zero.mp (pow_eq_zero_iff two_ne_zero |>.mp hd))

/-- `Δ ≥ 0`, regime: the result is the head `x₁ = −bn/3 + (s+t)` followed by the optional
"repeated root" `x₂ = −bn/3 − (s+t)/2`, present iff `|s − t| < ε'` and `|s + t| ≥ ε'`
(`ε' = epsilon_for(max |bn|,|cn|,|dn|)`). -/
theorem cubic_roots_cardano_shape (e a b c d : K) (ha : ¬ |a| < e)
    (hΔ : 0 ≤ Roots.delta01 (Roots.delta0 (b / a) (c / a)) (Roots.delta1 (b / a) (c / a) (d / a))) :
    Roots.rootsWith e a b c d =
      (-(b / a) / 3 + (Roots.cS (Roots.delta0 (b / a) (c / a)) (Roots.delta1 (b / a) (c / a) (d / a))
          + Roots.cT (Roots.delta0 (b / a) (c / a)) (Roots.delta1 (b / a) (c / a) (d / a))))
      :: (if |Roots.cS (Roots.delta0 (b / a) (c / a)) (Roots.delta1 (b / a) (c / a) (d / a))
              - Roots.cT (Roots.delta0 (b / a) (c / a)) (Roots.delta1 (b / a) (c / a) (d / a))|
              < Roots.epsN (b / a) (c / a) (d / a)
            ∧ Roots.epsN (b / a) (c / a) (d / a)
              ≤ |Roots.cS (Roots.delta0 (b / a) (c / a)) (Roots.delta1 (b / a) (c / a) (d / a))
                + Roots.cT (Roots.delta0 (b / a) (c / a)) (Roots.delta1 (b / a) (c / a) (d / a))|
          then [-(b / a) / 3 - (Roots.cS (Roots.delta0 (b / a) (c / a)) (Roots.delta1 (b / a) (c / a) (d / a))
              + Roots.cT (Roots.delta0 (b / a) (c / a)) (Roots.delta1 (b / a) (c / a) (d / a))) / 2]
          else []) := by
  rw [rootsWith_regime e a b c d ha, cardano_nonneg _ _ _ hΔ]
  unfold Roots.cardano1
  rw [frac13_eq, sc_abs, sc_abs, sc_two_eq, List.singleton_append,
    mul_one_div]

/-- the depressed cubic at `−(s+t)/2`, for any root `y = s + t` with `s·t = −δ₀` -/
theorem depressed_at_half (d0 d1 s t : K) (hst : s * t = -d0)
    (hy : (s + t) ^ 3 + 3 * d0 * (s + t) - 2 * d1 = 0) :
    (-(s + t) / 2) ^ 3 + 3 * d0 * (-(s + t) / 2) - 2 * d1 = -(9 / 8) * (s + t) * (s - t) ^ 2 := by
  linear_combination hy - (9 / 2 : K) * (s + t) * hst

/-- **What the optional "repeated root" value is worth**: the cubic evaluated at
`x₂ = −bn/3 − (s+t)/2` is `−(9/8)·a·(s+t)·(s−t)²`. -/
theorem cardano_repeated_value (hs0 : ∀ x : K, 0 ≤ x → 0 ≤ Transc.sqrt x)
    (hsq : ∀ x : K, 0 ≤ x → Transc.sqrt x * Transc.sqrt x = x)
    (hpow : ∀ x : K, 0 ≤ x → Transc.pow x (Roots.frac13 : K) ^ 3 = x)
    (a b c d : K) (ha : a ≠ 0)
    (hΔ : 0 ≤ Roots.delta01 (Roots.delta0 (b / a) (c / a)) (Roots.delta1 (b / a) (c / a) (d / a)))
    (s t x2 : K) (hs : s = Roots.cS (Roots.delta0 (b / a) (c / a)) (Roots.delta1 (b / a) (c / a) (d / a)))
    (ht : t = Roots.cT (Roots.delta0 (b / a) (c / a)) (Roots.delta1 (b / a) (c / a) (d / a)))
    (hx2 : x2 = -(b / a) / 3 - (s + t) / 2) :
    a * x2 ^ 3 + b * x2 ^ 2 + c * x2 + d = -(9 / 8) * a * (s + t) * (s - t) ^ 2 := by
  have hst := cardano_st hs0 hsq hpow _ _ hΔ
  have hy := cardano_sum_root hs0 hsq hpow _ _ hΔ
  rw [← hs, ← ht] at hst hy
  have h := depressed_at_half _ _ s t hst hy
  rw [normalised a b c d x2 ha, hx2,
    show -(b / a) / 3 - (s + t) / 2 = -(s + t) / 2 - b / a / 3 by ring, depressed_sub, h]
  ring

/-- **`x₂`, when returned, is a root iff `Δ = 0`.**  (It is returned only if `|s + t| ≥ ε' > 0`,
so `s + t ≠ 0`.)  For `Δ > 0` and `|s − t| < ε'` the code reports a value that is not a root of the
polynomial in exact arithmetic: it is the real part of the complex-conjugate pair, and the
polynomial's value there is `−(9/8)·a·(s+t)·(s−t)²`, of size `< (9/8)·|a|·|s+t|·ε'²`. -/
theorem cardano_repeated_root_iff (hs0 : ∀ x : K, 0 ≤ x → 0 ≤ Transc.sqrt x)
    (hsq : ∀ x : K, 0 ≤ x → Transc.sqrt x * Transc.sqrt x = x)
    (hpow : ∀ x : K, 0 ≤ x → Transc.pow x (Roots.frac13 : K) ^ 3 = x)
    (a b c d : K) (ha : a ≠ 0)
    (hΔ : 0 ≤ Roots.delta01 (Roots.delta0 (b / a) (c / a)) (Roots.delta1 (b / a) (c / a) (d / a)))
    (s t x2 : K) (hs : s = Roots.cS (Roots.delta0 (b / a) (c / a)) (Roots.delta1 (b / a) (c / a) (d / a)))
    (ht : t = Roots.cT (Roots.delta0 (b / a) (c / a)) (Roots.delta1 (b / a) (c / a) (d / a)))
    (hx2 : x2 = -(b / a) / 3 - (s + t) / 2) (hne : s + t ≠ 0) :
    a * x2 ^ 3 + b * x2 ^ 2 + c * x2 + d = 0
      ↔ Roots.delta01 (Roots.delta0 (b / a) (c / a)) (Roots.delta1 (b / a) (c / a) (d / a)) = 0 := by
  rw [cardano_repeated_value hs0 hsq hpow a b c d ha hΔ s t x2 hs ht hx2,
    ← cardano_s_eq_t_iff hs0 hsq hpow _ _ hΔ, ← hs, ← ht, mul_eq_zero, pow_eq_zero_iff two_ne_zero,
    sub_eq_zero]
  exact or_iff_right (mul_ne_zero (mul_ne_zero (by norm_num) ha) hne)

/-- **`Δ > 0`: one real root, and it is the head of the result** — the returned list contains
every root of the cubic in the field. -/
theorem cubic_roots_cardano_complete (hs0 : ∀ x : K, 0 ≤ x → 0 ≤ Transc.sqrt x)
    (hsq : ∀ x : K, 0 ≤ x → Transc.sqrt x * Transc.sqrt x = x)
    (hpow : ∀ x : K, 0 ≤ x → Transc.pow x (Roots.frac13 : K) ^ 3 = x)
    (e a b c d : K) (he : 0 < e) (ha : ¬ |a| < e)
    (hΔ : 0 < Roots.delta01 (Roots.delta0 (b / a) (c / a)) (Roots.delta1 (b / a) (c / a) (d / a))) :
    ∃ x1 rest, Roots.rootsWith e a b c d = x1 :: rest ∧ a * x1 ^ 3 + b * x1 ^ 2 + c * x1 + d = 0
      ∧ ∀ x : K, a * x ^ 3 + b * x ^ 2 + c * x + d = 0 → x = x1 := by
  obtain ⟨x1, rest, hl, hr⟩ := cubic_roots_sound_partial_cardano hs0 hsq hpow e a b c d he ha hΔ.le
  refine ⟨x1, rest, hl, hr, ?_⟩
  intro x hx
  have ha0 := regime_ne_zero e a he ha
  rw [delta01_eq] at hΔ
  linear_combination depressed_unique_root _ _ _ _ hΔ ((root_iff_depressed a b c d x ha0).mp hx)
    ((root_iff_depressed a b c d x1 ha0).mp hr)

/-- non-vacuity: `x³ − 1`: `δ₀ = 0`, `δ₁ = 1/2`, `Δ = 1/4 > 0`; the only rational root is `1` -/
example : (0:ℚ) < ((3 * 0 - 0 * 0) / 9) ^ 3 + ((9 * 0 * 0 - 27 * (-1) - 2 * 0 * 0 * 0) / 54) ^ 2 := by norm_num

/-- **`Δ = 0`: the roots are exactly `x₁ = −bn/3 + (s+t)` and the double root
`x₂ = −bn/3 − (s+t)/2`** (equal iff `s + t = 0`: a triple root). -/
theorem cubic_roots_disc_zero (hs0 : ∀ x : K, 0 ≤ x → 0 ≤ Transc.sqrt x)
    (hsq : ∀ x : K, 0 ≤ x → Transc.sqrt x * Transc.sqrt x = x)
    (hpow : ∀ x : K, 0 ≤ x → Transc.pow x (Roots.frac13 : K) ^ 3 = x)
    (a b c d : K) (ha : a ≠ 0)
    (hΔ : Roots.delta01 (Roots.delta0 (b / a) (c / a)) (Roots.delta1 (b / a) (c / a) (d / a)) = 0)
    (s t : K) (hs : s = Roots.cS (Roots.delta0 (b / a) (c / a)) (Roots.delta1 (b / a) (c / a) (d / a)))
    (ht : t = Roots.cT (Roots.delta0 (b / a) (c / a)) (Roots.delta1 (b / a) (c / a) (d / a))) (x : K) :
    (a * x ^ 3 + b * x ^ 2 + c * x + d = 0 ↔ (x = -(b / a) / 3 + (s + t) ∨ x = -(b / a) / 3 - (s + t) / 2))
    ∧ (x = -(b / a) / 3 - (s + t) / 2 → 3 * a * x ^ 2 + 2 * b * x + c = 0) := by
  have hst := (cardano_s_eq_t_iff hs0 hsq hpow _ _ hΔ.ge).mpr hΔ
  obtain ⟨hprod, hsum, _⟩ := cardano_pair hs0 hsq hpow _ _ hΔ.ge
  rw [← hs, ← ht] at hst hprod hsum
  subst hst
  -- `s = t`: `s³ = δ₁` and `s² = −δ₀`
  set d0 := Roots.delta0 (b / a) (c / a) with hd0
  set d1 := Roots.delta1 (b / a) (c / a) (d / a)
  rw [delta01_eq] at hΔ
  constructor
  · rw [root_iff_depressed a b c d x ha,
      depressed_roots_disc_zero d0 d1 s _ hΔ (by linear_combination (1 / 2 : K) * hsum)]
    constructor
    · rintro (h | h)
      · left; linear_combination h
      · right; linear_combination h
    · rintro (h | h)
      · left; linear_combination h
      · right; linear_combination h
  · intro hx
    have e1 : 3 * a * x ^ 2 + 2 * b * x + c = a * (3 * (x + b / a / 3) ^ 2 + 3 * d0) := by
      rw [hd0]; simp only [Roots.delta0, geom, Nat.cast_ofNat]; field_simp; ring
    rw [e1, hx]
    linear_combination (3 * a) * hprod

/-- non-vacuity: `x³ − 3x − 2 = (x − 2)(x + 1)²` has `Δ = 0` -/
example : (((3 * (-3) - 0 * 0) / 9 : ℚ)) ^ 3 + ((9 * 0 * (-3) - 27 * (-2) - 2 * 0 * 0 * 0) / 54) ^ 2 = 0 := by norm_num

end cardano

section degenerate

/-- **linear branch, `a = b = 0` exactly**: the root of `c x + d` is returned -/
theorem cubic_roots_complete_linear (e c d x : K) (he : 0 < e) (hc : ¬ |c| < e) (hx : c * x + d = 0) :
    x ∈ Roots.rootsWith e 0 0 c d := by
  unfold Roots.rootsWith
  rw [if_pos (by rw [sc_abs, abs_zero]; exact he), if_pos (by rw [sc_abs, abs_zero]; exact he),
    if_neg (by rw [sc_abs]; exact hc), List.mem_singleton]
  have hc0 : c ≠ 0 := regime_ne_zero e c he hc
  rw [eq_div_iff hc0]; linear_combination hx

/-- **quadratic branch, `a = 0` exactly**: every simple root of `b x² + c x + d` is returned -/
theorem cubic_roots_complete_quadratic (hsq : ∀ x : K, 0 ≤ x → Transc.sqrt x * Transc.sqrt x = x)
    (e b c d x : K) (he : 0 < e) (hb : ¬ |b| < e) (hx : b * x ^ 2 + c * x + d = 0)
    (hsimple : 2 * b * x + c ≠ 0) : x ∈ Roots.rootsWith e 0 b c d := by
  have hΔe : Roots.qdelta b c d = (2 * b * x + c) ^ 2 := by
    simp only [Roots.qdelta, geom, Nat.cast_ofNat]
    linear_combination (-4 * b) * hx
  have hΔ : 0 < Roots.qdelta b c d := by rw [hΔe]; positivity
  rw [rootsWith_quadratic e 0 b c d (by rw [abs_zero]; exact he) hb hΔ, List.mem_cons, List.mem_singleton]
  have hq : Roots.qdelta b c d = c * c - 4 * b * d := by simp only [Roots.qdelta, geom, Nat.cast_ofNat]
  exact (quadratic_roots_iff (regime_ne_zero e b he hb) ((hsq _ hΔ.le).trans hq)).mp
    (by linear_combination hx)

/-- non-vacuity: `x² − 3x + 2` has the simple root `1` (`2·1·1 − 3 = −1 ≠ 0`) -/
example : (1:ℚ) * 1 ^ 2 + (-3) * 1 + 2 = 0 ∧ 2 * (1:ℚ) * 1 + (-3) ≠ 0 := by norm_num

/-- "the code's degree decision is exact": the leading coefficient passes the non-zero test, or it
is exactly zero and the next one passes it, or both are exactly zero and the third passes it -/
def ExactDegree (e a b c : K) : Prop :=
  ¬ |a| < e ∨ (a = 0 ∧ ¬ |b| < e) ∨ (a = 0 ∧ b = 0 ∧ ¬ |c| < e)

end degenerate

section all
variable (L : CosLaws K)
include L

/-- **Completeness, `Δ ≠ 0`**: in the regime, if the discriminant expression the code computes is
non-zero, every root of the cubic in the field is in the returned list. -/
theorem cubic_roots_complete (hs0 : ∀ x : K, 0 ≤ x → 0 ≤ Transc.sqrt x)
    (hsq : ∀ x : K, 0 ≤ x → Transc.sqrt x * Transc.sqrt x = x)
    (hpow : ∀ x : K, 0 ≤ x → Transc.pow x (Roots.frac13 : K) ^ 3 = x)
    (e a b c d x : K) (he : 0 < e) (ha : ¬ |a| < e)
    (hΔ : Roots.delta01 (Roots.delta0 (b / a) (c / a)) (Roots.delta1 (b / a) (c / a) (d / a)) ≠ 0)
    (hx : a * x ^ 3 + b * x ^ 2 + c * x + d = 0) : x ∈ Roots.rootsWith e a b c d := by
  rcases lt_or_gt_of_ne hΔ with h | h
  · exact cubic_roots_trig_complete L hs0 hsq e a b c d x he ha h hx
  · obtain ⟨x1, rest, hl, _, huniq⟩ := cubic_roots_cardano_complete hs0 hsq hpow e a b c d he ha h
    rw [hl, huniq x hx]; exact List.mem_cons_self

/-- **Completeness for simple roots, every discriminant**: in the regime (`a` passes the code's
non-zero test `¬ |a| < ε`) every SIMPLE root of `a x³ + b x² + c x + d` (derivative `≠ 0` there) is in
the list `cubic_polynomial_roots` returns.  (`Δ < 0`: all three roots are returned; `Δ > 0`: the only
root is the head; `Δ = 0`: the simple root is the head, the other root is double.) -/
theorem cubic_roots_simple_complete (hs0 : ∀ x : K, 0 ≤ x → 0 ≤ Transc.sqrt x)
    (hsq : ∀ x : K, 0 ≤ x → Transc.sqrt x * Transc.sqrt x = x)
    (hpow : ∀ x : K, 0 ≤ x → Transc.pow x (Roots.frac13 : K) ^ 3 = x)
    (e a b c d x : K) (he : 0 < e) (ha : ¬ |a| < e)
    (hx : a * x ^ 3 + b * x ^ 2 + c * x + d = 0) (hsimple : 3 * a * x ^ 2 + 2 * b * x + c ≠ 0) :
    x ∈ Roots.rootsWith e a b c d := by
  by_cases hΔ : Roots.delta01 (Roots.delta0 (b / a) (c / a)) (Roots.delta1 (b / a) (c / a) (d / a)) = 0
  · obtain ⟨hiff, hder⟩ :=
      cubic_roots_disc_zero hs0 hsq hpow a b c d (regime_ne_zero e a he ha) hΔ _ _ rfl rfl x
    rw [cubic_roots_cardano_shape e a b c d ha hΔ.ge]
    rcases hiff.mp hx with h | h
    · rw [h]; exact List.mem_cons_self
    · exact absurd (hder h) hsimple
  · exact cubic_roots_complete L hs0 hsq hpow e a b c d x he ha hΔ hx

/-- **Soundness, every discriminant**: in the regime every returned value is a root, with the single
exception of the optional "repeated root" value `x₂ = −bn/3 − (s+t)/2` of the branch `Δ > 0`
(returned iff `|s − t| < ε' ≤ |s + t|`), which is not a root (`cardano_repeated_root_iff`) but the
real part of the complex pair; the polynomial's value there is given by `cardano_repeated_value`. -/
theorem cubic_roots_sound_or_repeated (hs0 : ∀ x : K, 0 ≤ x → 0 ≤ Transc.sqrt x)
    (hsq : ∀ x : K, 0 ≤ x → Transc.sqrt x * Transc.sqrt x = x)
    (hpow : ∀ x : K, 0 ≤ x → Transc.pow x (Roots.frac13 : K) ^ 3 = x)
    (e a b c d x : K) (he : 0 < e) (ha : ¬ |a| < e) (hx : x ∈ Roots.rootsWith e a b c d) :
    a * x ^ 3 + b * x ^ 2 + c * x + d = 0
    ∨ (0 < Roots.delta01 (Roots.delta0 (b / a) (c / a)) (Roots.delta1 (b / a) (c / a) (d / a))
        ∧ x = -(b / a) / 3 - (Roots.cS (Roots.delta0 (b / a) (c / a)) (Roots.delta1 (b / a) (c / a) (d / a))
              + Roots.cT (Roots.delta0 (b / a) (c / a)) (Roots.delta1 (b / a) (c / a) (d / a))) / 2
        ∧ |Roots.cS (Roots.delta0 (b / a) (c / a)) (Roots.delta1 (b / a) (c / a) (d / a))
              - Roots.cT (Roots.delta0 (b / a) (c / a)) (Roots.delta1 (b / a) (c / a) (d / a))|
              < Roots.epsN (b / a) (c / a) (d / a)
        ∧ a * x ^ 3 + b * x ^ 2 + c * x + d ≠ 0) := by
  have ha0 := regime_ne_zero e a he ha
  rcases lt_or_ge (Roots.delta01 (Roots.delta0 (b / a) (c / a)) (Roots.delta1 (b / a) (c / a) (d / a))) 0
    with hΔ | hΔ
  · left
    exact cubic_roots_trig_sound L hs0 hsq e a b c d x he ha hΔ hx
  · have hsh := cubic_roots_cardano_shape e a b c d ha hΔ
    obtain ⟨x1, rest, hl, hr⟩ := cubic_roots_sound_partial_cardano hs0 hsq hpow e a b c d he ha hΔ
    rw [hsh] at hl hx
    obtain ⟨rfl, _⟩ := List.cons.inj hl
    rcases List.mem_cons.mp hx with rfl | h
    · exact Or.inl hr
    · split at h
      next hc =>
        rw [List.mem_singleton] at h
        -- `|s − t| < ε' ≤ |s + t|` makes `s + t ≠ 0`
        have hiff := cardano_repeated_root_iff hs0 hsq hpow a b c d ha0 hΔ _ _ x rfl rfl h
          (abs_pos.mp ((abs_nonneg _).trans_lt (hc.1.trans_le hc.2)))
        exact or_iff_not_imp_left.mpr fun hroot =>
          ⟨hΔ.lt_of_ne fun h0 => hroot (hiff.mpr h0.symm), h, hc.1, hroot⟩
      next => cases h

/-- **The regime in which every branch decision of the code is exact, and the answer there**:
(1) `a` passes the non-zero test; (2) for `Δ > 0` the "repeated root" test `|s − t| < ε' ≤ |s + t|`
fails (it is meant to detect `s = t`, i.e. `Δ = 0`); (3) for `Δ = 0` the test `|s + t| ≥ ε'` (is the
double root different from the simple one?) is decided as in exact arithmetic: `s + t = 0` or
`|s + t| ≥ ε'`.  In this regime the returned list is EXACTLY the set of roots of the cubic. -/
theorem cubic_roots_exact_regime_iff (hs0 : ∀ x : K, 0 ≤ x → 0 ≤ Transc.sqrt x)
    (hsq : ∀ x : K, 0 ≤ x → Transc.sqrt x * Transc.sqrt x = x)
    (hpow : ∀ x : K, 0 ≤ x → Transc.pow x (Roots.frac13 : K) ^ 3 = x)
    (e a b c d : K) (he : 0 < e) (ha : ¬ |a| < e) (hεn : 0 < Roots.epsN (b / a) (c / a) (d / a))
    (s t : K) (hs : s = Roots.cS (Roots.delta0 (b / a) (c / a)) (Roots.delta1 (b / a) (c / a) (d / a)))
    (ht : t = Roots.cT (Roots.delta0 (b / a) (c / a)) (Roots.delta1 (b / a) (c / a) (d / a)))
    (hpos : 0 < Roots.delta01 (Roots.delta0 (b / a) (c / a)) (Roots.delta1 (b / a) (c / a) (d / a)) →
      ¬ (|s - t| < Roots.epsN (b / a) (c / a) (d / a) ∧ Roots.epsN (b / a) (c / a) (d / a) ≤ |s + t|))
    (hzero : Roots.delta01 (Roots.delta0 (b / a) (c / a)) (Roots.delta1 (b / a) (c / a) (d / a)) = 0 →
      (s + t = 0 ∨ Roots.epsN (b / a) (c / a) (d / a) ≤ |s + t|))
    (x : K) : x ∈ Roots.rootsWith e a b c d ↔ a * x ^ 3 + b * x ^ 2 + c * x + d = 0 := by
  have ha0 := regime_ne_zero e a he ha
  rcases lt_trichotomy (Roots.delta01 (Roots.delta0 (b / a) (c / a)) (Roots.delta1 (b / a) (c / a) (d / a))) 0
    with hΔ | hΔ | hΔ
  · exact cubic_roots_trig_iff L hs0 hsq e a b c d x he ha hΔ
  · obtain ⟨hiff, _⟩ := cubic_roots_disc_zero hs0 hsq hpow a b c d ha0 hΔ s t hs ht x
    have hst := (cardano_s_eq_t_iff hs0 hsq hpow _ _ hΔ.ge).mpr hΔ
    rw [← hs, ← ht] at hst
    subst hst
    rw [hiff, cubic_roots_cardano_shape e a b c d ha hΔ.ge, ← hs, ← ht, sub_self, abs_zero]
    rcases hzero hΔ with h0 | h0
    · rw [h0, abs_zero, if_neg (fun h => absurd h.2 (not_le.mpr hεn))]
      simp
    · rw [if_pos ⟨hεn, h0⟩]
      simp
  · obtain ⟨x1, rest, hl, hr, huniq⟩ := cubic_roots_cardano_complete hs0 hsq hpow e a b c d he ha hΔ
    have hsh := cubic_roots_cardano_shape e a b c d ha hΔ.le
    rw [← hs, ← ht, if_neg (hpos hΔ)] at hsh
    rw [hsh] at hl ⊢
    obtain ⟨rfl, _⟩ := List.cons.inj hl
    exact List.mem_singleton.trans ⟨fun h => h ▸ hr, huniq x⟩

/-- **Completeness for simple roots, every degree the code distinguishes**: whenever the code's
degree decision is exact (`ExactDegree`), every simple root of `a x³ + b x² + c x + d` is in the
returned list. -/
theorem cubic_roots_simple_complete_exact_degree (hs0 : ∀ x : K, 0 ≤ x → 0 ≤ Transc.sqrt x)
    (hsq : ∀ x : K, 0 ≤ x → Transc.sqrt x * Transc.sqrt x = x)
    (hpow : ∀ x : K, 0 ≤ x → Transc.pow x (Roots.frac13 : K) ^ 3 = x)
    (e a b c d x : K) (he : 0 < e) (hdeg : ExactDegree e a b c)
    (hx : a * x ^ 3 + b * x ^ 2 + c * x + d = 0) (hsimple : 3 * a * x ^ 2 + 2 * b * x + c ≠ 0) :
    x ∈ Roots.rootsWith e a b c d := by
  rcases hdeg with ha | ⟨ha, hb⟩ | ⟨ha, hb, hc⟩
  · exact cubic_roots_simple_complete L hs0 hsq hpow e a b c d x he ha hx hsimple
  · subst ha
    exact cubic_roots_complete_quadratic hsq e b c d x he hb (by linear_combination hx)
      (fun h => hsimple (by linear_combination h))
  · subst ha; subst hb
    exact cubic_roots_complete_linear e c d x he hc (by linear_combination hx)

end all

section line

/-- the derivative of the polynomial handed to the root finder is (minus) the cross product of the
line's direction with the curve's derivative: a root is simple iff the crossing is transversal -/
theorem cubic_line_poly_deriv (c : Cubic K) (l : Line K) (t : K) :
    3 * c.liCoefA l * t ^ 2 + 2 * c.liCoefB l * t + c.liCoefC l = -(l.vector.cross (c.derivative t)) := by
  simp only [geom, Nat.cast_ofNat]; ring

/-- `cubic_line_poly` in the power notation of the root theorems -/
theorem cubic_line_poly_pow (c : Cubic K) (l : Line K) (t : K) :
    c.liCoefA l * t ^ 3 + c.liCoefB l * t ^ 2 + c.liCoefC l * t + c.liCoefD l
      = -(l.vector.cross (c.sample t - l.point)) := by
  rw [← cubic_line_poly]; ring

theorem lineLen_ne_zero (hsq : ∀ x : K, 0 ≤ x → Transc.sqrt x * Transc.sqrt x = x)
    (l : Line K) (hv : l.vector.x ≠ 0 ∨ l.vector.y ≠ 0) : Cubic.lineLen l ≠ 0 := by
  intro h
  have h2 := hsq l.vector.sqLen (add_nonneg (mul_self_nonneg _) (mul_self_nonneg _))
  unfold Cubic.lineLen at h
  rw [h, mul_zero] at h2
  obtain ⟨hx, hy⟩ := mul_self_add_mul_self_eq_zero.mp h2.symm
  exact hv.elim (fun h => h hx) (fun h => h hy)

/-- the polynomial handed to the root finder (coefficients for the normalised direction) is minus the
cross product with the original direction, divided by its length -/
theorem unit_line_poly (c : Cubic K) (l : Line K) (t : K) :
    c.liCoefA (Cubic.unitLine l) * t ^ 3 + c.liCoefB (Cubic.unitLine l) * t ^ 2
      + c.liCoefC (Cubic.unitLine l) * t + c.liCoefD (Cubic.unitLine l)
      = -(l.vector.cross (c.sample t - l.point) / Cubic.lineLen l) := by
  rw [cubic_line_poly_pow, unitLine_cross]; rfl

theorem unit_line_root (c : Cubic K) (l : Line K) (t : K)
    (hon : l.vector.cross (c.sample t - l.point) = 0) :
    c.liCoefA (Cubic.unitLine l) * t ^ 3 + c.liCoefB (Cubic.unitLine l) * t ^ 2
      + c.liCoefC (Cubic.unitLine l) * t + c.liCoefD (Cubic.unitLine l) = 0 := by
  rw [unit_line_poly, hon, zero_div, neg_zero]

/-- membership in the answer of `line_intersections_t`, for a line with non-zero direction: in
`[0,1]` and among the values of the root finder on the coefficients of the NORMALISED line -/
theorem mem_lineIntersectionsT (hsq : ∀ x : K, 0 ≤ x → Transc.sqrt x * Transc.sqrt x = x)
    (hfin : ∀ x : K, Transc.isFinite x = true) (c : Cubic K) (l : Line K)
    (hv : l.vector.x ≠ 0 ∨ l.vector.y ≠ 0) (t : K) :
    t ∈ c.lineIntersectionsT l ↔
      t ∈ Roots.cubicPolynomialRoots (c.liCoefA (Cubic.unitLine l)) (c.liCoefB (Cubic.unitLine l))
            (c.liCoefC (Cubic.unitLine l)) (c.liCoefD (Cubic.unitLine l))
      ∧ 0 ≤ t ∧ t ≤ 1 := by
  rw [cubic_line_unfold hfin, if_neg (lineLen_ne_zero hsq l hv)]
  unfold Cubic.lineRoots
  rw [List.mem_filter, inUnit_iff]

variable (L : CosLaws K)
include L

/-- **Every transversal crossing is reported** whenever the degree decision is exact (`ExactDegree`):
also for curves whose composed polynomial is exactly quadratic or linear (e.g. a cubic that is a
degree-elevated parabola) -/
theorem cubic_line_transversal_crossing_reported_exact_degree (hs0 : ∀ x : K, 0 ≤ x → 0 ≤ Transc.sqrt x)
    (hsq : ∀ x : K, 0 ≤ x → Transc.sqrt x * Transc.sqrt x = x)
    (hpow : ∀ x : K, 0 ≤ x → Transc.pow x (Roots.frac13 : K) ^ 3 = x)
    (hfin : ∀ x : K, Transc.isFinite x = true) (heps : ∀ r : K, 0 < Eps.epsilonFor r)
    (c : Cubic K) (l : Line K) (hv : l.vector.x ≠ 0 ∨ l.vector.y ≠ 0)
    (hA : ExactDegree (Roots.eps (c.liCoefA (Cubic.unitLine l))
        (c.liCoefB (Cubic.unitLine l)) (c.liCoefC (Cubic.unitLine l)) (c.liCoefD (Cubic.unitLine l)))
      (c.liCoefA (Cubic.unitLine l)) (c.liCoefB (Cubic.unitLine l)) (c.liCoefC (Cubic.unitLine l)))
    (t : K) (h0 : 0 ≤ t) (h1 : t ≤ 1) (hon : l.vector.cross (c.sample t - l.point) = 0)
    (htr : l.vector.cross (c.derivative t) ≠ 0) : t ∈ c.lineIntersectionsT l := by
  have hlen := lineLen_ne_zero hsq l hv
  rw [mem_lineIntersectionsT hsq hfin c l hv]
  refine ⟨?_, h0, h1⟩
  unfold Roots.cubicPolynomialRoots
  apply cubic_roots_simple_complete_exact_degree L hs0 hsq hpow _ _ _ _ _ t (heps _) hA
  · exact unit_line_root c l t hon
  · rw [cubic_line_poly_deriv, neg_ne_zero, unitLine_cross]
    exact div_ne_zero htr hlen

/-- **Every transversal crossing is reported** (cubic × line).  Let the line have a non-zero
direction and let the leading coefficient of the composed polynomial pass the code's non-zero test
(`¬ |A| < ε`, `A`…`D` computed for the normalised direction as the code does, `ε = epsilon_for(max
|coefficient|) > 0`).  Then every parameter `t ∈ [0,1]` at which the curve point lies on the line and
the curve's tangent is not parallel to the line (`vector × derivative(t) ≠ 0`) is in the answer of
`CubicBezierSegment::line_intersections_t`. -/
theorem cubic_line_transversal_crossing_reported (hs0 : ∀ x : K, 0 ≤ x → 0 ≤ Transc.sqrt x)
    (hsq : ∀ x : K, 0 ≤ x → Transc.sqrt x * Transc.sqrt x = x)
    (hpow : ∀ x : K, 0 ≤ x → Transc.pow x (Roots.frac13 : K) ^ 3 = x)
    (hfin : ∀ x : K, Transc.isFinite x = true) (heps : ∀ r : K, 0 < Eps.epsilonFor r)
    (c : Cubic K) (l : Line K) (hv : l.vector.x ≠ 0 ∨ l.vector.y ≠ 0)
    (hA : ¬ |c.liCoefA (Cubic.unitLine l)| < Roots.eps (c.liCoefA (Cubic.unitLine l))
      (c.liCoefB (Cubic.unitLine l)) (c.liCoefC (Cubic.unitLine l)) (c.liCoefD (Cubic.unitLine l)))
    (t : K) (h0 : 0 ≤ t) (h1 : t ≤ 1) (hon : l.vector.cross (c.sample t - l.point) = 0)
    (htr : l.vector.cross (c.derivative t) ≠ 0) : t ∈ c.lineIntersectionsT l :=
  cubic_line_transversal_crossing_reported_exact_degree L hs0 hsq hpow hfin heps c l hv (Or.inl hA) t h0 h1
    hon htr

/-- **Soundness of the line query** (exact arithmetic, regime): every reported parameter is in `[0,1]`
and its curve point lies ON the line — except the optional "repeated root" value of the branch
`Δ > 0`, whose curve point is at signed distance `−(9/8)·A·(s+t)·(s−t)²` from the line, in absolute
value below `(9/8)·|A|·|s+t|·ε'²` (`A` = leading coefficient for the unit direction = the distance
polynomial's, `ε'` = `epsilon_for` of the normalised coefficients). -/
theorem cubic_line_reported_on_line_or_near (hs0 : ∀ x : K, 0 ≤ x → 0 ≤ Transc.sqrt x)
    (hsq : ∀ x : K, 0 ≤ x → Transc.sqrt x * Transc.sqrt x = x)
    (hpow : ∀ x : K, 0 ≤ x → Transc.pow x (Roots.frac13 : K) ^ 3 = x)
    (hfin : ∀ x : K, Transc.isFinite x = true) (heps : ∀ r : K, 0 < Eps.epsilonFor r)
    (c : Cubic K) (l : Line K) (hv : l.vector.x ≠ 0 ∨ l.vector.y ≠ 0)
    (hA : ¬ |c.liCoefA (Cubic.unitLine l)| < Roots.eps (c.liCoefA (Cubic.unitLine l))
      (c.liCoefB (Cubic.unitLine l)) (c.liCoefC (Cubic.unitLine l)) (c.liCoefD (Cubic.unitLine l)))
    (t : K) (ht : t ∈ c.lineIntersectionsT l) :
    0 ≤ t ∧ t ≤ 1 ∧
    (l.vector.cross (c.sample t - l.point) = 0
      ∨ ∃ s' t' : K, |s' - t'| < Roots.epsN (c.liCoefB (Cubic.unitLine l) / c.liCoefA (Cubic.unitLine l))
            (c.liCoefC (Cubic.unitLine l) / c.liCoefA (Cubic.unitLine l))
            (c.liCoefD (Cubic.unitLine l) / c.liCoefA (Cubic.unitLine l))
          ∧ (Cubic.unitLine l).vector.cross (c.sample t - l.point)
              = (9 / 8) * c.liCoefA (Cubic.unitLine l) * (s' + t') * (s' - t') ^ 2) := by
  have hlen := lineLen_ne_zero hsq l hv
  obtain ⟨hroot, h0, h1⟩ := (mem_lineIntersectionsT hsq hfin c l hv t).mp ht
  refine ⟨h0, h1, ?_⟩
  rcases cubic_roots_sound_or_repeated L hs0 hsq hpow _ _ _ _ _ t (heps _) hA hroot with h | ⟨hΔ, hx2, hlt, _⟩
  · left
    rw [unit_line_poly, neg_eq_zero, div_eq_zero_iff] at h
    exact h.resolve_right hlen
  · right
    refine ⟨_, _, hlt, ?_⟩
    have hv2 := cardano_repeated_value hs0 hsq hpow _ _ _ _ (regime_ne_zero _ _ (heps _) hA) hΔ.le _ _ t rfl rfl hx2
    rw [cubic_line_poly_pow] at hv2
    change -((Cubic.unitLine l).vector.cross (c.sample t - l.point)) = _ at hv2
    linear_combination -hv2

/-- **Three crossings: the answer is exactly those three parameters.**  If the curve point lies on
the line at three parameters `t₁ < t₂ < t₃` of `[0,1]` (three distinct roots of a cubic are simple:
the crossings are transversal), then `line_intersections_t` returns a list of length three whose
members are exactly `t₁, t₂, t₃` (regime as above). -/
theorem cubic_line_crossings_reported (hs0 : ∀ x : K, 0 ≤ x → 0 ≤ Transc.sqrt x)
    (hsq : ∀ x : K, 0 ≤ x → Transc.sqrt x * Transc.sqrt x = x)
    (hfin : ∀ x : K, Transc.isFinite x = true) (heps : ∀ r : K, 0 < Eps.epsilonFor r)
    (c : Cubic K) (l : Line K) (hv : l.vector.x ≠ 0 ∨ l.vector.y ≠ 0)
    (hA : ¬ |c.liCoefA (Cubic.unitLine l)| < Roots.eps (c.liCoefA (Cubic.unitLine l))
      (c.liCoefB (Cubic.unitLine l)) (c.liCoefC (Cubic.unitLine l)) (c.liCoefD (Cubic.unitLine l)))
    (t1 t2 t3 : K) (h01 : 0 ≤ t1) (h12 : t1 < t2) (h23 : t2 < t3) (h31 : t3 ≤ 1)
    (on1 : l.vector.cross (c.sample t1 - l.point) = 0)
    (on2 : l.vector.cross (c.sample t2 - l.point) = 0)
    (on3 : l.vector.cross (c.sample t3 - l.point) = 0) :
    (∀ t : K, t ∈ c.lineIntersectionsT l ↔ (t = t1 ∨ t = t2 ∨ t = t3))
    ∧ (c.lineIntersectionsT l).length = 3 ∧ (c.lineIntersectionsT l).Nodup
    ∧ c.lineIntersectionsT l = Roots.cubicPolynomialRoots (c.liCoefA (Cubic.unitLine l))
        (c.liCoefB (Cubic.unitLine l)) (c.liCoefC (Cubic.unitLine l)) (c.liCoefD (Cubic.unitLine l)) := by
  have hlen := lineLen_ne_zero hsq l hv
  have r1 := unit_line_root c l t1 on1
  have r2 := unit_line_root c l t2 on2
  have r3 := unit_line_root c l t3 on3
  set A := c.liCoefA (Cubic.unitLine l) with hAdef
  set B := c.liCoefB (Cubic.unitLine l) with hBdef
  set C := c.liCoefC (Cubic.unitLine l) with hCdef
  set D := c.liCoefD (Cubic.unitLine l) with hDdef
  have he' : 0 < Roots.eps A B C D := heps _
  have hA0 := regime_ne_zero _ A he' hA
  have n12 := h12.ne
  have n13 := (h12.trans h23).ne
  have n23 := h23.ne
  -- the discriminant is strictly negative: the trigonometric branch is taken
  have hΔ : Roots.delta01 (Roots.delta0 (B / A) (C / A)) (Roots.delta1 (B / A) (C / A) (D / A)) < 0 := by
    rw [delta01_eq]
    exact depressed_three_roots_disc_neg _ _ _ _ _
      (fun h => n12 (add_right_cancel h)) (fun h => n13 (add_right_cancel h))
      (fun h => n23 (add_right_cancel h)) ((root_iff_depressed A B C D t1 hA0).mp r1)
      ((root_iff_depressed A B C D t2 hA0).mp r2) ((root_iff_depressed A B C D t3 hA0).mp r3)
  obtain ⟨x1, x2, x3, hl, d12, d13, d23, _⟩ :=
    cubic_roots_trig_distinct L hs0 hsq (Roots.eps A B C D) A B C D he' hA hΔ
  have hmem : ∀ x : K, x ∈ Roots.rootsWith (Roots.eps A B C D) A B C D ↔ (x = t1 ∨ x = t2 ∨ x = t3) := by
    intro x
    rw [cubic_roots_trig_iff L hs0 hsq _ A B C D x he' hA hΔ]
    constructor
    · exact cubic_at_most_three_roots A B C D t1 t2 t3 x hA0 n12 n13 n23 r1 r2 r3
    · rintro (rfl | rfl | rfl)
      exacts [r1, r2, r3]
  -- the filter keeps all three values
  have hlist : c.lineIntersectionsT l = Roots.rootsWith (Roots.eps A B C D) A B C D := by
    rw [cubic_line_unfold hfin, if_neg hlen]
    refine List.filter_eq_self.mpr fun x hx => (inUnit_iff x).mpr ?_
    rcases (hmem x).mp hx with rfl | rfl | rfl
    exacts [⟨h01, (h12.trans h23).le.trans h31⟩, ⟨h01.trans h12.le, h23.le.trans h31⟩,
      ⟨(h01.trans h12.le).trans h23.le, h31⟩]
  exact ⟨fun t => hlist ▸ hmem t, by rw [hlist, hl]; rfl, by simp [hlist, hl, d12, d13, d23], hlist⟩

end line

section flat

/-- **Outside the regime nothing is "well separated"**: if the line meets the curve at three
parameters `t₁ < t₂ < t₃` of `[0,1]` although the leading coefficient FAILS the code's non-zero test
(`|A| < ε`, so that the code solves the truncated polynomial and cannot report three values), then
the whole curve piece `t ∈ [0,1]` stays within `ε` of the line: every curve point's distance to the
line is below `ε`, and all four coefficients are below `3ε` (so when `ε` is the code's
`Roots.eps` of these coefficients, it is the smallest entry of the `epsilon_for` table: 1e-5 in
f32, 1e-8 in f64). -/
theorem cubic_line_outside_regime_flat (hsq : ∀ x : K, 0 ≤ x → Transc.sqrt x * Transc.sqrt x = x)
    (c : Cubic K) (l : Line K) (hv : l.vector.x ≠ 0 ∨ l.vector.y ≠ 0) (ε : K)
    (hA : |c.liCoefA (Cubic.unitLine l)| < ε)
    (t1 t2 t3 : K) (h01 : 0 ≤ t1) (h12 : t1 < t2) (h23 : t2 < t3) (h31 : t3 ≤ 1)
    (on1 : l.vector.cross (c.sample t1 - l.point) = 0)
    (on2 : l.vector.cross (c.sample t2 - l.point) = 0)
    (on3 : l.vector.cross (c.sample t3 - l.point) = 0) (t : K) (h0 : 0 ≤ t) (h1 : t ≤ 1) :
    |(Cubic.unitLine l).vector.cross (c.sample t - l.point)| < ε
    ∧ |c.liCoefB (Cubic.unitLine l)| < 3 * ε ∧ |c.liCoefC (Cubic.unitLine l)| < 3 * ε
    ∧ |c.liCoefD (Cubic.unitLine l)| < ε := by
  have r1 := unit_line_root c l t1 on1
  have r2 := unit_line_root c l t2 on2
  have r3 := unit_line_root c l t3 on3
  have hpoly := cubic_line_poly_pow c (Cubic.unitLine l) t
  change _ = -((Cubic.unitLine l).vector.cross (c.sample t - l.point)) at hpoly
  set A := c.liCoefA (Cubic.unitLine l)
  set B := c.liCoefB (Cubic.unitLine l)
  set C := c.liCoefC (Cubic.unitLine l)
  set D := c.liCoefD (Cubic.unitLine l)
  have hf := cubic_factor_of_three_roots A B C D t1 t2 t3 h12.ne (h12.trans h23).ne h23.ne r1 r2 r3
  obtain ⟨hB, hC, hD⟩ :=
    cubic_vieta_of_three_roots A B C D t1 t2 t3 h12.ne (h12.trans h23).ne h23.ne r1 r2 r3
  have hA0 : 0 ≤ |A| := abs_nonneg _
  have t1le : t1 ≤ 1 := (h12.trans h23).le.trans h31
  have t2ge : 0 ≤ t2 := h01.trans h12.le
  have t2le : t2 ≤ 1 := h23.le.trans h31
  have t3ge : 0 ≤ t3 := t2ge.trans h23.le
  obtain ⟨s1, s2, s3⟩ := unit_sym_bounds h01 t1le t2ge t2le t3ge h31
  have h3ε : |A| * 3 < 3 * ε := by rw [mul_comm]; exact mul_lt_mul_of_pos_left hA three_pos
  refine ⟨?_, ?_, ?_, ?_⟩
  · rw [← abs_neg, ← hpoly, hf t, abs_mul, abs_mul, abs_mul]
    exact (mul_le_of_le_one_right hA0 (unit_prod_dist_le h0 h1 h01 t1le t2ge t2le t3ge h31)).trans_lt hA
  · rw [hB, abs_neg, abs_mul]
    exact (mul_le_mul_of_nonneg_left s1 hA0).trans_lt h3ε
  · rw [hC, abs_mul]
    exact (mul_le_mul_of_nonneg_left s2 hA0).trans_lt h3ε
  · rw [hD, abs_neg, abs_mul]
    exact (mul_le_of_le_one_right hA0 s3).trans_lt hA

end flat

section segment

theorem mem_lineSegmentIntersectionsT (c : Cubic K) (s : Seg K) (t u : K) :
    (t, u) ∈ c.lineSegmentIntersectionsT s ↔
      (c.ixFastBoundingBox.inflate Eps.epsilon Eps.epsilon).intersects
          (s.ixBoundingBox.inflate Eps.epsilon Eps.epsilon) = true
      ∧ (t, u) ∈ segFilter c.x c.y c.sample s (c.lineIntersectionsT s.toLine) := by
  unfold Cubic.lineSegmentIntersectionsT
  by_cases hb : (c.ixFastBoundingBox.inflate Eps.epsilon Eps.epsilon).intersects
      (s.ixBoundingBox.inflate Eps.epsilon Eps.epsilon) = true
  · simp [hb]
  · simp [hb]

theorem toLine_vector_ne_zero (s : Seg K) (hab : s.a ≠ s.b) :
    s.toLine.vector.x ≠ 0 ∨ s.toLine.vector.y ≠ 0 := by
  by_contra h
  rw [not_or, not_not, not_not] at h
  apply hab
  have hx : s.b.x - s.a.x = 0 := h.1
  have hy : s.b.y - s.a.y = 0 := h.2
  exact P.ext' (by linarith) (by linarith)

theorem sample_on_carrier (s : Seg K) (u : K) : s.toVector.cross (s.sample u - s.a) = 0 := by
  simp only [geom, Nat.cast_one]; ring

/-- a value of the root finder strictly inside `(0,1)` whose curve point is the segment point of
parameter `u ∈ [0,1]` passes the box test and the filter, and is reported with second parameter `u` -/
theorem segment_crossing_mem (hs0 : ∀ x : K, 0 ≤ x → 0 ≤ Transc.sqrt x)
    (hsq : ∀ x : K, 0 ≤ x → Transc.sqrt x * Transc.sqrt x = x) (hE : 0 < (Eps.epsilon : K))
    (c : Cubic K) (s : Seg K) (hab : s.a ≠ s.b) (t u : K) (ht : t ∈ c.lineIntersectionsT s.toLine)
    (ht0 : 0 < t) (ht1 : t < 1) (hu0 : 0 ≤ u) (hu1 : u ≤ 1) (hp : c.sample t = s.sample u) :
    (t, u) ∈ c.lineSegmentIntersectionsT s := by
  rw [mem_lineSegmentIntersectionsT]
  refine ⟨boxes_intersect_of_common_point _ hE c s t u ht0.le ht1.le hu0 hu1 hp, ?_⟩
  rw [mem_segFilter, (C10.cubic_xy_components c t).1, (C10.cubic_xy_components c t).2]
  exact ⟨ht, (seg_range_iff s hab (c.sample t) u hp).mpr ⟨hu0, hu1⟩,
    (seg_t2_eq hs0 hsq s hab _ u hp hu0).symm, Or.inl ⟨ht0.ne', ht1.ne⟩⟩

/-- conversely: a reported pair `(t, u)` has `t` among the values of the line query; and if the
curve point at `t` is on the carrier line, then `u ∈ [0,1]` and it IS the segment point at `u` -/
theorem segment_mem_imp (hs0 : ∀ x : K, 0 ≤ x → 0 ≤ Transc.sqrt x)
    (hsq : ∀ x : K, 0 ≤ x → Transc.sqrt x * Transc.sqrt x = x)
    (c : Cubic K) (s : Seg K) (hab : s.a ≠ s.b) (t u : K) (h : (t, u) ∈ c.lineSegmentIntersectionsT s) :
    t ∈ c.lineIntersectionsT s.toLine
    ∧ (s.toVector.cross (c.sample t - s.a) = 0 → 0 ≤ u ∧ u ≤ 1 ∧ c.sample t = s.sample u) := by
  rw [mem_lineSegmentIntersectionsT, mem_segFilter, (C10.cubic_xy_components c t).1,
    (C10.cubic_xy_components c t).2] at h
  obtain ⟨_, ht, hr, hu, _⟩ := h
  refine ⟨ht, fun hon => ?_⟩
  have hp := carrier_param s (c.sample t) hab hon
  set u0 := (c.sample t - s.a).dot s.toVector / s.toVector.sqLen
  obtain ⟨h0, h1⟩ := (seg_range_iff s hab (c.sample t) u0 hp).mp hr
  have := seg_t2_eq hs0 hsq s hab _ u0 hp h0
  rw [hu, this]
  exact ⟨h0, h1, hp⟩

variable (L : CosLaws K)
include L

/-- **Every transversal crossing with the segment is reported** (cubic × line segment): a
non-degenerate segment, `EPSILON > 0`, the regime of the line query for the carrier line; if the
curve at `t ∈ (0,1)` meets the segment at its parameter `u ∈ [0,1]` and the tangent there is not
parallel to the segment, then `(t, u)` is in the answer of `line_segment_intersections_t`. -/
theorem cubic_segment_transversal_crossing_reported (hs0 : ∀ x : K, 0 ≤ x → 0 ≤ Transc.sqrt x)
    (hsq : ∀ x : K, 0 ≤ x → Transc.sqrt x * Transc.sqrt x = x)
    (hpow : ∀ x : K, 0 ≤ x → Transc.pow x (Roots.frac13 : K) ^ 3 = x)
    (hfin : ∀ x : K, Transc.isFinite x = true) (heps : ∀ r : K, 0 < Eps.epsilonFor r)
    (hE : 0 < (Eps.epsilon : K)) (c : Cubic K) (s : Seg K) (hab : s.a ≠ s.b)
    (hA : ¬ |c.liCoefA (Cubic.unitLine s.toLine)| < Roots.eps (c.liCoefA (Cubic.unitLine s.toLine))
      (c.liCoefB (Cubic.unitLine s.toLine)) (c.liCoefC (Cubic.unitLine s.toLine))
      (c.liCoefD (Cubic.unitLine s.toLine)))
    (t u : K) (ht0 : 0 < t) (ht1 : t < 1) (hu0 : 0 ≤ u) (hu1 : u ≤ 1) (hp : c.sample t = s.sample u)
    (htr : s.toVector.cross (c.derivative t) ≠ 0) : (t, u) ∈ c.lineSegmentIntersectionsT s := by
  apply segment_crossing_mem hs0 hsq hE c s hab t u _ ht0 ht1 hu0 hu1 hp
  apply cubic_line_transversal_crossing_reported L hs0 hsq hpow hfin heps c s.toLine
    (toLine_vector_ne_zero s hab) hA t ht0.le ht1.le _ htr
  show s.toVector.cross (c.sample t - s.a) = 0
  rw [hp]; exact sample_on_carrier s u

/-- **Three crossings of the carrier line: the answer is exactly the crossings that lie on the
segment.**  If the curve meets the carrier line of the (non-degenerate) segment at three parameters
`0 < t₁ < t₂ < t₃ < 1`, then `line_segment_intersections_t` returns exactly the pairs `(tᵢ, u)` with
`u ∈ [0,1]` and `curve(tᵢ) = segment(u)`. -/
theorem cubic_segment_crossings_reported (hs0 : ∀ x : K, 0 ≤ x → 0 ≤ Transc.sqrt x)
    (hsq : ∀ x : K, 0 ≤ x → Transc.sqrt x * Transc.sqrt x = x)
    (hfin : ∀ x : K, Transc.isFinite x = true) (heps : ∀ r : K, 0 < Eps.epsilonFor r)
    (hE : 0 < (Eps.epsilon : K)) (c : Cubic K) (s : Seg K) (hab : s.a ≠ s.b)
    (hA : ¬ |c.liCoefA (Cubic.unitLine s.toLine)| < Roots.eps (c.liCoefA (Cubic.unitLine s.toLine))
      (c.liCoefB (Cubic.unitLine s.toLine)) (c.liCoefC (Cubic.unitLine s.toLine))
      (c.liCoefD (Cubic.unitLine s.toLine)))
    (t1 t2 t3 : K) (h01 : 0 < t1) (h12 : t1 < t2) (h23 : t2 < t3) (h31 : t3 < 1)
    (on1 : s.toVector.cross (c.sample t1 - s.a) = 0)
    (on2 : s.toVector.cross (c.sample t2 - s.a) = 0)
    (on3 : s.toVector.cross (c.sample t3 - s.a) = 0) (t u : K) :
    (t, u) ∈ c.lineSegmentIntersectionsT s ↔
      ((t = t1 ∨ t = t2 ∨ t = t3) ∧ 0 ≤ u ∧ u ≤ 1 ∧ c.sample t = s.sample u) := by
  obtain ⟨hmem, _, _, _⟩ := cubic_line_crossings_reported L hs0 hsq hfin heps c s.toLine
    (toLine_vector_ne_zero s hab) hA t1 t2 t3 h01.le h12 h23 h31.le on1 on2 on3
  constructor
  · intro h
    obtain ⟨ht, himp⟩ := segment_mem_imp hs0 hsq c s hab t u h
    have ht' := (hmem t).mp ht
    refine ⟨ht', himp ?_⟩
    rcases ht' with rfl | rfl | rfl
    exacts [on1, on2, on3]
  · rintro ⟨ht, hu0, hu1, hp⟩
    have hin : 0 < t ∧ t < 1 := by
      rcases ht with rfl | rfl | rfl
      exacts [⟨h01, h12.trans (h23.trans h31)⟩, ⟨h01.trans h12, h23.trans h31⟩,
        ⟨(h01.trans h12).trans h23, h31⟩]
    exact segment_crossing_mem hs0 hsq hE c s hab t u ((hmem t).mpr ht) hin.1 hin.2 hu0 hu1 hp

end segment

end Lyon.C12d
