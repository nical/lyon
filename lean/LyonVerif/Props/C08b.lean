/-
  C08 — tessellators carry no state from one call to the next: the FILL tessellator on polygonal
  input, end to end, on the complete sweep model.

  `Props/C08.lean` proves the reset discipline with the sweep as a PARAMETER (an arbitrary function
  of an explicit read-set).  Here the parameter is instantiated by the model of the sweep itself
  (`Model/Tess/Sweep.lean`: `tessellate_impl`, `tessellator_loop` and everything below it, statement
  by statement; tied bit for bit to the real code by family `sweep:32` of C01 and, on a REUSED real
  object after histories with aborted calls, by family `sweep_reuse:32` of C08), composed with the
  event-queue builder and sort (`EventQueue.lean`, `Sources.lean`) and the pooled monotone
  tessellators (`Monotone.lean`).  `Model/Tess/ResetSweep.lean` makes the call on a USED object
  explicit — `tessellateImplFrom old …` mirrors `FillTessellator::reset` + `tessellate_impl`; what
  survives `reset` in the model's own state is `St.pool`: the recycled `AdvancedMonotoneTessellator`s
  with whatever they held, of any number.

  Main theorems (no hypotheses: every object state `old`, every input):
  * `fill_sweep_call_fresh`      the emission sequence (outcome + every `add_fill_vertex` /
                                 `add_triangle` in order) of `tessellate_impl` on ANY used object =
                                 that of `Sweep.tessellateImpl` (a freshly constructed tessellator).
  * `fill_sweep_refused_fresh`   the same against a geometry builder that refuses the k-th vertex.
  * `fill_entry_fresh`           a whole entry point (queue rebuilt in recycled storage, sorted,
                                 swept) on any used object = `Sweep.tessellate`.
  * `fill_history_fresh_sweep`   after EVERY history of calls on one object — other inputs, options,
                                 entry points, invalid tolerances, calls aborted by the builder at any
                                 vertex, sweeps that failed (`Err`) or panicked part-way leaving spans,
                                 edges and a half-processed event behind, builders dropped without
                                 `build` — the next call emits exactly what a new tessellator emits;
                                 `fill_history_outputs_sweep`: call by call along the history.

  The proof is a simulation (`Lemmas/ResetSweep{Core,Ops,Ops2,Loop}.lean`): two runs of the loop from
  states that agree on every field except `pool` (unrelated) and `spans` (slot-wise `AdvSim`: equal up
  to a `SideEvents::prev` that cannot be read yet — `Lemmas/Reset.lean`) stay so related through every
  statement of every step, return the same values and emit the same output.

  What stays outside `St` (and is covered by `Props/C08.lean`): the attribute buffer
  (`attrib_buffer_fresh`; composed with this file in `Props/C08d.lean`: `attrib_buffer_overwritten`,
  `fill_history_fresh_sweep_curves`) and the prior contents of the output buffers (`offset_shift`).
-/
import LyonVerif.Lemmas.ResetSweepLoop

set_option linter.unusedSectionVars false

namespace Lyon.C08
open Lyon Lyon.Mono Lyon.Sweep Lyon.EQ

variable {α : Type} [Scalar α] [Wide α]

/-- `ActiveEdgeScan::reset` restores the all-default scan, whatever the scan held -/
theorem scan_reset_default (dirty : Scan) : Scan.reset dirty = {} := rfl

/-- `scan_active_edges` on a dirty scan = on a new one: `reset` comes first and every field is reset -/
theorem scan_dirty_fresh (dirty : Scan) (s : St α) : scanActiveEdgesFrom dirty s = scanActiveEdges s := by
  unfold scanActiveEdgesFrom
  cases scanActiveEdges s <;> rfl

/-- `EventQueue::reset` (inside `into_builder`) forgets the recycled queue -/
theorem queue_reset_fresh (q : Queue α) : queueReset q = Queue.empty := rfl

/-- the event queue an entry point builds in recycled storage is the one it builds from scratch -/
theorem build_queue_fresh (old : Queue α) (entry : Entry) (hz : Bool) (subs : List (SubPath α)) :
    buildQueueFrom old entry hz subs = buildQueue entry hz subs := rfl

/-- `FillTessellator::reset` + the option writes leave exactly ONE field of the old object in place:
the pool (`reset` clears `fill.spans`, never `fill.pool`) -/
theorem prologue_keeps_pool_only (old : St α) (q : Queue α) (rule : Slab.Rule) (hz : Bool) (tol : α) (hi : Bool) :
    old.prologue q rule hz tol hi = { (St.fresh.prologue q rule hz tol hi) with pool := old.pool } := rfl

/-- the stale state is really there: a pooled tessellator with junk in every field survives the
prologue, and `begin_span` will hand it out -/
theorem pool_survives_witness (junk : Adv α) (q : Queue α) (tol : α) :
    let old : St α := { (St.fresh : St α) with pool := [junk, junk] }
    (old.prologue q .evenOdd false tol true).pool = [junk, junk] := rfl

/-- **What `Props/C08.lean` had to ASSUME of the sweep is a theorem about the modelled sweep**: its
read-set `SweepView` leaves out the contents of `fill.pool`.  Run the loop (any fuel, any builder
refusal) from a state `s` and from the same state with ANY other pool: the same result (normal end,
`Err`, panic), the same emissions, the same numbers of active edges and of spans.  (The two final states
are related in full - equal up to pool, coverage bits and `AdvSim` on the live spans - by
`tessellatorLoopB_sim`.) -/
theorem sweep_loop_pool_independent (s : St α) (pool' : List (Adv α)) (limit : Option Nat) (f : Nat) :
    let r := (tessellatorLoopB limit f).run.run s
    let r' := (tessellatorLoopB limit f).run.run { s with pool := pool' }
    r.1 = r'.1 ∧ r.2.out = r'.2.out ∧ r.2.active.size = r'.2.active.size ∧ r.2.spans.size = r'.2.spans.size := by
  intro r r'
  obtain ⟨h1, sp, pl, c, h2, h3⟩ :=
    (tessellatorLoopB_sim limit f).out s { s with pool := pool' } ⟨s.spans, pool', s.cov, rfl, SpansSim.refl _⟩
  have h2 : r'.2 = with3 r.2 sp pl c := h2
  exact ⟨h1, by rw [h2], by rw [h2], by rw [h2]; exact h3.size.symm⟩

/-- the same for `Sweep.tessellatorLoop` itself -/
theorem sweep_loop_pool_independent_plain (s : St α) (pool' : List (Adv α)) (f : Nat) :
    ((tessellatorLoop f).run.run s).1 = ((tessellatorLoop f).run.run { s with pool := pool' }).1 ∧
    ((tessellatorLoop f).run.run s).2.out = ((tessellatorLoop f).run.run { s with pool := pool' }).2.out := by
  have h := sweep_loop_pool_independent s pool' none f
  rw [tessellatorLoopB_none] at h
  exact ⟨h.1, h.2.1⟩

/-- a fresh object and no refusing builder: `tessellateImplFrom` IS `Sweep.tessellateImpl`
(outcome, emissions and coverage bits) -/
theorem tessellateImplFrom_fresh (q : Queue α) (rule : Slab.Rule) (hz : Bool) (tol : α) (hi : Bool) :
    (tessellateImplFrom St.fresh none q rule hz tol hi).1 = tessellateImpl q rule hz tol hi := by
  unfold tessellateImplFrom tessellateImpl
  split
  · rfl
  · rw [tessellatorLoopB_none]
    dsimp only [St.prologue, St.fresh, St.reset]
    generalize StateT.run (ExceptT.run (tessellatorLoop (α := α) _)) _ = r
    obtain ⟨_ | _, _⟩ := r <;> rfl

/-- **`tessellate_impl` on a used object.**  For EVERY state `old` of the object (whatever earlier
calls left in the pool, the spans, the edge lists, the position / vertex / event registers, the
options, the queue), every queue, fill rule, orientation, tolerance (valid or not) and
intersection flag: the outcome and the complete emission sequence are those of
`Sweep.tessellateImpl`, which starts from a freshly constructed tessellator. -/
theorem fill_sweep_call_fresh (old : St α) (q : Queue α) (rule : Slab.Rule) (hz : Bool) (tol : α) (hi : Bool) :
    emission (tessellateImplFrom old none q rule hz tol hi).1 = emission (tessellateImpl q rule hz tol hi) := by
  rw [tessellateImplFrom_sim old St.fresh, tessellateImplFrom_fresh]

/-- **… against a geometry builder that refuses a vertex** (the call is aborted part-way): the
emission up to the refusal and the error are the same from any two objects. -/
theorem fill_sweep_refused_fresh (old old' : St α) (limit : Option Nat) (q : Queue α) (rule : Slab.Rule) (hz : Bool)
    (tol : α) (hi : Bool) :
    emission (tessellateImplFrom old limit q rule hz tol hi).1 = emission (tessellateImplFrom old' limit q rule hz tol hi).1 :=
  tessellateImplFrom_sim old old' limit q rule hz tol hi

/-- one call of an entry point: the emission does not depend on the object -/
theorem tessellateFrom_sim (old old' : St α) (c : FillCall α) :
    emission (tessellateFrom old c).1 = emission (tessellateFrom old' c).1 := by
  unfold tessellateFrom
  rw [build_queue_fresh old.q, build_queue_fresh old'.q]
  dsimp only
  split
  · rfl
  · split
    · rfl
    · exact tessellateImplFrom_sim old old' _ _ _ _ _ _

/-- on a fresh object, with a builder that accepts everything and is not dropped, `tessellateFrom`
IS `Sweep.tessellate` -/
theorem tessellateFrom_fresh (c : FillCall α) (hr : c.refuse = none) (hd : c.dropped = false) :
    (tessellateFrom St.fresh c).1 = tessellate c.entry c.rule c.horizontal c.tol c.handleIx c.subs := by
  unfold tessellateFrom tessellate
  simp only [build_queue_fresh, hd, hr, Bool.false_eq_true, if_false]
  split
  · rfl
  · exact tessellateImplFrom_fresh _ _ _ _ _

example : ∃ c : FillCall Nat, c.refuse = none ∧ c.dropped = false :=
  ⟨{ entry := .events, rule := .evenOdd, horizontal := false, tol := 1, handleIx := true, subs := [([], true)] }, rfl, rfl⟩

/-- **A whole entry point on a used object = `Sweep.tessellate`** (the five entry points on
polygonal input: the queue rebuilt in the recycled storage, sorted, swept). -/
theorem fill_entry_fresh (old : St α) (c : FillCall α) (hr : c.refuse = none) (hd : c.dropped = false) :
    emission (tessellateFrom old c).1 = emission (tessellate c.entry c.rule c.horizontal c.tol c.handleIx c.subs) := by
  rw [tessellateFrom_sim old St.fresh, tessellateFrom_fresh c hr hd]

/-- the output of a call of the object does not depend on its state -/
theorem fillObj_stateless : Stateless (fillObj (α := α)) :=
  fun s s' c => tessellateFrom_sim s s' c

/-- **After every history the next call emits what a new tessellator emits.**  `s0` is ANY initial
object, `hist` ANY sequence of calls (each with its own input, entry point, fill rule, orientation,
tolerance — valid or not —, intersection flag, a geometry builder refusing any vertex, a builder
dropped without `build`); a call of the history may succeed, return `Err`, be aborted by the
builder or panic part-way: the object is left as the modelled loop left it (spans alive, edges,
a half-processed event, pooled tessellators with stale fields) and the next call starts from THAT. -/
theorem fill_history_fresh_sweep (s0 : St α) (hist : List (FillCall α)) (c : FillCall α) :
    (fillObj.call (fillObj.run s0 hist) c).2 = (fillObj.call St.fresh c).2 :=
  fillObj_stateless _ _ c

/-- … and for an ordinary last call that is `Sweep.tessellate` of its input -/
theorem fill_history_fresh_sweep_tessellate (s0 : St α) (hist : List (FillCall α)) (c : FillCall α)
    (hr : c.refuse = none) (hd : c.dropped = false) :
    (fillObj.call (fillObj.run s0 hist) c).2 =
      emission (tessellate c.entry c.rule c.horizontal c.tol c.handleIx c.subs) :=
  fill_entry_fresh _ c hr hd

/-- call by call along the history: what family `sweep_reuse:32` observes on the real object -/
theorem fill_history_outputs_sweep (s0 : St α) (hist : List (FillCall α)) :
    fillObj.outputs s0 hist = hist.map (fun c => (fillObj.call St.fresh c).2) :=
  fillObj_stateless.outputs St.fresh hist s0

end Lyon.C08
