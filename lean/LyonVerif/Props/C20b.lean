/-
  C20b — the Hatcher's HISTORY: a `Hatcher` that has served earlier calls behaves like a new one.

  C20's statement quantifies over paths × angle × spacing × uv origin × tolerance; the theorems of
  `Props/C20.lean` are about one call of the one-call model (`Model/Algo/Hatch.lean`, which starts
  from `active := []`, `row := 0`).  The real `Hatcher` is an object whose fields survive a call
  (`events`, `active_edges`, `transform`, `compute_tangents`, `segment`, `uv_origin`), and
  `hatch` has early `return`s (pattern offset `<= 0`) that leave the sweep's state as it was in the
  middle of the path.  `Model/Algo/HatchObj.lean` models exactly that (every function reads the
  object's fields); this file proves that nothing of a used object's state reaches the output:

  `hatch_used_is_model` carries everything: `Hatcher::hatch` on ANY object state, for every options / builder /
  fuel / edge list, runs as the one-call model does (builder state, rows, offsets, stop flag — the whole `St`),
  because the prologue overwrites every field before it is read (`Lemmas/HatchObj.lean`).  The form the later
  theorems use is `hatch_path_used_is_model` (with `dot_path_…`, `…_curved_…`): the entry point on a used object,
  mapped through `OSt.toSt`, is the entry point of the one-call model.  Read off it: a call
  of `hatch_path` / `dot_path` (also on event streams with curves) on a used Hatcher emits what it emits on
  `Hatcher::new()`; every call of every history (any mix of the two entry points, any paths, options, patterns,
  also calls ended early by their pattern and paths without edges) emits what the same call emits on a new
  Hatcher (`history_calls_fresh`); and C20's even-odd theorem and empty-path clause hold for a call on a used
  object (`used_row_is_evenodd_path`, `used_empty_path_no_output`; any theorem of `Props/C20.lean` transfers
  the same way).

  The theorems before the section on `K` need NO arithmetic law: they hold over every `[Scalar α] [Transc α]`, so also at
  `Float32`, where the tie runs (the bit-for-bit comparison of whole histories checks the
  translation, not this fact).  They quantify over ALL object states, in particular over every
  state an early `return` can leave behind.
-/
import LyonVerif.Model.Algo.HatchObj
import LyonVerif.Lemmas.HatchObj
import LyonVerif.Props.C20


namespace Lyon.C20b
open Lyon Lyon.Hatch Scalar

section generic
variable {α : Type} [Scalar α] [Transc α] {σ : Type}

/-- `Hatcher::hatch` called on a Hatcher in ANY state `h` (whatever
earlier calls — complete, ended early by their pattern, on empty paths — left in `active_edges`,
`segment`, `transform`, `uv_origin`, `compute_tangents`, `events`) produces the state the one-call
model produces: same builder state (every `next_offset` / `add_segment` call, in order, with the
same arguments), same rows, offsets, stop and fuel flags, same final active list and row count. -/
theorem hatch_used_is_model (h : Obj α) (o : Options α) (nan : P α) (B : Builder σ α) (fuel : Nat)
    (edges : List (Seg α)) (b0 : σ) :
    (objHatch h o nan B fuel edges b0).map OSt.toSt = hatch (mkCfg o nan) B fuel edges b0 :=
  objHatch_sim h o nan B fuel edges b0

theorem hatch_path_used_is_model (h : Obj α) (o : Options α) (nan : P α) (B : Builder σ α)
    (fuel : Nat) (evs : List (PEv α)) (b0 : σ) :
    (objHatchPath h o nan B fuel evs b0).map OSt.toSt = hatchPath o nan B fuel evs b0 := by
  unfold objHatchPath hatchPath
  rw [setPath_eq, ← hatch_used_is_model { h with events := [] } o nan B fuel _ b0]
  rw [Option.map_map]
  rfl

/-- For every object state and every input / options / pattern, a
`hatch_path` call on a used Hatcher emits what a new Hatcher emits. -/
theorem hatch_history_fresh (h : Obj α) (o : Options α) (nan : P α) (B : Builder σ α)
    (fuel : Nat) (evs : List (PEv α)) (b0 : σ) :
    (objHatchPath h o nan B fuel evs b0).map OSt.toSt
      = (objHatchPath (Obj.fresh nan) o nan B fuel evs b0).map OSt.toSt := by
  rw [hatch_path_used_is_model, hatch_path_used_is_model]

theorem hatch_history_fresh_output (h : Obj α) (o : Options α) (nan : P α) (B : Builder σ α)
    (fuel : Nat) (evs : List (PEv α)) (b0 : σ) :
    (objHatchPath h o nan B fuel evs b0).map (·.b)
      = (objHatchPath (Obj.fresh nan) o nan B fuel evs b0).map (·.b) := by
  have := congrArg (Option.map (fun s : St σ α => s.b)) (hatch_history_fresh h o nan B fuel evs b0)
  simpa [Option.map_map, Function.comp_def, OSt.toSt] using this

theorem dot_path_used_is_model (h : Obj α) (angle : α) (uvo nan : P α) (pat : DotPat α)
    (fuel : Nat) (evs : List (PEv α)) :
    (objDotPath h angle uvo nan pat fuel evs).map OSt.toSt = dotPath angle uvo nan pat fuel evs :=
  hatch_path_used_is_model h ⟨angle, uvo, false⟩ nan (h2d pat fuel) fuel evs ⟨[], 0, false⟩

/-- The same for `dot_path` (the `HatchesToDots` adapter is made anew per
call; the Hatcher underneath is the used one). -/
theorem dot_history_fresh (h : Obj α) (angle : α) (uvo nan : P α) (pat : DotPat α)
    (fuel : Nat) (evs : List (PEv α)) :
    (objDotPath h angle uvo nan pat fuel evs).map OSt.toSt
      = (objDotPath (Obj.fresh nan) angle uvo nan pat fuel evs).map OSt.toSt := by
  rw [dot_path_used_is_model, dot_path_used_is_model]

/-- what survives a call (1): `self.events` holds the call's own sorted edge list — nothing of an
earlier path (`set_path` clears the vector first) -/
theorem used_events_are_the_calls (h : Obj α) (o : Options α) (nan : P α) (B : Builder σ α)
    (fuel : Nat) (evs : List (PEv α)) (b0 : σ) (s : OSt σ α)
    (hs : objHatchPath h o nan B fuel evs b0 = some s) :
    s.h.events = buildEvents (Transc.cos o.angle) (Transc.sin o.angle) evs := by
  unfold objHatchPath at hs
  rw [setPath_eq] at hs
  obtain ⟨r, -, rfl⟩ := Option.map_eq_some_iff.mp hs
  rfl

/-- what survives a call (2): a call ended early by its pattern (`stop`) leaves its active list —
the one of the row it stopped on — in the object; this is the state the next call starts from
(and, by `hatch_used_is_model`, clears before reading). -/
theorem used_active_is_the_calls (h : Obj α) (o : Options α) (nan : P α) (B : Builder σ α)
    (fuel : Nat) (evs : List (PEv α)) (b0 : σ) (s : OSt σ α) (st : St σ α)
    (hs : objHatchPath h o nan B fuel evs b0 = some s)
    (hm : hatchPath o nan B fuel evs b0 = some st) :
    s.h.active = st.active ∧ s.h.seg.row = st.row := by
  have := hatch_path_used_is_model h o nan B fuel evs b0
  rw [hs, hm] at this
  simp only [Option.map_some, Option.some.injEq] at this
  rw [← this]
  exact ⟨rfl, rfl⟩

section curved
variable [FlatConst α]

theorem hatch_path_curved_used_is_model (h : Obj α) (o : Options α) (tol : α) (nan : P α)
    (B : Builder σ α) (fuel : Nat) (evs : List (CEv α)) (b0 : σ) :
    (objHatchPathCurved h o tol nan B fuel evs b0).map OSt.toSt
      = hatchPathCurved o tol nan B fuel evs b0 := by
  unfold objHatchPathCurved hatchPathCurved
  cases flattenEvents tol evs ⟨zero, zero⟩ with
  | none => rfl
  | some pe => exact hatch_path_used_is_model h o nan B fuel pe b0

theorem dot_path_curved_used_is_model (h : Obj α) (angle tol : α) (uvo nan : P α)
    (pat : DotPat α) (fuel : Nat) (evs : List (CEv α)) :
    (objDotPathCurved h angle tol uvo nan pat fuel evs).map OSt.toSt
      = dotPathCurved angle tol uvo nan pat fuel evs := by
  unfold objDotPathCurved dotPathCurved
  cases flattenEvents tol evs ⟨zero, zero⟩ with
  | none => rfl
  | some pe => exact dot_path_used_is_model h angle uvo nan pat fuel pe

/-- The trace of a call (either entry point, any path / options /
pattern) on a Hatcher in any state is the trace of that call on a new Hatcher. -/
theorem call_on_used_is_fresh (nan : P α) (fuel : Nat) (h : Obj α) (c : Call α) :
    (c.run nan fuel h).1 = c.runFresh nan fuel := by
  -- the model side is turned into the object side first; one case split then closes both branches
  cases c with
  | hatch o tol offs evs =>
    simp only [Call.run, Call.runFresh, ← hatch_path_curved_used_is_model h o tol nan (logHatch offs) fuel evs []]
    cases objHatchPathCurved h o tol nan (logHatch offs) fuel evs [] <;> rfl
  | dots angle uvo tol pat evs =>
    simp only [Call.run, Call.runFresh, ← dot_path_curved_used_is_model h angle tol uvo nan pat fuel evs]
    cases objDotPathCurved h angle tol uvo nan pat fuel evs <;> rfl

/-- The traces of a whole history run on ONE Hatcher — starting from any
state — are, call by call, the traces of the same calls each run on its own new Hatcher (up to the
first panic, where a history ends). -/
theorem history_calls_fresh (nan : P α) (fuel : Nat) :
    ∀ (cs : List (Call α)) (h : Obj α),
      runHistory nan fuel h cs = cutAtPanic (cs.map (Call.runFresh nan fuel)) := by
  intro cs
  induction cs with
  | nil => intro h; rfl
  | cons c cs ih =>
    intro h
    have hc := call_on_used_is_fresh nan fuel h c
    simp only [runHistory, List.map_cons, cutAtPanic]
    rw [← hc]
    cases hp : (c.run nan fuel h).1.isPanic
    · simp only [Bool.false_eq_true, if_false]
      rw [ih]
    · simp only [if_true]

-- a history none of whose calls panics is not cut: it has the fresh trace of every call
theorem history_call_k_fresh (nan : P α) (fuel : Nat) (cs : List (Call α)) (h : Obj α)
    (hnp : ∀ c ∈ cs, (Call.runFresh nan fuel c).isPanic = false) :
    runHistory nan fuel h cs = cs.map (Call.runFresh nan fuel) := by
  rw [history_calls_fresh]
  induction cs with
  | nil => rfl
  | cons c cs ih =>
    simp only [List.map_cons, cutAtPanic, hnp c (List.mem_cons_self ..), Bool.false_eq_true, if_false]
    rw [ih (fun d hd => hnp d (List.mem_cons_of_mem _ hd))]

end curved
end generic

section field
variable {K : Type} [Field K] [LinearOrder K] [IsStrictOrderedRing K] [Transc K] {σ : Type}

/-- C20's main clause for a call on a Hatcher in ANY state: on every
hatched row, a point is strictly inside an emitted segment iff the even-odd crossing count of the
call's OWN path left of it is odd (no stale edge of an earlier path is counted). -/
theorem used_row_is_evenodd_path (h : Obj K) (o : Options K) (nan : P K) (B : Builder σ K)
    (fuel : Nat) (sps : List (P K × List (P K))) (b0 : σ) (s : OSt σ K)
    (hs : objHatchPath h o nan B fuel (pathEvents sps) b0 = some s) (r : Row K) (hr : r ∈ s.rows)
    (x : K)
    (hx : ∀ e ∈ buildEvents (Transc.cos o.angle) (Transc.sin o.angle) (pathEvents sps),
      e.a.y ≤ r.y → r.y < e.b.y → solveX e r.y ≠ x) :
    (∃ sg ∈ r.segs, sg.xa < x ∧ x < sg.xb) ↔
      crossingsLeft (buildEvents (Transc.cos o.angle) (Transc.sin o.angle) (pathEvents sps)) x r.y % 2 = 1 := by
  have hm := hatch_path_used_is_model h o nan B fuel (pathEvents sps) b0
  rw [hs] at hm
  exact Lyon.C20.row_is_evenodd_path o nan B fuel sps b0 s.toSt hm.symm r hr x hx

/-- An empty path on a used Hatcher: no builder call, no panic. -/
theorem used_empty_path_no_output (h : Obj K) (o : Options K) (nan : P K) (B : Builder σ K)
    (fuel : Nat) (b0 : σ) :
    ∃ s, objHatchPath h o nan B fuel [] b0 = some s ∧ s.b = b0 ∧ s.offs = [] ∧ s.rows = [] := by
  have hm := hatch_path_used_is_model h o nan B fuel [] b0
  rw [(Lyon.C20.empty_path_no_output_path o nan B fuel b0).1] at hm
  obtain ⟨s, hr, hm⟩ := Option.map_eq_some_iff.mp hm
  exact ⟨s, hr, congrArg St.b hm, congrArg St.offs hm, congrArg St.rows hm⟩

/-- non-vacuity of `used_row_is_evenodd_path`'s premise `objHatchPath … = some s`: the call returns
on every object state (the `unwrap` is behind the `is_empty` guard) -/
theorem used_hatch_total (h : Obj K) (o : Options K) (nan : P K) (B : Builder σ K) (fuel : Nat)
    (evs : List (PEv K)) (b0 : σ) : ∃ s, objHatchPath h o nan B fuel evs b0 = some s := by
  have ht := Lyon.C20.hatch_total (mkCfg o nan) B fuel
    (buildEvents (Transc.cos o.angle) (Transc.sin o.angle) evs) b0
  change (hatchPath o nan B fuel evs b0).isSome = true at ht
  rw [← hatch_path_used_is_model h, Option.isSome_map] at ht
  exact Option.isSome_iff_exists.mp ht

/-! ### Non-vacuity (over `ℚ`, with `Lyon.C20.exTransc`: `cos = sin = id`) -/

section Examples
open Lyon.C20

/-- a Hatcher as an early `return` can leave it: a stale active edge of an earlier path that spans
the rows of the next one (`x = -5`, `y ∈ [-5, 50)`), 7 rows hatched, tangents on, another
transform and uv origin -/
noncomputable def exUsed : Obj ℚ :=
  { events := [⟨⟨-5, -5⟩, ⟨-5, 50⟩⟩], active := [⟨⟨-5, -5⟩, ⟨-5, 50⟩⟩], tr := 3, ct := true,
    seg := { xa := 4, xb := 6, pa := ⟨4, 4⟩, ua := 4, ta := ⟨1, 0⟩, pb := ⟨6, 4⟩, ub := 6,
             tb := ⟨0, 1⟩, row := 7, v := 4 },
    uvo := ⟨9, 9⟩ }

/-- hypotheses of `used_row_is_evenodd_path` / `used_active_is_the_calls` (edge-list level): on
`exUsed` — evaluated directly on the OBJECT model, not through the theorems — `hatch` of the two
vertical sides of the square (0,0)–(2,2) with a regular pattern of interval 1 returns, records the
row `y = 1` as row 0 with the single segment `(0, 2)` (the stale edge at `x = -5` is not counted),
and `x = 1` lies inside it. -/
example : ∃ s, objHatch exUsed ⟨-1, ⟨0, 0⟩, false⟩ ⟨0, 0⟩ (regularHatch (1:ℚ)) 2 exEdges [] = some s ∧
    s.stop = false ∧ s.h.seg.row = 1 ∧
    ∃ r ∈ s.rows, r.y = 1 ∧ r.idx = 0 ∧ r.segs.length = 1 ∧ ∃ sg ∈ r.segs, sg.xa < 1 ∧ 1 < sg.xb := by
  refine ⟨_, rfl, ?_⟩
  decide +kernel

/-- … and `hatch_path` returns on `exUsed` for every options / builder / event stream (premise
`objHatchPath … = some s` of `used_events_are_the_calls`, `used_active_is_the_calls`,
`used_row_is_evenodd_path`) -/
example (o : Options ℚ) (B : Builder Unit ℚ) (evs : List (PEv ℚ)) :
    ∃ s, objHatchPath exUsed o ⟨0, 0⟩ B 5 evs () = some s :=
  used_hatch_total exUsed o ⟨0, 0⟩ B 5 evs ()

/-- hypothesis of `history_call_k_fresh`: a history of two polygonal calls (a `hatch_path` ended
by its pattern at row 1, then a `dot_path`) in which no call panics -/
example [FlatConst ℚ] :
    ∀ c ∈ [Call.hatch ⟨(1:ℚ), ⟨0, 0⟩, true⟩ (1/10) (fun r => if r = 1 then 0 else 1)
             [.begin ⟨0, 0⟩, .line ⟨4, 0⟩, .line ⟨0, 4⟩, .close],
           Call.dots (1:ℚ) ⟨0, 0⟩ (1/10) (regularDots (1/2) 1)
             [.begin ⟨1, 1⟩, .line ⟨3, 1⟩, .line ⟨1, 3⟩, .close]],
      (Call.runFresh (⟨0, 0⟩ : P ℚ) 5 c).isPanic = false := by
  intro c hc
  simp only [List.mem_cons, List.not_mem_nil, or_false] at hc
  rcases hc with rfl | rfl
  · simp only [Call.runFresh, hatchPathCurved, flattenEvents, Option.map_some, hatchPath]
    have ht := hatch_total (mkCfg ⟨(1:ℚ), ⟨0, 0⟩, true⟩ ⟨0, 0⟩)
      (logHatch (fun r => if r = 1 then (0:ℚ) else 1)) 5
      (buildEvents (Transc.cos (1:ℚ)) (Transc.sin (1:ℚ))
        [.begin ⟨0, 0⟩, .line ⟨4, 0⟩, .line ⟨0, 4⟩, .close]) []
    obtain ⟨st, hst⟩ := Option.isSome_iff_exists.mp ht
    rw [hst]; rfl
  · simp only [Call.runFresh, dotPathCurved, flattenEvents, Option.map_some, dotPath, hatchPath]
    have ht := hatch_total (mkCfg ⟨(1:ℚ), ⟨0, 0⟩, false⟩ ⟨0, 0⟩)
      (h2d (regularDots (1/2 : ℚ) 1) 5) 5
      (buildEvents (Transc.cos (1:ℚ)) (Transc.sin (1:ℚ))
        [.begin ⟨1, 1⟩, .line ⟨3, 1⟩, .line ⟨1, 3⟩, .close]) ⟨[], 0, false⟩
    obtain ⟨st, hst⟩ := Option.isSome_iff_exists.mp ht
    rw [hst]; rfl

end Examples

end field

end Lyon.C20b
