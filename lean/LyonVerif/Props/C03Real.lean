/-
  C03 over ℝ: `tessellate_circle` fills the circle to within the tolerance — no hypothesis left.

  The `Transc` parameters of the model instantiated with Mathlib's real functions (`Real.sqrt`,
  `Real.sin`, `Real.cos`, `Real.pi`, `log2 = Real.logb 2`, `ceil = ⌈·⌉`, the saturating cast
  `as u32 = ⌊·⌋.toNat`): the laws `CircTrig ℝ` hold (`real_circTrig`; so they are satisfiable), the depth
  `(arc_len/step).ceil().log2().ceil() as u32` that `fill_circle` computes satisfies `arc_len/step ≤ 2^depth`
  (`real_depth_sufficient`), and the theorems of `Props/C03c.lean`, `Props/C03d.lean` are instantiated, the latter with
  distances in place of squared distances.

  What this does not cover: `f32` rounding (the tie compares the model at `Float32` with lyon bit for
  bit; the analytic oracle `circle/sagitta-within-tolerance` of `harness/src/bin/c03.rs` checks the
  real output with an allowance).
-/
import LyonVerif.Props.C03c
import LyonVerif.Props.C03d
import Mathlib.Analysis.SpecialFunctions.Trigonometric.Basic
import Mathlib.Analysis.SpecialFunctions.Trigonometric.Bounds
import Mathlib.Analysis.SpecialFunctions.Log.Base
import Mathlib.Analysis.SpecialFunctions.Pow.Real

set_option warn.classDefReducibility false

namespace Lyon.C03c
open Lyon Lyon.Shapes Lyon.C03

/-- `Transc ℝ` with Mathlib's real functions (fields `fill_circle` does not use are placeholders) -/
noncomputable def realTransc : Transc ℝ where
  sqrt := Real.sqrt
  cbrt := fun _ => 0
  sin := Real.sin
  cos := Real.cos
  tan := Real.tan
  acos := fun _ => 0
  atan2 := fun _ _ => 0
  pow := fun x y => x ^ y
  log2 := Real.logb 2
  ln := Real.log
  floor := fun x => (⌊x⌋ : ℝ)
  ceil := fun x => (⌈x⌉ : ℝ)
  toNat := fun x => ⌊x⌋.toNat
  fmod := fun x _ => x
  eps := 0
  pi := Real.pi
  isNaN := fun _ => false
  isFinite := fun _ => true

attribute [local instance] realTransc

/-- **the laws hold for the real functions** -/
theorem real_circTrig : CircTrig ℝ where
  cos_sq_add_sin_sq := fun x => by
    have := Real.cos_sq_add_sin_sq x
    show Real.cos x * Real.cos x + Real.sin x * Real.sin x = 1
    linear_combination this
  cos_add := fun x y => Real.cos_add x y
  sin_add := fun x y => Real.sin_add x y
  sin_pos := fun x h0 h1 => Real.sin_pos_of_pos_of_lt_pi h0 h1
  pi_pos := Real.pi_pos
  cos_pi_div_two := Real.cos_pi_div_two
  sin_le := fun x h => Real.sin_le h

theorem real_sqrt_mul_self (x : ℝ) (h : 0 ≤ x) : (Transc.sqrt x : ℝ) * Transc.sqrt x = x :=
  Real.mul_self_sqrt h

theorem real_sqrt_nonneg (x : ℝ) : 0 ≤ (Transc.sqrt x : ℝ) := Real.sqrt_nonneg x

/-- `2^⌈log₂ N⌉ ≥ N` for the real logarithm, an integer `N ≥ 1`, and the casts of the model -/
theorem real_pow_ceil_logb (N : ℤ) (hN : 1 ≤ N) :
    ((N : ℤ) : ℝ) ≤ 2 ^ (⌊((⌈Real.logb 2 (N : ℝ)⌉ : ℤ) : ℝ)⌋.toNat) := by
  have hN0 : (0 : ℝ) < (N : ℝ) := by exact_mod_cast (by omega : 0 < N)
  have hM0 := Int.ceil_nonneg (Real.logb_nonneg one_lt_two (by exact_mod_cast hN : (1 : ℝ) ≤ N))
  rw [Int.floor_intCast, ← Real.rpow_natCast, ← Int.cast_natCast (R := ℝ), Int.toNat_of_nonneg hM0]
  exact (Real.rpow_logb two_pos (by norm_num) hN0).symm.trans_le
    (Real.rpow_le_rpow_of_exponent_le one_le_two (Int.le_ceil _))

theorem real_step_pos (r tol : ℝ) (hr : 0 < r) (ht : 0 < tol) : 0 < circleFlatteningStep r tol := by
  rw [step_eq]
  exact mul_pos two_pos (Real.sqrt_pos.2 (stepArg_pos hr ht))

/-- **the depth `fill_circle` computes is sufficient**: `arc_len / step ≤ 2^circleRecursions`
(`circleRecursions = (arc_len/step).ceil().log2().ceil() as u32`), for all `r > 0`, `tol > 0` -/
theorem real_depth_sufficient (r tol : ℝ) (hr : 0 < r) (ht : 0 < tol) :
    Scalar.half * Transc.pi * r / circleFlatteningStep r tol ≤ 2 ^ circleRecursions r tol := by
  set x := Scalar.half * (Transc.pi : ℝ) * r / circleFlatteningStep r tol with hx
  have hstep := real_step_pos r tol hr ht
  have hx0 : 0 < x := by
    rw [hx, sc_half_eq]
    have : (0 : ℝ) < Transc.pi := Real.pi_pos
    positivity
  have hN : 1 ≤ ⌈x⌉ := Int.one_le_ceil_iff.2 hx0
  have hrec : circleRecursions r tol = ⌊((⌈Real.logb 2 ((⌈x⌉ : ℤ) : ℝ)⌉ : ℤ) : ℝ)⌋.toNat := rfl
  rw [hrec]
  exact le_trans (Int.le_ceil x) (real_pow_ceil_logb ⌈x⌉ hN)

/-- **The triangles `fill_circle` emits cover the inscribed regular `4·2ⁿ`-gon and stay inside the
circle** — over ℝ with the real `cos`, `sin`, `π`: no hypothesis but `fillCircle c r tol = some m`
(i.e. `r ≠ 0`). -/
theorem circle_tris_cover_polygon_real (c : P ℝ) (r tol : ℝ) (m : Mesh ℝ) (h : fillCircle c r tol = some m) :
    (∀ p : P ℝ,
      (∀ k : Nat, k < 4 * 2 ^ circleRecursions |r| tol →
        Inner (regVert c |r| (circleRecursions |r| tol) k, regVert c |r| (circleRecursions |r| tol) (k + 1)) p) →
      Covered m p) ∧
    (regVert c |r| (circleRecursions |r| tol) (4 * 2 ^ circleRecursions |r| tol)
        = regVert c |r| (circleRecursions |r| tol) 0 ∧
      ∀ k, OnCircle c |r| (regVert c |r| (circleRecursions |r| tol) k)) ∧
    (∀ p : P ℝ, Covered m p → (p - c).sqLen ≤ |r| * |r|) :=
  circle_tris_cover_polygon real_circTrig c r tol m h

theorem circle_tris_union_eq_polygon_real (c : P ℝ) (r tol : ℝ) (m : Mesh ℝ) (h : fillCircle c r tol = some m)
    (p : P ℝ) :
    Covered m p ↔
      ∀ k : Nat, k < 4 * 2 ^ circleRecursions |r| tol →
        Inner (regVert c |r| (circleRecursions |r| tol) k, regVert c |r| (circleRecursions |r| tol) (k + 1)) p :=
  circle_tris_union_eq_polygon real_circTrig c r tol m h p

theorem circle_polygon_vertices_emitted_real (c : P ℝ) (r tol : ℝ) (m : Mesh ℝ) (h : fillCircle c r tol = some m) :
    (∀ e : P ℝ × P ℝ, e ∈ circleEdges c |r| (circleRecursions |r| tol) ↔
      ∃ k : Nat, k < 4 * 2 ^ circleRecursions |r| tol ∧
        e = (regVert c |r| (circleRecursions |r| tol) k, regVert c |r| (circleRecursions |r| tol) (k + 1))) ∧
    (∀ k : Nat, k ≤ 4 * 2 ^ circleRecursions |r| tol → regVert c |r| (circleRecursions |r| tol) k ∈ m.verts) ∧
    m.verts.length = 4 * 2 ^ circleRecursions |r| tol :=
  circle_polygon_vertices_emitted real_circTrig c r tol m h

/-- the vertices of that polygon, spelled out with the real functions -/
theorem regVert_real (c : P ℝ) (r : ℝ) (n k : Nat) :
    regVert c r n k = ⟨c.x + Real.cos (k * (Real.pi / (2 * 2 ^ n))) * r,
                       c.y + Real.sin (k * (Real.pi / (2 * 2 ^ n))) * r⟩ := rfl

/-- **the sagitta of the polygon `fill_circle` builds is at most the tolerance**:
`|r| − tol ≤ |r|·cos(π/(4·2ⁿ))`, `n = circleRecursions |r| tol` -/
theorem fill_circle_sagitta_real (r tol : ℝ) (hr : r ≠ 0) (ht : 0 < tol) :
    |r| - tol ≤ |r| * Real.cos (Real.pi / (4 * 2 ^ circleRecursions |r| tol)) := by
  have hR : 0 < |r| := abs_pos.2 hr
  exact (sub_le_sub_left (min_le_left tol |r|) |r|).trans
    (circle_sagitta_le_tolerance real_circTrig |r| tol (circleRecursions |r| tol) hR ht
      real_sqrt_mul_self real_sqrt_nonneg (real_depth_sufficient |r| tol hR ht))

/-- **`tessellate_circle` fills the circle to within the tolerance** (model over ℝ, real `sqrt`,
`sin`, `cos`, `π`, `log₂`, ceiling, cast).  For every centre, every radius `r ≠ 0` (the code takes
`|r|`), every tolerance `tol > 0`: a mesh `m` is produced and
* every point at distance `≤ |r| − tol` from the centre — every point of the disc farther than the
  tolerance from the boundary circle — lies in one of the emitted (closed) triangles;
* every point of an emitted triangle is at distance `≤ |r|` from the centre: no point outside the
  circle is covered. -/
theorem fill_circle_within_tolerance_real (c : P ℝ) (r tol : ℝ) (hr : r ≠ 0) (ht : 0 < tol) :
    ∃ m, fillCircle c r tol = some m ∧
      (∀ p : P ℝ, Real.sqrt ((p - c).sqLen) ≤ |r| - tol → Covered m p) ∧
      (∀ p : P ℝ, Covered m p → Real.sqrt ((p - c).sqLen) ≤ |r|) := by
  have hR : 0 < |r| := abs_pos.2 hr
  obtain ⟨m, hm, hin, hout⟩ := fill_circle_within_tolerance real_circTrig c r tol hr ht
    real_sqrt_mul_self real_sqrt_nonneg (real_depth_sufficient |r| tol hR ht)
  refine ⟨m, hm, ?_, ?_⟩
  · intro p hp
    have h0 : 0 ≤ |r| - tol := le_trans (Real.sqrt_nonneg _) hp
    exact hin p (sub_nonneg.1 h0) (((Real.sqrt_le_left h0).1 hp).trans_eq (sq _))
  · intro p hc
    rw [Real.sqrt_le_left (le_of_lt hR), sq]
    exact hout p hc

/-- the mesh that exists has `4·2ⁿ` vertices on the circle and `4·2ⁿ − 2` triangles
(`C03.circle_counts`, `C03.circle_vertices_on_circle` at ℝ) -/
theorem fill_circle_mesh_real (c : P ℝ) (r tol : ℝ) (m : Mesh ℝ) (h : fillCircle c r tol = some m) :
    m.verts.length = 4 * 2 ^ circleRecursions |r| tol ∧ m.tris.length + 2 = 4 * 2 ^ circleRecursions |r| tol ∧
    ∀ p ∈ m.verts, OnCircle c |r| p :=
  ⟨(circle_counts c r tol m h).1, (circle_counts c r tol m h).2,
   circle_vertices_on_circle real_circTrig.cos_sq_add_sin_sq c r tol m h⟩

theorem sqrt_between {a b s : ℝ} (ha : 0 ≤ a) (hb : 0 ≤ b) (lo : a ^ 2 ≤ s) (hi : s ≤ b ^ 2) :
    a ≤ Real.sqrt s ∧ Real.sqrt s ≤ b :=
  ⟨(Real.le_sqrt ha ((sq_nonneg a).trans lo)).2 lo, (Real.sqrt_le_left hb).2 hi⟩

/-- **radial error of `add_circle`** (builder.rs, constant `0.55191505`): every point `B(t)`,
`t ∈ [0,1]`, of each of the four cubics it draws satisfies
`|r|·(1 − 2·10⁻⁴) ≤ |B(t) − center| ≤ |r|·(1 + 2·10⁻⁴)`: the exact curved shape the helper hands to
the tessellator is within `0.02 %` of the radius of the circle the user asked for. -/
theorem add_circle_radial_error_real (c : P ℝ) (r : ℝ) (pos : Bool) :
    ∀ q ∈ C03d.cubicSegs (PathShapes.addCircle c r pos), ∀ t : ℝ, 0 ≤ t → t ≤ 1 →
      |r| * (1 - 2 / 10 ^ 4) ≤ Real.sqrt ((q.sample t - c).sqLen) ∧
      Real.sqrt ((q.sample t - c).sqLen) ≤ |r| * (1 + 2 / 10 ^ 4) := by
  intro q hq t h0 h1
  obtain ⟨lo, hi⟩ := (C03d.add_circle_radial_error c r pos).2 q hq t h0 h1
  exact sqrt_between (mul_nonneg (abs_nonneg r) (by norm_num)) (mul_nonneg (abs_nonneg r) (by norm_num)) lo hi

/-- **radial error of `FillBuilder::add_circle`** (fill.rs: eight quadratics, constants
`0.41421357`, `FRAC_1_SQRT_2`): `|r|·(1 − 10⁻⁷) ≤ |Q(t) − center| ≤ 1.0032·|r|` for every point of every
quadratic, both windings. -/
theorem fill_add_circle_radial_error_real (c : P ℝ) (r : ℝ) (pos : Bool) :
    ∀ q ∈ C03d.quadSegs (PathShapes.fillAddCircle c r pos), ∀ t : ℝ, 0 ≤ t → t ≤ 1 →
      |r| * (1 - 1 / 10 ^ 7) ≤ Real.sqrt ((q.sample t - c).sqLen) ∧
      Real.sqrt ((q.sample t - c).sqLen) ≤ |r| * (1 + 32 / 10 ^ 4) := by
  intro q hq t h0 h1
  obtain ⟨lo, hi⟩ := (C03d.fill_add_circle_radial_error c r pos).2 q hq t h0 h1
  exact sqrt_between (mul_nonneg (abs_nonneg r) (by norm_num)) (mul_nonneg (abs_nonneg r) (by norm_num))
    (by linear_combination lo + (1 / 10 ^ 7 * (1 - 1 / 10 ^ 7)) * sq_nonneg |r|) hi

/-- **radial error of the corners of `add_rounded_rectangle`** (box not inverted, any requested
radii, either winding): every point of every emitted cubic is inside the box and at distance within
`[ρ(1 − 2·10⁻⁴), ρ(1 + 2·10⁻⁴)]` of a corner centre, `ρ` the clamped radius of that corner. -/
theorem rounded_rect_radial_error_real (mn mx : P ℝ) (hx : mn.x ≤ mx.x) (hy : mn.y ≤ mx.y)
    (radii : PathShapes.Radii ℝ) (pos : Bool) :
    ∀ q ∈ C03d.cubicSegs (PathShapes.addRoundedRectangle mn mx radii pos), ∀ t : ℝ, 0 ≤ t → t ≤ 1 →
      (mn.x ≤ (q.sample t).x ∧ (q.sample t).x ≤ mx.x ∧ mn.y ≤ (q.sample t).y ∧ (q.sample t).y ≤ mx.y) ∧
      ∃ (ctr : P ℝ) (ρ : ℝ),
        ((ctr = C03d.cornerTL mn mx (PathShapes.clampRadii (mx.x - mn.x) (mx.y - mn.y) radii) ∧
            ρ = (PathShapes.clampRadii (mx.x - mn.x) (mx.y - mn.y) radii).tl) ∨
         (ctr = C03d.cornerTR mn mx (PathShapes.clampRadii (mx.x - mn.x) (mx.y - mn.y) radii) ∧
            ρ = (PathShapes.clampRadii (mx.x - mn.x) (mx.y - mn.y) radii).tr) ∨
         (ctr = C03d.cornerBR mn mx (PathShapes.clampRadii (mx.x - mn.x) (mx.y - mn.y) radii) ∧
            ρ = (PathShapes.clampRadii (mx.x - mn.x) (mx.y - mn.y) radii).br) ∨
         (ctr = C03d.cornerBL mn mx (PathShapes.clampRadii (mx.x - mn.x) (mx.y - mn.y) radii) ∧
            ρ = (PathShapes.clampRadii (mx.x - mn.x) (mx.y - mn.y) radii).bl)) ∧
        ρ * (1 - 2 / 10 ^ 4) ≤ Real.sqrt ((q.sample t - ctr).sqLen) ∧
        Real.sqrt ((q.sample t - ctr).sqLen) ≤ ρ * (1 + 2 / 10 ^ 4) := by
  intro q hq t h0 h1
  obtain ⟨hbox, ctr, ρ, hc, lo, hi⟩ := (C03d.rounded_rect_outline mn mx hx hy radii).2.2.2 pos q hq t h0 h1
  have hw : (0 : ℝ) ≤ mx.x - mn.x := sub_nonneg.2 hx
  have hh : (0 : ℝ) ≤ mx.y - mn.y := sub_nonneg.2 hy
  obtain ⟨⟨p1, p2, p3, p4⟩, _⟩ := C03b.rounded_rect_radii_fit _ _ hw hh radii
  have hρ : 0 ≤ ρ := by
    rcases hc with ⟨_, rfl⟩ | ⟨_, rfl⟩ | ⟨_, rfl⟩ | ⟨_, rfl⟩ <;> assumption
  exact ⟨hbox, ctr, ρ, hc, sqrt_between (mul_nonneg hρ (by norm_num)) (mul_nonneg hρ (by norm_num)) lo hi⟩

/-- the hypotheses of `fill_circle_within_tolerance_real` on a concrete input, and a concrete
covered point: radius 100, tolerance 0.01 (the witness input of the repaired truncation defect) -/
example : (100 : ℝ) ≠ 0 ∧ (0 : ℝ) < 1 / 100 ∧
    Real.sqrt (((⟨3, 4⟩ : P ℝ) - ⟨0, 0⟩).sqLen) ≤ |(100 : ℝ)| - 1 / 100 := by
  refine ⟨by norm_num, by norm_num, ?_⟩
  have : ((⟨3, 4⟩ : P ℝ) - ⟨0, 0⟩).sqLen = 5 ^ 2 := by simp [geom]; norm_num
  rw [this, Real.sqrt_sq (by norm_num)]
  norm_num

end Lyon.C03c
