/-
  C08 — tessellators carry no state from one call to the next: the FILL tessellator on CURVED input
  with CUSTOM ATTRIBUTES, end to end, composed.

  `Props/C08b.lean` proves the property for polygonal input on the complete sweep model; for curves
  and attributes `Props/C08.lean` has the pieces separately (sweep for any queue; queue builder and attribute
  buffer on the record-of-fields model).  Here they are ONE statement about ONE model
  (`Model/Tess/ResetSweepCurves.lean`, built from the definitions that are tied bit for bit: the
  queue builder with the curve flattening inside — `SweepCurves.feedAll`, family `sweepc:32` of C01 —
  pushing into the recycled queue `Sweep.ofRecsFrom`, `Queue.sort`, the sweep on a used object
  `Sweep.tessellateImplFrom`, and `FillVertex::interpolated_attributes` on the object's own
  `attrib_buffer` — `Reset.interp`, family `chk_interp` —; the whole on a REUSED real object: family
  `sweepc_reuse:32` of this check).

  Main theorems (no hypotheses on the object, the history or the input; every scalar type):
  * `fill_history_fresh_sweep_curves`   after EVERY history of calls on one object — polygonal or
      curved paths, any attribute count, every entry point (`tessellate`, `tessellate_path`,
      `tessellate_with_ids` without / with a store, `tessellate_polygon`, `builder`,
      `builder_with_attributes`), any options, invalid tolerances, calls aborted by the geometry
      builder at any vertex, sweeps that returned `Err` or panicked part-way, a flattening that
      panicked, builders dropped without `build` — the next call's outcome and complete emission
      sequence (every `add_fill_vertex` with its position, ALL sibling records and the value of
      `interpolated_attributes()`, every `add_triangle`, in order) are those of `FillTessellator::new()`.
  * `fill_history_outputs_sweep_curves` the same call by call along the history.
  * `fill_curves_call_fresh`            … and that is `SweepCurves.tessellate` with `vertexAttrs` on
      every vertex: the buffer-free models tied on fresh objects.
  * `attrib_buffer_overwritten`         `interpolated_attributes` on ANY buffer of the length `resize`
      leaves = the buffer-free `vertexAttrs` (every slot is assigned before it is added to).
  * `build_queue_curves_fresh`          the queue built in the recycled storage = the queue built from
      scratch, on the concrete `EventQueue` / `Sources.Builder` model with the flattening inside.
-/
import LyonVerif.Props.C08b
import LyonVerif.Lemmas.ResetSweepCurves

set_option linter.unusedSectionVars false

namespace Lyon.C08
open Lyon Lyon.Mono Lyon.Sweep Lyon.EQ Lyon.SweepCurves
open Lyon.Reset (interp resizeAttrib Src IRes)

variable {α : Type} [Scalar α] [Wide α] [Transc α] [FlatConst α]

/-- pushing the builder's records into the recycled queue (`into_builder`, and `set_path*` for the
entry points that use them, have run `EventQueue::reset` on it) = pushing them into a new queue -/
theorem recycled_queue_fresh (old : Queue α) (mode : IdMode) (recs : List (Sources.EdgeRec α)) :
    ofRecsFrom (recycledQueue old mode) recs = Queue.ofRecs recs := by
  cases mode <;> rfl

/-- **The event queue an entry point builds in recycled storage is the one it builds from
scratch** — concrete queue (`events`, `edge_data`, `first`, `sorted`), concrete builder
(`current, prev, second, nth, prev_endpoint_id`), path commands with quadratic and cubic curves
flattened inside the builder, all id modes, both orientations, any tolerance; `none` (a panic inside
a flattening) included. -/
theorem build_queue_curves_fresh (old : Queue α) (mode : IdMode) (hz : Bool) (tol : α) (cmds : List (Cmd α)) :
    buildQueueFromC old mode hz tol cmds = SweepCurves.buildQueue mode hz tol cmds := by
  unfold buildQueueFromC SweepCurves.buildQueue
  simp only [recycled_queue_fresh]

/-- the stale queue is really there: the storage handed to the builder of `builder()` holds the old
events until `into_builder` resets it -/
theorem recycled_queue_stale_witness (q : Queue α) (e : Event α) (d : EQ.EdgeData α) :
    (recycledQueue (q.pushUnsorted e.pos d) .builder).events.size = q.events.size + 1 ∧
    (ofRecsFrom (recycledQueue (q.pushUnsorted e.pos d) .builder) []).events.size = 0 := by
  constructor
  · simp [recycledQueue, Queue.pushUnsorted]
  · rfl

/-- **Every slot of the attribute buffer is written before it is read**, on the model that is
composed below: for ANY buffer of the length `tessellate_impl` has just given it — zeros, the
attributes of the previous vertex, the leftovers of an earlier call — `interpolated_attributes()` of
a vertex returns the buffer-free `vertexAttrs` (what family `sweepc:32` ties on fresh objects), and
leaves a buffer of the same length. -/
theorem attrib_buffer_overwritten (ids : Array Nat) (values : Array (Array α)) (n : Nat)
    (recs : List (P α × EQ.EdgeData α)) (buf : List α) (hb : buf.length = n) (hr : recs ≠ []) :
    (interpVertex (some (storeL ids values n)) n recs buf).1 = .slice (vertexAttrs ids values n recs) ∧
    (interpVertex (some (storeL ids values n)) n recs buf).2.length = n :=
  interpVertex_storeL ids values n recs buf hb hr

example : ∃ (buf : List Int') (recs : List (P Int' × EQ.EdgeData Int')), buf.length = 2 ∧ recs ≠ [] :=
  ⟨[⟨5⟩, ⟨6⟩], [(⟨⟨0⟩, ⟨0⟩⟩, ⟨⟨⟨1⟩, ⟨1⟩⟩, ⟨0⟩, ⟨1⟩, 1, true, 0, 1⟩)], rfl, by simp⟩

/-- … for all the vertices of a call, the buffer threaded through them, from whatever the object's
buffer held before `resize` / `clear` (any contents, any lengths) -/
theorem attrib_buffer_call_fresh (store : Option (Nat → List α)) (n : Nat) (a : Option Nat) (es : List (Emit α))
    (buf buf' : List α) :
    (withAttrs store n es (resizeAttrib buf a)).1 = (withAttrs store n es (resizeAttrib buf' a)).1 :=
  (withAttrs_fresh store n es _ _ (by rw [resizeAttrib_length, resizeAttrib_length])).1

/-- the stale values are really there: after a vertex with two sources the buffer holds their mean,
`resize` to the same count keeps it, and the next call's first multi-source vertex starts from it -/
theorem attrib_buffer_stale_curves_witness :
    let st : Nat → List Int' := fun id => [⟨(id : Int) * 10⟩]
    let srcs : List (Src Int') := [.endpoint 1, .endpoint 2]
    (interp (some st) 1 srcs [⟨0⟩]).2 = [⟨30 / 2⟩] ∧
    resizeAttrib (interp (some st) 1 srcs [⟨0⟩]).2 (some 1) = [⟨30 / 2⟩] ∧
    (interp (some st) 1 srcs [⟨0⟩]).1 = (interp (some st) 1 srcs [⟨15⟩]).1 := by
  refine ⟨by decide, by decide, ?_⟩
  exact (interp_fresh _ _ _ _ _ rfl).1

/-- **one call through a curved-input / attribute-carrying entry point: the outcome and the
complete emission sequence do not depend on the object** -/
theorem tessellateFromC_sim (o o' : Obj α) (c : CallC α) : (tessellateFromC o c).1 = (tessellateFromC o' c).1 := by
  unfold tessellateFromC
  dsimp only
  rw [build_queue_curves_fresh o.st.q, build_queue_curves_fresh o'.st.q]
  cases SweepCurves.buildQueue (c.entry.mode c.nattr).1 c.horizontal c.tol c.cmds with
  | none => rfl
  | some qi =>
    obtain ⟨q0, ids⟩ := qi
    dsimp only
    split
    · rfl
    · split
      · rfl
      · obtain ⟨h1, h2⟩ := Prod.mk.inj (tessellateImplFrom_sim o.st o'.st c.refuse q0.sort c.rule c.horizontal c.tol c.handleIx)
        split
        · rw [h1]
        · rw [h1, h2]
          exact Prod.ext rfl (attrib_buffer_call_fresh _ _ _ _ _ _)

/-- the same for a call of the polygonal model on the object with an attribute buffer -/
theorem tessellateFromP_sim (o o' : Obj α) (c : FillCall α) : (tessellateFromP o c).1 = (tessellateFromP o' c).1 := by
  unfold tessellateFromP
  dsimp only
  obtain ⟨h1, h2⟩ := Prod.mk.inj (tessellateFrom_sim o.st o'.st c)
  rw [h1, h2]
  refine Prod.ext rfl ?_
  rw [withAttrs_none 0 #[] #[] 0, withAttrs_none 0 #[] #[] 0]

theorem tessellateFromAny_sim (o o' : Obj α) (c : AnyCall α) :
    (tessellateFromAny o c).1 = (tessellateFromAny o' c).1 := by
  cases c with
  | poly c => exact tessellateFromP_sim o o' c
  | curved c => exact tessellateFromC_sim o o' c

/-- on a NEW tessellator, with a builder that accepts everything and is not dropped, the call IS
`SweepCurves.tessellate` (the queue builder with the flattening, the sort, the sweep) with
`vertexAttrs` on every vertex -/
theorem tessellateFromC_new (c : CallC α) (hr : c.refuse = none) (hd : c.dropped = false) :
    (tessellateFromC Obj.fresh c).1 = tessellateFreshC c := by
  unfold tessellateFromC tessellateFreshC SweepCurves.tessellate
  dsimp only
  rw [build_queue_curves_fresh]
  cases SweepCurves.buildQueue (c.entry.mode c.nattr).1 c.horizontal c.tol c.cmds with
  | none => rfl
  | some qi =>
    obtain ⟨q0, ids⟩ := qi
    simp only [hd, hr, Bool.false_eq_true, if_false]
    split
    · rfl
    · have hf : (tessellateImplFrom (Obj.fresh (α := α)).st none q0.sort c.rule c.horizontal c.tol c.handleIx).1 =
          tessellateImpl q0.sort c.rule c.horizontal c.tol c.handleIx := tessellateImplFrom_fresh _ _ _ _ _
      rw [hf]
      split
      · rename_i hbad
        have he : tessellateImpl q0.sort c.rule c.horizontal c.tol c.handleIx =
            (some (.err "UnsupportedParamater(ToleranceIsNaN)"), #[], 0) := by
          unfold tessellateImpl
          rw [if_pos hbad]
        rw [he]
        rfl
      · refine Prod.ext rfl ?_
        cases hm : (c.entry.mode c.nattr).2
        · simp only [Bool.false_eq_true, if_false]
          exact withAttrs_none _ _ _ _ _ _
        · simp only [if_true]
          exact withAttrs_storeL _ _ _ _ _ (by rw [resizeAttrib_length]; rfl)

example : ∃ c : CallC Nat, c.refuse = none ∧ c.dropped = false :=
  ⟨{ entry := .ids true, nattr := 2, rule := .evenOdd, horizontal := false, tol := 1, handleIx := true,
     cmds := [.begin ⟨0, 0⟩, .quad ⟨1, 0⟩ ⟨1, 1⟩, .end_ true], values := #[#[1, 2], #[3, 4]] }, rfl, rfl⟩

/-- **A whole entry point on a used object = the models tied on fresh objects**: for EVERY state of
the object (pool, spans, edges, registers, options, the old queue, the old attribute buffer), every
entry point, attribute count, path with lines / quadratics / cubics, rule, orientation, tolerance
(valid or not), intersection flag: outcome and complete emission sequence incl. the interpolated
attributes of every vertex are `SweepCurves.tessellate` + `vertexAttrs`. -/
theorem fill_curves_call_fresh (o : Obj α) (c : CallC α) (hr : c.refuse = none) (hd : c.dropped = false) :
    (tessellateFromC o c).1 = tessellateFreshC c := by
  rw [tessellateFromC_sim o Obj.fresh, tessellateFromC_new c hr hd]

/-- the output of a call of the object does not depend on its state -/
theorem fillObjC_stateless : Stateless (fillObjC (α := α)) :=
  fun s s' c => tessellateFromAny_sim s s' c

/-- **After every history the next call emits what a new tessellator emits** — curved input and
custom attributes included.  `o0` is ANY initial object (any sweep state, any queue, any attribute
buffer), `hist` ANY sequence of calls: polygonal calls of the five entry points (`FillCall`) and
calls on paths with curves and attributes through `tessellate` / `tessellate_path` /
`tessellate_with_ids` (without or with the store) / `builder()` / `builder_with_attributes(n)`
(`CallC`), each with its own fill rule, orientation, tolerance (valid or not), intersection flag,
attribute count and values, a geometry builder refusing any vertex, a builder dropped without
`build`; a call of the history may succeed, return `Err`, be aborted by the builder, panic in a
flattening or panic part-way through the sweep — the object is left as the model of that call
leaves it (pool, live spans, edges, a half-processed event, the queue or `EventQueue::new()`, the
attribute buffer with the last interpolated values) and the next call starts from THAT.  The output
compared is the outcome and the complete emission sequence: every `add_fill_vertex` with its
position, all sibling records and the result of `interpolated_attributes()`, every `add_triangle`. -/
theorem fill_history_fresh_sweep_curves (o0 : Obj α) (hist : List (AnyCall α)) (c : AnyCall α) :
    (fillObjC.call (fillObjC.run o0 hist) c).2 = (fillObjC.call Obj.fresh c).2 :=
  fillObjC_stateless _ _ c

/-- … and for an ordinary last call on curved input that is `SweepCurves.tessellate` + `vertexAttrs` -/
theorem fill_history_fresh_sweep_curves_tessellate (o0 : Obj α) (hist : List (AnyCall α)) (c : CallC α)
    (hr : c.refuse = none) (hd : c.dropped = false) :
    (fillObjC.call (fillObjC.run o0 hist) (.curved c)).2 = tessellateFreshC c :=
  fill_curves_call_fresh _ c hr hd

/-- call by call along the history: what family `sweepc_reuse:32` observes on the real object -/
theorem fill_history_outputs_sweep_curves (o0 : Obj α) (hist : List (AnyCall α)) :
    fillObjC.outputs o0 hist = hist.map (fun c => (fillObjC.call Obj.fresh c).2) :=
  fillObjC_stateless.outputs Obj.fresh hist o0

end Lyon.C08
