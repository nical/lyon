/-
  C13e — the oracle's `direction` clause as a theorem, for QUADRATICS: the polar angle of a quadratic
  piece about the centre differs from the arc's angle at the same parameter by at most `0.03·|δ|`
  (`δ` = the step, `|δ| ≤ π/4`), in the unit-circle frame of the ellipse.

  With `s = sin(δ/2)`, `c = cos(δ/2)`, `τ = tan(δ/2)` the piece that starts at angle `a₁` is, in the
  unit-circle frame, the rotation by `a₁` of `(qX t, qY t)` (`quadFrame_rotated_real`; `a₁ = 0`:
  `quad_unit_coords_real`), so its polar angle is `a₁ + θ(t)`, `θ(t) = arctan(qY t / qX t)`, while the
  arc's angle at the piece parameter `t` is `a₁ + t·δ`.

  * `quad_angular_offset_real`: `|θ(t) − t·δ| ≤ 0.03·|δ|` for `|δ| ≤ π/4`, `t ∈ [0,1]`
    (mean value theorem `angle_offset_of_rate` with the exact angular velocity
    `quad_angular_velocity_real` and `|θ' − δ| ≤ 0.06·|δ|`: `quad_rate_bounds_real`, i.e.
    `tan x ≤ 1.06 x` on `[0, π/8]` and `4 sin δ ≥ 0.94 δ (3 + cos δ)`).
  * `arc_quads_angular_offset_real`: every quadratic emitted for a real arc is such a piece with
    `δ = stepQ arc`, `|δ| ≤ π/4`; hence the bound holds for every emitted quadratic.
  The measured maximum is `5.43·10⁻³·|δ|`; `0.03` is the oracle's constant.  Cubics: not done.
-/
import LyonVerif.Lemmas.SvgArcRealOffset

set_option linter.unusedSimpArgs false

namespace Lyon.C13
open Lyon Scalar ArcConv

/-- the piece-relative polar angle of the quadratic piece with step `δ` at parameter `t` -/
noncomputable def quadTheta (d t : ℝ) : ℝ :=
  Real.arctan (qY (Real.sin (d / 2)) (Real.cos (d / 2)) (Real.tan (d * Scalar.half)) t / qX (Real.sin (d / 2)) t)

theorem quad_angular_offset_nonneg_real (d t : ℝ) (h0 : 0 ≤ d) (h1 : d ≤ Real.pi / 4)
    (ht0 : 0 ≤ t) (ht1 : t ≤ 1) : |quadTheta d t - t * d| ≤ 3 / 100 * d := by
  have hpi := Real.pi_pos
  have hdabs : |d| ≤ Real.pi / 4 := by rw [abs_of_nonneg h0]; exact h1
  obtain ⟨hu, hcos, hsin, htan, hcp, hK⟩ := half_angle_real d hdabs
  have key := angle_offset_of_rate (quadTheta d)
    (fun t => 2 * Real.tan (d * Scalar.half) * (1 - 2 * (Real.sin (d / 2) * Real.sin (d / 2)) * (t * (1 - t)))
        / (1 + (2 * Real.sin (d / 2) * Real.tan (d * Scalar.half) * (t * (1 - t))) ^ 2))
    d (6 / 100 * d)
    (fun x hx => quad_angular_velocity_real _ _ _ x hu htan (qX_pos d x hdabs hx.1 hx.2).ne')
    (by simp [quadTheta, qX, qY])
    (by
      have hcd : 0 < Real.cos d := by linarith
      have : qY (Real.sin (d / 2)) (Real.cos (d / 2)) (Real.tan (d * Scalar.half)) 1 / qX (Real.sin (d / 2)) 1
          = Real.tan d := by
        rw [Real.tan_eq_sin_div_cos d, hsin, hcos]; simp only [qX, qY]; ring
      show Real.arctan _ = d
      rw [this, Real.arctan_tan (by linarith) (by linarith)])
    (fun x hx => quad_rate_bounds_real d x h0 h1 hx.1 hx.2) t ⟨ht0, ht1⟩
  have := key.2.2
  linarith

/-- `|θ(t) − t·δ| ≤ 0.03·|δ|` for every step `|δ| ≤ π/4` and `t ∈ [0,1]` -/
theorem quad_angular_offset_real (d t : ℝ) (hd : |d| ≤ Real.pi / 4) (ht0 : 0 ≤ t) (ht1 : t ≤ 1) :
    |quadTheta d t - t * d| ≤ 3 / 100 * |d| := by
  obtain ⟨l, u⟩ := abs_le.mp hd
  rcases le_total 0 d with h | h
  · rw [abs_of_nonneg h]; exact quad_angular_offset_nonneg_real d t h u ht0 ht1
  · have hh : (Scalar.half : ℝ) = 1 / 2 := sc_half
    have e : quadTheta d t = -quadTheta (-d) t := by
      simp only [quadTheta, hh]
      rw [show -d / 2 = -(d / 2) by ring, show -d * (1 / 2) = -(d * (1 / 2)) by ring,
        Real.sin_neg, Real.cos_neg, Real.tan_neg, ← Real.arctan_neg]
      congr 1
      simp only [qX, qY]; ring
    have := quad_angular_offset_nonneg_real (-d) t (by linarith) (by linarith) ht0 ht1
    rw [abs_of_nonpos h, e]
    have e2 : -quadTheta (-d) t - t * d = -(quadTheta (-d) t - t * -d) := by ring
    rw [e2, abs_neg]; exact this

/-- the rotation by `a₁` of the quadratic frame curve `(qX, qY)`, in coordinates: its polar angle is
`a₁ + quadTheta δ t` -/
theorem quadFrame_rotated_real (a1 d t : ℝ) :
    Arc.rotate a1 ((quadFrame d).sample t)
      = ⟨Real.cos a1 * qX (Real.sin (d / 2)) t
            - Real.sin a1 * qY (Real.sin (d / 2)) (Real.cos (d / 2)) (Real.tan (d * Scalar.half)) t,
         Real.sin a1 * qX (Real.sin (d / 2)) t
            + Real.cos a1 * qY (Real.sin (d / 2)) (Real.cos (d / 2)) (Real.tan (d * Scalar.half)) t⟩ := by
  rw [quadFrame_sample]
  apply P.ext' <;>
  · simp only [Arc.rotate, qX, qY, transc_cos_real, transc_sin_real, transc_tan_real]
    ring

/-- every quadratic emitted for a real arc is, in the unit-circle
frame of the ellipse (`ellMap`), the rotation by its start angle of `(qX, qY)` with `δ = stepQ arc`,
`|δ| ≤ π/4`; its polar angle `a₁ + θ(t)` differs from the arc's angle `a₁ + t·δ` by at most `0.03·|δ|`. -/
theorem arc_quads_angular_offset_real (arc : Arc ℝ) (x : Quad ℝ × ℝ × ℝ) (hx : x ∈ quadsWithT arc)
    (t : ℝ) (ht0 : 0 ≤ t) (ht1 : t ≤ 1) :
    ∃ a1 : ℝ, x.1.sample t = ellMap arc
        ⟨Real.cos a1 * qX (Real.sin (stepQ arc / 2)) t
            - Real.sin a1 * qY (Real.sin (stepQ arc / 2)) (Real.cos (stepQ arc / 2)) (Real.tan (stepQ arc * Scalar.half)) t,
         Real.sin a1 * qX (Real.sin (stepQ arc / 2)) t
            + Real.cos a1 * qY (Real.sin (stepQ arc / 2)) (Real.cos (stepQ arc / 2)) (Real.tan (stepQ arc * Scalar.half)) t⟩
      ∧ |quadTheta (stepQ arc) t - t * stepQ arc| ≤ 3 / 100 * |stepQ arc| := by
  obtain ⟨hq, _, b, _⟩ := emitted_pieces_real arc
  obtain ⟨a1, e⟩ := hq x hx
  refine ⟨a1, ?_, quad_angular_offset_real _ t b ht0 ht1⟩
  rw [e, quadAt_sample_real, quadFrame_rotated_real]

/-- non-vacuity: a 45° step and `t = 1/3` satisfy the hypotheses -/
example : |Real.pi / 4| ≤ Real.pi / 4 ∧ (0 : ℝ) ≤ 1 / 3 ∧ (1 / 3 : ℝ) ≤ 1 := by
  refine ⟨?_, by norm_num, by norm_num⟩
  rw [abs_of_pos (by have := Real.pi_pos; positivity)]

end Lyon.C13
