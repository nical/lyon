/-
  C16g — mirror images (orientation-reversing similarities) at ITERATION time and for
  `for_each_flattened`, with the concrete flatteners of lyon_geom; companion of
  `flatten_transform_reflection_concrete` (`Props/C16e.lean`, building time).

  * `flatten_transform_reflection_iter_concrete`: `events.transformed(m).flattened(s·tol)` =
    `events.flattened(tol).transformed(m)`, event for event (`none` iff `none`), for every event
    stream on which the flattener's sign test `(parabola_from < 0) == (parabola_to < 0)` is
    symmetric (`reflGenericEvents`: for a quadratic event the test on that quadratic; for a cubic
    event on the quadratic approximation of EVERY sub-range `[t0, t1]`, which is more than the
    iterator visits: `Adapt.flatIterC_xf_visited`, on which the proof rests, asks it of the ranges
    `[k·step, (k+1)·step]` the cubic iterator accumulates and approximates, `GenericItVisited`).
  * `flatten_transform_reflection_attr_concrete`: the same for
    `iter_with_attributes().for_each_flattened`, attributes included (`reflGenericAttrEvents`:
    for a cubic event the test on the quadratics of `for_each_quadratic_bezier`).

  On the real adapters: family `mir` of the C16 harness, observation
  `C16-obs-flatten-mirror-asymmetry` (the counts differ only where a quadratic has
  `parabola_from` or `parabola_to` exactly 0).
-/
import LyonVerif.Props.C16e
import LyonVerif.Lemmas.AdaptersConcreteSimIter

set_option linter.unusedSectionVars false

namespace Lyon.C16
open Lyon Lyon.Path Lyon.Adapt Scalar Lyon.Flat

section field
variable {K : Type} [Field K] [LinearOrder K] [IsStrictOrderedRing K] [Transc K] [FlatConst K]

/-- the sign test is symmetric for every curve `iterator::Flattened` flattens -/
def reflGenericEvents : List (Event (P K)) → Prop
  | [] => True
  | .quad a c b :: r =>
    ParabolaGeneric (parabolaFromOf ⟨a, c, b⟩) (parabolaToOf ⟨a, c, b⟩) ∧ reflGenericEvents r
  | .cubic a c d b :: r => CubicGenericAll ⟨a, c, d, b⟩ ∧ reflGenericEvents r
  | _ :: r => reflGenericEvents r

/-- the sign test is symmetric for every curve `for_each_flattened` flattens (for a cubic: for
the quadratics `for_each_quadratic_bezier` cuts it into at this tolerance) -/
def reflGenericAttrEvents (tol : K) : List (Event (AP (P K) K)) → Prop
  | [] => True
  | .quad a c b :: r =>
    ParabolaGeneric (parabolaFromOf ⟨a.1, c.1, b.1⟩) (parabolaToOf ⟨a.1, c.1, b.1⟩)
      ∧ reflGenericAttrEvents tol r
  | .cubic a c d b :: r =>
    QuadsGeneric ((⟨a.1, c.1, d.1, b.1⟩ : Cubic K).forEachQuadraticWithT (tol * FlatConst.value 4 1))
      ∧ reflGenericAttrEvents tol r
  | _ :: r => reflGenericAttrEvents tol r

theorem reflGenericEvents_iff (evs : List (Event (P K))) :
    reflGenericEvents evs ↔ ∀ k ∈ curvesOf evs,
      GenericIt (fun q => ParabolaGeneric (parabolaFromOf q) (parabolaToOf q)) k := by
  induction evs with
  | nil => simp only [reflGenericEvents, curvesOf, List.not_mem_nil, false_imp_iff, implies_true]
  | cons e r ih =>
    cases e <;> simp only [reflGenericEvents, curvesOf, List.forall_mem_cons, GenericIt, ih] <;> rfl

theorem flatten_transform_reflection_iter_concrete (hsq : SqrtScales K) (m : Xf K) (s : K)
    (hm : IsSimNeg m s) (fuel : Nat) (tol : K) (evs : List (Event (P K)))
    (hg : reflGenericEvents evs) :
    flatIterC fuel (s * tol) (xfIter m.apply evs)
      = (flatIterC fuel tol evs).map (xfIter m.apply) :=
  flatIterC_xf (hm.flatCommutes hsq) fuel tol evs ((reflGenericEvents_iff evs).1 hg)

theorem reflGenericAttrEvents_iff (tol : K) (aevs : List (Event (AP (P K) K))) :
    reflGenericAttrEvents tol aevs ↔ ∀ k ∈ curvesOf (aevs.map (mapEvent Prod.fst)),
      GenericCb (fun q => ParabolaGeneric (parabolaFromOf q) (parabolaToOf q)) tol k := by
  induction aevs with
  | nil => simp only [reflGenericAttrEvents, List.map_nil, curvesOf, List.not_mem_nil,
      false_imp_iff, implies_true]
  | cons e r ih =>
    cases e <;> simp only [reflGenericAttrEvents, List.map_cons, mapEvent, curvesOf,
      List.forall_mem_cons, GenericCb, ih] <;> rfl

theorem flatten_transform_reflection_attr_concrete (hsq : SqrtScales K) (m : Xf K) (s : K)
    (hm : IsSimNeg m s) (tol : K) (aevs : List (Event (AP (P K) K)))
    (hg : reflGenericAttrEvents tol aevs) :
    flatAttrIterC (s * tol) (aevs.map (mapEvent (mapAP m.apply)))
      = (flatAttrIterC tol aevs).map (List.map (mapEvent (mapAP m.apply))) :=
  flatAttrIterC_xf (hm.flatCommutes hsq) tol aevs ((reflGenericAttrEvents_iff tol aevs).1 hg)

end field

/-! ## Non-vacuity (ℝ with the genuine functions; the events of `exProg`, whose quadratic
`(0,0) (1,1/8) (2,0)` has `parabola_from = 1/16`, `parabola_to = −1/16`) -/

section Examples
attribute [local instance 2000] fieldScalar

theorem exParabolaGeneric :
    ParabolaGeneric (parabolaFromOf (⟨⟨0, 0⟩, ⟨1, 1 / 8⟩, ⟨2, 0⟩⟩ : Quad ℝ))
      (parabolaToOf (⟨⟨0, 0⟩, ⟨1, 1 / 8⟩, ⟨2, 0⟩⟩ : Quad ℝ)) := by
  let _ := exRealTransc; let _ := exRealConst
  apply parabolaGeneric_of_ne
  · simp only [parabolaFromOf, ddOf, FlatParams.flatCross, geom]; norm_num
  · simp only [parabolaToOf, ddOf, FlatParams.flatCross, geom]; norm_num

example : @SqrtScales ℝ _ _ _ exRealTransc ∧ IsSimNeg (⟨3, 4, 4, -3, 1, 2⟩ : Xf ℝ) 5
    ∧ reflGenericEvents (specEvents (exProg (K := ℝ)))
    ∧ @reflGenericAttrEvents ℝ _ _ exRealTransc exRealConst (1 / 10) (attrEvents (exProg (K := ℝ))) := by
  refine ⟨real_sqrtScales, exSimNeg, ?_, ?_⟩
  · simp only [exProg, specEvents, specFrom, reflGenericEvents, and_true]
    exact exParabolaGeneric
  · simp only [exProg, attrEvents, specEvents, List.map_cons, List.map_nil, Adapt.aCall, specFrom,
      reflGenericAttrEvents, and_true]
    exact exParabolaGeneric

end Examples

end Lyon.C16
