/-
  C16d — the PROVIDED methods of `PathBuilder` (`close`, `path_event`, `event`, `add_polygon`,
  `add_point`, `add_line_segment`, `add_rectangle`, `add_rounded_rectangle`, `add_circle`,
  `add_ellipse`) sent THROUGH the adapters.

  The model (`Model/Path/AdaptersHelpers.lean`): a builder program is a list of `Cmd`s; a
  provided method is its default body, i.e. the primitive calls `Cmd.expand` it makes on the
  builder that receives it; no adapter of lyon_path overrides a provided method, so
  `adapter(cmds) = adapter(expandProg cmds)` — the definition the driver runs against the real
  adapters driven through the real provided methods, bit for bit, on every check.
-/
import LyonVerif.Props.C16
import LyonVerif.Lemmas.AdaptersHelpers
import LyonVerif.Lemmas.AdaptersHelpersStored

set_option linter.unusedSectionVars false

geom_all Lyon.PathShapes
geom_all Lyon.Xf

namespace Lyon.C16
open Lyon Lyon.Path Lyon.Adapt

section Concat
variable {S : Type} [Inhabited S]

/-- A path stored from a program `p1`, extended with `extend_from_paths(&[path of p2])` (`p2`
a well-nested program built on its own), is the path of `p1 ++ p2`: same points (attribute
slots and the first-point copies of closed sub-paths included), same verbs.  The builder's
`first` / `first_attributes`, which `extend_from_paths` leaves stale, are never read before the
next `begin` overwrites them. -/
theorem stored_concat (n : Nat) (p1 p2 : List (Call (Pt S) (List S)))
    (h2 : WellNested p2) (a1 : attrsOk n p1 = true) (a2 : attrsOk n p2 = true) :
    buildWithAttributes n (p1 ++ p2) =
      (buildWithAttributes n p1).bind fun a => (buildWithAttributes n p2).bind fun b =>
        concatPaths a [b] := by
  rw [buildWithAttributes_emit n p1 a1, buildWithAttributes_emit n p2 a2,
    buildWithAttributes_emit n (p1 ++ p2) (by simp [attrsOk_append, a1, a2])]
  simp [concatPaths, emitVerbs_append,
    emitPts_append_indep zeroPt zeroPt (List.replicate n default) (List.replicate n default)
      p1 p2 h2]

/-- Any mixture of direct calls and `extend_from_paths` (`storePieces`: the way the harness
stores a program with `cut` marks, run by the driver of family `ix`): direct pieces driven into
the final builder, every other piece built by `Path::builder_with_attributes(n)` on its own and
each run of them appended with one `extend_from_paths` call.  If every piece is well nested the
result is the storage of the whole program — so everything proved about stored paths
(`transform_commutes`, `transform_commutes_stored`) holds for paths stored by concatenation. -/
theorem stored_by_concatenation (n : Nat) (pieces : List (List (Call (Pt S) (List S)) × Bool))
    (hq : ∀ p ∈ pieces, WellNested p.1) (hqa : ∀ p ∈ pieces, attrsOk n p.1 = true) :
    storePieces n (BuilderWithAttributes.new n) [] pieces
      = buildWithAttributes n (pieces.map (·.1)).flatten := by
  have h := storePieces_emit n (BuilderWithAttributes.new n) rfl
    (by simp [BuilderWithAttributes.new]) [] pieces (by simp) hq hqa
  rw [buildWithAttributes_emit n _ (attrsOk_flatten n _ (by
    intro q hq'
    obtain ⟨x, hx, rfl⟩ := List.mem_map.1 hq'
    exact hqa x hx))]
  simpa [BuilderWithAttributes.new, BuilderImpl.new] using h

end Concat

section General
variable {α : Type} [Scalar α] [Transc α]

/-- A program with helper calls that follows the protocol — `add_*` helpers only between
sub-paths, `close` / `path_event` / `event` where the primitive they stand for may be — expands
to a well-nested program of primitive calls: every `add_*` helper makes nothing or exactly one
complete sub-path, whatever its parameters (degenerate boxes, clamped / zero / negative radii,
empty polygons, any number of ellipse arcs). -/
theorem helpers_expand_wellnested (cmds : List (Cmd α)) (h : CmdsNested cmds) :
    WellNested (expandProg cmds) :=
  (wellNestedFrom_iff_nestState _ _).2 (nestState_expandProg false cmds h)

/-- Transforming while building commutes with every provided method: for every point map `g`
(in particular `Xf.apply m` for every affine `m`) and every helper call `c`, the events of
`Transformed(g)` applied to the helper's expansion are the events of the expansion mapped by
`g`; the adapter acts call by call (what it sends for a program is the concatenation of what it
sends for each call: no state is carried from one helper to the next); hence for whole
programs built = iterated.  No hypothesis: any program, well nested or not. -/
theorem helpers_commute_with_transform (g : P α → P α) (cmds : List (Cmd α)) :
    (∀ c ∈ cmds, specEvents (xfBuilder g c.expand) = xfIter g (specEvents c.expand)) ∧
    xfBuilder g (expandProg cmds) = cmds.flatMap (fun c => xfBuilder g c.expand) ∧
    specEvents (xfBuilder g (expandProg cmds)) = xfIter g (specEvents (expandProg cmds)) :=
  ⟨fun c _ => transform_commutes_builder_iter g c.expand,
   by simp [xfBuilder, expandProg, List.map_flatMap],
   transform_commutes_builder_iter g (expandProg cmds)⟩

/-- … and after storing: a helper program that follows the protocol, every call with `n`
attributes, stored by `Path::builder_with_attributes(n)`, transformed in place
(`Path::transformed`; no index of the walk outside the storage) and iterated gives exactly the
events of the program built through `Transformed(g)`; the transformed storage IS the storage
built through `Transformed(g)`, slot for slot. -/
theorem helpers_commute_with_transform_stored [Inhabited α] (g : P α → P α) (n : Nat)
    (cmds : List (Cmd α)) (hn : CmdsNested cmds) (ha : ∀ c ∈ cmds, c.attrsLen n = true) :
    (buildWithAttributes n (xfBuilder toPt (expandProg cmds))).bind
        (fun p => (applyTransform (onPt g) p).bind PathData.iter)
      = some (xfIter toPt (specEvents (xfBuilder g (expandProg cmds)))) ∧
    (buildWithAttributes n (xfBuilder toPt (expandProg cmds))).bind (applyTransform (onPt g))
      = buildWithAttributes n (xfBuilder toPt (xfBuilder g (expandProg cmds))) := by
  have hw : WellNested (xfBuilder toPt (expandProg cmds)) :=
    (wellNestedFrom_map toPt false _).trans (helpers_expand_wellnested cmds hn)
  have hok : attrsOk n (xfBuilder toPt (expandProg cmds)) = true := by
    rw [xfBuilder, attrsOk_toPt]
    exact attrsLen_expandProg n cmds ha
  refine ⟨?_, ?_⟩
  · rw [(transform_commutes (onPt g) n _ hw hok).2, ← transform_commutes_builder_iter,
      ← transform_commutes_builder_iter, xfBuilder_onPt]
  · rw [(transform_commutes_stored (onPt g) n _ hw hok).1, xfBuilder_onPt]

/-- `NoAttributes<B>`: its inherent helper methods forward to `B`'s provided method with
`NO_ATTRIBUTES`; its `PathBuilder` impl runs the default body on itself and strips the
attributes of every primitive call.  Both send `B` the same calls. -/
theorem helpers_no_attributes (cmds : List (Cmd α)) :
    expandProg (cmds.map noAttrCmd) = noAttrBuilder (B := α) (expandProg cmds) := by
  induction cmds with
  | nil => rfl
  | cons c r ih =>
    simp only [expandProg, List.map_cons, List.flatMap_cons, noAttrBuilder, List.map_append] at ih ⊢
    rw [ih, expand_noAttrCmd]
    rfl

/-- A helper whose parameters are all points may be called with transformed parameters instead
of being transformed call by call: the same calls, for every point map. -/
theorem helpers_point_params_commute (g : P α → P α) (c : Cmd α) (h : c.pointParams = true) :
    (c.mapParams g).expand = xfBuilder g c.expand := by
  cases c with
  | prim k => rfl
  | close => rfl
  | pathEvent e a => cases e <;> rfl
  | event e => cases e <;> rfl
  | polygon pts closed a =>
    cases pts with
    | nil => rfl
    | cons p r =>
      simp [Cmd.mapParams, Cmd.expand, xfBuilder, PathShapes.addPolygon, withAttr, mapCall,
        List.map_map, Function.comp_def]
  | point p a => rfl
  | segment p q a => rfl
  | cut => rfl
  | _ => simp [Cmd.pointParams] at h

/-- the concatenation mark is no call -/
theorem helpers_cut (l1 l2 : List (Cmd α)) :
    expandProg (l1 ++ Cmd.cut :: l2) = expandProg l1 ++ expandProg l2 := by
  simp [expandProg, Cmd.expand]

/-- A helper program with `cut` marks (between sub-paths), stored piece by piece with
`extend_from_paths` as the harness does, is stored exactly as the whole program. -/
theorem helpers_stored_by_concatenation [Inhabited α] (n : Nat) (cmds : List (Cmd α))
    (hn : ∀ p ∈ piecesOf cmds, CmdsNested p.1)
    (ha : ∀ p ∈ piecesOf cmds, ∀ c ∈ p.1, c.attrsLen n = true) :
    storePieces n (BuilderWithAttributes.new n) []
        ((piecesOf cmds).map fun p => (xfBuilder toPt (expandProg p.1), p.2))
      = buildWithAttributes n (xfBuilder toPt (expandProg cmds)) := by
  rw [stored_by_concatenation]
  · congr 1
    rw [← expandProg_piecesOf cmds]
    simp [xfBuilder, List.map_flatten, List.map_map, Function.comp_def]
  · intro p hp
    obtain ⟨x, hx, rfl⟩ := List.mem_map.1 hp
    exact (wellNestedFrom_map toPt false _).trans (helpers_expand_wellnested x.1 (hn x hx))
  · intro p hp
    obtain ⟨x, hx, rfl⟩ := List.mem_map.1 hp
    simp only [xfBuilder, attrsOk_toPt]
    exact attrsLen_expandProg n x.1 (ha x hx)

/-- Flattening adapters on helper programs that follow the protocol: the wrapped builder
receives a well-nested program made of begin / line / end only, well nested also after a point
map `g` (`Transformed<Flattened<_>>`). -/
theorem helpers_flatten {π' : Type} (F : Flattener (P α) α) (o : P α) (n : Nat) (g : P α → π')
    (cmds : List (Cmd α)) (h : CmdsNested cmds) :
    WellNested (flatBuilder F o n (expandProg cmds)) ∧
    WellNested (xfBuilder g (flatBuilder F o n (expandProg cmds))) ∧
    (∀ c ∈ flatBuilder F o n (expandProg cmds), Call.isFlat c = true) :=
  have hw := flatten_wellnested F o n g _ (helpers_expand_wellnested cmds h)
  ⟨hw.1, hw.2.2.2.1, isFlat_flatRun F _ _⟩

end General

section Field
variable {K : Type} [Field K] [LinearOrder K] [IsStrictOrderedRing K] [Transc K]

/-- Flattening a helper program keeps every endpoint of the helper's expansion (the corners of a
rectangle, the arc ends of a circle / ellipse / rounded rectangle, …) exactly, in order, with
the attributes given to the helper, and the sub-path marks; both nesting orders with a map `g`
keep the transformed endpoints. -/
theorem helpers_flatten_keeps_endpoints (F F' : Flattener (P K) K) (hF : EndsAtTo F)
    (hF' : EndsAtTo F') (g : P K → P K) (o o' : P K) (n : Nat) (cmds : List (Cmd K)) :
    List.Sublist (endpoints (expandProg cmds)) (endpoints (flatBuilder F o n (expandProg cmds))) ∧
    (flatBuilder F o n (expandProg cmds)).filter Call.isMark
      = (expandProg cmds).filter Call.isMark ∧
    List.Sublist ((endpoints (expandProg cmds)).map fun e => (g e.1, e.2))
      (endpoints (xfBuilder g (flatBuilder F o n (expandProg cmds)))) ∧
    List.Sublist ((endpoints (expandProg cmds)).map fun e => (g e.1, e.2))
      (endpoints (flatBuilder F' o' n (xfBuilder g (expandProg cmds)))) :=
  have h := flatten_keeps_endpoints F hF o n (expandProg cmds)
  have h' := nesting_orders F F' hF hF' g o o' n (expandProg cmds)
  ⟨h.1, h.2, h'.1, h'.2⟩

/-- `add_rectangle` called with the transformed `min` / `max` (the box they span) sends the
transformed corners, in the same order, for every affine map WITHOUT rotation / skew
(`m12 = m21 = 0`: translations, scales — negative and non-uniform ones too), both windings. -/
theorem rectangle_params_commute_diagonal (m : Xf K) (h12 : m.m12 = 0) (h21 : m.m21 = 0)
    (mn mx : P K) (w : Bool) (a : List K) :
    ((Cmd.rectangle mn mx w a).mapParams m.apply).expand
      = xfBuilder m.apply (Cmd.rectangle mn mx w a).expand := by
  cases w <;>
    simp [Cmd.mapParams, Cmd.expand, xfBuilder, PathShapes.addRectangle, PathShapes.rectPoints,
      PathShapes.addPolygon, withAttr, mapCall, Xf.apply, h12, h21]

/-- `add_circle` called with the transformed centre sends the transformed calls for
translations. -/
theorem circle_params_commute_translation (tx ty : K) (c : P K) (r : K) (w : Bool) (a : List K) :
    ((Cmd.circle c r w a).mapParams (Xf.apply ⟨1, 0, 0, 1, tx, ty⟩)).expand
      = xfBuilder (Xf.apply ⟨1, 0, 0, 1, tx, ty⟩) (Cmd.circle c r w a).expand := by
  -- every point of `add_circle` is the centre plus an offset, and a translation moves both alike
  have off : ∀ x y : K, PathShapes.off (Xf.apply ⟨1, 0, 0, 1, tx, ty⟩ c) x y
      = Xf.apply ⟨1, 0, 0, 1, tx, ty⟩ (PathShapes.off c x y) := fun x y => by
    apply P.ext' <;> simp only [PathShapes.off, Xf.apply, geom] <;> ring
  simp only [Cmd.mapParams, Cmd.expand, xfBuilder, PathShapes.addCircle, List.map_cons,
    List.map_nil, withAttr, mapCall, off]

end Field

/-! ## `add_rectangle` under a quarter turn, evaluated -/

/-- the x / y coordinates a program visits (ℚ has decidable equality; `P ℚ` derives none) -/
def coords {A : Type} : List (Call (P Rat) A) → List Rat
  | [] => []
  | .begin p _ :: r => p.x :: p.y :: coords r
  | .line p _ :: r => p.x :: p.y :: coords r
  | .quad c p _ :: r => c.x :: c.y :: p.x :: p.y :: coords r
  | .cubic c d p _ :: r => c.x :: c.y :: d.x :: d.y :: p.x :: p.y :: coords r
  | .end_ _ :: r => coords r

/-- `add_rectangle` with the quarter-turned `min` / `max` is NOT the quarter-turned rectangle:
box (1,2)-(5,4), `g(x, y) = (-y, x)`.  Transformed corners: (-2,1) (-2,5) (-4,5) (-4,1); the box
spanned by the transformed `min` / `max`: (-2,1) (-4,1) (-4,5) (-2,5) — same point set here,
other order (the winding flips), and for a box that is not mapped onto a box (any other angle,
any skew) other points altogether. -/
theorem rectangle_params_rotation_witness :
    coords (PathShapes.addRectangle (Xf.apply ⟨0, 1, -1, 0, 0, 0⟩ ⟨1, 2⟩)
        (Xf.apply ⟨0, 1, -1, 0, 0, 0⟩ ⟨5, 4⟩) true)
      = [-2, 1, -4, 1, -4, 5, -2, 5] ∧
    coords (xfBuilder (Xf.apply (⟨0, 1, -1, 0, 0, 0⟩ : Xf Rat))
        (PathShapes.addRectangle (⟨1, 2⟩ : P Rat) ⟨5, 4⟩ true))
      = [-2, 1, -2, 5, -4, 5, -4, 1] ∧
    PathShapes.addRectangle (Xf.apply ⟨0, 1, -1, 0, 0, 0⟩ ⟨1, 2⟩)
        (Xf.apply ⟨0, 1, -1, 0, 0, 0⟩ ⟨5, 4⟩) true
      ≠ xfBuilder (Xf.apply (⟨0, 1, -1, 0, 0, 0⟩ : Xf Rat))
        (PathShapes.addRectangle (⟨1, 2⟩ : P Rat) ⟨5, 4⟩ true) := by
  have h1 : coords (PathShapes.addRectangle (Xf.apply ⟨0, 1, -1, 0, 0, 0⟩ ⟨1, 2⟩)
        (Xf.apply ⟨0, 1, -1, 0, 0, 0⟩ ⟨5, 4⟩) true)
      = [-2, 1, -4, 1, -4, 5, -2, 5] := by decide +kernel
  have h2 : coords (xfBuilder (Xf.apply (⟨0, 1, -1, 0, 0, 0⟩ : Xf Rat))
        (PathShapes.addRectangle (⟨1, 2⟩ : P Rat) ⟨5, 4⟩ true))
      = [-2, 1, -2, 5, -4, 5, -4, 1] := by decide +kernel
  refine ⟨h1, h2, fun h => ?_⟩
  rw [h] at h1
  rw [h1] at h2
  exact absurd h2 (by decide +kernel)

section Examples

/-- hypotheses of `helpers_expand_wellnested` / `helpers_commute_with_transform_stored` on a
program that uses every kind of entry point but `add_ellipse` (over ℚ) -/
def exampleCmds : List (Cmd Rat) :=
  [ .pathEvent (.begin ⟨0, 0⟩) [1], .event (.line (⟨9, 9⟩, [7]) (⟨4, 0⟩, [2])),
    .prim (.quad ⟨5, 5⟩ ⟨0, 4⟩ [3]), .close,
    .rectangle ⟨1, 2⟩ ⟨5, 4⟩ true [4], .cut, .circle ⟨0, 0⟩ 2 false [5],
    .roundedRectangle ⟨0, 0⟩ ⟨8, 6⟩ ⟨1, 0, 9, 2⟩ true [6], .polygon [] true [0],
    .polygon [⟨0, 0⟩, ⟨1, 0⟩, ⟨0, 1⟩] false [8], .point ⟨3, 3⟩ [9], .segment ⟨0, 0⟩ ⟨1, 1⟩ [10] ]

example : CmdsNested exampleCmds ∧ (∀ c ∈ exampleCmds, c.attrsLen 1 = true) := by
  decide +kernel

/-- … and of `helpers_stored_by_concatenation`: its two pieces -/
example : (∀ p ∈ piecesOf exampleCmds, CmdsNested p.1) ∧
    (∀ p ∈ piecesOf exampleCmds, ∀ c ∈ p.1, c.attrsLen 1 = true) ∧
    (piecesOf exampleCmds).length = 2 := by
  decide +kernel

/-- hypotheses of `rectangle_params_commute_diagonal`: a mirrored non-uniform scale with a
translation -/
example : (⟨-2, 0, 0, 3, 1, 1⟩ : Xf Rat).m12 = 0 ∧ (⟨-2, 0, 0, 3, 1, 1⟩ : Xf Rat).m21 = 0 :=
  ⟨rfl, rfl⟩

/-- hypotheses of `stored_concat` -/
example : WellNested ([.begin ((0:Int), (0:Int)) [1], .line (1, 1) [2], .end_ true]
      : List (Call (Pt Int) (List Int))) ∧
    attrsOk 1 ([.begin ((0:Int), (0:Int)) [1], .line (1, 1) [2], .end_ true]
      : List (Call (Pt Int) (List Int))) = true := by decide

end Examples

end Lyon.C16
