/-
  C19, the edge table `PathMeasurements::initialize` builds (`Measure.init1`), entry by entry.

  `stepEdges` (what one event pushes) with the one equation `init1_cons`, and `prevD` (the distance in
  front of an entry): every entry belongs to an event, and an entry of a straight event carries the
  lengths through its event (`init1_entry`); along the table the event indices never decrease and
  increase strictly next to a straight event (`init1_index_step`).  The table-shape statements of
  the property (`init1_inv*`, `init1_coherent`, `init1_index_*`) are read off these two; they are
  about straight events (for a curve the table holds the entries of its flattening).
  For EVERY table, curves included: it is non-decreasing when no edge has negative length
  (`init1_mono_all`, `initTable_mono_all`: each entry is at least the distance in front of it), so the
  cursor theorems of `Props/C19.lean`, which assume `Mono`, apply to every measured path.
-/
import LyonVerif.Model.Algo.Measure
import LyonVerif.Lemmas.Field

set_option linter.unusedSectionVars false

namespace Lyon.C19
open Lyon Lyon.Measure Scalar

variable {K : Type} [Field K] [LinearOrder K] [IsStrictOrderedRing K]

/-- the table is non-decreasing -/
def Mono (es : List (Edge K)) : Prop :=
  ∀ i j, i ≤ j → j < es.length → dAt es i ≤ dAt es j

/-- sum of the first `n` event lengths -/
def pre (l : List K) (n : Nat) : K := (l.take n).sum
/-- length of event `i` (0 for `Begin`/open `End`/out of range) -/
def evLen (l : List K) (i : Nat) : K := l.getD i 0

/-- The edge table agrees with the event lengths `l` (this is what `initialize` establishes, see
`init1_coherent`): entry `k` carries the sum of the lengths up to and including its event, the
entry before it the sum of the lengths before its event. -/
def Coherent (es : List (Edge K)) (l : List K) : Prop :=
  ∀ k, 1 ≤ k → k < es.length →
    dAt es k = pre l ((eAt es k).index + 1) ∧ dAt es (k - 1) = pre l (eAt es k).index

theorem pre_succ (l : List K) (i : Nat) : pre l (i + 1) = pre l i + evLen l i := by
  unfold pre evLen
  rw [List.take_add_one, List.sum_append]
  cases h : l[i]? with
  | none => simp [List.getD, h]
  | some v => simp [List.getD, h]

/-- the length one event contributes -/
def stepLen : Step K → K
  | .skip => 0
  | .mark => 0
  | .add l => l
  | .many es => (es.map Prod.fst).sum

def total (steps : List (Step K)) : K := (steps.map stepLen).sum

/-- the distance in front of entry `k`: that of entry `k - 1`, and `d` in front of the first entry.
`prevD es d es.length` is the running distance after the whole table. -/
noncomputable def prevD (es : List (Edge K)) (d : K) (k : Nat) : K := if k = 0 then d else dAt es (k - 1)

theorem eAt_cons_succ (e : Edge K) (es : List (Edge K)) (k : Nat) : eAt (e :: es) (k + 1) = eAt es k := by
  simp [eAt]

theorem eAt_append_left (A B : List (Edge K)) (k : Nat) (h : k < A.length) : eAt (A ++ B) k = eAt A k := by
  simp [eAt, List.getD_eq_getElem?_getD, List.getElem?_append_left h]

theorem eAt_append_right (A B : List (Edge K)) (k : Nat) (h : A.length ≤ k) :
    eAt (A ++ B) k = eAt B (k - A.length) := by
  simp [eAt, List.getD_eq_getElem?_getD, List.getElem?_append_right h]

theorem prevD_append_left (A B : List (Edge K)) (d : K) (k : Nat) (h : k ≤ A.length) :
    prevD (A ++ B) d k = prevD A d k := by
  unfold prevD dAt
  split
  · rfl
  · rw [eAt_append_left _ _ _ (by omega)]

theorem prevD_append_right (A B : List (Edge K)) (d : K) (k : Nat) (h : A.length ≤ k) :
    prevD (A ++ B) d k = prevD B (prevD A d A.length) (k - A.length) := by
  rcases Nat.eq_or_lt_of_le h with h | h
  · subst h
    rw [prevD_append_left _ _ _ _ (le_refl _), Nat.sub_self]
    rfl
  · unfold prevD dAt
    rw [if_neg (by omega), if_neg (by omega), eAt_append_right _ _ _ (by omega)]
    congr 2
    omega

/-- the entries one event pushes -/
noncomputable def stepEdges (d : K) (i : Nat) : Step K → List (Edge K)
  | .skip => []
  | .mark => [⟨d, i, Scalar.one⟩]
  | .add l => [⟨d + l, i, Scalar.one⟩]
  | .many es => pushMany d i es

theorem sumMany_eq (es : List (K × K)) : ∀ d : K, sumMany d es = d + (es.map Prod.fst).sum := by
  induction es with
  | nil => intro d; simp [sumMany]
  | cons e r ih => intro d; obtain ⟨l, t⟩ := e; simp only [sumMany, ih, List.map_cons, List.sum_cons]; ring

theorem init1_cons (d : K) (i : Nat) (st : Step K) (r : List (Step K)) :
    init1 d i (st :: r) = stepEdges d i st ++ init1 (d + stepLen st) (i + 1) r := by
  cases st <;> simp [init1, stepEdges, stepLen, sumMany_eq]

theorem pushMany_index (es : List (K × K)) : ∀ (d : K) (i k : Nat), k < (pushMany d i es).length →
    (eAt (pushMany d i es) k).index = i := by
  induction es with
  | nil => intro d i k h; simp [pushMany] at h
  | cons e r ih =>
    intro d i k hk
    obtain ⟨l, t⟩ := e
    cases k with
    | zero => simp [pushMany, eAt]
    | succ k' =>
      simp only [pushMany, eAt_cons_succ]
      exact ih (d + l) i k' (by simpa [pushMany] using hk)

theorem pushMany_last (es : List (K × K)) : ∀ (d : K) (i : Nat),
    prevD (pushMany d i es) d (pushMany d i es).length = d + (es.map Prod.fst).sum := by
  induction es with
  | nil => intro d i; simp [pushMany, prevD]
  | cons e r ih =>
    intro d i
    obtain ⟨l, t⟩ := e
    have := prevD_append_right [⟨d + l, i, t⟩] (pushMany (d + l) i r) d ((pushMany (d + l) i r).length + 1)
      (by simp)
    simp only [List.singleton_append, List.length_singleton, Nat.add_sub_cancel] at this
    simp only [pushMany, List.length_cons, List.map_cons, List.sum_cons, this]
    rw [show prevD [(⟨d + l, i, t⟩ : Edge K)] d 1 = d + l from rfl, ih]
    ring

theorem stepEdges_index (d : K) (i : Nat) (st : Step K) (k : Nat) (hk : k < (stepEdges d i st).length) :
    (eAt (stepEdges d i st) k).index = i := by
  cases st with
  | skip => simp [stepEdges] at hk
  | mark => simp only [stepEdges, List.length_singleton, Nat.lt_one_iff] at hk; subst hk; rfl
  | add l => simp only [stepEdges, List.length_singleton, Nat.lt_one_iff] at hk; subst hk; rfl
  | many es => exact pushMany_index es d i k hk

theorem stepEdges_last (d : K) (i : Nat) (st : Step K) :
    prevD (stepEdges d i st) d (stepEdges d i st).length = d + stepLen st := by
  cases st with
  | skip => simp [stepEdges, prevD, stepLen]
  | mark => simp [stepEdges, prevD, stepLen, dAt, eAt]
  | add l => simp [stepEdges, prevD, stepLen, dAt, eAt]
  | many es => exact pushMany_last es d i

theorem stepEdges_poly (d : K) (i : Nat) (st : Step K) (hp : st.isPoly = true) (k : Nat)
    (hk : k < (stepEdges d i st).length) :
    k = 0 ∧ dAt (stepEdges d i st) 0 = d + stepLen st ∧ (eAt (stepEdges d i st) 0).t = 1 := by
  cases st with
  | skip => simp [stepEdges] at hk
  | mark => simp only [stepEdges, List.length_singleton, Nat.lt_one_iff] at hk; simp [hk, stepEdges, stepLen, dAt, eAt]
  | add l => simp only [stepEdges, List.length_singleton, Nat.lt_one_iff] at hk; simp [hk, stepEdges, stepLen, dAt, eAt]
  | many es => simp [Step.isPoly] at hp

theorem init1_last (steps : List (Step K)) : ∀ (d : K) (i : Nat),
    prevD (init1 d i steps) d (init1 d i steps).length = d + total steps := by
  induction steps with
  | nil => intro d i; simp [init1, prevD, total]
  | cons st r ih =>
    intro d i
    rw [init1_cons, prevD_append_right _ _ _ _ (by simp), stepEdges_last, List.length_append,
      Nat.add_sub_cancel_left, ih]
    simp only [total, List.map_cons, List.sum_cons]
    ring

theorem length_eq_last (es : List (Edge K)) : length es = prevD es 0 es.length := by
  unfold length prevD
  cases es with
  | nil => simp
  | cons a r => simp

theorem pre_cons (x : K) (ls : List K) (n : Nat) : pre (x :: ls) (n + 1) = x + pre ls n := by
  simp [pre]

/-- The table, entry by entry: entry `k` of the table built from running distance `d` and event
index `i` belongs to an event `i + j` that pushes entries; if it is a `Begin` the entry repeats the
distance in front of it; if it is straight (`Begin`, `Line`, closing `End`: `isPoly`) the entry
carries `d` + the lengths through its event (a curve counting with the total length of its
flattening), the entry before it `d` + the lengths before its event, and its parameter is 1. -/
theorem init1_entry (steps : List (Step K)) : ∀ (d : K) (i k : Nat), k < (init1 d i steps).length →
    ∃ j st, (eAt (init1 d i steps) k).index = i + j ∧ steps[j]? = some st ∧ st ≠ .skip ∧
      (st = .mark → dAt (init1 d i steps) k = prevD (init1 d i steps) d k) ∧
      (st.isPoly = true →
        dAt (init1 d i steps) k = d + pre (steps.map stepLen) (j + 1) ∧
        prevD (init1 d i steps) d k = d + pre (steps.map stepLen) j ∧
        (eAt (init1 d i steps) k).t = 1) := by
  induction steps with
  | nil => intro d i k h; simp [init1] at h
  | cons st r ih =>
    intro d i k hk
    rw [init1_cons] at hk ⊢
    rcases Nat.lt_or_ge k (stepEdges d i st).length with h | h
    · -- an entry of the first event
      refine ⟨0, st, by rw [eAt_append_left _ _ _ h]; exact stepEdges_index d i st k h, rfl, ?_, ?_,
        fun hp => ?_⟩
      · rintro rfl; simp [stepEdges] at h
      · rintro rfl
        obtain rfl : k = 0 := by simpa [stepEdges] using h
        simp [dAt, prevD, stepEdges, eAt]
      · obtain ⟨rfl, h1, h2⟩ := stepEdges_poly d i st hp k h
        unfold dAt at h1 ⊢
        rw [eAt_append_left _ _ _ h, h1]
        exact ⟨by simp [pre], by simp [prevD, pre], h2⟩
    · obtain ⟨j, s, hj, hs, hne, hm, hrest⟩ := ih (d + stepLen st) (i + 1)
        (k - (stepEdges d i st).length) (by rw [List.length_append] at hk; omega)
      unfold dAt at hm hrest ⊢
      rw [prevD_append_right _ _ _ _ h, stepEdges_last, eAt_append_right _ _ _ h]
      refine ⟨j + 1, s, by rw [hj]; omega, by simpa using hs, hne, hm, fun hp => ?_⟩
      obtain ⟨h1, h2, h3⟩ := hrest hp
      rw [h1, h2, List.map_cons, pre_cons, pre_cons]
      exact ⟨by ring, by ring, h3⟩

/-- Invariant of `initialize` for paths with curves: every entry belongs to an event `≥ i`;
an entry whose event is straight (`Begin`, `Line`, closing `End`: `isPoly`) carries `d` + the
lengths through its event (a curve counting with the total length of its flattening), the entry
before it carries `d` + the lengths before its event, and its parameter is 1. -/
theorem init1_inv_mixed (steps : List (Step K)) : ∀ (d : K) (i k : Nat), k < (init1 d i steps).length →
    i ≤ (eAt (init1 d i steps) k).index ∧
    ((steps.getD ((eAt (init1 d i steps) k).index - i) .skip).isPoly = true →
      dAt (init1 d i steps) k
        = d + pre (steps.map stepLen) ((eAt (init1 d i steps) k).index + 1 - i) ∧
      (if k = 0 then d else dAt (init1 d i steps) (k - 1))
        = d + pre (steps.map stepLen) ((eAt (init1 d i steps) k).index - i) ∧
      (eAt (init1 d i steps) k).t = 1) := by
  intro d i k hk
  obtain ⟨j, st, hj, hs, -, -, hr⟩ := init1_entry steps d i k hk
  rw [hj, Nat.add_sub_cancel_left, show i + j + 1 - i = j + 1 by omega, List.getD_eq_getElem?_getD, hs]
  exact ⟨Nat.le_add_right i j, hr⟩

theorem getD_isPoly (steps : List (Step K)) (hpoly : ∀ st ∈ steps, st.isPoly = true) (j : Nat) :
    (steps.getD j .skip).isPoly = true := by
  rw [List.getD_eq_getElem?_getD]
  cases h : steps[j]? with
  | none => rfl
  | some st => exact hpoly st (List.mem_of_getElem? h)

/-- Invariant of the table construction, for the table built from running distance `d` and event
index `i`: entry `k` belongs to an event `≥ i`, carries `d` + the lengths through its event, the
entry before it (or `d` itself for the first entry) carries `d` + the lengths before its event,
and its parameter is 1. -/
theorem init1_inv (steps : List (Step K)) : (∀ st ∈ steps, st.isPoly = true) →
    ∀ (d : K) (i k : Nat), k < (init1 d i steps).length →
    i ≤ (eAt (init1 d i steps) k).index ∧
    dAt (init1 d i steps) k
      = d + pre (steps.map stepLen) ((eAt (init1 d i steps) k).index + 1 - i) ∧
    (if k = 0 then d else dAt (init1 d i steps) (k - 1))
      = d + pre (steps.map stepLen) ((eAt (init1 d i steps) k).index - i) ∧
    (eAt (init1 d i steps) k).t = 1 := by
  intro hpoly d i k hk
  obtain ⟨h1, hr⟩ := init1_inv_mixed steps d i k hk
  exact ⟨h1, hr (getD_isPoly steps hpoly _)⟩

/-- `initialize` establishes coherence (the hypothesis of `split_pieces_length` /
`split_lengths_add`), and polyline entries have `t = 1`. -/
theorem init1_coherent (steps : List (Step K)) (hpoly : ∀ st ∈ steps, st.isPoly = true) :
    Coherent (init1 (0 : K) 0 steps) (steps.map stepLen) ∧
    (∀ k, k < (init1 (0 : K) 0 steps).length → (eAt (init1 (0 : K) 0 steps) k).t = 1) := by
  constructor
  · intro k hk1 hk
    obtain ⟨_, h2, h3, _⟩ := init1_inv steps hpoly (0 : K) 0 k hk
    rw [if_neg (by omega)] at h3
    simp only [Nat.sub_zero, zero_add] at h2 h3
    exact ⟨h2, h3⟩
  · intro k hk
    exact (init1_inv steps hpoly (0 : K) 0 k hk).2.2.2

/-- two consecutive entries belong to events `i + j`, `i + j'` with `j ≤ j'`, and `j < j'` if one
of the two events is straight (entries of one curve share its index) -/
theorem init1_index_step (steps : List (Step K)) : ∀ (d : K) (i k : Nat),
    k + 1 < (init1 d i steps).length →
    ∃ j j', (eAt (init1 d i steps) k).index = i + j ∧ (eAt (init1 d i steps) (k + 1)).index = i + j' ∧
      j ≤ j' ∧ (((steps.getD j .skip).isPoly = true ∨ (steps.getD j' .skip).isPoly = true) → j < j') := by
  induction steps with
  | nil => intro d i k h; simp [init1] at h
  | cons st r ih =>
    intro d i k hk
    rw [init1_cons] at hk ⊢
    rw [List.length_append] at hk
    rcases Nat.lt_or_ge k (stepEdges d i st).length with h | h
    · rw [eAt_append_left _ _ _ h, stepEdges_index d i st k h]
      rcases Nat.lt_or_ge (k + 1) (stepEdges d i st).length with h' | h'
      · -- both entries belong to the first event, which is then a curve
        rw [eAt_append_left _ _ _ h', stepEdges_index d i st _ h']
        refine ⟨0, 0, rfl, rfl, le_refl _, fun hp => ?_⟩
        have := (stepEdges_poly d i st (by simpa using hp) (k + 1) h').1
        omega
      · obtain ⟨j, _, hj, _⟩ := init1_entry r (d + stepLen st) (i + 1) (k + 1 - (stepEdges d i st).length)
          (by omega)
        rw [eAt_append_right _ _ _ h', hj]
        exact ⟨0, j + 1, rfl, by omega, by omega, fun _ => by omega⟩
    · obtain ⟨j, j', hj, hj', hle, hlt⟩ := ih (d + stepLen st) (i + 1) (k - (stepEdges d i st).length)
        (by omega)
      rw [eAt_append_right _ _ _ h, eAt_append_right _ _ _ (by omega), hj,
        show k + 1 - (stepEdges d i st).length = k - (stepEdges d i st).length + 1 by omega, hj']
      exact ⟨j + 1, j' + 1, by omega, by omega, by omega, fun hp => by have := hlt hp; omega⟩

theorem init1_index_adjacent_mixed (steps : List (Step K)) : ∀ (d : K) (i k : Nat),
    k + 1 < (init1 d i steps).length →
    (eAt (init1 d i steps) k).index ≤ (eAt (init1 d i steps) (k + 1)).index ∧
    (((steps.getD ((eAt (init1 d i steps) k).index - i) .skip).isPoly = true ∨
      (steps.getD ((eAt (init1 d i steps) (k + 1)).index - i) .skip).isPoly = true) →
      (eAt (init1 d i steps) k).index < (eAt (init1 d i steps) (k + 1)).index) := by
  intro d i k hk
  obtain ⟨j, j', hj, hj', hle, hlt⟩ := init1_index_step steps d i k hk
  rw [hj, hj', Nat.add_sub_cancel_left, Nat.add_sub_cancel_left]
  exact ⟨by omega, fun hp => by have := hlt hp; omega⟩

theorem le_of_adjacent {α : Type} [Preorder α] (f : Nat → α) (n : Nat)
    (h : ∀ k, k + 1 < n → f k ≤ f (k + 1)) : ∀ p q, p ≤ q → q < n → f p ≤ f q := by
  intro p q hpq
  induction q, hpq using Nat.le_induction with
  | base => intro _; exact le_refl _
  | succ m _ ih => intro hq; exact le_trans (ih (by omega)) (h m hq)

/-- over any distance: indices are monotone, and distinct entries of which the earlier one is
straight have distinct indices -/
theorem init1_index_mixed (steps : List (Step K)) (d : K) (i : Nat) :
    ∀ p q, p ≤ q → q < (init1 d i steps).length →
      (eAt (init1 d i steps) p).index ≤ (eAt (init1 d i steps) q).index ∧
      ((steps.getD ((eAt (init1 d i steps) p).index - i) .skip).isPoly = true →
        (eAt (init1 d i steps) p).index = (eAt (init1 d i steps) q).index → p = q) := by
  have mono := le_of_adjacent (fun k => (eAt (init1 d i steps) k).index) _
    (fun k hk => (init1_index_adjacent_mixed steps d i k hk).1)
  intro p q hpq hq
  refine ⟨mono p q hpq hq, fun hp heq => ?_⟩
  by_contra hne
  have a := (init1_index_adjacent_mixed steps d i p (by omega)).2 (Or.inl hp)
  have b := mono (p + 1) q (by omega) hq
  omega

/-- event indices strictly increase along a polyline table -/
theorem init1_index_adjacent (steps : List (Step K)) : (∀ st ∈ steps, st.isPoly = true) →
    ∀ (d : K) (i k : Nat), k + 1 < (init1 d i steps).length →
    (eAt (init1 d i steps) k).index < (eAt (init1 d i steps) (k + 1)).index :=
  fun hpoly d i k hk =>
    (init1_index_adjacent_mixed steps d i k hk).2 (Or.inl (getD_isPoly steps hpoly _))

/-- the hypotheses `hidx` / `hsame` / `hinj` of the split theorems hold for every table `initialize`
builds from a polyline path -/
theorem init1_index_strict (steps : List (Step K)) (hpoly : ∀ st ∈ steps, st.isPoly = true)
    (d : K) (i : Nat) :
    ∀ p q, p ≤ q → q < (init1 d i steps).length →
      (eAt (init1 d i steps) p).index ≤ (eAt (init1 d i steps) q).index ∧
      ((eAt (init1 d i steps) p).index = (eAt (init1 d i steps) q).index → p = q) :=
  fun p q hpq hq =>
    ⟨(init1_index_mixed steps d i p q hpq hq).1,
     (init1_index_mixed steps d i p q hpq hq).2 (getD_isPoly steps hpoly _)⟩

/-- no edge of the event has negative length -/
def Step.Nonneg : Step K → Prop
  | .add l => 0 ≤ l
  | .many es => ∀ x ∈ es, 0 ≤ x.1
  | _ => True

/-- every entry is at least the distance in front of it (`d` in front of the first) -/
def StepLe (es : List (Edge K)) (d : K) : Prop := ∀ k, k < es.length → prevD es d k ≤ dAt es k

theorem StepLe.append {A B : List (Edge K)} {d : K} (hA : StepLe A d)
    (hB : StepLe B (prevD A d A.length)) : StepLe (A ++ B) d := by
  intro k hk
  unfold dAt
  rcases Nat.lt_or_ge k A.length with h | h
  · rw [prevD_append_left _ _ _ _ (by omega), eAt_append_left _ _ _ h]
    exact hA k h
  · rw [prevD_append_right _ _ _ _ h, eAt_append_right _ _ _ h]
    exact hB _ (by rw [List.length_append] at hk; omega)

theorem stepLe_single (e : Edge K) (d : K) (h : d ≤ e.distance) : StepLe [e] d := by
  intro k hk
  obtain rfl : k = 0 := by simpa using hk
  exact h

theorem pushMany_stepLe (es : List (K × K)) (h : ∀ x ∈ es, 0 ≤ x.1) (d : K) (i : Nat) :
    StepLe (pushMany d i es) d := by
  induction es generalizing d with
  | nil => intro k hk; simp [pushMany] at hk
  | cons e r ih =>
    obtain ⟨l, t⟩ := e
    exact (stepLe_single ⟨d + l, i, t⟩ d (le_add_of_nonneg_right (h (l, t) (by simp)))).append
      (ih (fun x hx => h x (List.mem_cons_of_mem _ hx)) (d + l))

theorem init1_stepLe (steps : List (Step K)) (hnn : ∀ st ∈ steps, Step.Nonneg st) (d : K) (i : Nat) :
    StepLe (init1 d i steps) d := by
  induction steps generalizing d i with
  | nil => intro k hk; simp [init1] at hk
  | cons st r ih =>
    rw [init1_cons]
    refine StepLe.append ?_ (by rw [stepEdges_last]; exact ih (fun s hs => hnn s (List.mem_cons_of_mem _ hs)) _ _)
    have hst := hnn st (List.mem_cons_self ..)
    cases st with
    | skip => intro k hk; simp [stepEdges] at hk
    | mark => exact stepLe_single _ d (le_refl d)
    | add l => exact stepLe_single _ d (le_add_of_nonneg_right hst)
    | many es => exact pushMany_stepLe es hst d i

/-- the table `initialize` builds is non-decreasing when no edge has negative length, curves
included: monotonicity does not need the entries to agree with the event lengths -/
theorem init1_mono_all (steps : List (Step K)) (hnn : ∀ st ∈ steps, Step.Nonneg st) (d : K) (i : Nat) :
    Mono (init1 d i steps) :=
  le_of_adjacent (dAt (init1 d i steps)) _ fun k hk => by
    have := init1_stepLe steps hnn d i (k + 1) hk
    rwa [prevD, if_neg (by omega), Nat.add_sub_cancel] at this

/-- `init1_mono_all` for a polyline path (the hypothesis `hpoly` only turns `0 ≤ stepLen` into
`Step.Nonneg`) -/
theorem init1_mono (steps : List (Step K)) (hpoly : ∀ st ∈ steps, st.isPoly = true)
    (hnn : ∀ st ∈ steps, 0 ≤ stepLen st) :
    Mono (init1 (0 : K) 0 steps) :=
  init1_mono_all steps (fun st hs => by
    have h1 := hpoly st hs
    have h2 := hnn st hs
    cases st <;> trivial) 0 0

/-- the table of ANY measured path, curves included, is non-decreasing if `sqrt` is non-negative -/
theorem initTable_mono_all [Transc K] [FlatConst K] (tol : K) (hsqrt : ∀ x : K, 0 ≤ Transc.sqrt x)
    (evs : List (Ev K)) : Mono (initTable tol evs) := by
  refine init1_mono_all _ (fun st hst => ?_) _ _
  obtain ⟨e, _, rfl⟩ := List.mem_map.mp hst
  have hflat : ∀ l : Option (List (FlatSeg K)), ∀ x ∈ flatEntries l, 0 ≤ x.1 := by
    intro l x hx
    simp only [flatEntries, List.mem_map] at hx
    obtain ⟨sg, _, rfl⟩ := hx
    exact hsqrt _
  cases e with
  | begin p a => trivial
  | line f g af at_ => exact hsqrt _
  | quad f c g af at_ => exact hflat _
  | cubic f c1 c2 g af at_ => exact hflat _
  | end_ l f al af cl => cases cl <;> first | exact hsqrt _ | trivial

end Lyon.C19
