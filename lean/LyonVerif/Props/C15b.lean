/-
  C15b — the arc commands of `WithSvg` with the CONCRETE arc geometry, over ℝ.

  `Props/C15.lean` proves the protocol and the SVG rules for every arc geometry `Geo` (a parameter).
  Here `Geo` is instantiated with what `WithSvg::arc_to` / `arc` really call
  (`Model/Path/SvgConcrete.lean`: `SvgArc::is_straight_line`, `SvgArc::to_arc`, the `atan2` start
  angle of `WithSvg::arc` after lyon commits 20bcfb88 / 40e30eb0, `Arc::from`, the `approx_eq` and
  `< 0.01` tests, `for_each_quadratic_bezier`), the model of `Model/Geom/SvgArc.lean` that C13 ties
  bit-exactly to lyon_geom, at ℝ with Mathlib's `sin cos tan sqrt atan2` (`Props/C13Real.lean`).
  No trigonometric law is assumed; the only hypothesis on constants is `S::EPSILON ≥ 2·10⁻⁶`
  (lyon's f32 value is `10⁻⁴`; euclid's `approx_eq` box is `10⁻⁶`).

  `arc_to` (every state, every operands) hands the wrapped builder — after the implicit `begin` at the current
  position if needed — a connected run of quadratic pieces that starts exactly at the current position and ends
  exactly at the target; the centre form `arc` issues the `move_to` / `line_to` to the ellipse point at the start
  angle and then a connected run from that point to `arc.sample 1` (`|sweep| ≤ 2π`) resp. back to `arc.sample 0`
  after 8 pieces (`|sweep| > 2π`, the clamp of finding C13-bezier-sweep-clamped).  For every scalar type, geometry and
  command sequence `current_position` is the wrapped builder's current point whenever a sub-path is open (the
  model mirrors lyon after commit 250152af, the repair of finding C15-arc-zero-sweep-stale-position;
  `svg_arc_zero_sweep_repaired` is its input).  Whole sequences: every edge the wrapped builder receives starts, in the path being built,
  exactly where the adapter means it to start.

  The definitions used in the statements are in `Lemmas/SvgGeoConcrete.lean` and `Lemmas/SvgGeoConcreteSem.lean`.
  The same `concreteGeo` runs at `Float32` (pieces at `Float`) against the real `WithSvg` with no advice in family
  `svg_arc_e2e` of the check.
-/
import LyonVerif.Lemmas.SvgGeoConcreteSem

set_option linter.unusedSimpArgs false

namespace Lyon.C15b
open Lyon Lyon.Path Lyon.Svg Lyon.ArcConv Lyon.C13

/-- `SvgPathBuilder::arc_to` on `WithSvg`, every state, every
operands.  A straight arc (`|rx| ≤ ε`, `|ry| ≤ ε` or `to = current`) is `line_to(to)`.  Otherwise
the wrapped builder receives — after `end`/`begin(current_position)` if no sub-path is open,
after a zero-length `line_to(current_position)` if one is — the non-empty sequence of quadratic
pieces of `to_arc`, which is a connected run from EXACTLY the current position to EXACTLY `to`.
In every case `current_position` afterwards is `to`, a sub-path is open, and `to` is the last
point handed to the wrapped builder.  `[Eps ℝ]` has to be supplied (`f32Eps`): left to instance search it is
`exampleEps = 10⁻⁸` of `Props/C13.lean`, for which `heps` is false. -/
theorem svg_arc_to_semantics_real [Eps ℝ] (heps : 2 / 10 ^ 6 ≤ (Eps.eps : ℝ)) (s : St ℝ)
    (r : ArcArgs ℝ) (tgt : Pt ℝ) :
    (ArcConv.isStraightLine (svgArcOf r s.cur tgt) = true →
        step realGeo s (.arcTo r tgt) = lineTo s tgt)
    ∧ (ArcConv.isStraightLine (svgArcOf r s.cur tgt) = false →
        quadsOf (fromSvgArc (svgArcOf r s.cur tgt)) ≠ []
        ∧ Run (toP s.cur) (quadsOf (fromSvgArc (svgArcOf r s.cur tgt))) (toP tgt)
        ∧ (step realGeo s (.arcTo r tgt)).2 =
            (if s.needMoveTo then endIfNeeded s ++ [.begin s.cur ()] else [.line s.cur ()])
              ++ quadCalls ((quadsOf (fromSvgArc (svgArcOf r s.cur tgt))).map pieceCall)
        ∧ (step realGeo s (.arcTo r tgt)).1.first = (if s.needMoveTo then s.cur else s.first))
    ∧ (step realGeo s (.arcTo r tgt)).1.cur = tgt
    ∧ (step realGeo s (.arcTo r tgt)).1.needMoveTo = false
    ∧ ∀ p, lastPoint p (step realGeo s (.arcTo r tgt)).2 = some tgt :=
  arcTo_sem heps s r tgt

/-- the relative form: the same statement
(`ArcToSem`, `Lemmas/SvgGeoConcreteSem.lean`, is the conjunction spelled out above) with the target
`current_position + offset`. -/
theorem svg_relative_arc_to_semantics_real [Eps ℝ] (heps : 2 / 10 ^ 6 ≤ (Eps.eps : ℝ)) (s : St ℝ)
    (r : ArcArgs ℝ) (v : Pt ℝ) : ArcToSem s r (s.cur + v) (step realGeo s (.relArcTo r v)) :=
  arcTo_sem heps s r (s.cur + v)

/-- the centre form past its early return: what the geometry hands to `arc`, in terms of `arcOf` and `arcStart` -/
theorem center_real [Eps ℝ] (s : St ℝ) (r : ArcArgs ℝ) (h : approxEqPt s.cur r.center = false) :
    realGeo.center r s.cur =
      .curve (arcStart s r) (nearStart (arcStart s r) s.cur) ((quadsOf (arcOf s r)).map pieceCall) := by
  have h' : approxEqPt s.cur (ofP (toP r.center)) = false := h
  show (centerOutQ quadsOf r s.cur).erase = _
  simp only [centerOutQ, arcOutQ, h', Bool.false_eq_true, if_false, ArcOutQ.erase, arcStart, arcOf,
    Scalar.zero, sc_zero]

/-- the centre form `WithSvg::arc(center, radii, sweep, x_rotation)`,
every state, every operands (any radii, any sweep).
* current position `approx_eq` the centre: nothing happens (`last_ctrl` is reset).
* otherwise, with `arc` the arc whose start angle is the `atan2` parameter of the current position
  and `start = arc.from()`: the wrapped builder receives `end`/`begin(start)` if no sub-path is
  open, else `line_to(start)` if `start` is less than 0.1 away, else nothing; then the quadratic
  pieces of `arc`, a connected run from `start` to `e`, where `e = arc.sample 1 = arc.to()` for
  `|sweep| ≤ 2π` and `e = arc.sample 0` after exactly 8 pieces for `|sweep| > 2π`; there is no piece
  iff `sweep = 0`;
* `current_position` afterwards is `e` if there is a piece, else `start` after an implicit move-to
  or a connecting line, else the old position; `last_ctrl` is `current_position`;
* in EVERY case `current_position` is the wrapped builder's current point afterwards (`Synced`),
  also for a zero sweep inside a sub-path with the start point off the current position by less
  than 0.1, where `line_to(start)` is the only call (finding C15-arc-zero-sweep-stale-position,
  repaired by lyon commit 250152af). -/
theorem svg_arc_semantics_real [Eps ℝ] (s : St ℝ) (r : ArcArgs ℝ) :
    (approxEqPt s.cur r.center = true → step realGeo s (.arc r) = ({ s with lastCtrl := s.cur }, []))
    ∧ (approxEqPt s.cur r.center = false →
        ∃ e, Run ((arcOf s r).sample 0) (quadsOf (arcOf s r)) e
          ∧ (|r.sweepAngle| ≤ 2 * Real.pi → e = (arcOf s r).sample 1)
          ∧ (2 * Real.pi < |r.sweepAngle| → e = (arcOf s r).sample 0 ∧ (quadsOf (arcOf s r)).length = 8)
          ∧ (quadsOf (arcOf s r) = [] ↔ r.sweepAngle = 0)
          ∧ (step realGeo s (.arc r)).2 =
              arcLead s (arcStart s r) ++ quadCalls ((quadsOf (arcOf s r)).map pieceCall)
          ∧ (step realGeo s (.arc r)).1.cur =
              (if r.sweepAngle = 0 then
                (if s.needMoveTo then arcStart s r
                 else if nearStart (arcStart s r) s.cur then arcStart s r else s.cur)
               else ofP e)
          ∧ (step realGeo s (.arc r)).1.lastCtrl = (step realGeo s (.arc r)).1.cur)
    ∧ (∀ p, Synced s p →
        Synced (step realGeo s (.arc r)).1 (lastPoint p (step realGeo s (.arc r)).2)) := by
  refine ⟨?_, ?_, fun p hp => step_synced realGeo s (.arc r) p hp⟩
  · intro h
    show arc s (centerOutQ quadsOf r s.cur).erase = _
    have h' : approxEqPt s.cur (ofP (toP r.center)) = true := h
    simp only [centerOutQ, arcOutQ, h', if_true, ArcOutQ.erase, arc]
  · intro h
    obtain ⟨e, hrun, h1, h2, hnil⟩ := quadsOf_run_real (arcOf s r)
    have hsw : (arcOf s r).sweep = r.sweepAngle := rfl
    rw [hsw] at h1 h2 hnil
    have hout := center_real s r h
    have hst : toP (arcStart s r) = (arcOf s r).sample 0 := rfl
    have hlastS : lastTo (arcStart s r) ((quadsOf (arcOf s r)).map pieceCall) = ofP e := by
      rw [lastTo_pieces, hst, hrun.end_eq]
    -- the last `to` from an arbitrary default, when there is a piece
    have hlastAny : ∀ d : Pt ℝ, quadsOf (arcOf s r) ≠ [] →
        lastTo d ((quadsOf (arcOf s r)).map pieceCall) = ofP e := by
      intro d hq
      cases hl : quadsOf (arcOf s r) with
      | nil => exact absurd hl hq
      | cons q rest =>
        have := hlastS
        rw [hl] at this
        simpa [lastTo, pieceCall] using this
    refine ⟨e, hrun, h1, h2, hnil, ?_, ?_, arc_lastCtrl s _⟩
    · show (arc s (realGeo.center r s.cur)).2 = _
      rw [hout, arc_curve_eq]
      unfold arcLead
      cases hn : s.needMoveTo <;> simp
    · show (arc s (realGeo.center r s.cur)).1.cur = _
      rw [hout, arc_curve_eq]
      by_cases h0 : r.sweepAngle = 0
      · have hq := hnil.mpr h0
        cases hn : s.needMoveTo <;> cases hnear : nearStart (arcStart s r) s.cur <;>
          simp [h0, hq, lastTo]
      · have hq : quadsOf (arcOf s r) ≠ [] := fun hq => h0 (hnil.mp hq)
        cases hn : s.needMoveTo <;> simp [h0, hlastAny _ hq]

/-- centre form, non-zero radii, current position ON the ellipse
(`current = center + sample_ellipse(radii, x_rotation, t)` for some `t`): the arc starts exactly at
the current position (so the connecting `line_to`, if any, has zero length and the first piece
starts at the path's current point). -/
theorem svg_arc_on_curve_real (s : St ℝ) (r : ArcArgs ℝ) (hx : r.radii.x ≠ 0) (hy : r.radii.y ≠ 0)
    (t : ℝ) (ht : toP s.cur = toP r.center + Arc.sampleEllipse (toP r.radii) r.xrot t) :
    arcStart s r = s.cur :=
  arcStart_on_curve s r hx hy t ht

/-
  The input of finding C15-arc-zero-sweep-stale-position: before lyon commit 250152af the command below left
  `current_position` at (21/20, 0), so the following `relative_line_to(1, 0)` drew an edge of offset (1.05, 0).
-/

/-- Concrete geometry over ℝ, lyon's f32 epsilon: inside a
sub-path at (1.05, 0), `arc(center (0,0), radii (1,1), sweep 0, rotation 0)` hands `line_to(1, 0)` to
the wrapped builder AND moves `current_position` to (1, 0): it is the last point handed to the
builder, and the following `relative_line_to(1, 0)` is `line_to(2, 0)`. -/
theorem svg_arc_zero_sweep_repaired :
    step (@realGeo f32Eps) wS (.arc wR)
      = ({ wS with cur := ⟨1, 0⟩, lastCtrl := ⟨1, 0⟩ }, [.line ⟨1, 0⟩ ()])
    ∧ wS.needMoveTo = false ∧ wS.cur = ⟨21 / 20, 0⟩
    ∧ lastPoint (some wS.cur) (step (@realGeo f32Eps) wS (.arc wR)).2 = some ⟨1, 0⟩
    ∧ (step (@realGeo f32Eps) wS (.arc wR)).1.cur = ⟨1, 0⟩
    ∧ (step (@realGeo f32Eps) (step (@realGeo f32Eps) wS (.arc wR)).1 (.relLineTo ⟨1, 0⟩)).2
        = [.line ⟨2, 0⟩ ()] := by
  let _ := f32Eps
  have hq : quadsOf (arcOf wS wR) = [] := by
    obtain ⟨_, _, _, _, hnil⟩ := quadsOf_run_real (arcOf wS wR)
    exact hnil.mpr rfl
  have hnear : nearStart (⟨1, 0⟩ : Pt ℝ) wS.cur = true := by
    simp only [nearStart, wS, moveTo, decide_eq_true_eq, ofSci_eq]
    norm_num
  have hout : realGeo.center wR wS.cur = .curve ⟨1, 0⟩ true [] := by
    rw [center_real wS wR wS_off_center, hq, show arcStart wS wR = ⟨1, 0⟩ from congrArg ofP wArc_start, hnear]
    rfl
  have hstep : step realGeo wS (.arc wR)
      = ({ wS with cur := ⟨1, 0⟩, lastCtrl := ⟨1, 0⟩ }, [.line ⟨1, 0⟩ ()]) := by
    show arc wS (realGeo.center wR wS.cur) = _
    rw [hout, arc_curve_eq]
    simp [wS, moveTo, lastTo, quadCalls]
  refine ⟨hstep, rfl, rfl, ?_, ?_, ?_⟩
  · rw [hstep]; rfl
  · rw [hstep]
  · rw [hstep]
    simp [step, lineTo, beginIfNeeded, relToAbs, wS, moveTo]
    show (⟨1 + 1, 0 + 0⟩ : Pt ℝ) = ⟨2, 0⟩
    norm_num

/-- the input of the finding is in sync: a corollary of `svg_arc_zero_sweep_repaired` (the name is
that of the finding; the statement is the repaired behaviour, not a failure) -/
theorem svg_arc_zero_sweep_stale_witness :
    lastPoint (some wS.cur) (step (@realGeo f32Eps) wS (.arc wR)).2
      = some (step (@realGeo f32Eps) wS (.arc wR)).1.cur := by
  obtain ⟨_, _, _, h1, h2, _⟩ := svg_arc_zero_sweep_repaired
  rw [h1, h2]

/-- over any scalar type, for any geometry that satisfies the laws `RunOk` along the sequence (pieces
form a run from the arc's start point; inside a sub-path that start point is the current
position): every edge starts in the built path where the adapter means it to start, and
`current_position` is the builder's current point whenever a sub-path is open -/
theorem svg_path_connected_of_laws {α ρ : Type} [Add α] [Sub α] (g : GeoQ α ρ) (zero : α)
    (cmds : List (Cmd α ρ)) (ho : RunOk g (St.init zero) cmds) :
    edgeStarts none (run g.erase (St.init zero) cmds).2 = (runFroms g (St.init zero) cmds).map some
      ∧ Synced (run g.erase (St.init zero) cmds).1 (lastPoint none (run g.erase (St.init zero) cmds).2) :=
  ⟨run_connected g cmds _ _ (synced_init zero) ho, run_synced g.erase cmds _ _ (synced_init zero)⟩

/-- for EVERY scalar type, EVERY arc geometry and EVERY command
sequence (all 19 commands and `arc`, no side condition): whenever a sub-path is open afterwards, the
adapter's `current_position` is the last point handed to the wrapped builder. -/
theorem svg_current_position_synced {α ρ : Type} [Add α] [Sub α] (g : Geo α ρ) (zero : α)
    (cmds : List (Cmd α ρ)) :
    Synced (run g (St.init zero) cmds).1 (lastPoint none (run g (St.init zero) cmds).2) :=
  run_synced g cmds _ _ (synced_init zero)

/-- whole sequences with the concrete geometry over ℝ.  For EVERY
command sequence over the 19 `SvgPathBuilder` commands and the centre-form `arc`, from the empty
builder.  `CenterArcsOk` is needed for the chain statement only (`Synced` holds without it:
`svg_current_position_synced`); it excludes exactly a centre-form arc with non-zero sweep issued
inside a sub-path, not skipped, whose start point is 0.1 or more away from a current position that
is not on its ellipse — there the code draws no connecting line and the first piece does not start
at the path's current point.
* `edgeStarts`: in front of every edge call the wrapped builder's current point — where the edge
  starts in the path being built — is exactly the point the adapter means it to start
  (`runFroms`: `current_position` for lines and curves, the piece's own start point for every
  quadratic of an arc), so the edges form a connected chain per sub-path, arcs included;
* `Synced`: whenever a sub-path is open afterwards, `current_position` is the last point handed to
  the wrapped builder. -/
theorem svg_path_connected_real [Eps ℝ] (heps : 2 / 10 ^ 6 ≤ (Eps.eps : ℝ))
    (cmds : List (Cmd ℝ (ArcArgs ℝ))) (hc : CenterArcsOk (St.init 0) cmds) :
    edgeStarts none (run realGeo (St.init 0) cmds).2 = (runFroms realGeoQ (St.init 0) cmds).map some
      ∧ Synced (run realGeo (St.init 0) cmds).1 (lastPoint none (run realGeo (St.init 0) cmds).2) :=
  svg_path_connected_of_laws realGeoQ 0 cmds (runOk_real (le_trans (by norm_num) heps) cmds _ hc)

/-- no hypothesis on the sequence at all when it
consists of the 19 SVG commands (`arc_to` / `relative_arc_to` included, any operands). -/
theorem svg_path_connected_svg_commands_real [Eps ℝ] (heps : 2 / 10 ^ 6 ≤ (Eps.eps : ℝ))
    (cmds : List (Cmd ℝ (ArcArgs ℝ))) (h : NoCenterArc cmds) :
    edgeStarts none (run realGeo (St.init 0) cmds).2 = (runFroms realGeoQ (St.init 0) cmds).map some
      ∧ Synced (run realGeo (St.init 0) cmds).1 (lastPoint none (run realGeo (St.init 0) cmds).2) :=
  svg_path_connected_of_laws realGeoQ 0 cmds
    (runOk_of_endpoint realGeoQ (endpoint_ok_real (le_trans (by norm_num) heps)) cmds _ h)

/-- the hypothesis on the constants holds for lyon's f32 epsilon `1e-4` -/
example : (2 / 10 ^ 6 : ℝ) ≤ (@Eps.eps ℝ f32Eps) := by
  show (2 / 10 ^ 6 : ℝ) ≤ 1 / 10 ^ 4
  norm_num

/-- both branches of `ArcToSem` occur (lyon's f32 epsilon): radii (1, −2) from (0,0) to (1,0) is a
true arc, radii (1/100000, 1) a straight line -/
example :
    @ArcConv.isStraightLine ℝ _ f32Eps
        (svgArcOf ⟨⟨1, -2⟩, 1 / 2, true, true, ⟨0, 0⟩, 0⟩ (⟨0, 0⟩ : Pt ℝ) ⟨1, 0⟩) = false
    ∧ @ArcConv.isStraightLine ℝ _ f32Eps
        (svgArcOf ⟨⟨1 / 100000, 1⟩, 0, true, true, ⟨0, 0⟩, 0⟩ (⟨0, 0⟩ : Pt ℝ) ⟨1, 0⟩) = true := by
  constructor
  · simp only [ArcConv.isStraightLine, svgArcOf, toP, sc_abs, Bool.or_eq_false_iff,
      decide_eq_false_iff_not, not_le]
    refine ⟨⟨?_, ?_⟩, ?_⟩
    · refine decide_eq_false (not_le.mpr ?_); show (1 / 10 ^ 4 : ℝ) < |1|; norm_num
    · refine decide_eq_false (not_le.mpr ?_); show (1 / 10 ^ 4 : ℝ) < |(-2 : ℝ)|; norm_num
    · show P.beq _ _ = false
      simp [P.beq]
  · simp only [ArcConv.isStraightLine, svgArcOf, toP, sc_abs, Bool.or_eq_true, decide_eq_true_eq]
    left; left
    refine decide_eq_true ?_
    show |(1 / 100000 : ℝ)| ≤ 1 / 10 ^ 4
    rw [abs_of_pos (by norm_num)]; norm_num

/-- `CenterArcsOk` holds for `M 1,0` followed by a centre-form arc on the unit circle (sweep 1): the
current position is on the ellipse (last alternative of `CenterArcOk`) -/
example : @CenterArcsOk f32Eps (St.init 0)
    [.moveTo ⟨1, 0⟩, .arc ⟨⟨1, 1⟩, 0, false, false, ⟨0, 0⟩, 1⟩] := by
  refine ⟨trivial, ?_, trivial⟩
  right; right; right; right
  refine ⟨by norm_num, by norm_num, 0, ?_⟩
  exact on_unit_circle

/-- both cases of `svg_arc_semantics_real` occur: at the centre the arc is skipped, at (21/20, 0) it
is not (the input of `svg_arc_zero_sweep_repaired`) -/
example : approxEqPt (⟨0, 0⟩ : Pt ℝ) ⟨0, 0⟩ = true ∧ approxEqPt wS.cur wR.center = false := by
  exact ⟨by simp [approxEqPt, sc_abs, ofSci_eq], wS_off_center⟩

/-- hypothesis `RunOk` of `svg_path_connected_of_laws` -/
example : RunOk lawfulGeoQ (St.init 0)
    [.moveTo ⟨0, 0⟩, .arcTo () ⟨20, 0⟩, .relLineTo ⟨1, 1⟩, .close, .arcTo () ⟨3, 3⟩, .arc ()] := by
  simp [RunOk, StepOk, SvgOutOk, OutOk, lawfulGeoQ, Run]

/-- hypothesis `NoCenterArc` of `svg_path_connected_svg_commands_real` -/
example : NoCenterArc ([.lineTo ⟨1, 0⟩, .arcTo ⟨⟨1, -2⟩, 1 / 2, true, true, ⟨0, 0⟩, 0⟩ ⟨3, 0⟩, .close,
    .relArcTo ⟨⟨1, 1⟩, 0, false, true, ⟨0, 0⟩, 0⟩ ⟨1, 1⟩] : List (Cmd ℝ (ArcArgs ℝ))) := by
  simp [NoCenterArc]

end Lyon.C15b
