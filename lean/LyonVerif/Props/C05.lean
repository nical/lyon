/-
  C05 — stroke output is a well-formed mesh with self-consistent per-vertex data.

  Component theorems about `Model/Tess/StrokeParts.lean` — the same `def`s the correspondence
  check runs at `Float32` against lyon's crate-private code through hook H3
  (`lyon_tessellation::verif_stroke`).  Discrete statements (ids, counts, the 3-slot window) hold
  for every scalar type, floats included; numeric statements are over an arbitrary linearly
  ordered field `K` with `sqrt`, `sin`, `cos` as parameters whose laws are explicit hypotheses.

  This file holds the statements about one join, one cap, one window step.  About a whole stroke:
  validity of ids is `stroke_indices_valid_full`, sources and half widths `stroke_mesh_sqrt`
  (`Props/C05d.lean`), advancement along a fixed-width polyline path `stroke_path_advancement`
  (`Props/C05h.lean`).  Finiteness of every vertex at `Float32` is not a theorem (explored by the
  oracle on the real code, see conf/C05.json).  `kept_points_apart` covers the step functions'
  merge rule on points that are not flattening steps; `close()` moves the last kept point onto
  the first one afterwards (`Poly.fixUp` in the model, not part of that theorem).
-/
import LyonVerif.Model.Tess.StrokeParts
import LyonVerif.Lemmas.Field
import LyonVerif.Lemmas.StrokeParts
import LyonVerif.Lemmas.StrokeWindow
import LyonVerif.Lemmas.MiterNormal
import Mathlib.Tactic.SplitIfs
import Mathlib.Tactic.IntervalCases
import Mathlib.Algebra.Order.Ring.Abs
import Mathlib.Tactic.NormNum
import Mathlib.Tactic.Positivity
import Mathlib.Analysis.SpecialFunctions.Sqrt
import Mathlib.Analysis.SpecialFunctions.Trigonometric.Basic

set_option linter.unusedSectionVars false

geom_all Lyon.Stroke.VData

namespace Lyon.C05
open Lyon Scalar Lyon.Stroke

section Field
variable {K : Type} [Field K] [LinearOrder K] [IsStrictOrderedRing K]

/-- `position = position_on_path + normal · (line_width / 2)` for everything a vertex constructor
can read: `read` is the record of accessor results the driver prints and the tie compares. -/
theorem position_def (d : VData K) :
    d.read.position = d.read.positionOnPath + d.read.normal.smul (d.read.lineWidth * (1 / 2)) := by
  geom_ring

/-- `line_width` is twice the half width the tessellator works with -/
theorem line_width_def (d : VData K) : d.read.lineWidth = 2 * d.halfWidth := by
  geom_ring

/-- interpolated attributes of an edge vertex: affine in `t`, the end values at `t = 0, 1` -/
theorem lerp_attributes_ends (a b : List K) (h : a.length = b.length) :
    lerpAttributes a b 0 = a ∧ lerpAttributes a b 1 = b := by
  induction a generalizing b with
  | nil => cases b <;> simp_all [lerpAttributes]
  | cons x xs ih =>
    cases b with
    | nil => simp at h
    | cons y ys =>
      have := ih ys (by simpa using h)
      simp only [lerpAttributes, List.zipWith_cons_cons] at this ⊢
      refine ⟨?_, ?_⟩
      · rw [this.1]; congr 1; simp only [geom]; push_cast; ring
      · rw [this.2]; congr 1; simp only [geom]; push_cast; ring

/-- the second read of the attributes (served from the cache) equals the first -/
theorem interpolated_twice_same (store : Nat → List K) (s : Src K) :
    (interpolatedTwice store s).1 = (interpolatedTwice store s).2 := rfl

end Field

/-- every triangle `add_edge_triangles` emits has three pairwise distinct ids, whatever the ids
and fold flags of the two joins are (the issue_894 guards suffice) -/
theorem edge_triangles_distinct (p0 p1 : JoinIds) :
    ∀ t ∈ addEdgeTriangles p0 p1, Tri.Distinct t :=
  -- `edge_tris_ok` with any bound above the four ids that are read
  fun t ht => (C05b.edge_tris_ok p0 p1 (edgeP0Neg p0 + edgeP0Pos p0 + edgeP1Neg p1 + edgeP1Pos p1 + 1)
    ⟨by omega, by omega⟩ ⟨by omega, by omega⟩ t ht).1

/-- at most two triangles per edge -/
theorem edge_triangles_count (p0 p1 : JoinIds) : (addEdgeTriangles p0 p1).length ≤ 2 :=
  C05b.edge_tris_len p0 p1

/-- the guards are not vacuous: with the four ids distinct both triangles are emitted -/
example : addEdgeTriangles ⟨0, 1, 2, 3, false, false⟩ ⟨4, 5, 6, 7, false, false⟩ = [(3, 1, 4), (3, 4, 6)] := by
  decide
/-- issue_894 shape (shared ids through folds): the degenerate triangles are dropped -/
example : addEdgeTriangles ⟨0, 1, 2, 3, true, false⟩ ⟨0, 5, 6, 7, false, false⟩ = [] := by decide

section Joins
variable {α : Type} [Scalar α]

/-- ids handed out by `add_join_base_vertices` (negative side first): a side with a single
vertex gets one id for `prev` and `next`, a side without gets two consecutive ones; all are
fresh (`≥ o.nextId`) and the two sides never share an id. -/
theorem join_base_vertices_ids (j : Join α) (d : VData α) (o : Out α) :
    let r := addJoinBaseVertices j d o
    let i := r.1.ids
    o.nextId ≤ i.negPrev ∧ i.negPrev ≤ i.negNext ∧ i.negNext < i.posPrev ∧ i.posPrev ≤ i.posNext
      ∧ i.posNext < r.2.nextId
      ∧ (i.negPrev = i.negNext ↔ j.neg.single.isSome) ∧ (i.posPrev = i.posNext ↔ j.pos.single.isSome)
      ∧ r.1.pos.single = j.pos.single ∧ r.1.neg.single = j.neg.single
      ∧ r.1.foldPos = j.foldPos ∧ r.1.foldNeg = j.foldNeg := by
  simp only [addJoinBaseVertices_eq, Out.grow, List.length_append, baseVerts, sideVerts_length, Join.ids]
  cases j.neg.single <;> cases j.pos.single <;> simp

/-- the interior triangles are proper for ids that merely have the structure `add_join_base_vertices`
produces -/
theorem join_interior_distinct (i : JoinIds) (needPos needNeg : Bool)
    (hp : needPos = true → i.posPrev ≠ i.posNext) (hn : needNeg = true → i.negPrev ≠ i.negNext)
    (hx : i.posPrev ≠ i.negPrev ∧ i.posPrev ≠ i.negNext ∧ i.posNext ≠ i.negPrev ∧ i.posNext ≠ i.negNext) :
    ∀ t ∈ joinInterior i needPos needNeg, Tri.Distinct t := by
  intro t ht
  unfold joinInterior at ht
  obtain ⟨h1, h2, h3, h4⟩ := hx
  cases needPos <;> cases needNeg <;> simp at ht hp hn
  · obtain ⟨_, rfl⟩ := ht
    exact ⟨fun h => h1 h.symm, h2, hn⟩
  · obtain ⟨_, rfl⟩ := ht
    exact ⟨fun h => h1 h.symm, hp, fun h => h3 h.symm⟩
  · obtain ⟨_, rfl | rfl⟩ := ht
    · exact ⟨hp, h4, h2⟩
    · exact ⟨h2, fun h => hn h.symm, h1⟩

/-- `join_triangles_distinct`: after `add_join_base_vertices`, every interior triangle of
`tessellate_join` has three distinct ids, all of them handed out already; and a side that gets a
round join has distinct anchor vertices (so `arc_fan` applies to it). -/
theorem join_triangles_distinct (j : Join α) (d : VData α) (o : Out α) :
    let r := addJoinBaseVertices j d o
    (∀ t ∈ joinInterior r.1.ids (needsJoinPos r.1) (needsJoinNeg r.1),
        Tri.Distinct t ∧ Tri.Below t r.2.nextId)
    ∧ (needsJoinPos r.1 = true → r.1.pos.prevVertex ≠ r.1.pos.nextVertex)
    ∧ (needsJoinNeg r.1 = true → r.1.neg.prevVertex ≠ r.1.neg.nextVertex) := by
  intro r
  obtain ⟨h0, h1, h2, h3, h4, en, ep, sp, sn, _, _⟩ := join_base_vertices_ids j d o
  have hp : needsJoinPos r.1 = true → r.1.pos.prevVertex ≠ r.1.pos.nextVertex := fun hnp he => by
    have := ep.mp he
    unfold needsJoinPos at hnp
    rw [sp] at hnp; cases hs : j.pos.single <;> simp [hs] at this hnp
  have hn : needsJoinNeg r.1 = true → r.1.neg.prevVertex ≠ r.1.neg.nextVertex := fun hnn he => by
    have := en.mp he
    unfold needsJoinNeg at hnn
    rw [sn] at hnn; cases hs : j.neg.single <;> simp [hs] at this hnn
  exact ⟨join_interior_ok _ _ _ _ ⟨h1, h2, h3, h4⟩ hp hn, hp, hn⟩

end Joins

section Arc
variable {K : Type} [Field K] [LinearOrder K] [IsStrictOrderedRing K] [Transc K]

/-- `arc_fan`: `tessellate_arc` with depth `n` between two distinct existing vertices emits exactly
`2^n − 1` fresh vertices (consecutive ids from `o.nextId`), all with unit normals, and `2^n − 1`
triangles, each with three pairwise distinct ids that have been handed out.  `cos² + sin² = 1` is
the only law of the trigonometric functions used. -/
theorem arc_fan (htrig : ∀ x : K, Transc.cos x * Transc.cos x + Transc.sin x * Transc.sin x = 1)
    (n : Nat) : ∀ (a0 a1 : K) (va vb : Nat) (d : VData K) (o : Out K),
      va ≠ vb → va < o.nextId → vb < o.nextId →
      Ext o (tessellateArc a0 a1 va vb n d o) (2 ^ n - 1) := by
  intro a0 a1 va vb d o hab ha hb
  rw [arc_eq]
  refine Ext.grow o (by rw [List.length_map, arcAngles_length]) (arcTris_length n _ _ _) (fun v hv => ?_)
    (arcTris_ok n va vb o.nextId hab ha hb)
  obtain ⟨m, _, rfl⟩ := List.mem_map.mp hv
  simp only [arcVert, P.sqLen]; exact htrig m

end Arc

section Buffer
variable {β : Type}

/-- `point_buffer_refines`: for EVERY sequence of `push` / `replace_last` / `clear` from a new
buffer, the 3-slot ring behaves as the list of points since the last clear seen through a window
of three: it panics exactly when the specification has no answer (`replace_last` on an empty
buffer: the `idx - 1` underflow), and otherwise `count = min 3 (number of points)`, `get i` is the
`i`-th of the three newest points (never an out-of-range slot, never a stale one), `last` is the
newest point, `last_two_mut` the two newest. -/
theorem point_buffer_refines (d : β) (ops : List (BufOp β)) :
    match specRun [] ops with
    | none => (PointBuffer.new d).run ops = none
    | some l => ∃ b, (PointBuffer.new d).run ops = some b
        ∧ b.count = min 3 l.length
        ∧ (∀ i, i < b.count → b.get i = (window l)[i]?)
        ∧ b.last = l.getLast?
        ∧ (2 ≤ b.count → ∃ x y, b.lastTwo = some (x, y) ∧ b.get (b.count - 2) = some x ∧ b.last = some y) := by
  have h := (Rep.c0 d d d).run ops
  cases hs : specRun ([] : List β) ops with
  | none => rw [hs] at h; exact h
  | some l =>
    rw [hs] at h
    obtain ⟨b, hb, hr⟩ := h
    obtain ⟨h1, _, h3, h4, h5⟩ := hr.observe
    exact ⟨b, hb, h1, h3, h4, h5⟩

/-- a concrete run: five pushes, a replace and a wrap-around -/
example : ((PointBuffer.new 0).run [.push 1, .push 2, .push 3, .push 4, .replaceLast 9, .push 5]).map
    (fun b => (b.count, b.get 0, b.get 1, b.get 2, b.get 3)) = some (3, some 3, some 9, some 5, none) := by
  decide
/-- `replace_last` on an empty buffer is the one panicking sequence -/
example : (PointBuffer.new 0).run [.push 1, .clear, .replaceLast 2] = none := by decide

end Buffer

section Merge
variable {K : Type} [Field K] [LinearOrder K] [IsStrictOrderedRing K]

/-- `kept_points_apart`: whatever points are fed through the merge rule of `step_impl` /
`fixed_width_step_impl` after a `clear`, the window never panics and any two consecutive points
it holds are at least the merge threshold apart (squared distance ≥ `square_merge_threshold`). -/
theorem kept_points_apart (thr : K) (ps : List (P K)) :
    ∃ w, feed thr Window.new ps = some w ∧
      ∀ i, i + 1 < w.buf.count → ∃ p q, w.buf.get i = some p ∧ w.buf.get (i + 1) = some q
        ∧ thr ≤ (p - q).sqLen := by
  obtain ⟨w, l, hf, hr, ha⟩ := feed_inv thr ps Window.new [] (Rep.c0 _ _ _) (by intro i p q h; simp at h)
  refine ⟨w, hf, ?_⟩
  intro i hi
  obtain ⟨_, hc, hg, _, _⟩ := hr.observe
  have h1 : i < (window l).length := by omega
  have h2 : i + 1 < (window l).length := by omega
  refine ⟨(window l)[i], (window l)[i + 1], ?_, ?_, ?_⟩
  · rw [hg i (by omega)]; exact List.getElem?_eq_getElem h1
  · rw [hg (i + 1) hi]; exact List.getElem?_eq_getElem h2
  · apply ha (l.length - 3 + i)
    · simp [window]
    · simp [window, Nat.add_assoc]

/-- the merge threshold is positive whatever the options are (`.max(1e-8)`) … -/
theorem merge_threshold_pos (tolerance lineWidth : K) : 0 < squareMergeThreshold tolerance lineWidth := by
  unfold squareMergeThreshold
  simp only [geom]
  apply lt_of_lt_of_le _ (le_max_right _ _)
  positivity

/-- … so kept consecutive points are distinct and the edge lengths used as divisors are non-zero -/
theorem apart_ne {thr : K} (hthr : 0 < thr) {p q : P K} (h : thr ≤ (p - q).sqLen) :
    p ≠ q ∧ 0 < (q - p).sqLen := by
  constructor
  · rintro rfl
    have : ((p - p : P K)).sqLen = 0 := by simp only [geom]; ring
    rw [this] at h; exact absurd (lt_of_lt_of_le hthr h) (lt_irrefl _)
  · have : (q - p).sqLen = (p - q).sqLen := by simp only [geom]; ring
    rw [this]; exact lt_of_lt_of_le hthr h

end Merge

section Normal
variable {K : Type} [Field K] [LinearOrder K] [IsStrictOrderedRing K] [Transc K]

/-- `compute_normal_miter`.  For unit tangents `v1`, `v2` that are not (nearly) opposite — the first
guard `|v1+v2|² < 1e-4` is not taken — the second guard is never taken either, and the result `n`
satisfies `n·n₁ = n·n₂ = 1` (extruding by `n` keeps both offset lines at distance 1) and
`|n|²·(1 + v1·v2) = 2`, i.e. `|n|² = 2/(1+v1·v2)`.  Finiteness (no division by zero) and the
miter-limit test are therefore algebraic facts.  `sqrt` enters only through `s ≥ 0`, `s·s = x`. -/
theorem compute_normal_miter (v1 v2 : P K) (h1 : v1.sqLen = 1) (h2 : v2.sqLen = 1)
    (hg : ¬ (v1 + v2).sqLen < normalEpsilon)
    (hs0 : 0 ≤ Transc.sqrt (v1 + v2).sqLen)
    (hs : Transc.sqrt (v1 + v2).sqLen * Transc.sqrt (v1 + v2).sqLen = (v1 + v2).sqLen) :
    (computeNormal v1 v2).dot (perp v1) = 1 ∧ (computeNormal v1 v2).dot (perp v2) = 1
      ∧ (computeNormal v1 v2).sqLen * (1 + v1.dot v2) = 2 := by
  obtain ⟨hc, hN⟩ := computeNormal_closed v1 v2 h1 h2 hg hs0 hs
  rw [hN]
  exact ⟨(miter_dot_perp v1 v2 h1 h2 hc.ne').1, (miter_dot_perp v1 v2 h1 h2 hc.ne').2, miter_sqLen_mul v1 v2 h1 h2 hc.ne'⟩

/-- (nearly) opposite tangents: the first guard answers the zero vector — no division happens -/
theorem compute_normal_opposite (v1 v2 : P K) (hg : (v1 + v2).sqLen < normalEpsilon) :
    computeNormal v1 v2 = ⟨0, 0⟩ := by
  unfold computeNormal
  simp only []
  rw [if_pos hg]
  simp only [geom, Nat.cast_zero]

/-- `miter_limit_iff`: the test is `|normal|² > (2·limit)²` … -/
theorem miter_limit_iff (n : P K) (l : K) :
    miterLimitIsExceeded n l = true ↔ (2 * l) ^ 2 < n.sqLen := by
  unfold miterLimitIsExceeded
  simp only [decide_eq_true_eq, geom, gt_iff_lt, Nat.cast_ofNat]
  constructor <;> intro h <;> linarith

/-- … i.e. `|normal| > 2·limit` for a non-negative limit (`L` is the length of the normal) -/
theorem miter_limit_iff_length (n : P K) (l L : K) (hl : 0 ≤ l) (hL : 0 ≤ L) (hLL : L * L = n.sqLen) :
    miterLimitIsExceeded n l = true ↔ 2 * l < L := by
  rw [miter_limit_iff, ← hLL, sq]
  exact (mul_self_lt_mul_self_iff (by linarith) hL).symm

/-- for the normal of two unit tangents the test reads `2·limit²·(1 + v1·v2) < 1` -/
theorem miter_limit_tangents (v1 v2 : P K) (l : K) (h1 : v1.sqLen = 1) (h2 : v2.sqLen = 1)
    (hg : ¬ (v1 + v2).sqLen < normalEpsilon)
    (hs0 : 0 ≤ Transc.sqrt (v1 + v2).sqLen)
    (hs : Transc.sqrt (v1 + v2).sqLen * Transc.sqrt (v1 + v2).sqLen = (v1 + v2).sqLen) :
    miterLimitIsExceeded (computeNormal v1 v2) l = true ↔ 2 * l ^ 2 * (1 + v1.dot v2) < 1 := by
  obtain ⟨_, _, h⟩ := compute_normal_miter v1 v2 h1 h2 hg hs0 hs
  have hc := (computeNormal_closed v1 v2 h1 h2 hg hs0 hs).1
  -- `N·c = 2` with `c > 0`: compare `(2l)²` and `N` after multiplying by `c`
  rw [miter_limit_iff, ← mul_lt_mul_iff_of_pos_right hc, h]
  constructor <;> intro hlt <;> linarith

end Normal

/-- `subdivisions_ceil_sufficient`: with the ceiling of the logarithm the fan has at least as many
chords as the tolerance needs: `num_segments ≤ 2^⌈log₂ num_segments⌉` (Nat level: `ceilLog2` is
what `num_segments.log2().ceil() as u32` evaluates to in exact arithmetic for an integer-valued
segment count).  Together with `arc_fan` (2^d − 1 vertices split the arc into 2^d chords) the
arc of a round join / cap side is cut into at least `num_segments` pieces. -/
theorem subdivisions_ceil_sufficient (n : Nat) : n ≤ 2 ^ ceilLog2 n := by
  unfold ceilLog2
  split
  · omega
  · have h := Nat.lt_log2_self (n := n - 1)
    omega

/-- `ceilLog2` is the ceiling (the least such exponent): one subdivision less is not enough -/
theorem subdivisions_ceil_minimal (n : Nat) (h : 2 ≤ n) : 2 ^ (ceilLog2 n - 1) < n := by
  unfold ceilLog2
  rw [if_neg (by omega)]
  have h1 : n - 1 ≠ 0 := by omega
  have := Nat.log2_self_le h1
  simp only [Nat.add_sub_cancel]
  omega

/-- the rounding used before /repo fix da84e187 was not sufficient: 5 segments gave `round(log₂ 5) = 2`
subdivisions, i.e. 4 chords; the ceiling gives 8 -/
theorem subdivisions_round_insufficient_witness : 2 ^ 2 < 5 ∧ 5 ≤ 2 ^ ceilLog2 5 := by decide

example : ceilLog2 79 = 7 ∧ ceilLog2 64 = 6 ∧ ceilLog2 1 = 0 ∧ ceilLog2 0 = 0 := by decide

section real

/-- `Transc ℝ` with the real `sqrt`, `sin`, `cos` (the other fields are not used by the theorems) -/
@[instance_reducible] noncomputable def realTransc : Transc ℝ where
  sqrt := Real.sqrt
  cbrt := fun x => x
  sin := Real.sin
  cos := Real.cos
  tan := fun x => x
  acos := fun x => x
  atan2 := fun _ x => x
  pow := fun x _ => x
  log2 := fun x => x
  ln := fun x => x
  floor := fun x => x
  ceil := fun x => x
  toNat := fun _ => 0
  fmod := fun x _ => x
  eps := 0
  pi := Real.pi
  isNaN := fun _ => false
  isFinite := fun _ => true

/-- `arc_fan`'s law holds for the real functions, so e.g. every depth-5 arc is a fan of 31 -/
example (a0 a1 : ℝ) (d : VData ℝ) (o : Out ℝ) (h : 2 ≤ o.nextId) :
    (@tessellateArc ℝ _ realTransc a0 a1 0 1 5 d o).nextId = o.nextId + 31 := by
  let _ := realTransc
  have := (arc_fan (K := ℝ) (fun x => by
    show Real.cos x * Real.cos x + Real.sin x * Real.sin x = 1
    have := Real.cos_sq_add_sin_sq x; nlinarith) 5 a0 a1 0 1 d o (by decide) (by omega) (by omega)).next
  simpa using this

/-- `compute_normal_miter` at a right-angle turn: hypotheses hold, `|n|² = 2` -/
example : (@computeNormal ℝ _ realTransc ⟨1, 0⟩ ⟨0, 1⟩).sqLen * (1 + (P.mk (1 : ℝ) 0).dot ⟨0, 1⟩) = 2 := by
  let _ := realTransc
  refine (compute_normal_miter (K := ℝ) ⟨1, 0⟩ ⟨0, 1⟩ (by simp [geom]) (by simp [geom]) ?_ ?_ ?_).2.2
  · rw [normalEpsilon_eq]; simp only [geom]; norm_num
  · exact Real.sqrt_nonneg _
  · exact Real.mul_self_sqrt (by simp only [geom]; norm_num)

end real

end Lyon.C05
