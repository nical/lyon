/-
  Soundness of the slab checker (`Model/Slab.lean`, DESIGN.md 4.3).  `check inp` runs on exact rationals in the
  model executables of C01, C02, C03, C06, C18, with the real output of lyon's tessellators as input.  Over every
  linearly ordered field: if it records no failure then at EVERY generic point of the plane the mode's formula holds
  for the winding number of the outline and the number of triangles covering the point, or the point is within the
  tolerance `d2` (squared distance) of an outline edge (`check_sound`).  Generic means: level with no vertex and with
  no crossing of two segments' supporting lines, and on no supporting line at its own height (`mem_ordinates_only`,
  `generic_of`).  The executable `Scalar ℚ` instance is the field instance at `ℚ` (`ratScalar_eq_fieldScalar`), so
  the theorem is about the function the executables run; a concrete input passes the checker inside the logic and
  has generic points (`check0`, `generic0`).  The proof never uses that `mkItem` stores a segment upward and drops
  horizontal ones (`it.a.y < it.b.y`).
-/
import LyonVerif.Lemmas.SlabSweep
import LyonVerif.Lemmas.RatField
import Mathlib.Tactic.NormNum

set_option linter.unusedSectionVars false

namespace Lyon.Slab
open Lyon

-- In this file every `Scalar` instance is the ordered-field one; the executable rational instance
-- is only referred to by name (`ratScalar_eq_fieldScalar`).
attribute [-instance] Lyon.instScalarRat

variable {K : Type} [Field K] [LinearOrder K] [IsStrictOrderedRing K]

/-- `q` is in general position with respect to the checker's input: its ordinate is not a cut
ordinate (not level with any vertex of the outline or of a triangle, nor with a crossing of two
segments — see `mem_ordinates_only`, `generic_of`), and `q` is not on the supporting line of a segment whose y-range
contains `q.y`. The excluded set is a finite union of lines and segments. -/
structure Generic (inp : Input K) (q : P K) : Prop where
  level : q.y ∉ ordinates (checkItems inp) (checkExtra inp)
  offLine : ∀ it ∈ checkItems inp, it.a.y ≤ q.y → q.y < it.b.y → it.xAt q.y ≠ q.x

/-- `q` lies in the tolerance band: within squared distance `d2` of one outline edge -/
def InBand (inp : Input K) (q : P K) : Prop := ∃ e ∈ inp.edges, sqDistSeg q e.1 e.2 ≤ inp.d2

theorem holds_zero (m : Mode) (r : Rule) : m.holds r 0 0 = true := by
  cases m <;> cases r <;> rfl

theorem foldl_fails {β F : Type} (g : β → List F × Nat) : ∀ (l : List β) (acc : Nat × Nat × List F),
    (l.foldl (fun (acc : Nat × Nat × List F) (yy : β) =>
        (acc.1 + 1, acc.2.1 + (g yy).2, (g yy).1 ++ acc.2.2)) acc).2.2 = [] →
      acc.2.2 = [] ∧ ∀ yy ∈ l, (g yy).1 = []
  | [], acc, h => ⟨h, by simp⟩
  | y :: l, acc, h => by
    rw [List.foldl_cons] at h
    obtain ⟨h1, h2⟩ := foldl_fails g l _ h
    simp only [List.append_eq_nil_iff] at h1
    refine ⟨h1.2, ?_⟩
    intro yy hyy
    rcases List.mem_cons.mp hyy with rfl | h'
    · exact h1.1
    · exact h2 yy h'

theorem check_slabs (inp : Input K) (hok : (check inp).fails = []) :
    ∀ p ∈ slabPairs (ordinates (checkItems inp) (checkExtra inp)),
      (sweepSlab inp.mode inp.rule inp.edges inp.d2 inp.tris.length (checkItems inp) p.1 p.2).1 = [] := by
  unfold check at hok
  exact (foldl_fails (fun yy : K × K =>
    sweepSlab inp.mode inp.rule inp.edges inp.d2 inp.tris.length (checkItems inp) yy.1 yy.2) _ _ hok).2

theorem mem_checkItems {inp : Input K} {it : Item K} (h : it ∈ checkItems inp) : it.tri ≤ inp.tris.length := by
  unfold checkItems at h
  rcases List.mem_append.mp h with h | h
  · have := mem_edgeItems h
    omega
  · exact (mem_triItems h).2.2.1

theorem slabSorted_pairwise (items : List (Item K)) (y0 y1 : K) :
    (slabSorted items y0 y1).Pairwise (fun a b => a.1 ≤ b.1) := by
  unfold slabSorted
  exact sortKey_pairwise Prod.fst _

theorem slabSorted_perm (items : List (Item K)) (y0 y1 : K) :
    (slabSorted items y0 y1).Perm
      ((items.filter (fun it => it.spans y0 y1)).map (fun it => (it.xAt ((y0 + y1) / Scalar.two), it))) :=
  List.mergeSort_perm _ _

theorem mem_slabSorted {items : List (Item K)} {y0 y1 : K} {a : K × Item K}
    (h : a ∈ slabSorted items y0 y1) :
    a.2 ∈ items ∧ a.2.spans y0 y1 = true ∧ a.1 = a.2.xAt ((y0 + y1) / Scalar.two) := by
  have h' := (slabSorted_perm items y0 y1).mem_iff.mp h
  obtain ⟨it, hit, rfl⟩ := List.mem_map.mp h'
  obtain ⟨h1, h2⟩ := List.mem_filter.mp hit
  exact ⟨h1, h2, rfl⟩

theorem check_sound (inp : Input K) (hok : (check inp).fails = []) (q : P K) (hgen : Generic inp q) :
    inp.mode.holds inp.rule (winding inp.edges q) (coverage inp.tris q) = true ∨ InBand inp q := by
  rw [winding_eq, coverage_eq]
  have hslabs := check_slabs inp hok
  obtain ⟨hlevel, hoff⟩ := hgen
  have hit : ∀ it ∈ checkItems inp, it.tri ≤ inp.tris.length := fun it h => mem_checkItems h
  generalize checkItems inp = items at *
  generalize hys : ordinates items (checkExtra inp) = ys at *
  have hend : ∀ it ∈ items, it.a.y ∈ ys ∧ it.b.y ∈ ys := fun it h => by
    rw [← hys, mem_ordinates, mem_ordinates]
    unfold rawOrdinates
    constructor <;>
      exact List.mem_append_left _ (List.mem_append_left _ (List.mem_flatMap.mpr ⟨it, h, by simp⟩))
  have hcross : ∀ i ∈ items, ∀ j ∈ items, ∀ y, crossY i j = some y → crossY j i = some y → y ∈ ys := by
    intro i hi j hj y h1 h2
    rw [← hys, mem_ordinates]
    exact List.mem_append_right _ (mem_allCrossings items i j y hi hj h1 h2)
  -- nothing left of `q`: both counters are zero
  have hzero : ∀ L : List (Item K), L = [] →
      (inp.mode.holds inp.rule (wSum L) (fCount inp.tris.length L) = true ∨ InBand inp q) := by
    rintro _ rfl
    rw [fCount_nil]
    exact Or.inl (holds_zero _ _)
  rcases slab_locate ys (hys ▸ ordinates_strict _ _) q.y hlevel with hlow | hhigh | ⟨⟨y0, y1⟩, hp, hp1, hp2, hp3⟩
  · -- below every cut ordinate
    refine hzero _ (List.filter_eq_nil_iff.mpr fun it h hl => ?_)
    exact (hlow _ (hend it h).1).not_ge ((leftOf_iff _ _).mp hl).1
  · -- above every cut ordinate
    refine hzero _ (List.filter_eq_nil_iff.mpr fun it h hl => ?_)
    exact lt_asymm (hhigh _ (hend it h).2) ((leftOf_iff _ _).mp hl).2.1
  · -- strictly inside the slab `(y0, y1)`
    simp only at hp1 hp2 hp3
    have hfail := hslabs (y0, y1) hp
    have hym0 : y0 < (y0 + y1) / Scalar.two := by rw [sc_two_eq]; linarith
    have hym1 : (y0 + y1) / Scalar.two < y1 := by rw [sc_two_eq]; linarith
    -- an item's half-open y-range contains `q.y` iff the item spans the slab
    have hspan : ∀ it ∈ items, (it.spans y0 y1 = true ↔ (it.a.y ≤ q.y ∧ q.y < it.b.y)) := fun it h => by
      rw [spans_iff]
      refine ⟨fun ⟨h1, h2⟩ => ⟨by linarith, by linarith⟩, fun ⟨h1, h2⟩ => ⟨?_, ?_⟩⟩
      · exact (hp3 _ (hend it h).1).resolve_right fun h3 => by linarith
      · exact (hp3 _ (hend it h).2).resolve_left fun h3 => by linarith
    -- sides: an item of the slab that is not strictly left of `q` is strictly right of it
    have hright : ∀ a ∈ slabSorted items y0 y1, a.2.leftOf q = false → q.x < a.2.xAt q.y := by
      intro a ha h
      obtain ⟨h1, h2, _⟩ := mem_slabSorted ha
      have hs := (hspan _ h1).mp h2
      refine lt_of_le_of_ne (not_lt.mp fun hlt => ?_) (hoff _ h1 hs.1 hs.2).symm
      rw [(leftOf_iff _ _).mpr ⟨hs.1, hs.2, hlt⟩] at h
      cases h
    -- the order at the mid-ordinate separates the two sides
    have hsep : ∀ a b, a ∈ slabSorted items y0 y1 → b ∈ slabSorted items y0 y1 →
        a.2.leftOf q = false → b.2.leftOf q = true → ¬ a.1 ≤ b.1 := by
      intro a b ha hb hpa hpb hle
      obtain ⟨ha1, ha2, ha3⟩ := mem_slabSorted ha
      obtain ⟨hb1, hb2, hb3⟩ := mem_slabSorted hb
      rw [spans_iff] at ha2 hb2
      rw [ha3, hb3] at hle
      obtain ⟨y, hy0, hy1, hc1, hc2⟩ := order_cross b.2 a.2 y0 y1 q.y _ hb2.1 hb2.2 ha2.1 ha2.2
        hp1 hp2 hym0 hym1 (((leftOf_iff _ _).mp hpb).2.2.trans (hright a ha hpa)) hle
      rcases hp3 y (hcross _ hb1 _ ha1 y hc1 hc2) with h | h
      · exact hy0.not_ge h
      · exact hy1.not_ge h
    have hsplit := pairwise_split (fun (a b : K × Item K) => a.1 ≤ b.1)
      (fun xi : K × Item K => xi.2.leftOf q) (slabSorted items y0 y1)
      (slabSorted_pairwise items y0 y1) hsep
    -- the items left of `q` are (a permutation of) the first part
    have hperm : ((slabSorted items y0 y1).filter (fun xi : K × Item K => xi.2.leftOf q)).map Prod.snd
        |>.Perm (items.filter (fun it => it.leftOf q)) := by
      have := ((slabSorted_perm items y0 y1).filter (fun xi : K × Item K => xi.2.leftOf q)).map Prod.snd
      simp only [List.filter_map, List.map_map, List.filter_filter, Function.comp_def, List.map_id'] at this
      rwa [List.filter_congr fun it h => Bool.and_eq_left_iff_imp.mpr fun hl =>
        (hspan it h).mpr ⟨((leftOf_iff _ _).mp hl).1, ((leftOf_iff _ _).mp hl).2.1⟩] at this
    generalize hL : (slabSorted items y0 y1).filter (fun xi : K × Item K => xi.2.leftOf q) = L at *
    generalize hR : (slabSorted items y0 y1).filter (fun xi : K × Item K => !xi.2.leftOf q) = R at *
    have hLmem : ∀ a ∈ L, a ∈ slabSorted items y0 y1 ∧ a.2.leftOf q = true := by
      intro a ha; rw [← hL] at ha; exact List.mem_filter.mp ha
    have hRmem : ∀ a ∈ R, a ∈ slabSorted items y0 y1 ∧ a.2.leftOf q = false := by
      intro a ha; rw [← hR] at ha
      have := List.mem_filter.mp ha
      exact ⟨this.1, by simpa using this.2⟩
    rw [← wSum_perm hperm, ← fCount_perm _ hperm]
    cases L with
    | nil => exact hzero _ rfl
    | cons xi L' =>
      -- the sweep starts with `xi`, passes `L'`, and examines the boundary to `R`
      unfold sweepSlab at hfail
      rw [hsplit] at hfail
      have hgo := sweepGo_ok inp.mode inp.rule inp.edges inp.d2 y0 y1 _ L'
        ((Acc.init inp.tris.length).step xi.2) xi.2 R hfail
      obtain ⟨hw, hf⟩ := run_init inp.tris.length ((xi :: L').map Prod.snd) fun it h => by
        obtain ⟨a, ha, rfl⟩ := List.mem_map.mp h
        exact hit _ (mem_slabSorted (hLmem a ha).1).1
      rw [← Acc.run_cons, ← List.map_cons, hw, hf] at hgo
      cases R with
      | nil => exact Or.inl (hgo.1 rfl)
      | cons xr R' =>
        obtain ⟨x, r⟩ := xr
        -- the last item passed is strictly left of `r` at the mid-ordinate
        have hlast : (L'.map Prod.snd).getLastD xi.2 ∈ (xi :: L').map Prod.snd := by
          simpa using List.getLastD_mem_cons (l := L'.map Prod.snd) (a := xi.2)
        obtain ⟨a, ha, hae⟩ := List.mem_map.mp hlast
        have hr := hRmem (x, r) (by simp)
        have hgap := hgo.2 x r R' rfl (by
          rw [← hae, ← (mem_slabSorted (hLmem a ha).1).2.2]
          exact not_le.mp (hsep (x, r) a hr.1 (hLmem a ha).1 hr.2 (hLmem a ha).2))
        unfold gapOk at hgap
        rw [Bool.or_eq_true] at hgap
        refine hgap.imp_right fun hgap => ?_
        have hne : y0 ≠ y1 := (hp1.trans hp2).ne
        refine bandRec_sound inp.edges inp.d2 q bandDepth y0 y1 _ _ _ _ hgap (hp1.trans hp2)
          hp1.le hp2.le ?_ ?_
        · rw [← xAt_lerp _ y0 y1 q.y hne, ← hae]
          exact ((leftOf_iff _ _).mp (hLmem a ha).2).2.2.le
        · rw [← xAt_lerp _ y0 y1 q.y hne]
          exact (hright (x, r) hr.1 hr.2).le

/-- `y` is the ordinate of a vertex of the outline or of a triangle -/
def VertexLevel (inp : Input K) (y : K) : Prop :=
  (∃ e ∈ inp.edges, y = e.1.y ∨ y = e.2.y) ∨ (∃ t ∈ inp.tris, y = t.1.y ∨ y = t.2.1.y ∨ y = t.2.2.y)

theorem mem_checkExtra (inp : Input K) (y : K) : y ∈ checkExtra inp ↔ VertexLevel inp y := by
  unfold checkExtra VertexLevel
  simp only [List.mem_append, List.mem_flatMap, List.mem_cons, List.mem_nil_iff, or_false]

theorem ends_vertexLevel {inp : Input K} {it : Item K} (h : it ∈ checkItems inp) :
    VertexLevel inp it.a.y ∧ VertexLevel inp it.b.y := by
  unfold checkItems at h
  rcases List.mem_append.mp h with h | h
  · unfold edgeItems at h
    obtain ⟨e, he, hm⟩ := List.mem_filterMap.mp h
    rcases (mkItem_some hm).2.2.2 with ⟨ha, hb⟩ | ⟨ha, hb⟩
    · exact ⟨Or.inl ⟨e, he, Or.inl (by rw [ha])⟩, Or.inl ⟨e, he, Or.inr (by rw [hb])⟩⟩
    · exact ⟨Or.inl ⟨e, he, Or.inr (by rw [ha])⟩, Or.inl ⟨e, he, Or.inl (by rw [hb])⟩⟩
  · rw [triItems_eq] at h
    obtain ⟨ti, hti, hit⟩ := List.mem_flatMap.mp h
    have ht : ti.1 ∈ inp.tris := by
      have := (List.mem_zipIdx_iff_getElem?.mp hti)
      exact List.mem_of_getElem? this
    unfold triOf at hit
    obtain ⟨o, ho, he⟩ := List.mem_filterMap.mp hit
    simp only [id] at he
    subst he
    simp only [List.mem_cons, List.mem_nil_iff, or_false] at ho
    rcases ho with ho | ho | ho <;> rcases (mkItem_some ho.symm).2.2.2 with ⟨ha, hb⟩ | ⟨ha, hb⟩ <;>
      (rw [ha, hb]; exact ⟨Or.inr ⟨ti.1, ht, by simp⟩, Or.inr ⟨ti.1, ht, by simp⟩⟩)

theorem exists_of_mem_allCrossings : ∀ (l : List (Item K)) (y : K), y ∈ allCrossings l →
    ∃ i ∈ l, ∃ j ∈ l, crossY i j = some y
  | [], y, h => by simp [allCrossings] at h
  | a :: t, y, h => by
    rw [allCrossings, List.mem_append] at h
    rcases h with h | h
    · obtain ⟨j, hj, hc⟩ := List.mem_filterMap.mp h
      exact ⟨a, by simp, j, List.mem_cons_of_mem _ hj, hc⟩
    · obtain ⟨i, hi, j, hj, hc⟩ := exists_of_mem_allCrossings t y h
      exact ⟨i, List.mem_cons_of_mem _ hi, j, List.mem_cons_of_mem _ hj, hc⟩

theorem mem_ordinates_only (inp : Input K) (y : K)
    (h : y ∈ ordinates (checkItems inp) (checkExtra inp)) :
    VertexLevel inp y ∨ ∃ i ∈ checkItems inp, ∃ j ∈ checkItems inp, crossY i j = some y := by
  rw [mem_ordinates] at h
  unfold rawOrdinates at h
  rcases List.mem_append.mp h with h | h
  · rcases List.mem_append.mp h with h | h
    · obtain ⟨it, hit, hy⟩ := List.mem_flatMap.mp h
      simp only [List.mem_cons, List.mem_nil_iff, or_false] at hy
      rcases hy with rfl | rfl
      · exact Or.inl (ends_vertexLevel hit).1
      · exact Or.inl (ends_vertexLevel hit).2
    · exact Or.inl ((mem_checkExtra inp y).mp h)
  · exact Or.inr (exists_of_mem_allCrossings _ y h)

theorem generic_of (inp : Input K) (q : P K) (hV : ¬ VertexLevel inp q.y)
    (hX : ∀ i ∈ checkItems inp, ∀ j ∈ checkItems inp, crossY i j ≠ some q.y)
    (hoff : ∀ it ∈ checkItems inp, it.a.y ≤ q.y → q.y < it.b.y → it.xAt q.y ≠ q.x) : Generic inp q := by
  refine ⟨fun h => ?_, hoff⟩
  rcases mem_ordinates_only inp q.y h with h | ⟨i, hi, j, hj, hc⟩
  · exact hV h
  · exact hX i hi j hj hc

theorem generic_not_vertexLevel (inp : Input K) (q : P K) (h : Generic inp q) : ¬ VertexLevel inp q.y := by
  intro hv
  apply h.level
  rw [mem_ordinates]
  unfold rawOrdinates
  exact List.mem_append_left _ (List.mem_append_right _ ((mem_checkExtra inp q.y).mpr hv))

/-- **The rational instance the executables run is the field instance at `ℚ`**: `check` as
compiled into `model_c01` … (`Model/RatScalar.lean`) is the function `check_sound` speaks about. -/
theorem ratScalar_eq_fieldScalar : (instScalarRat : Scalar ℚ) = fieldScalar :=
  instScalarRat_eq_fieldScalar

theorem check_sound_rat (inp : Input ℚ) (hok : (@check ℚ instScalarRat inp).fails = []) (q : P ℚ)
    (hgen : Generic inp q) :
    inp.mode.holds inp.rule (winding inp.edges q) (coverage inp.tris q) = true ∨ InBand inp q := by
  rw [ratScalar_eq_fieldScalar] at hok
  exact check_sound inp hok q hgen

/-! ### non-vacuity: a concrete input that passes, evaluated inside the logic -/

section Example

/-- outline = the triangle (0,0) (4,0) (1,3), covered by exactly that triangle -/
noncomputable def inp0 : Input ℚ :=
  { edges := [(⟨0, 0⟩, ⟨4, 0⟩), (⟨4, 0⟩, ⟨1, 3⟩), (⟨1, 3⟩, ⟨0, 0⟩)],
    tris := [(⟨0, 0⟩, ⟨4, 0⟩, ⟨1, 3⟩)], rule := .nonZero, mode := .tiling, d2 := 0 }

noncomputable def e1 : Item ℚ := ⟨⟨4,0⟩, ⟨1,3⟩, 1, 0⟩
noncomputable def e2 : Item ℚ := ⟨⟨0,0⟩, ⟨1,3⟩, -1, 0⟩
noncomputable def t1 : Item ℚ := ⟨⟨4,0⟩, ⟨1,3⟩, 0, 1⟩
noncomputable def t2 : Item ℚ := ⟨⟨0,0⟩, ⟨1,3⟩, 0, 1⟩

theorem items0 : checkItems inp0 = [e1, e2, t1, t2] := rfl

/-- the cut ordinates are strictly increasing, hence determined by their members, and those are
collected without sorting -/
theorem ys0 : ordinates (checkItems inp0) (checkExtra inp0) = [0, 3] := by
  have h : ∀ x, x ∈ rawOrdinates (checkItems inp0) (checkExtra inp0) ↔ x ∈ [(0:ℚ), 3] := by
    have h12 : ∀ x ∈ rawOrdinates (checkItems inp0) (checkExtra inp0), x ∈ [(0:ℚ), 3] := by decide +kernel
    have h21 : ∀ x ∈ [(0:ℚ), 3], x ∈ rawOrdinates (checkItems inp0) (checkExtra inp0) := by decide +kernel
    exact fun x => ⟨h12 x, h21 x⟩
  exact strict_ext (ordinates_strict _ _) (by decide +kernel) fun x => (mem_ordinates _ _ x).trans (h x)

theorem two_eq : (Scalar.two : ℚ) = 2 := sc_two
theorem one_eq : (Scalar.one : ℚ) = 1 := sc_one

theorem sorted0 : slabSorted [e1, e2, t1, t2] 0 3 = [(1/2, e2), (1/2, t2), (5/2, e1), (5/2, t1)] := by
  norm_num [slabSorted, Item.spans, Item.xAt, e1, e2, t1, t2, List.mergeSort,
    List.MergeSort.Internal.splitInTwo, List.filter_cons, two_eq, List.merge]

theorem sweep0 : (sweepSlab .tiling .nonZero inp0.edges 0 1 [e1, e2, t1, t2] 0 3).1 = [] := by
  unfold sweepSlab
  rw [sorted0]
  decide +kernel

theorem check0 : (check inp0).fails = [] := by
  unfold check
  simp only []
  rw [ys0, items0]
  simp only [slabPairs, List.foldl_cons, List.foldl_nil]
  have := sweep0
  simp only [inp0, List.length_cons, List.length_nil] at this ⊢
  rw [this]
  rfl

theorem generic0 : Generic inp0 ⟨1, 1⟩ := by
  refine ⟨?_, ?_⟩
  · rw [ys0]; decide +kernel
  · rw [items0]; decide +kernel

/-- hypotheses of `check_sound` are satisfiable, and its conclusion at (1,1) -/
example : inp0.mode.holds inp0.rule (winding inp0.edges ⟨1, 1⟩) (coverage inp0.tris ⟨1, 1⟩) = true
    ∨ InBand inp0 ⟨1, 1⟩ := check_sound inp0 check0 _ generic0

end Example

end Lyon.Slab
