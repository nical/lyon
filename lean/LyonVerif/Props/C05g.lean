/-
  C05g — the advancement clause, continued.

  §1  OPEN polyline sub-paths at full strength (every scalar type, floats included; only
      `is_nan(NaN) = true` is assumed): ANY points — also points within the merge threshold of the last
      kept point (dropped by `fixed_width_step_impl`), a sub-path whose points all merge into the first
      one (the empty cap), a `begin` directly followed by `end` — all joins and caps, any number of
      sub-paths, started in any idle state.  The table ranges over the KEPT points (`keptFrom`):
      `stroke_open_path_advancement`, `subpath_advancement_merged`; over an ordered field with
      `sqrt ≥ 0` the advancements are `≥` the start value and never decrease along the whole path
      (`pathTableM_ge`, `pathTableM_sorted`).
      NOT covered here (`stroke_path_advancement`, `Props/C05h.lean`): CLOSED sub-paths (`close()`: the
      join at the last kept point and, re-created with the start value, the two vertices of
      `closeVertices` at the first point, whose join carries start + perimeter; if the first point is
      within merge distance of the last kept one that point is moved onto it).
  §2  Curves, run level (window bookkeeping): endpoints that wait for their advancement — what
      `quadratic_bezier_to` / `cubic_bezier_to` feed (`quadPoints_adv_nan`, `cubicPoints_adv_nan`) — and
      are not merged leave the window with pending advancement `chordSum`: the start value plus the sum
      of the flattened chord lengths (`curve_window_advancement`, both branches of
      `fixed_width_step_impl`: `flattened_step` and `compute_join_side_positions_fixed_width`);
      `chordSum` grows with every chord when `sqrt ≥ 0` (`chordSum_snoc`, `chordSum_ge`).
-/
import LyonVerif.Lemmas.StrokeAdvCurve
import LyonVerif.Props.C05f

set_option linter.unusedSectionVars false

namespace Lyon.C05g
open Lyon Scalar Lyon.Stroke Lyon.Stroke.Full Lyon.C05 Lyon.C05b Lyon.C05c

/-! ## §1 open polyline sub-paths with merged points -/

section Adv
variable {α : Type} [Scalar α] [Transc α] [Asin α] [FlatConst α]

/-- **one open polyline sub-path, any points, started in any idle state**: every vertex it emits names
a KEPT point `k` (the first point, or a `line_to` point not within the merge threshold of the kept
point before it), sits on it, and reports `advTable`'s entry `k` started at the current
`sub_path_start_advancement`; afterwards the run is idle and `sub_path_start_advancement` is the
table's last entry (unchanged when a single point was kept) -/
theorem subpath_advancement_merged (e : Env α) (store : Nat → List α) (hfw : e.o.varWidth = false)
    (hnan : Transc.isNaN (nan : α) = true) (r0 : Run α) (h0 : Idle r0)
    (i0 : Nat) (p0 : P α) (pts : List (Nat × P α)) :
    Idle (runFrom e store r0 (subEvsM i0 p0 pts))
    ∧ Emits (AdvOK (advTable r0.st.subPathStartAdvancement ((i0, p0) :: keptFrom e.thr p0 pts)))
        r0.st.out (runFrom e store r0 (subEvsM i0 p0 pts)).st.out
    ∧ ((advTable r0.st.subPathStartAdvancement ((i0, p0) :: keptFrom e.thr p0 pts)).getLast?).map (·.2.2)
        = some (runFrom e store r0 (subEvsM i0 p0 pts)).st.subPathStartAdvancement :=
  subpath_advancement_m e store hfw hnan r0 h0 i0 p0 pts

/-- **advancement along a whole path of OPEN polyline sub-paths — no hypothesis on the points**, all
joins and caps, every scalar type: every vertex names a kept point of some sub-path, sits on it and
reports that point's entry of `pathTableM`: `0` at the very first point, within a sub-path the lengths
of the kept edges added up, each sub-path continuing at the value the previous one ended with. -/
theorem stroke_open_path_advancement (e : Env α) (store : Nat → List α) (hfw : e.o.varWidth = false)
    (hnan : Transc.isNaN (nan : α) = true) (subs : List (SubM α)) :
    ∀ v ∈ (runEvents e store (pathEvsM subs)).st.out.verts,
      ∃ t ∈ pathTableM e.thr zero subs,
        v.src = .endpoint t.1 ∧ v.positionOnPath = t.2.1 ∧ v.advancement = t.2.2 :=
  Emits.of_new (path_from e store (fun s => subEvsM s.i0 s.p0 s.pts) (ok := fun _ => True)
    (Q := fun a subs => AdvOK (pathTableM e.thr a subs))
    (Q1 := fun a s => AdvOK (advTable a ((s.i0, s.p0) :: keptFrom e.thr s.p0 s.pts)))
    (nxt := fun a s a' => a' = lastAdv a (advTable a ((s.i0, s.p0) :: keptFrom e.thr s.p0 s.pts)))
    (fun r0 s _ h0 => by
      obtain ⟨k1, k2, k3⟩ := subpath_advancement_m e store hfw hnan r0 h0 s.i0 s.p0 s.pts
      exact ⟨k1, k2, (lastAdv_eq k3).symm⟩)
    (fun a s r v => AdvOK.mono (List.subset_append_left _ _))
    (fun a a' s r v h => h ▸ AdvOK.mono (List.subset_append_right _ _)) subs _ (fun _ _ => trivial) idle_new).2

end Adv

section AdvField
variable {K : Type} [Field K] [LinearOrder K] [IsStrictOrderedRing K] [Transc K]
open Lyon.C05d (advTable_ge advTable_sorted)
open Lyon.C05f (le_lastAdv)

theorem pathTableM_ge (hs0 : ∀ x : K, 0 ≤ x → 0 ≤ Transc.sqrt x) (thr : K) :
    ∀ (subs : List (SubM K)) (a : K), ∀ t ∈ pathTableM thr a subs, a ≤ t.2.2 := by
  intro subs
  induction subs with
  | nil => intro a t ht; simp [pathTableM] at ht
  | cons s r ih =>
    intro a t ht
    simp only [pathTableM, List.mem_append] at ht
    rcases ht with ht | ht
    · exact advTable_ge hs0 _ a t ht
    · exact le_trans (le_lastAdv hs0 a _).1 (ih _ t ht)

/-- **monotone along the whole path** (kept points) -/
theorem pathTableM_sorted (hs0 : ∀ x : K, 0 ≤ x → 0 ≤ Transc.sqrt x) (thr : K) :
    ∀ (subs : List (SubM K)) (a : K), ((pathTableM thr a subs).map (·.2.2)).Pairwise (· ≤ ·) := by
  intro subs
  induction subs with
  | nil => intro a; simp [pathTableM]
  | cons s r ih =>
    intro a
    simp only [pathTableM, List.map_append, List.pairwise_append]
    refine ⟨advTable_sorted hs0 _ a, ih _, ?_⟩
    intro x hx y hy
    simp only [List.mem_map] at hx hy
    obtain ⟨t, ht, rfl⟩ := hx
    obtain ⟨u, hu, rfl⟩ := hy
    exact le_trans ((le_lastAdv hs0 a _).2 t ht) (pathTableM_ge hs0 thr r _ u hu)

end AdvField

/-! ## §2 curves -/

section Curves
variable {α : Type} [Scalar α] [Transc α]

/-- **the window accumulates the flattened chord lengths** (fixed width; `flattened_step` or the
ordinary join, whichever `fixed_width_step_impl` takes): the window holds `a, b` (`b` the point the
curve starts at, its advancement pending or already `a.advancement + |b − a|`); feeding endpoints
`l` that wait for their advancement and are not merged leaves `a', b'` with `b'` at the last point
fed and `a'.advancement + |b' − a'| = chordSum (a.advancement + |b − a|) b (positions of l)`: the
advancement of the point the curve starts at plus the sum of the chord lengths — the value the
curve's end point gets as soon as it is the middle of a join or the end of the sub-path -/
theorem curve_window_advancement {e : Env α} (hnan : Transc.isNaN (nan : α) = true) (l : List (EP α))
    (st : St α) (a b : EP α) (hwf : WF st.buf) (hab : st.buf.lastTwo = some (a, b))
    (hadv : b.advancement = nan ∨ b.advancement = a.advancement + len (b.position - a.position))
    (hl : ∀ q ∈ l, q.advancement = nan) (hap : ApartL e.thr b.position (l.map (·.position))) :
    ∃ a' b', (l.foldl (fun s q => (fwStep e s q).1) st).buf.lastTwo = some (a', b')
      ∧ b'.position = (b.position :: l.map (·.position)).getLast (by simp)
      ∧ a'.advancement + len (b'.position - a'.position)
          = chordSum (a.advancement + len (b.position - a.position)) b.position (l.map (·.position)) := by
  obtain ⟨a', b', g1, _, _, g4, g5⟩ := feed_adv_any hnan l st a b hwf hab hadv hl hap
  exact ⟨a', b', g1, g4, g5⟩

variable [FlatConst α]

/-- the endpoints a quadratic contributes wait for their advancement -/
theorem quadPoints_adv_nan {q : Quad α} {tol : α} {a b : Nat} {hwAt : α → α} {lj : LineJoin} {l : List (EP α)}
    (h : quadPoints q tol a b hwAt lj = some l) : ∀ x ∈ l, x.advancement = nan := by
  intro x hx
  obtain ⟨_, _, _, rfl⟩ := quadPoints_mem h x hx
  rfl

/-- … and so do those of a cubic -/
theorem cubicPoints_adv_nan {q : Cubic α} {tol : α} {a b : Nat} {hwAt : α → α} {lj : LineJoin} {l : List (EP α)}
    (h : cubicPoints q tol a b hwAt lj = some l) : ∀ x ∈ l, x.advancement = nan := by
  intro x hx
  obtain ⟨_, _, _, rfl⟩ := cubicPoints_mem h x hx
  rfl

end Curves

section CurvesField
variable {K : Type} [Field K] [LinearOrder K] [IsStrictOrderedRing K] [Transc K]

/-- one more chord adds its length -/
theorem chordSum_snoc (a : K) : ∀ (l : List (P K)) (p q : P K),
    chordSum a p (l ++ [q]) = chordSum a p l + len (q - (p :: l).getLast (by simp)) := by
  intro l
  induction l generalizing a with
  | nil => intro p q; simp [chordSum]
  | cons x xs ih =>
    intro p q
    simp only [List.cons_append, chordSum]
    rw [ih]
    simp

/-- **monotone along the curve**: with `sqrt ≥ 0` the accumulated advancement never decreases -/
theorem chordSum_ge (hs0 : ∀ x : K, 0 ≤ x → 0 ≤ Transc.sqrt x) :
    ∀ (l : List (P K)) (a : K) (p : P K), a ≤ chordSum a p l := by
  intro l
  induction l with
  | nil => intro a p; exact le_refl _
  | cons x xs ih =>
    intro a p
    exact le_trans (le_add_of_nonneg_right (len_nonneg hs0 _)) (ih _ x)

end CurvesField

section Examples
open Lyon.C05d (toyNaN)
attribute [local instance] toyNaN toyAsin toyFlat

/-- a path whose first sub-path has a point within the merge threshold of the one before it
(`(3,4)` then `(3, 4 + 1/1000)`), and whose second sub-path collapses to a single point -/
def exSubsM : List (SubM ℚ) :=
  [⟨0, ⟨0, 0⟩, [(1, ⟨3, 4⟩), (2, ⟨3, 4 + 1 / 1000⟩), (3, ⟨3, 10⟩)]⟩, ⟨4, ⟨7, 7⟩, [(5, ⟨7, 7⟩)]⟩]

example : (pathTableM (1 / 200 : ℚ) 0 exSubsM).map (fun t => (t.1, t.2.2)) = [(0, 0), (1, 5), (3, 11), (4, 11)] := by
  decide +kernel

example : chordSum (0 : ℚ) ⟨0, 0⟩ [⟨3, 4⟩, ⟨3, 10⟩, ⟨11, 16⟩] = 21 := by decide +kernel

end Examples

end Lyon.C05g
