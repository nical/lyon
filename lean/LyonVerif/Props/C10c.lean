/-
  C10 (part c) — the inverse queries of a line segment are consistent with evaluation.

  `LineSegment::solve_t_for_x / solve_t_for_y` (crates/geom/src/line.rs) are the operations the
  sweep (fill.rs) and, through `solve_x_for_y`, the hatcher use to go from a coordinate back to a
  parameter; the model functions `Seg.solveTForX / solveTForY` (Model/Geom/Basic.lean) are the ones the
  C10 driver runs bit for bit against lyon (token group `solve` of the `seg` family).  The sweep's model
  has a copy of its own on two points, `Sources.solveTForX / solveTForY` (Model/Tess/Sources.lean), with
  lemmas of its own (Lemmas/SweepPosSplit.lean, Props/C07.lean); the clipper's functions of the same name
  (Model/Geom/Clip.lean) are cubic solvers.  The statements are for ALL segments and ALL coordinates /
  parameters over any linearly ordered field:

  * on a segment that is not vertical, `x (solve_t_for_x x) = x` for every x (no range restriction)
    and `solve_t_for_x (x t) = t` for every t: the two maps are mutually inverse, so the parameter
    returned is the unique one whose sample has that abscissa;
  * on a vertical segment (the guarded branch `dx == 0`) the answer is the parameter 0 — stated
    outright, not hidden behind `x / 0 = 0`;
  * the same for y; and the composition used by `solve_y_for_x`: the sampled point at the solved
    parameter has abscissa x and lies on the segment's supporting line;
  * the solved parameter is in [0, 1] exactly when the coordinate lies between the end points
    (stated for x, in both directions of the segment).
-/
import LyonVerif.Props.C10


namespace Lyon.C10
open Lyon Scalar

variable {K : Type} [Field K] [LinearOrder K] [IsStrictOrderedRing K]

theorem seg_solve_t_for_x_eq (s : Seg K) (x : K) (h : s.b.x ≠ s.a.x) :
    s.solveTForX x = (x - s.a.x) / (s.b.x - s.a.x) := by
  have hne : s.b.x - s.a.x ≠ 0 := sub_ne_zero.mpr h
  unfold Seg.solveTForX
  simp only []
  rw [if_neg (fun hh => hne ((sc_beq_zero _).mp hh))]

theorem seg_solve_t_for_y_eq (s : Seg K) (y : K) (h : s.b.y ≠ s.a.y) :
    s.solveTForY y = (y - s.a.y) / (s.b.y - s.a.y) := by
  have hne : s.b.y - s.a.y ≠ 0 := sub_ne_zero.mpr h
  unfold Seg.solveTForY
  simp only []
  rw [if_neg (fun hh => hne ((sc_beq_zero _).mp hh))]

/-- the guarded branch: a vertical segment answers parameter 0 for every abscissa -/
theorem seg_solve_t_for_x_vertical (s : Seg K) (x : K) (h : s.b.x = s.a.x) :
    s.solveTForX x = 0 := by
  unfold Seg.solveTForX
  simp only []
  rw [if_pos ((sc_beq_zero _).mpr (sub_eq_zero.mpr h)), sc_zero_eq]

theorem seg_solve_t_for_y_horizontal (s : Seg K) (y : K) (h : s.b.y = s.a.y) :
    s.solveTForY y = 0 := by
  unfold Seg.solveTForY
  simp only []
  rw [if_pos ((sc_beq_zero _).mpr (sub_eq_zero.mpr h)), sc_zero_eq]

/-- `x(solve_t_for_x(x)) = x`: the returned parameter does locate the abscissa (every x) -/
theorem seg_x_solve_t_for_x (s : Seg K) (x : K) (h : s.b.x ≠ s.a.x) :
    s.x (s.solveTForX x) = x := by
  rw [seg_solve_t_for_x_eq s x h]
  unfold Seg.x
  rw [sc_one_eq]
  exact (Hull.lerp_solve (sub_ne_zero.mpr h) x 0).1

theorem seg_y_solve_t_for_y (s : Seg K) (y : K) (h : s.b.y ≠ s.a.y) :
    s.y (s.solveTForY y) = y := by
  rw [seg_solve_t_for_y_eq s y h]
  unfold Seg.y
  rw [sc_one_eq]
  exact (Hull.lerp_solve (sub_ne_zero.mpr h) y 0).1

/-- `solve_t_for_x(x(t)) = t`: together with the previous one, the two maps are mutually inverse -/
theorem seg_solve_t_for_x_x (s : Seg K) (t : K) (h : s.b.x ≠ s.a.x) :
    s.solveTForX (s.x t) = t := by
  rw [seg_solve_t_for_x_eq s _ h]
  unfold Seg.x
  rw [sc_one_eq]
  exact (Hull.lerp_solve (sub_ne_zero.mpr h) 0 t).2

theorem seg_solve_t_for_y_y (s : Seg K) (t : K) (h : s.b.y ≠ s.a.y) :
    s.solveTForY (s.y t) = t := by
  rw [seg_solve_t_for_y_eq s _ h]
  unfold Seg.y
  rw [sc_one_eq]
  exact (Hull.lerp_solve (sub_ne_zero.mpr h) 0 t).2

theorem seg_solve_t_for_x_unique (s : Seg K) (x t : K) (h : s.b.x ≠ s.a.x) (ht : s.x t = x) :
    s.solveTForX x = t := by
  rw [← ht]; exact seg_solve_t_for_x_x s t h

theorem seg_solve_t_for_y_unique (s : Seg K) (y t : K) (h : s.b.y ≠ s.a.y) (ht : s.y t = y) :
    s.solveTForY y = t := by
  rw [← ht]; exact seg_solve_t_for_y_y s t h

theorem seg_solve_t_for_x_unit_iff (s : Seg K) (x : K) (h : s.a.x < s.b.x) :
    (0 ≤ s.solveTForX x ∧ s.solveTForX x ≤ 1) ↔ (s.a.x ≤ x ∧ x ≤ s.b.x) := by
  rw [seg_solve_t_for_x_eq s x h.ne', Hull.param_unit_iff h.ne, min_eq_left h.le, max_eq_right h.le]

theorem seg_solve_t_for_x_unit_iff_rev (s : Seg K) (x : K) (h : s.b.x < s.a.x) :
    (0 ≤ s.solveTForX x ∧ s.solveTForX x ≤ 1) ↔ (s.b.x ≤ x ∧ x ≤ s.a.x) := by
  rw [seg_solve_t_for_x_eq s x h.ne, Hull.param_unit_iff h.ne', min_eq_right h.le, max_eq_left h.le]

/-- `solve_y_for_x` = `y(solve_t_for_x(x))`: the point it denotes has abscissa x and is the
sample at the solved parameter (so it lies on the supporting line of the segment) -/
theorem seg_solve_y_for_x_on_line (s : Seg K) (x : K) (h : s.b.x ≠ s.a.x) :
    (s.sample (s.solveTForX x)).x = x ∧ (s.sample (s.solveTForX x)).y = s.y (s.solveTForX x) := by
  exact ⟨by rw [← (seg_xy_components s _).1, seg_x_solve_t_for_x s x h], (seg_xy_components s _).2.symm⟩

/-! non-vacuity: a concrete slanted segment meets the hypotheses and the laws compute -/
example : (⟨⟨1, 2⟩, ⟨5, 4⟩⟩ : Seg ℚ).b.x ≠ (⟨⟨1, 2⟩, ⟨5, 4⟩⟩ : Seg ℚ).a.x := by norm_num
example : (⟨⟨1, 2⟩, ⟨5, 4⟩⟩ : Seg ℚ).solveTForX 2 = 1 / 4 := by
  rw [seg_solve_t_for_x_eq _ _ (by norm_num)]; norm_num
example : (⟨⟨1, 2⟩, ⟨1, 4⟩⟩ : Seg ℚ).solveTForX 7 = 0 :=
  seg_solve_t_for_x_vertical _ _ rfl

end Lyon.C10
