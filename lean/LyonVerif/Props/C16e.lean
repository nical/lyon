/-
  C16e — with the concrete flatteners of lyon_geom (`Model/Path/AdaptersConcrete.lean`):

  1. `flatten_cubic_within_tolerance_concrete`: the tolerance clause for every CUBIC of a
     flattened path, from C09b: the adapter emits, for the cubic event `(a, c1, c2, b)` of the
     original path (a = the true previous endpoint), lyon_geom's flattening `l` of that cubic at
     the adapter's tolerance, and
       * PROVED (no hypothesis on the curve): the quadratic pieces `for_each_quadratic_bezier`
         chooses are each within `0.4·tol` of the cubic over their range and cover `[0, 1]`
         (`cubic_quads_within_split_tolerance`; laws `CubicLaws`, count below 2³²);
       * REMAINING hypothesis, exactly one: each quadratic piece's own flattening at `0.6·tol` is
         within `tolq` of the piece (`hq`) — then every point of the cubic is within
         `tolq + 0.4·tol` of `l`; or, per input, the verified certificate `Cubic.flatCert tol`
         `≤ k²` — then within `k·0.6·tol + 0.4·tol` (`k = 1`: the property's clause).  `hq` with
         `tolq = 0.6·tol` is C09's named gap (Levien's step estimate, finding approx-integral).
     (Arcs reach a `PathBuilder` as quadratics — `WithSvg::arc_to` — or cubics — `add_circle`,
     `add_ellipse`, `add_rounded_rectangle`, `Props/C16d.lean` — so through `Flattened` the clause
     is relative to those curves, not to the true arc: C15/C09b.)
  2. `flatten_transform_reflection_concrete`: orientation-REVERSING similarities (mirror images):
     `Transformed` then `Flattened` at `s·tol` = `Flattened` at `tol` then `Transformed`, call for
     call, provided the sign test `(parabola_from < 0) == (parabola_to < 0)` of
     `FlatteningParameters::new` is symmetric for every quadratic met (`reflGenericRun`: it is
     unless exactly one of the two parameters is 0).  At 0 it is not:
     `flatten_reflection_asymmetric_at_zero` (the two count estimates).
  3. `quad_t_increasing_kernel_instance`, `cubic_t_increasing_kernel_instance`: the
     t-monotonicity theorems applied to flattenings COMPUTED IN THE KERNEL (4 resp. 8 callbacks)
     with computable non-field functions satisfying the assumed laws.
-/
import LyonVerif.Props.C16c
import LyonVerif.Props.C09b
import LyonVerif.Lemmas.AdaptersConcreteSim
import LyonVerif.Lemmas.AdaptersConcreteKernel
import LyonVerif.Lemmas.AdaptersConcreteReal

set_option linter.unusedSectionVars false

namespace Lyon.C16
open Lyon Lyon.Path Lyon.Adapt Scalar Lyon.Flat

section field
variable {K : Type} [Field K] [LinearOrder K] [IsStrictOrderedRing K] [Transc K] [FlatConst K]

theorem flatten_cubic_within_tolerance_concrete (L : CubicLaws K) (tol : K)
    (htol : 0 < tol * FlatConst.value 4 1) (o : P K) (n : Nat)
    (prog out : List (Call (P K) (List K))) (hn : WellNested prog)
    (h : flatBuilderC tol o n prog = some out) (a c1 c2 b : P K)
    (hev : Event.cubic a c1 c2 b ∈ specEvents prog)
    (hlt : (⟨a, c1, c2, b⟩ : Cubic K).numQuadraticsImpl (tol * FlatConst.value 4 1) < 4294967296) :
    ∃ l : List (FlatSeg K), Cubic.forEachFlattenedWithT ⟨a, c1, c2, b⟩ tol = some l ∧
      (cbPoints (cbModel tol)).cubic a c1 c2 b = l.map (·.b) ∧
      -- the split into quadratics: proved
      ((∀ p ∈ (⟨a, c1, c2, b⟩ : Cubic K).forEachQuadraticWithT (tol * FlatConst.value 4 1),
          ∀ u : K, 0 ≤ u → u ≤ 1 →
          ((⟨a, c1, c2, b⟩ : Cubic K).sample (p.2.1 + u * (p.2.2 - p.2.1)) - p.1.sample u).sqLen
            ≤ (tol * FlatConst.value 4 1) * (tol * FlatConst.value 4 1)) ∧
       (∀ t : K, 0 ≤ t → t ≤ 1 →
          ∃ p ∈ (⟨a, c1, c2, b⟩ : Cubic K).forEachQuadraticWithT (tol * FlatConst.value 4 1),
          ∃ u : K, 0 ≤ u ∧ u ≤ 1 ∧ t = p.2.1 + u * (p.2.2 - p.2.1))) ∧
      -- given the per-quadratic bound `tolq`: the whole cubic within `tolq + 0.4·tol`
      (∀ tolq : K, 0 ≤ tolq →
        (∀ p ∈ (⟨a, c1, c2, b⟩ : Cubic K).forEachQuadraticWithT (tol * FlatConst.value 4 1), ∀ lq,
          p.1.forEachFlattenedWithT (tol * FlatConst.value 6 1) = some lq →
          ∀ u : K, 0 ≤ u → u ≤ 1 → ∃ sg ∈ lq, ∃ s : K, 0 ≤ s ∧ s ≤ 1 ∧
            (p.1.sample u - sg.a.lerp sg.b s).sqLen ≤ tolq * tolq) →
        ∀ t : K, 0 ≤ t → t ≤ 1 → ∃ sg ∈ l, ∃ s : K, 0 ≤ s ∧ s ≤ 1 ∧
          ((⟨a, c1, c2, b⟩ : Cubic K).sample t - sg.a.lerp sg.b s).sqLen
            ≤ (tolq + tol * FlatConst.value 4 1) * (tolq + tol * FlatConst.value 4 1)) ∧
      -- given the verified certificate: within `k·0.6·tol + 0.4·tol`
      (∀ k : K, 0 ≤ k → 0 < tol * FlatConst.value 6 1 → ∀ r : Bool × K,
        (⟨a, c1, c2, b⟩ : Cubic K).flatCert tol = some r → r.2 ≤ k * k →
        ∀ t : K, 0 ≤ t → t ≤ 1 → ∃ sg ∈ l, ∃ s : K, 0 ≤ s ∧ s ≤ 1 ∧
          ((⟨a, c1, c2, b⟩ : Cubic K).sample t - sg.a.lerp sg.b s).sqLen
            ≤ (k * (tol * FlatConst.value 6 1) + tol * FlatConst.value 4 1)
              * (k * (tol * FlatConst.value 6 1) + tol * FlatConst.value 4 1)) := by
  have hok := (flatBuilderC_some h).1
  rw [cbOkRun_eq, curvesMet_spec none prog hn o (by simp), List.all_eq_true] at hok
  have hq := hok _ (mem_curvesOf_cubic hev)
  simp only [cbOk, cbOkCubic, Option.isSome_iff_exists] at hq
  obtain ⟨l, hl⟩ := hq
  have hceil : ∀ x : K, x ≤ Transc.ceil x := L.le_ceil
  have hpow := L.pow_sixth
    ((((b - c2.smul 3) + c1.smul 3) - a).sqLen
      / (432 * (tol * FlatConst.value 4 1) * (tol * FlatConst.value 4 1)))
    (div_nonneg (P.sqLen_nonneg _) (by positivity))
  have hcast := numQuadratics_cast L.toNat_natCast L.ceil_int ⟨a, c1, c2, b⟩ (tol * FlatConst.value 4 1) hlt
  refine ⟨l, hl, by simp [cbPoints, cbModel, hl, segOf, Function.comp_def], ?_, ?_, ?_⟩
  · exact C09.cubic_quads_within_split_tolerance ⟨a, c1, c2, b⟩ _ htol hceil hpow hcast
  · intro tolq htq hq t ht0 ht1
    exact C09.cubic_flat_within_tolerance_of_quad_flattening ⟨a, c1, c2, b⟩ tol tolq l hl htq htol
      hceil hpow hcast hq t ht0 ht1
  · intro k hk ht6 r hr hrk t ht0 ht1
    exact C09.cubic_flat_within_tolerance_of_certificate ⟨a, c1, c2, b⟩ tol k l hl hk htol ht6
      hceil hpow hcast r hr hrk t ht0 ht1

/-- the sign test of `FlatteningParameters::new` is symmetric for every quadratic the
builder-side adapter flattens (quadratic calls, and the quadratic approximations of cubic
calls), starting from `current_position = cur` -/
def reflGenericRun (tol : K) : P K → List (Call (P K) (List K)) → Prop
  | _, [] => True
  | _, .begin p _ :: r => reflGenericRun tol p r
  | _, .line p _ :: r => reflGenericRun tol p r
  | cur, .quad c p _ :: r =>
    ParabolaGeneric (parabolaFromOf ⟨cur, c, p⟩) (parabolaToOf ⟨cur, c, p⟩) ∧ reflGenericRun tol p r
  | cur, .cubic c1 c2 p _ :: r =>
    QuadsGeneric ((⟨cur, c1, c2, p⟩ : Cubic K).forEachQuadraticWithT (tol * FlatConst.value 4 1))
      ∧ reflGenericRun tol p r
  | cur, .end_ _ :: r => reflGenericRun tol cur r

theorem reflGenericRun_iff (tol : K) (cur : P K) (prog : List (Call (P K) (List K))) :
    reflGenericRun tol cur prog ↔ ∀ k ∈ curvesMet cur prog,
      GenericCb (fun q => ParabolaGeneric (parabolaFromOf q) (parabolaToOf q)) tol k := by
  induction prog generalizing cur with
  | nil => simp only [reflGenericRun, curvesMet, List.not_mem_nil, false_imp_iff, implies_true]
  | cons c r ih =>
    cases c <;> simp only [reflGenericRun, curvesMet, List.forall_mem_cons, GenericCb, ih] <;> rfl

/-- for an orientation-REVERSING similarity `m` of
scale `s` (`m = [[a, b], [b, −a]] + translation`): `builder.flattened(s·tol).transformed(m)` hands
down exactly the transformed calls of `builder.transformed(m).flattened(tol)` (and panics iff it
does), for every program on which the flattener's sign test is symmetric (`reflGenericRun`). -/
theorem flatten_transform_reflection_concrete (hsq : SqrtScales K) (m : Xf K) (s : K)
    (hm : IsSimNeg m s) (tol : K) (o : P K) (n : Nat) (prog : List (Call (P K) (List K)))
    (hg : reflGenericRun tol o prog) :
    flatBuilderC (s * tol) (m.apply o) n (xfBuilder m.apply prog)
      = (flatBuilderC tol o n prog).map (xfBuilder m.apply) :=
  flatBuilderC_xf (hm.flatCommutes hsq) tol o n prog ((reflGenericRun_iff tol o prog).1 hg)

/-- why `reflGenericRun` is needed.  A quadratic that
starts at the vertex of its parabola (`parabola_from = 0 < parabola_to`; e.g.
`from (0,0) ctrl (1,0) to (2,1)`) gets the estimate `½·|Δ|·sqrt(scale/tol)`; its mirror image
(`−0`, `−parabola_to`) fails the test `(0 < 0) == (−pt < 0)` and gets the cusp estimate
`½·|Δ| / approx_parabola_integral(sqrt(tol/scale))` — a different real number in general, so the
counts may differ (in f32: 2 vs 3 segments at tolerance 0.0573 for the example). -/
theorem flatten_reflection_asymmetric_at_zero (pt d sc tol : K) (hpt : 0 < pt) :
    FlatParams.countEstimate 0 pt d sc tol = half * Scalar.abs d * Transc.sqrt (sc / tol) ∧
    FlatParams.countEstimate (-0) (-pt) (-d) sc tol
      = half * Scalar.abs d / approxParabolaIntegral (Transc.sqrt (tol / sc)) ∧
    ¬ ParabolaGeneric (0 : K) pt :=
  ⟨by simp [FlatParams.countEstimate, not_lt.mpr (le_of_lt hpt)],
   by simp [FlatParams.countEstimate, hpt, sc_abs], by
    unfold ParabolaGeneric
    simp [hpt, not_lt.mpr (le_of_lt hpt)]⟩

end field

/-- `from (0,0) ctrl (1,1) to (2,0)` at tolerance 1/8 with
the computable functions `kTransc` (which satisfy `SqrtLaws`, `CeilLaws`): the flattener, RUN IN
THE KERNEL, makes four callbacks with these `t.end`s — and `quad_flat_t_increasing` applies to
exactly that run: the list is increasing from 0 and ends with 1. -/
theorem quad_t_increasing_kernel_instance :
    ∃ l, @Quad.forEachFlattenedWithT ℚ fieldScalar kTransc kConst ⟨⟨0, 0⟩, ⟨1, 1⟩, ⟨2, 0⟩⟩ (1 / 8)
        = some l ∧
      l.map (·.t1) = [37828146494727661061 / 132562585978910644244, 1 / 2,
        94734439484182983183 / 132562585978910644244, 1] ∧
      IncrFrom 0 (l.map (·.t1)) ∧ (l.map (·.t1)).getLastD 0 = 1 := by
  have h := kQuad_ts
  cases hl : @Quad.forEachFlattenedWithT ℚ fieldScalar kTransc kConst ⟨⟨0, 0⟩, ⟨1, 1⟩, ⟨2, 0⟩⟩ (1 / 8) with
  | none => rw [hl] at h; cases h
  | some l =>
    rw [hl] at h
    have hm : l.map (·.t1) = _ := Option.some.inj h
    obtain ⟨h1, h2⟩ := @quad_flat_t_increasing ℚ _ _ _ kTransc kConst kSqrtLaws kCeilLaws _ _ l hl
    exact ⟨l, rfl, hm, h1, h2⟩

/-- `from (0,0) ctrl (1,3) (3,3) to (4,0)` at tolerance
1/5: eight callbacks (computed in the kernel), their `t` increasing from 0, ending with 1 -/
theorem cubic_t_increasing_kernel_instance :
    ∃ l, @Cubic.forEachFlattenedWithT ℚ fieldScalar kTransc kConst
        ⟨⟨0, 0⟩, ⟨1, 3⟩, ⟨3, 3⟩, ⟨4, 0⟩⟩ (1 / 5) = some l ∧ l.length = 8 ∧
      IncrFrom 0 (l.map (·.t1)) ∧ (l.map (·.t1)).getLastD 0 = 1 := by
  have h := kCubic_ts
  cases hl : @Cubic.forEachFlattenedWithT ℚ fieldScalar kTransc kConst
      ⟨⟨0, 0⟩, ⟨1, 3⟩, ⟨3, 3⟩, ⟨4, 0⟩⟩ (1 / 5) with
  | none => rw [hl] at h; cases h
  | some l =>
    rw [hl] at h
    have hm : l.length = 8 := Option.some.inj h
    obtain ⟨h1, h2⟩ := @cubic_flat_t_increasing ℚ _ _ _ kTransc kConst kSqrtLaws kCeilLaws _ _ l hl
    exact ⟨l, rfl, hm, h1, h2⟩

/-! ## Non-vacuity of the hypotheses (over ℝ with the genuine `sqrt`, `powf`, `ceil`, `floor`) -/

section Examples
attribute [local instance 2000] fieldScalar

/-- hypotheses of `flatten_cubic_within_tolerance_concrete` on the program `exProgC` (a cubic
with two attributes): the laws, the tolerance, a cubic event of the path, the count below 2³² -/
example : @CubicLaws ℝ _ _ _ exRealTransc exRealConst
    ∧ (0 : ℝ) < 1 / 10 * @FlatConst.value ℝ exRealConst 4 1
    ∧ WellNested exProgC
    ∧ (∃ out, @flatBuilderC ℝ _ exRealTransc exRealConst (1 / 10) ⟨0, 0⟩ 2 exProgC = some out)
    ∧ Event.cubic (⟨0, 0⟩ : P ℝ) ⟨0, 0⟩ ⟨0, 0⟩ ⟨0, 0⟩ ∈ specEvents exProgC
    ∧ @Cubic.numQuadraticsImpl ℝ _ exRealTransc (⟨⟨0, 0⟩, ⟨0, 0⟩, ⟨0, 0⟩, ⟨0, 0⟩⟩ : Cubic ℝ)
        ((1 / 10 : ℝ) * @FlatConst.value ℝ exRealConst 4 1) < 4294967296 := by
  refine ⟨real_cubicLaws, ?_, by simp [exProgC, WellNested, wellNestedFrom], exBuilderOkC,
    by simp [exProgC, specEvents, specFrom], ?_⟩
  · show (0 : ℝ) < 1 / 10 * (((4 : ℕ) : ℝ) / 10 ^ 1); norm_num
  · rw [exNumQuadratics]; norm_num

/-- hypotheses of `flatten_keeps_endpoints_concrete_any` (at a field the per-curve hypothesis is a
theorem; the statement is aimed at `Float32`, where it holds of finite coordinates) -/
example : (((one : ℝ)) == one) = true
    ∧ cubicSampleOk (⟨0, 0⟩ : P ℝ) exProgC
    ∧ ∃ out, @flatBuilderC ℝ _ exRealTransc exRealConst (1 / 10) ⟨0, 0⟩ 2 exProgC = some out :=
  ⟨exOne, by let _ := exRealTransc; let _ := exRealConst; exact cubicSampleOk_field _ _, exBuilderOkC⟩

/-- hypotheses of `flatten_transform_reflection_concrete`: the `sqrt` law, a mirror map of scale
5, and the program `exProg` — for its quadratic `(0,0) (1,1/8) (2,0)`: `parabola_from = 1/16`,
`parabola_to = −1/16`, both away from 0 -/
example : @SqrtScales ℝ _ _ _ exRealTransc ∧ IsSimNeg (⟨3, 4, 4, -3, 1, 2⟩ : Xf ℝ) 5
    ∧ @reflGenericRun ℝ _ _ exRealTransc exRealConst (1 / 10) ⟨0, 0⟩ exProg := by
  refine ⟨real_sqrtScales, exSimNeg, ?_⟩
  let _ := exRealTransc; let _ := exRealConst
  simp only [exProg, reflGenericRun, and_true]
  apply parabolaGeneric_of_ne
  · simp only [parabolaFromOf, ddOf, FlatParams.flatCross, geom]; norm_num
  · simp only [parabolaToOf, ddOf, FlatParams.flatCross, geom]; norm_num

/-- hypothesis of `flatten_reflection_asymmetric_at_zero` -/
example : (0 : ℚ) < 1 / 2 := by norm_num

end Examples

end Lyon.C16
