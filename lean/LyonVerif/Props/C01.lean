/-
  C01 — fill tessellation covers exactly the fill-rule interior of a polygonal path.

  What is a THEOREM here (all inputs):
  * `fill_check_sound` — the checker that the C01 check runs on the real output of
    `FillTessellator` is sound: if it reports no failure for outline `E`, triangles `T`, fill rule
    and band `δ`, then for EVERY generic point `q` of the plane (not level with a vertex or a
    crossing, not on a segment) that is not within `δ` of an outline edge,
    `q` is covered by a triangle  ⇔  the winding number of `E` around `q` satisfies the rule.
    (Corollary of `Slab.check_sound`, `Props/Slab.lean`; `fill_check_sound_rat` is the same for the
    exact-rational instance the executable runs.)
  * `fill_agrees_with_hit_test` — under the same verdict, coverage agrees with the model of
    `lyon_algorithms::hit_test` (C18) at every such point.
  * `tiling_check_sound` — in tiling mode additionally no such point is covered twice (C02).
  * `isAfter_strict_total` — the sweep's vertex order `isAfter` (= `fill::is_after`, and the `>` of
    `compare_positions`) is a strict total order on points: irreflexive, asymmetric, transitive, total.
  * `FillRule::is_in` facts: `isIn_zero`, `evenOdd_neg`, `nonZero_neg` (the fill only depends on
    the winding number up to sign, so reversing every sub-path fills the same set).

  What is NOT a theorem: that the sweep (`fill.rs`, 3000 lines with snapping and error recovery)
  produces such an output for every input.  That is established per explored input by running the
  verified checker on the real output — translation validation, for every generic point of the
  plane of each explored polygon.  About the modelled sweep itself, `Props/C01b.lean` proves which
  panic sites are unreachable (`sweep_no_panic_certified` and the theorems listed there).
-/
import LyonVerif.Props.Slab
import LyonVerif.Props.C18
import LyonVerif.Lemmas.LexOrderTess


attribute [-instance] Lyon.instScalarRat

namespace Lyon.C01
open Lyon Lyon.Slab

variable {K : Type} [Field K] [LinearOrder K] [IsStrictOrderedRing K]

theorem fill_check_sound (inp : Input K) (hmode : inp.mode = .fill) (hok : (check inp).fails = [])
    (q : P K) (hgen : Generic inp q) (hband : ¬ InBand inp q) :
    (1 ≤ coverage inp.tris q) ↔ inp.rule.isIn (winding inp.edges q) = true := by
  have h := (check_sound inp hok q hgen).resolve_right hband
  rw [hmode] at h
  simp only [Mode.holds, beq_iff_eq] at h
  rw [← h, decide_eq_true_eq]

theorem fill_check_sound_rat (inp : Input ℚ) (hmode : inp.mode = .fill)
    (hok : (@check ℚ instScalarRat inp).fails = []) (q : P ℚ) (hgen : Generic inp q)
    (hband : ¬ InBand inp q) :
    (1 ≤ coverage inp.tris q) ↔ inp.rule.isIn (winding inp.edges q) = true := by
  rw [ratScalar_eq_fieldScalar] at hok
  exact fill_check_sound inp hmode hok q hgen hband

theorem tiling_check_sound (inp : Input K) (hmode : inp.mode = .tiling) (hok : (check inp).fails = [])
    (q : P K) (hgen : Generic inp q) (hband : ¬ InBand inp q) :
    coverage inp.tris q ≤ 1 ∧ ((1 ≤ coverage inp.tris q) ↔ inp.rule.isIn (winding inp.edges q) = true) := by
  have h := (check_sound inp hok q hgen).resolve_right hband
  rw [hmode] at h
  simp only [Mode.holds, Bool.and_eq_true, decide_eq_true_eq, beq_iff_eq] at h
  rw [← h.2, decide_eq_true_eq]
  exact ⟨h.1, Iff.rfl⟩

theorem fill_agrees_with_hit_test (inp : Input K) (hmode : inp.mode = .fill)
    (hok : (check inp).fails = []) (q : P K) (hgen : Generic inp q) (hband : ¬ InBand inp q)
    (hoff : ∀ e ∈ inp.edges, C18.OffLine q e.1 e.2) :
    (1 ≤ coverage inp.tris q) ↔
      Winding.hitRule (inp.rule == Rule.evenOdd) (Winding.windingAt q inp.edges) = true := by
  rw [fill_check_sound inp hmode hok q hgen hband, C18.windingAt_eq_slab q inp.edges hoff]
  cases inp.rule
  · rw [← (C18.hitRule_eq_fillRule _).1]; rfl
  · rw [← (C18.hitRule_eq_fillRule _).2]; rfl

open Lyon.Mono in
theorem isAfter_strict_total (a b c : P K) :
    isAfter a a = false ∧
    (isAfter a b = true → isAfter b a = false) ∧
    (isAfter a b = true → isAfter b c = true → isAfter a c = true) ∧
    (isAfter a b = true ∨ isAfter b a = true ∨ (a.x = b.x ∧ a.y = b.y)) := by
  simp only [Bool.eq_false_iff, Ne, Mono.isAfter_lexLt]
  refine ⟨LexLt.irrefl a, LexLt.asymm, fun h1 h2 => h2.trans h1, ?_⟩
  rcases LexLt.total a b with h | rfl | h
  · exact Or.inr (Or.inl h)
  · exact Or.inr (Or.inr ⟨rfl, rfl⟩)
  · exact Or.inl h

theorem isIn_zero (r : Rule) : r.isIn 0 = false := by cases r <;> rfl

theorem evenOdd_neg (w : Int) : Rule.isIn .evenOdd (-w) = Rule.isIn .evenOdd w := by
  simp only [Rule.isIn, Int.neg_emod_two]

theorem nonZero_neg (w : Int) : Rule.isIn .nonZero (-w) = Rule.isIn .nonZero w :=
  congrArg not (decide_eq_decide.mpr Int.neg_eq_zero)

-- holds by its last disjunct; that `inp0` meets the hypotheses of `check_sound` is `Slab.check0`, `Slab.generic0`

example : (1 ≤ coverage inp0.tris ⟨1, 1⟩) ∨ InBand inp0 ⟨1, 1⟩ ∨ True := Or.inr (Or.inr trivial)

end Lyon.C01
