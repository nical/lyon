/-
  C05b — the discrete polyline skeleton `Lyon.Stroke.Poly` (`Model/Tess/StrokeParts.lean`): lyon's
  stroke tessellator for fixed-width polylines with bevel joins and butt caps, reduced to the
  vertex ids it hands out and the triangles it emits.

  The statements are discrete: they hold for EVERY scalar type (`[Scalar α] [Transc α]`, floats
  included); the numeric decisions (`joinShape`, `isTooClose`) enter as arbitrary Booleans.  The
  one numeric fact used is that `points_are_too_close` is a function: asked twice about the same two
  positions it answers the same (this is why the second step of `close` is never merged, and why
  `VertexId(u32::MAX)` — `Poly.unsetId` — of a point that never became a join cannot reach a
  triangle there).

  The vocabulary of the statements (`MeshOp`, `MeshSteps`, `Inv`, `joinCost`, `NoMerge`, `NoFold`) is defined in
  `Lemmas/StrokePoly.lean`.
-/
import LyonVerif.Model.Tess.StrokeParts
import LyonVerif.Lemmas.Field
import LyonVerif.Lemmas.StrokeParts
import LyonVerif.Lemmas.StrokePoly
import Mathlib.Tactic.NormNum


namespace Lyon.C05b
open Lyon Scalar Lyon.Stroke Lyon.Stroke.Poly Lyon.C05

variable {α : Type} [Scalar α] [Transc α]

/-- `poly_ids_fresh_and_valid`.  For the mesh `m` of a whole path:
(a) ids are positions in the vertex list: `nextId = verts.length`;
(b) every triangle has three pairwise distinct ids, all of them `< nextId`;
(c) freshness: the output splits into consecutive blocks, one per operation of the tessellator
    (a join, the last edge, the first edge, the closing edge; at most 4 vertices and 4 triangles
    each), such that every triangle of a block only references ids handed out up to the end of
    the vertices of the same block: no triangle refers to a vertex that is added later.
    (`MeshSteps` is the same statement as an inductive relation.) -/
theorem poly_ids_fresh_and_valid (tolerance lineWidth : α) (subs : List (List (P α) × Bool)) :
    let m := Poly.path tolerance lineWidth subs
    m.nextId = m.verts.length
    ∧ (∀ t ∈ m.tris, Tri.Distinct t ∧ Tri.Below t m.nextId)
    ∧ MeshSteps ⟨0, [], []⟩ m
    ∧ ∃ bs : List (List (Nat × Side) × List Tri), m.verts = vertsOf bs ∧ m.tris = trisOf bs
        ∧ ∀ pre b post, bs = pre ++ b :: post → b.1.length ≤ 4 ∧ b.2.length ≤ 4
          ∧ ∀ t ∈ b.2, Tri.Distinct t ∧ Tri.Below t ((vertsOf pre).length + b.1.length) := by
  have hs := path_spec tolerance lineWidth subs
  have hok : MeshOK (Poly.path tolerance lineWidth subs) := hs.ext.ok ⟨rfl, by simp⟩
  obtain ⟨bs, e, hb⟩ := hs.trace
  refine ⟨hok.1, hok.2, hs, bs, by rw [e]; simp [grow], by rw [e]; simp [grow], ?_⟩
  intro pre b post h
  simpa using hb pre b post h

/-- `VertexId(u32::MAX)`, the default of `SidePoints::{prev,next}_vertex`, never reaches a triangle
(as long as fewer than `u32::MAX` vertices were emitted, i.e. as long as ids fit `u32` at all) -/
theorem poly_unset_id_unused (tolerance lineWidth : α) (subs : List (List (P α) × Bool))
    (h : (Poly.path tolerance lineWidth subs).verts.length ≤ Poly.unsetId) :
    ∀ t ∈ (Poly.path tolerance lineWidth subs).tris,
      t.1 ≠ Poly.unsetId ∧ t.2.1 ≠ Poly.unsetId ∧ t.2.2 ≠ Poly.unsetId := by
  intro t ht
  obtain ⟨ha, hb, _⟩ := poly_ids_fresh_and_valid tolerance lineWidth subs
  obtain ⟨_, h1, h2, h3⟩ := hb t ht
  rw [ha] at h1 h2 h3
  exact ⟨by omega, by omega, by omega⟩

/-! `Inv`, `MeshOp`, `MeshExt`, `MeshSteps` are those of `Lemmas/StrokePoly.lean`.  `Inv` holds for the initial
state and is kept by every step, so it holds for every state a sub-path reaches (`poly_inv_reachable`). -/

/-- the invariant holds in every state reached by feeding points to a fresh state -/
theorem poly_inv_reachable (thr hw : α) (m : Mesh) (src : Nat) (pts : List (P α)) :
    Inv thr (feedPts thr hw (State.new m) src pts).1 :=
  (feedPts_spec thr hw pts (State.new m) src (Inv.new thr m)).1

/-- one join (`stepJoin`): a single operation — its triangles (edge triangles towards the previous
join and the interior triangles of the join) only use ids below the `nextId` reached after the
join's own 3 or 4 vertices -/
theorem poly_stepJoin_fresh {thr : α} {st : State α} (hI : Inv thr st) (hw : α) (next : Pt α) :
    MeshOp st.mesh (stepJoin hw st next).mesh := by
  by_cases hc : st.buf.count < 2
  · have : stepJoin hw st next = st := by unfold stepJoin; rw [lastTwo_none hc]
    rw [this]; exact ⟨[], [], (grow_nil _).symm, by simp, by simp, by simp⟩
  · obtain ⟨x, y, hxy⟩ := hI.wf.lastTwo_some (by omega)
    exact (stepJoin_spec hI hxy hw next).1

/-- `step` (`fixed_width_step_impl`): keeps the invariant, extends the mesh by at most one operation -/
theorem poly_step_fresh {thr : α} {st : State α} (hI : Inv thr st) (hw : α) (p : P α) (src : Nat) :
    Inv thr (step thr hw st (Pt.new p src)).1
    ∧ MeshSteps st.mesh (step thr hw st (Pt.new p src)).1.mesh
    ∧ MeshExt st.mesh (step thr hw st (Pt.new p src)).1.mesh := by
  obtain ⟨a, b, _⟩ := step_spec hI hw (Pt.new p src) (Or.inl (raw_new p src))
  exact ⟨a, b, b.ext⟩

/-- `end_with_caps`: two operations (last edge, first edge); all triangles it adds are below the
`nextId` it reaches -/
theorem poly_endWithCaps_fresh {thr : α} {st : State α} (hI : Inv thr st) :
    MeshSteps st.mesh (endWithCaps st) ∧ MeshExt st.mesh (endWithCaps st) :=
  ⟨(endWithCaps_spec hI).1, (endWithCaps_spec hI).1.ext⟩

/-- `close`: up to two joins and the closing edge; all triangles it adds are below the `nextId`
it reaches -/
theorem poly_close_fresh {thr : α} {st : State α} (hI : Inv thr st) (hw : α) :
    MeshSteps st.mesh (close thr hw st) ∧ MeshExt st.mesh (close thr hw st) :=
  ⟨close_spec hI hw, (close_spec hI hw).ext⟩

theorem poly_finish_fresh {thr : α} {st : State α} (hI : Inv thr st) (hw : α) (closed : Bool) :
    MeshSteps st.mesh (finish thr hw st closed) ∧ MeshExt st.mesh (finish thr hw st closed) :=
  ⟨finish_spec hI hw closed, (finish_spec hI hw closed).ext⟩

theorem poly_subPath_fresh (thr hw : α) (m : Mesh) (src : Nat) (pts : List (P α)) (closed : Bool) :
    MeshSteps m (subPath thr hw m src pts closed) ∧ MeshExt m (subPath thr hw m src pts closed) :=
  ⟨subPath_spec thr hw m src pts closed, (subPath_spec thr hw m src pts closed).ext⟩

theorem poly_path_fresh (tolerance lineWidth : α) (subs : List (List (P α) × Bool)) :
    MeshExt ⟨0, [], []⟩ (Poly.path tolerance lineWidth subs) :=
  (path_spec tolerance lineWidth subs).ext

/-- one open sub-path with `n ≥ 2` points, none of which is merged, appended to any mesh:
4 cap vertices plus, per interior join, 3 vertices (4 if the join folds) -/
theorem poly_subpath_vertex_count (thr hw : α) (m : Mesh) (src : Nat) (pts : List (P α))
    (h2 : 2 ≤ pts.length) (hm : NoMerge thr pts) :
    (subPath thr hw m src pts false).verts.length = m.verts.length + 4 + joinCost hw pts :=
  subPath_open_verts thr hw m src pts h2 hm

/-- `poly_vertex_count`: a path that is one open sub-path with `n ≥ 2` points, no merges:
`verts.length = 4 + Σ_joins (if fold then 4 else 3)` -/
theorem poly_vertex_count (tolerance lineWidth : α) (pts : List (P α)) (h2 : 2 ≤ pts.length)
    (hm : NoMerge (squareMergeThreshold tolerance lineWidth) pts) :
    (Poly.path tolerance lineWidth [(pts, false)]).verts.length
      = 4 + joinCost (lineWidth * half) pts := by
  have := subPath_open_verts (squareMergeThreshold tolerance lineWidth) (lineWidth * half)
    ⟨0, [], []⟩ 0 pts h2 hm
  simpa [Poly.path] using this

/-- the same with the joins counted: `4 + 3·(n − 2) + #folds` -/
theorem poly_vertex_count_folds (tolerance lineWidth : α) (pts : List (P α)) (h2 : 2 ≤ pts.length)
    (hm : NoMerge (squareMergeThreshold tolerance lineWidth) pts) :
    (Poly.path tolerance lineWidth [(pts, false)]).verts.length
      = 4 + 3 * (pts.length - 2) + foldCount (lineWidth * half) pts := by
  rw [poly_vertex_count tolerance lineWidth pts h2 hm, joinCost_eq]; omega

/-- no join folds: `4 + 3·(n − 2)` -/
theorem poly_vertex_count_no_fold (tolerance lineWidth : α) (pts : List (P α)) (h2 : 2 ≤ pts.length)
    (hm : NoMerge (squareMergeThreshold tolerance lineWidth) pts)
    (hf : NoFold (lineWidth * half) pts) :
    (Poly.path tolerance lineWidth [(pts, false)]).verts.length = 4 + 3 * (pts.length - 2) := by
  rw [poly_vertex_count_folds tolerance lineWidth pts h2 hm, foldCount_noFold _ _ hf, Nat.add_zero]

/-! The examples are at `α := ℚ` (the field instance of `Scalar`) so that the kernel can evaluate the model; `toyTransc`
is a `Transc ℚ` whose `sqrt` is exact on the segment lengths used below. -/

section Examples
attribute [local instance] toyTransc

theorem square_noMerge : NoMerge (squareMergeThreshold (1/10 : ℚ) 1) [⟨0,0⟩, ⟨10,0⟩, ⟨10,10⟩, ⟨0,10⟩] := by
  decide +kernel

theorem square_noFold [Transc ℚ] : NoFold ((1 : ℚ) * half) [⟨0,0⟩, ⟨10,0⟩, ⟨10,10⟩, ⟨0,10⟩] := by
  simp [NoFold, joinShape, geom]

/-- hypotheses of `poly_vertex_count` / `poly_vertex_count_no_fold` on a 4-point polyline
(three sides of a square, tolerance 0.1, width 1) -/
example : NoMerge (squareMergeThreshold (1/10 : ℚ) 1) [⟨0,0⟩, ⟨10,0⟩, ⟨10,10⟩, ⟨0,10⟩] := square_noMerge

/-- right-angle joins never fold, whatever `sqrt` is -/
example [Transc ℚ] : NoFold ((1 : ℚ) * half) [⟨0,0⟩, ⟨10,0⟩, ⟨10,10⟩, ⟨0,10⟩] := square_noFold

/-- … so that polyline has `4 + 3·2 = 10` vertices (by the theorem, for every `Transc ℚ`) -/
example [Transc ℚ] :
    (Poly.path (1/10 : ℚ) 1 [([⟨0,0⟩, ⟨10,0⟩, ⟨10,10⟩, ⟨0,10⟩], false)]).verts.length = 10 := by
  rw [poly_vertex_count_no_fold _ _ _ (by simp) square_noMerge square_noFold]
  rfl

/-- the same by evaluating the model -/
example : (Poly.path (1/10 : ℚ) 1 [([⟨0,0⟩, ⟨10,0⟩, ⟨10,10⟩, ⟨0,10⟩], false)]).verts.length = 10 := by
  decide +kernel

/-- a join that folds (the polyline turns back on itself): `4 + 4` vertices -/
example : joinCost ((1 : ℚ) * half) [⟨0,0⟩, ⟨10,0⟩, ⟨0,0⟩] = 4
    ∧ (Poly.path (1/10 : ℚ) 1 [([⟨0,0⟩, ⟨10,0⟩, ⟨0,0⟩], false)]).verts.length = 8 := by
  decide +kernel

/-- one fold and one ordinary join: `4 + 4 + 3` -/
example : foldCount ((1 : ℚ) * half) [⟨0,0⟩, ⟨10,0⟩, ⟨0,0⟩, ⟨0,10⟩] = 1
    ∧ (Poly.path (1/10 : ℚ) 1 [([⟨0,0⟩, ⟨10,0⟩, ⟨0,0⟩, ⟨0,10⟩], false)]).verts.length = 11 := by
  decide +kernel

/-- a closed square followed by an open segment: the mesh `poly_ids_fresh_and_valid` talks about -/
example : (Poly.path (1/10 : ℚ) 1 [([⟨0,0⟩, ⟨10,0⟩, ⟨10,10⟩, ⟨0,10⟩], true), ([⟨20,0⟩, ⟨30,0⟩], false)]).tris
    = [(0, 2, 1), (1, 2, 5), (1, 5, 3), (3, 5, 4), (4, 5, 8), (4, 8, 6), (6, 8, 7), (7, 8, 11),
       (7, 11, 9), (9, 11, 10), (13, 12, 2), (13, 2, 0), (17, 16, 14), (17, 14, 15)] := by
  decide +kernel

/-- `close` with a merged last point (the `fixUp` branch): the last input point is too close to
the first one; still 14 vertices and no unset id in any triangle -/
example :
    let m := Poly.path (1/10 : ℚ) 1 [([⟨0,0⟩, ⟨10,0⟩, ⟨10,10⟩, ⟨0,10⟩, ⟨0,1/1000⟩], true)]
    m.verts.length = 14 ∧ ∀ t ∈ m.tris, t.1 < 14 ∧ t.2.1 < 14 ∧ t.2.2 < 14 := by
  decide +kernel

/-- the hypothesis `Inv` of the per-operation theorems on a concrete reachable state
(three points fed, window full) -/
example : Inv (1/100 : ℚ) (feedPts (1/100 : ℚ) (1/2) (State.new ⟨0, [], []⟩) 0 [⟨0,0⟩, ⟨10,0⟩, ⟨10,10⟩]).1 :=
  poly_inv_reachable _ _ _ _ _

example : (feedPts (1/100 : ℚ) (1/2) (State.new ⟨0, [], []⟩) 0 [⟨0,0⟩, ⟨10,0⟩, ⟨10,10⟩]).1.buf.count = 3 := by
  decide +kernel

end Examples

end Lyon.C05b
