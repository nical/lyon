/-
  C05f — the advancement clause of C05 on the complete stroker model, and the variable-width instances of the
  index theorems over ordered fields.

  *   Advancement of POLYLINES (every scalar type, floats included; the sums are the model's own
      additions in the model's order, tied bit for bit to lyon; only `is_nan(NaN) = true` is assumed):
      `stroke_polyline_advancement_open`  one open sub-path at the start of a tessellation, ALL joins
          and caps (round ones included: arc fans and round caps inherit `self.vertex`): every vertex
          names an endpoint `k`, sits on it and reports entry `k` of `advTable`:
          `0, a_{k-1} + |p_k − p_{k-1}|`;
      `stroke_path_advancement_partial`  a whole path of open sub-paths: what lyon does is NOT a restart at each
          `begin` — `begin` hands out `sub_path_start_advancement`, which `end_with_caps` sets to the
          advancement of the last point: the advancement runs on through the path (`pathTable`);
      `subpath_advancement_idle`  the same for a sub-path started in any idle state (reused
          tessellator state between sub-paths), with the state afterwards.
      Over an ordered field with `sqrt ≥ 0`: every entry is `≥` the start and the entries never
      decrease along the whole path (`pathTable_ge`, `pathTable_sorted`).
      `_partial`: not covered HERE are merged points (the table ranges over the KEPT points:
      `Props/C05g.lean`) and closed sub-paths (the first endpoint then carries two advancements: the
      start value on the vertices `close()` re-creates and start + perimeter on its join:
      `Props/C05h.lean`); also explored by the oracle clause `stroke/advancement-arc-length`.
  *   Curves: what the model does.  `flattened_step` gives the join `prev.advancement + |chord|` and the
      next point `join.advancement + |next chord|` (when they are still NaN), and its two vertices carry
      the join's value: the advancement accumulates the flattened chord lengths
      (`flattened_step_advancement`), monotonically when `sqrt ≥ 0` (`flattened_step_advancement_mono`).
  *   (R2): `SkipApart` is a theorem over ordered fields (`skipApart_field`, used by `C05c.stroke_indices_valid_partial`
      and `C05e.prog_indices_valid_partial`), so variable width needs no arithmetic premise there:
      `stroke_indices_valid_variable_field`, `prog_indices_valid_variable_field` are their variable-width instances.
  Not covered: "finite positions" as NaN-freedom at Float32 — the model's Float32 operations are
  opaque to the kernel, and over a field every value is finite; a "no division by zero is reachable"
  statement would have to enumerate the divisions of the model by hand (no such inventory exists).
-/
import LyonVerif.Lemmas.StrokeAdvMerge
import LyonVerif.Props.C05e


namespace Lyon.C05f
open Lyon Scalar Lyon.Stroke Lyon.Stroke.Full Lyon.C05 Lyon.C05b Lyon.C05c

section Adv
variable {α : Type} [Scalar α] [Transc α] [Asin α] [FlatConst α]

/-- **advancement of an open polyline sub-path, all joins and caps, every scalar type** -/
theorem stroke_polyline_advancement_open (e : Env α) (store : Nat → List α) (hfw : e.o.varWidth = false)
    (hnan : Transc.isNaN (nan : α) = true)
    (i0 i1 : Nat) (p0 p1 : P α) (rest : List (Nat × P α))
    (hm : NoMerge e.thr (p0 :: p1 :: rest.map (·.2))) :
    ∀ v ∈ (runEvents e store (IdEv.begin i0 p0 :: IdEv.line i1 p1 :: (lineEvs rest ++ [IdEv.end_ false]))).st.out.verts,
      ∃ t ∈ advTable zero ((i0, p0) :: (i1, p1) :: rest),
        v.src = .endpoint t.1 ∧ v.positionOnPath = t.2.1 ∧ v.advancement = t.2.2 :=
  polyline_advancement e store hfw hnan i0 i1 p0 p1 rest hm

/-- **a sub-path started in any idle state** (nothing in the window: a new tessellator, or after any
earlier sub-path was ended): its vertices agree with the table started at the current
`sub_path_start_advancement`; afterwards the run is idle and `sub_path_start_advancement` is the
table's last entry -/
theorem subpath_advancement_idle (e : Env α) (store : Nat → List α) (hfw : e.o.varWidth = false)
    (hnan : Transc.isNaN (nan : α) = true) (r0 : Run α) (h0 : Idle r0)
    (i0 i1 : Nat) (p0 p1 : P α) (rest : List (Nat × P α))
    (hm : NoMerge e.thr (p0 :: p1 :: rest.map (·.2))) :
    Idle (runFrom e store r0 (subEvs i0 i1 p0 p1 rest))
    ∧ Emits (AdvOK (advTable r0.st.subPathStartAdvancement ((i0, p0) :: (i1, p1) :: rest)))
        r0.st.out (runFrom e store r0 (subEvs i0 i1 p0 p1 rest)).st.out
    ∧ ((advTable r0.st.subPathStartAdvancement ((i0, p0) :: (i1, p1) :: rest)).getLast?).map (·.2.2)
        = some (runFrom e store r0 (subEvs i0 i1 p0 p1 rest)).st.subPathStartAdvancement := by
  have h := subpath_advancement_m e store hfw hnan r0 h0 i0 p0 ((i1, p1) :: rest)
  rw [keptFrom_noMerge e.thr ((i1, p1) :: rest) p0 hm] at h
  exact h

/-- **advancement along a whole path of open polyline sub-paths**, all joins and caps, every scalar
type: every vertex names an endpoint of some sub-path, sits on it and reports that endpoint's entry
of `pathTable 0`: within a sub-path the edge lengths are added up, and each sub-path starts at the
value the previous one ended with.
`_partial`: merged points and closed sub-paths are not covered (see the header). -/
theorem stroke_path_advancement_partial (e : Env α) (store : Nat → List α) (hfw : e.o.varWidth = false)
    (hnan : Transc.isNaN (nan : α) = true) (subs : List (SubP α))
    (hm : ∀ s ∈ subs, NoMerge e.thr (s.pts.map (·.2))) :
    ∀ v ∈ (runEvents e store (pathEvs subs)).st.out.verts,
      ∃ t ∈ pathTable zero subs, v.src = .endpoint t.1 ∧ v.positionOnPath = t.2.1 ∧ v.advancement = t.2.2 :=
  Emits.of_new (path_from e store SubP.evs (ok := fun s => NoMerge e.thr (s.pts.map (·.2)))
    (Q := fun a subs => AdvOK (pathTable a subs)) (Q1 := fun a s => AdvOK (advTable a s.pts))
    (nxt := fun a s a' => a' = lastAdv a (advTable a s.pts))
    (fun r0 s hs h0 => by
      obtain ⟨k1, k2, k3⟩ := subpath_advancement_idle e store hfw hnan r0 h0 s.i0 s.i1 s.p0 s.p1 s.rest hs
      exact ⟨k1, k2, (lastAdv_eq k3).symm⟩)
    (fun a s r v => AdvOK.mono (List.subset_append_left _ _))
    (fun a a' s r v h => h ▸ AdvOK.mono (List.subset_append_right _ _)) subs _ hm idle_new).2

end Adv

section AdvField
variable {K : Type} [Field K] [LinearOrder K] [IsStrictOrderedRing K] [Transc K]
open Lyon.C05d (advTable_ge advTable_sorted)

theorem le_lastAdv (hs0 : ∀ x : K, 0 ≤ x → 0 ≤ Transc.sqrt x) (a : K) (pts : List (Nat × P K)) :
    a ≤ lastAdv a (advTable a pts) ∧ ∀ t ∈ advTable a pts, t.2.2 ≤ lastAdv a (advTable a pts) := by
  unfold lastAdv
  cases hl : (advTable a pts).getLast? with
  | none =>
    have : advTable a pts = [] := List.getLast?_eq_none_iff.mp hl
    simp [this]
  | some y =>
    have hy : y ∈ advTable a pts := List.mem_of_getLast? hl
    refine ⟨advTable_ge hs0 pts a y hy, ?_⟩
    intro t ht
    show t.2.2 ≤ y.2.2
    have h := (advTable_sorted hs0 pts a).rel_getLast (List.mem_map.mpr ⟨t, ht, rfl⟩)
    rwa [(List.getLast_eq_iff_getLast?_eq_some _).mpr (by rw [List.getLast?_map, hl]; rfl)] at h

/-- every advancement of the path's table is at least the start value (`0 ≤ length`) -/
theorem pathTable_ge (hs0 : ∀ x : K, 0 ≤ x → 0 ≤ Transc.sqrt x) :
    ∀ (subs : List (SubP K)) (a : K), ∀ t ∈ pathTable a subs, a ≤ t.2.2 := by
  intro subs
  induction subs with
  | nil => intro a t ht; simp [pathTable] at ht
  | cons s r ih =>
    intro a t ht
    simp only [pathTable, List.mem_append] at ht
    rcases ht with ht | ht
    · exact advTable_ge hs0 _ a t ht
    · exact le_trans (le_lastAdv hs0 a s.pts).1 (ih _ t ht)

/-- **monotone along the whole path**: the advancements of the path's table never decrease -/
theorem pathTable_sorted (hs0 : ∀ x : K, 0 ≤ x → 0 ≤ Transc.sqrt x) :
    ∀ (subs : List (SubP K)) (a : K), ((pathTable a subs).map (·.2.2)).Pairwise (· ≤ ·) := by
  intro subs
  induction subs with
  | nil => intro a; simp [pathTable]
  | cons s r ih =>
    intro a
    simp only [pathTable, List.map_append, List.pairwise_append]
    refine ⟨advTable_sorted hs0 _ a, ih _, ?_⟩
    intro x hx y hy
    simp only [List.mem_map] at hx hy
    obtain ⟨t, ht, rfl⟩ := hx
    obtain ⟨u, hu, rfl⟩ := hy
    exact le_trans ((le_lastAdv hs0 a s.pts).2 t ht) (pathTable_ge hs0 r _ u hu)

end AdvField

section Curves
variable {α : Type} [Scalar α] [Transc α]

/-- the advancement `flattened_step` leaves in the join and in the next point
(`join.advancement + |next chord|` if still NaN), and the one its two vertices carry -/
theorem flattened_step_advancement (prev join next : EP α) (d : VData α) (o : Out α) :
    (flattenedStep prev join next d o).join.advancement = flatJoinAdv prev join
    ∧ (flattenedStep prev join next d o).next.advancement
        = (if Transc.isNaN next.advancement then flatJoinAdv prev join + len (next.position - join.position)
           else next.advancement)
    ∧ ((flattenedStep prev join next d o).skip = false →
        ∃ v1 v2 : VData α, (flattenedStep prev join next d o).out.verts = o.verts ++ [v1, v2]
          ∧ v1.advancement = flatJoinAdv prev join ∧ v2.advancement = flatJoinAdv prev join) := by
  obtain ⟨h1, h2, _, _⟩ := flattenedStep_advs prev join next d o
  refine ⟨h1, h2, fun h => ?_⟩
  obtain ⟨vp, vn, hv, _⟩ := flattened_step_sides prev join next d o h
  obtain ⟨vs, e, q⟩ := flattenedStep_emits prev join next d o
  obtain rfl : vs = [vp, vn] := List.append_cancel_left (e.symm.trans hv)
  exact ⟨vp, vn, hv, (q vp (by simp)).2.2, (q vn (by simp)).2.2⟩

end Curves

section CurvesField
variable {K : Type} [Field K] [LinearOrder K] [IsStrictOrderedRing K] [Transc K]

/-- along a flattened curve the advancement accumulates the chord lengths and never decreases: for a
join and a next point that are still waiting for their advancement (`is_nan`),
`prev.advancement ≤ join.advancement = prev.advancement + |chord| ≤ next.advancement` -/
theorem flattened_step_advancement_mono (hs0 : ∀ x : K, 0 ≤ x → 0 ≤ Transc.sqrt x)
    (prev join next : EP K) (d : VData K) (o : Out K)
    (hj : Transc.isNaN join.advancement = true) (hn : Transc.isNaN next.advancement = true) :
    (flattenedStep prev join next d o).join.advancement = prev.advancement + len (join.position - prev.position)
    ∧ (flattenedStep prev join next d o).next.advancement
        = prev.advancement + len (join.position - prev.position) + len (next.position - join.position)
    ∧ prev.advancement ≤ (flattenedStep prev join next d o).join.advancement
    ∧ (flattenedStep prev join next d o).join.advancement ≤ (flattenedStep prev join next d o).next.advancement := by
  obtain ⟨h1, h2, _⟩ := flattened_step_advancement prev join next d o
  unfold flatJoinAdv at h1 h2
  rw [hj] at h1 h2
  rw [hn] at h2
  simp only [if_true] at h1 h2
  refine ⟨h1, h2, ?_, ?_⟩
  · rw [h1]; exact le_add_of_nonneg_right (len_nonneg hs0 _)
  · rw [h1, h2]; exact le_add_of_nonneg_right (len_nonneg hs0 _)

end CurvesField

section R2
open Lyon.Stroke.Prog Lyon.C05e
variable {K : Type} [Field K] [LinearOrder K] [IsStrictOrderedRing K] [Transc K] [Asin K] [FlatConst K]

/-- **variable width, ordered fields, all event lists (curves included), every join**: no arithmetic
premise — `SkipApart` (a skipped join moves away from the point before it) is `skipApart_field` -/
theorem stroke_indices_valid_variable_field (e : Env K) (store : Nat → List K) (evs : List (IdEv K))
    (hvw : e.o.varWidth = true) :
    VSteps (VertexOK e store (evIds evs)) (Out.empty 0) (runEvents e store evs).st.out :=
  stroke_indices_valid_partial e store evs (Or.inl hvw)

/-- the same for `StrokeBuilder` programs (`Props/C05e.lean`) -/
theorem prog_indices_valid_variable_field (o : Opts K) (ix : Lyon.StrokeQuad.Ix K) (cmds : List (Cmd K))
    (hvw : o.varWidth = true) :
    VSteps (ProgVertexOK (expand ⟨o, 0⟩ cmds)) (Out.empty 0) (runProg o ix cmds).st.out :=
  prog_indices_valid_partial o ix cmds (Or.inl hvw)

end R2

section Examples
open Lyon.C05d (toyNaN)
attribute [local instance] toyNaN toyAsin toyFlat

/-- two open sub-paths, `(0,0) → (3,4) → (3,10)` and `(0,0) → (0,5)`: the second continues at `11` -/
def exSubs : List (SubP ℚ) := [⟨0, 1, ⟨0, 0⟩, ⟨3, 4⟩, [(2, ⟨3, 10⟩)]⟩, ⟨3, 4, ⟨0, 0⟩, ⟨0, 5⟩, []⟩]

example : (pathTable (0 : ℚ) exSubs).map (·.2.2) = [0, 5, 11, 11, 16] := by decide +kernel

/-- hypotheses of `stroke_path_advancement_partial` (round join and caps allowed) -/
example : Transc.isNaN (nan : ℚ) = true := by
  show decide ((nan : ℚ) = 0) = true
  simp [nan, geom]

example : ∀ s ∈ exSubs, NoMerge (Env.new (⟨1 / 10, 1, 4, .round, .round, .round, false, 0⟩ : Opts ℚ)
    (fun _ _ _ _ => none)).thr (s.pts.map (·.2)) := by decide +kernel

/-- hypotheses of `flattened_step_advancement_mono`: endpoints still waiting for their advancement -/
example : Transc.isNaN (EP.mk' (⟨1, 0⟩ : P ℚ) 1 nan .miter (.edge 0 1 (1 / 2)) true).advancement = true := by
  show decide ((nan : ℚ) = 0) = true
  simp [nan, geom]

end Examples

end Lyon.C05f
