/-
  C02 (part e) — `C02d.fill_triangles_independent_of_prior_contents` and
  `C02d.fill_beyond_index_range_refused` for the MODELLED SWEEP: the request sequence, a hypothesis
  there, is here what `Model/Tess/Sweep.lean` (tied bit for bit to fill.rs by C01's `sweep:32`)
  emits for the input, for every input, entry point, fill rule and orientation.
-/
import LyonVerif.Props.C02d
import LyonVerif.Props.SweepIdx


namespace Lyon.C02e
open Lyon Lyon.Scalar Lyon.Mono Lyon.Sweep Lyon.EQ Lyon.Tess Lyon.SweepIdx

variable {α : Type} [Scalar α] [Wide α]

/-- **The triangles of a fill, as resolved through the caller's buffers, do not depend on what the
buffers held before** — for the modelled sweep, every index configuration and every prior contents
that leave room for the fill's vertices: success, prior contents untouched, every new stored index
names a vertex of this fill, resolved triangle list equal to that of the fill into empty buffers. -/
theorem sweep_fill_triangles_independent_of_prior_contents (B : Buffers) (cfg : IdxCfg) (entry : Entry)
    (rule : Slab.Rule) (horizontal : Bool) (tol : α) (handleIx : Bool) (subs : List (SubPath α))
    (hfit : B.vertices.length + nVerts (tessellate entry rule horizontal tol handleIx subs).2.1.toList ≤ cfg.max)
    (hm1 : cfg.max ≤ cfg.modulus) (hm2 : cfg.max ≤ idxMod) :
    let core := toReqs (tessellate entry rule horizontal tol handleIx subs).2.1
    let o0 := Tess.tessellateImpl bbSink true core none (BB.new ⟨[], []⟩ cfg)
    let oB := Tess.tessellateImpl bbSink true core none (BB.new B cfg)
    oB.result = none ∧
    oB.st.buf.vertices.take B.vertices.length = B.vertices ∧
    oB.st.buf.indices.take B.indices.length = B.indices ∧
    (∀ i ∈ oB.st.buf.indices.drop B.indices.length, B.vertices.length ≤ i ∧ i < oB.st.buf.vertices.length) ∧
    C02d.resolved oB.st.buf.vertices (oB.st.buf.indices.drop B.indices.length)
      = C02d.resolved o0.st.buf.vertices o0.st.buf.indices :=
  C02d.fill_triangles_independent_of_prior_contents B cfg _
    (sweep_protocol_indices entry rule horizontal tol handleIx subs)
    (by rw [toReqs, nVerts_toReqsFrom]; exact hfit) hm1 hm2

/-- **… and a fill of the modelled sweep that would pass the index range is refused as a whole.** -/
theorem sweep_fill_beyond_index_range_refused (B : Buffers) (cfg : IdxCfg) (entry : Entry)
    (rule : Slab.Rule) (horizontal : Bool) (tol : α) (handleIx : Bool) (subs : List (SubPath α))
    (hB : B.vertices.length ≤ cfg.max) (hm2 : cfg.max < idxMod) (hi : B.indices.length < idxMod)
    (hover : B.vertices.length + nVerts (tessellate entry rule horizontal tol handleIx subs).2.1.toList > cfg.max) :
    let oB := Tess.tessellateImpl bbSink true (toReqs (tessellate entry rule horizontal tol handleIx subs).2.1) none
      (BB.new B cfg)
    oB.result = some (.geometryBuilder .tooManyVertices) ∧ oB.st.buf = B :=
  C02d.fill_beyond_index_range_refused B cfg _ hB hm2 hi
    (by rw [toReqs, nVerts_toReqsFrom]; exact hover)

/-- a concave polygon through the `FillBuilder` into u16 buffers that hold three vertices and a
triangle: the hypotheses hold and the conclusion is what the kernel computes -/
example :
    let r := tessellate .builder .nonZero false (⟨1⟩ : Z) true [([pz 0 0, pz 40 0, pz 40 40, pz 20 10, pz 0 40], true)]
    let B : Buffers := ⟨[7, 7, 7], [1, 0, 2]⟩
    B.vertices.length + nVerts r.2.1.toList ≤ IndexTy.u16.cfg.max ∧
    (Tess.tessellateImpl bbSink true (toReqs r.2.1) none (BB.new B IndexTy.u16.cfg)).result = none ∧
    ((Tess.tessellateImpl bbSink true (toReqs r.2.1) none (BB.new B IndexTy.u16.cfg)).st.buf.indices.drop 3).all (· ≥ 3) = true := by
  decide +kernel

end Lyon.C02e
