/-
  C07d - the sweep invariant `ActiveSpan` and what it buys for the parameter-range clause: the two split
  branches that `Props/C07b.lean` has to exclude (`Tainted`: `split_edge`, coverage bit 5; the split of
  `merge_coincident_edges`, bit 7) keep every stored parameter in `[0,1]`.

  Over a linearly ordered field (exact arithmetic), about the model's own step functions
  (`Model/Tess/Sweep.lean`, tied bit-exactly to `FillTessellator` by C01's `sweep:32` / `sweepc:32`),
  Hoare triples with the invariant as postcondition on success AND on failure
  (`Lemmas/SweepSpan{,Ix,Loop}.lean`; the composite step functions are walked once for any assertion in
  `Lemmas/SweepStepKeeps.lean`, `recover_from_error` included):

  * `ActiveSpan` (`SweepSpan.ASpan`): every active edge that is no merge vertex has
    `from.y ≤ current.y ≤ to.y`, every pending edge has `current.y ≤ to.y`.  Only COMPARISONS of stored
    coordinates maintain it - `split_edge` ends the upper part AT the vertex, `update_active_edges` starts
    the new edges AT the vertex, `process_intersection` moves an end to a point that is `eb.to`, `ae.to`
    (both at or below the vertex by the invariant) or the point it ASSERTED to be after the current
    position (`assert!(is_after(..))`, incl. the `next_after` fix-up) - no property of the computed
    intersection is used;
  * `UInv`: the parameters (`range.start`, `range.end`) of every record of the queue, of every active and
    pending edge and of every record ALREADY EMITTED with a vertex are in `[0,1]`;
  * `event_keeps_span_and_unit`: ONE WHOLE EVENT (`process_events`: scan, `process_edges_above` with
    `split_edge`, `process_edges_below` with `handle_coincident_edges_below` / `merge_coincident_edges`,
    `update_active_edges` with `handle_intersections` / `process_intersection`) keeps `ActiveSpan ∧ UInv` -
    WITHOUT the `Tainted` restriction: under `ActiveSpan` the y-branch hypotheses of `Props/C07c.lean`'s
    split lemmas hold (`split_edge_parameter_unit_of_span`, `merge_parameter_unit_of_span`; the guard
    `endsWithin` the merge needs is the Boolean `handle_coincident_edges_below` computes; that the edges in
    `edges_to_split` are no merge vertices is proved about the scan, `scan_splits_no_merge`, every scalar
    type);
  * `recover_keeps_span_and_unit`: `recover_from_error` (every active edge afterwards is one of those before: `Sweep.Rearr`)
    keeps it;
  * `initialize_events_keeps_unit`: from `Inv` with `AdvOK` (the next vertex is spanned by every active edge
    and not below the far ends of its sibling records) the advance to the next vertex keeps `Inv`, and `UInv`
    on failure (the emitted sibling records are records of the queue).  The proof of the `UInv` half reads no
    span fact, but it is stated under `AdvOK` only.

  NOT obtained here: the parameter-range clause for whole runs without `Tainted`; what is missing is `AdvOK` at
  every event of a run, i.e. the order of the index-linked event queue (header of `Props/C07e.lean`).
-/
import LyonVerif.Lemmas.SweepSpanLoop

set_option linter.unusedSectionVars false

namespace Lyon.C07d
open Lyon Lyon.Scalar Lyon.Sweep Lyon.EQ Lyon.SweepSpan Lyon.SweepPos
open Std.Do

section field
variable {K : Type} [Field K] [LinearOrder K] [IsStrictOrderedRing K]

/-- degenerate edges included (no hypothesis `from ≠ to`) -/
theorem split_edge_parameter_unit_of_span (a b c : P K) (hya : a.y ≤ c.y) (hyb : c.y ≤ b.y) :
    0 ≤ Sources.splitTAtVertex a b c ∧ Sources.splitTAtVertex a b c ≤ 1 := splitTAtVertex_unit a b c hya hyb

/-- `hy0`: `ActiveSpan` of the pending edge; `hy1`: what `compare_positions` decided about the two ends -/
theorem merge_parameter_unit_of_span (cur long short : P K) (hg : endsWithin (long - cur) (short - cur))
    (hy0 : cur.y ≤ short.y) (hy1 : short.y ≤ long.y) :
    0 ≤ Sources.splitT cur long short ∧ Sources.splitT cur long short ≤ 1 := merge_guard_unit cur long short hg hy0 hy1

variable [w : Wide K]

/-- the branch `Props/C07b.lean` excludes as coverage bit 5 -/
theorem split_edge_keeps_span_and_unit (ei : Nat) :
    ⦃fun s => ⌜Inv s ∧ ∀ e, s.active[ei]? = some e → e.isMerge = false⌝⦄ (splitEdge ei : SM K Unit)
    ⦃post⟨fun _ s => ⌜Inv s⌝, fun _ s => ⌜Inv s⌝⟩⦄ :=
  triple_conseq (splitEdge_invN #[] ei) (fun _ h => ⟨⟨h.1, fun _ hk => nomatch hk⟩, h.2⟩) (fun _ _ h => h.1) fun _ _ h => h

/-- with the split of `merge_coincident_edges`, the branch of bit 7 -/
theorem handle_coincident_keeps_span_and_unit :
    ⦃fun s => ⌜Inv s⌝⦄ (handleCoincidentEdgesBelow : SM K Unit)
    ⦃post⟨fun _ s => ⌜Inv s⌝, fun _ s => ⌜Inv s⌝⟩⦄ := handleCoincidentEdgesBelow_inv

/-- `hw`: what is needed of the wide type of `handle_intersections`; `C07b.WideLaws w` says that such an `M`
exists (`fieldWide_laws` for the field itself) -/
theorem event_keeps_span_and_unit {M : w.W → Prop} (hw : SweepRep.WClosure (α := K) U M) :
    ⦃fun s => ⌜Inv s⌝⦄ (processEvents : SM K (Option IErr))
    ⦃post⟨fun _ s => ⌜Inv s⌝, fun _ s => ⌜Inv s⌝⟩⦄ := processEvents_inv hw

theorem recover_keeps_span_and_unit :
    ⦃fun s => ⌜Inv s⌝⦄ (recoverFromError : SM K Unit)
    ⦃post⟨fun _ s => ⌜Inv s⌝, fun _ s => ⌜Inv s⌝⟩⦄ := recoverFromError_inv

/-- on failure (a NaN position) the parameter range alone is claimed -/
theorem initialize_events_keeps_unit :
    ⦃fun s => ⌜Inv s ∧ AdvOK s⌝⦄ (initializeEvents : SM K Unit)
    ⦃post⟨fun _ s => ⌜Inv s⌝, fun _ s => ⌜UInv s⌝⟩⦄ := initializeEvents_inv

theorem emitted_unit_of_inv {s : St K} (h : Inv s) (pos : P K) (recs : List (P K × EdgeData K))
    (hm : Emit.vertex pos recs ∈ s.out) (r : P K × EdgeData K) (hr : r ∈ recs) :
    (0 ≤ r.2.t0 ∧ r.2.t0 ≤ 1) ∧ (0 ≤ r.2.t1 ∧ r.2.t1 ≤ 1) := h.2.2.2.2 pos recs hm r hr

end field

theorem scan_splits_no_merge {α : Type} [Scalar α] [Wide α] {s : St α} {scan : Scan}
    (h : scanActiveEdges s = .ok scan) :
    ∀ ei ∈ scan.edgesToSplit, ∀ e, s.active[ei]? = some e → e.isMerge = false := SweepCoh.of_scan_nm h

/-! ### non-vacuity: the invariant holds of the initial state of a run (nothing active, nothing emitted) -/

section examples
variable {K : Type} [Field K] [LinearOrder K] [IsStrictOrderedRing K] [w : Wide K]

example (q : Queue K) (hq : ∀ d ∈ q.edgeData, (0 ≤ d.t0 ∧ d.t0 ≤ 1) ∧ (0 ≤ d.t1 ∧ d.t1 ≤ 1)) (s : St K)
    (h1 : s.q = q) (h2 : s.active = #[]) (h3 : s.below = #[]) (h4 : s.out = #[]) : Inv s := by
  refine ⟨⟨?_, ?_⟩, ?_, ?_, ?_, ?_⟩
  · rw [h2]; exact all_empty
  · rw [h3]; exact all_empty
  · rw [h1]; exact hq
  · rw [h2]; exact all_empty
  · rw [h3]; exact all_empty
  · rw [h4]; intro pos recs hm; simp at hm

end examples

end Lyon.C07d
