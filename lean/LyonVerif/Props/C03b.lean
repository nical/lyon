/-
  C03 — the shape helpers of the path builders, and the shared-curved-edge mechanism.

  A. `Model/Path/Shapes.lean`: the builder calls made by `PathBuilder::{add_polygon, add_rectangle, add_circle,
     add_ellipse, add_rounded_rectangle}` and `FillBuilder::add_circle`, tied bit-for-bit to the real helpers by the
     `helpers:32` family of `harness/src/bin/c03.rs`.  First what holds for every scalar type, floats included (the
     call structure: one closed sub-path, well nested), then over an ordered field where the points lie (corners and
     orientation of the rectangle, end points and tangents of the circle, the octagon of `FillBuilder::add_circle`, the
     clamped radii of the rounded rectangle).

  B. The mechanism behind "two sub-paths sharing a curved edge in opposite directions leave no
     crack and no overlap", over C07's model of the `EventQueueBuilder` (`Model/Tess/Sources.lean`,
     `curveSegment`, the flattener a parameter): a curve and its reverse store the SAME list of edge segments with
     opposite windings, read off `Lemmas/SourcesCurve.lean`.

  What is NOT proved here: that the sweep fills between these segments correctly (C01/C02, slab
  checker per input), and that `flat` stays within the tolerance (C09: for quadratics and cubics not a theorem
  for all inputs; per input by the exact checker of Props/C09c.lean).
-/
import LyonVerif.Model.Path.Shapes
import LyonVerif.Model.Tess.Sources
import LyonVerif.Lemmas.Trace
import LyonVerif.Lemmas.SourcesCurve
import LyonVerif.Lemmas.LexOrderTess
import LyonVerif.Lemmas.Field
import LyonVerif.Props.C18

set_option linter.unusedSectionVars false

geom_all Lyon.PathShapes

namespace Lyon.C03b
open Lyon Lyon.Path Lyon.PathShapes

section protocol
variable {α : Type} [Scalar α]

/-- a call that draws an edge (neither `begin` nor `end`) -/
def isEdgeCall : Call (P α) Unit → Bool
  | .line _ _ => true
  | .quad _ _ _ => true
  | .cubic _ _ _ _ => true
  | _ => false

/-- exactly one sub-path, closed: `begin p, edge*, end(true)` -/
def SingleClosed (l : Calls α) : Prop :=
  ∃ p mid, l = Call.begin p () :: mid ++ [Call.end_ true] ∧ ∀ c ∈ mid, isEdgeCall c = true

theorem edges_state (mid : Calls α) (h : ∀ c ∈ mid, isEdgeCall c = true) :
    nestState true mid = some true := by
  induction mid with
  | nil => rfl
  | cons c r ih =>
    have hc := h c List.mem_cons_self
    have hr := ih fun d hd => h d (List.mem_cons_of_mem _ hd)
    cases c with
    | begin _ _ => cases hc
    | end_ _ => cases hc
    | line _ _ => exact hr
    | quad _ _ _ => exact hr
    | cubic _ _ _ _ => exact hr

theorem SingleClosed.wellNested {l : Calls α} (h : SingleClosed l) : WellNested l := by
  obtain ⟨p, mid, rfl, hm⟩ := h
  refine (wellNestedFrom_iff_nestState false _).2 ?_
  show nestState true (mid ++ [Call.end_ true]) = some false
  rw [nestState_append, edges_state mid hm]
  rfl

theorem cornerCubic_edges (r : α) (a b c : P α) : ∀ x ∈ cornerCubic r a b c, isEdgeCall x = true := by
  intro x hx
  unfold cornerCubic at hx
  split at hx
  · simp at hx; subst hx; rfl
  · simp at hx

theorem map_edges {β : Type} (f : β → Call (P α) Unit) (hf : ∀ b, isEdgeCall (f b) = true) (l : List β) :
    ∀ c ∈ l.map f, isEdgeCall c = true := fun c hc => by
  obtain ⟨b, _, rfl⟩ := List.mem_map.1 hc
  exact hf b

theorem addPolygon_single (p : P α) (r : List (P α)) :
    SingleClosed (addPolygon (p :: r) true) :=
  ⟨p, r.map (fun q => Call.line q ()), rfl, map_edges _ (fun _ => rfl) r⟩

theorem addRectangle_single (mn mx : P α) (pos : Bool) : SingleClosed (addRectangle mn mx pos) := by
  unfold addRectangle rectPoints
  cases pos <;> exact addPolygon_single _ _

theorem fourCubics_single (p a1 b1 p1 a2 b2 p2 a3 b3 p3 a4 b4 p4 : P α) :
    SingleClosed [Call.begin p (), Call.cubic a1 b1 p1 (), Call.cubic a2 b2 p2 (), Call.cubic a3 b3 p3 (),
      Call.cubic a4 b4 p4 (), Call.end_ true] := by
  refine ⟨p, [Call.cubic a1 b1 p1 (), Call.cubic a2 b2 p2 (), Call.cubic a3 b3 p3 (), Call.cubic a4 b4 p4 ()], rfl, ?_⟩
  intro x hx
  simp only [List.mem_cons, List.not_mem_nil, or_false] at hx
  rcases hx with h | h | h | h <;> subst h <;> rfl

theorem addCircle_single (c : P α) (r : α) (pos : Bool) : SingleClosed (addCircle c r pos) :=
  fourCubics_single ..

theorem addEllipse_single [Transc α] (c radii : P α) (rot : α) (pos : Bool) :
    SingleClosed (addEllipse c radii rot pos) :=
  ⟨_, _, rfl, map_edges _ (fun _ => rfl) _⟩

/-- edge calls up to a closing `end(true)`: what may follow the `begin` of a single closed sub-path -/
def EdgesThenEnd (l : Calls α) : Prop := ∃ mid, l = mid ++ [Call.end_ true] ∧ ∀ c ∈ mid, isEdgeCall c = true

theorem EdgesThenEnd.nil : EdgesThenEnd ([Call.end_ true] : Calls α) := ⟨[], rfl, by simp⟩

theorem EdgesThenEnd.append {l l' : Calls α} (h : ∀ c ∈ l, isEdgeCall c = true) (h' : EdgesThenEnd l') :
    EdgesThenEnd (l ++ l') := by
  obtain ⟨mid, rfl, hm⟩ := h'
  exact ⟨l ++ mid, (List.append_assoc ..).symm, fun c hc => (List.mem_append.1 hc).elim (h c) (hm c)⟩

theorem EdgesThenEnd.line {l : Calls α} (p : P α) (h : EdgesThenEnd l) : EdgesThenEnd (Call.line p () :: l) :=
  EdgesThenEnd.append (l := [_]) (by simp [isEdgeCall]) h

theorem EdgesThenEnd.single {l : Calls α} (p : P α) (h : EdgesThenEnd l) : SingleClosed (Call.begin p () :: l) := by
  obtain ⟨mid, rfl, hm⟩ := h
  exact ⟨p, mid, rfl, hm⟩

theorem rrCalls_single (p : Array (P α)) (r : Radii α) (pos : Bool) : SingleClosed (rrCalls p r pos) := by
  have cc := cornerCubic_edges (α := α)
  cases pos <;>
    simp only [rrCalls, if_true, Bool.false_eq_true, if_false, List.append_assoc, List.cons_append, List.nil_append] <;>
    exact ((((EdgesThenEnd.nil.append (cc _ _ _ _)).line _ |>.append (cc _ _ _ _)).line _ |>.append (cc _ _ _ _)).line _
      |>.append (cc _ _ _ _)).single _

theorem addRoundedRectangle_single (mn mx : P α) (radii : Radii α) (pos : Bool) :
    SingleClosed (addRoundedRectangle mn mx radii pos) := rrCalls_single _ _ _

/-- **The `PathBuilder` shape helpers emit exactly one closed sub-path** (`add_polygon`: for a
non-empty closed polygon; an empty polygon emits nothing). -/
theorem helpers_single_closed_subpath [Transc α] (mn mx c radii : P α) (r rot : α) (r4 : Radii α)
    (p : P α) (pts : List (P α)) (pos : Bool) :
    SingleClosed (addRectangle mn mx pos) ∧ SingleClosed (addCircle c r pos) ∧
    SingleClosed (addEllipse c radii rot pos) ∧ SingleClosed (addRoundedRectangle mn mx r4 pos) ∧
    SingleClosed (addPolygon (p :: pts) true) ∧ addPolygon ([] : List (P α)) true = [] :=
  ⟨addRectangle_single .., addCircle_single .., addEllipse_single .., addRoundedRectangle_single ..,
   addPolygon_single .., rfl⟩

theorem addPolygon_wellNested (pts : List (P α)) (closed : Bool) : WellNested (addPolygon pts closed) := by
  cases pts with
  | nil => rfl
  | cons p r =>
    refine (wellNestedFrom_iff_nestState false _).2 ?_
    show nestState true (r.map (fun q => Call.line q ()) ++ [Call.end_ closed]) = some false
    rw [nestState_append, edges_state _ (map_edges _ (fun _ => rfl) r)]
    rfl

/-- **Every shape helper emits a well-nested `(begin edge* end)*` sequence** — for every scalar
type (the statement is about the call structure, so it holds at `Float32` too), every input
(degenerate, NaN, negative radii included), both windings; `add_polygon` open or closed, also
empty; `FillBuilder::add_circle`: nine sub-paths. -/
theorem helpers_wellnested [Transc α] (mn mx c radii : P α) (r rot : α) (r4 : Radii α)
    (pts : List (P α)) (closed pos : Bool) :
    WellNested (addPolygon pts closed) ∧ WellNested (addRectangle mn mx pos) ∧
    WellNested (addCircle c r pos) ∧ WellNested (addEllipse c radii rot pos) ∧
    WellNested (addRoundedRectangle mn mx r4 pos) ∧ WellNested (fillAddCircle c r pos) :=
  ⟨addPolygon_wellNested _ _, (addRectangle_single ..).wellNested, (addCircle_single ..).wellNested,
   (addEllipse_single ..).wellNested, (addRoundedRectangle_single ..).wellNested, rfl⟩

/-- **`add_ellipse`**: begin at `arc.sample(0)`, one `quadratic_bezier_to(ctrl, to)` per piece of
`Arc::for_each_quadratic_bezier` of the arc (centre, radii, rotation, start 0, sweep ±2π), end(true). -/
theorem ellipse_helper_shape [Transc α] (c radii : P α) (rot : α) (pos : Bool) :
    addEllipse c radii rot pos
      = Call.begin ((ellipseArc c radii rot pos).sample Scalar.zero) ()
        :: ((ArcConv.quadsWithT (ellipseArc c radii rot pos)).map (fun q => Call.quad q.1.c q.1.b ()))
        ++ [Call.end_ true] := rfl

/-- the end points named by the calls, in order (`begin`/`line_to`/curve `to`) -/
def endpoints : Calls α → List (P α)
  | [] => []
  | .begin p _ :: r => p :: endpoints r
  | .line p _ :: r => p :: endpoints r
  | .quad _ p _ :: r => p :: endpoints r
  | .cubic _ _ p _ :: r => p :: endpoints r
  | .end_ _ :: r => endpoints r

/-- **`add_rectangle`**: `begin(min)`, three `line_to` through the other corners, `end(true)`;
Positive: `(max.x, min.y)` next, Negative: `(min.x, max.y)` next. -/
theorem rectangle_helper_corners (mn mx : P α) :
    addRectangle mn mx true
      = [.begin mn (), .line ⟨mx.x, mn.y⟩ (), .line mx (), .line ⟨mn.x, mx.y⟩ (), .end_ true] ∧
    addRectangle mn mx false
      = [.begin mn (), .line ⟨mn.x, mx.y⟩ (), .line mx (), .line ⟨mx.x, mn.y⟩ (), .end_ true] ∧
    ∀ pos, endpoints (addRectangle mn mx pos) = rectPoints mn mx pos := by
  refine ⟨rfl, rfl, ?_⟩
  intro pos
  cases pos <;> rfl

end protocol

section geometry
variable {K : Type} [Field K] [LinearOrder K] [IsStrictOrderedRing K]

/-- **Orientation of `add_rectangle`**: the polygon through the emitted end points has signed
area (`approximate_signed_area`'s formula = half the shoelace sum of the closed outline) `+w·h`
for `Winding::Positive` and `−w·h` for `Winding::Negative`, `w = max.x − min.x`,
`h = max.y − min.y` (no assumption on their signs: an inverted box inverts the orientation). -/
theorem rectangle_helper_orientation (mn mx : P K) :
    Winding.subArea (endpoints (addRectangle mn mx true)) = (mx.x - mn.x) * (mx.y - mn.y) ∧
    Winding.subArea (endpoints (addRectangle mn mx false)) = -((mx.x - mn.x) * (mx.y - mn.y)) ∧
    C18.shoelace (Winding.subEdges (endpoints (addRectangle mn mx true)))
      = 2 * ((mx.x - mn.x) * (mx.y - mn.y)) ∧
    C18.shoelace (Winding.subEdges (endpoints (addRectangle mn mx false)))
      = -(2 * ((mx.x - mn.x) * (mx.y - mn.y))) := by
  have e1 : endpoints (addRectangle mn mx true) = [mn, ⟨mx.x, mn.y⟩, mx, ⟨mn.x, mx.y⟩] := rfl
  have e2 : endpoints (addRectangle mn mx false) = [mn, ⟨mn.x, mx.y⟩, mx, ⟨mx.x, mn.y⟩] := rfl
  rw [C18.subArea_shoelace, C18.subArea_shoelace, e1, e2]
  simp only [C18.shoelace, Winding.subEdges, Winding.subEdgesFrom, List.map_cons, List.map_nil,
    List.sum_cons, List.sum_nil]
  refine ⟨?_, ?_, ?_, ?_⟩ <;> ring

theorem dirOf_ite (pos : Bool) : (dirOf pos : K) = if pos then 1 else -1 := by cases pos <;> simp [dirOf]

/-- **End points of `add_circle`**: the cubics go `c − (|r|, 0) → c − (0, |r|·dir) → c + (|r|, 0)
→ c + (0, |r|·dir) → c − (|r|, 0)` (`dir` = +1 for Positive, −1 for Negative): the four end points
are the centre ± |r| on the axes, hence exactly on the circle, and the last is the first (the
sub-path closes on itself). -/
theorem circle_helper_endpoints_on_circle (c : P K) (r : K) (pos : Bool) :
    endpoints (addCircle c r pos)
      = [⟨c.x - |r|, c.y⟩, ⟨c.x, c.y - |r| * (if pos then 1 else -1)⟩, ⟨c.x + |r|, c.y⟩,
         ⟨c.x, c.y + |r| * (if pos then 1 else -1)⟩, ⟨c.x - |r|, c.y⟩] ∧
    ∀ p ∈ endpoints (addCircle c r pos), (p - c).sqLen = r * r := by
  have hr : |r| * |r| = r * r := abs_mul_abs_self r
  refine have he := ?_; ⟨he, ?_⟩
  · simp only [addCircle, endpoints, off, dirOf_ite, List.cons.injEq, and_true]
    refine ⟨?_, ?_, ?_, ?_, ?_⟩ <;> apply P.ext' <;> simp only [P.add_def, sc_zero, sc_abs] <;> ring
  intro p hp
  rw [he] at hp
  simp only [List.mem_cons, List.not_mem_nil, or_false] at hp
  cases pos <;> rcases hp with h | h | h | h | h <;> subst h <;>
    simp only [P.sub_def, P.sqLen, if_true, Bool.false_eq_true, if_false] <;> linear_combination hr

/-- the control points of the cubics of `add_circle`, as `(end point, its control point)` pairs -/
noncomputable def circleHandles (c : P K) (r : K) (pos : Bool) : List (P K × P K) :=
  match addCircle c r pos with
  | [.begin p0 _, .cubic a1 b1 p1 _, .cubic a2 b2 p2 _, .cubic a3 b3 p3 _, .cubic a4 b4 p4 _, .end_ _] =>
    [(p0, a1), (p1, b1), (p1, a2), (p2, b2), (p2, a3), (p3, b3), (p3, a4), (p4, b4)]
  | _ => []

/-- **Tangency of `add_circle`'s control points**: every control point is offset from its end
point perpendicularly to the radius (on the circle's tangent), by `0.55191505·|r|`. -/
theorem circle_helper_tangents (c : P K) (r : K) (pos : Bool) :
    (circleHandles c r pos).length = 8 ∧
    ∀ h ∈ circleHandles c r pos,
      (h.2 - h.1).dot (h.1 - c) = 0 ∧ (h.2 - h.1).sqLen = (|r| * (55191505 / 10 ^ 8)) ^ 2 := by
  refine ⟨rfl, ?_⟩
  have hk : (55191505 / 10 ^ 8 : K) = circleK := by simp [circleK, ofSci_eq]
  rw [hk]
  intro h hh
  simp only [circleHandles, addCircle, off, List.mem_cons, List.not_mem_nil, or_false] at hh
  -- true of any constant factor
  generalize (circleK : K) = k at hh ⊢
  cases pos <;> rcases hh with e | e | e | e | e | e | e | e <;> subst e <;>
    simp only [P.add_def, P.sub_def, P.dot, P.sqLen, dirOf, sc_zero, sc_one, sc_abs, if_true, Bool.false_eq_true,
      if_false, add_sub_cancel_left, add_zero, sub_self, mul_zero,
      zero_mul, mul_one, mul_neg, neg_neg, neg_mul, neg_zero, true_and] <;>
    ring

/-- `(2·FRAC_1_SQRT_2² − 1)` for the decimal constant of the model -/
theorem frac1Sqrt2_sq : |2 * ((frac1Sqrt2 : K) * frac1Sqrt2) - 1| < 1 / 10 ^ 15 := by
  simp only [frac1Sqrt2, geom]
  rw [abs_lt]
  constructor <;> norm_num

/-- **Points of `FillBuilder::add_circle`** (`dir` = ±1 by winding): sub-paths
`s→m0, m0→m1, …, m6→s` then the octagon `s m0 … m6`; the end points on the axes (`s, m1, m3, m5`)
are exactly on the circle; the four diagonal ones are at squared distance `2k²·r²` with
`k = FRAC_1_SQRT_2` (decimal), `|2k² − 1| < 10⁻¹⁵` (`frac1Sqrt2_sq`). -/
theorem fill_circle_helper_points (c : P K) (r : K) (pos : Bool) :
    endpoints (fillAddCircle c r pos) =
      (let dir : K := if pos then 1 else -1
       let s : P K := ⟨c.x - |r|, c.y⟩
       let m0 := diag c (-1) (-dir) |r|
       let m1 : P K := ⟨c.x, c.y - |r| * dir⟩
       let m2 := diag c 1 (-dir) |r|
       let m3 : P K := ⟨c.x + |r|, c.y⟩
       let m4 := diag c 1 dir |r|
       let m5 : P K := ⟨c.x, c.y + |r| * dir⟩
       let m6 := diag c (-1) dir |r|
       [s, m0, m0, m1, m1, m2, m2, m3, m3, m4, m4, m5, m5, m6, m6, s, s, m0, m1, m2, m3, m4, m5, m6]) ∧
    (∀ sx sy : K, sx * sx = 1 → sy * sy = 1 →
      (diag c sx sy |r| - c).sqLen = 2 * ((frac1Sqrt2 : K) * frac1Sqrt2) * (r * r)) ∧
    (∀ p ∈ ([⟨c.x - |r|, c.y⟩, ⟨c.x, c.y - |r|⟩, ⟨c.x + |r|, c.y⟩, ⟨c.x, c.y + |r|⟩] : List (P K)),
      (p - c).sqLen = r * r) := by
  have hr : |r| * |r| = r * r := abs_mul_abs_self r
  refine ⟨?_, ?_, ?_⟩
  · simp only [fillAddCircle, quadSub, endpoints, off, dirOf_ite, List.cons_append, List.nil_append,
      List.cons.injEq, and_true]
    simp [geom, sub_eq_add_neg]
    cases pos <;> simp
  · intro sx sy hx hy
    simp only [diag, P.add_def, P.sub_def, P.smul, P.sqLen]
    linear_combination (frac1Sqrt2 : K) ^ 2 * (r * r) * (hx + hy) + (sx * sx + sy * sy) * (frac1Sqrt2 : K) ^ 2 * hr
  · intro p hp
    simp only [List.mem_cons, List.not_mem_nil, or_false] at hp
    rcases hp with h | h | h | h <;> subst h <;> simp only [P.sub_def, P.sqLen] <;> linear_combination hr

def RadiiLe (a b : Radii K) : Prop := a.tl ≤ b.tl ∧ a.tr ≤ b.tr ∧ a.bl ≤ b.bl ∧ a.br ≤ b.br

theorem RadiiLe.refl (a : Radii K) : RadiiLe a a := ⟨le_rfl, le_rfl, le_rfl, le_rfl⟩

theorem RadiiLe.trans {a b c : Radii K} (h1 : RadiiLe a b) (h2 : RadiiLe b c) : RadiiLe a c :=
  ⟨h1.1.trans h2.1, h1.2.1.trans h2.2.1, h1.2.2.1.trans h2.2.2.1, h1.2.2.2.trans h2.2.2.2⟩

/-- all four radii within `[0, min w h]` -/
def RadiiInv (w h : K) (r : Radii K) : Prop :=
  RadiiLe ⟨0, 0, 0, 0⟩ r ∧ RadiiLe r ⟨w, w, w, w⟩ ∧ RadiiLe r ⟨h, h, h, h⟩

theorem RadiiInv.mono {w h : K} {r r' : Radii K} (hi : RadiiInv w h r) (hle : RadiiLe r' r)
    (h0 : RadiiLe ⟨0, 0, 0, 0⟩ r') : RadiiInv w h r' :=
  ⟨h0, hle.trans hi.2.1, hle.trans hi.2.2⟩

theorem radiiInit_inv (w h : K) (hw : 0 ≤ w) (hh : 0 ≤ h) (r : Radii K) : RadiiInv w h (radiiInit w h r) := by
  have k0 : ∀ x : K, 0 ≤ min |x| (min w h) := fun x => le_min (abs_nonneg x) (le_min hw hh)
  have kw : ∀ x : K, min |x| (min w h) ≤ w := fun x => (min_le_right _ _).trans (min_le_left _ _)
  have kh : ∀ x : K, min |x| (min w h) ≤ h := fun x => (min_le_right _ _).trans (min_le_right _ _)
  exact ⟨⟨k0 _, k0 _, k0 _, k0 _⟩, ⟨kw _, kw _, kw _, kw _⟩, ⟨kh _, kh _, kh _, kh _⟩⟩

/-- **one clamping step** on the two radii `a`, `b` of a side of length `s` that they overflow: both
shrink by the same `(a + b − s)/2`, stay non-negative (because `a, b ≤ s`) and then add up to `s` -/
theorem clamp_pair {a b s : K} (ha : 0 ≤ a) (hb : 0 ≤ b) (has : a ≤ s) (hbs : b ≤ s) (hc : s < a + b) :
    (0 ≤ a - excess a b s ∧ a - excess a b s ≤ a) ∧ (0 ≤ b - excess a b s ∧ b - excess a b s ≤ b) ∧
    (a - excess a b s) + (b - excess a b s) ≤ s := by
  have e : excess a b s = (a + b - s) / 2 := by simp only [excess, sc_half]; ring
  rw [e]
  exact ⟨⟨by linear_combination (1 / 2) * ha + (1 / 2) * hbs, by linear_combination (1 / 2) * hc⟩,
    ⟨by linear_combination (1 / 2) * hb + (1 / 2) * has, by linear_combination (1 / 2) * hc⟩, le_of_eq (by ring)⟩

theorem clampTop_spec (w h : K) (r : Radii K) (hi : RadiiInv w h r) :
    RadiiInv w h (clampTop w r) ∧ RadiiLe (clampTop w r) r ∧ (clampTop w r).tl + (clampTop w r).tr ≤ w := by
  obtain ⟨⟨a1, a2, a3, a4⟩, ⟨b1, b2, b3, b4⟩, -⟩ := id hi
  unfold clampTop
  split_ifs with hc
  · obtain ⟨⟨x0, x1⟩, ⟨y0, y1⟩, hs⟩ := clamp_pair a1 a2 b1 b2 hc
    exact ⟨hi.mono ⟨x1, y1, le_rfl, le_rfl⟩ ⟨x0, y0, a3, a4⟩, ⟨x1, y1, le_rfl, le_rfl⟩, hs⟩
  · exact ⟨hi, RadiiLe.refl r, not_lt.1 hc⟩

theorem clampBottom_spec (w h : K) (r : Radii K) (hi : RadiiInv w h r) :
    RadiiInv w h (clampBottom w r) ∧ RadiiLe (clampBottom w r) r ∧
      (clampBottom w r).bl + (clampBottom w r).br ≤ w := by
  obtain ⟨⟨a1, a2, a3, a4⟩, ⟨b1, b2, b3, b4⟩, -⟩ := id hi
  unfold clampBottom
  split_ifs with hc
  · obtain ⟨⟨x0, x1⟩, ⟨y0, y1⟩, hs⟩ := clamp_pair a3 a4 b3 b4 hc
    exact ⟨hi.mono ⟨le_rfl, le_rfl, x1, y1⟩ ⟨a1, a2, x0, y0⟩, ⟨le_rfl, le_rfl, x1, y1⟩, hs⟩
  · exact ⟨hi, RadiiLe.refl r, not_lt.1 hc⟩

theorem clampRight_spec (w h : K) (r : Radii K) (hi : RadiiInv w h r) :
    RadiiInv w h (clampRight h r) ∧ RadiiLe (clampRight h r) r ∧
      (clampRight h r).tr + (clampRight h r).br ≤ h := by
  obtain ⟨⟨a1, a2, a3, a4⟩, -, ⟨c1, c2, c3, c4⟩⟩ := id hi
  unfold clampRight
  split_ifs with hc
  · obtain ⟨⟨x0, x1⟩, ⟨y0, y1⟩, hs⟩ := clamp_pair a2 a4 c2 c4 hc
    exact ⟨hi.mono ⟨le_rfl, x1, le_rfl, y1⟩ ⟨a1, x0, a3, y0⟩, ⟨le_rfl, x1, le_rfl, y1⟩, hs⟩
  · exact ⟨hi, RadiiLe.refl r, not_lt.1 hc⟩

theorem clampLeft_spec (w h : K) (r : Radii K) (hi : RadiiInv w h r) :
    RadiiInv w h (clampLeft h r) ∧ RadiiLe (clampLeft h r) r ∧
      (clampLeft h r).tl + (clampLeft h r).bl ≤ h := by
  obtain ⟨⟨a1, a2, a3, a4⟩, -, ⟨c1, c2, c3, c4⟩⟩ := id hi
  unfold clampLeft
  split_ifs with hc
  · obtain ⟨⟨x0, x1⟩, ⟨y0, y1⟩, hs⟩ := clamp_pair a1 a3 c1 c3 hc
    exact ⟨hi.mono ⟨x1, le_rfl, y1, le_rfl⟩ ⟨x0, a2, y0, a4⟩, ⟨x1, le_rfl, y1, le_rfl⟩, hs⟩
  · exact ⟨hi, RadiiLe.refl r, not_lt.1 hc⟩

/-- **The radii `add_rounded_rectangle` uses fit the box** (box not inverted: `0 ≤ w`, `0 ≤ h`):
after `abs().min(min_wh)` and the four pairwise clamps every radius is in `[0, |requested|]` and
the two radii on each side add up to at most that side — whatever was requested (negative, larger
than the half side, larger than the box).  So consecutive corner arcs never overlap. -/
theorem rounded_rect_radii_fit (w h : K) (hw : 0 ≤ w) (hh : 0 ≤ h) (r : Radii K) :
    (0 ≤ (clampRadii w h r).tl ∧ 0 ≤ (clampRadii w h r).tr ∧ 0 ≤ (clampRadii w h r).bl ∧ 0 ≤ (clampRadii w h r).br) ∧
    ((clampRadii w h r).tl ≤ |r.tl| ∧ (clampRadii w h r).tr ≤ |r.tr| ∧ (clampRadii w h r).bl ≤ |r.bl| ∧
      (clampRadii w h r).br ≤ |r.br|) ∧
    (clampRadii w h r).tl + (clampRadii w h r).tr ≤ w ∧ (clampRadii w h r).bl + (clampRadii w h r).br ≤ w ∧
    (clampRadii w h r).tr + (clampRadii w h r).br ≤ h ∧ (clampRadii w h r).tl + (clampRadii w h r).bl ≤ h := by
  have h0 := radiiInit_inv w h hw hh r
  obtain ⟨i1, l1, t1⟩ := clampTop_spec w h _ h0
  obtain ⟨i2, l2, t2⟩ := clampBottom_spec w h _ i1
  obtain ⟨i3, l3, t3⟩ := clampRight_spec w h _ i2
  obtain ⟨i4, l4, t4⟩ := clampLeft_spec w h _ i3
  have li : RadiiLe (radiiInit w h r) ⟨|r.tl|, |r.tr|, |r.bl|, |r.br|⟩ :=
    ⟨min_le_left _ _, min_le_left _ _, min_le_left _ _, min_le_left _ _⟩
  -- later steps only shrink the radii, so a side that fitted once still fits
  have l42 := l4.trans (l3.trans l2)
  have l43 := l4.trans l3
  exact ⟨i4.1, l4.trans (l3.trans (l2.trans (l1.trans li))), (add_le_add l42.1 l42.2.1).trans t1,
    (add_le_add l43.2.2.1 l43.2.2.2).trans t2, (add_le_add l4.2.1 l4.2.2.2).trans t3, t4⟩

/-- a generous request (10, 10, 1, 1 in a 4 × 6 box) is clamped to radii that fit -/
example : clampRadii (4:ℚ) 6 ⟨10, 10, 1, 1⟩ = ⟨2, 2, 1, 1⟩ := by
  simp [clampRadii, clampLeft, clampRight, clampBottom, clampTop, radiiInit, excess, geom]
  norm_num

theorem clampRadii_zero (w h : K) (hw : 0 ≤ w) (hh : 0 ≤ h) :
    clampRadii w h ⟨0, 0, 0, 0⟩ = ⟨0, 0, 0, 0⟩ := by
  have hm : min (0:K) (min w h) = 0 := min_eq_left (le_min hw hh)
  have e0 : radiiInit w h (⟨0, 0, 0, 0⟩ : Radii K) = ⟨0, 0, 0, 0⟩ := by
    simp only [radiiInit, geom, abs_zero, hm]
  have nw : ¬ ((0:K) + 0 > w) := by simpa using hw
  have nh : ¬ ((0:K) + 0 > h) := by simpa using hh
  simp only [clampRadii, e0, clampTop, clampBottom, clampRight, clampLeft, nw, nh, if_false]

/-- **Radius 0 degenerates to the rectangle** (box not inverted): with all four radii 0,
`add_rounded_rectangle` emits no curve and visits exactly the corners of `add_rectangle`.
Positive: the identical call list.  Negative: the same cycle `min → (min.x,max.y) → max →
(max.x,min.y)` entered one corner later, at `(min.x, max.y)`. -/
theorem rounded_rect_degenerates (mn mx : P K) (hx : mn.x ≤ mx.x) (hy : mn.y ≤ mx.y) :
    addRoundedRectangle mn mx ⟨0, 0, 0, 0⟩ true = addRectangle mn mx true ∧
    addRoundedRectangle mn mx ⟨0, 0, 0, 0⟩ false
      = [.begin ⟨mn.x, mx.y⟩ (), .line mx (), .line ⟨mx.x, mn.y⟩ (), .line mn (), .end_ true] ∧
    endpoints (addRoundedRectangle mn mx ⟨0, 0, 0, 0⟩ false) = (rectPoints mn mx false).rotate 1 := by
  have hw : (0:K) ≤ mx.x - mn.x := sub_nonneg.2 hx
  have hh : (0:K) ≤ mx.y - mn.y := sub_nonneg.2 hy
  have hz := clampRadii_zero _ _ hw hh
  have ea : ∀ pos, addRoundedRectangle mn mx ⟨0, 0, 0, 0⟩ pos
      = rrCalls (rrPoints mn mx (clampRadii (mx.x - mn.x) (mx.y - mn.y) ⟨0, 0, 0, 0⟩))
          (clampRadii (mx.x - mn.x) (mx.y - mn.y) ⟨0, 0, 0, 0⟩) pos := fun _ => rfl
  refine have e2 := ?_; ⟨?_, e2, ?_⟩
  · rw [ea, hz]
    simp [rrCalls, rrPoints, cornerCubic, off, geom]
  · rw [ea, hz]
    simp [rrCalls, rrPoints, cornerCubic, off, addRectangle, addPolygon, rectPoints, geom]
  · rw [e2]
    rfl

example : (⟨0, 0⟩ : P ℚ).x ≤ (⟨3, 2⟩ : P ℚ).x ∧ (⟨0, 0⟩ : P ℚ).y ≤ (⟨3, 2⟩ : P ℚ).y := by
  constructor <;> norm_num

/-- **`FillBuilder::add_circle`: the arcs sit on the octagon.**  The call list is eight sub-paths
`begin(vᵢ) quadratic_bezier_to(kᵢ, vᵢ₊₁) end` over the cyclic vertex list `s, m0, …, m6`, followed by
the closed polygon `s, m0, …, m6` itself.  Each quadratic sub-path is closed by the event queue with
the chord `vᵢ₊₁ → vᵢ`, the reverse of the octagon's edge `vᵢ → vᵢ₊₁`: chord and edge cancel, the
fill is the octagon plus the eight caps. (Holds for every scalar type.) -/
theorem fill_circle_helper_chords {α : Type} [Scalar α] (c : P α) (r : α) (pos : Bool) :
    ∃ s m0 m1 m2 m3 m4 m5 m6 k0 k1 k2 k3 k4 k5 k6 k7 : P α,
      fillAddCircle c r pos =
        quadSub s k0 m0 ++ quadSub m0 k1 m1 ++ quadSub m1 k2 m2 ++ quadSub m2 k3 m3 ++
        quadSub m3 k4 m4 ++ quadSub m4 k5 m5 ++ quadSub m5 k6 m6 ++ quadSub m6 k7 s ++
        addPolygon [s, m0, m1, m2, m3, m4, m5, m6] true :=
  ⟨_, _, _, _, _, _, _, _, _, _, _, _, _, _, _, _, rfl⟩

end geometry

section shared
open Lyon.Sources
variable {K : Type} [Field K] [LinearOrder K] [IsStrictOrderedRing K]

/-- an edge segment of the event queue: event position (upper end), `to` (lower end), winding -/
abbrev EdgeSeg (K : Type) := P K × P K × Int

/-- the edge segments of the stored records (newest first); vertex-only events
(`is_edge = false`) carry no geometry and are left out -/
noncomputable def edgeSegs (recs : List (EdgeRec K)) : List (EdgeSeg K) :=
  (recs.filter (fun r => r.isEdge)).map (fun r => (r.pos, r.to, r.winding))

/-- how `add_edge` stores a flattened piece: downward; turned (and the winding negated) when
the piece runs against the sweep -/
noncomputable def storedSeg (w : Int) (l : Piece K) : EdgeSeg K :=
  if isAfter l.a l.b then (l.b, l.a, -w) else (l.a, l.b, w)

/-- the segments a flattening contributes: its non-degenerate pieces, stored downward
(newest first, like the record list) -/
noncomputable def pieceSegs (w : Int) (ps : List (Piece K)) : List (EdgeSeg K) :=
  ((ps.filter (fun l => !(l.a == l.b))).map (storedSeg w)).reverse

/-- negate the winding of a segment -/
def negW (s : EdgeSeg K) : EdgeSeg K := (s.1, s.2.1, -s.2.2)

theorem storedSeg_neg (w : Int) (l : Piece K) : storedSeg (-w) l = negW (storedSeg w l) := by
  unfold storedSeg negW
  split_ifs <;> simp

theorem pieceSegs_neg (w : Int) (ps : List (Piece K)) : pieceSegs (-w) ps = (pieceSegs w ps).map negW := by
  unfold pieceSegs
  rw [List.map_reverse, List.map_map]
  congr 2
  funext l
  exact storedSeg_neg w l

/-- the positions and windings of the records of `Sources.curveSegment_recs` -/
theorem curveSegment_segs (b : Builder K) (q : P K) (toId : Nat) (flat flatFlipped : List (Piece K)) :
    edgeSegs (b.curveSegment q toId flat flatFlipped).recs
      = pieceSegs (if isAfter b.current q then -1 else 1) (if isAfter b.current q then flatFlipped else flat)
        ++ edgeSegs b.recs := by
  obtain ⟨new, e, ⟨he, -⟩, -⟩ := curveSegment_recs b q toId flat flatFlipped
  unfold edgeSegs pieceSegs
  rw [e, List.filter_append, List.map_append, he, List.map_reverse, List.map_map]
  congr 3
  funext l
  by_cases h : isAfter l.a l.b = true <;> simp [pieceRec, storedSeg, h]

theorem isAfter_flip (p q : P K) (h : p ≠ q) : isAfter q p = !isAfter p q := by
  rw [Bool.eq_iff_iff, Bool.not_eq_true', ← Bool.not_eq_true, Sources.isAfter_lexLt, Sources.isAfter_lexLt]
  rcases LexLt.total p q with g | g | g
  · exact ⟨fun _ => g.asymm, fun _ => g⟩
  · exact absurd g h
  · exact ⟨fun g' => absurd g g'.asymm, fun g' => absurd g g'⟩

/-- **A curve and its reverse store the same segments with opposite windings.**
`b1` is about to draw a curve from `p` to `q`, `b2` the reversed curve from `q` to `p` (`p ≠ q`);
`fwd` is the flattening of the curve `p → q`, `bwd` the flattening of the curve `q → p` (what
`for_each_flattened_with_t` yields for the segment and for the segment with its ends swapped).
The event queue flattens whichever of the two runs downward — the SAME list `down` on both
sides, since exactly one of the two calls swaps — and stores each non-degenerate piece of it
downward.  So both calls add the same segments in the same order; the windings are opposite.
(Endpoint ids and `t`-ranges differ: those are C07's business.) -/
theorem curve_records_opposite (b1 b2 : Builder K) (p q : P K) (hpq : p ≠ q)
    (h1 : b1.current = p) (h2 : b2.current = q) (id1 id2 : Nat) (fwd bwd : List (Piece K)) :
    let down := if isAfter p q then bwd else fwd
    let w : Int := if isAfter p q then -1 else 1
    edgeSegs (b1.curveSegment q id1 fwd bwd).recs = pieceSegs w down ++ edgeSegs b1.recs ∧
    edgeSegs (b2.curveSegment p id2 bwd fwd).recs = (pieceSegs w down).map negW ++ edgeSegs b2.recs := by
  intro down w
  have hf := isAfter_flip p q hpq
  constructor
  · rw [curveSegment_segs, h1]
  · rw [curveSegment_segs, h2, hf, ← pieceSegs_neg]
    cases ha : isAfter p q <;> simp [down, w, ha]

theorem shared_same_polyline {β : Type} (flat : β → List (Piece K)) (x y : β) (p q : P K) (hne : p ≠ q)
    (b1 b2 : Builder K) (h1 : b1.current = p) (h2 : b2.current = q) (id1 id2 : Nat) :
    ∃ segs : List (EdgeSeg K),
      segs = pieceSegs (if isAfter p q then -1 else 1) (flat (if isAfter p q then y else x)) ∧
      edgeSegs (b1.curveSegment q id1 (flat x) (flat y)).recs = segs ++ edgeSegs b1.recs ∧
      edgeSegs (b2.curveSegment p id2 (flat y) (flat x)).recs = segs.map negW ++ edgeSegs b2.recs := by
  rw [apply_ite flat]
  exact ⟨_, rfl, curve_records_opposite b1 b2 p q hne h1 h2 id1 id2 (flat x) (flat y)⟩

/-- **Two sub-paths sharing a quadratic edge in opposite directions** (`from ≠ to`): the edge
records stored for `c` (drawn from `c.from`) and for `c.flip()` (drawn from `c.to`) are the same
list of segments with opposite windings, for ANY flattener `flat` applied the way the code applies
it (`flat c` when the curve runs with the sweep, `flat c.flip` when it is swapped): no crack and no
overlap can arise between the two sub-paths along the shared edge, because there is only one
polyline.  The sweep then sees each of these segments twice with windings `+w` and `−w`. -/
theorem shared_edge_same_polyline (flat : Quad K → List (Piece K)) (c : Quad K) (hne : c.a ≠ c.b)
    (b1 b2 : Builder K) (h1 : b1.current = c.a) (h2 : b2.current = c.b) (id1 id2 : Nat) :
    ∃ segs : List (EdgeSeg K),
      segs = pieceSegs (if isAfter c.a c.b then -1 else 1) (flat (if isAfter c.a c.b then c.flip else c)) ∧
      edgeSegs (b1.curveSegment c.b id1 (flat c) (flat c.flip)).recs = segs ++ edgeSegs b1.recs ∧
      edgeSegs (b2.curveSegment c.flip.b id2 (flat c.flip) (flat c.flip.flip)).recs
        = segs.map negW ++ edgeSegs b2.recs :=
  shared_same_polyline flat c c.flip c.a c.b hne b1 b2 h1 h2 id1 id2

/-- the same for a cubic edge (`cubic_bezier_segment` runs the same code on `Cubic.flip`) -/
theorem shared_cubic_edge_same_polyline (flat : Cubic K → List (Piece K)) (c : Cubic K) (hne : c.a ≠ c.b)
    (b1 b2 : Builder K) (h1 : b1.current = c.a) (h2 : b2.current = c.b) (id1 id2 : Nat) :
    ∃ segs : List (EdgeSeg K),
      segs = pieceSegs (if isAfter c.a c.b then -1 else 1) (flat (if isAfter c.a c.b then c.flip else c)) ∧
      edgeSegs (b1.curveSegment c.b id1 (flat c) (flat c.flip)).recs = segs ++ edgeSegs b1.recs ∧
      edgeSegs (b2.curveSegment c.flip.b id2 (flat c.flip) (flat c.flip.flip)).recs
        = segs.map negW ++ edgeSegs b2.recs :=
  shared_same_polyline flat c c.flip c.a c.b hne b1 b2 h1 h2 id1 id2

/-- non-vacuity of the hypothesis `c.a ≠ c.b`, on an upward quadratic from (0,1) to (1,0), which IS swapped
(`isAfter`) -/
example :
    let c : Quad ℚ := ⟨⟨0, 1⟩, ⟨1, 1⟩, ⟨1, 0⟩⟩
    c.a ≠ c.b ∧ isAfter c.a c.b = true := by
  refine ⟨?_, ?_⟩
  · intro h
    have := congrArg P.x h
    norm_num at this
  · simp [isAfter, geom]

end shared

end Lyon.C03b
