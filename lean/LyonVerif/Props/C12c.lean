/-
  C12, cubic × cubic: the fat-line (Bézier) clipper of `crates/geom/src/cubic_bezier_intersections.rs`.

  All statements are about the model functions of `Model/Geom/Clip.lean` (the same `def`s the
  correspondence check runs at `Float32`/`Float`, bit for bit against lyon) instantiated at an
  arbitrary linearly ordered field `K`.  `sqrt`, `is_nan`, the float→int cast (`Transc K`) and lyon's
  `EPSILON`/`epsilon_for` (`Eps K`) are arbitrary parameters: NO law about them is assumed anywhere
  in this file (the clip theorems hold whatever `1 / sqrt(a² + b²)` evaluates to, even 0).
  `S::value` literals are their exact decimal values (`Clip.fieldLit`); `signum` is the field sign.

  What is proved for ALL inputs (exact arithmetic):
   (a) the clip never throws away a common point (`clip_sound`, `clip_keeps_common_points`), from the
       convex-hull property of Bernstein polynomials, which is proved here, not assumed
       (`bernstein_le_line`, `hull_chains_bound`), and the fat-line property (`fat_line_contains_curve`);
   (b) every reported pair lies in [0,1]², for every fuel (`add_curve_intersections_in_unit_square`,
       `cubic_intersections_in_unit_square`);
   (c) domain bookkeeping: `domain_value_at_t` is the affine map, restriction composes, every
       recursive call works on the restriction of the ORIGINAL curves to the domains it is given
       (`reach_consistent`), and no step drops a crossing lying in its domains, except at the
       leaves where thresholds decide (`step_keeps_crossing`); the call tree is `Calls`, the one
       `step` defines with any `State`: that the steps `addCurveIx` runs (fuel, call budget) are
       nodes of it is not stated, nor that the top-level exit `trivialReject` loses no crossing;
   (d) swapping the curves swaps the pairs — only in the branches where it is true
       (`swap_partial`); in the clipping branch it is FALSE of the code (observation
       C12-cubic-cubic-unstable-miss of findings.d/C12.json).
  What is NOT a theorem: completeness/accuracy of the whole recursion under rounding, and what the
  leaves report (convergence thresholds, de-duplication, the sampling of
  `add_point_curve_intersection`): covered by the bit-level tie and the oracle only.
-/
import LyonVerif.Lemmas.ClipFat
import LyonVerif.Lemmas.ClipBook

set_option linter.unusedSectionVars false
set_option linter.unusedSimpArgs false

namespace Lyon.C12c
open Lyon Scalar Lyon.Clip
variable {K : Type} [Field K] [LinearOrder K] [IsStrictOrderedRing K]

/-- a dummy `Transc ℚ` / `Eps ℚ` for the non-vacuity examples (no law is assumed anywhere) -/
instance exTransc : Transc ℚ where
  sqrt x := x
  cbrt x := x
  sin x := x
  cos x := x
  tan x := x
  acos x := x
  atan2 x _ := x
  pow x _ := x
  log2 x := x
  ln x := x
  floor x := x
  ceil x := x
  toNat x := x.floor.toNat
  fmod x _ := x
  eps := 0
  pi := 3
  isNaN _ := false
  isFinite _ := true
instance exEps : Eps ℚ where
  epsilon := 1 / 10000
  epsilonFor _ := 1 / 10000

/-! ## (a) the clip keeps every common point -/

/-- The signed distance of the points of a cubic to a line `a x + b y + c` is the cubic Bernstein
polynomial of the four control points' distances. -/
theorem distance_is_bernstein (e : LineEq K) (c : Cubic K) (t : K) :
    LineEq.signedDistance e (c.sample t)
      = bern (LineEq.signedDistance e c.a) (LineEq.signedDistance e c.c1)
          (LineEq.signedDistance e c.c2) (LineEq.signedDistance e c.b) t :=
  signedDistance_sample e c t

/-- **Convex-hull property (proved).**  If the line `y = m x + k` is above the four control points
`(0, d0), (1/3, d1), (2/3, d2), (1, d3)` then it is above the Bernstein polynomial on [0,1]. -/
theorem bernstein_le_line (d0 d1 d2 d3 m k t : K) (h0 : d0 ≤ k) (h1 : d1 ≤ m * (1 / 3) + k)
    (h2 : d2 ≤ m * (2 / 3) + k) (h3 : d3 ≤ m + k) (ht0 : 0 ≤ t) (ht1 : t ≤ 1) :
    bern d0 d1 d2 d3 t ≤ m * t + k :=
  (bern_mono h0 h1 h2 h3 ht0 ht1).trans_eq (bern_line m k t)

example : (0:ℚ) ≤ 1 ∧ (2:ℚ) ≤ 3 * (1 / 3) + 1 ∧ (1:ℚ) ≤ 3 * (2 / 3) + 1 ∧ (4:ℚ) ≤ 3 + 1 := by norm_num

/-- ... and symmetrically from below. -/
theorem line_le_bernstein (d0 d1 d2 d3 m k t : K) (h0 : k ≤ d0) (h1 : m * (1 / 3) + k ≤ d1)
    (h2 : m * (2 / 3) + k ≤ d2) (h3 : m + k ≤ d3) (ht0 : 0 ≤ t) (ht1 : t ≤ 1) :
    m * t + k ≤ bern d0 d1 d2 d3 t :=
  (bern_line m k t).symm.trans_le (bern_mono h0 h1 h2 h3 ht0 ht1)

example : (0:ℚ) ≤ 1 ∧ (0:ℚ) * (1 / 3) + 0 ≤ 2 ∧ (0:ℚ) * (2 / 3) + 0 ≤ 1 ∧ (0:ℚ) + 0 ≤ 4 := by norm_num

/-- **The hull computed by `convex_hull_of_distance_curve` is a hull** in every branch (one control
point on each side, triangle on `p1`, triangle on `p2`, quadrilateral; flipped or not): both
chains run from `x = 0` to `x = 1` through a common first and last vertex, every edge of `top` is
a line above, every edge of `bottom` a line below the distance polynomial on [0,1]. -/
theorem hull_chains_bound (d0 d1 d2 d3 : K) :
    HullOK (bern d0 d1 d2 d3) (convexHull d0 d1 d2 d3).1 (convexHull d0 d1 d2 d3).2 :=
  convexHull_ok d0 d1 d2 d3

variable [Transc K]

/-- **Fat-line property.**  Every point of a cubic has its signed distance to the cubic's own
baseline equation inside `[d_min, d_max] = fat_line_min_max()` (factors 3/4 and 4/9). -/
theorem fat_line_contains_curve (c : Cubic K) (u : K) (h0 : 0 ≤ u) (h1 : u ≤ 1) :
    (fatLineMinMax c).1 ≤ LineEq.signedDistance (baselineEq c) (c.sample u)
    ∧ LineEq.signedDistance (baselineEq c) (c.sample u) ≤ (fatLineMinMax c).2 :=
  fatLine_contains c u h0 h1

example : (0:ℚ) ≤ 1 / 3 ∧ (1 / 3 : ℚ) ≤ 1 := by norm_num

/-- **Clipping soundness.**  If the point `curve1(t)`, `t ∈ [0,1]`, has its signed distance to
`curve2`'s baseline inside `curve2`'s fat line `[d_min, d_max]`, then
`restrict_curve_to_fat_line(curve1, curve2)` does not answer `None` and `t` lies in the returned
interval.  No hypothesis on the curves (degenerate baselines included), none on `sqrt`. -/
theorem clip_sound (c1 c2 : Cubic K) (t : K) (ht0 : 0 ≤ t) (ht1 : t ≤ 1)
    (hlo : (fatLineMinMax c2).1 ≤ LineEq.signedDistance (baselineEq c2) (c1.sample t))
    (hhi : LineEq.signedDistance (baselineEq c2) (c1.sample t) ≤ (fatLineMinMax c2).2) :
    ∃ lo hi, restrictCurveToFatLine c1 c2 = some (lo, hi) ∧ lo ≤ t ∧ t ≤ hi := by
  rw [signedDistance_sample] at hlo hhi
  unfold restrictCurveToFatLine
  exact clipHull_sound (convexHull_ok _ _ _ _) _ _ t ht0 ht1 hlo hhi

/-- **The clip never throws away a real crossing.**  If `curve1(t) = curve2(u)` with
`t, u ∈ [0,1]`, the clip of `curve1` against `curve2`'s fat line keeps `t`. -/
theorem clip_keeps_common_points (c1 c2 : Cubic K) (t u : K) (ht0 : 0 ≤ t) (ht1 : t ≤ 1)
    (hu0 : 0 ≤ u) (hu1 : u ≤ 1) (h : c1.sample t = c2.sample u) :
    ∃ lo hi, restrictCurveToFatLine c1 c2 = some (lo, hi) ∧ lo ≤ t ∧ t ≤ hi := by
  have hf := fatLine_contains c2 u hu0 hu1
  rw [← h] at hf
  exact clip_sound c1 c2 t ht0 ht1 hf.1 hf.2

/-- in particular the clip cannot answer "no intersection" when there is one -/
theorem clip_none_no_common_point (c1 c2 : Cubic K) (h : restrictCurveToFatLine c1 c2 = none)
    (t u : K) (ht0 : 0 ≤ t) (ht1 : t ≤ 1) (hu0 : 0 ≤ u) (hu1 : u ≤ 1) :
    c1.sample t ≠ c2.sample u := by
  intro hc
  obtain ⟨lo, hi, h', _⟩ := clip_keeps_common_points c1 c2 t u ht0 ht1 hu0 hu1 hc
  rw [h] at h'; cases h'

/-- non-vacuity: the arch (0,0) (1,2) (2,-2) (3,0) and the vertical "cubic" through (3/2, 0)
meet at t = u = 1/2 -/
example : (⟨⟨0, 0⟩, ⟨1, 2⟩, ⟨2, -2⟩, ⟨3, 0⟩⟩ : Cubic ℚ).sample (1/2)
    = (⟨⟨3/2, -1⟩, ⟨3/2, -1/3⟩, ⟨3/2, 1/3⟩, ⟨3/2, 1⟩⟩ : Cubic ℚ).sample (1/2) := by
  simp only [Cubic.sample, geom, P.mk.injEq]; norm_num

/-! ## (b) every reported parameter pair lies in [0,1] × [0,1] -/

variable [Eps K]

/-- the clip values are parameters of `curve1`: in [0,1] -/
theorem clip_values_in_unit (c1 c2 : Cubic K) (lo hi : K)
    (h : restrictCurveToFatLine c1 c2 = some (lo, hi)) : (0 ≤ lo ∧ lo ≤ 1) ∧ (0 ≤ hi ∧ hi ≤ 1) :=
  restrict_in01 c1 c2 lo hi h

example : restrictCurveToFatLine (⟨⟨0, 0⟩, ⟨0, 0⟩, ⟨0, 0⟩, ⟨0, 0⟩⟩ : Cubic ℚ) ⟨⟨0, 0⟩, ⟨0, 0⟩, ⟨0, 0⟩, ⟨0, 0⟩⟩
    = some (0, 1) := by
  obtain ⟨lo, hi, h, h1, h2⟩ := clip_keeps_common_points (⟨⟨0, 0⟩, ⟨0, 0⟩, ⟨0, 0⟩, ⟨0, 0⟩⟩ : Cubic ℚ)
    ⟨⟨0, 0⟩, ⟨0, 0⟩, ⟨0, 0⟩, ⟨0, 0⟩⟩ 0 0 (by norm_num) (by norm_num) (by norm_num) (by norm_num) rfl
  obtain ⟨lo', hi', h', h1', h2'⟩ := clip_keeps_common_points (⟨⟨0, 0⟩, ⟨0, 0⟩, ⟨0, 0⟩, ⟨0, 0⟩⟩ : Cubic ℚ)
    ⟨⟨0, 0⟩, ⟨0, 0⟩, ⟨0, 0⟩, ⟨0, 0⟩⟩ 1 1 (by norm_num) (by norm_num) (by norm_num) (by norm_num)
    (by simp only [Cubic.sample, geom, P.mk.injEq])
  rw [h] at h'
  obtain ⟨rfl, rfl⟩ : lo = lo' ∧ hi = hi' := by
    have := Option.some.inj h'
    exact ⟨congrArg Prod.fst this, congrArg Prod.snd this⟩
  have hb := clip_values_in_unit _ _ lo hi h
  have : lo = 0 := le_antisymm h1 hb.1.1
  have : hi = 1 := le_antisymm hb.2.2 h2'
  subst_vars; exact h

/-- **The recursion only reports pairs of the unit square — for every fuel, every budget state.**
If the two domains handed to `add_curve_intersections` are inside [0,1] and the pairs found so far
are, so are the pairs afterwards. -/
theorem add_curve_intersections_in_unit_square (fuel : Nat) (a : Args K) (st : State K)
    (hd : (0 ≤ a.d1.1 ∧ a.d1.1 ≤ 1) ∧ (0 ≤ a.d1.2 ∧ a.d1.2 ≤ 1) ∧ (0 ≤ a.d2.1 ∧ a.d2.1 ≤ 1)
      ∧ (0 ≤ a.d2.2 ∧ a.d2.2 ≤ 1))
    (hs : ∀ p ∈ st.ixs, (0 ≤ p.1 ∧ p.1 ≤ 1) ∧ (0 ≤ p.2 ∧ p.2 ≤ 1)) :
    ∀ p ∈ (addCurveIx fuel a st).ixs, (0 ≤ p.1 ∧ p.1 ≤ 1) ∧ (0 ≤ p.2 ∧ p.2 ≤ 1) :=
  addCurveIx_in01 fuel a st hd hs

example : ((0:ℚ) ≤ 0 ∧ (0:ℚ) ≤ 1) ∧ ((0:ℚ) ≤ 1 ∧ (1:ℚ) ≤ 1) := by norm_num

/-- **Every pair reported by `cubic_intersections_t` lies in [0,1] × [0,1]** — all inputs, all
branches (early exits, point × curve, line × curve, line × line, clipping). -/
theorem cubic_intersections_in_unit_square (c1 c2 : Cubic K) :
    ∀ p ∈ cubicIntersectionsT c1 c2, (0 ≤ p.1 ∧ p.1 ≤ 1) ∧ (0 ≤ p.2 ∧ p.2 ≤ 1) := by
  unfold cubicIntersectionsT cubicIntersectionsState
  split_ifs
  · exact pairsIn01_nil
  · exact pointCases_in01 c1 c2
  · exact lineCurveIntersections_in01 c1 c2 false
  · exact lineCurveIntersections_in01 c2 c1 true
  · exact lineLineIntersections_in01 c1 c2
  · unfold clipTop
    exact addCurveIx_in01 60 _ _ ⟨in01_zero, in01_one, in01_zero, in01_one⟩ pairsIn01_nil

/-- **The model's fuel never ends a recursion**: the top-level call (fuel 60) is always ended by
lyon's own budget test (`call_count >= 4096 || recursion_count >= 60`) or by leaves — the flag the
driver would print as `fuel-out` is never set, for any pair of curves. -/
theorem fuel_never_runs_out (c1 c2 : Cubic K) : (cubicIntersectionsState c1 c2).fuelOut = false := by
  unfold cubicIntersectionsState
  split_ifs <;> try rfl
  unfold clipTop
  rw [addCurveIx_fuelOut 60 _ _ (by norm_num) (by norm_num)]

/-! ## (c) domain bookkeeping -/

/-- `domain_value_at_t` is the affine map of [0,1] onto the domain -/
theorem domain_value_affine (d : K × K) (t : K) :
    domainValueAtT d t = (1 - t) * d.1 + t * d.2
    ∧ domainValueAtT d 0 = d.1 ∧ domainValueAtT d 1 = d.2 := by
  simp only [domainValueAtT]
  refine ⟨by ring, by ring, by ring⟩

/-- sub-domains compose: the domain value in the sub-domain `[dv d a, dv d b]` is the domain value
in `d` of the domain value in `[a, b]` -/
theorem domain_value_compose (d : K × K) (a b t : K) :
    domainValueAtT (domainValueAtT d a, domainValueAtT d b) t
      = domainValueAtT d (domainValueAtT (a, b) t) := by
  simp only [domainValueAtT]; ring

/-- `split_range` restricts: the sub-curve at `u` is the curve at the domain value of `u` -/
theorem split_range_sample (c : Cubic K) (d : K × K) (u : K) :
    (c.splitRange d.1 d.2).sample u = c.sample (domainValueAtT d u) :=
  splitRange_sample c d u

/-- **restriction composes**: `split_range` of a `split_range` is the `split_range` to the composed
domain (equality of control points) -/
theorem split_range_compose (c : Cubic K) (a b s t : K) :
    (c.splitRange a b).splitRange s t
      = c.splitRange (domainValueAtT (a, b) s) (domainValueAtT (a, b) t) :=
  splitRange_splitRange c a b s t

/-- the two halves used when a curve is subdivided are the restrictions to the two half domains -/
theorem split_halves_sample (o : Cubic K) (d : K × K) (u : K) :
    ((o.splitRange d.1 d.2).split half).1.sample u = o.sample (domainValueAtT (d.1, domMid d) u)
    ∧ ((o.splitRange d.1 d.2).split half).2.sample u = o.sample (domainValueAtT (domMid d, d.2) u) :=
  ⟨half_left_sample o d u, half_right_sample o d u⟩

/-- the calls the recursion can make below a call `a0`: `step` is applied to a call with its
`recursion_count` incremented (as `add_curve_intersections` does), and recurses on `one` / `two` -/
inductive Calls (a0 : Args K) : Args K → Prop
  | root : Calls a0 a0
  | one (a a1 : Args K) (st : State K) : Calls a0 a → step { a with rc := a.rc + 1 } st = .one a1 → Calls a0 a1
  | left (a a1 a2 : Args K) (st : State K) : Calls a0 a → step { a with rc := a.rc + 1 } st = .two a1 a2 → Calls a0 a1
  | right (a a1 a2 : Args K) (st : State K) : Calls a0 a → step { a with rc := a.rc + 1 } st = .two a1 a2 → Calls a0 a2

/-- **Every call works on the restriction of the original curves to the domains it is given**:
`curve_i(u) = orig_curve_i(domain_value_at_t(domain_i, u))` in every call below the top-level
call (which satisfies it trivially), whatever the path. -/
theorem reach_consistent (a0 a : Args K) (h0 : Consistent a0) (h : Calls a0 a) : Consistent a := by
  induction h with
  | root => exact h0
  | one a a1 st _ hs ih =>
    have := step_consistent { a with rc := a.rc + 1 } st ih
    rw [hs] at this; exact this
  | left a a1 a2 st _ hs ih =>
    have := step_consistent { a with rc := a.rc + 1 } st ih
    rw [hs] at this; exact this.1
  | right a a1 a2 st _ hs ih =>
    have := step_consistent { a with rc := a.rc + 1 } st ih
    rw [hs] at this; exact this.2

/-- the top-level call of `cubic_bezier_intersections_t` is consistent -/
theorem top_call_consistent (c1 c2 : Cubic K) :
    Consistent ({ c1 := c1, c2 := c2, d1 := (zero, one), d2 := (zero, one), flip := false, rc := 0,
                  o1 := c1, o2 := c2 } : Args K) :=
  consistent_top c1 c2

/-- **One step never drops a crossing (exact arithmetic).**  Let `(tA, tB)` be a common point of
the two top-level curves located inside the domains of a consistent call.  Then the step of that
call is not ended by "bounding boxes apart" nor by "clip = None"; if it recurses, the crossing lies
inside the domains of the recursive call (of one of the two), which is consistent again; if it
ends, it ends at a leaf (`IsLeaf`: point-like sub-curve, empty or converged domains), where the
thresholds of the implementation decide what is reported. -/
theorem step_keeps_crossing (a : Args K) (st : State K) (hc : Consistent a) (tA tB : K)
    (hx : CrossingAB a tA tB) : StepTracks a tA tB (step a st) :=
  step_tracks a st hc tA tB hx

/-- **A crossing is tracked down to any depth.**  For every `n` the call tree below a consistent
call whose domains contain the crossing has a call that still contains it, `n` levels down — or an
earlier one that is a leaf.  (The call tree is the one `step` defines; the budget
`call_count < 4096` may stop the implementation before it gets there.) -/
theorem crossing_tracked (a : Args K) (hc : Consistent a) (tA tB : K) (hx : CrossingAB a tA tB) :
    ∀ n : Nat, ∃ a', Calls a a' ∧ Consistent a' ∧ CrossingAB a' tA tB
      ∧ (a'.rc = a.rc + n ∨ IsLeaf a') := by
  intro n
  induction n with
  | zero => exact ⟨a, Calls.root, hc, hx, Or.inl rfl⟩
  | succ n ih =>
    obtain ⟨a', hcalls, hc', hx', hrc⟩ := ih
    rcases hrc with hrc | hleaf
    · -- `Consistent` and `CrossingAB` do not read `rc`: `hc'`, `hx'` hold of the child as they stand;
      -- `Calls` takes the step at any `State`, so an empty one serves
      set a'' : Args K := { a' with rc := a'.rc + 1 }
      have ht := step_tracks a'' ⟨[], 0, false, false⟩ hc' tA tB hx'
      have hr := step_rc a'' ⟨[], 0, false, false⟩
      cases hs : step a'' ⟨[], 0, false, false⟩ with
      | done s =>
        rw [hs] at ht
        exact ⟨a', hcalls, hc', hx', Or.inr ht⟩
      | one a1 =>
        rw [hs] at ht hr
        refine ⟨a1, Calls.one a' a1 _ hcalls hs, ht.1, ht.2, Or.inl ?_⟩
        have : a1.rc = a'.rc + 1 := hr
        omega
      | two a1 a2 =>
        rw [hs] at ht hr
        rcases ht.2.2 with h | h
        · refine ⟨a1, Calls.left a' a1 a2 _ hcalls hs, ht.1, h, Or.inl ?_⟩
          have : a1.rc = a'.rc + 1 := hr.1
          omega
        · refine ⟨a2, Calls.right a' a1 a2 _ hcalls hs, ht.2.1, h, Or.inl ?_⟩
          have : a2.rc = a'.rc + 1 := hr.2
          omega
    · exact ⟨a', hcalls, hc', hx', Or.inr hleaf⟩

/-- the two curves of the examples: an arch and a vertical "cubic" through (3/2, 0) -/
def exArch : Cubic ℚ := ⟨⟨0, 0⟩, ⟨1, 2⟩, ⟨2, -2⟩, ⟨3, 0⟩⟩
def exVert : Cubic ℚ := ⟨⟨3/2, -1⟩, ⟨3/2, -1/3⟩, ⟨3/2, 1/3⟩, ⟨3/2, 1⟩⟩

/-- non-vacuity of `step_keeps_crossing` / `crossing_tracked`: the arch and the vertical cubic
cross at (1/2, 1/2), inside the top-level domains -/
example : CrossingAB
    ({ c1 := exArch, c2 := exVert, d1 := (zero, one), d2 := (zero, one),
       flip := false, rc := 0, o1 := exArch, o2 := exVert } : Args ℚ) (1/2) (1/2) := by
  unfold CrossingAB Crossing InDom In01
  simp only [Bool.false_eq_true, if_false]
  refine ⟨⟨1/2, ⟨by norm_num, by norm_num⟩, by simp [domainValueAtT]⟩,
    ⟨1/2, ⟨by norm_num, by norm_num⟩, by simp [domainValueAtT]⟩, ?_⟩
  simp only [exArch, exVert, Cubic.sample, geom, P.mk.injEq]; norm_num

/-! ## (d) swapping the two curves -/

/-- In the branches decided before the clipper — early exits (boxes apart, same / reversed curve),
two point-like curves, point × curve — swapping the curves swaps the pairs.
Partial: in the line × curve, line × line and clipping branches this is FALSE of the code (the
de-duplication of `add_intersection` samples `orig_curve1` / `orig_curve2` with the parameters
swapped when `flip` is set, the nested loops of `line_line_intersections` run in the other order,
and the clipper clips `curve1` first): see the observation C12-cubic-cubic-unstable-miss
(findings.d/C12.json), recorded there with its witness. -/
theorem swap_partial (c1 c2 : Cubic K)
    (h : trivialReject c1 c2 = true ∨ isAPoint c1 Eps.epsilon = true ∨ isAPoint c2 Eps.epsilon = true) :
    cubicIntersectionsT c2 c1 = (cubicIntersectionsT c1 c2).map Prod.swap := by
  have hbeq := P.beq_comm (K := K)
  have hrej : trivialReject c2 c1 = trivialReject c1 c2 := by
    have hi : c2.ixFastBoundingBox.intersects c1.ixFastBoundingBox
        = c1.ixFastBoundingBox.intersects c2.ixFastBoundingBox := by
      unfold IxBox.intersects
      simp only [gt_iff_lt]
      ac_rfl
    unfold trivialReject cubicBeq cubicIsReverse
    rw [hi, hbeq c2.a c1.a, hbeq c2.c1 c1.c1, hbeq c2.c2 c1.c2, hbeq c2.b c1.b,
      hbeq c2.a c1.b, hbeq c2.c1 c1.c2, hbeq c2.c2 c1.c1, hbeq c2.b c1.a]
    ac_rfl
  unfold cubicIntersectionsT cubicIntersectionsState
  rw [hrej]
  by_cases hr : trivialReject c1 c2 = true
  · rw [if_pos hr, if_pos hr]; rfl
  · rw [if_neg hr, if_neg hr]
    have hp := (Bool.or_eq_true _ _).mpr (h.resolve_left hr)
    rw [if_pos hp, if_pos ((Bool.or_comm _ _).trans hp)]
    show pointCases c2 c1 = (pointCases c1 c2).map Prod.swap
    unfold pointCases
    cases h1 : isAPoint c1 (Eps.epsilon : K) <;> cases h2 : isAPoint c2 (Eps.epsilon : K) <;>
      simp [List.map_map, Function.comp_def]

example : trivialReject (⟨⟨0, 0⟩, ⟨1, 2⟩, ⟨2, -2⟩, ⟨3, 0⟩⟩ : Cubic ℚ) ⟨⟨0, 0⟩, ⟨1, 2⟩, ⟨2, -2⟩, ⟨3, 0⟩⟩ = true := by
  unfold trivialReject cubicBeq
  have h : ∀ p : P ℚ, (p == p) = true := fun p => (P.beq_iff_eq p p).mpr rfl
  simp [h]

/-! ## the panic of `epsilon_for_point` -/

/-- `epsilon_for_point` panics (`to_i32().unwrap()` / `to_i64().unwrap()` on `None`) exactly when
the larger coordinate magnitude is NaN or at least 2^31 (f32 inputs) / 2^63 (f64 inputs) -/
theorem epsilonForPoint_panics_iff (pt : P K) :
    epsilonForPoint pt = none ↔
      (Transc.isNaN (ptMax pt) = true
        ∨ (if inputsAreF32 K = true then (2147483648 : K) ≤ ptMax pt
           else (9223372036854775808 : K) ≤ ptMax pt)) := by
  have hp : epsPanics pt = true ↔ (Transc.isNaN (ptMax pt) = true
        ∨ (if inputsAreF32 K = true then (2147483648 : K) ≤ ptMax pt
           else (9223372036854775808 : K) ≤ ptMax pt)) := by
    unfold epsPanics
    rw [Bool.or_eq_true]
    cases hf : inputsAreF32 K
    · simp only [Bool.false_eq_true, if_false, decide_eq_true_eq, ge_iff_le, ofNat_eq, Nat.cast_ofNat]
    · simp only [if_true, decide_eq_true_eq, ge_iff_le, ofNat_eq, Nat.cast_ofNat]
  unfold epsilonForPoint
  rw [← hp]
  by_cases h : epsPanics pt = true
  · simp [h]
  · simp [h]

/-- the panic is recorded in the state and nothing is reported by that call -/
theorem add_point_curve_panics (ptCurve : Cubic K) (b : Bool) (curve : Cubic K) (pd cd : K × K)
    (flip : Bool) (st : State K) (h : epsilonForPoint ptCurve.a = none) :
    (addPointCurveIntersection ptCurve b curve pd cd flip st).panicked = true
    ∧ (addPointCurveIntersection ptCurve b curve pd cd flip st).ixs = st.ixs := by
  unfold addPointCurveIntersection
  rw [h]
  exact ⟨rfl, rfl⟩

/-- non-vacuity: with `EPSILON = 1e-4` (an "f32" instance) the point (3·10⁹, 0) makes it panic -/
example : epsilonForPoint (⟨3000000000, 0⟩ : P ℚ) = none := by
  rw [epsilonForPoint_panics_iff]
  right
  have hf : inputsAreF32 ℚ = true := by
    unfold inputsAreF32
    simp only [decide_eq_true_eq]
    show (1 / 10000 : ℚ) > ((1 : ℕ) : ℚ) / (10 : ℚ) ^ 6
    norm_num
  rw [if_pos hf]
  simp only [ptMax, sc_abs, sc_max]
  norm_num

end Lyon.C12c
