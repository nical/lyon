/-
  C19, histories of the `PathMeasurements` object itself.

  The property quantifies over histories.  `Props/C19.lean` covers the history of a SAMPLER (its
  cursor).  This file covers the history of the measurements object: `initialize` /
  `initialize_with_path` / `initialize_with_path_slice` recycle the two vectors of an object that
  was initialised before with other paths (`Model/Algo/MeasureInit.lean` models the recycling with
  the `Vec` operations the code uses).

  One fact carries the file: the loop of `initialize` appends the fresh table to whatever vector it is
  handed (`pushEdges_eq`), and `initialize` clears the vectors first, so the object after
  `initialize` is a function of path and tolerance only (`initialize_state`).  Every sampler of a
  recycled object is therefore the sampler `Measure.mk` gives and all theorems of `Props/C19.lean`
  apply to it; three are spelled out.  `length()` alone can never notice a table that was not
  cleared (`length_blind_to_stale_prefix`): the reason the history has to be explored by samples.
-/
import LyonVerif.Props.C19
import LyonVerif.Model.Algo.MeasureInit

set_option linter.unusedSectionVars false
set_option linter.unusedSimpArgs false

namespace Lyon.C19
open Lyon Lyon.Measure Scalar

variable {K : Type} [Field K] [LinearOrder K] [IsStrictOrderedRing K]

theorem pushManyOnto_eq (es : List (K × K)) : ∀ (acc : List (Edge K)) (d : K) (i : Nat),
    pushManyOnto acc d i es = acc ++ pushMany d i es := by
  induction es with
  | nil => intro acc d i; simp [pushManyOnto, pushMany]
  | cons x r ih =>
    intro acc d i
    obtain ⟨l, t⟩ := x
    simp [pushManyOnto, pushMany, vpush, ih]

/-- The `for (index, event) …` loop of `initialize`, run on ANY vector `acc`,
leaves `acc` followed by the table of the path (`init1`, the table all of `Props/C19.lean` is about).
Nothing in the loop looks at, or removes, what was in the vector before. -/
theorem pushEdges_eq (steps : List (Step K)) : ∀ (acc : List (Edge K)) (d : K) (i : Nat),
    pushEdges acc d i steps = acc ++ init1 d i steps := by
  induction steps with
  | nil => intro acc d i; simp [pushEdges, init1]
  | cons s r ih =>
    intro acc d i
    cases s with
    | skip => simp [pushEdges, init1, ih]
    | mark => simp [pushEdges, init1, vpush, ih]
    | add l => simp [pushEdges, init1, vpush, ih]
    | many es => simp [pushEdges, init1, pushManyOnto_eq, ih]

/-- the state after `initialize`, whatever the object held before -/
theorem initialize_state [Transc K] [FlatConst K] (used : PM K) (path : List (Ev K)) (tolerance : K) :
    used.initialize path tolerance
      = ⟨path, initTable (Scalar.max tolerance (Scalar.ofSci 1 4)) path⟩ := by
  simp only [PM.initialize, refillEvents, recycleEdges, vextend, vclear, vtake, pushEdges_eq,
    initTable, List.nil_append]

/-- Initialising ANY used `PathMeasurements` object — whatever paths,
tolerances and attribute counts it was initialised with before, through whichever entry points —
gives exactly the object `from_path` builds for the new path: events and edge table are a function
of the path and the tolerance only. -/
theorem measure_initialize_fresh [Transc K] [FlatConst K] (used : PM K) (tolerance : K)
    (cmds : List (Cmd K)) :
    used.initializeWithPath tolerance cmds = PM.fromPath tolerance cmds := by
  rw [PM.initializeWithPath, PM.fromPath, initialize_state, initialize_state]

/-- After a whole life (`hist`: any list of earlier initialisations of
any starting object) followed by one more initialisation, the object is the one `from_path` builds
from that LAST path: nothing of the life before survives. -/
theorem measure_replay_last [Transc K] [FlatConst K] (start : PM K) (hist : List (Init K))
    (tolerance : K) (cmds : List (Cmd K)) :
    (start.replay (hist ++ [⟨tolerance, cmds⟩])) = PM.fromPath tolerance cmds := by
  induction hist generalizing start with
  | nil => simp [PM.replay, measure_initialize_fresh]
  | cons h r ih => simp only [List.cons_append, PM.replay]; exact ih _

/-- The sampler view (`create_sampler_with_attributes`) of a recycled
object is the `Measure.mk` of `Props/C19.lean`: every theorem there (cursor bracketing, history
independence of the cursor, `sample_at_distance`, `split_lengths_add`, …) is a theorem about
samplers of recycled objects. -/
theorem recycled_sampler_eq_mk [Transc K] [FlatConst K] (used : PM K) (nattr : Nat) (tolerance : K)
    (cmds : List (Cmd K)) :
    (used.initializeWithPath tolerance cmds).sampler nattr true = Measure.mk nattr tolerance cmds := by
  simp only [PM.sampler, PM.initializeWithPath, if_true, Measure.mk, initialize_state]

/-- the measured length of a recycled object is the fresh one -/
theorem recycled_length [Transc K] [FlatConst K] (used : PM K) (tolerance : K) (cmds : List (Cmd K)) :
    (used.initializeWithPath tolerance cmds).length = (PM.fromPath tolerance cmds).length := by
  rw [measure_initialize_fresh]

/-- `length_eq_approx_length` for recycled objects: for a
polyline path, `length()` of an object with any history equals `approximate_length` of the path. -/
theorem recycled_length_eq_approx_length [Transc K] [FlatConst K] (used : PM K) (tolerance tol2 : K)
    (cmds : List (Cmd K)) (hpoly : ∀ e ∈ evsOf cmds, e.isPoly = true) :
    (used.initializeWithPath tolerance cmds).length = approxLength tol2 (evsOf cmds) := by
  simp only [PM.length, PM.initializeWithPath, initialize_state]
  exact length_eq_approx_length _ tol2 (evsOf cmds) hpoly

/-- `initTable_mono_zero` for recycled objects: the table of an
object with any history, initialised with a polyline path that starts with `Begin`, is
non-decreasing and starts at 0 — in particular no distance of an earlier path is left in it. -/
theorem recycled_table_mono_zero [Transc K] [FlatConst K] (used : PM K) (tolerance : K)
    (hsqrt : ∀ x : K, 0 ≤ Transc.sqrt x) (p : P K) (a : List K) (evs : List (Ev K))
    (hpoly : ∀ e ∈ evs, e.isPoly = true) :
    Mono (used.initialize (.begin p a :: evs) tolerance).edges ∧
    dAt (used.initialize (.begin p a :: evs) tolerance).edges 0 = 0 := by
  rw [initialize_state]
  exact initTable_mono_zero _ hsqrt p a evs hpoly

/-- `sample_never_panics` for recycled objects (hypotheses about
the table discharged): on an object with ANY history, initialised with a polyline path starting with
`Begin`, a sampler with any good cursor (any query history, by `cursor_history_on_positive_edges`)
answers `sample` at any distance and sample type without reaching `unreachable!()`, and interpolates
on an entry of positive length. -/
theorem recycled_sample_never_panics [Transc K] [FlatConst K] (used : PM K) (nattr : Nat)
    (tolerance : K) (hsqrt : ∀ x : K, 0 ≤ Transc.sqrt x) (p : P K) (a : List K) (evs : List (Ev K))
    (hpoly : ∀ e ∈ evs, e.isPoly = true) (c : Nat) (normalized : Bool) (d : K)
    (hc : c < (used.initialize (.begin p a :: evs) tolerance).edges.length)
    (hgood : GoodCursor (used.initialize (.begin p a :: evs) tolerance).edges c) :
    (sampleImpl ((used.initialize (.begin p a :: evs) tolerance).sampler nattr true) c normalized d).2
      ≠ .panic := by
  obtain ⟨hm, h0⟩ := recycled_table_mono_zero used tolerance hsqrt p a evs hpoly
  simp only [PM.sampler, if_true]
  exact (sample_never_panics_all (Scalar.max tolerance (Scalar.ofSci 1 4))
    ⟨(used.initialize (.begin p a :: evs) tolerance).events,
     (used.initialize (.begin p a :: evs) tolerance).edges, nattr⟩
    (by rw [initialize_state]) c normalized d h0 hm hc hgood).1

/-! ### why the history has to be explored by samples: `length()` is blind to a stale table -/

/-- `length()` reads the last entry only: whatever is left in
front of a non-empty fresh table (e.g. the table of an earlier path, had it not been cleared) does
not change the measured length.  A defect in the recycling is invisible to every length identity of
the property; it shows in `sample` / `split_range`, which search the whole table. -/
theorem length_blind_to_stale_prefix (stale fresh : List (Edge K)) (h : fresh ≠ []) :
    length (stale ++ fresh) = length fresh := by
  have hl : fresh.length ≠ 0 := fun e => h (List.eq_nil_of_length_eq_zero e)
  rw [length_eq_last, length_eq_last, prevD_append_right _ _ _ _ (by simp), List.length_append,
    Nat.add_sub_cancel_left]
  unfold prevD
  rw [if_neg hl, if_neg hl]

/-- …and the loop of `initialize` on an uncleared vector produces exactly such a table -/
theorem pushEdges_length_blind (stale : List (Edge K)) (steps : List (Step K))
    (h : init1 (0 : K) 0 steps ≠ []) :
    length (pushEdges stale (0 : K) 0 steps) = length (init1 (0 : K) 0 steps) := by
  rw [pushEdges_eq]; exact length_blind_to_stale_prefix _ _ h

theorem toSegment_noAttrs (e : Ev K) :
    toSegment e.noAttrs = (toSegment e).map (fun s => (s.1, [], [])) := by
  cases e with
  | begin p a => rfl
  | line f t af at_ => rfl
  | quad f c t af at_ => rfl
  | cubic f c1 c2 t af at_ => rfl
  | end_ l f al af cl => cases cl <;> rfl

theorem evAt_noAttrs (pm : PM K) (n : Nat) (i : Nat) :
    evAt (pm.sampler n false) i = (evAt (pm.sampler n true) i).noAttrs := by
  simp only [evAt, PM.sampler, Bool.false_eq_true, if_false, if_true, List.getD_eq_getElem?_getD,
    List.getElem?_map]
  cases pm.events[i]? <;> simp [Ev.noAttrs]

/-- position and tangent of a `SampleOut` -/
def _root_.Lyon.Measure.SampleOut.geometry : SampleOut K → Option (P K × P K)
  | .ok pos tan _ => some (pos, tan)
  | .panic => none

/-- attributes of a `SampleOut` -/
def _root_.Lyon.Measure.SampleOut.attrs : SampleOut K → List K
  | .ok _ _ a => a
  | .panic => []

/-- For every measurements object, cursor, sample
type and distance: the sampler made by `create_sampler` moves its cursor exactly as the one made by
`create_sampler_with_attributes`, returns the same position and tangent (or panics in the same
cases), and — on a path of positive length — carries no attributes. -/
theorem sampler_without_attributes_same_geometry [Transc K] (pm : PM K) (n : Nat) (c : Nat)
    (normalized : Bool) (d : K) :
    (sampleImpl (pm.sampler n false) c normalized d).1 = (sampleImpl (pm.sampler n true) c normalized d).1 ∧
    (sampleImpl (pm.sampler n false) c normalized d).2.geometry
      = (sampleImpl (pm.sampler n true) c normalized d).2.geometry ∧
    (length pm.edges ≠ 0 → (sampleImpl (pm.sampler n false) c normalized d).2.attrs = []) := by
  have hE : (pm.sampler n false).edges = pm.edges := by simp [PM.sampler]
  have hE2 : (pm.sampler n true).edges = pm.edges := by simp [PM.sampler]
  unfold sampleImpl
  rw [hE, hE2]
  by_cases hz : (length pm.edges == (Scalar.zero : K)) = true
  · rw [if_pos hz, if_pos hz]
    refine ⟨rfl, ?_, fun h => absurd (by rw [sc_beq] at hz; simpa using hz) h⟩
    simp only [sampleZeroLength, PM.sampler, Bool.false_eq_true, if_false, if_true]
    cases pm.events with
    | nil => simp [SampleOut.geometry]
    | cons e r => cases e <;> simp [Ev.noAttrs, SampleOut.geometry]
  · rw [if_neg hz, if_neg hz]
    simp only [sampleOn, hE, hE2, evAt_noAttrs pm n, toSegment_noAttrs]
    cases toSegment (evAt (pm.sampler n true) (eAt pm.edges
      (moveCursor pm.edges c (clampDist normalized (length pm.edges) d))).index) with
    | none => simp [SampleOut.geometry, SampleOut.attrs]
    | some s => obtain ⟨sg, af, at_⟩ := s; simp [SampleOut.geometry, SampleOut.attrs, interp]

section Examples

/-- a used object: the table of `begin(0,0) line_to(1,0) line_to(1,2)` (distances 0, 1, 3) and
three stale events -/
noncomputable def exUsed : PM ℚ :=
  ⟨[.begin ⟨0, 0⟩ [], .line ⟨0, 0⟩ ⟨1, 0⟩ [] [], .line ⟨1, 0⟩ ⟨1, 2⟩ [] []], exTable⟩

/-- hypotheses of `length_blind_to_stale_prefix` / `pushEdges_length_blind`: the stale table
`exTable` in front of the fresh table of `begin, line (length 5)`: the length reads 5, while entry 1
of the uncleared vector is still the stale distance 1 -/
example : init1 (0 : ℚ) 0 [.mark, .add 5] ≠ [] ∧
    length (pushEdges exTable (0 : ℚ) 0 [.mark, .add 5]) = 5 ∧
    dAt (pushEdges exTable (0 : ℚ) 0 [.mark, .add 5]) 1 = 1 ∧
    dAt (init1 (0 : ℚ) 0 [.mark, .add 5]) 1 = 5 := by
  have o : (Scalar.one : ℚ) = 1 := by simp
  have hT : init1 (0 : ℚ) 0 [.mark, .add 5] = [⟨0, 0, 1⟩, ⟨5, 1, 1⟩] := by
    simp [init1, o]
  refine ⟨by rw [hT]; simp, ?_, ?_, ?_⟩
  · rw [pushEdges_length_blind _ _ (by rw [hT]; simp), hT, length_eq _ (by simp)]
    simp [dAt, eAt]
  · rw [pushEdges_eq, hT]; simp [exTable, dAt, eAt]
  · rw [hT]; simp [dAt, eAt]

/-- hypotheses of `recycled_length_eq_approx_length` / `recycled_table_mono_zero` /
`recycled_sample_never_panics`: a polyline path starting with `Begin`, the used object `exUsed`,
cursor 0 (a fresh sampler) -/
example [Transc ℚ] [FlatConst ℚ] :
    (∀ e ∈ ([.line ⟨0, 0⟩ ⟨5, 0⟩ [] []] : List (Ev ℚ)), e.isPoly = true) ∧
    0 < (exUsed.initialize (.begin ⟨0, 0⟩ [] :: [.line ⟨0, 0⟩ ⟨5, 0⟩ [] []]) 0).edges.length ∧
    GoodCursor (exUsed.initialize (.begin ⟨0, 0⟩ [] :: [.line ⟨0, 0⟩ ⟨5, 0⟩ [] []]) 0).edges 0 := by
  refine ⟨by intro e he; simp at he; rw [he]; rfl, ?_, Or.inl rfl⟩
  rw [initialize_state]
  simp [initTable, init1, stepOf]

end Examples

end Lyon.C19
