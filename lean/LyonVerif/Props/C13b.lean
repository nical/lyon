/-
  C13b — the Bézier sequences of an arc stay within a small fixed fraction of the radius of the
  true ellipse (the last clause of the property).

  One CUBIC piece of a circular arc, exactly, over any ordered field with the laws of sin/cos/tan/sqrt as
  hypotheses: `|B(t) − centre|² − r² = −r²·β²·(4t(1−t))³`, `β = sin(δ/2)/2 − 3·α·cos(δ/2)/4` — lyon's `α`
  (Maisonobe) is the root of `3α² + 4·s·c·α = 4s²`, which makes the cubic osculate the circle at both ends.
  Over ℝ with Mathlib's functions, no hypothesis on trigonometry: `0.998·r ≤ |B(t) − c| ≤ r` and
  `r ≤ |Q(t) − c| ≤ 1.0032·r` for every step lyon takes (at most 90° / 45° because `n = ⌈|sweep| / (π/2)⌉` resp.
  `⌈|sweep| / (π/4)⌉`, `step_bounds_real`), sharp to 2 % (the two witnesses), for the sequences that
  `arc_to_quadratic_beziers_with_t` / `arc_to_cubic_beziers` actually emit for a real arc — ANY sweep (also beyond a
  turn), radii, centre, rotation; elliptic arcs are affine images (`Lemmas/SvgArcFrame.lean`).

  Distances to the ellipse are stated with the witness point `ellMap arc u`, `u` on the unit circle
  (the radial projection in the unit-circle frame); rounding is outside (oracle allowance).
-/
import LyonVerif.Lemmas.SvgArcFrame

set_option linter.unusedSectionVars false
set_option linter.unusedSimpArgs false

namespace Lyon.C13
open Lyon Scalar ArcConv

section field
variable {K : Type} [Field K] [LinearOrder K] [IsStrictOrderedRing K] [Transc K] [ArcConv.Eps K]

/-- Deviation of one cubic piece of a circular arc, exactly.  For a circle (`radii = (r, r)`, any
centre, any x-rotation), any start angle `a1`, any step `δ` with half-angle data `c = cos(δ/2)`,
`sn = sin(δ/2)` and any parameter `t`:
`|B(t) − centre|² − r² = −r²·β²·(4t(1−t))³` with `β = sn/2 − 3·α·c/4`, `α = cubicAlpha δ`. -/
theorem cubic_arc_deviation_circle_eq (arc : Arc K) (r a1 d t c sn : K) (hr : arc.radii = ⟨r, r⟩)
    (hx : Transc.cos arc.xrot * Transc.cos arc.xrot + Transc.sin arc.xrot * Transc.sin arc.xrot = 1)
    (h1 : Transc.cos a1 * Transc.cos a1 + Transc.sin a1 * Transc.sin a1 = 1)
    (hc : Transc.cos (a1 + d) = Transc.cos a1 * Transc.cos d - Transc.sin a1 * Transc.sin d)
    (hs : Transc.sin (a1 + d) = Transc.sin a1 * Transc.cos d + Transc.cos a1 * Transc.sin d)
    (hu : c * c + sn * sn = 1)
    (hcos : Transc.cos d = 1 - 2 * (sn * sn)) (hsin : Transc.sin d = 2 * (sn * c))
    (hal : 3 * (cubicAlpha d * cubicAlpha d) + 4 * (sn * c) * cubicAlpha d = 4 * (sn * sn)) :
    sqDist ((cubicAt arc a1 d).sample t) arc.center - r * r
      = -(r * r) * ((sn / 2 - 3 * cubicAlpha d * c / 4) * (sn / 2 - 3 * cubicAlpha d * c / 4))
          * (4 * t * (1 - t)) ^ 3 := by
  rw [cubicAt_sample_eq arc a1 d t hc hs, sqDist_frame_center arc r a1 _ hr hx h1]
  linear_combination (r * r) * cubicFrame_normSq d t c sn hu hcos hsin hal

/-- how the bounds for a Bézier piece follow from its exact deviation -/
theorem scaled_excess_bounds (X R E lo hi : K) (e : X - R = R * E) (hR : 0 ≤ R)
    (h1 : lo ≤ E) (h2 : E ≤ hi) : R * (1 + lo) ≤ X ∧ X ≤ R * (1 + hi) := by
  have hX : X = R * (1 + E) := by linear_combination e
  rw [hX]
  exact ⟨mul_le_mul_of_nonneg_left (by linarith) hR, mul_le_mul_of_nonneg_left (by linarith) hR⟩

/-- for `t ∈ [0,1]` the squared distance of the cubic piece from the
centre lies between `r²·(1 − β²)` and `r²`, `β = sn/2 − 3·α·c/4`; equality on the right at both
ends, on the left at `t = 1/2`. -/
theorem cubic_arc_deviation_circle (arc : Arc K) (r a1 d t c sn : K) (hr : arc.radii = ⟨r, r⟩)
    (hx : Transc.cos arc.xrot * Transc.cos arc.xrot + Transc.sin arc.xrot * Transc.sin arc.xrot = 1)
    (h1 : Transc.cos a1 * Transc.cos a1 + Transc.sin a1 * Transc.sin a1 = 1)
    (hc : Transc.cos (a1 + d) = Transc.cos a1 * Transc.cos d - Transc.sin a1 * Transc.sin d)
    (hs : Transc.sin (a1 + d) = Transc.sin a1 * Transc.cos d + Transc.cos a1 * Transc.sin d)
    (hu : c * c + sn * sn = 1)
    (hcos : Transc.cos d = 1 - 2 * (sn * sn)) (hsin : Transc.sin d = 2 * (sn * c))
    (hal : 3 * (cubicAlpha d * cubicAlpha d) + 4 * (sn * c) * cubicAlpha d = 4 * (sn * sn))
    (ht0 : 0 ≤ t) (ht1 : t ≤ 1) :
    r * r * (1 - (sn / 2 - 3 * cubicAlpha d * c / 4) * (sn / 2 - 3 * cubicAlpha d * c / 4))
        ≤ sqDist ((cubicAt arc a1 d).sample t) arc.center
    ∧ sqDist ((cubicAt arc a1 d).sample t) arc.center ≤ r * r
    ∧ sqDist ((cubicAt arc a1 d).sample 0) arc.center = r * r
    ∧ sqDist ((cubicAt arc a1 d).sample 1) arc.center = r * r
    ∧ sqDist ((cubicAt arc a1 d).sample (1 / 2)) arc.center
        = r * r * (1 - (sn / 2 - 3 * cubicAlpha d * c / 4) * (sn / 2 - 3 * cubicAlpha d * c / 4)) := by
  have e := fun t => cubic_arc_deviation_circle_eq arc r a1 d t c sn hr hx h1 hc hs hu hcos hsin hal
  have hB := mul_self_nonneg (sn / 2 - 3 * cubicAlpha d * c / 4)
  have hw0 : 0 ≤ 4 * t * (1 - t) := by
    rw [mul_assoc]; exact mul_nonneg (by norm_num) (mul_nonneg ht0 (sub_nonneg.2 ht1))
  have hw1 : 4 * t * (1 - t) ≤ 1 := by linarith only [mul_self_nonneg (2 * t - 1)]
  have e' := e t
  rw [neg_mul, neg_mul, mul_assoc, ← mul_neg] at e'
  have hb := scaled_excess_bounds _ _ _ _ 0 e' (mul_self_nonneg r) (neg_le_neg (mul_le_of_le_one_right hB (pow_le_one₀ hw0 hw1)))
    (neg_nonpos.2 (mul_nonneg hB (pow_nonneg hw0 3)))
  rw [add_zero, mul_one, ← sub_eq_add_neg] at hb
  refine ⟨hb.1, hb.2, ?_, ?_, ?_⟩
  · linear_combination e 0
  · linear_combination e 1
  · linear_combination e (1 / 2)

end field

section real
open Real

/-- a cubic piece of a circular arc of radius `r ≥ 0` with a
step of at most 90° (lyon's `n_steps = ⌈|sweep|/(π/2)⌉` guarantees this) stays inside the disc and
within `0.2 %` of the radius of the circle, for every start angle, x-rotation and `t ∈ [0,1]`:
`0.998·r ≤ |B(t) − centre| ≤ r`. -/
theorem cubic_arc_deviation_circle_real (arc : Arc ℝ) (r a1 d t : ℝ) (hr : arc.radii = ⟨r, r⟩)
    (hr0 : 0 ≤ r) (hd : |d| ≤ Real.pi / 2) (ht0 : 0 ≤ t) (ht1 : t ≤ 1) :
    r * (998 / 1000) ≤ Real.sqrt (sqDist ((cubicAt arc a1 d).sample t) arc.center)
    ∧ Real.sqrt (sqDist ((cubicAt arc a1 d).sample t) arc.center) ≤ r := by
  rw [cubicAt_sample_real]
  simpa using (cubicFrame_piece d hd).circle arc r a1 t hr hr0 (by norm_num) zero_le_one ht0 ht1

/-- every point of a cubic piece (step ≤ 90°) of an
elliptic arc — any radii, centre, x-rotation, start angle — is within `0.2 %` of the LARGER radius
of a point of the ellipse (`ellMap arc u` with `u` on the unit circle; squared form). -/
theorem cubic_arc_deviation_ellipse_real (arc : Arc ℝ) (a1 d t : ℝ)
    (hd : |d| ≤ Real.pi / 2) (ht0 : 0 ≤ t) (ht1 : t ≤ 1) :
    ∃ u : P ℝ, u.x * u.x + u.y * u.y = 1
      ∧ sqDist ((cubicAt arc a1 d).sample t) (ellMap arc u)
          ≤ (Max.max |arc.radii.x| |arc.radii.y| * (2 / 1000)) * (Max.max |arc.radii.x| |arc.radii.y| * (2 / 1000)) := by
  rw [cubicAt_sample_real]
  exact (cubicFrame_piece d hd).near arc a1 _ t (by norm_num) zero_le_one (by norm_num) (by norm_num) ht0 ht1

/-- Sharpness witness: the mid point of a quarter-turn cubic piece of a circle is at squared
distance exactly `r²·(1 − (8 − 3√7)/16)` from the centre, i.e. at `≈ 0.998037·r`: the bound `0.998·r`
of `cubic_arc_deviation_circle_real` is attained up to 2 %, and lyon's cubics miss the circle by
`1.96·10⁻³·r` — seven times the `2.7·10⁻⁴·r` of the best cubic approximation of a quarter circle
(Maisonobe's `α` matches the curvature at the ends instead of minimising the radial error). -/
theorem cubic_quarter_turn_mid_witness (arc : Arc ℝ) (r a1 : ℝ) (hr : arc.radii = ⟨r, r⟩) :
    sqDist ((cubicAt arc a1 (Real.pi / 2)).sample (1 / 2)) arc.center
      = r * r * (1 - (8 - 3 * Real.sqrt 7) / 16)
    ∧ sqDist ((cubicAt arc a1 (Real.pi / 2)).sample (1 / 2)) arc.center ≤ r * r * (1 - 39 / 10000) := by
  have hα : cubicAlpha (Real.pi / 2) = (Real.sqrt 7 - 1) / 3 := by
    have hh : (Scalar.half : ℝ) = 1 / 2 := sc_half
    simp only [cubicAlpha, geom, Nat.cast_ofNat, Nat.cast_one, transc_sin_real, transc_tan_real,
      transc_sqrt_real, hh, Real.sin_pi_div_two]
    rw [show Real.pi / 2 * ((5 : ℝ) / 10 ^ 1) = Real.pi / 4 by ring, Real.tan_pi_div_four,
      show (4 : ℝ) + 3 * 1 * 1 = 7 by norm_num]
    ring
  have h7 : Real.sqrt 7 * Real.sqrt 7 = 7 := Real.mul_self_sqrt (by norm_num)
  have e := tanFrame_normSq (Real.pi / 2) (cubicAlpha (Real.pi / 2)) (1 / 2) (exactTrig_real.cos_sq_add_sin_sq _)
  rw [transc_cos_real, transc_sin_real, Real.cos_pi_div_two, Real.sin_pi_div_two] at e
  have hmid : sqDist ((cubicAt arc a1 (Real.pi / 2)).sample (1 / 2)) arc.center
      = r * r * (1 - (8 - 3 * Real.sqrt 7) / 16) := by
    rw [cubicAt_sample_real, sqDist_frame_center arc r a1 _ hr (exactTrig_real.cos_sq_add_sin_sq _)
      (exactTrig_real.cos_sq_add_sin_sq _), cubicFrame]
    rw [hα] at e ⊢
    linear_combination (r * r) * e + (r * r / 32) * h7
  refine ⟨hmid, ?_⟩
  rw [hmid]
  have h7u : Real.sqrt 7 ≤ 26458 / 10000 := by
    rw [Real.sqrt_le_left (by norm_num)]; norm_num
  exact mul_le_mul_of_nonneg_left (by linarith only [h7u]) (mul_self_nonneg r)

/-- Sharpness witness for the quadratics: the mid point of a 45° quadratic piece of a circle is at
squared distance exactly `r²·(1 + (10 − 7√2)/16)` from the centre, i.e. at `≈ 1.003136·r`, OUTSIDE the
circle: the bound `1.0032·r` of `arc_beziers_near_circle_real` is attained up to 2 %. -/
theorem quad_eighth_turn_mid_witness (arc : Arc ℝ) (r a1 : ℝ) (hr : arc.radii = ⟨r, r⟩) :
    sqDist ((quadAt arc a1 (Real.pi / 4)).sample (1 / 2)) arc.center
      = r * r * (1 + (10 - 7 * Real.sqrt 2) / 16)
    ∧ r * r * (1 + 62 / 10000) ≤ sqDist ((quadAt arc a1 (Real.pi / 4)).sample (1 / 2)) arc.center := by
  have hd : |Real.pi / 4| ≤ Real.pi / 4 := by rw [abs_of_pos (by positivity)]
  have key := quadFrame_normSq (Real.pi / 4) (1 / 2) (cos_half_pos_real _ (hd.trans (by linarith only [Real.pi_pos]))).ne'
  rw [Real.cos_pi_div_four] at key
  have h2 : Real.sqrt 2 * Real.sqrt 2 = 2 := Real.mul_self_sqrt (by norm_num)
  have hmid : sqDist ((quadAt arc a1 (Real.pi / 4)).sample (1 / 2)) arc.center
      = r * r * (1 + (10 - 7 * Real.sqrt 2) / 16) := by
    rw [quadAt_sample_real, sqDist_frame_center arc r a1 _ hr (exactTrig_real.cos_sq_add_sin_sq _)
      (exactTrig_real.cos_sq_add_sin_sq _), ← sub_eq_zero]
    refine (mul_eq_zero.1 ?_).resolve_left (by positivity : (1 + Real.sqrt 2 / 2) ≠ 0)
    linear_combination (r * r) * key + (r * r / 4) * h2
  refine ⟨hmid, ?_⟩
  rw [hmid]
  have h2u : Real.sqrt 2 ≤ 141422 / 100000 := by
    rw [Real.sqrt_le_left (by norm_num)]; norm_num
  exact mul_le_mul_of_nonneg_left (by linarith only [h2u]) (mul_self_nonneg r)

/-- for EVERY real arc (any sweep, also beyond a full turn; any
radii, centre, x-rotation) every point of every quadratic emitted by
`arc_to_quadratic_beziers_with_t` is within `0.32 %` of the larger radius of a point of the ellipse. -/
theorem arc_quads_near_ellipse_real (arc : Arc ℝ) (x : Quad ℝ × ℝ × ℝ) (hx : x ∈ quadsWithT arc)
    (t : ℝ) (ht0 : 0 ≤ t) (ht1 : t ≤ 1) :
    ∃ u : P ℝ, u.x * u.x + u.y * u.y = 1
      ∧ sqDist (x.1.sample t) (ellMap arc u)
          ≤ (Max.max |arc.radii.x| |arc.radii.y| * (32 / 10000)) * (Max.max |arc.radii.x| |arc.radii.y| * (32 / 10000)) := by
  obtain ⟨hq, _, b, _⟩ := emitted_pieces_real arc
  obtain ⟨a1, e⟩ := hq x hx
  rw [e, quadAt_sample_real]
  exact (quadFrame_piece _ b).near arc a1 _ t one_pos (by norm_num) (by norm_num) (by norm_num) ht0 ht1

/-- for EVERY real arc every point of every cubic emitted by
`arc_to_cubic_beziers` is within `0.2 %` of the larger radius of a point of the ellipse. -/
theorem arc_cubics_near_ellipse_real (arc : Arc ℝ) (x : Cubic ℝ) (hx : x ∈ cubics arc)
    (t : ℝ) (ht0 : 0 ≤ t) (ht1 : t ≤ 1) :
    ∃ u : P ℝ, u.x * u.x + u.y * u.y = 1
      ∧ sqDist (x.sample t) (ellMap arc u)
          ≤ (Max.max |arc.radii.x| |arc.radii.y| * (2 / 1000)) * (Max.max |arc.radii.x| |arc.radii.y| * (2 / 1000)) := by
  obtain ⟨_, hc, _, b⟩ := emitted_pieces_real arc
  obtain ⟨a1, e⟩ := hc x hx
  rw [e]
  exact cubic_arc_deviation_ellipse_real arc a1 (stepC arc) t b ht0 ht1

/-- for every real CIRCULAR arc of radius `r ≥ 0` the emitted
quadratics run outside the circle, within `0.32 %` of `r`, and the emitted cubics inside it, within
`0.2 %` of `r`: `r ≤ |Q(t) − c| ≤ 1.0032·r`, `0.998·r ≤ |B(t) − c| ≤ r` for all `t ∈ [0,1]`. -/
theorem arc_beziers_near_circle_real (arc : Arc ℝ) (r : ℝ) (hr : arc.radii = ⟨r, r⟩) (hr0 : 0 ≤ r)
    (t : ℝ) (ht0 : 0 ≤ t) (ht1 : t ≤ 1) :
    (∀ x ∈ quadsWithT arc, r ≤ Real.sqrt (sqDist (x.1.sample t) arc.center)
        ∧ Real.sqrt (sqDist (x.1.sample t) arc.center) ≤ r * (10032 / 10000))
    ∧ (∀ x ∈ cubics arc, r * (998 / 1000) ≤ Real.sqrt (sqDist (x.sample t) arc.center)
        ∧ Real.sqrt (sqDist (x.sample t) arc.center) ≤ r) := by
  obtain ⟨hq, hc, b1, b2⟩ := emitted_pieces_real arc
  constructor
  · intro x hx
    obtain ⟨a1, e⟩ := hq x hx
    rw [e, quadAt_sample_real]
    simpa using (quadFrame_piece _ b1).circle arc r a1 t hr hr0 zero_le_one (by norm_num) ht0 ht1
  · intro x hx
    obtain ⟨a1, e⟩ := hc x hx
    rw [e]
    exact cubic_arc_deviation_circle_real arc r a1 (stepC arc) t hr hr0 b2 ht0 ht1

/-- the quantity the oracle measures (`|radius − 1|` in the frame
in which the ellipse is the unit circle): every point of every emitted piece of EVERY real arc is
the `ellMap` image of a point `Q` whose distance from the origin is in `[1, 1.0032]` (quadratics)
resp. `[0.998, 1]` (cubics). -/
theorem arc_beziers_unit_frame_real (arc : Arc ℝ) (t : ℝ) (ht0 : 0 ≤ t) (ht1 : t ≤ 1) :
    (∀ x ∈ quadsWithT arc, ∃ Q : P ℝ, x.1.sample t = ellMap arc Q
        ∧ 1 ≤ Q.x * Q.x + Q.y * Q.y ∧ Q.x * Q.x + Q.y * Q.y ≤ (10032 / 10000) ^ 2)
    ∧ (∀ x ∈ cubics arc, ∃ Q : P ℝ, x.sample t = ellMap arc Q
        ∧ (998 / 1000) ^ 2 ≤ Q.x * Q.x + Q.y * Q.y ∧ Q.x * Q.x + Q.y * Q.y ≤ 1) := by
  obtain ⟨hq, hc, b1, b2⟩ := emitted_pieces_real arc
  constructor
  · intro x hx
    obtain ⟨a1, e⟩ := hq x hx
    refine ⟨_, by rw [e]; exact quadAt_sample_real arc a1 _ t, ?_⟩
    rw [rotate_normSq a1 _ (exactTrig_real.cos_sq_add_sin_sq a1)]
    simpa using (quadFrame_piece _ b1).radius t ht0 ht1
  · intro x hx
    obtain ⟨a1, e⟩ := hc x hx
    refine ⟨_, by rw [e]; exact cubicAt_sample_real arc a1 _ t, ?_⟩
    rw [rotate_normSq a1 _ (exactTrig_real.cos_sq_add_sin_sq a1)]
    simpa using (cubicFrame_piece _ b2).radius t ht0 ht1

/-- a rotated elliptic arc of 1.5 turns has emitted pieces (8 quadratics, 4 cubics) -/
example : ∃ arc : Arc ℝ, (quadsWithT arc).length = 8 ∧ (cubics arc).length = 4 := by
  refine ⟨⟨⟨1, 2⟩, ⟨3, 1⟩, 1, 3 * Real.pi, 1 / 3⟩, ?_⟩
  have hpi := Real.pi_pos
  obtain ⟨_, _, _, nq, nc⟩ := nSteps_full_turn_real (⟨⟨1, 2⟩, ⟨3, 1⟩, 1, 3 * Real.pi, 1 / 3⟩ : Arc ℝ)
    (by show Real.pi * 2 ≤ |3 * Real.pi|; rw [abs_of_pos (by positivity)]; linarith)
  exact ⟨by rw [quads_closed_form, List.length_map, List.length_range']; exact nq,
    by rw [cubics_closed_form, List.length_map, List.length_range']; exact nc⟩

/-- the hypotheses of the ℝ theorems: a circle of radius 2, a quarter-turn step, `t = 1/3` -/
example : (⟨⟨0, 0⟩, ⟨2, 2⟩, 0, 1, 0⟩ : Arc ℝ).radii = ⟨2, 2⟩ ∧ (0 : ℝ) ≤ 2
    ∧ |Real.pi / 2| ≤ Real.pi / 2 ∧ (0 : ℝ) ≤ 1 / 3 ∧ (1 / 3 : ℝ) ≤ 1 := by
  refine ⟨rfl, by norm_num, ?_, by norm_num, by norm_num⟩
  rw [abs_of_pos (by have := Real.pi_pos; positivity)]

/-- the field hypotheses of `cubic_arc_deviation_circle` hold over ℝ for every step up to 90° -/
example (arc : Arc ℝ) (r a1 d t : ℝ) (hr : arc.radii = ⟨r, r⟩) (hd : |d| ≤ Real.pi / 2)
    (ht0 : 0 ≤ t) (ht1 : t ≤ 1) :
    sqDist ((cubicAt arc a1 d).sample t) arc.center ≤ r * r := by
  obtain ⟨hu, hcos, hsin, hal, _⟩ := cubic_half_angle_real d hd
  exact (cubic_arc_deviation_circle arc r a1 d t (Real.cos (d / 2)) (Real.sin (d / 2)) hr
    (exactTrig_real.cos_sq_add_sin_sq _) (exactTrig_real.cos_sq_add_sin_sq _)
    (Real.cos_add a1 d) (Real.sin_add a1 d) hu hcos hsin hal ht0 ht1).2.1

end real

end Lyon.C13
