/-
  C09, part b — the within-tolerance clause.

  ARC (`Arc::for_each_flattened(_with_t)`, model `Arc.forEachFlattenedWithT` of
  Model/Geom/Flatten.lean — the definition tied bit for bit to lyon on every run):

  * `arc_flat_within_tolerance`: for EVERY arc (circle or ellipse, any rotation, any sweep) with
    largest radius `R > 0` and every tolerance `tol ≥ 0`: every point `sample t`, `t ∈ [0,1]`, of the
    arc is within `tol` of the emitted segment whose parameter range contains `t`. `sin`/`cos`/
    `acos`/`π` are parameters; the laws used are the fields of `TrigLaws` (hypothesis `L`);
    Props/C09Real.lean discharges them for the real functions (`arc_flat_within_tolerance_real`).
    The step is computed from the largest radius (repair 99a81005): an ellipse is the image of the
    circle of radius `R` under a contraction (scale by `rx/R`, `ry/R`, then rotate), which maps
    chords to chords and does not increase distances — so the statement covers ellipses at full
    strength, not only circles.
    Hypotheses that are NOT about trigonometry, both about the code:
      - `hfuel`: the loop ended by its own `break` (what the driver checks: it prints `fuel`
        otherwise);
      - `heps1`, `heps`: the `if result < S::EPSILON { return 1 }` guard of `flattening_step` does
        not fire on the whole arc: `ε·|sweep| ≤ 2·acos((R − tol)/R)`. When it fires the rest of the
        arc is emitted as ONE segment whatever the tolerance (`arc_epsilon_guard_single_segment`).
        On floats this needs tol/R below ~5e-8·sweep² (f32) / ~5e-16·sweep² (f64), i.e. a tolerance at
        or below the resolution of the coordinates: an observation, not a finding.
  * `circle_arc_flat_within_tolerance`: the special case `radii = (r, r)`, `r > 0`.
  * `arc_flat_vertices_on_arc`, `circle_arc_vertices_on_circle`: every vertex IS a point of the arc
    (`sample` of the end of its range, ranges inside [0,1] and increasing), on a circle at distance
    exactly `r` from the centre.
  * `arc_large_tolerance`: for `tol ≥ 2R` any chord between any two arc points is within `tol` of
    every arc point (covers the float path `acos(x < −1) = NaN → step 1`).

  CUBIC (`Cubic::for_each_flattened(_with_t)`): the clause reduced to the one for its quadratics.
  `num_quadratics_sufficient` / `cubic_quads_within_split_tolerance`: the count of `num_quadratics_impl` keeps
  every quadratic piece within the split tolerance `tolc` of the cubic (the code passes `0.4·tol`; hypothesis `hpow`:
  the sixth-root law at the one argument the code uses); `cubic_flat_within_tolerance_of_quads(_cb)` /
  `…_of_quad_flattening`: pieces flattened within `tolq` give a polyline within `tolq + 0.4·tol` of the cubic.

  QUADRATIC and CUBIC, per input (`quad_chord_within_certificate`, `…_of_certificate`): if the certificate of
  Model/Geom/FlattenCert.lean evaluated on the emitted list is at most `k²`, that list is within `k·tol`
  (cubic: `k·0.6·tol + 0.4·tol`). This is the certificate the driver evaluates in floats; the exact checker is
  Props/C09c.lean.
-/
import LyonVerif.Model.Geom.Flatten
import LyonVerif.Lemmas.Field
import LyonVerif.Lemmas.Flatten
import LyonVerif.Lemmas.FlattenChord
import LyonVerif.Lemmas.FlattenTolArc
import LyonVerif.Lemmas.FlattenTolCubic
import LyonVerif.Lemmas.FlattenTolQuad

set_option linter.unusedSectionVars false
set_option linter.unusedVariables false

namespace Lyon.C09
open Lyon Scalar Lyon.Flat

variable {K : Type} [Field K] [LinearOrder K] [IsStrictOrderedRing K]

section arc
variable [Transc K] [FlatConst K]

/-- the arc tolerance clause, for circles and ellipses (the hypotheses are explained in the file header) -/
theorem arc_flat_within_tolerance (L : TrigLaws K) (a : Arc K) (R tol : K) (fuel : Nat)
    (hRdef : R = Max.max |a.radii.x| |a.radii.y|) (hR : 0 < R) (ht : 0 ≤ tol)
    (heps1 : (FlatConst.epsilon : K) ≤ 1)
    (heps : FlatConst.epsilon * |a.sweep| ≤ 2 * Transc.acos ((R - tol) / R))
    (hfuel : (a.forEachFlattenedWithT tol fuel).length ≤ fuel)
    (t : K) (ht0 : 0 ≤ t) (ht1 : t ≤ 1) :
    ∃ sg ∈ a.forEachFlattenedWithT tol fuel, sg.t0 ≤ t ∧ t ≤ sg.t1 ∧
      ∃ s : K, 0 ≤ s ∧ s ≤ 1 ∧ (a.sample t - sg.a.lerp sg.b s).sqLen ≤ tol * tol := by
  have hang : arcAng a tol = 2 * Transc.acos ((R - tol) / R) := by rw [arcAng_eq, ← hRdef]
  -- the range `[t0, t1]` that contains `t`, then the chord lemma on the unit circle carried over by the frame map
  obtain ⟨hne, hch, _, hlt⟩ := arc_flat_tiles a tol fuel
  obtain ⟨sg, hsg, u, hu0, hu1, rfl⟩ := chain_cover _ 0 1 _ hch hne hlt t ht0 ht1
  obtain ⟨ha, hb⟩ := arc_flat_ends_on a tol fuel sg hsg
  obtain ⟨_, h01, _, hspan⟩ := arc_flat_ranges a tol fuel (hang ▸ mul_nonneg zero_le_two (L.acos_nonneg _))
    heps1 (hang ▸ heps) hfuel sg hsg
  have hd := sub_nonneg.mpr h01
  have h3 : sg.t0 ≤ sg.t0 + u * (sg.t1 - sg.t0) := le_add_of_nonneg_right (mul_nonneg hu0 hd)
  have h4 : sg.t0 + u * (sg.t1 - sg.t0) ≤ sg.t1 := by linear_combination mul_le_mul_of_nonneg_right hu1 hd
  obtain ⟨s, hs0, hs1, hs⟩ := unit_chord_trig L a R tol sg.t0 sg.t1 _ hR ht h3 h4 (hang ▸ hspan)
  exact ⟨sg, hsg, h3, h4, s, hs0, hs1,
    ha ▸ hb ▸ (arc_chord_near a R sg.t0 sg.t1 _ s hRdef (L.cos_sq_add_sin_sq _)).trans hs⟩

/-- the circular case `radii = (r, r)`, `r > 0`. -/
theorem circle_arc_flat_within_tolerance (L : TrigLaws K) (a : Arc K) (r tol : K) (fuel : Nat)
    (hrad : a.radii = ⟨r, r⟩) (hr : 0 < r) (ht : 0 < tol)
    (heps1 : (FlatConst.epsilon : K) ≤ 1)
    (heps : FlatConst.epsilon * |a.sweep| ≤ 2 * Transc.acos ((r - tol) / r))
    (hfuel : (a.forEachFlattenedWithT tol fuel).length ≤ fuel)
    (t : K) (ht0 : 0 ≤ t) (ht1 : t ≤ 1) :
    ∃ sg ∈ a.forEachFlattenedWithT tol fuel, sg.t0 ≤ t ∧ t ≤ sg.t1 ∧
      ∃ s : K, 0 ≤ s ∧ s ≤ 1 ∧ (a.sample t - sg.a.lerp sg.b s).sqLen ≤ tol * tol := by
  have hR : r = Max.max |a.radii.x| |a.radii.y| := by
    rw [hrad]; simp [abs_of_pos hr]
  exact arc_flat_within_tolerance L a r tol fuel hR hr (le_of_lt ht) heps1 heps hfuel t ht0 ht1

/-- the loop ends by its own `break` within the fuel as soon as
`|sweep| ≤ fuel · 2·acos((R − tol)/R)` — each non-final segment consumes exactly that angle. This
discharges the hypothesis `hfuel` of the theorems above. -/
theorem arc_flat_fuel_sufficient (a : Arc K) (tol : K) (fuel : Nat)
    (hang0 : 0 ≤ Transc.acos ((Max.max |a.radii.x| |a.radii.y| - tol) / Max.max |a.radii.x| |a.radii.y|))
    (heps0 : (0 : K) < FlatConst.epsilon) (hf : 1 ≤ fuel)
    (hsw : |a.sweep| ≤ fuel
      * (2 * Transc.acos ((Max.max |a.radii.x| |a.radii.y| - tol) / Max.max |a.radii.x| |a.radii.y|))) :
    (a.forEachFlattenedWithT tol fuel).length ≤ fuel := by
  exact arc_flat_length a tol fuel heps0 hf (arcAng_eq a tol ▸ hsw)

/-- `arc_flat_within_tolerance` with the fuel hypothesis
discharged: it suffices that `1 ≤ ε·fuel` (lyon's `EPSILON = 1e-4` for `f32` and the driver's fuel
of 100000: `ε·fuel = 10`). The only remaining hypothesis about the code is `heps`. -/
theorem arc_flat_within_tolerance_fuel (L : TrigLaws K) (a : Arc K) (R tol : K) (fuel : Nat)
    (hRdef : R = Max.max |a.radii.x| |a.radii.y|) (hR : 0 < R) (ht : 0 ≤ tol)
    (heps0 : (0 : K) < FlatConst.epsilon) (heps1 : (FlatConst.epsilon : K) ≤ 1)
    (hfe : 1 ≤ (FlatConst.epsilon : K) * fuel)
    (heps : FlatConst.epsilon * |a.sweep| ≤ 2 * Transc.acos ((R - tol) / R))
    (t : K) (ht0 : 0 ≤ t) (ht1 : t ≤ 1) :
    ∃ sg ∈ a.forEachFlattenedWithT tol fuel, sg.t0 ≤ t ∧ t ≤ sg.t1 ∧
      ∃ s : K, 0 ≤ s ∧ s ≤ 1 ∧ (a.sample t - sg.a.lerp sg.b s).sqLen ≤ tol * tol := by
  have hA0 := L.acos_nonneg ((R - tol) / R)
  have hf : 1 ≤ fuel := by
    rcases Nat.eq_zero_or_pos fuel with h | h
    · rw [h, Nat.cast_zero, mul_zero] at hfe; exact absurd hfe (not_le.mpr zero_lt_one)
    · exact h
  -- `|sweep| ≤ ε·fuel·|sweep| = fuel·(ε·|sweep|) ≤ fuel·2acos(…)`
  have hsw : |a.sweep| ≤ fuel * (2 * Transc.acos ((R - tol) / R)) := by
    linear_combination mul_le_mul_of_nonneg_right hfe (abs_nonneg a.sweep)
      + mul_le_mul_of_nonneg_left heps (Nat.cast_nonneg (α := K) fuel)
  have hfuel := arc_flat_fuel_sufficient a tol fuel (by rw [← hRdef]; exact hA0) heps0 hf
    (by rw [← hRdef]; exact hsw)
  exact arc_flat_within_tolerance L a R tol fuel hRdef hR ht heps1 heps hfuel t ht0 ht1

/-- under the same two hypotheses about the code, every emitted
segment runs from `sample t0` to `sample t1` with `0 ≤ t0 ≤ t1 ≤ 1`: every vertex is a point of the
arc (distance 0 from the curve). No trigonometric law is needed. -/
theorem arc_flat_vertices_on_arc (a : Arc K) (tol : K) (fuel : Nat)
    (hang0 : 0 ≤ Transc.acos ((Max.max |a.radii.x| |a.radii.y| - tol) / Max.max |a.radii.x| |a.radii.y|))
    (heps1 : (FlatConst.epsilon : K) ≤ 1)
    (heps : FlatConst.epsilon * |a.sweep|
      ≤ 2 * Transc.acos ((Max.max |a.radii.x| |a.radii.y| - tol) / Max.max |a.radii.x| |a.radii.y|))
    (hfuel : (a.forEachFlattenedWithT tol fuel).length ≤ fuel) :
    ∀ sg ∈ a.forEachFlattenedWithT tol fuel,
      sg.a = a.sample sg.t0 ∧ sg.b = a.sample sg.t1 ∧ 0 ≤ sg.t0 ∧ sg.t0 ≤ sg.t1 ∧ sg.t1 ≤ 1 := by
  have hok := arc_flat_ranges a tol fuel (arcAng_eq a tol ▸ mul_nonneg zero_le_two hang0) heps1
    (arcAng_eq a tol ▸ heps) hfuel
  exact fun sg hsg => ⟨(arc_flat_ends_on a tol fuel sg hsg).1, (arc_flat_ends_on a tol fuel sg hsg).2,
    (hok sg hsg).1, (hok sg hsg).2.1, (hok sg hsg).2.2.1⟩

/-- every point `sample t` of a circular arc — in particular
every vertex of the flattening — is at distance exactly `r` from the centre. -/
theorem circle_arc_vertices_on_circle (a : Arc K) (r t : K) (hrad : a.radii = ⟨r, r⟩)
    (hcs : ∀ x : K, Transc.cos x * Transc.cos x + Transc.sin x * Transc.sin x = 1) :
    (a.sample t - a.center).sqLen = r * r := by
  rw [arc_sample_center a t (hcs _), hrad]
  linear_combination (r * r) * hcs (a.getAngle t)

/-- with `tol ≥ 2R` every chord between two points of the arc is within
`tol` of every point of the arc, whatever the polyline (on floats `acos` of an argument below `−1`
is NaN and `flattening_step` returns 1: one segment `from → to`; this statement covers it). -/
theorem arc_large_tolerance (a : Arc K) (R tol t0 t1 t s : K)
    (hcs : ∀ x : K, Transc.cos x * Transc.cos x + Transc.sin x * Transc.sin x = 1)
    (hRdef : R = Max.max |a.radii.x| |a.radii.y|) (ht : 2 * R ≤ tol) (hs0 : 0 ≤ s) (hs1 : s ≤ 1) :
    (a.sample t - (a.sample t0).lerp (a.sample t1) s).sqLen ≤ tol * tol := by
  -- on the unit circle both chord ends are within `2` of the arc point, hence so is every chord point
  have hR0 : 0 ≤ R := hRdef ▸ (abs_nonneg _).trans (le_max_left _ _)
  have hu : ∀ x, (unitAt a x).sqLen = 1 := fun x => hcs _
  have h4 := lerp_shift (unitAt a t) (unitAt a t) (unitAt a t0) (unitAt a t1) 4 s hs0 hs1
    (unit_sub_le_four _ _ (hu t0) (hu t)) (unit_sub_le_four _ _ (hu t1) (hu t))
  rw [lerp_self] at h4
  refine (arc_chord_near a R t0 t1 t s hRdef (hcs _)).trans ?_
  linear_combination mul_self_le_mul_self (mul_nonneg zero_le_two hR0) ht
    + mul_le_mul_of_nonneg_left h4 (mul_self_nonneg R)

end arc

section cubic
variable [Transc K] [FlatConst K]

/-- (composition) IF the flattening of each quadratic
piece is within `tolq` of that piece (`hq`), each piece is within `tolc` of the cubic over its range
at the same local parameter (`hc`), and the pieces' ranges cover [0,1] (`hcov`), THEN every point of
the cubic is within `tolq + tolc` of the polyline emitted by `for_each_flattened_with_t`.
(`hc`, `hcov` are PROVED for the code's choice of the number of pieces, with `tolc = 0.4·tol`:
`cubic_quads_within_split_tolerance`; `hq` is the quadratic tolerance clause — see Props/C09.lean:
`is_linear_sound`, `quad_flat_within_tolerance_of_params`, finding approx-integral.) -/
theorem cubic_flat_within_tolerance_of_quads (c : Cubic K) (tol tolq tolc : K) (l : List (FlatSeg K))
    (h : c.forEachFlattenedWithT tol = some l) (htq : 0 ≤ tolq) (htc : 0 ≤ tolc)
    (hq : ∀ p ∈ c.forEachQuadraticWithT (tol * FlatConst.value 4 1), ∀ lq,
      p.1.forEachFlattenedWithT (tol * FlatConst.value 6 1) = some lq →
      ∀ u : K, 0 ≤ u → u ≤ 1 → ∃ sg ∈ lq, ∃ s : K, 0 ≤ s ∧ s ≤ 1 ∧
        (p.1.sample u - sg.a.lerp sg.b s).sqLen ≤ tolq * tolq)
    (hc : ∀ p ∈ c.forEachQuadraticWithT (tol * FlatConst.value 4 1), ∀ u : K, 0 ≤ u → u ≤ 1 →
      (c.sample (p.2.1 + u * (p.2.2 - p.2.1)) - p.1.sample u).sqLen ≤ tolc * tolc)
    (hcov : ∀ t : K, 0 ≤ t → t ≤ 1 → ∃ p ∈ c.forEachQuadraticWithT (tol * FlatConst.value 4 1),
      ∃ u : K, 0 ≤ u ∧ u ≤ 1 ∧ t = p.2.1 + u * (p.2.2 - p.2.1))
    (t : K) (ht0 : 0 ≤ t) (ht1 : t ≤ 1) :
    ∃ sg ∈ l, ∃ s : K, 0 ≤ s ∧ s ≤ 1 ∧
      (c.sample t - sg.a.lerp sg.b s).sqLen ≤ (tolq + tolc) * (tolq + tolc) := by
  obtain ⟨p, hp, u, hu0, hu1, rfl⟩ := hcov t ht0 ht1
  simp only [Cubic.forEachFlattenedWithT] at h
  obtain ⟨lq, hlq, hmem⟩ := flatQuadsT_mem _ _ _ l h p hp
  obtain ⟨sg, hsg, s, hs0, hs1, hs⟩ := hq p hp lq hlq u hu0 hu1
  obtain ⟨sg2, hsg2, ha, hb⟩ := hmem sg hsg
  refine ⟨sg2, hsg2, s, hs0, hs1, ?_⟩
  rw [ha, hb, add_comm tolq tolc]
  exact sq_dist_triangle _ _ _ tolc tolq htc htq (hc p hp u hu0 hu1) hs

/-- the same for `for_each_flattened` (callback without `t`) -/
theorem cubic_flat_within_tolerance_of_quads_cb (c : Cubic K) (tol tolq tolc : K) (l : List (FlatSeg K))
    (h : c.forEachFlattened tol = some l) (htq : 0 ≤ tolq) (htc : 0 ≤ tolc)
    (hq : ∀ p ∈ c.forEachQuadraticWithT (tol * FlatConst.value 4 1), ∀ lq,
      p.1.forEachFlattenedWithT (tol * FlatConst.value 6 1) = some lq →
      ∀ u : K, 0 ≤ u → u ≤ 1 → ∃ sg ∈ lq, ∃ s : K, 0 ≤ s ∧ s ≤ 1 ∧
        (p.1.sample u - sg.a.lerp sg.b s).sqLen ≤ tolq * tolq)
    (hc : ∀ p ∈ c.forEachQuadraticWithT (tol * FlatConst.value 4 1), ∀ u : K, 0 ≤ u → u ≤ 1 →
      (c.sample (p.2.1 + u * (p.2.2 - p.2.1)) - p.1.sample u).sqLen ≤ tolc * tolc)
    (hcov : ∀ t : K, 0 ≤ t → t ≤ 1 → ∃ p ∈ c.forEachQuadraticWithT (tol * FlatConst.value 4 1),
      ∃ u : K, 0 ≤ u ∧ u ≤ 1 ∧ t = p.2.1 + u * (p.2.2 - p.2.1))
    (t : K) (ht0 : 0 ≤ t) (ht1 : t ≤ 1) :
    ∃ sg ∈ l, ∃ s : K, 0 ≤ s ∧ s ≤ 1 ∧
      (c.sample t - sg.a.lerp sg.b s).sqLen ≤ (tolq + tolc) * (tolq + tolc) := by
  obtain ⟨p, hp, u, hu0, hu1, rfl⟩ := hcov t ht0 ht1
  simp only [Cubic.forEachFlattened] at h
  obtain ⟨lq, hlq, hmem⟩ := flatQuads_mem _ _ l h p hp
  obtain ⟨sg, hsg, s, hs0, hs1, hs⟩ := hq p hp lq hlq u hu0 hu1
  refine ⟨sg, hmem sg hsg, s, hs0, hs1, ?_⟩
  rw [add_comm tolq tolc]
  exact sq_dist_triangle _ _ _ tolc tolq htc htq (hc p hp u hu0 hu1) hs

/-- the count `n = max(ceil((|D|²/(432·tol²))^(1/6)), 1)` of
`num_quadratics_impl` makes the deviation bound of one piece of length `1/n`,
`|D|²·(1/n)⁶/432` (`cubic_piece_deviation`), at most `tol²` — in exact arithmetic.
Laws used: `x ≤ ceil x`, and for the one argument `y` the code raises to the power `1/6`:
`0 ≤ y^(1/6)` and `y ≤ (y^(1/6))⁶`. -/
theorem num_quadratics_sufficient (c : Cubic K) (tol : K) (ht : 0 < tol)
    (hceil : ∀ x : K, x ≤ Transc.ceil x)
    (hpow : 0 ≤ Transc.pow ((((c.b - c.c2.smul 3) + c.c1.smul 3) - c.a).sqLen / (432 * tol * tol)) (1 / 6)
      ∧ (((c.b - c.c2.smul 3) + c.c1.smul 3) - c.a).sqLen / (432 * tol * tol)
        ≤ (Transc.pow ((((c.b - c.c2.smul 3) + c.c1.smul 3) - c.a).sqLen / (432 * tol * tol)) (1 / 6)) ^ 6) :
    1 ≤ c.numQuadraticsImpl tol
    ∧ (((c.b - c.c2.smul 3) + c.c1.smul 3) - c.a).sqLen * (1 / c.numQuadraticsImpl tol) ^ 6 / 432 ≤ tol * tol := by
  rw [numQuadraticsImpl_eq]
  generalize Transc.pow ((((c.b - c.c2.smul 3) + c.c1.smul 3) - c.a).sqLen / (432 * tol * tol)) (1 / 6) = y at hpow ⊢
  have hn1 := le_max_right (Transc.ceil y) (1 : K)
  have hn6 := hpow.2.trans (pow_le_pow_left₀ hpow.1 ((hceil y).trans (le_max_left _ (1 : K))) 6)
  generalize Max.max (Transc.ceil y) (1 : K) = n at hn1 hn6 ⊢
  have hnpos : 0 < n := zero_lt_one.trans_le hn1
  rw [div_le_iff₀ (by positivity)] at hn6
  rw [one_div, inv_pow, ← div_eq_mul_inv, div_div, div_le_iff₀ (by positivity)]
  exact ⟨hn1, by linear_combination hn6⟩

/-- the pieces chosen by `for_each_quadratic_bezier_with_t`
for the tolerance `tolc` (the code passes `0.4·tolerance`) are each within `tolc` of the cubic over
their range, at the same local parameter, and their ranges cover [0,1] — in exact arithmetic.
`hcast`: the cast `to_u32` of the (integer-valued) count is exact. -/
theorem cubic_quads_within_split_tolerance (c : Cubic K) (tolc : K) (ht : 0 < tolc)
    (hceil : ∀ x : K, x ≤ Transc.ceil x)
    (hpow : 0 ≤ Transc.pow ((((c.b - c.c2.smul 3) + c.c1.smul 3) - c.a).sqLen / (432 * tolc * tolc)) (1 / 6)
      ∧ (((c.b - c.c2.smul 3) + c.c1.smul 3) - c.a).sqLen / (432 * tolc * tolc)
        ≤ (Transc.pow ((((c.b - c.c2.smul 3) + c.c1.smul 3) - c.a).sqLen / (432 * tolc * tolc)) (1 / 6)) ^ 6)
    (hcast : (((toU32 (c.numQuadraticsImpl tolc)).getD 1 : Nat) : K) = c.numQuadraticsImpl tolc) :
    (∀ p ∈ c.forEachQuadraticWithT tolc, ∀ u : K, 0 ≤ u → u ≤ 1 →
      (c.sample (p.2.1 + u * (p.2.2 - p.2.1)) - p.1.sample u).sqLen ≤ tolc * tolc)
    ∧ (∀ t : K, 0 ≤ t → t ≤ 1 → ∃ p ∈ c.forEachQuadraticWithT tolc,
      ∃ u : K, 0 ≤ u ∧ u ≤ 1 ∧ t = p.2.1 + u * (p.2.2 - p.2.1)) := by
  obtain ⟨hn1, hdev⟩ := num_quadratics_sufficient c tolc ht hceil hpow
  refine ⟨fun p hp u hu0 hu1 => ?_, fun t ht0 ht1 => ?_⟩
  · -- the loop runs `n − 1` steps of length `1/n` from `0`, then the last piece up to `1`
    simp only [Cubic.forEachQuadraticWithT, sc_zero_eq, sc_one_eq] at hp
    generalize c.numQuadraticsImpl tolc = nq at hn1 hdev hcast hp
    generalize (toU32 nq).getD 1 = n at hcast hp
    have hn : 1 ≤ n := by exact_mod_cast (hcast ▸ hn1 : (1 : K) ≤ (n : K))
    obtain ⟨h1, h2⟩ := quads_loop_step c (1 / nq) (n - 1) 0 (by
      rw [Nat.cast_sub hn, Nat.cast_one, sub_add_cancel, hcast, zero_add, mul_one_div,
        div_self (zero_lt_one.trans_le hn1).ne']) p hp
    rw [h1]
    exact (cubic_piece_deviation c p.2.1 p.2.2 u hu0 hu1).trans (h2 ▸ hdev)
  · -- the pieces are a chain of ranges from `0` to `1`
    obtain ⟨s1, s2, s3⟩ := cubic_quads_structure c (one / c.numQuadraticsImpl tolc)
      ((toU32 (c.numQuadraticsImpl tolc)).getD 1 - 1) zero
    obtain ⟨g1, g2⟩ := quadChain_chain c _ _ s1
    obtain ⟨_, hsg, hu⟩ := chain_cover _ zero 1 _ g1
      (fun hh => List.ne_nil_of_length_eq_add_one s3 (List.map_eq_nil_iff.mp hh)) (g2.trans (s2.trans sc_one_eq)) t
      (sc_zero_eq (K := K) ▸ ht0) ht1
    obtain ⟨p, hp, rfl⟩ := List.mem_map.mp hsg
    exact ⟨p, hp, hu⟩

/-- the cubic tolerance clause reduced to the
quadratic one. With the code's split `0.4·tol` (cubic → quadratics, PROVED here) + `0.6·tol`
(quadratics → segments, hypothesis `hq` with `tolq`): every point of the cubic is within
`tolq + 0.4·tol` of the polyline. With `tolq = 0.6·tol` this is the property's clause; what is
known about `hq` is in Props/C09.lean (Levien's count is approximate: finding approx-integral,
so `tolq ≈ 1.11·0.6·tol` is what holds in general). -/
theorem cubic_flat_within_tolerance_of_quad_flattening (c : Cubic K) (tol tolq : K) (l : List (FlatSeg K))
    (h : c.forEachFlattenedWithT tol = some l) (htq : 0 ≤ tolq)
    (ht : 0 < tol * FlatConst.value 4 1)
    (hceil : ∀ x : K, x ≤ Transc.ceil x)
    (hpow : 0 ≤ Transc.pow ((((c.b - c.c2.smul 3) + c.c1.smul 3) - c.a).sqLen
          / (432 * (tol * FlatConst.value 4 1) * (tol * FlatConst.value 4 1))) (1 / 6)
      ∧ (((c.b - c.c2.smul 3) + c.c1.smul 3) - c.a).sqLen
          / (432 * (tol * FlatConst.value 4 1) * (tol * FlatConst.value 4 1))
        ≤ (Transc.pow ((((c.b - c.c2.smul 3) + c.c1.smul 3) - c.a).sqLen
          / (432 * (tol * FlatConst.value 4 1) * (tol * FlatConst.value 4 1))) (1 / 6)) ^ 6)
    (hcast : (((toU32 (c.numQuadraticsImpl (tol * FlatConst.value 4 1))).getD 1 : Nat) : K)
      = c.numQuadraticsImpl (tol * FlatConst.value 4 1))
    (hq : ∀ p ∈ c.forEachQuadraticWithT (tol * FlatConst.value 4 1), ∀ lq,
      p.1.forEachFlattenedWithT (tol * FlatConst.value 6 1) = some lq →
      ∀ u : K, 0 ≤ u → u ≤ 1 → ∃ sg ∈ lq, ∃ s : K, 0 ≤ s ∧ s ≤ 1 ∧
        (p.1.sample u - sg.a.lerp sg.b s).sqLen ≤ tolq * tolq)
    (t : K) (ht0 : 0 ≤ t) (ht1 : t ≤ 1) :
    ∃ sg ∈ l, ∃ s : K, 0 ≤ s ∧ s ≤ 1 ∧
      (c.sample t - sg.a.lerp sg.b s).sqLen
        ≤ (tolq + tol * FlatConst.value 4 1) * (tolq + tol * FlatConst.value 4 1) := by
  obtain ⟨hc, hcov⟩ := cubic_quads_within_split_tolerance c (tol * FlatConst.value 4 1) ht hceil hpow hcast
  exact cubic_flat_within_tolerance_of_quads c tol tolq (tol * FlatConst.value 4 1) l h htq (le_of_lt ht)
    hq hc hcov t ht0 ht1

end cubic

section arc_any
variable {α : Type} [Scalar α] [Transc α] [FlatConst α]

/-- (observation, every scalar type) when the `EPSILON`
guard of `flattening_step` fires on the whole arc (`min(2·acos((R−tol)/R)/|sweep|, 1) < ε`) the
step is 1 and the arc is emitted as the single segment `from() → to()` whatever the tolerance.
This is the case the hypothesis `heps` of `arc_flat_within_tolerance` excludes.
(`hle`: the scalar's `≤` accepts `1 ≤ 1`, as in every ordered field and in floats.) -/
theorem arc_epsilon_guard_single_segment (a : Arc α) (tol : α) (fuel : Nat)
    (hle : (one : α) ≤ one)
    (hg : Scalar.min (two * Transc.acos ((Scalar.max (Scalar.abs a.radii.x) (Scalar.abs a.radii.y) - tol)
        / Scalar.max (Scalar.abs a.radii.x) (Scalar.abs a.radii.y)) / Scalar.abs a.sweep) one < FlatConst.epsilon) :
    a.forEachFlattenedWithT tol fuel = [⟨a.fromPt, a.toPt, zero, one⟩] := by
  have hstep : a.flatteningStep tol = one := by
    simp only [Arc.flatteningStep, hg, if_true]
  cases fuel with
  | zero => rfl
  | succ f => simp only [Arc.forEachFlattenedWithT, Arc.flatLoop, hstep, hle, if_true]

end arc_any

/-! ## Quadratic: the per-input certificate (translation validation) -/

section quad
variable [Transc K] [FlatConst K]

/-- for one emitted chord whose end points are `Q(t0)`, `Q(t1)`:
if its certificate (`Quad.chordCertSq`, Model/Geom/FlattenCert.lean: the squared perpendicular
bound `(Δ²|dd × v|/(4|v|·tol))²` when the foot of the perpendicular stays on the chord, else the
squared parametric bound `(Δ²|dd|/(4·tol))²`) is at most `k²`, every curve point over the chord's
range is within `k·tol` of the chord. -/
theorem quad_chord_within_certificate (q : Quad K) (tol k : K) (sg : FlatSeg K)
    (ha : sg.a = q.sample sg.t0) (hb : sg.b = q.sample sg.t1) (ht : 0 < tol)
    (hc : q.chordCertSq tol sg ≤ k * k) (s : K) (hs0 : 0 ≤ s) (hs1 : s ≤ 1) :
    ∃ s2 : K, 0 ≤ s2 ∧ s2 ≤ 1 ∧
      (q.sample (sg.t0 + s * (sg.t1 - sg.t0)) - sg.a.lerp sg.b s2).sqLen ≤ (k * tol) * (k * tol) := by
  rw [quad_chord_point, ← ha, ← hb]
  have ht2 : 0 < tol * tol := mul_pos ht ht
  unfold Quad.chordCertSq at hc
  by_cases hp : q.chordPerp sg = true
  · rw [if_pos hp] at hc
    simp only [Quad.chordPerp, Bool.and_eq_true, decide_eq_true_eq, sc_zero, sc_abs] at hp
    obtain ⟨hvv, hκ⟩ := hp
    simp only [Quad.chordPerpSq, ofNat_eq, Nat.cast_ofNat] at hc
    rw [← smul_dot] at hκ
    obtain ⟨s2, h0, h1, h2⟩ := perp_dev sg.a sg.b _ s hs0 hs1 hvv hκ
    refine ⟨s2, h0, h1, le_trans h2 ?_⟩
    rw [smul_cross, div_le_iff₀ (by positivity)]
    rw [div_le_iff₀ (by positivity)] at hc
    linear_combination hc
  · rw [if_neg hp] at hc
    simp only [Quad.chordParamSq, ofNat_eq, Nat.cast_ofNat] at hc
    refine ⟨s, hs0, hs1, le_trans (param_dev sg.a sg.b _ s hs0 hs1) ?_⟩
    rw [sqLen_smul, div_le_iff₀ (by norm_num)]
    rw [div_le_iff₀ (by positivity)] at hc
    linear_combination hc

/-- (verified per-input certificate) if the
certificate `Quad.flatCert` evaluated on the segments emitted by `for_each_flattened_with_t` is at
most `k²`, EVERY point of the quadratic is within `k·tol` of the polyline. The driver evaluates
`flatCert` on the model's output at `Float32`/`Float`, the harness evaluates the same expressions on
lyon's output, the tie compares the two; with `k = 1` this is the property's tolerance clause for
that input, proved instead of sampled. (Stronger than `quad_flat_within_tolerance_of_params`: the
perpendicular certificate is exactly the largest distance between the curve and its chord.) -/
theorem quad_flat_within_tolerance_of_certificate (q : Quad K) (tol k : K) (l : List (FlatSeg K))
    (h : q.forEachFlattenedWithT tol = some l) (ht : 0 < tol)
    (hc : (q.flatCert tol l).2 ≤ k * k) (t : K) (ht0 : 0 ≤ t) (ht1 : t ≤ 1) :
    ∃ sg ∈ l, ∃ s2 : K, 0 ≤ s2 ∧ s2 ≤ 1 ∧
      (q.sample t - sg.a.lerp sg.b s2).sqLen ≤ (k * tol) * (k * tol) := by
  obtain ⟨hne, hch, _, hlast⟩ := quad_flat_tiles q tol l h
  obtain ⟨sg, hsg, s, hs0, hs1, rfl⟩ := chain_cover q.a 0 1 l hch hne hlast t ht0 ht1
  obtain ⟨ha, hb⟩ := quad_flat_ends_on q tol l h sg hsg
  obtain ⟨s2, h1, h2, h3⟩ := quad_chord_within_certificate q tol k sg ha hb ht (flatCert_le q tol _ l hc sg hsg) s hs0 hs1
  exact ⟨sg, hsg, s2, h1, h2, h3⟩

/-- (verified per-input certificate for cubics) if
the combined certificate `Cubic.flatCert` (each quadratic piece flattened with `0.6·tol`, certificate
in units of `(0.6·tol)²`) is at most `k²`, every point of the cubic is within
`k·0.6·tol + 0.4·tol` of the polyline of `for_each_flattened_with_t` — in exact arithmetic, the laws
of `ceil`/`powf`/the cast being those of `cubic_quads_within_split_tolerance` (discharged over ℝ in
Props/C09Real.lean). With `k = 1`: within `tol`, the property's clause, proved for that input. -/
theorem cubic_flat_within_tolerance_of_certificate (c : Cubic K) (tol k : K) (l : List (FlatSeg K))
    (h : c.forEachFlattenedWithT tol = some l) (hk : 0 ≤ k)
    (ht4 : 0 < tol * FlatConst.value 4 1) (ht6 : 0 < tol * FlatConst.value 6 1)
    (hceil : ∀ x : K, x ≤ Transc.ceil x)
    (hpow : 0 ≤ Transc.pow ((((c.b - c.c2.smul 3) + c.c1.smul 3) - c.a).sqLen
          / (432 * (tol * FlatConst.value 4 1) * (tol * FlatConst.value 4 1))) (1 / 6)
      ∧ (((c.b - c.c2.smul 3) + c.c1.smul 3) - c.a).sqLen
          / (432 * (tol * FlatConst.value 4 1) * (tol * FlatConst.value 4 1))
        ≤ (Transc.pow ((((c.b - c.c2.smul 3) + c.c1.smul 3) - c.a).sqLen
          / (432 * (tol * FlatConst.value 4 1) * (tol * FlatConst.value 4 1))) (1 / 6)) ^ 6)
    (hcast : (((toU32 (c.numQuadraticsImpl (tol * FlatConst.value 4 1))).getD 1 : Nat) : K)
      = c.numQuadraticsImpl (tol * FlatConst.value 4 1))
    (r : Bool × K) (hcert : c.flatCert tol = some r) (hr : r.2 ≤ k * k)
    (t : K) (ht0 : 0 ≤ t) (ht1 : t ≤ 1) :
    ∃ sg ∈ l, ∃ s : K, 0 ≤ s ∧ s ≤ 1 ∧
      (c.sample t - sg.a.lerp sg.b s).sqLen
        ≤ (k * (tol * FlatConst.value 6 1) + tol * FlatConst.value 4 1)
          * (k * (tol * FlatConst.value 6 1) + tol * FlatConst.value 4 1) := by
  refine cubic_flat_within_tolerance_of_quad_flattening c tol (k * (tol * FlatConst.value 6 1)) l h
    (mul_nonneg hk (le_of_lt ht6)) ht4 hceil hpow hcast ?_ t ht0 ht1
  intro p hp lq hlq u hu0 hu1
  have hc := piecesCert_le (tol * FlatConst.value 6 1) (k * k) _ r hcert hr p hp lq hlq
  exact quad_flat_within_tolerance_of_certificate p.1 (tol * FlatConst.value 6 1) k lq hlq ht6 hc u hu0 hu1

/-- non-vacuity: `from (0,0) ctrl (1,1) to (2,0)` cut at `t = 1/2` (chords `(0,0)→(1,1/2)→(2,0)`),
tolerance `1/8`: both chords have the perpendicular certificate, and its squared value is `4/5`
(the curve is `1/(4√5) = √(4/5)·(1/8)` from each chord at the chord's middle): `flatCert = (true, 4/5)`,
so the theorem applies with any `k` with `4/5 ≤ k²`, e.g. `k = 1`. -/
example : let q : Quad ℚ := ⟨⟨0, 0⟩, ⟨1, 1⟩, ⟨2, 0⟩⟩
    q.flatCert (1 / 8) [⟨⟨0, 0⟩, ⟨1, 1 / 2⟩, 0, 1 / 2⟩, ⟨⟨1, 1 / 2⟩, ⟨2, 0⟩, 1 / 2, 1⟩] = (true, 4 / 5) := by
  decide +kernel

end quad

section examples

/-- `TrigLaws` is satisfiable over ℚ by a degenerate instance (`cos = 1`, `sin = 0`, `acos = 0`,
`π = 0`: the circle collapses to a point); the real instance is `real_trig_laws` (Props/C09Real.lean). -/
@[instance_reducible] def pointTransc : Transc ℚ :=
  { sqrt := id, cbrt := id, sin := fun _ => 0, cos := fun _ => 1, tan := id, acos := fun _ => 0,
    atan2 := fun a _ => a, pow := fun _ _ => 2, log2 := id, ln := id, floor := id, ceil := id,
    toNat := fun _ => 2, fmod := fun a _ => a, eps := 0, pi := 0, isNaN := fun _ => false,
    isFinite := fun _ => true }

attribute [local instance] pointTransc

example : TrigLaws ℚ :=
  { cos_sq_add_sin_sq := fun _ => by show (1:ℚ) * 1 + 0 * 0 = 1; norm_num
    cos_add := fun _ _ => by show (1:ℚ) = 1 * 1 - 0 * 0; norm_num
    sin_add := fun _ _ => by show (0:ℚ) = 0 * 1 + 1 * 0; norm_num
    cos_neg := fun _ => rfl
    sin_neg := fun _ => by show (0:ℚ) = -0; norm_num
    cos_antitone := fun _ _ _ _ _ => le_refl _
    acos_nonneg := fun _ => le_refl _
    acos_le_pi := fun _ => le_refl _
    le_cos_acos := fun _ h => h }

/-- the largest radius; a unit vector and a parameter in `[0,1]` -/
example : (2 : ℚ) = Max.max |(-2 : ℚ)| |(1 : ℚ)| := by norm_num [abs_of_neg, abs_of_pos]
example : ((3:ℚ)/5) * (3/5) + (4/5) * (4/5) = 1 ∧ (0:ℚ) ≤ 1/3 ∧ (1/3:ℚ) ≤ 1 := by norm_num

/-- `arc_large_tolerance`: radii (2,1), tolerance 5 ≥ 2·2 -/
example : (2 : ℚ) * 2 ≤ 5 := by norm_num

/-- `num_quadratics_sufficient` / `cubic_quads_within_split_tolerance` /
`cubic_flat_within_tolerance_of_quad_flattening`: the cubic from (0,0) ctrl (1,3) (3,3) to (4,0)
(`D = (−2, 0)`, `|D|² = 4`) with `tolc = 1/10`: `y = 4/(432/100) = 25/27`; with a "sixth root" of 2
(`2⁶ = 64 ≥ y`), `ceil = id` and the cast `2 ↦ 2` the hypotheses hold and the count is 2. -/
example : let c : Cubic ℚ := ⟨⟨0, 0⟩, ⟨1, 3⟩, ⟨3, 3⟩, ⟨4, 0⟩⟩
    (∀ x : ℚ, x ≤ Transc.ceil x)
    ∧ (0 : ℚ) ≤ Transc.pow ((((c.b - c.c2.smul 3) + c.c1.smul 3) - c.a).sqLen / (432 * (1/10) * (1/10))) (1 / 6)
    ∧ (((c.b - c.c2.smul 3) + c.c1.smul 3) - c.a).sqLen / (432 * (1/10) * (1/10))
        ≤ (Transc.pow ((((c.b - c.c2.smul 3) + c.c1.smul 3) - c.a).sqLen / (432 * (1/10) * (1/10))) (1 / 6)) ^ 6
    ∧ (((toU32 (c.numQuadraticsImpl (1/10))).getD 1 : Nat) : ℚ) = c.numQuadraticsImpl (1/10) := by
  intro c
  have hn : c.numQuadraticsImpl (1/10) = 2 := by
    show Max.max (2 : ℚ) (Scalar.one) = 2
    simp [sc_one]
  refine ⟨fun x => le_refl _, ?_, ?_, ?_⟩
  · show (0 : ℚ) ≤ 2; norm_num
  · show (((c.b - c.c2.smul 3) + c.c1.smul 3) - c.a).sqLen / (432 * (1/10) * (1/10)) ≤ (2 : ℚ) ^ 6
    simp only [geom, c]; norm_num
  · rw [hn]
    have h2 : toU32 (2 : ℚ) = some 2 := by
      simp only [toU32, ofNat_eq]
      norm_num
      rfl
    rw [h2]; norm_num

/-- `arc_epsilon_guard_single_segment`: in the degenerate instance above (`acos = 0`: an angular step
of 0, as for a tolerance below the resolution) with `EPSILON = 1/10000` the guard fires on the arc of
radius 1 and sweep 1 with tolerance 1/10 -/
example : let a : Arc ℚ := ⟨⟨0, 0⟩, ⟨1, 1⟩, 0, 1, 0⟩
    ((Scalar.one : ℚ) ≤ Scalar.one)
    ∧ Scalar.min (Scalar.two * Transc.acos ((Scalar.max (Scalar.abs a.radii.x) (Scalar.abs a.radii.y) - 1 / 10)
        / Scalar.max (Scalar.abs a.radii.x) (Scalar.abs a.radii.y)) / Scalar.abs a.sweep) Scalar.one
      < (toyConst.epsilon : ℚ) := by
  intro a
  refine ⟨le_refl _, ?_⟩
  show Min.min ((2 : ℚ) * 0 / |(1 : ℚ)|) 1 < 1 / 10000
  norm_num

/-- the triangle inequality's hypotheses: `|(3,4)|² = 25 ≤ 5²`, `|(1,0)|² ≤ 1²` -/
example : ((⟨3, 4⟩ : P ℚ).sqLen ≤ 5 * 5) ∧ ((⟨1, 0⟩ : P ℚ).sqLen ≤ 1 * 1) := by
  constructor <;> simp [P.sqLen] <;> norm_num

end examples

end Lyon.C09
