/-
  C08 — tessellators carry no state from one call to the next.

  The theorems are about `Model/Tess/Reset.lean` (the reset discipline of `fill.rs`, `event_queue.rs`,
  `stroke.rs`, field by field), `Model/Tess/Monotone.lean` (the pooled monotone tessellator, model
  of C02, tied to the real code through hook H2) and `Model/Tess/GeomBuilder.lean` /
  `Skeleton.lean` (`BuffersBuilder` and the call skeletons, models of C04).

  Shape of the argument.  `reset_erases_history` is the generic lemma: if every call first overwrites
  (or makes unreadable) whatever the rest of the call reads — a `Discipline` — then the output of a
  call is a function of its argument alone, after EVERY history, whatever the earlier calls left
  behind (an input may carry a fault position; nothing is assumed about the state a call leaves).
  Two machines are instances of it (`poolDiscipline`, `fillDiscipline`); the stroke machine is shown `Stateless`
  directly; the other items are the facts the instances rest on.  All are proved, not assumed:

  * `monotone_begin_fresh`      pooled `AdvancedMonotoneTessellator`: `begin` leaves `prev` stale
                                (`push` copies the OLD `last.pos`); no output of any later
                                `vertex* end` depends on it.                   (relation `AdvSim`)
  * `queue_builder_fresh`       `EventQueueBuilder` reused by `set_path*`: `reset` clears `queue, nth`
                                only; `prev, second` stay stale and are read under `nth > 0` only.
                                                                               (relation `QBSim`)
  * `into_builder_fresh`        `EventQueue::into_builder` (how the tessellator recycles the queue).
  * `scan_reset_fresh`          `ActiveEdgeScan::reset` = `new`.
  * `attrib_buffer_fresh`       `interpolated_attributes` over a whole call: only the LENGTH of the
                                recycled buffer matters, and `resize` fixes it.
  * `begin_span_fresh`          `Spans::begin_span` from any pool.
  * `fill_call_fresh`, `fill_history_fresh`       the `FillTessellator` machine, all entry points,
                                invalid tolerance, builder faults, dropped builders.
  * `stroke_call_fresh`, `stroke_history_fresh`   the `StrokeTessellator` machine.
  * `offset_shift`, `offset_shift_failed`         prior buffer contents only shift the indices; a
                                failed call gives them back untouched.

  In this file the sweep and the stroker are parameters (`FillEnv.sweep`, `StrokeEnv.core`: abstract
  cores that read nothing but the `SweepView` / `StrokeView` handed to them), and the theorems hold
  for every choice of them.  The same property with the complete models in place of the cores:
  `Props/C08b.lean` (`fill_history_fresh_sweep`), `Props/C08d.lean` (`fill_history_fresh_sweep_curves`)
  and `Props/C08c.lean` (`stroke_history_fresh_full`).  On the REAL tessellators the history oracle of
  `harness/src/bin/c08.rs` compares call by call with fresh ones, bit for bit.
-/
import LyonVerif.Lemmas.Reset
import LyonVerif.Props.C04

set_option linter.unusedVariables false

namespace Lyon.C08
open Lyon Lyon.Mono Lyon.Reset Lyon.Tess Scalar

variable {α : Type} [Scalar α]

/-- **A reset discipline erases the history.**  For a machine with a reset discipline, the output
of a call made after ANY history of calls (other inputs, other options, other entry points, calls
that failed part-way — `hist` is arbitrary and nothing is assumed about the states the calls leave)
from ANY initial state equals the output of the same call on a fresh object. -/
theorem reset_erases_history {σ ι ο : Type} (m : Machine σ ι ο) (d : Discipline m)
    (s0 fresh : σ) (hist : List ι) (i : ι) :
    (m.call (m.run s0 hist) i).2 = (m.call fresh i).2 :=
  d.stateless _ _ i

/-- the same, call by call along the history: what `harness/src/bin/c08.rs` observes -/
theorem reset_erases_history_outputs {σ ι ο : Type} (m : Machine σ ι ο) (d : Discipline m)
    (s0 fresh : σ) (hist : List ι) :
    m.outputs s0 hist = hist.map (fun i => (m.call fresh i).2) :=
  d.stateless.outputs fresh hist s0

/-- **`begin` makes a recycled monotone tessellator indistinguishable from a new one.**
For every two previous states `old`, `old'` (any history, ended or abandoned part-way), every
`begin` argument and every later sequence of `vertex` calls: the inner tessellator (stack, previous
vertex, every triangle emitted so far) is the same, and so is everything `end` produces.
The stale field — `SideEvents::prev`, into which `push` copies the OLD `last.pos` — is overwritten
by the next `push` on that side before the outward-turn test (guarded by `len >= 2`) can read it. -/
theorem monotone_begin_fresh (old old' : Adv α) (p : P α) (id : Nat) (vs : List (VArg α)) (pe : P α) (ide : Nat) :
    (feed (Adv.begin old p id) vs).tess = (feed (Adv.begin old' p id) vs).tess ∧
    (feed (Adv.begin old p id) vs).end_ pe ide = (feed (Adv.begin old' p id) vs).end_ pe ide := by
  have h := feed_sim vs _ _ (begin_sim old old' p id)
  exact ⟨h.1, end_sim _ _ pe ide h⟩

/-- in particular: equal to a brand-new object (`AdvancedMonotoneTessellator::new`) -/
theorem monotone_begin_fresh_new (old : Adv α) (p : P α) (id : Nat) (vs : List (VArg α)) (pe : P α) (ide : Nat) :
    ((feed (Adv.begin old p id) vs).end_ pe ide).tris = ((feed (Adv.begin Adv.new p id) vs).end_ pe ide).tris := by
  rw [(monotone_begin_fresh old Adv.new p id vs pe ide).2]

/-- The stale field is really there: after `begin` on a used object `prev` differs from a new object's. -/
theorem monotone_begin_stale_witness :
    let used : Adv Int' := Adv.begin (Adv.begin Adv.new ⟨⟨7⟩, ⟨7⟩⟩ 1) ⟨⟨0⟩, ⟨0⟩⟩ 2
    let new_ : Adv Int' := Adv.begin Adv.new ⟨⟨0⟩, ⟨0⟩⟩ 2
    used.left.prev.x.v = 7 ∧ new_.left.prev.x.v = 0 := by decide

/-- the life of one pooled object as a machine: a call is `begin · vertex* · end · flush` -/
def poolMachine : Machine (Adv α) (P α × Nat × List (VArg α) × P α × Nat) (Basic α) :=
  ⟨fun old i => (afterEnd (feed (Adv.begin old i.1 i.2.1) i.2.2.1) i.2.2.2.1 i.2.2.2.2,
                 (feed (Adv.begin old i.1 i.2.1) i.2.2.1).end_ i.2.2.2.1 i.2.2.2.2)⟩

def poolDiscipline : Discipline (poolMachine (α := α)) where
  R := fun _ s t => AdvSim s t
  prologue := fun old i => Adv.begin old i.1 i.2.1
  rest := fun s i => (afterEnd (feed s i.2.2.1) i.2.2.2.1 i.2.2.2.2, (feed s i.2.2.1).end_ i.2.2.2.1 i.2.2.2.2)
  call_eq := fun _ _ => rfl
  establishes := fun s s' i => begin_sim s s' i.1 i.2.1
  respects := fun s s' i h => end_sim _ _ _ _ (feed_sim _ _ _ h)

/-- a pooled object that has been through any number of spans behaves like a new one -/
theorem monotone_pool_history_fresh (s0 : Adv α) (hist : List (P α × Nat × List (VArg α) × P α × Nat))
    (i : P α × Nat × List (VArg α) × P α × Nat) :
    (poolMachine.call (poolMachine.run s0 hist) i).2 = (poolMachine.call Adv.new i).2 :=
  reset_erases_history poolMachine poolDiscipline s0 Adv.new hist i

/-- **`Spans::begin_span`**: whatever the pool holds (and whether it is empty), the tessellator put
into the new span is `AdvSim`-equal to a new one that was begun — hence (`monotone_begin_fresh`)
indistinguishable — and the other spans are the same. -/
theorem begin_span_fresh (spans : List (Option (Adv α))) (pool pool' : List (Adv α)) (idx : Nat) (pos : P α) (v : Nat) :
    ∃ t t', AdvSim t t' ∧
      (Spans.beginSpan ⟨spans, pool⟩ idx pos v).spans = spans.take idx ++ [some t] ++ spans.drop idx ∧
      (Spans.beginSpan ⟨spans, pool'⟩ idx pos v).spans = spans.take idx ++ [some t'] ++ spans.drop idx :=
  ⟨_, _, begin_sim _ _ pos v, rfl, rfl⟩

/-- **`ActiveEdgeScan::reset` restores `ActiveEdgeScan::new()`**, whatever the scan held
(`scan_active_edges` starts with it). -/
theorem scan_reset_fresh (s : Scan) : s.reset = Scan.new := rfl

/-- **Every slot of the recycled attribute buffer is written before it is read.**  For a whole call
(`vs` = the source lists of its vertices, in order, the buffer threaded through): the attributes
handed to the vertex constructor are the same whatever the buffer held before `tessellate_impl`
resized it — any old contents `buf`, `buf'`, of any lengths. -/
theorem attrib_buffer_fresh (store : Option (Nat → List α)) (n : Nat) (attrs : Option Nat)
    (vs : List (List (Src α))) (buf buf' : List α) :
    interpAll store n vs (resizeAttrib buf attrs) = interpAll store n vs (resizeAttrib buf' attrs) :=
  interpAll_fresh store n vs _ _ (by rw [resizeAttrib_length, resizeAttrib_length])

/-- The stale contents are really there after the resize (so the theorem is not about zeros). -/
theorem attrib_buffer_stale_witness :
    resizeAttrib ([⟨5⟩, ⟨6⟩, ⟨7⟩] : List Int') (some 2) = [⟨5⟩, ⟨6⟩] ∧
    resizeAttrib ([] : List Int') (some 2) = [⟨0⟩, ⟨0⟩] := by decide

/-- **`EventQueue::into_builder` forgets the queue**: the builder the tessellator obtains by
`mem::replace(&mut self.events, EventQueue::new()).into_builder(tol)` is the one a new queue gives. -/
theorem into_builder_fresh (q : Queue α) (tol : α) : q.intoBuilder tol = (Queue.new : Queue α).intoBuilder tol := rfl

/-- **A re-used `EventQueueBuilder` builds the same queue.**  For any two builders `b`, `b'`
(whatever earlier `set_path` calls, complete or not, left in `current, prev, second, nth,
prev_endpoint_id, tolerance` and in the queue), any flattener, tolerance, orientation and any event
stream that starts with `Begin`: `set_path` / `set_path_with_ids` produce the same queue.  (After the
first `Begin` the stream may be anything, well-formed or not.) -/
theorem queue_builder_fresh (F : Flat α) (b b' : QB α) (tol : α) (hz : Bool) (p : P α) (id : Nat) (evs : List (PEv α)) :
    (QB.setPath F b tol hz (.begin p id :: evs)).queue = (QB.setPath F b' tol hz (.begin p id :: evs)).queue := by
  unfold QB.setPath QB.events
  simp only [List.foldl_cons]
  exact (events_sim F hz evs (QB.event F hz { b.reset with tolerance := tol } (.begin p id))
    (QB.event F hz { b'.reset with tolerance := tol } (.begin p id)) (qb_begin_sim _ _ _ id rfl rfl)).2.2.1

example : ∃ evs : List (PEv Int'), evs = [.begin ⟨⟨0⟩, ⟨0⟩⟩ 0, .line ⟨⟨4⟩, ⟨0⟩⟩ 1, .line ⟨⟨0⟩, ⟨3⟩⟩ 2, .end_ ⟨⟨0⟩, ⟨0⟩⟩ 0] := ⟨_, rfl⟩

/-- Without the leading `Begin` the statement is false: `current` is stale and `line_segment` reads it. -/
theorem queue_builder_needs_begin_witness :
    let F : Flat Int' := ⟨fun _ _ _ _ => [], fun _ _ _ _ _ => []⟩
    let b : QB Int' := (Queue.new.intoBuilder ⟨1⟩)
    let b' : QB Int' := { b with current := ⟨⟨9⟩, ⟨9⟩⟩ }
    ((QB.setPath F b ⟨1⟩ false [.line ⟨⟨4⟩, ⟨0⟩⟩ 1]).queue.events.map (fun q => (q.x.v, q.y.v))) ≠
    ((QB.setPath F b' ⟨1⟩ false [.line ⟨⟨4⟩, ⟨0⟩⟩ 1]).queue.events.map (fun q => (q.x.v, q.y.v))) := by decide

section fill
variable {E σ : Type}

/-- the calls that reach the sweep -/
def fillNormal (i : FillIn α × σ) : Bool :=
  match i.1.entry with
  | .shape _ => false
  | .builderDropped => false
  | _ => tolOk i.1.opts.tolerance

/-- **After the prologue of `tessellate_impl` the sweep sees the same thing whatever the object
held**: event queue rebuilt from the input through a builder that was reset, sweep state cleared,
options overwritten, attribute buffer at the requested length, scan reset. -/
theorem fill_view_fresh (env : FillEnv α E σ) (t t' : FillT α E) (i : FillIn α) :
    (t.prologue env i).view = (t'.prologue env i).view := by
  simp only [FillT.view, FillT.prologue, FillT.reset, buildQueue, into_builder_fresh, resizeAttrib_length]
  rfl

def fillDiscipline (env : FillEnv α E σ) (S : Sink σ) : Discipline (fillMachine env S) where
  R := fun i s s' => fillNormal i = true → s.view = s'.view
  prologue := fun s i => if fillNormal i then s.prologue env i.1 else s
  rest := fun s i =>
    if fillNormal i then
      (env.leftover s i.1 i.2, tessellateImpl S true (env.sweep s.view i.1).core (env.sweep s.view i.1).coreErr i.2)
    else fillCall env S s i
  call_eq := by
    intro s i
    show fillCall env S s i = _
    cases hn : fillNormal i
    · simp only [Bool.false_eq_true, if_false]
    · simp only [if_true]
      unfold fillNormal at hn
      unfold fillCall
      cases he : i.1.entry <;> simp only [he] at hn <;> first | exact Bool.noConfusion hn | simp [hn]
  establishes := by
    intro s s' i hn
    simp only [hn, if_true]
    exact fill_view_fresh env s s' i.1
  respects := by
    intro s s' i h
    cases hn : fillNormal i
    · simp only [Bool.false_eq_true, if_false]
      unfold fillNormal at hn
      unfold fillCall
      cases he : i.1.entry <;> simp only [he] at hn <;> simp [hn]
    · simp only [if_true, h hn]

/-- **One call of a used `FillTessellator` = the same call of a new one**: every entry point
(`tessellate*`, `builder*`+`build`, the shape fast paths, a dropped builder), valid or invalid
tolerance, every geometry builder `S` in every state (hence every fault position), every sweep
function of the `SweepView`, and whatever earlier calls left in the object. -/
theorem fill_call_fresh (env : FillEnv α E σ) (S : Sink σ) (t : FillT α E) (i : FillIn α × σ) :
    (fillCall env S t i).2 = (fillCall env S FillT.new i).2 :=
  (fillDiscipline env S).stateless t FillT.new i

/-- **A whole history** on one `FillTessellator`, call by call, equals fresh tessellators. -/
theorem fill_history_fresh (env : FillEnv α E σ) (S : Sink σ) (t0 : FillT α E) (hist : List (FillIn α × σ)) :
    (fillMachine env S).outputs t0 hist = hist.map (fun i => (fillCall env S FillT.new i).2) :=
  reset_erases_history_outputs _ (fillDiscipline env S) t0 FillT.new hist

end fill

section stroke
variable {ω σ : Type}

/-- what `StrokeBuilderImpl` / `StrokeBuilder` are handed does not depend on the object:
`attrib_buffer` is cleared and refilled with zeros, `builder_attrib_store` is reset. -/
theorem stroke_view_fresh (t t' : StrokeT α) (i : StrokeIn α ω) : (t.prologue i).2 = (t'.prologue i).2 := by
  unfold StrokeT.prologue
  cases i.entry <;> rfl

/-- **One call of a used `StrokeTessellator` = the same call of a new one.** -/
theorem stroke_call_fresh (env : StrokeEnv α ω σ) (S : Sink σ) : Stateless (strokeMachine env S) := by
  intro t t' i
  show (strokeCall env S t i).2 = (strokeCall env S t' i).2
  unfold strokeCall
  simp only [stroke_view_fresh t t' i.1]
  cases i.1.entry <;> rfl

theorem stroke_history_fresh (env : StrokeEnv α ω σ) (S : Sink σ) (t0 : StrokeT α) (hist : List (StrokeIn α ω × σ)) :
    (strokeMachine env S).outputs t0 hist = hist.map (fun i => (strokeCall env S StrokeT.new i).2) :=
  (stroke_call_fresh env S).outputs StrokeT.new hist t0

end stroke

/-- **Prior buffer contents only shift the output** (successful call): tessellating into a
`BuffersBuilder` over prior contents `B` yields `B ++ shift_{|B|}(the run on empty buffers)` — the
same new vertices, the same new indices moved up by the number of prior vertices — whenever the run
fits the index type. -/
theorem offset_shift (B : Buffers) (cfg : IdxCfg) (core : List CReq) (hw : C04.wellScoped 0 core = true)
    (hfit : B.vertices.length + nVerts core ≤ cfg.max) (hm1 : cfg.max ≤ cfg.modulus) (hm2 : cfg.max ≤ idxMod) :
    let o0 := tessellateImpl bbSink true core none (BB.new ⟨[], []⟩ cfg)
    let oB := tessellateImpl bbSink true core none (BB.new B cfg)
    o0.result = none ∧ oB.result = none ∧
    oB.st.buf.vertices = B.vertices ++ o0.st.buf.vertices ∧
    oB.st.buf.indices = B.indices ++ o0.st.buf.indices.map (· + B.vertices.length) :=
  C04.offset_shift B cfg core hw hfit hm1 hm2

example : let core := [CReq.v 0, .v 1, .v 2, .t 0 1 2]
    C04.wellScoped 0 core = true ∧
    (tessellateImpl bbSink true core none (BB.new ⟨[], []⟩ IndexTy.u16.cfg)).st.buf = ⟨[0, 1, 2], [0, 1, 2]⟩ ∧
    (tessellateImpl bbSink true core none (BB.new ⟨[7, 7], [1, 0, 1]⟩ IndexTy.u16.cfg)).st.buf =
      ⟨[7, 7, 0, 1, 2], [1, 0, 1, 2, 3, 4]⟩ := by decide

/-- **A call that fails — invalid tolerance, a refused vertex, an error of the sweep — gives the
prior contents back untouched**, whatever they are (`tolOk`, `core`, `coreErr` arbitrary; `h` says
the call did fail). -/
theorem offset_shift_failed (B : Buffers) (cfg : IdxCfg) (tolOk : Bool) (core : List CReq) (coreErr : Option TErr)
    (hv : B.vertices.length < idxMod) (hi : B.indices.length < idxMod)
    (h : (tessellateImpl bbSink tolOk core coreErr (BB.new B cfg)).result ≠ none) :
    (tessellateImpl bbSink tolOk core coreErr (BB.new B cfg)).st.buf = B :=
  C04.tessellateImpl_failed B cfg tolOk core coreErr hv hi h

example : (tessellateImpl bbSink true [CReq.v 0, .v 1] (some (.internal 3)) (BB.new ⟨[7, 7], [1, 0, 1]⟩ IndexTy.u16.cfg)).result ≠ none := by
  decide

end Lyon.C08
