/-
  `crates/tessellation/src/basic_shapes.rs`: `fill_rectangle`, `fill_circle`,
  `circle_flattening_step`, `fill_border_radius` as producers of a vertex list and a triangle
  (index) list.  Vertex ids are the order of `add_fill_vertex` calls (what `BuffersBuilder` does).
-/
import LyonVerif.Model.Scalar

namespace Lyon.Shapes
open Lyon Scalar

variable {α : Type} [Scalar α] [Transc α]

abbrev Tri := Nat × Nat × Nat

structure Mesh (α : Type) where
  verts : List (P α)
  tris : List Tri

/-- `fill_rectangle`: a = min, b = bottom_left = (min.x, max.y), c = bottom_right = max,
d = top_right = (max.x, min.y); triangles (a,b,c), (a,c,d). -/
def fillRectangle (mn mx : P α) : Mesh α :=
  ⟨[mn, ⟨mn.x, mx.y⟩, mx, ⟨mx.x, mn.y⟩], [(0, 1, 2), (0, 2, 3)]⟩

/-- `circle_flattening_step` -/
def circleFlatteningStep (radius tolerance : α) : α :=
  let tol := Scalar.min tolerance radius
  two * Transc.sqrt (two * tol * radius - tol * tol)

/-- `fill_border_radius`: appends vertices/triangles; the id of the next vertex is the length of the vertex list -/
def fillBorderRadius (center : P α) (a0 a1 radius : α) (va vb : Nat) :
    Nat → Mesh α → Mesh α
  | 0, m => m
  | n+1, m =>
    let mid := (a0 + a1) * half
    let normal : P α := ⟨Transc.cos mid, Transc.sin mid⟩
    let position := center + normal.smul radius
    let v := m.verts.length
    let m1 : Mesh α := ⟨m.verts ++ [position], m.tris ++ [(vb, v, va)]⟩
    let m2 := fillBorderRadius center a0 mid radius va v n m1
    fillBorderRadius center mid a1 radius v vb n m2

/-- the recursion depth chosen by `fill_circle`: `(arc_len / step).ceil().log2().ceil() as u32`
(the `.ceil()` on the logarithm is the repair of the truncation defect, /repo "fix:" commit) -/
def circleRecursions (radius tolerance : α) : Nat :=
  let arcLen := half * Transc.pi * radius
  let step := circleFlatteningStep radius tolerance
  let numSegments := Transc.ceil (arcLen / step)
  Transc.toNat (Transc.ceil (Transc.log2 numSegments))

/-- `fill_circle`; `none` when `radius == 0` (no geometry at all, not even `begin_geometry`) -/
def fillCircle (center : P α) (radius0 tolerance : α) : Option (Mesh α) :=
  let radius := Scalar.abs radius0
  if radius == zero then none else
    let up : P α := ⟨zero, -one⟩
    let down : P α := ⟨zero, one⟩
    let left : P α := ⟨-one, zero⟩
    let right : P α := ⟨one, zero⟩
    let v : List (P α) := [center + left.smul radius, center + up.smul radius,
                          center + right.smul radius, center + down.smul radius]
    let m0 : Mesh α := ⟨v, [(0, 3, 1), (1, 3, 2)]⟩
    let pi := (Transc.pi : α)
    let n := circleRecursions radius tolerance
    let m1 := fillBorderRadius center pi (ofSci 15 1 * pi) radius 0 1 n m0
    let m2 := fillBorderRadius center (ofSci 15 1 * pi) (two * pi) radius 1 2 n m1
    let m3 := fillBorderRadius center zero (pi * half) radius 2 3 n m2
    let m4 := fillBorderRadius center (pi * half) pi radius 3 0 n m3
    some m4

end Lyon.Shapes
