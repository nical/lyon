/-
  `crates/tessellation/src/monotone.rs`: the y-monotone polygon triangulation stage.

  * `Basic`    — `BasicMonotoneTessellator` (stack algorithm)
  * `Adv`      — `AdvancedMonotoneTessellator` (per-side convex chains flushed by `flush_side`,
                 forwarding to `Basic`)

  Vertex ids are natural numbers; the vertex stack is a `List` with the TOP AT THE HEAD.
-/
import LyonVerif.Model.Scalar

namespace Lyon.Mono
open Lyon Scalar

variable {α : Type} [Scalar α]

structure MV (α : Type) where
  pos : P α
  id : Nat
  left : Bool
deriving Inhabited

abbrev Tri := Nat × Nat × Nat

structure Basic (α : Type) where
  /-- top of the stack first -/
  stack : List (MV α)
  previous : MV α
  /-- emitted triangles, oldest first -/
  tris : List Tri

def Basic.begin (pos : P α) (id : Nat) : Basic α :=
  let first : MV α := ⟨pos, id, true⟩
  ⟨[first], first, []⟩

/-- one fan triangle over the stack pair `a` (older), `b` (newer): emitted as `(a, b, cur)`, with
`a` and `b` swapped when the winding test fails -/
def fanTri (cur a b : MV α) : Tri :=
  if zero ≤ (a.pos - b.pos).cross (cur.pos - b.pos) then (a.id, b.id, cur.id) else (b.id, a.id, cur.id)

/-- side changed: fan from `current` over consecutive stack pairs, bottom to top.
The list is the stack BOTTOM FIRST. -/
def fanTris (cur : MV α) : List (MV α) → List Tri
  | a :: b :: r => fanTri cur a b :: fanTris cur (b :: r)
  | _ => []

/-- same side, one ear test: `a = last_popped, b = stack.last`, swapped when the current side is
right; the ear is cut when `cross(cur − b, a − b) ≥ 0`. -/
def earConvex (cur lp top : MV α) : Bool :=
  let a := if cur.left then lp else top
  let b := if cur.left then top else lp
  decide (zero ≤ (cur.pos - b.pos).cross (a.pos - b.pos))

/-- the triangle `(b, a, cur)` of that ear -/
def earTri (cur lp top : MV α) : Tri :=
  if cur.left then (top.id, lp.id, cur.id) else (lp.id, top.id, cur.id)

/-- same side: pop while the ear (`lastPopped`, top of `stack`, `cur`) is convex.
Returns the remaining stack (top first, with the last popped vertex pushed back) and the
triangles emitted. -/
def popLoop (cur : MV α) (lastPopped : MV α) : List (MV α) → List (MV α) × List Tri
  | [] => ([lastPopped], [])
  | top :: rest =>
    if earConvex cur lastPopped top then
      ((popLoop cur top rest).1, earTri cur lastPopped top :: (popLoop cur top rest).2)
    else
      (lastPopped :: top :: rest, [])

def Basic.vertex (s : Basic α) (cur : MV α) : Basic α :=
  if cur.left != s.previous.left then
    { stack := [cur, s.previous], previous := cur, tris := s.tris ++ fanTris cur s.stack.reverse }
  else
    match s.stack with
    | [] => { stack := [cur], previous := cur, tris := s.tris }   -- unreachable (stack is never empty)
    | top :: rest =>
      let r := popLoop cur top rest
      { stack := cur :: r.1, previous := cur, tris := s.tris ++ r.2 }

def Basic.end_ (s : Basic α) (pos : P α) (id : Nat) : Basic α :=
  let s' := s.vertex ⟨pos, id, !s.previous.left⟩
  { s' with stack := [] }

/-- feed `begin`, the middle vertices, `end` -/
def Basic.run (seq : List (P α × Bool)) : List Tri :=
  match seq with
  | [] => []
  | [_] => []
  | (p0, _) :: rest =>
    let n := rest.length
    let mids := rest.take (n - 1)
    let last := rest.getLast?.map (·.1) |>.getD p0
    let s0 : Basic α := Basic.begin p0 0
    let s1 := (mids.zipIdx).foldl (fun s (pi : (P α × Bool) × Nat) => s.vertex ⟨pi.1.1, pi.2 + 1, pi.1.2⟩) s0
    (s1.end_ last n).tris

/-! ### Advanced tessellator -/

structure SideEv (α : Type) where
  refPt : P α
  consRefX : α
  events : List Nat      -- oldest first
  prev : P α
  last : MV α

def SideEv.push (s : SideEv α) (v : MV α) : SideEv α :=
  { s with events := s.events ++ [v.id], prev := s.last.pos, last := v }

/-- one level of `flush_side`'s doubling loop: triangles `(ev[a], ev[b], ev[last])` -/
def flushLevel (ev : Array Nat) (len step : Nat) (right : Bool) : List Tri :=
  let imax := (len - 1) / (2 * step)
  let main := (List.range imax).map (fun i =>
    let a := i * 2 * step
    let b := a + step
    let li := b + step
    if right then (ev.getD b 0, ev.getD a 0, ev.getD li 0) else (ev.getD a 0, ev.getD b 0, ev.getD li 0))
  let lastIndex := if imax == 0 then 0 else (imax - 1) * 2 * step + step + step
  let extra :=
    if lastIndex + step < len then
      let b := lastIndex
      let c := lastIndex + step
      [if right then (ev.getD 0 0, ev.getD c 0, ev.getD b 0) else (ev.getD 0 0, ev.getD b 0, ev.getD c 0)]
    else []
  main ++ extra

def flushLevels (ev : Array Nat) (len : Nat) (right : Bool) : Nat → Nat → List Tri
  | 0, _ => []
  | fuel+1, step => if step * 2 < len then flushLevel ev len step right ++ flushLevels ev len right fuel (step * 2) else []

/-- `flush_side`: triangles of the convex chain, the reset side state and the vertex to forward -/
def flushSide (s : SideEv α) (right : Bool) : SideEv α × List Tri × Option (MV α) :=
  let len := s.events.length
  if len < 2 then (s, [], none) else
    let tris := flushLevels s.events.toArray len right (len + 1) 1
    let s' : SideEv α := { s with events := [s.last.id], prev := s.last.pos, refPt := s.last.pos }
    (s', tris, some s.last)

structure Adv (α : Type) where
  tess : Basic α
  left : SideEv α
  right : SideEv α

/-- `is_after(a, b)` of fill.rs: `a.y > b.y || (a.y == b.y && a.x > b.x)` -/
def isAfter (a b : P α) : Bool := b.y < a.y || (a.y == b.y && b.x < a.x)

/-- a freshly constructed tessellator (`AdvancedMonotoneTessellator::new`) -/
def Adv.new : Adv α :=
  let z : P α := ⟨zero, zero⟩
  let dummy : MV α := ⟨z, 0, true⟩
  let side : SideEv α := ⟨z, zero, [], z, dummy⟩
  ⟨⟨[], dummy, []⟩, side, side⟩

/-- `begin` on a tessellator in state `old` (they are pooled and reused).  Every field is
overwritten except that `push` sets `prev := old.last.pos`, a stale value that is overwritten by
the next `push` on that side before `prev` is ever read (it is read only when the side holds at
least two events) — see `Props/C08`. -/
def Adv.begin (old : Adv α) (pos : P α) (id : Nat) : Adv α :=
  let mk (o : SideEv α) (l : Bool) : SideEv α :=
    { refPt := pos, consRefX := pos.x, events := [id], prev := o.last.pos, last := ⟨pos, id, l⟩ }
  ⟨Basic.begin pos id, mk old.left true, mk old.right false⟩

/-- push triangle ids straight into the inner tessellator (as `flush_side` does) -/
def Basic.pushTris (s : Basic α) (t : List Tri) : Basic α := { s with tris := s.tris ++ t }

def Basic.fwd (s : Basic α) : Option (MV α) → Basic α
  | none => s
  | some v => s.vertex v

def Adv.vertex (st : Adv α) (pos : P α) (id : Nat) (isLeft : Bool) : Adv α :=
  -- update reference points
  let st : Adv α :=
    if isLeft then
      let rx := Scalar.max st.left.refPt.x pos.x
      { st with left := { st.left with refPt := ⟨rx, st.left.refPt.y⟩, consRefX := Scalar.max st.left.consRefX rx } }
    else
      let rx := Scalar.min st.right.refPt.x pos.x
      { st with right := { st.right with refPt := ⟨rx, st.right.refPt.y⟩, consRefX := Scalar.min st.right.consRefX rx } }
  let dx := st.right.consRefX - st.left.consRefX
  let sideEv := if isLeft then st.left else st.right
  let oppEv := if isLeft then st.right else st.left
  let dy := pos.y - sideEv.refPt.y
  let sidesAreClose := dx < dy * ofSci 1 1
  let len := sideEv.events.length
  let outwardTurn :=
    if !sidesAreClose && len ≥ 2 then
      let sign : α := if isLeft then one else -one
      decide ((sideEv.prev - sideEv.last.pos).cross (pos - sideEv.last.pos) * sign < zero)
    else false
  let (tess, sideEv, oppEv) :=
    if outwardTurn || sidesAreClose then
      let mustFlushOpp := isAfter sideEv.last.pos oppEv.last.pos
      let (tess, sideEv, oppEv) :=
        if mustFlushOpp then
          let (o', tr, v) := flushSide oppEv isLeft   -- opposite side: right iff current is left
          match v with
          | some mv => ((st.tess.pushTris tr).vertex mv, { sideEv with consRefX := sideEv.refPt.x }, o')
          | none => (st.tess, sideEv, oppEv)
        else (st.tess, sideEv, oppEv)
      let (s', tr, v) := flushSide sideEv (!isLeft)
      match v with
      | some mv =>
        -- lyon 9b7220fb: the vertex being added is part of the restarted chain's reference as well
        let rx := if isLeft then Scalar.max s'.refPt.x pos.x else Scalar.min s'.refPt.x pos.x
        ((tess.pushTris tr).vertex mv, { s' with refPt := ⟨rx, s'.refPt.y⟩ }, { oppEv with consRefX := oppEv.refPt.x })
      | none => (tess, sideEv, oppEv)
    else (st.tess, sideEv, oppEv)
  let sideEv := sideEv.push ⟨pos, id, isLeft⟩
  if isLeft then ⟨tess, sideEv, oppEv⟩ else ⟨tess, oppEv, sideEv⟩

def Adv.end_ (st : Adv α) (pos : P α) (id : Nat) : Basic α :=
  let (_, ta, a) := flushSide st.left false
  let (_, tb, b) := flushSide st.right true
  let tess := (st.tess.pushTris (if a.isSome then ta else [])).pushTris (if b.isSome then tb else [])
  let tess := match a, b with
    | some v, none => tess.vertex v
    | none, some v => tess.vertex v
    | some v1, some v2 =>
      if isAfter v1.pos v2.pos then (tess.vertex v2).vertex v1 else (tess.vertex v1).vertex v2
    | none, none => tess
  tess.end_ pos id

def Adv.run (seq : List (P α × Bool)) : List Tri :=
  match seq with
  | [] => []
  | [_] => []
  | (p0, _) :: rest =>
    let n := rest.length
    let mids := rest.take (n - 1)
    let last := rest.getLast?.map (·.1) |>.getD p0
    let s0 : Adv α := Adv.begin Adv.new p0 0
    let s1 := (mids.zipIdx).foldl (fun s (pi : (P α × Bool) × Nat) => s.vertex pi.1.1 (pi.2 + 1) pi.1.2) s0
    (s1.end_ last n).tris

end Lyon.Mono
