/-
  Component models of `crates/tessellation/src/stroke.rs` and `math_utils.rs` (property C05).

  Modelled, expression by expression (operand order included, the tie is bit-level):
    StrokeVertexData / StrokeVertex::{position, normal, position_on_path, line_width,
      advancement, side, source, interpolated_attributes}
    math_utils::compute_normal, miter_limit_is_exceeded, circle_flattening_step (the one of
      stroke.rs: `2·acos((r − tol)/r)`; basic_shapes.rs has a different function of the same name,
      modelled in `Model/Tess/BasicShapes.lean`)
    add_edge_triangles, add_join_base_vertices, tessellate_join, tessellate_round_join,
    tessellate_arc, tessellate_round_cap, tessellate_empty_square_cap, tessellate_empty_round_cap
    PointBuffer::{new, push, replace_last, clear, count, get, get_reverse, last, last_two_mut}
    square_merge_threshold (StrokeBuilderImpl::new), points_are_too_close and the merge rule at
      the head of step_impl / fixed_width_step_impl (the window automaton for polylines)

  NOT modelled in this file: compute_join_side_positions(_fixed_width), flattened_step, the clipping of
  caps, get_clip_intersections, close()'s fix-ups, curve flattening: the join/cap *geometry* as a
  whole is in `Model/Tess/StrokeFull.lean`, the complete stroker (the skeleton `Poly` below has a reduced
  `joinShape` / `fixUp` of its own).

  `vertex: &mut StrokeVertexData` is threaded through the Rust functions; every emission site
  assigns the fields it does not inherit from its caller immediately before `add_stroke_vertex`,
  so the model passes the record down by value (`VData`) and does not thread it back up.

  Mathlib-free: this file is linked into the native model driver.
-/
import LyonVerif.Model.Scalar
import LyonVerif.Model.Geom.SvgArc

namespace Lyon.Stroke
open Lyon Scalar

variable {α : Type} [Scalar α]

/-! ## StrokeVertexData and the accessors of StrokeVertex -/

inductive Side where
  | positive
  | negative
deriving DecidableEq, Repr

def Side.opposite : Side → Side
  | .positive => .negative
  | .negative => .positive

/-- `VertexSource` (endpoint ids as naturals) -/
inductive Src (α : Type) where
  | endpoint (id : Nat)
  | edge (from_ to : Nat) (t : α)

/-- `StrokeVertexData` without the attribute buffer (see `interpolatedAttributes`) -/
structure VData (α : Type) where
  positionOnPath : P α
  halfWidth : α
  normal : P α
  advancement : α
  side : Side
  src : Src α

/-- what a `StrokeVertexConstructor` can read from a `StrokeVertex` -/
structure Vtx (α : Type) where
  position : P α
  normal : P α
  positionOnPath : P α
  lineWidth : α
  advancement : α
  side : Side
  src : Src α

namespace VData
/-- `StrokeVertex::position`: `position_on_path + normal * half_width` -/
def position (d : VData α) : P α := d.positionOnPath + d.normal.smul d.halfWidth
/-- `StrokeVertex::line_width`: `half_width * 2.0` -/
def lineWidth (d : VData α) : α := d.halfWidth * two
/-- all accessors read at one `add_stroke_vertex` call -/
def read (d : VData α) : Vtx α :=
  ⟨d.position, d.normal, d.positionOnPath, d.lineWidth, d.advancement, d.side, d.src⟩
end VData

/-- the interpolation loop of `interpolated_attributes`: `a[i] * (1.0 - t) + b[i] * t` over the
buffer (whose length is the number of attributes; `a`, `b` have that length) -/
def lerpAttributes (a b : List α) (t : α) : List α :=
  List.zipWith (fun x y => x * (one - t) + y * t) a b

/-- `StrokeVertex::interpolated_attributes` with the attribute store as a function.  The cached
buffer (`buffer_is_valid`) returns the same list on a second call: see `interpolatedTwice`. -/
def interpolatedAttributes (store : Nat → List α) : Src α → List α
  | .endpoint id => store id
  | .edge f t u => lerpAttributes (store f) (store t) u

/-- first and second call on the same vertex: the second call returns the buffer if the first
one filled it (edge source), else reads the store again -/
def interpolatedTwice (store : Nat → List α) (s : Src α) : List α × List α :=
  (interpolatedAttributes store s, interpolatedAttributes store s)

/-! ## math_utils::compute_normal, miter_limit_is_exceeded, circle_flattening_step -/

section
variable [Transc α]

/-- `1e-4` -/
def normalEpsilon : α := ofSci 1 4

/-- euclid `Vector2D::normalize`: `self / self.length()` -/
def normalize (v : P α) : P α := v.sdiv (Transc.sqrt v.sqLen)

def perp (v : P α) : P α := ⟨-v.y, v.x⟩

/-- the tail of `compute_normal` once `v12` passed the first guard -/
def computeNormalTail (n1 v12 : P α) : P α :=
  let n := perp (normalize v12)
  let invLen := n.dot n1
  if abs invLen < normalEpsilon then n1 else n.sdiv invLen

/-- `math_utils::compute_normal` -/
def computeNormal (v1 v2 : P α) : P α :=
  let n1 := perp v1
  let v12 := v1 + v2
  if v12.sqLen < normalEpsilon then ⟨zero, zero⟩ else computeNormalTail n1 v12

/-- `miter_limit_is_exceeded`: `normal.square_length() > miter_limit * miter_limit * 4.0` -/
def miterLimitIsExceeded (normal : P α) (miterLimit : α) : Bool :=
  decide (normal.sqLen > miterLimit * miterLimit * four)

/-- stroke.rs `circle_flattening_step`: `tolerance = min(tolerance, radius);
2.0 * ((radius - tolerance) / radius).acos()` -/
def circleFlatteningStep (radius tolerance : α) : α :=
  let tol := Scalar.min tolerance radius
  two * Transc.acos ((radius - tol) / radius)

/-- `f32::round` (half away from zero) from `floor`; `x - floor x` is exact in IEEE arithmetic.
(Used by the subdivision count before /repo fix da84e187; kept for reference, no longer called.) -/
def roundPos (x : α) : α :=
  let f := Transc.floor x
  if x - f ≥ half then f + one else f
def round (x : α) : α := if x < zero then -(roundPos (-x)) else roundPos x

/-- `x as u32` (saturating) -/
def toU32 (x : α) : Nat := Nat.min (Transc.toNat x) 4294967295

/-- `num_segments = (diff.abs() / step).ceil()` -/
def numSegments (diff radius tolerance : α) : α :=
  Transc.ceil (abs diff / circleFlatteningStep radius tolerance)

/-- `num_subdivisions = num_segments.log2().ceil() as u32` (round joins and round caps; the
ceiling is /repo fix da84e187, before it was `.round()`) -/
def numSubdivisions (diff radius tolerance : α) : Nat :=
  toU32 (Transc.ceil (Transc.log2 (numSegments diff radius tolerance)))

end

/-- `⌈log₂ n⌉` on naturals (0 for `n ≤ 1`): what `.log2().ceil() as u32` computes for an
integer-valued segment count `n` in exact arithmetic -/
def ceilLog2 (n : Nat) : Nat := if n ≤ 1 then 0 else Nat.log2 (n - 1) + 1

/-! ## Output recording (`StrokeGeometryBuilder` handing out consecutive ids) -/

abbrev Tri := Nat × Nat × Nat

structure Out (α : Type) where
  nextId : Nat
  verts : List (VData α)
  tris : List Tri

namespace Out
def empty (next : Nat) : Out α := ⟨next, [], []⟩
/-- `add_stroke_vertex`: record the vertex data, return the fresh id -/
def addVertex (o : Out α) (d : VData α) : Out α := ⟨o.nextId + 1, o.verts ++ [d], o.tris⟩
def addTri (o : Out α) (t : Tri) : Out α := ⟨o.nextId, o.verts, o.tris ++ [t]⟩
def addTris (o : Out α) (t : List Tri) : Out α := ⟨o.nextId, o.verts, o.tris ++ t⟩
end Out

/-! ## add_edge_triangles -/

/-- the part of `EndpointData` the id logic reads: `side_points[s].{prev,next}_vertex`, `fold` -/
structure JoinIds where
  posPrev : Nat
  posNext : Nat
  negPrev : Nat
  negNext : Nat
  foldPos : Bool
  foldNeg : Bool
deriving Repr

def edgeP0Neg (p0 : JoinIds) : Nat := if p0.foldPos then p0.posPrev else p0.negNext
def edgeP0Pos (p0 : JoinIds) : Nat := if p0.foldNeg then p0.negPrev else p0.posNext
def edgeP1Neg (p1 : JoinIds) : Nat := if p1.foldPos then p1.posNext else p1.negPrev
def edgeP1Pos (p1 : JoinIds) : Nat := if p1.foldNeg then p1.negNext else p1.posPrev

def edgeTri1 (a b c : Nat) : List Tri := if a ≠ b ∧ b ≠ c then [(a, b, c)] else []
def edgeTri2 (a c d : Nat) : List Tri := if a ≠ d ∧ c ≠ d then [(a, c, d)] else []

/-- `add_edge_triangles` with the issue_894 guards -/
def addEdgeTriangles (p0 p1 : JoinIds) : List Tri :=
  if edgeP0Neg p0 = edgeP1Pos p1 then []
  else edgeTri1 (edgeP0Neg p0) (edgeP0Pos p0) (edgeP1Pos p1)
    ++ edgeTri2 (edgeP0Neg p0) (edgeP1Pos p1) (edgeP1Neg p1)

/-! ## tessellate_arc -/

section
variable [Transc α]

/-- `tessellate_arc`: vertex at the mid angle, triangle `(va, v, vb)`, recurse left then right -/
def tessellateArc (a0 a1 : α) (va vb : Nat) : Nat → VData α → Out α → Out α
  | 0, _, o => o
  | n+1, d, o =>
    let mid := (a0 + a1) * half
    let d1 : VData α := { d with normal := ⟨Transc.cos mid, Transc.sin mid⟩ }
    let v := o.nextId
    let o1 := (o.addVertex d1).addTri (va, v, vb)
    let o2 := tessellateArc a0 mid va v n d1 o1
    tessellateArc mid a1 v vb n d1 o2

/-! ## add_join_base_vertices, tessellate_join, tessellate_round_join -/

/-- one side of a join: `SidePoints` -/
structure SideGeom (α : Type) where
  prev : P α
  next : P α
  single : Option (P α)
  prevVertex : Nat
  nextVertex : Nat

/-- the part of `EndpointData` read by the join functions -/
structure Join (α : Type) where
  position : P α
  halfWidth : α
  /-- `line_join == LineJoin::Round` -/
  round : Bool
  pos : SideGeom α
  neg : SideGeom α
  foldPos : Bool
  foldNeg : Bool

def Join.ids (j : Join α) : JoinIds :=
  ⟨j.pos.prevVertex, j.pos.nextVertex, j.neg.prevVertex, j.neg.nextVertex, j.foldPos, j.foldNeg⟩

/-- `(p - join.position) / join.half_width` -/
def joinNormal (j : Join α) (p : P α) : P α := (p - j.position).sdiv j.halfWidth

/-- `add_join_base_vertices` for one side: one vertex if the side has a single vertex, else the
`prev` and the `next` vertex; returns the updated side -/
def baseVerticesSide (j : Join α) (s : SideGeom α) (d : VData α) (o : Out α) : SideGeom α × Out α :=
  match s.single with
  | some p =>
    ({ s with prevVertex := o.nextId, nextVertex := o.nextId },
     o.addVertex { d with normal := joinNormal j p })
  | none =>
    ({ s with prevVertex := o.nextId, nextVertex := o.nextId + 1 },
     (o.addVertex { d with normal := joinNormal j s.prev }).addVertex { d with normal := joinNormal j s.next })

/-- the two `add_join_base_vertices` calls of the step functions: negative side first -/
def addJoinBaseVertices (j : Join α) (d : VData α) (o : Out α) : Join α × Out α :=
  let (n', o1) := baseVerticesSide j j.neg { d with side := .negative } o
  let (p', o2) := baseVerticesSide j j.pos { d with side := .positive } o1
  ({ j with neg := n', pos := p' }, o2)

/-- `side_needs_join` -/
def needsJoinPos (j : Join α) : Bool := j.pos.single.isNone && !j.foldNeg
def needsJoinNeg (j : Join α) : Bool := j.neg.single.isNone && !j.foldPos

/-- the interior triangles of `tessellate_join` -/
def joinInterior (i : JoinIds) (needPos needNeg : Bool) : List Tri :=
  if !i.foldPos && !i.foldNeg then
    match needPos, needNeg with
    | true, true => [(i.posPrev, i.posNext, i.negNext), (i.posPrev, i.negNext, i.negPrev)]
    | false, true => [(i.negPrev, i.posPrev, i.negNext)]
    | true, false => [(i.negPrev, i.posPrev, i.posNext)]
    | false, false => []
  else []

def adjustDiff (diff sign : α) : α :=
  if diff * sign < zero then sign * (two * Transc.pi - abs diff) else diff

/-- `tessellate_round_join` for one side (`isNeg`: the side is SIDE_NEGATIVE) -/
def tessellateRoundJoin (j : Join α) (isNeg : Bool) (tolerance : α) (d : VData α) (o : Out α) : Out α :=
  let s := if isNeg then j.neg else j.pos
  let startNormal := s.prev - j.position
  let endNormal := s.next - j.position
  let sign : α := if isNeg then one else -one
  let startAngle := ArcConv.angleFromXAxis startNormal
  let diff := adjustDiff (ArcConv.angleAngleTo startAngle (ArcConv.angleFromXAxis endNormal)) sign
  let endAngle := startAngle + diff
  let n := numSubdivisions diff j.halfWidth tolerance
  let d1 : VData α := { d with side := if isNeg then .negative else .positive }
  if isNeg then tessellateArc endAngle startAngle s.nextVertex s.prevVertex n d1 o
  else tessellateArc startAngle endAngle s.prevVertex s.nextVertex n d1 o

def roundJoinIf (c : Bool) (j : Join α) (isNeg : Bool) (tolerance : α) (d : VData α) (o : Out α) : Out α :=
  if c then tessellateRoundJoin j isNeg tolerance d o else o

/-- `tessellate_join` -/
def tessellateJoin (j : Join α) (tolerance : α) (d : VData α) (o : Out α) : Out α :=
  let o1 := o.addTris (joinInterior j.ids (needsJoinPos j) (needsJoinNeg j))
  let o2 := roundJoinIf (needsJoinPos j && j.round) j false tolerance d o1
  roundJoinIf (needsJoinNeg j && j.round) j true tolerance d o2

/-! ## caps -/

def capFirstSide (isStart : Bool) (edgeNormal startNormal : P α) : Side :=
  if Bool.xor isStart (decide (edgeNormal.cross startNormal ≥ zero)) then .positive else .negative

/-- `tessellate_round_cap` after the `radius < tolerance` early return -/
def roundCapBody (center : P α) (radius : α) (startNormal : P α) (startVertex endVertex : Nat)
    (edgeNormal : P α) (tolerance : α) (isStart : Bool) (d : VData α) (o : Out α) : Out α :=
  let firstSide := capFirstSide isStart edgeNormal startNormal
  let startAngle := ArcConv.angleFromXAxis startNormal
  let diff := ArcConv.angleAngleTo startAngle (ArcConv.angleFromXAxis edgeNormal)
  let midAngle := startAngle + diff
  let endAngle := midAngle + diff
  let n := numSubdivisions diff radius tolerance
  let d1 : VData α := { d with positionOnPath := center, halfWidth := radius, side := firstSide,
                                normal := normalize edgeNormal }
  let mid := o.nextId
  let o1 := (o.addVertex d1).addTri (startVertex, mid, endVertex)
  let o2 := tessellateArc startAngle midAngle startVertex mid n d1 o1
  tessellateArc midAngle endAngle mid endVertex n { d1 with side := firstSide.opposite } o2

/-- `tessellate_round_cap` -/
def tessellateRoundCap (center : P α) (radius : α) (startNormal : P α) (startVertex endVertex : Nat)
    (edgeNormal : P α) (tolerance : α) (isStart : Bool) (d : VData α) (o : Out α) : Out α :=
  if radius < tolerance then o
  else roundCapBody center radius startNormal startVertex endVertex edgeNormal tolerance isStart d o

/-- `tessellate_empty_square_cap` -/
def tessellateEmptySquareCap (position : P α) (d : VData α) (o : Out α) : Out α :=
  let a := o.nextId
  let da : VData α := { d with positionOnPath := position, normal := ⟨one, one⟩, side := .negative }
  let db : VData α := { da with normal := ⟨one, -one⟩, side := .positive }
  let dc : VData α := { da with normal := ⟨-one, -one⟩, side := .positive }
  let dd : VData α := { da with normal := ⟨-one, one⟩, side := .negative }
  let o4 := (((o.addVertex da).addVertex db).addVertex dc).addVertex dd
  (o4.addTri (a, a + 1, a + 2)).addTri (a, a + 2, a + 3)

/-- `tessellate_empty_round_cap` (radius = `vertex.half_width`) -/
def tessellateEmptyRoundCap (center : P α) (tolerance : α) (d : VData α) (o : Out α) : Out α :=
  let radius := d.halfWidth
  let left := o.nextId
  let right := o.nextId + 1
  let dl : VData α := { d with positionOnPath := center, normal := ⟨-one, zero⟩, side := .positive }
  let dr : VData α := { dl with normal := ⟨one, zero⟩, side := .negative }
  let o2 := (o.addVertex dl).addVertex dr
  let o3 := tessellateRoundCap center radius ⟨-one, zero⟩ left right ⟨zero, one⟩ tolerance true dr o2
  -- after the first cap the record carries `position_on_path = center`, `half_width = radius`
  tessellateRoundCap center radius ⟨one, zero⟩ right left ⟨zero, -one⟩ tolerance false dr o3

end

/-! ## PointBuffer: the 3-slot window -/

structure PointBuffer (β : Type) where
  s0 : β
  s1 : β
  s2 : β
  start : Nat
  count : Nat

/-! operations return `none` where the Rust code panics (failed `assert!`, index out of
bounds, `usize` underflow) -/
namespace PointBuffer
variable {β : Type}

def new (d : β) : PointBuffer β := ⟨d, d, d, 0, 0⟩

/-- `self.points[i]` -/
def slot (b : PointBuffer β) : Nat → Option β
  | 0 => some b.s0
  | 1 => some b.s1
  | 2 => some b.s2
  | _ => none

/-- `self.points[i] = p` -/
def setSlot (b : PointBuffer β) (p : β) : Nat → Option (PointBuffer β)
  | 0 => some { b with s0 := p }
  | 1 => some { b with s1 := p }
  | 2 => some { b with s2 := p }
  | _ => none

def bumpCount (b : PointBuffer β) : PointBuffer β := { b with count := b.count + 1 }
def bumpStart (b : PointBuffer β) : PointBuffer β :=
  { b with start := if b.start + 1 = 3 then 0 else b.start + 1 }

def push (b : PointBuffer β) (p : β) : Option (PointBuffer β) :=
  if b.count < 3 then (b.setSlot p b.count).map bumpCount
  else (b.setSlot p b.start).map bumpStart

/-- `idx = start; if idx == 0 { idx = count }; points[idx - 1] = point` -/
def replaceLast (b : PointBuffer β) (p : β) : Option (PointBuffer β) :=
  let idx := if b.start = 0 then b.count else b.start
  if idx = 0 then none else b.setSlot p (idx - 1)

def clear (b : PointBuffer β) : PointBuffer β := { b with count := 0, start := 0 }

def get (b : PointBuffer β) (i : Nat) : Option β :=
  if i < b.count then b.slot ((i + b.start) % 3) else none

def getReverse (b : PointBuffer β) (i : Nat) : Option β :=
  if i < b.count then b.get (b.count - 1 - i) else none

def last (b : PointBuffer β) : Option β :=
  if 0 < b.count then b.get (b.count - 1) else none

/-- `last_two_mut`: `(points[(start+count-2) % 3], points[(start+count-1) % 3])` (unchecked
indexing in Rust; `slot` never answers `none` here, see `point_buffer_refines`) -/
def lastTwo (b : PointBuffer β) : Option (β × β) :=
  if 2 ≤ b.count then
    match b.slot ((b.start + b.count - 2) % 3), b.slot ((b.start + b.count - 1) % 3) with
    | some x, some y => some (x, y)
    | _, _ => none
  else none

/-- the window as a list, oldest first -/
def toList (b : PointBuffer β) : List (Option β) := (List.range b.count).map b.get

end PointBuffer

inductive BufOp (β : Type) where
  | push (p : β)
  | replaceLast (p : β)
  | clear

def PointBuffer.apply {β : Type} (b : PointBuffer β) : BufOp β → Option (PointBuffer β)
  | .push p => b.push p
  | .replaceLast p => b.replaceLast p
  | .clear => some b.clear

def PointBuffer.run {β : Type} (b : PointBuffer β) : List (BufOp β) → Option (PointBuffer β)
  | [] => some b
  | op :: ops => match b.apply op with
    | none => none
    | some b' => b'.run ops

/-! ## The merge rule of `step_impl` / `fixed_width_step_impl` on polylines -/

/-- `square_merge_threshold`:
`(tolerance * tolerance * 0.5).min(line_width * line_width * 0.05).max(1e-8)` -/
def squareMergeThreshold (tolerance lineWidth : α) : α :=
  Scalar.max (Scalar.min (tolerance * tolerance * half) (lineWidth * lineWidth * ofSci 5 2)) (ofSci 1 8)

/-- `points_are_too_close` -/
def pointsAreTooClose (threshold : α) (p0 p1 : P α) : Bool := decide ((p0 - p1).sqLen < threshold)

/-- the window state of one sub-path -/
structure Window (α : Type) where
  buf : PointBuffer (P α)
  mayNeedEmptyCap : Bool

def Window.new : Window α := ⟨PointBuffer.new ⟨zero, zero⟩, false⟩

/-- is `next` merged into the last kept point? (`count > 0 && points_are_too_close(last, next)`) -/
def Window.merges (w : Window α) (threshold : α) (next : P α) : Bool :=
  match w.buf.last with
  | some l => pointsAreTooClose threshold l next
  | none => false

/-- head and tail of the step functions for a point that is not a flattening step: either
`return Ok(false)` (merged; remembers that an empty cap may be needed) or `point_buffer.push` -/
def Window.step (w : Window α) (threshold : α) (next : P α) : Option (Window α) :=
  if w.merges threshold next then
    some { w with mayNeedEmptyCap := w.mayNeedEmptyCap || w.buf.count == 1 }
  else (w.buf.push next).map (fun b => { w with buf := b })

/-- `begin` / `begin_fw`: `may_need_empty_cap = false`, then a step -/
def Window.begin (w : Window α) (threshold : α) (p : P α) : Option (Window α) :=
  ({ w with mayNeedEmptyCap := false } : Window α).step threshold p

/-! ## Fixed-width polylines with bevel joins and butt caps: the vertex / triangle skeleton

`fixed_width_step_impl` + `compute_join_side_positions_fixed_width` (the fold decision and which
side gets a single vertex) + `add_join_base_vertices` + `add_edge_triangles` + `tessellate_join` +
`end` / `end_with_caps` / `close` (with `tessellate_last_edge` / `tessellate_first_edge` reduced to
their two vertices and the edge triangles), for `LineJoin::Bevel`, `LineCap::Butt`, points that are
not flattening steps.  Predicts, per path, the sequence of `(source endpoint, side)` of the
emitted vertices and the triangle list; positions are not part of this skeleton. -/

namespace Poly
section
variable [Transc α]

/-- `VertexId(u32::MAX)`: the default of `SidePoints::{prev,next}_vertex` -/
def unsetId : Nat := 4294967295

/-- the part of `EndpointData` the skeleton needs -/
structure Pt (α : Type) where
  pos : P α
  src : Nat
  ids : JoinIds

def Pt.new (p : P α) (src : Nat) : Pt α := ⟨p, src, ⟨unsetId, unsetId, unsetId, unsetId, false, false⟩⟩

/-- discrete output: `(source endpoint, side)` per vertex, ids are positions in the list -/
structure Mesh where
  nextId : Nat
  verts : List (Nat × Side)
  tris : List Tri

def Mesh.add (m : Mesh) (src : Nat) (side : Side) : Mesh := ⟨m.nextId + 1, m.verts ++ [(src, side)], m.tris⟩
def Mesh.addTris (m : Mesh) (t : List Tri) : Mesh := ⟨m.nextId, m.verts, m.tris ++ t⟩
/-- one vertex if `single`, else two (`prev`, `next`) -/
def Mesh.addSide (m : Mesh) (src : Nat) (side : Side) (single : Bool) : Mesh :=
  if single then m.add src side else (m.add src side).add src side

/-- the decisions of `compute_join_side_positions_fixed_width` for a bevel join: which side is the
front (outer) side, and whether the join folds -/
structure JoinShape where
  frontNeg : Bool
  fold : Bool

def joinShape (prev join next : P α) (hw : α) : JoinShape :=
  let pt0 := join - prev
  let nt0 := next - join
  let pl := Transc.sqrt pt0.sqLen
  let nl := Transc.sqrt nt0.sqLen
  let pt := pt0.sdiv pl
  let nt := nt0.sdiv nl
  let normal := computeNormal pt nt
  let frontNeg := decide (pt.cross nt ≥ zero)
  let frontNormal : P α := if frontNeg then -normal else normal
  let ext := frontNormal.smul hw
  let sharp := decide (nt.dot pt < zero)
  let dNext := ext.dot (-nt) - nl
  let dPrev := ext.dot pt - pl
  ⟨frontNeg, sharp && (decide (Scalar.min dNext dPrev > zero) || decide (normal.sqLen < ofSci 1 5))⟩

/-- join vertices (`add_join_base_vertices`, negative side first) and the interior triangles of
`tessellate_join` for the join `join` between `prev` and the point at `nextPos` -/
def joinAt (hw : α) (prev join : Pt α) (nextPos : P α) (m : Mesh) : Pt α × Mesh × List Tri :=
  let sh := joinShape prev.pos join.pos nextPos hw
  -- the back side gets the single (inner miter) vertex unless the join folds
  let negSingle := !sh.fold && !sh.frontNeg
  let posSingle := !sh.fold && sh.frontNeg
  let n0 := m.nextId
  let m1 := m.addSide join.src .negative negSingle
  let p0 := m1.nextId
  let m2 := m1.addSide join.src .positive posSingle
  let foldPos := join.ids.foldPos || (sh.fold && !sh.frontNeg)
  let foldNeg := join.ids.foldNeg || (sh.fold && sh.frontNeg)
  let ids : JoinIds := ⟨p0, if posSingle then p0 else p0 + 1, n0, if negSingle then n0 else n0 + 1, foldPos, foldNeg⟩
  ({ join with ids := ids }, m2, joinInterior ids (!posSingle && !foldNeg) (!negSingle && !foldPos))

structure State (α : Type) where
  buf : PointBuffer (Pt α)
  firsts : List (Pt α)
  mesh : Mesh

def State.new (m : Mesh) : State α := ⟨PointBuffer.new (Pt.new ⟨zero, zero⟩ unsetId), [], m⟩

def isTooClose (thr : α) (st : State α) (p : P α) : Bool :=
  match st.buf.last with
  | some l => pointsAreTooClose thr l.pos p
  | none => false

/-- the join part of `fixed_width_step_impl` (`count > 1`) -/
def stepJoin (hw : α) (st : State α) (next : Pt α) : State α :=
  match st.buf.lastTwo with
  | some (prev, join) =>
    let (join', m1, inter) := joinAt hw prev join next.pos st.mesh
    let m2 := if st.buf.count > 2 then m1.addTris (addEdgeTriangles prev.ids join'.ids) else m1
    { buf := (st.buf.replaceLast join').getD st.buf
      firsts := if st.buf.count == 2 then [prev, join'] else st.firsts
      mesh := m2.addTris inter }
  | none => st

/-- `fixed_width_step_impl`; the flag is its `Ok(bool)` ("segment added") -/
def step (thr hw : α) (st : State α) (next : Pt α) : State α × Bool :=
  if isTooClose thr st next.pos then (st, false) else
    let st1 := if st.buf.count > 1 then stepJoin hw st next else st
    ({ st1 with buf := (st1.buf.push next).getD st1.buf }, true)

/-- `end_with_caps` for butt caps -/
def endWithCaps (st : State α) : Mesh :=
  match st.buf.lastTwo with
  | none => st.mesh
  | some (p0, p1) =>
    -- tessellate_last_edge: positive then negative vertex at p1, edge triangles unless it is the first edge
    let v := st.mesh.nextId
    let m1 := (st.mesh.add p1.src .positive).add p1.src .negative
    let p1' : Pt α := { p1 with ids := { p1.ids with posPrev := v, negPrev := v + 1 } }
    let m2 := if st.buf.count == 2 then m1 else m1.addTris (addEdgeTriangles p0.ids p1'.ids)
    let (f, s) : Pt α × Pt α := if st.buf.count > 2 then
        (st.firsts.headD p0, (st.firsts.drop 1).headD p1') else (p0, p1')
    -- tessellate_first_edge
    let w := m2.nextId
    let m3 := (m2.add f.src .positive).add f.src .negative
    let f' : Pt α := { f with ids := { f.ids with posNext := w, negNext := w + 1 } }
    m3.addTris (addEdgeTriangles f'.ids s.ids)

/-- the last-point fix-up of `close` when the step to the first point was merged -/
def fixUp (st : State α) (pos : P α) : State α :=
  match st.buf.last with
  | some l => { st with buf := (st.buf.replaceLast { l with pos := pos }).getD st.buf }
  | none => st

/-- `close` for `count > 2` -/
def close (thr hw : α) (st : State α) : Mesh :=
  match st.firsts with
  | p :: p2 :: _ =>
    let (st1, added) := step thr hw st p
    let st2 := if added then st1 else fixUp st1 p.pos
    let (st3, _) := step thr hw st2 p2
    match st3.buf.lastTwo with
    | some (q0, q1) =>
      -- re-create the two vertices of q0 on the edge towards the second endpoint
      let v := st3.mesh.nextId
      let m1 := (st3.mesh.add q0.src .positive).add q0.src .negative
      let q0' : Pt α := { q0 with ids := { q0.ids with posNext := v, negNext := v + 1 } }
      m1.addTris (addEdgeTriangles q0'.ids q1.ids)
    | none => st3.mesh
  | _ => st.mesh

/-- `end(close)`: closes when `close && count > 2`, else caps; the window and `firsts` are cleared -/
def finish (thr hw : α) (st : State α) (closed : Bool) : Mesh :=
  if closed && st.buf.count > 2 then close thr hw st else endWithCaps st

/-- one sub-path: `begin`, `line_to`*, `end(close)`; `src` numbers the endpoints -/
def subPath (thr hw : α) (m : Mesh) (src : Nat) (pts : List (P α)) (closed : Bool) : Mesh :=
  let go := pts.foldl (fun (acc : State α × Nat) p => ((step thr hw acc.1 (Pt.new p acc.2)).1, acc.2 + 1))
    (State.new m, src)
  finish thr hw go.1 closed

/-- a whole path through `StrokeTessellator::tessellate` (endpoint ids count the events) -/
def path (tolerance lineWidth : α) (subs : List (List (P α) × Bool)) : Mesh :=
  let thr := squareMergeThreshold tolerance lineWidth
  let hw := lineWidth * half
  (subs.foldl (fun (acc : Mesh × Nat) s => (subPath thr hw acc.1 acc.2 s.1 s.2, acc.2 + s.1.length))
    ((⟨0, [], []⟩ : Mesh), 0)).1

end
end Poly

end Lyon.Stroke
