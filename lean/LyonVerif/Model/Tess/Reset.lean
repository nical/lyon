/-
  C08 — the RESET DISCIPLINE of the tessellators: which fields of the long-lived objects are
  written before they are read.

  Every piece is a small record-of-fields state machine that mirrors the Rust field by field;
  `Vec::clear` is `[]` (capacity is not observable), `mem::replace(&mut x, new)` is an assignment.

  §1 `Machine`, `Machine.run`                     — `call : σ → ι → σ × ο`, histories.
  §2 pooled monotone tessellators                  — `fill.rs: Spans::{begin_span,end_span}`, on top of
                                                     `Mono.Adv` (`monotone.rs`, model of C02).
  §3 `Scan`                                        — `fill.rs: ActiveEdgeScan::{new,reset}`.
  §4 `interp`                                      — `fill.rs: FillVertex::interpolated_attributes`
                                                     and the `attrib_buffer` it scribbles on.
  §5 `Queue`, `QB`                                 — `event_queue.rs: EventQueue::{new,reset,into_builder}`,
                                                     `EventQueueBuilder::{reset,begin,end,line_segment,
                                                     quadratic_bezier_segment,cubic_bezier_segment,
                                                     set_path,set_path_with_ids,build}`; curve flattening
                                                     and the sort are parameters.
  §6 `FillT`, `fillCall`                           — `fill.rs: FillTessellator::{new,reset,tessellate,
                                                     tessellate_with_ids,tessellate_path,builder,
                                                     builder_with_attributes,tessellate_impl}`,
                                                     `FillBuilder::{new,build}`; the sweep is an abstract
                                                     function of the fields it READS (`SweepView`).
  §7 `StrokeT`, `strokeCall`                       — `stroke.rs: StrokeTessellator::{new,tessellate,
                                                     tessellate_with_ids,builder,builder_with_attributes}`,
                                                     `SimpleAttributeStore::{new,reset,add}`,
                                                     `StrokeBuilderImpl::new`.

  What the abstract cores may look at is explicit: `SweepView` contains every field of
  `FillTessellator` EXCEPT the contents of `fill.pool` (read only through `begin`, §2), the contents
  of `attrib_buffer` (only its length; every slot is written before it is read, §4) and `log`.
  That the real sweep (the Rust code; for the modelled sweep of `Model/Tess/Sweep.lean` it is a theorem,
  `sweep_loop_pool_independent` of `Props/C08b.lean`) reads nothing else is what the history oracle of
  `harness/src/bin/c08.rs` explores on the real code; it is not proved.

  Mathlib-free.
-/
import LyonVerif.Model.Tess.Monotone
import LyonVerif.Model.Tess.Skeleton

namespace Lyon.Reset
open Lyon Lyon.Mono Lyon.Tess Scalar

/-! ## §1 call machines and histories -/

/-- A long-lived object with one entry point: `call state input = (state', output)`.
An input may carry a fault position (the call then fails part-way): `call` is total. -/
structure Machine (σ ι ο : Type) where
  call : σ → ι → σ × ο

/-- state after a history of calls -/
def Machine.run {σ ι ο : Type} (m : Machine σ ι ο) : σ → List ι → σ
  | s, [] => s
  | s, i :: r => m.run (m.call s i).1 r

/-- outputs of a history of calls, call by call -/
def Machine.outputs {σ ι ο : Type} (m : Machine σ ι ο) : σ → List ι → List ο
  | _, [] => []
  | s, i :: r => (m.call s i).2 :: m.outputs (m.call s i).1 r

variable {α : Type} [Scalar α]

/-! ## §2 the pool of monotone tessellators -/

/-- `(position, id, is_left)` argument of `MonotoneTessellator::vertex` -/
abbrev VArg (α : Type) := P α × Nat × Bool

/-- a run of `vertex` calls -/
def feed (st : Adv α) (vs : List (VArg α)) : Adv α :=
  vs.foldl (fun s v => s.vertex v.1 v.2.1 v.2.2) st

/-- The object as `end` + `flush` leave it — what `Spans::end_span` pushes back into the pool:
both sides flushed, the inner stack cleared, the triangle list drained. -/
def afterEnd (st : Adv α) (pos : P α) (id : Nat) : Adv α :=
  ⟨{ (st.end_ pos id) with tris := [] }, (flushSide st.left false).1, (flushSide st.right true).1⟩

/-- `fill.rs: struct Spans`; the top of the pool (`Vec::pop`) is the head of the list. -/
structure Spans (α : Type) where
  spans : List (Option (Adv α))
  pool : List (Adv α)

/-- `pool.pop().unwrap_or_else(|| Box::new(MonotoneTessellator::new()))` -/
def Spans.take (s : Spans α) : Adv α × List (Adv α) :=
  match s.pool with
  | t :: r => (t, r)
  | [] => (Adv.new, [])

/-- `Spans::begin_span` -/
def Spans.beginSpan (s : Spans α) (idx : Nat) (pos : P α) (vertex : Nat) : Spans α :=
  { spans := s.spans.take idx ++ [some (Adv.begin s.take.1 pos vertex)] ++ s.spans.drop idx
    pool := s.take.2 }

/-- `Spans::end_span` (the triangles go to the output; the object goes back to the pool) -/
def Spans.endSpan (s : Spans α) (idx : Nat) (pos : P α) (id : Nat) : Spans α × List Tri :=
  match s.spans.getD idx none with
  | some t => ({ spans := s.spans.set idx none, pool := afterEnd t pos id :: s.pool }, (t.end_ pos id).tris)
  | none => (s, [])   -- unreachable!()

/-! ## §3 `ActiveEdgeScan` -/

structure WindingState where
  spanIndex : Int
  number : Int
  isIn : Bool
deriving Repr, BEq, DecidableEq, Inhabited

def WindingState.new : WindingState := ⟨-1, 0, false⟩

structure Scan where
  vertexEvents : List (Int × Bool)
  edgesToSplit : List Nat
  spansToEnd : List Int
  mergeEvent : Bool
  splitEvent : Bool
  mergeSplitEvent : Bool
  above : Nat × Nat
  windingBeforePoint : WindingState
deriving Repr, BEq, DecidableEq, Inhabited

/-- `ActiveEdgeScan::new` -/
def Scan.new : Scan := ⟨[], [], [], false, false, false, (0, 0), WindingState.new⟩

/-- `ActiveEdgeScan::reset`: field by field, as written -/
def Scan.reset (s : Scan) : Scan :=
  { s with vertexEvents := [], edgesToSplit := [], spansToEnd := [], mergeEvent := false, splitEvent := false,
           mergeSplitEvent := false, above := (0, 0), windingBeforePoint := WindingState.new }

/-! ## §4 `FillVertex::interpolated_attributes` and the attribute buffer -/

/-- `VertexSource` -/
inductive Src (α : Type) where
  | endpoint (id : Nat)
  | edge (a b : Nat) (t : α)

/-- what the call hands back -/
inductive IRes (α : Type) where
  /-- `NO_ATTRIBUTES` -/
  | noAttributes
  /-- a slice of the store or of the buffer -/
  | slice (v : List α)
  /-- `unwrap` on no source / a failed `assert_eq!` -/
  | panic

/-- the `assert_eq!(a.len(), num_attributes)` (and `b.len()`) of each arm -/
def Src.lenOk (store : Nat → List α) (n : Nat) : Src α → Bool
  | .endpoint id => (store id).length == n
  | .edge a b _ => (store a).length == n && (store b).length == n

/-- the value an arm writes / adds, slot by slot -/
def Src.val (store : Nat → List α) : Src α → List α
  | .endpoint id => store id
  | .edge a b t => List.zipWith (fun x y => x * (one - t) + y * t) (store a) (store b)

/-- the accumulation loop over the second, third, … source; `none` = an assertion failed -/
def accumulate (store : Nat → List α) (n : Nat) : List (Src α) → List α → α → Option (List α × α)
  | [], buf, div => some (buf, div)
  | s :: r, buf, div =>
      if s.lenOk store n && buf.length == n then
        accumulate store n r (List.zipWith (· + ·) buf (s.val store)) (div + one)
      else none

/-- the general path: the first source is taken out of the loop "to avoid initializing the buffer" —
slots `0..n` are ASSIGNED — then the other sources are added and the sum divided. -/
def interpMain (st : Nat → List α) (n : Nat) (first : Src α) (rest : List (Src α)) (buf : List α) : IRes α × List α :=
  if !(first.lenOk st n && buf.length == n) then (.panic, buf)
  else
    match accumulate st n rest ((first.val st).take n ++ buf.drop n) one with
    | none => (.panic, (first.val st).take n ++ buf.drop n)
    | some (acc, div) =>
      if one < div then (.slice (acc.map (· / div)), acc.map (· / div)) else (.slice acc, acc)

/-- `interpolated_attributes`: `store = none` ⇔ `attrib_store.is_none()`; `n = store.num_attributes()`;
`srcs` = what `VertexSourceIterator` yields.  Returns the result and the buffer afterwards. -/
def interp (store : Option (Nat → List α)) (n : Nat) (srcs : List (Src α)) (buf : List α) : IRes α × List α :=
  match store with
  | none => (.noAttributes, buf)
  | some st =>
    match srcs with
    | [] => (.panic, buf)                              -- `sources.next().unwrap()`
    | [.endpoint id] => (.slice (st id), buf)          -- fast path: the buffer is not touched
    | first :: rest => interpMain st n first rest buf

/-- `tessellate_impl`: `attrib_buffer.resize(n, 0.0)` with a store, `attrib_buffer.clear()` without -/
def resizeAttrib (buf : List α) : Option Nat → List α
  | none => []
  | some n => buf.take n ++ List.replicate (n - buf.length) zero

/-- all vertices of one call, in order, threading the buffer -/
def interpAll (store : Option (Nat → List α)) (n : Nat) : List (List (Src α)) → List α → List (IRes α)
  | [], _ => []
  | s :: r, buf => (interp store n s buf).1 :: interpAll store n r (interp store n s buf).2

/-! ## §5 the event queue and its builder -/

structure EdgeData (α : Type) where
  to : P α
  t0 : α
  t1 : α
  winding : Int
  isEdge : Bool
  fromId : Nat
  toId : Nat

/-- `EventQueue` before sorting: positions and edge data (the links are all `INVALID` until `sort`). -/
structure Queue (α : Type) where
  events : List (P α)
  edgeData : List (EdgeData α)
  first : Option Nat
  sorted : Bool

def Queue.new : Queue α := ⟨[], [], none, false⟩

/-- `EventQueue::reset` -/
def Queue.reset (q : Queue α) : Queue α := { q with events := [], edgeData := [], first := none, sorted := false }

/-- `EventQueueBuilder` (the `DebugValidator` is empty in release builds) -/
structure QB (α : Type) where
  current : P α
  prev : P α
  second : P α
  nth : Nat
  queue : Queue α
  tolerance : α
  prevEndpointId : Nat

def nanP : P α := ⟨zero / zero, zero / zero⟩
def noEndpoint : Nat := 4294967295

/-- `EventQueue::into_builder` -/
def Queue.intoBuilder (q : Queue α) (tol : α) : QB α :=
  ⟨nanP, nanP, nanP, 0, q.reset, tol, noEndpoint⟩

namespace QB

/-- `EventQueueBuilder::reset` — the queue and `nth` only -/
def reset (b : QB α) : QB α := { b with queue := b.queue.reset, nth := 0 }

def pushEvent (b : QB α) (at_ : P α) (d : EdgeData α) : QB α :=
  { b with queue := { b.queue with events := b.queue.events ++ [at_], edgeData := b.queue.edgeData ++ [d] } }

/-- `vertex_event` -/
def vertexEvent (b : QB α) (at_ : P α) (id : Nat) : QB α :=
  b.pushEvent at_ ⟨nanP, zero, zero, 0, false, id, id⟩

/-- `vertex_event_on_curve` -/
def vertexEventOnCurve (b : QB α) (at_ : P α) (t : α) (fromId toId : Nat) : QB α :=
  b.pushEvent at_ ⟨nanP, t, t, 0, false, fromId, toId⟩

/-- `add_edge` -/
def addEdge (b : QB α) (from_ to : P α) (winding : Int) (fromId toId : Nat) (t0 t1 : α) : QB α :=
  if from_ == to then b
  else if isAfter from_ to then
    { (b.pushEvent to ⟨from_, t1, t0, -winding, true, fromId, toId⟩) with nth := b.nth + 1 }
  else
    { (b.pushEvent from_ ⟨to, t0, t1, winding, true, fromId, toId⟩) with nth := b.nth + 1 }

/-- `begin` -/
def begin (b : QB α) (to : P α) (toId : Nat) : QB α :=
  { b with nth := 0, current := to, prevEndpointId := toId }

/-- `line_segment` -/
def lineSegment (b : QB α) (to : P α) (toId : Nat) (t0 t1 : α) : QB α :=
  if b.current == to then b
  else
    let b1 := if isAfter b.current to && decide (b.nth > 0) && isAfter b.current b.prev
      then b.vertexEvent b.current b.prevEndpointId else b
    let b2 := if b1.nth == 0 then { b1 with second := to } else b1
    let b3 := b2.addEdge b2.current to 1 b2.prevEndpointId toId t0 t1
    { b3 with prev := b3.current, prevEndpointId := toId, current := to }

/-- `end` -/
def end_ (b : QB α) (first : P α) (firstId : Nat) : QB α :=
  if b.nth == 0 then b
  else
    let b1 := b.lineSegment first firstId zero one
    let b2 := if isAfter first b1.prev && isAfter first b1.second then b1.vertexEvent first firstId else b1
    { b2 with prevEndpointId := firstId, nth := 0 }

/-- One flattened piece handed to the closure of `for_each_flattened_with_t`: `(line.from, line.to, t.start, t.end)`. -/
abbrev Piece (α : Type) := P α × P α × α × α

/-- state of the closure: the builder, the local `prev` and the local `first` -/
structure CurveSt (α : Type) where
  b : QB α
  prev : P α
  first : Option (P α)

/-- the closure body of `quadratic_bezier_segment` / `cubic_bezier_segment` (identical) -/
def curvePiece (winding : Int) (toId : Nat) (s : CurveSt α) (pc : Piece α) : CurveSt α :=
  if pc.1 == pc.2.1 then s
  else
    let b1 := match s.first with
      | none => s.b
      | some _ => if isAfter pc.1 pc.2.1 && isAfter pc.1 s.prev
          then s.b.vertexEventOnCurve pc.1 pc.2.2.1 s.b.prevEndpointId toId else s.b
    let first := match s.first with
      | none => some pc.2.1
      | some f => some f
    ⟨b1.addEdge pc.1 pc.2.1 winding b1.prevEndpointId toId pc.2.2.1 pc.2.2.2, pc.1, first⟩

/-- `quadratic_bezier_segment` / `cubic_bezier_segment` after the curve has been oriented downwards:
`pieces` is the flattening of the (possibly swapped) segment at `self.tolerance`;
`origFrom = self.current`, `segFrom` = start of the oriented segment. -/
def curveSegment (b : QB α) (pieces : List (Piece α)) (needsSwap : Bool) (segFrom origTo : P α) (toId : Nat) : QB α :=
  let isFirstEdge := b.nth == 0
  let origFrom := b.current
  let s := pieces.foldl (curvePiece (if needsSwap then -1 else 1) toId) ⟨b, segFrom, none⟩
  match s.first with
  | none => s.b
  | some first =>
    let second := if needsSwap then s.prev else first
    let previous := if needsSwap then first else s.prev
    let b1 := if isFirstEdge then { s.b with second := second }
      else if isAfter origFrom s.b.prev && isAfter origFrom second then s.b.vertexEvent origFrom s.b.prevEndpointId
      else s.b
    { b1 with prev := previous, current := origTo, prevEndpointId := toId }

end QB

/-- `PathEvent` / `IdEvent` with positions resolved; `set_path` passes `EndpointId(u32::MAX)` for every id. -/
inductive PEv (α : Type) where
  | begin (at_ : P α) (id : Nat)
  | line (to : P α) (id : Nat)
  | quad (ctrl to : P α) (id : Nat)
  | cubic (c1 c2 to : P α) (id : Nat)
  | end_ (first : P α) (id : Nat)

/-- the flatteners (`lyon_geom`): tolerance, control polygon ↦ pieces -/
structure Flat (α : Type) where
  quad : α → P α → P α → P α → List (QB.Piece α)
  cubic : α → P α → P α → P α → P α → List (QB.Piece α)

/-- `reorient` -/
def reorient (p : P α) : P α := ⟨-p.y, p.x⟩

def orientP (horizontal : Bool) (p : P α) : P α := if horizontal then reorient p else p

namespace QB

def quadSegment (F : Flat α) (b : QB α) (ctrl to : P α) (toId : Nat) : QB α :=
  let swap := isAfter b.current to
  let segFrom := if swap then to else b.current
  let segTo := if swap then b.current else to
  b.curveSegment (F.quad b.tolerance segFrom ctrl segTo) swap segFrom to toId

def cubicSegment (F : Flat α) (b : QB α) (c1 c2 to : P α) (toId : Nat) : QB α :=
  let swap := isAfter b.current to
  let segFrom := if swap then to else b.current
  let segTo := if swap then b.current else to
  b.curveSegment (F.cubic b.tolerance segFrom (if swap then c2 else c1) (if swap then c1 else c2) segTo) swap segFrom to toId

/-- one event of `set_path` / `set_path_with_ids` / `FillBuilder::{begin,line_to,…,end}` -/
def event (F : Flat α) (horizontal : Bool) (b : QB α) : PEv α → QB α
  | .begin p id => b.begin (orientP horizontal p) id
  | .line p id => b.lineSegment (orientP horizontal p) id zero one
  | .quad c p id => b.quadSegment F (orientP horizontal c) (orientP horizontal p) id
  | .cubic c1 c2 p id => b.cubicSegment F (orientP horizontal c1) (orientP horizontal c2) (orientP horizontal p) id
  | .end_ p id => b.end_ (orientP horizontal p) id

def events (F : Flat α) (horizontal : Bool) (b : QB α) (evs : List (PEv α)) : QB α :=
  evs.foldl (event F horizontal) b

/-- `set_path` / `set_path_with_ids`: `self.reset(); self.tolerance = tolerance; for evt in path {…}` -/
def setPath (F : Flat α) (b : QB α) (tol : α) (horizontal : Bool) (evs : List (PEv α)) : QB α :=
  events F horizontal { b.reset with tolerance := tol } evs

end QB

/-! ## §6 `FillTessellator` -/

structure FillOpts (α : Type) where
  tolerance : α
  fillRule : Nat
  horizontal : Bool
  handleIntersections : Bool

/-- The fields of `struct FillTessellator`; `active` / `edges_below` entries are opaque (`E`). -/
structure FillT (α E : Type) where
  currentPosition : P α
  currentVertex : Nat
  currentEventId : Nat
  active : List E
  edgesBelow : List E
  fillRule : Nat
  horizontal : Bool
  tolerance : α
  fill : Spans α
  log : Bool
  assumeNoIntersection : Bool
  attribBuffer : List α
  scan : Scan
  events : Queue α

/-- `f32::MIN` -/
def f32Min : α := zero - ofNat 340282346638528859811704183484516925440

/-- `FillTessellator::new` -/
def FillT.new {E : Type} : FillT α E :=
  { currentPosition := ⟨f32Min, f32Min⟩
    currentVertex := invalidId, currentEventId := invalidId, active := [], edgesBelow := []
    fillRule := 0, horizontal := false, tolerance := ofSci 1 1
    fill := ⟨[], []⟩, log := false, assumeNoIntersection := false, attribBuffer := [], scan := Scan.new
    events := Queue.new }

/-- `FillTessellator::reset` -/
def FillT.reset {E : Type} (t : FillT α E) : FillT α E :=
  { t with currentPosition := ⟨f32Min, f32Min⟩
           currentVertex := invalidId, currentEventId := invalidId, active := [], edgesBelow := []
           fill := { t.fill with spans := [] } }

/-- What the sweep (`tessellator_loop` and everything below it) may read: every field of the
tessellator except the contents of the pool and of the attribute buffer (§2, §4) and `log`.
`scan` is handed over as `scan_active_edges` first sees it: after `scan.reset()`. -/
structure SweepView (α E : Type) where
  currentPosition : P α
  currentVertex : Nat
  currentEventId : Nat
  active : List E
  edgesBelow : List E
  fillRule : Nat
  horizontal : Bool
  tolerance : α
  spans : List (Option (Adv α))
  assumeNoIntersection : Bool
  attribLen : Nat
  scan : Scan
  events : Queue α

def FillT.view {E : Type} (t : FillT α E) : SweepView α E :=
  ⟨t.currentPosition, t.currentVertex, t.currentEventId, t.active, t.edgesBelow, t.fillRule, t.horizontal, t.tolerance,
   t.fill.spans, t.assumeNoIntersection, t.attribBuffer.length, t.scan.reset, t.events⟩

/-- what the sweep asks of the geometry builder, and whether it fails by itself -/
structure SweepOut where
  core : List CReq
  coreErr : Option TErr

/-- the entry points -/
inductive FillEntry (α : Type) where
  /-- `tessellate`, `tessellate_polygon`, `tessellate_path` without attributes -/
  | events
  /-- `tessellate_with_ids` (custom attribute count, if a store is given); `tessellate_path` with attributes -/
  | withIds (attrs : Option Nat)
  /-- `builder` (`n = 0`) / `builder_with_attributes(n)` … `build()`; also `tessellate_ellipse` -/
  | builder (n : Nat)
  /-- a builder dropped without `build()` -/
  | builderDropped
  /-- `tessellate_rectangle` / `tessellate_circle`: the request script of `basic_shapes` -/
  | shape (script : List CReq)

structure FillIn (α : Type) where
  entry : FillEntry α
  path : List (PEv α)
  opts : FillOpts α

/-- the parameters of the model that are NOT modelled: flatteners, the sort, the sweep, and whatever
the call leaves behind in the object (`leftover` may depend on everything — in particular on where
the builder refused a vertex). -/
structure FillEnv (α E σ : Type) where
  flat : Flat α
  sort : Queue α → Queue α
  sweep : SweepView α E → FillIn α → SweepOut
  leftover : FillT α E → FillIn α → σ → FillT α E

/-- `tolerance.is_nan() || tolerance <= 0.0` negated (`0 < tol` is false for NaN) -/
def tolOk (tol : α) : Bool := decide (zero < tol)

/-- the event queue of the call: `mem::replace(&mut self.events, EventQueue::new()).into_builder(tol)`,
then `set_path*` (which resets again) or the `FillBuilder` calls, then `build()` = sort. -/
def buildQueue {E σ : Type} (env : FillEnv α E σ) (t : FillT α E) (i : FillIn α) : Queue α :=
  let qb := t.events.intoBuilder i.opts.tolerance
  match i.entry with
  | .builder _ => env.sort (QB.events env.flat i.opts.horizontal qb i.path).queue
  | _ => env.sort (QB.setPath env.flat qb i.opts.tolerance i.opts.horizontal i.path).queue

/-- number of custom attributes the sweep sees (`attrib_store`) -/
def FillEntry.attrs : FillEntry α → Option Nat
  | .withIds a => a
  | .builder n => if n > 0 then some n else none
  | _ => none

/-- the writes of `tessellate_impl` up to `tessellator_loop` -/
def FillT.prologue {E σ : Type} (env : FillEnv α E σ) (t : FillT α E) (i : FillIn α) : FillT α E :=
  let t1 := { t with events := buildQueue env t i }
  let t2 := t1.reset
  { t2 with attribBuffer := resizeAttrib t2.attribBuffer i.entry.attrs
            fillRule := i.opts.fillRule, horizontal := i.opts.horizontal
            tolerance := i.opts.tolerance * ofSci 5 1
            assumeNoIntersection := !i.opts.handleIntersections }

/-- one call of any entry point on builder `S` in state `b` -/
def fillCall {E σ : Type} (env : FillEnv α E σ) (S : Sink σ) (t : FillT α E) (ib : FillIn α × σ) : FillT α E × Outcome σ :=
  match ib.1.entry with
  | .shape script => (t, shapeRun S script ib.2)                          -- `self` is not touched
  | .builderDropped => ({ t with events := Queue.new }, ⟨ib.2, [], none⟩)  -- the queue went with the builder
  | _ =>
    if !tolOk ib.1.opts.tolerance then
      -- early return of `tessellate_impl`: only the queue has been rebuilt
      ({ t with events := buildQueue env t ib.1 }, ⟨ib.2, [], some (.unsupported 1)⟩)
    else
      let t' := t.prologue env ib.1
      let out := env.sweep t'.view ib.1
      (env.leftover t' ib.1 ib.2, tessellateImpl S true out.core out.coreErr ib.2)

def fillMachine {E σ : Type} (env : FillEnv α E σ) (S : Sink σ) : Machine (FillT α E) (FillIn α × σ) (Outcome σ) :=
  ⟨fillCall env S⟩

/-! ## §7 `StrokeTessellator` -/

/-- `SimpleAttributeStore` -/
structure Store (α : Type) where
  data : List α
  numAttributes : Nat
  nextId : Nat

def Store.new (n : Nat) : Store α := ⟨[], n, 0⟩
/-- `SimpleAttributeStore::reset` -/
def Store.reset (s : Store α) (n : Nat) : Store α := { s with data := [], nextId := 0, numAttributes := n }
/-- `SimpleAttributeStore::add` -/
def Store.add (s : Store α) (a : List α) : Store α × Nat := ({ s with data := s.data ++ a, nextId := s.nextId + 1 }, s.nextId)

/-- `struct StrokeTessellator` -/
structure StrokeT (α : Type) where
  attribBuffer : List α
  store : Store α

def StrokeT.new : StrokeT α := ⟨[], Store.new 0⟩

inductive StrokeEntry where
  /-- `tessellate`, `tessellate_polygon`: a LOCAL `Vec::new()` is the attribute buffer -/
  | events
  /-- `tessellate_with_ids` with `n = custom_attributes.num_attributes()` (0 without a store) -/
  | withIds (n : Nat)
  /-- `builder` (`n = 0`), `builder_with_attributes(n)`, then path commands, then `build()`;
  also `tessellate_rectangle / circle / ellipse` -/
  | builder (n : Nat)
  | builderDropped (n : Nat)

structure StrokeIn (α ω : Type) where
  entry : StrokeEntry
  path : List (PEv α)
  /-- one attribute vector per endpoint (builder entries) -/
  attrs : List (List α)
  opts : ω

/-- what `StrokeBuilderImpl` / `StrokeBuilder` start from: the options, the attribute buffer it was
lent, and (builder entries) the attribute store it was lent -/
structure StrokeView (α ω : Type) where
  opts : ω
  buffer : List α
  store : Option (Store α)

structure StrokeEnv (α ω σ : Type) where
  /-- events of the path ↦ requests per event (`strokeRun` of C04) -/
  core : StrokeView α ω → StrokeIn α ω → List (List CReq)
  /-- the store and buffer contents at the end of the call: whatever the core wrote -/
  leftover : StrokeT α → StrokeIn α ω → σ → StrokeT α

/-- the writes before `StrokeBuilderImpl::new` -/
def StrokeT.prologue {ω : Type} (t : StrokeT α) (i : StrokeIn α ω) : StrokeT α × StrokeView α ω :=
  match i.entry with
  | .events => (t, ⟨i.opts, [], none⟩)
  | .withIds n => ({ t with attribBuffer := List.replicate n zero }, ⟨i.opts, List.replicate n zero, none⟩)
  | .builder n | .builderDropped n =>
      ({ attribBuffer := List.replicate n zero, store := t.store.reset n },
       ⟨i.opts, List.replicate n zero, some (t.store.reset n)⟩)

def strokeCall {ω σ : Type} (env : StrokeEnv α ω σ) (S : Sink σ) (t : StrokeT α) (ib : StrokeIn α ω × σ) :
    StrokeT α × StrokeOutcome σ :=
  let pv := t.prologue ib.1
  let c := env.core pv.2 ib.1
  match ib.1.entry with
  | .builderDropped _ =>
      -- `begin_geometry` was called by `StrokeBuilderImpl::new`, the events were fed, nothing ends it
      let x := strokeEvents S c (S.begin ib.2) []
      (env.leftover pv.1 ib.1 ib.2, ⟨x.st, .begin :: x.calls, none, x.pulled⟩)
  | _ => (env.leftover pv.1 ib.1 ib.2, strokeRun S c ib.2)

def strokeMachine {ω σ : Type} (env : StrokeEnv α ω σ) (S : Sink σ) :
    Machine (StrokeT α) (StrokeIn α ω × σ) (StrokeOutcome σ) :=
  ⟨strokeCall env S⟩

end Lyon.Reset
