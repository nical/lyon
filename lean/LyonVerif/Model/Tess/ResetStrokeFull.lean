/-
  C08, stroke tessellator: the COMPLETE stroker model run as a long-lived OBJECT over a history of
  calls through every entry point of `StrokeTessellator` — the model family `stroke_reuse:32` of the
  C08 check runs, call after call, each call from the object the MODEL of the previous call left
  behind, against ONE real reused `StrokeTessellator`.

  `Model/Tess/ResetStroke.lean` / `ResetStrokeAttrs.lean` (`strokeFullCall`, `strokeFullCallB`) have
  the object (`Reset.StrokeT` = attribute buffer + the builder's `SimpleAttributeStore`) and the
  prologues of `tessellate` / `tessellate_with_ids` / `builder*`, with the path given as plain events
  whose endpoint ids are 0, 1, 2, … .  The real entry points hand the stroker the ids of the `Path`
  (control points use up ids too), a `StrokeBuilder` takes a PROGRAM (several sub-paths, shape helpers,
  option setters: `Model/Tess/StrokeBuilderProg.lean`), and a geometry builder may refuse a vertex.
  Here, on the same object and with the same buffer model (`Model/Tess/StrokeAttrBuffer.lean`):

  * `BodyF.fw`        `tessellate`, `tessellate_polygon`, `tessellate_path` of a path without
                      attributes: a LOCAL `Vec::new()` is the attribute buffer, `self` is not touched;
  * `BodyF.ids`       `tessellate_with_ids` (with or without a store), `tessellate_path` of a path
                      with `n` attributes: `self.attrib_buffer.clear()`, `push(0.0)` × n; the ids and
                      the store are the caller's;
  * `BodyF.prog`      `builder()` (`n = 0`) / `builder_with_attributes(n)` and a program of calls on
                      the returned `StrokeBuilder`, then `build()` or the builder is dropped;
                      `tessellate_rectangle` / `_circle` / `_ellipse` are `builder()` + one shape call +
                      `build()`: `self.builder_attrib_store.reset(n)`, `self.attrib_buffer.clear()`,
                      `push(0.0)` × n; every endpoint `add`s its attributes to the RECYCLED store
                      (`Reset.Store.add`) and the stroker reads them back through
                      `SimpleAttributeStore::get` (`storeGet`);
  * `BodyF.rejected`  `tessellate_rectangle` with `variable_line_width`: the `assert!` at its head
                      fires before `self` is touched.
  * `CallF.refuse = some (k, m)`: the geometry builder refuses the vertex with index `k` (0-based;
    `add_stroke_vertex` returns `Err`): the error is latched (`StrokeBuilderImpl::error`), nothing is
    emitted afterwards, the call returns `Err` (a dropped builder returns nothing).  What was emitted
    are the first `k` vertices and the first `m` triangles.  `Full.Out` keeps vertices and triangles
    in two lists (their interleaving is not modelled), so `m` — the number of `add_triangle` calls
    before the refused vertex — is an INPUT of the call (the harness measures it on a fresh real
    tessellator).  Whether the builder refuses that vertex once, twice or from then on makes no
    difference: no further `add_stroke_vertex` is attempted.
  * `CallF.ctorPanic = some j`: the caller's vertex constructor panics at the accepted vertex `j`;
    the panic unwinds out of the entry point (output `panic`), the object is left as the unwinding
    left it and is used again.

  Output of a call (`OutF`): the outcome, every emitted vertex (all accessors through `VData.read`),
  the attributes every vertex constructor reads through the object's own buffer
  (`attrsSeqB`: the interpolation loop runs over `buffer.len()`), every triangle.

  Nothing of `StrokeFull.lean` / `StrokeBuilderProg.lean` / `StrokeAttrBuffer.lean` / `ResetStroke.lean`
  is redefined.  Mathlib-free.
-/
import LyonVerif.Model.Tess.ResetStrokeAttrs
import LyonVerif.Model.Tess.StrokeBuilderProg

set_option linter.unusedVariables false

namespace Lyon.Stroke.Full
open Lyon Lyon.Scalar Lyon.Stroke
open Lyon.StrokeQuad (Ix)

variable {α : Type} [Scalar α]

/-- what an entry point is asked to stroke -/
inductive BodyF (α : Type) where
  | fw (o : Opts α) (evs : List (PathEv α))
  /-- `attrs`: the caller's attribute store as `(endpoint id, attributes)` -/
  | ids (o : Opts α) (n : Nat) (evs : List (IdEv α)) (attrs : List (Nat × List α))
  | prog (o : Opts α) (n : Nat) (dropped : Bool) (cmds : List (Prog.Cmd α))
  | rejected

/-- one call on the object -/
structure CallF (α : Type) where
  body : BodyF α
  refuse : Option (Nat × Nat)
  /-- the caller's `StrokeVertexConstructor` panics at the accepted vertex with this index (0-based):
  the call unwinds out of the entry point -/
  ctorPanic : Option Nat

inductive OutcomeF where
  | ok | err | panic | dropped
  deriving DecidableEq, Repr

/-- the complete observable output of one call -/
structure OutF (α : Type) where
  outcome : OutcomeF
  verts : List (VData α)
  attrs : List (List α)
  tris : List Tri
  /-- how many `add_stroke_vertex` calls the geometry builder refused: the error is latched at the
  first one, no further vertex is offered -/
  refusals : Nat

def OutF.panic : OutF α := ⟨.panic, [], [], [], 0⟩

def BodyF.entry : BodyF α → Reset.StrokeEntry
  | .fw .. => .events
  | .ids _ n _ _ => .withIds n
  | .prog _ n dropped _ => if dropped then .builderDropped n else .builder n
  | .rejected => .events

def BodyF.isDropped : BodyF α → Bool
  | .prog _ _ d _ => d
  | _ => false

/-- the attribute vectors `attrib_store.add` receives during a program, one per endpoint, in id order -/
def progAdds (its : List (Prog.Item α)) : List (List α) :=
  its.filterMap fun it => it.id?.map fun _ => it.attrs

/-- the builder's attribute store after the call: `reset(n)` + one `add` per endpoint for the builder
entry points (also when a vertex was refused: the path commands keep coming), untouched otherwise -/
def storeAfterF (s : Reset.Store α) : BodyF α → Reset.Store α
  | .prog o n _ cmds => storeFeed (s.reset n) (progAdds (Prog.expand ⟨o, 0⟩ cmds))
  | _ => s

/-- the attribute store the stroker of the call reads -/
def storeFnF (s : Reset.Store α) : BodyF α → Nat → List α
  | .fw .. => fun _ => []
  | .ids _ _ _ attrs => fun id => ((attrs.find? (fun a => a.1 == id)).map (·.2)).getD []
  | .prog o n d cmds => storeGet (storeAfterF s (.prog o n d cmds))
  | .rejected => fun _ => []

/-- vertices / triangles emitted before the refused vertex; `wasRefused` = the refusal happened -/
def cutVerts (refuse : Option (Nat × Nat)) (vs : List (VData α)) : List (VData α) :=
  match refuse with
  | none => vs
  | some (k, _) => vs.take k

def wasRefused (refuse : Option (Nat × Nat)) (nverts : Nat) : Bool :=
  match refuse with
  | none => false
  | some (k, _) => k < nverts

def cutTris (refuse : Option (Nat × Nat)) (nverts : Nat) (ts : List Tri) : List Tri :=
  match refuse with
  | none => ts
  | some (_, m) => if wasRefused refuse nverts then ts.take m else ts

/-- the constructor's panic happens: the vertex it is set for is reached (it is not if a refusal
came first: nothing is emitted after a refused vertex) -/
def ctorPanics (ctorPanic : Option Nat) (naccepted : Nat) : Bool :=
  match ctorPanic with
  | none => false
  | some j => j < naccepted

section
variable [Transc α] [Asin α] [FlatConst α]

/-- the complete stroker on what the entry point hands it (`none` = a flattening loop panicked, or
the call was rejected) -/
def coreOutF (ix : Ix α) (s : Reset.Store α) : BodyF α → Option (Out α)
  | .fw o evs => tessellateFw (Env.new o ix) evs
  | .ids o n evs attrs => tessellateIds (Env.new o ix) (storeFnF s (.ids o n evs attrs)) evs
  | .prog o n d cmds =>
    let r := Prog.runItems (Env.new o ix) (storeFnF s (.prog o n d cmds)) (Prog.expand ⟨o, 0⟩ cmds)
    if r.panicked then none else some r.st.out
  | .rejected => none

/-- the output of the call given what the stroker emitted and the buffer the prologue built, and the
buffer at the end of the call -/
def finishF (c : CallF α) (store : Nat → List α) (buf : List α) : Option (Out α) → OutF α × List α
  | none => (OutF.panic, buf)
  | some out =>
    let vs := cutVerts c.refuse out.verts
    let a := attrsSeqB store (vs.map (·.src)) ⟨false, buf⟩
    match a.1 with
    | none => (OutF.panic, a.2.buf)
    | some l =>
      -- a panicking vertex constructor: the call unwinds; what it leaves in the buffer is not claimed
      -- (any buffer does: the next call's prologue forgets it)
      if ctorPanics c.ctorPanic vs.length then (OutF.panic, a.2.buf) else
      (⟨if c.body.isDropped then .dropped else if wasRefused c.refuse out.verts.length then .err else .ok,
        vs, l, cutTris c.refuse out.verts.length out.tris,
        if wasRefused c.refuse out.verts.length then 1 else 0⟩, a.2.buf)

/-- **one call on the object `t`**: the object afterwards and the complete output -/
def strokeCallF (ix : Ix α) (t : Reset.StrokeT α) (c : CallF α) : Reset.StrokeT α × OutF α :=
  match c.body with
  | .rejected => (t, OutF.panic)
  | body =>
    let r := finishF c (storeFnF t.store body) (prologueBuffer t.attribBuffer body.entry) (coreOutF ix t.store body)
    (⟨bufferAfter t.attribBuffer body.entry r.2, storeAfterF t.store body⟩, r.1)

/-- the long-lived `StrokeTessellator` as a call machine: the object of family `stroke_reuse:32` -/
def strokeObjF (ix : Ix α) : Reset.Machine (Reset.StrokeT α) (CallF α) (OutF α) := ⟨strokeCallF ix⟩

end

end Lyon.Stroke.Full
