/-
  C08 on top of the complete sweep model (`Model/Tess/Sweep.lean`): the fill tessellator as a
  LONG-LIVED OBJECT.  `Sweep.tessellateImpl` starts from a fixed initial `St`; here the same call is
  made on an object in an arbitrary state `old : St α` — whatever earlier calls (complete, failed,
  aborted by the geometry builder, made with an invalid tolerance, a builder dropped without
  `build`) left behind — mirroring what the Rust code does to a used object, statement by statement:

  * `queueReset`, `ofRecsFrom`, `buildQueueFrom`    `mem::replace(&mut self.events, EventQueue::new())
                                                     .into_builder(tol)` (= `EventQueue::reset` of the
                                                     recycled storage) … `set_path*` / `FillBuilder::*`
                                                     … `build()`
  * `St.fresh`                                       `FillTessellator::new()`
  * `St.reset`                                       `FillTessellator::reset()`: position, vertex, event
                                                     id, `active.edges.clear()`, `edges_below.clear()`,
                                                     `fill.spans.clear()` — and NOTHING else: `fill.pool`
                                                     (the recycled monotone tessellators with their stale
                                                     fields) survives
  * `St.prologue`                                    the writes of `tessellate_impl` between the
                                                     tolerance check and the first event
  * `Scan.reset`, `scanActiveEdgesFrom`              `ActiveEdgeScan::reset` at the top of
                                                     `scan_active_edges` on a dirty scan
  * `initializeEventsB`, `tessellatorLoopB`          the loop against a geometry builder that refuses
                                                     its k-th vertex (`add_fill_vertex(..)?`): the call
                                                     is aborted part-way and the object stays as it is
  * `tessellateImplFrom`                             `tessellate_impl` on a used object; returns what the
                                                     geometry builder saw AND the object afterwards
  * `FillCall`, `tessellateFrom`, `fillObj`          one call of an entry point; the object as a
                                                     `Reset.Machine` (histories)

  What is NOT state of `St` and therefore not here: the attribute buffer (`Reset.interpAll`,
  theorem `attrib_buffer_fresh` of `Props/C08.lean`) and the contents of the output buffers
  (`offset_shift`).  `St.out` / `St.nverts` are the model's record of what the geometry builder was
  handed in THIS call (`begin_geometry` starts them afresh); `St.cov` is instrumentation.

  Nothing of `Sweep.lean` is redefined: every step below the loop is the function of `Sweep.lean`.

  Mathlib-free.
-/
import LyonVerif.Model.Tess.Sweep
import LyonVerif.Model.Tess.Reset

namespace Lyon.Sweep
open Lyon Lyon.Scalar Lyon.EQ Lyon.Mono

variable {α : Type} [Scalar α] [Wide α]

/-! ### the event queue of a used object -/

/-- `EventQueue::reset` (`events.clear(); edge_data.clear(); first = INVALID; sorted = false`).
`fuelOut` is the model's own flag (a walk ran out of fuel), it has no counterpart in the object. -/
def queueReset (q : Queue α) : Queue α :=
  { q with events := #[], edgeData := #[], first := INVALID, sorted := false, fuelOut := false }

/-- `Queue.ofRecs` into recycled storage: `into_builder` resets the queue it is given -/
def ofRecsFrom (old : Queue α) (recs : List (Sources.EdgeRec α)) : Queue α :=
  recs.foldl (fun q r => q.pushUnsorted r.pos ⟨r.to, r.t0, r.t1, r.winding, r.isEdge, r.fromId, r.toId⟩)
    (queueReset old)

/-- `buildQueue` on a used object: the entry point takes the old queue out of the tessellator
(`mem::replace`), `into_builder` resets it and constructs a NEW `EventQueueBuilder` around it
(`current, prev, second = NaN`, `nth = 0`, `prev_endpoint_id = MAX` — `Sources.Builder.init`), the
path is fed (`set_path*` reset the queue once more). -/
def buildQueueFrom (old : Queue α) (entry : Entry) (horizontal : Bool) (subs : List (SubPath α)) : Queue α :=
  let useIds := entry == .ids || entry == .builder
  let step (acc : Sources.Builder α × Nat) (sp : SubPath α) : Sources.Builder α × Nat :=
    match sp.1 with
    | [] => acc
    | pts =>
      let b := feedSub horizontal useIds acc.1 acc.2 pts
      let next := acc.2 + pts.length + (if entry == .ids && sp.2 then 1 else 0)
      (b, next)
  let r := subs.foldl step (Sources.Builder.init, 0)
  ofRecsFrom old r.1.recs.reverse

/-! ### `ActiveEdgeScan` -/

/-- `ActiveEdgeScan::reset`, field by field as written (`above = 0..0`) -/
def Scan.reset (s : Scan) : Scan :=
  { s with vertexEvents := #[], edgesToSplit := #[], spansToEnd := #[], mergeEvent := false, splitEvent := false,
           mergeSplitEvent := false, aboveStart := 0, aboveEnd := 0, windingBefore := WindingState.new }

/-- `scan_active_edges(&mut scan)` on a scan that holds whatever the previous event (or the previous
call: `mem::replace(&mut self.scan, ..)` / `mem::swap` keep the buffers across calls) left in it:
`scan.reset()` first, then `Sweep.scanActiveEdges` fills it.  The model's `scanActiveEdges` builds
its result from `{ aboveStart := .., windingBefore := .. }`, i.e. from the all-default `Scan`. -/
def scanActiveEdgesFrom (dirty : Scan) (s : St α) : Except IErr Scan :=
  (scanActiveEdges s).map fun r =>
    let d := Scan.reset dirty
    { d with
      vertexEvents := r.vertexEvents, edgesToSplit := r.edgesToSplit, spansToEnd := r.spansToEnd,
      mergeEvent := r.mergeEvent, splitEvent := r.splitEvent, mergeSplitEvent := r.mergeSplitEvent,
      aboveStart := r.aboveStart, aboveEnd := r.aboveEnd, windingBefore := r.windingBefore }

/-! ### the object -/

/-- `FillTessellator::new()`: `current_position = (f32::MIN, f32::MIN)`, invalid ids, empty vectors,
`EvenOdd`, `Vertical`, `DEFAULT_TOLERANCE = 0.1`, `assume_no_intersection = false`, an empty queue -/
def St.fresh : St α :=
  { q := Queue.empty, curPos := ⟨Wide.fmin, Wide.fmin⟩, curVertex := INVALID, curEvent := INVALID,
    active := #[], below := #[], spans := #[], pool := [], rule := .evenOdd, horizontal := false,
    tolerance := ofSci 1 1, handleIntersections := true, out := #[], nverts := 0 }

/-- `FillTessellator::reset` — these six writes and nothing else -/
def St.reset (s : St α) : St α :=
  { s with curPos := ⟨Wide.fmin, Wide.fmin⟩, curVertex := INVALID, curEvent := INVALID,
           active := #[], below := #[], spans := #[] }

/-- The writes of a call between the tolerance check of `tessellate_impl` and the first event:
`self.events = queue_builder.build()` (in the entry point), `self.reset()`, the four option fields,
`builder.begin_geometry()` (the model's record of the emissions starts afresh), and
`self.current_event_id = self.events.first_id()` (first statement of `tessellator_loop`). -/
def St.prologue (old : St α) (q : Queue α) (rule : Slab.Rule) (horizontal : Bool) (tol : α) (handleIx : Bool) : St α :=
  let s1 : St α := { old with q := q }
  let s2 := s1.reset
  { s2 with rule := rule, horizontal := horizontal, tolerance := tol * half, handleIntersections := handleIx,
            out := #[], nverts := 0, cov := 0, curEvent := q.firstId }

/-! ### the loop against a geometry builder that may refuse a vertex -/

/-- does the geometry builder refuse the vertex it is offered after `n` accepted ones? -/
def refuses (limit : Option Nat) (n : Nat) : Bool :=
  match limit with
  | none => false
  | some k => n == k

/-- `initialize_events` with `output.add_fill_vertex(..)?` failing: `current_position` has been
written and checked for NaN, then the `?` returns `Err(GeometryBuilder(InvalidVertex))`; nothing
else of the event is done. -/
def initializeEventsB (limit : Option Nat) : SM α Unit := do
  let s ← get
  let cur := s.q.position s.curEvent
  if refuses limit s.nverts && !(Wide.isNaN cur.x || Wide.isNaN cur.y) then
    set { s with curPos := cur }
    throw (.err "GeometryBuilder(InvalidVertex)")
  else initializeEvents

/-- `tessellator_loop` (`Sweep.tessellatorLoop` with `initializeEventsB`) -/
def tessellatorLoopB (limit : Option Nat) : Nat → SM α Unit
  | 0 => throw .fuel
  | f+1 => do
    let s ← get
    if s.curEvent == INVALID then return
    initializeEventsB limit
    match ← processEvents with
    | none => pure ()
    | some _ =>
      recoverFromError
      match ← processEvents with
      | none => pure ()
      | some e =>
        mark 1
        throw (.err s!"Internal({e.toString})")
    let s ← get
    if s.q.fuelOut then throw .fuel
    set { s with curEvent := s.q.nextId s.curEvent }
    tessellatorLoopB limit f

/-- the flush of the spans left over when the loop ends normally -/
def flushLeftover (spans : Array (Option (Adv α))) (out : Array (Emit α)) : Array (Emit α) :=
  spans.foldl (fun o sp =>
    match sp with
    | some t => t.tess.tris.foldl (fun o t => o.push (.tri t.1 t.2.1 t.2.2)) o
    | none => o) out

/-- `tessellate_impl` on a USED object `old` whose queue has just been rebuilt to `q`, against a
geometry builder that refuses the vertex after `limit` accepted ones (`none`: never).
Result: what `Sweep.tessellateImpl` returns (outcome, emissions, coverage bits) and the object
afterwards:
* invalid tolerance: early return, only the queue has changed;
* error (`Err` of the sweep, a refused vertex, a panic unwinding out of the loop): `abort_geometry`,
  the object stays exactly as the loop left it — spans alive, edges, a half-processed event;
* success: the spans left over are flushed and `fill.spans.clear()`ed (they are NOT pooled). -/
def tessellateImplFrom (old : St α) (limit : Option Nat) (q : Queue α) (rule : Slab.Rule) (horizontal : Bool) (tol : α)
    (handleIx : Bool) : (Option Fail × Array (Emit α) × Nat) × St α :=
  if Wide.isNaN tol || tol ≤ zero then
    ((some (.err "UnsupportedParamater(ToleranceIsNaN)"), #[], 0), { old with q := q })
  else
    let s0 := old.prologue q rule horizontal tol handleIx
    let r := (tessellatorLoopB limit (4 * q.events.size * q.events.size + 1000)).run.run s0
    match r.1 with
    | .error f => ((some f, r.2.out, r.2.cov), r.2)
    | .ok _ =>
      let out := flushLeftover r.2.spans r.2.out
      ((none, out, if out.size == r.2.out.size then r.2.cov else r.2.cov ||| (1 <<< 22)), { r.2 with spans := #[] })

/-! ### calls and histories -/

/-- one call of an entry point on polygonal input -/
structure FillCall (α : Type) where
  entry : Entry
  rule : Slab.Rule
  horizontal : Bool
  tol : α
  handleIx : Bool
  subs : List (SubPath α)
  /-- the geometry builder refuses the vertex offered after this many accepted ones -/
  refuse : Option Nat := none
  /-- `builder(..)`, the path commands, and then the `FillBuilder` is dropped without `build()` -/
  dropped : Bool := false

/-- what the geometry builder saw: outcome and emissions (the coverage bits are instrumentation) -/
abbrev Emission (α : Type) := Option Fail × Array (Emit α)

def emission (r : Option Fail × Array (Emit α) × Nat) : Emission α := (r.1, r.2.1)

/-- one call on a used object: the emission and the object afterwards -/
def tessellateFrom (old : St α) (c : FillCall α) : (Option Fail × Array (Emit α) × Nat) × St α :=
  let q0 := buildQueueFrom old.q c.entry c.horizontal c.subs
  if c.dropped then
    -- `FillBuilder::new` took the queue (`mem::replace(.., EventQueue::new())`); it dies with the builder
    ((none, #[], 0), { old with q := Queue.empty })
  else
    let q := q0.sort
    if q.groups != Spec.sort q0.position q0.events.size then
      ((some (.unmodelled "sort-spec-mismatch"), #[], 0), { old with q := q })
    else tessellateImplFrom old c.refuse q c.rule c.horizontal c.tol c.handleIx

/-- the long-lived `FillTessellator` as a call machine -/
def fillObj : Reset.Machine (St α) (FillCall α) (Emission α) :=
  ⟨fun old c => ((tessellateFrom old c).2, emission (tessellateFrom old c).1)⟩

end Lyon.Sweep
