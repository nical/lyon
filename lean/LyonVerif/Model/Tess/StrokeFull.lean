/-
  The stroke tessellator as a whole (`crates/tessellation/src/stroke.rs`, `StrokeBuilderImpl`),
  extending the component models of `StrokeParts.lean` (C05) and `StrokeQuad.lean` (C06) to a
  model of the COMPLETE output of the public entry points: every `add_stroke_vertex` call with all
  accessors, every `add_triangle` call, in emission order.

  Modelled here, expression by expression (operand order included, the tie is bit-level):
    EndpointData / SidePoints (defaults included: NaN side points, `VertexId(u32::MAX)`, NaN
      advancement = "not yet computed")
    StrokeBuilderImpl::{begin_fw, line_to_fw, fixed_width_step_impl, begin, line_to, step_impl,
      end, close, end_with_caps, tessellate_empty_cap, tessellate_fw (endpoint id counter),
      quadratic_bezier_to(_fw), cubic_bezier_to(_fw)}
    compute_join_side_positions_fixed_width (all branches), get_clip_intersections (through
      `StrokeQuad.clipIntersections`, the f64 round trip is the parameter `ix`),
    compute_edge_attachment_positions, compute_side_attachment_positions (asin / NaN guard),
    compute_join_side_positions (variable width), flattened_step, flatten_quad, find_sharp_turn,
    tessellate_last_edge, tessellate_first_edge (butt / square clipping, round caps),
    and, from StrokeParts: add_join_base_vertices, add_edge_triangles, tessellate_join,
    tessellate_round_join, tessellate_arc, tessellate_round_cap, tessellate_empty_*_cap,
    StrokeVertex accessors (`VData.read`), interpolated_attributes.

  `self.vertex` (StrokeVertexData) is passed down by value as in StrokeParts: every emission site
  of stroke.rs assigns all six fields before `add_stroke_vertex` (src, position_on_path,
  half_width, advancement at the head of the step / edge function, side and normal at the call), so
  no field is ever inherited from an earlier site.  A change of stroke.rs that drops one of these
  assignments makes the real code emit a stale value and breaks the tie.

  Error latching (`self.error`) is not modelled in this file: the recording builder of the tie never fails
  (`Model/Tess/ResetStrokeFull.lean` models the latch: `CallF.refuse`, `cutVerts`).

  Mathlib-free: linked into the native model driver.
-/
import LyonVerif.Model.Tess.StrokeQuad
import LyonVerif.Model.Geom.Flatten
import LyonVerif.Model.Geom.Extrema

namespace Lyon.Stroke.Full
open Lyon Scalar Lyon.Stroke
open Lyon.StrokeQuad (Ix clipIntersections)

abbrev LineJoin := Lyon.StrokeQuad.Join
abbrev LineCap := Lyon.StrokeQuad.Cap

variable {α : Type} [Scalar α]

/-! ## EndpointData -/

/-- `f32::NAN` (what `..Default::default()` leaves in `advancement` and the side points) -/
def nan : α := zero / zero
def nanP : P α := ⟨nan, nan⟩
/-- `VertexId(u32::MAX)` -/
def unset : Nat := 4294967295

def sideDefault : SideGeom α := ⟨nanP, nanP, none, unset, unset⟩

/-- `EndpointData` -/
structure EP (α : Type) where
  position : P α
  halfWidth : α
  advancement : α
  lineJoin : LineJoin
  src : Src α
  pos : SideGeom α
  neg : SideGeom α
  foldPos : Bool
  foldNeg : Bool
  isFlat : Bool

/-- `EndpointData { position, half_width, advancement, line_join, src, is_flattening_step,
..Default::default() }` -/
def EP.mk' (position : P α) (hw adv : α) (lj : LineJoin) (src : Src α) (flat : Bool) : EP α :=
  ⟨position, hw, adv, lj, src, sideDefault, sideDefault, false, false, flat⟩

def EP.default : EP α :=
  EP.mk' ⟨zero, zero⟩ nan nan .miter (.endpoint unset) false

def EP.ids (e : EP α) : JoinIds :=
  ⟨e.pos.prevVertex, e.pos.nextVertex, e.neg.prevVertex, e.neg.nextVertex, e.foldPos, e.foldNeg⟩

/-- the view of an endpoint the join functions of StrokeParts read -/
def EP.toJoin (e : EP α) : Join α :=
  ⟨e.position, e.halfWidth, e.lineJoin == .round, e.pos, e.neg, e.foldPos, e.foldNeg⟩

/-- write the sides a StrokeParts join function updated back -/
def EP.withSides (e : EP α) (j : Join α) : EP α := { e with pos := j.pos, neg := j.neg }

/-- the four fields of `self.vertex` assigned at the head of a step / edge function; `normal` and
`side` are assigned at every `add_stroke_vertex` site -/
def baseVertex (src : Src α) (pop : P α) (hw adv : α) : VData α :=
  ⟨pop, hw, ⟨zero, zero⟩, adv, .negative, src⟩

/-! ## StrokeOptions -/

structure Opts (α : Type) where
  tolerance : α
  lineWidth : α
  miterLimit : α
  join : LineJoin
  startCap : LineCap
  endCap : LineCap
  /-- `variable_line_width.is_some()` -/
  varWidth : Bool
  /-- the attribute index of `variable_line_width` (read only when `varWidth`) -/
  varIdx : Nat := 0

section
variable [Transc α]

/-- euclid `Vector2D::length` -/
def len (v : P α) : α := Transc.sqrt v.sqLen

/-! ## fixed_width_step_impl, `count == 1`: side points of the first point, advancement of the second -/

def firstEdgeSetup (first next : EP α) : EP α × EP α :=
  let edge := next.position - first.position
  let length := len edge
  let adv := if Transc.isNaN next.advancement then first.advancement + length else next.advancement
  let tangent := edge.sdiv length
  let n := (perp tangent).smul next.halfWidth
  ({ first with pos := { first.pos with next := first.position + n },
                neg := { first.neg with next := first.position - n } },
   { next with advancement := adv })

/-! ## compute_join_side_positions_fixed_width -/

/-- the front side when the join does not fold: kept miter → single vertex; clipped `MiterClip` →
the two points move to the clip line; else unchanged -/
def frontFix (ix : Ix α) (lj : LineJoin) (unclipped : Bool) (s : SideGeom α) (j frontNormal miter : P α)
    (clipDistance : α) : SideGeom α :=
  if unclipped then { s with single := some miter }
  else if lj == .miterClip then
    let c := clipIntersections ix (s.prev - j) (s.next - j) frontNormal clipDistance
    { s with prev := j + c.1, next := j + c.2 }
  else s

/-- the numbers `compute_join_side_positions_fixed_width` derives from the three positions -/
structure FwGeo (α : Type) where
  pt : P α
  nt : P α
  pl : α
  nl : α
  normal : P α
  frontNeg : Bool
  frontNormal : P α
  unclipped : Bool
  fold : Bool

def fwGeo (prev join next : EP α) (ml vhw : α) : FwGeo α :=
  let pt0 := join.position - prev.position
  let nt0 := next.position - join.position
  let pl := len pt0
  let nl := len nt0
  let pt := pt0.sdiv pl
  let nt := nt0.sdiv nl
  let normal := computeNormal pt nt
  let frontNeg : Bool := decide (pt.cross nt ≥ zero)
  let frontNormal : P α := if frontNeg then -normal else normal
  let extruded := frontNormal.smul vhw
  let unclipped := (join.lineJoin == .miter || join.lineJoin == .miterClip) && !miterLimitIsExceeded frontNormal ml
  let sharp : Bool := decide (nt.dot pt < zero)
  let dNext := extruded.dot (-nt) - nl
  let dPrev := extruded.dot pt - pl
  let fold := !unclipped && sharp &&
    (decide (Scalar.min dNext dPrev > zero) || decide (normal.sqLen < ofSci 1 5))
  ⟨pt, nt, pl, nl, normal, frontNeg, frontNormal, unclipped, fold⟩

/-- `compute_join_side_positions_fixed_width(prev, join, next, miter_limit, vertex)`; `vhw` is
`vertex.half_width`.  Returns the updated join (its advancement is what `vertex.advancement`
is set to). -/
def joinSidesFw (ix : Ix α) (prev join next : EP α) (ml vhw : α) : EP α :=
  let g := fwGeo prev join next ml vhw
  let adv := if Transc.isNaN join.advancement then prev.advancement + g.pl else join.advancement
  let j := join.position
  let n0 := (perp g.pt).smul vhw
  let n1 := (perp g.nt).smul vhw
  let pos1 : SideGeom α := { join.pos with prev := j + n0, next := j + n1 }
  let neg1 : SideGeom α := { join.neg with prev := j - n0, next := j - n1 }
  let miterP := j + g.normal.smul vhw
  let miterN := j - g.normal.smul vhw
  let clipD := ml * vhw
  if g.fold then
    { join with advancement := adv, pos := pos1, neg := neg1,
                foldPos := join.foldPos || !g.frontNeg, foldNeg := join.foldNeg || g.frontNeg }
  else if g.frontNeg then
    { join with advancement := adv,
                pos := { pos1 with single := some miterP },
                neg := frontFix ix join.lineJoin g.unclipped neg1 j g.frontNormal miterN clipD }
  else
    { join with advancement := adv,
                pos := frontFix ix join.lineJoin g.unclipped pos1 j g.frontNormal miterP clipD,
                neg := { neg1 with single := some miterN } }

/-! ## the join part shared by both step functions: base vertices, edge triangles, join -/

/-- `add_join_base_vertices(…, Side::Negative)`, `add_join_base_vertices(…, Side::Positive)` -/
def baseVertices (join : EP α) (d : VData α) (o : Out α) : EP α × Out α :=
  let r := addJoinBaseVertices join.toJoin d o
  (join.withSides r.1, r.2)

/-- `if count > 2 { add_edge_triangles(prev, join) }  tessellate_join(join, …)` -/
def edgeAndJoin (tolerance : α) (count : Nat) (prev join : EP α) (d : VData α) (o : Out α) : Out α :=
  let o1 := if count > 2 then o.addTris (addEdgeTriangles prev.ids join.ids) else o
  tessellateJoin join.toJoin tolerance d o1

/-! ## flattened_step -/

structure FlatStep (α : Type) where
  join : EP α
  next : EP α
  skip : Bool
  out : Out α

/-- `flattened_step(prev, join, next, vertex, …)`; `d` carries src / position_on_path / half_width -/
def flattenedStep (prev join next : EP α) (d : VData α) (o : Out α) : FlatStep α :=
  let prevEdge := join.position - prev.position
  let prevLength := len prevEdge
  let prevTangent := prevEdge.sdiv prevLength
  let nextEdge := next.position - join.position
  let nextLength := len nextEdge
  let nextTangent := nextEdge.sdiv nextLength
  let normal := computeNormal prevTangent nextTangent
  let jAdv := if Transc.isNaN join.advancement then prev.advancement + prevLength else join.advancement
  let nAdv := if Transc.isNaN next.advancement then jAdv + nextLength else next.advancement
  let p0 := join.position + normal.smul d.halfWidth
  let p1 := join.position - normal.smul d.halfWidth
  let v0 := p0 - prev.pos.next
  let v1 := p1 - prev.neg.next
  let next' := { next with advancement := nAdv }
  let pos1 : SideGeom α := { join.pos with prev := p0, next := p0, single := some p0 }
  let neg1 : SideGeom α := { join.neg with prev := p1, next := p1, single := some p1 }
  if prevEdge.dot v0 < zero ∧ prevEdge.dot v1 < zero then
    ⟨{ join with advancement := jAdv, pos := pos1, neg := neg1 }, next', true, o⟩
  else
    let dd : VData α := { d with advancement := jAdv }
    let pv := o.nextId
    let o1 := o.addVertex { dd with normal := normal, side := .positive }
    let nv := o1.nextId
    let o2 := o1.addVertex { dd with normal := -normal, side := .negative }
    ⟨{ join with advancement := jAdv,
                 pos := { pos1 with prevVertex := pv, nextVertex := pv },
                 neg := { neg1 with prevVertex := nv, nextVertex := nv } }, next', false, o2⟩

/-! ## the builder state -/

structure St (α : Type) where
  buf : PointBuffer (EP α)
  firsts : List (EP α)
  subPathStartAdvancement : α
  mayNeedEmptyCap : Bool
  out : Out α

def St.new : St α := ⟨PointBuffer.new EP.default, [], zero, false, Out.empty 0⟩

def St.tooClose (thr : α) (st : St α) (p : P α) : Bool :=
  match st.buf.last with
  | some l => pointsAreTooClose thr l.position p
  | none => false

def St.setLast (st : St α) (e : EP α) : St α := { st with buf := (st.buf.replaceLast e).getD st.buf }
def St.push (st : St α) (e : EP α) : St α := { st with buf := (st.buf.push e).getD st.buf }

/-- is the join of `prev, join, next` on the fast path of a flattened curve? -/
def fastPath (prev join next : EP α) : Bool :=
  join.isFlat && decide ((join.position - prev.position).dot (next.position - join.position) > zero)

/-- the environment of one tessellation: options, merge threshold, f64 line intersection -/
structure Env (α : Type) where
  o : Opts α
  thr : α
  ix : Ix α

/-- the `count > 1` part of `fixed_width_step_impl`: the new state (join written back, output,
`firsts`) and `next` as it is pushed (`flattened_step` fills in its advancement) -/
def fwJoin (e : Env α) (st : St α) (prev join next : EP α) : St α × EP α :=
  let count := st.buf.count
  let d := baseVertex join.src join.position join.halfWidth nan
  if fastPath prev join next then
    -- the `Ok(bool)` of flattened_step is dropped by the fixed-width caller
    let r := flattenedStep prev { join with lineJoin := .miter } next d st.out
    let o := edgeAndJoin e.o.tolerance count prev r.join { d with advancement := r.join.advancement } r.out
    ({ st.setLast r.join with out := o, firsts := if count == 2 then [prev, r.join] else st.firsts }, r.next)
  else
    let j1 := joinSidesFw e.ix prev join next e.o.miterLimit d.halfWidth
    let dd : VData α := { d with advancement := j1.advancement }
    let (j2, o1) := baseVertices j1 dd st.out
    let o := edgeAndJoin e.o.tolerance count prev j2 dd o1
    ({ st.setLast j2 with out := o, firsts := if count == 2 then [prev, j2] else st.firsts }, next)

/-- `fixed_width_step_impl`; the flag is its `Ok(bool)` -/
def fwStep (e : Env α) (st : St α) (next : EP α) : St α × Bool :=
  if st.tooClose e.thr next.position then
    ({ st with mayNeedEmptyCap := st.mayNeedEmptyCap || st.buf.count == 1 }, false)
  else
    match st.buf.lastTwo with
    | some (prev, join) =>                       -- count > 1
      let r := fwJoin e st prev join next
      (r.1.push r.2, true)
    | none =>
      match st.buf.last with
      | some first =>                            -- count == 1
        let r := firstEdgeSetup first next
        ((st.setLast r.1).push r.2, true)
      | none => (st.push next, true)             -- count == 0

/-! ## tessellate_last_edge / tessellate_first_edge -/

def capClip (cap : LineCap) (hw : α) : Option α :=
  match cap with
  | .square => some hw
  | .butt => some zero
  | .round => none

/-- the clipped side position: intersection of the cap's clip line (through
`p + normalize(p - q) * clip`, direction `tangent(normal)`) with the side line through `sidePos`
with direction `sidePos - other`; `.unwrap_or(sidePos)` -/
def clipSidePos (ix : Ix α) (cap : LineCap) (p q : P α) (hw : α) (sidePos other : P α) : P α :=
  match capClip cap hw with
  | none => sidePos
  | some clip =>
    let normal := normalize (p - q)
    (ix (p + normal.smul clip) (perp normal) sidePos (sidePos - other)).getD sidePos

/-- `tessellate_last_edge(p0, p1, is_first_edge, …)`: returns the mutated `p1` -/
def lastEdge (e : Env α) (p0 p1 : EP α) (isFirst : Bool) (o : Out α) : EP α × Out α :=
  let v := p1.position - p0.position
  let adv := p0.advancement + len v
  let d := baseVertex p1.src p1.position p1.halfWidth adv
  let posPrev := clipSidePos e.ix e.o.endCap p1.position p0.position p1.halfWidth p1.pos.prev p0.pos.next
  let vp := o.nextId
  let o1 := o.addVertex { d with side := .positive, normal := (posPrev - p1.position).sdiv p1.halfWidth }
  let negPrev := clipSidePos e.ix e.o.endCap p1.position p0.position p1.halfWidth p1.neg.prev p0.neg.next
  let vn := o1.nextId
  let o2 := o1.addVertex { d with side := .negative, normal := (negPrev - p1.position).sdiv p1.halfWidth }
  let p1' : EP α := { p1 with advancement := adv,
                              pos := { p1.pos with prev := posPrev, prevVertex := vp },
                              neg := { p1.neg with prev := negPrev, prevVertex := vn } }
  let o3 := if isFirst then o2 else o2.addTris (addEdgeTriangles p0.ids p1'.ids)
  let o4 := if e.o.endCap == .round then
      tessellateRoundCap p1'.position p1'.halfWidth (p1'.pos.prev - p1'.position) vp vn v e.o.tolerance false d o3
    else o3
  (p1', o4)

/-- `tessellate_first_edge(first, second, …)` -/
def firstEdge (e : Env α) (first second : EP α) (o : Out α) : Out α :=
  let d := baseVertex first.src first.position first.halfWidth first.advancement
  let posNext := clipSidePos e.ix e.o.startCap first.position second.position first.halfWidth first.pos.next second.pos.prev
  let vp := o.nextId
  let o1 := o.addVertex { d with side := .positive, normal := (posNext - first.position).sdiv first.halfWidth }
  let negNext := clipSidePos e.ix e.o.startCap first.position second.position first.halfWidth first.neg.next second.neg.prev
  let vn := o1.nextId
  let o2 := o1.addVertex { d with side := .negative, normal := (negNext - first.position).sdiv first.halfWidth }
  let first' : EP α := { first with pos := { first.pos with nextVertex := vp }, neg := { first.neg with nextVertex := vn } }
  let o3 := o2.addTris (addEdgeTriangles first'.ids second.ids)
  if e.o.startCap == .round then
    tessellateRoundCap first.position first.halfWidth (first.neg.next - first.position) vn vp
      (first.position - second.position) e.o.tolerance true d o3
  else o3

/-! ## tessellate_empty_cap, end_with_caps, close, end -/

def emptyCap (e : Env α) (st : St α) : Out α :=
  match st.buf.get 0 with
  | none => st.out
  | some point =>
    let d := baseVertex point.src point.position point.halfWidth point.advancement
    match e.o.startCap with
    | .square => tessellateEmptySquareCap point.position d st.out
    | .round => tessellateEmptyRoundCap point.position e.o.tolerance d st.out
    | .butt => st.out

/-- the fixed-width hack of `end_with_caps`: side points of the last point from the last edge -/
def lastSidesFw (p0 p1 : EP α) : EP α :=
  let tangent := normalize (p1.position - p0.position)
  let n := (perp tangent).smul p1.halfWidth
  { p1 with pos := { p1.pos with prev := p1.position + n }, neg := { p1.neg with prev := p1.position - n } }

def endWithCaps (e : Env α) (st : St α) : St α :=
  let count := st.buf.count
  if st.mayNeedEmptyCap && count == 1 then { st with out := emptyCap e st }
  else match st.buf.lastTwo with
    | none => st
    | some (p0, p1) =>
      let p1a := if e.o.varWidth then p1 else lastSidesFw p0 p1
      let (p1b, o1) := lastEdge e p0 p1a (count == 2) st.out
      let f := if count > 2 then st.firsts.headD p0 else p0
      let s := if count > 2 then (st.firsts.drop 1).headD p1b else p1b
      { st with subPathStartAdvancement := p1b.advancement, out := firstEdge e f s o1 }

/-- the two vertices `close` re-creates at the first point, towards the second endpoint -/
def closeVertices (p0 : EP α) (advancement : α) (o : Out α) : EP α × Out α :=
  let d := baseVertex p0.src p0.position p0.halfWidth advancement
  let np := ((p0.pos.single.getD p0.pos.next) - p0.position).sdiv p0.halfWidth
  let vp := o.nextId
  let o1 := o.addVertex { d with side := .positive, normal := np }
  let nn := ((p0.neg.single.getD p0.neg.next) - p0.position).sdiv p0.halfWidth
  let vn := o1.nextId
  let o2 := o1.addVertex { d with side := .negative, normal := nn }
  ({ p0 with pos := { p0.pos with nextVertex := vp }, neg := { p0.neg with nextVertex := vn } }, o2)

end

/-- the two step functions as one parameter (`step_impl` needs more classes, see below) -/
abbrev StepFn (α : Type) := St α → EP α → St α × Bool

section
variable [Transc α]

/-- `close` (called with `count > 2`, so `firsts` has its two entries) -/
def close (step : StepFn α) (st : St α) : St α :=
  match st.firsts with
  | p :: p2 :: _ =>
    let advancement := p.advancement
    let (st1, added) := step st { p with advancement := nan }
    let st2 := if added then st1 else
      match st1.buf.last with
      | some l => st1.setLast { l with position := p.position }
      | none => st1
    let (st3, _) := step st2 p2
    match st3.buf.lastTwo with
    | some (q0, q1) =>
      let (q0', o1) := closeVertices q0 advancement st3.out
      { st3 with out := o1.addTris (addEdgeTriangles q0'.ids q1.ids) }
    | none => st3
  | _ => st

/-- `end(close)` -/
def endSub (e : Env α) (step : StepFn α) (st : St α) (closed : Bool) : St α :=
  let st0 := { st with mayNeedEmptyCap := st.mayNeedEmptyCap || (closed && st.buf.count == 1) }
  let st1 := if closed && st0.buf.count > 2 then close step st0 else endWithCaps e st0
  { st1 with buf := st1.buf.clear, firsts := [] }

end

/-! ## variable line width: compute_edge_attachment_positions, compute_join_side_positions, step_impl -/

/-- `f32::asin` (not in `Transc`) -/
class Asin (α : Type) where
  asin : α → α
instance : Asin Float32 := ⟨Float32.asin⟩
instance : Asin Float := ⟨Float.asin⟩

section
variable [Transc α]

/-- the normal of `compute_side_attachment_positions`; `nl = side_sign(side)` -/
def attachNormal (edgeAngle vwidthAngle nl : α) : P α :=
  let normalAngle := edgeAngle + nl * (Transc.pi * half + vwidthAngle)
  ⟨Transc.cos normalAngle, Transc.sin normalAngle⟩

/-- `compute_edge_attachment_positions(p0, p1)` -/
def edgeAttach [Asin α] (p0 p1 : EP α) : EP α × EP α :=
  let edge := p1.position - p0.position
  let d := len edge
  let edgeAngle := ArcConv.angleFromXAxis edge
  let sinV := (p1.halfWidth - p0.halfWidth) / d
  let a := Asin.asin sinV
  let vwa := if Transc.isNaN a then zero else a
  let np := attachNormal edgeAngle vwa one
  let nn := attachNormal edgeAngle vwa (-one)
  let adv := if Transc.isNaN p1.advancement then p0.advancement + d else p1.advancement
  ({ p0 with pos := { p0.pos with next := p0.position + np.smul p0.halfWidth },
             neg := { p0.neg with next := p0.position + nn.smul p0.halfWidth } },
   { p1 with advancement := adv,
             pos := { p1.pos with prev := p1.position + np.smul p1.halfWidth },
             neg := { p1.neg with prev := p1.position + nn.smul p1.halfWidth } })

def EP.side (e : EP α) (isNeg : Bool) : SideGeom α := if isNeg then e.neg else e.pos
def EP.fold (e : EP α) (isNeg : Bool) : Bool := if isNeg then e.foldNeg else e.foldPos
def EP.setSide (e : EP α) (isNeg : Bool) (s : SideGeom α) : EP α :=
  if isNeg then { e with neg := s } else { e with pos := s }
def EP.setFold (e : EP α) (isNeg : Bool) (b : Bool) : EP α :=
  if isNeg then { e with foldNeg := b } else { e with foldPos := b }

/-- the numbers `compute_join_side_positions` derives -/
structure VwGeo (α : Type) where
  normal : P α
  inward : Bool
  nss : Bool
  fold : Bool

def vwGeo (prev join next : EP α) (isNeg : Bool) : VwGeo α :=
  let sign : α := if isNeg then -one else one
  let v0 := normalize ((join.side isNeg).prev - (prev.side isNeg).next)
  let v1 := normalize ((next.side isNeg).prev - (join.side isNeg).next)
  let inward : Bool := decide (v0.cross v1 * sign > zero)
  let forward : Bool := decide (v0.dot v1 > zero)
  let normal := (computeNormal v0 v1).smul sign
  let pathV0 := normalize (join.position - prev.position)
  let pathV1 := normalize (next.position - join.position)
  let nss : Bool := decide ((v0 + v1).dot (pathV0 + pathV1) ≥ zero)
  let sharp := inward && !forward && nss
  let extruded := normal.smul join.halfWidth
  let prevLength := join.advancement - prev.advancement
  let nextLength := next.advancement - join.advancement
  let dNext := extruded.dot v1 - nextLength
  let dPrev := extruded.dot (-v0) - prevLength
  let fold := sharp && (decide (Scalar.min dNext dPrev ≥ zero) || decide (normal.sqLen < ofSci 1 5))
  ⟨normal, inward, nss, fold⟩

/-- `compute_join_side_positions(prev, join, next, miter_limit, side)` -/
def joinSideVw (ix : Ix α) (prev join next : EP α) (ml : α) (isNeg : Bool) : EP α :=
  let g := vwGeo prev join next isNeg
  let j1 := if g.fold then join.setFold isNeg true else join
  let concave := g.inward && g.nss && !(j1.fold isNeg)
  let s := j1.side isNeg
  let isMiter := join.lineJoin == .miter || join.lineJoin == .miterClip
  if concave || (isMiter && !miterLimitIsExceeded g.normal ml) then
    j1.setSide isNeg { s with single := some (join.position + g.normal.smul join.halfWidth) }
  else if join.lineJoin == .miterClip then
    let c := clipIntersections ix (s.prev - join.position) (s.next - join.position) g.normal (ml * join.halfWidth)
    j1.setSide isNeg { s with prev := join.position + c.1, next := join.position + c.2 }
  else j1

/-- both sides, then "prevent folding when the other side is concave" -/
def joinSidesVw (ix : Ix α) (prev join next : EP α) (ml : α) : EP α :=
  let j1 := joinSideVw ix prev join next ml false
  let j2 := joinSideVw ix prev j1 next ml true
  let j3 := if j2.pos.single.isSome then { j2 with foldNeg := false } else j2
  if j3.neg.single.isSome then { j3 with foldPos := false } else j3

/-- the `count > 1` part of `step_impl`; `next` already went through the edge attachment -/
def vwJoin (e : Env α) (st : St α) (prev join next : EP α) : St α :=
  let count := st.buf.count
  let d := baseVertex join.src join.position join.halfWidth join.advancement
  if fastPath prev join next then
    let r := flattenedStep prev { join with lineJoin := .miter } next d st.out
    if r.skip then ({ st with out := r.out }).setLast r.next
    else
      let o := edgeAndJoin e.o.tolerance count prev r.join { d with advancement := r.join.advancement } r.out
      ({ st.setLast r.join with out := o, firsts := if count == 2 then [prev, r.join] else st.firsts }).push r.next
  else
    let j1 := joinSidesVw e.ix prev join next e.o.miterLimit
    let (j2, o1) := baseVertices j1 d st.out
    let o := edgeAndJoin e.o.tolerance count prev j2 d o1
    ({ st.setLast j2 with out := o, firsts := if count == 2 then [prev, j2] else st.firsts }).push next

/-- `step_impl` -/
def vwStep [Asin α] (e : Env α) (st : St α) (next : EP α) : St α × Bool :=
  let count := st.buf.count
  if st.tooClose e.thr next.position then
    ({ st with mayNeedEmptyCap := st.mayNeedEmptyCap || count == 1 }, false)
  else
    match st.buf.last with
    | none => (st.push next, true)
    | some join0 =>
      let (j', n') := edgeAttach join0 next
      let st1 := st.setLast j'
      match st1.buf.lastTwo with
      | none => (st1.push n', true)
      | some (prev, join) => (vwJoin e st1 prev join n', true)

/-! ## curves: find_sharp_turn, flatten_quad, the callbacks of quadratic_bezier_to / cubic_bezier_to -/

/-- one call of the flattening callback: `(position, t, is_flattening_step)` -/
structure FlatPt (α : Type) where
  pos : P α
  t : α
  isFlat : Bool

variable [FlatConst α]

/-- `find_sharp_turn` -/
def findSharpTurn (q : Quad α) : Option α :=
  let baseline := q.b - q.a
  let v := q.c - q.a
  let n : P α := ⟨-baseline.y, baseline.x⟩
  let vDotB := v.dot baseline
  let vDotN := v.dot n
  let far : Bool := (decide (vDotB ≥ zero) && decide (vDotB ≤ baseline.dot baseline))
    || decide (abs vDotN * two ≥ abs vDotB)
  if far && decide (baseline.sqLen * ofNat 30 > v.sqLen) then none
  else
    let longAxis := if far then v else baseline
    let angle := -(ArcConv.angleFromXAxis longAxis)
    let rotated : Quad α := ⟨⟨zero, zero⟩, Arc.rotate angle v, Arc.rotate angle baseline⟩
    rotated.localXExtremumT

def segPts (l : List (FlatSeg α)) (f : α → α) : List (FlatPt α) :=
  l.map (fun s => ⟨s.b, f s.t1, !(s.t1 == one)⟩)

/-- `flatten_quad`; `none` = `for_each_flattened_with_t` panics (segment count ≥ 2³²) -/
def flattenQuad (q : Quad α) (tol : α) : Option (List (FlatPt α)) :=
  match findSharpTurn q with
  | some ts =>
    match (q.split ts).1.forEachFlattenedWithT tol, (q.split ts).2.forEachFlattenedWithT tol with
    | some l1, some l2 =>
      some (segPts l1 (fun t => t * ts) ++ segPts l2 (fun t => ts + t * (one - ts)))
    | _, _ => none
  | none => (q.forEachFlattenedWithT tol).map (fun l => segPts l id)

/-- the endpoints a quadratic contributes: `src = if t == 1.0 { Endpoint } else { Edge }` -/
def quadPoints (q : Quad α) (tol : α) (fromId toId : Nat) (hwAt : α → α) (lj : LineJoin) : Option (List (EP α)) :=
  (flattenQuad q tol).map (fun l => l.map (fun f =>
    EP.mk' f.pos (hwAt f.t) nan lj (if f.t == one then .endpoint toId else .edge fromId toId f.t) f.isFlat))

/-- the endpoints a cubic contributes: `src = if t.end != 1.0 { Edge } else { Endpoint }` -/
def cubicPoints (c : Cubic α) (tol : α) (fromId toId : Nat) (hwAt : α → α) (lj : LineJoin) : Option (List (EP α)) :=
  (c.forEachFlattenedWithT tol).map (fun l => l.map (fun s =>
    EP.mk' s.b (hwAt s.t1) nan lj (if s.t1 == one then .endpoint toId else .edge fromId toId s.t1) !(s.t1 == one)))

end

/-! ## the f64 round trip of the clip intersections -/

/-- how the stroker intersects two lines: `to_f64()`, `Line::intersection` (`EPSILON = 1e-8`),
`to_f32()` -/
class HasIx (α : Type) where
  ix : Ix α

def w64 (p : P Float32) : P Float := ⟨p.x.toFloat, p.y.toFloat⟩
def n32 (p : P Float) : P Float32 := ⟨p.x.toFloat32, p.y.toFloat32⟩
instance : HasIx Float32 where
  ix p1 v1 p2 v2 :=
    (Lyon.StrokeQuad.lineIntersection (α := Float) (Scalar.ofSci 1 8) (w64 p1) (w64 v1) (w64 p2) (w64 v2)).map n32
instance : HasIx Float where
  ix := Lyon.StrokeQuad.lineIntersection (Scalar.ofSci 1 8)

/-! ## fixed-width entry: `StrokeTessellator::tessellate` → `tessellate_fw` -/

inductive PathEv (α : Type) where
  | begin (at_ : P α)
  | line (to : P α)
  | quad (ctrl to : P α)
  | cubic (ctrl1 ctrl2 to : P α)
  | end_ (close : Bool)

section
variable [Transc α]

def Env.new (o : Opts α) (ix : Ix α) : Env α := ⟨o, squareMergeThreshold o.tolerance o.lineWidth, ix⟩

/-- `self.options.line_width * 0.5` -/
def Env.hwFw (e : Env α) : α := e.o.lineWidth * half

end

/-! ## the event loops: `tessellate_fw`, `tessellate_with_ids_fw`, `tessellate_with_ids_vw`, and the
`PathBuilder` interface of `StrokeBuilder` (`builder` / `builder_with_attributes`) -/

/-- an event with its endpoint id (`IdEvent` + positions; for `StrokeBuilder` the id is the one
`attrib_store.add` returns) -/
inductive IdEv (α : Type) where
  | begin (id : Nat) (at_ : P α)
  | line (id : Nat) (to : P α)
  | quad (ctrl : P α) (id : Nat) (to : P α)
  | cubic (ctrl1 ctrl2 : P α) (id : Nat) (to : P α)
  | end_ (close : Bool)

/-- `tessellate_fw`: the endpoint id counts the Begin / Line / Quadratic / Cubic events
(`prev_id = id - 1` of a curve is the id of the previous event) -/
def assignIds : List (PathEv α) → Nat → List (IdEv α)
  | [], _ => []
  | .begin p :: r, id => .begin id p :: assignIds r (id + 1)
  | .line p :: r, id => .line id p :: assignIds r (id + 1)
  | .quad c p :: r, id => .quad c id p :: assignIds r (id + 1)
  | .cubic c1 c2 p :: r, id => .cubic c1 c2 id p :: assignIds r (id + 1)
  | .end_ c :: r, id => .end_ c :: assignIds r id

section
variable [Transc α] [Asin α] [FlatConst α]

/-- `step` / `fixed_width_step` by `options.variable_line_width` -/
def Env.step (e : Env α) : StepFn α := if e.o.varWidth then vwStep e else fwStep e

/-- `base_width * attributes.get(id)[attrib_index]` -/
def Env.widthOf (e : Env α) (store : Nat → List α) (id : Nat) : α :=
  e.o.lineWidth * (store id).getD e.o.varIdx nan

/-- `half_width` of an endpoint -/
def Env.hwOf (e : Env α) (store : Nat → List α) (id : Nat) : α :=
  if e.o.varWidth then e.widthOf store id * half else e.hwFw

/-- `half_width` inside a curve: `(start_width * (1.0 - t) + end_width * t) * 0.5` -/
def Env.hwAt (e : Env α) (store : Nat → List α) (fromId toId : Nat) (t : α) : α :=
  if e.o.varWidth then (e.widthOf store fromId * (one - t) + e.widthOf store toId * t) * half else e.hwFw

structure Run (α : Type) where
  st : St α
  curId : Nat
  curPos : P α
  /-- a flattening loop panicked (segment count ≥ 2³²) -/
  panicked : Bool

def Run.feed (e : Env α) (r : Run α) (pts : Option (List (EP α))) (id : Nat) (p : P α) : Run α :=
  match pts with
  | none => { r with panicked := true }
  | some l => { r with st := l.foldl (fun s q => (e.step s q).1) r.st, curId := id, curPos := p }

def runEvent (e : Env α) (store : Nat → List α) (r : Run α) : IdEv α → Run α
  | .begin id p =>
    let st0 : St α := { r.st with mayNeedEmptyCap := false }
    let ep := EP.mk' p (e.hwOf store id) r.st.subPathStartAdvancement e.o.join (Src.endpoint id) false
    { r with st := (e.step st0 ep).1, curId := id, curPos := p }
  | .line id p =>
    let ep := EP.mk' p (e.hwOf store id) nan e.o.join (Src.endpoint id) false
    { r with st := (e.step r.st ep).1, curId := id, curPos := p }
  | .quad c id p =>
    r.feed e (quadPoints ⟨r.curPos, c, p⟩ e.o.tolerance r.curId id (e.hwAt store r.curId id) e.o.join) id p
  | .cubic c1 c2 id p =>
    r.feed e (cubicPoints ⟨r.curPos, c1, c2, p⟩ e.o.tolerance r.curId id (e.hwAt store r.curId id) e.o.join) id p
  | .end_ c => { r with st := endSub e e.step r.st c }

def runEvents (e : Env α) (store : Nat → List α) (evs : List (IdEv α)) : Run α :=
  evs.foldl (fun r ev => if r.panicked then r else runEvent e store r ev) ⟨St.new, unset, nanP, false⟩

/-- `tessellate_with_ids` / the `StrokeBuilder` interface -/
def tessellateIds (e : Env α) (store : Nat → List α) (evs : List (IdEv α)) : Option (Out α) :=
  let r := runEvents e store evs
  if r.panicked then none else some r.st.out

/-- `StrokeTessellator::tessellate` → `tessellate_fw` (forces the fixed-width paths) -/
def tessellateFw (e : Env α) (evs : List (PathEv α)) : Option (Out α) :=
  tessellateIds { e with o := { e.o with varWidth := false } } (fun _ => []) (assignIds evs 0)

end

end Lyon.Stroke.Full
