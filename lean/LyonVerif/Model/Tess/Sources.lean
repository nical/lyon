/-
  C07 — where fill vertices come from: the edge records of the fill tessellator's event queue
  and everything that reads or rewrites their `t`-ranges.

  Mirrors (crates/tessellation/src)
  * event_queue.rs  `EdgeData{to, range, winding, is_edge, from_id, to_id}`, `add_edge`,
                    `vertex_event`, `vertex_event_on_curve`, `EventQueueBuilder::{begin,
                    line_segment, end, quadratic_bezier_segment, cubic_bezier_segment}`
                    (the flattening of a curve is an input: a list of pieces `(from, to, t0, t1)`);
  * fill.rs         `remap_t_in_range`, the range bookkeeping of `process_intersection`,
                    `merge_coincident_edges`, the `edges_to_split` branch of
                    `process_edges_above`, `initialize_events`/`update_active_edges` (pending →
                    active), `VertexSourceIterator`, `FillVertex::{as_endpoint_id,
                    interpolated_attributes}`;
  * lib.rs          `VertexSource`.

  The sweep is modelled in `Model/Tess/Sweep.lean`; the functions below are the operations on edge
  RECORDS, each taken by itself.  `Sweep.lean` uses the queue builder, `remapT`, `splitT`, `splitTAtVertex`
  and `isAfter` of this file; the cuts `cutActive` … `splitAtVertex`, `mergeCoincident` are
  stated here once more on records and are not what `Sweep.lean` runs.
  A record stands for the part `range.start .. range.end` of its source edge `from_id → to_id`;
  its event position is the point at `range.start`, `to` the point at `range.end`.

  The model mirrors the code as it is.  Four former defects are repaired in /repo and the model
  mirrors the repaired code: `curveSegment` (fix 8662f1bc: parameters of the original curve for a
  curve flattened from its end), `mergeCoincident` (fix 456c058b: split parameter solved along the
  larger extent), `splitAtVertex` (fix 6bc52f98: the lower part of an edge split at a vertex
  gets its own edge data starting at the split parameter) and `splitTAtVertex` (fix 96af7b62: the
  split parameter of `edges_to_split` stays inside the edge; `splitAtVertex` below still takes `splitT`).

  Mathlib-free.
-/
import LyonVerif.Model.Scalar

namespace Lyon.Sources
open Lyon Lyon.Scalar

variable {α : Type} [Scalar α]

/-- `EdgeData` together with the position of its event. -/
structure EdgeRec (α : Type) where
  pos : P α
  to : P α
  /-- `range.start` -/
  t0 : α
  /-- `range.end` -/
  t1 : α
  winding : Int
  isEdge : Bool
  fromId : Nat
  toId : Nat

/-- fill.rs `is_after`: `a.y > b.y || (a.y == b.y && a.x > b.x)` -/
def isAfter (a b : P α) : Bool :=
  decide (b.y < a.y) || (a.y == b.y && decide (b.x < a.x))

/-- fill.rs `remap_t_in_range(val, range)` with `range = s..e` -/
def remapT (val s e : α) : α :=
  if s < e then s + val * (e - s)
  else e + (one - val) * (s - e)

/-- `point(f32::NAN, f32::NAN)` (only ever printed or compared on floats) -/
def nanPoint : P α := ⟨zero / zero, zero / zero⟩

/-- event_queue.rs `add_edge`: `none` when the edge is degenerate; a downward edge is stored as
is, an upward edge with ends, `t`-range swapped and winding negated. The endpoint ids are never
swapped. -/
def addEdge (a b : P α) (winding : Int) (fromId toId : Nat) (t0 t1 : α) : Option (EdgeRec α) :=
  if a == b then none
  else if isAfter a b then some ⟨b, a, t1, t0, -winding, true, fromId, toId⟩
  else some ⟨a, b, t0, t1, winding, true, fromId, toId⟩

/-- event_queue.rs `vertex_event` -/
def vertexEvent (p : P α) (id : Nat) : EdgeRec α :=
  ⟨p, nanPoint, zero, zero, 0, false, id, id⟩

/-- event_queue.rs `vertex_event_on_curve` -/
def vertexEventOnCurve (p : P α) (t : α) (fromId toId : Nat) : EdgeRec α :=
  ⟨p, nanPoint, t, t, 0, false, fromId, toId⟩

/-! ### `EventQueueBuilder` -/

/-- The builder's state; `recs` holds the stored records, newest first. -/
structure Builder (α : Type) where
  current : P α
  prev : P α
  second : P α
  nth : Nat
  prevId : Nat
  recs : List (EdgeRec α)

def Builder.init : Builder α := ⟨nanPoint, nanPoint, nanPoint, 0, 4294967295, []⟩

/-- push the result of `add_edge` (`nth` counts the stored edges of the sub-path) -/
def Builder.pushEdge (b : Builder α) (e : Option (EdgeRec α)) : Builder α :=
  match e with
  | none => b
  | some r => { b with recs := r :: b.recs, nth := b.nth + 1 }

def Builder.pushRec (b : Builder α) (r : EdgeRec α) : Builder α := { b with recs := r :: b.recs }

/-- `begin(to, to_id)` -/
def Builder.begin (b : Builder α) (p : P α) (id : Nat) : Builder α :=
  { b with nth := 0, current := p, prevId := id }

/-- `line_segment(to, to_id, t0, t1)` -/
def Builder.lineSegment (b : Builder α) (p : P α) (toId : Nat) (t0 t1 : α) : Builder α :=
  let a := b.current
  if a == p then b else
  let b1 := if isAfter a p && decide (0 < b.nth) && isAfter a b.prev
            then b.pushRec (vertexEvent a b.prevId) else b
  let b2 := if b1.nth = 0 then { b1 with second := p } else b1
  let b3 := b2.pushEdge (addEdge a p 1 b2.prevId toId t0 t1)
  { b3 with prev := b3.current, prevId := toId, current := p }

/-- the tail of `end` after the closing `line_segment` -/
def Builder.endTail (b : Builder α) (first : P α) (firstId : Nat) : Builder α :=
  let b1 := if isAfter first b.prev && isAfter first b.second
            then b.pushRec (vertexEvent first firstId) else b
  { b1 with prevId := firstId, nth := 0 }

/-- `end(first, first_endpoint_id)` -/
def Builder.endSub (b : Builder α) (first : P α) (firstId : Nat) : Builder α :=
  if b.nth = 0 then b
  else (b.lineSegment first firstId zero one).endTail first firstId

/-- one piece of a flattened curve: the callback arguments `(line, t)` of
`for_each_flattened_with_t` -/
structure Piece (α : Type) where
  a : P α
  b : P α
  t0 : α
  t1 : α

/-- loop state of the flattening callback in `quadratic_bezier_segment` / `cubic_bezier_segment` -/
structure CurveLoop (α : Type) where
  bld : Builder α
  prev : P α
  first : Option (P α)

/-- the parameter stored for a piece: the flattening's own, or — for a curve flattened from its
end (`needs_swap`, fix 8662f1bc) — `1.0 - t`, the parameter of the original curve -/
def pieceT (needsSwap : Bool) (t : α) : α := if needsSwap then one - t else t

/-- one call of the flattening callback -/
def curveStep (needsSwap : Bool) (winding : Int) (toId : Nat) (s : CurveLoop α) (l : Piece α) :
    CurveLoop α :=
  if l.a == l.b then s else
  let b1 := if s.first.isSome && isAfter l.a l.b && isAfter l.a s.prev
            then s.bld.pushRec (vertexEventOnCurve l.a (pieceT needsSwap l.t0) s.bld.prevId toId)
            else s.bld
  let b2 := b1.pushEdge (addEdge l.a l.b winding b1.prevId toId
    (pieceT needsSwap l.t0) (pieceT needsSwap l.t1))
  ⟨b2, l.a, if s.first.isSome then s.first else some l.b⟩

/-- the part of the curve builders after the flattening loop -/
def curveTail (b0 : Builder α) (s : CurveLoop α) (from_ to : P α) (toId : Nat) (needsSwap : Bool) :
    Builder α :=
  match s.first with
  | none => s.bld
  | some first =>
    let second := if needsSwap then s.prev else first
    let previous := if needsSwap then first else s.prev
    let b1 := if b0.nth = 0 then { s.bld with second := second }
              else if isAfter from_ s.bld.prev && isAfter from_ second
              then s.bld.pushRec (vertexEvent from_ s.bld.prevId) else s.bld
    { b1 with prev := previous, current := to, prevId := toId }

/-- `quadratic_bezier_segment` / `cubic_bezier_segment`: the curve is flattened from its upper
end (`needs_swap`: the flattening of the FLIPPED curve is used, winding −1), and the pieces are
stored with the parameters of the ORIGINAL curve (`1 - t` of the flipped flattening, since fix
8662f1bc) and the endpoint ids `prev_endpoint_id → to_id` of the original curve.
`flat` / `flatFlipped`: the flattening of the curve / of the flipped curve. -/
def Builder.curveSegment (b : Builder α) (to : P α) (toId : Nat) (flat flatFlipped : List (Piece α)) :
    Builder α :=
  let from_ := b.current
  let needsSwap := isAfter from_ to
  let start := if needsSwap then to else from_
  let s := (if needsSwap then flatFlipped else flat).foldl
    (curveStep needsSwap (if needsSwap then -1 else 1) toId) ⟨b, start, none⟩
  curveTail b s from_ to toId needsSwap

/-! ### The sweep's edges: pending (`PendingEdge`) and active (`ActiveEdge`) -/

/-- `PendingEdge{to, src_edge, winding, range_end}` starting at the current position; `src` is the
current content of `edge_data[src_edge]`. -/
structure Pending (α : Type) where
  to : P α
  src : EdgeRec α
  winding : Int
  rangeEnd : α

/-- `ActiveEdge{from, to, winding, src_edge, range_end}` -/
structure Active (α : Type) where
  from_ : P α
  to : P α
  winding : Int
  src : EdgeRec α
  rangeEnd : α

/-- `initialize_events`: an edge record of the current event becomes a pending edge -/
def pendingOf (r : EdgeRec α) : Pending α := ⟨r.to, r, r.winding, r.t1⟩

/-- `update_active_edges`: a pending edge becomes active, starting at the current position -/
def activate (cur : P α) (p : Pending α) : Active α := ⟨cur, p.to, p.winding, p.src, p.rangeEnd⟩

/-- `process_intersection`, active edge, general case (`current_position ≠ intersection`): the
edge is truncated at `ip`; the cut-off part becomes a new record (flipped when `ip` is after
the edge's lower end). -/
def cutActive (a : Active α) (ta : α) (ip : P α) : Active α × Option (EdgeRec α) :=
  if a.to == ip || a.from_ == ip then (a, none) else
  let remapped := remapT ta a.src.t0 a.rangeEnd
  let r : EdgeRec α :=
    if isAfter a.to ip then ⟨ip, a.to, remapped, a.rangeEnd, a.winding, true, a.src.fromId, a.src.toId⟩
    else ⟨a.to, ip, a.rangeEnd, remapped, -a.winding, true, a.src.fromId, a.src.toId⟩
  ({ a with to := ip, rangeEnd := remapped }, some r)

/-- `process_intersection`, the new edge below the current position -/
def cutBelow (cur : P α) (b : Pending α) (tb : α) (ip : P α) : Pending α × Option (EdgeRec α) :=
  if b.to == ip || cur == ip then (b, none) else
  let remapped := remapT tb b.src.t0 b.rangeEnd
  let r : EdgeRec α :=
    if isAfter b.to ip then ⟨ip, b.to, remapped, b.rangeEnd, b.winding, true, b.src.fromId, b.src.toId⟩
    else ⟨b.to, ip, b.rangeEnd, remapped, -b.winding, true, b.src.fromId, b.src.toId⟩
  ({ b with to := ip, rangeEnd := remapped }, some r)

/-- `process_intersection`, `current_position == intersection_position`: the active edge now
starts at the intersection and its source record's `range.start` is rewritten. -/
def touchActive (a : Active α) (ta : α) (ip : P α) : Active α :=
  { a with from_ := ip, src := { a.src with t0 := remapT ta a.src.t0 a.rangeEnd } }

/-- lyon_geom `LineSegment::solve_t_for_y` -/
def solveTForY (a b : P α) (y : α) : α :=
  if b.y - a.y == zero then zero else (y - a.y) / (b.y - a.y)

/-- lyon_geom `LineSegment::solve_t_for_x` -/
def solveTForX (a b : P α) (x : α) : α :=
  if b.x - a.x == zero then zero else (x - a.x) / (b.x - a.x)

/-- the split parameter of `merge_coincident_edges`: solved along the larger extent of the edge
(fix 456c058b; before: always `solve_t_for_y`) -/
def splitT (cur dest splitPoint : P α) : α :=
  if abs (dest.y - cur.y) < abs (dest.x - cur.x) then solveTForX cur dest splitPoint.x
  else solveTForY cur dest splitPoint.y

/-- the split parameter of `process_edges_above` (`edges_to_split`) since lyon fix "split parameters stay
inside the edge": along the larger extent of the edge, but along x only when that parameter is in `[0,1]`
(`is_edge_connecting` accepts a vertex up to the threshold beyond the x-extent of a flat edge); otherwise
at the vertex's own y, clamped (`solve_t_for_y(..).max(0.0).min(1.0)`) -/
def splitTAtVertex (from_ to cur : P α) : α :=
  if abs (to.y - from_.y) < abs (to.x - from_.x) then
    (if zero ≤ solveTForX from_ to cur.x ∧ solveTForX from_ to cur.x ≤ one then solveTForX from_ to cur.x
     else Scalar.min (Scalar.max (solveTForY from_ to cur.y) zero) one)
  else solveTForY from_ to cur.y

/-- `process_edges_above`, `edges_to_split`: the current position lies on the active edge. The
upper part ends here; the lower part is pushed as a pending edge with its OWN edge data
(`push_unlinked`, fix 6bc52f98): a copy of the source record whose `range.start` is the split
parameter — here `splitT`, located along the larger extent of the active edge (lyon since 96af7b62 and
`Sweep.splitEdge` take `splitTAtVertex`, the same number wherever `splitT` is in `[0,1]`) — remapped into the record's
range. (Before the fix the lower part shared the source record and kept its stale `range.start`.) -/
def splitAtVertex (cur : P α) (a : Active α) : Active α × Pending α :=
  let t := splitT a.from_ a.to cur
  let src : EdgeRec α := { a.src with pos := cur, t0 := remapT t a.src.t0 a.rangeEnd }
  ({ a with to := cur }, ⟨a.to, src, a.winding, a.rangeEnd⟩)

/-- `merge_coincident_edges` (`split = true`): the longer of two coincident pending edges is
removed and its part beyond the shorter one's end `splitPoint` becomes a new record. -/
def mergeCoincident (cur : P α) (lower : Pending α) (splitPoint : P α) : EdgeRec α :=
  let t := splitT cur lower.to splitPoint
  ⟨splitPoint, lower.to, remapT t lower.src.t0 lower.rangeEnd, lower.rangeEnd, lower.winding, true,
    lower.src.fromId, lower.src.toId⟩

/-! ### `VertexSource`, `VertexSourceIterator`, `FillVertex` -/

inductive Source (α : Type) where
  | endpoint (id : Nat)
  | edge (fromId toId : Nat) (t : α)

/-- derived `PartialEq` of `VertexSource` -/
def Source.beq : Source α → Source α → Bool
  | .endpoint a, .endpoint b => a == b
  | .edge a b t, .edge c d u => a == c && b == d && t == u
  | _, _ => false

/-- the source a record stands for (`VertexSourceIterator::next`, body of the loop) -/
def sourceOf (r : EdgeRec α) : Source α :=
  if r.t0 == zero then .endpoint r.fromId
  else if r.t0 == one then .endpoint r.toId
  else .edge r.fromId r.toId r.t0

/-- `VertexSourceIterator` over a sibling list: consecutive equal sources are reported once -/
def sourcesFrom : Option (Source α) → List (EdgeRec α) → List (Source α)
  | _, [] => []
  | prev, r :: rs =>
    match prev with
    | none => sourceOf r :: sourcesFrom (some (sourceOf r)) rs
    | some p =>
      if Source.beq (sourceOf r) p then sourcesFrom prev rs
      else sourceOf r :: sourcesFrom (some (sourceOf r)) rs

/-- `FillVertex::sources()` -/
def sources (rs : List (EdgeRec α)) : List (Source α) := sourcesFrom none rs

/-- `FillVertex::as_endpoint_id()` -/
def asEndpointId : List (EdgeRec α) → Option Nat
  | [] => none
  | r :: rs =>
    if r.t0 == zero then some r.fromId
    else if r.t0 == one then some r.toId
    else asEndpointId rs

/-- what one source contributes to attribute `i`: the endpoint's value, or
`a[i] * (1.0 - t) + b[i] * t` -/
def srcAttr (store : Nat → Nat → α) (i : Nat) : Source α → α
  | .endpoint id => store id i
  | .edge f t u => store f i * (one - u) + store t i * u

/-- `FillVertex::interpolated_attributes()`, component `i` (`store id i` = attribute `i` of
endpoint `id`): single-endpoint fast path, otherwise the contributions are accumulated in source
order and divided by their number (`div` is counted in floats, as in the code). -/
def interpAttr (store : Nat → Nat → α) (rs : List (EdgeRec α)) (i : Nat) : α :=
  match sources rs with
  | [] => zero
  | [.endpoint id] => store id i
  | first :: rest =>
    let acc := rest.foldl (fun b s => b + srcAttr store i s) (srcAttr store i first)
    let div := rest.foldl (fun d _ => d + one) (one : α)
    if one < div then acc / div else acc

end Lyon.Sources
