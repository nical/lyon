/-
  `crates/algorithms/src/measure.rs`: `PathMeasurements` as an OBJECT WITH A HISTORY.

  `Model/Algo/Measure.lean` models a freshly built table (`Measure.mk` = `from_path`).  The real
  object is meant to be cached and re-used ("it is usually a good idea to cache and reuse it"):
  `initialize` / `initialize_with_path` / `initialize_with_path_slice` recycle the two `Vec`s of an
  object that was initialised before with any other path.  This file models exactly that:

  * `PM`              — `PathMeasurements { events, edges }`, the two `Vec`s (all that survives);
  * `vtake`/`vclear`/`vextend`/`vpush` — the `Vec` operations `initialize` uses
                        (`core::mem::take`, `clear`, `extend`, `push`);
  * `pushEdges`       — the `for (index, event) in events …` loop of `initialize`, PUSHING onto
                        whatever vector it is handed (the accumulator is the recycled `edges`);
  * `PM.initialize`   — `initialize` line by line on a used object;
  * `PM.fromPath`     — `from_path` / `from_path_slice` / `from_iter` (`empty()` + `initialize`);
  * `PM.sampler`      — `create_sampler_with_attributes` / `create_sampler` (the latter's attribute
                        store is `()`: no attributes, every `attributes.get(id)` is `&[]`);
  * `Init`/`PM.replay` — a whole life of one object: the list of paths it was initialised with.

  `Props/C19b.lean` proves `measure_initialize_fresh`: initialising ANY used object equals
  `from_path` (the table is a function of path and tolerance only).

  Mathlib-free.
-/
import LyonVerif.Model.Algo.Measure

namespace Lyon.Measure
open Lyon Scalar

variable {α : Type} [Scalar α]

/-! ## the `Vec` operations used by `initialize` -/

/-- `core::mem::take(&mut v)`: the value moved out (`self.v` is left empty, and is overwritten at the
end of `initialize`) -/
def vtake {β : Type} (v : List β) : List β := v

/-- `Vec::clear` -/
def vclear {β : Type} (_ : List β) : List β := []

/-- `Vec::extend` -/
def vextend {β : Type} (v : List β) (xs : List β) : List β := v ++ xs

/-- `Vec::push` -/
def vpush {β : Type} (v : List β) (x : β) : List β := v ++ [x]

/-- `PathMeasurements`: the two vectors -/
structure PM (α : Type) where
  events : List (Ev α)
  edges : List (Edge α)

/-- `PathMeasurements::empty()` -/
def PM.empty : PM α := ⟨[], []⟩

/-- the pushes of a flattened curve onto `edges`:
`distance += line.length(); edges.push(Edge { distance, index, t: t.end })` per flattened line -/
def pushManyOnto (edges : List (Edge α)) : α → Nat → List (α × α) → List (Edge α)
  | _, _, [] => edges
  | d, i, (l, t) :: r => pushManyOnto (vpush edges ⟨d + l, i, t⟩) (d + l) i r

/-- the loop `for (index, event) in events.iter().cloned().enumerate() { match event { … } }` of
`initialize`, pushing onto the vector `edges` it was handed; running distance `d`, event index `i` -/
def pushEdges (edges : List (Edge α)) : α → Nat → List (Step α) → List (Edge α)
  | _, _, [] => edges
  | d, i, .skip :: r => pushEdges edges d (i+1) r
  | d, i, .mark :: r => pushEdges (vpush edges ⟨d, i, one⟩) d (i+1) r
  | d, i, .add l :: r => pushEdges (vpush edges ⟨d + l, i, one⟩) (d + l) (i+1) r
  | d, i, .many es :: r => pushEdges (pushManyOnto edges d i es) (sumMany d es) (i+1) r

/-- `events = take(self.events); events.clear(); events.extend(path)` -/
def refillEvents (old : List (Ev α)) (path : List (Ev α)) : List (Ev α) :=
  vextend (vclear (vtake old)) path

/-- `edges = take(self.edges); edges.clear()` -/
def recycleEdges (old : List (Edge α)) : List (Edge α) := vclear (vtake old)

/-- `PathMeasurements::initialize(path, position_store, tolerance)` on a USED object:
```
let tolerance = tolerance.max(1e-4);
let mut events = take(&mut self.events); events.clear(); events.extend(path);
let mut edges = take(&mut self.edges);   edges.clear();
let mut distance = 0.0;
for (index, event) in events.iter().cloned().enumerate() { … edges.push(…) … }
self.events = events; self.edges = edges;
``` -/
def PM.initialize [Transc α] [FlatConst α] (self : PM α) (path : List (Ev α)) (tolerance : α) : PM α :=
  ⟨refillEvents self.events path,
   pushEdges (recycleEdges self.edges) zero 0
     ((refillEvents self.events path).map (stepOf (Scalar.max tolerance (ofSci 1 4))))⟩

/-- `from_path` / `from_path_slice` / `from_iter`: `let mut m = Self::empty(); m.initialize(…); m` -/
def PM.fromPath [Transc α] [FlatConst α] (tolerance : α) (cmds : List (Cmd α)) : PM α :=
  PM.empty.initialize (evsOf cmds) tolerance

/-- `initialize_with_path` → `initialize_with_path_slice` → `initialize(path.id_iter(), &path, tol)` -/
def PM.initializeWithPath [Transc α] [FlatConst α] (self : PM α) (tolerance : α) (cmds : List (Cmd α)) :
    PM α := self.initialize (evsOf cmds) tolerance

/-- `PathMeasurements::length` -/
def PM.length (self : PM α) : α := Measure.length self.edges

/-- an event as seen through the attribute store `()` of `create_sampler`: `get(id)` is `&[]` -/
def Ev.noAttrs : Ev α → Ev α
  | .begin p _ => .begin p []
  | .line f t _ _ => .line f t [] []
  | .quad f c t _ _ => .quad f c t [] []
  | .cubic f c1 c2 t _ _ => .cubic f c1 c2 t [] []
  | .end_ l f _ _ cl => .end_ l f [] [] cl

/-- what a sampler sees: `create_sampler_with_attributes(&path, &path, ty)` (attribute buffer of
`nattr` floats) or `create_sampler(&path, ty)` (store `()`, empty buffer) -/
def PM.sampler (self : PM α) (nattr : Nat) (withAttrs : Bool) : M α :=
  if withAttrs then ⟨self.events, self.edges, nattr⟩
  else ⟨self.events.map Ev.noAttrs, self.edges, 0⟩

/-! ## a whole life of one object -/

/-- one initialisation: tolerance and path -/
structure Init (α : Type) where
  tolerance : α
  cmds : List (Cmd α)

/-- the object after being initialised, in turn, with every path of `hist` -/
def PM.replay [Transc α] [FlatConst α] (self : PM α) : List (Init α) → PM α
  | [] => self
  | h :: r => PM.replay (self.initializeWithPath h.tolerance h.cmds) r

end Lyon.Measure
