/-
  `crates/algorithms/src/measure.rs` (and `length.rs`): several sub-paths, closed/open, zero-length
  edges, single-point sub-paths, line / quadratic / cubic segments.

  Layout mirrors the Rust code:

  * `Step`/`init1`        — the 1-D core of `PathMeasurements::initialize`: the running `distance`
                            and the pushes into the edge table (lengths are given numbers here);
  * `initTable`           — the 2-D wrapper computing the lengths with `sqrt`;
  * `length`, `inBounds`, `fwdLin`, `bwdLin`, `partPt`, `floorLog2`, `heurFwd`, `heurBwd`,
    `moveCursorWith`, `moveCursor`, `tParam` — `PathSampler::{length, in_bounds, move_cursor, t}`;
    the float heuristic only selects between the linear scan and the binary search, so
    `moveCursorWith` takes the two selections as arguments and `moveCursor` supplies the heuristic;
  * `sampleImpl`, `sampleZeroLength`, `toSegment`, `interp` — `sample_impl` & co;
    the `unreachable!()` after the dispatch is the explicit outcome `SampleOut.panic`;
  * `splitPieces` (1-D: which event segments, which parameter ranges), `addSegment`,
    `splitRange` — `split_range` and what it sends to its output builder, as a `Path.Call` trace;
  * `step` — the sampler as a state machine `cursor → Query → cursor × Output`.

  Curved segments: `initialize` flattens them through `for_each_flattened_with_t`, taken from
  C09's model (`Model/Geom/Flatten.lean`); `sample_impl` / `split_range` evaluate and split them
  with C10's `Quad`/`Cubic` operations (`SegW`).  They are part of the executable model and of the
  tie (family `curved`); the theorems that read the table against the event lengths are stated for
  straight entries or polyline paths (`Ev.isPoly` / `Step.isPoly`), monotonicity of the table and the
  cursor/search/split-trace/length theorems for every table.

  Mathlib-free.
-/
import LyonVerif.Model.Scalar
import LyonVerif.Model.Path.Trace
import LyonVerif.Model.Geom.Flatten

namespace Lyon.Measure
open Lyon Scalar

variable {α : Type} [Scalar α]

/-! ## Events of a measured path (what `path.id_iter()` + the position/attribute stores give) -/

inductive Ev (α : Type) where
  | begin (at_ : P α) (a : List α)
  | line (from_ to : P α) (af at_ : List α)
  | quad (from_ ctrl to : P α) (af at_ : List α)
  | cubic (from_ ctrl1 ctrl2 to : P α) (af at_ : List α)
  | end_ (last first : P α) (al af : List α) (close : Bool)
deriving Inhabited

/-- builder commands of the measured path (`begin`, `line_to`, the two curve calls, `end(close)`) -/
inductive Cmd (α : Type) where
  | begin (p : P α) (a : List α)
  | line (p : P α) (a : List α)
  | quad (c p : P α) (a : List α)
  | cubic (c1 c2 p : P α) (a : List α)
  | end_ (close : Bool)

/-- the events `Path::id_iter` yields for a command list; `st = (first, firstAttrs, cur, curAttrs)` -/
def evsFrom : P α × List α × P α × List α → List (Cmd α) → List (Ev α)
  | _, [] => []
  | _, .begin p a :: r => .begin p a :: evsFrom (p, a, p, a) r
  | (f, fa, c, ca), .line p a :: r => .line c p ca a :: evsFrom (f, fa, p, a) r
  | (f, fa, c, ca), .quad k p a :: r => .quad c k p ca a :: evsFrom (f, fa, p, a) r
  | (f, fa, c, ca), .cubic k1 k2 p a :: r => .cubic c k1 k2 p ca a :: evsFrom (f, fa, p, a) r
  | (f, fa, c, ca), .end_ cl :: r => .end_ c f ca fa cl :: evsFrom (f, fa, c, ca) r

def evsOf (cmds : List (Cmd α)) : List (Ev α) :=
  evsFrom (⟨zero, zero⟩, [], ⟨zero, zero⟩, []) cmds

/-! ## Edge table -/

structure Edge (α : Type) where
  distance : α
  index : Nat
  t : α

def Edge.zero : Edge α := ⟨Scalar.zero, 0, Scalar.zero⟩

/-- What one event does to the table: nothing (`End {close: false}`), push the running distance
unchanged (`Begin`), add a length and push (`Line`, `End {close: true}`), or — for a curve — push
one entry per flattened line: `(line.length(), t.end)` each, all with the event's index. -/
inductive Step (α : Type) where
  | skip
  | mark
  | add (len : α)
  | many (entries : List (α × α))

def Step.isPoly : Step α → Bool
  | .many _ => false
  | _ => true

/-- the entries a flattened curve pushes: `distance += line.length(); push(distance, index, t.end)` -/
def pushMany : α → Nat → List (α × α) → List (Edge α)
  | _, _, [] => []
  | d, i, (l, t) :: r => ⟨d + l, i, t⟩ :: pushMany (d + l) i r

/-- the running distance after them -/
def sumMany : α → List (α × α) → α
  | d, [] => d
  | d, (l, _) :: r => sumMany (d + l) r

/-- 1-D core of `initialize`: running distance `d`, event index `i`. -/
def init1 : α → Nat → List (Step α) → List (Edge α)
  | _, _, [] => []
  | d, i, .skip :: r => init1 d (i+1) r
  | d, i, .mark :: r => ⟨d, i, one⟩ :: init1 d (i+1) r
  | d, i, .add l :: r => ⟨d + l, i, one⟩ :: init1 (d + l) (i+1) r
  | d, i, .many es :: r => pushMany d i es ++ init1 (sumMany d es) (i+1) r

/-- euclid `Vector2D::length` -/
def vlen [Transc α] (v : P α) : α := Transc.sqrt (v.x * v.x + v.y * v.y)

/-- euclid `Vector2D::normalize`: `self / self.length()` -/
def normalize [Transc α] (v : P α) : P α := v.sdiv (vlen v)

/-- `(line.length(), t.end)` of the lines `for_each_flattened_with_t` emits (C09's model of the
flattening; `none` there is the `to_u32().unwrap()` panic on a non-finite count, not reachable
from finite input) -/
def flatEntries [Transc α] (l : Option (List (FlatSeg α))) : List (α × α) :=
  (l.getD []).map (fun s => (vlen (s.b - s.a), s.t1))

/-- what one event does, at flattening tolerance `tol` (already `tolerance.max(1e-4)`) -/
def stepOf [Transc α] [FlatConst α] (tol : α) : Ev α → Step α
  | .begin _ _ => .mark
  | .line f t _ _ => .add (vlen (f - t))
  | .quad f c t _ _ => .many (flatEntries (Quad.forEachFlattenedWithT ⟨f, c, t⟩ tol))
  | .cubic f c1 c2 t _ _ => .many (flatEntries (Cubic.forEachFlattenedWithT ⟨f, c1, c2, t⟩ tol))
  | .end_ l f _ _ true => .add (vlen (l - f))
  | .end_ _ _ _ _ false => .skip

def Ev.isPoly : Ev α → Bool
  | .quad _ _ _ _ _ => false
  | .cubic _ _ _ _ _ _ => false
  | _ => true

/-- `PathMeasurements::initialize` (edge table) -/
def initTable [Transc α] [FlatConst α] (tol : α) (evs : List (Ev α)) : List (Edge α) :=
  init1 zero 0 (evs.map (stepOf tol))

/-- `QuadraticBezierSegment::length` (closed form ported from kurbo, with the Legendre-Gauss
branch for almost straight curves), as of /repo 7d678f98: `<=` test (a point has length 0),
quadrature weights applied to differences, `sqrt(a+b+c)` computed as `|to − ctrl|`, `2a+b` as
`2 d2·(to − ctrl)`, sharp-turn test relative to `c2`, guarded logarithm (`¬ (0 < num)` is true for
a NaN `num`, as `!(num > S::ZERO)` in Rust); `S::value(x)` literals are `f32` literals.
Same expression tree as `Quad.length` (`Model/Geom/Length.lean`). -/
def quadLength [Transc α] [FlatConst α] (q : Quad α) : α :=
  let d2 := q.a - q.c.smul two + q.b
  let d1 := q.c - q.a
  let d3 := q.b - q.c
  let a := d2.x * d2.x + d2.y * d2.y
  let c := d1.x * d1.x + d1.y * d1.y
  if a ≤ FlatConst.value 1 4 * c then
    let k1 : α := FlatConst.value 430331482911935 15
    let k2 : α := FlatConst.value 626120363218102 16
    let chord := q.b - q.a
    vlen (d1.smul k1 + chord.smul k2)
      + vlen (chord.smul (FlatConst.value 4444444444444444 16))
      + vlen (d3.smul k1 + chord.smul k2)
  else
    let b := two * (d2.x * d1.x + d2.y * d1.y)
    let sqrAbc := vlen d3
    let a2 := Transc.pow a (-half)
    let c2 := two * Transc.sqrt c
    let baC2 := b * a2 + c2
    let num := two * (d2.x * d3.x + d2.y * d3.y) * a2 + two * sqrAbc
    let v0 := half * half * a2 * a2 * b * (two * sqrAbc - c2) + sqrAbc
    if baC2 ≤ FlatConst.epsilon * c2 ∨ ¬ (zero < num) then v0
    else v0 + half * half * ((four * c * a - b * b) * a2 * a2 * a2) * Transc.ln (num / baC2)

/-- `CubicBezierSegment::approximate_length(tolerance)`: the lengths of the approximating quadratics -/
def cubicApproxLength [Transc α] [FlatConst α] (c : Cubic α) (tol : α) : α :=
  (c.forEachQuadraticWithT tol).foldl (fun l q => l + quadLength q.1) zero

/-- the loop of `length.rs: approximate_length` (`tol` already `tolerance.max(1e-4)`) -/
def approxLengthFrom [Transc α] [FlatConst α] (tol : α) : α → List (Ev α) → α
  | l, [] => l
  | l, .line f t _ _ :: r => approxLengthFrom tol (l + vlen (t - f)) r
  | l, .quad f c t _ _ :: r => approxLengthFrom tol (l + quadLength ⟨f, c, t⟩) r
  | l, .cubic f c1 c2 t _ _ :: r => approxLengthFrom tol (l + cubicApproxLength ⟨f, c1, c2, t⟩ tol) r
  | l, .end_ la fi _ _ true :: r => approxLengthFrom tol (l + vlen (fi - la)) r
  | l, _ :: r => approxLengthFrom tol l r

/-- `length.rs: approximate_length(path, tolerance)` -/
def approxLength [Transc α] [FlatConst α] (tolerance : α) (evs : List (Ev α)) : α :=
  approxLengthFrom (Scalar.max tolerance (ofSci 1 4)) zero evs

/-- the path with every curve replaced by the lines of its flattening (what `initialize` measures) -/
def flattenEvs [Transc α] [FlatConst α] (tol : α) : List (Ev α) → List (Ev α)
  | [] => []
  | .quad f c t af at_ :: r =>
    ((Quad.forEachFlattenedWithT ⟨f, c, t⟩ tol).getD []).map (fun s => Ev.line s.a s.b af at_)
      ++ flattenEvs tol r
  | .cubic f c1 c2 t af at_ :: r =>
    ((Cubic.forEachFlattenedWithT ⟨f, c1, c2, t⟩ tol).getD []).map (fun s => Ev.line s.a s.b af at_)
      ++ flattenEvs tol r
  | e :: r => e :: flattenEvs tol r

/-! ## Cursor search (1-D) -/

def eAt (es : List (Edge α)) (i : Nat) : Edge α := es.getD i Edge.zero
def dAt (es : List (Edge α)) (i : Nat) : α := (eAt es i).distance

/-- `PathMeasurements::length` / `PathSampler::length` -/
def length (es : List (Edge α)) : α :=
  if es.isEmpty then zero else dAt es (es.length - 1)

/-- `in_bounds` -/
def inBounds (es : List (Edge α)) (c : Nat) (dist : α) : Prop :=
  c ≠ 0 ∧ dAt es (c - 1) ≤ dist ∧ dist ≤ dAt es c

instance (es : List (Edge α)) (c : Nat) (dist : α) : Decidable (inBounds es c dist) :=
  inferInstanceAs (Decidable (_ ∧ _ ∧ _))

/-- forward linear scan: `loop { cursor += 1; if dist <= edges[cursor].distance { break } }`.
Fuel = number of remaining table entries; running out of fuel is the index-out-of-bounds panic
of the Rust code (the returned cursor is then `≥ edges.len()`). -/
def fwdLin (es : List (Edge α)) (dist : α) : Nat → Nat → Nat
  | 0, c => c + 1
  | fuel+1, c => if dist ≤ dAt es (c + 1) then c + 1 else fwdLin es dist fuel (c + 1)

/-- backward linear scan:
`loop { cursor -= 1; if cursor == 0 || edges[cursor - 1].distance < dist { break } }`
(argument = cursor before the decrement; `0` is the underflow of the Rust code). -/
def bwdLin (es : List (Edge α)) (dist : α) : Nat → Nat
  | 0 => 0
  | c+1 => if c = 0 ∨ dAt es (c - 1) < dist then c else bwdLin es dist c

/-- the local `partition_point(first, last, pred)`; fuel ≥ last − first suffices -/
def partPt (pred : Nat → Bool) : Nat → Nat → Nat → Nat
  | 0, l, _ => l
  | fuel+1, l, r =>
    if l < r then
      (if pred ((l + r) / 2) then partPt pred fuel ((l + r) / 2 + 1) r
       else partPt pred fuel l ((l + r) / 2))
    else l

/-- `floor_log2` (for `num ≥ 1`) -/
def floorLog2 (n : Nat) : Nat := Nat.log2 n

/-- `(dist - start) / len * (num as f32) < floor_log2(num) as f32`, forward direction -/
def heurFwd (es : List (Edge α)) (c : Nat) (dist : α) : Bool :=
  decide ((dist - dAt es c) / (length es - dAt es c) * ofNat (es.length - c - 1)
    < ofNat (floorLog2 (es.length - c - 1)))

/-- `(start - dist) / len * (num as f32) < floor_log2(num) as f32`, backward direction -/
def heurBwd (es : List (Edge α)) (c : Nat) (dist : α) : Bool :=
  decide ((dAt es c - dist) / dAt es c * ofNat (c + 1) < ofNat (floorLog2 (c + 1)))

def ltPred (es : List (Edge α)) (dist : α) (p : Nat) : Bool := decide (dAt es p < dist)

def searchFwd (lin : Bool) (es : List (Edge α)) (c : Nat) (dist : α) : Nat :=
  if lin then fwdLin es dist (es.length - c - 1) c
  else partPt (ltPred es dist) es.length (c + 1) es.length

def searchBwd (lin : Bool) (es : List (Edge α)) (c : Nat) (dist : α) : Nat :=
  if lin then bwdLin es dist c
  else partPt (ltPred es dist) (c + 1) 0 c

/-- the `dist == 0.0` branch of `move_cursor` (as repaired by /repo commit 72673fa5):
`cursor = 1; while cursor + 1 < edges.len() && edges[cursor].distance == 0.0 { cursor += 1 }` —
rest on the first entry of non-zero length.  Fuel `edges.len()` suffices. -/
def zeroScan (es : List (Edge α)) : Nat → Nat → Nat
  | 0, c => c
  | fuel+1, c => if c + 1 < es.length ∧ (dAt es c == zero) = true then zeroScan es fuel (c + 1) else c

/-- `move_cursor`, with the two branch selections (`linF`: forward scan is linear, `linB`:
backward scan is linear) as parameters -/
def moveCursorWith (linF linB : Bool) (es : List (Edge α)) (c : Nat) (dist : α) : Nat :=
  if dist == zero then zeroScan es es.length 1
  else if inBounds es c dist then c
  else if dAt es c < dist then searchFwd linF es c dist
  else searchBwd linB es c dist

/-- `move_cursor` as it runs: branches selected by the float heuristic -/
def moveCursor (es : List (Edge α)) (c : Nat) (dist : α) : Nat :=
  moveCursorWith (heurFwd es c dist) (heurBwd es c dist) es c dist

def tBegin (es : List (Edge α)) (c : Nat) : α :=
  if (eAt es (c - 1)).index = (eAt es c).index then (eAt es (c - 1)).t else zero

/-- `PathSampler::t` -/
def tParam (es : List (Edge α)) (c : Nat) (dist : α) : α :=
  tBegin es c + ((eAt es c).t - tBegin es c)
    * ((dist - dAt es (c - 1)) / (dAt es c - dAt es (c - 1)))

/-! ## Sampling -/

inductive SampleOut (α : Type) where
  | ok (pos tan : P α) (attrs : List α)
  | panic

/-- `interpolate_attributes`: `from[i] * (1.0 - t) + to[i] * t` -/
def interp (a b : List α) (t : α) : List α :=
  List.zipWith (fun x y => x * (one - t) + y * t) a b

def nan : α := (zero : α) / zero

structure M (α : Type) where
  evs : List (Ev α)
  edges : List (Edge α)
  nattr : Nat

/-- `PathMeasurements::from_path(path, tolerance)`: `tolerance.max(1e-4)` -/
def mk [Transc α] [FlatConst α] (nattr : Nat) (tolerance : α) (cmds : List (Cmd α)) : M α :=
  ⟨evsOf cmds, initTable (Scalar.max tolerance (ofSci 1 4)) (evsOf cmds), nattr⟩

def evAt (m : M α) (i : Nat) : Ev α := m.evs.getD i (.end_ ⟨zero, zero⟩ ⟨zero, zero⟩ [] [] false)

/-- `SegmentWrapper` (without `Empty`) -/
inductive SegW (α : Type) where
  | line (s : Seg α)
  | quad (q : Quad α)
  | cubic (c : Cubic α)

def SegW.sample : SegW α → α → P α
  | .line s, t => s.sample t
  | .quad q, t => q.sample t
  | .cubic c, t => c.sample t

def SegW.derivative : SegW α → α → P α
  | .line s, _ => s.toVector
  | .quad q, t => q.derivative t
  | .cubic c, t => c.derivative t

/-- `SegmentWrapper::split(range)` -/
def SegW.split : SegW α → α → α → SegW α
  | .line s, a, b => .line (s.splitRange a b)
  | .quad q, a, b => .quad (q.splitRange a b)
  | .cubic c, a, b => .cubic (c.splitRange a b)

def SegW.start : SegW α → P α
  | .line s => s.a
  | .quad q => q.a
  | .cubic c => c.a

/-- `to_segment`: the segment with the attributes of its two endpoints, or `Empty` (`none`) -/
def toSegment : Ev α → Option (SegW α × List α × List α)
  | .line f t af at_ => some (.line ⟨f, t⟩, af, at_)
  | .quad f c t af at_ => some (.quad ⟨f, c, t⟩, af, at_)
  | .cubic f c1 c2 t af at_ => some (.cubic ⟨f, c1, c2, t⟩, af, at_)
  | .end_ l f al af true => some (.line ⟨l, f⟩, al, af)
  | _ => none

/-- `sample_zero_length` -/
def sampleZeroLength (m : M α) : SampleOut α :=
  match m.evs with
  | .begin p a :: _ => .ok p ⟨zero, zero⟩ a
  | _ => .ok ⟨nan, nan⟩ ⟨nan, nan⟩ (List.replicate m.nattr nan)

/-- the dispatch at the end of `sample_impl`, with `unreachable!()` as `panic` -/
def sampleOn [Transc α] (m : M α) (c : Nat) (t : α) : SampleOut α :=
  match toSegment (evAt m (eAt m.edges c).index) with
  | some (sg, af, at_) => .ok (sg.sample t) (normalize (sg.derivative t)) (interp af at_ t)
  | none => .panic

/-- `dist *= length` (normalized), `dist.max(0.0).min(length)` -/
def clampDist (normalized : Bool) (len dist : α) : α :=
  Scalar.min (Scalar.max (if normalized then dist * len else dist) zero) len

/-- `sample_impl`: new cursor and result -/
def sampleImpl [Transc α] (m : M α) (c : Nat) (normalized : Bool) (dist : α) : Nat × SampleOut α :=
  if length m.edges == zero then (c, sampleZeroLength m)
  else
    (moveCursor m.edges c (clampDist normalized (length m.edges) dist),
     sampleOn m (moveCursor m.edges c (clampDist normalized (length m.edges) dist))
       (tParam m.edges (moveCursor m.edges c (clampDist normalized (length m.edges) dist))
         (clampDist normalized (length m.edges) dist)))

/-! ## split_range -/

/-- the clamped range of `split_range` -/
def splitStart (normalized : Bool) (len a : α) : α :=
  Scalar.min (Scalar.max (if normalized then a * len else a) zero) len

def splitEnd (normalized : Bool) (len a b : α) : α :=
  Scalar.min (Scalar.max (if normalized then b * len else b)
    (Scalar.max (if normalized then a * len else a) zero)) len

/-- one `add_segment` call: event index and optional parameter range -/
structure Piece (α : Type) where
  seg : Nat
  range : Option (α × α)

/-- 1-D content of `split_range` after the first sample: cursors `p1` (at `start`) and `p2`
(at `end`), and the `add_segment` calls that follow -/
def splitPieces (es : List (Edge α)) (p1 p2 : Nat) (s e : α) : List (Piece α) :=
  if (eAt es p1).index = (eAt es p2).index then
    [⟨(eAt es p1).index, some (tParam es p1 s, tParam es p2 e)⟩]
  else
    ⟨(eAt es p1).index, some (tParam es p1 s, one)⟩
      :: ((List.range' ((eAt es p1).index + 1) ((eAt es p2).index - ((eAt es p1).index + 1))).map
            (fun i => (⟨i, none⟩ : Piece α)))
      ++ [⟨(eAt es p2).index, some (zero, tParam es p2 e)⟩]

abbrev Call (α : Type) := Path.Call (P α) (List α)

/-- `obtain_attrs!(pair, k)` -/
def obtainAttrs (range : Option (α × α)) (af at_ : List α) (which : Bool) : List α :=
  match range with
  | some (_, e) => if e == one then (if which then at_ else af) else interp af at_ e
  | none => if which then at_ else af

def isEdgeEv : Ev α → Bool
  | .line _ _ _ _ => true
  | .quad _ _ _ _ _ => true
  | .cubic _ _ _ _ _ _ => true
  | _ => false

/-- `match range { Some(range) => segment.split(range), None => segment }` -/
def applyRange (range : Option (α × α)) (sg : SegW α) : SegW α :=
  match range with
  | some (t0, t1) => sg.split t0 t1
  | none => sg

/-- `dest.line_to / quadratic_bezier_to / cubic_bezier_to` of the (split) segment -/
def SegW.edgeCall : SegW α → List α → Call α
  | .line s, a => .line s.b a
  | .quad q, a => .quad q.c q.b a
  | .cubic c, a => .cubic c.c1 c.c2 c.b a

def segCalls (inSub : Bool) (range : Option (α × α)) (sg : SegW α) (af at_ : List α) : List (Call α) :=
  (if inSub then [] else
    [.end_ false, .begin (applyRange range sg).start (obtainAttrs range af at_ false)])
    ++ [(applyRange range sg).edgeCall (obtainAttrs range af at_ true)]

/-- `add_segment`: calls sent to the builder and the new `is_in_subpath` -/
def addSegment (m : M α) (p : Piece α) (inSub : Bool) : List (Call α) × Bool :=
  (match toSegment (evAt m p.seg) with
   | some (sg, af, at_) => segCalls inSub p.range sg af at_
   | none => [],
   isEdgeEv (evAt m p.seg))

def addSegments (m : M α) : List (Piece α) → Bool → List (Call α)
  | [], _ => []
  | p :: r, inSub => (addSegment m p inSub).1 ++ addSegments m r (addSegment m p inSub).2

inductive SplitOut (α : Type) where
  | ok (calls : List (Call α))
  | panic

/-- the part of `split_range` after the first `sample_impl` succeeded at cursor `p1` -/
def splitTail (m : M α) (p1 : Nat) (pos : P α) (attrs : List α) (s e : α) : Nat × SplitOut α :=
  (moveCursor m.edges p1 e,
   .ok (.begin pos attrs
     :: (addSegments m (splitPieces m.edges p1 (moveCursor m.edges p1 e) s e) true
          ++ [.end_ false])))

/-- `split_range`: new cursor and the calls sent to the output builder -/
def splitRange [Transc α] (m : M α) (c : Nat) (normalized : Bool) (a b : α) : Nat × SplitOut α :=
  if splitStart normalized (length m.edges) a < splitEnd normalized (length m.edges) a b then
    match sampleImpl m c false (splitStart normalized (length m.edges) a) with
    | (p1, .ok pos _ attrs) =>
      splitTail m p1 pos attrs (splitStart normalized (length m.edges) a)
        (splitEnd normalized (length m.edges) a b)
    | (p1, .panic) => (p1, .panic)
  else (c, .ok [])

/-! ## The sampler as a state machine -/

inductive Query (α : Type) where
  | sample (d : α)
  | split (a b : α)

inductive Output (α : Type) where
  | sample (o : SampleOut α)
  | split (o : SplitOut α)

def step [Transc α] (m : M α) (normalized : Bool) (c : Nat) : Query α → Nat × Output α
  | .sample d => ((sampleImpl m c normalized d).1, .sample (sampleImpl m c normalized d).2)
  | .split a b => ((splitRange m c normalized a b).1, .split (splitRange m c normalized a b).2)

def Output.isPanic : Output α → Bool
  | .sample .panic => true
  | .split .panic => true
  | _ => false

/-- run a query sequence on one sampler; stops after a panic (as the harness does) -/
def run [Transc α] (m : M α) (normalized : Bool) : Nat → List (Query α) → List (Output α)
  | _, [] => []
  | c, q :: r =>
    (step m normalized c q).2 ::
      (if (step m normalized c q).2.isPanic then [] else run m normalized (step m normalized c q).1 r)

end Lyon.Measure
