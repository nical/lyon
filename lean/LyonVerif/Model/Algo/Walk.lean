/-
  `crates/algorithms/src/walk.rs`: `PathWalker::{with_attributes, edge, begin, line_to,
  quadratic_bezier_to, cubic_bezier_to, end}`, `RegularPattern`, `RepeatedPattern`,
  `walk_along_path` (which wraps the walker in `NoAttributes` = 0 attributes).  Curves are
  flattened through C09's model of `for_each_flattened_with_t`.

  * `Pat`       — a pattern as the sequence of its answers: the `k`-th call of `Pattern::next`
                  returns `next k` (`none` = stop).  `RegularPattern` and `RepeatedPattern`
                  (with a callback that stops after a number of events) are instances.
  * `W1`/`edgeLoop` — the 1-D core of `PathWalker::edge` (the `while distance >= next_distance`
                  loop with its leftover arithmetic); fuel-driven, and the result says whether
                  the fuel ran out (the Rust loop has no bound: see `walker_needs_positive`).
  * `W`/`edge`/`pieces`/`pathEvent`/`walkFrom`/`walk` — the 2-D walker on top of it.

  Mathlib-free.
-/
import LyonVerif.Model.Scalar
import LyonVerif.Model.Algo.Measure

namespace Lyon.Walk
open Lyon Scalar

variable {α : Type} [Scalar α]

/-- `Pattern::next` as a function of the number of calls made so far -/
abbrev Pat (α : Type) := Nat → Option α

/-- `RegularPattern { interval }` whose callback returns `false` at its `cap`-th call (0-based) -/
def regular (interval : α) (cap : Nat) : Pat α := fun k => if k < cap then some interval else none

/-- `RepeatedPattern { intervals, index }`, callback stopping as above.
(`index % intervals.len()` panics on an empty slice in Rust; the driver never sends one.) -/
def repeated (intervals : List α) (index cap : Nat) : Pat α := fun k =>
  if k < cap then some (intervals.getD ((index + k) % intervals.length) zero) else none

/-- 1-D walker state -/
structure W1 (α : Type) where
  advancement : α
  leftover : α
  nextDistance : α
  done : Bool
  /-- number of `Pattern::next` calls so far -/
  k : Nat

/-- one callback: position parameter `x` on the current edge and `WalkerEvent::distance` -/
structure Hit (α : Type) where
  x : α
  distance : α
  /-- number of this callback (0-based; not observable, used to state the theorems) -/
  k : Nat
  /-- `next_distance` and `distance` when the callback was issued: the attribute interpolation of
  `PathWalker::edge` is `t2 = t.end * next_distance / distance` -/
  nd : α
  dist : α

structure LoopOut (α : Type) where
  w : W1 α
  hits : List (Hit α)
  /-- the fuel ran out while `distance >= next_distance` still held -/
  fuelOut : Bool

def consHit (h : Hit α) (r : LoopOut α) : LoopOut α := ⟨r.w, h :: r.hits, r.fuelOut⟩

/-- the `while distance >= self.next_distance { … }` loop of `PathWalker::edge` and the two
assignments after it; `invD = 1/d` -/
def edgeLoop (pat : Pat α) (invD : α) : Nat → W1 α → α → α → LoopOut α
  | 0, w, distance, _ =>
    if w.nextDistance ≤ distance then ⟨w, [], true⟩
    else ⟨{ w with leftover := distance }, [], false⟩
  | fuel+1, w, distance, x =>
    if w.nextDistance ≤ distance then
      match pat w.k with
      | some nd =>
        consHit ⟨x + (w.nextDistance - w.leftover) * invD, w.advancement + w.nextDistance, w.k,
            w.nextDistance, distance⟩
          (edgeLoop pat invD fuel
            ⟨w.advancement + w.nextDistance, zero, nd, false, w.k + 1⟩
            (distance - w.nextDistance) (x + (w.nextDistance - w.leftover) * invD))
      | none =>
        ⟨⟨w.advancement + w.nextDistance, zero, w.nextDistance, true, w.k + 1⟩,
          [⟨x + (w.nextDistance - w.leftover) * invD, w.advancement + w.nextDistance, w.k,
            w.nextDistance, distance⟩], false⟩
    else ⟨{ w with leftover := distance }, [], false⟩

/-- 1-D `edge`: an edge of length `d` (`d < 1e-5` is skipped) -/
def edge1 (pat : Pat α) (fuel : Nat) (w : W1 α) (d : α) : LoopOut α :=
  if d < ofSci 1 5 then ⟨w, [], false⟩
  else edgeLoop pat (one / d) fuel w (w.leftover + d) zero

def walk1Cons (o : LoopOut α) (rest : List (List (Hit α)) × W1 α × Bool) :
    List (List (Hit α)) × W1 α × Bool := (o.hits :: rest.1, rest.2.1, rest.2.2)

/-- walk a whole sequence of edge lengths (1-D `walk_along_path`): hits per edge, final state,
and whether the fuel ran out -/
def walk1 (pat : Pat α) (fuel : Nat) : W1 α → List α → List (List (Hit α)) × W1 α × Bool
  | w, [] => ([], w, false)
  | w, d :: r =>
    if w.done then ([], w, false)
    else if (edge1 pat fuel w d).fuelOut then ([(edge1 pat fuel w d).hits], (edge1 pat fuel w d).w, true)
    else walk1Cons (edge1 pat fuel w d) (walk1 pat fuel (edge1 pat fuel w d).w r)

/-! ## 2-D walker (`PathWalker`, with custom attributes and curves) -/

variable [Transc α] [FlatConst α]

structure W (α : Type) where
  prev : P α
  first : P α
  core : W1 α
  needMoveto : Bool
  prevAttrs : List α
  firstAttrs : List α

/-- `WalkerEvent` -/
structure WEvent (α : Type) where
  position : P α
  tangent : P α
  distance : α
  attributes : List α

/-- `PathWalker::with_attributes(num_attributes, start, …)` -/
def init (nattr : Nat) (start : α) : W α :=
  ⟨⟨zero, zero⟩, ⟨zero, zero⟩, ⟨zero, zero, Scalar.max start zero, false, 0⟩, true,
   List.replicate nattr zero, List.replicate nattr zero⟩

def lastPos (dflt : P α) : List (WEvent α) → P α
  | [] => dflt
  | [e] => e.position
  | _ :: r => lastPos dflt r

/-- `PathWalker::edge(to, t, attributes, pos_cb)`: the 1-D loop, the callback positions through
`pos_cb`, and the attribute buffer exactly as the code fills it:
`prev_attributes[i] * (1 - t2) + attributes[i] * t2` with `t2 = t.end * next_distance / distance`
(this is NOT the interpolation at the visited point once an edge carries a leftover or a second
callback — the property does not speak about walker attributes; the tie pins the behaviour). -/
def edge (pat : Pat α) (fuel : Nat) (w : W α) (to : P α) (tEnd : α) (attrs : List α)
    (posCb : α → P α × P α) : W α × List (WEvent α) × Bool :=
  let o := edge1 pat fuel w.core (Measure.vlen (to - w.prev))
  let evs := o.hits.map (fun h =>
    (⟨(posCb h.x).1, (posCb h.x).2, h.distance,
      Measure.interp w.prevAttrs attrs (tEnd * h.nd / h.dist)⟩ : WEvent α))
  if Measure.vlen (to - w.prev) < ofSci 1 5 then (w, [], false)
  else ({ w with core := o.w, prev := if o.w.done then lastPos w.prev evs else to }, evs, o.fuelOut)

/-- the callback of `line_to` / `end(close)`: `(LineSegment{from,to}.sample(x), tangent)` -/
def lineCb (frm to : P α) (x : α) : P α × P α := (frm.lerp to x, Measure.normalize (to - frm))

/-- the callback of `quadratic_bezier_to` for the flattened piece `t0..t1` -/
def quadCb (q : Quad α) (t0 t1 x : α) : P α × P α :=
  (q.sample (t0 + x * (t1 - t0)), Measure.normalize (q.derivative (t0 + x * (t1 - t0))))

def cubicCb (c : Cubic α) (t0 t1 x : α) : P α × P α :=
  (c.sample (t0 + x * (t1 - t0)), Measure.normalize (c.derivative (t0 + x * (t1 - t0))))

/-- the closure passed to `for_each_flattened_with_t`: `if !self.done { self.edge(line.to, t, …) }`
for each flattened piece in turn -/
def pieces (pat : Pat α) (fuel : Nat) (attrs : List α) (cb : α → α → α → P α × P α) :
    W α → List (FlatSeg α) → W α × List (WEvent α) × Bool
  | w, [] => (w, [], false)
  | w, s :: r =>
    if w.core.done then (w, [], false)
    else
      let o := edge pat fuel w s.b s.t1 attrs (cb s.t0 s.t1)
      if o.2.2 then o
      else
        let rest := pieces pat fuel attrs cb o.1 r
        (rest.1, o.2.1 ++ rest.2.1, rest.2.2)

inductive PEv (α : Type) where
  | begin (at_ : P α) (a : List α)
  | line (to : P α) (a : List α)
  | quad (ctrl to : P α) (a : List α)
  | cubic (ctrl1 ctrl2 to : P α) (a : List α)
  | end_ (close : Bool)

/-- `begin` / `line_to` / `quadratic_bezier_to` / `cubic_bezier_to` / `end(close)`;
`tol` is the walker's flattening tolerance (used as given, no clamping) -/
def pathEvent (pat : Pat α) (fuel : Nat) (tol : α) (w : W α) : PEv α → W α × List (WEvent α) × Bool
  | .begin p a =>
    ({ w with needMoveto := false, first := p, prev := p, prevAttrs := a, firstAttrs := a }, [], false)
  | .line to a =>
    let r := edge pat fuel w to one a (lineCb w.prev to)
    ({ r.1 with prevAttrs := a }, r.2.1, r.2.2)
  | .quad c to a =>
    let r := pieces pat fuel a (quadCb ⟨w.prev, c, to⟩) w
      ((Quad.forEachFlattenedWithT ⟨w.prev, c, to⟩ tol).getD [])
    ({ r.1 with prevAttrs := a }, r.2.1, r.2.2)
  | .cubic c1 c2 to a =>
    let r := pieces pat fuel a (cubicCb ⟨w.prev, c1, c2, to⟩) w
      ((Cubic.forEachFlattenedWithT ⟨w.prev, c1, c2, to⟩ tol).getD [])
    ({ r.1 with prevAttrs := a }, r.2.1, r.2.2)
  | .end_ true =>
    let r := edge pat fuel w w.first one w.firstAttrs (lineCb w.prev w.first)
    ({ r.1 with needMoveto := true }, r.2.1, r.2.2)
  | .end_ false => (w, [], false)

/-- `walk_along_path` (and, with attributes, the same loop over `PathWalker::with_attributes`) -/
def walkFrom (pat : Pat α) (fuel : Nat) (tol : α) : W α → List (PEv α) → List (WEvent α) × Bool
  | _, [] => ([], false)
  | w, e :: r =>
    let o := pathEvent pat fuel tol w e
    if o.2.2 then (o.2.1, true)
    else if o.1.core.done then (o.2.1, false)
    else
      let rest := walkFrom pat fuel tol o.1 r
      (o.2.1 ++ rest.1, rest.2)

def walk (pat : Pat α) (fuel : Nat) (nattr : Nat) (tol start : α) (evs : List (PEv α)) :
    List (WEvent α) × Bool :=
  walkFrom pat fuel tol (init nattr start) evs

end Lyon.Walk
