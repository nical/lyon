/-
  Intersection queries of `crates/geom/src/{line,quadratic_bezier,cubic_bezier,utils,triangle}.rs`,
  mirrored expression by expression (operand order included: the tie is bit-level).

  NaN-free normal form: wherever the Rust code relies on `x/0`, `inf`, `NaN` comparisons being
  false, the model has an explicit branch producing the same observable result; each such branch
  is marked `-- IEEE:` with the reasoning.

  `cubic_bezier_intersections.rs` (fat-line clipping) is modelled in `Model/Geom/Clip.lean`.

  Names: the box / triangle / range helpers this file needs carry the prefix `Ix` / `ix`
  (`IxBox`, `IxTri`, `ixMinMax`, `Seg.ixBoundingRangeX/Y`, `Seg.ixBoundingBox`,
  `Quad.ixFastBoundingBox`, `Cubic.ixFastBoundingBox`): `Model/Geom/Extrema.lean` (C11) declares
  `Lyon.Box`, `Lyon.Tri`, `Lyon.minMax`, … for the same Rust items with other function sets, and
  the two files must be importable together (the C08 driver links the sweep model, which imports
  this file, next to the complete stroker model, which imports Extrema.lean).
-/
import LyonVerif.Model.Geom.Basic

namespace Lyon
open Scalar

/-- `num_traits::Float::signum` (`1` for `+0`/positive, `-1` for `-0`/negative, NaN for NaN). -/
class Sgn (α : Type) where
  signum : α → α

/-- lyon's `Scalar::EPSILON` and `Scalar::epsilon_for` (NOT the machine epsilon). -/
class Eps (α : Type) where
  epsilon : α
  epsilonFor : α → α

instance : Sgn Float32 where
  signum x := if x.isNaN then x else if (x.toBits >>> 31) == 1 then -1 else 1
instance : Sgn Float where
  signum x := if x.isNaN then x else if (x.toBits >>> 63) == 1 then -1 else 1

/-- `impl Scalar for f32`: `EPSILON = 1e-4`; `epsilon_for` matches on `reference.abs() as i32`.
(Before fix b6989654 the arm `5096..=65535` left `4096..=5095` to `_ => 1.0`.) -/
instance : Eps Float32 where
  epsilon := Float32.ofScientific 1 true 4
  epsilonFor r :=
    let n := Transc.toNat (Float32.abs r)
    if n ≤ 7 then Float32.ofScientific 1 true 5
    else if n ≤ 1023 then Float32.ofScientific 1 true 3
    else if n ≤ 4095 then Float32.ofScientific 1 true 2
    else if 4096 ≤ n ∧ n ≤ 65535 then Float32.ofScientific 1 true 1
    else if 65536 ≤ n ∧ n ≤ 8388607 then 0.5
    else 1.0

/-- `impl Scalar for f64`: `EPSILON = 1e-8`; `epsilon_for` matches on `reference.abs() as i64`. -/
instance : Eps Float where
  epsilon := Float.ofScientific 1 true 8
  epsilonFor r :=
    let n := Transc.toNat (Float.abs r)
    if n ≤ 65535 then Float.ofScientific 1 true 8
    else if n ≤ 8388607 then Float.ofScientific 1 true 5
    else if n ≤ 4294967295 then Float.ofScientific 1 true 3
    else Float.ofScientific 1 true 1

variable {α : Type} [Scalar α]

/-! ## `Line`, `LineEquation`, `Box2D` -/

structure Line (α : Type) where
  point : P α
  vector : P α

/-- `LineEquation { a, b, c }` (normalised: `a² + b² = 1` up to rounding) -/
structure LineEq (α : Type) where
  a : α
  b : α
  c : α

structure IxBox (α : Type) where
  min : P α
  max : P α

/-- `utils::min_max` -/
def ixMinMax (a b : α) : α × α := if a < b then (a, b) else (b, a)

namespace IxBox
/-- `Box2D::inflate(w, h)` -/
def inflate (b : IxBox α) (w h : α) : IxBox α := ⟨⟨b.min.x - w, b.min.y - h⟩, ⟨b.max.x + w, b.max.y + h⟩⟩
/-- `Box2D::intersects` (strict) -/
def intersects (b o : IxBox α) : Bool :=
  decide (b.min.x < o.max.x) && decide (b.max.x > o.min.x)
    && decide (b.min.y < o.max.y) && decide (b.max.y > o.min.y)
end IxBox

/-- `LineEquation::new`: `div = 1/sqrt(a*a + b*b)`; `(a*div, b*div, c*div)` -/
def LineEq.new [Transc α] (a b c : α) : LineEq α :=
  let div := one / Transc.sqrt (a * a + b * b)
  ⟨a * div, b * div, c * div⟩

namespace Line
/-- `Line::equation` -/
def equation [Transc α] (l : Line α) : LineEq α :=
  let a := -l.vector.y
  let b := l.vector.x
  let c := -(a * l.point.x + b * l.point.y)
  LineEq.new a b c

def det (l o : Line α) : α := l.vector.cross o.vector

/-- the point computed by `Line::intersection` once the determinant test passed -/
def ixPoint (l o : Line α) : P α :=
  let inv_det := one / det l o
  let self_p2 := l.point + l.vector
  let other_p2 := o.point + o.vector
  let a := l.point.cross self_p2
  let b := o.point.cross other_p2
  ⟨(b * l.vector.x - a * o.vector.x) * inv_det, (b * l.vector.y - a * o.vector.y) * inv_det⟩

/-- `Line::intersection` -/
def intersection [Eps α] (l o : Line α) : Option (P α) :=
  if Scalar.abs (det l o) ≤ Eps.epsilon then none else some (ixPoint l o)
end Line

/-! ## `LineSegment` queries -/

namespace Seg

def toLine (s : Seg α) : Line α := ⟨s.a, s.b - s.a⟩
def ixBoundingRangeX (s : Seg α) : α × α := ixMinMax s.a.x s.b.x
def ixBoundingRangeY (s : Seg α) : α × α := ixMinMax s.a.y s.b.y
def ixBoundingBox (s : Seg α) : IxBox α :=
  ⟨⟨(ixBoundingRangeX s).1, (ixBoundingRangeY s).1⟩, ⟨(ixBoundingRangeX s).2, (ixBoundingRangeY s).2⟩⟩

/-- the four endpoint comparisons at the top of `intersection_t`, in the code's order -/
def sharesEndpoint (s o : Seg α) : Bool :=
  s.b == o.b || s.a == o.a || s.a == o.b || s.b == o.a

variable [Sgn α]

/-- `v1_cross_v2` -/
def ixDet (s o : Seg α) : α := s.toVector.cross o.toVector
/-- `t` before the postponed division: `v3.cross(v2) * sign_v1_cross_v2` -/
def ixT (s o : Seg α) : α := (o.a - s.a).cross o.toVector * Sgn.signum (ixDet s o)
/-- `u` before the postponed division: `v3.cross(v1) * sign_v1_cross_v2` -/
def ixU (s o : Seg α) : α := (o.a - s.a).cross s.toVector * Sgn.signum (ixDet s o)

/-- `LineSegment::intersection_t` -/
def intersectionT (s o : Seg α) : Option (α × α) :=
  if sharesEndpoint s o then none
  else if ixDet s o == zero then none
  else if ixT s o < zero ∨ ixT s o > Scalar.abs (ixDet s o)
        ∨ ixU s o < zero ∨ ixU s o > Scalar.abs (ixDet s o) then none
  else some (ixT s o / Scalar.abs (ixDet s o), ixU s o / Scalar.abs (ixDet s o))

/-- `LineSegment::intersection` -/
def intersection (s o : Seg α) : Option (P α) :=
  match intersectionT s o with
  | none => none
  | some (t, _) => some (s.sample t)

/-- `LineSegment::intersects` -/
def intersects (s o : Seg α) : Bool := (intersectionT s o).isSome

def lineDet (s : Seg α) (l : Line α) : α := s.toVector.cross l.vector
def lineT (s : Seg α) (l : Line α) : α := (l.point - s.a).cross l.vector * Sgn.signum (lineDet s l)

/-- `LineSegment::line_intersection_t` -/
def lineIntersectionT (s : Seg α) (l : Line α) : Option α :=
  if lineDet s l == zero then none
  else if lineT s l < zero ∨ lineT s l > Scalar.abs (lineDet s l) then none
  else some (lineT s l / Scalar.abs (lineDet s l))

/-- `LineSegment::line_intersection` -/
def lineIntersection (s : Seg α) (l : Line α) : Option (P α) :=
  match lineIntersectionT s l with
  | none => none
  | some t => some (s.sample t)

/-- `LineSegment::intersects_line` -/
def intersectsLine (s : Seg α) (l : Line α) : Bool := (lineIntersectionT s l).isSome

/-- `axis_aligned_intersection_1d` after the swap (`a ≤ b` unless NaN) -/
def axis1dCore (a b v : α) (swap : Bool) : Option α :=
  if b - a == zero then none
  else if (v - a) / (b - a) < zero ∨ (v - a) / (b - a) > one then none
  else some (if swap then one - (v - a) / (b - a) else (v - a) / (b - a))

/-- `LineSegment::axis_aligned_intersection_1d` -/
def axis1d (a b v : α) : Option α :=
  if a > b then axis1dCore b a v true else axis1dCore a b v false

def horizontalLineIntersectionT (s : Seg α) (y : α) : Option α := axis1d s.a.y s.b.y y
def verticalLineIntersectionT (s : Seg α) (x : α) : Option α := axis1d s.a.x s.b.x x

end Seg

/-! ## Quadratic × line / segment -/

/-- push `t` if `t >= 0 && t <= 1` -/
def inUnit (t : α) : Bool := decide (t ≥ zero) && decide (t ≤ one)

namespace Quad
variable [Sgn α] [Transc α]

def ixFastBoundingBox (q : Quad α) : IxBox α :=
  ⟨⟨Scalar.min (Scalar.min q.a.x q.c.x) q.b.x, Scalar.min (Scalar.min q.a.y q.c.y) q.b.y⟩,
   ⟨Scalar.max (Scalar.max q.a.x q.c.x) q.b.x, Scalar.max (Scalar.max q.a.y q.c.y) q.b.y⟩⟩

/-- `i`, `j`, `k`: the control points injected in `a·x + b·y` -/
def liI (q : Quad α) (e : LineEq α) : α := e.a * q.a.x + e.b * q.a.y
def liJ (q : Quad α) (e : LineEq α) : α := e.a * q.c.x + e.b * q.c.y
def liK (q : Quad α) (e : LineEq α) : α := e.a * q.b.x + e.b * q.b.y
/-- `a = i - j - j + k` -/
def liA (q : Quad α) (e : LineEq α) : α := liI q e - liJ q e - liJ q e + liK q e
/-- `b = j + j - i - i` -/
def liB (q : Quad α) (e : LineEq α) : α := liJ q e + liJ q e - liI q e - liI q e
/-- `c = i + eqn.c()` -/
def liC (q : Quad α) (e : LineEq α) : α := liI q e + e.c

def qDelta (a b c : α) : α := b * b - four * a * c
/-- `t1 = (-b + (-b.signum() * sqrt_delta)) / (2a)` -/
def qT1 (a b c : α) : α := (-b + -(Sgn.signum b) * Transc.sqrt (qDelta a b c)) / (two * a)
/-- `t2 = c / (a * t1)` -/
def qT2 (a b c : α) : α := c / (a * qT1 a b c)

/-- the two pushes after the (already performed) swap -/
def qPush (t1 t2 : α) : List α :=
  (if inUnit t1 then [t1] else []) ++ (if inUnit t2 && !(t1 == t2) then [t2] else [])

/-- The root computation of `line_intersections_t` on the coefficients `a`, `b`, `c`.
The linear branch solves `bt + c = 0` as `-c / b` (since fix 37d6f3b8; before it computed
`c / b`: parabola (0,0) (1,1) (2,0) against the line x = 1/2 returned nothing, against x = -1/2
returned t = 1/4 whose point (1/2, 3/8) is not on the line). -/
def solve (a b c : α) : List α :=
  if a == zero then
    -- IEEE: `b == 0` gives `t = -c/0 ∈ {±inf, NaN}`, not pushed; the fall-through computes
    -- `delta = 0`, `t1 = 0/0 = NaN`: nothing pushed.  `b ≠ 0` and `t` outside [0,1]: the
    -- fall-through has `delta = b²`, `t1 = -2b/0 = ±inf`, `t2 = c/(0·inf) = NaN`: nothing pushed.
    if b == zero then []
    else if inUnit (-c / b) then [-c / b] else []
  else if qDelta a b c ≥ zero then
    -- IEEE: `t1 == 0` gives `t2 = c/(a·0) ∈ {±inf, NaN}`; whichever way the swap goes exactly
    -- the zero is pushed.
    if qT1 a b c == zero then [qT1 a b c]
    else if qT1 a b c > qT2 a b c then qPush (qT2 a b c) (qT1 a b c)
    else qPush (qT1 a b c) (qT2 a b c)
  else []

/-- `QuadraticBezierSegment::line_intersections_t` -/
def lineIntersectionsT (q : Quad α) (l : Line α) : List α :=
  -- IEEE: a zero line vector makes `LineEquation::new` produce NaNs (`0 · 1/0`), every
  -- comparison is false and nothing is pushed.
  if l.vector.x == zero && l.vector.y == zero then []
  else solve (liA q l.equation) (liB q l.equation) (liC q l.equation)

/-- `QuadraticBezierSegment::line_intersections` -/
def lineIntersections (q : Quad α) (l : Line α) : List (P α) :=
  (lineIntersectionsT q l).map q.sample

end Quad

/-- the part of `line_segment_intersections_t` after the bounding-box test, shared by the
quadratic and the cubic version: `x`/`y`/`sample` are the curve's evaluation functions -/
def segFilter [Transc α] (cx cy : α → α) (csample : α → P α) (s : Seg α) (ts : List α) :
    List (α × α) :=
  let vertical : Bool := decide (Scalar.abs (s.a.y - s.b.y) ≥ Scalar.abs (s.a.x - s.b.x))
  let rng := if vertical then s.ixBoundingRangeY else s.ixBoundingRangeX
  ts.filterMap fun t =>
    let xy := if vertical then cy t else cx t
    if xy ≥ rng.1 ∧ xy ≤ rng.2 then
      let t2 := Transc.sqrt (csample t - s.a).sqLen / s.length
      if (!(t == zero) && !(t == one)) || (!(t2 == zero) && !(t2 == one)) then some (t, t2)
      else none
    else none

/-- `QuadraticBezierSegment::line_segment_intersections_t` -/
def Quad.lineSegmentIntersectionsT [Sgn α] [Transc α] [Eps α] (q : Quad α) (s : Seg α) :
    List (α × α) :=
  if !((q.ixFastBoundingBox.inflate Eps.epsilon Eps.epsilon).intersects
        (s.ixBoundingBox.inflate Eps.epsilon Eps.epsilon)) then []
  else segFilter q.x q.y q.sample s (q.lineIntersectionsT s.toLine)

/-! ## `utils::cubic_polynomial_roots` -/

namespace Roots
variable [Sgn α] [Transc α] [Eps α]

/-- `epsilon = S::epsilon_for(max(|a|,|b|,|c|,|d|))` -/
def eps (a b c d : α) : α :=
  Eps.epsilonFor
    (Scalar.max (Scalar.max (Scalar.max (Scalar.abs a) (Scalar.abs b)) (Scalar.abs c)) (Scalar.abs d))

/-- `delta = c*c - 4*b*d` of the quadratic branch -/
def qdelta (b c d : α) : α := c * c - four * b * d

/-- quadratic branch (`|a| < epsilon`, `|b| ≥ epsilon`): `b x² + c x + d` -/
def quadratic (e b c d : α) : List α :=
  if qdelta b c d > zero then
    [(-c - Transc.sqrt (qdelta b c d)) / (two * b), (-c + Transc.sqrt (qdelta b c d)) / (two * b)]
  else if Scalar.abs (qdelta b c d) < e then [-c / (two * b)]
  else []

/-- `frac_1_3 = 1/3` -/
def frac13 : α := one / three
/-- `(3*cn - bn*bn) / 9` -/
def delta0 (bn cn : α) : α := (three * cn - bn * bn) / nine
/-- `(9*bn*cn - 27*dn - 2*bn*bn*bn) / 54` -/
def delta1 (bn cn dn : α) : α :=
  (nine * bn * cn - ofNat 27 * dn - two * bn * bn * bn) / ofNat 54
/-- `delta0³ + delta1²` -/
def delta01 (d0 d1 : α) : α := d0 * d0 * d0 + d1 * d1
/-- `x.signum() * |x|.powf(1/3)` -/
def cbrtS (x : α) : α := Sgn.signum x * Transc.pow (Scalar.abs x) frac13

/-- the cube root that does not cancel: of `delta1 + sqrt(delta_01)` when `delta1 >= 0`, of
`delta1 - sqrt(delta_01)` otherwise (since fix 7006df58; before, both `s` and `t` were computed
as cube roots, one of them of a cancelled difference — witness f64 cubic (0,0) (0.0001,1)
(0.0002,2) (100,3) against the line x = 50: x(t) = 50.000238) -/
def cBig (d0 d1 : α) : α :=
  if d1 ≥ zero then cbrtS (d1 + Transc.sqrt (delta01 d0 d1))
  else cbrtS (d1 - Transc.sqrt (delta01 d0 d1))
/-- the other one, from `s * t = -delta0` (`0` when the first is `0`) -/
def cOther (d0 d1 : α) : α :=
  if cBig d0 d1 == zero then zero else -d0 / cBig d0 d1
def cS (d0 d1 : α) : α := if d1 ≥ zero then cBig d0 d1 else cOther d0 d1
def cT (d0 d1 : α) : α := if d1 ≥ zero then cOther d0 d1 else cBig d0 d1

/-- `epsilon_for(max(|bn|,|cn|,|dn|))`: threshold of the repeated-root test, taken from the
normalised polynomial (since fix 7006df58; before, the epsilon of the raw coefficients was used —
witness f32 cubic (1260,0) (15,1000) (-1230,2000) (2520,3000) against the line x = 0 reported
t = 0.5 although the curve stays 16.87 away) -/
def epsN (bn cn dn : α) : α :=
  Eps.epsilonFor (Scalar.max (Scalar.max (Scalar.abs bn) (Scalar.abs cn)) (Scalar.abs dn))

/-- Cardano, `delta_01 >= 0` -/
def cardano1 (e bn d0 d1 : α) : List α :=
  [-bn * frac13 + (cS d0 d1 + cT d0 d1)]
    ++ (if Scalar.abs (cS d0 d1 - cT d0 d1) < e ∧ Scalar.abs (cS d0 d1 + cT d0 d1) ≥ e
        then [-bn * frac13 - (cS d0 d1 + cT d0 d1) / two] else [])

def theta (d0 d1 : α) : α := Transc.acos (d1 / Transc.sqrt (-d0 * d0 * d0))
def twoSqrt (d0 : α) : α := two * Transc.sqrt (-d0)

/-- trigonometric branch, `delta_01 < 0` (three real roots) -/
def cardano3 (bn d0 d1 : α) : List α :=
  [twoSqrt d0 * Transc.cos (theta d0 d1 * frac13) - bn * frac13,
   twoSqrt d0 * Transc.cos ((theta d0 d1 + two * Transc.pi) * frac13) - bn * frac13,
   twoSqrt d0 * Transc.cos ((theta d0 d1 + four * Transc.pi) * frac13) - bn * frac13]

/-- normalised cubic `x³ + bn x² + cn x + dn` -/
def cardano (bn cn dn : α) : List α :=
  if delta01 (delta0 bn cn) (delta1 bn cn dn) ≥ zero
  then cardano1 (epsN bn cn dn) bn (delta0 bn cn) (delta1 bn cn dn)
  else cardano3 bn (delta0 bn cn) (delta1 bn cn dn)

/-- `cubic_polynomial_roots` with the epsilon already chosen -/
def rootsWith (e a b c d : α) : List α :=
  if Scalar.abs a < e then
    if Scalar.abs b < e then
      if Scalar.abs c < e then [] else [-d / c]
    else quadratic e b c d
  else cardano (b / a) (c / a) (d / a)

/-- `utils::cubic_polynomial_roots(a, b, c, d)` -/
def cubicPolynomialRoots (a b c d : α) : List α := rootsWith (eps a b c d) a b c d
end Roots

/-! ## Cubic × line / segment -/

namespace Cubic
variable [Sgn α] [Transc α] [Eps α]

def ixFastBoundingBox (c : Cubic α) : IxBox α :=
  ⟨⟨Scalar.min (Scalar.min (Scalar.min c.a.x c.c1.x) c.c2.x) c.b.x,
    Scalar.min (Scalar.min (Scalar.min c.a.y c.c1.y) c.c2.y) c.b.y⟩,
   ⟨Scalar.max (Scalar.max (Scalar.max c.a.x c.c1.x) c.c2.x) c.b.x,
    Scalar.max (Scalar.max (Scalar.max c.a.y c.c1.y) c.c2.y) c.b.y⟩⟩

/-- `p1 = to - from + (ctrl1 - ctrl2) * 3` -/
def liP1 (c : Cubic α) : P α := c.b - c.a + (c.c1 - c.c2).smul three
/-- `p2 = from * 3 + (ctrl2 - ctrl1 * 2) * 3` -/
def liP2 (c : Cubic α) : P α := c.a.smul three + (c.c2 - c.c1.smul two).smul three
/-- `p3 = (ctrl1 - from) * 3` -/
def liP3 (c : Cubic α) : P α := (c.c1 - c.a).smul three
/-- `c = line.point.y * line.vector.x - line.point.x * line.vector.y` -/
def liC0 (l : Line α) : α := l.point.y * l.vector.x - l.point.x * l.vector.y

def liCoefA (c : Cubic α) (l : Line α) : α := l.vector.y * (liP1 c).x - l.vector.x * (liP1 c).y
def liCoefB (c : Cubic α) (l : Line α) : α := l.vector.y * (liP2 c).x - l.vector.x * (liP2 c).y
def liCoefC (c : Cubic α) (l : Line α) : α := l.vector.y * (liP3 c).x - l.vector.x * (liP3 c).y
def liCoefD (c : Cubic α) (l : Line α) : α := l.vector.y * c.a.x - l.vector.x * c.a.y + liC0 l

/-- the root finder applied to the coefficients for a given line (the body of
`line_intersections_t` after the line has been normalised) -/
def lineRoots (c : Cubic α) (l : Line α) : List α :=
  (Roots.cubicPolynomialRoots (liCoefA c l) (liCoefB c l) (liCoefC c l) (liCoefD c l)).filter inUnit

/-- `len = line.vector.length()` -/
def lineLen (l : Line α) : α := Transc.sqrt l.vector.sqLen
/-- `Line { point, vector: vector / len }` -/
def unitLine (l : Line α) : Line α := ⟨l.point, l.vector.sdiv (lineLen l)⟩

/-- `CubicBezierSegment::line_intersections_t`.  Since fix ba950a71 the line's direction is
normalised first and only a zero (or non-finite) length yields "no intersection"; before, every
line with `|vector|² < EPSILON` did (witness: cubic (0,0) (1,2) (2,-2) (3,0), line through
(3/2,0) with vector (0,1/200): crossing at t = 1/2 was not reported). -/
def lineIntersectionsT (c : Cubic α) (l : Line α) : List α :=
  if lineLen l == zero then []
  else if !(Transc.isFinite (lineLen l)) then []
  else lineRoots c (unitLine l)

/-- `CubicBezierSegment::line_intersections` -/
def lineIntersections (c : Cubic α) (l : Line α) : List (P α) :=
  (lineIntersectionsT c l).map c.sample

/-- `CubicBezierSegment::line_segment_intersections_t` -/
def lineSegmentIntersectionsT (c : Cubic α) (s : Seg α) : List (α × α) :=
  if !((c.ixFastBoundingBox.inflate Eps.epsilon Eps.epsilon).intersects
        (s.ixBoundingBox.inflate Eps.epsilon Eps.epsilon)) then []
  else segFilter c.x c.y c.sample s (c.lineIntersectionsT s.toLine)
end Cubic

/-! ## Triangle -/

structure IxTri (α : Type) where
  a : P α
  b : P α
  c : P α

namespace IxTri
/-- `v0.cross(v1)` of `get_barycentric_coords_for_point` -/
def det (t : IxTri α) : α := (t.b - t.a).cross (t.c - t.a)
/-- `a = v0.cross(v2) * inv` -/
def baryA (t : IxTri α) (p : P α) : α := (t.b - t.a).cross (p - t.a) * (one / det t)
/-- `b = v2.cross(v1) * inv` -/
def baryB (t : IxTri α) (p : P α) : α := (p - t.a).cross (t.c - t.a) * (one / det t)
/-- `c = 1 - a - b` -/
def baryC (t : IxTri α) (p : P α) : α := one - baryA t p - baryB t p

/-- `Triangle::contains_point` -/
def containsPoint (t : IxTri α) (p : P α) : Bool :=
  -- IEEE: a degenerate triangle has `inv = 1/0 = ±inf`; `a`, `b` are then in {±inf, NaN} and if
  -- both are `+inf` then `c = 1 - inf - inf = -inf`: never all three positive.
  if det t == zero then false
  else decide (baryA t p > zero) && decide (baryB t p > zero) && decide (baryC t p > zero)

def ab (t : IxTri α) : Seg α := ⟨t.a, t.b⟩
def bc (t : IxTri α) : Seg α := ⟨t.b, t.c⟩
def ac (t : IxTri α) : Seg α := ⟨t.a, t.c⟩
def beq (t o : IxTri α) : Bool := t.a == o.a && t.b == o.b && t.c == o.c

variable [Sgn α]

/-- `Triangle::intersects` -/
def intersects (t o : IxTri α) : Bool :=
  t.ab.intersects o.ab || t.ab.intersects o.bc || t.ab.intersects o.ac
    || t.bc.intersects o.ab || t.bc.intersects o.bc || t.bc.intersects o.ac
    || t.ac.intersects o.ab || t.ac.intersects o.bc || t.ac.intersects o.ac
    || t.containsPoint o.a || o.containsPoint t.a || beq t o

/-- `Triangle::intersects_line_segment` -/
def intersectsLineSegment (t : IxTri α) (s : Seg α) : Bool :=
  t.ab.intersects s || t.bc.intersects s || t.ac.intersects s || t.containsPoint s.a
end IxTri

end Lyon
