/-
  Model of the flattening / transforming adapters of `lyon_path` (C16):

  * builder side  — `builder.rs`: `Flattened` (`begin / line_to / quadratic_bezier_to /
                    cubic_bezier_to / end`, `prev_attributes`, `attribute_buffer`) with
                    `private.rs::flatten_{quadratic,cubic}_bezier`, `Transformed`, `NoAttributes`;
  * iterator side — `iterator.rs`: `Flattened`, `Transformed` (through `PathEvent::transformed`,
                    `events.rs`), `path.rs`: `IterWithAttributes::for_each_flattened`;
  * stored        — `path.rs`: `Path::transformed` / `apply_transform` (an `IdIter` walk writing
                    through `self.points[id]`, incl. the copy of the first endpoint that
                    `end(true)` stores).

  A builder adapter is a function from the calls it receives to the calls the wrapped builder
  receives (as in the C15 model); an iterator adapter is a function on event lists.

  The curve flattener (lyon_geom, property C09) is a PARAMETER:
  `Flattener π α` gives, for a curve, the `(line.from, line.to, t.end)` triples that
  `for_each_flattened_with_t` hands to its callback; `IterFlattener π` gives the points the
  `Flattened` iterators of lyon_geom yield.  The driver instantiates both from what the real
  flattener returned for each curve (advice in the CASE line); the theorems hold for every
  flattener.

  Generic in the point type `π` (positions are never computed with here, only moved around) and
  in the scalar type `α` of the custom attributes.  Mathlib-free.
-/
import LyonVerif.Model.Scalar
import LyonVerif.Model.Path.Trace
import LyonVerif.Model.Path.Store

namespace Lyon.Adapt
open Lyon Lyon.Path

/-! ## Point maps (the `Transformed` adapters) -/

section Maps
variable {π π' A : Type}

/-- `builder::Transformed`: every position of a call goes through `transform_point`;
attributes and `end` are forwarded unchanged. -/
def mapCall (f : π → π') : Call π A → Call π' A
  | .begin p a => .begin (f p) a
  | .line p a => .line (f p) a
  | .quad c p a => .quad (f c) (f p) a
  | .cubic c1 c2 p a => .cubic (f c1) (f c2) (f p) a
  | .end_ cl => .end_ cl

/-- `PathEvent::transformed` (`events.rs`) -/
def mapEvent (f : π → π') : Event π → Event π'
  | .begin p => .begin (f p)
  | .line a b => .line (f a) (f b)
  | .quad a c b => .quad (f a) (f c) (f b)
  | .cubic a c d b => .cubic (f a) (f c) (f d) (f b)
  | .end_ l fst cl => .end_ (f l) (f fst) cl

/-- `builder::Transformed<B, T>` as a function on programs -/
def xfBuilder (f : π → π') (prog : List (Call π A)) : List (Call π' A) := prog.map (mapCall f)

/-- `iterator::Transformed` as a function on event streams -/
def xfIter (f : π → π') (evs : List (Event π)) : List (Event π') := evs.map (mapEvent f)

/-- `builder::NoAttributes`: forwards every call with `NO_ATTRIBUTES` -/
def noAttrCall {B : Type} : Call π A → Call π (List B)
  | .begin p _ => .begin p []
  | .line p _ => .line p []
  | .quad c p _ => .quad c p []
  | .cubic c1 c2 p _ => .cubic c1 c2 p []
  | .end_ cl => .end_ cl

def noAttrBuilder {B : Type} (prog : List (Call π A)) : List (Call π (List B)) :=
  prog.map noAttrCall

end Maps

/-! ## The curve flattener as a parameter -/

/-- one callback of `for_each_flattened_with_t`: `line.from`, `line.to`, `t.end` -/
structure FSeg (π α : Type) where
  a : π
  b : π
  t : α

/-- `QuadraticBezierSegment{from,ctrl,to}.for_each_flattened_with_t(tolerance, cb)` and the cubic
form, as the list of callbacks (the tolerance is fixed inside). -/
structure Flattener (π α : Type) where
  quad : π → π → π → List (FSeg π α)
  cubic : π → π → π → π → List (FSeg π α)

/-- `QuadraticBezierSegment::flattened(tolerance)` / `CubicBezierSegment::flattened(tolerance)`:
the points the lyon_geom iterators yield. -/
structure IterFlattener (π : Type) where
  quad : π → π → π → List π
  cubic : π → π → π → π → List π

/-! ## Builder side: `Flattened` -/

section Flat
variable {π α : Type} [Scalar α]
open Scalar

/-- the loop of `private.rs::flatten_*`:
`buffer[i] = prev_attributes[i] * (1.0 - t.end) + attributes[i] * t.end` -/
def interp (prev attrs : List α) (t : α) : List α :=
  List.zipWith (fun p a => p * (one - t) + a * t) prev attrs

/-- `let attr = if t.end == 1.0 { attributes } else { …buffer… }` -/
def emitAttr (prev attrs : List α) (t : α) : List α :=
  if t == one then attrs else interp prev attrs t

/-- `flatten_quadratic_bezier` / `flatten_cubic_bezier`: one `line_to(line.to, attr)` per
callback of the flattener -/
def emitLines (segs : List (FSeg π α)) (prev attrs : List α) : List (Call π (List α)) :=
  segs.map fun s => Call.line s.b (emitAttr prev attrs s.t)

/-- state of `builder::Flattened` (besides the wrapped builder and the tolerance) -/
structure FlatB (π α : Type) where
  cur : π
  prev : List α

/-- `Flattened::new`: `current_position: point(0,0)`, `prev_attributes: vec![0.0; n]` -/
def FlatB.init (origin : π) (n : Nat) : FlatB π α := ⟨origin, List.replicate n zero⟩

/-- One `PathBuilder` call on `Flattened<B>`: the new state and the calls `B` receives.
`begin` records the position AND the attributes of the first endpoint (lyon commit babe4617;
before it `prev_attributes` kept its old contents there — finding
`C16-flattened-begin-prev-attributes`, fixed). -/
def FlatB.step (F : Flattener π α) (s : FlatB π α) : Call π (List α) → FlatB π α × List (Call π (List α))
  | .begin p a => (⟨p, a⟩, [.begin p a])
  | .line p a => (⟨p, a⟩, [.line p a])
  | .quad c p a => (⟨p, a⟩, emitLines (F.quad s.cur c p) s.prev a)
  | .cubic c1 c2 p a => (⟨p, a⟩, emitLines (F.cubic s.cur c1 c2 p) s.prev a)
  | .end_ cl => (s, [.end_ cl])

def FlatB.run (F : Flattener π α) : FlatB π α → List (Call π (List α)) → List (Call π (List α))
  | _, [] => []
  | s, c :: r => (s.step F c).2 ++ FlatB.run F (s.step F c).1 r

/-- `Flattened::new(inner, tol)` driven by `prog`: what `inner` receives -/
def flatBuilder (F : Flattener π α) (origin : π) (n : Nat) (prog : List (Call π (List α))) :
    List (Call π (List α)) :=
  FlatB.run F (FlatB.init origin n) prog

/-- the state after a program -/
def FlatB.after (F : Flattener π α) : FlatB π α → List (Call π (List α)) → FlatB π α
  | s, [] => s
  | s, c :: r => FlatB.after F (s.step F c).1 r

/-! ### Reference: what the property asks of a flattening builder

Same traversal — the state is the current endpoint and its attributes — but every emitted point
carries the interpolation at the reported `t` by definition (no `t == 1` shortcut). -/

def specLines (segs : List (FSeg π α)) (fromA toA : List α) : List (Call π (List α)) :=
  segs.map fun s => Call.line s.b (interp fromA toA s.t)

def FlatB.specStep (F : Flattener π α) (s : FlatB π α) : Call π (List α) → FlatB π α × List (Call π (List α))
  | .begin p a => (⟨p, a⟩, [.begin p a])
  | .line p a => (⟨p, a⟩, [.line p a])
  | .quad c p a => (⟨p, a⟩, specLines (F.quad s.cur c p) s.prev a)
  | .cubic c1 c2 p a => (⟨p, a⟩, specLines (F.cubic s.cur c1 c2 p) s.prev a)
  | .end_ cl => (s, [.end_ cl])

def FlatB.specRun (F : Flattener π α) : FlatB π α → List (Call π (List α)) → List (Call π (List α))
  | _, [] => []
  | s, c :: r => (s.specStep F c).2 ++ FlatB.specRun F (s.specStep F c).1 r

def flatSpec (F : Flattener π α) (origin : π) (n : Nat) (prog : List (Call π (List α))) :
    List (Call π (List α)) :=
  FlatB.specRun F (FlatB.init origin n) prog

/-! ## Iterator side: `iterator::Flattened` -/

/-- `Some(PathEvent::Line { from: self.current_position, to })` for each point the curve
iterator yields, `current_position` starting at the curve's `from` -/
def chain : π → List π → List (Event π)
  | _, [] => []
  | cur, p :: r => Event.line cur p :: chain p r

/-- `iterator::Flattened::next`, collected: Begin / Line / End pass through, a curve event is
replaced by the chain through the points of its lyon_geom flattening iterator. -/
def flatIter (G : IterFlattener π) : List (Event π) → List (Event π)
  | [] => []
  | .begin p :: r => .begin p :: flatIter G r
  | .line a b :: r => .line a b :: flatIter G r
  | .quad a c b :: r => chain a (G.quad a c b) ++ flatIter G r
  | .cubic a c d b :: r => chain a (G.cubic a c d b) ++ flatIter G r
  | .end_ l f cl :: r => .end_ l f cl :: flatIter G r

/-! ## `IterWithAttributes::for_each_flattened` -/

/-- an endpoint with its attributes; control points are embedded with `[]` (as in C14) -/
abbrev AP (π α : Type) := π × List α

/-- `buffer[offset + i] = (1.0 - t.end) * from_attr[i] + t.end * to_attr[i]` -/
def interpI (fromA toA : List α) (t : α) : List α :=
  List.zipWith (fun f g => (one - t) * f + t * g) fromA toA

/-- the callback of `for_each_flattened`: `Line{from: (line.from, previous buffer half),
to: (line.to, interpolated)}`; `ca` = the attributes written by the previous callback
(initially `from_attr`) -/
def linesA (fromA toA : List α) : List α → List (FSeg π α) → List (Event (AP π α))
  | _, [] => []
  | ca, s :: r =>
    Event.line (s.a, ca) (s.b, interpI fromA toA s.t) :: linesA fromA toA (interpI fromA toA s.t) r

def flatAttrIter (F : Flattener π α) : List (Event (AP π α)) → List (Event (AP π α))
  | [] => []
  | .begin p :: r => .begin p :: flatAttrIter F r
  | .line a b :: r => .line a b :: flatAttrIter F r
  | .quad a c b :: r => linesA a.2 b.2 a.2 (F.quad a.1 c.1 b.1) ++ flatAttrIter F r
  | .cubic a c d b :: r => linesA a.2 b.2 a.2 (F.cubic a.1 c.1 d.1 b.1) ++ flatAttrIter F r
  | .end_ l f cl :: r => .end_ l f cl :: flatAttrIter F r

end Flat

/-- a call with its endpoint paired with its attributes (what `iter_with_attributes` shows of
it); control points get `[]` -/
def aCall {π α : Type} : Call π (List α) → Call (AP π α) (List α)
  | .begin p a => .begin (p, a) a
  | .line p a => .line (p, a) a
  | .quad c p a => .quad (c, []) (p, a) a
  | .cubic c1 c2 p a => .cubic (c1, []) (c2, []) (p, a) a
  | .end_ cl => .end_ cl

/-- the events `Path::iter_with_attributes` yields for a stored program (C14 `with_attributes_eq`) -/
def attrEvents {π α : Type} (prog : List (Call π (List α))) : List (Event (AP π α)) :=
  specEvents (prog.map aCall)

/-! ## Observations used by the property -/

section Obs
variable {π A : Type}

/-- begin / line / end only -/
def Call.isFlat : Call π A → Bool
  | .quad .. => false
  | .cubic .. => false
  | _ => true

def Event.isFlat : Event π → Bool
  | .quad .. => false
  | .cubic .. => false
  | _ => true

/-- the endpoints of a program, in order, with their attributes -/
def endpoints : List (Call π A) → List (π × A)
  | [] => []
  | .begin p a :: r => (p, a) :: endpoints r
  | .line p a :: r => (p, a) :: endpoints r
  | .quad _ p a :: r => (p, a) :: endpoints r
  | .cubic _ _ p a :: r => (p, a) :: endpoints r
  | .end_ _ :: r => endpoints r

/-- the endpoints an event stream visits, in order (`Begin.at`, then every edge's `to`) -/
def eventEndpoints : List (Event π) → List π
  | [] => []
  | .begin p :: r => p :: eventEndpoints r
  | .line _ b :: r => b :: eventEndpoints r
  | .quad _ _ b :: r => b :: eventEndpoints r
  | .cubic _ _ _ b :: r => b :: eventEndpoints r
  | .end_ .. :: r => eventEndpoints r

/-- the sub-path skeleton of a program: its `begin` and `end` calls -/
def Call.isMark : Call π A → Bool
  | .begin .. => true
  | .end_ _ => true
  | _ => false

/-- no curve is the first edge of its sub-path (the case in which the builder-side adapter
interpolated from stale attributes before lyon commit babe4617).  `ab` = a `begin` has been seen
and no edge since. -/
def noCurveAfterBegin : Bool → List (Call π A) → Bool
  | _, [] => true
  | _, .begin _ _ :: r => noCurveAfterBegin true r
  | _, .line _ _ :: r => noCurveAfterBegin false r
  | ab, .quad _ _ _ :: r => !ab && noCurveAfterBegin false r
  | ab, .cubic _ _ _ _ :: r => !ab && noCurveAfterBegin false r
  | ab, .end_ _ :: r => noCurveAfterBegin ab r

/-- every endpoint carries exactly `n` attributes -/
def attrsLen (n : Nat) : List (Call π (List A)) → Bool
  | [] => true
  | .begin _ a :: r => a.length == n && attrsLen n r
  | .line _ a :: r => a.length == n && attrsLen n r
  | .quad _ _ a :: r => a.length == n && attrsLen n r
  | .cubic _ _ _ a :: r => a.length == n && attrsLen n r
  | .end_ _ :: r => attrsLen n r

end Obs

/-! ## Stored: `Path::transformed` / `apply_transform` -/

section Stored
variable {S : Type} [Inhabited S]

/-- `self.points[i] = transform.transform_point(self.points[i])`: a checked index read followed
by a checked index write.  `none` = the index is outside the storage (Rust: panic).  `id_iter` of
a built path never produces one — `stored_transform` (`Lemmas/AdaptersStored.lean`), C14
`transformed_no_oob`. -/
def applyAt (g : Pt S → Pt S) (pts : List (Pt S)) (i : Nat) : Option (List (Pt S)) :=
  if i < pts.length then some (pts.modify i g) else none

/-- the `match evt` of `apply_transform`; `stride` = `(self.num_attributes + 1) / 2`.
`IdEvent::End { last, close: true, .. }`: `end(true)` stored a copy of the sub-path's first
endpoint right after the last endpoint's slots, at `last + stride + 1` (it is what
`last_endpoint` reads); it is transformed too (lyon commit f78412c3; before it every `End` was
skipped and that slot kept the untransformed point — finding
`C14-transformed-close-point-stale`, fixed). -/
def applyEvent (g : Pt S → Pt S) (stride : Nat) (pts : List (Pt S)) : Event Nat → Option (List (Pt S))
  | .begin a => applyAt g pts a
  | .line _ b => applyAt g pts b
  | .quad _ c b => (applyAt g pts c).bind fun q => applyAt g q b
  | .cubic _ c d b => (applyAt g pts c).bind fun q => (applyAt g q d).bind fun q' => applyAt g q' b
  | .end_ last _ true => applyAt g pts (last + stride + 1)
  | .end_ _ _ false => some pts

/-- `for evt in iter { match evt { … } }` -/
def applyAll (g : Pt S → Pt S) (stride : Nat) : List (Event Nat) → List (Pt S) → Option (List (Pt S))
  | [], pts => some pts
  | e :: r, pts => (applyEvent g stride pts e).bind fun q => applyAll g stride r q

/-- `Path::apply_transform`: `for evt in IdIter::new(num_attributes, verbs) { … }`;
`none` = some `self.points[…]` of the walk indexes outside the storage (Rust: panic). -/
def applyTransform (g : Pt S → Pt S) (p : PathData S) : Option (PathData S) :=
  (applyAll g (attribStride p.numAttributes) p.idIter p.points).map fun pts =>
    { p with points := pts }

end Stored

/-! ## Conversions between the numeric point type `P α` and the storage point `Pt α` -/

section Conv
variable {α : Type}
def toPt (p : P α) : Pt α := (p.x, p.y)
def ofPt (p : Pt α) : P α := ⟨p.1, p.2⟩
/-- a map on `P α` as a map on storage points -/
def onPt (g : P α → P α) (p : Pt α) : Pt α := toPt (g (ofPt p))
end Conv

end Lyon.Adapt
