/-
  Model of `crates/path/src/path.rs`: the verbs + interleaved points/attributes storage, its two
  builders and all its views (C14).

  * Scalars are an opaque type `S` with a distinguished value `default` (Rust: `0.0`); a point is
    `S × S`.  Custom attributes are `List S`; they are stored in the point array two per slot, an
    odd count padded with `default` (`push_attributes_impl`).
  * `Vec::push` is `++ [x]`; `Box<[T]>` / slices are `List`.
  * Every slice index, pointer read, checked subtraction (`overflow-checks`) and `assert!` of the
    Rust code is an `Option`: `none` = "this read is outside the storage (Rust: panic, or the
    `NaN` sentinel of `PointIter::next` followed by the `advance_n` assertion)".  "No
    out-of-bounds read" is the statement that a view returns `some`.
  * Pointer iteration (`PointIter`, `slice::Iter<Verb>`) is consumption of the remaining list;
    index-based code (`IdIter` + stores, `Reversed`, `interpolated_attributes`,
    `first/last_endpoint`) keeps its index arithmetic and reads through `l[i]?`.
  * `u32`/`usize` are `Nat` (paths with fewer than 2³² stored points).
  Mathlib-free.
-/
import LyonVerif.Model.Path.Trace

namespace Lyon.Path

abbrev Pt (S : Type) := S × S

/-- An endpoint together with its custom attributes (`(Point, Attributes)`). -/
abbrev APt (S : Type) := Pt S × List S

/-- `path::Verb` -/
inductive Verb where
  | lineTo | quadraticTo | cubicTo | begin | close | end_
deriving Repr, BEq, DecidableEq

/-- `Path` / `PathSlice` -/
structure PathData (S : Type) where
  points : List (Pt S)
  verbs : List Verb
  numAttributes : Nat
deriving Repr

/-- checked `a - b` on unsigned integers -/
def csub (a b : Nat) : Option Nat := if b ≤ a then some (a - b) else none

/-- `&l[a..b]` -/
def sliceRange {α : Type} (l : List α) (a b : Nat) : Option (List α) :=
  if a ≤ b ∧ b ≤ l.length then some ((l.drop a).take (b - a)) else none

section
variable {S : Type} [Inhabited S]

def zeroPt : Pt S := (default, default)

/-! ### Attribute packing -/

/-- `push_attributes_impl`: two attributes per point slot, an odd one padded with zero. -/
def packAttrs : List S → List (Pt S)
  | [] => []
  | [x] => [(x, default)]
  | x :: y :: r => (x, y) :: packAttrs r

/-- the `*const f32` view of a point slice -/
def flatPts : List (Pt S) → List S
  | [] => []
  | (x, y) :: r => x :: y :: flatPts r

/-- `(num_attributes + 1) / 2` -/
def attribStride (n : Nat) : Nat := (n + 1) / 2

/-- `interpolated_attributes` -/
def interpolatedAttributes (n : Nat) (points : List (Pt S)) (endpoint : Nat) : Option (List S) :=
  if n = 0 then some []
  else if endpoint + 1 + attribStride n ≤ points.length then
    some ((flatPts (points.drop (endpoint + 1))).take n)
  else none

/-! ### `BuilderImpl` -/

structure BuilderImpl (S : Type) where
  points : List (Pt S)
  verbs : List Verb
  first : Pt S
deriving Repr

def BuilderImpl.new : BuilderImpl S := ⟨[], [], zeroPt⟩

def BuilderImpl.begin (b : BuilderImpl S) (at_ : Pt S) : BuilderImpl S × Nat :=
  ({ points := b.points ++ [at_], verbs := b.verbs ++ [Verb.begin], first := at_ }, b.points.length)

def BuilderImpl.end_ (b : BuilderImpl S) (close : Bool) : BuilderImpl S :=
  { points := if close then b.points ++ [b.first] else b.points,
    verbs := b.verbs ++ [if close then Verb.close else Verb.end_],
    first := b.first }

def BuilderImpl.lineTo (b : BuilderImpl S) (to : Pt S) : BuilderImpl S × Nat :=
  ({ points := b.points ++ [to], verbs := b.verbs ++ [Verb.lineTo], first := b.first }, b.points.length)

def BuilderImpl.quadraticBezierTo (b : BuilderImpl S) (ctrl to : Pt S) : BuilderImpl S × Nat :=
  ({ points := b.points ++ [ctrl] ++ [to], verbs := b.verbs ++ [Verb.quadraticTo], first := b.first },
   b.points.length + 1)

def BuilderImpl.cubicBezierTo (b : BuilderImpl S) (ctrl1 ctrl2 to : Pt S) : BuilderImpl S × Nat :=
  ({ points := b.points ++ [ctrl1] ++ [ctrl2] ++ [to], verbs := b.verbs ++ [Verb.cubicTo],
     first := b.first }, b.points.length + 2)

def BuilderImpl.build (b : BuilderImpl S) : PathData S := ⟨b.points, b.verbs, 0⟩

/-- One `PathBuilder` call on `NoAttributes<BuilderImpl>` (attributes are ignored). -/
def BuilderImpl.call {A : Type} (b : BuilderImpl S) : Call (Pt S) A → BuilderImpl S × Option Nat
  | .begin p _ => let r := b.begin p; (r.1, some r.2)
  | .line p _ => let r := b.lineTo p; (r.1, some r.2)
  | .quad c p _ => let r := b.quadraticBezierTo c p; (r.1, some r.2)
  | .cubic c1 c2 p _ => let r := b.cubicBezierTo c1 c2 p; (r.1, some r.2)
  | .end_ cl => (b.end_ cl, none)

def consId (id : Option Nat) (ids : List Nat) : List Nat :=
  match id with
  | some i => i :: ids
  | none => ids

/-- A whole program; returns the builder and the endpoint ids handed back to the caller. -/
def BuilderImpl.run {A : Type} (b : BuilderImpl S) : List (Call (Pt S) A) → BuilderImpl S × List Nat
  | [] => (b, [])
  | c :: r =>
    let s := b.call c
    let t := BuilderImpl.run s.1 r
    (t.1, consId s.2 t.2)

/-! ### `BuilderWithAttributes` -/

structure BuilderWithAttributes (S : Type) where
  builder : BuilderImpl S
  numAttributes : Nat
  firstAttributes : List S
deriving Repr

def BuilderWithAttributes.new (n : Nat) : BuilderWithAttributes S :=
  ⟨BuilderImpl.new, n, List.replicate n default⟩

/-- `push_attributes_impl` (with its `assert_eq!(attributes.len(), num_attributes)`) -/
def pushAttributesImpl (points : List (Pt S)) (n : Nat) (attrs : List S) : Option (List (Pt S)) :=
  if attrs.length = n then some (points ++ packAttrs attrs) else none

def BuilderWithAttributes.withPoints (b : BuilderWithAttributes S) (bi : BuilderImpl S)
    (pts : List (Pt S)) : BuilderWithAttributes S :=
  { builder := { points := pts, verbs := bi.verbs, first := bi.first },
    numAttributes := b.numAttributes, firstAttributes := b.firstAttributes }

def BuilderWithAttributes.begin (b : BuilderWithAttributes S) (at_ : Pt S) (attrs : List S) :
    Option (BuilderWithAttributes S × Nat) :=
  let r := b.builder.begin at_
  (pushAttributesImpl r.1.points b.numAttributes attrs).map fun pts =>
    -- `first_attributes.copy_from_slice(attributes)`: same length, checked just above
    ({ builder := { points := pts, verbs := r.1.verbs, first := r.1.first },
       numAttributes := b.numAttributes, firstAttributes := attrs }, r.2)

def BuilderWithAttributes.end_ (b : BuilderWithAttributes S) (close : Bool) :
    Option (BuilderWithAttributes S) :=
  let bi := b.builder.end_ close
  if close then
    (pushAttributesImpl bi.points b.numAttributes b.firstAttributes).map fun pts => b.withPoints bi pts
  else some (b.withPoints bi bi.points)

def BuilderWithAttributes.lineTo (b : BuilderWithAttributes S) (to : Pt S) (attrs : List S) :
    Option (BuilderWithAttributes S × Nat) :=
  let r := b.builder.lineTo to
  (pushAttributesImpl r.1.points b.numAttributes attrs).map fun pts => (b.withPoints r.1 pts, r.2)

def BuilderWithAttributes.quadraticBezierTo (b : BuilderWithAttributes S) (ctrl to : Pt S)
    (attrs : List S) : Option (BuilderWithAttributes S × Nat) :=
  let r := b.builder.quadraticBezierTo ctrl to
  (pushAttributesImpl r.1.points b.numAttributes attrs).map fun pts => (b.withPoints r.1 pts, r.2)

def BuilderWithAttributes.cubicBezierTo (b : BuilderWithAttributes S) (ctrl1 ctrl2 to : Pt S)
    (attrs : List S) : Option (BuilderWithAttributes S × Nat) :=
  let r := b.builder.cubicBezierTo ctrl1 ctrl2 to
  (pushAttributesImpl r.1.points b.numAttributes attrs).map fun pts => (b.withPoints r.1 pts, r.2)

def BuilderWithAttributes.build (b : BuilderWithAttributes S) : PathData S :=
  ⟨b.builder.points, b.builder.verbs, b.numAttributes⟩

def BuilderWithAttributes.call (b : BuilderWithAttributes S) :
    Call (Pt S) (List S) → Option (BuilderWithAttributes S × Option Nat)
  | .begin p a => (b.begin p a).map fun r => (r.1, some r.2)
  | .line p a => (b.lineTo p a).map fun r => (r.1, some r.2)
  | .quad c p a => (b.quadraticBezierTo c p a).map fun r => (r.1, some r.2)
  | .cubic c1 c2 p a => (b.cubicBezierTo c1 c2 p a).map fun r => (r.1, some r.2)
  | .end_ cl => (b.end_ cl).map fun r => (r, none)

/-- A whole program; `none` = an attribute-count assertion failed (Rust: panic). -/
def BuilderWithAttributes.run (b : BuilderWithAttributes S) :
    List (Call (Pt S) (List S)) → Option (BuilderWithAttributes S × List Nat)
  | [] => some (b, [])
  | c :: r =>
    (b.call c).bind fun s =>
      (BuilderWithAttributes.run s.1 r).map fun t => (t.1, consId s.2 t.2)

/-- `Path::builder()…build()` -/
def buildPlain {A : Type} (prog : List (Call (Pt S) A)) : PathData S :=
  ((BuilderImpl.new (S := S)).run prog).1.build

/-- `Path::builder_with_attributes(n)…build()` -/
def buildWithAttributes (n : Nat) (prog : List (Call (Pt S) (List S))) : Option (PathData S) :=
  ((BuilderWithAttributes.new (S := S) n).run prog).map fun r => r.1.build

/-! ### `PointIter` -/

/-- `PointIter::next` (`none`: the `ptr >= end` branch) -/
def popPt (pts : List (Pt S)) : Option (Pt S × List (Pt S)) :=
  match pts with
  | [] => none
  | p :: r => some (p, r)

/-- `PointIter::advance_n` (with its `assert!(remaining_len() >= n)`) -/
def advanceN (n : Nat) (pts : List (Pt S)) : Option (List (Pt S)) :=
  if n ≤ pts.length then some (pts.drop n) else none

/-- `next()` followed by `skip_attributes()` -/
def popSkip (stride : Nat) (pts : List (Pt S)) : Option (Pt S × List (Pt S)) :=
  (popPt pts).bind fun r => (advanceN stride r.2).map fun rest => (r.1, rest)

/-! ### `Iter` -/

def iterGo (stride : Nat) : List Verb → List (Pt S) → Pt S → Pt S → Option (List (Event (Pt S)))
  | [], _, _, _ => some []
  | .begin :: vs, pts, _, _ =>
    (popSkip stride pts).bind fun r =>
      (iterGo stride vs r.2 r.1 r.1).map fun t => Event.begin r.1 :: t
  | .lineTo :: vs, pts, cur, first =>
    (popSkip stride pts).bind fun r =>
      (iterGo stride vs r.2 r.1 first).map fun t => Event.line cur r.1 :: t
  | .quadraticTo :: vs, pts, cur, first =>
    (popPt pts).bind fun c => (popSkip stride c.2).bind fun r =>
      (iterGo stride vs r.2 r.1 first).map fun t => Event.quad cur c.1 r.1 :: t
  | .cubicTo :: vs, pts, cur, first =>
    (popPt pts).bind fun c1 => (popPt c1.2).bind fun c2 => (popSkip stride c2.2).bind fun r =>
      (iterGo stride vs r.2 r.1 first).map fun t => Event.cubic cur c1.1 c2.1 r.1 :: t
  | .close :: vs, pts, cur, first =>
    (popSkip stride pts).bind fun r =>
      (iterGo stride vs r.2 cur first).map fun t => Event.end_ cur first true :: t
  | .end_ :: vs, pts, cur, first =>
    (iterGo stride vs pts first first).map fun t => Event.end_ cur first false :: t

/-- `Path::iter` / `PathSlice::iter` -/
def PathData.iter (p : PathData S) : Option (List (Event (Pt S))) :=
  iterGo (attribStride p.numAttributes) p.verbs p.points zeroPt zeroPt

/-! ### `IterWithAttributes` -/

/-- `pop_endpoint` -/
def popEndpoint (n : Nat) (pts : List (Pt S)) : Option (APt S × List (Pt S)) :=
  (popPt pts).bind fun r =>
    (advanceN (attribStride n) r.2).map fun rest => ((r.1, (flatPts r.2).take n), rest)

/-- control points carry no attributes; they are embedded with an empty list so that the
shared `Event` type can be used -/
def ctl (p : Pt S) : APt S := (p, [])

def iterAttrGo (n : Nat) : List Verb → List (Pt S) → APt S → APt S → Option (List (Event (APt S)))
  | [], _, _, _ => some []
  | .begin :: vs, pts, _, _ =>
    (popEndpoint n pts).bind fun r =>
      (iterAttrGo n vs r.2 r.1 r.1).map fun t => Event.begin r.1 :: t
  | .lineTo :: vs, pts, cur, first =>
    (popEndpoint n pts).bind fun r =>
      (iterAttrGo n vs r.2 r.1 first).map fun t => Event.line cur r.1 :: t
  | .quadraticTo :: vs, pts, cur, first =>
    (popPt pts).bind fun c => (popEndpoint n c.2).bind fun r =>
      (iterAttrGo n vs r.2 r.1 first).map fun t => Event.quad cur (ctl c.1) r.1 :: t
  | .cubicTo :: vs, pts, cur, first =>
    (popPt pts).bind fun c1 => (popPt c1.2).bind fun c2 => (popEndpoint n c2.2).bind fun r =>
      (iterAttrGo n vs r.2 r.1 first).map fun t => Event.cubic cur (ctl c1.1) (ctl c2.1) r.1 :: t
  | .close :: vs, pts, cur, first =>
    (popEndpoint n pts).bind fun r =>
      (iterAttrGo n vs r.2 r.1 first).map fun t => Event.end_ cur first true :: t
  | .end_ :: vs, pts, cur, first =>
    (iterAttrGo n vs pts first first).map fun t => Event.end_ cur first false :: t

/-- `Path::iter_with_attributes` -/
def PathData.iterWithAttributes (p : PathData S) : Option (List (Event (APt S))) :=
  iterAttrGo p.numAttributes p.verbs p.points (zeroPt, []) (zeroPt, [])

/-! ### `IdIter` -/

def idIterGo (es : Nat) : List Verb → Nat → Nat → List (Event Nat)
  | [], _, _ => []
  | .begin :: vs, cur, _ => Event.begin cur :: idIterGo es vs cur cur
  | .lineTo :: vs, cur, first => Event.line cur (cur + es) :: idIterGo es vs (cur + es) first
  | .quadraticTo :: vs, cur, first =>
    Event.quad cur (cur + es) (cur + es + 1) :: idIterGo es vs (cur + es + 1) first
  | .cubicTo :: vs, cur, first =>
    Event.cubic cur (cur + es) (cur + es + 1) (cur + es + 2) :: idIterGo es vs (cur + es + 2) first
  | .close :: vs, cur, first => Event.end_ cur first true :: idIterGo es vs (cur + es * 2) first
  | .end_ :: vs, cur, first => Event.end_ cur first false :: idIterGo es vs (cur + es) first

/-- `Path::id_iter` -/
def PathData.idIter (p : PathData S) : List (Event Nat) :=
  idIterGo (attribStride p.numAttributes + 1) p.verbs 0 0

/-- `Index<EndpointId>` / `Index<ControlPointId>` / `PositionStore` on a path -/
def PathData.point (p : PathData S) (id : Nat) : Option (Pt S) := p.points[id]?

/-- `Path::attributes` / `AttributeStore::get` -/
def PathData.attributes (p : PathData S) (id : Nat) : Option (List S) :=
  interpolatedAttributes p.numAttributes p.points id

/-- An id event resolved through a position store. -/
def resolveEvent {π : Type} (ep cp : Nat → Option π) : Event Nat → Option (Event π)
  | .begin a => (ep a).map Event.begin
  | .line a b => (ep a).bind fun a => (ep b).map fun b => Event.line a b
  | .quad a c b => (ep a).bind fun a => (cp c).bind fun c => (ep b).map fun b => Event.quad a c b
  | .cubic a c d b =>
    (ep a).bind fun a => (cp c).bind fun c => (cp d).bind fun d => (ep b).map fun b =>
      Event.cubic a c d b
  | .end_ l f cl => (ep l).bind fun l => (ep f).map fun f => Event.end_ l f cl

def resolveAll {π : Type} (ep cp : Nat → Option π) : List (Event Nat) → Option (List (Event π))
  | [] => some []
  | e :: r => (resolveEvent ep cp e).bind fun e' => (resolveAll ep cp r).map fun r' => e' :: r'

/-- endpoint with attributes through the path's position and attribute stores -/
def PathData.endpointA (p : PathData S) (id : Nat) : Option (APt S) :=
  (p.point id).bind fun q => (p.attributes id).map fun a => (q, a)

def PathData.ctrlA (p : PathData S) (id : Nat) : Option (APt S) := (p.point id).map ctl

/-! ### `Reversed` -/

/-- `n_stored_points` -/
def nStoredPoints (v : Verb) (attribStride : Nat) : Nat :=
  match v with
  | .begin => attribStride + 1
  | .lineTo => attribStride + 1
  | .quadraticTo => attribStride + 2
  | .cubicTo => attribStride + 3
  | .close => attribStride + 1
  | .end_ => 0

/-- the rest of the iteration after an event was produced: `self.p -= n_stored_points(..)` -/
def revStep (rest : Nat → Option (List (Event (APt S)))) (p : Nat) (v : Verb) (stride : Nat)
    (e : Event (APt S)) : Option (List (Event (APt S))) :=
  (csub p (nStoredPoints v stride)).bind fun p' => (rest p').map fun t => e :: t

/-- `Reversed::next`, over the verbs in reverse order. `stride` = `attrib_stride`. -/
def reversedGo (path : PathData S) (stride : Nat) :
    List Verb → Nat → Bool → Option (APt S) → Option (List (Event (APt S)))
  | [], _, _, _ => some []
  | .close :: vs, p, _, _ =>
    (csub p (2 * (stride + 1))).bind fun idx => (path.endpointA idx).bind fun first =>
      revStep (fun p' => reversedGo path stride vs p' true (some first)) p .close stride
        (Event.begin first)
  | .end_ :: vs, p, _, _ =>
    (csub p (stride + 1)).bind fun idx => (path.endpointA idx).bind fun first =>
      revStep (fun p' => reversedGo path stride vs p' false (some first)) p .end_ stride
        (Event.begin first)
  | .begin :: vs, p, needClose, first =>
    (csub p (stride + 1)).bind fun idx => (path.endpointA idx).bind fun last =>
      first.bind fun f =>
        revStep (fun p' => reversedGo path stride vs p' false none) p .begin stride
          (Event.end_ last f needClose)
  | .lineTo :: vs, p, needClose, first =>
    (csub p (stride + 1)).bind fun from_ => (csub from_ (stride + 1)).bind fun to =>
      (path.endpointA from_).bind fun a => (path.endpointA to).bind fun b =>
        revStep (fun p' => reversedGo path stride vs p' needClose first) p .lineTo stride
          (Event.line a b)
  | .quadraticTo :: vs, p, needClose, first =>
    (csub p (stride + 1)).bind fun from_ => (csub from_ 1).bind fun ctrl =>
      (csub ctrl (stride + 1)).bind fun to =>
        (path.endpointA from_).bind fun a => (path.ctrlA ctrl).bind fun c =>
          (path.endpointA to).bind fun b =>
            revStep (fun p' => reversedGo path stride vs p' needClose first) p .quadraticTo stride
              (Event.quad a c b)
  | .cubicTo :: vs, p, needClose, first =>
    (csub p (stride + 1)).bind fun from_ => (csub from_ 1).bind fun ctrl1 =>
      (csub ctrl1 1).bind fun ctrl2 => (csub ctrl2 (stride + 1)).bind fun to =>
        (path.endpointA from_).bind fun a => (path.ctrlA ctrl1).bind fun c1 =>
          (path.ctrlA ctrl2).bind fun c2 => (path.endpointA to).bind fun b =>
            revStep (fun p' => reversedGo path stride vs p' needClose first) p .cubicTo stride
              (Event.cubic a c1 c2 b)

/-- `Path::reversed().with_attributes()` -/
def PathData.reversedWithAttributes (p : PathData S) : Option (List (Event (APt S))) :=
  reversedGo p (attribStride p.numAttributes) p.verbs.reverse p.points.length false none

/-- `Event::with_points` on attribute-carrying events (`NoAttributes` iterator adapter) -/
def withPoints {π β : Type} (f : π → β) : Event π → Event β
  | .begin a => .begin (f a)
  | .line a b => .line (f a) (f b)
  | .quad a c b => .quad (f a) (f c) (f b)
  | .cubic a c d b => .cubic (f a) (f c) (f d) (f b)
  | .end_ l fst cl => .end_ (f l) (f fst) cl

/-- `Path::reversed()` -/
def PathData.reversed (p : PathData S) : Option (List (Event (Pt S))) :=
  p.reversedWithAttributes.map fun l => l.map (withPoints Prod.fst)

/-- `PathBuilder::event` fed with attribute-carrying events: the builder program they denote -/
def eventToCall : Event (APt S) → Call (Pt S) (List S)
  | .begin a => .begin a.1 a.2
  | .line _ b => .line b.1 b.2
  | .quad _ c b => .quad c.1 b.1 b.2
  | .cubic _ c d b => .cubic c.1 d.1 b.1 b.2
  | .end_ _ _ cl => .end_ cl

/-- `Reversed::into_path` -/
def PathData.reversedIntoPath (p : PathData S) : Option (PathData S) :=
  p.reversedWithAttributes.bind fun evs => buildWithAttributes p.numAttributes (evs.map eventToCall)

/-! ### `as_slice` -/

/-- `Path::as_slice`: `PathSlice { points: &self.points[..], verbs: &self.verbs[..],
num_attributes }`.  `PathSlice` has the same three fields and its views call the same iterator
constructors, so it is the same `PathData` in the model. -/
def PathData.asSlice (p : PathData S) : Option (PathData S) :=
  (sliceRange p.points 0 p.points.length).bind fun pts =>
    (sliceRange p.verbs 0 p.verbs.length).map fun vs => ⟨pts, vs, p.numAttributes⟩

/-! ### `first_endpoint`, `last_endpoint` -/

/-- outer `Option`: in bounds; inner: the function's own `Option` result -/
def PathData.firstEndpoint (p : PathData S) : Option (Option (APt S)) :=
  if p.points.isEmpty then some none
  else (p.endpointA 0).map some

def PathData.lastEndpoint (p : PathData S) : Option (Option (APt S)) :=
  if p.points.isEmpty then some none
  else
    (csub p.points.length (attribStride p.numAttributes)).bind fun a => (csub a 1).bind fun offset =>
      (p.endpointA offset).map some

/-! ### `concatenate_paths` / `extend_from_paths` -/

/-- `concatenate_paths` (with its `assert_eq!(path.num_attributes(), num_attributes)`) -/
def concatenatePaths (points : List (Pt S)) (verbs : List Verb) (paths : List (PathData S))
    (n : Nat) : Option (List (Pt S) × List Verb) :=
  if paths.all (fun p => p.numAttributes == n) then
    some (paths.foldl (fun acc p => (acc.1 ++ p.points, acc.2 ++ p.verbs)) (points, verbs))
  else none

def BuilderImpl.extendFromPaths (b : BuilderImpl S) (paths : List (PathData S)) :
    Option (BuilderImpl S) :=
  (concatenatePaths b.points b.verbs paths 0).map fun r =>
    { points := r.1, verbs := r.2, first := b.first }

def BuilderWithAttributes.extendFromPaths (b : BuilderWithAttributes S) (paths : List (PathData S)) :
    Option (BuilderWithAttributes S) :=
  (concatenatePaths b.builder.points b.builder.verbs paths b.numAttributes).map fun r =>
    { builder := { points := r.1, verbs := r.2, first := b.builder.first },
      numAttributes := b.numAttributes, firstAttributes := b.firstAttributes }

end

end Lyon.Path
