/-
  Model of `crates/path/src/polygon.rs` (`Polygon`, `IdPolygon` and their four iterators and two
  `event` functions) and of `iterator.rs::FromPolyline` (C14).

  Former defects, repaired in /repo and mirrored here in their repaired form:
  * `Polygon::event` answered `End` at `idx == len - 1` (commit 8a7d6750: now `idx == len`, like
    `IdPolygon::event`);
  * `PolygonIdIter` on an empty range yielded a lone `Begin` (commit e1fd69dd: now nothing);
  * `FromPolyline` on an empty point iterator yielded a lone `End` (commit 468b373e: now nothing).
  Slice indexing and `len - 1` are `Option`s (`none` = Rust panics).
  Mathlib-free.
-/
import LyonVerif.Model.Path.Trace

namespace Lyon.Path.Poly

open Lyon.Path

/-- `PolygonIter` / `PathEvents` / `IdPolygonIter`: the three share one state machine
(`prev`, `first`, remaining points); they differ only in the element type. -/
def iterGo {π : Type} (closed : Bool) : List π → Option π → Option π → Option (List (Event π))
  | to :: r, some from_, first => (iterGo closed r (some to) first).map fun t => Event.line from_ to :: t
  | at_ :: r, none, _ => (iterGo closed r (some at_) (some at_)).map fun t => Event.begin at_ :: t
  | [], some last, first =>
    -- `self.first.unwrap()`
    first.map fun f => [Event.end_ last f closed]
  | [], none, _ => some []

/-- `Polygon::iter`, `Polygon::path_events`, `IdPolygon::iter` -/
def iter {π : Type} (points : List π) (closed : Bool) : Option (List (Event π)) :=
  iterGo closed points none none

/-- `PolygonIdIter::next` as a function of the iterator's `idx` -/
def idIterAt (start end_ : Nat) (closed : Bool) (idx : Nat) : Option (Option (Event Nat)) :=
  if start = end_ then some none
  else if idx = start then some (some (Event.begin start))
  else if idx < end_ then (csub1 idx).map fun i => some (Event.line i idx)
  else if idx = end_ then (csub1 end_).map fun l => some (Event.end_ l start closed)
  else some none
where
  csub1 (a : Nat) : Option Nat := if 1 ≤ a then some (a - 1) else none

/-- all events of `PolygonIdIter::new(start..end, closed)`; `fuel` bounds the number of `next`
calls (`end - start + 2` suffices) -/
def idIterGo (start end_ : Nat) (closed : Bool) : Nat → Nat → Option (List (Event Nat))
  | 0, _ => some []
  | fuel + 1, idx =>
    (idIterAt start end_ closed idx).bind fun e =>
      match e with
      | none => some []
      | some ev => (idIterGo start end_ closed fuel (idx + 1)).map fun t => ev :: t

/-- `Polygon::id_iter` -/
def idIter (len : Nat) (closed : Bool) : Option (List (Event Nat)) :=
  idIterGo 0 len closed (len + 2) 0

/-- `Polygon::event` -/
def polygonEvent {π : Type} (points : List π) (closed : Bool) (idx : Nat) : Option (Event π) :=
  if idx = 0 then points[0]?.map Event.begin
  else if idx = points.length then
    (csub points.length 1).bind fun lastIdx =>
      points[lastIdx]?.bind fun l => points[0]?.map fun f => Event.end_ l f closed
  else
    (csub idx 1).bind fun i => points[i]?.bind fun a => points[idx]?.map fun b => Event.line a b
where
  csub (a b : Nat) : Option Nat := if b ≤ a then some (a - b) else none

/-- `IdPolygon::event` -/
def idPolygonEvent {π : Type} (points : List π) (closed : Bool) (idx : Nat) : Option (Event π) :=
  if idx = 0 then points[0]?.map Event.begin
  else if idx = points.length then
    (csub points.length 1).bind fun lastIdx =>
      points[lastIdx]?.bind fun l => points[0]?.map fun f => Event.end_ l f closed
  else
    (csub idx 1).bind fun i => points[i]?.bind fun a => points[idx]?.map fun b => Event.line a b
where
  csub (a b : Nat) : Option Nat := if b ≤ a then some (a - b) else none

/-- `FromPolyline::next` until exhaustion -/
def fromPolylineGo {π : Type} (close : Bool) : List π → π → π → Bool → List (Event π)
  | next :: r, _, _, true => Event.begin next :: fromPolylineGo close r next next false
  | next :: r, cur, first, false => Event.line cur next :: fromPolylineGo close r next first false
  | [], cur, first, isFirst => if isFirst then [] else [Event.end_ cur first close]

/-- `FromPolyline::new(close, points)` collected; `zero` is `point(0.0, 0.0)` -/
def fromPolyline {π : Type} (zero : π) (close : Bool) (points : List π) : List (Event π) :=
  fromPolylineGo close points zero zero true

end Lyon.Path.Poly
