/-
  Model of `lyon_path::builder::WithSvg` (crates/path/src/builder.rs), the adapter that turns
  SVG-style commands into `PathBuilder` calls.

  * `St`      — the adapter's fields (`first_position, current_position, last_ctrl, last_cmd,
                need_moveto, is_empty`).  The attribute buffer is a constant vector of zeros
                (`vec![0.0; num_attributes]`, never written), so attributes are `Unit` here.
  * `Cmd`     — the 19 commands of `SvgPathBuilder` (`reserve` has no effect) plus the inherent
                `WithSvg::arc` (centre form).
  * `Geo`     — the numeric part of the two arc commands (`SvgArc::is_straight_line`,
                `SvgArc::to_arc`, `approx_eq`, `Arc::from`, `for_each_quadratic_bezier`) is a
                *parameter*: it returns which branch `arc`/`arc_to` takes and the list of
                `(ctrl, to)` pairs emitted.  All theorems hold for every `Geo`.
  * `step`    — one command: new state and the calls received by the wrapped builder.
  * `runBuild`— a command sequence followed by `build`.

  Generic in the scalar type `α` (`[Add α] [Sub α]` only; the branch tests of the arc commands
  additionally exist numerically over `[Scalar α]`, `numGeo`): run at `Float32` by the driver,
  reasoned about at `Int` / any commutative group in `Props/C15.lean`.  Mathlib-free.
-/
import LyonVerif.Model.Path.Trace
import LyonVerif.Model.Scalar

namespace Lyon.Svg
open Lyon.Path

structure Pt (α : Type) where
  x : α
  y : α
deriving Repr, DecidableEq, Inhabited

instance {α : Type} [Add α] : Add (Pt α) := ⟨fun a b => ⟨a.x + b.x, a.y + b.y⟩⟩
instance {α : Type} [Sub α] : Sub (Pt α) := ⟨fun a b => ⟨a.x - b.x, a.y - b.y⟩⟩

/-- `lyon_path::path::Verb`, in declaration order (`as u8` = `code`). -/
inductive Verb where
  | lineTo | quadraticTo | cubicTo | begin | close | end_
deriving Repr, DecidableEq, Inhabited

def Verb.code : Verb → Nat
  | .lineTo => 0 | .quadraticTo => 1 | .cubicTo => 2 | .begin => 3 | .close => 4 | .end_ => 5

/-- What `WithSvg::arc` does after `self.last_ctrl = self.current_position`:
`skip` = `current_position.approx_eq(&center)`; otherwise the arc's start point `arc.from()`,
whether `(arc_start - current_position).square_length() < 0.01`, and the `(ctrl, to)` pairs of
`arc.cast::<f64>().for_each_quadratic_bezier(..)` cast back to `f32`. -/
inductive ArcOut (α : Type) where
  | skip
  | curve (start : Pt α) (near : Bool) (quads : List (Pt α × Pt α))
deriving Repr

/-- `arc_to`: `svg_arc.is_straight_line()` or the centre-form arc handed to `arc`. -/
inductive SvgArcOut (α : Type) where
  | straight
  | arc (o : ArcOut α)
deriving Repr

/-- The numeric geometry of the arc commands, abstracted.  `ρ` stands for the remaining
operands (radii, x-rotation, flags / centre, radii, sweep, x-rotation). -/
structure Geo (α ρ : Type) where
  /-- `WithSvg::arc(center, radii, sweep, x_rotation)` issued at `cur` -/
  center : ρ → (cur : Pt α) → ArcOut α
  /-- `arc_to(radii, x_rotation, flags, to)` issued at `cur` -/
  endpoint : ρ → (cur to : Pt α) → SvgArcOut α

inductive Cmd (α ρ : Type) where
  | moveTo (to : Pt α)
  | close
  | lineTo (to : Pt α)
  | quadTo (ctrl to : Pt α)
  | cubicTo (ctrl1 ctrl2 to : Pt α)
  | relMoveTo (v : Pt α)
  | relLineTo (v : Pt α)
  | relQuadTo (ctrl v : Pt α)
  | relCubicTo (ctrl1 ctrl2 v : Pt α)
  | smoothCubicTo (ctrl2 to : Pt α)
  | smoothRelCubicTo (ctrl2 v : Pt α)
  | smoothQuadTo (to : Pt α)
  | smoothRelQuadTo (v : Pt α)
  | hLineTo (x : α)
  | relHLineTo (dx : α)
  | vLineTo (y : α)
  | relVLineTo (dy : α)
  | arcTo (r : ρ) (to : Pt α)
  | relArcTo (r : ρ) (v : Pt α)
  | arc (r : ρ)
deriving Repr

structure St (α : Type) where
  first : Pt α
  cur : Pt α
  lastCtrl : Pt α
  lastCmd : Verb
  needMoveTo : Bool
  isEmpty : Bool
deriving Repr

abbrev Calls (α : Type) := List (Call (Pt α) Unit)

section
variable {α ρ : Type}

/-- `WithSvg::new` -/
def St.init (zero : α) : St α :=
  { first := ⟨zero, zero⟩, cur := ⟨zero, zero⟩, lastCtrl := ⟨zero, zero⟩,
    lastCmd := .end_, needMoveTo := true, isEmpty := true }

/-- `end_if_needed`: `(last_cmd as u8) <= (Verb::Begin as u8)` -/
def endIfNeeded (s : St α) : Calls α :=
  if s.lastCmd.code ≤ Verb.begin.code then [.end_ false] else []

/-- `WithSvg::move_to` -/
def moveTo (s : St α) (to : Pt α) : St α × Calls α :=
  ({ s with isEmpty := false, needMoveTo := false, first := to, cur := to, lastCmd := .begin },
   endIfNeeded s ++ [.begin to ()])

/-- `begin_if_needed` + `insert_move_to`.  The `Bool` is "the command is replaced by the
move-to and returns" (`Some(id)`). -/
def beginIfNeeded (s : St α) (default : Pt α) : St α × Calls α × Bool :=
  if s.needMoveTo then
    if s.isEmpty then ((moveTo s default).1, (moveTo s default).2, true)
    else ((moveTo s s.first).1, (moveTo s s.first).2, false)
  else (s, [], false)

/-- `WithSvg::line_to` -/
def lineTo (s : St α) (to : Pt α) : St α × Calls α :=
  match beginIfNeeded s to with
  | (s1, c1, true) => (s1, c1)
  | (s1, c1, false) => ({ s1 with cur := to, lastCmd := .lineTo }, c1 ++ [.line to ()])

/-- `WithSvg::close` (the wrapped builder's `close()` is `end(true)`) -/
def close (s : St α) : St α × Calls α :=
  if s.needMoveTo then (s, [])
  else ({ s with cur := s.first, needMoveTo := true, lastCmd := .close }, [.end_ true])

/-- `WithSvg::quadratic_bezier_to` -/
def quadTo (s : St α) (ctrl to : Pt α) : St α × Calls α :=
  match beginIfNeeded s to with
  | (s1, c1, true) => (s1, c1)
  | (s1, c1, false) =>
    ({ s1 with cur := to, lastCmd := .quadraticTo, lastCtrl := ctrl }, c1 ++ [.quad ctrl to ()])

/-- `WithSvg::cubic_bezier_to` -/
def cubicTo (s : St α) (ctrl1 ctrl2 to : Pt α) : St α × Calls α :=
  match beginIfNeeded s to with
  | (s1, c1, true) => (s1, c1)
  | (s1, c1, false) =>
    ({ s1 with cur := to, lastCmd := .cubicTo, lastCtrl := ctrl2 },
     c1 ++ [.cubic ctrl1 ctrl2 to ()])

/-- the closure passed to `for_each_quadratic_bezier`: one `quadratic_bezier_to` per piece,
`current_position = curve.to` -/
def emitQuads (s : St α) : List (Pt α × Pt α) → St α × Calls α
  | [] => (s, [])
  | (c, t) :: r =>
    ((emitQuads { s with cur := t } r).1, .quad c t () :: (emitQuads { s with cur := t } r).2)

/-- `arc`, the part after the early return: move-to / line-to the arc's start, then the pieces.
`last_cmd` is not touched here (it stays whatever `≤ Begin` verb it was, or becomes `Begin`).
The connecting `line_to(arc_start)` sets `current_position = arc_start` (lyon commit 250152af,
repair of finding C15-arc-zero-sweep-stale-position). -/
def arcCurve (s : St α) (start : Pt α) (near : Bool) (quads : List (Pt α × Pt α)) :
    St α × Calls α :=
  if s.needMoveTo then
    ((emitQuads (moveTo s start).1 quads).1, (moveTo s start).2 ++ (emitQuads (moveTo s start).1 quads).2)
  else if near then
    ((emitQuads { s with cur := start } quads).1,
     .line start () :: (emitQuads { s with cur := start } quads).2)
  else emitQuads s quads

/-- `WithSvg::arc` (as repaired by lyon commit 059d9c0c): `last_ctrl = current_position` on
entry (all that happens on the early return) and again after the pieces were emitted, so that
a smooth command after the arc reflects nothing whatever `last_cmd` still says. -/
def arc (s : St α) : ArcOut α → St α × Calls α
  | .skip => ({ s with lastCtrl := s.cur }, [])
  | .curve start near quads =>
    ({ (arcCurve { s with lastCtrl := s.cur } start near quads).1 with
         lastCtrl := (arcCurve { s with lastCtrl := s.cur } start near quads).1.cur },
     (arcCurve { s with lastCtrl := s.cur } start near quads).2)

/-- `SvgPathBuilder::arc_to` -/
def arcTo (s : St α) (to : Pt α) : SvgArcOut α → St α × Calls α
  | .straight => lineTo s to
  | .arc o => arc s o

section
variable [Add α] [Sub α]

/-- `relative_to_absolute` -/
def relToAbs (s : St α) (v : Pt α) : Pt α := s.cur + v

/-- `get_smooth_cubic_ctrl` -/
def smoothCubicCtrl (s : St α) : Pt α :=
  match s.lastCmd with
  | .cubicTo => s.cur + (s.cur - s.lastCtrl)
  | _ => s.cur

/-- `get_smooth_quadratic_ctrl` -/
def smoothQuadCtrl (s : St α) : Pt α :=
  match s.lastCmd with
  | .quadraticTo => s.cur + (s.cur - s.lastCtrl)
  | _ => s.cur

/-- One command of `impl SvgPathBuilder for WithSvg` (and the inherent `arc`). -/
def step (g : Geo α ρ) (s : St α) : Cmd α ρ → St α × Calls α
  | .moveTo to => moveTo s to
  | .close => close s
  | .lineTo to => lineTo s to
  | .quadTo c to => quadTo s c to
  | .cubicTo c1 c2 to => cubicTo s c1 c2 to
  | .relMoveTo v => moveTo s (relToAbs s v)
  | .relLineTo v => lineTo s (relToAbs s v)
  | .relQuadTo c v => quadTo s (relToAbs s c) (relToAbs s v)
  | .relCubicTo c1 c2 v => cubicTo s (relToAbs s c1) (relToAbs s c2) (relToAbs s v)
  | .smoothCubicTo c2 to => cubicTo s (smoothCubicCtrl s) c2 to
  | .smoothRelCubicTo c2 v => cubicTo s (smoothCubicCtrl s) (relToAbs s c2) (relToAbs s v)
  | .smoothQuadTo to => quadTo s (smoothQuadCtrl s) to
  | .smoothRelQuadTo v => quadTo s (smoothQuadCtrl s) (relToAbs s v)
  | .hLineTo x => lineTo s ⟨x, s.cur.y⟩
  | .relHLineTo dx => lineTo s ⟨s.cur.x + dx, s.cur.y⟩
  | .vLineTo y => lineTo s ⟨s.cur.x, y⟩
  | .relVLineTo dy => lineTo s ⟨s.cur.x, s.cur.y + dy⟩
  | .arcTo r to => arcTo s to (g.endpoint r s.cur to)
  | .relArcTo r v => arcTo s (relToAbs s v) (g.endpoint r s.cur (relToAbs s v))
  | .arc r => arc s (g.center r s.cur)

/-- A command sequence from state `s`: final state and all calls, in order. -/
def run (g : Geo α ρ) (s : St α) : List (Cmd α ρ) → St α × Calls α
  | [] => (s, [])
  | c :: r => ((run g (step g s c).1 r).1, (step g s c).2 ++ (run g (step g s c).1 r).2)

/-- `WithSvg::build` after the commands: `end_if_needed`, then the wrapped builder's `build`. -/
def runBuild (g : Geo α ρ) (zero : α) (cmds : List (Cmd α ρ)) : Calls α :=
  (run g (St.init zero) cmds).2 ++ endIfNeeded (run g (St.init zero) cmds).1

end

/-! ### The branch tests of `arc` / `arc_to`, numerically

`approxEqPt`, `nearStart` are what `Model/Path/SvgConcrete.lean` (`concreteGeo`, the geometry the tie and
the theorems of `Props/C15b.lean` use) is built from; its straight-line test is `ArcConv.isStraightLine` of
`Model/Geom/SvgArc.lean`, `isStraightLine` below serves `svgArcOutOf` only.  `numGeo` below is
the earlier, advice-fed instance (centre, start point and pieces handed in from lyon_geom, the
branches decided here); the driver no longer uses it. -/

section numeric
variable [Scalar α] [Transc α]

/-- `SvgArc::is_straight_line`: `|rx| <= EPSILON || |ry| <= EPSILON || from == to`, with lyon's own
`Scalar::EPSILON` for `f32` (`1e-4`; `WithSvg` works on `f32` points) — not the machine epsilon -/
def isStraightLine (radii from_ to : Pt α) : Bool :=
  decide (Scalar.abs radii.x ≤ Scalar.ofSci 1 4) || decide (Scalar.abs radii.y ≤ Scalar.ofSci 1 4) ||
    (from_.x == to.x && from_.y == to.y)

/-- euclid `Point2D::approx_eq` (`|a - b| < 1.0e-6` on both coordinates) -/
def approxEqPt (a b : Pt α) : Bool :=
  decide (Scalar.abs (a.x - b.x) < Scalar.ofSci 1 6) &&
    decide (Scalar.abs (a.y - b.y) < Scalar.ofSci 1 6)

/-- `(arc_start - self.current_position).square_length() < 0.01` -/
def nearStart (start cur : Pt α) : Bool :=
  decide ((start.x - cur.x) * (start.x - cur.x) + (start.y - cur.y) * (start.y - cur.y) <
    Scalar.ofSci 1 2)

/-- operands of an arc command and what lyon_geom computes for it at the current position:
the centre (`SvgArc::to_arc().center`, or the given one for `arc`), `Arc::from()` and the
`(ctrl, to)` pairs of `for_each_quadratic_bezier` -/
structure ArcOps (α : Type) where
  radii : Pt α
  center : Pt α
  start : Pt α
  quads : List (Pt α × Pt α)

def arcOutOf (r : ArcOps α) (cur : Pt α) : ArcOut α :=
  if approxEqPt cur r.center then .skip else .curve r.start (nearStart r.start cur) r.quads

def svgArcOutOf (r : ArcOps α) (cur to : Pt α) : SvgArcOut α :=
  if isStraightLine r.radii cur to then .straight else .arc (arcOutOf r cur)

def numGeo : Geo α (ArcOps α) := ⟨arcOutOf, svgArcOutOf⟩

end numeric
end

end Lyon.Svg
